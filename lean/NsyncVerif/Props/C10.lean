/-
  Props/C10.lean — property C10: "The counter is atomic and its waiters are released exactly at zero."

  All theorems are about `Reachable s` of the Counter acceptor (Model/Counter.lean), i.e. they hold
  for every number of threads, every interleaving, every sequence of deltas / deadlines / ticks
  and every choice of the environment (semaphore names, stale posts from other layers, malloc).
  Contract (explicit `reject`s of the model = ASSERTs of counter.c): no decrement below zero, no
  overflow, no increment from zero after a wait.  Trusted: counter_mu is a lock (C01/C02), the
  queue is a sequence (C17), the semaphore is a counting semaphore (C12).

  Nothing here is `_partial`.
-/
import NsyncVerif.Proofs.CounterFacts

namespace Counter

/-! ### atomicity / linearizability of nsync_counter_add -/

theorem sums_last (a : Int) (ds : List Int) : (sums a ds).getLast? = some (a + ds.sum) := by
  induction ds generalizing a with
  | nil => simp [sums]
  | cons d ds ih =>
    simp only [sums, List.sum_cons]
    rw [List.getLast?_cons_of_ne_nil (sums_ne_nil _ _), ih]
    congr 1; omega

/-- `hist` (every value the counter has held) is the sequence of prefix sums of the deltas of the
    successful CASes in their order, the current value is its last element, and therefore
    value = initial + Σ deltas *as integers* (no wrap-around under the contract). -/
theorem C10_linearizable {s : State} (h : Reachable s) (hc : s.sh.created = true) :
    s.sh.hist.map (fun (n : Nat) => (n : Int)) = sums s.sh.initial s.sh.deltas
    ∧ s.sh.hist.getLast? = some s.sh.value
    ∧ (s.sh.value : Int) = (s.sh.initial : Int) + s.sh.deltas.sum := by
  have hs := (inv_of_reachable h).sh
  refine ⟨hs.hsum hc, hs.last hc, ?_⟩
  have h1 := sums_last s.sh.initial s.sh.deltas
  rw [← hs.hsum hc, List.getLast?_map, hs.last hc] at h1
  simpa using h1

/-- Every accepted event of a thread leaves value / hist / deltas unchanged, except
    (a) the successful `ATM_CAS_RELACQ (&c->value, v, v+delta)` of an add, which is accepted only
        if v is the current value, appends `delta` to `deltas` and `v+delta` to `hist`, and
    (b) the initialising store of nsync_counter_new. -/
theorem C10_cas_atomic {s s' : State} {t : Tid} {e : Ev} (h : Reachable s)
    (hs : step s (.thr t e) = .ok s') :
    (s'.sh.hist = s.sh.hist ∧ s'.sh.deltas = s.sh.deltas ∧ s'.sh.value = s.sh.value
        ∧ s'.sh.initial = s.sh.initial)
    ∨ (∃ d v new, s.pc t = .aCas d v ∧ e = .cas .ar .value v new v true ∧ v = s.sh.value
        ∧ s'.sh.hist = s.sh.hist ++ [new] ∧ s'.sh.deltas = s.sh.deltas ++ [d]
        ∧ (new : Int) = (s.sh.value : Int) + d ∧ s'.sh.value = new ∧ s'.sh.initial = s.sh.initial)
    ∨ (∃ v, s.pc t = .newStore v ∧ s.sh.created = false ∧ s'.sh.hist = [v] ∧ s'.sh.value = v) :=
  (facts_stepThr (inv_of_reachable h) hs).hist

theorem C10_tick_keeps {s s' : State} {ns : Nat} (hs : step s (.tick ns) = .ok s') :
    s'.sh.hist = s.sh.hist ∧ s'.sh.deltas = s.sh.deltas ∧ s'.sh.value = s.sh.value ∧ s'.pc = s.pc := by
  obtain ⟨_, rfl⟩ := step_tick hs
  exact ⟨rfl, rfl, rfl, rfl⟩

/-- The delta (resp. deadline) an in-flight call carries in its program counter is the argument
    of its `call` event. -/
theorem C10_call_args_kept {s s' : State} {t : Tid} {e : Ev} (h : Reachable s)
    (hs : step s (.thr t e) = .ok s') :
    (∀ d, e = .callAdd d → s.pc t = .idle ∧ pcDelta (s'.pc t) = some d)
    ∧ (∀ d, e = .callWait d → s.pc t = .idle ∧ s'.pc t = .w0Store d)
    ∧ (∀ d, pcDelta (s.pc t) = some d → s'.pc t = .idle ∨ pcDelta (s'.pc t) = some d)
    ∧ (∀ d, pcDl (s.pc t) = some d → s'.pc t = .idle ∨ pcDl (s'.pc t) = some d)
    ∧ (∀ u, u ≠ t → s'.pc u = s.pc u) :=
  let f := facts_stepThr (inv_of_reachable h) hs
  ⟨f.callA, f.callW, f.delta, f.dline, f.others⟩

/-- `ret nsync_counter_add r` is accepted only if r is the value that resulted from the caller's
    own successful CAS: r is the element of `hist` that CAS appended, its predecessor `old` in
    `hist` is the value the CAS observed, and r = old + delta.  (For delta = 0: r was held.) -/
theorem C10_add_returns {s s' : State} {t : Tid} {r : Nat} (h : Reachable s)
    (hs : step s (.thr t (.retAdd r)) = .ok s') :
    (∃ (d : Int) (i old : Nat), pcDelta (s.pc t) = some d ∧ s.sh.hist[i]? = some old ∧ s.sh.hist[i + 1]? = some r
        ∧ (r : Int) = (old : Int) + d)
    ∨ (pcDelta (s.pc t) = some 0 ∧ r ∈ s.sh.hist) := by
  have hi := inv_of_reachable h
  rcases retAdd_pc hs with hpc | ⟨d, idx, hpc⟩
  · right
    have hp := hi.pcs t; rw [hpc] at hp
    exact ⟨by rw [hpc]; rfl, hp.2⟩
  · left
    have hp := hi.pcs t; rw [hpc] at hp
    obtain ⟨g1, i, old, g2, g3, g4⟩ := hp.2
    subst g2
    exact ⟨d, i, old, by rw [hpc]; rfl, g3, g1, g4⟩

/-! ### nsync_counter_value (and every other returned value) was held by the counter -/

theorem C10_value_held {s s' : State} {t : Tid} {v : Nat} (h : Reachable s)
    (hs : step s (.thr t (.retValue v)) = .ok s') : v ∈ s.sh.hist := by
  have hp := (inv_of_reachable h).pcs t
  rw [retValue_pc hs] at hp
  exact hp.2

theorem C10_value_held_add {s s' : State} {t : Tid} {v : Nat} (h : Reachable s)
    (hs : step s (.thr t (.retAdd v)) = .ok s') : v ∈ s.sh.hist := by
  rcases C10_add_returns h hs with ⟨_, i, _, _, _, h2, _⟩ | ⟨_, h2⟩
  · exact List.mem_of_getElem? h2
  · exact h2

theorem C10_value_held_wait {s s' : State} {t : Tid} {r : Nat} (h : Reachable s)
    (hs : step s (.thr t (.retWait r)) = .ok s') : r ∈ s.sh.hist := by
  have hp := (inv_of_reachable h).pcs t
  obtain ⟨dl, hpc⟩ := retWait_pc hs
  rw [hpc] at hp
  exact hp.2.1

/-! ### nsync_counter_wait -/

/-- `ret nsync_counter_wait 0` is accepted only if the counter has reached zero at some earlier
    point of the trace (whichever of the paths produced the 0: first ready_time, enqueue or loop
    ready_time followed by dequeue, or the final load). -/
theorem C10_wait_zero {s s' : State} {t : Tid} (h : Reachable s)
    (hs : step s (.thr t (.retWait 0)) = .ok s') : 0 ∈ s.sh.hist :=
  C10_value_held_wait h hs

/-- `ret nsync_counter_wait r` with r ≠ 0 is accepted only once the deadline of that call has
    passed (`pcDl` is the deadline of the call by `C10_call_args_kept`). -/
theorem C10_wait_nonzero {s s' : State} {t : Tid} {r : Nat} (h : Reachable s)
    (hs : step s (.thr t (.retWait r)) = .ok s') (hr : r ≠ 0) :
    ∃ dl, pcDl (s.pc t) = some dl ∧ expired dl s.sh.now := by
  have hp := (inv_of_reachable h).pcs t
  obtain ⟨dl, hpc⟩ := retWait_pc hs
  rw [hpc] at hp
  exact ⟨dl, by rw [hpc]; rfl, hp.2.2 hr⟩

/-! ### release of the waiters at zero -/

/-- At zero with counter_mu free the queue is empty; at zero with a non-empty queue counter_mu is
    held by an add that is inside its wake loop (it cannot unlock before the queue is empty);
    queued ⇔ waiting flag set. -/
theorem C10_release_all {s : State} (h : Reachable s) (hz : s.sh.value = 0) :
    (s.sh.lockHolder = none → s.sh.waiters = [])
    ∧ (s.sh.waiters ≠ [] → ∃ u, s.sh.lockHolder = some u ∧ wakeLoop (s.pc u))
    ∧ (∀ k, k ∈ s.sh.waiters ↔ (s.sh.nw k).waiting = true) := by
  have hi := inv_of_reachable h
  have hs := hi.sh
  refine ⟨?_, ?_, hs.queue⟩
  · intro hl
    have hf := hs.free hl
    cases hw : s.sh.waiters with
    | nil => rfl
    | cons a l =>
      have := hs.zero (by simp [hw])
      simp [hz, hf.1] at this
  · intro hne
    rcases hs.zero hne with h1 | h1
    · exact absurd hz h1
    · exact waking_holder hi h1

/-- The wake loop's unlock is accepted only with an empty queue (acceptor side of the above). -/
theorem C10_release_all_unlock {s s' : State} {t : Tid} {m : MuId} {d : Int} {r idx : Nat}
    (hpc : s.pc t = .aHeld d r idx true) (hs : step s (.thr t (.callUnlock m)) = .ok s') :
    s.sh.waiters = [] := by
  unfold step stepThr at hs
  simp only [hpc] at hs
  split at hs
  · rename_i hc; exact hc.2 trivial
  · cases hs

/-- Every thread that was queued when the counter reached zero and is still on its way to / in
    its sleep has, once the add has released counter_mu, `waiting = 0` and a posted semaphore. -/
theorem C10_released_posted {s : State} {t : Tid} {dl : Deadline} {k : NwId} (h : Reachable s)
    (hz : s.sh.value = 0) (hl : s.sh.lockHolder = none)
    (hpc : (∃ j, s.pc t = .wPdWait dl k j) ∨ s.pc t = .wPdEnter dl k) :
    (s.sh.nw k).waiting = false ∧ ∃ j, (s.sh.nw k).sem = some j ∧ 0 < s.sh.sem j := by
  have hi := inv_of_reachable h
  have hs := hi.sh
  have hw := (C10_release_all h hz).1 hl
  have hq : (s.sh.nw k).waiting = false := by
    cases hk : (s.sh.nw k).waiting with
    | false => rfl
    | true => have := (hs.queue k).2 hk; simp [hw] at this
  have hwk : woken s.sh k := ⟨hq, by simp [(hs.free hl).2]⟩
  have hp := hi.pcs t
  rcases hpc with ⟨j, hpc⟩ | hpc
  · rw [hpc] at hp; exact ⟨hq, (hp.2.2.2 hwk).2⟩
  · rw [hpc] at hp; exact ⟨hq, (hp.2.2 hwk).2⟩

/-- Safety core of "every thread waiting when the counter reaches zero is released": a thread
    asleep in `nsync_mu_semaphore_p_with_deadline` (pd_enter done, no pd_ret yet) is never stuck
    at zero — either the counter is non-zero, or its semaphore is posted (pd_ret 0 is enabled),
    or the zeroing add still holds counter_mu with the thread's record yet to be processed. -/
theorem C10_no_lost_wakeup {s : State} {t : Tid} {dl : Deadline} {k : NwId} {j : SemId}
    (h : Reachable s) (hpc : s.pc t = .wPdWait dl k j) :
    s.sh.value ≠ 0 ∨ 0 < s.sh.sem j
    ∨ (∃ u, s.sh.lockHolder = some u ∧ wakeLoop (s.pc u) ∧ k ∈ s.sh.waiters)
    ∨ (∃ u d r idx, s.sh.lockHolder = some u ∧ s.pc u = .aPost d r idx k) := by
  have hi := inv_of_reachable h
  have hs := hi.sh
  have hp := hi.pcs t
  rw [hpc] at hp
  obtain ⟨_, _, hsem, hK⟩ := hp
  by_cases hz : s.sh.value = 0
  · right
    by_cases hpost : s.sh.posting = some k
    · right; right; exact posting_holder hi hpost
    · cases hw : (s.sh.nw k).waiting with
      | false =>
        left
        obtain ⟨_, j', h1, h2⟩ := hK ⟨hw, hpost⟩
        rw [hsem] at h1; cases h1; exact h2
      | true =>
        right; left
        have hk := (hs.queue k).2 hw
        have hne : s.sh.waiters ≠ [] := by intro h0; simp [h0] at hk
        obtain ⟨u, h1, h2⟩ := (C10_release_all h hz).2.1 hne
        exact ⟨u, h1, h2, hk⟩
  · left; exact hz

/-! ### a wait that starts after zero does not block -/

/-- zero is absorbing once a wait has been called (no increment from zero by contract). -/
theorem C10_zero_stable {s s' : State} {e : Event} (h : Reachable s) (hz : s.sh.value = 0)
    (hw : s.sh.waited = true) (hs : step s e = .ok s') : s'.sh.value = 0 ∧ s'.sh.waited = true := by
  cases e with
  | tick ns => obtain ⟨_, rfl⟩ := step_tick hs; exact ⟨hz, hw⟩
  | thr t ev =>
    have f := facts_stepThr (inv_of_reachable h) hs
    exact ⟨f.zst hw hz, f.wtd hw⟩

theorem sleepPath_pd (dl : Deadline) (k : NwId) (j : SemId) :
    sleepPath (.wPdEnter dl k) = true ∧ sleepPath (.wPdWait dl k j) = true ∧ sleepPath .idle = false :=
  ⟨rfl, rfl, rfl⟩

/-- one step at zero: a thread outside the enqueue/sleep/dequeue part of nsync_counter_wait
    (`sleepPath`, which contains both `sem pd_enter` program points) stays outside. -/
theorem C10_no_block_step {s s' : State} {e : Event} (h : Reachable s) (hz : s.sh.value = 0)
    (hs : step s e = .ok s') (u : Tid) (hu : sleepPath (s.pc u) = false) :
    sleepPath (s'.pc u) = false := by
  cases e with
  | tick ns => rw [(C10_tick_keeps hs).2.2.2]; exact hu
  | thr t ev =>
    have f := facts_stepThr (inv_of_reachable h) hs
    by_cases hut : u = t
    · subst hut; exact f.nosleep hz hu
    · rw [f.others u hut]; exact hu

/-- Once the counter is zero and a wait has been called, the counter stays zero along every
    continuation and no thread that is not already past its first ready_time ever enters the
    enqueue/sleep path again: every later nsync_counter_wait returns at its first ready_time
    without `sem pd_enter`. -/
theorem C10_no_block_after_zero {s s' : State} {evs : List Event} (h : Reachable s)
    (hz : s.sh.value = 0) (hw : s.sh.waited = true) (hr : run s evs = .ok s') :
    s'.sh.value = 0 ∧ ∀ u, sleepPath (s.pc u) = false → sleepPath (s'.pc u) = false := by
  have := isRun.induct (Q := fun s1 => Reachable s1 ∧ s1.sh.value = 0 ∧ s1.sh.waited = true ∧
      ∀ u, sleepPath (s.pc u) = false → sleepPath (s1.pc u) = false) ⟨h, hz, hw, fun _ hu => hu⟩
    (fun s1 e s2 _ ⟨h1, z1, w1, p1⟩ hs =>
      have hz1 := C10_zero_stable h1 z1 w1 hs
      ⟨reachable_step h1 hs, hz1.1, hz1.2, fun u hu => C10_no_block_step h1 z1 hs u (p1 u hu)⟩) hr
  exact ⟨this.2.1, this.2.2.2⟩

/-- the first ready_time of a wait at zero returns 0 immediately -/
theorem C10_wait_at_zero {s s' : State} {t : Tid} {dl : Deadline} {obs : Nat}
    (hpc : s.pc t = .w0Load dl) (hz : s.sh.value = 0)
    (hs : step s (.thr t (.ld .acq .value obs)) = .ok s') : s'.pc t = .wRet dl 0 := by
  rcases stepThr_ok (t := t) (e := .ld .acq .value obs) hs with ⟨⟨_, hd⟩, _⟩ | ⟨_, _, htr, rfl⟩
  · exact absurd rfl (dflt_ok hd).2.2.1.1
  · rw [hpc] at htr
    cases htr with
    | w0Zero => exact mk'_pc ..
    | w0Past ho hn | w0Sleep ho hn => exact absurd (ho.trans hz) hn

/-! ### lifetime of the waiter record -/

/-- A thread other than the owner touches a live record (`nw->waiting`) only while it holds
    counter_mu inside the wake loop of an add, and the record is then in the queue. -/
theorem C10_record_lifetime {s s' : State} {u : Tid} {e : Ev} {k : NwId} (h : Reachable s)
    (hs : step s (.thr u e) = .ok s') (ht : touches e k) (hl : (s.sh.nw k).live = true)
    (ho : (s.sh.nw k).owner ≠ u) :
    s.sh.lockHolder = some u ∧ k ∈ s.sh.waiters ∧ wakeLoop (s.pc u) :=
  (facts_stepThr (inv_of_reachable h) hs).access k ht hl ho

/-- … and the post of the record's semaphore (between STORE_REL and sem v) is made while still
    holding counter_mu, on a record that is still live and belongs to another thread. -/
theorem C10_record_lifetime_post {s : State} {u : Tid} {d : Int} {r idx : Nat} {k : NwId}
    (h : Reachable s) (hpc : s.pc u = .aPost d r idx k) :
    s.sh.lockHolder = some u ∧ (s.sh.nw k).live = true ∧ (s.sh.nw k).owner ≠ u := by
  have hi := inv_of_reachable h
  have hp := hi.pcs u
  rw [hpc] at hp
  have hlive := (hi.sh.post k hp.2.2.2.2.2).2.1
  refine ⟨hp.1.2 rfl, hlive, ?_⟩
  intro ho
  have := recs_of_reachable h k hlive
  rw [ho, hpc] at this
  simp [pcNw] at this

/-- the queue is changed only by the holder of counter_mu -/
theorem C10_record_lifetime_queue {s s' : State} {u : Tid} {e : Ev} (h : Reachable s)
    (hs : step s (.thr u e) = .ok s') (hn : s.sh.lockHolder ≠ some u) : s'.sh.waiters = s.sh.waiters :=
  (facts_stepThr (inv_of_reachable h) hs).waiters hn

/-- When `ret nsync_counter_wait` is accepted the caller owns no live record: its record is in
    no queue, and no thread is between removing it and posting its semaphore. -/
theorem C10_record_lifetime_ret {s s' : State} {t : Tid} {r : Nat} (h : Reachable s)
    (hs : step s (.thr t (.retWait r)) = .ok s') :
    (∀ k, (s.sh.nw k).live = true → (s.sh.nw k).owner ≠ t)
    ∧ (∀ k, k ∈ s.sh.waiters → (s.sh.nw k).live = true ∧ (s.sh.nw k).owner ≠ t)
    ∧ (∀ u d r' idx k, s.pc u = .aPost d r' idx k → (s.sh.nw k).live = true ∧ (s.sh.nw k).owner ≠ t) := by
  have hi := inv_of_reachable h
  obtain ⟨dl, hpc⟩ := retWait_pc hs
  have h1 : ∀ k, (s.sh.nw k).live = true → (s.sh.nw k).owner ≠ t := by
    intro k hl ho
    have := recs_of_reachable h k hl
    rw [ho, hpc] at this
    simp [pcNw] at this
  refine ⟨h1, ?_, ?_⟩
  · intro k hk
    have hl := hi.sh.wlive k ((hi.sh.queue k).1 hk)
    exact ⟨hl, h1 k hl⟩
  · intro u d r' idx k hpu
    have hl := (C10_record_lifetime_post h hpu).2.1
    exact ⟨hl, h1 k hl⟩

/-! ### non-vacuity: accepted concrete traces -/

namespace Example

def lock (t : Tid) : List Event := [.thr t (.callLock 0), .thr t .other, .thr t .retLock]
def unlock (t : Tid) : List Event := [.thr t (.callUnlock 0), .thr t .other, .thr t .retUnlock]
def new (t : Tid) (v : Nat) : List Event :=
  [.thr t (.callNew v), .thr t (.malloc true), .thr t (.st .rlx .value v 0), .thr t (.retNew true)]
def ready (t : Tid) (waitedBefore val : Nat) : List Event :=
  [.thr t (.st .rlx .waited 1 waitedBefore), .thr t (.ld .acq .value val)]

/-- counter at 2; thread 2 waits without deadline, is queued and goes to sleep -/
def sleeping : List Event :=
  new 0 2 ++ [.thr 2 (.callWait none)] ++ ready 2 0 2
  ++ [.thr 2 (.st .rlx (.nwWaiting 0) 0 7)] ++ lock 2
  ++ [.thr 2 (.ld .acq .value 2), .thr 2 (.st .rlx (.nwWaiting 0) 1 0)] ++ unlock 2
  ++ ready 2 1 2 ++ [.thr 2 (.pdEnter 2 none)]

/-- … thread 0 adds -1 (→1), thread 1 reads 1, then adds -1 (→0) and wakes thread 2, which
    returns 0 -/
def twoAddersAndWaiter : List Event :=
  sleeping
  ++ [.thr 0 (.callAdd (-1))] ++ lock 0
  ++ [.thr 0 (.ld .rlx .value 2), .thr 0 (.cas .ar .value 2 1 2 true)] ++ unlock 0 ++ [.thr 0 (.retAdd 1)]
  ++ [.thr 1 .callValue, .thr 1 (.ld .acq .value 1), .thr 1 (.retValue 1), .tick 1000]
  ++ [.thr 1 (.callAdd (-1))] ++ lock 1
  ++ [.thr 1 (.ld .rlx .value 1), .thr 1 (.cas .ar .value 1 0 1 true),
      .thr 1 (.st .rel (.nwWaiting 0) 0 1), .thr 1 (.semV 2)] ++ unlock 1 ++ [.thr 1 (.retAdd 0)]
  ++ [.thr 2 (.pdRet 2 false)] ++ ready 2 1 0 ++ lock 2
  ++ [.thr 2 (.ld .acq .value 0), .thr 2 (.ld .acq (.nwWaiting 0) 0)] ++ unlock 2
  ++ [.thr 2 (.retWait 0)]

example : accepts twoAddersAndWaiter = true := by decide
/-- the hypotheses of `C10_no_lost_wakeup` / `C10_released_posted` are satisfiable -/
example : (final sleeping).map (fun s => decide (s.pc 2 = .wPdWait none 0 2 ∧ s.sh.waiters = [0]
    ∧ s.sh.value = 2)) = some true := by decide
example : (final twoAddersAndWaiter).map (fun s => decide (s.sh.hist = [2, 1, 0] ∧ s.sh.deltas = [-1, -1]
    ∧ s.sh.value = 0 ∧ s.sh.waiters = [] ∧ s.sh.sem 2 = 0 ∧ s.sh.waited = true)) = some true := by decide

/-- a wait with deadline 500 that times out and returns the non-zero value -/
def timesOut : List Event :=
  new 0 1 ++ [.thr 1 (.callWait (some 500))] ++ ready 1 0 1
  ++ [.thr 1 (.st .rlx (.nwWaiting 3) 0 9)] ++ lock 1
  ++ [.thr 1 (.ld .acq .value 1), .thr 1 (.st .rlx (.nwWaiting 3) 1 0)] ++ unlock 1
  ++ ready 1 1 1 ++ [.thr 1 (.pdEnter 1 (some 500)), .tick 499, .tick 500, .thr 1 (.pdRet 1 true)] ++ lock 1
  ++ [.thr 1 (.ld .acq .value 1), .thr 1 (.ld .acq (.nwWaiting 3) 1), .thr 1 (.st .rlx (.nwWaiting 3) 0 1)]
  ++ unlock 1 ++ [.thr 1 (.ld .acq .value 1), .thr 1 (.retWait 1)]

example : accepts timesOut = true := by decide
/-- the same trace with the timeout reported one tick early is rejected -/
example : accepts (new 0 1 ++ [.thr 1 (.callWait (some 500))] ++ ready 1 0 1
  ++ [.thr 1 (.st .rlx (.nwWaiting 3) 0 9)] ++ lock 1
  ++ [.thr 1 (.ld .acq .value 1), .thr 1 (.st .rlx (.nwWaiting 3) 1 0)] ++ unlock 1
  ++ ready 1 1 1 ++ [.thr 1 (.pdEnter 1 (some 500)), .tick 499, .thr 1 (.pdRet 1 true)]) = false := by decide

/-- wait after zero: returns 0 at the first ready_time, no record, no semaphore operation -/
def waitAfterZero : List Event :=
  new 0 1 ++ [.thr 0 (.callAdd (-1))] ++ lock 0
  ++ [.thr 0 (.ld .rlx .value 1), .thr 0 (.cas .ar .value 1 0 1 true)] ++ unlock 0 ++ [.thr 0 (.retAdd 0)]
  ++ [.thr 1 (.callWait none)] ++ ready 1 0 0 ++ [.thr 1 (.retWait 0)]

example : accepts waitAfterZero = true := by decide
/-- increment from zero after a wait is a contract violation: rejected at the CAS -/
example : accepts (waitAfterZero ++ [.thr 0 (.callAdd 1)] ++ lock 0
  ++ [.thr 0 (.ld .rlx .value 0), .thr 0 (.cas .ar .value 0 1 0 true)]) = false := by decide
/-- a stale return value of add is rejected; so is a wait returning 0 when 0 was never held -/
example : accepts (new 0 3 ++ [.thr 0 (.callAdd (-1))] ++ lock 0
  ++ [.thr 0 (.ld .rlx .value 3), .thr 0 (.cas .ar .value 3 2 3 true)] ++ unlock 0 ++ [.thr 0 (.retAdd 3)]) = false := by
  decide
example : accepts (new 0 1 ++ [.thr 1 (.callWait (some (-5)))] ++ ready 1 0 1
  ++ [.thr 1 (.ld .acq .value 1), .thr 1 (.retWait 0)]) = false := by decide
/-- a waiter left queued at zero: the add's unlock is rejected -/
example : accepts (new 0 1 ++ [.thr 2 (.callWait none)] ++ ready 2 0 1
  ++ [.thr 2 (.st .rlx (.nwWaiting 0) 0 7)] ++ lock 2
  ++ [.thr 2 (.ld .acq .value 1), .thr 2 (.st .rlx (.nwWaiting 0) 1 0)] ++ unlock 2
  ++ [.thr 0 (.callAdd (-1))] ++ lock 0
  ++ [.thr 0 (.ld .rlx .value 1), .thr 0 (.cas .ar .value 1 0 1 true), .thr 0 (.callUnlock 0)]) = false := by
  decide

end Example

end Counter
