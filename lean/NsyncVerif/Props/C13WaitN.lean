/-
  Props/C13WaitN.lean — property C13, the nsync_wait_n half: "waking never touches a record its owner may
  already have reclaimed".

  Records: the `struct nsync_waiter_s` array of an nsync_wait_n call, on the caller's stack (count <= 4,
  `Rid.stk`) or malloc'ed (`Rid.heap`); their lifetime starts at the initialising store of wait.c:47 and ends
  at the return of the call (stack) or at `free` (heap): `registered s r`.  `touches s u e r`: event `e` of
  thread `u` reads or writes `nw->waiting` of r, or is the `nsync_mu_semaphore_v (nw->sem)` of a note / counter
  waker that popped r (it reads `nw->sem`).  The V of wake_waiters (cv.c) touches no record: after the repair
  of defect F3 the semaphore pointer is copied before `ATM_STORE_REL (&p_nw->waiting, 0)`.
  The statements range over all reachable states of the WaitN acceptor (the repaired code): any number of
  callers, condition-variable signallers / broadcasters, note and counter wakers, any interleaving.

  STATUS.  The theorems are proved as stated, for all three kinds of objects (`C13_owner_access`,
  `C13_record_lifetime_post` and `C13_owner_returns_after_stack` are readings of the two below):
  * `C13_record_lifetime`: every access to a record by a thread that is not its owner is to a registered
    record.  (On the code before the repair of defect F3 this fails for cv objects: the signaller's store to
    `waiting`, and its V, can hit a record whose owner has timed out inside the window and returned.  The acceptor
    rejects that interleaving — `Example.oldF3` in Props/C11.lean; `Example.fixed` is the first execution of
    corpus/C13/f3_waitn_cv.txt.)
  * `C13_owner_returns_after`: once the call has returned, none of its records is registered, queued on any
    object, between a signaller's unlink and clear, or in the hands of a note / counter waker.  (A signaller
    that has already cleared `waiting` may still owe the V — `Example.lateV` — which touches no record.)
-/
import NsyncVerif.Props.C11

namespace WaitN

/-- the owner itself only touches its own registered records, except for the initialising store -/
theorem C13_owner_access {s s' : State} {u : Tid} {e : Ev} {r : Rid} (hr : Reachable s)
    (hs : step s (.thr u e) = .ok s') (ht : touches s u e r) :
    registered s r ∨ ((∃ i, s.pc u = .wInit i) ∧ (s'.rcd r).owner = u) := by
  simp only [step] at hs
  have hq := (qinv_of_reachable hr).qi
  unfold registered
  cases touch_stepThr (linv_of_reachable hr u) hs ht with
  | init i hpc ho => exact .inr ⟨⟨i, hpc⟩, ho⟩
  | own hm hc hf => exact .inl ((own_of_reachable hr).own u r hc hf hm).1
  | pop o hm => exact .inl (hq.q1 o r hm).1
  | clear c l hwk hp hm =>
    have : r ∈ pend (s.post u) l := by rw [hp]; exact hm
    exact .inl ((hq.q4 u c l hwk).2.2 r this).1
  | post j he hp hw =>
    rcases hq.q5 u r hp with h1 | h2
    · rw [hw] at h1; cases h1
    · exact .inl h2.1

/-- every access to a waiter record by a thread other than its owner is to a registered record -/
theorem C13_record_lifetime {s s' : State} {u : Tid} {e : Ev} {r : Rid} (hr : Reachable s)
    (hs : step s (.thr u e) = .ok s') (ht : touches s u e r) (hne : (s'.rcd r).owner ≠ u) : registered s r :=
  (C13_owner_access hr hs ht).resolve_right fun h => hne h.2

set_option linter.unusedVariables false in
/-- the V of a note / counter waker is to a live record that is cleared and whose dequeue has not returned
    (a fact about `s`: the accepted V, `hs`, is not needed) -/
theorem C13_record_lifetime_post {s s' : State} {u : Tid} {j : SemId} {r : Rid} (hr : Reachable s)
    (hs : step s (.thr u (.semV j)) = .ok s') (hp : s.post u = some r)
    (hw : wk (s.pc u) = none) : registered s r ∧ (s.rcd r).waiting = false ∧ (s.rcd r).deqd = false := by
  have hq := (qinv_of_reachable hr).qi
  rcases hq.q5 u r hp with h1 | h2
  · rw [hw] at h1; cases h1
  · exact ⟨h2.1, h2.2.2.2.2, h2.2.1⟩

/-! ### the owner's return -/

/-- u is between unlinking / popping record r and clearing its `waiting` (cv signaller), resp. between popping
    it and posting (note / counter waker, which reads `nw->sem` for the post) -/
def betweenUnlinkAndClear (s : State) (u : Tid) (r : Rid) : Prop :=
  (∃ c l, wk (s.pc u) = some (c, l) ∧ r ∈ pend (s.post u) l) ∨ (s.post u = some r ∧ wk (s.pc u) = none)

theorem ret_idle {s s' : State} {t : Tid} {i : Nat} {nested : Bool} (hs : step s (.thr t (.retWaitN i nested)) = .ok s') :
    s'.pc t = .idle := by
  rw [ret_state hs]; simp

/-- after `ret nsync_wait_n` of thread t: no record is registered to t, nothing queued on any object belongs to
    t, and no thread is between unlink / pop and clear / post of a record of t.  (Stated with the ghost `owner`
    so that it is not defeated by the reuse of a freed heap address by another thread's call.) -/
theorem C13_owner_returns_after {s s' : State} {t : Tid} {i : Nat} {nested : Bool} (hr : Reachable s)
    (hs : step s (.thr t (.retWaitN i nested)) = .ok s') :
    (∀ r, registered s' r → (s'.rcd r).owner ≠ t)
    ∧ (∀ o r, r ∈ (s'.obj o).queue → registered s' r ∧ (s'.rcd r).owner ≠ t)
    ∧ (∀ u r, betweenUnlinkAndClear s' u r → registered s' r ∧ (s'.rcd r).owner ≠ t) := by
  have hr' := reachable_step hr hs
  have hidle := ret_idle hs
  have h1 : ∀ r, registered s' r → (s'.rcd r).owner ≠ t := by
    intro r hl ho
    have := ((own_of_reachable hr').back r hl).1
    rw [ho, hidle] at this
    cases this
  have hq := (qinv_of_reachable hr').qi
  refine ⟨h1, ?_, ?_⟩
  · intro o r hm
    have := (hq.q1 o r hm).1
    exact ⟨this, h1 r this⟩
  · intro u r hb
    rcases hb with ⟨c, l, hw, hm⟩ | ⟨hp, hw⟩
    · have := ((hq.q4 u c l hw).2.2 r hm).1
      exact ⟨this, h1 r this⟩
    · rcases hq.q5 u r hp with h | h
      · rw [hw] at h; cases h
      · exact ⟨h.1, h1 r h.1⟩

/-- the records of a call on the caller's stack (count <= 4) are unregistered by the return -/
theorem C13_owner_returns_after_stack {s s' : State} {t : Tid} {i : Nat} {nested : Bool}
    (hs : step s (.thr t (.retWaitN i nested)) = .ok s') (hh : (s.fr t).heap = none) :
    ∀ r ∈ (s.fr t).recs, ¬ registered s' r := by
  intro r hm
  rw [ret_state hs]; simp [registered, hh, hm]

/-! ### non-vacuity -/

namespace Example

/-- `Example.fixed` (Props/C11.lean), the return of the caller, and then the signaller's V: accepted, and the V
    comes when the record is dead — it does not touch it (`touches` of a V by a thread inside
    nsync_cv_signal is `False` by definition). -/
def lateV : List Event := fixed ++ [.thr 0 (.retWaitN 0 false)]

example : accepts (lateV ++ [.thr 1 (.semV 0)]) = true := by decide
example : (final lateV).map (fun s => decide ((s.rcd r0).live = false ∧ s.post 1 = some r0 ∧ s.pc 1 = .sg 0 false (.wake [r0])))
    = some true := by decide
/-- the signaller's store to `waiting` before the caller has seen it is to a registered record -/
example : (final (fixed.dropLast.dropLast)).map (fun s => decide ((s.rcd r0).live = true ∧ s.pc 0 = .wDeqCv 0 .wspin
    ∧ s.pc 1 = .sg 0 false (.wake [r0]) ∧ s.post 1 = none)) = some true := by decide
/-- a counter waker's clear and V on the live record `stk 1` (`Example.noteCtr`) -/
example : (final (noteCtr.take 50)).map (fun s => decide (s.post 1 = some (.stk 1) ∧ (s.rcd (.stk 1)).live = true
    ∧ wk (s.pc 1) = none)) = some true := by decide

end Example

end WaitN
