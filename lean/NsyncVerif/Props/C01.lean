import NsyncVerif.Proofs.MuX
/-
  Property C01 — writer exclusion and reader sharing hold on every acquisition path.

  Model: `NsyncVerif.MuX` (Model/MuX.lean), one step per atomic operation on the mutex word.
  `Reachable s` quantifies over every event list the acceptor admits: any number of threads, any
  interleaving, any mix of lock / rlock / trylock / rtrylock / unlock / runlock / waits (cv wait,
  mu_wait, wait_n: their internal release and re-acquisition are ordinary writes to the word),
  wakers and debug callers (spinlock-only writes), any number of steps.  Deadlines, cancellation
  and semaphore flavour do not appear: they only influence *which* legal writes a thread attempts
  and when, and the theorem covers all of them.

  `held` is the client-visible ghost: set when an acquiring call returns, cleared when a releasing
  or waiting call starts.  `ann` is the same notion as declared by nsync's own annotations
  (RWLOCK_TRYACQUIRE / RWLOCK_RELEASE), which exist for every mutex including the internal ones
  of notes, counters and once.

  Contract (rejected by the acceptor, hence hypotheses): a thread releases only what it holds, in
  the mode it holds it; no recursive acquisition; waits only while holding.
-/
namespace NsyncVerif.Props.C01
open NsyncVerif.MuX

/-- At most one writer, and a writer excludes everybody else. -/
theorem C01_exclusion {s : State} (h : Reachable s) (t u : Tid) :
    s.held t = .W → s.held u ≠ .none → t = u :=
  let hi := reachable_inv h; hi.excl hi.heldW hi.heldR

/-- A reader excludes every writer (any number of readers may coexist: see `readersShare`). -/
theorem C01_reader_excludes_writer {s : State} (h : Reachable s) (t u : Tid) :
    s.held t = .R → s.held u ≠ .W := by
  intro ht hu
  have := C01_exclusion h u t hu (by rw [ht]; intro hc; cases hc)
  subst this
  rw [ht] at hu
  cases hu

/-- The same two statements for what nsync itself annotates as held (covers the internal
    mutexes of notes, counters and once, for which there is no client-level call event). -/
theorem C01_exclusion_ann {s : State} (h : Reachable s) (t u : Tid) :
    s.ann t = .W → s.ann u ≠ .none → t = u :=
  let hi := reachable_inv h; hi.excl hi.annW hi.annR

/-- The word tells the truth: the writer bit is set iff some thread owns it, the reader count is
    the number of owners, never both, and the spinlock bit is set iff some thread owns it. -/
theorem C01_word_agrees {s : State} (h : Reachable s) :
    ((decode s.word).wlock = s.w.isSome) ∧ ((decode s.word).readers = s.rs.length) ∧
    ((decode s.word).wlock = true → (decode s.word).readers = 0) ∧
    ((decode s.word).spin = s.sp.isSome) := by
  have hi := reachable_inv h
  refine ⟨hi.wl, hi.rd, ?_, hi.spn⟩
  intro hw
  rw [hi.wl] at hw
  rw [hi.rd, hi.wx hw]
  rfl

/-- Soundness of the plain release-stores (mu_wait.c:120,125): a store is admitted only from the
    owner of the spinlock AND the writer bit (nobody else can then write the word), and every admitted store leaves the invariant intact — in particular it can
    never erase another thread's share. -/
theorem C01_store_sound {s s' : State} (h : Reachable s) (t : Tid) (v : Nat) (ord : Ord)
    (hs : step s (.st t v ord) = .ok s') : s.sp = some t ∧ s.w = some t ∧ Inv s' := by
  have hst := step_st hs
  exact ⟨hst.1, hst.2.1, step_inv (reachable_inv h) hs⟩

/-! ### Non-vacuity: concrete accepted traces -/

/-- Two readers hold the mutex at once; a writer then gets it after both left. -/
def readersShare : List Ev :=
  [ .call 1 (.acq .R false), .cas 1 0 256, .annAcq 1 .R, .ret 1 true,
    .call 2 (.acq .R false), .casFail 2 0 256, .ld 2 256, .cas 2 256 512, .annAcq 2 .R, .ret 2 true ]

example : (run init readersShare).toOption.map (fun s => (s.held 1, s.held 2, s.word)) = some (.R, .R, 512) := by
  decide +kernel

def writerAfterReaders : List Ev :=
  readersShare ++
  [ .call 1 (.rel .R), .annRel 1 .R, .casFail 1 256 512, .ld 1 512, .cas 1 512 256, .ret 1 true,
    .call 2 (.rel .R), .annRel 2 .R, .cas 2 256 0, .ret 2 true,
    .call 3 (.acq .W false), .cas 3 0 1, .annAcq 3 .W, .ret 3 true ]

example : (run init writerAfterReaders).toOption.map (fun s => (s.held 1, s.held 2, s.held 3)) = some (.none, .none, .W) := by
  decide +kernel

/-- The timeout path of nsync_mu_wait: acquire writer bit + spinlock by CAS, then one plain store
    converts to a read share and drops the spinlock (mu_wait.c:74,120). -/
def timeoutReacquire : List Ev :=
  [ .call 1 (.acq .R false), .cas 1 0 256, .annAcq 1 .R, .ret 1 true,
    .call 1 .wait, .cas 1 256 (256 + 2 + 4 + 16), .annRel 1 .R, .cas 1 278 20,      -- enqueue, release share+spinlock
    .cas 1 20 23, .st 1 (20 + 256), .annAcq 1 .R, .ret 1 true ]

example : (run init timeoutReacquire).toOption.map (fun s => (s.held 1, s.word)) = some (.R, 276) := by
  decide +kernel

/-! ### What the acceptor refuses: the two-writer step is not a legal write -/

/-- A second thread "acquiring" the writer bit while it is set is rejected (no legal delta). -/
example : (run init [ .call 1 (.acq .W false), .cas 1 0 1, .ret 1 true,
                      .call 2 (.acq .W false), .cas 2 1 1 ]).toOption.isSome = true := by decide +kernel
-- (a CAS 1 → 1 changes nothing and is accepted; but thread 2 cannot return success:)
example : (run init [ .call 1 (.acq .W false), .cas 1 0 1, .ret 1 true,
                      .call 2 (.acq .W false), .cas 2 1 1, .ret 2 true ]).toOption.isSome = false := by decide +kernel

/-- Defect F1 (debug.c:218 on the unfixed tree): the debug caller holds only the spinlock and
    stores the word it read *before* another thread's acquire CAS.  The store would clear a writer
    bit the storing thread does not own; the acceptor rejects exactly that store — the lockstep
    replay of such an execution of the real code is the concrete failing history. -/
def f1Witness : List Ev :=
  [ .call 1 (.acq .W false), .cas 1 0 1, .ret 1 true,            -- T1 holds the mutex
    .call 3 (.acq .W false), .casFail 3 0 1, .ld 3 1,
    .cas 3 1 39, .cas 3 39 37,                                     -- T3 queues itself (spinlock, WAITING, WRITER_WAITING)
    .call 4 (.acq .W false), .casFail 4 0 37, .ld 4 37,
    .cas 4 37 39, .cas 4 39 37,                                    -- T4 queues itself
    .call 1 (.rel .W), .casFail 1 1 37, .ld 1 37,
    .cas 1 37 46, .ld 1 46, .cas 1 46 44, .ret 1 true,             -- T1 unlocks, wakes T3 (DESIG_WAKER), T4 stays queued
    .ld 9 44, .cas 9 44 46,                                        -- debug caller: load word, take the spinlock
    .ld 3 46, .cas 3 46 7, .ret 3 true,                            -- T3, the designated waker, acquires by CAS
    .st 9 44 ]                                                     -- debug caller stores the word it loaded: erases T3's bit

example : (run init (f1Witness.take 25)).toOption.map (fun s => (s.held 3, s.word)) = some (.W, 7) := by decide +kernel
example : (run init f1Witness).toOption.isSome = false := by decide +kernel

end NsyncVerif.Props.C01
