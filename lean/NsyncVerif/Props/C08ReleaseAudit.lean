/-
  Axiom audit of the C08 theorems of Props/C08Release.lean and of the invariants they rest on
  (allowed: propext, Classical.choice, Quot.sound).
-/
import NsyncVerif.Props.C08Release

open Note

#print axioms Reachable.invR
#print axioms Reachable.invForest
#print axioms C08_notified_waiters_in_progress
#print axioms C08_waiting_record
#print axioms C08_no_lost_wakeup
#print axioms C08_waiters_released
#print axioms C08_complete_released
#print axioms C08_complete_full_holds
#print axioms Reachable.invJ
#print axioms Reachable.invLive
#print axioms Reachable.invScan
#print axioms no_stuck_state
#print axioms no_wait_blocked_all
#print axioms C08_child_iff_parent
#print axioms C08_children_nodup
#print axioms anc_of_chain
#print axioms C08_unaffected
#print axioms C08_unaffected_full_holds
#print axioms C08_siblings_unaffected
#print axioms not_anc_of_parent
#print axioms C08_parent_and_siblings_unaffected
#print axioms adoptsB_of
#print axioms reachableH_runH
#print axioms run_of_runH
#print axioms pc_of_not_actor_rel
#print axioms release_prefix_ok
#print axioms release_prefix_okH
#print axioms sibling_prefix_ok
