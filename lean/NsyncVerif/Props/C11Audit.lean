/-
  Props/C11Audit.lean — axioms used by the safety theorems of C11 (Props/C11.lean), by the nsync_wait_n half of C13
  (Props/C13WaitN.lean) and by the invariants behind them.  The `C04_waitn_*` corollaries and the liveness theorems
  (Props/C11Fair.lean, Props/C11FairFull.lean) are not listed here.
  Allowed: propext, Classical.choice, Quot.sound.
-/
import NsyncVerif.Props.C11
import NsyncVerif.Props.C13WaitN

open WaitN

#print axioms C11_index_ready
#print axioms C11_index_ready_first
#print axioms C11_timeout
#print axioms C11_short_circuit
#print axioms C11_cleanup
#print axioms C11_cleanup_ret
#print axioms C11_mutex
#print axioms C11_mutex_marks
#print axioms C11_heap_path
#print axioms C11_no_oversleep
#print axioms C11_cleared_accounted
#print axioms C11_no_oversleep_token
#print axioms C11_sleep_deadline
#print axioms sleep_deadline_state
#print axioms C11_cv_unlinked_by_waker
#print axioms C13_record_lifetime
#print axioms C13_owner_access
#print axioms C13_record_lifetime_post
#print axioms C13_owner_returns_after
#print axioms C13_owner_returns_after_stack
-- the invariants behind them
#print axioms linv_of_reachable
#print axioms own_of_reachable
#print axioms tf_of_reachable
#print axioms qinv_of_reachable
#print axioms ulife_of_reachable
#print axioms dui_of_reachable
#print axioms touch_stepThr
#print axioms dies_facts
#print axioms inv_of_run
#print axioms sema_stepThr
#print axioms clr_stepThr
#print axioms bind_stepThr
#print axioms ti_move
