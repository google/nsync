import NsyncVerif.Props.C04Fix
import NsyncVerif.Props.C03Signal
/-
  Props/C14Cv.lean — property C14 across condition variables.

  MU_LONG_WAIT (and MU_WRITER_WAITING) may be ignored only by a thread that has itself waited on the mutex:
  nsync_mu_lock_slow_ drops the two bits from its acquire mask when called with `clear = MU_DESIG_WAKER`
  (mu.c:58-61).  The only caller that passes MU_DESIG_WAKER for a thread that was never queued by
  nsync_mu_lock itself is the end of nsync_cv_wait_with_deadline_generic (cv.c:297-303), and it may do so only
  for a waiter that wake_waiters has MOVED to the mutex queue (`w->cv_mu == NULL`): that thread was woken by an
  unlocker of the mutex, i.e. it has waited on the mutex.  Every other return from a cv wait (timeout,
  cancellation, a signal that woke it directly) re-acquires with the plain lock function and is a fresh locker
  for the purposes of C14.  Over the CvFix model (cv.c statement by statement):

  * `C14_cv_relock_slow_only_transferred` — the nested call of nsync_mu_lock_slow_ at the end of a cv wait is
    accepted only for a waiter whose ghost `xferd` is set;
  * `C14_cv_untransferred_uses_plain_lock` — and the plain re-acquisition only for one whose `xferd` is clear;
  * `C14_cv_xferd_is_transfer` — `xferd` is set exactly when, at the load that left the wait loop, the record's
    status was `xfer` = "moved to the mutex queue by wake_waiters (cv.c:80-114)";
  * `C14_cv_transferred_was_woken_by_waker` — and then a waker had unlinked it from the cv (so the hand-over to
    the mutex queue really happened: the composition CvFix × MuX of C03Transfer continues from here).

  Seeded change this is aimed at: seeded/C14-cv-return-reacquires-as-designated-waker (the
  `&& w->cv_mu == NULL` test dropped: every cv return calls nsync_mu_lock_slow_ with MU_DESIG_WAKER).
-/
namespace NsyncVerif.CvFix

theorem C14_cv_relock_slow_only_transferred {cfg : Config} {s s' : State} {t : Tid}
    (hs : step cfg s (.relockSlow t) = .ok s') : (s.thr t).loc = .wExit ∧ (s.thr t).xferd = true := by
  simp only [step, need_ok] at hs
  exact ⟨hs.1, hs.2.1⟩

theorem C14_cv_untransferred_uses_plain_lock {cfg : Config} {s s' : State} {t : Tid} {op : MuOp}
    (hs : step cfg s (.lockMark t op) = .ok s') : (s.thr t).loc = .wExit ∧ (s.thr t).xferd = false := by
  simp only [step, need_ok] at hs
  exact ⟨hs.1, hs.2.1⟩

/-- the two re-acquisition paths exclude each other in every state -/
theorem C14_cv_reacquire_paths_exclusive {cfg : Config} {s s1 s2 : State} {t : Tid} {op : MuOp}
    (h1 : step cfg s (.relockSlow t) = .ok s1) (h2 : step cfg s (.lockMark t op) = .ok s2) : False := by
  have a := (C14_cv_relock_slow_only_transferred h1).2
  have b := (C14_cv_untransferred_uses_plain_lock h2).2
  rw [a] at b; cases b

theorem C14_cv_xferd_is_transfer {cfg : Config} {s s' : State} {t : Tid} {r : Rid}
    (hs : step cfg s (.recLd t .wHead r 0) = .ok s') :
    ((s'.thr t).xferd = true ↔ (s.recs r).stat = RStat.xfer) := by
  obtain ⟨_, _, _, _, _, _, h7, _⟩ := wHead_exit_accepted hs
  rw [h7]
  simp

/-- A waiter that leaves the wait loop as `transferred` was unlinked from the cv by exactly one waker (which
    handed it to the mutex queue), and it is a waiter on an nsync_mu (only those are ever transferred). -/
theorem C14_cv_transferred_was_woken_by_waker {cfg : Config} {s s' : State} {t : Tid} {r : Rid} (h : Reachable cfg s)
    (hs : step cfg s (.recLd t .wHead r 0) = .ok s') (hx : (s'.thr t).xferd = true) :
    (∃ u, (s'.thr t).exitUnl = [Unl.waker u]) ∧ r.isMucv = true := by
  have hst := (C14_cv_xferd_is_transfer hs).1 hx
  obtain ⟨_, _, _, _, h5, _, _⟩ := wHead_exit_accepted hs
  obtain ⟨u, hu⟩ := (invF_reachable h).unlW r (.inr hst)
  exact ⟨⟨u, by rw [h5, hu]⟩, (inv_reachable h).b.xferM r hst⟩

/-! ### non-vacuity and the seeded change (traces `xferAll`, `sigAll` of Props/C03Signal.lean) -/

/-- a transferred waiter: at its exit load `xferd` is set and the slow re-acquisition is accepted … -/
example : okRun ⟨false⟩ (xferAll.take 31) = true := by decide
/-- … the plain one is not -/
example : okRun ⟨false⟩ (xferAll.take 30 ++ [.lockMark 0 .wr]) = false := by decide
/-- a waiter woken directly by the signaller (not transferred): the plain re-acquisition is accepted … -/
example : okRun ⟨false⟩ sigAll = true := by decide
/-- … and nsync_mu_lock_slow_ with MU_DESIG_WAKER (the seeded change) is rejected -/
example : okRun ⟨false⟩ (sigAll.take 27 ++ [.relockSlow 0]) = false := by decide
example : okRun ⟨false⟩ (sigAll.take 27 ++ [.lockMark 0 .wr]) = true := by decide

end NsyncVerif.CvFix
