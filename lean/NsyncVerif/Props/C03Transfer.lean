/-
  Property C03, cv-signal edge, TRANSFERRED waiters — everything a thread did before
  nsync_cv_signal / nsync_cv_broadcast happens before what a waiter does after its wait returns,
  also when wake_waiters does not wake the waiter itself but moves it to the mutex queue
  (cv.c:64-135) and a later nsync_mu_unlock wakes it; under the DECLARED memory orders only.

  `C03_signal_transfer_full` of `Props/C03Signal.lean` is false of the CvFix layer alone
  (`C03_signal_transfer_full_not_in_model`: there the wake-up is a foreign store by a thread whose
  operations on the mutex word are not events).  Its statement over the joint machine is proved here
  BY COMPOSITION, with no new model of any C code:

    joint acceptor   `Model/CvMu.lean`: an event is delivered to `CvFix.step` (cv.c) and / or to
                     `MuX.step` (the exclusion protocol of the word of mutex `m`); cv.c's own accesses
                     to a mutex word (cv.c/0..4, cv.c/7) go to BOTH.  A joint log is accepted only if
                     each layer accepts its projection (`C03_transfer_machine`), plus five checks
                     K1–K5 (listed in Model/CvMu.lean) of which only K5 is not a property either
                     layer could check alone: the thread that stores `waiting := 0` into a
                     transferred record has done a successful ACQUIRE read-modify-write on the word of
                     the mutex the record was transferred to, after the waker's cv.c/3.
    clock machine    the generic `NsyncVerif.VC` over the cv word, the word of every mutex and the
                     two atomic fields of every record; cv.c sites carry the order `siteOrd` declares,
                     all other code the order LOGGED with the operation (no oracle).

  THE CHAIN (`JI`, Proofs/CvMuVCStep.lean; every link is a lemma of Proofs/VC.lean)
    waker u      clock `w.clk` just before `ATM_CAS_ACQ (&pmu->word)` [cv.c/1] ≥ its clock at its call
                 `ATM_CAS_REL (&pmu->word)` [cv.c/3]            RELEASE   → relc (mu.word) ≥ w.clk
    anybody      later successful CASes on mu.word of ANY order continue the release sequence
                 (C++20); plain stores to mu.word are accepted by MuX only as RELEASE stores of
                 the holder of the queue spinlock (mu_wait.c/7, mu_wait.c/8), and whoever holds
                 the spinlock took it with an ACQUIRE CAS (MuX: `needsAcq`) after cv.c/3 — the
                 waker held it until then — so its clock already covers w.clk: relc stays ≥ w.clk
    unlocker v   successful ACQUIRE CAS on mu.word after cv.c/3 (K5: mu.c/24 `ATM_CAS_RELACQ`, or
                 common.c/1 `ATM_CAS_ACQ` when it re-takes the spinlock)          → vc v ≥ w.clk
                 `ATM_STORE_REL (&w->nw.waiting, 0)` [mu.c/28]  RELEASE (K4) → relc (waiting) ≥ w.clk
    nobody       stores to `waiting` of a transferred record but such a store (`xfer_no_store`)
    waiter t     `while (ATM_LOAD_ACQ (&w->nw.waiting) != 0)` [cv.c/10] observes 0
                                                               ACQUIRE   → vc t ≥ w.clk

  PROVED IN FULL
    `C03_signal_transfer`        the statement of `C03_signal_transfer_full`, over the composition
    `C03_signal_transfer_loop_exit`  … already at the waiter's loop exit, before it re-acquires the mutex
    `C03_signal_transfer_published`, `C03_signal_transfer_wake`   the two middle links as theorems
    `C03_transfer_orders`        what acceptance demands of the orders of other code
    `C03_transfer_machine`, `C03_transfer_ghosts`, `C03_transfer_invariant`
    controls `C03_transfer_needs_*`: each of the four orders weakened breaks the edge on a
                                 concrete trace (and the joint acceptor rejects the weakened log)
  SCOPE inherited from the two layers: one condition variable (the log is projected per cv, as for
  every CvFix theorem), any number of mutexes, threads and records, both semaphore flavours; waits
  through nsync_cv_wait / nsync_cv_wait_with_deadline[_generic] (transfers only happen to
  waiters with an nsync_mu).
-/
import NsyncVerif.Proofs.CvMuVCRun
import NsyncVerif.Props.C03Signal

namespace NsyncVerif.CvMu
open NsyncVerif NsyncVerif.CvFix

/-- Every accepted joint log has a product run; its acceptor component is the joint acceptor's
    state, its clock component the clock machine run over the projected events; the CvFix acceptor
    accepts the CvFix projection of the log and the MuX acceptor, for every mutex, the projection
    onto that mutex. -/
theorem C03_transfer_machine {cfg : Config} {evs : List XEv} {j : JState}
    (h : jrun cfg jinit evs = .ok j) :
    (∃ p, jprun cfg jpinit evs = .ok p ∧ p.j = j ∧ p.c = xclocks evs) ∧
    CvFix.run cfg CvFix.init (cvProj evs) = .ok j.s ∧
    ∀ m, MuX.run MuX.init (muProj m evs) = .ok (j.mx m) := by
  obtain ⟨p, h1, h2⟩ := jprun_of_jrun (p := jpinit) h
  exact ⟨⟨p, h1, h2, jprun_clocks h1⟩, jrun_cv h, fun m => jrun_mu h m⟩

/-- Definition of the ghosts, as a theorem. -/
theorem C03_transfer_ghosts {cfg : Config} {p p' : JP} {ev : XEv} (h : jpstep cfg p ev = .ok p') :
    jstep cfg p.j ev = .ok p'.j ∧ p'.c = xcstep p.c ev ∧
    -- set by …
    (∀ u m o, ev = .cv (.callSignal u) m o ∨ ev = .cv (.callBroadcast u) m o → p'.cc u = p.c.vc u) ∧
    (∀ u x n ob r m o, ev = .cv (.muCas u .wwCas x n ob true) m o → (p'.j.s.recs r).stat = .xfer →
      (p.j.s.recs r).stat ≠ .xfer → p'.xf r = some ⟨u, p.c.vc u, p.cc u⟩) ∧
    (∀ t r m o, ev = .cv (.recLd t .wHead r 0) m o →
      p'.xt t = (if (p.j.s.recs r).stat = .xfer then p.xf r else none)) ∧
    -- … and unchanged otherwise
    (∀ r, (p.j.s.recs r).stat = .xfer → p'.xf r = p.xf r) ∧
    (∀ m x, ev = .mu m x → p'.cc = p.cc ∧ p'.xf = p.xf ∧ p'.xt = p.xt) := by
  obtain ⟨j', hj, rfl⟩ := jpstep_ok h
  refine ⟨by rw [jpnext_j]; exact hj, jpnext_c p ev j', ?_, ?_, ?_, ?_, ?_⟩
  · rintro u m o (rfl | rfl) <;> exact VC.upd_same _ _ _
  · rintro u x n ob r m o rfl h1 h2
    have h1' : (j'.s.recs r).stat = .xfer := h1
    show xfE p j'.s (.muCas u .wwCas x n ob true) r = _
    simp [xfE, newly_true h1' h2]
  · rintro t r m o rfl
    exact VC.upd_same _ _ _
  · intro r hr
    cases ev with
    | cv e m o => exact xfE_keep p j'.s e r (newly_false_of_xfer hr)
    | mu m x => rfl
  · rintro m x rfl; exact ⟨rfl, rfl, rfl⟩

/-- The inductive invariant (`JI`, Proofs/CvMuVCStep.lean), over all reachable product states. -/
theorem C03_transfer_invariant {cfg : Config} {p : JP} (h : JPReachable cfg p) : JI p :=
  (ji_reachable h).1

/-- LINK 1 (cv.c/3 → the mutex word).  A transferred record whose waker's `ATM_CAS_REL` [cv.c/3]
    has succeeded (`pub`): the waker's clock from just before the transfer — which covers its
    clock at its call — is covered by the RELEASE CLOCK OF THE WORD OF THAT MUTEX, and it stays so
    whatever other code does to the word (this is an invariant).  Before that the waker holds the
    mutex' queue spinlock and its own clock covers it. -/
theorem C03_signal_transfer_published {cfg : Config} {p : JP} (h : JPReachable cfg p) (r : Rid)
    (hx : (p.j.s.recs r).stat = .xfer) :
    ∃ w, p.xf r = some w ∧ (p.j.s.recs r).unl = [Unl.waker w.by_] ∧ VC.Clock.le w.call w.clk ∧
      (p.j.g.pub r = true → VC.Clock.le w.clk (p.c.relc (.mu (p.j.g.xm r)))) ∧
      (p.j.g.pub r = false → (p.j.mx (p.j.g.xm r)).sp = some w.by_ ∧ VC.Clock.le w.clk (p.c.vc w.by_)) := by
  obtain ⟨w, h1, R⟩ := (ji_reachable h).1.xfer r hx
  exact ⟨w, h1, R.unl, R.call, fun hp => (R.pub hp).1, fun hp => ⟨(R.unpub hp).2.2.2, (R.unpub hp).2.2.1⟩⟩

/-- LINK 2 (the mutex word → the unlocker → `waiting`).  Whenever a store `waiting := 0` into a
    transferred record from outside cv.c is accepted: it is a release store, the storing thread's
    clock covers the clock the waker had before the transfer (it acquired the mutex word after the
    waker's cv.c/3), and so does the release clock of `waiting` afterwards. -/
theorem C03_signal_transfer_wake {cfg : Config} {p p' : JP} {v : Tid} {r : Rid} {m : MuId} {o : VC.Ord}
    (h : JPReachable cfg p) (hs : jpstep cfg p (.cv (.fSt v r .waiting 0) m o) = .ok p')
    (hx : (p.j.s.recs r).stat = .xfer) :
    o.isRel = true ∧ ∃ w, p.xf r = some w ∧ VC.Clock.le w.clk (p.c.vc v) ∧
      VC.Clock.le w.clk (p'.c.relc (.fld r .waiting)) := by
  obtain ⟨j', hj, rfl⟩ := jpstep_ok hs
  obtain ⟨_, _, hg⟩ := jstep_cv hj
  obtain ⟨k4, k5⟩ := (ghost_cv hg).wake v r rfl hx
  obtain ⟨w, h1, R⟩ := (ji_reachable h).1.xfer r hx
  exact ⟨k4, w, h1, R.got v k5, VC.Clock.le_trans (R.got v k5) (xc_fSt p.c v r 0 m o k4)⟩

/-- The edge at the waiter's LOOP EXIT.  Whenever thread `t` leaves its wait loop (its
    `ATM_LOAD_ACQ (&w->nw.waiting)` [cv.c/10] observes 0) on a record that was transferred to a
    mutex queue: the ghost `xt t` becomes that transfer, and the clock its waker had before the
    transfer (which covers the waker's clock at its call) is covered by `t`'s clock — before `t`
    re-acquires the mutex. -/
theorem C03_signal_transfer_loop_exit {cfg : Config} {p p' : JP} {t : Tid} {r : Rid} {m : MuId}
    {o : VC.Ord} (h : JPReachable cfg p)
    (hs : jpstep cfg p (.cv (.recLd t .wHead r 0) m o) = .ok p')
    (hx : (p.j.s.recs r).stat = .xfer) :
    ∃ w, p.xf r = some w ∧ p'.xt t = some w ∧ (p.j.s.recs r).unl = [Unl.waker w.by_] ∧
      VC.Clock.le w.clk (p'.c.vc t) ∧ VC.Clock.le w.call w.clk := by
  obtain ⟨w, h1, R⟩ := (ji_reachable h).1.xfer r hx
  have h2 : p'.xt t = some w := by
    rw [(C03_transfer_ghosts hs).2.2.2.2.1 t r m o rfl, if_pos hx]; exact h1
  obtain ⟨h3, h4⟩ := (ji_reachable (jpreachable_step h hs)).1.seen t w h2
  exact ⟨w, h1, h2, R.unl, h3, h4⟩

/-- C03, CV-SIGNAL EDGE, TRANSFERRED WAITERS (the statement of `C03_signal_transfer_full`, over
    the composition).  Whenever `ret nsync_cv_wait*` by thread `t` is accepted and the instance of
    the wait was unlinked by a waker `u` and TRANSFERRED to the mutex queue: the wait returns 0,
    the ghost `xt t` is a transfer by `u`, and `u`'s clock from just before its
    `ATM_CAS_ACQ (&pmu->word)` [cv.c/1] — which covers `u`'s clock at its call of
    nsync_cv_signal / nsync_cv_broadcast — is covered by `t`'s clock: everything `u` did before the
    call happens before everything `t` does after its wait returns.  No hypothesis beyond an
    accepted joint log. -/
theorem C03_signal_transfer {cfg : Config} {p p' : JP} {t u : Tid} {res : Outcome} {m : MuId}
    {o : VC.Ord} (h : JPReachable cfg p) (hs : jpstep cfg p (.cv (.retWait t res) m o) = .ok p')
    (hu : Unl.waker u ∈ (p.j.s.thr t).exitUnl) (hx : (p.j.s.thr t).xferd = true) :
    res = .ok ∧ ∃ w, p.xt t = some w ∧ w.by_ = u ∧ VC.Clock.le w.clk (p'.c.vc t) ∧
      VC.Clock.le w.call w.clk := by
  obtain ⟨j', hj, rfl⟩ := jpstep_ok hs
  obtain ⟨hs', _, _⟩ := jstep_cv hj
  obtain ⟨hv, hr⟩ := ji_reachable h
  obtain ⟨w, hw, hby⟩ := hv.exit t (retWait_afterLoop hs') hx u hu
  obtain ⟨h1, h2⟩ := hv.seen t w hw
  refine ⟨(C04_outcome_partial hr hs').2 u hu, w, hw, hby, ?_, h2⟩
  rw [jpnext_c]
  exact VC.Clock.le_trans h1 (xc_mono p.c _ t)

/-- The statement of `C03_signal_transfer_full` (Props/C03Signal.lean) transcribed to the
    composition: `PReachable`/`pstep` of the CvFix product with an oracle become
    `JPReachable`/`jpstep` of the composition without one. -/
def C03_signal_transfer_composed : Prop :=
  ∀ (cfg : Config) (p p' : JP) (t u : Tid) (res : Outcome) (m : MuId) (o : VC.Ord),
    JPReachable cfg p → jpstep cfg p (.cv (.retWait t res) m o) = .ok p' →
    Unl.waker u ∈ (p.j.s.thr t).exitUnl → (p.j.s.thr t).xferd = true →
    ∃ w, p.xt t = some w ∧ w.by_ = u ∧ VC.Clock.le w.clk (p'.c.vc t)

theorem C03_signal_transfer_full_composed : C03_signal_transfer_composed := by
  intro cfg p p' t u res m o h hs hu hx
  obtain ⟨_, w, h1, h2, h3, _⟩ := C03_signal_transfer h hs hu hx
  exact ⟨w, h1, h2, h3⟩

/-- What acceptance by the joint acceptor demands of the orders of OTHER code (the orders of the
    cv.c sites are fixed by `siteOrd`, tied to the source by `signal_sites_tie`):
    (1) an event of other code that makes a thread the holder of a mutex' queue spinlock is a
        successful CAS with ACQUIRE;
    (2) a plain store to a mutex word is a RELEASE store by the holder of that spinlock;
    (3) a store `waiting := 0` into a transferred record is a RELEASE store, by a thread that has
        acquired the word of that mutex since the transfer was published. -/
theorem C03_transfer_orders {cfg : Config} {j j' : JState} :
    (∀ m x v, jstep cfg j (.mu m x) = .ok j' → (j.mx m).sp ≠ some v → (j'.mx m).sp = some v →
      ∃ exp new ord, x = .cas v exp new ord ∧ ord.isAcq = true) ∧
    (∀ m t new ord, jstep cfg j (.mu m (.st t new ord)) = .ok j' →
      (j.mx m).sp = some t ∧ ord.isRel = true) ∧
    (∀ v r m o, jstep cfg j (.cv (.fSt v r .waiting 0) m o) = .ok j' → (j.s.recs r).stat = .xfer →
      o.isRel = true ∧ j.g.got v r = true) := by
  refine ⟨?_, ?_, ?_⟩
  · intro m x v h h1 h2
    obtain ⟨_, hm, _⟩ := jstep_mu h
    rcases muxStep_sp hm m with h3 | ⟨_, t, exp, new, ord, hx, ha, _, h4⟩ | ⟨_, _, _, _, h3, _⟩
    · rw [h3] at h2; exact absurd h2 h1
    · cases hx
      rw [h4] at h2
      cases h2
      exact ⟨exp, new, ord, rfl, ha⟩
    · rw [h3] at h2; cases h2
  · intro m t new ord h
    obtain ⟨_, hm, _⟩ := jstep_mu h
    obtain ⟨mm, hmm, _⟩ := muxStep_some hm
    exact mux_st hmm
  · intro v r m o h hx
    obtain ⟨_, _, hg⟩ := jstep_cv h
    exact (ghost_cv hg).wake v r rfl hx

/- The site table of the chain (`transferSiteRows`, `transferSitesAgree`) and the check that every
   plain store to a mutex word is a release store (`muWordStoresRel`) are in Proofs/CvMuVC.lean;
   they are tied to the regenerated site table in Proofs/TieTransfer.lean. -/

/-! ### non-vacuity and controls: a concrete accepted joint log -/

section Examples

def jokRun (cfg : Config) (evs : List XEv) : Bool :=
  match jrun cfg jinit evs with
  | .ok _ => true
  | .error _ => false

def jprunD (cfg : Config) (evs : List XEv) : JP :=
  match jprun cfg jpinit evs with
  | .ok p => p
  | .error _ => jpinit

def jpokRun (cfg : Config) (evs : List XEv) : Bool :=
  match jprun cfg jpinit evs with
  | .ok _ => true
  | .error _ => false

theorem jprun_jprunD {cfg : Config} {evs : List XEv} (h : jpokRun cfg evs = true) :
    jprun cfg jpinit evs = .ok (jprunD cfg evs) := by
  unfold jpokRun at h; unfold jprunD
  split at h
  · rename_i p hp; rw [hp]
  · cases h

/-- an event of the CvFix layer (mutex 0; the logged order matters only for foreign accesses) -/
def L (e : Event) : XEv := .cv e 0 .rlx
/-- an event of other code on mutex 0 -/
def M (x : MuX.Ev) : XEv := .mu 0 x

/-- Thread 0 locks mu0 and waits on the cv (writer mode, pooled record w0): enqueue, release of mu0
    (fast path of nsync_mu_unlock), sleep.  Thread 2 locks mu0.  Thread 1 — which does NOT hold
    mu0 — signals: it unlinks w0, finds mu0 held by a writer (word = 1), takes mu0's spinlock
    [cv.c/1, 1 → 7] … -/
def xjPre : List XEv := [
  L (.tick 100),
  M (.call 0 (.acq .W false)), M (.cas 0 0 1 .acq), M (.ret 0 true),
  M (.call 0 .wait), L (.callWait 0 false none false), L (.wInit 0 (.w 0)),
  L (.recSt 0 .wSt1 (.w 0) 1 0), L (.muLd 0 .wMode 1),
  L (.wordLd 0 .spin0 0), L (.wordCas 0 0 3 0 true), L (.recLd 0 .wRc (.w 0) 0), L (.wordSt 0 .waitRel 2 3),
  L (.relMark 0 .wr), M (.cas 0 1 0 .rel), L (.nret 0), L (.recLd 0 .wHead (.w 0) 1), L (.semPdEnter 0 0 none),
  M (.call 2 (.acq .W false)), M (.cas 2 0 1 .acq), M (.ret 2 true),
  L (.callSignal 1), L (.wordLd 1 .sigLd 2), L (.wordLd 1 .spin0 2), L (.wordCas 1 2 3 2 true),
  L (.recLd 1 (.sRcLd true) (.w 0) 0), L (.recCas 1 (.sRcCas true) (.w 0) 0 1 0 true), L (.wordSt 1 .sigRel 0 3),
  L (.muLd 1 .wwLd 1)]

/-- … moves w0 to mu0's queue and releases the spinlock with MU_WRITER_WAITING [cv.c/3, 7 → 37];
    returns.  Thread 2 unlocks mu0: the fast path fails (word = 37), nsync_mu_unlock_slow_ takes
    the spinlock and gives up the write lock with `spinCas` [mu.c/24, 37 → 46, declared
    ATM_CAS_RELACQ], dequeues w0, releases the spinlock [mu.c/26, 46 → 8 = MU_DESIG_WAKER],
    stores `waiting := 0` with order `wakeOrd` [mu.c/28, declared ATM_STORE_REL], posts.
    Thread 0 wakes and leaves its loop [cv.c/10 observes 0]. -/
def xjMid (spinCas wakeOrd : VC.Ord) : List XEv := [
  L (.muCas 1 .wwCas 1 7 1 true), L (.muLd 1 .wwRelLd 7), L (.muCas 1 .wwRelCas 7 37 7 true),
  L (.retSignal 1),
  M (.call 2 (.rel .W)), M (.casFail 2 1 37), M (.ld 2 37), M (.ld 2 37),
  M (.cas 2 37 46 (ordX spinCas)), M (.ld 2 46), M (.cas 2 46 8 .rel),
  .cv (.fSt 2 (.w 0) .waiting 0) 0 wakeOrd, L (.semV 2 0), M (.ret 2 true),
  L (.semPdRet 0 0 false), L (.recLd 0 .wTail (.w 0) 0), L (.recLd 0 .wHead (.w 0) 0)]

/-- Thread 0 re-acquires mu0 through nsync_mu_lock_slow_ [8 → 1] and returns 0. -/
def xjPost : List XEv := [
  L (.relockSlow 0), M (.ld 0 8), M (.cas 0 8 1 .acq), L (.retWait 0 .ok), M (.ret 0 true)]

/-- up to the waiter's loop exit -/
def xjExit (spinCas wakeOrd : VC.Ord) : List XEv := xjPre ++ xjMid spinCas wakeOrd
/-- the whole log -/
def xjAll : List XEv := xjExit .ar .rel ++ xjPost

/-- The log is accepted by the joint acceptor (both semaphore flavours) — hence by CvFix and by
    MuX (`C03_transfer_machine`). -/
example : jokRun ⟨false⟩ xjAll = true ∧ jokRun ⟨true⟩ xjAll = true := by decide

/-- The hypotheses of `C03_signal_transfer` are satisfiable: just before `ret nsync_cv_wait` of
    thread 0 (event 49 of 51; the last is its `ret` in the mutex layer) the product state is reachable, the instance was unlinked by
    waker 1 and transferred, and the ghost `xt 0` is the transfer by thread 1, whose clock from
    before cv.c/1 has own component 4 (initial 1 + cv spinlock CAS + remove_count CAS + cv
    spinlock release) and covers its clock at the call (1). -/
example : jpokRun ⟨false⟩ (xjAll.take 49) = true ∧
    ((jprunD ⟨false⟩ (xjAll.take 49)).j.s.thr 0).exitUnl = [Unl.waker 1] ∧
    ((jprunD ⟨false⟩ (xjAll.take 49)).j.s.thr 0).xferd = true ∧
    (match (jprunD ⟨false⟩ (xjAll.take 49)).xt 0 with
      | some w => decide (w.by_ = 1 ∧ w.clk 1 = 4 ∧ w.call 1 = 1)
      | none => false) = true := by decide

/-- The instance, evaluated: thread 1's own component is 4 before its cv.c/1 (5 when it executes
    cv.c/3, whose clock is what the release sequence carries); thread 0 has 5 ≥ 4 at its loop exit
    and at its return. -/
example : (xclocks xjPre).vc 1 1 = 4 ∧ (xclocks (xjExit .ar .rel)).vc 0 1 = 5 ∧
    (xclocks (xjAll.take 50)).vc 0 1 = 5 := by decide

/-- The chain, link by link: after cv.c/3 (3 events into `xjMid`) the release clock of mu0's word
    has thread 1's component (5 = 4 + cv.c/1); thread 2 has nothing of thread 1 before its
    mu.c/24 (8 events in) and 5 after it (9 events in); the release clock of w0.waiting has it
    after mu.c/28 (12 events in). -/
example :
    (xclocks (xjPre ++ (xjMid .ar .rel).take 3)).relc (.mu 0) 1 = 5 ∧
    (xclocks (xjPre ++ (xjMid .ar .rel).take 8)).vc 2 1 = 0 ∧
    (xclocks (xjPre ++ (xjMid .ar .rel).take 9)).vc 2 1 = 5 ∧
    (xclocks (xjPre ++ (xjMid .ar .rel).take 12)).relc (.fld (.w 0) .waiting) 1 = 5 := by decide

/-- The clocks with the order table of the cv.c sites replaced by `so`. -/
def xclocksX (so : Site → VC.Ord) (evs : List XEv) : VC.St XLoc := xcrunx so VC.St.init evs

/-- NEGATIVE CONTROL (unlocker's acquire).  The same log with the unlocker's spinlock-taking CAS
    [mu.c/24] weakened from ATM_CAS_RELACQ to a release-only CAS: the joint acceptor REJECTS it
    (MuX: a write that takes the spinlock must be an acquire), and on the clock machine the
    waiter's clock at its loop exit does not cover the signaller's clock from before the transfer:
    the edge is carried by that acquire, not by the interleaving. -/
theorem C03_transfer_needs_acquire_cas :
    jokRun ⟨false⟩ (xjExit .rel .rel) = false ∧
    ¬ VC.Clock.le ((xclocks xjPre).vc 1) ((xclocks (xjExit .rel .rel)).vc 0) := by
  refine ⟨by decide, ?_⟩
  intro hle
  have h1 := hle 1
  have e1 : (xclocks xjPre).vc 1 1 = 4 := by decide
  have e2 : (xclocks (xjExit .rel .rel)).vc 0 1 = 0 := by decide
  omega

/-- NEGATIVE CONTROL (unlocker's release).  With the store `waiting := 0` [mu.c/28] weakened from
    ATM_STORE_REL to a relaxed store: rejected (K4), and the edge is gone. -/
theorem C03_transfer_needs_release_store :
    jokRun ⟨false⟩ (xjExit .ar .rlx) = false ∧
    ¬ VC.Clock.le ((xclocks xjPre).vc 1) ((xclocks (xjExit .ar .rlx)).vc 0) := by
  refine ⟨by decide, ?_⟩
  intro hle
  have h1 := hle 1
  have e1 : (xclocks xjPre).vc 1 1 = 4 := by decide
  have e2 : (xclocks (xjExit .ar .rlx)).vc 0 1 = 0 := by decide
  omega

/-- NEGATIVE CONTROL (waker's release).  With `ATM_CAS_REL (&pmu->word)` [cv.c/3] weakened to a
    relaxed CAS the release clock of the mutex word never receives the waker's clock. -/
theorem C03_transfer_needs_release_cas :
    ¬ VC.Clock.le ((xclocksX (weaken .cv3) xjPre).vc 1) ((xclocksX (weaken .cv3) (xjExit .ar .rel)).vc 0) := by
  intro hle
  have h1 := hle 1
  have e1 : (xclocksX (weaken .cv3) xjPre).vc 1 1 = 4 := by decide
  have e2 : (xclocksX (weaken .cv3) (xjExit .ar .rel)).vc 0 1 = 0 := by decide
  omega

/-- NEGATIVE CONTROL (waiter's acquire).  With the load of the wait loop [cv.c/10] weakened to a
    relaxed load the edge is gone at the loop exit. -/
theorem C03_transfer_needs_acquire_load :
    ¬ VC.Clock.le ((xclocksX (weaken .cv10) xjPre).vc 1) ((xclocksX (weaken .cv10) (xjExit .ar .rel)).vc 0) := by
  intro hle
  have h1 := hle 1
  have e1 : (xclocksX (weaken .cv10) xjPre).vc 1 1 = 4 := by decide
  have e2 : (xclocksX (weaken .cv10) (xjExit .ar .rel)).vc 0 1 = 0 := by decide
  omega

/-- Why the controls look at the LOOP EXIT: a waiter with an nsync_mu re-acquires the mutex before it
    returns, with an acquire CAS on the same word [nsync_mu_lock_slow_], and thereby imports the
    release clock of the word again — with the unlocker's orders weakened as in the first two
    controls the clock at the RETURN still covers the signaller's (the mutex edge of
    `Props/C03.lean`); what the weakened orders lose are the waiter's accesses between its loop
    exit and that CAS (cv.c:297-300: `w->cv_mu`, the cancel note, `nsync_waiter_free_`). -/
example : (xclocks (xjExit .rel .rlx ++ xjPost)).vc 0 1 = 5 := by decide

/-- K5 is a real check: a thread 3 that has not acquired the word of mu0 since the transfer was
    published stores `waiting := 0` into w0 (release store, right after the signaller's return, or
    after thread 2 has dequeued w0): rejected. -/
example :
    jokRun ⟨false⟩ (xjPre ++ (xjMid .ar .rel).take 4 ++ [.cv (.fSt 3 (.w 0) .waiting 0) 0 .rel]) = false ∧
    jokRun ⟨false⟩ (xjPre ++ (xjMid .ar .rel).take 11 ++ [.cv (.fSt 3 (.w 0) .waiting 0) 0 .rel]) = false := by
  decide

end Examples

end NsyncVerif.CvMu
