/-
  Properties C04 / C05, liveness half, on the REPAIRED cv.c — "nsync_cv_broadcast wakes every such
  thread, nsync_cv_signal wakes at least one", and "a wait returns" — for ALL fair schedules.

  Model: `NsyncVerif/Model/CvFix.lean` (cv.c after the repair of F3, statement by statement), as in
  `Props/C04Fix.lean`: one condition variable, any number of threads and records, all interleavings
  of waiters (plain, timed, cancellable, reader-mode, generic-lock, nsync_wait_n), signallers,
  broadcasters and observers, both semaphore flavours.  Definitions (`Exec`, `Moves`, `Ready`, the
  hypotheses, the statements `C04_fair_wakeup_full` and `C05_fair_return_full`) are in
  `Proofs/CvFixFairDefs.lean`.  The proofs: `Proofs/CvFixFairLock.lean` (one-step facts, rank of a
  critical section, the spinlock), `CvFixFairWake.lean` (signal / broadcast return; every unlinked
  record is woken or transferred), `CvFixFairTrace.lean` (concrete executions) for this file;
  `CvFixFairWaitStep.lean`, `CvFixFairWaitDone.lean`, `CvFixFairWaitTrace.lean` for the waiter's
  side (`Props/C05Fair.lean`), `CvFixFairTimed.lean` for timed waits (`Props/C05FairTimed.lean`).

  THIS FILE, under `Hyps` = reachable start ∧ `WeakFair` ∧ `SpinFair` ∧ `MuRelFair`:
  * `C04_fair_lock_free_again`   every critical section of the cv spinlock ends: the spinlock is
                                 free again and again (so the premise of `SpinFair` is always met);
  * `C04_fair_spin_exits`        every thread leaves `nsync_spin_test_and_set_`;
  * `C04_fair_signal_returns`    (1) EVERY nsync_cv_signal / nsync_cv_broadcast call returns;
  * `C04_fair_broadcast_wakes_all`  every record on `pcv->waiters` when a broadcast takes the
                                 spinlock is eventually transferred to the mutex queue or woken
                                 (`waiting := 0` stored and the V performed by the broadcaster);
  * `C04_fair_signal_wakes_one`  the same for every record of `sigSelect` (the first waiter; all
                                 reader-mode waiters if the first is one), in particular the first:
                                 at least one;
  * `C04_fair_unlinked_woken`    liveness form of `C04_no_lost_wake`: a record with status
                                 `listed u` (unlinked by waker `u`) is eventually transferred or woken;
  * `C04_fair_wakeup_partial : C04_fair_wakeup_partial_stmt`   the conjunction of the three: all of
    `C04_fair_wakeup_full` except "the woken waiter's call returns, with result 0";
  * each of the three hypotheses is NEEDED: `C04_fair_needs_weak_fair` (trace + idling),
    `C04_fair_needs_mu_rel` (lasso of period 2), `C04_fair_needs_spin_fair` (lasso of period 9):
    executions from a reachable state satisfying the other two hypotheses in which a signal call
    never returns (and, in the last one, the sleeping waiter is never woken);
  * non-vacuity: `bcExec` (`exBroadcast` of Props/C04Fix.lean + idling) satisfies `Hyps`
    (`bc_hyps`); in it thread 0 really sleeps on its semaphore when the broadcast starts.
  The concrete executions are checked with `decide` / `decide +kernel` (kernel evaluation, no
  compiled code).

  ELSEWHERE, under `WaitHyps` (= `Hyps` and the hypotheses about the neighbouring layers):
  * `C04_fair_wakeup : C04_fair_wakeup_full` — the full statement, including the return of the woken
    waiter's call — and clause (c) of `C05_fair_return_full` are proved in Props/C05Fair.lean, where
    `bc_waitHyps` shows that `bcExec` satisfies `WaitHyps` too;
  * clauses (a) (deadline passed) and (b) (cancel note seen) of `C05_fair_return_full` are NOT proved;
    Props/C05FairTimed.lean has the first links of (a).

  THE NOTIONS, and why
  * `Moves x t j`: an accepted event of `t` other than `noteSeen t` (the mark "the thread has
    observed its note notified", which the acceptor accepts at every program point, as a no-op
    outside sem_wait.c: counting it would let a thread "move" for ever without executing cv.c).
  * `Ready s t`: inside a call, at a program point of cv.c / common.c's spin loop / debug.c, and not
    inside the semaphore wait.  At such a point the only accepted events of `t` are the next
    operation of that code (`tr_src`, `tr_thr`), so `WeakFair` (a continuously
    `Ready` thread moves) is the usual weak fairness of the scheduler.  NOT `Ready`:
    - a thread asleep on its semaphore (`wSemRet`, `cWait`): hypothesis `SemFair` (C12's guarantee);
    - the program points at which the thread runs code of another layer and the acceptor accepts any
      number of foreign accesses (`Loc.foreign`): the waiter pool (`wNew`, `wExit`), the caller's
      mutex (`wUnlocking`, `wExit`, `wLocking`, `wRelocking`: `MutexFair`, C02's guarantee imported),
      the note code called by sem_wait.c (`cPre`, `cPost`: `CancelFair`), nsync_wait_n outside
      cv_enqueue / cv_dequeue (`nOut`: layer WaitN).
  * THE SPINLOCK.  The cv spinlock is a test-and-set lock; a failed CAS and the loads of the loop
    are moves, so a spinning thread is `Ready` and weak fairness says nothing about its success.
    We take STRONG fairness of the acquisition as the explicit hypothesis `SpinFair`: no thread
    stays in `nsync_spin_test_and_set_` for ever while the spinlock is free again and again.  That
    it IS free again and again is proved (`C04_fair_lock_free_again`), not assumed.  The
    alternative of C02Fair (failed CAS = stutter, plus `FiniteArrivals`) does not fit:
    "finitely many calls" does not bound the number of acquisitions here: a waiter whose deadline
    has expired while a waker holds its record re-takes the spinlock on every round of its loop
    (cv.c:254-285) until the waker has stored `waiting := 0`, and the acceptor lets one
    nsync_wait_n call enqueue and dequeue any number of times.  `C04_fair_needs_spin_fair`: a
    weakly fair lasso in which an observer (nsync_cv_debug_state_and_waiters) takes and releases
    the spinlock for ever while a signaller's test-and-set never succeeds.
  * `SemFair`, `TransferFair`, `PostKept` (used by the waiter's side, Props/C05Fair.lean) and
    `FiniteSpurious`, `NoSleepAfterNotify`, `NoteWakes`, `ClockAdvances` (which only the unproved
    clauses of `C05_fair_return_full` would need) are explained at their definitions;
    `TransferFair` and `PostKept` are in STATE form ("from some time on `waiting = 0`
    and, while the owner sleeps, the count is positive") because the acceptor accepts `sem p_ret`
    on any semaphore from any thread outside cv.c, so that an event form ("the V happens") would
    not survive a stolen post.
  * `MuRelFair`: wake_waiters, having taken the MUTEX's spinlock (cv.c:67), releases it by a CAS
    loop on the mutex word (cv.c:130-134).  The mutex word is abstract here (every observed value is
    accepted), so the loop may fail for ever in the model (`C04_fair_needs_mu_rel`); that it ends
    is the mutex layer's business, imported as a hypothesis.
-/
import NsyncVerif.Proofs.CvFixFairTrace
import NsyncVerif.Props.C03Signal

namespace NsyncVerif.CvFix

/-- The cv spinlock is free again and again. -/
theorem C04_fair_lock_free_again {cfg : Config} {s0 : State} (x : Exec cfg s0) (hy : Hyps x)
    (i : Nat) : ∃ j, i ≤ j ∧ (x.ρ j).holder = none :=
  lock_free_again x hy.reach hy.weak i

/-- Every thread leaves the test-and-set loop (with the spinlock, `wakeA_own`). -/
theorem C04_fair_spin_exits {cfg : Config} {s0 : State} (x : Exec cfg s0) (hy : Hyps x)
    (t : Tid) (i : Nat) : ∃ j, i ≤ j ∧ ((x.ρ j).thr t).loc.spinLoop = false :=
  spin_exits x hy.reach hy.weak hy.spin t i

/-- (1) Every nsync_cv_signal / nsync_cv_broadcast call returns. -/
theorem C04_fair_signal_returns {cfg : Config} {s0 : State} (x : Exec cfg s0) (hy : Hyps x)
    {t : Tid} {i : Nat} (hw : inWake ((x.ρ i).thr t) = true) :
    ∃ j, i ≤ j ∧ (x.σ j = some (.retSignal t) ∨ x.σ j = some (.retBroadcast t)) :=
  waker_returns x hy hw

/-- The records a waker unlinks at its acquisition are on its private list right after it. -/
theorem acquires_list {cfg : Config} {s0 : State} (x : Exec cfg s0) {t : Tid} {b : Bool} {i : Nat}
    (ha : WakerAcquires x t b i) :
    ((x.ρ (i + 1)).thr t).list = if b then (x.ρ i).queue else sigSelect (x.ρ i).recs (x.ρ i).queue := by
  obtain ⟨⟨exp, new, obs, he⟩, hc, hb⟩ := ha
  obtain ⟨_, _, _, hl⟩ := acq_sig_state (x.next_some he) hc
  rw [hl, hb]

/-- (2, wake half) nsync_cv_broadcast wakes every thread that is waiting: every record on
    `pcv->waiters` when the broadcast takes the spinlock is eventually transferred to the mutex
    queue or gets `waiting := 0` and the V of the broadcaster. -/
theorem C04_fair_broadcast_wakes_all {cfg : Config} {s0 : State} (x : Exec cfg s0) (hy : Hyps x)
    {t : Tid} {i : Nat} (ha : WakerAcquires x t true i) {r : Rid} (hr : r ∈ (x.ρ i).queue) :
    EventuallyWoken x r i := by
  exact listed_eventually x hy (t := t) (Nat.le_succ i) (by rw [acquires_list x ha]; exact hr)

/-- (3, wake half) nsync_cv_signal wakes at least one: the first waiter of a non-empty queue is
    among the records it unlinks (`sigSelect`; all reader-mode waiters if the first is one:
    `C04_signal`), and each of those is eventually transferred or woken. -/
theorem C04_fair_signal_wakes_one {cfg : Config} {s0 : State} (x : Exec cfg s0) (hy : Hyps x)
    {t : Tid} {i : Nat} (ha : WakerAcquires x t false i) :
    (∀ f rest, (x.ρ i).queue = f :: rest → f ∈ sigSelect (x.ρ i).recs (x.ρ i).queue) ∧
    ∀ r, r ∈ sigSelect (x.ρ i).recs (x.ρ i).queue → EventuallyWoken x r i := by
  refine ⟨fun f rest hq => by rw [hq]; exact sigSelect_head _ _ _, fun r hr => ?_⟩
  exact listed_eventually x hy (t := t) (Nat.le_succ i) (by rw [acquires_list x ha]; exact hr)

/-- No wake-up is lost, liveness form of `C04_no_lost_wake`: a record that a waker has unlinked (at
    any time, by a signal or a broadcast) is eventually transferred to the mutex queue or gets
    `waiting := 0` and that waker's V. -/
theorem C04_fair_unlinked_woken {cfg : Config} {s0 : State} (x : Exec cfg s0) (hy : Hyps x)
    {r : Rid} {u : Tid} {i : Nat} (h : ((x.ρ i).recs r).stat = .listed u) :
    EventuallyWoken x r i :=
  listed_eventually x hy (Nat.le_refl i) (((x.inv hy.reach i).a.lMem u r).mpr h)

/-- What is proved of `C04_fair_wakeup_full`: everything except "the woken waiter's call returns". -/
def C04_fair_wakeup_partial_stmt : Prop :=
  ∀ (cfg : Config) (s0 : State) (x : Exec cfg s0), Hyps x →
    (∀ t i, inWake ((x.ρ i).thr t) = true →
      ∃ j, i ≤ j ∧ (x.σ j = some (.retSignal t) ∨ x.σ j = some (.retBroadcast t))) ∧
    (∀ t i, WakerAcquires x t true i → ∀ r, r ∈ (x.ρ i).queue → EventuallyWoken x r i) ∧
    (∀ t i, WakerAcquires x t false i →
      (∀ f rest, (x.ρ i).queue = f :: rest → f ∈ sigSelect (x.ρ i).recs (x.ρ i).queue) ∧
      ∀ r, r ∈ sigSelect (x.ρ i).recs (x.ρ i).queue → EventuallyWoken x r i)

theorem C04_fair_wakeup_partial : C04_fair_wakeup_partial_stmt :=
  fun _ _ x hy =>
    ⟨fun _ _ hw => C04_fair_signal_returns x hy hw,
     fun _ _ ha _ hr => C04_fair_broadcast_wakes_all x hy ha hr,
     fun _ _ ha => C04_fair_signal_wakes_one x hy ha⟩

/-! ### non-vacuity: `exBroadcast` followed by idling -/

deriving instance DecidableEq for Thr

/-- One writer-mode waiter (thread 0, record w0) that sleeps on its semaphore, one broadcaster
    (thread 1); then nothing for ever. -/
def bcExec : Exec ⟨false⟩ init :=
  traceExec ⟨false⟩ init exBroadcast (runD ⟨false⟩ exBroadcast) (run_runD (by decide))

theorem lt2_cases {t : Nat} (h : t < 2) : t = 0 ∨ t = 1 := by omega

theorem bc_final_idle (t : Tid) : ((runD ⟨false⟩ exBroadcast).thr t).loc = .idle := by
  by_cases ht : t < 2
  · have h : ((runD ⟨false⟩ exBroadcast).thr 0).loc = .idle ∧
        ((runD ⟨false⟩ exBroadcast).thr 1).loc = .idle := by decide
    rcases lt2_cases ht with rfl | rfl
    · exact h.1
    · exact h.2
  · have := run_untouched (cfg := ⟨false⟩) (t := t) exBroadcast init (runD ⟨false⟩ exBroadcast)
      (tidsBelow_ne (n := 2) (by decide) (Nat.le_of_not_lt ht)) (run_runD (by decide))
    rw [this]; rfl

/-- All hypotheses of the proved theorems hold for `bcExec`. -/
theorem bc_hyps : Hyps bcExec :=
  hyps_of_quiescent bcExec ⟨[], rfl⟩ exBroadcast.length (fun j hj t => by
    rw [show bcExec.ρ j = runD ⟨false⟩ exBroadcast from
      (traceExec_tail (run_runD (by decide)) hj).1]
    exact bc_final_idle t)

/-- At time 16 the broadcaster (thread 1) takes the spinlock; the queue is `[w0]`; thread 0 is
    asleep on its semaphore (count 0, no deadline): a thread really blocks first. -/
theorem bc_acquires : WakerAcquires bcExec 1 true 16 ∧ (bcExec.ρ 16).queue = [.w 0] ∧
    ((bcExec.ρ 16).thr 0).loc = .wSemRet ∧ (bcExec.ρ 16).sem 0 = 0 ∧
    ((bcExec.ρ 16).thr 0).semDl = none := by
  refine ⟨⟨⟨2, 3, 2, by decide⟩, by decide, by decide⟩, by decide, by decide, by decide, by decide⟩

/-- The theorems apply: the broadcast returns … -/
example : ∃ j, 14 ≤ j ∧ (bcExec.σ j = some (.retSignal 1) ∨ bcExec.σ j = some (.retBroadcast 1)) :=
  C04_fair_signal_returns bcExec bc_hyps (by decide)

/-- … and the sleeping waiter's record is woken. -/
example : EventuallyWoken bcExec (.w 0) 16 :=
  C04_fair_broadcast_wakes_all bcExec bc_hyps bc_acquires.1 (by rw [bc_acquires.2.1]; simp)

/-- In the concrete execution: `waiting := 0` at time 21, the V at 22, the return of the broadcast
    at 23, the return of the wait (result 0) at 29. -/
example : bcExec.σ 21 = some (.recSt 1 .wake (.w 0) 0 1) ∧ bcExec.σ 22 = some (.semV 1 0) ∧
    ((bcExec.ρ 22).thr 1).cur = some (.w 0, 0) ∧ bcExec.σ 23 = some (.retBroadcast 1) ∧
    bcExec.σ 29 = some (.retWait 0 .ok) := by decide

/-! ### `WeakFair` is needed (trivially: otherwise nobody need move) -/

def stallEvs : List Event := [.callSignal 0]

def stallExec : Exec ⟨false⟩ init :=
  traceExec ⟨false⟩ init stallEvs (runD ⟨false⟩ stallEvs) (run_runD (by decide))

theorem stall_at {j : Nat} (hj : 1 ≤ j) :
    stallExec.ρ j = runD ⟨false⟩ stallEvs ∧ stallExec.σ j = none :=
  traceExec_tail (run_runD (by decide)) (by simpa [stallEvs] using hj)

theorem stall_thr (t : Tid) : (t = 0 → ((runD ⟨false⟩ stallEvs).thr t).loc = .sLd) ∧
    (t ≠ 0 → ((runD ⟨false⟩ stallEvs).thr t).loc = .idle) := by
  refine ⟨fun h => by subst h; decide, fun h => ?_⟩
  have := run_untouched (cfg := ⟨false⟩) (t := t) stallEvs init (runD ⟨false⟩ stallEvs)
    (tidsBelow_ne (n := 1) (by decide) (Nat.pos_of_ne_zero h)) (run_runD (by decide))
  rw [this]; rfl

/-- `WeakFair` cannot be dropped: thread 0 has called nsync_cv_signal and is never scheduled again;
    the other hypotheses hold and the call never returns. -/
theorem C04_fair_needs_weak_fair :
    ∃ x : Exec ⟨false⟩ init, Reachable ⟨false⟩ init ∧ SpinFair x ∧ MuRelFair x ∧ ¬ WeakFair x ∧
      ∀ j, 1 ≤ j → ((x.ρ j).thr 0).loc = .sLd := by
  have hloc : ∀ j, 1 ≤ j → ∀ t, (t = 0 → ((stallExec.ρ j).thr t).loc = .sLd) ∧
      (t ≠ 0 → ((stallExec.ρ j).thr t).loc = .idle) := by
    intro j hj t; rw [(stall_at hj).1]; exact stall_thr t
  refine ⟨stallExec, ⟨[], rfl⟩, ?_, ?_, ?_, fun j hj => (hloc j hj 0).1 rfl⟩
  · intro t i h _
    have := h (i + 1) (by omega)
    by_cases ht : t = 0
    · rw [(hloc (i + 1) (by omega) t).1 ht] at this; cases this
    · rw [(hloc (i + 1) (by omega) t).2 ht] at this; cases this
  · intro t i h
    have := h (i + 1) (by omega)
    by_cases ht : t = 0
    · rw [(hloc (i + 1) (by omega) t).1 ht] at this; cases this
    · rw [(hloc (i + 1) (by omega) t).2 ht] at this; cases this
  · intro hwf
    obtain ⟨j, hj, e, he, _⟩ := hwf 0 1 (fun j hj => by
      have := (hloc j hj 0).1 rfl
      refine ⟨?_, ?_, ?_⟩ <;> simp [this, Loc.foreign, Loc.asleep])
    rw [(stall_at hj).2] at he; cases he

/-! ### `MuRelFair` is needed -/

theorem run_stateFrom {cfg : Config} {s : State} {evs : List Event}
    (h : (run cfg s evs).toOption.isSome = true) : run cfg s evs = .ok (stateFrom cfg s evs) := by
  unfold stateFrom
  cases hr : run cfg s evs with
  | ok s' => rfl
  | error m => rw [hr] at h; cases h

/-- The transfer of `xferAll` (Props/C03Signal.lean) up to the successful CAS that takes the MUTEX's
    spinlock (cv.c:67): thread 0 sleeps in its wait, its record w0 has been moved to the mutex queue
    by the signaller (thread 1), whose first release CAS (cv.c:131) fails. -/
def relPre : List Event := xferAll.take 22 ++ [.muLd 1 .wwRelLd 7, .muCas 1 .wwRelCas 7 37 9 false]

/-- One round of the release loop cv.c:130-134: reload the mutex word, CAS fails again. -/
def relLoop : List Event := [.muLd 1 .wwRelLd2 7, .muCas 1 .wwRelCas 7 37 9 false]

def relA : State := runD ⟨false⟩ relPre

theorem rel_reach : Reachable ⟨false⟩ relA := reachable_runD (by decide)

theorem rel_loop_tid {t : Tid} (ht : t ≠ 1) : ∀ e ∈ relLoop, e.tid ≠ some t := by
  intro e he
  simp only [relLoop, List.mem_cons, List.mem_nil_iff, or_false] at he
  rcases he with rfl | rfl <;> simp only [Event.tid, ne_eq, Option.some.injEq] <;>
    exact fun h => ht h.symm

/-- A step of the release loop changes the frame of its thread only. -/
theorem step_muLd_local {cfg : Config} {s s' : State} {t : Tid} {site : MSite} {obs : Nat}
    (hs : step cfg s (.muLd t site obs) = .ok s') (hsite : site ≠ .wMode) :
    ∃ x', s' = s.setThr t x' := by
  simp only [step, stepMuLd] at hs
  split at hs
  · exact absurd rfl hsite
  · split at hs
    · cases hs
    · cases hs; exact ⟨_, rfl⟩
  · cases hs; exact ⟨_, rfl⟩
  · cases hs; exact ⟨_, rfl⟩
  · cases hs

theorem step_muCas_fail_local {cfg : Config} {s s' : State} {t : Tid} {site : MSite} {exp new obs : Nat}
    (hs : step cfg s (.muCas t site exp new obs false) = .ok s') : ∃ x', s' = s.setThr t x' := by
  simp only [step, stepMuCas, need_ok] at hs
  obtain ⟨_, _, hs⟩ := hs
  split at hs
  · simp only [need_ok, Bool.false_eq_true, if_false] at hs
    obtain ⟨_, hs⟩ := hs; cases hs; exact ⟨_, rfl⟩
  · simp only [need_ok, Bool.false_eq_true, if_false] at hs
    obtain ⟨_, hs⟩ := hs; cases hs; exact ⟨_, rfl⟩
  · cases hs

/-- The part of the state that observers, spinning threads and the release loop of wake_waiters do
    not change. -/
def SameShared (s s' : State) : Prop :=
  s'.queue = s.queue ∧ s'.recs = s.recs ∧ s'.sem = s.sem ∧ s'.now = s.now ∧ s'.seq = s.seq ∧
    s'.bad = s.bad

theorem SameShared.trans {a b c : State} (h1 : SameShared a b) (h2 : SameShared b c) :
    SameShared a c := by
  obtain ⟨a1, a2, a3, a4, a5, a6⟩ := h1
  obtain ⟨b1, b2, b3, b4, b5, b6⟩ := h2
  exact ⟨b1.trans a1, b2.trans a2, b3.trans a3, b4.trans a4, b5.trans a5, b6.trans a6⟩

theorem same_of_obs {cfg : Config} {s s' : State} {e : Event} {t : Tid}
    (hs : step cfg s e = .ok s') (ht : e.tid = some t) (hd : inDebug (s.thr t) = true) :
    SameShared s s' := by
  rcases obs_step hs ht hd with ⟨rfl, _⟩ | ⟨x', _, rfl⟩ | ⟨_, _, _, _, _, _, _, _, _, _, _, _, rfl⟩ |
    ⟨_, _, _, _, _, _, _, _, _, _, rfl⟩ <;> exact ⟨rfl, rfl, rfl, rfl, rfl, rfl⟩

theorem same_of_wordLd {cfg : Config} {s s' : State} {t : Tid} {site : WSite} {obs : Nat}
    (hs : step cfg s (.wordLd t site obs) = .ok s') : SameShared s s' := by
  simp only [step, stepWordLd, need_ok] at hs
  obtain ⟨_, hs⟩ := hs
  split at hs
  all_goals (first
    | (cases hs; done)
    | (cases hs; exact ⟨rfl, rfl, rfl, rfl, rfl, rfl⟩)
    | (simp only [need_ok] at hs; obtain ⟨_, hs⟩ := hs; cases hs; exact ⟨rfl, rfl, rfl, rfl, rfl, rfl⟩))

theorem same_of_callDebug {cfg : Config} {s s' : State} {t : Tid} {k : DKind}
    (hs : step cfg s (.callDebug t k) = .ok s') : SameShared s s' := by
  simp only [step] at hs
  obtain ⟨_, rfl⟩ := stepCall_ok hs
  exact ⟨rfl, rfl, rfl, rfl, rfl, rfl⟩

/-- The event is a load of the cv word, a load or a failed CAS of wake_waiters on the mutex word,
    the entry of a debug call, or an event of a thread that is inside a debug call. -/
def harmless (s : State) (e : Event) : Bool :=
  match e with
  | .wordLd .. => true
  | .callDebug .. => true
  | .muLd _ site _ => site != .wMode
  | .muCas _ _ _ _ _ ok => !ok
  | e => match e.tid with
    | some t => inDebug (s.thr t)
    | none => false

theorem same_of_harmless {cfg : Config} {s s' : State} {e : Event}
    (hs : step cfg s e = .ok s') (h : harmless s e = true) : SameShared s s' := by
  unfold harmless at h
  split at h
  · exact same_of_wordLd hs
  · exact same_of_callDebug hs
  · obtain ⟨x', rfl⟩ := step_muLd_local hs (by simpa using h)
    exact ⟨rfl, rfl, rfl, rfl, rfl, rfl⟩
  · rename_i ok
    cases ok
    · obtain ⟨x', rfl⟩ := step_muCas_fail_local hs
      exact ⟨rfl, rfl, rfl, rfl, rfl, rfl⟩
    · cases h
  · split at h
    · rename_i t ht; exact same_of_obs hs ht h
    · cases h

/-- A list of harmless events leaves the shared part alone. -/
theorem same_of_run {cfg : Config} {A B : State} {evs : List Event} (hl : run cfg A evs = .ok B)
    (hh : ∀ i, i < evs.length →
      harmless (stateFrom cfg A (evs.take i)) (evs[i]?.getD .skip) = true) :
    ∀ i, i ≤ evs.length → SameShared A (stateFrom cfg A (evs.take i)) := by
  intro i
  induction i with
  | zero => intro _; simp [stateFrom, run]; exact ⟨rfl, rfl, rfl, rfl, rfl, rfl⟩
  | succ i ih =>
    intro hi
    have hlt : i < evs.length := by omega
    have hst := stateFrom_step hl hlt
    have hhi := hh i hlt
    rw [List.getElem?_eq_getElem hlt] at hhi
    exact (ih (by omega)).trans (same_of_harmless hst hhi)

/-- A list of harmless events that brings the cv word, the holder and the frames of its threads back
    leads back to the state it starts from (`State` has function fields: not decidable). -/
theorem cycle_of_harmless {cfg : Config} {A : State} {loop : List Event}
    (hl : run cfg A loop = .ok (stateFrom cfg A loop))
    (hh : ∀ i, i < loop.length →
      harmless (stateFrom cfg A (loop.take i)) (loop[i]?.getD .skip) = true)
    (hw : (stateFrom cfg A loop).word = A.word) (hho : (stateFrom cfg A loop).holder = A.holder)
    (hthr : ∀ u, (∀ e ∈ loop, e.tid ≠ some u) ∨ (stateFrom cfg A loop).thr u = A.thr u) :
    run cfg A loop = .ok A := by
  have hsame := same_of_run hl hh loop.length (Nat.le_refl _)
  rw [stateFrom_all hl (Nat.le_refl _)] at hsame
  obtain ⟨a1, a2, a3, a4, a5, a6⟩ := hsame
  refine hl.trans (congrArg Except.ok (State.ext' hw hho a1 a2 ?_ a3 a4 a5 a6))
  funext u
  exact (hthr u).elim (fun h => run_untouched loop A _ h hl) id

theorem rel_cycle : run ⟨false⟩ relA relLoop = .ok relA :=
  cycle_of_harmless (run_stateFrom (by decide +kernel)) (by decide +kernel) (by decide +kernel)
    (by decide +kernel) fun u => by
      by_cases hu : u = 1
      · subst hu; exact .inr (by decide +kernel)
      · exact .inl (rel_loop_tid hu)

/-- Thread 1 goes round the release loop for ever. -/
def relExec : Exec ⟨false⟩ relA := loopExec ⟨false⟩ relA relLoop rel_cycle (by decide)

theorem relA_idle {t : Tid} (ht : 2 ≤ t) : (relA.thr t).loc = .idle := by
  rw [run_untouched (cfg := ⟨false⟩) relPre init relA (tidsBelow_ne (n := 2) (by decide) ht) (run_runD (by decide))]
  rfl

/-- `MuRelFair` cannot be dropped: a weakly fair execution from a reachable state, in which nobody
    is in the test-and-set loop, in which the signaller (thread 1) is inside the release loop of the
    mutex's spinlock for ever (every CAS on the — abstract — mutex word fails): its call never
    returns. -/
theorem C04_fair_needs_mu_rel :
    ∃ x : Exec ⟨false⟩ relA, Reachable ⟨false⟩ relA ∧ WeakFair x ∧ SpinFair x ∧ ¬ MuRelFair x ∧
      inWake ((x.ρ 0).thr 1) = true ∧
      ∀ j, x.σ j ≠ some (.retSignal 1) ∧ x.σ j ≠ some (.retBroadcast 1) := by
  obtain ⟨a, b, _⟩ := loop_hyps rel_cycle (by decide) 2 (fun _ => relA_idle) (by decide)
  have htab : ∀ j, ((relExec.ρ j).thr 1).loc.muRel = true ∧
      relExec.σ j ≠ some (.retSignal 1) ∧ relExec.σ j ≠ some (.retBroadcast 1) := fun j =>
    (by decide : ∀ k, k < 2 → ((stateFrom ⟨false⟩ relA (relLoop.take k)).thr 1).loc.muRel = true ∧
      relLoop[k]? ≠ some (.retSignal 1) ∧ relLoop[k]? ≠ some (.retBroadcast 1)) _ (Nat.mod_lt j (by decide))
  -- thread 1 moves, thread 0 sleeps; nobody is in the test-and-set loop
  exact ⟨relExec, rel_reach, a (by decide), b (by decide), fun hm => hm 1 0 (fun j _ => (htab j).1), by decide,
    fun j => (htab j).2⟩

/-! ### `SpinFair` is needed -/

/-- Thread 0 has enqueued itself and sleeps (`exBroadcast`, first 13 events); thread 1 calls
    nsync_cv_signal, sees CV_NON_EMPTY; thread 2 (nsync_cv_debug_state_and_waiters) takes the
    spinlock; thread 1's first load of the test-and-set loop sees it held. -/
def spinPre : List Event := exBroadcast.take 13 ++
  [.callSignal 1, .wordLd 1 .sigLd 2,
   .callDebug 2 .waiters, .wordLd 2 .dbgLd 2, .wordLd 2 .spin0 2, .wordCas 2 2 3 2 true,
   .wordLd 1 .spin0 3]

/-- Thread 2 prints the queue, releases, returns, calls again and re-takes the spinlock; only then
    does thread 1 look at the word again. -/
def spinLoop : List Event :=
  [.recLd 2 .dbgW (.w 0) 1, .recLd 2 .dbgRc (.w 0) 0, .wordSt 2 .dbgRel 2 3, .retDebug 2 .waiters,
   .callDebug 2 .waiters, .wordLd 2 .dbgLd 2, .wordLd 2 .spin0 2, .wordCas 2 2 3 2 true,
   .wordLd 1 .spin2 3]

def spinA : State := runD ⟨false⟩ spinPre

theorem spin_reach : Reachable ⟨false⟩ spinA := reachable_runD (by decide +kernel)

theorem spin_loop_tid {t : Tid} (h1 : t ≠ 1) (h2 : t ≠ 2) : ∀ e ∈ spinLoop, e.tid ≠ some t := by
  intro e he
  simp only [spinLoop, List.mem_cons, List.mem_nil_iff, or_false] at he
  rcases he with rfl | rfl | rfl | rfl | rfl | rfl | rfl | rfl | rfl <;>
    simp only [Event.tid, ne_eq, Option.some.injEq] <;>
    first | exact fun h => h1 h.symm | exact fun h => h2 h.symm

theorem spin_cycle : run ⟨false⟩ spinA spinLoop = .ok spinA :=
  cycle_of_harmless (run_stateFrom (by decide +kernel)) (by decide +kernel) (by decide +kernel)
    (by decide +kernel) fun u => by
      by_cases hu1 : u = 1
      · subst hu1; exact .inr (by decide +kernel)
      · by_cases hu2 : u = 2
        · subst hu2; exact .inr (by decide +kernel)
        · exact .inl (spin_loop_tid hu1 hu2)

/-- Thread 2 takes and releases the spinlock for ever; thread 1 looks at the word only while it is
    held. -/
def spinExec : Exec ⟨false⟩ spinA := loopExec ⟨false⟩ spinA spinLoop spin_cycle (by decide)

theorem spinA_idle {t : Tid} (ht : 3 ≤ t) : (spinA.thr t).loc = .idle := by
  rw [run_untouched (cfg := ⟨false⟩) spinPre init spinA (tidsBelow_ne (n := 3) (by decide) ht)
    (run_runD (by decide +kernel))]
  rfl

/-- `SpinFair` cannot be dropped (weak fairness of the test-and-set is not enough): a weakly fair
    execution from a reachable state in which nobody is in the release loop of wake_waiters, the
    spinlock is free again and again, and yet the signaller (thread 1) stays in
    `nsync_spin_test_and_set_` for ever — every time it looks, the observer (thread 2) holds the
    spinlock: its call never returns, and the sleeping waiter (thread 0) is never woken. -/
theorem C04_fair_needs_spin_fair :
    ∃ x : Exec ⟨false⟩ spinA, Reachable ⟨false⟩ spinA ∧ WeakFair x ∧ MuRelFair x ∧ ¬ SpinFair x ∧
      (∀ j, ∃ j', j ≤ j' ∧ (x.ρ j').holder = none) ∧
      (∀ j, inWake ((x.ρ j).thr 1) = true ∧ ((x.ρ j).thr 1).loc.spinLoop = true) ∧
      (∀ j, ((x.ρ j).thr 0).loc = .wSemRet) := by
  obtain ⟨a, _, c⟩ := loop_hyps spin_cycle (by decide) 3 (fun _ => spinA_idle) (by decide)
  have htab : ∀ j, ((spinExec.ρ j).thr 1).loc = .spLd2 ∧ ((spinExec.ρ j).thr 1).cont = .sig ∧
      ((spinExec.ρ j).thr 0).loc = .wSemRet := fun j =>
    (by decide +kernel : ∀ k, k < 9 → ((stateFrom ⟨false⟩ spinA (spinLoop.take k)).thr 1).loc = .spLd2 ∧
      ((stateFrom ⟨false⟩ spinA (spinLoop.take k)).thr 1).cont = .sig ∧
      ((stateFrom ⟨false⟩ spinA (spinLoop.take k)).thr 0).loc = .wSemRet) _ (Nat.mod_lt j (by decide))
  -- the spinlock is free after the observer's release, at position 3 of the loop
  have hfree : ∀ j, ∃ j', j ≤ j' ∧ (spinExec.ρ j').holder = none :=
    Lasso.mod_again (n := 9) (Q := fun k => (stateFrom ⟨false⟩ spinA (spinLoop.take k)).holder = none) (k := 3)
      (by decide) (by decide +kernel)
  -- threads 1 and 2 move, thread 0 sleeps; nobody is in the release loop of wake_waiters
  exact ⟨spinExec, spin_reach, a (by decide +kernel), c (by decide +kernel),
    fun hsf => hsf 1 0 (fun j _ => by rw [(htab j).1]; rfl) (fun j _ => hfree j), hfree,
    fun j => ⟨by unfold inWake; rw [(htab j).1, (htab j).2.1]; rfl, by rw [(htab j).1]; rfl⟩, fun j => (htab j).2.2⟩

end NsyncVerif.CvFix
