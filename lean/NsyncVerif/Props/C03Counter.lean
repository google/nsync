/-
  Props/C03Counter.lean — property C03, counter edge: "the decrement that zeroes a counter happens
  before its waiters' return", under the DECLARED memory orders only.

  Setting (Proofs/CounterVC.lean): the Counter acceptor runs in lock-step with the generic
  vector-clock machine of Model/VC.lean.  The machine is fed exactly the atomics on `ctr.value`,
  `ctr.waited`, `nw<k>.waiting` of the log, each with the order it declares (the acceptor rejects an
  event whose order is not the one of the ATM_* macro in counter.c / wait.c; a failed CAS is a relaxed
  load, a successful CAS an RMW with its order).  NO edge is credited to counter_mu (its atomics are
  dropped), to the semaphores, or to the interleaving.  `PReachable p`: p is the product state after
  some accepted trace; `p.m = VC.run VC.St.init (trace.filterMap evVC)` (`C03_counter_machine`).
  Ghosts: `adds` = pre-CAS clocks of the adds whose CAS succeeded (oldest first), `zeroClock` = clock
  of the adding thread just before the latest CAS that took the value from non-zero to 0 (everything
  that thread did before the decrement), `zeroIdx` = position of that add in `adds` (+1).

  RESULT.  On EVERY path by which nsync_counter_wait returns 0 the edge is carried by an acquire
  load of `ctr.value` performed by the waiter itself that observed 0 (`C03_counter_carrier`):
  ready_time before the enqueue (counter.c ATM_LOAD_ACQ in counter_ready_time), the load of
  counter_dequeue (which is executed on every path that went through enqueue, also after a
  wake-up by the semaphore: the waiter re-reads `value` in ready_time and again in dequeue), or the
  final load of nsync_counter_wait.  It synchronises with the release sequence on `value`, which is
  never broken because after creation `value` is written only by ATM_CAS_RELACQ.  The semaphore and
  the STORE_REL on `nw->waiting` are not needed for this edge.  Nothing here is `_partial`.
-/
import NsyncVerif.Proofs.CounterVCAll
import NsyncVerif.Props.C10

namespace Counter

open NsyncVerif

/-! ### the product is faithful -/

/-- every accepted trace has a product run, its acceptor component is the acceptor's state, and
    its machine component is `VC.run` over the mapped atomics of the trace -/
theorem C03_counter_machine {s : State} {evs : List Event} (h : run init evs = .ok s) :
    ∃ p, prun pinit evs = .ok p ∧ p.s = s ∧ p.m = VC.run VC.St.init (evs.filterMap evVC) := by
  obtain ⟨p, h1, h2⟩ := prun_total (p := pinit) h
  exact ⟨p, h1, h2, prun_m h1⟩

/-- definition of the ghosts, as a theorem: they change only at the successful CAS of an add
    (`casOf`), which appends the adder's pre-CAS clock to `adds`, and sets `zeroClock` to it iff
    that CAS took the value from non-zero to 0 -/
theorem C03_counter_ghosts {p p' : PState} {e : Event} (h : pstep p e = .ok p') :
    step p.s e = .ok p'.s ∧ p'.m = vstep p.m e
    ∧ (∀ t, casOf p.s e = some t →
          p'.adds = p.adds ++ [p.m.vc t]
          ∧ (p.s.sh.value ≠ 0 ∧ p'.s.sh.value = 0 → p'.zeroClock = p.m.vc t ∧ p'.zeroIdx = p.adds.length + 1)
          ∧ (¬ (p.s.sh.value ≠ 0 ∧ p'.s.sh.value = 0) → p'.zeroClock = p.zeroClock ∧ p'.zeroIdx = p.zeroIdx))
    ∧ (casOf p.s e = none → p'.adds = p.adds ∧ p'.zeroClock = p.zeroClock ∧ p'.zeroIdx = p.zeroIdx) := by
  have hs := pstep_s h
  unfold pstep at h
  split at h
  · cases h
  · cases h
    refine ⟨hs, rfl, ?_, ?_⟩
    · intro t ht
      simp only [ht]
      exact ⟨trivial, fun hc => by simp [hc], fun hc => by simp [hc]⟩
    · intro hn; simp [hn]

/-- `casOf` is exactly "the successful ATM_CAS_RELACQ of an nsync_counter_add": it extends the value
    history by the new value (cf. C10_cas_atomic) -/
theorem C03_counter_casOf {p : PState} {s' : State} {t : Tid} {ev : Ev} (h : PReachable p)
    (hs : step p.s (.thr t ev) = .ok s') :
    (∀ t', casOf p.s (.thr t ev) = some t' → t' = t ∧ ∃ d v x n ob, p.s.pc t = .aCas d v
        ∧ ev = .cas .ar .value x n ob true ∧ x = p.s.sh.value
        ∧ s'.sh.hist = p.s.sh.hist ++ [n] ∧ s'.sh.value = n)
    ∧ (casOf p.s (.thr t ev) = none → s'.sh.hist = p.s.sh.hist ∨ p.s.sh.created = false) := by
  have hi := inv_of_reachable (preachable_s h)
  have hs' : stepThr p.s t ev = .ok s' := hs
  have g := vcfacts_stepThr hi hs'
  have f := facts_stepThr hi hs'
  refine ⟨?_, ?_⟩
  · intro t' ht
    obtain ⟨h1, d, v, x, n, ob, hpc, hev⟩ := casOf_some ht
    obtain ⟨_, h2, h3, h4⟩ := g.cas d v hpc x n ob hev
    exact ⟨h1, d, v, x, n, ob, hpc, hev, h4, h2, h3⟩
  · intro hn
    rcases f.hist with h1 | ⟨d, v, new, h1, h2, _⟩ | ⟨v, _, h1, _⟩
    · exact Or.inl h1.1
    · subst h2; rw [casOf_of h1] at hn; cases hn
    · exact Or.inr h1

/-! ### the release sequence on `value` -/

/-- After creation every write to `value` is an acq_rel RMW by an add; the only plain store is the
    initialising relaxed store of nsync_counter_new, before any add. -/
theorem C03_counter_value_writes {p : PState} {s' : State} {t : Tid} {ev : Ev} (h : PReachable p)
    (hs : step p.s (.thr t ev) = .ok s') :
    (∀ o n ob, ev = .st o .value n ob → p.s.sh.created = false ∧ p.adds = [])
    ∧ (∀ o x n ob, ev = .cas o .value x n ob true → o = .ar ∧ casOf p.s (.thr t ev) = some t) := by
  have hi := inv_of_reachable (preachable_s h)
  have hs' : stepThr p.s t ev = .ok s' := hs
  have g := vcfacts_stepThr hi hs'
  refine ⟨?_, ?_⟩
  · intro o n ob he
    have hc := g.stv o n ob he
    exact ⟨hc, ((vinv_of_preachable h).nil hc).1⟩
  · intro o x n ob he
    obtain ⟨h1, d, v, h2⟩ := g.rmwv o x n ob he
    subst h1 he
    exact ⟨rfl, casOf_of h2⟩

/-- ADDS CHAIN.  The release clock of `value` dominates the pre-CAS clock of every add whose CAS
    has succeeded so far (hence, in particular, `zeroClock`); `adds[i]` is the add that produced
    `hist[i+1]`. -/
theorem C03_counter_adds_chain {p : PState} (h : PReachable p) :
    (∀ c, c ∈ p.adds → VC.Clock.le c (p.m.relc .value))
    ∧ VC.Clock.le p.zeroClock (p.m.relc .value)
    ∧ (p.s.sh.created = true → p.s.sh.hist.length = p.adds.length + 1)
    ∧ ((p.zeroIdx = 0 ∧ p.zeroClock = VC.Clock.bot) ∨ ∃ i, p.zeroIdx = i + 1 ∧ p.adds[i]? = some p.zeroClock) :=
  let hv := vinv_of_preachable h
  ⟨hv.chain, hv.zc, hv.len, hv.zi⟩

/-! ### the edge -/

/-- C03 (counter): whenever `ret nsync_counter_wait 0` by thread t is accepted, everything the
    zeroing thread did before its decrement (`zeroClock`) — and everything every adder up to and
    including it did before its own CAS — happens before t's return. -/
theorem C03_counter {p p' : PState} {t : Tid} (h : PReachable p)
    (hs : pstep p (.thr t (.retWait 0)) = .ok p') :
    VC.Clock.le p'.zeroClock (p'.m.vc t)
    ∧ (∀ (j : Nat) (c : VC.Clock), j < p'.zeroIdx → p'.adds[j]? = some c → VC.Clock.le c (p'.m.vc t))
    ∧ p'.zeroClock = p.zeroClock ∧ p'.m = p.m ∧ p.s.sh.value = 0 := by
  have hv := vinv_of_preachable h
  obtain ⟨hs1, hm, _, hn⟩ := C03_counter_ghosts hs
  obtain ⟨h1, h2, h3⟩ := hn rfl
  have hm' : p'.m = p.m := hm
  obtain ⟨dl, hpc⟩ := retWait_pc (s := p.s) (t := t) hs1
  obtain ⟨g1, g2, _, g4⟩ := hv.seen t (by rw [hpc]; rfl)
  rw [h1, h2, h3, hm']
  exact ⟨g1, g4, rfl, rfl, g2⟩

/-- CARRIER of the edge: a thread gets to a program point from which it returns 0 (`seenZero`:
    `wRet _ 0`, or inside counter_dequeue after its load of `value` gave 0) only by its OWN acquire
    load of `ctr.value` observing 0, and `ret nsync_counter_wait 0` is accepted only there. -/
theorem C03_counter_carrier {p : PState} {s' : State} {t : Tid} {ev : Ev} (h : PReachable p)
    (hs : step p.s (.thr t ev) = .ok s') :
    (seenZero (s'.pc t) = true → seenZero (p.s.pc t) = true ∨ ev = .ld .acq .value 0)
    ∧ (ev = .retWait 0 → seenZero (p.s.pc t) = true) := by
  have hi := inv_of_reachable (preachable_s h)
  have hs' : stepThr p.s t ev = .ok s' := hs
  have g := vcfacts_stepThr hi hs'
  refine ⟨?_, ?_⟩
  · intro hu
    rcases g.seen hu with h1 | ⟨obs, h1, h2, _⟩
    · exact Or.inl h1
    · subst h2; exact Or.inr h1
  · intro he; subst he
    obtain ⟨dl, hpc⟩ := retWait_pc hs'
    rw [hpc]; rfl

/-- semaphore events, lock events and API events are invisible to the machine (no edge) -/
theorem C03_counter_no_other_edges (m : VC.St Loc) (t : Tid) (j : SemId) (d : Deadline) (b : Bool) (k : MuId) :
    vstep m (.thr t (.semV j)) = m ∧ vstep m (.thr t (.pdEnter j d)) = m
    ∧ vstep m (.thr t (.pdRet j b)) = m ∧ vstep m (.thr t (.callLock k)) = m
    ∧ vstep m (.thr t .retLock) = m ∧ vstep m (.thr t (.callUnlock k)) = m
    ∧ vstep m (.thr t .retUnlock) = m ∧ vstep m (.thr t .other) = m :=
  ⟨rfl, rfl, rfl, rfl, rfl, rfl, rfl, rfl⟩

/-! ### values returned by nsync_counter_value / nsync_counter_add -/

/-- `ret nsync_counter_value v` returns the result of an acquire load: v = hist[n] for some n, and
    the pre-CAS clocks of the add that produced it (`adds[n-1]`) and of all earlier adds are ≤ the
    reader's clock. -/
theorem C03_counter_value {p p' : PState} {t : Tid} {v : Nat} (h : PReachable p)
    (hs : pstep p (.thr t (.retValue v)) = .ok p') :
    ∃ n, p.s.sh.hist[n]? = some v ∧ ∀ (j : Nat) (c : VC.Clock), j < n → p.adds[j]? = some c → VC.Clock.le c (p.m.vc t) := by
  have hv := vinv_of_preachable h
  have hpc := retValue_pc (s := p.s) (t := t) (pstep_s hs)
  exact hv.val t v (by rw [hpc]; rfl)

/-- `ret nsync_counter_add r`: r = hist[n]; for delta ≠ 0 it is the value the caller's own
    acq_rel CAS produced, and that CAS imported the clocks of all earlier adds (and the caller's own
    pre-CAS clock); for delta = 0 as for nsync_counter_value. -/
theorem C03_counter_add {p p' : PState} {t : Tid} {r : Nat} (h : PReachable p)
    (hs : pstep p (.thr t (.retAdd r)) = .ok p') :
    ∃ n, p.s.sh.hist[n]? = some r ∧ ∀ (j : Nat) (c : VC.Clock), j < n → p.adds[j]? = some c → VC.Clock.le c (p.m.vc t) := by
  have hv := vinv_of_preachable h
  have hi := inv_of_reachable (preachable_s h)
  rcases retAdd_pc (s := p.s) (t := t) (pstep_s hs) with hpc | ⟨d, idx, hpc⟩
  · exact hv.val t r (by rw [hpc]; rfl)
  · have hp := hi.pcs t
    rw [hpc] at hp
    exact ⟨idx, hp.2.1, hv.idx t idx (by rw [hpc]; rfl)⟩

/-! ### non-vacuity and negative control -/

namespace ExampleVC

open Counter.Example

/-- the trace of Props/C10 (two adders, a waiter that sleeps and is woken at zero) in the product:
    accepted, zeroClock is thread 1's pre-CAS clock (non-trivial: component 1 is ≥ 1) -/
example : (match prun pinit twoAddersAndWaiter with
    | .ok p => decide (p.zeroIdx = 2 ∧ p.adds.length = 2 ∧ 1 ≤ p.zeroClock 1 ∧ p.zeroClock 1 ≤ p.m.vc 2 1
                        ∧ p.zeroClock 0 ≤ p.m.vc 2 0 ∧ 1 ≤ p.zeroClock 0)
    | .error _ => false) = true := by decide

/-- the acceptor insists on the declared orders the proof uses: a log in which ready_time's load of
    `value` is relaxed, or the add's CAS is acquire-only, is rejected -/
example : accepts (new 0 1 ++ [.thr 1 (.callWait none), .thr 1 (.st .rlx .waited 1 0),
    .thr 1 (.ld .rlx .value 1)]) = false := by decide
example : accepts (new 0 1 ++ [.thr 0 (.callAdd (-1))] ++ lock 0
    ++ [.thr 0 (.ld .rlx .value 1), .thr 0 (.cas .acq .value 1 0 1 true)]) = false := by decide

/-- machine-level positive control: T1 `CAS_RELACQ value`, then T2 `LOAD_ACQ value` -/
example : VC.Clock.le ((VC.St.init (Loc := Loc)).vc 1)
    ((VC.run VC.St.init [⟨1, .rmw, .ar, Loc.value⟩, ⟨2, .ld, .acq, Loc.value⟩]).vc 2) := by
  intro i
  by_cases h : i = 1
  · subst h; decide
  · simp [VC.St.init, h]

/-- NEGATIVE CONTROL: with the add's CAS demoted to acquire-only (no release) the chain lemma fails:
    after T1's CAS the release clock of `value` does not dominate T1's pre-CAS clock … -/
example : ¬ VC.Clock.le ((VC.St.init (Loc := Loc)).vc 1)
    ((VC.step VC.St.init ⟨1, .rmw, .acq, Loc.value⟩).relc Loc.value) := by
  intro h; exact absurd (h 1) (by decide)

/-- … and a later acquire load of `value` by T2 does not make T1's decrement happen-before T2. -/
example : ¬ VC.Clock.le ((VC.St.init (Loc := Loc)).vc 1)
    ((VC.run VC.St.init [⟨1, .rmw, .acq, Loc.value⟩, ⟨2, .ld, .acq, Loc.value⟩]).vc 2) := by
  intro h; exact absurd (h 1) (by decide)

/-- likewise if the waiter's load were relaxed -/
example : ¬ VC.Clock.le ((VC.St.init (Loc := Loc)).vc 1)
    ((VC.run VC.St.init [⟨1, .rmw, .ar, Loc.value⟩, ⟨2, .ld, .rlx, Loc.value⟩]).vc 2) := by
  intro h; exact absurd (h 1) (by decide)

end ExampleVC

end Counter
