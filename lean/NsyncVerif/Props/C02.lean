import NsyncVerif.Proofs.MuQStepFacts
/-!
# C02 — a released mutex is always handed on

Model: `NsyncVerif.Model.MuQ` (one `nsync_mu`, the six core entry points plus lock_slow /
unlock_slow / mu_release_spinlock, one step per atomic operation, any number of threads, counting
or binary semaphores `cfg.binary`).  `Reachable cfg s` quantifies over ALL interleavings, programs
and thread counts at once; every theorem below is an inductive invariant (no bound on threads or
steps) and holds for both semaphore flavours.

What is machine-checked here
* `C02_try_wait_free`      try-locks take ≤ 4 steps (3 atomics + return), never sleep, never spin,
                           never touch the queue or a waiter record.
* `C02_inv_spin`, `C02_inv_spin_queue`, `C02_inv_lock`, `C02_inv_queue`, `C02_inv_hint`
                           the invariants (I_spin) (I_lock) (I_queue) (I_hint).
* `C02_responsible`        every queued sleeper has somebody responsible for waking it.
* `C02_woken_not_lost`     a waiter removed from the queue is never left asleep: no lost post,
                           counting and binary flavour.
* `C02_no_stuck_state`     there is no reachable state in which somebody sleeps on the mutex while
                           every other thread is idle holding nothing or asleep as well.

The step from `C02_no_stuck_state` to "every lock call eventually returns if every holder
eventually releases": see `Props/C02Progress.lean`, which proves the statement
`C02_solo_progress_full` below (`theorem C02_solo_progress : C02_solo_progress_full`), its
release-side counterpart, and the leads-to argument in existential-schedule form
(`C02_leads_to_wake`, `C02_can_always_complete`, with an explicit ranking).  Fair termination for
ALL weakly fair schedules (`C02_fair_termination_full` there) is proved in `Props/C02Fair.lean`.
The safety core proved here excludes every state from which no thread can move, and
`C02_responsible` names, in every state with a queued sleeper, a thread that is awake and whose
remaining steps lead to a wake-up (a holder, which releases by hypothesis and then runs
unlock_slow because MU_WAITING is set and MU_DESIG_WAKER is not; or a woken thread in flight,
which either acquires and becomes such a holder, or re-queues behind a holder).
In THIS file `C02_solo_progress` is only proved for try-locks (`C02_solo_progress_partial`).

Findings about the formulation
* "MU_DESIG_WAKER is set and a designated waker is in flight" as a disjunct of
  `C02_responsible` is NOT an invariant: with a reader batch the first woken reader clears
  MU_DESIG_WAKER while the others are still in flight, and with MU_LONG_WAIT set on a then free
  mutex a fresh thread queues itself although the bit is clear.  The responsible party is then a
  woken thread in flight WITHOUT the bit.  The invariant proved is therefore "holder ∨ woken
  thread in flight ∨ unlocker between grab and final CAS"; for the bit itself the legal direction
  is proved: `desig → a woken thread is in flight (or an unlocker is mid-scan)` ("illegal to
  set it when no such waiter exists", common.h:112-114).
* `word.ww → the queue contains a writer` is false as stated (the woken writer is no longer queued
  and MU_WRITER_WAITING stays set until it acquires); the invariant is "some writer is inside
  lock_slow that has queued itself at least once" (it clears the bit when it acquires).
* MU_ALL_FALSE is never set in the word by core operations (`C02_inv_hint`, `af = false`): the
  scan sets it only if it reaches the end of the queue without skipping anybody, i.e. only when
  it has woken everybody, and then the queue is empty and the bit is cleared again.
-/
namespace NsyncVerif.MuQ

/-! ## try-locks never block -/

theorem C02_try_wait_free {cfg : Cfg} {s s' : State} {e : Event} {t : Tid}
    (_hr : Reachable cfg s) (hin : inTry s t) (h : step cfg s e = .ok s') (he : e.tid = some t) :
    e.isSem = false ∧ tryRank (s'.pc t) < tryRank (s.pc t) ∧ tryRank (s.pc t) ≤ 4 ∧
      s'.queue = s.queue ∧ s'.wr = s.wr := by
  obtain ⟨h1, h2, h3, h4⟩ := try_wait_free hin h he
  exact ⟨h1, h2, tryRank_le _, h3, h4⟩

/-! ## the invariants -/

/-- An owner field is set iff somebody satisfies the predicate that characterises its owner. -/
theorem isSome_iff_exists {o : Option Tid} {P : Tid → Prop} (h : ∀ t, o = some t ↔ P t) :
    o.isSome = true ↔ ∃ t, P t := by
  cases o with
  | none => exact ⟨fun h' => (nomatch h'), fun ⟨t, ht⟩ => (nomatch (h t).2 ht)⟩
  | some u => exact ⟨fun _ => ⟨u, (h u).1 rfl⟩, fun _ => rfl⟩

/-- (I_spin) the spinlock bit is set iff exactly one thread is at a spinlock-owning program point. -/
theorem C02_inv_spin {cfg : Cfg} {s : State} (hr : Reachable cfg s) :
    (s.word.spin = true ↔ ∃ t, (role (s.pc t)).spin = true) ∧
    (∀ t u, (role (s.pc t)).spin = true → (role (s.pc u)).spin = true → t = u) ∧
    (∀ t, s.sp = some t ↔ (role (s.pc t)).spin = true) := by
  have inv := (reachable_inv hr).spin
  have hb : s.word.spin = s.sp.isSome := inv.bit
  have hown : ∀ t, s.sp = some t ↔ (role (s.pc t)).spin = true := inv.own
  exact ⟨hb ▸ isSome_iff_exists hown, fun t u ht hu => (inv.unique ht hu).symm, hown⟩

/-- (I_spin) the queue changes only in steps of the thread that owns the spinlock. -/
theorem C02_inv_spin_queue {cfg : Cfg} {s s' : State} {e : Event} (_hr : Reachable cfg s)
    (h : step cfg s e = .ok s') (hq : s'.queue ≠ s.queue) :
    ∃ t, e.tid = some t ∧ ((role (s.pc t)).spin = true ∨ (role (s'.pc t)).spin = true) :=
  queue_changed_by_spin_holder h hq

/-- (I_lock) the writer bit has exactly one owner, the reader count is the number of reader
    shares, never both; MU_CONDITION is never set. -/
theorem C02_inv_lock {cfg : Cfg} {s : State} (hr : Reachable cfg s) :
    (s.word.wlock = true ↔ ∃ t, shareOf s t = some .W) ∧
    (∀ t u, shareOf s t = some .W → shareOf s u = some .W → t = u) ∧
    (∃ rs : List Tid, rs.Nodup ∧ (∀ t, t ∈ rs ↔ shareOf s t = some .R) ∧ s.word.readers = rs.length) ∧
    ¬ (s.word.wlock = true ∧ s.word.readers ≠ 0) ∧ s.word.cond = false := by
  have inv := (reachable_inv hr).lock
  refine ⟨?_, ?_, ⟨s.rOwners, inv.nodup, inv.rown, inv.rd⟩, fun h => h.2 (inv.excl h.1), inv.cond⟩
  · have hwl : s.word.wlock = s.wOwner.isSome := inv.wl
    have hwo : ∀ t, s.wOwner = some t ↔ shareOf s t = some .W := inv.wown
    exact hwl ▸ isSome_iff_exists hwo
  · intro t u ht hu
    have e1 := (inv.wown t).2 ht
    have e2 := (inv.wown u).2 hu
    rw [e1] at e2; exact Option.some.inj e2

/-- (I_queue) -/
theorem C02_inv_queue {cfg : Cfg} {s : State} (hr : Reachable cfg s) :
    s.queue.Nodup ∧
    -- a queued record has `waiting` set and its owner is inside lock_slow, between the enqueue
    -- store and the end of the wait loop
    (∀ k, k ∈ s.queue → (s.wr k).waiting = true ∧
        ∃ t c ph, (s.wr k).owner = some t ∧ role (s.pc t) = .slow c ph ∧ c.w = some k ∧ ph.queued = true) ∧
    -- a record with `waiting` set is queued, or on the private wake list of exactly one unlocker
    (∀ k, (s.wr k).waiting = true → k ∈ s.queue ∨ ∃ u, k ∈ (role (s.pc u)).wake) ∧
    (∀ u u' k, k ∈ (role (s.pc u)).wake → k ∈ (role (s.pc u')).wake → u = u') ∧
    -- a record on a private wake list is not queued, still has `waiting` set, and its owner is in
    -- the wait loop
    (∀ u k, k ∈ (role (s.pc u)).wake → k ∉ s.queue ∧ (s.wr k).waiting = true ∧
        ∃ t c ph, role (s.pc t) = .slow c ph ∧ c.w = some k ∧ ph.inLoop = true) := by
  have inv := (reachable_inv hr).queue
  refine ⟨inv.nodup, ?_, inv.wt, inv.wkUniq, inv.wk⟩
  intro k hk
  obtain ⟨h1, t, c, ph, h2, h3, h4⟩ := inv.inq k hk
  exact ⟨h1, t, c, ph, (inv.own k t).2 ⟨c, ph, h2, h3⟩, h2, h3, h4⟩

/-- (I_hint) what the hint bits mean. -/
theorem C02_inv_hint {cfg : Cfg} {s : State} (hr : Reachable cfg s) :
    -- MU_WAITING: exact when the spinlock is free
    (s.word.spin = false → (s.word.waiting = true ↔ s.queue ≠ [])) ∧
    -- MU_WRITER_WAITING: some writer inside lock_slow has queued itself (it clears the bit when it acquires)
    (s.word.ww = true → ∃ t c ph, role (s.pc t) = .slow c ph ∧ c.l = .W ∧ (ph = .st ∨ c.w.isSome = true)) ∧
    -- MU_LONG_WAIT: some thread inside lock_slow has its `long_wait` local set
    (s.word.lw = true → ∃ t c ph, role (s.pc t) = .slow c ph ∧ c.lwl = true) ∧
    -- MU_DESIG_WAKER: never set without a woken thread in flight (or an unlocker mid-scan, spinlock held)
    (s.word.desig = true → (∃ t, InFlightC s t) ∨ (∃ u, UnlockingC s u)) ∧
    (s.word.desig = true → s.word.spin = false → ∃ t, InFlightC s t) ∧
    -- MU_ALL_FALSE is never set by core operations
    s.word.af = false := by
  have inv := reachable_inv hr
  refine ⟨?_, inv.live.ww, inv.live.lw, inv.live.desig, ?_, inv.hint.af⟩
  · intro hsp
    apply inv.hint.wq
    have hb : s.word.spin = s.sp.isSome := inv.spin.bit
    cases hx : s.sp with
    | none => exact hx
    | some u => rw [hx, hsp] at hb; cases hb
  · intro hd hsp
    rcases inv.live.desig hd with h | ⟨u, hu⟩
    · exact h
    · have := unlocking_holds_spin hr hu
      have hb : s.word.spin = s.sp.isSome := inv.spin.bit
      rw [this, hsp] at hb
      cases hb

/-! ## nobody is left asleep -/

/-- Every queued sleeper has somebody responsible for waking it: a thread owning a share (it will
    release, and its release takes the slow path), a woken thread in flight, or — only while the
    spinlock is held — an unlocker between its grab CAS and its final CAS. -/
theorem C02_responsible {cfg : Cfg} {s : State} {k : Wid} (hr : Reachable cfg s) (hk : k ∈ s.queue) :
    ((∃ t, shareOf s t ≠ none) ∨ (∃ t, InFlightC s t) ∨ (∃ u, UnlockingC s u)) ∧
    (s.word.spin = false → (∃ t, shareOf s t ≠ none) ∨ (∃ t, InFlightC s t)) := by
  refine ⟨responsible hr hk, fun hsp => ?_⟩
  rcases responsible hr hk with h | h | ⟨u, hu⟩
  · exact Or.inl h
  · exact Or.inr h
  · have := unlocking_holds_spin hr hu
    have hb : s.word.spin = s.sp.isSome := (reachable_inv hr).spin.bit
    rw [this, hsp] at hb
    cases hb

/-- No lost wake-up: a thread in the wait loop whose record is NOT queued either has `waiting = 0`
    and will get through (it is about to re-read `waiting`, or its semaphore is posted, or the V
    is pending in an unlocker that has already cleared `waiting`), or `waiting` is still 1 and
    the record sits on the private list of an unlocker that has still to clear it.  Both flavours:
    a collapsed second V is harmless because the count is only needed to be non-zero. -/
theorem C02_woken_not_lost {cfg : Cfg} {s : State} {t : Tid} {c : SL} {ph : Phase} {k : Wid}
    (hr : Reachable cfg s) (hro : role (s.pc t) = .slow c ph) (hph : ph.inLoop = true)
    (hw : c.w = some k) (hk : k ∉ s.queue) :
    ((s.wr k).waiting = false ∧
      (ph = .loopLd ∨ (s.wr k).sem ≠ 0 ∨ ∃ u l r, s.pc u = .usWakeV l k r)) ∨
    ((s.wr k).waiting = true ∧ ∃ u, k ∈ (role (s.pc u)).wake) :=
  woken_not_lost hr hro hph hw hk

/-- The safety core of "every lock call returns if every holder releases": there is no reachable
    state in which some thread sleeps on the mutex while all the others are idle holding nothing
    or asleep too. -/
theorem C02_no_stuck_state {cfg : Cfg} {s : State} (hr : Reachable cfg s)
    (hall : ∀ t, IdleHoldingNothing s t ∨ AsleepOnSem s t) : ∀ t, IdleHoldingNothing s t :=
  no_stuck_state hr hall

/-! ## solo progress -/

/-- Full statement (proved in `Props/C02Progress.lean`: `C02_solo_progress`, and in the sharper form
    `C02_solo_acquire` with the constant 14 + 3·M and the conclusion "has returned"; the release
    side is `C02_solo_release` there), for the ACQUIRING operations: from a reachable state in which the
    spinlock is free or its own, a thread inside lock / rlock / lock_slow that is not asleep, run
    alone, returns or goes to sleep within a bound linear in the stale counts `M` of the semaphores
    (it consumes a stale count with one P per trip round the wait loop).  The hypothesis on the
    spinlock is necessary: a frozen spinlock holder makes every contender spin.  For the RELEASING
    operations the corresponding bound (linear in the queue length) needs an assumption about the
    environment in addition: the retry loop on `remove_count` (mu.c:243-245) is on memory this mutex
    does not own, and the acceptor admits a failed CAS there whenever the log reports one. -/
def C02_solo_progress_full : Prop :=
  ∀ (cfg : Cfg) (s : State) (t : Tid) (M : Nat), Reachable cfg s → (∀ k, (s.wr k).sem ≤ M) →
    (acqMode (s.pc t) ≠ none ∨ ∃ c ph, role (s.pc t) = .slow c ph) → ¬ AsleepOnSem s t →
    (s.sp = none ∨ s.sp = some t) →
    ∀ evs s', (∀ e ∈ evs, e.tid = some t) → run cfg s evs = .ok s' →
      evs.length > 24 + 3 * M → ∃ n, n ≤ evs.length ∧
        ∃ s1, run cfg s (evs.take n) = .ok s1 ∧ (s1.pc t = .idle ∨ AsleepOnSem s1 t)

/-- Proved part: try-locks (at most 4 steps, whatever the other threads do). -/
theorem C02_solo_progress_partial {cfg : Cfg} {s s' : State} {e : Event} {t : Tid}
    (hin : inTry s t) (h : step cfg s e = .ok s') (he : e.tid = some t) :
    tryRank (s'.pc t) < tryRank (s.pc t) ∧ tryRank (s.pc t) ≤ 4 :=
  ⟨(try_wait_free hin h he).2.1, tryRank_le _⟩

/-! ## non-vacuity: accepted executions of the real library (harness logs, replayed by `decide`) -/

def accepts (cfg : Cfg) (evs : List Event) : Bool :=
  match run cfg init evs with
  | .ok _ => true
  | .error _ => false

def queueAfter (cfg : Cfg) (evs : List Event) : Option (List Wid) :=
  match run cfg init evs with
  | .ok s => some s.queue
  | .error _ => none

def wordAfter (cfg : Cfg) (evs : List Event) : Option Nat :=
  match run cfg init evs with
  | .ok s => some (encode s.word)
  | .error _ => none

/-- Three threads, counting semaphores.  Thread 0 holds; writers 1 (record w0) and 2 (record w1)
    queue and sleep; 0 unlocks (wakes w0) and barges in again; 1 wakes, loses the race, RE-QUEUES AT
    THE FRONT and sleeps; 0 unlocks (wakes w0 again); 1 acquires; then 2 is woken and acquires. -/
def traceFront : List Event := [
  .call 0 .lock,
  .cas 0 .acq .word 0 1 0 true,
  .ret 0 .lock none,
  .call 0 .unlock,
  .call 1 .lock,
  .cas 1 .acq .word 0 1 1 false,
  .ld 1 .rlx .word 1,
  .ld 1 .rlx .word 1,
  .cas 1 .acq .word 1 39 1 true,
  .st 1 .rlx (.waiting 0) 1 0,
  .ld 1 .rlx .word 39,
  .cas 1 .rel .word 39 37 39 true,
  .ld 1 .acq (.waiting 0) 1,
  .semPEnter 1 0,
  .call 2 .lock,
  .cas 2 .acq .word 0 1 37 false,
  .ld 2 .rlx .word 37,
  .ld 2 .rlx .word 37,
  .cas 2 .acq .word 37 39 37 true,
  .st 2 .rlx (.waiting 1) 1 0,
  .ld 2 .rlx .word 39,
  .cas 2 .rel .word 39 37 39 true,
  .ld 2 .acq (.waiting 1) 1,
  .semPEnter 2 1,
  .cas 0 .rel .word 1 0 37 false,
  .ld 0 .rlx .word 37,
  .ld 0 .rlx .word 37,
  .cas 0 .ar .word 37 46 37 true,
  .ld 0 .rlx (.rc 0) 0,
  .cas 0 .rlx (.rc 0) 0 1 0 true,
  .ld 0 .rlx .word 46,
  .cas 0 .rel .word 46 44 46 true,
  .st 0 .rel (.waiting 0) 0 1,
  .semV 0 0,
  .ret 0 .unlock none,
  .call 0 .lock,
  .cas 0 .acq .word 0 1 44 false,
  .ld 0 .rlx .word 44,
  .cas 0 .acq .word 44 13 44 true,
  .ret 0 .lock none,
  .call 0 .unlock,
  .semPRet 1 0,
  .ld 1 .acq (.waiting 0) 0,
  .ld 1 .rlx .word 13,
  .cas 1 .acq .word 13 39 13 true,
  .st 1 .rlx (.waiting 0) 1 0,
  .ld 1 .rlx .word 39,
  .cas 1 .rel .word 39 37 39 true,
  .ld 1 .acq (.waiting 0) 1,
  .semPEnter 1 0,
  .cas 0 .rel .word 1 0 37 false,
  .ld 0 .rlx .word 37,
  .ld 0 .rlx .word 37,
  .cas 0 .ar .word 37 46 37 true,
  .ld 0 .rlx (.rc 0) 1,
  .cas 0 .rlx (.rc 0) 1 2 1 true,
  .ld 0 .rlx .word 46,
  .cas 0 .rel .word 46 44 46 true,
  .st 0 .rel (.waiting 0) 0 1,
  .semV 0 0,
  .ret 0 .unlock none,
  .semPRet 1 0,
  .ld 1 .acq (.waiting 0) 0,
  .ld 1 .rlx .word 44,
  .cas 1 .acq .word 44 5 44 true,
  .ret 1 .lock none,
  .call 1 .unlock,
  .cas 1 .rel .word 1 0 5 false,
  .ld 1 .rlx .word 5,
  .ld 1 .rlx .word 5,
  .cas 1 .ar .word 5 14 5 true,
  .ld 1 .rlx (.rc 1) 0,
  .cas 1 .rlx (.rc 1) 0 1 0 true,
  .ld 1 .rlx .word 14,
  .cas 1 .rel .word 14 8 14 true,
  .st 1 .rel (.waiting 1) 0 1,
  .semV 1 1,
  .ret 1 .unlock none,
  .semPRet 2 1,
  .ld 2 .acq (.waiting 1) 0,
  .ld 2 .rlx .word 8,
  .cas 2 .acq .word 8 1 8 true,
  .ret 2 .lock none,
  .call 2 .unlock,
  .cas 2 .rel .word 1 0 1 true,
  .ret 2 .unlock none
]

set_option maxRecDepth 4096 in
example : accepts ⟨false⟩ traceFront = true := by decide +kernel
-- both queued: [w0, w1]
example : queueAfter ⟨false⟩ (traceFront.take 20) = some [0, 1] := by decide +kernel
-- thread 0's unlock_slow has removed w0
example : queueAfter ⟨false⟩ (traceFront.take 34) = some [1] := by decide +kernel
-- thread 1 lost the race and re-queued: w0 is in FRONT of w1 (make_last would give [1, 0])
set_option maxRecDepth 4096 in
example : queueAfter ⟨false⟩ (traceFront.take 46) = some [0, 1] := by decide +kernel
-- thread 1 has acquired: writer bit, MU_WAITING and MU_WRITER_WAITING (w1 is still queued)
set_option maxRecDepth 4096 in
example : wordAfter ⟨false⟩ (traceFront.take 66) = some 5 ∧ queueAfter ⟨false⟩ (traceFront.take 66) = some [1] := by decide +kernel
-- the trace is not accepted under a mutated step: dropping the V of the first wake-up is rejected
set_option maxRecDepth 4096 in
example : accepts ⟨false⟩ (traceFront.take 34 ++ traceFront.drop 35) = false := by decide +kernel

/-- Three threads, BINARY semaphores.  Writer 0 holds; readers 1 and 2 queue; 0's unlock_slow wakes
    BOTH readers in one scan (two remove_count increments, one final CAS, two stores, two Vs). -/
def traceBatch : List Event := [
  .call 0 .lock,
  .cas 0 .acq .word 0 1 0 true,
  .ret 0 .lock none,
  .call 0 .unlock,
  .call 1 .rlock,
  .cas 1 .acq .word 0 256 1 false,
  .ld 1 .rlx .word 1,
  .ld 1 .rlx .word 1,
  .cas 1 .acq .word 1 7 1 true,
  .st 1 .rlx (.waiting 0) 1 0,
  .ld 1 .rlx .word 7,
  .cas 1 .rel .word 7 5 7 true,
  .ld 1 .acq (.waiting 0) 1,
  .semPEnter 1 0,
  .call 2 .rlock,
  .cas 2 .acq .word 0 256 5 false,
  .ld 2 .rlx .word 5,
  .ld 2 .rlx .word 5,
  .cas 2 .acq .word 5 7 5 true,
  .st 2 .rlx (.waiting 1) 1 0,
  .ld 2 .rlx .word 7,
  .cas 2 .rel .word 7 5 7 true,
  .ld 2 .acq (.waiting 1) 1,
  .semPEnter 2 1,
  .cas 0 .rel .word 1 0 5 false,
  .ld 0 .rlx .word 5,
  .ld 0 .rlx .word 5,
  .cas 0 .ar .word 5 14 5 true,
  .ld 0 .rlx (.rc 0) 0,
  .cas 0 .rlx (.rc 0) 0 1 0 true,
  .ld 0 .rlx (.rc 1) 0,
  .cas 0 .rlx (.rc 1) 0 1 0 true,
  .ld 0 .rlx .word 14,
  .cas 0 .rel .word 14 8 14 true,
  .st 0 .rel (.waiting 0) 0 1,
  .semV 0 0,
  .st 0 .rel (.waiting 1) 0 1,
  .semV 0 1,
  .ret 0 .unlock none,
  .semPRet 1 0,
  .ld 1 .acq (.waiting 0) 0,
  .ld 1 .rlx .word 8,
  .cas 1 .acq .word 8 256 8 true,
  .ret 1 .rlock none,
  .call 1 .runlock,
  .semPRet 2 1,
  .ld 2 .acq (.waiting 1) 0,
  .ld 2 .rlx .word 256,
  .cas 2 .acq .word 256 512 256 true,
  .ret 2 .rlock none,
  .call 2 .runlock,
  .cas 1 .rel .word 256 0 512 false,
  .ld 1 .rlx .word 512,
  .cas 1 .rel .word 512 256 512 true,
  .ret 1 .runlock none,
  .cas 2 .rel .word 256 0 256 true,
  .ret 2 .runlock none
]

set_option maxRecDepth 4096 in
example : accepts ⟨true⟩ traceBatch = true := by decide +kernel
example : queueAfter ⟨true⟩ (traceBatch.take 20) = some [0, 1] := by decide +kernel
-- after the final CAS of thread 0: queue empty, word = MU_DESIG_WAKER only
set_option maxRecDepth 4096 in
example : queueAfter ⟨true⟩ (traceBatch.take 34) = some [] ∧ wordAfter ⟨true⟩ (traceBatch.take 34) = some 8 := by decide +kernel
-- both readers hold: reader count 2
set_option maxRecDepth 4096 in
example : wordAfter ⟨true⟩ (traceBatch.take 50) = some 512 := by decide +kernel

def checkAfter (cfg : Cfg) (evs : List Event) (f : State → Bool) : Bool :=
  match run cfg init evs with
  | .ok s => f s
  | .error _ => false

/-- The hypotheses of `C02_no_stuck_state` are satisfiable (initial state), and states with
    sleepers exist: after 24 events of `traceFront` threads 1 and 2 are asleep on semaphores with
    count 0, both records are queued, and the responsible party is thread 0, which owns the writer
    share (it is inside nsync_mu_unlock, before its first CAS). -/
example : ∀ t, IdleHoldingNothing init t := fun _ => ⟨rfl, rfl⟩

set_option maxRecDepth 4096 in
example : checkAfter ⟨false⟩ (traceFront.take 24) (fun s =>
    decide (s.pc 1 = .lsPRet { l := .W, w := some 0, clear := false, ign := false, wc := 0, lwl := false }) &&
    decide (s.pc 2 = .lsPRet { l := .W, w := some 1, clear := false, ign := false, wc := 0, lwl := false }) &&
    (s.wr 0).sem == 0 && (s.wr 1).sem == 0 && decide (s.queue = [0, 1]) &&
    decide (shareOf s 0 = some .W) && decide (s.pc 0 = .ulCas0 .W)) = true := by decide +kernel

end NsyncVerif.MuQ
