/-
  Axiom audit for the liveness half of property C07: the theorems listed below may depend only on
  `propext`, `Classical.choice`, `Quot.sound`.
-/
import NsyncVerif.Props.C07Fair

#print axioms Once.C07_fair_termination
#print axioms Once.C07_fair_exactly_once
#print axioms Once.C07_fair_lock_free_again
#print axioms Once.C07_fair_moves
#print axioms Once.C07_fair_done
#print axioms Once.C07_fair_needs_weak_fair
#print axioms Once.C07_fair_needs_init_returns
#print axioms Once.C07_fair_needs_lock_fair
#print axioms Once.fair_hyps
