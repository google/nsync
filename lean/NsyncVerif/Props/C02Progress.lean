import NsyncVerif.Props.C02
import NsyncVerif.Proofs.MuQSoloAcq
import NsyncVerif.Proofs.MuQSoloRel
import NsyncVerif.Proofs.MuQLeadsDrain
import NsyncVerif.Proofs.MuQLeadsMono
/-!
# C02, progress half — "every nsync_mu_lock and nsync_mu_rlock call eventually returns"

Model: `NsyncVerif.Model.MuQ`, as in `Props/C02.lean`.  Everything below holds for any number of
threads and both semaphore flavours; every statement quantifies over ALL reachable states.

## Machine-checked here

OBSTRUCTION-FREEDOM (every loop a thread can go round without another thread's step is bounded)
* `C02_solo_progress : C02_solo_progress_full`   the statement of `Props/C02.lean`,
  proved AS STATED (constant 24 + 3·M).
* `C02_solo_acquire`   the sharper form: an accepted run of own events of a thread inside
  lock / rlock / trylock / rtrylock / lock_slow, started with the spinlock free or its own, that is
  longer than 14 + 3·M contains the thread's RETURN.  (A run that ends with the thread asleep is
  therefore at most 14 + 3·M long: asleep, no own event is accepted.)
* `C02_solo_release`   the same for unlock / runlock / unlock_slow with the bound
  11 + 4·|queue| + 2·|own wake list| + 2·(failed CASes on `remove_count` in the run).  The last
  term is unavoidable in this model: `remove_count` is memory the mutex does not own and the
  acceptor accepts a failed CAS there whenever the log reports one; a thread that runs alone in the
  real system sees none.
* `C02_thread_enabled`  the acceptor blocks a thread only in P on a semaphore whose count is 0:
  every thread inside a call that is not asleep has an accepted next event.

LEADS-TO (safety ⇒ "eventually returns"), existential-schedule form
* `C02_awake_responsible`  in EVERY reachable state in which somebody is asleep on the mutex there
  is a thread `u` — the responsible party of `C02_responsible`, made concrete — that is awake,
  is not a fresh contender, finds the spinlock free or owns it, and is: a thread that owns a share
  or is past its release point (`HolderLike`), or a woken / enqueueing thread inside lock_slow.
  (Invariant form of "steps of other threads do not destroy responsibility".)
* `C02_leads_to_wake`  from every reachable state in which `t` is asleep there is a finite
  schedule of `QuietStep`s — steps of threads that are neither fresh contenders nor idle holding
  nothing: NO barging, NO new acquisition, no environment post; the only `call`s are the
  unlock / runlock of holders — in which `t` does not move and after which `t`'s semaphore has been
  posted.  Ranking (explicit, `Proofs/MuQLeads.lean`): lexicographic
  ( Σ_t stage t , Σ_t awake3 t , solo rank of the running thread ), `stage` = 3 acquiring /
  2 owns a share / 1 past the release point / 0 idle holding nothing.  Each macro step = "run the
  responsible thread alone to its return or until it sleeps" (`solo_acq_exists`,
  `holder_release_exists`); it decreases the first component (the thread acquired, or released) or
  keeps it and decreases the second (a woken thread lost to a holder, re-queued and sleeps).
  The ONLY place where the argument waits for something it cannot force is the `call` of
  unlock / runlock by a thread that holds the mutex: exactly the hypothesis of C02.
* `C02_can_always_complete`  from every reachable state there is a finite schedule without new
  acquisition calls and without environment events after which EVERY thread is idle holding
  nothing (every pending call has returned, every sleeper was woken, acquired and released): no
  reachable state is doomed.  Strictly stronger than `C02_no_stuck_state`.
* `C02_stage_monotone`  robustness of the first component against ALL interleavings: no accepted
  step of anybody (environment included) increases any thread's stage, except the `call` of an
  acquiring operation.  So Σ stage grows only by new arrivals.

Barging and C14: in the schedules above nobody barges (QuietStep), so C14 is not needed.  C14
(`Props/C14.lean`, MU_LONG_WAIT after 30 failed attempts blocks fresh acquirers) is what bounds the
number of times a woken thread can lose against FRESH arrivals in an arbitrary schedule.

## Fair termination for all schedules: stated here, PROVED in `Props/C02Fair.lean` (`C02_fair_termination`)

`C02_fair_termination_full` (a `def … : Prop`): for every infinite execution (`Exec`) that is
weakly fair to every thread inside a call and not asleep (`WeakFair`), in which every holder
eventually calls unlock / runlock (`HoldersRelease`), only finitely many acquisition calls
arrive (`FiniteArrivals`) and only finitely many CASes on `remove_count` fail (`FiniteRcFails`),
every lock / rlock call returns.  The proof (Props/C02Fair.lean) chains "eventually forever" facts,
each with a local rank; it also shows by explicit fair counter-executions that none of
`HoldersRelease`, `FiniteRcFails`, `FiniteArrivals` can be dropped (for the last one: a thread can be
overtaken for ever between its load and its enqueue CAS by lock/unlock pairs on the fast paths).
-/
namespace NsyncVerif.MuQ

/-! ## obstruction-freedom -/

theorem acqPc_of_acquiring {p : PC} (h : acqMode p ≠ none ∨ ∃ c ph, role p = .slow c ph) : acqPc p = true := by
  rcases h with h | ⟨c, ph, h⟩
  · cases p <;> simp [acqMode] at h <;> rfl
  · cases p <;> simp [role] at h <;> rfl

/-- Sharper form: the run contains the RETURN of the call. -/
theorem C02_solo_acquire {cfg : Cfg} {s : State} {t : Tid} {M : Nat} (hr : Reachable cfg s)
    (hM : ∀ k, (s.wr k).sem ≤ M)
    (hin : acqMode (s.pc t) ≠ none ∨ ∃ c ph, role (s.pc t) = .slow c ph)
    (hsp : s.sp = none ∨ s.sp = some t) :
    ∀ evs s', (∀ e ∈ evs, e.tid = some t) → run cfg s evs = .ok s' → evs.length > 14 + 3 * M →
      ∃ n, n ≤ evs.length ∧ ∃ s1, run cfg s (evs.take n) = .ok s1 ∧ s1.pc t = .idle := by
  intro evs s' hown hrun hlen
  have := acqRank_le hM t
  exact solo_acq_run evs s s' hr hM (acqPc_of_acquiring hin) hsp hown hrun (by omega)

/-- The statement of `Props/C02.lean`, as stated there. -/
theorem C02_solo_progress : C02_solo_progress_full := by
  intro cfg s t M hr hM hin _ hsp evs s' hown hrun hlen
  obtain ⟨n, hn, s1, h1, h2⟩ := C02_solo_acquire hr hM hin hsp evs s' hown hrun (by omega)
  exact ⟨n, hn, s1, h1, Or.inl h2⟩

/-- Release side: a thread inside nsync_mu_unlock / nsync_mu_runlock / unlock_slow running alone,
    with the spinlock free or its own, returns within a bound linear in the queue length. -/
theorem C02_solo_release {cfg : Cfg} {s : State} {t : Tid} (hr : Reachable cfg s)
    (hin : inRelease (s.pc t)) (hsp : s.sp = none ∨ s.sp = some t) :
    ∀ evs s', (∀ e ∈ evs, e.tid = some t) → run cfg s evs = .ok s' →
      evs.length > 11 + 4 * s.queue.length + 2 * (role (s.pc t)).wake.length + 2 * rcFails evs →
      ∃ n, n ≤ evs.length ∧ ∃ s1, run cfg s (evs.take n) = .ok s1 ∧ s1.pc t = .idle := by
  intro evs s' hown hrun hlen
  have := relRank_le hr t
  exact solo_rel_run evs s s' hr (relPc_of_inRelease hin) hsp hown hrun (by omega)

/-- The acceptor never blocks a thread except in P on a semaphore whose count is 0. -/
theorem C02_thread_enabled {cfg : Cfg} {s : State} {t : Tid} (hr : Reachable cfg s)
    (hne : s.pc t ≠ .idle) (hna : ¬ AsleepOnSem s t) :
    ∃ e, e.tid = some t ∧ e.rcFail = false ∧ e.isCall = false ∧ ∃ s', step cfg s e = .ok s' :=
  thread_enabled hr hne hna

/-! ## leads-to -/

/-- While somebody sleeps on the mutex, somebody responsible for the wake-up is awake, is not a
    fresh contender, and can run alone (the spinlock is free or its own). -/
theorem C02_awake_responsible {cfg : Cfg} {s : State} {t : Tid} (hr : Reachable cfg s)
    (ha : AsleepOnSem s t) :
    ∃ u, ¬ AsleepOnSem s u ∧ (s.sp = none ∨ s.sp = some u) ∧ ¬ freshPc (s.pc u) ∧
      ((wokenPc (s.pc u) = true ∧ ∃ c ph, role (s.pc u) = .slow c ph) ∨ HolderLike s u) := by
  obtain ⟨u, h1, h2, h3⟩ := exists_mover hr ha
  refine ⟨u, h1, h2, ?_, h3⟩
  rcases h3 with ⟨hw, _⟩ | hl
  · exact wokenPc_not_fresh hw
  · rcases hl with ⟨hp, _⟩ | hret | hrel
    · rw [hp]; simp [freshPc]
    · cases hp : s.pc u <;> simp [hp, retPc] at hret <;> simp [freshPc]
    · exact relPc_not_fresh hrel

/-- LEADS-TO (existential schedule).  `t` is asleep in P on the semaphore of its waiter record `k`.
    There is a finite schedule of quiet steps (no barging, no new acquisition call, no environment
    event) in which `t` does not move and after which the semaphore has been posted. -/
theorem C02_leads_to_wake {cfg : Cfg} {s : State} {t : Tid} {c : SL} {k : Wid} (hr : Reachable cfg s)
    (hp : s.pc t = .lsPRet c) (hw : c.w = some k) (hs : (s.wr k).sem = 0) :
    ∃ evs s', RunP cfg QuietStep s evs s' ∧ run cfg s evs = .ok s' ∧
      (∀ e ∈ evs, e.isAcqCall = false ∧ e.tid ≠ none) ∧
      s'.pc t = .lsPRet c ∧ (s'.wr k).sem ≠ 0 := by
  obtain ⟨evs, s', hrun, hna, hpc⟩ := leads_to_wake hr ⟨c, k, hp, hw, hs⟩
  refine ⟨evs, s', hrun, hrun.run_eq, ?_, by rw [hpc, hp], fun h0 => hna ⟨c, k, by rw [hpc, hp], hw, h0⟩⟩
  exact hrun.all_step (fun s e s' hq hs => noNewCall_not_acqCall (quiet_noNewCall s e hq) hs)

/-- Every reachable state can be completed: without any new acquisition call and without the
    environment, all pending calls return and all holders release. -/
theorem C02_can_always_complete {cfg : Cfg} {s : State} (hr : Reachable cfg s) :
    ∃ evs s', RunP cfg NoNewCall s evs s' ∧ run cfg s evs = .ok s' ∧
      (∀ e ∈ evs, e.isAcqCall = false ∧ e.tid ≠ none) ∧ ∀ t, IdleHoldingNothing s' t := by
  obtain ⟨evs, s', hrun, hdone⟩ := drain hr
  exact ⟨evs, s', hrun, hrun.run_eq, hrun.all_step (fun s e s' hq hs => noNewCall_not_acqCall hq hs), hdone⟩

/-- No step of anybody increases anybody's stage, except the call of an acquiring operation. -/
theorem C02_stage_monotone {cfg : Cfg} {s s' : State} {evs : List Event} (hr : Reachable cfg s)
    (h : run cfg s evs = .ok s') (hna : ∀ e ∈ evs, e.isAcqCall = false) (t : Tid) :
    stage s' t ≤ stage s t :=
  stage_run_le evs s s' hr h hna t

/-! ## fair termination (statement only) -/

/-- An infinite execution from `s0`; `σ i = none` means that nobody moves at time `i`. -/
structure Exec (cfg : Cfg) (s0 : State) where
  ρ : Nat → State
  σ : Nat → Option Event
  start : ρ 0 = s0
  next : ∀ i, match σ i with
    | none => ρ (i + 1) = ρ i
    | some e => step cfg (ρ i) e = .ok (ρ (i + 1))

/-- Weak fairness on each thread's next step: a thread that from time `i` on is inside a call and
    not asleep (by `C02_thread_enabled`: continuously enabled) moves at some time `j ≥ i`. -/
def WeakFair {cfg : Cfg} {s0 : State} (x : Exec cfg s0) : Prop :=
  ∀ t i, (∀ j, i ≤ j → (x.ρ j).pc t ≠ .idle ∧ ¬ AsleepOnSem (x.ρ j) t) →
    ∃ j e, i ≤ j ∧ x.σ j = some e ∧ e.tid = some t

/-- Every thread that holds the mutex eventually calls unlock / runlock. -/
def HoldersRelease {cfg : Cfg} {s0 : State} (x : Exec cfg s0) : Prop :=
  ∀ t i, (x.ρ i).held t ≠ none → ∃ j a, i ≤ j ∧ x.σ j = some (.call t a)

/-- Only finitely many acquisition calls arrive. -/
def FiniteArrivals {cfg : Cfg} {s0 : State} (x : Exec cfg s0) : Prop :=
  ∃ n, ∀ j e, n ≤ j → x.σ j = some e → e.isAcqCall = false

/-- Only finitely many CASes on `remove_count` fail.  (The location is not owned by the mutex and
    the acceptor accepts a failure whenever the log reports one; without this hypothesis the
    execution in which an unlocker's CAS fails for ever — spinlock held — is accepted and fair.  In
    the library `remove_count` of a waiter queued on a mutex is only written under that mutex's
    spinlock, so the CAS of mu.c:243-245 is in fact uncontended.) -/
def FiniteRcFails {cfg : Cfg} {s0 : State} (x : Exec cfg s0) : Prop :=
  ∃ n, ∀ j e, n ≤ j → x.σ j = some e → e.rcFail = false

/-- Proved in `Props/C02Fair.lean`: `theorem C02_fair_termination : C02_fair_termination_full`. -/
def C02_fair_termination_full : Prop :=
  ∀ (cfg : Cfg) (s0 : State) (x : Exec cfg s0), Reachable cfg s0 →
    WeakFair x → HoldersRelease x → FiniteArrivals x → FiniteRcFails x →
    ∀ t i, acqPc ((x.ρ i).pc t) = true → ∃ j, i ≤ j ∧ (x.ρ j).pc t = .idle

/-! ## non-vacuity -/

def freshB : PC → Bool
  | .lkCas0 _ | .lkLd _ | .lkCas1 _ _ | .tryCas0 _ | .tryLd _ | .tryCas1 _ _ => true
  | .lsLd c | .lsCasAcq c _ | .lsCasEnq c _ => !c.clear
  | _ => false

theorem freshB_iff (p : PC) : freshB p = true ↔ freshPc p := by
  cases p <;> simp [freshB, freshPc]

def quietB (s : State) (e : Event) : Bool :=
  match e.tid with
  | some u => !freshB (s.pc u) && !(decide (s.pc u = .idle) && (s.held u).isNone)
  | none => false

theorem quietB_sound {s : State} {e : Event} (h : quietB s e = true) : QuietStep s e := by
  unfold quietB at h
  split at h
  · rename_i u hu
    simp only [Bool.and_eq_true, Bool.not_eq_true', Bool.and_eq_false_iff, decide_eq_false_iff_not] at h
    refine ⟨u, hu, fun hf => ?_, fun hi => ?_⟩
    · have := (freshB_iff _).2 hf; rw [h.1] at this; cases this
    · rcases h.2 with h2 | h2
      · exact h2 hi.1
      · rw [hi.2] at h2; cases h2
  · cases h

/-- Executable check of `RunP cfg QuietStep`. -/
def runQuietB (cfg : Cfg) : State → List Event → Option State
  | s, [] => some s
  | s, e :: es =>
    if quietB s e then
      match step cfg s e with
      | .ok s1 => runQuietB cfg s1 es
      | .error _ => none
    else none

theorem runQuietB_sound {cfg : Cfg} : ∀ (evs : List Event) (s s' : State),
    runQuietB cfg s evs = some s' → RunP cfg QuietStep s evs s' := by
  intro evs
  induction evs with
  | nil => intro s s' h; simp [runQuietB] at h; subst h; exact .nil s
  | cons e es ih =>
    intro s s' h
    simp only [runQuietB] at h
    split at h <;> try (cases h; done)
    rename_i hq
    split at h <;> try (cases h; done)
    rename_i s1 hs1
    exact .cons (quietB_sound hq) hs1 (ih s1 s' h)

def afterB (cfg : Cfg) (evs rest : List Event) (f : State → State → Bool) : Bool :=
  match run cfg init evs with
  | .ok s =>
    match runQuietB cfg s rest with
    | some s' => f s s'
    | none => false
  | .error _ => false

/-- `C02_leads_to_wake`, a concrete instance (harness log `traceFront` of `Props/C02.lean`).  After 24
    events threads 1 and 2 are asleep on w0 and w1 (counts 0), both queued; thread 0 owns the writer
    share and is inside nsync_mu_unlock.  The next 10 events of the log — thread 0's unlock_slow:
    failed fast CAS, two loads, grab CAS, remove_count load + CAS, final load + CAS, `waiting := 0`,
    V — form a schedule of quiet steps in which thread 1 does not move and after which its
    semaphore w0 has count 1. -/
example : afterB ⟨false⟩ (traceFront.take 24) ((traceFront.drop 24).take 10) (fun s s' =>
    decide (s.pc 1 = .lsPRet { l := .W, w := some 0, clear := false, ign := false, wc := 0, lwl := false }) &&
    (s.wr 0).sem == 0 && decide (0 ∈ s.queue) &&
    decide (s'.pc 1 = .lsPRet { l := .W, w := some 0, clear := false, ign := false, wc := 0, lwl := false }) &&
    (s'.wr 0).sem == 1 && decide (s'.pc 0 = .ulRet .W)) = true := by decide +kernel

/-- … while a schedule in which thread 0 barges in again (the `call 0 lock` that follows in the log)
    is not quiet. -/
example : afterB ⟨false⟩ (traceFront.take 24) ((traceFront.drop 24).take 12) (fun _ _ => true) = false := by
  decide

/-- `C02_solo_acquire` / `C02_solo_progress`: the hypotheses are satisfiable by a state in which the
    thread owns the spinlock.  After 9 events of `traceFront` thread 1 has just taken the spinlock
    with its enqueue CAS (`lsSt`); running alone it stores `waiting := 1`, releases the spinlock
    (load + CAS), reads `waiting`, enters P: 5 own events, then it is asleep and no further own
    event is accepted (14 + 3·0 = 14 ≥ 5). -/
example : checkAfter ⟨false⟩ (traceFront.take 9) (fun s =>
    acqPc (s.pc 1) && decide (s.sp = some 1) && decide (s.pc 1 = .lsSt { l := .W, w := none, clear := false, ign := false, wc := 0, lwl := false }) &&
    (match run ⟨false⟩ s ((traceFront.drop 9).take 5) with
     | .ok s' => decide (s'.pc 1 = .lsPRet { l := .W, w := some 0, clear := false, ign := false, wc := 0, lwl := false }) &&
                 (s'.wr 0).sem == 0 &&
                 (match step ⟨false⟩ s' (.semPRet 1 0) with | .ok _ => false | .error _ => true)
     | .error _ => false)) = true := by decide +kernel

/-- `C02_solo_release`: after 24 events thread 0 is inside nsync_mu_unlock (`ulCas0`), the spinlock is
    free, the queue has length 2; its next 11 events (all its own, no failed `remove_count` CAS) take
    it to its return: 11 ≤ 11 + 4·2. -/
example : checkAfter ⟨false⟩ (traceFront.take 24) (fun s =>
    relPc (s.pc 0) && decide (s.sp = none) && decide (s.queue.length = 2) &&
    ((traceFront.drop 24).take 11).all (fun e => decide (e.tid = some 0) && !e.rcFail) &&
    (match run ⟨false⟩ s ((traceFront.drop 24).take 11) with
     | .ok s' => decide (s'.pc 0 = .idle)
     | .error _ => false)) = true := by decide +kernel

/-- `C02_fair_termination_full`'s hypotheses are satisfiable: the execution in which nothing ever
    happens, from the initial state. -/
def idleExec (cfg : Cfg) : Exec cfg init :=
  { ρ := fun _ => init, σ := fun _ => none, start := rfl, next := fun _ => rfl }

example (cfg : Cfg) : WeakFair (idleExec cfg) ∧ HoldersRelease (idleExec cfg) ∧ FiniteArrivals (idleExec cfg) ∧
    FiniteRcFails (idleExec cfg) := by
  refine ⟨fun t i h => absurd rfl (h i (Nat.le_refl _)).1, fun t i h => absurd rfl h,
    ⟨0, fun j e _ h => by cases h⟩, ⟨0, fun j e _ h => by cases h⟩⟩

end NsyncVerif.MuQ
