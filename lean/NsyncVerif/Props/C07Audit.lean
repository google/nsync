/-
  Axiom audit for property C07: the `C07_*` theorems and the lemmas they rest on, listed below,
  may depend only on
  `propext`, `Classical.choice`, `Quot.sound`.
-/
import NsyncVerif.Props.C07

#print axioms Once.inv_reachable
#print axioms Once.C07_at_most_once
#print axioms Once.C07_runner_is_caller
#print axioms Once.C07_winner_only_by_cas
#print axioms Once.C07_entered_only_by_winner
#print axioms Once.C07_no_early_return
#print axioms Once.C07_exactly_once
#print axioms Once.C07_return_only_when_done
#print axioms Once.C07_word_meaning
#print axioms Once.C07_winner_unique
#print axioms Once.C07_word_step
#print axioms Once.C07_word_monotone
#print axioms Once.C07_done_is_wait_free
#print axioms Once.C07_done_only_path
#print axioms Once.C07_ready_only_ret
#print axioms Once.C07_done_stable
#print axioms Once.C07_no_stuck_state
#print axioms Once.C07_no_stuck_state'
#print axioms Once.C07_wait_exits_when_done
#print axioms Once.C07_progress
#print axioms Once.C07_shared_slot_independent
#print axioms Once.C07_all_hashings
#print axioms Once.C07_lock_discipline
#print axioms Once.C07_spin_never_locks
