/-
Property C17 — "The waiter-queue list operations implement a sequence."

Model: `NsyncVerif/Model/Dll.lean` (statement-by-statement model of `/repo/internal/dll.c`).
Everything below is proved in full (there is no `_partial` theorem); all theorems are for lists and
operation sequences of arbitrary length (induction, not enumeration), arbitrarily many lists
(`LId = Nat`) and arbitrary addresses.

Vocabulary (`Proofs/DllRing.lean`):
  `Ring H xs`   : `xs` non-empty, duplicate-free, `0 ∉ xs`, and `next`/`prev` of heap `H` are the cyclic
                  successor/predecessor along `xs`.
  `Repr H l xs` : handle `l` represents sequence `xs` : `xs = [] ∧ l = 0`, or `Ring H xs ∧ l = last xs`.
Contract (explicit hypotheses): the inserted element lies in a ring disjoint from the list; the
removed element is in the list.  `Ring H [e]` is exactly "`e ≠ NULL` is self-linked", the state
`nsync_dll_init_` and `nsync_dll_remove_` leave an element in.
-/
import NsyncVerif.Proofs.DllSeq
import NsyncVerif.Proofs.DllDeref

namespace Dll

/-! ## remove -/

/-- `nsync_dll_remove_`: the list loses exactly `e` (order of the others unchanged); `e` becomes a
self-linked singleton ring, in no list, that can be inserted again; every cell outside the list
is untouched, hence every disjoint list and ring is preserved. -/
theorem C17_remove {H : Heap} {l e : Addr} {xs : List Addr}
    (hr : Repr H l xs) (he : e ∈ xs) :
    Repr (remove H l e).1 (remove H l e).2 (xs.erase e) ∧
    ((remove H l e).1.next e = e ∧ (remove H l e).1.prev e = e) ∧
    Ring (remove H l e).1 [e] ∧ e ∉ xs.erase e ∧
    (∀ x, x ∉ xs → (remove H l e).1.next x = H.next x ∧ (remove H l e).1.prev x = H.prev x) ∧
    (∀ l2 ys, (∀ y ∈ ys, y ∉ xs) → Repr H l2 ys → Repr (remove H l e).1 l2 ys) ∧
    (∀ ys, (∀ y ∈ ys, y ∉ xs) → Ring H ys → Ring (remove H l e).1 ys) ∧
    (remove H l e).1.container = H.container :=
  have heff := remove_eff (l := l) (hr.ring_of_mem he) he
  ⟨remove_spec hr he, remove_self H l e, ring_remove_self l (hr.ne_zero he), hr.nodup.not_mem_erase,
   heff.link, fun _ _ hd h => h.eff heff hd, fun _ hd h => h.eff heff hd, heff.container⟩

/-- The same heap effect on a bare ring (no handle), as `mu.c` inlines it for the
`same_condition` rings: removing `e` from the ring `e :: t` leaves the ring `t` and the
singleton `[e]`. -/
theorem C17_remove_ring {H : Heap} {l e : Addr} {t : List Addr}
    (h : Ring H (e :: t)) (ht : t ≠ []) :
    Ring (remove H l e).1 t ∧ Ring (remove H l e).1 [e] ∧
    (∀ x, x ∉ e :: t → (remove H l e).1.next x = H.next x ∧ (remove H l e).1.prev x = H.prev x) :=
  ⟨ring_remove_head h ht,
   ring_remove_self l (h.ne_zero List.mem_cons_self),
   (remove_eff h List.mem_cons_self).link⟩

/-! ## splice -/

/-- `nsync_dll_splice_after_ (p, n)` on two disjoint rings `p :: ps` and `n :: ns`: afterwards the
ring of `p` is `p :: n :: ns ++ ps` (the comment in dll.c: `p->n->n_2nd…n_last->p_2nd…p_last->p`);
nothing outside the two rings is written. -/
theorem C17_splice {H : Heap} {p n : Addr} {ps ns : List Addr}
    (hp : Ring H (p :: ps)) (hn : Ring H (n :: ns)) (hd : ∀ x ∈ p :: ps, x ∉ n :: ns) :
    Ring (spliceAfter H p n) (p :: ((n :: ns) ++ ps)) ∧
    (∀ x, x ∉ p :: ps → x ∉ n :: ns →
      (spliceAfter H p n).next x = H.next x ∧ (spliceAfter H p n).prev x = H.prev x) ∧
    (spliceAfter H p n).container = H.container :=
  have heff := splice_eff hp hn List.mem_cons_self List.mem_cons_self
  ⟨ring_splice hp hn hd, fun _ => heff.link_append, heff.container⟩

/-- `splice_after` with `p` and `n` anywhere in their rings (rings are rotation invariant). -/
theorem C17_splice_rot {H : Heap} {p n : Addr} {ps ns : List Addr}
    (hp : Ring H ps) (hn : Ring H ns) (hpm : p ∈ ps) (hnm : n ∈ ns) (hd : ∀ x ∈ ps, x ∉ ns) :
    Ring (spliceAfter H p n) (p :: (rotateTo n ns ++ (rotateTo p ps).tail)) :=
  ring_splice_rot hp hn hpm hnm hd

/-- `splice_after (p, n)` where `p` is an element of a list with a handle: the ring of `n`,
starting at `n`, is inserted right after `p`; "after the last element" is the front of the list.
The handle stays valid. -/
theorem C17_splice_list {H : Heap} {l p n : Addr} {xs ys : List Addr}
    (hr : Repr H l xs) (hr2 : Ring H ys) (hp : p ∈ xs) (hn : n ∈ ys) (hd : ∀ x ∈ ys, x ∉ xs) :
    Repr (spliceAfter H p n) l
      (if xs.getLast? = some p then rotateTo n ys ++ xs else insertAfter p (rotateTo n ys) xs) :=
  splice_list hr hr2 hp hn hd

/-! ## make_first / make_last -/

/-- `nsync_dll_make_first_in_list_ (list, e)`, `e` an element of a ring `es` disjoint from the list:
the result represents `es` rotated to start at `e`, followed by the old list. -/
theorem C17_make_first {H : Heap} {l e : Addr} {xs es : List Addr}
    (hr : Repr H l xs) (hes : Ring H es) (hem : e ∈ es) (hd : ∀ x ∈ es, x ∉ xs) :
    Repr (makeFirst H l e).1 (makeFirst H l e).2 (rotateTo e es ++ xs) ∧
    (∀ x, x ∉ xs → x ∉ es →
      (makeFirst H l e).1.next x = H.next x ∧ (makeFirst H l e).1.prev x = H.prev x) ∧
    (makeFirst H l e).1.container = H.container :=
  have heff := makeFirst_eff hr hes hem
  ⟨makeFirst_spec_rot hr hes hem hd, fun _ => heff.link_append, heff.container⟩

/-- Special case used by every nsync queue: a self-linked singleton goes to the front. -/
theorem C17_make_first_singleton {H : Heap} {l e : Addr} {xs : List Addr}
    (hr : Repr H l xs) (hes : Ring H [e]) (hd : e ∉ xs) :
    Repr (makeFirst H l e).1 (makeFirst H l e).2 (e :: xs) :=
  makeFirst_spec hr hes (by simpa using hd)

/-- `e == NULL`: nothing happens. -/
theorem C17_make_first_null (H : Heap) (l : Addr) : makeFirst H l 0 = (H, l) :=
  makeFirst_null H l

/-- `nsync_dll_make_last_in_list_ (list, e)`: the result represents the old list followed by `es`
rotated so that it ENDS with `e`; the returned handle is `e`. -/
theorem C17_make_last {H : Heap} {l e : Addr} {xs es : List Addr}
    (hr : Repr H l xs) (hes : Ring H es) (hem : e ∈ es) (hd : ∀ x ∈ es, x ∉ xs) :
    Repr (makeLast H l e).1 (makeLast H l e).2 (xs ++ rotateEnd e es) ∧
    (makeLast H l e).2 = e ∧
    (∀ x, x ∉ xs → x ∉ es →
      (makeLast H l e).1.next x = H.next x ∧ (makeLast H l e).1.prev x = H.prev x) ∧
    (makeLast H l e).1.container = H.container :=
  have heff := makeLast_eff hr hes hem
  ⟨makeLast_spec_rot hr hes hem hd, by rw [makeLast_eq l (hes.ne_zero hem)],
   fun _ => heff.link_append, heff.container⟩

/-- Special case: a self-linked singleton goes to the back. -/
theorem C17_make_last_singleton {H : Heap} {l e : Addr} {xs : List Addr}
    (hr : Repr H l xs) (hes : Ring H [e]) (hd : e ∉ xs) :
    Repr (makeLast H l e).1 (makeLast H l e).2 (xs ++ [e]) :=
  makeLast_spec (t := []) hr hes (by simpa using hd)

/-- `e == NULL`: nothing happens. -/
theorem C17_make_last_null (H : Heap) (l : Addr) : makeLast H l 0 = (H, l) :=
  makeLast_null H l

/-! ## traversals -/

/-- `is_empty/first/last/next/prev` enumerate exactly the represented sequence, forwards and
backwards, and report emptiness exactly for `[]`.  The last clause is the client loop
`for (p = first (l); p != NULL; p = next (l, p))` (and its backward dual) with any sufficient fuel. -/
theorem C17_traversals {H : Heap} {l : Addr} {xs : List Addr} (hr : Repr H l xs) :
    (isEmpty l = true ↔ xs = []) ∧
    (first H l = 0 ↔ xs = []) ∧
    (∀ a t, xs = a :: t → first H l = a) ∧
    (last H l = 0 ↔ xs = []) ∧
    (∀ t z, xs = t ++ [z] → last H l = z) ∧
    (∀ as a b bs, xs = as ++ a :: b :: bs → next H l a = b ∧ prev H l b = a) ∧
    (∀ as z, xs = as ++ [z] → next H l z = 0) ∧
    (∀ a bs, xs = a :: bs → prev H l a = 0) ∧
    (∀ fuel, xs.length ≤ fuel →
      toListFwd H l fuel = xs ∧ toListBwd H l fuel = xs.reverse) := by
  refine ⟨isEmpty_spec hr, first_eq_zero_iff hr, ?_, hr.handle_eq_zero_iff,
    fun _ _ => hr.handle_eq_last, ?_, ?_, ?_, ?_⟩
  · rintro a t rfl; exact first_cons hr
  · rintro as a b bs rfl; exact ⟨next_mid hr, prev_mid hr⟩
  · rintro as z rfl; exact next_last hr
  · rintro a bs rfl; exact prev_first hr
  · intro fuel hf; exact ⟨toListFwd_spec hr hf, toListBwd_spec hr hf⟩

/-! ## arbitrary operation sequences on arbitrarily many disjoint lists -/

/-- One contract-abiding operation preserves the simultaneous representation of all lists. -/
theorem C17_step {C : Conc} {A : Spec} (hinv : Inv C A) (op : Op) (hok : op.Ok A) :
    Inv (C.apply op) (A.apply op) :=
  hinv.step op hok

/-- For EVERY finite sequence `ops` of `init / makeFirst / makeLast / remove / makeFirstAll /
makeLastAll / splice` operations (no length bound) each of which respects its contract in the
abstract state it is applied to, starting from any related pair of states, the concrete heap and
handles represent the abstract sequences after every prefix of `ops`. -/
theorem C17_sequences {C : Conc} {A : Spec} (hinv : Inv C A) (ops : List Op) (hok : OkSeq A ops) :
    ∀ k, Inv (C.run (ops.take k)) (A.run (ops.take k)) :=
  fun k => hinv.run (ops.take k) (hok.take k)

/-- … in particular starting from arbitrary uninitialised memory `H0` with all lists empty. -/
theorem C17_sequences_from_empty (H0 : Heap) (ops : List Op) (hok : OkSeq Spec.empty ops) :
    ∀ k, Inv ((Conc.empty H0).run (ops.take k)) (Spec.empty.run (ops.take k)) :=
  C17_sequences (Inv.empty H0) ops hok

/-- … and what a client observes then: walking any list with `first/next` (resp. `last/prev`)
yields exactly the abstract sequence (resp. its reverse), `is_empty` is exact, and the free
elements are self-linked. -/
theorem C17_sequences_observe (H0 : Heap) (ops : List Op) (hok : OkSeq Spec.empty ops) (lid : LId) :
    let C := (Conc.empty H0).run ops
    let A := Spec.empty.run ops
    (∀ fuel, (A.lists lid).length ≤ fuel →
      toListFwd C.heap (C.handle lid) fuel = A.lists lid ∧
      toListBwd C.heap (C.handle lid) fuel = (A.lists lid).reverse) ∧
    (isEmpty (C.handle lid) = true ↔ A.lists lid = []) ∧
    (∀ a, A.free a → C.heap.next a = a ∧ C.heap.prev a = a) := by
  intro C A
  have hinv : Inv C A := (Inv.empty H0).run ops hok
  refine ⟨fun fuel hf => ⟨toListFwd_spec (hinv.repr lid) hf, toListBwd_spec (hinv.repr lid) hf⟩,
    isEmpty_spec (hinv.repr lid), fun a ha => ?_⟩
  exact ((ring_singleton _ a).mp (hinv.free a ha).1).2

/-! ## no NULL dereference under the contract -/

/-- Every pointer the C code dereferences (listed per function in `Model/Dll.lean`) is an element
of one of the rings involved, hence non-null. -/
theorem C17_no_null_deref {H : Heap} {l : Addr} {xs : List Addr} (hr : Repr H l xs) :
    (∀ e ∈ xs, ∀ a ∈ removeDerefs H l e, a ≠ 0) ∧
    (∀ e es, Ring H es → e ∈ es → ∀ a ∈ makeFirstDerefs H l e, a ≠ 0) ∧
    (∀ e es, Ring H es → e ∈ es → ∀ a ∈ makeLastDerefs H l e, a ≠ 0) ∧
    (∀ p ∈ xs, ∀ n es, Ring H es → n ∈ es → ∀ a ∈ spliceAfterDerefs H p n, a ≠ 0) ∧
    (∀ a ∈ firstDerefs l, a ≠ 0) ∧
    (∀ e ∈ xs, ∀ a ∈ nextDerefs l e, a ≠ 0) ∧
    (∀ e ∈ xs, ∀ a ∈ prevDerefs H l e, a ≠ 0) :=
  have nz {es a} (hes : Ring H es) (h : a ∈ xs ++ es) : a ≠ 0 :=
    (List.mem_append.mp h).elim hr.ne_zero hes.ne_zero
  ⟨fun _ he a ha => hr.ne_zero (remove_derefs_mem hr he a ha),
   fun _ _ hes hem a ha => nz hes (makeFirst_derefs_mem hr hes hem a ha),
   fun _ _ hes hem a ha => nz hes (makeLast_derefs_mem hr hes hem a ha),
   fun _ hp _ _ hes hn a ha => nz hes (splice_derefs_mem (hr.ring_of_mem hp) hes hp hn a ha),
   (traversal_no_null hr).1, (traversal_no_null hr).2.1, (traversal_no_null hr).2.2⟩

/-! ## non-vacuity: concrete states satisfying the hypotheses -/

/-- Two lists `L0 = [1,2,3]` (handle 3), `L1 = [4,5]` (handle 5) and a free element 6. -/
def exHeap : Heap where
  next := fun a => match a with
    | 1 => 2 | 2 => 3 | 3 => 1 | 4 => 5 | 5 => 4 | 6 => 6 | _ => 0
  prev := fun a => match a with
    | 1 => 3 | 2 => 1 | 3 => 2 | 4 => 5 | 5 => 4 | 6 => 6 | _ => 0
  container := fun _ => 0

theorem exHeap_ring0 : Ring exHeap [1, 2, 3] := by simp [ring_cons, exHeap]

theorem exHeap_ring1 : Ring exHeap [4, 5] := by simp [ring_cons, exHeap]

example : Repr exHeap 3 [1, 2, 3] := Repr.of_ring exHeap_ring0 rfl

example : Repr exHeap 5 [4, 5] := Repr.of_ring exHeap_ring1 rfl

example : Ring exHeap [6] := by simp [ring_singleton, exHeap]

/-- The hypotheses of `C17_make_first` (multi-element ring, `e` in the middle of it) hold … -/
example : Repr (makeFirst exHeap 3 5).1 (makeFirst exHeap 3 5).2 ([5, 4] ++ [1, 2, 3]) := by
  have := (C17_make_first (e := 5) (Repr.of_ring exHeap_ring0 rfl) exHeap_ring1 (by simp)
    (by simp)).1
  simpa [rotateTo] using this

/-- … and the model computes the same thing. -/
example : toListFwd (makeFirst exHeap 3 5).1 (makeFirst exHeap 3 5).2 10 = [5, 4, 1, 2, 3] ∧
    toListBwd (makeFirst exHeap 3 5).1 (makeFirst exHeap 3 5).2 10 = [3, 2, 1, 4, 5] := by
  decide +kernel

/-- The hypotheses of `C17_remove` hold (middle element of `L0`), and the model agrees. -/
example : toListFwd (remove exHeap 3 2).1 (remove exHeap 3 2).2 10 = [1, 2, 3].erase 2 := by
  decide +kernel

/-- A contract-abiding operation sequence from uninitialised memory, exercising every
operation, two lists and a multi-element splice. -/
def exOps : List Op :=
  [.init 1 0, .init 2 0, .init 3 0, .init 4 0, .init 5 0,
   .makeLast 0 1, .makeLast 0 2, .makeFirst 1 3, .makeLast 1 4, .makeFirst 0 5,
   .remove 0 1, .makeFirstAll 0 1, .makeLast 1 1, .makeLastAll 1 0, .remove 1 4,
   .makeFirst 0 4, .splice 1 5 0 4]

example : OkSeq Spec.empty exOps := by
  simp [exOps, OkSeq, Op.Ok, Spec.apply, Spec.empty, upd]

example :
    toListFwd ((Conc.empty Heap.zero).run exOps).heap (((Conc.empty Heap.zero).run exOps).handle 1) 9
      = [1, 3, 5, 4, 2] ∧
    toListBwd ((Conc.empty Heap.zero).run exOps).heap (((Conc.empty Heap.zero).run exOps).handle 1) 9
      = [2, 4, 5, 3, 1] ∧
    isEmpty (((Conc.empty Heap.zero).run exOps).handle 0) = true := by
  decide +kernel

end Dll

/-
Property theorems of C17 (all in namespace `Dll`):
  C17_remove                 C17_remove_ring
  C17_splice                 C17_splice_rot            C17_splice_list
  C17_make_first             C17_make_first_singleton  C17_make_first_null
  C17_make_last              C17_make_last_singleton   C17_make_last_null
  C17_traversals
  C17_step                   C17_sequences             C17_sequences_from_empty
  C17_sequences_observe
  C17_no_null_deref
`#print axioms` for each of them: `NsyncVerif/Props/C17Audit.lean`.
-/
