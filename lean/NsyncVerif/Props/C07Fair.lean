/-
  Property C07, liveness half — "every call of nsync_run_once / _arg / _spin / _arg_spin returns,
  and by then the initializer has run exactly once and ended" — for ALL fair schedules.

  Model: `NsyncVerif/Model/Once.lean` (once.c statement by statement), as in `Props/C07.lean`; any
  number of threads and once objects, any mix of the four entry points, any hashing of once
  objects to `once_sync[]` slots (once objects sharing a slot included), any spurious wake-up /
  timeout of the cv wait.  Definitions (`Exec`, `WeakFair`, `LockFair`, `InitReturns`, the
  `…_full` statements) are in `Proofs/OnceFairExec.lean`; the proof is in
  `Proofs/OnceFairStep.lean` (ranks, one-step lemmas) and `Proofs/OnceFairMain.lean` (chain).

  STATUS: everything below is proved in full (no `_partial`):
  * `C07_fair_termination : C07_fair_termination_full`
  * `C07_fair_exactly_once : C07_fair_exactly_once_full`
  * `C07_fair_lock_free_again`, `C07_fair_moves`, `C07_fair_done` (the intermediate leads-to facts)
  * `C07_fair_needs_weak_fair`, `C07_fair_needs_init_returns`, `C07_fair_needs_lock_fair`
    (each hypothesis is needed: an execution satisfying the others in which calls never return)
  * non-vacuity: `fairExec` with `fair_hyps` and the examples after it.

  THE ENABLEDNESS / FAIRNESS NOTIONS, and why
  `C07_progress` says: a thread inside run_once has an accepted next event (`Enabled`) unless it
  is at a lock acquisition (`ret nsync_mu_lock`, `ret nsync_cv_wait_with_deadline`:
  `PC.LockWait cfg k`) and the slot lock `k` is held by another thread.  Accordingly
  * `Ready cfg s t` := inside a call, executing LIBRARY code (not between `cb start` and `cb end`),
    and the awaited slot lock, if any, is free.  `Ready → Enabled` (`ready_enabled`).
  * `WeakFair`: a thread that is continuously `Ready` from some time on moves.  For a thread at a
    lock acquisition this is the weak form: it must move only if the lock is CONTINUOUSLY free;
    while the lock is held nothing is asked of it.
  * The client's function is excluded from `Ready` on purpose: the acceptor would accept `cb end`
    at any time, but whether `f` returns is the client's business, so it is the separate
    hypothesis `InitReturns` (and `C07_fair_needs_init_returns` shows it cannot be dropped).
  * Weak fairness of the lock acquisition is TOO WEAK, and `FiniteArrivals` (the remedy of
    C02Fair) does NOT help here: `C07_fair_needs_lock_fair` is a weakly fair execution with two
    calls and no further arrival in which the winner waits for ever at once.c:82
    (`nsync_mu_lock` after `f`) because a loser barges in for ever — its cv wait times out
    (≤ 50 ms deadline, once.c:93-94, any return time is accepted by assumption A2), re-acquires
    the slot lock, re-reads the word (1), waits again — so that the lock is free again and again
    but never continuously.  The hypothesis that is needed is starvation freedom of the slot
    lock, `LockFair`: a thread that waits for slot lock `k` for ever while `k` is free
    infinitely often moves (strong fairness of the acquisition, the liveness half of assumption
    A1 of Model/Once.lean).  It is an ASSUMPTION of this layer about the slot lock, exactly as
    mutual exclusion is; it is NOT derived from C02Fair (whose `FiniteArrivals` fails here: every
    timed-out cv wait is a fresh acquisition of `once_mu`).  What nsync_mu offers towards it: a
    waiter that has lost 30 times sets MU_LONG_WAIT, which blocks fresh acquirers (C14).
    That the lock is free infinitely often is not assumed: it is proved
    (`C07_fair_lock_free_again`: a holder never blocks and releases within 5 own steps).
-/
import NsyncVerif.Props.C07
import NsyncVerif.Proofs.OnceFairTrace

namespace Once

/-- Every slot lock is free again and again (so the premise of `LockFair` is always met). -/
theorem C07_fair_lock_free_again {cfg : Config} {s0 : State} (x : Exec cfg s0)
    (hr : Reachable cfg s0) (hw : WeakFair x) (hl : LockFair x) (hi : InitReturns x)
    (k : SlotId) (i : Nat) : ∃ j, i ≤ j ∧ (x.ρ j).lockHolder k = none :=
  lock_free_again x ⟨inv_reachable hr, hw, hl, hi⟩ k i

/-- Every thread inside a call takes another step. -/
theorem C07_fair_moves {cfg : Config} {s0 : State} (x : Exec cfg s0)
    (hr : Reachable cfg s0) (hw : WeakFair x) (hl : LockFair x) (hi : InitReturns x)
    {t : Tid} {i : Nat} (hp : (x.ρ i).pc t ≠ .idle) : ∃ j, i ≤ j ∧ Moves x t j :=
  eventually_moves x ⟨inv_reachable hr, hw, hl, hi⟩ hp

/-- The once object of a call in progress is eventually done (word 2, for ever). -/
theorem C07_fair_done {cfg : Config} {s0 : State} (x : Exec cfg s0)
    (hr : Reachable cfg s0) (hw : WeakFair x) (hl : LockFair x) (hi : InitReturns x)
    {t : Tid} {f : Frame} {i : Nat} (hf : ((x.ρ i).pc t).frame? = some f) :
    ∃ j, i ≤ j ∧ ∀ j', j ≤ j' → (x.ρ j').word f.o = 2 := by
  obtain ⟨j, hj, h2⟩ := word_to_2 x ⟨inv_reachable hr, hw, hl, hi⟩ hf
  exact ⟨j, hj, word2_stable x (inv_reachable hr) h2⟩

/-- FAIR TERMINATION: in every weakly fair execution from a reachable state in which the slot
    locks are starvation free and the client's function returns, every call of
    nsync_run_once / _arg / _spin / _arg_spin returns. -/
theorem C07_fair_termination : C07_fair_termination_full := by
  intro cfg s0 x hr hw hl hi t i hp
  exact fair_returns x ⟨inv_reachable hr, hw, hl, hi⟩ hp

/-- … and when it returns the initializer of its once object has been started exactly once and
    ended exactly once, by the CAS winner (`C07_exactly_once` at the state after the `ret`). -/
theorem C07_fair_exactly_once : C07_fair_exactly_once_full := by
  intro cfg s0 x hr hw hl hi t i f hf
  obtain ⟨j, hj, hs, hidle, hret⟩ := fair_performs_ret x ⟨inv_reachable hr, hw, hl, hi⟩ hf
  have hmem : (t, f.o) ∈ (x.ρ (j + 1)).returned := by rw [hret]; exact .head _
  have hi' := x.inv (inv_reachable hr) (j + 1)
  have hw := hi'.ret t f.o hmem
  obtain ⟨w, hwin, hst, hen⟩ := hi'.w2 _ hw
  exact ⟨j, hj, hs, hidle, hmem, w, hwin, hst, hen, hw⟩

/-! ### concrete executions (hashing `exCfg`: every once object on slot 0) -/

theorem three_le_of_not_lt {t : Nat} (h : ¬ t < 3) : 3 ≤ t := by omega

/-- `nsync_run_once` by thread `t` on once 0 up to the successful CAS and the release of the slot
    lock: the thread is about to enter `f`. -/
def winPrefix (t : Tid) : List Event :=
  [.call t true false 0, .ld t (.outer true false) .acq 0 0, .ld t .impl .acq 0 0,
   .muLockCall t 0, .muLockRet t, .cas t .impl .acq 0 0 1 0 true,
   .muUnlockCall t 0, .muUnlockRet t]

/-! #### `WeakFair` is needed (trivially: otherwise nobody need move) -/

def stallA : State := (run exCfg init [.call 0 true false 0]).toOption.get (by decide)

theorem stall_reach : Reachable exCfg stallA := run_ok_of_isSome _

theorem stallA_pc (t : Tid) : (t = 0 → stallA.pc t = .outerLd ⟨0, true, false⟩) ∧
    (t ≠ 0 → stallA.pc t = .idle) := by
  refine ⟨fun h => by subst h; decide, fun h => ?_⟩
  exact run_untouched [.call 0 true false 0] init stallA
    (tidsBelow_ne (n := 1) (by decide) (Nat.pos_of_ne_zero h)) (ok_of_isSome _ _)

/-- T0 has called nsync_run_once and nothing happens any more. -/
def stallExec : Exec exCfg stallA := traceExec exCfg stallA [] stallA rfl

theorem stall_at (j : Nat) : stallExec.ρ j = stallA ∧ stallExec.σ j = none :=
  traceExec_tail (cfg := exCfg) (s := stallA) (evs := []) rfl (Nat.zero_le j)

/-- `WeakFair` cannot be dropped: all other hypotheses hold and the call never returns. -/
theorem C07_fair_needs_weak_fair :
    ∃ x : Exec exCfg stallA, Reachable exCfg stallA ∧ LockFair x ∧ InitReturns x ∧
      FiniteArrivals x ∧ ¬ WeakFair x ∧ ∀ j, (x.ρ j).pc 0 = .outerLd ⟨0, true, false⟩ := by
  have hpc0 := (stallA_pc 0).1 rfl
  refine ⟨stallExec, stall_reach, ?_, ?_, ⟨0, ?_⟩, ?_, ?_⟩
  · intro t k i h _
    have hL := h i (Nat.le_refl _)
    rw [(stall_at i).1] at hL
    by_cases ht : t = 0
    · subst ht; rw [hpc0] at hL; simp [PC.LockWait] at hL
    · rw [(stallA_pc t).2 ht] at hL; simp [PC.LockWait] at hL
  · intro t i f hp
    rw [(stall_at i).1] at hp
    by_cases ht : t = 0
    · subst ht; rw [hpc0] at hp; cases hp
    · rw [(stallA_pc t).2 ht] at hp; cases hp
  · intro j t b a o _ he
    rw [(stall_at j).2] at he; cases he
  · intro hwf
    obtain ⟨j, _, e, he, _⟩ := hwf 0 0 (fun j _ => by
      rw [Ready, (stall_at j).1, hpc0]
      exact ⟨(by intro h; cases h), (by intro h; exact h), (by intro k hk; simp [PC.LockWait] at hk)⟩)
    rw [(stall_at j).2] at he; cases he
  · intro j; rw [(stall_at j).1]; exact hpc0

/-! #### `InitReturns` is needed -/

/-- T0 (nsync_run_once) wins once 0 and enters `f`; T1 (nsync_run_once_spin) arrives, sees 1 and
    is in the spin loop of once.c:87. -/
def cbPre : List Event :=
  winPrefix 0 ++ [.cbStart 0 false,
   .call 1 false false 0, .ld 1 (.outer false false) .acq 0 1, .ld 1 .impl .acq 0 1]

/-- One iteration of the spin loop of T1. -/
def cbLoop : List Event := [.ld 1 .impl .acq 0 1]

def cbA : State := (run exCfg init cbPre).toOption.get (by decide)

theorem cb_reach : Reachable exCfg cbA := run_ok_of_isSome _

theorem cbA_facts : cbA.pc 0 = .wCbEnd ⟨0, true, false⟩ ∧ cbA.pc 1 = .waitLd ⟨0, false, false⟩ ∧
    cbA.word 0 = 1 := by decide

theorem cbA_idle {t : Tid} (ht : 2 ≤ t) : cbA.pc t = .idle :=
  run_untouched cbPre init cbA (tidsBelow_ne (n := 2) (by decide) ht) (ok_of_isSome _ _)

theorem cb_cycle : run exCfg cbA cbLoop = .ok cbA := by
  obtain ⟨_, h1, hw⟩ := cbA_facts
  have : cbA.setPc 1 (.waitLd ⟨0, false, false⟩) = cbA := by
    simp only [State.setPc, upd_eq_self h1]
  simp [cbLoop, run, step, h1, need, hw, this]

/-- T0 stays in `f` for ever, T1 spins for ever. -/
def cbExec : Exec exCfg cbA := loopExec exCfg cbA cbLoop cb_cycle (by decide)

/-- `InitReturns` cannot be dropped: a weakly fair execution from a reachable state, with
    starvation-free locks and no arrival at all, in which the client's function does not return
    and NO call ever returns (neither the winner's nor the spinning loser's). -/
theorem C07_fair_needs_init_returns :
    ∃ x : Exec exCfg cbA, Reachable exCfg cbA ∧ WeakFair x ∧ LockFair x ∧ FiniteArrivals x ∧
      ¬ InitReturns x ∧
      (∀ j, (x.ρ j).pc 0 = .wCbEnd ⟨0, true, false⟩) ∧
      (∀ j, (x.ρ j).pc 1 = .waitLd ⟨0, false, false⟩) := by
  obtain ⟨a, b, _, d⟩ := loop_hyps cb_cycle (by decide) 2 (fun _ => cbA_idle) (by decide)
  have hpc : ∀ j, (cbExec.ρ j).pc 0 = .wCbEnd ⟨0, true, false⟩ ∧ (cbExec.ρ j).pc 1 = .waitLd ⟨0, false, false⟩ ∧
      cbExec.σ j ≠ some (.cbEnd 0 false) := fun j =>
    (by decide : ∀ k, k < 1 → (stateFrom exCfg cbA (cbLoop.take k)).pc 0 = .wCbEnd ⟨0, true, false⟩ ∧
      (stateFrom exCfg cbA (cbLoop.take k)).pc 1 = .waitLd ⟨0, false, false⟩ ∧ cbLoop[k]? ≠ some (.cbEnd 0 false))
      _ (Nat.mod_lt j (by decide))
  -- T1 moves, T0 is in the client's function; nobody waits for a lock; the loop has no call
  refine ⟨cbExec, cb_reach, a (by decide), b (by decide), d (by decide), fun hir => ?_,
    fun j => (hpc j).1, fun j => (hpc j).2.1⟩
  obtain ⟨j, _, hs⟩ := hir 0 0 ⟨0, true, false⟩ (hpc 0).1
  exact (hpc j).2.2 hs

/-! #### `LockFair` is needed (weak fairness of the acquisition is not enough, finitely many
    arrivals do not help) -/

/-- T0 (nsync_run_once) wins once 0, runs `f` to its end and calls `nsync_mu_lock` (once.c:82);
    T1 (nsync_run_once) arrives, sees 1, takes the slot lock, and sleeps on the cv. -/
def bargePre : List Event :=
  winPrefix 0 ++ [.cbStart 0 false, .cbEnd 0 false, .muLockCall 0 0,
   .call 1 true false 0, .ld 1 (.outer true false) .acq 0 1, .ld 1 .impl .acq 0 1,
   .muLockCall 1 0, .muLockRet 1, .ld 1 .impl .acq 0 1, .cvWaitCall 1 0 0]

/-- One iteration of the wait loop of T1: the cv wait times out (re-acquiring the slot lock), the
    word is still 1, wait again (releasing the lock). -/
def bargeLoop : List Event := [.cvWaitRet 1 true, .ld 1 .impl .acq 0 1, .cvWaitCall 1 0 0]

def bargeA : State := (run exCfg init bargePre).toOption.get (by decide)

theorem barge_reach : Reachable exCfg bargeA := run_ok_of_isSome _

theorem bargeA_facts : bargeA.pc 0 = .wLockRet ⟨0, true, false⟩ ∧
    bargeA.pc 1 = .cvWaitRet ⟨0, true, false⟩ ∧ bargeA.word 0 = 1 ∧ bargeA.lockHolder 0 = none := by
  decide

theorem bargeA_idle {t : Tid} (ht : 2 ≤ t) : bargeA.pc t = .idle :=
  run_untouched bargePre init bargeA (tidsBelow_ne (n := 2) (by decide) ht) (ok_of_isSome _ _)

theorem barge_cycle : run exCfg bargeA bargeLoop = .ok bargeA := by
  obtain ⟨_, h1, hw, hl⟩ := bargeA_facts
  have e : ({ bargeA with
      lockHolder := upd (upd bargeA.lockHolder 0 (some 1)) 0 none
      pc := upd (upd (upd bargeA.pc 1 (.waitLd ⟨0, true, false⟩)) 1 (.cvWaitCall ⟨0, true, false⟩)) 1
              (.cvWaitRet ⟨0, true, false⟩) } : State) = bargeA := by
    rw [upd_upd, upd_upd, upd_upd, upd_eq_self h1, upd_eq_self hl]
  simp [bargeLoop, run, step, h1, need, hw, hl, exCfg, State.setPc, State.acquire, State.release, e]

/-- T0 waits for the slot lock for ever while T1 goes round its wait loop for ever. -/
def bargeExec : Exec exCfg bargeA := loopExec exCfg bargeA bargeLoop barge_cycle (by decide)

/-- `LockFair` cannot be replaced by weak fairness of the lock acquisition, not even with finitely
    many arrivals: a weakly fair execution from a reachable state, in which the client's function
    has returned, nobody calls run_once any more and the slot lock is free again and again, and
    yet the winner's call never returns (it waits at once.c:82 for ever) — nor does the loser's. -/
theorem C07_fair_needs_lock_fair :
    ∃ x : Exec exCfg bargeA, Reachable exCfg bargeA ∧ WeakFair x ∧ InitReturns x ∧
      FiniteArrivals x ∧ ¬ LockFair x ∧
      (∀ j, ∃ j', j ≤ j' ∧ (x.ρ j').lockHolder 0 = none) ∧
      (∀ j, (x.ρ j).pc 0 = .wLockRet ⟨0, true, false⟩) ∧
      (∀ j, (x.ρ j).pc 1 ≠ .idle) := by
  obtain ⟨a, _, c, d⟩ := loop_hyps barge_cycle (by decide) 2 (fun _ => bargeA_idle) (by decide)
  -- T1 moves; one step into the loop T0's slot lock is held by T1; nobody is in the client's function
  have hwf := a (by decide)
  have hir := c (by decide)
  have hpc : ∀ j, (bargeExec.ρ j).pc 0 = .wLockRet ⟨0, true, false⟩ ∧ (bargeExec.ρ j).pc 1 ≠ .idle := fun j =>
    (by decide : ∀ k, k < 3 → (stateFrom exCfg bargeA (bargeLoop.take k)).pc 0 = .wLockRet ⟨0, true, false⟩ ∧
      (stateFrom exCfg bargeA (bargeLoop.take k)).pc 1 ≠ .idle) _ (Nat.mod_lt j (by decide))
  refine ⟨bargeExec, barge_reach, hwf, hir, d (by decide), fun hlf => ?_,
    NsyncVerif.Lasso.mod_again (n := 3) (Q := fun k => (stateFrom exCfg bargeA (bargeLoop.take k)).lockHolder 0 = none)
      (k := 0) (by decide) (by decide),
    fun j => (hpc j).1, fun j => (hpc j).2⟩
  obtain ⟨j, _, hidle⟩ := C07_fair_termination exCfg bargeA bargeExec barge_reach hwf hlf hir 0 0
    (by rw [(hpc 0).1]; intro h; cases h)
  rw [(hpc j).1] at hidle; cases hidle

/-! ### non-vacuity: the hypotheses hold in an execution in which threads really wait -/

/-- The accepted trace of `Props/C07.lean`: T0 (nsync_run_once) wins once 0, T1
    (nsync_run_once_spin) spins, T2 (nsync_run_once_arg) sleeps on the cv — twice — while T0 is
    inside `f`; T0 completes; everybody returns. -/
def fairEvs : List Event := exPart1 ++ exPart2

def fairFinal : State := (run exCfg init fairEvs).toOption.get (by decide)

theorem fair_run : run exCfg init fairEvs = .ok fairFinal := ok_of_isSome _ _

/-- … followed by idling for ever. -/
def fairExec : Exec exCfg init := traceExec exCfg init fairEvs fairFinal fair_run

theorem fair_final_idle (t : Tid) : fairFinal.pc t = .idle := by
  by_cases ht : t < 3
  · have h : fairFinal.pc 0 = .idle ∧ fairFinal.pc 1 = .idle ∧ fairFinal.pc 2 = .idle := by decide
    have h3 : t = 0 ∨ t = 1 ∨ t = 2 := NsyncVerif.Lasso.lt3_cases ht
    rcases h3 with rfl | rfl | rfl
    · exact h.1
    · exact h.2.1
    · exact h.2.2
  · exact run_untouched fairEvs init fairFinal (tidsBelow_ne (n := 3) (by decide) (three_le_of_not_lt ht)) fair_run

theorem fair_tail {j : Nat} (hj : fairEvs.length ≤ j) : ∀ t, (fairExec.ρ j).pc t = .idle := by
  intro t
  rw [show fairExec.ρ j = fairFinal from (traceExec_tail fair_run hj).1]
  exact fair_final_idle t

/-- All hypotheses of `C07_fair_termination` hold for `fairExec`. -/
theorem fair_hyps : Reachable exCfg init ∧ WeakFair fairExec ∧ LockFair fairExec ∧
    InitReturns fairExec ∧ FiniteArrivals fairExec :=
  ⟨⟨[], rfl⟩, weakFair_of_quiescent _ _ (fun _ hj => fair_tail hj),
   lockFair_of_quiescent _ _ (fun _ hj => fair_tail hj),
   initReturns_of_quiescent _ _ (fun _ hj => fair_tail hj),
   finiteArrivals_of_tail _ fairEvs.length (fun _ hj => (traceExec_tail fair_run hj).2)⟩

/-- At time 29 (= after part 1) the word is 1, T0 is inside the initializer, T1 is in the spin loop
    (it has already loaded 1 twice), T2 sleeps on the cv with the slot lock released: the callers
    that lost really wait. -/
example : exPart1.length = 29 ∧ (fairExec.ρ 29).word 0 = 1 ∧
    (fairExec.ρ 29).pc 0 = .wCbEnd ⟨0, true, false⟩ ∧
    (fairExec.ρ 29).pc 1 = .waitLd ⟨0, false, false⟩ ∧
    (fairExec.ρ 29).pc 2 = .cvWaitRet ⟨0, true, true⟩ ∧
    (fairExec.ρ 29).lockHolder 0 = none ∧
    -- earlier, T2 really waited for the slot lock while T0 held it (events 11 … 18)
    (fairExec.ρ 12).pc 2 = .lock1Ret ⟨0, true, true⟩ 0 ∧ (fairExec.ρ 12).lockHolder 0 = some 0 ∧
    fairExec.σ 18 = some (.muLockRet 2) ∧
    fairExec.σ 25 = some (.ld 1 .impl .acq 0 1) ∧ fairExec.σ 28 = some (.cvWaitCall 2 0 0) := by
  decide

/-- The theorem applies and gives the return of the sleeping thread T2 … -/
example : ∃ j, 29 ≤ j ∧ (fairExec.ρ j).pc 2 = .idle :=
  C07_fair_termination exCfg init fairExec fair_hyps.1 fair_hyps.2.1 fair_hyps.2.2.1
    fair_hyps.2.2.2.1 2 29 (by decide)

/-- … and the corollary gives the `ret` of its call (nsync_run_once_arg) with exactly one completed
    run of the initializer, by T0. -/
example : ∃ j, 29 ≤ j ∧ fairExec.σ j = some (.ret 2 true true) ∧ (fairExec.ρ (j + 1)).pc 2 = .idle ∧
    (2, 0) ∈ (fairExec.ρ (j + 1)).returned ∧
    ∃ w, (fairExec.ρ (j + 1)).winner 0 = some w ∧ (fairExec.ρ (j + 1)).fStarts 0 = [w] ∧
      (fairExec.ρ (j + 1)).fEnds 0 = [w] ∧ (fairExec.ρ (j + 1)).word 0 = 2 :=
  C07_fair_exactly_once exCfg init fairExec fair_hyps.1 fair_hyps.2.1 fair_hyps.2.2.1
    fair_hyps.2.2.2.1 2 29 ⟨0, true, true⟩ (by decide)

/-- In the concrete execution: the three `ret`s are events 38, 40 and 45; the winner is T0. -/
example : fairExec.σ 38 = some (.ret 0 true false) ∧ fairExec.σ 40 = some (.ret 1 false false) ∧
    fairExec.σ 45 = some (.ret 2 true true) ∧ fairEvs.length = 46 ∧
    (fairExec.ρ 46).fStarts 0 = [0] ∧ (fairExec.ρ 46).fEnds 0 = [0] := by
  decide

end Once
