/-
Property C18 (fixed text):
  "On times with 0 <= nanoseconds < 1e9, nsync_time_add, nsync_time_sub and nsync_time_cmp agree
   with integer arithmetic and ordering on seconds*1e9+nanoseconds: results are normalized,
   (a+b)-b equals a (barring overflow of the seconds field), cmp is a total order consistent with
   the sign of a-b. nsync_time_ms, nsync_time_us and nsync_time_s_ns yield the stated duration for
   every argument, and nsync_time_zero <= t <= nsync_time_no_deadline for every non-negative t."

Everything below is proved in full (no `_partial`).  The model (`NsyncVerif.Model.Time`) wraps on
signed overflow; the `InRange64 …` hypotheses are exactly "the C execution has no signed overflow
of tv_sec" (UB otherwise), so the theorems say nothing about UB executions.
`time_rep.c` and `time_rep_timespec.cc` have identical bodies for all modelled functions.
-/
import NsyncVerif.Model.Time
import NsyncVerif.Proofs.Time

namespace NsyncVerif
namespace Time

/-- add, exact form: `AddNoOverflow a b` is precisely "the C execution has no signed overflow". -/
theorem C18_add_exact {a b : Time} (ha : Norm a) (hb : Norm b) (h : AddNoOverflow a b) :
    Norm (add a b) ∧ toNs (add a b) = toNs a + toNs b := by
  rw [add_eq_exact h]
  unfold Norm at *; unfold toNs
  split <;> (constructor <;> simp only <;> omega)

/-- sub, exact form. -/
theorem C18_sub_exact {a b : Time} (ha : Norm a) (hb : Norm b) (h : SubNoOverflow a b) :
    Norm (sub a b) ∧ toNs (sub a b) = toNs a - toNs b := by
  rw [sub_eq_exact h]
  unfold Norm at *; unfold toNs
  split <;> (constructor <;> simp only <;> omega)

/-- add: normalized result, and exact integer sum.  Hypotheses: both ideal values of tv_sec that
the C code may compute (`a.sec+b.sec`, and `+1` for the carry) are representable. -/
theorem C18_add {a b : Time} (ha : Norm a) (hb : Norm b)
    (h1 : InRange64 (a.sec + b.sec + 1)) (h0 : InRange64 (a.sec + b.sec)) :
    Norm (add a b) ∧ toNs (add a b) = toNs a + toNs b :=
  C18_add_exact ha hb (addNoOverflow_of ha hb h1 h0)

/-- sub: normalized result, and exact integer difference. -/
theorem C18_sub {a b : Time} (ha : Norm a) (hb : Norm b)
    (h1 : InRange64 (a.sec - b.sec - 1)) (h0 : InRange64 (a.sec - b.sec)) :
    Norm (sub a b) ∧ toNs (sub a b) = toNs a - toNs b :=
  C18_sub_exact ha hb (subNoOverflow_of ha hb h1 h0)

/-- cmp is the sign of the integer difference. -/
theorem C18_cmp {a b : Time} (ha : Norm a) (hb : Norm b) :
    (cmp a b = 1 ↔ toNs a > toNs b) ∧ (cmp a b = 0 ↔ toNs a = toNs b) ∧
    (cmp a b = -1 ↔ toNs a < toNs b) := by
  have h := cmp_spec a b
  unfold Norm at *; unfold toNs
  omega

/-- On normalized times `toNs` is injective, so "equal as integers" is "equal as structs". -/
theorem C18_toNs_injective {a b : Time} (ha : Norm a) (hb : Norm b) (h : toNs a = toNs b) :
    a = b := by
  unfold Norm at *; unfold toNs at h
  exact time_ext (by omega) (by omega)

/-- cmp is a total order (`a ≤ b :⇔ cmp a b ≤ 0`): values in {-1,0,1}, reflexive, antisymmetric,
transitive, total, and `cmp a b = - cmp b a`.  None of this needs normalization. -/
theorem C18_cmp_total_order (a b c : Time) :
    (cmp a b = -1 ∨ cmp a b = 0 ∨ cmp a b = 1) ∧
    cmp a a = 0 ∧
    cmp a b = - cmp b a ∧
    (cmp a b ≤ 0 → cmp b a ≤ 0 → a = b) ∧
    (cmp a b = 0 ↔ a = b) ∧
    (cmp a b ≤ 0 → cmp b c ≤ 0 → cmp a c ≤ 0) ∧
    (cmp a b < 0 → cmp b c ≤ 0 → cmp a c < 0) ∧
    (cmp a b ≤ 0 → cmp b c < 0 → cmp a c < 0) ∧
    (cmp a b ≤ 0 ∨ cmp b a ≤ 0) := by
  refine ⟨cmp_range a b, (cmp_eq_zero_iff a a).2 rfl, cmp_swap a b, ?_, cmp_eq_zero_iff a b,
    ?_, ?_, ?_, ?_⟩
  · intro h1 h2
    rw [cmp_swap b a] at h2
    exact (cmp_eq_zero_iff a b).1 (by omega)
  -- transitivity (three forms) and totality of the lexicographic order on `(sec, nsec)`
  all_goals simp only [cmp_le_iff, cmp_lt_iff]; omega

/-- cmp agrees with the sign of `a - b` as computed by `nsync_time_sub` (no overflow), and
comparing the difference with zero gives the same answer as comparing the operands. -/
theorem C18_cmp_consistent_with_sub {a b : Time} (ha : Norm a) (hb : Norm b)
    (h1 : InRange64 (a.sec - b.sec - 1)) (h0 : InRange64 (a.sec - b.sec)) :
    (cmp a b = 1 ↔ toNs (sub a b) > 0) ∧ (cmp a b = 0 ↔ toNs (sub a b) = 0) ∧
    (cmp a b = -1 ↔ toNs (sub a b) < 0) ∧ cmp (sub a b) zero = cmp a b := by
  have hs := C18_sub ha hb h1 h0
  have hc := C18_cmp ha hb
  have hc' := C18_cmp hs.1 (show Norm zero by decide)
  have hz0 : toNs zero = 0 := by decide
  have hr := cmp_range a b
  have hr' := cmp_range (sub a b) zero
  rw [hs.2, hz0] at hc'
  rw [hs.2]
  refine ⟨?_, ?_, ?_, ?_⟩
  · rw [hc.1]; omega
  · rw [hc.2.1]; omega
  · rw [hc.2.2]; omega
  · omega

/-- (a+b)-b = a, barring overflow of the seconds field: the addition and the subsequent
subtraction are both overflow-free C executions (exact conditions). -/
theorem C18_roundtrip {a b : Time} (ha : Norm a) (hb : Norm b)
    (hadd : AddNoOverflow a b) (hsub : SubNoOverflow (add a b) b) :
    sub (add a b) b = a := by
  have h1 := C18_add_exact ha hb hadd
  have h2 := C18_sub_exact h1.1 hb hsub
  apply C18_toNs_injective h2.1 ha
  rw [h2.2, h1.2]; omega

/-- The same with range hypotheses on the operands only: besides the C18_add hypotheses,
`a.sec` and `a.sec + 1` representable (`a.sec + 1` is the intermediate `tv_sec` of the
subtraction when the addition carried). -/
theorem C18_roundtrip' {a b : Time} (ha : Norm a) (hb : Norm b)
    (h1 : InRange64 (a.sec + b.sec + 1)) (h0 : InRange64 (a.sec + b.sec))
    (hs : InRange64 a.sec) (hs1 : InRange64 (a.sec + 1)) :
    sub (add a b) b = a := by
  have hadd := addNoOverflow_of ha hb h1 h0
  apply C18_roundtrip ha hb hadd
  unfold SubNoOverflow
  rw [add_eq_exact hadd, NS_IN_S_eq]
  unfold Norm at ha hb; unfold InRange64 at *
  split <;> simp only <;> omega

/-- nsync_time_ms: for every `unsigned` argument the result is normalized and denotes x ms.
That no intermediate `unsigned` computation wraps is `ms_nsec_no_wrap` (restated below). -/
theorem C18_ms (x : Nat) (hx : x < 2 ^ 32) : Norm (ms x) ∧ toNs (ms x) = (x : Int) * 10 ^ 6 := by
  rw [ms_eq x (by omega)]
  unfold Norm toNs; simp only [Int.ofNat_eq_natCast]
  constructor <;> omega

theorem C18_us (x : Nat) (hx : x < 2 ^ 32) : Norm (us x) ∧ toNs (us x) = (x : Int) * 10 ^ 3 := by
  rw [us_eq x (by omega)]
  unfold Norm toNs; simp only [Int.ofNat_eq_natCast]
  constructor <;> omega

/-- The modelled machine expressions (`unsigned`, modulo 2^32) equal the ideal ones. -/
theorem C18_ms_us_no_wrap (x : Nat) :
    (wrapU32 ((wrapI32 (1000 * 1000)).toNat * (x % 1000)) = 1000000 * (x % 1000)
      ∧ 1000000 * (x % 1000) < 2 ^ 32) ∧
    (wrapU32 (1000 * (x % (wrapI32 (1000 * 1000)).toNat)) = 1000 * (x % 1000000)
      ∧ 1000 * (x % 1000000) < 2 ^ 32) := by
  have h1 := ms_nsec_no_wrap x
  have h2 := us_nsec_no_wrap x
  exact ⟨⟨h1.1, by omega⟩, ⟨h2.1, by omega⟩⟩

/-- For every `unsigned` ns (not only < 1e9) the denoted duration is s*1e9+ns; the result is
normalized exactly when ns < 1e9. -/
theorem C18_s_ns_any (s : Int) (ns : Nat) (hns : ns < 2 ^ 32) :
    toNs (sNs s ns) = s * 10 ^ 9 + (ns : Int) ∧ (Norm (sNs s ns) ↔ ns < 10 ^ 9) := by
  rw [sNs_eq s (by omega)]
  unfold Norm toNs; simp only [Int.ofNat_eq_natCast]
  omega

/-- nsync_time_s_ns. (`InRange64 s` just says that `s` is a `time_t`.) -/
theorem C18_s_ns (s : Int) (ns : Nat) (hns : ns < 10 ^ 9) (_hs : InRange64 s) :
    toNs (sNs s ns) = s * 10 ^ 9 + (ns : Int) ∧ Norm (sNs s ns) :=
  have h := C18_s_ns_any s ns (by omega)
  ⟨h.1, h.2.2 hns⟩

/-- zero <= t <= no_deadline for every non-negative (normalized, representable) t. -/
theorem C18_bounds {t : Time} (ht : Norm t) (h0 : 0 ≤ t.sec) (hr : InRange64 t.sec) :
    cmp zero t ≤ 0 ∧ cmp t noDeadline ≤ 0 := by
  refine ⟨?_, cmp_noDeadline_le ht hr⟩
  simp only [cmp_le_iff, zero]
  unfold Norm at ht
  omega

/-- The constants themselves. -/
theorem C18_consts : Norm zero ∧ toNs zero = 0 ∧ Norm noDeadline ∧
    toNs noDeadline = (2 ^ 63 - 1) * 10 ^ 9 + (10 ^ 9 - 1) := by decide

/-! ### Non-vacuity: concrete instances, including boundary cases -/

-- carry at the nsec boundary: 1.999999999 + 0.000000001 = 2.0
example : add ⟨1, 999999999⟩ ⟨0, 1⟩ = ⟨2, 0⟩ := by decide
example : add ⟨1, 999999999⟩ ⟨2, 999999999⟩ = ⟨4, 999999998⟩ := by decide
-- negative seconds: -1.5s is represented as (-2, 500000000)
example : add ⟨-2, 500000000⟩ ⟨0, 500000000⟩ = ⟨-1, 0⟩ := by decide
example : sub ⟨0, 0⟩ ⟨0, 1⟩ = ⟨-1, 999999999⟩ := by decide
example : sub ⟨-5, 3⟩ ⟨-7, 999999999⟩ = ⟨1, 4⟩ := by decide
example : cmp ⟨-1, 999999999⟩ zero = -1 := by decide
example : cmp ⟨3, 5⟩ ⟨3, 4⟩ = 1 := by decide
-- extreme representable seconds (hypotheses of C18_add hold: 2^63-2 + 0 + 1 = 2^63-1)
example : Norm (add ⟨9223372036854775806, 999999999⟩ ⟨0, 1⟩) ∧
    toNs (add ⟨9223372036854775806, 999999999⟩ ⟨0, 1⟩)
      = toNs ⟨9223372036854775806, 999999999⟩ + toNs ⟨0, 1⟩ :=
  C18_add (by decide) (by decide) (by decide) (by decide)
example : sub (add ⟨-9223372036854775808, 999999999⟩ ⟨5, 999999999⟩) ⟨5, 999999999⟩
    = ⟨-9223372036854775808, 999999999⟩ :=
  C18_roundtrip' (by decide) (by decide) (by decide) (by decide) (by decide) (by decide)
example : ms 4294967295 = ⟨4294967, 295000000⟩ := by decide
example : us 4294967295 = ⟨4294, 967295000⟩ := by decide
example : ms 999 = ⟨0, 999000000⟩ := by decide
example : sNs (-3) 999999999 = ⟨-3, 999999999⟩ := by decide
example : cmp zero noDeadline = -1 ∧ cmp noDeadline noDeadline = 0 := by decide
/-- Outside the hypotheses the C code has UB and the wrap model shows why the hypothesis is
needed: the seconds field overflows. -/
example : add ⟨9223372036854775807, 999999999⟩ ⟨0, 1⟩ = ⟨-9223372036854775808, 0⟩ := by decide

end Time
end NsyncVerif
