/- Axiom audit of the `C12_fair_*` theorems and of the lemmas about the witness executions (allowed: propext, Classical.choice, Quot.sound). -/
import NsyncVerif.Props.C12Fair

open NsyncVerif.Futex

#print axioms C12_fair_termination
#print axioms C12_fair_P_returns
#print axioms C12_fair_PD_returns
#print axioms C12_fair_V_returns
#print axioms C12_fair_post_arrives
#print axioms PostPending_iff
#print axioms C12_thread_enabled
#print axioms C12_kernel_due_enabled
#print axioms eintr_hyps
#print axioms C12_fair_nonvacuous
#print axioms C12_fair_needs_kernel
#print axioms C12_fair_needs_kernel_timeout
#print axioms C12_fair_needs_post
#print axioms C12_fair_needs_finite_spurious
#print axioms spur_is_spurious
#print axioms C12_fair_needs_bounded_posts
#print axioms C12_fair_V_returns_finite_calls
#print axioms C12_fair_needs_weak
#print axioms eintr_finite_calls
