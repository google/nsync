/-
  Property C05, liveness, timed waits: the first links of clause (a) of `C05_fair_return_full`
  (Proofs/CvFixFairDefs.lean), "a cv wait with a finite deadline returns once the clock has passed
  the deadline".  Clause (a) itself is NOT proved.  Proofs in Proofs/CvFixFairTimed.lean.

  PROVED, under `WaitHyps`:
  * `C05_fair_clock_monotone`       the clock of an execution never goes back;
  * `C05_fair_timed_sleeper_wakes`  a waiter asleep in the semaphore wait of cv.c (`wSemRet`, no
        cancel note) whose deadline has passed LEAVES the semaphore wait (`SemFair`; the deadline
        handed to the semaphore is `abs_deadline`: `TInvC.semRet`), and the step that leaves it is the
        edge to cv.c:254 with `sem_outcome = ETIMEDOUT`, or the edge to cv.c:287 (the semaphore
        returned 0: a post — real, stray or late);
  * `C05_fair_timedout_removes_or_returns`  a waiter at cv.c:254 (its semaphore wait has timed out /
        been cancelled) takes the spinlock, re-checks `waiting` and `remove_count` (cv.c:264-265) and
        STARTS TO REMOVE ITSELF (`wRmLd`) — unless a waker got there first (`waiting = 0`, or
        `remove_count` changed: then the record is not queued any more, `TInvB.svQ`), and then its
        call returns 0;
  * `C05_fair_timed_reaches_removal`  the two together: a timed waiter asleep past its deadline
        gets the semaphore's 0 (cv.c:287), or returns 0, or reaches the self-removal;
  * `C05_fair_timed_covered_returns` if a waker wins the race (the record is unlinked by a waker at
        any time: `Covered`), the timed wait returns 0 — this is `C04_fair_woken_returns`.
  MISSING for clause (a):
  (1) after the edge to cv.c:287 with `waiting` still 1 (a spurious wake-up) the waiter sleeps again;
      `FiniteSpurious` bounds the number of rounds — needs the event of the edge (`sem pd_ret … 0`),
      which `HopAt` does not carry;
  (2) the self-removal `wRmLd … wClr → wRel2 → wTail → wHead` ends with `waiting = 0`
      (`TInvB.soW`) — needs that status `selfOut` is stable until the owner leaves (a lemma like
      `rec_stable` for `selfOut`) and the `remove_count` CAS loop (rank `rkS`);
  (3) for cancellable timed waits (`cPre`, `cWait`, `cPost`) additionally that the deadline handed to
      the semaphore is not later than `abs_deadline` while asleep in `cWait` (checked by the acceptor
      at `sem pd_enter`, but not kept as an invariant).
-/
import NsyncVerif.Proofs.CvFixFairTimed

namespace NsyncVerif.CvFix

/-- The clock never goes back. -/
theorem C05_fair_clock_monotone {cfg : Config} {s0 : State} (x : Exec cfg s0) {i j : Nat}
    (h : i ≤ j) : (x.ρ i).now ≤ (x.ρ j).now := by
  obtain ⟨d, rfl⟩ := Nat.exists_eq_add_of_le h
  exact exec_now_mono x i d

/-- A timed waiter asleep on its semaphore past its deadline leaves the semaphore wait: at some
    time `j1 ≥ j` it is still at `wSemRet` and its step at `j1` goes to cv.c:254 with
    `sem_outcome = ETIMEDOUT`, or to cv.c:287. -/
theorem C05_fair_timed_sleeper_wakes {cfg : Config} {s0 : State} (x : Exec cfg s0) (hy : WaitHyps x)
    {t : Tid} {j d : Nat} (hl : ((x.ρ j).thr t).loc = .wSemRet) (hd : ((x.ρ j).thr t).dl = some d)
    (hnow : d ≤ (x.ρ j).now) :
    ∃ j1, j ≤ j1 ∧ ((x.ρ j1).thr t).loc = .wSemRet ∧ ((x.ρ j1).thr t).dl = some d ∧
      ((((x.ρ (j1 + 1)).thr t).loc = .wChk ∧ ((x.ρ (j1 + 1)).thr t).semOut = .timedOut) ∨
       ((x.ρ (j1 + 1)).thr t).loc = .wTail) :=
  timed_sleeper_wakes x hy hl hd hnow

/-- If a waker wins the race against the timeout, the timed wait returns 0. -/
theorem C05_fair_timed_covered_returns {cfg : Config} {s0 : State} (x : Exec cfg s0)
    (hy : WaitHyps x) {t : Tid} {i : Nat} (h : Covered (x.ρ i) t) :
    ∃ j, i ≤ j ∧ x.σ j = some (.retWait t .ok) :=
  C04_fair_woken_returns x hy h

/-- From cv.c:254 the waiter starts to remove itself, or a waker got there first and the call
    returns 0. -/
theorem C05_fair_timedout_removes_or_returns {cfg : Config} {s0 : State} (x : Exec cfg s0)
    (hy : WaitHyps x) {t : Tid} {j : Nat} (hl : ((x.ρ j).thr t).loc = .wChk) :
    (∃ j', j ≤ j' ∧ x.σ j' = some (.retWait t .ok)) ∨
    (∃ j', j ≤ j' ∧ ((x.ρ j').thr t).loc = .wRmLd) :=
  timedout_removes_or_returns x hy hl

/-- A timed waiter asleep on its semaphore past its deadline gets the semaphore's 0 (next cv.c:287),
    or returns 0 (a waker won the race), or reaches its self-removal (cv.c:275). -/
theorem C05_fair_timed_reaches_removal {cfg : Config} {s0 : State} (x : Exec cfg s0)
    (hy : WaitHyps x) {t : Tid} {j d : Nat} (hl : ((x.ρ j).thr t).loc = .wSemRet)
    (hd : ((x.ρ j).thr t).dl = some d) (hnow : d ≤ (x.ρ j).now) :
    (∃ j', j ≤ j' ∧ ((x.ρ j').thr t).loc = .wTail) ∨
    (∃ j', j ≤ j' ∧ x.σ j' = some (.retWait t .ok)) ∨
    (∃ j', j ≤ j' ∧ ((x.ρ j').thr t).loc = .wRmLd) := by
  obtain ⟨j1, h1, _, _, h | h⟩ := timed_sleeper_wakes x hy hl hd hnow
  · rcases timedout_removes_or_returns x hy h.1 with ⟨j', h2, h3⟩ | ⟨j', h2, h3⟩
    · exact .inr (.inl ⟨j', by omega, h3⟩)
    · exact .inr (.inr ⟨j', by omega, h3⟩)
  · exact .inl ⟨j1 + 1, by omega, h⟩

end NsyncVerif.CvFix
