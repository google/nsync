/-
  Property C08: "A note is a one-way flag set by notify, by its deadline, or by an ancestor.  An
  nsync_note is notified exactly when nsync_note_notify has been called on it or on one of its
  ancestors, or its own or an ancestor's deadline has passed; once any observer has seen it
  notified no observer ever sees it un-notified.  When nsync_note_notify returns the note itself is
  notified, and once no notification of it or of an ancestor is still in progress all its
  descendants are notified and every thread waiting on them is released, while ancestors and
  siblings are unaffected; nsync_note_expiry is the minimum of the deadlines from the note to the
  root."

  Model: `NsyncVerif.Model.Note` — acceptor of /repo/internal/note.c (+ the nsync_wait_n path of
  nsync_note_wait) at one-atomic-operation granularity; all theorems are about every reachable
  state, i.e. every forest, every number of threads, every interleaving, every clock.
  The model follows note.c AFTER the repair of the defects F5 (/verif/fixes/F5/note_fix.diff) and
  F4 / F7 (/verif/fixes/F4F7/note_fix.diff).
  "Notified" (`State.Notified`) = the flag is set or the expiry time is zero (a zero deadline on the
  creation-time path: `NOTIFIED_TIME == 0` with the flag 0; a note created under an already
  notified parent gets its flag set by `nsync_note_new`).

  STATUS
  * proved at full strength: `C08_flag_monotone`, `C08_monotone`, `C08_sound` (+ `C08_anc_ever`),
    `C08_notify_post`, and the expiry clause: `C08_expiry_min` (every note returned by
    nsync_note_new, born notified or not), `C08_expiry_min_ret` (the value returned by
    nsync_note_expiry), with `C08_creation_path` (what "the path from the note to the root" is: the
    chain of CREATION-time parents — nsync_note_free re-parents the children of a freed note under
    the grand-parent in the real forest, the deadlines that count are those of the notes that were
    above the note when it was created), `Dl.minList_mem` / `Dl.minList_le` (it is the minimum).
    `C08_expiry_min_full` is proved (`C08_expiry_min_full_holds`); `C08_expiry_min_partial` is its
    corollary for notes not born notified.  What the code did before the repair of F5 is shown by
    `C08_expiry_min_old_code_witness`.
  * `C08_complete`: in EVERY reachable state a notified note `n` on which no thread has an
    activation of `note_notify_child` past the store any more has no descendant left in the
    current forest — each was notified and disconnected (in particular every descendant is
    notified).  No hypothesis about adoptions is needed: an adopter finds the note it frees still on
    the parent's list (repair of F7, "the last disconnector unlinks": `InvForest.linked`), so the
    parent has an activation in progress, which the adopter wakes (`children_adopted`) and which
    scans again before it ends (repair of F4).  `C08_complete_partial` is the same statement under
    the stronger hypothesis `ReachableH` (no adoption under an already notified parent).  The
    "every thread waiting on them is released" half and the statement in terms of threads still
    delivering (`C08_complete_full`) are in Props/C08Release.lean.
    `f4_repaired` below replays, on the repaired library, the schedule on which the unrepaired one
    stopped for ever: that state is left by a second scan, which notifies the adopted note;
    `C08_complete_old_code_witness` shows the state.  /verif/corpus/C08/f4_*.txt are the
    regressions.
  * `C08_unaffected`: `C08_unaffected_partial` is the statement w.r.t. the creation-time path
    (`ancEver`); the statement w.r.t. the current tree is `C08_unaffected_full` (proved in
    Props/C08Release.lean, `C08_unaffected_full_holds`: it needs the converse of `InvT`, which rests
    on the locks).  Both have a second disjunct: `nsync_note_new` itself sets the flag of the note it
    is creating (not yet returned to anybody) when the intended parent is notified.
-/
import NsyncVerif.Proofs.NoteFixG
import NsyncVerif.Proofs.NoteInvP
import NsyncVerif.Proofs.NoteWitness


namespace Note

/-! ### The flag is one-way -/

/-- C08: no step ever clears the flag of a note. -/
theorem C08_flag_monotone {s s' : State} {e : Event} (hr : Reachable s)
    (hs : step s e = .ok s') (n : NoteId) (hn : (s.notes n).notified = true) :
    (s'.notes n).notified = true :=
  (step_stable hs).flag n (hr.inv.1.flag n hn) hn

/-- … along any accepted continuation. -/
theorem C08_flag_monotone_run {s s' : State} {evs : List Event} (hr : Reachable s)
    (hs : run s evs = .ok s') (n : NoteId) (hn : (s.notes n).notified = true) :
    (s'.notes n).notified = true := by
  induction evs generalizing s with
  | nil => simp [run] at hs; exact hs ▸ hn
  | cons e es ih =>
    simp only [run] at hs
    cases h1 : step s e with
    | ok s1 => rw [h1] at hs; exact ih (hr.next h1) hs (C08_flag_monotone hr h1 n hn)
    | error m => rw [h1] at hs; cases hs

/-- The API-level notion is one-way too (flag or zero expiry). -/
theorem C08_notified_monotone {s s' : State} {e : Event} (hr : Reachable s)
    (hs : step s e = .ok s') (n : NoteId) (ha : (s.notes n).allocated = true)
    (hn : s.Notified n) : s'.Notified n :=
  (NA.step hr.inv.2.1 hs ⟨hn, ha⟩).1

/-! ### Observations are monotone -/

/-- C08: "once any observer has seen it notified no observer ever sees it un-notified".
    `s.observed` lists the completed calls of `nsync_note_is_notified` / `nsync_note_wait` with
    their results; `o.after` records (at the `call` event, `State.seenPos`) that a positive
    observation of the same note had already returned when this call started.  Every such
    observation is positive. -/
theorem C08_monotone {s : State} (hr : Reachable s) (o : Obs) (ho : o ∈ s.observed)
    (ha : o.after = true) : o.res = true :=
  hr.inv.2.1.mono o ho ha

/-- A positive observation is never wrong: the note is notified (and stays so). -/
theorem C08_observed_notified {s : State} (hr : Reachable s) (o : Obs) (ho : o ∈ s.observed)
    (hres : o.res = true) : s.Notified o.n :=
  (hr.inv.2.1.obs o ho hres).1

/-! ### Soundness: every notification has a cause -/

/-- The current ancestors of a note are among the notes recorded at its creation. -/
theorem C08_anc_ever {s : State} (hr : Reachable s) {a n : NoteId} (h : Anc s a n)
    (hn : (s.notes n).allocated = true) : a ∈ s.ancEver n := by
  have hS := hr.inv.2.2.1
  induction h with
  | refl => exact hS.self _ hn
  | up hp _ ih =>
    have hab := hS.parent _ _ hp
    exact hab.2 _ (ih (hS.anc _ _ hab.1))

/-- C08: a notified note `n` had `nsync_note_notify` called on a note `a` that is `n` itself or was
    on the path from `n`'s (intended) parent to the root when `n` was created, or the deadline
    passed to `nsync_note_new` for such an `a` has passed. -/
theorem C08_sound {s : State} (hr : Reachable s) (n : NoteId)
    (ha : (s.notes n).allocated = true) (hn : s.Notified n) :
    ∃ a, a ∈ s.ancEver n ∧
      (s.notifyCalled a = true ∨ ∃ e, s.ownDl a = some e ∧ e ≤ s.now) :=
  hr.invS.caused_of_notified ha hn

/-! ### Postcondition of nsync_note_notify -/

/-- C08: when `nsync_note_notify (n)` returns, `n` is notified. -/
theorem C08_notify_post {s s' : State} {t : Tid} (hr : Reachable s)
    (hs : step s (.ret t .notify) = .ok s') :
    ∃ n, s.pc t = .retNotify n ∧ s.Notified n ∧ s'.Notified n := by
  have hN := hr.inv.2.1
  have hc := hN.claim t
  have h := step_actor hs rfl
  generalize s.pc t = pc at h hc
  generalize s'.pc t = pc' at h
  cases h
  exact ⟨_, rfl, hc.1, (NA.step hN hs hc).1⟩

/-! ### nsync_note_expiry -/

/-- "The path from the note to the root": the ghost list `ancEver n` is `n` followed by the
    path of the `parent` that was passed to the `nsync_note_new` call that created `n` (ghost
    `cparent`, never changed afterwards — in particular not by the re-parenting that
    `nsync_note_free` of an ancestor performs in the real forest).  The statement of the expiry
    clause is about these CREATION-time ancestors. -/
theorem C08_creation_path {s : State} (hr : Reachable s) (n : NoteId)
    (hn : (s.notes n).allocated = true) :
    s.ancEver n = n :: (match s.cparent n with
      | some p => s.ancEver p
      | none => []) := by
  rw [hr.invP.path n hn]
  cases s.cparent n <;> rfl

/-- The ghosts are written by `nsync_note_new` itself: the step that allocates note `k` inside
    `nsync_note_new (par, dl)` records `dl` and `par`, and they never change (`Stable.ghost`,
    `step_cparent`). -/
theorem C08_creation_ghosts {s s' : State} {a : Tid} {k : NoteId} {par : Option NoteId} {dl : Dl}
    (hpc : s.pc a = .newMalloc par dl) (hs : step s (.malloc a (some k)) = .ok s') :
    s'.ownDl k = dl ∧ s'.cparent k = par := by
  have h := step_actor hs rfl
  rw [hpc] at h
  generalize s'.pc a = pc' at h
  cases h
  simp

/-- C08, expiry clause, at full strength: in every reachable state, for every note `n` that
    `nsync_note_new` has returned (born notified or not), `n->expiry_time` — the value
    `nsync_note_expiry (n)` returns — is the minimum of the deadlines passed to `nsync_note_new`
    for `n` and for the notes on its creation-time path to the root. -/
theorem C08_expiry_min {s : State} (hr : Reachable s) (n : NoteId) (hp : s.published n = true) :
    (s.notes n).expiry = Dl.minList (s.pathDeadlines n) := by
  obtain ⟨hA, _, _, hX⟩ := hr.inv
  rw [hX.min n hp, hr.invP.min n (hA.published n hp)]

/-- … as seen at the API: the value `v` that a call of `nsync_note_expiry (n)` returns. -/
theorem C08_expiry_min_ret {s s' : State} {t : Tid} {v : Dl} (hr : Reachable s)
    (hs : step s (.ret t (.expiry v)) = .ok s') :
    ∃ n, s.pc t = .retExpiry n ∧ v = Dl.minList (s.pathDeadlines n) := by
  have hc := hr.inv.2.2.2.claim t
  have h := step_actor hs rfl
  generalize s.pc t = pc at h hc
  generalize s'.pc t = pc' at h
  cases h
  exact ⟨_, rfl, ‹v = _› ▸ C08_expiry_min hr _ hc⟩

/-- The statement in terms of the ghost `pathMin` (computed incrementally by the model at
    creation; `InvP.min` ties it to `Dl.minList`): the value returned by `nsync_note_expiry (n)` is
    the minimum of the deadlines passed to `nsync_note_new` on the path from `n` to the root at
    creation. -/
def C08_expiry_min_full : Prop :=
  ∀ (s s' : State) (t : Tid) (v : Dl), Reachable s → step s (.ret t (.expiry v)) = .ok s' →
    ∃ n, s.pc t = .retExpiry n ∧ v = s.pathMin n

/-- … holds since the repair of F5 (it was refuted on the old code). -/
theorem C08_expiry_min_full_holds : C08_expiry_min_full := by
  intro s s' t v hr hs
  obtain ⟨n, hpc, hv⟩ := C08_expiry_min_ret hr hs
  have hX := hr.inv.2.2.2
  have hc := hX.claim t
  rw [hpc] at hc
  exact ⟨n, hpc, by rw [hv, ← hr.invP.min n (hr.inv.1.published n hc)]⟩

/-- The statement for notes not born notified, a corollary. -/
theorem C08_expiry_min_partial {s s' : State} {t : Tid} {v : Dl} (hr : Reachable s)
    (hs : step s (.ret t (.expiry v)) = .ok s') :
    ∃ n, s.pc t = .retExpiry n ∧ (s.bornNotified n = false → v = s.pathMin n) := by
  obtain ⟨n, hpc, hv⟩ := C08_expiry_min_full_holds s s' t v hr hs
  exact ⟨n, hpc, fun _ => hv⟩

theorem f5b_prefix_ok : (run init (Traces.f5bTrace.take 46)).toOption.isSome = true := by decide
theorem f5a_prefix_ok : (run init (Traces.f5aTrace.take 82)).toOption.isSome = true := by decide

/-- Non-vacuity, scenario of defect F5 (b) (trace recorded from the repaired library): the root is notified
    explicitly, a child with deadline 1100 s is created under it: it is born notified (flag set by
    nsync_note_new, never linked), and `nsync_note_expiry (child)` returns 1100 s — not (0,0). -/
example : ∃ s s' : State, Reachable s ∧
    step s (.ret 0 (.expiry (some 1100000000000))) = .ok s' ∧ s.pc 0 = .retExpiry 1 ∧
    s.bornNotified 1 = true ∧ (s.notes 1).notified = true ∧ (s.notes 1).parent = none ∧
    s.pathDeadlines 1 = [some 1100000000000, none] := by
  have hstep : (step (stateAfter _ f5b_prefix_ok)
      (.ret 0 (.expiry (some 1100000000000)))).toOption.isSome = true := by decide
  obtain ⟨s', hs'⟩ := step_of_isSome hstep
  exact ⟨_, s', reachable_stateAfter _ f5b_prefix_ok, hs', by decide, by decide, by decide,
    by decide, by decide⟩

/-- Non-vacuity, scenario of defect F5 (a) (trace recorded from the repaired library): the parent's deadline
    (1000 s + 1000 ns) is smaller than the child's own (1000 s + 2000 ns), both already in the past
    when the child is created: the child is born notified and reports the parent's deadline. -/
example : ∃ s s' : State, Reachable s ∧
    step s (.ret 0 (.expiry (some 1000000001000))) = .ok s' ∧ s.pc 0 = .retExpiry 2 ∧
    s.bornNotified 2 = true ∧ (s.notes 2).parent = none ∧
    s.pathDeadlines 2 = [some 1000000002000, some 1000000001000] := by
  have hstep : (step (stateAfter _ f5a_prefix_ok)
      (.ret 0 (.expiry (some 1000000001000)))).toOption.isSome = true := by decide
  obtain ⟨s', hs'⟩ := step_of_isSome hstep
  exact ⟨_, s', reachable_stateAfter _ f5a_prefix_ok, hs', by decide, by decide, by decide,
    by decide⟩

/-! #### What the code did before the repair (defect F5) -/

namespace OldF5

/-- A note as far as `nsync_note_new` reads it: the `notified` flag and `expiry_time`. -/
structure N where
  notified : Bool
  expiry : Dl
  deriving DecidableEq

/-- `NOTIFIED_TIME` -/
def ntime (r : N) : Dl := if r.notified then some 0 else r.expiry

/-- The new note after `set_expiry_time (n, dl); nsync_note_is_notified (n)` at time `now`: the
    flag is set (by `notify`) iff the deadline is non-zero and has passed; the second component
    is the result of `nsync_note_is_notified`. -/
def selfCheck (now : Nat) (dl : Dl) : N × Bool :=
  (⟨decide dl.pos && dl.leNow now, dl⟩, !decide dl.pos || dl.leNow now)

/-- `nsync_note_new (parent, dl)` at time `now` as it was BEFORE the repair (note.c:176-190 of the
    old tree), sequentially: the parent is consulted only if the new note is not notified, and
    what is taken from it is `NOTIFIED_TIME (parent)`, which is zero for a notified parent. -/
def noteNewOld (now : Nat) (parent : Option N) (dl : Dl) : N :=
  let (n, notified) := selfCheck now dl
  match notified, parent with
  | false, some p => if Dl.lt (ntime p) dl then { n with expiry := ntime p } else n
  | _, _ => n

/-- … and after the repair: the minimum with `parent->expiry_time` is always taken, and a note
    created under a notified parent gets the flag. -/
def noteNewFixed (now : Nat) (parent : Option N) (dl : Dl) : N :=
  let (n, notified) := selfCheck now dl
  match parent with
  | none => n
  | some p =>
    let n1 : N := { n with expiry := Dl.min dl p.expiry }
    if !notified && !decide (ntime p).pos then { n1 with notified := true } else n1

end OldF5

/-- Defect F5 as it was (the scenario of /verif/corpus/C08/f5_expiry_born_notified.txt, clock at
    1000 s): (a) a root with deadline 995 s and a child with deadline 997 s, both in the past: the
    old code gave the child the expiry time 997 s (the minimum is 995 s); (b) a root without
    deadline, notified explicitly, and a child with deadline 1100 s: the old code gave the child the
    expiry time (0,0) (the minimum is 1100 s).  The repaired function yields the minimum in both
    cases, and the child is notified in all four. -/
theorem C08_expiry_min_old_code_witness :
    let now := 1000000000000
    let rootA := OldF5.noteNewOld now none (some 995000000000)
    let rootB : OldF5.N := ⟨true, none⟩
    (OldF5.noteNewOld now (some rootA) (some 997000000000)).expiry = some 997000000000 ∧
    (OldF5.noteNewOld now (some rootB) (some 1100000000000)).expiry = some 0 ∧
    (OldF5.noteNewFixed now (some rootA) (some 997000000000)).expiry = some 995000000000 ∧
    (OldF5.noteNewFixed now (some rootB) (some 1100000000000)).expiry = some 1100000000000 ∧
    ¬ (OldF5.ntime (OldF5.noteNewOld now (some rootA) (some 997000000000))).pos ∧
    ¬ (OldF5.ntime (OldF5.noteNewOld now (some rootB) (some 1100000000000))).pos ∧
    ¬ (OldF5.ntime (OldF5.noteNewFixed now (some rootA) (some 997000000000))).pos ∧
    ¬ (OldF5.ntime (OldF5.noteNewFixed now (some rootB) (some 1100000000000))).pos := by
  decide

/-! ### Completeness of delivery -/

/-- C08 ("once no notification of it or of an ancestor is still in progress all its descendants
    are notified"), in EVERY reachable state: a notified note `n` on which no thread has an
    activation of `note_notify_child` past the store of the flag any more has no descendants left
    in the current forest: every descendant was notified and disconnected by that activation (or
    disconnected itself) — also those that `nsync_note_free` handed to `n` while the activation was
    waiting (the repair of F4: the adopter sets `children_adopted`, the activation scans again).
    In particular every descendant is notified.  (An activation on an ancestor of `n` that is still
    in progress has an activation on `n` only while it is inside `n`'s subtree.) -/
theorem C08_complete {s : State} (hr : Reachable s) (n : NoteId)
    (hn : (s.notes n).notified = true) (hq : ∀ t, ¬ Active (s.pc t) n) :
    (s.notes n).children = [] ∧ ∀ d, Anc s n d → d = n ∧ (s.notes d).notified = true := by
  have hch : (s.notes n).children = [] := by
    cases hc : (s.notes n).children with
    | nil => rfl
    | cons c cs =>
      obtain ⟨t, ht⟩ := hr.invJ n hn (by rw [hc]; simp)
      exact absurd ht (hq t)
  refine ⟨hch, ?_⟩
  have hT := hr.invT
  intro d hd
  have : d = n := by
    induction hd with
    | refl => rfl
    | up hp _ ih =>
      have := ih
      subst this
      have := hT.p2c _ _ hp
      rw [hch] at this
      cases this
  exact ⟨this, this ▸ hn⟩

/-- The statement under the hypothesis `ReachableH` (no adoption under an already notified parent),
    a corollary. -/
theorem C08_complete_partial {s : State} (h : ReachableH s) (n : NoteId)
    (hn : (s.notes n).notified = true) (hq : ∀ t, ¬ Active (s.pc t) n) :
    (s.notes n).children = [] ∧ ∀ d, Anc s n d → d = n ∧ (s.notes d).notified = true :=
  C08_complete h.reachable n hn hq

/-- The delivery invariant behind it, in every reachable state: a notified note that still has
    children has a thread with an activation of `note_notify_child` on it, past the store. -/
theorem C08_delivery_in_progress {s : State} (hr : Reachable s) (n : NoteId)
    (hn : (s.notes n).notified = true) (hc : (s.notes n).children ≠ []) :
    ∃ t, Active (s.pc t) n := hr.invJ n hn hc

theorem f4_prefix_ok : (run init Traces.f4Prefix).toOption.isSome = true := by decide
theorem f4_trace_ok : (run init Traces.f4Trace).toOption.isSome = true := by decide

/-- The scenario of defect F4 on the repaired library (tree note0 → note1 → note2,
    T0 `nsync_note_notify (note0)` ∥ T1 `nsync_note_free (note1)`, the frozen schedule of
    /verif/corpus/C08/f4_free_vs_notify_ancestor.txt).  After the first 82 events — the state in
    which the unrepaired code was stuck for ever — T1 has returned, T0 is inside
    WAIT_FOR_NO_CHILDREN (note0), note0 is notified and its child note2 (adopted from the freed
    note1) is not; but `note0->children_adopted` is set, so the wait is over (`waitDone`), and T0
    still has its activation on note0 (`Active`).  At the end of the run T0 has scanned again:
    note2 is notified and disconnected, `nsync_note_notify (note0)` has returned. -/
theorem f4_repaired :
    let s1 := stateAfter _ f4_prefix_ok
    let s2 := stateAfter _ f4_trace_ok
    (s1.pc 0 = .chd (.waitRet false) [⟨0, none⟩] ⟨0, none, .ofApi⟩ ∧ s1.pc 1 = .idle ∧
      (s1.notes 0).notified = true ∧ (s1.notes 0).children = [2] ∧
      (s1.notes 2).notified = false ∧ (s1.notes 2).disconnecting = 0 ∧
      (s1.notes 0).adopted = true ∧ (s1.notes 0).waitDone = true) ∧
    (s2.pc 0 = .idle ∧ s2.pc 1 = .idle ∧ (s2.notes 0).children = [] ∧
      (s2.notes 2).notified = true ∧ (s2.notes 2).parent = none ∧
      (s2.notes 0).disconnecting = 0 ∧ (s2.notes 2).disconnecting = 0) := by
  decide

/-- What the UNREPAIRED code did with this schedule (defect F4): exactly the first 82 events, after
    which it had no `children_adopted` to end T0's wait — T0 parked for ever above the un-notified
    note2.  (`f4_repaired` under the name the check uses for documented old behaviour.) -/
theorem C08_complete_old_code_witness :
    let s1 := stateAfter _ f4_prefix_ok
    s1.pc 0 = .chd (.waitRet false) [⟨0, none⟩] ⟨0, none, .ofApi⟩ ∧ s1.pc 1 = .idle ∧
      (s1.notes 0).notified = true ∧ (s1.notes 0).children = [2] ∧
      (s1.notes 2).notified = false ∧ (s1.notes 2).disconnecting = 0 ∧
      (s1.notes 0).adopted = true := by
  decide

/-- While a thread does have such an activation, every note on its stack below the innermost one
    is notified, and the innermost one is once the flag is stored. -/
theorem C08_stack_notified {s : State} (hr : Reachable s) {t : Tid} {pos : CPos} {f : Frame}
    {rest : List Frame} {top : Top} (hpc : s.pc t = .chd pos (f :: rest) top) :
    (∀ g ∈ rest, s.Notified g.note) ∧ (pos.stored = true → s.Notified f.note) := by
  have hc := hr.inv6.2.1.claim t
  rw [hpc] at hc
  exact ⟨fun g hg => (hc.2.2.2.1 g hg).1, hc.2.2.2.2.2.1⟩

/-! ### Ancestors and siblings are unaffected -/

/-- The statement w.r.t. the current tree: a flag is set only for a note that is, at that time, a
    descendant of the note whose `notify` the storing thread is in. -/
def C08_unaffected_full : Prop :=
  ∀ (s s' : State) (e : Event) (k : NoteId), Reachable s → step s e = .ok s' →
    (s.notes k).notified = false → (s'.notes k).notified = true →
    (∃ a pos stk top, e.actor = some a ∧ s.pc a = .chd pos stk top ∧ Anc s top.n k) ∨
    (∃ a p dl, e.actor = some a ∧ s.pc a = .newP .st k p dl ∧ s.published k = false ∧
      s.Notified p)

/-- C08 (proved part): a flag is set only by a thread inside `notify (n)` (reached from
    `nsync_note_notify (n)` or from the expiry of `n`'s deadline), and only for a note `k` that is `n`
    itself or had `n` on its path to the root when it was created.  Ancestors and siblings of `n`
    (which do not have `n` on their creation path, `Lt` being a strict order) are never touched.
    Since the repair of F5 there is a second way: `nsync_note_new` sets the flag of the note `k` it
    is creating — not yet returned to anybody (`published k = false`) — when it finds the intended
    parent `p` notified (note.c/7); no existing note is touched by that either. -/
theorem C08_unaffected_partial {s s' : State} {e : Event} {k : NoteId} (hr : Reachable s)
    (hs : step s e = .ok s') (h0 : (s.notes k).notified = false)
    (h1 : (s'.notes k).notified = true) :
    (∃ a f rest top, e.actor = some a ∧ s.pc a = .chd .st (f :: rest) top ∧ f.note = k ∧
      (k = top.n ∨ Lt s top.n k)) ∨
    (∃ a p dl, e.actor = some a ∧ s.pc a = .newP .st k p dl ∧ s.published k = false ∧
      s.Notified p) := by
  obtain ⟨hA, hN, hS, _, hL, _⟩ := hr.inv6
  rcases step_flag_new hs k h1 with h | ⟨a, f, rest, top, ha, hpc, hf⟩ | ⟨a, p, dl, ha, hpc⟩
  · rw [h0] at h; cases h
  · left
    refine ⟨a, f, rest, top, ha, hpc, hf, ?_⟩
    have hc := hL.claim a
    rw [hpc] at hc
    cases rest with
    | nil =>
      left
      rw [← hf, hc.single]
    | cons g gs =>
      right
      rw [← hf]
      exact LClaim.top_above hL hc
  · right
    have hc := hN.claim a
    rw [hpc] at hc
    exact ⟨a, p, dl, ha, hpc, (hA.creating a k (by rw [hpc]; simp)).2, (hc.2 rfl).1⟩

/-- … hence never for a note strictly above `n` (an ancestor, now or ever). -/
theorem C08_ancestors_unaffected {s s' : State} {e : Event} {k : NoteId} (hr : Reachable s)
    (hs : step s e = .ok s') (h0 : (s.notes k).notified = false)
    (h1 : (s'.notes k).notified = true) {a : Tid} {pos : CPos} {stk : List Frame} {top : Top}
    (ha : e.actor = some a) (hpc : s.pc a = .chd pos stk top) : ¬ Lt s k top.n := by
  have hL := hr.inv6.2.2.2.2.1
  rcases C08_unaffected_partial hr hs h0 h1 with ⟨a', f, rest, top', ha', hpc', _, hk⟩ |
    ⟨a', p, dl, ha', hpc', _⟩
  · rw [ha] at ha'; cases ha'
    rw [hpc] at hpc'; cases hpc'
    intro hlt
    rcases hk with hk | hk
    · subst hk; exact hlt.irrefl
    · exact Lt.asymm hL hlt hk
  · rw [ha] at ha'; cases ha'
    rw [hpc] at hpc'; cases hpc'

/-! ### Non-vacuity -/

/-- A 3-level tree notified from the root (accepted trace from the harness): all three flags set,
    the final `nsync_note_is_notified (note2)` returns 1. -/
example : (match run init Traces.treeTrace with
    | .ok s => (s.notes 0).notified && (s.notes 1).notified && (s.notes 2).notified &&
        decide ((s.notes 0).children = []) &&
        decide (s.observed.head?.map (fun o => (o.n, o.res)) = some (2, true))
    | .error _ => false) = true := by decide

/-- A deadline-driven notification performed by a poller: first poll 0, clock passes the deadline,
    second poll 1 and the flag is set by the poller itself. -/
example : (match run init Traces.deadlineTrace with
    | .ok s => (s.notes 0).notified && !(s.notifyCalled 0) &&
        decide (s.observed.map (fun o => (o.n, o.res, o.after)) =
          [(0, true, false), (1, false, false), (0, false, false)])
    | .error _ => false) = true := by decide

end Note
