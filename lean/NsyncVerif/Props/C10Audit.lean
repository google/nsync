/-
  Props/C10Audit.lean — axioms used by the theorems of Props/C10.lean and of the counter half of C19.
  Allowed: propext, Classical.choice, Quot.sound.
-/
import NsyncVerif.Props.C10
import NsyncVerif.Props.C19Counter

open Counter

#print axioms C10_linearizable
#print axioms C10_cas_atomic
#print axioms C10_tick_keeps
#print axioms C10_call_args_kept
#print axioms C10_add_returns
#print axioms C10_value_held
#print axioms C10_value_held_add
#print axioms C10_value_held_wait
#print axioms C10_wait_zero
#print axioms C10_wait_nonzero
#print axioms C10_release_all
#print axioms C10_release_all_unlock
#print axioms C10_released_posted
#print axioms C10_no_lost_wakeup
#print axioms C10_zero_stable
#print axioms C10_no_block_step
#print axioms C10_no_block_after_zero
#print axioms C10_wait_at_zero
#print axioms C10_record_lifetime
#print axioms C10_record_lifetime_post
#print axioms C10_record_lifetime_queue
#print axioms C10_record_lifetime_ret
#print axioms inv_of_reachable
#print axioms recs_of_reachable
#print axioms C19_counter_new_fail
#print axioms C19_counter_new_fail_no_access
#print axioms C19_counter_new_ok
#print axioms Counter.Driver.C19_driver_new_fail
#print axioms Counter.Driver.envOK_exec
