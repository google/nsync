import NsyncVerif.Props.C11
/-
  Props/C04WaitN.lean — the nsync_wait_n half of property C04:

    "Releasing the mutex and starting to wait is atomic with respect to wakers that hold the mutex, and a
     wait that consumes a wake-up reports it as a wake-up (… the object's index from nsync_wait_n) …"

  over the WaitN model (wait.c statement by statement + cv_enqueue / cv_dequeue / wake_waiters).

  * `C04_waitn_release_after_enqueue` — the lock annotation that releases the supplied mutex inside
    nsync_wait_n is accepted only at wait.c:62, when every object of the call has been through its enqueue.
  * `C04_waitn_enqueued_at_release` — at that program point every condition-variable record of the call is on
    its pcv->waiters queue, or has ALREADY been taken off it by a signaller (ghost `unl = waker`): a waker that
    acquires the mutex after this release therefore finds the caller queued (its signal / broadcast covers the
    caller), and one that signalled earlier, without the mutex, has already consumed-and-delivered its wake-up.
    Nothing in between: there is no state in which the mutex is released and the record is neither queued nor
    already woken.
  * `C04_waitn_enqueued_while_unlocked` — the same holds whenever the caller is at the P of the sleep loop
    (`atP`: about to sleep or asleep with the mutex released).
  * `C04_waitn_atomic` — the first two together, at the step that releases the mutex.

  Seeded change this is aimed at: `(*unlock) (mu)` moved in front of the enqueue loop
  (seeded/C04-waitn-unlocks-before-enqueue): the WaitN acceptor rejects the annotation at `wInit 0`.
-/
namespace WaitN

/-- The release of the supplied mutex inside nsync_wait_n happens after the enqueue loop: all `count` records
    exist, the caller still held the mutex until this very step. -/
theorem C04_waitn_release_after_enqueue {s s' : State} {t : Tid} {m : MuId} (hr : Reachable s)
    (hc : inCall (s.pc t) = true) (hm : (s.fr t).mu = some m) (hs : step s (.thr t (.annRel m)) = .ok s') :
    s.pc t = .wUnlock ∧ (s.fr t).recs.length = (s.fr t).count ∧ (s.fr t).held = true := by
  rcases C11_mutex_marks hr (.inl rfl) hc hm hs with ⟨_, h2, h3, h4⟩ | ⟨h1, _⟩
  · exact ⟨h2, h3, h4⟩
  · cases h1

/-- At the release of the supplied mutex every cv record of the call is on its queue or was already unlinked by
    a signaller. -/
theorem C04_waitn_enqueued_at_release {s : State} {t : Tid} {i c : Nat} {r : Rid} (hreach : Reachable s)
    (hp : s.pc t = .wUnlock) (hr : (s.fr t).recs[i]? = some r) (ho : (s.fr t).objs[i]? = some (.cv c)) :
    r ∈ (s.obj (.cv c)).queue ∨ (s.rcd r).unl = .waker := by
  have hl := linv_of_reachable hreach t
  rw [hp] at hl
  exact cv_rec_queued_or_woken hreach (by rw [hp]; rfl) hl.1.frees (by rw [hp]; simp [freshAt]) (by rw [hp]; rfl)
    (by intro k; rw [hp]; simp) hr ho

/-- … and is so again whenever the caller is at the P of the sleep loop, the mutex released. -/
theorem C04_waitn_enqueued_while_unlocked {s : State} {t : Tid} {i c : Nat} {r : Rid} (hreach : Reachable s)
    (hp : atP s t) (hr : (s.fr t).recs[i]? = some r) (ho : (s.fr t).objs[i]? = some (.cv c)) :
    r ∈ (s.obj (.cv c)).queue ∨ (s.rcd r).unl = .waker := by
  by_cases hq : r ∈ (s.obj (.cv c)).queue
  · exact .inl hq
  · exact .inr (C11_cv_unlinked_by_waker hreach hp hr ho hq)

/-- The two theorems together, as the statement reads: from the step that releases the mutex on, the caller is
    covered by every later wake-up of each of its condition variables. -/
theorem C04_waitn_atomic {s s' : State} {t : Tid} {m : MuId} {i c : Nat} {r : Rid} (hreach : Reachable s)
    (hc : inCall (s.pc t) = true) (hm : (s.fr t).mu = some m) (hs : step s (.thr t (.annRel m)) = .ok s')
    (hr : (s.fr t).recs[i]? = some r) (ho : (s.fr t).objs[i]? = some (.cv c)) :
    (s.fr t).recs.length = (s.fr t).count ∧ (r ∈ (s.obj (.cv c)).queue ∨ (s.rcd r).unl = .waker) := by
  have h := C04_waitn_release_after_enqueue hreach hc hm hs
  exact ⟨h.2.1, C04_waitn_enqueued_at_release hreach h.1 hr ho⟩

/-! ### non-vacuity and the seeded change -/

namespace Example

/-- nsync_wait_n (mu 0, no deadline, [cv 0]) up to the point where the next event is the release of mutex 0 -/
def upToUnlock : List Event :=
  [.thr 0 (.callWaitN (some 0) none [.cv 0] false)] ++ cvEnq 0 0 (.stk 4)

/-- the hypotheses of `C04_waitn_enqueued_at_release` / `C04_waitn_atomic` are met by a reachable state: the
    caller is at wait.c:62, holds the mutex, and its record is on pcv->waiters -/
example : (final upToUnlock).map (fun s => decide (s.pc 0 = .wUnlock ∧ (s.fr 0).mu = some 0 ∧ (s.fr 0).held = true
    ∧ (s.fr 0).recs[0]? = some (.stk 4) ∧ (s.fr 0).objs[0]? = some (.cv 0) ∧ Rid.stk 4 ∈ (s.obj (.cv 0)).queue)) = some true := by
  decide
example : accepts (upToUnlock ++ [.thr 0 (.annRel 0)]) = true := by decide
/-- the other disjunct: a signaller (not holding the mutex) unlinks the record BEFORE the caller releases the
    mutex — `unl = waker`, the record is off the queue -/
example : (final (upToUnlock ++ sigUnlink 1)).map (fun s => decide (s.pc 0 = .wUnlock ∧ (s.rcd (.stk 4)).unl = .waker
    ∧ Rid.stk 4 ∉ (s.obj (.cv 0)).queue)) = some true := by
  decide
/-- the seeded change (unlock moved in front of the enqueue loop) is rejected at its first event -/
example : accepts [.thr 0 (.callWaitN (some 0) none [.cv 0] false), .thr 0 (.annRel 0)] = false := by decide
/-- … and so is a release in the middle of the loop (two objects, first one enqueued) -/
example : accepts ([.thr 0 (.callWaitN (some 0) none [.cv 0, .cv 1] false)] ++ cvEnq 0 0 (.stk 4) ++ [.thr 0 (.annRel 0)]) = false := by
  decide

end Example

end WaitN
