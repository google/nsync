/-
  Property C19 (note half): "If memory cannot be obtained, nsync_note_new returns NULL and leaves
  every existing object (in particular the intended parent note) unchanged and usable."

  Model: `NsyncVerif.Model.Note` (acceptor of note.c at one-atomic-operation granularity).  The
  failing allocation is the event `malloc t none` of a thread inside `nsync_note_new`.
  Everything is proved; nothing is partial.
-/
import NsyncVerif.Proofs.NoteFrame

namespace Note

theorem State.ext' {a b : State} (h1 : a.notes = b.notes) (h2 : a.recs = b.recs)
    (h3 : a.now = b.now) (h4 : a.pc = b.pc) (h5 : a.users = b.users) (h6 : a.freeing = b.freeing)
    (h7 : a.published = b.published) (h8 : a.notifyCalled = b.notifyCalled)
    (h9 : a.ownDl = b.ownDl) (h10 : a.ancEver = b.ancEver) (h11 : a.pathMin = b.pathMin)
    (h12 : a.bornNotified = b.bornNotified) (h13 : a.after = b.after)
    (h14 : a.observed = b.observed) (h15 : a.cparent = b.cparent) : a = b := by
  cases a; cases b; simp_all

/-- C19: when `malloc` fails inside `nsync_note_new`, nothing but the caller's program counter
    changes (no note, no waiter record, no ghost), and the only thing the caller can do next is to
    return NULL: zero further operations. -/
theorem C19_note_new_fail {s s1 : State} {t : Tid} {par : Option NoteId} {dl : Dl}
    (hpc : s.pc t = .newMalloc par dl) (hs : step s (.malloc t none) = .ok s1) :
    s1 = s.setPc t (.newRetNull par) ∧
    (∀ k, s1.notes k = s.notes k) ∧
    (∀ e s2, e.actor = some t → step s1 e = .ok s2 → e = .ret t (.new none)) := by
  have h := step_actor hs rfl
  rw [hpc] at h
  generalize s1.pc t = pc' at h
  cases h
  refine ⟨rfl, fun _ => rfl, fun e s2 ha he => ?_⟩
  have h2 := step_actor he ha
  rw [setPc_pc, upd_same] at h2
  generalize s2.pc t = pc2 at h2
  cases h2 <;> rfl

/-- C19: the failed call is a no-op: after `call nsync_note_new p d`, `malloc NULL`,
    `ret nsync_note_new NULL` the state is exactly the state before the call — the intended parent
    (its flag, lock, children, waiters, disconnecting count, and the set of threads using it) and
    every other object are unchanged, so every continuation accepted before is accepted after. -/
theorem C19_parent_usable {s s1 s2 s3 : State} {t : Tid} {par : Option NoteId} {dl : Dl}
    (h1 : step s (.call t (.new par dl)) = .ok s1) (h2 : step s1 (.malloc t none) = .ok s2)
    (h3 : step s2 (.ret t (.new none)) = .ok s3) :
    s3 = s ∧ ∀ evs, run s3 evs = run s evs := by
  have : s3 = s := by
    have a1 := step_actor h1 rfl
    have a2 := step_actor h2 rfl
    have a3 := step_actor h3 rfl
    generalize hidle : s.pc t = pc0 at a1
    generalize hp1 : s1.pc t = pc1 at a1 a2
    generalize hp2 : s2.pc t = pc2 at a2 a3
    generalize s3.pc t = pc3 at a3
    cases a1 <;> cases a2 <;> cases a3
    · obtain ⟨notes, recs, now, pc, users, fr, pu, nc, od, cp, ae, pm, bn, af, ob⟩ := s
      simp only [State.setPc, State.mk.injEq, true_and, and_true]
      funext u
      simp only [upd_apply]
      split
      · next h => rw [h]; exact hidle.symm
      · rfl
    · obtain ⟨notes, recs, now, pc, users, fr, pu, nc, od, cp, ae, pm, bn, af, ob⟩ := s
      simp only [State.leave, State.delUser, State.setPc, State.addUser, State.mk.injEq, true_and,
        and_true]
      constructor
      · funext u
        simp only [upd_apply]
        split
        · next h => rw [h]; exact hidle.symm
        · rfl
      · funext k
        simp only [upd_apply]
        split
        · next h => subst h; simp
        · rfl
  exact ⟨this, fun evs => by rw [this]⟩

/-- Non-vacuity: a concrete accepted trace — a root, then a child creation whose `malloc` fails,
    then the parent is notified and polled as if nothing had happened. -/
example :
    (match run init [
        .tick 10, .call 0 (.new none none), .malloc 0 (some 0),
        .ld 0 .dlLd1 .acq 0 0, .lockCall 0 0, .lockRet 0, .ld 0 .dlLd2 .acq 0 0,
        .unlockCall 0 0, .unlockRet 0, .now 0 10, .ret 0 (.new (some 0)),
        .call 1 (.new (some 0) (some 50)), .malloc 1 none, .ret 1 (.new none),
        .call 1 (.isNotified 0), .ld 1 .dlLd1 .acq 0 0, .lockCall 1 0, .lockRet 1,
        .ld 1 .dlLd2 .acq 0 0, .unlockCall 1 0, .unlockRet 1, .now 1 10,
        .ret 1 (.isNotified false)] with
      | .ok s => decide ((s.notes 0).children = []) && (s.users 0).isEmpty && !(s.notes 1).allocated
      | .error _ => false) = true := by
  decide

end Note
