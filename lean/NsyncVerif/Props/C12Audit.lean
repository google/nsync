/- Axiom audit of the `C12_*` theorems (allowed: propext, Classical.choice, Quot.sound). -/
import NsyncVerif.Props.C12

open NsyncVerif.Futex

#print axioms C12_conservation
#print axioms C12_takes_le_posts
#print axioms C12_success_le_posts
#print axioms C12_word_fits
#print axioms C12_take_positive
#print axioms C12_take_exact
#print axioms C12_success_needs_post
#print axioms C12_success_ret_consumes_take
#print axioms C12_no_lost_post
#print axioms C12_sleeper_is_owner
#print axioms C12_post_enables
#print axioms C12_post_enables_take4
#print axioms C12_future_wait_returns
#print axioms C12_future_timed_wait_returns
#print axioms C12_post_kept_on_timeout
#print axioms C12_wait_rechecks
#print axioms C12_wait_only_after_zero_load
#print axioms C12_sleep_only_if_zero
#print axioms C12_timeout_real
#print axioms C12_deadline_set
#print axioms C12_deadline_stable
#print axioms C12_no_deadline_never_times_out
#print axioms C12_faults_harmless
#print axioms C12_premature_timeout_rechecks
#print axioms C12_refines_init
#print axioms C12_refines
#print axioms C12_refines_labels
#print axioms C12_refines_run
