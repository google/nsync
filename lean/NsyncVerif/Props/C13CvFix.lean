/-
  Property C13, condition-variable part, on the REPAIRED cv.c (/verif/fixes/F3/cv_fix.diff).

  "no waker accesses the bookkeeping of an nsync_wait_n or cancellable wait after that call can
   have returned, so the caller's stack frame may be reused immediately."

  Model: `NsyncVerif/Model/CvFix.lean`.  Every step carries the ghost label `touches s e`: the
  records whose memory the step reads or writes (the `waiting` flag, `remove_count`, `flags` /
  `l_type` / `cv_mu`, `sem`, the dll links of the element and of its neighbours — over-approximated
  by the whole list the element is on; the membership walk of the repaired `cv_dequeue` reads the
  links of every element of the queue).  In the repaired `wake_waiters` the read of `p_nw->sem`
  belongs to the step that stores `waiting := 0` (it precedes the store in program order); the V
  works on the local copy and touches no record.
  Quantifier: all reachable states, all events, both semaphore flavours.

  WHAT IS PROVED (everything in full, for ALL record kinds)
  * `C13_record_touch`: whenever cv.c code run by a thread `u` that is not the record's owner
    touches a record — pooled `waiter` or `nsync_waiter_s` of nsync_wait_n — the record is in the
    cv queue or on `u`'s private `to_wake_list`; it still has `waiting = 1`; it is registered; and
    if it is a record of nsync_wait_n, the call that owns it is still in progress
    (`alive`: same owner, same call, owner inside nsync_wait_n): the stack frame / heap array is
    valid.  `C13_record_touch_nw_full_true`: the statement refuted for the pinned code
    (`Cv.C13_record_touch_nw_full_false`) holds here.
  * `C13_listed_owner_waits`: a record on a waker's list has `waiting = 1`, so its owner cannot
    leave: a cv wait stays in its loop (cv.c:249), the repaired `cv_dequeue` stays in its wait
    loop.
  * `C13_owner_returns_clean` (cv wait leaves its loop) and `C13_owner_returns_clean_waitn`
    (`cv_dequeue` returns): the record is in no queue, on no waker's list, idle, and off the
    call's list; `C13_idle_not_touched`: from there on no step of another thread touches it (until
    its owner enqueues it again).
  * `C13_late_V_touches_nothing`: the two F3 schedules continued — the waker's V after the owner has
    returned is accepted and its label is empty.
-/
import NsyncVerif.Proofs.CvFixInvG
import NsyncVerif.Props.C04Fix

namespace NsyncVerif.CvFix

/-- Every touch by cv.c code of a non-owner happens while the record is registered with the acting
    thread: in the queue or on that thread's private list, `waiting = 1`; a record of nsync_wait_n
    is then alive.  (The owner is taken after the step: the first store of a wait, cv.c:201, is
    what makes the storing thread the owner.) -/
theorem C13_record_touch {cfg : Config} {s s' : State} {e : Event} {r : Rid} {u : Tid}
    (h : Reachable cfg s) (hs : step cfg s e = .ok s') (hr : r ∈ touches s e) (hu : e.tid = some u)
    (ho : (s'.recs r).owner ≠ u) :
    (r ∈ s.queue ∨ r ∈ (s.thr u).list) ∧ (s.recs r).waiting = true ∧ (s.recs r).stat.registered = true ∧
    (r.isMucv = false → alive s r = true) := by
  have hi := inv_reachable h
  have hg := invG_reachable h
  have ht := touch_registered hi (step_tr hs) r hr u hu ho
  have hst : (s.recs r).stat = .queued ∨ (s.recs r).stat = .listed u := by
    rcases ht with hq | hl
    · exact .inl ((hi.a.qMem r).mp hq)
    · exact .inr ((hi.a.lMem u r).mp hl)
  refine ⟨ht, ?_, ?_, ?_⟩
  · rcases hst with e | e
    · exact hi.a.qWait r e
    · exact hi.b.lWait r u e
  · rcases hst with e | e <;> simp [e, RStat.registered]
  · intro hm
    exact registered_alive hi.a hg r hm (by rcases hst with e | e <;> simp [e])

/-- The claim for the records of nsync_wait_n in the form that is refuted for the pinned code. -/
def C13_record_touch_nw_full : Prop :=
  ∀ (cfg : Config) (s s' : State) (e : Event) (r : Rid) (u : Tid), Reachable cfg s → step cfg s e = .ok s' →
    r ∈ touches s e → e.tid = some u → r.isMucv = false → (s'.recs r).owner ≠ u → alive s r = true

theorem C13_record_touch_nw_full_true : C13_record_touch_nw_full :=
  fun _ _ _ _ _ _ h hs hr hu hm ho => (C13_record_touch h hs hr hu ho).2.2.2 hm

/-- A record that is on a waker's list still has `waiting = 1` — every kind of record: its owner is
    inside the wait loop of nsync_cv_wait* or of cv_dequeue, so the STORE of wake_waiters goes to a
    record whose owner has not moved on. -/
theorem C13_listed_owner_waits {cfg : Config} {s : State} {r : Rid} {u : Tid} (h : Reachable cfg s)
    (hr : r ∈ (s.thr u).list) : (s.recs r).waiting = true := by
  have hi := inv_reachable h
  exact hi.b.lWait r u ((hi.a.lMem u r).mp hr)

/-- … and if it is a record of nsync_wait_n its memory is valid. -/
theorem C13_listed_alive {cfg : Config} {s : State} {r : Rid} {u : Tid} (h : Reachable cfg s)
    (hr : r ∈ (s.thr u).list) (hm : r.isMucv = false) : alive s r = true := by
  have hi := inv_reachable h
  have := (hi.a.lMem u r).mp hr
  exact registered_alive hi.a (invG_reachable h) r hm (by simp [this])

/-- When a cv wait leaves its loop (cv.c:249 observes `waiting == 0`) its record is in no queue and
    on no waker's private list.  From there to the `ret` the call does not touch the record again
    (the acceptor has no record event at the program points after the loop). -/
theorem C13_owner_returns_clean {cfg : Config} {s s' : State} {t : Tid} {r : Rid} (h : Reachable cfg s)
    (hs : step cfg s (.recLd t .wHead r 0) = .ok s') :
    r ∉ s'.queue ∧ (∀ u, r ∉ (s'.thr u).list) ∧ (s'.recs r).stat = .idle := by
  obtain ⟨_, _, hst, _⟩ := wHead_exit_accepted hs
  have hi := (inv_reachable (reachable_step h hs)).a
  refine ⟨?_, ?_, hst⟩
  · intro hm; have := (hi.qMem r).mp hm; rw [hst] at this; cases this
  · intro u hm; have := (hi.lMem u r).mp hm; rw [hst] at this; cases this

/-- When `cv_dequeue` returns (either way) its record is in no queue, on no waker's private list,
    idle, and no longer on the list of the call: nsync_wait_n may free the array / return. -/
theorem C13_owner_returns_clean_waitn {cfg : Config} {s s' : State} {t : Tid} {r : Rid} {e : Event}
    (h : Reachable cfg s) (hs : step cfg s e = .ok s') (hd : deqReturns s t r e) :
    r ∉ s'.queue ∧ (∀ u, r ∉ (s'.thr u).list) ∧ (s'.recs r).stat = .idle ∧ r ∉ (s'.thr t).mine := by
  obtain ⟨_, _, _, _, _, hst, _, hnm⟩ := C04_outcome h hs hd
  have hi' := inv_reachable (reachable_step h hs)
  refine ⟨?_, ?_, hst, hnm⟩
  · intro hm; have := (hi'.a.qMem r).mp hm; rw [hst] at this; cases this
  · intro u hm; have := (hi'.a.lMem u r).mp hm; rw [hst] at this; cases this

/-- No step of a thread other than the owner touches an idle record: after the owner's call has
    let go of it, nobody looks at it again (until the owner itself enqueues it anew). -/
theorem C13_idle_not_touched {cfg : Config} {s s' : State} {e : Event} {r : Rid} {u : Tid}
    (h : Reachable cfg s) (hs : step cfg s e = .ok s') (hu : e.tid = some u)
    (ho : (s'.recs r).owner ≠ u) (hidle : (s.recs r).stat = .idle) : r ∉ touches s e := by
  intro hr
  have := (C13_record_touch h hs hr hu ho).2.2.1
  rw [hidle] at this; simp [RStat.registered] at this

/-- The first window of F3 on the repaired code, continued: `f3Fixed` ends with the owner back in its
    caller; the waker has finished.  Second window: the waker stores `waiting := 0`; the owner,
    which has not gone to sleep yet, sees it, dequeues (nothing to do) and returns; the waker's V
    is accepted afterwards and touches NO record (on the pinned code it read `p_nw->sem` from the
    dead frame: `Cv.C13_nw_sem_read_after_return`). -/
def semReadTrace : List Event := [
  .tick 100, .callWaitN 0, .nwInit 0 (.nw 0),
  .wordLd 0 .spin0 0, .wordCas 0 0 1 0 true, .recSt 0 .enqSt (.nw 0) 1 0, .wordSt 0 .enqRel 2 1,
  .callBroadcast 1, .wordLd 1 .bcLd 2, .wordLd 1 .spin0 2, .wordCas 1 2 3 2 true, .wordSt 1 .bcRel 0 3,
  .recSt 1 .wake (.nw 0) 0 1,
  .recLd 0 .ready (.nw 0) 0,
  .wordLd 0 .spin0 0, .wordCas 0 0 1 0 true, .recLd 0 .deqLd (.nw 0) 0, .wordSt 0 .deqRel 0 1, .retWaitN 0]

theorem C13_late_V_touches_nothing :
    okRun ⟨false⟩ semReadTrace = true ∧
    ((runD ⟨false⟩ semReadTrace).thr 0).loc = .idle ∧
    alive (runD ⟨false⟩ semReadTrace) (.nw 0) = false ∧
    okRun ⟨false⟩ (semReadTrace ++ [.semV 1 0, .retBroadcast 1]) = true ∧
    touches (runD ⟨false⟩ semReadTrace) (.semV 1 0) = [] ∧
    -- the store that precedes it (label: the record and the rest of the waker's list) found the record alive
    (.nw 0) ∈ touches (runD ⟨false⟩ (semReadTrace.take 12)) (.recSt 1 .wake (.nw 0) 0 1) ∧
    alive (runD ⟨false⟩ (semReadTrace.take 12)) (.nw 0) = true := by decide

/-- Non-vacuity of `C13_record_touch` for a record of nsync_wait_n: the waker's store in the F3
    schedule touches `nw0` while its owner (thread 0) is in the wait loop of cv_dequeue. -/
example : okRun ⟨false⟩ (f3Fixed.take 23) = true ∧
    (.nw 0) ∈ touches (runD ⟨false⟩ (f3Fixed.take 22)) (.recSt 1 .wake (.nw 0) 0 1) ∧
    ((runD ⟨false⟩ (f3Fixed.take 22)).recs (.nw 0)).owner = 0 ∧
    ((runD ⟨false⟩ (f3Fixed.take 22)).thr 0).loc = .nDeqSpin ∧
    alive (runD ⟨false⟩ (f3Fixed.take 22)) (.nw 0) = true := by decide

/-- … and for a pooled record: the waker's store touches `w0` while it is on the waker's list. -/
example : okRun ⟨false⟩ (exBroadcast.take 22) = true ∧
    (.w 0) ∈ touches (runD ⟨false⟩ (exBroadcast.take 21)) (.recSt 1 .wake (.w 0) 0 1) ∧
    ((runD ⟨false⟩ (exBroadcast.take 21)).thr 1).list = [.w 0] ∧
    touches (runD ⟨false⟩ (exBroadcast.take 22)) (.semV 1 0) = [] := by decide

end NsyncVerif.CvFix
