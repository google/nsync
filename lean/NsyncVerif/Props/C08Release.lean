/-
  Property C08, the two clauses that are not in Props/C08.lean:
    "… once no notification of it or of an ancestor is still in progress all its descendants are
     notified and EVERY THREAD WAITING ON THEM IS RELEASED, while ANCESTORS AND SIBLINGS ARE
     UNAFFECTED …"

  Model: `NsyncVerif.Model.Note` (note.c after the repair of F5 and of F4 / F7 —
  /verif/fixes/F4F7/note_fix.diff —, and the `nsync_wait_n` path of
  `nsync_note_wait`: the waiter records `nw<r>`, events `stW`, `sem v`, `sem pd_enter/pd_ret`).
  All theorems quantify over every reachable state (every forest, number of threads, schedule,
  clock).

  STATUS
  * Waiter release, safety form (no fairness; the semaphore is the harness-provided black box of
    assumption A3, so "released" = `waiting` cleared ∧ the V performed, or owed by a thread that
    is at the `nsync_mu_semaphore_v` of an activation of `note_notify_child` still in progress):
      `C08_waiters_released` — UNCONDITIONAL (no `ReachableH`), for the note itself: whenever the
          flag of `d` is set and no thread has an activation of `note_notify_child` on `d` past the
          store of the flag (`Active`), `d->waiters` is empty, every waiter record of `d` has
          `waiting = 0`, and every record whose owner is about to sleep / asleep on its semaphore
          has had its V (`posted ≥ 1`).  (The hypothesis asks for no activation on `d` ITSELF;
          activations on ancestors or descendants may still be in progress.)
      `C08_no_lost_wakeup` — the same as an invariant of ALL reachable states, activations in
          progress included: a sleeping owner's record is queued with `waiting = 1` (and if the
          note's flag is set a thread is inside the wake loop of that note), or has just been
          unlinked by the wake loop, or its V is owed by a thread at the V, or its V was performed.
      `C08_notified_waiters_in_progress`, `C08_waiting_record` — the two facts behind it.
      `C08_complete_released` — the completeness clause for the DESCENDANTS, flags and waiters
          together, in EVERY reachable state (it extends `C08_complete`, Props/C08.lean).
      `C08_complete_full_holds : C08_complete_full` — the statement in terms of threads: once no
          thread is DELIVERING any more (inside notify / note_notify_child / nsync_note_free and
          not parked in a WAIT_FOR_NO_CHILDREN whose condition is false), every descendant of a
          notified note is notified and has no waiter record that is still waiting.  It fails on the
          unrepaired code (F4: a thread parked for ever above an un-notified adopted note); on the
          repaired code a parked thread always has a delivering thread below it
          (`no_wait_blocked_all`, Proofs/NoteFixP.lean — I2 and the exact `disconnecting` count).
      Limit of the model: the semaphore count is not part of the state (A3: `pd_ret 0` may
          happen at any time), so "the V has been performed" is the ghost counter `posted ≥ 1` of
          the record; that the sleeper then does return from P is the semaphore's contract.
  * Unaffected, w.r.t. the CURRENT forest:
      `C08_child_iff_parent` — the converse of `InvT` (and `InvT`): `c ∈ p->children ↔
          c->parent == p`, children lists have no duplicates (`C08_children_nodup`).  It rests on
          the locks (`LockInv`), on the `disconnecting` counters (`InvForest.cnt`) and on the local
          `parent` of notify / nsync_note_free being the note's parent until the thread itself has
          seen the note disconnected (`InvForest.linked`, `InvForest.stale`).
      `C08_unaffected_full_holds : C08_unaffected_full` — proved: a flag is set only for a note
          that is, at the time of the store, the note `n` of the `notify (n)` the storing thread is
          in or a descendant of `n` in the current forest (or by nsync_note_new for the unpublished
          note it is creating).  `C08_unaffected` is the sharper form (the whole activation stack is
          a path of the current forest), `C08_siblings_unaffected` the contrapositive.  A
          grandchild adopted by the grand-parent (nsync_note_free of the note in between) IS a
          descendant of the grand-parent from then on; the statement is about the forest at the
          time of each store, so this is consistent.
  * Non-vacuity: `example`s by `decide` on two traces recorded from the library
    (Proofs/NoteRelTraces.lean; both are accepted unchanged by the model of the repaired code).
-/
import NsyncVerif.Proofs.NoteFixP
import NsyncVerif.Proofs.NoteRelTraces
import NsyncVerif.Props.C08


namespace Note

/-! ### Every thread waiting on a notified note is released -/

/-- The owner of waiter record `r` is about to sleep, or asleep, on the semaphore of the record
    (`nsync_mu_semaphore_p_with_deadline` in the wait loop of `nsync_wait_n`). -/
def Blocked (s : State) (r : Rid) : Prop :=
  ∃ m wdl, s.pc (s.recs r).owner = .wt (.pdEnter m) (s.recs r).note wdl r ∨
    s.pc (s.recs r).owner = .wt (.pdRet m) (s.recs r).note wdl r

theorem Blocked.mustQ {s : State} {r : Rid} (h : Blocked s r) :
    (s.pc (s.recs r).owner).mustQ = some r := by
  obtain ⟨m, wdl, h | h⟩ := h <;> rw [h] <;> rfl

/-- C08: a notified note with a non-empty `waiters` list has a thread inside the loop of
    `note_notify_child` that wakes its waiters (note.c:114-119) — an activation in progress. -/
theorem C08_notified_waiters_in_progress {s : State} (hr : Reachable s) (d : NoteId)
    (hn : (s.notes d).notified = true) (hw : (s.notes d).waiters ≠ []) :
    ∃ t, WakeLoop (s.pc t) d ∧ Active (s.pc t) d := by
  obtain ⟨t, ht⟩ := hr.invR.wake d hn hw
  exact ⟨t, ht, ht.active⟩

/-- C08: where a record with `waiting = 1` is: on the `waiters` list of its note, or unlinked by
    the wake loop of that note and about to have `waiting` cleared (note.c/2), or unlinked by its
    owner's `note_dequeue` (note.c/12) while the note is not notified. -/
theorem C08_waiting_record {s : State} (hr : Reachable s) (r : Rid)
    (hw : (s.recs r).waiting = true) :
    r ∈ (s.notes (s.recs r).note).waiters ∨
    (∃ t f rest top, s.pc t = .chd (.wake r) (f :: rest) top ∧ f.note = (s.recs r).note) ∨
    (∃ wdl, s.pc (s.recs r).owner = .wt .qSt (s.recs r).note wdl r ∧
      (s.notes (s.recs r).note).notified = false) := by
  rcases hr.invR.waiting r hw with h | h | ⟨wdl, h⟩
  · exact Or.inl h
  · exact Or.inr (Or.inl h)
  · exact Or.inr (Or.inr ⟨wdl, h, hr.invR.qst _ _ _ _ h⟩)

/-- C08 (waiter release as an invariant of all reachable states): the wake-up of a thread that is
    about to sleep / asleep on waiter record `r` of note `d` is never lost.  Either the record is
    still waiting (`waiting = 1`) — then it is on `d->waiters`, or in the hands of the wake loop
    of `d` — or `waiting` has been cleared and the V is owed by a thread at the
    `nsync_mu_semaphore_v` of the wake loop of `d`, or the V has been performed. -/
theorem C08_no_lost_wakeup {s : State} (hr : Reachable s) (r : Rid) (hb : Blocked s r) :
    ((s.recs r).waiting = true ∧
      (r ∈ (s.notes (s.recs r).note).waiters ∨
       ∃ t f rest top, s.pc t = .chd (.wake r) (f :: rest) top ∧ f.note = (s.recs r).note)) ∨
    ((s.recs r).waiting = false ∧
      ((∃ t f rest top, s.pc t = .chd (.semV r) (f :: rest) top ∧ f.note = (s.recs r).note) ∨
       1 ≤ (s.recs r).posted)) := by
  have hR := hr.invR
  cases hw : (s.recs r).waiting with
  | true =>
    left
    refine ⟨rfl, ?_⟩
    rcases hR.waiting r hw with h | h | ⟨wdl, h⟩
    · exact Or.inl h
    · exact Or.inr h
    · obtain ⟨m, wdl', h' | h'⟩ := hb <;> (rw [h] at h'; cases h')
  | false =>
    right
    refine ⟨rfl, ?_⟩
    rcases hR.must _ r hb.mustQ with h | ⟨t, f, rest, top, ht⟩ | h
    · rw [hw] at h; cases h
    · exact Or.inl ⟨t, f, rest, top, ht, (hR.unl t _ f rest top r ht (Or.inr rfl)).2.symm⟩
    · exact Or.inr h

/-- C08 ("every thread waiting on them is released"), unconditional, for the note itself: when
    the flag of `d` is set and no thread has an activation of `note_notify_child` on `d` past the
    store of the flag, then `d->waiters` is empty, every waiter record of `d` has `waiting = 0`,
    and every record whose owner is about to sleep / asleep on its semaphore has been posted. -/
theorem C08_waiters_released {s : State} (hr : Reachable s) (d : NoteId)
    (hn : (s.notes d).notified = true) (hq : ∀ t, ¬ Active (s.pc t) d) :
    (s.notes d).waiters = [] ∧
    ∀ r, (s.recs r).used = true → (s.recs r).note = d →
      (s.recs r).waiting = false ∧ (Blocked s r → 1 ≤ (s.recs r).posted) := by
  have hR := hr.invR
  have hw0 : (s.notes d).waiters = [] := by
    cases hw : (s.notes d).waiters with
    | nil => rfl
    | cons r ws =>
      obtain ⟨t, _, ht⟩ := C08_notified_waiters_in_progress hr d hn (by rw [hw]; simp)
      exact absurd ht (hq t)
  refine ⟨hw0, fun r _ hd => ?_⟩
  have hwf : (s.recs r).waiting = false := by
    cases hw : (s.recs r).waiting with
    | false => rfl
    | true =>
      exfalso
      rcases C08_waiting_record hr r hw with h | ⟨t, f, rest, top, ht, hf⟩ | ⟨wdl, _, h⟩
      · rw [hd, hw0] at h; cases h
      · exact hq t (by rw [ht]; exact Or.inl ⟨by rw [hf, hd], rfl⟩)
      · rw [hd, hn] at h; cases h
  refine ⟨hwf, fun hb => ?_⟩
  rcases C08_no_lost_wakeup hr r hb with ⟨h, _⟩ | ⟨_, ⟨t, f, rest, top, ht, hf⟩ | h⟩
  · rw [hwf] at h; cases h
  · exact absurd (by rw [ht]; exact Or.inl ⟨by rw [hf, hd], rfl⟩) (hq t)
  · exact h

/-- C08, completeness of delivery for the descendants, flags and waiters together, in EVERY
    reachable state: once no thread has an activation of `note_notify_child` on the notified note
    `n` past the store any more, every descendant `d` of `n` in the current forest is notified,
    has an empty `waiters` list, and every waiter record of `d` is released. -/
theorem C08_complete_released {s : State} (hr : Reachable s) (n : NoteId)
    (hn : (s.notes n).notified = true) (hq : ∀ t, ¬ Active (s.pc t) n) (d : NoteId)
    (hd : Anc s n d) :
    (s.notes d).notified = true ∧ (s.notes d).waiters = [] ∧
    ∀ r, (s.recs r).used = true → (s.recs r).note = d →
      (s.recs r).waiting = false ∧ (Blocked s r → 1 ≤ (s.recs r).posted) := by
  obtain ⟨hdn, hdf⟩ := (C08_complete hr n hn hq).2 d hd
  subst hdn
  exact ⟨hdf, C08_waiters_released hr d hdf hq⟩

/-- The thread is still delivering a notification / disconnecting a note: it is inside `notify`,
    `note_notify_child` or `nsync_note_free`, and not parked in a WAIT_FOR_NO_CHILDREN whose
    condition is false (where it only waits for other threads). -/
def Delivering (s : State) (t : Tid) : Prop :=
  InNotify (s.pc t) = true ∧ ¬ WaitBlocked s t

/-- The statement at full strength: once no thread is delivering any more, every descendant `d`
    of a notified note `n` is notified and has no waiter record that is still waiting. -/
def C08_complete_full : Prop :=
  ∀ s, Reachable s → (∀ t, ¬ Delivering s t) →
    ∀ n d, (s.notes n).notified = true → Anc s n d →
      (s.notes d).notified = true ∧
      ∀ r, (s.recs r).used = true → (s.recs r).note = d → (s.recs r).waiting = false

/-- … holds for the repaired code: when nobody is delivering, nobody is inside `notify` /
    `note_notify_child` / `nsync_note_free` at all (a parked thread always has a delivering thread
    below it), so no activation is in progress and `C08_complete_released` applies. -/
theorem C08_complete_full_holds : C08_complete_full := by
  intro s hr hno n d hn hd
  have hnone : ∀ t, InNotify (s.pc t) = false := by
    refine no_wait_blocked_all hr (fun u hu => ?_)
    exact Classical.byContradiction (fun hw => hno u ⟨hu, hw⟩)
  have hq : ∀ t, ¬ Active (s.pc t) n := by
    intro t h
    have := hnone t
    cases hpc : s.pc t <;> rw [hpc] at h this <;> simp [Active, InNotify] at h this
  obtain ⟨h1, _, h3⟩ := C08_complete_released hr n hn hq d hd
  exact ⟨h1, fun r hu hr' => (h3 r hu hr').1⟩

/-! ### The current forest -/

/-- C08 (the converse of `InvT`, with `InvT`): in every reachable state `c` is on `p->children`
    exactly when `c->parent == p`. -/
theorem C08_child_iff_parent {s : State} (hr : Reachable s) (p c : NoteId) :
    c ∈ (s.notes p).children ↔ (s.notes c).parent = some p :=
  ⟨hr.invForest.c2p p c, hr.invT.p2c p c⟩

theorem C08_children_nodup {s : State} (hr : Reachable s) (p : NoteId) :
    (s.notes p).children.Nodup := hr.invForest.nodup p

/-- The activation stack of `note_notify_child` is a path of the current forest. -/
theorem anc_of_chain {s : State} (hF : InvForest s) (l : List NoteId) (x a : NoteId)
    (hc : ChainCur s (x :: l)) (hl : (x :: l).getLast? = some a) : Anc s a x := by
  induction l generalizing x with
  | nil =>
    simp only [List.getLast?_singleton, Option.some.injEq] at hl
    subst hl; exact Anc.refl _
  | cons y ys ih =>
    rw [List.getLast?_cons_cons] at hl
    exact Anc.up (hF.c2p y x hc.1) (ih y hc.2 hl)

/-- C08 ("ancestors and siblings are unaffected"), sharp form: a flag goes from 0 to 1 only by
    the store note.c/1 of a thread inside `notify (n)`, for the note `k` of its innermost
    activation of `note_notify_child`, and at that moment `k` is `n` or a descendant of `n` in
    the CURRENT forest — or by `nsync_note_new` for the note it is creating, not yet returned to
    anybody, when it finds the intended parent notified (note.c/7). -/
theorem C08_unaffected {s s' : State} {e : Event} {k : NoteId} (hr : Reachable s)
    (hs : step s e = .ok s') (h0 : (s.notes k).notified = false)
    (h1 : (s'.notes k).notified = true) :
    (∃ a f rest top, e.actor = some a ∧ s.pc a = .chd .st (f :: rest) top ∧ f.note = k ∧
      Anc s top.n k) ∨
    (∃ a p dl, e.actor = some a ∧ s.pc a = .newP .st k p dl ∧ s.published k = false ∧
      s.Notified p) := by
  rcases C08_unaffected_partial hr hs h0 h1 with ⟨a, f, rest, top, ha, hpc, hf, _⟩ | h
  · left
    refine ⟨a, f, rest, top, ha, hpc, hf, ?_⟩
    have hc := hr.inv6.2.2.2.2.1.claim_of hpc
    have hch := hr.invForest.chain a _ _ _ hpc
    have hlast : ((f :: rest).map Frame.note).getLast? = some top.n := by
      rw [List.getLast?_map]; exact hc.2.2.1
    rw [← hf]
    exact anc_of_chain hr.invForest _ _ _ hch hlast
  · exact Or.inr h

/-- … hence the statement that Props/C08.lean left open. -/
theorem C08_unaffected_full_holds : C08_unaffected_full := by
  intro s s' e k hr hs h0 h1
  rcases C08_unaffected hr hs h0 h1 with ⟨a, f, rest, top, ha, hpc, _, hanc⟩ | h
  · exact Or.inl ⟨a, _, _, top, ha, hpc, hanc⟩
  · exact Or.inr h

/-- C08: a step of a thread inside `notify (n)` / `note_notify_child` never sets the flag of a
    note that is not `n` or a descendant of `n` in the current forest: in particular not the flag
    of a sibling or of an ancestor of `n` (`C08_ancestors_unaffected` is the same for the
    creation-time order). -/
theorem C08_siblings_unaffected {s s' : State} {e : Event} {k : NoteId} (hr : Reachable s)
    (hs : step s e = .ok s') {a : Tid} {pos : CPos} {stk : List Frame} {top : Top}
    (ha : e.actor = some a) (hpc : s.pc a = .chd pos stk top) (hk : ¬ Anc s top.n k) :
    (s'.notes k).notified = (s.notes k).notified := by
  cases h0 : (s.notes k).notified with
  | true => exact C08_flag_monotone hr hs k h0
  | false =>
    cases h1 : (s'.notes k).notified with
    | false => rfl
    | true =>
      exfalso
      rcases C08_unaffected hr hs h0 h1 with ⟨a', f, rest, top', ha', hpc', _, hanc⟩ |
        ⟨a', p, dl, ha', hpc', _⟩
      · obtain rfl := Option.some.inj (ha'.symm.trans ha)
        rw [hpc] at hpc'; cases hpc'
        exact hk hanc
      · obtain rfl := Option.some.inj (ha'.symm.trans ha)
        rw [hpc] at hpc'; cases hpc'

/-- The parent of a note is not one of its descendants (the current forest has no cycle through
    a parent pointer: `Anc` implies the creation order, which is antisymmetric). -/
theorem not_anc_of_parent {s : State} (hr : Reachable s) {n p : NoteId}
    (hp : (s.notes n).parent = some p) : ¬ Anc s n p := by
  obtain ⟨_, _, hS, _, hL, _⟩ := hr.inv6
  intro h
  have hpn := hS.parent p n hp
  have hpa : (s.notes p).allocated = true := hS.anc n p hpn.1
  have := hL.anti n p (C08_anc_ever hr h hpa) hpn.1
  exact hL.parent p n hp this.symm

/-- C08, "ancestors and siblings are unaffected", spelled out for the current forest: a step of
    a thread inside `notify (n)` / `note_notify_child` sets neither the flag of the parent `p` of
    `n` nor the flag of another child `k` of `p`. -/
theorem C08_parent_and_siblings_unaffected {s s' : State} {e : Event} (hr : Reachable s)
    (hs : step s e = .ok s') {a : Tid} {pos : CPos} {stk : List Frame} {top : Top}
    (ha : e.actor = some a) (hpc : s.pc a = .chd pos stk top) {p k : NoteId}
    (hp : (s.notes top.n).parent = some p)
    (hk : k = p ∨ ((s.notes k).parent = some p ∧ k ≠ top.n)) :
    (s'.notes k).notified = (s.notes k).notified := by
  refine C08_siblings_unaffected hr hs ha hpc ?_
  rcases hk with rfl | ⟨hkp, hne⟩
  · exact not_anc_of_parent hr hp
  · intro h
    cases h with
    | refl => exact hne rfl
    | up hq h' =>
      rw [hkp] at hq; cases hq
      exact not_anc_of_parent hr hp h'

/-! ### Non-vacuity -/

theorem release_prefix_ok : (run init (Traces.releaseTrace.take 101)).toOption.isSome = true := by
  decide

/-- A waiter on a child released by `notify (parent)` (trace recorded from the library): after
    `nsync_note_notify (note0)` has returned, note1 is notified, nobody is inside
    `note_notify_child` any more (the notifier is idle, the waiter — thread 0 — is still asleep in
    `nsync_mu_semaphore_p_with_deadline`), the `waiters` list of note1 is empty, and record `nw0`
    of note1 has `waiting = 0` and one V: the hypotheses of `C08_waiters_released` — including
    `Blocked` — hold in a reachable state. -/
example : ∃ s : State, Reachable s ∧ (s.notes 1).notified = true ∧
    s.pc 1 = .idle ∧ s.pc 0 = .wt (.pdRet none) 1 none 0 ∧
    (s.recs 0).used = true ∧ (s.recs 0).note = 1 ∧ (s.recs 0).owner = 0 ∧ Blocked s 0 ∧
    (s.notes 1).waiters = [] ∧ (s.recs 0).waiting = false ∧ (s.recs 0).posted = 1 ∧
    (s.notes 1).parent = none ∧ (s.notes 0).children = [] := by
  refine ⟨_, reachable_stateAfter _ release_prefix_ok, by decide, by decide, by decide, by decide,
    by decide, by decide, ?_, by decide, by decide, by decide, by decide, by decide⟩
  exact ⟨none, none, Or.inr (by decide)⟩

/-! #### The hypotheses of `C08_complete_released` / `C08_waiters_released` are satisfiable -/

/-- Decidable form of `AdoptsUnderNotified`. -/
def adoptsB (s : State) : Event → Bool
  | .lockRet t =>
    match s.pc t with
    | .fr .lockChildRet _ (some p) c _ =>
      decide ((s.notes c).disconnecting = 0) && (s.notes p).notified
    | _ => false
  | _ => false

theorem adoptsB_of {s : State} {e : Event} (h : AdoptsUnderNotified s e) :
    adoptsB s e = true := by
  obtain ⟨t, n, p, c, nx, rfl, hpc, hd, hn⟩ := h
  simp [adoptsB, hpc, hd, hn]

/-- Run the acceptor, refusing the adoption steps that `ReachableH` excludes. -/
def runH (s : State) : List Event → Option State
  | [] => some s
  | e :: es =>
    if adoptsB s e then none
    else match step s e with
      | .ok s' => runH s' es
      | .error _ => none

theorem reachableH_runH {s s' : State} {evs : List Event} (h : ReachableH s)
    (hr : runH s evs = some s') : ReachableH s' := by
  induction evs generalizing s with
  | nil => simp only [runH, Option.some.injEq] at hr; exact hr ▸ h
  | cons e es ih =>
    simp only [runH] at hr
    split at hr
    · cases hr
    · next hb =>
      cases hs : step s e with
      | ok s1 =>
        rw [hs] at hr
        exact ih (ReachableH.step h hs (fun ha => hb (adoptsB_of ha))) hr
      | error m => rw [hs] at hr; cases hr

theorem run_of_runH {s s' : State} {evs : List Event} (hr : runH s evs = some s') :
    run s evs = .ok s' := by
  induction evs generalizing s with
  | nil => simp only [runH, Option.some.injEq] at hr; simp [run, hr]
  | cons e es ih =>
    simp only [runH] at hr
    split at hr
    · cases hr
    · cases hs : step s e with
      | ok s1 => rw [hs] at hr; simp only [run, hs]; exact ih hr
      | error m => rw [hs] at hr; cases hr

/-- Threads that take no part in a trace keep their program counter. -/
theorem pc_of_not_actor_rel {evs : List Event} {s0 s : State} (hr : run s0 evs = .ok s)
    (t : Tid) (ht : ∀ e ∈ evs, e.actor ≠ some t) : s.pc t = s0.pc t :=
  run_pc_other hr t ht

theorem release_prefix_okH : (runH init (Traces.releaseTrace.take 101)).isSome = true := by
  decide

/-- All hypotheses of `C08_complete_released` (with `n = d = note0`; even the stronger hypothesis
    `ReachableH`) and of
    `C08_waiters_released` (with `d = note1`, once the child of note0, notified and disconnected
    by `notify (note0)`) hold together in a reachable state (the state of the example above):
    `ReachableH`, both notes notified, NO thread at all with an activation on note0 or note1; the
    waiter record `nw0` of note1 is in use and its owner is blocked on the semaphore. -/
example : ∃ s : State, ReachableH s ∧ (s.notes 0).notified = true ∧ (s.notes 1).notified = true ∧
    (∀ t, ¬ Active (s.pc t) 0) ∧ (∀ t, ¬ Active (s.pc t) 1) ∧
    (s.recs 0).used = true ∧ (s.recs 0).note = 1 ∧ Blocked s 0 := by
  have hrun : runH init (Traces.releaseTrace.take 101) =
      some ((runH init (Traces.releaseTrace.take 101)).get release_prefix_okH) := by simp
  have hpcs : ∀ t, ∀ d, ¬ Active (((runH init (Traces.releaseTrace.take 101)).get release_prefix_okH).pc t) d := by
    intro t d
    by_cases h0 : t = 0
    · subst h0
      have : ((runH init (Traces.releaseTrace.take 101)).get release_prefix_okH).pc 0 =
          .wt (.pdRet none) 1 none 0 := by decide
      rw [this]; simp [Active]
    · by_cases h1 : t = 1
      · subst h1
        have : ((runH init (Traces.releaseTrace.take 101)).get release_prefix_okH).pc 1 = .idle := by decide
        rw [this]; simp [Active]
      · by_cases h99 : t = 99
        · subst h99
          have : ((runH init (Traces.releaseTrace.take 101)).get release_prefix_okH).pc 99 = .idle := by
            decide
          rw [this]; simp [Active]
        · have hall : (Traces.releaseTrace.take 101).all
              (fun e => e.actor == some 0 || e.actor == some 1 || e.actor == some 99
                || e.actor == none) = true := by decide
          have hact : ∀ e ∈ Traces.releaseTrace.take 101, e.actor ≠ some t := by
            intro e he hea
            have := List.all_eq_true.mp hall e he
            rw [hea] at this
            simp [h0, h1, h99] at this
          rw [pc_of_not_actor_rel (run_of_runH hrun) t hact]
          simp [Note.init, Active]
  refine ⟨_, reachableH_runH ReachableH.init hrun, by decide, by decide, fun t => hpcs t 0,
    fun t => hpcs t 1, by decide, by decide, ?_⟩
  exact ⟨none, none, Or.inr (by decide)⟩

/-- … and before the notification reaches it the same record is queued with `waiting = 1`, its
    owner asleep (first alternative of `C08_no_lost_wakeup`). -/
example : (match run init (Traces.releaseTrace.take 75) with
    | .ok s => decide (s.pc 0 = .wt (.pdRet none) 1 none 0) && (s.recs 0).waiting &&
        decide ((s.notes 1).waiters = [0]) && !(s.notes 1).notified &&
        decide ((s.recs 0).posted = 0)
    | .error _ => false) = true := by decide

/-- The whole trace is accepted: the waiter wakes up, finds the note notified and
    `nsync_note_wait` returns 1. -/
example : (match run init Traces.releaseTrace with
    | .ok s => decide (s.pc 0 = .idle) && decide (s.pc 1 = .idle) &&
        decide (s.observed.head?.map (fun o => (o.t, o.n, o.res)) = some (0, 1, true))
    | .error _ => false) = true := by decide

theorem sibling_prefix_ok : (run init (Traces.siblingTrace.take 74)).toOption.isSome = true := by
  decide

/-- A sibling stays un-notified (trace recorded from the library): tree note0 → {note1 → note3,
    note2}; the step that sets the flag of note3 is performed by thread 0 inside `notify (note1)`,
    with the activation stack [note3, note1]. -/
example : (match run init (Traces.siblingTrace.take 74) with
    | .ok s =>
      (match step s (.stNote 0 .childSt .rel 3 1 0) with
       | .ok s' =>
         decide (s.pc 0 = .chd .st [⟨3, none⟩, ⟨1, none⟩] ⟨1, some 0, .ofApi⟩) &&
         !(s.notes 3).notified && (s'.notes 3).notified &&
         !(s'.notes 2).notified && !(s'.notes 0).notified
       | .error _ => false)
    | .error _ => false) = true := by decide

/-- … in that state note3 is a descendant of note1 in the current forest (first alternative of
    `C08_unaffected`), the sibling note2 and the parent note0 are not (hypothesis of
    `C08_siblings_unaffected`). -/
example : ∃ s : State, Reachable s ∧
    s.pc 0 = .chd .st [⟨3, none⟩, ⟨1, none⟩] ⟨1, some 0, .ofApi⟩ ∧
    (s.notes 3).notified = false ∧ Anc s 1 3 ∧ ¬ Anc s 1 2 ∧ ¬ Anc s 1 0 := by
  have hr := reachable_stateAfter _ sibling_prefix_ok
  have h3 : ((stateAfter _ sibling_prefix_ok).notes 3).parent = some 1 := by decide
  have h2 : ((stateAfter _ sibling_prefix_ok).notes 2).parent = some 0 := by decide
  have h0 : ((stateAfter _ sibling_prefix_ok).notes 0).parent = none := by decide
  refine ⟨_, hr, by decide, by decide, Anc.up h3 (Anc.refl 1), ?_, ?_⟩
  · intro h
    cases h with
    | up hp h' =>
      rw [h2] at hp; cases hp
      cases h' with
      | up hp' _ => rw [h0] at hp'; cases hp'
  · intro h
    cases h with
    | up hp _ => rw [h0] at hp; cases hp

/-- At the end of that trace: note1 and note3 notified, note0 and note2 not. -/
example : (match run init Traces.siblingTrace with
    | .ok s => (s.notes 1).notified && (s.notes 3).notified && !(s.notes 0).notified &&
        !(s.notes 2).notified &&
        decide (s.observed.map (fun o => (o.n, o.res)) = [(3, true), (0, false), (2, false)])
    | .error _ => false) = true := by decide

end Note
