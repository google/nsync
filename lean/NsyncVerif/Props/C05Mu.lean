import NsyncVerif.Proofs.MuCReach
import NsyncVerif.Proofs.MuCCas
import NsyncVerif.Proofs.MuCFairOwn
/-!
# C05 (nsync_mu_wait part) — what nsync_mu_wait_with_deadline returns

Model: `NsyncVerif.Model.MuC` (one `nsync_mu` with conditional critical sections; one step per atomic
operation / semaphore operation / API boundary / condition evaluation / data access / tick).
`Reachable cfg s` quantifies over all programs, interleavings, thread counts and clock ticks; the
theorems are consequences of inductive invariants (`Proofs/MuCInv1*.lean`: lock invariant and local
facts; `Proofs/MuCInv2*.lean`: clock- and data-dependent facts) and hold for both semaphore flavours.

A `ret nsync_mu_wait_with_deadline r` line is ACCEPTED by the model only at the program point
`mwRet c cit` and only with `r = if cit then 0 else c.outc` — the acceptor recomputes the result
from the execution so far (`stepRet`), so the theorems below speak about every logged return the
correspondence check accepts.

* `C05_mode`        the call returns with the mutex held (a share owned in the word, ghost owner
                    sets, client-visible `held`) in the mode `c.hm` in which the caller held it at the
                    call (`C05_mode_recorded`: `hm` is the value of `held` at the call; no step assigns
                    to `hm`); the mode the C code detects from the word (mu_wait.c:171-179) is that mode.
* `C05_mu_wait_0`   it returns 0 exactly when the condition (NULL counts as true) is true on the
                    current client data at the return.
* `C05_timedout`    ETIMEDOUT ⇒ the caller's deadline is finite and ≤ now.
* `C05_cancelled`   ECANCELED ⇒ a note was passed and this call saw it notified (acquire load of
                    `notified` ≠ 0, or its own store `notified := 1`, or its own nsync_note_notify after
                    the timed P expired at the note's deadline: see Model/MuC.lean, "CANCEL NOTE").
* `C05_no_resleep_partial`  see below.

`C05_no_resleep_full` (the literal formalisation "once sem_outcome ≠ 0 the thread executes no further
semaphore wait in this call") is FALSE for the code, for two legitimate reasons (the first is exhibited by
the accepted trace `resleepLockSlow` below):
 (1) if the waiter was woken concurrently with the timeout (waiting = 0 at mu_wait.c:260 or :108) the
     call re-acquires with nsync_mu_lock_slow_ (mu_wait.c:278), which queues the thread as an ordinary
     waiter and sleeps in nsync_mu_semaphore_p until the mutex is handed on — "it returns as soon as
     the mutex can be re-acquired", which for a contended mutex means an ordinary mutex wake-up;
 (2) in that case `outcome` stays 0 (mu_wait.c:265 sets it only when mu_try_acquire_after_timeout_or_cancel
     succeeds), so a false condition sends the call round the outer loop again: it queues itself again
     and calls nsync_sem_wait_with_cancel_ again — with the expired deadline, so that P returns
     ETIMEDOUT at once and needs no wake-up.
What is proved (`C05_no_resleep_partial`): inside one pass of the wait loop (mu_wait.c:256-274), once
sem_outcome ≠ 0 no semaphore operation is accepted from the thread until it leaves the loop, and the
loop is left only towards lock_slow / the re-evaluation of the condition; and (`C05_timed_p_deadline`)
every timed P of the call has a deadline ≤ the caller's, hence ≤ now once the caller's has passed.
-/
namespace NsyncVerif.MuC

/-- `hm` records the client-visible mode at the call. -/
theorem C05_mode_recorded {s s' : State} {t : Tid} {cnd : Option Cond} {dl : Option Int} {note : Bool}
    (h : stepCall s t (.wait cnd dl note) = .ok s') :
    ∃ c, s'.pc t = .mwLd0 c ∧ s.held t = some c.hm ∧ c.cond = cnd ∧ c.dl = dl ∧ c.note = note := by
  unfold stepCall at h
  split at h
  · dsimp only at h
    repeat' split at h
    all_goals first
      | (cases h; done)
      | (cases h; simp_all [setFn])
  · cases h

/-- The shape of an accepted return. -/
theorem wait_ret_shape {cfg : Cfg} {s s' : State} {t : Tid} {cnd : Option Cond} {dl : Option Int} {note : Bool} {res : Res}
    (h : step cfg s (.ret t (.wait cnd dl note) res) = .ok s') :
    ∃ c cit, s.pc t = .mwRet c cit ∧ cnd = c.cond ∧ dl = c.dl ∧ note = c.note ∧
      res = .outc (if cit then .ok else c.outc) ∧ s'.pc t = .idle ∧ s'.held t = some c.l ∧ s'.data = s.data := by
  simp only [step, stepRet] at h
  split at h
  all_goals first
    | (cases h; done)
    | (rename_i ha; cases ha; done)
    | (rename_i ha _; cases ha; done)
    | skip
  rename_i c cit cnd' dl' note' o heq ha
  cases ha
  by_cases hn1 : cnd ≠ c.cond ∨ dl ≠ c.dl ∨ note ≠ c.note
  · rw [if_pos hn1] at h; cases h
  · rw [if_neg hn1] at h
    by_cases hn2 : o ≠ if cit = true then Outc.ok else c.outc
    · rw [if_pos hn2] at h; cases h
    · rw [if_neg hn2] at h
      simp only [not_or, Decidable.not_not] at hn1 hn2
      cases h
      refine ⟨c, cit, heq, hn1.1, hn1.2.1, hn1.2.2, by rw [hn2], ?_⟩
      split <;> cases c.w <;> simp [setHeld, dropW]

theorem C05_mode {cfg : Cfg} {s s' : State} {t : Tid} {cnd : Option Cond} {dl : Option Int} {note : Bool} {res : Res}
    (hr : Reachable cfg s) (h : step cfg s (.ret t (.wait cnd dl note) res) = .ok s') :
    ∃ c cit, s.pc t = .mwRet c cit ∧ s'.held t = some c.hm ∧ shareOf s' t = some c.hm ∧
      (c.hm = .W → s'.wOwner = some t ∧ s'.word.wlock = true ∧ s'.word.readers = 0) ∧
      (c.hm = .R → t ∈ s'.rOwners ∧ s'.word.readers ≠ 0 ∧ s'.word.wlock = false) := by
  obtain ⟨c, cit, heq, -, -, -, -, hpc', hheld', -⟩ := wait_ret_shape h
  have inv := reachable_inv1 hr
  have inv' := inv1_step inv h
  have hok := inv.pcok t; rw [heq] at hok
  have hheld : s'.held t = some c.hm := hok.1.1 ▸ hheld'
  have hsh : shareOf s' t = some c.hm := by simp [shareOf, tshare, hheld]
  refine ⟨c, cit, heq, hheld, hsh, ?_, ?_⟩
  · intro hm
    rw [hm] at hsh
    have hown := (inv'.lock.wown t).2 hsh
    have hwl : s'.word.wlock = true := by rw [inv'.lock.wl, hown]; rfl
    exact ⟨hown, hwl, inv'.lock.excl hwl⟩
  · intro hm
    rw [hm] at hsh
    have hmem := (inv'.lock.rown t).2 hsh
    have hne : s'.word.readers ≠ 0 := by
      rw [inv'.lock.rd]; intro e
      rw [List.length_eq_zero_iff.mp e] at hmem; cases hmem
    refine ⟨hmem, hne, ?_⟩
    cases hw : s'.word.wlock with
    | false => rfl
    | true => exact absurd (inv'.lock.excl hw) hne

theorem C05_mu_wait_0 {cfg : Cfg} {s s' : State} {t : Tid} {cnd : Option Cond} {dl : Option Int} {note : Bool} {o : Outc}
    (hr : Reachable cfg s) (h : step cfg s (.ret t (.wait cnd dl note) (.outc o)) = .ok s') :
    (o = .ok ↔ evalOpt s.data cnd = true) ∧ (o = .ok ↔ evalOpt s'.data cnd = true) := by
  obtain ⟨c, cit, heq, rfl, -, -, ho, -, -, hdata⟩ := wait_ret_shape h
  have inv1 := reachable_inv1 hr
  have inv2 := reachable_inv2 hr
  have hok := inv1.pcok t; rw [heq] at hok
  have hev := (inv2 t).2 c cit heq
  simp only [Res.outc.injEq] at ho
  have : o = .ok ↔ evalOpt s.data c.cond = true := by
    rw [← hev, ho]
    cases cit with
    | true => simp
    | false => simpa using hok.2 rfl
  exact ⟨this, hdata ▸ this⟩

theorem C05_timedout {cfg : Cfg} {s s' : State} {t : Tid} {cnd : Option Cond} {dl : Option Int} {note : Bool}
    (hr : Reachable cfg s) (h : step cfg s (.ret t (.wait cnd dl note) (.outc .timedout)) = .ok s') :
    ∃ d, dl = some d ∧ d ≤ s.now := by
  obtain ⟨c, cit, heq, -, rfl, -, ho, -⟩ := wait_ret_shape h
  have inv2 := reachable_inv2 hr
  have ht := (inv2 t).1 c (by rw [heq]; rfl)
  simp only [Res.outc.injEq] at ho
  cases cit with
  | true => simp at ho
  | false => simp at ho; exact ht.2 ho.symm

theorem C05_cancelled {cfg : Cfg} {s s' : State} {t : Tid} {cnd : Option Cond} {dl : Option Int} {note : Bool}
    (hr : Reachable cfg s) (h : step cfg s (.ret t (.wait cnd dl note) (.outc .cancelled)) = .ok s') :
    ∃ c cit, s.pc t = .mwRet c cit ∧ c.saw = true := by
  obtain ⟨c, cit, heq, -, -, -, ho, -⟩ := wait_ret_shape h
  have inv1 := reachable_inv1 hr
  have hok := inv1.pcok t; rw [heq] at hok
  simp only [Res.outc.injEq] at ho
  refine ⟨c, cit, heq, ?_⟩
  cases cit with
  | true => simp at ho
  | false => simp at ho; exact hok.1.2.2.1 ho.symm

/-! ## no further wake-up needed once the deadline has passed / the note is notified -/

/-- Inside the wait loop of mu_wait.c:256-274 with sem_outcome ≠ 0 (the timed-out / cancelled pass,
    including mu_try_acquire_after_timeout_or_cancel). -/
def PC.expired : PC → Bool
  | .mwWaitLd c | .mwLd244 c | .mwLd255 c | .mtLd c | .mtCasAcq c _ | .mtCasWW c _ | .mtLdWk c _ | .mtLdW c _ | .mtLdRc c _
  | .mtRmLd c _ | .mtRmCas c _ _ | .mtStW c _ | .mtStRel c _ _ => c.so != .ok
  | _ => false

/-- Where the wait loop is left to. -/
def PC.afterLoop : PC → Bool
  | .lsLd c => c.mw.isSome && c.clear     -- nsync_mu_lock_slow_ (mu, w, MU_DESIG_WAKER, l_type), mu_wait.c:278
  | .mwEval _ | .mwRet _ _ => true        -- mu_wait.c:281 and after
  | _ => false

/-- A P operation (start or return, timed or not). -/
def Event.isSemWait : Event → Bool
  | .semPEnter _ _ | .semPRet _ _ | .semPdEnter _ _ _ | .semPdRet _ _ _ => true
  | _ => false

def Event.isRetOf (t : Tid) : Event → Bool
  | .ret t' _ _ => t' == t
  | _ => false

/-- The literal reading of "once sem_outcome ≠ 0 the thread executes no further semaphore wait in
    this call": FALSE, see `C05_no_resleep_full_refuted`. -/
def C05_no_resleep_full : Prop :=
  ∀ (cfg : Cfg) (evs mid : List Event) (s s' s'' : State) (t : Tid) (e : Event),
    run cfg init evs = .ok s → (s.pc t).expired = true →
    run cfg s mid = .ok s' → mid.all (fun e' => !e'.isRetOf t) = true →
    step cfg s' e = .ok s'' → e.tid = some t → e.isSemWait = false

macro "exp_case" hp:ident heq:ident h:ident : tactic => `(tactic|
  (rw [$heq:ident] at $hp:ident
   first
   | (simp [PC.expired] at $hp:ident; done)
   | (try dsimp only at $h:ident
      try simp only [ldWord, ldWaiting, casWord] at $h:ident
      repeat' split at $h:ident
      all_goals first
        | (cases $h:ident; done)
        | (cases $h:ident; simp_all [PC.expired, PC.afterLoop, Event.isSemWait, loopPc, setFn, SL.fromWait]))))

/-- The expired pass is left only to the points after the loop: by a step that only moves the program point … -/
theorem PcMove.expired {s : State} {p p' : PC} (h : PcMove s p p') (hp : p.expired = true) :
    p'.expired = true ∨ p'.afterLoop = true := by
  cases h <;> first | (cases hp; done) | skip
  case noteNotify244 c => exact .inl (by simp [PC.expired])
  case ld h => cases h <;> simp_all [PC.expired, PC.afterLoop, SL.fromWait]
  all_goals exact .inl hp

/-- … and by a successful CAS on the word. -/
theorem CasPc.expired {s : State} {p p' : PC} {nw : Word} {w : Option Wid} (h : CasPc s p p' nw w) (hp : p.expired = true) :
    p'.expired = true := by
  cases h <;> first | (cases hp; done) | exact hp

/-- In the expired pass the acceptor prescribes loads, stores, CASes and the note's notification only. -/
theorem expired_accepts {p : PC} (hp : p.expired = true) :
    ∀ k ∈ p.accepts, k = .ld ∨ k = .st ∨ k = .cas ∨ k = .noteNotify := by
  cases p <;> first | (cases hp; done) | simp [PC.accepts]

theorem C05_no_resleep_partial {cfg : Cfg} {s s' : State} {e : Event} {t : Tid}
    (hp : (s.pc t).expired = true) (h : step cfg s e = .ok s') (he : e.tid = some t) :
    e.isSemWait = false ∧ ((s'.pc t).expired = true ∨ (s'.pc t).afterLoop = true) := by
  cases hd : e.isData
  case true =>
    rw [(data_step_frame h hd).1]
    exact ⟨by cases e <;> (first | rfl | cases hd), .inl hp⟩
  -- the kind of the event is one the program point prescribes: no P among them
  obtain ⟨k, hk, hmem⟩ := step_accepts h he hd
  have move : (∃ p', PcMove s (s.pc t) p' ∧ s' = setPc s t p') →
      (s'.pc t).expired = true ∨ (s'.pc t).afterLoop = true := by
    rintro ⟨p', hm, rfl⟩; rw [setPc_pc, setFn_same]; exact hm.expired hp
  rcases expired_accepts hp k hmem with rfl | rfl | rfl | rfl <;> cases e <;> cases hk <;> cases he <;> refine ⟨rfl, ?_⟩
  · rcases stepLd_effect h with ⟨p', hm, e⟩ | ⟨c, k, heq, -⟩ | ⟨c, old, k, heq, -, -, -, rfl⟩
    · exact move ⟨p', .ld hm, e⟩
    · rw [heq] at hp; cases hp
    · rw [heq] at hp; left; simpa [PC.expired] using hp
  · cases stepSt_effect h <;> rw [‹s.pc t = _›] at hp <;> simp_all [PC.expired]
  · cases stepCas_eff h with
    | fail hm _ => exact move ⟨_, hm, rfl⟩
    | plain hm hok => rw [hok.pc, setFn_same]; exact .inl (hm.expired hp)
    | scan hsc => cases hsc <;> (rw [‹s.pc t = _›] at hp; cases hp)
    | fin heq _ _ => rw [heq] at hp; cases hp
    | mwEnq _ _ _ heq _ _ => rw [heq] at hp; cases hp
    -- the one CAS of the pass that is not on the word: `remove_count`, mu_wait.c:112
    | mtRm c old rc k heq _ => rw [heq] at hp; exact .inl (by rw [setPc_pc, setFn_same]; exact hp)
  · exact move (step_noteNotify h)

/-- Every timed P of the call has a deadline no later than the caller's; once the caller's deadline
    has passed, the P needs no wake-up (it may return ETIMEDOUT at once). -/
theorem C05_timed_p_deadline {cfg : Cfg} {s s' : State} {t : Tid} {k : Wid} {dl : Option Int}
    (h : step cfg s (.semPdEnter t k dl) = .ok s') :
    ∃ c, s.pc t = .mwSem c ∧ dlLe dl c.dl = true ∧ (∀ d, c.dl = some d → d ≤ s.now → ∃ d', dl = some d' ∧ d' ≤ s.now) := by
  simp only [step] at h
  split at h
  · rename_i c heq
    repeat' split at h
    all_goals first
      | (cases h; done)
      | skip
    rename_i h1 h2 h3
    simp only [Bool.not_eq_true] at h3
    refine ⟨c, heq, by simpa using h3, ?_⟩
    intro d hd hle
    have h3' : dlLe dl c.dl = true := by simpa using h3
    rw [hd] at h3'
    cases dl with
    | none => simp [dlLe] at h3'
    | some d' => simp [dlLe] at h3'; exact ⟨d', rfl, Int.le_trans h3' hle⟩
  · cases h

/-! ## witnesses (accepted traces of the real library, harness scenario
    `lock; muwait c0 p1000; unlock  ∥  lock; wr x0 1; unlock; lock; wr x0 0; yield; yield; unlock`) -/

def accepts (cfg : Cfg) (evs : List Event) : Bool :=
  match run cfg init evs with
  | .ok _ => true
  | .error _ => false

/-- Thread 0 waits for x0 == 1 with a deadline; thread 1 makes the condition true and wakes it at the
    moment the timed P expires (events 23-47), then takes the mutex again and makes the condition
    false.  Thread 0 sees `waiting == 0` at mu_wait.c:260, so it does not use
    mu_try_acquire_after_timeout_or_cancel; it re-acquires through nsync_mu_lock_slow_, where it
    queues and sleeps in nsync_mu_semaphore_p (event 57, again 60).  Once it has the mutex the
    condition is false and `outcome` is still 0: second round, second timed P with the expired
    deadline (event 83), which returns ETIMEDOUT at once (84); this time it is still queued, removes
    itself and returns ETIMEDOUT (97). -/
def resleepLockSlow : List Event := [
 .call 0 .lock,
 .cas 0 .acq .word 0 1 0 true,
 .ret 0 .lock .void,
 .call 0 (.wait (some { fn := .eq, k := 0, var := 0, val := 1, hasEq := false }) (some 1000000001000) false),
 .ld 0 .rlx .word 1,
 .cond 0 .eq 0 false,
 .st 0 .rlx (.waiting 0) 1 0,
 .ld 0 .rlx (.rc 0) 0,
 .ld 0 .rlx .word 1,
 .cas 0 .acq .word 1 23 1 true,
 .ld 0 .rlx .word 23,
 .cas 0 .rel .word 23 20 23 true,
 .ld 0 .acq (.waiting 0) 1,
 .semPdEnter 0 0 (some 1000000001000),
 .call 1 .lock,
 .cas 1 .acq .word 0 1 20 false,
 .ld 1 .rlx .word 20,
 .cas 1 .acq .word 20 21 20 true,
 .ret 1 .lock .void,
 .dataW 1 0 1,
 .call 1 .unlock,
 .tick 1000000001000,
 .cas 1 .rel .word 1 0 21 false,
 .semPdRet 0 0 true,
 .ld 1 .rlx .word 21,
 .ld 1 .rlx .word 21,
 .cas 1 .ar .word 21 31 21 true,
 .ld 1 .rlx .word 31,
 .cas 1 .rel .word 31 29 31 true,
 .cond 1 .eq 0 true,
 .ld 1 .rlx (.rc 0) 0,
 .cas 1 .rlx (.rc 0) 0 1 0 true,
 .ld 1 .rlx .word 29,
 .cas 1 .acq .word 29 31 29 true,
 .ld 1 .rlx .word 31,
 .cas 1 .rel .word 31 8 31 true,
 .st 1 .rel (.waiting 0) 0 1,
 .semV 1 0,
 .ret 1 .unlock .void,
 .call 1 .lock,
 .cas 1 .acq .word 0 1 8 false,
 .ld 1 .rlx .word 8,
 .cas 1 .acq .word 8 9 8 true,
 .ret 1 .lock .void,
 .dataW 1 0 0,
 .call 1 .unlock,
 .cas 1 .rel .word 1 0 9 false,
 .ld 1 .rlx .word 9,
 .ld 0 .rlx (.waiting 0) 0,
 .ld 0 .rlx (.waiting 0) 0,
 .ld 0 .acq (.waiting 0) 0,
 .ld 0 .rlx .word 9,
 .cas 0 .acq .word 9 39 9 true,
 .st 0 .rlx (.waiting 0) 1 0,
 .ld 0 .rlx .word 39,
 .cas 0 .rel .word 39 37 39 true,
 .ld 0 .acq (.waiting 0) 1,
 .semPEnter 0 0,
 .semPRet 0 0,
 .ld 0 .acq (.waiting 0) 1,
 .semPEnter 0 0,
 .cas 1 .rel .word 9 8 37 false,
 .ld 1 .rlx .word 37,
 .cas 1 .ar .word 37 46 37 true,
 .ld 1 .rlx (.rc 0) 1,
 .cas 1 .rlx (.rc 0) 1 2 1 true,
 .ld 1 .rlx .word 46,
 .cas 1 .rel .word 46 8 46 true,
 .st 1 .rel (.waiting 0) 0 1,
 .semV 1 0,
 .ret 1 .unlock .void,
 .semPRet 0 0,
 .ld 0 .acq (.waiting 0) 0,
 .ld 0 .rlx .word 8,
 .cas 0 .acq .word 8 1 8 true,
 .cond 0 .eq 0 false,
 .st 0 .rlx (.waiting 0) 1 0,
 .ld 0 .rlx (.rc 0) 2,
 .ld 0 .rlx .word 1,
 .cas 0 .acq .word 1 23 1 true,
 .ld 0 .rlx .word 23,
 .cas 0 .rel .word 23 20 23 true,
 .ld 0 .acq (.waiting 0) 1,
 .semPdEnter 0 0 (some 1000000001000),
 .semPdRet 0 0 true,
 .ld 0 .rlx (.waiting 0) 1,
 .ld 0 .rlx .word 20,
 .cas 0 .acq .word 20 23 20 true,
 .ld 0 .rlx (.waiting 0) 1,
 .ld 0 .rlx (.rc 0) 2,
 .ld 0 .rlx (.rc 0) 2,
 .cas 0 .rlx (.rc 0) 2 3 2 true,
 .st 0 .rlx (.waiting 0) 0 1,
 .st 0 .rel .word 21 23,
 .ld 0 .rlx (.waiting 0) 0,
 .ld 0 .acq (.waiting 0) 0,
 .cond 0 .eq 0 false,
 .ret 0 (.wait (some { fn := .eq, k := 0, var := 0, val := 1, hasEq := false }) (some 1000000001000) false) (.outc (.timedout)),
 .call 0 .unlock,
 .cas 0 .rel .word 1 0 21 false,
 .ld 0 .rlx .word 21,
 .ld 0 .rlx .word 21,
 .cas 0 .ar .word 21 31 21 true,
 .ld 0 .rlx .word 31,
 .cas 0 .rel .word 31 0 31 true,
 .ret 0 .unlock .void
]

example : accepts ⟨false⟩ resleepLockSlow = true := by decide

/-- after event 23 (`pd_ret ETIMEDOUT`) thread 0 is in the timed-out pass … -/
example : (match run ⟨false⟩ init (resleepLockSlow.take 24) with
    | .ok s => (s.pc 0).expired
    | .error _ => false) = true := by decide
/-- … event 57 is a `p_enter` of thread 0 (inside lock_slow), event 83 a second timed P of the same call -/
example : resleepLockSlow[57]? = some (.semPEnter 0 0) ∧
    resleepLockSlow[83]? = some (.semPdEnter 0 0 (some 1000000001000)) ∧
    ((resleepLockSlow.take 97).drop 24).all (fun e => !e.isRetOf 0) = true := by decide

def resleepCheck : Bool :=
  match run ⟨false⟩ init (resleepLockSlow.take 24) with
  | .ok s => (s.pc 0).expired &&
    (match run ⟨false⟩ s ((resleepLockSlow.take 57).drop 24) with
     | .ok s' => (match step ⟨false⟩ s' (.semPEnter 0 0) with
        | .ok _ => true
        | .error _ => false)
     | .error _ => false)
  | .error _ => false

theorem C05_no_resleep_full_refuted : ¬ C05_no_resleep_full := by
  intro h
  have key : resleepCheck = true := by decide
  unfold resleepCheck at key
  split at key
  · rename_i s hs
    simp only [Bool.and_eq_true] at key
    obtain ⟨hexp, key⟩ := key
    split at key
    · rename_i s' hs'
      split at key
      · rename_i s'' hs''
        have := h ⟨false⟩ _ _ s s' s'' 0 (.semPEnter 0 0) hs hexp hs' (by decide) hs'' rfl
        cases this
      · cases key
    · cases key
  · cases key

end NsyncVerif.MuC
