/-
  Properties C04 / C05, liveness half, the WAITER's side.

  Model, executions, fairness notions and hypotheses: `Proofs/CvFixFairDefs.lean`; the hypotheses are
  discussed in the header of `Props/C04Fair.lean`.  Proofs: `Proofs/CvFixFairWaitStep.lean` (the
  control-flow graph of the wait: `WSucc`, `wait_step`; a record unlinked by a waker stays "covered"
  until its owner leaves the loop: `cov_step`), `CvFixFairWaitDone.lean` (one hop along the graph:
  `hop`, `hop_spin`; `covered_exits`, `exit_returns`, `covered_returns`), `CvFixFairWaitTrace.lean`
  (the hypotheses for concrete executions).

  PROVED, under `WaitHyps` (= `Hyps` ∧ `SemFair` ∧ `MutexFair` ∧ `AllocFair` ∧ `CancelFair` ∧
  `TransferFair` ∧ `PostKept` ∧ `FiniteSpurious`; the proofs use all of them except
  `FiniteSpurious`):
  * `C04_fair_woken_returns`   a cv wait whose record has been unlinked by a waker — it is on the
                               waker's list, woken (`waiting := 0` stored), or transferred to the
                               mutex queue — RETURNS, with result 0 (`.ok`);
  * `C05_fair_exit_returns`    a wait that has left its loop returns (re-acquisition: `MutexFair`);
  * `C04_fair_wakeup : C04_fair_wakeup_full`   THE FULL STATEMENT of C04, liveness form: (1) every
                               signal / broadcast returns; (2) every record on `pcv->waiters` when a
                               broadcast takes the spinlock is woken or transferred, and if it is the
                               record of a cv wait its owner's call returns 0; (3) the same for
                               the records `nsync_cv_signal` selects (the first waiter: at least one);
  * `C05_fair_return_partial`  clause (c) of `C05_fair_return_full`: a wait that is ever covered by a
                               wake-up returns 0 — for EVERY kind of wait, timed and cancellable
                               included.
  * non-vacuity: `bc_waitHyps : WaitHyps bcExec` (`exBroadcast` + idling satisfies ALL hypotheses;
    in it thread 0 sleeps on its semaphore, `Covered`, when the broadcast has taken the spinlock);
    the examples after it apply `C04_fair_wakeup` to it.  (`waitHyps_of_trace`,
    Proofs/CvFixFairWaitTrace.lean, gives `WaitHyps` for any accepted trace from `init` that ends
    quiescent and contains no transfer; a record no event names stays idle: `idle_stable`.)
  * five of the additional hypotheses are shown to be NEEDED — an execution (accepted trace +
    idling) in which all the others hold and thread 0 stays inside its wait for ever:
    `C05_fair_needs_sem_fair` (posted, count 1, the sleeper never returns),
    `C05_fair_needs_post_kept` (the waker's V is consumed by a foreign `sem p_ret`),
    `C05_fair_needs_mutex_fair` (stuck in nsync_mu_lock after the loop),
    `C05_fair_needs_transfer_fair` (transferred, never woken by the mutex layer),
    `C05_fair_needs_cancel_fair` (stuck in the note code of sem_wait.c).
    No witness is given for `AllocFair` (used by `hop` at `wNew`: nsync_waiter_new_ returns) nor for
    `FiniteSpurious` (used by no proof).

  NOT PROVED: clauses (a) (a timed wait returns once the clock has passed its deadline) and (b) (a
  cancellable wait returns once its thread has seen the note notified) of `C05_fair_return_full`,
  which therefore stays a `def … : Prop` in CvFixFairDefs.lean that no theorem claims.  What is
  there for them: the control-flow graph with the side conditions of every edge (`WSucc`,
  `wait_step`: which edge needs `waiting = 0/1`, `sem_outcome = 0 / ≠ 0`, `remove_count` equal or
  not), `hop` / `hop_spin` (every program point of the wait is left, given that the semaphore wait
  ends), `exit_returns`, `covered_returns` for the case "the timeout lost the race against a waker"
  (cv.c:264-265 `remove_count` differs), and the first links of (a) in Props/C05FairTimed.lean: the
  sleeper past its deadline leaves the semaphore wait, and from cv.c:254 it returns 0 or starts
  to remove itself.  What is missing: that the number of rounds through the semaphore wait is
  finite (this is where `FiniteSpurious` enters), that `sem_outcome ≠ 0` is kept up to `wCmp`
  (`WKeep`, clause 4), and that the self-removal `wRmLd … wClr` — whose `remove_count` CAS loop
  needs the rank `rkS` of Proofs/CvFixFairLock.lean — leaves the loop with `waiting = 0`
  (`TInvB.soW`); for (b) the same with `NoSleepAfterNotify` / `NoteWakes`.
-/
import NsyncVerif.Proofs.CvFixFairWaitTrace

namespace NsyncVerif.CvFix

/-- A waiter whose record is on a waker's list, woken, or transferred returns, with result 0. -/
theorem C04_fair_woken_returns {cfg : Config} {s0 : State} (x : Exec cfg s0) (hy : WaitHyps x)
    {t : Tid} {i : Nat} (h : Covered (x.ρ i) t) : ∃ j, i ≤ j ∧ x.σ j = some (.retWait t .ok) :=
  covered_returns x hy h

/-- A wait that has left its loop (program points `wExit`, `wLocking`, `wRelocking`, `wRet`)
    returns. -/
theorem C05_fair_exit_returns {cfg : Config} {s0 : State} (x : Exec cfg s0) (hy : WaitHyps x)
    {t : Tid} {i : Nat} (h : ((x.ρ i).thr t).loc.afterLoop = true) :
    ∃ j res, i ≤ j ∧ x.σ j = some (.retWait t res) := by
  obtain ⟨j, res, h1, h2, _⟩ := exit_returns x hy h
  exact ⟨j, res, h1, h2⟩

/-- The owner of a pooled record that a waker unlinks at its acquisition is covered right after. -/
theorem acquired_covered {cfg : Config} {s0 : State} (x : Exec cfg s0) (hr : Reachable cfg s0)
    {t : Tid} {b : Bool} {i : Nat} (ha : WakerAcquires x t b i) {r : Rid}
    (hsel : r ∈ (if b then (x.ρ i).queue else sigSelect (x.ρ i).recs (x.ρ i).queue))
    (hm : r.isMucv = true) : Covered (x.ρ (i + 1)) ((x.ρ i).recs r).owner := by
  obtain ⟨⟨exp, new, obs, he⟩, hc, hb⟩ := ha
  obtain ⟨hl, _, hrec, _⟩ := acq_sig_state (x.next_some he) hc
  rw [hb] at hrec
  have hq : r ∈ (x.ρ i).queue := by
    cases b
    · exact (sigSelect_sublist _ _).subset (by simpa using hsel)
    · simpa using hsel
  have hi := x.inv hr i
  have hst := (hi.a.qMem r).mp hq
  obtain ⟨hwl, hor⟩ := (invH_reachable (x.reach hr i)).own r hm hst
  have hne : ((x.ρ i).recs r).owner ≠ t := by
    intro h
    rw [h] at hwl
    unfold waitLive at hwl
    rw [hl] at hwl
    simp [hc] at hwl
  have hthr := tr_other (step_tr (x.next_some he)) (t := ((x.ρ i).recs r).owner)
    (by simp only [Event.tid, ne_eq, Option.some.injEq]; exact fun h => hne h.symm)
  refine ⟨by rw [hthr]; exact hwl, .inl ⟨t, ?_⟩⟩
  rw [hthr, hor, hrec r]
  have : (if b = true then (x.ρ i).queue else sigSelect (x.ρ i).recs (x.ρ i).queue).contains r = true := by
    simpa using hsel
  rw [if_pos this]

/-- THE FULL STATEMENT: `C04_fair_wakeup_full` (Proofs/CvFixFairDefs.lean). -/
theorem C04_fair_wakeup : C04_fair_wakeup_full := by
  intro cfg s0 x hy
  have hh := hy.toHyps
  refine ⟨fun t i hw => C04_fair_signal_returns x hh hw, ?_, ?_⟩
  · intro t i ha r hr
    refine ⟨C04_fair_broadcast_wakes_all x hh ha hr, fun hm => ?_⟩
    have hc := acquired_covered x hy.reach ha (r := r) (by simpa using hr) hm
    obtain ⟨j, hj, h⟩ := covered_returns x hy hc
    exact ⟨j, by omega, h⟩
  · intro t i ha
    obtain ⟨h1, h2⟩ := C04_fair_signal_wakes_one x hh ha
    refine ⟨h1, fun r hr => ⟨h2 r hr, fun hm => ?_⟩⟩
    have hc := acquired_covered x hy.reach ha (r := r) (by simpa using hr) hm
    obtain ⟨j, hj, h⟩ := covered_returns x hy hc
    exact ⟨j, by omega, h⟩

/-- Clause (c) of `C05_fair_return_full`. -/
def C05_fair_return_partial_stmt : Prop :=
  ∀ (cfg : Config) (s0 : State) (x : Exec cfg s0), WaitHyps x →
    ∀ t i, Covered (x.ρ i) t → ∃ j, i ≤ j ∧ x.σ j = some (.retWait t .ok)

theorem C05_fair_return_partial : C05_fair_return_partial_stmt :=
  fun _ _ x hy _ _ h => covered_returns x hy h

/-! ### non-vacuity: `WaitHyps` is satisfiable, by an execution in which a thread really sleeps -/

/-- `bcExec` (Props/C04Fair.lean: `exBroadcast` — a writer-mode waiter that sleeps on its semaphore,
    a broadcaster — followed by idling) satisfies ALL hypotheses: `WaitHyps`. -/
theorem bc_waitHyps : WaitHyps bcExec :=
  waitHyps_of_trace exBroadcast _ (run_runD (by decide)) bc_final_idle 1 (by decide)
    (by decide +kernel) (by decide +kernel)

/-- The full theorem applies to it: thread 0, asleep on its semaphore when the broadcast takes the
    spinlock at time 16 (`bc_acquires`), returns 0. -/
example : ∃ j, 16 ≤ j ∧ bcExec.σ j = some (.retWait 0 .ok) := by
  have h := (C04_fair_wakeup _ _ bcExec bc_waitHyps).2.1 1 16 bc_acquires.1 (.w 0)
    (by rw [bc_acquires.2.1]; simp)
  have ho : ((bcExec.ρ 16).recs (.w 0)).owner = 0 := by decide
  rw [ho] at h
  exact h.2 rfl

/-- … and at time 17 its wait is `Covered` (record on the broadcaster's list) while it sleeps. -/
example : Covered (bcExec.ρ 17) 0 ∧ ((bcExec.ρ 17).thr 0).loc = .wSemRet :=
  ⟨⟨by decide, .inl ⟨1, by decide⟩⟩, by decide⟩

/-! ### the additional hypotheses are needed

Each witness is a prefix of an accepted trace followed by idling, in which thread 0 is left inside its
wait for ever: all hypotheses of `WaitHyps` hold except the one named. -/

theorem others_idle {cfg : Config} {evs : List Event} (hok : okRun cfg evs = true) (m : Nat) (t0 : Tid)
    (hb : tidsBelow m evs = true)
    (hd : ∀ t, t < m → t ≠ t0 → ((runD cfg evs).thr t).loc = .idle) :
    ∀ t, t ≠ t0 → ((runD cfg evs).thr t).loc = .idle := by
  intro t ht
  by_cases hm : t < m
  · exact hd t hm ht
  · have := run_untouched (cfg := cfg) (t := t) evs init (runD cfg evs)
      (tidsBelow_ne hb (Nat.le_of_not_lt hm)) (run_runD hok)
    rw [this]; rfl

/-- A sleeper without a deadline whose semaphore has count 0 cannot be woken. -/
theorem not_canWake {s : State} {t : Tid} {k : SemId} (hr : (s.thr t).r = .w k) (hs : s.sem k = 0)
    (hd : (s.thr t).semDl = none) : ¬ CanWake s t := by
  rintro (⟨k', hk, h⟩ | ⟨d, h, _⟩)
  · rw [hr] at hk; cases hk; omega
  · rw [hd] at h; cases h

/-- What all witnesses share: everything but `SemFair`, `MutexFair`, `CancelFair`, `TransferFair`,
    `PostKept`. -/
def BaseHyps {cfg : Config} {s0 : State} (x : Exec cfg s0) : Prop :=
  Hyps x ∧ AllocFair x ∧ FiniteSpurious x

/-- the waiter of `exBroadcast` has been woken, has left its loop and called nsync_mu_lock -/
def mutexEvs : List Event := exBroadcast.take 28

/-- `MutexFair` cannot be dropped: the woken waiter never gets the caller's mutex back. -/
theorem C05_fair_needs_mutex_fair :
    ∃ x : Exec ⟨false⟩ init, BaseHyps x ∧ SemFair x ∧ CancelFair x ∧ TransferFair x ∧ PostKept x ∧
      ¬ MutexFair x ∧ ∀ j, 28 ≤ j → ((x.ρ j).thr 0).loc = .wLocking := by
  have hok : okRun ⟨false⟩ mutexEvs = true := by decide
  have sh := stuck_of_trace mutexEvs _ (run_runD hok) 0 .wLocking (by decide)
    (others_idle hok 2 0 (by decide) (by decide)) (.inr (.inl rfl))
  have rh := recHyps_of_trace mutexEvs _ (run_runD hok) 1 (by decide)
  refine ⟨_, ⟨sh.hyps, sh.alloc (by decide), sh.finSp⟩, sh.sem (fun h => by cases h),
    sh.cancel rfl, rh.1 (by decide +kernel), rh.2 (by decide +kernel), ?_, sh.stuck⟩
  intro hm
  obtain ⟨j, hj, hne⟩ := hm 0 28 (by rw [sh.stuck 28 (Nat.le_refl _)]; rfl)
  rw [sh.stuck j hj, sh.stuck 28 (Nat.le_refl _)] at hne
  exact hne rfl

/-- the waiter of `exBroadcast` sleeps; the broadcaster has stored `waiting := 0`, posted, returned -/
def semEvs : List Event := exBroadcast.take 24

/-- `SemFair` cannot be dropped: the semaphore has been posted (count 1) and the sleeper never
    returns from its semaphore wait. -/
theorem C05_fair_needs_sem_fair :
    ∃ x : Exec ⟨false⟩ init, BaseHyps x ∧ MutexFair x ∧ CancelFair x ∧ TransferFair x ∧ PostKept x ∧
      ¬ SemFair x ∧ (∀ j, 24 ≤ j → ((x.ρ j).thr 0).loc = .wSemRet) ∧ Covered (x.ρ 24) 0 := by
  have hok : okRun ⟨false⟩ semEvs = true := by decide
  have sh := stuck_of_trace semEvs _ (run_runD hok) 0 .wSemRet (by decide)
    (others_idle hok 2 0 (by decide) (by decide)) (.inr (.inr rfl))
  have rh := recHyps_of_trace semEvs _ (run_runD hok) 1 (by decide)
  have hlen : semEvs.length = 24 := by decide
  have hfin : ∀ j, 24 ≤ j → (traceExec ⟨false⟩ init semEvs _ (run_runD hok)).ρ j = runD ⟨false⟩ semEvs :=
    fun j hj => (traceExec_tail (run_runD hok) (by rw [hlen]; exact hj)).1
  refine ⟨_, ⟨sh.hyps, sh.alloc (by decide), sh.finSp⟩, sh.mutex rfl,
    sh.cancel rfl, rh.1 (by decide +kernel), rh.2 (by decide +kernel), ?_, sh.stuck, ?_⟩
  · intro hs
    apply hs 0 24
    intro j hj
    refine ⟨by rw [sh.stuck j hj]; rfl, .inl ⟨0, ?_, ?_⟩⟩
    · rw [hfin j hj]; decide
    · rw [hfin j hj]; decide
  · show Covered ((traceExec ⟨false⟩ init semEvs _ (run_runD hok)).ρ 24) 0
    rw [hfin 24 (Nat.le_refl _)]
    exact ⟨by decide, .inr (.inl (by decide))⟩

/-- … and then another thread (outside cv.c) consumes the post. -/
def keptEvs : List Event := exBroadcast.take 24 ++ [.semPEnter 2 0, .semPRet 2 0]

/-- `PostKept` cannot be dropped: the waker's V has been consumed by somebody else (the acceptor
    accepts `sem p_ret` on any semaphore from any thread outside cv.c); the woken waiter sleeps for
    ever with count 0 — the semaphore layer is not to blame (`SemFair` holds). -/
theorem C05_fair_needs_post_kept :
    ∃ x : Exec ⟨false⟩ init, BaseHyps x ∧ SemFair x ∧ MutexFair x ∧ CancelFair x ∧ TransferFair x ∧
      ¬ PostKept x ∧ (∀ j, 26 ≤ j → ((x.ρ j).thr 0).loc = .wSemRet) ∧ Covered (x.ρ 26) 0 := by
  have hok : okRun ⟨false⟩ keptEvs = true := by decide
  have sh := stuck_of_trace keptEvs _ (run_runD hok) 0 .wSemRet (by decide)
    (others_idle hok 3 0 (by decide) (by decide)) (.inr (.inr rfl))
  have rh := recHyps_of_trace keptEvs _ (run_runD hok) 1 (by decide)
  have hfin : (traceExec ⟨false⟩ init keptEvs _ (run_runD hok)).ρ 26 = runD ⟨false⟩ keptEvs :=
    (traceExec_tail (run_runD hok) (by decide)).1
  refine ⟨_, ⟨sh.hyps, sh.alloc (by decide), sh.finSp⟩, sh.sem (fun _ => ?_), sh.mutex rfl,
    sh.cancel rfl, rh.1 (by decide +kernel), ?_, sh.stuck, ?_⟩
  · show ¬ CanWake ((traceExec ⟨false⟩ init keptEvs _ (run_runD hok)).ρ 26) 0
    rw [hfin]
    exact not_canWake (k := 0) (by decide) (by decide) (by decide)
  · intro hk
    have := hk 26 0
    rw [hfin] at this
    have h0 := this (by decide) (by decide) (by decide) (by decide)
    have : (runD ⟨false⟩ keptEvs).sem 0 = 0 := by decide
    omega
  · show Covered ((traceExec ⟨false⟩ init keptEvs _ (run_runD hok)).ρ 26) 0
    rw [hfin]
    exact ⟨by decide, .inr (.inl (by decide))⟩

/-- `xferAll` (Props/C03Signal.lean) up to the return of the signaller: the sleeping waiter's record
    has been transferred to the mutex queue. -/
def xferEvs : List Event := xferAll.take 25

/-- `TransferFair` cannot be dropped: the mutex layer never wakes the transferred waiter. -/
theorem C05_fair_needs_transfer_fair :
    ∃ x : Exec ⟨false⟩ init, BaseHyps x ∧ SemFair x ∧ MutexFair x ∧ CancelFair x ∧ PostKept x ∧
      ¬ TransferFair x ∧ (∀ j, 25 ≤ j → ((x.ρ j).thr 0).loc = .wSemRet) ∧ Covered (x.ρ 25) 0 := by
  have hok : okRun ⟨false⟩ xferEvs = true := by decide
  have sh := stuck_of_trace xferEvs _ (run_runD hok) 0 .wSemRet (by decide)
    (others_idle hok 2 0 (by decide) (by decide)) (.inr (.inr rfl))
  have rh := recHyps_of_trace xferEvs _ (run_runD hok) 1 (by decide)
  have hlen : xferEvs.length = 25 := by decide
  have hfin : ∀ j, 25 ≤ j → (traceExec ⟨false⟩ init xferEvs _ (run_runD hok)).ρ j = runD ⟨false⟩ xferEvs :=
    fun j hj => (traceExec_tail (run_runD hok) (by rw [hlen]; exact hj)).1
  refine ⟨_, ⟨sh.hyps, sh.alloc (by decide), sh.finSp⟩, sh.sem (fun _ => ?_), sh.mutex rfl,
    sh.cancel rfl, rh.2 (by decide +kernel), ?_, sh.stuck, ?_⟩
  · show ¬ CanWake ((traceExec ⟨false⟩ init xferEvs _ (run_runD hok)).ρ xferEvs.length) 0
    rw [hfin _ (by rw [hlen]; exact Nat.le_refl _)]
    exact not_canWake (k := 0) (by decide) (by decide) (by decide)
  · intro ht
    obtain ⟨j, hj, h⟩ := ht 0 25 (by rw [hfin 25 (Nat.le_refl _)]; decide)
    have := (h j (Nat.le_refl _) (by rw [hfin j hj]; decide)).1
    rw [hfin j hj] at this
    have hw : ((runD ⟨false⟩ xferEvs).recs (.w 0)).waiting = true := by decide
    rw [hw] at this; cases this
  · show Covered ((traceExec ⟨false⟩ init xferEvs _ (run_runD hok)).ρ 25) 0
    rw [hfin 25 (Nat.le_refl _)]
    exact ⟨by decide, .inr (.inr (by decide))⟩

/-- a cancellable wait (with a note) that has enqueued itself and entered nsync_sem_wait_with_cancel_ -/
def cancelEvs : List Event := [
  .tick 100, .callWait 0 false none true, .wInit 0 (.w 0), .recSt 0 .wSt1 (.w 0) 1 0, .muLd 0 .wMode 1,
  .wordLd 0 .spin0 0, .wordCas 0 0 3 0 true, .recLd 0 .wRc (.w 0) 0, .wordSt 0 .waitRel 2 3,
  .relMark 0 .wr, .nret 0, .recLd 0 .wHead (.w 0) 1]

/-- `CancelFair` cannot be dropped: the note code called by sem_wait.c never comes back. -/
theorem C05_fair_needs_cancel_fair :
    ∃ x : Exec ⟨false⟩ init, BaseHyps x ∧ SemFair x ∧ MutexFair x ∧ TransferFair x ∧ PostKept x ∧
      ¬ CancelFair x ∧ ∀ j, 12 ≤ j → ((x.ρ j).thr 0).loc = .cPre := by
  have hok : okRun ⟨false⟩ cancelEvs = true := by decide
  have sh := stuck_of_trace cancelEvs _ (run_runD hok) 0 .cPre (by decide)
    (others_idle hok 1 0 (by decide) (by decide)) (.inr (.inl rfl))
  have rh := recHyps_of_trace cancelEvs _ (run_runD hok) 1 (by decide)
  refine ⟨_, ⟨sh.hyps, sh.alloc (by decide), sh.finSp⟩, sh.sem (fun h => by cases h), sh.mutex rfl,
    rh.1 (by decide +kernel), rh.2 (by decide +kernel), ?_, sh.stuck⟩
  intro hm
  obtain ⟨j, hj, hne⟩ := hm 0 12 (by rw [sh.stuck 12 (Nat.le_refl _)]; rfl)
  rw [sh.stuck j hj, sh.stuck 12 (Nat.le_refl _)] at hne
  exact hne rfl

end NsyncVerif.CvFix
