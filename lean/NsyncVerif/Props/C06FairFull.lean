import NsyncVerif.Props.C06Fair
import NsyncVerif.Proofs.MuCFairStage
import NsyncVerif.Proofs.MuCFairDead
/-!
# C06 / C02 liveness on a mutex with conditional critical sections — towards `C06_fair_finite_steps_full`

Continues `Props/C06Fair.lean` (which reduces `C06_fair_termination_full` to `C06_fair_finite_steps_full`: "only finitely
many steps of the library happen").  Model `NsyncVerif.Model.MuC`.  Steps A and B as in the header of `Props/C02Fair.lean`; C (the owner of the spinlock
gives it up) is step E there, D (a CAS after a re-read of an unchanged word succeeds) is what its step F rests on.

## STATUS (this file follows mu_wait.c with the repair of DEFECT F9)

DEFECT F9 (genuine, reproduced on the real library — scenario and schedule in the header of
Proofs/MuCTraceDead.lean): mu_try_acquire_after_timeout_or_cancel waited for MU_LONG_WAIT even after the thread had been
woken; a timed-out nsync_mu_wait caller that was woken (designated waker) while it spun, with the long waiter queued behind
it, left the mutex dead.  For the OLD code `C06_fair_termination_full` was FALSE: `C06_fair_termination_old_code_witness`
(the old acceptor `runOldF9`, Proofs/MuCFairDead.lean, accepts `traceDead`, which ends in the dead state — word 116 =
MU_WAITING|MU_CONDITION|MU_WRITER_WAITING|MU_LONG_WAIT, nobody holding, thread 0 asleep inside nsync_mu_lock, thread 4 inside
nsync_mu_wait_with_deadline (finite deadline) woken and spinning for ever); the repaired acceptor rejects the trace at the
new load of `waiting` (`dead_new_rejects`).
REPAIR (model: program point `mtLdWk`, local `MW.wk`): at the top of the loop body `if (ATM_LOAD_ACQ (&w->nw.waiting) == 0)
zero_to_acquire = MU_ANY_LOCK;` — a woken thread no longer waits for MU_LONG_WAIT, like a woken thread in lock_slow.
For the repaired code `C06_fair_termination_full` is OPEN (neither proved nor refuted); `C06_long_wait_progress_full`
below is the invariant a proof would need (a woken spinner counts as making progress).

## Also proved here (all for ALL executions, any number of threads) — towards `C06_fair_termination_nolw_full`:

STEP A — the stage (Proofs/MuCFairStage.lean)
* `C06_stage_monotone`     `stage s t` = 3 inside an acquisition (lock / rlock / trylock / rtrylock /
                           nsync_mu_wait_with_deadline, from call to return), 2 idle holding the mutex, 1 inside a release
                           (unlock / runlock / unlock_without_wakeup), 0 idle holding nothing.  No accepted step of anybody
                           (environment included) increases anybody's stage, except the `call` of an acquisition.
                           (Coarser than MuQ's stage — nsync_mu_wait holds and releases the mutex inside ONE call — but
                           monotone; `kind_step`: only `call` / `ret` enter or leave a call, and the kind of a call in
                           progress does not change.)
* `C06_fair_stage_freezes` after the last arrival every thread's stage is non-increasing, hence eventually constant.
* `C06_fair_closes`        ALL threads at once (`reachable_bounded`: only finitely many threads ever left `idle`): with
                           `HoldersRelease`, after the last arrival the system CLOSES (`ClosedFrom x n`): from time `n` on
                           every stage is constant and is 0, 1 or 3; no `call` and no `ret` happens any more — NOBODY EVER
                           RETURNS AGAIN —; nobody holds the mutex between calls; the protected data are constant
                           (`data_step`: data change only by `dataW`).
  So what is left of `C06_fair_finite_steps_full` is a statement about a closed system: a fixed finite set of threads each
  for ever inside one call, constant data (every condition has a fixed truth value), no arrivals, no failing
  `remove_count` CAS, no environment post — show that only finitely many steps happen (equivalently, by
  `C06_fair_settled_of_finite_steps` + `C06_no_stuck_state`: nobody is for ever inside a release, and everybody for ever
  inside an acquisition ends asleep).

STEP B — points of no return (with `C06_fair_trylock_returns`, `C06_fair_return_point`, `C06_fair_wakes_delivered`,
`C06_fair_past_release_returns`, `C06_fair_wait_null_returns` of Props/C06Fair.lean)
* `C06_fair_frozen_no_return_point`  a thread whose stage has frozen is never again at a return point, inside a try-lock,
                           or in the wake-up loop of a release (it would return, and its stage would drop).

  First consequences: `C06_fair_closed_prunes` (in the closed system nobody is at a return
  point, inside a try-lock or in the wake-up loop of a release — so no fast-path acquisition by a nsync_mu_lock caller and no
  release CAS of a nsync_mu_unlock caller ever succeeds again) and `C06_fair_closed_eval_false` (every condition evaluated
  inside nsync_mu_wait yields false and the call goes on to re-wait).

STEPS C, D — EVERY spinlock region, against a word nobody else changes (Proofs/MuCFairOwn.lean, MuCFairRegions.lean)
* `C06_cas_after_reread`   (D) the release CAS of mu_release_spinlock: if the word is what the thread loaded, the CAS succeeds
                           and the thread is in its wait loop; otherwise the word has changed, the thread re-loads and the
                           word is untouched.  (Same for the other word CASes of the regions, inside `own_spinS`: the failing
                           rules of `PcMove` carry `s.word ≠ old`; loads record the current word: `LdPc.lsRel`, …)
* `C06_spin_region_exit`   (C, outside the scan loop) a thread in a spinlock region — queue insertion and
                           mu_release_spinlock of lock_slow; the release loop of nsync_mu_wait; the removal after a timeout
                           (mu_wait.c:102-125); the release before conditions are tested (mu.c:354) and the final CAS of
                           unlock_slow — leaves the region, PROVIDED that from now on nobody else changes the word and no CAS
                           on a `remove_count` fails: weak fairness + an explicit rank (`spinRk`: at most 6 own steps — one
                           stale CAS, a re-load, a CAS —, 7 for the removal after a timeout).
* `C06_scan_loop_exit`     (C, the scan loop) with `testing_conditions` off the scan keeps the spinlock: the thread reaches
                           the final load of unlock_slow after at most 2·(|mu->waiters| + |new_waiters|) + 1 own steps
                           (`scanRun_mu`: every successful CAS on a `remove_count` leaves less to look at), provided no CAS
                           on a `remove_count` fails.  No hypothesis on the word; `queue_frame`: while a thread owns the
                           spinlock no step of anybody else changes mu->waiters.
* `C06_spinlock_released`  (C) together: the owner of MU_SPINLOCK, facing a word nobody else changes and no failing
                           `remove_count` CAS, gives the spinlock up.  Conditions are evaluated in none of these regions
                           (`C16_no_callback_under_spinlock`): with `testing_conditions` on, the scan releases the spinlock
                           (`ScanStart.rel`, `scanRun_spin`) before it evaluates.

## What remains for `C06_fair_termination_nolw_full` (nothing below is proved)

In the closed system (`ClosedFrom`), with no failing `remove_count` CAS and no environment post any more:
1. `C06_closed_word_settles_full` — the word changes only finitely often.  Sketch: every cycle of a thread that contains a
   successful CAS on the word passes through a semaphore P (lock_slow: enqueue, sleep; nsync_mu_wait: evaluate FALSE —
   `C06_fair_closed_eval_false` —, enqueue, release / scan, sleep), so it consumes a post; posts come only from the
   wake-up loops of nsync_mu_wait callers (an nsync_mu_unlock caller that reaches its wake-up loop returns: excluded by
   `C06_fair_closed_prunes`); a nsync_mu_wait caller is woken as a conditional waiter only if the scan finds its condition
   TRUE, on the same constant data on which it has just found it FALSE (`reachable_pd_cond`: the record carries the
   condition of the call) — so after its next enqueue it never evaluates, hence never scans, again: at most two scans per
   nsync_mu_wait caller, finitely many posts, finitely many rounds.  Needs a lexicographic potential (remaining scans,
   posts in flight = wake lists + semaphore counts, awake contenders) that every successful CAS on the word decreases.
2. `C06_closed_const_word_stops_full` — once the word is constant only finitely many steps happen: the spinlock is free
   (`C06_spinlock_released`), every CAS after a re-read would succeed and change the word (`C06_cas_after_reread` and its
   siblings), so after at most one stale CAS no thread is at a program point from which it reaches such a CAS; what is left
   is idle, asleep, the spurious-wake-up loops (finitely many posts) — and a thread spinning in
   mu_try_acquire_after_timeout_or_cancel on MU_LONG_WAIT: point 3.  Mechanical (local ranks for ~60 program points, the
   successor lemmas are inversions of the step relation at one program point: `step_accepts` and the `own_*` lemmas of
   Proofs/MuCFairAccepts.lean, MuCFairOwn.lean).
3. `C06_long_wait_progress_full` (OPEN for the repaired code; false for the old one): without it, the hypothesis `NoLongWait` in 2.
(1 ∧ 2 ⟹ `C06_fair_termination_nolw_full`: `C06_fair_termination_nolw_of_closed`, machine-checked glue.)

(MU_DESIG_WAKER can be cleared on behalf of ANOTHER woken thread: this is how the dead state of F9 arose.)
-/
namespace NsyncVerif.MuC

/-! ## step A -/

/-- No accepted step of anybody increases anybody's stage, except the `call` of an acquisition. -/
theorem C06_stage_monotone {cfg : Cfg} {s s' : State} {e : Event} (hr : Reachable cfg s) (hs : step cfg s e = .ok s')
    (hna : e.isArrival = false) (t : Tid) : stage s' t ≤ stage s t :=
  stage_step hr hs hna t

/-- After the last arrival every thread's stage freezes. -/
theorem C06_fair_stage_freezes {cfg : Cfg} {s0 : State} (x : Exec cfg s0) (hr : Reachable cfg s0) {n0 : Nat}
    (hna : NoArrivals x n0) (t : Tid) : ∃ n, n0 ≤ n ∧ ∀ j, n ≤ j → stage (x.ρ j) t = stage (x.ρ n) t :=
  stage_freezes x hr hna t

/-- After the last arrival the system closes: nobody ever returns again, nobody holds between calls, the data are
    constant, every thread is for ever idle holding nothing / inside a release / inside an acquisition. -/
theorem C06_fair_closes {cfg : Cfg} {s0 : State} (x : Exec cfg s0) (hr : Reachable cfg s0) (hh : HoldersRelease x)
    (ha : FiniteArrivals x) : ∃ n, ClosedFrom x n := by
  obtain ⟨n0, hn0⟩ := ha
  obtain ⟨n, _, hc⟩ := closes x hr hh (n0 := n0) hn0
  exact ⟨n, hc⟩

/-! ## step B -/

set_option linter.unusedVariables false in
/-- Weak fairness and the frozen stage are all the proof uses (`hr`, `hh`, `hna`, `hn` are not needed). -/
theorem C06_fair_frozen_no_return_point {cfg : Cfg} {s0 : State} (x : Exec cfg s0) (hr : Reachable cfg s0) (hf : WeakFair x)
    (hh : HoldersRelease x) {n0 : Nat} (hna : NoArrivals x n0) (t : Tid) {n : Nat} (hn : n0 ≤ n)
    (hfr : ∀ j, n ≤ j → stage (x.ρ j) t = stage (x.ρ n) t) (j : Nat) (hj : n ≤ j) :
    ¬ retPc ((x.ρ j).pc t) ∧ ¬ tryPc ((x.ρ j).pc t) ∧ ∀ l nw, ¬ wakePc (.ul l nw) ((x.ρ j).pc t) :=
  frozen_no_return_point x hf t hfr j hj

/-! ## steps C and D -/

/-- (D) mu_release_spinlock: the CAS after the re-read succeeds iff the word has not changed in between. -/
theorem C06_cas_after_reread {cfg : Cfg} {s s' : State} {e : Event} {t : Tid} {c : SL} {old : Word}
    (hs : step cfg s e = .ok s') (ht : e.tid = some t) (hd : e.isData = false) (hp : s.pc t = .lsRelCas c old) :
    (s.word = old ∧ s'.pc t = .lsWaitLd c) ∨ (s.word ≠ old ∧ s'.pc t = .lsRelLd c ∧ s'.word = s.word) :=
  own_lsRelCas hs ht hd hp

/-- (C) The owner of MU_SPINLOCK outside the scan loop, facing a word nobody else changes, leaves its region. -/
theorem C06_spin_region_exit {cfg : Cfg} {s0 : State} (x : Exec cfg s0) (hf : WeakFair x) (hr : Reachable cfg s0) (u : Tid)
    (i : Nat) (hin : ((x.ρ i).pc u).spinS = true)
    (hquiet : ∀ j, i ≤ j → ¬ RMoves x u j → (x.ρ (j + 1)).word = (x.ρ j).word)
    (hrc : ∀ j e, i ≤ j → x.σ j = some e → e.rcFail = false) :
    ∃ j, i ≤ j ∧ ((x.ρ j).pc u).spinS = true ∧ RMoves x u j ∧ ((x.ρ (j + 1)).pc u).spinS = false :=
  spin_region_exit x hf hr u i hin hquiet hrc

/-- (C) the scan loop with `testing_conditions` off. -/
theorem C06_scan_loop_exit {cfg : Cfg} {s0 : State} (x : Exec cfg s0) (hf : WeakFair x) (hr : Reachable cfg s0) (u : Tid)
    (i : Nat) (hin : ((x.ρ i).pc u).scanLoop = true) (hrc : ∀ j e, i ≤ j → x.σ j = some e → e.rcFail = false) :
    ∃ j, i ≤ j ∧ ((x.ρ j).pc u).scanLoop = true ∧ RMoves x u j ∧ ∃ r f, (x.ρ (j + 1)).pc u = .usFinLd r f :=
  scan_loop_exit x hf hr u i hin hrc

/-- (C) every region: the owner of MU_SPINLOCK, facing a word nobody else changes, gives it up. -/
theorem C06_spinlock_released {cfg : Cfg} {s0 : State} (x : Exec cfg s0) (hf : WeakFair x) (hr : Reachable cfg s0) (u : Tid)
    (i : Nat) (hin : (x.ρ i).sp = some u)
    (hquiet : ∀ j, i ≤ j → ¬ RMoves x u j → (x.ρ (j + 1)).word = (x.ρ j).word)
    (hrc : ∀ j e, i ≤ j → x.σ j = some e → e.rcFail = false) : ∃ j, i ≤ j ∧ (x.ρ j).sp ≠ some u :=
  spinlock_released x hf hr u i hin hquiet hrc

/-- While a thread owns MU_SPINLOCK nobody else changes mu->waiters. -/
theorem C06_queue_frame {cfg : Cfg} {s s' : State} {e : Event} {u : Tid} (hr : Reachable cfg s) (hsp : s.sp = some u)
    (hs : step cfg s e = .ok s') (hne : e.tid ≠ some u) : s'.queue = s.queue :=
  queue_frame (reachable_inv1 hr) (reachable_inv3 hr) hsp hs hne

/-! ## the closed system -/

set_option linter.unusedVariables false in
/-- Of the hypotheses only weak fairness and `hc.frozen` are used. -/
theorem C06_fair_closed_prunes {cfg : Cfg} {s0 : State} (x : Exec cfg s0) (hr : Reachable cfg s0) (hf : WeakFair x)
    (hh : HoldersRelease x) {n0 n : Nat} (hna : NoArrivals x n0) (hn : n0 ≤ n) (hc : ClosedFrom x n) (t : Tid) (j : Nat)
    (hj : n ≤ j) : ¬ retPc ((x.ρ j).pc t) ∧ ¬ tryPc ((x.ρ j).pc t) ∧ ∀ l nw, ¬ wakePc (.ul l nw) ((x.ρ j).pc t) :=
  closed_prunes x hf hc t j hj

set_option linter.unusedVariables false in
/-- Again from weak fairness and `hc.frozen` alone: a `true` would take the thread to its return point. -/
theorem C06_fair_closed_eval_false {cfg : Cfg} {s0 : State} (x : Exec cfg s0) (hr : Reachable cfg s0) (hf : WeakFair x)
    (hh : HoldersRelease x) {n0 n : Nat} (hna : NoArrivals x n0) (hn : n0 ≤ n) (hc : ClosedFrom x n) {t : Tid} {j : Nat}
    (hj : n ≤ j) {c : MW} (hp : (x.ρ j).pc t = .mwEval c) {e : Event} (he : x.σ j = some e) (ht : e.tid = some t)
    (hd : e.isData = false) : ∃ fn k, e = .cond t fn k false ∧ (x.ρ (j + 1)).pc t = .mwStW c :=
  closed_eval_false x hf hc hj hp he ht hd

/-- OPEN (1): in the closed system the word changes only finitely often. -/
def C06_closed_word_settles_full : Prop :=
  ∀ (cfg : Cfg) (s0 : State) (x : Exec cfg s0), FairHyps x → ∀ n, ClosedFrom x n →
    ∃ N, ∀ j, N ≤ j → (x.ρ j).word = (x.ρ N).word

/-- A thread spinning in mu_try_acquire_after_timeout_or_cancel that has NOT been seen woken (it still honours MU_LONG_WAIT). -/
def PC.mtSpin : PC → Bool
  | .mtLd c | .mtCasAcq c _ | .mtCasWW c _ | .mtLdWk c _ => !c.wk
  | _ => false

/-- (3) OPEN for the repaired code (it was false for the old code, where a woken spinner waited for the bit too).  While MU_LONG_WAIT is set and the spinlock is free, somebody who does not
    wait for the bit is responsible for the queued waiters: a thread that owns a share, an unlocker mid-scan or in its
    wake-up loop, or a thread in flight that is not spinning in mu_try_acquire_after_timeout_or_cancel. -/
def C06_long_wait_progress_full : Prop :=
  ∀ (cfg : Cfg) (s : State), Reachable cfg s → s.word.lw = true → s.word.spin = false →
    ∃ t, shareOf s t ≠ none ∨ (s.pc t).unl = true ∨ (s.pc t).wakeL ≠ [] ∨
      (InFlight s t ∧ (s.pc t).mtSpin = false ∧ (s.pc t).timedOut = false)

/-- MU_LONG_WAIT is never set. -/
def NoLongWait {cfg : Cfg} {s0 : State} (x : Exec cfg s0) : Prop := ∀ j, (x.ρ j).word.lw = false

/-- THE CORRECTED STATEMENT: `C06_fair_termination_full` for executions in which MU_LONG_WAIT is never set.  NOT PROVED. -/
def C06_fair_termination_nolw_full : Prop :=
  ∀ (cfg : Cfg) (s0 : State) (x : Exec cfg s0), FairHyps x → NoLongWait x →
    ∀ t i, MustReturn x t i → ∃ j, i ≤ j ∧ (x.ρ j).pc t = .idle

/-- OPEN (2): if MU_LONG_WAIT is never set, then once the word is constant only finitely many library steps happen. -/
def C06_closed_const_word_stops_full : Prop :=
  ∀ (cfg : Cfg) (s0 : State) (x : Exec cfg s0), FairHyps x → NoLongWait x → ∀ n, ClosedFrom x n →
    (∃ N, ∀ j, N ≤ j → (x.ρ j).word = (x.ρ N).word) → ∃ N, NoStepsFrom x N

/-- The glue: (1) and (2) give the corrected theorem. -/
theorem C06_fair_termination_nolw_of_closed :
    C06_closed_word_settles_full → C06_closed_const_word_stops_full → C06_fair_termination_nolw_full := by
  intro h1 h2 cfg s0 x hy hlw t i hm
  obtain ⟨n, hc⟩ := C06_fair_closes x hy.reach hy.release hy.arrivals
  obtain ⟨N, hN⟩ := h2 cfg s0 x hy hlw n hc (h1 cfg s0 x hy n hc)
  obtain ⟨m, hs⟩ := settled_of_no_steps x hy hN
  exact fair_termination_of_settled x hy.reach hy.contract hy.note hs t i hm

/-! ## DEFECT F9 of the old code -/

/-- For mu_wait.c before the repair of F9 the theorem was false: the old acceptor accepts `traceDead` (an execution
    reproduced on the real library), which ends with the mutex dead — MU_LONG_WAIT set, no lock bit, spinlock free, no
    designated waker; thread 0 asleep inside nsync_mu_lock with `long_wait` set, queued; thread 4 inside
    nsync_mu_wait_with_deadline with the finite deadline 5, timed out, woken, spinning — and the spinner's re-load of the
    word leads back to the same program point; the repaired acceptor rejects the trace at the new load of `waiting`. -/
theorem C06_fair_termination_old_code_witness :
    afterOldF9 ⟨false⟩ traceDead (fun s =>
      encode s.word == 116 && s.word.lw && !s.word.wlock && s.word.readers == 0 && !s.word.spin && !s.word.desig &&
      s.queue == [0] && (s.wr 0).sem == 0 && !(s.wr 3).waiting &&
      (match s.pc 0 with | .lsPRet c => c.lwl && decide (c.mw = none) | _ => false) &&
      (match s.pc 4 with | .mtLd c => decide (c.dl = some 5) && decide (c.so = .timedout) | _ => false) &&
      decide (s.pc 1 = .idle) && decide (s.pc 3 = .idle) && decide (s.held 1 = none) && decide (s.held 3 = none)) = true ∧
    afterOldF9 ⟨false⟩ (traceDead ++ [.ld 4 .rlx .word 116, .ld 4 .rlx .word 116, .ld 4 .rlx .word 116])
      (fun s => match s.pc 4 with | .mtLd _ => encode s.word == 116 | _ => false) = true ∧
    acceptsF ⟨false⟩ traceDead = false :=
  ⟨dead_old_accepts, dead_old_spins, dead_new_rejects.1⟩

/-! ## the open point: non-vacuity -/

set_option maxRecDepth 4096 in
/-- Non-vacuity of the premise: `traceLongWait` ends with MU_LONG_WAIT set and the spinlock free — and there the
    conclusion holds (thread 1 owns the writer share). -/
example : stateAfter ⟨false⟩ traceLongWait (fun s => s.word.lw && !s.word.spin && decide (shareOf s 1 ≠ none)) = true :=
  longWait_end _ fun _ h => (Bool.and_eq_true_iff.mp h).2

end NsyncVerif.MuC
