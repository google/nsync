import NsyncVerif.Model.Deadline
import NsyncVerif.Props.C15Arith
import NsyncVerif.Props.C18
/-
  Property C15 — every deadline value is handled: expired deadlines time out, none crash.

  What is decided here by proof is the part of C15 that is pure computation on the deadline value:
  the timespec handed to the kernel is always one the futex contract accepts (no EINVAL, hence the
  ASSERT at nsync_semaphore_futex.c:119 cannot fire for any deadline), a pre-epoch deadline is clamped
  to an instant that is still expired, every normalized deadline is classified as expired / future /
  none by the comparisons the code uses, and `nsync_wait_n`'s short-circuit takes exactly the
  deadlines not after time zero.  "No early timeout" and "an expired deadline needs no wake-up" for
  the semaphore are C12_timeout_real / C12_post_kept_on_timeout (Futex layer).  The behaviour of the
  whole entry points on the real platform (real futex, real kernel, C and C++ builds) is tied in by
  the real-platform probe, whose observed outcome class must equal `classify`.
-/
namespace NsyncVerif.Props.C15
open NsyncVerif.Time NsyncVerif.Deadline

/-- For EVERY deadline (normalized or not, any seconds value incl. negative) the timespec handed to
    the kernel is NULL or has tv_sec ≥ 0; for normalized ones the kernel accepts it. -/
theorem C15_futex_args_accepted (d : Time) (hn : Norm d) : kernelAccepts (futexTimespec d) = true := by
  unfold futexTimespec
  split
  · rfl
  · split
    · decide
    · rename_i hneg
      have h1 : 0 ≤ d.sec := by omega
      unfold Norm at hn
      simp [kernelAccepts, h1, hn.1]
      exact hn.2

/-- The clamp does not turn an expired deadline into a live one: what replaces a pre-epoch deadline is
    itself not after any non-negative "now", and the library's own re-check `cmp d now ≤ 0` after the
    kernel's ETIMEDOUT succeeds, so the call reports ETIMEDOUT. -/
theorem C15_clamp_still_expired (d now : Time) (hd : Norm d) (hnow : Norm now) (hneg : d.sec < 0)
    (hpos : 0 ≤ now.sec) : futexTimespec d = some (0, 0) ∧ cmp d now ≤ 0 ∧ cmp zero now ≤ 0 := by
  have hnd : cmp d noDeadline ≠ 0 := by
    intro h
    have := (C15_noDeadline_eq_iff d).mp h
    rw [this] at hneg
    simp [noDeadline] at hneg
  unfold Norm at hd hnow
  exact ⟨by simp [futexTimespec, hnd, hneg], (cmp_le_iff_toNs hd hnow).mpr (by unfold toNs; omega),
    (cmp_le_iff_toNs (a := zero) (by decide) hnow).mpr (by unfold toNs zero; simp; omega)⟩

/-- A deadline that is not clamped is passed through unchanged. -/
theorem C15_timespec_faithful (d : Time) (h0 : 0 ≤ d.sec) (hnd : cmp d noDeadline ≠ 0) :
    futexTimespec d = some (d.sec, d.nsec) := by
  have : ¬ d.sec < 0 := by omega
  simp [futexTimespec, hnd, this]

/-- `no_deadline` (and only it) means "no timeout": the kernel gets NULL. -/
theorem C15_null_iff_no_deadline (d : Time) : futexTimespec d = none ↔ d = noDeadline := by
  unfold futexTimespec
  constructor
  · intro h
    split at h
    · rename_i hc; exact (C15_noDeadline_eq_iff d).mp hc
    · split at h <;> cases h
  · intro h
    subst h
    simp [(C15_noDeadline_eq_iff noDeadline).mpr rfl]

/-- Classification is total and agrees with integer time: expired ⇔ toNs d ≤ toNs now. -/
theorem C15_classify_expired (d now : Time) (hd : Norm d) (hn : Norm now) (ev : Bool) :
    (classify d now ev = .timeoutPrompt ↔ toNs d ≤ toNs now) := by
  rw [← cmp_le_iff_toNs hd hn]
  unfold classify
  constructor
  · intro hc
    by_cases h : cmp d now ≤ 0
    · exact h
    · rw [if_neg h] at hc; cases ev <;> cases hc
  · intro h; rw [if_pos h]

/-- A future deadline never yields the prompt-timeout class, with or without the event. -/
theorem C15_future_not_prompt (d now : Time) (hd : Norm d) (hn : Norm now) (ev : Bool)
    (hf : toNs now < toNs d) : classify d now ev ≠ .timeoutPrompt := by
  intro hc
  have := (C15_classify_expired d now hd hn ev).mp hc
  omega

/-- `nsync_wait_n`'s short-circuit (wait.c:39) takes exactly the deadlines at or before time zero — in
    particular every pre-epoch deadline — so those never reach the semaphore. -/
theorem C15_wait_n_short_circuit (d : Time) (hd : Norm d) :
    (waitNShortCircuits d = true ↔ toNs d ≤ 0) := by
  unfold waitNShortCircuits
  simp
  exact C15_cmp_zero_classifies hd

/-! Non-vacuity / the boundary set of the property. -/
example : futexTimespec ⟨-1, 0⟩ = some (0, 0) := by decide +kernel
example : futexTimespec ⟨-1, 999999999⟩ = some (0, 0) := by decide +kernel
example : futexTimespec ⟨-4000000000, 0⟩ = some (0, 0) := by decide +kernel
example : futexTimespec zero = some (0, 0) := by decide +kernel
example : futexTimespec ⟨0, 1⟩ = some (0, 1) := by decide +kernel
example : futexTimespec noDeadline = none := by decide +kernel
example : futexTimespec ⟨9223372036854775807, 999999998⟩ = some (9223372036854775807, 999999998) := by decide +kernel
example : classify ⟨-1, 0⟩ ⟨1790000000, 5⟩ false = .timeoutPrompt := by decide +kernel
example : classify ⟨1790000001, 0⟩ ⟨1790000000, 5⟩ false = .timeoutAt := by decide +kernel
example : classify noDeadline ⟨1790000000, 5⟩ true = .event := by decide +kernel

end NsyncVerif.Props.C15
