/-
  Property C07 — nsync_run_once runs its function exactly once and nobody returns early.

  "For any number of threads calling any mix of nsync_run_once, nsync_run_once_arg,
   nsync_run_once_spin and nsync_run_once_arg_spin on the same nsync_once, exactly one of the
   calls runs its function, exactly once, and no call returns before that run has completed.
   Calls on a once that is already done return without blocking."

  Model: `NsyncVerif/Model/Once.lean` (acceptor for /repo/internal/once.c:61-145, one atomic
  operation / lock operation / callback boundary per step).  All theorems quantify over every
  reachable state, i.e. over every number of threads and once objects, every mix of the four
  entry points, every interleaving, every spurious wake-up / timeout of the cv wait, and every
  hashing `cfg.slotOf` of once objects to `once_sync[]` slots (in particular once objects that
  share a slot).  Nothing is bounded; nothing is enumerated.

  Status: every statement below is proved in full (no `_partial`).
  Assumptions (see the header of Model/Once.lean): A1 the slot lock is a mutual-exclusion lock
  (C01/C02; additionally *checked* on every log by the acceptor), A2 the cv wait releases and
  re-acquires it (C04/C05), A3 broadcast has no effect on this layer, A4 no nested run_once
  under one tid.  Liveness ("every call returns") is proved up to fairness: `C07_progress` is
  deadlock freedom, `C07_no_stuck_state` says the wait loop exits as soon as the winner is
  done; the fair-termination step on top is `Props/C07Fair.lean`.
-/
import NsyncVerif.Proofs.OnceProgress

namespace Once

/-! ### exactly one run -/

/-- The callback history of an once object: not started, or started exactly by the CAS winner,
    who is still on the winner's path unless the word is already 2. -/
theorem Inv.starts {cfg : Config} {s : State} (hi : Inv cfg s) (o : OnceId) :
    s.fStarts o = [] ∨
    ∃ t, s.fStarts o = [t] ∧ s.winner o = some t ∧ ((s.pc t).InW o ∨ s.word o = 2) := by
  have hle := hi.word_le o
  by_cases e0 : s.word o = 0
  · exact .inl (hi.w0 o e0).2.1
  · by_cases e1 : s.word o = 1
    · obtain ⟨t, hw, hin, hs, _⟩ := hi.w1 o e1
      rw [hs]
      cases hp : s.pc t <;> simp only [PC.startsOf, true_or] <;>
        exact .inr ⟨t, rfl, hw, .inl (hp ▸ hin)⟩
    · obtain ⟨t, hw, hs, _⟩ := hi.w2 o (by omega)
      exact .inr ⟨t, hs, hw, .inr (by omega)⟩

/-- The user function of an once object is started at most once, whatever the callers do. -/
theorem C07_at_most_once {cfg : Config} {s : State} (h : Reachable cfg s) (o : OnceId) :
    (s.fStarts o).length ≤ 1 := by
  rcases (inv_reachable h).starts o with h0 | ⟨t, h1, -⟩
  · simp [h0]
  · simp [h1]

/-- The thread that runs the function is the one whose CAS 0→1 on `o` succeeded (ghost `winner`),
    it had called run_once on `o`, and it is still inside that call's winner section unless the
    word is already 2. -/
theorem C07_runner_is_caller {cfg : Config} {s : State} (h : Reachable cfg s) {o : OnceId}
    {t : Tid} (hs : s.fStarts o = [t]) :
    s.winner o = some t ∧ (t, o) ∈ s.called ∧ ((s.pc t).InW o ∨ s.word o = 2) := by
  have hi := inv_reachable h
  rcases hi.starts o with h0 | ⟨u, h1, hw, hin⟩
  · rw [h0] at hs; cases hs
  · cases h1.symm.trans hs
    exact ⟨hw, hi.winCalled o t hw, hin⟩

/-- `winner o` is written only by a successful `ATM_CAS_ACQ (once, 0, 1)` (once.c:69) performed
    by a thread inside a run_once call on `o`; the word goes 0→1 at that very step. -/
theorem C07_winner_only_by_cas {cfg : Config} {s s' : State} {e : Event}
    (h : step cfg s e = .ok s') (o : OnceId) :
    s'.winner o = s.winner o ∨
    ∃ t f, e = .cas t .impl .acq o 0 1 0 true ∧ s.pc t = .casTry f ∧ f.o = o ∧
      s.word o = 0 ∧ s'.word o = 1 ∧ s'.winner o = some t := by
  cases step_ok h with
  | @casOk t f hp hw =>
    by_cases ho : o = f.o
    · subst ho; exact .inr ⟨t, f, rfl, hp, rfl, hw, upd_same .., upd_same ..⟩
    · exact .inl (upd_ne _ ho)
  | _ => exact .inl rfl

/-- The function of `o` is entered only by the thread that won the CAS on `o`. -/
theorem C07_entered_only_by_winner {cfg : Config} {s s' : State} {e : Event}
    (hr : Reachable cfg s) (h : step cfg s e = .ok s') (o : OnceId) :
    s'.fStarts o = s.fStarts o ∨
    ∃ t a, e = .cbStart t a ∧ s.winner o = some t ∧ s.word o = 1 ∧ s.fStarts o = [] ∧
      s'.fStarts o = [t] := by
  cases step_ok h with
  | @cbStart t f hp =>
    -- the thread at once.c:77/79 won the CAS on its once object
    by_cases ho : o = f.o
    · subst ho
      obtain ⟨hw1, hwin, hst, -⟩ := (inv_reachable hr).winner_at hp rfl
      exact .inr ⟨t, f.arg, rfl, hwin, hw1, hst, (upd_same ..).trans (by rw [hst]; rfl)⟩
    · exact .inl (upd_ne _ ho)
  | _ => exact .inl rfl

/-! ### nobody returns early -/

/-- No call on `o` has returned unless the (unique) run of the function has completed. -/
theorem C07_no_early_return {cfg : Config} {s : State} (h : Reachable cfg s) {t : Tid}
    {o : OnceId} (hret : (t, o) ∈ s.returned) : (s.fEnds o).length = 1 := by
  have hi := inv_reachable h
  obtain ⟨u, _, _, he⟩ := hi.w2 o (hi.ret t o hret)
  simp [he]

/-- Exactly one run: once any call on `o` has returned, the function was started exactly once and
    ended exactly once, by the same thread, the CAS winner. -/
theorem C07_exactly_once {cfg : Config} {s : State} (h : Reachable cfg s) {t : Tid}
    {o : OnceId} (hret : (t, o) ∈ s.returned) :
    ∃ w, s.winner o = some w ∧ s.fStarts o = [w] ∧ s.fEnds o = [w] ∧ s.word o = 2 := by
  have hi := inv_reachable h
  have h2 := hi.ret t o hret
  obtain ⟨u, hw, hs, he⟩ := hi.w2 o h2
  exact ⟨u, hw, hs, he, h2⟩

/-- The same at the moment of returning: a thread whose next event is the `ret` of its call on
    `f.o` (the only pc from which `ret` is accepted) already sees the completed run. -/
theorem C07_return_only_when_done {cfg : Config} {s s' : State} (h : Reachable cfg s) {t : Tid}
    {b a : Bool} (hstep : step cfg s (.ret t b a) = .ok s') :
    ∃ f, s.pc t = .readyRet f ∧ f.blocking = b ∧ f.arg = a ∧ s.word f.o = 2 ∧
      (s.fEnds f.o).length = 1 ∧ s'.returned = (t, f.o) :: s.returned := by
  have hi := inv_reachable h
  cases step_ok hstep with
  | skip hn => cases hn
  | @ret _ f hp =>
    have h2 : s.word f.o = 2 := hi.leaving t f.o (by rw [hp]; rfl)
    obtain ⟨u, _, _, he⟩ := hi.w2 f.o h2
    exact ⟨f, hp, rfl, rfl, h2, by simp [he], rfl⟩

/-! ### meaning of the word, monotonicity -/

/-- The invariant behind C07: what the three values of the once word mean. -/
theorem C07_word_meaning {cfg : Config} {s : State} (h : Reachable cfg s) (o : OnceId) :
    s.word o ≤ 2 ∧
    (s.word o = 0 → s.fStarts o = [] ∧ s.fEnds o = [] ∧ s.winner o = none) ∧
    (s.word o = 1 → ∃ t, s.winner o = some t ∧ (s.pc t).InW o ∧
        s.fStarts o = (s.pc t).startsOf t ∧ s.fEnds o = (s.pc t).endsOf t) ∧
    (s.word o = 2 → (s.fEnds o).length = 1 ∧ (s.fStarts o).length = 1 ∧
        ∀ t, ¬ (s.pc t).InW o) := by
  have hi := inv_reachable h
  refine ⟨hi.word_le o, ?_, hi.w1 o, ?_⟩
  · intro e0; have := hi.w0 o e0; exact ⟨this.2.1, this.2.2, this.1⟩
  · intro e2
    obtain ⟨u, _, hs, he⟩ := hi.w2 o e2
    refine ⟨by simp [he], by simp [hs], ?_⟩
    intro t hin
    have := (hi.inW t o hin).1
    omega

/-- A thread between its CAS win and its store of 2 on `o` is unique, and the word is 1. -/
theorem C07_winner_unique {cfg : Config} {s : State} (h : Reachable cfg s) {o : OnceId}
    {t u : Tid} (ht : (s.pc t).InW o) (hu : (s.pc u).InW o) : t = u ∧ s.word o = 1 := by
  have hi := inv_reachable h
  have h1 := hi.inW t o ht
  have h2 := hi.inW u o hu
  exact ⟨by simpa [h1.2] using h2.2, h1.1⟩

/-- One step moves the word of `o` not at all, 0→1, or 1→2. -/
theorem C07_word_step {cfg : Config} {s s' : State} {e : Event} (h : Reachable cfg s)
    (hstep : step cfg s e = .ok s') (o : OnceId) :
    s'.word o = s.word o ∨ (s.word o = 0 ∧ s'.word o = 1) ∨ (s.word o = 1 ∧ s'.word o = 2) :=
  word_step (inv_reachable h) hstep o

/-- The word is monotone along any run (so "done" is stable). -/
theorem C07_word_monotone {cfg : Config} {s s' : State} {evs : List Event}
    (h : Reachable cfg s) (hrun : run cfg s evs = .ok s') (o : OnceId) :
    s.word o ≤ s'.word o :=
  ((isRun cfg).induct (Q := fun s1 => Inv cfg s1 ∧ s.word o ≤ s1.word o)
    ⟨inv_reachable h, Nat.le_refl _⟩
    (fun s1 _ s2 _ h1 hs => ⟨inv_step h1.1 hs, by have := word_step h1.1 hs o; omega⟩) hrun).2

/-! ### calls on a done once return without blocking -/

/-- A call (any of the four entry points) that starts when the word is 2 consists of exactly
    `call`, one acquire load observing 2, `ret`: all three are accepted, no lock is touched, no
    callback runs, no other shared state changes.  (Holds in every state, reachable or not.) -/
theorem C07_done_is_wait_free {cfg : Config} {s : State} {t : Tid} {o : OnceId} (b a : Bool)
    (hw : s.word o = 2) (hidle : s.pc t = .idle) :
    ∃ s1 s2 s3,
      step cfg s (.call t b a o) = .ok s1 ∧
      step cfg s1 (.ld t (.outer b a) .acq o 2) = .ok s2 ∧
      step cfg s2 (.ret t b a) = .ok s3 ∧
      s3.pc t = .idle ∧ s3.returned = (t, o) :: s.returned ∧
      s3.lockHolder = s.lockHolder ∧ s3.word = s.word ∧
      s3.fStarts = s.fStarts ∧ s3.fEnds = s.fEnds := by
  let s1 : State := { s.setPc t (.outerLd ⟨o, b, a⟩) with called := (t, o) :: s.called }
  let s2 : State := s1.setPc t (.readyRet ⟨o, b, a⟩)
  let s3 : State := { s2.setPc t .idle with returned := (t, o) :: s2.returned }
  refine ⟨s1, s2, s3, ?_, ?_, ?_, ?_⟩
  · simp only [step, hidle, s1]
  · simp [step, State.setPc, need, hw, s1, s2]
  · simp [step, State.setPc, need, s2, s3]
  · simp [State.setPc, s1, s2, s3]

/-- … and there is no other way: with the word at 2, the only own event accepted after the
    `call` is the acquire load observing 2 (no lock call, no callback, no CAS), and it leads to
    the pc from which only `ret` is accepted. -/
theorem C07_done_only_path {cfg : Config} {s s' : State} {t : Tid} {o : OnceId} {b a : Bool}
    {e : Event} (hw : s.word o = 2) (hpc : s.pc t = .outerLd ⟨o, b, a⟩)
    (he : e.tid = some t) (h : step cfg s e = .ok s') :
    e = .ld t (.outer b a) .acq o 2 ∧ s'.pc t = .readyRet ⟨o, b, a⟩ ∧
    s'.lockHolder = s.lockHolder ∧ s'.word = s.word := by
  have hs := step_ok h
  cases hs
  case skip hidle => rw [hidle t he] at hpc; cases hpc
  case outerLd hp => cases he; rw [hp] at hpc; cases hpc; simp [hw, State.setPc]
  all_goals (cases he; rw [‹s.pc _ = _›] at hpc; cases hpc)

theorem C07_ready_only_ret {cfg : Config} {s s' : State} {t : Tid} {f : Frame} {e : Event}
    (hpc : s.pc t = .readyRet f) (he : e.tid = some t) (h : step cfg s e = .ok s') :
    e = .ret t f.blocking f.arg ∧ s'.pc t = .idle ∧ s'.returned = (t, f.o) :: s.returned ∧
    s'.lockHolder = s.lockHolder ∧ s'.word = s.word := by
  have hs := step_ok h
  cases hs
  case skip hidle => rw [hidle t he] at hpc; cases hpc
  case ret hp => cases he; rw [hp] at hpc; cases hpc; simp [State.setPc]
  all_goals (cases he; rw [‹s.pc _ = _›] at hpc; cases hpc)

/-- Other threads cannot disturb such a call: their events leave this thread's pc alone, and the
    word stays 2 (`C07_word_step`: the word moves only 0→1 and 1→2). -/
theorem C07_done_stable {cfg : Config} {s s' : State} {e : Event} (h : Reachable cfg s)
    (hstep : step cfg s e = .ok s') {o : OnceId} (hw : s.word o = 2) (t : Tid)
    (ht : e.tid ≠ some t) : s'.word o = 2 ∧ s'.pc t = s.pc t := by
  exact ⟨word2_step (inv_reachable h) hstep hw, pc_step_other hstep t ht⟩

/-! ### nobody is stuck -/

/-- A thread in the wait loop of `o` (once.c:87-98, or re-reading after a failed CAS) is never
    waiting for nothing: either the word is already 2 (its next load leaves the loop), or the
    word is 1 and the winner is still in flight between its CAS and its store. -/
theorem C07_no_stuck_state {cfg : Config} {s : State} (h : Reachable cfg s) {t : Tid}
    {o : OnceId} (hwait : (s.pc t).Waiting o) :
    s.word o = 2 ∨ (s.word o = 1 ∧ ∃ w, s.winner o = some w ∧ (s.pc w).InW o) := by
  have hi := inv_reachable h
  have h0 := hi.waiting t o hwait
  have hle := hi.word_le o
  by_cases e2 : s.word o = 2
  · exact .inl e2
  · have e1 : s.word o = 1 := by omega
    obtain ⟨w, hw, hin, _⟩ := hi.w1 o e1
    exact .inr ⟨e1, w, hw, hin⟩

/-- The form asked for: if no thread is between CAS-win and the store of 2 on `o`, every thread
    in the wait loop of `o` has the word at 2 … -/
theorem C07_no_stuck_state' {cfg : Config} {s : State} (h : Reachable cfg s) {o : OnceId}
    (hnone : ∀ w, ¬ (s.pc w).InW o) {t : Tid} (hwait : (s.pc t).Waiting o) : s.word o = 2 := by
  rcases C07_no_stuck_state h hwait with h2 | ⟨_, w, _, hin⟩
  · exact h2
  · exact absurd hin (hnone w)

/-- … and its next load (observing 2) leaves the loop. -/
theorem C07_wait_exits_when_done {cfg : Config} {s : State} {t : Tid} {f : Frame}
    (hpc : s.pc t = .waitLd f) (hw : s.word f.o = 2) :
    step cfg s (.ld t .impl .acq f.o 2) =
      .ok (s.setPc t (if f.blocking then .fUnlockCall f else .readyRet f)) := by
  simp [step, hpc, need, hw]

/-- Deadlock freedom: every thread inside run_once has an accepted next event, or waits for a
    slot lock whose holder (another thread) has one.  A lock holder is never blocked. -/
theorem C07_progress {cfg : Config} {s : State} (h : Reachable cfg s) {t : Tid}
    (hpc : s.pc t ≠ .idle) :
    Enabled cfg s t ∨
    ∃ k u, (s.pc t).LockWait cfg k ∧ s.lockHolder k = some u ∧ u ≠ t ∧ Enabled cfg s u :=
  progress (inv_reachable h) hpc

/-! ### once objects sharing a slot -/

/-- All theorems of this file are stated for an arbitrary hashing `cfg.slotOf`; once objects that
    share a slot interact only through the slot lock.  The one place where sharing could hurt:
    the user function of `o` runs with NO slot lock held by its runner (once.c:73-75 releases
    it first), so a function that itself calls run_once on an once object hashing to the same
    slot cannot self-deadlock. -/
theorem C07_shared_slot_independent {cfg : Config} {s : State} (h : Reachable cfg s) {t : Tid}
    {o : OnceId} (hcb : (s.pc t).InCb o) (k : SlotId) : s.lockHolder k ≠ some t := by
  have hi := inv_reachable h
  intro hl
  have hH := hi.lock k t hl
  cases hp : s.pc t <;> simp [hp, PC.InCb, PC.Holds] at hcb hH

/-- The per-object theorems for all hashings at once (explicit quantifier over `cfg`). -/
theorem C07_all_hashings (slotOf : OnceId → SlotId) {s : State}
    (h : Reachable ⟨slotOf⟩ s) (o : OnceId) :
    (s.fStarts o).length ≤ 1 ∧
    (∀ t, (t, o) ∈ s.returned → (s.fEnds o).length = 1) ∧
    (∀ t, (s.pc t).InCb o → ∀ k, s.lockHolder k ≠ some t) :=
  ⟨C07_at_most_once h o, fun _ hr => C07_no_early_return h hr,
   fun _ hcb k => C07_shared_slot_independent h hcb k⟩

/-- The slot lock is held only at the program points where once.c holds it, by a blocking
    caller, for the slot of its own once object; the spin variants never hold a lock. -/
theorem C07_lock_discipline {cfg : Config} {s : State} (h : Reachable cfg s) {k : SlotId}
    {t : Tid} : s.lockHolder k = some t ↔ (s.pc t).Holds cfg k :=
  ⟨(inv_reachable h).lock k t, (inv_reachable h).held k t⟩

theorem C07_spin_never_locks {cfg : Config} {s : State} (h : Reachable cfg s) {t : Tid}
    {f : Frame} (hf : (s.pc t).frame? = some f) (hspin : f.blocking = false) (k : SlotId) :
    s.lockHolder k ≠ some t := by
  intro hl
  have hH := (inv_reachable h).lock k t hl
  cases hp : s.pc t <;> simp [hp, PC.Holds, PC.frame?] at hf hH <;> subst hf <;> simp_all

/-! ### non-vacuity: concrete accepted traces -/

section Examples

/-- Two once objects (0 and 1) hashing to the same slot 0. -/
def exCfg : Config := ⟨fun _ => 0⟩

/-- nested API events of a blocking caller -/
private def lock (t : Tid) : List Event := [.muLockCall t 0, .muLockRet t]
private def unlock (t : Tid) : List Event := [.muUnlockCall t 0, .muUnlockRet t]
private def bcast (t : Tid) : List Event := [.cvBroadcastCall t 0, .cvBroadcastRet t]

/-- Part 1: T0 (nsync_run_once) wins once 0; T1 (nsync_run_once_spin) and T2
    (nsync_run_once_arg) lose; T2 sleeps on the cv, T0 is inside `f`. -/
def exPart1 : List Event :=
  [.call 0 true false 0, .ld 0 (.outer true false) .acq 0 0, .ld 0 .impl .acq 0 0] ++ lock 0 ++
  [.call 1 false false 0, .ld 1 (.outer false false) .acq 0 0, .ld 1 .impl .acq 0 0,
   .call 2 true true 0, .ld 2 (.outer true true) .acq 0 0, .ld 2 .impl .acq 0 0,
   .muLockCall 2 0,
   .cas 0 .impl .acq 0 0 1 0 true,
   .cas 1 .impl .acq 0 0 1 1 false, .ld 1 .impl .rlx 0 1, .ld 1 .impl .acq 0 1] ++ unlock 0 ++
  [.muLockRet 2,
   .cas 2 .impl .acq 0 0 1 1 false, .ld 2 .impl .rlx 0 1, .ld 2 .impl .acq 0 1,
   .internal, .cvWaitCall 2 0 0,
   .cbStart 0 false,
   .ld 1 .impl .acq 0 1,
   .cvWaitRet 2 true, .ld 2 .impl .acq 0 1, .cvWaitCall 2 0 0]

/-- Part 2: T0 completes, everybody returns. -/
def exPart2 : List Event :=
  [.cbEnd 0 false] ++ lock 0 ++ bcast 0 ++
  [.st 0 .impl .rel 0 2 1, .ld 0 .impl .acq 0 2] ++ unlock 0 ++ [.ret 0 true false,
   .ld 1 .impl .acq 0 2, .ret 1 false false,
   .cvWaitRet 2 false, .ld 2 .impl .acq 0 2] ++ unlock 2 ++ [.ret 2 true true]

/-- Part 3: the second once object on the same slot: T0 (nsync_run_once_arg) wins once 1, T1
    (nsync_run_once_spin) waits for it, and T2 re-calls the finished once 0 while T0 is inside
    the callback of once 1. -/
def exPart3 : List Event :=
  [.call 0 true true 1, .ld 0 (.outer true true) .acq 1 0, .ld 0 .impl .acq 1 0] ++ lock 0 ++
  [.cas 0 .impl .acq 1 0 1 0 true] ++ unlock 0 ++ [.cbStart 0 true,
   .call 1 false false 1, .ld 1 (.outer false false) .acq 1 1, .ld 1 .impl .acq 1 1,
   .ld 1 .impl .acq 1 1,
   .call 2 true false 0, .ld 2 (.outer true false) .acq 0 2, .ret 2 true false,
   .cbEnd 0 true] ++ lock 0 ++ bcast 0 ++
  [.st 0 .impl .rel 1 2 1, .ld 0 .impl .acq 1 2] ++ unlock 0 ++ [.ret 0 true true,
   .ld 1 .impl .acq 1 2, .ret 1 false false]

/-- What we look at in a final state. -/
structure Summary where
  word0 : Nat
  word1 : Nat
  starts0 : List Tid
  ends0 : List Tid
  starts1 : List Tid
  ends1 : List Tid
  returned : List (Tid × OnceId)
  lock0 : Option Tid
  pcs : List PC
  deriving DecidableEq, Repr

def summary (s : State) : Summary :=
  ⟨s.word 0, s.word 1, s.fStarts 0, s.fEnds 0, s.fStarts 1, s.fEnds 1, s.returned,
   s.lockHolder 0, [s.pc 0, s.pc 1, s.pc 2]⟩

/-- After part 1 (accepted): the word is 1, T0 is inside `f` holding no lock, T1 spins, T2 waits on
    the cv having released the lock: a loser waits while the winner is in flight. -/
example : (run exCfg init exPart1).toOption.map summary =
    some ⟨1, 0, [0], [], [], [], [], none,
          [.wCbEnd ⟨0, true, false⟩, .waitLd ⟨0, false, false⟩, .cvWaitRet ⟨0, true, true⟩]⟩ := by
  decide

/-- After parts 1+2 (accepted): one run by T0, all three calls returned, lock free. -/
example : (run exCfg init (exPart1 ++ exPart2)).toOption.map summary =
    some ⟨2, 0, [0], [0], [], [], [(2, 0), (1, 0), (0, 0)], none, [.idle, .idle, .idle]⟩ := by
  decide

/-- The whole trace (accepted): both once objects done, each function run exactly once, the
    done-call of T2 on once 0 returned in the middle of the callback of once 1. -/
example : (run exCfg init (exPart1 ++ exPart2 ++ exPart3)).toOption.map summary =
    some ⟨2, 2, [0], [0], [0], [0],
          [(1, 1), (0, 1), (2, 0), (2, 0), (1, 0), (0, 0)], none, [.idle, .idle, .idle]⟩ := by
  decide

/-- The hypotheses of the theorems are simultaneously satisfiable in a non-trivial reachable
    state: a winner inside the callback (`InCb`), a spinning and a sleeping loser (`Waiting`),
    word 1, on a slot shared by two once objects. -/
example : ∃ s, Reachable exCfg s ∧ s.word 0 = 1 ∧ (s.pc 0).InCb 0 ∧ (s.pc 0).InW 0 ∧
    (s.pc 1).Waiting 0 ∧ (s.pc 2).Waiting 0 ∧ s.fStarts 0 = [0] ∧ s.winner 0 = some 0 := by
  refine ⟨(run exCfg init exPart1).toOption.get (by decide), run_ok_of_isSome _, ?_⟩
  have h : summary ((run exCfg init exPart1).toOption.get (by decide)) =
      ⟨1, 0, [0], [], [], [], [], none,
       [.wCbEnd ⟨0, true, false⟩, .waitLd ⟨0, false, false⟩, .cvWaitRet ⟨0, true, true⟩]⟩ := by
    decide
  have hw : ((run exCfg init exPart1).toOption.get (by decide)).winner 0 = some 0 := by decide
  simp only [summary, Summary.mk.injEq, List.cons.injEq, and_true] at h
  obtain ⟨h1, -, h3, -, -, -, -, -, p0, p1, p2⟩ := h
  simp [h1, h3, p0, p1, p2, hw, PC.InCb, PC.InW, PC.Waiting]

/-- Rejections (the acceptor is not vacuous either): a loser entering the function, a return
    while the word is 1, the store of 2 from inside the function. -/
example : (run exCfg init (exPart1 ++ [.cbStart 1 false])).toOption.isNone := by decide
example : (run exCfg init (exPart1 ++ [.ret 1 false false])).toOption.isNone := by decide
example : (run exCfg init (exPart1 ++ [.st 0 .impl .rel 0 2 1])).toOption.isNone := by decide
/-- … and a lock acquisition while another thread holds the slot lock. -/
example : (run exCfg init
    ([.call 0 true false 0, .ld 0 (.outer true false) .acq 0 0, .ld 0 .impl .acq 0 0] ++ lock 0 ++
     [.call 1 true false 1, .ld 1 (.outer true false) .acq 1 0, .ld 1 .impl .acq 1 0] ++
     lock 1)).toOption.isNone := by decide

end Examples

end Once
