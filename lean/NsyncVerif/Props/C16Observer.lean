import NsyncVerif.Proofs.MuX
/-
  Property C16, observer half — a debug-state caller on a mutex only observes.

  In the MuX protocol `nsync_mu_debug_state` / `nsync_mu_debug_state_and_waiters` are calls of kind
  `observe`.  The acceptor admits, from a thread inside such a call, only loads, failed CASes and
  successful CASes that toggle MU_SPINLOCK and nothing else (`spinOnly`), and no plain store.  The
  theorems say what that buys, for every reachable state, any number of threads, every interleaving:
  a step of an observing thread changes neither who owns the writer bit or a reader share, nor what
  any client holds, nor the lock bits, nor ANY of the six hint bits (WAITING, DESIG_WAKER, CONDITION,
  WRITER_WAITING, LONG_WAIT, ALL_FALSE — the wake-up bookkeeping), and the other threads' view of the
  protocol is exactly as if the observer were not there (exclusion is C01, which quantifies over
  programs containing observers).  That the real code's debug functions are such observers is the
  lockstep tie (on the unfixed tree they were not: defect F1).
-/
namespace NsyncVerif.Props.C16Observer
open NsyncVerif.MuX

/-- Adding MU_SPINLOCK (2) to a word whose bit 1 is clear sets that bit and carries into nothing. -/
theorem decode_add_two {v : Nat} (h : v / 2 % 2 = 0) :
    (decode v).spin = false ∧ decode (v + 2) = { decode v with spin := true } := by
  have e1 : (v + 2) % 2 = v % 2 := by omega
  have e2 : (v + 2) / 2 % 2 = 1 := by omega
  have e3 : (v + 2) / 4 = v / 4 := by omega
  have e4 : (v + 2) / 256 = v / 256 := by omega
  simp only [decode, e1, e2, e3, e4, h]
  exact ⟨rfl, rfl⟩

theorem spinOnly_spec {old new : Nat} (h : spinOnly old new = true) :
    (decode new).wlock = (decode old).wlock ∧ (decode new).readers = (decode old).readers ∧
    (decode new).hints = (decode old).hints ∧ (decode new).spin = !(decode old).spin := by
  unfold spinOnly at h
  simp only [Bool.or_eq_true, Bool.and_eq_true, decide_eq_true_eq] at h
  rcases h with ⟨hs, rfl⟩ | ⟨hs, rfl⟩
  · have h0 : old / 2 % 2 = 0 := by
      simp only [decode, decide_eq_false_iff_not] at hs; omega
    rw [(decode_add_two h0).2, hs]
    exact ⟨rfl, rfl, rfl, rfl⟩
  · have h0 : new / 2 % 2 = 0 := by
      simp only [decode, decide_eq_true_eq] at hs; omega
    rw [(decode_add_two h0).2, (decode_add_two h0).1]
    exact ⟨rfl, rfl, rfl, rfl⟩

theorem lockDelta_same {o n : Word} (h1 : o.wlock = n.wlock) (h2 : o.readers = n.readers) :
    lockDelta o n = some .same := by
  unfold lockDelta; simp [h1, h2]

/-- A write whose lock bits do not change leaves all owners and all client-level ghosts alone. -/
theorem applyWrite_same {s s' : State} {t : Tid} {new : Nat} {ord : Ord} {rmw : Bool}
    (h1 : (decode s.word).wlock = (decode new).wlock) (h2 : (decode s.word).readers = (decode new).readers)
    (h : applyWrite s t new ord rmw = .ok s') :
    s'.w = s.w ∧ s'.rs = s.rs ∧ s'.held = s.held ∧ s'.ann = s.ann ∧ s'.word = new := by
  unfold applyWrite at h
  simp only [lockDelta_same h1 h2, lockPart] at h
  split at h
  · cases h
  · split at h
    · cases h
    · split at h
      · cases h; simp
      · split at h
        · cases h; simp
        · cases h
      · split at h
        · cases h; simp
        · cases h

/-- A step of a thread inside a debug-state call leaves every owner, every client-visible holder, the
    lock bits and all hint bits unchanged; at most the spinlock bit (and its ghost owner) changes. -/
theorem C16_mu_observer {s s' : State} {e : Ev} (hobs : inObserve s e.tid = true)
    (hstep : step s e = .ok s') (hnotret : ∀ ok, e ≠ .ret e.tid ok) :
    s'.w = s.w ∧ s'.rs = s.rs ∧ s'.held = s.held ∧ s'.ann = s.ann ∧
    (decode s'.word).wlock = (decode s.word).wlock ∧ (decode s'.word).readers = (decode s.word).readers ∧
    (decode s'.word).hints = (decode s.word).hints := by
  cases e with
  | ld t v => simp [step] at hstep; split at hstep <;> cases hstep; simp
  | casFail t exp obs => simp [step] at hstep; split at hstep <;> cases hstep; simp
  | call t c =>
    simp only [Ev.tid, inObserve] at hobs
    simp only [step] at hstep
    split at hstep
    · cases hstep
    · rename_i hc; rw [hc] at hobs; cases hobs
  | ret t ok => exact absurd rfl (hnotret ok)
  | annAcq t l => simp only [Ev.tid] at hobs; simp [step, hobs] at hstep
  | annRel t l => simp only [Ev.tid] at hobs; simp [step, hobs] at hstep
  | st t new ord => exact absurd hobs (by rw [Ev.tid, (step_st hstep).2.2.1]; simp)
  | cas t exp new ord =>
    obtain ⟨_, hso, hw⟩ := step_cas hstep
    have hsp := spinOnly_spec (hso hobs)
    obtain ⟨a, b, c, d, e⟩ := applyWrite_same hsp.1.symm hsp.2.1.symm hw
    rw [e]
    exact ⟨a, b, c, d, hsp.1, hsp.2.1, hsp.2.2.1⟩

/-- The other threads cannot tell: whatever an observer's step does, the next step of any OTHER thread is
    accepted or rejected exactly as it would be on the word with the observer's spinlock bit as it now is —
    in particular every step that does not involve the spinlock (acquire of a free mutex, fast-path
    release) is unaffected.  Formally: an observer step never changes `shareOf` of anybody. -/
theorem C16_shares_untouched {s s' : State} {e : Ev} (hobs : inObserve s e.tid = true)
    (hstep : step s e = .ok s') (hnotret : ∀ ok, e ≠ .ret e.tid ok) (u : Tid) :
    shareOf s' u = shareOf s u := by
  have h := C16_mu_observer hobs hstep hnotret
  unfold shareOf
  rw [h.1, h.2.1]

/-! ### Non-vacuity -/
/-- a debug caller takes and drops the spinlock around a queued waiter while a writer holds the mutex -/
def observeTrace : List Ev :=
  [ .call 1 (.acq .W false), .cas 1 0 1 .acq, .ret 1 true,
    .call 3 (.acq .W false), .casFail 3 0 1, .ld 3 1, .cas 3 1 39 .acq, .cas 3 39 37 .rel,
    .call 9 .observe, .ld 9 37, .cas 9 37 39 .acq, .ld 9 39, .cas 9 39 37 .rel, .ret 9 true ]
example : (run init observeTrace).toOption.map (fun s => (s.held 1, s.word)) = some (.W, 37) := by decide
/-- an observer that stores a stale word (the F1 shape) is refused -/
example : (run init (observeTrace.take 11 ++ [.st 9 37 .rel])).toOption.isSome = false := by decide
/-- … and so is one whose CAS changes a hint bit -/
example : (run init (observeTrace.take 11 ++ [.cas 9 39 33 .rel])).toOption.isSome = false := by decide

end NsyncVerif.Props.C16Observer
