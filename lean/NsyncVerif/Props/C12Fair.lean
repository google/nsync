import NsyncVerif.Proofs.FutexFairMain
import NsyncVerif.Proofs.FutexFairBump
import NsyncVerif.Proofs.FutexFairArrivals
/-!
# C12, liveness half — "a post is never lost: a P whose post has been made eventually returns"

Model `NsyncVerif.Model.Futex` (platform/linux/src/nsync_semaphore_futex.c statement by statement over
the modelled futex(2), contract in the header of that file): ONE semaphore, one waiter thread (the
owner; single waiter is nsync's usage and a contract rejection of the model), ANY number of poster
threads, injected futex faults (EINTR, EAGAIN, spurious 0, premature ETIMEDOUT) and clock ticks at any
point, idle steps (`σ i = none`) at any time.  The vocabulary (`Exec`, `WeakFair`, `KernelFair`,
`FiniteSpurious`, `BoundedPosts`, `PostPending`, `inKernel`, `kernelDue`) is defined in
`Proofs/FutexFairDefs.lean` (it has to precede the proof files; `FiniteCalls` is in
`Proofs/FutexFairArrivals.lean`) and is repeated in words here.

NOTHING below is `_partial`: `C12_fair_termination : C12_fair_termination_full` is proved as stated.

## Statement (`C12_fair_termination_full`)

For every infinite execution `x` of the acceptor from a reachable state that is
* `WeakFair`   — a thread that from some time on is inside P / P_with_deadline / V and NOT queued in
                 the kernel (`inKernel`: inside futex WAIT with a sleeper record) moves;
* `KernelFair` — a thread that from some time on is queued in the kernel and has been the target of a
                 FUTEX_WAKE or has a timeout that the clock has reached (`kernelDue`) returns from the
                 system call (with any result the contract permits);
the following hold.
1. P / P_with_deadline with a matching post: a thread inside either function at time `i` returns
   (`pc = idle` at some `j ≥ i`) if at some time `j ≥ i` a matching post exists (`PostPending`, in the
   model's own counters: `takes < posts` — by `C12_conservation` the same as `0 < word` — or some call
   of V has started and has not yet performed its CAS).  NO finiteness hypothesis: spurious wake-ups,
   EINTRs, premature time-outs and new arrivals may go on for ever.
2. P_with_deadline with deadline `d`: returns also if the clock eventually reaches `d`, provided
   spurious wake-ups / EINTRs are finite (`FiniteSpurious`).
3. V: returns if only finitely many posts are made in the whole execution (`BoundedPosts`).
   `C12_fair_V_returns_finite_calls`: in particular if from some time on nobody calls P /
   P_with_deadline / V (`FiniteCalls`, the `FiniteArrivals` of C02; `finiteCalls_boundedPosts`).

## Each hypothesis is needed (explicit executions, machine-checked below)

* `C12_fair_needs_kernel`          trace + idling: the waiter sleeps, a poster posts, wakes it and
  returns; the kernel never lets the woken waiter return.  Weakly fair (the waiter is in the kernel's
  hands), no spurious wake-up, one post: P never returns although `takes < posts`.
* `C12_fair_needs_kernel_timeout`  the same for an expired timeout.
* `C12_fair_needs_finite_spurious` lasso of period 3: P_with_deadline with a deadline that has
  passed, the kernel returns 0 (spuriously — the contract allows it) instead of ETIMEDOUT each time;
  the waiter re-loads 0 and sleeps again.  Weakly fair, kernel-fair (the sleeper returns every
  time): the call never returns.  So clause 2 needs `FiniteSpurious`; clause 1 does not (proved).
* `C12_fair_needs_bounded_posts`   lasso of period 11 up to the ghost counters (`bumpExec`): thread
  2 is inside V; for ever: it loads 0; thread 1 performs a whole V (word 1); thread 2's CAS fails;
  thread 0 performs a whole P (word 0).  Weakly fair and kernel-fair, no futex wait at all: thread
  2's V never returns.  V's CAS loop is lock-free, not wait-free.  (The waiter's CAS loop cannot be
  starved like this: only posts interfere with it, each makes the word grow, and the word is
  bounded by 2^32 — the rank `rkW` of `Proofs/FutexFairRank.lean`.)
* `C12_fair_needs_post`            without a post P sleeps for ever (sanity check).
* `C12_fair_needs_weak`            `WeakFair` is needed (a poster that has called V and is never
  scheduled again).
  `C12_thread_enabled` / `C12_kernel_due_enabled`: the threads `WeakFair` / `KernelFair` speak about
  do have an accepted next event, except a poster at `vCas old` with `old + 1 = 2^32` (count
  overflow, which the model rejects as a contract violation; such an execution is not `WeakFair`).

## Non-vacuity

`eintrExec`: the accepted trace `trace_eintr` of `Props/C12.lean` followed by idling.  It satisfies
all four hypotheses; in it thread 0 calls P at time 0, sleeps in the kernel (asleep at times 3 and 6,
word 0; EINTR in between), the post is made at time 8 (`PostPending` from time 7 on), the wake at
time 9, and P returns at time 14 (`C12_fair_nonvacuous`).

## The argument

Weak fairness and kernel fairness enter only through `fair_move_awake`, `fair_move_due`,
`fair_move_posted` (`Proofs/FutexFairLive.lean`); the last one is applied (`waiter_live`) to the poster
that the invariant's `noLost` (asleep ∧ word ≠ 0 → some poster is between its CAS and its wake; the
statement of `C12_no_lost_post`) provides.  Each "eventually returns" is the leads-to rule
`Sched.leads` with a local rank (`rkW`, `rk0`, `rkV`, `rkT`).  For clause 2:
if the word is ever positive clause 1 applies; otherwise the word is 0 for ever, nobody enters
`vWake` any more, the finitely many (finite support of reachable states) threads there leave, so
eventually no stale FUTEX_WAKE hits the waiter, no spurious return happens, the deadline has passed:
the next futex wait can only return ETIMEDOUT and the clock read confirms it.
-/
namespace NsyncVerif.Futex


def C12_fair_termination_full : Prop :=
  ∀ (s0 : State) (x : Exec s0), Reachable s0 → WeakFair x → KernelFair x →
    -- 1. P / P_with_deadline for which a matching post exists
    (∀ t i, ((x.ρ i).pc t).isWaiter = true → (∃ j, i ≤ j ∧ PostPending (x.ρ j)) →
        ∃ j, i ≤ j ∧ (x.ρ j).pc t = .idle) ∧
    -- 2. P_with_deadline whose deadline the clock eventually reaches
    (∀ t i d, callDeadline (x.ρ i) t = some (some d) → FiniteSpurious x →
        (∃ j, i ≤ j ∧ d ≤ (x.ρ j).now) → ∃ j, i ≤ j ∧ (x.ρ j).pc t = .idle) ∧
    -- 3. V
    (∀ t i, ((x.ρ i).pc t).isPoster = true → BoundedPosts x → ∃ j, i ≤ j ∧ (x.ρ j).pc t = .idle)

/-- Clause 1: a P / P_with_deadline whose post has been made, or is being made, returns. -/
theorem C12_fair_P_returns {s0 : State} (x : Exec s0) (hr : Reachable s0) (hf : WeakFair x)
    (kf : KernelFair x) {t : Tid} {i : Nat} (hw : ((x.ρ i).pc t).isWaiter = true)
    (hp : ∃ j, i ≤ j ∧ PostPending (x.ρ j)) : ∃ j, i ≤ j ∧ (x.ρ j).pc t = .idle :=
  waiter_returns x hr hf kf hw hp

/-- Clause 2: a P_with_deadline whose deadline passes returns (finitely many spurious wake-ups). -/
theorem C12_fair_PD_returns {s0 : State} (x : Exec s0) (hr : Reachable s0) (hf : WeakFair x)
    (kf : KernelFair x) (hfs : FiniteSpurious x) {t : Tid} {i d : Nat}
    (hd : callDeadline (x.ρ i) t = some (some d)) (hclk : ∃ j, i ≤ j ∧ d ≤ (x.ρ j).now) :
    ∃ j, i ≤ j ∧ (x.ρ j).pc t = .idle :=
  timed_waiter_returns x hr hf kf hfs hd hclk

/-- Clause 3: a V returns (finitely many posts).  Kernel fairness is not needed. -/
theorem C12_fair_V_returns {s0 : State} (x : Exec s0) (hr : Reachable s0) (hf : WeakFair x)
    (hb : BoundedPosts x) {t : Tid} {i : Nat} (hv : ((x.ρ i).pc t).isPoster = true) :
    ∃ j, i ≤ j ∧ (x.ρ j).pc t = .idle :=
  poster_returns x hr hf hb hv

/-- Clause 3 under the hypothesis of C02 (`FiniteArrivals` there, `FiniteCalls` here: from some time
    on nobody calls P / P_with_deadline / V): then only finitely many posts are made
    (`finiteCalls_boundedPosts`), so every V returns. -/
theorem C12_fair_V_returns_finite_calls {s0 : State} (x : Exec s0) (hr : Reachable s0) (hf : WeakFair x)
    (hc : FiniteCalls x) {t : Tid} {i : Nat} (hv : ((x.ρ i).pc t).isPoster = true) :
    ∃ j, i ≤ j ∧ (x.ρ j).pc t = .idle :=
  poster_returns x hr hf (finiteCalls_boundedPosts x hr hc) hv

/-- A V that has started makes its post or sees the word positive: eventually `0 < word`
    (no finiteness hypothesis, no kernel fairness). -/
theorem C12_fair_post_arrives {s0 : State} (x : Exec s0) (hr : Reachable s0) (hf : WeakFair x)
    {p : Tid} {j : Nat} (hv : ((x.ρ j).pc p).vPre = true) : ∃ j', j ≤ j' ∧ 0 < (x.ρ j').word :=
  post_arrives x hr hf hv

theorem C12_fair_termination : C12_fair_termination_full := by
  intro s0 x hr hf kf
  exact ⟨fun t i hw hp => waiter_returns x hr hf kf hw hp,
    fun t i d hd hfs hclk => timed_waiter_returns x hr hf kf hfs hd hclk,
    fun t i hv hb => poster_returns x hr hf hb hv⟩

/-- `PostPending` in terms of the word. -/
theorem PostPending_iff {s : State} (h : Reachable s) :
    PostPending s ↔ (0 < s.word ∨ ∃ p, (s.pc p).vPre = true) := by
  have := C12_conservation h
  exact ⟨Or.imp_left fun _ => by omega, Or.imp_left fun _ => by omega⟩

/-! ## the threads the fairness hypotheses speak about are enabled -/

theorem C12_thread_enabled {s : State} {t : Tid} (hr : Reachable s) (hne : s.pc t ≠ .idle)
    (hk : inKernel s t = false)
    (hov : ∀ old, s.pc t = .vCas old → old + 1 < limit) :
    ∃ e s', e.tid = some t ∧ step s e = .ok s' := by
  -- the rule of `Step` for the program point of `t` applies
  have en {e s'} (h : Step s e s') (he : e.tid = some t := by rfl) :
      ∃ e s', e.tid = some t ∧ step s e = .ok s' := ⟨e, s', he, h.accepted⟩
  unfold inKernel at hk
  cases hp : s.pc t with
  | idle => exact absurd hp hne
  | wLoad k => exact en (.wLd hp)
  | wWait k => exact en (.fwait hp)
  | wSleep k =>
    rw [hp] at hk
    have hsl : s.sleeper = none := by
      cases h : s.sleeper with
      | none => rfl
      | some _ => rw [h] at hk; cases hk
    exact en (.fwaitRet (r := .eagain) hp (by rw [hsl]; rfl) (by decide))
  | wNow dl => exact en (.now hp)
  | wCas k i =>
    by_cases hw : s.word = i
    · exact en (.take (hw ▸ hp))
    · exact en (.takeFail hp hw)
  | wRet k b =>
    cases k with
    | p =>
      cases b with
      | false => exact en (.retP hp)
      | true => obtain ⟨d, hd⟩ := C12_no_deadline_never_times_out hr hp; cases hd
    | pd dl => exact en (.retPD hp)
  | vLoad => exact en (.vLd hp)
  | vCas old =>
    by_cases hw : s.word = old
    · exact en (.post (hw ▸ hp) (hw ▸ hov old hp))
    · exact en (.postFail hp (hov old hp) hw)
  | vWake => exact en (.fwake hp)
  | vRet => exact en (.retV hp)

/-- The kernel can always honour `KernelFair`: a queued thread may return 0. -/
theorem C12_kernel_due_enabled {s : State} {t : Tid} (h : kernelDue s t = true) :
    ∃ s', step s (.fwaitRet t .ok) = .ok s' := by
  obtain ⟨k, si, hk, hsl, _⟩ := kernelDue_pc h
  exact ⟨_, (Step.fwaitRet hk (by rw [hsl]; rfl) (by decide)).accepted⟩

/-! ## non-vacuity -/

theorem eintr_acc : acceptsFrom init trace_eintr = true := by decide

/-- `trace_eintr` of `Props/C12.lean`, then nothing for ever. -/
def eintrExec : Exec init := traceExec init trace_eintr _ (run_of_accepts eintr_acc)

theorem eintr_tail {j : Nat} (hj : 15 ≤ j) :
    eintrExec.ρ j = stateFrom init trace_eintr ∧ eintrExec.σ j = none :=
  traceExec_tail (run_of_accepts eintr_acc) (by simpa [trace_eintr] using hj)

/-- `eintrExec` satisfies every hypothesis of `C12_fair_termination` … -/
theorem eintr_hyps : Reachable init ∧ WeakFair eintrExec ∧ KernelFair eintrExec ∧
    FiniteSpurious eintrExec ∧ BoundedPosts eintrExec := by
  exact ⟨Reachable.init, traceExec_weakFair eintr_acc (b := 2) (by decide) (by decide),
    traceExec_kernelFair eintr_acc (b := 2) (by decide) (by decide),
    traceExec_finiteSpurious eintr_acc, traceExec_boundedPosts eintr_acc⟩

theorem eintr_finite_calls : FiniteCalls eintrExec :=
  ⟨15, fun j e hj he => by rw [(eintr_tail hj).2] at he; cases he⟩

/-- … and in it thread 0 calls P at time 0, is asleep in the kernel with the word 0 at time 3, gets
    EINTR, is asleep again at time 6 — BEFORE the post: no post pending up to time 6, thread 1 calls V
    at time 6 (`PostPending` from time 7), posts at time 8, wakes at time 9 — and returns at time 14. -/
theorem C12_fair_nonvacuous :
    eintrExec.σ 0 = some (.callP 0) ∧
    ((eintrExec.ρ 3).asleep ∧ (eintrExec.ρ 3).word = 0 ∧ inKernel (eintrExec.ρ 3) 0 = true) ∧
    eintrExec.σ 3 = some (.fwaitRet 0 .eintr) ∧
    ((eintrExec.ρ 6).asleep ∧ (eintrExec.ρ 6).word = 0 ∧ inKernel (eintrExec.ρ 6) 0 = true ∧
      (eintrExec.ρ 6).posts = 0 ∧ (eintrExec.ρ 6).pc 1 = .idle) ∧
    eintrExec.σ 6 = some (.callV 1) ∧ ((eintrExec.ρ 7).pc 1).vPre = true ∧
    eintrExec.σ 8 = some (.cas 1 .v .rel 0 1 0 true) ∧
    ((eintrExec.ρ 9).takes < (eintrExec.ρ 9).posts ∧ (eintrExec.ρ 9).asleep) ∧
    eintrExec.σ 9 = some (.fwake 1 1 1) ∧ kernelDue (eintrExec.ρ 10) 0 = true ∧
    eintrExec.σ 14 = some (.retP 0) ∧ (eintrExec.ρ 15).pc 0 = .idle := by
  refine ⟨rfl, ?_, rfl, ?_, rfl, ?_, rfl, ?_, rfl, ?_, rfl, ?_⟩ <;> decide

/-- The theorem applied to it. -/
example : ∃ j, 1 ≤ j ∧ (eintrExec.ρ j).pc 0 = .idle :=
  C12_fair_P_returns eintrExec eintr_hyps.1 eintr_hyps.2.1 eintr_hyps.2.2.1 (t := 0) (i := 1) (by decide)
    ⟨7, by omega, Or.inr ⟨1, by decide⟩⟩

/-! ## `KernelFair` is needed -/

/-- The waiter sleeps in P; a poster posts, wakes it and returns. -/
def traceWoken : List Event :=
  [ .callP 0, .ld 0 .p .rlx 0, .fwait 0 0 none,
    .callV 1, .ld 1 .v .rlx 0, .cas 1 .v .rel 0 1 0 true, .fwake 1 1 1, .retV 1 ]

theorem woken_acc : acceptsFrom init traceWoken = true := by decide

/-- … and then nothing happens for ever: the kernel never lets the woken waiter return. -/
def wokenExec : Exec init := traceExec init traceWoken _ (run_of_accepts woken_acc)

theorem C12_fair_needs_kernel :
    WeakFair wokenExec ∧ FiniteSpurious wokenExec ∧ BoundedPosts wokenExec ∧ ¬ KernelFair wokenExec ∧
      ((wokenExec.ρ 8).pc 0).isWaiter = true ∧ PostPending (wokenExec.ρ 8) ∧
      ∀ j, 8 ≤ j → (wokenExec.ρ j).pc 0 ≠ .idle := by
  have hwf : WeakFair wokenExec := traceExec_weakFair woken_acc (b := 2) (by decide) (by decide)
  have hnever : ∀ j, 8 ≤ j → (wokenExec.ρ j).pc 0 ≠ .idle := traceExec_never woken_acc (by decide)
  have hw : ((wokenExec.ρ 8).pc 0).isWaiter = true := by decide
  have hpp : PostPending (wokenExec.ρ 8) := Or.inl (by decide)
  refine ⟨hwf, traceExec_finiteSpurious woken_acc, traceExec_boundedPosts woken_acc, fun kf => ?_, hw, hpp,
    hnever⟩
  obtain ⟨j, hj, hidle⟩ := C12_fair_P_returns wokenExec Reachable.init hwf kf hw ⟨8, Nat.le_refl _, hpp⟩
  exact hnever j hj hidle

/-- P_with_deadline with deadline 0 (reached: the clock is 0) goes to sleep; nothing else happens. -/
def traceExpired : List Event := [ .callPD 0 (some 0), .ld 0 .pd .rlx 0, .fwait 0 0 (some 0) ]

theorem expired_acc : acceptsFrom init traceExpired = true := by decide

def expiredExec : Exec init := traceExec init traceExpired _ (run_of_accepts expired_acc)

theorem C12_fair_needs_kernel_timeout :
    WeakFair expiredExec ∧ FiniteSpurious expiredExec ∧ BoundedPosts expiredExec ∧ ¬ KernelFair expiredExec ∧
      callDeadline (expiredExec.ρ 3) 0 = some (some 0) ∧ 0 ≤ (expiredExec.ρ 3).now ∧
      ∀ j, 3 ≤ j → (expiredExec.ρ j).pc 0 ≠ .idle := by
  have hwf : WeakFair expiredExec := traceExec_weakFair expired_acc (b := 1) (by decide) (by decide)
  have hfs : FiniteSpurious expiredExec := traceExec_finiteSpurious expired_acc
  have hnever : ∀ j, 3 ≤ j → (expiredExec.ρ j).pc 0 ≠ .idle := traceExec_never expired_acc (by decide)
  have hd : callDeadline (expiredExec.ρ 3) 0 = some (some 0) := by decide
  refine ⟨hwf, hfs, traceExec_boundedPosts expired_acc, fun kf => ?_, hd,
    Nat.zero_le _, hnever⟩
  obtain ⟨j, hj, hidle⟩ := C12_fair_PD_returns expiredExec Reachable.init hwf kf hfs hd ⟨3, Nat.le_refl _, Nat.zero_le _⟩
  exact hnever j hj hidle

/-! ## `WeakFair` is needed (sanity check) -/

/-- The waiter sleeps in P; thread 1 calls V — and is never scheduled again. -/
def traceUnsched : List Event := [ .callP 0, .ld 0 .p .rlx 0, .fwait 0 0 none, .callV 1 ]

theorem unsched_acc : acceptsFrom init traceUnsched = true := by decide

def unschedExec : Exec init := traceExec init traceUnsched _ (run_of_accepts unsched_acc)

theorem C12_fair_needs_weak :
    KernelFair unschedExec ∧ FiniteSpurious unschedExec ∧ BoundedPosts unschedExec ∧ ¬ WeakFair unschedExec ∧
      ((unschedExec.ρ 4).pc 0).isWaiter = true ∧ PostPending (unschedExec.ρ 4) ∧
      ∀ j, 4 ≤ j → (unschedExec.ρ j).pc 0 ≠ .idle := by
  have hkf : KernelFair unschedExec := traceExec_kernelFair unsched_acc (b := 2) (by decide) (by decide)
  have hnever : ∀ j, 4 ≤ j → (unschedExec.ρ j).pc 0 ≠ .idle := traceExec_never unsched_acc (by decide)
  have hw : ((unschedExec.ρ 4).pc 0).isWaiter = true := by decide
  have hpp : PostPending (unschedExec.ρ 4) := Or.inr ⟨1, by decide⟩
  refine ⟨hkf, traceExec_finiteSpurious unsched_acc, traceExec_boundedPosts unsched_acc, fun hwf => ?_, hw,
    hpp, hnever⟩
  obtain ⟨j, hj, hidle⟩ := C12_fair_P_returns unschedExec Reachable.init hwf hkf hw ⟨4, Nat.le_refl _, hpp⟩
  exact hnever j hj hidle

/-! ## the post is needed (sanity check) -/

def traceNoPost : List Event := [ .callP 0, .ld 0 .p .rlx 0, .fwait 0 0 none ]

theorem nopost_acc : acceptsFrom init traceNoPost = true := by decide

def noPostExec : Exec init := traceExec init traceNoPost _ (run_of_accepts nopost_acc)

theorem nopost_tail {j : Nat} (hj : 3 ≤ j) :
    noPostExec.ρ j = stateFrom init traceNoPost ∧ noPostExec.σ j = none :=
  traceExec_tail (run_of_accepts nopost_acc) (by simpa [traceNoPost] using hj)

/-- All fairness hypotheses hold, no post is ever made or pending, and P sleeps for ever. -/
theorem C12_fair_needs_post :
    WeakFair noPostExec ∧ KernelFair noPostExec ∧ FiniteSpurious noPostExec ∧ BoundedPosts noPostExec ∧
      ((noPostExec.ρ 3).pc 0).isWaiter = true ∧ (∀ j, (noPostExec.ρ j).posts = 0) ∧
      (∀ j, 3 ≤ j → ¬ PostPending (noPostExec.ρ j)) ∧ ∀ j, 3 ≤ j → (noPostExec.ρ j).pc 0 ≠ .idle := by
  have hwf : WeakFair noPostExec := traceExec_weakFair nopost_acc (b := 1) (by decide) (by decide)
  have hkf : KernelFair noPostExec := traceExec_kernelFair nopost_acc (b := 1) (by decide) (by decide)
  have hnever : ∀ j, 3 ≤ j → (noPostExec.ρ j).pc 0 ≠ .idle := traceExec_never nopost_acc (by decide)
  have hw : ((noPostExec.ρ 3).pc 0).isWaiter = true := by decide
  refine ⟨hwf, hkf, traceExec_finiteSpurious nopost_acc, traceExec_boundedPosts nopost_acc, hw, fun j => ?_,
    fun j hj hpp => ?_, hnever⟩
  · have h1 := noPostExec.posts_mono (show j ≤ j + 3 by omega)
    rw [(nopost_tail (j := j + 3) (by omega)).1] at h1
    have h2 : (stateFrom init traceNoPost).posts = 0 := by decide
    omega
  · obtain ⟨j', hj', hidle⟩ := C12_fair_P_returns noPostExec Reachable.init hwf hkf hw ⟨j, hj, hpp⟩
    exact hnever j' hj' hidle

/-! ## `FiniteSpurious` is needed for the time-out branch -/

/-- The state after `traceExpired`: thread 0 asleep in P_with_deadline, deadline 0 = now. -/
def spurA : State :=
  { word := 0, now := 0, sleeper := some ⟨some 0, false⟩, owner := some 0,
    pc := setPc (fun _ => .idle) 0 (.wSleep (.pd (some 0))),
    posts := 0, takes := 0, succRets := 0, toRets := 0 }

/-- The kernel returns 0 — spuriously: nobody woke the sleeper, and its timeout HAS passed —, the
    waiter re-loads 0 and goes back to sleep. -/
def spurLoop : List Event := [ .fwaitRet 0 .ok, .ld 0 .pd .rlx 0, .fwait 0 0 (some 0) ]

theorem spur_pre : run init traceExpired = .ok spurA := by
  simp [traceExpired, run, step, Futex.init, spurA, WKind.timeout, ldSite, WKind.fn]

theorem spur_loop : run spurA spurLoop = .ok spurA := by
  simp [spurLoop, run, step, spurA, WKind.timeout, ldSite, WKind.fn, waitRetAllowed]

def spurExec : Exec init := lassoExec init traceExpired spurLoop spurA spur_pre spur_loop (by decide)

theorem spur_at {j : Nat} (hj : 3 ≤ j) :
    spurExec.ρ j = stateFrom spurA (spurLoop.take ((j - 3) % 3)) ∧ spurExec.σ j = spurLoop[(j - 3) % 3]? :=
  lassoExec_tail spur_pre spur_loop (by decide) (j := j) (by show traceExpired.length ≤ j; exact hj)

theorem spur_moves (i : Nat) : ∃ j e, i ≤ j ∧ spurExec.σ j = some e ∧ e.tid = some 0 := by
  have h : (List.range 3).all (fun r => match spurLoop[r]? with
      | some e => decide (e.tid = some 0) | none => false) = true := by decide
  have hr : (i + 3 - 3) % 3 < 3 := Nat.mod_lt _ (by omega)
  have := all_range h hr
  rw [← (spur_at (j := i + 3) (by omega)).2] at this
  cases he : spurExec.σ (i + 3) with
  | none => rw [he] at this; cases this
  | some e => rw [he] at this; exact ⟨i + 3, e, by omega, he, by simpa using this⟩

theorem spur_others {t : Nat} (ht : 1 ≤ t) {j : Nat} (hj : 3 ≤ j) : (spurExec.ρ j).pc t = .idle := by
  rw [(spur_at hj).1]
  rw [untouched_of_tidsBelow (b := 1) (tidsBelow_take (by decide) _) (stateFrom_ok spur_loop _) ht]
  show setPc (fun _ => PC.idle) 0 _ t = PC.idle
  rw [setPc_other _ _ (Nat.pos_iff_ne_zero.1 ht)]

theorem C12_fair_needs_finite_spurious :
    WeakFair spurExec ∧ KernelFair spurExec ∧ BoundedPosts spurExec ∧ ¬ FiniteSpurious spurExec ∧
      callDeadline (spurExec.ρ 3) 0 = some (some 0) ∧ 0 ≤ (spurExec.ρ 3).now ∧
      ∀ j, 3 ≤ j → (spurExec.ρ j).pc 0 ≠ .idle := by
  have hwf : WeakFair spurExec := by
    intro t i h
    by_cases ht : t = 0
    · subst ht; exact spur_moves i
    · exact absurd (spur_others (t := t) (Nat.pos_of_ne_zero ht) (j := i + 3) (by omega)) (h (i + 3) (by omega)).1
  have hkf : KernelFair spurExec := by
    intro t i h
    by_cases ht : t = 0
    · subst ht; exact spur_moves i
    · have := h (i + 3) (by omega)
      unfold kernelDue at this
      rw [spur_others (t := t) (Nat.pos_of_ne_zero ht) (j := i + 3) (by omega)] at this
      cases this
  have hstates : (List.range 3).all (fun r =>
      decide ((stateFrom spurA (spurLoop.take r)).pc 0 ≠ .idle) &&
      decide ((stateFrom spurA (spurLoop.take r)).posts = 0)) = true := by decide
  have hst : ∀ j, 3 ≤ j → (spurExec.ρ j).pc 0 ≠ .idle ∧ (spurExec.ρ j).posts = 0 := by
    intro j hj
    rw [(spur_at hj).1]
    simpa using all_range hstates (Nat.mod_lt (j - 3) (by omega : 0 < 3))
  have hbp : BoundedPosts spurExec := by
    refine ⟨0, fun j => ?_⟩
    have h1 := spurExec.posts_mono (show j ≤ j + 3 by omega)
    have h2 := (hst (j + 3) (by omega)).2
    omega
  have hd : callDeadline (spurExec.ρ 3) 0 = some (some 0) := by
    rw [(spur_at (Nat.le_refl 3)).1]; decide
  have hnever : ∀ j, 3 ≤ j → (spurExec.ρ j).pc 0 ≠ .idle := fun j hj => (hst j hj).1
  refine ⟨hwf, hkf, hbp, fun hfs => ?_, hd, Nat.zero_le _, hnever⟩
  obtain ⟨j, hj, hidle⟩ := C12_fair_PD_returns spurExec Reachable.init hwf hkf hfs hd ⟨3, Nat.le_refl _, Nat.zero_le _⟩
  exact hnever j hj hidle

/-- The spurious return itself, for the record: at every time `3 + 3n` the sleeper is asleep (not
    woken) with its timeout passed, and the kernel returns 0. -/
theorem spur_is_spurious (n : Nat) :
    spurExec.σ (3 + 3 * n) = some (.fwaitRet 0 .ok) ∧ (spurExec.ρ (3 + 3 * n)).asleep ∧
      kernelDue (spurExec.ρ (3 + 3 * n)) 0 = true := by
  have e : (3 + 3 * n - 3) % 3 = 0 := by omega
  obtain ⟨h1, h2⟩ := spur_at (j := 3 + 3 * n) (by omega)
  rw [h1, h2, e]
  exact ⟨rfl, by decide, by decide⟩

/-! ## `BoundedPosts` is needed for V -/

/-- Thread 1 performs a V, thread 0 a P (it becomes the owner), thread 2 calls V. -/
def starvePre : List Event :=
  [ .callV 1, .ld 1 .v .rlx 0, .cas 1 .v .rel 0 1 0 true, .fwake 1 1 0, .retV 1,
    .callP 0, .ld 0 .p .rlx 1, .cas 0 .p .acq 1 0 1 true, .retP 0,
    .callV 2 ]

/-- Thread 2 loads 0; thread 1 performs a whole V in between; thread 2's CAS fails; thread 0
    performs a whole P (the word is 0 again). -/
def starveLoop : List Event :=
  [ .ld 2 .v .rlx 0,
    .callV 1, .ld 1 .v .rlx 0, .cas 1 .v .rel 0 1 0 true,
    .cas 2 .v .rel 0 1 1 false,
    .fwake 1 1 0, .retV 1,
    .callP 0, .ld 0 .p .rlx 1, .cas 0 .p .acq 1 0 1 true, .retP 0 ]

def starveA : State :=
  { word := 0, now := 0, sleeper := none, owner := some 0,
    pc := setPc (fun _ => .idle) 2 .vLoad,
    posts := 1, takes := 1, succRets := 1, toRets := 0 }

theorem starve_pre : run init starvePre = .ok starveA := by
  simp [starvePre, run, step, Futex.init, starveA, vLdSite, vCasSite, ldSite, casSite, WKind.fn, limit,
    wakeCount, asleepInfo, markWoken, setPc_apply]
  apply pc3_ext <;> simp [setPc]
  all_goals
    intro t ht
    have h0 : t ≠ 0 := by omega
    have h1 : t ≠ 1 := by omega
    have h2 : t ≠ 2 := by omega
    simp [h0, h1, h2]

theorem starve_loop : run starveA starveLoop = .ok (bump 1 starveA) := by
  simp [starveLoop, run, step, starveA, bump, vLdSite, vCasSite, ldSite, casSite, WKind.fn, limit,
    wakeCount, asleepInfo, markWoken, setPc_apply]
  apply pc3_ext <;> simp [setPc]
  all_goals
    intro t ht
    have h0 : t ≠ 0 := by omega
    have h1 : t ≠ 1 := by omega
    have h2 : t ≠ 2 := by omega
    simp [h0, h1, h2]


def starveExec : Exec init := bumpExec init starvePre starveLoop starveA starve_pre starve_loop (by decide)

theorem starve_at {j : Nat} (hj : 10 ≤ j) :
    starveExec.ρ j = bump ((j - 10) / 11) (stateFrom starveA (starveLoop.take ((j - 10) % 11))) ∧
    starveExec.σ j = starveLoop[(j - 10) % 11]? :=
  bumpExec_tail starve_pre starve_loop (by decide) (j := j) (by show starvePre.length ≤ j; exact hj)

theorem starve_pos (i r : Nat) (hr : r < 11) :
    10 ≤ 10 + 11 * i + r ∧ i ≤ 10 + 11 * i + r ∧ (10 + 11 * i + r - 10) % 11 = r ∧
      (10 + 11 * i + r - 10) / 11 = i := by
  refine ⟨by omega, by omega, by omega, by omega⟩

/-- Thread `t` moves at position `r` of every period. -/
theorem starve_moves {t r : Nat} (hr : r < 11) {e : Event} (he : starveLoop[r]? = some e)
    (ht : e.tid = some t) (i : Nat) : ∃ j e, i ≤ j ∧ starveExec.σ j = some e ∧ e.tid = some t := by
  obtain ⟨h1, h2, h3, _⟩ := starve_pos i r hr
  exact ⟨10 + 11 * i + r, e, h2, by rw [(starve_at h1).2, h3]; exact he, ht⟩

theorem starve_others {t : Nat} (ht : 3 ≤ t) {j : Nat} (hj : 10 ≤ j) : (starveExec.ρ j).pc t = .idle := by
  rw [(starve_at hj).1]
  show (stateFrom starveA (starveLoop.take ((j - 10) % 11))).pc t = .idle
  rw [untouched_of_tidsBelow (b := 3) (tidsBelow_take (by decide) _) (stateFrom_ok starve_loop _) ht]
  show setPc (fun _ => PC.idle) 2 _ t = PC.idle
  have h2 : t ≠ 2 := by omega
  rw [setPc_other _ _ h2]

theorem starve_states : (List.range 11).all (fun r =>
    decide ((stateFrom starveA (starveLoop.take r)).pc 2 ≠ .idle) &&
    decide ((stateFrom starveA (starveLoop.take r)).sleeper = none)) = true := by decide

theorem C12_fair_needs_bounded_posts :
    WeakFair starveExec ∧ KernelFair starveExec ∧ FiniteSpurious starveExec ∧ ¬ BoundedPosts starveExec ∧
      ((starveExec.ρ 10).pc 2).isPoster = true ∧ ∀ j, 10 ≤ j → (starveExec.ρ j).pc 2 ≠ .idle := by
  have hst : ∀ j, 10 ≤ j → (starveExec.ρ j).pc 2 ≠ .idle ∧ (starveExec.ρ j).sleeper = none := by
    intro j hj
    rw [(starve_at hj).1]
    simpa [bump] using all_range starve_states (Nat.mod_lt (j - 10) (by omega : 0 < 11))
  have hwf : WeakFair starveExec := by
    intro t i h
    by_cases h0 : t = 0
    · subst h0; exact starve_moves (r := 7) (by omega) rfl rfl i
    by_cases h1 : t = 1
    · subst h1; exact starve_moves (r := 1) (by omega) rfl rfl i
    by_cases h2 : t = 2
    · subst h2; exact starve_moves (r := 0) (by omega) rfl rfl i
    · have ht : 3 ≤ (t : Nat) := by
        cases t with
        | zero => exact absurd rfl h0
        | succ t => cases t with
          | zero => exact absurd rfl h1
          | succ t => cases t with
            | zero => exact absurd rfl h2
            | succ t => exact Nat.le_add_left 3 t
      exact absurd (starve_others ht (j := i + 10) (by omega)) (h (i + 10) (by omega)).1
  have hkf : KernelFair starveExec := by
    intro t i h
    have := h (i + 10) (by omega)
    rw [kernelDue_none (hst (i + 10) (by omega)).2] at this
    cases this
  have hfs : FiniteSpurious starveExec := by
    refine finiteSpurious_of_tail starveExec 10 (fun j t r hj he => ?_)
    rw [(starve_at hj).2] at he
    have hm := List.mem_of_getElem? he
    have h : starveLoop.all (fun e => match e with | .fwaitRet _ _ => false | _ => true) = true := by decide
    simp only [List.all_eq_true] at h
    have := h _ hm
    simp at this
  have hnb : ¬ BoundedPosts starveExec := by
    rintro ⟨B, hB⟩
    obtain ⟨h1, _, h3, h4⟩ := starve_pos B 0 (by omega)
    have := hB (10 + 11 * B + 0)
    rw [(starve_at h1).1, h3, h4] at this
    simp [bump, stateFrom, run, starveA] at this
    omega
  have hv : ((starveExec.ρ 10).pc 2).isPoster = true := by
    rw [(starve_at (Nat.le_refl 10)).1]; decide
  exact ⟨hwf, hkf, hfs, hnb, hv, fun j hj => (hst j hj).1⟩

end NsyncVerif.Futex
