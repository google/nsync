/-
  Property C13, condition-variable part.

  "no waker accesses the bookkeeping of an nsync_wait_n or cancellable wait after that call can
   have returned, so the caller's stack frame may be reused immediately."

  Model: `NsyncVerif/Model/Cv.lean`.  Every step carries the ghost label `touches s e`: the records
  whose memory the step reads or writes (the `waiting` flag, `remove_count`, `flags` / `l_type` /
  `cv_mu`, the dll links of the element and of its neighbours — over-approximated by the whole
  list the element is on —, and the read of `p_nw->sem` for the V of wake_waiters, cv.c:145).
  Quantifier: all reachable states, all events, both semaphore flavours.

  WHAT IS TRUE OF THE CODE, AND WHAT IS NOT
  * Pooled waiters (`Rid.w`: every nsync_cv_wait*, including the cancellable ones — the stack
    record of nsync_sem_wait_with_cancel_ hangs on the NOTE's list and is the note layer's
    business): `C13_record_touch`, proved in full.  Whenever cv.c code run by a thread that is
    not the record's owner touches a pooled record, the record is in the cv queue, or on that
    thread's private `to_wake_list`, or is the record that thread is posting (between its
    `waiting := 0` and its V).  In the last case the owner may already have left — the V reads
    `p_nw->sem` of a pooled struct, which is never freed: safe.
    `C13_owner_returns_clean`: when the wait loop is left the record is in no queue and on no
    waker's list.
  * Records of nsync_wait_n (`Rid.nw`, `Rid.nwa`: stack frame / heap array of the caller): the
    property is FALSE on the pinned code (cv.c before the repair 3518d42), in two ways, both exhibited as accepted traces:
      - `C13_nw_store_after_return` (defect F3, first window): `cv_dequeue` believes a record is
        still queued although a waker has unlinked it; the call returns; the waker then executes
        `ATM_STORE_REL (&p_nw->waiting, 0)` (cv.c:144) into the dead frame and reads `p_nw->sem`
        from it.  Harness: corpus scenario `f3_waitn_cv`, oracle `dead-object`.
      - `C13_nw_sem_read_after_return` (second window, no timeout involved): after the waker's
        `ATM_STORE_REL (&p_nw->waiting, 0)` nothing keeps the owner inside nsync_wait_n — if it
        has not gone to sleep yet it sees `waiting == 0`, dequeues and returns — while the waker
        still has to evaluate `p_nw->sem` (cv.c:145) from the record.
    `C13_record_touch_nw_full` is the statement; `C13_record_touch_nw_full_false` its refutation.

  Status: `C13_record_touch`, `C13_owner_returns_clean` proved in full; the nw statement refuted.
-/
import NsyncVerif.Proofs.CvTouch
import NsyncVerif.Props.C04

namespace NsyncVerif.Cv

/-- Pooled records: every touch by cv.c code of a non-owner happens while the record is registered
    with the acting thread.  (The owner is taken after the step: the first store of a wait,
    cv.c:196, is what makes the storing thread the owner.) -/
theorem C13_record_touch {cfg : Config} {s s' : State} {e : Event} {r : Rid} {u : Tid}
    (h : Reachable cfg s) (hs : step cfg s e = .ok s') (hr : r ∈ touches s e) (hu : e.tid = some u)
    (hk : r.isMucv = true) (ho : (s'.recs r).owner ≠ u) :
    r ∈ s.queue ∨ r ∈ (s.thr u).list ∨ ∃ q, (s.thr u).cur = some (r, q) :=
  touch_registered (inv_reachable h) (step_tr hs) r hr u hu hk ho

/-- … and a pooled record that is on a waker's list still has `waiting = 1`: its owner is inside
    the wait loop (it cannot leave before `waiting` is cleared), so the STORE of wake_waiters goes
    to a record whose owner has not moved on. -/
theorem C13_listed_owner_waits {cfg : Config} {s : State} {r : Rid} {u : Tid} (h : Reachable cfg s)
    (hr : r ∈ (s.thr u).list) (hk : r.isMucv = true) : (s.recs r).waiting = true := by
  have hi := inv_reachable h
  exact hi.b.lWait r u ((hi.a.lMem u r).mp hr) (.inl hk)

/-- When a cv wait leaves its loop (cv.c:244 observes `waiting == 0`) its record is in no queue and
    on no waker's private list.  From there to the `ret` the call does not touch the record again
    (the acceptor has no record event at the program points after the loop). -/
theorem C13_owner_returns_clean {cfg : Config} {s s' : State} {t : Tid} {r : Rid} (h : Reachable cfg s)
    (hs : step cfg s (.recLd t .wHead r 0) = .ok s') :
    r ∉ s'.queue ∧ (∀ u, r ∉ (s'.thr u).list) ∧ (s'.recs r).stat = .idle := by
  obtain ⟨_, _, hst, _⟩ := wHead_exit_accepted hs
  have hi := (inv_reachable (reachable_step h hs)).a
  refine ⟨?_, ?_, hst⟩
  · intro hm; have := (hi.qMem r).mp hm; rw [hst] at this; cases this
  · intro u hm; have := (hi.lMem u r).mp hm; rw [hst] at this; cases this

/-- The claim for the records of nsync_wait_n: a non-owner touches them only while the owner's
    call is still in progress. -/
def C13_record_touch_nw_full : Prop :=
  ∀ (cfg : Config) (s s' : State) (e : Event) (r : Rid) (u : Tid), Reachable cfg s → step cfg s e = .ok s' →
    r ∈ touches s e → e.tid = some u → r.isMucv = false → (s'.recs r).owner ≠ u → alive s r = true

/-- F3, first window, continued until the owner has returned. -/
def f3ReturnTrace : List Event := [
  .tick 100, .callWaitN 0, .nwInit 0 (.nw 0),
  .wordLd 0 .spin0 0, .wordCas 0 0 1 0 true, .recSt 0 .enqSt (.nw 0) 1 0, .wordSt 0 .enqRel 2 1,
  .recLd 0 .ready (.nw 0) 1, .semPdEnter 0 0 (some 200),
  .callBroadcast 1, .wordLd 1 .bcLd 2, .wordLd 1 .spin0 2, .wordCas 1 2 3 2 true, .wordSt 1 .bcRel 0 3,
  .tick 200, .semPdRet 0 0 true,
  .wordLd 0 .spin0 0, .wordCas 0 0 1 0 true, .recLd 0 .deqLd (.nw 0) 1, .recSt 0 .deqSt (.nw 0) 0 1,
  .wordSt 0 .deqRel 0 1, .retWaitN 0]

/-- After `f3ReturnTrace` thread 0 is back in its caller, and the acceptor (like the code) lets
    thread 1 store into the record `nw0` of the finished call. -/
theorem C13_nw_store_after_return :
    okRun ⟨false⟩ f3ReturnTrace = true ∧
    ((runD ⟨false⟩ f3ReturnTrace).thr 0).loc = .idle ∧
    okRun ⟨false⟩ (f3ReturnTrace ++ [.recSt 1 .wake (.nw 0) 0 0, .semV 1 0, .retBroadcast 1]) = true ∧
    (.nw 0) ∈ touches (runD ⟨false⟩ f3ReturnTrace) (.recSt 1 .wake (.nw 0) 0 0) ∧
    alive (runD ⟨false⟩ f3ReturnTrace) (.nw 0) = false := by decide

/-- Second window: no timeout at all.  The waker stores `waiting := 0`; the owner, which has not
    gone to sleep yet, sees it, dequeues (nothing to do) and returns; the waker then reads
    `p_nw->sem` from the record for its V. -/
def semReadTrace : List Event := [
  .tick 100, .callWaitN 0, .nwInit 0 (.nw 0),
  .wordLd 0 .spin0 0, .wordCas 0 0 1 0 true, .recSt 0 .enqSt (.nw 0) 1 0, .wordSt 0 .enqRel 2 1,
  .callBroadcast 1, .wordLd 1 .bcLd 2, .wordLd 1 .spin0 2, .wordCas 1 2 3 2 true, .wordSt 1 .bcRel 0 3,
  .recSt 1 .wake (.nw 0) 0 1,
  .recLd 0 .ready (.nw 0) 0,
  .wordLd 0 .spin0 0, .wordCas 0 0 1 0 true, .recLd 0 .deqLd (.nw 0) 0, .wordSt 0 .deqRel 0 1, .retWaitN 0]

theorem C13_nw_sem_read_after_return :
    okRun ⟨false⟩ semReadTrace = true ∧ (runD ⟨false⟩ semReadTrace).f3 = false ∧
    ((runD ⟨false⟩ semReadTrace).thr 0).loc = .idle ∧
    okRun ⟨false⟩ (semReadTrace ++ [.semV 1 0, .retBroadcast 1]) = true ∧
    (.nw 0) ∈ touches (runD ⟨false⟩ semReadTrace) (.semV 1 0) ∧
    alive (runD ⟨false⟩ semReadTrace) (.nw 0) = false := by decide

theorem C13_record_touch_nw_full_false : ¬ C13_record_touch_nw_full := by
  intro h
  have hrun : okRun ⟨false⟩ (semReadTrace ++ [.semV 1 0]) = true := by decide
  have hstep : step ⟨false⟩ (runD ⟨false⟩ semReadTrace) (.semV 1 0) = .ok (runD ⟨false⟩ (semReadTrace ++ [.semV 1 0])) := by
    have h1 := run_runD hrun
    rw [(isRun _).append_of_ok (run_runD (by decide : okRun ⟨false⟩ semReadTrace = true)), (isRun _).single] at h1
    exact h1
  have := h ⟨false⟩ _ _ (.semV 1 0) (.nw 0) 1 (reachable_runD (by decide)) hstep (by decide) rfl rfl (by decide)
  revert this
  decide

/-- Non-vacuity of `C13_record_touch`: in `semReadTrace`-like runs with a pooled record the V of the
    waker touches the record while it is the waker's `cur`. -/
example : okRun ⟨false⟩ (exBroadcast.take 22) = true ∧
    (.w 0) ∈ touches (runD ⟨false⟩ (exBroadcast.take 22)) (.semV 1 0) ∧
    ((runD ⟨false⟩ (exBroadcast.take 22)).thr 1).cur = some (.w 0, 0) := by decide

end NsyncVerif.Cv
