/-
  Property C03, note edge — "everything a thread did before nsync_note_notify happens before what
  any observer that sees the note notified does afterwards", under the DECLARED memory orders only.

  Model: `Model/Note.lean` (the current /repo/internal/note.c — after the repair of the defects F5 and F4 / F7 — and
  the nsync_wait_n path of nsync_note_wait, one atomic operation per step, any forest, any number of
  threads, any clock).  Its atomic events carry the order the operation REQUESTS; the acceptor
  rejects every atomic event whose order is not the one of the ATM_* macro at that site
  (`C03_note_orders`; table `noteSiteOrd`, exported as `noteSiteOrdTable`; `noteSitesAgree` is its
  check against the regenerated table of ATM_* call sites of /repo, `Proofs/NoteVCTie.lean` its tie
  to the replay driver).  Happens-before is computed by the generic vector-clock machine
  `NsyncVerif.VC` (program order + C++20 release sequences) over exactly the atomics on
  `note<k>.notified` and `nw<r>.waiting` (`evVC`; `clocks evs` = the clocks of an event list).
  NO edge is credited to the note mutexes (`note_mu` is abstract in the Note model: lock, unlock,
  trylock and mu_wait events are invisible to the machine), to the semaphores, to the clock, or to
  the interleaving (`C03_note_no_other_edges`).

  THE EDGE IS CARRIED BY
    notifier  `ATM_STORE_REL (&n->notified, 1)`        note.c/1 (note_notify_child, note.c:113), or
              `ATM_STORE_REL (&n->notified, 1)`        note.c/7 (nsync_note_new, note.c:228: born notified)
    observer  `ATM_LOAD_ACQ (&n->notified)`             note.c/4 (nsync_note_notified_deadline_, note.c:175)
              or NOTIFIED_TIME (n) = `ATM_LOAD_ACQ (&(n_)->notified) …` (common.h:212) at
              note.c/5 (:179, under the lock), note.c/3 (:149, notify), note.c/0 (:109,
              note_notify_child), note.c/11 (:334, note_dequeue)
  and by the fact that every store to a `notified` word is a release store (`VInv.last`: the
  release sequence is restarted, never broken).  On EVERY path by which nsync_note_is_notified or
  nsync_note_wait returns 1 the observer itself performed such an acquire load that read 1 (or stored
  the flag itself: lazy expiry) — also after a wake-up: nsync_wait_n re-evaluates
  `ready_time` (note.c/4) and `note_dequeue` (note.c/4, note.c/11) — so neither the release store
  `ATM_STORE_REL (&nw->waiting, 0)` (note.c/2), nor the semaphore, nor the note mutex is needed for
  this edge; note.c / wait.c never LOAD `nw->waiting` of a note wait (`noteSitesAgree` checks that
  note.c has exactly its 7 direct ATM_* sites).  Hence no lemma crediting an edge to `note_mu` is
  needed (as for `counter_mu` in Props/C03Counter.lean).

  PROVED IN FULL (all reachable product states = all accepted event lists) — nothing is `_partial`
    `C03_note_machine`        the product is faithful: `p.s` is the acceptor's state, `p.m = clocks evs`
    `C03_note_ghosts`         what the ghosts are (definitional)
    `C03_note_orders`         every accepted atomic carries the order `noteSiteOrd` declares
    `C03_note_invariant`      flag set ⇔ a store was recorded; release clock of the flag ≥ clock of the
                              latest storer before its store
    `C03_note_edge`           state form of the edge: a thread whose acquire load read 1 from the
                              store `(sets k)[i]` covers the storer's clock before the store and at
                              its API `call`
    `C03_note_store_once`, `C03_note_single_store`, `C03_note_the_notifier`
                              each flag is stored AT MOST ONCE (an accepted store finds the flag 0),
                              so the store an observer read from is THE notification: `sets k = [g]`
    `C03_note_origin`         who the storer is: inside `notify (a)` with `a = k` or `a` a creation-time
                              ancestor of `k`, during nsync_note_notify (a) (`C03_note_ancestor`) or
                              during the call that found `a`'s deadline passed
                              (`C03_note_lazy_expiry`: the edge starts at that poller), or the
                              nsync_note_new creating `k` under a notified parent (`C03_note_born`)
    `C03_note_is_notified`    (a) `ret nsync_note_is_notified 1`
    `C03_note_wait`           (b) `ret nsync_note_wait 1` — fast path and woken path alike
    `C03_note_carrier`        the carrier is the observer's own acquire load / own store
    `C03_note_trace`          trace form, no ghosts: release store … (no other store to that flag) …
                              acquire load
    `C03_note_any_observer`   trace form for ANY later acquire load of the flag, also by code outside
                              this model (the NOTIFIED_TIME (cancel_note) of the cancellable waits,
                              sem_wait.c:49/68, is the same ATM_LOAD_ACQ of common.h:212): accepted
                              prefix containing the store ⇒ the load is ordered after the notifier.
                              (That a cancellable wait reports ECANCELED only after such a load read 1
                              is a statement about the SemWait layer, not expressible here: the Note
                              acceptor rejects a thread touching a note outside a note API call.)
    `C03_note_needs_release_store`, `C03_note_needs_acquire_load`, `C03_note_born_needs_release_store`
                              negative controls: with note.c/1 (or note.c/7) relaxed, or note.c/4
                              relaxed, the edge is not derivable on a concrete trace (and the acceptor
                              rejects the weakened log)
  SCOPE OF THE STATEMENT (what the code does, made explicit by witnesses)
    * The edge starts at the thread that PERFORMED the notification (stored the flag).  A
      nsync_note_notify that finds the note already notified stores nothing and is the source of no
      edge (`C03_note_redundant_notify_no_edge`).
    * A note with a zero `expiry_time` (a zero deadline on its creation path) is "notified" from
      birth with its flag 0: NOTIFIED_TIME is zero through `expiry_time`, nsync_note_notify on it is a
      no-op, observers return 1 without reading 1 from anybody (second disjunct of
      `C03_note_is_notified` / `C03_note_wait`: `zsaw`).  Nobody notifies such a note, and no edge
      exists (`C03_note_zero_deadline_no_edge`).
-/
import NsyncVerif.Proofs.NoteVCOrigin
import NsyncVerif.Proofs.NoteVCOnce
import NsyncVerif.Proofs.NoteVCTie
import NsyncVerif.Proofs.NoteTraces


namespace Note
open NsyncVerif

/-! ### the product is faithful; the ghosts; the orders -/

/-- Every accepted event list has a product run; its acceptor component is the acceptor's state and
    its machine component is the clock machine run over the projected atomics of the list. -/
theorem C03_note_machine {s : State} {evs : List Event} (h : run init evs = .ok s) :
    ∃ p, prun pinit evs = .ok p ∧ p.s = s ∧ p.m = clocks evs := by
  obtain ⟨p, h1, h2⟩ := prun_total (p := pinit) h
  exact ⟨p, h1, h2, prun_m h1⟩

/-- Definition of the ghosts, as a theorem.  `call`: the thread's call clock and call are recorded,
    its `saw` / `zsaw` are reset.  Load of `note<k>.notified`: always acquire; if it reads 1 the
    thread has seen the LATEST store recorded for `k`; if it reads 0 and `expiry_time` is zero,
    `zsaw`.  Store to `note<k>.notified`: always release; it is appended to `sets k` with the
    storer's clock before the store, its call clock, its call and its `notify` activation, and the
    storer has seen it.  No other event changes a ghost. -/
theorem C03_note_ghosts {p p' : PState} {e : Event} (h : pstep p e = .ok p') :
    step p.s e = .ok p'.s ∧ p'.m = vstep p.m e ∧
    (∀ t c, e = .call t c →
      p'.cc t = p.m.vc t ∧ p'.capi t = some c ∧ (∀ k, p'.saw t k = 0 ∧ p'.zsaw t k = false) ∧
      p'.sets = p.sets) ∧
    (∀ t site o k obs, e = .ld t site o k obs →
      o = .acq ∧ obs = flagVal (p.s.notes k).notified ∧ p'.sets = p.sets ∧ p'.cc = p.cc ∧
      p'.capi = p.capi ∧
      (obs = 1 → p'.saw t k = (p.sets k).length) ∧ (obs = 0 → p'.saw t k = p.saw t k) ∧
      (obs = 0 → (p.s.notes k).expiry = some 0 → p'.zsaw t k = true)) ∧
    (∀ t site o k n ob, e = .stNote t site o k n ob →
      o = .rel ∧ n = 1 ∧
      p'.sets k = p.sets k ++ [⟨t, p.m.vc t, p.cc t, p.capi t, topOf (p.s.pc t)⟩] ∧
      p'.saw t k = (p.sets k).length + 1 ∧ p'.cc = p.cc ∧ p'.capi = p.capi ∧ p'.zsaw = p.zsaw) ∧
    ((∀ t c, e ≠ .call t c) → (∀ t site o k obs, e ≠ .ld t site o k obs) →
      (∀ t site o k n ob, e ≠ .stNote t site o k n ob) →
      p'.cc = p.cc ∧ p'.capi = p.capi ∧ p'.sets = p.sets ∧ p'.saw = p.saw ∧ p'.zsaw = p.zsaw) := by
  obtain ⟨hs, hm, hcc, hcapi, hsets, hsaw, hzsaw⟩ := pstep_ok h
  refine ⟨hs, hm, ?_, ?_, ?_, ?_⟩
  · intro t c he; subst he
    rw [hcc, hcapi, hsaw, hzsaw, hsets]
    simp [gCc, gCapi, gSaw, gZsaw, gSets]
  · intro t site o k obs he; subst he
    obtain ⟨ho, hobs⟩ := ld_ok hs
    rw [hcc, hcapi, hsaw, hzsaw, hsets]
    refine ⟨ho, hobs, rfl, rfl, rfl, ?_, ?_, ?_⟩
    · intro h1
      have : (p.s.notes k).notified = true := by
        cases hf : (p.s.notes k).notified <;> simp [hf, flagVal, h1] at hobs ⊢
      simp [gSaw, this]
    · intro h0
      have : (p.s.notes k).notified = false := by
        cases hf : (p.s.notes k).notified <;> simp [hf, flagVal, h0] at hobs ⊢
      simp [gSaw, this]
    · intro h0 hz
      have : (p.s.notes k).notified = false := by
        cases hf : (p.s.notes k).notified <;> simp [hf, flagVal, h0] at hobs ⊢
      simp [gZsaw, this, hz]
  · intro t site o k n ob he; subst he
    obtain ⟨ho, hn, _, _, _⟩ := stNote_ok hs
    rw [hcc, hcapi, hsaw, hzsaw, hsets]
    exact ⟨ho, hn, by simp [gSets, newSetter], by simp [gSaw], rfl, rfl, rfl⟩
  · intro h1 h2 h3
    rw [hcc, hcapi, hsaw, hzsaw, hsets]
    cases e with
    | call t c => exact absurd rfl (h1 t c)
    | ld t site o k obs => exact absurd rfl (h2 t site o k obs)
    | stNote t site o k n ob => exact absurd rfl (h3 t site o k n ob)
    | _ => exact ⟨rfl, rfl, rfl, rfl, rfl⟩

/-- THE ORDERS.  Every atomic event of an accepted step carries, at its site, exactly the order the
    table `noteSiteOrd` declares (loads of `notified`: acquire; stores to `notified`: release;
    note.c/2: release; the other stores to `waiting`: relaxed), and the machine is fed that order. -/
theorem C03_note_orders {p p' : PState} {e : Event} (h : pstep p e = .ok p') :
    match e with
    | .ld t site o k _ =>
      site ≠ .other ∧ o = noteSiteOrd site ∧ o = .acq ∧ evVC e = some ⟨t, .ld, .acq, .notified k⟩
    | .stNote t site o k _ _ =>
      site ≠ .other ∧ o = noteSiteOrd site ∧ o = .rel ∧ evVC e = some ⟨t, .st, .rel, .notified k⟩
    | .stW t site o r _ _ =>
      site ≠ .other ∧ o = noteSiteOrd site ∧ evVC e = some ⟨t, .st, toOrd (noteSiteOrd site), .waiting r⟩
    | _ => evVC e = none := by
  have hs := pstep_s h
  have ho := step_orders hs
  cases e with
  | ld t site o k obs =>
    obtain ⟨h1, _, h2⟩ := ho
    have := (ld_ok hs).1
    subst this
    exact ⟨h1, h2, rfl, rfl⟩
  | stNote t site o k n ob =>
    obtain ⟨h1, _, h2⟩ := ho
    have := (stNote_ok hs).1
    subst this
    exact ⟨h1, h2, rfl, rfl⟩
  | stW t site o r n ob =>
    obtain ⟨h1, _, h2⟩ := ho
    subst h2
    exact ⟨h1, rfl, rfl⟩
  | _ => rfl

/-- Lock, unlock, trylock, mu_wait, semaphore, clock, allocation and API events are invisible to
    the machine: no edge is credited to them. -/
theorem C03_note_no_other_edges (m : VC.St VLoc) (t : Tid) (k : NoteId) (b : Bool) (j : Nat) (d : Dl)
    (v : Nat) (c : ApiCall) (r : ApiRet) :
    vstep m (.lockCall t k) = m ∧ vstep m (.lockRet t) = m ∧ vstep m (.unlockCall t k) = m ∧
    vstep m (.unlockRet t) = m ∧ vstep m (.tryCall t k) = m ∧ vstep m (.tryRet t b) = m ∧
    vstep m (.waitCall t k) = m ∧ vstep m (.waitRet t) = m ∧ vstep m (.semV t j) = m ∧
    vstep m (.pdEnter t j d) = m ∧ vstep m (.pdRet t j b) = m ∧ vstep m (.now t v) = m ∧
    vstep m (.tick v) = m ∧ vstep m (.call t c) = m ∧ vstep m (.ret t r) = m :=
  ⟨rfl, rfl, rfl, rfl, rfl, rfl, rfl, rfl, rfl, rfl, rfl, rfl, rfl, rfl, rfl⟩

/-! ### the invariant -/

/-- The flag of `k` is set iff a store was recorded for `k`; the release clock of
    `note<k>.notified` dominates the clock the LATEST storer had just before its store. -/
theorem C03_note_invariant {p : PState} (h : PReachable p) (k : NoteId) :
    ((p.s.notes k).notified = true ↔ p.sets k ≠ []) ∧
    (∀ g, (p.sets k).getLast? = some g → VC.Clock.le g.clk (p.m.relc (.notified k))) ∧
    (∀ t, VC.Clock.le (p.cc t) (p.m.vc t)) := by
  have hv := h.inv3.1
  refine ⟨⟨?_, ?_⟩, fun g hg => (hv.last k g hg).2, hv.ccle⟩
  · intro hf hn
    have := hv.nil k hn
    rw [hf] at this; cases this
  · intro hn
    cases hl : (p.sets k).getLast? with
    | none => exact absurd (List.getLast?_eq_none_iff.mp hl) hn
    | some g => exact (hv.last k g hl).1

/-! ### the origin of a notification -/

/-- Who stores a flag.  Every recorded store of the flag of `k`: the storer's clock before the store
    covers its clock at its API call, and the store is
    * note.c/1 inside `notify (a)` (`g.top = some ⟨a, _, kind⟩`), where `a = k` or `a` was on the
      path from `k` to the root when `k` was created, during the API call `kind.api a`
      (nsync_note_notify (a), or the call whose poll of `a` found the deadline passed); or
    * note.c/7 (`g.top = none`) by the `nsync_note_new (par, dl)` that is creating `k`, `par` being
      notified. -/
theorem C03_note_origin {p : PState} (h : PReachable p) {k : NoteId} {g : Setter}
    (hg : g ∈ p.sets k) :
    VC.Clock.le g.callc g.clk ∧
    match g.top with
    | some top =>
      (k = top.n ∨ (top.n ∈ p.s.ancEver k ∧ top.n ≠ k)) ∧ g.api = some (top.k.api top.n)
    | none =>
      p.s.bornNotified k = true ∧
      ∃ par dl, g.api = some (.new (some par) dl) ∧ p.s.Notified par := by
  obtain ⟨hv, _, ho⟩ := h.inv3
  refine ⟨hv.callc k g hg, ?_⟩
  have := ho k g hg
  unfold SetterOk at this
  cases hg' : g.top with
  | some top =>
    rw [hg'] at this
    refine ⟨?_, this.2⟩
    rcases this.1 with h1 | h1
    · exact Or.inl h1
    · exact Or.inr ⟨h1.1.1, h1.2⟩
  | none =>
    rw [hg'] at this
    obtain ⟨h1, par, dl, h2, h3⟩ := this
    exact ⟨h1, par, dl, h2, h3.1⟩

/-- ANCESTOR.  A store performed inside the `notify (a)` of a call `nsync_note_notify (a)`: the
    note `k` whose flag it sets is `a` itself or a descendant of `a` (creation-time path), the call
    in progress is `nsync_note_notify (a)`, and its clock at the `call` event is covered. -/
theorem C03_note_ancestor {p : PState} (h : PReachable p) {k a : NoteId} {par : Option NoteId}
    {g : Setter} (hg : g ∈ p.sets k) (ht : g.top = some ⟨a, par, .ofApi⟩) :
    g.api = some (.notify a) ∧ (k = a ∨ (a ∈ p.s.ancEver k ∧ a ≠ k)) ∧
    VC.Clock.le g.callc g.clk := by
  have := C03_note_origin h hg
  rw [ht] at this
  exact ⟨this.2.2, this.2.1, this.1⟩

/-- LAZY EXPIRY.  A store performed inside a `notify (a)` that was entered because a poll of `a`
    (nsync_note_is_notified (a), nsync_note_wait (a, …), nsync_note_notify (a), or the
    nsync_note_new creating `a`) found `a`'s deadline passed: the edge starts at that poller — the
    call in progress is that poll, its clock at the `call` event is covered. -/
theorem C03_note_lazy_expiry {p : PState} (h : PReachable p) {k a : NoteId} {par : Option NoteId}
    {dk : DK} {g : Setter} (hg : g ∈ p.sets k) (ht : g.top = some ⟨a, par, .ofDeadline dk⟩) :
    g.api = some (dk.api a) ∧ (k = a ∨ (a ∈ p.s.ancEver k ∧ a ≠ k)) ∧
    VC.Clock.le g.callc g.clk := by
  have := C03_note_origin h hg
  rw [ht] at this
  exact ⟨this.2.2, this.2.1, this.1⟩

/-- BORN NOTIFIED.  A store by note.c/7: the creator of `k` stores the flag, during its
    `nsync_note_new (par, dl)`, `par` being notified; the edge starts at the creator. -/
theorem C03_note_born {p : PState} (h : PReachable p) {k : NoteId} {g : Setter}
    (hg : g ∈ p.sets k) (ht : g.top = none) :
    p.s.bornNotified k = true ∧
    (∃ par dl, g.api = some (.new (some par) dl) ∧ p.s.Notified par) ∧
    VC.Clock.le g.callc g.clk := by
  have := C03_note_origin h hg
  rw [ht] at this
  exact ⟨this.2.1, this.2.2, this.1⟩

/-! ### the edge -/

/-- C03 (note), state form.  A thread `t` that, during its current call, read 1 from the store
    `(sets k)[i]` with an acquire load (or performed that store): everything the storer did before
    the store — in particular everything it did before the API call during which it stored —
    happens before what `t` does from now on. -/
theorem C03_note_edge {p : PState} (h : PReachable p) {t : Tid} {k : NoteId} {i : Nat}
    (hs : p.saw t k = i + 1) :
    ∃ g, (p.sets k)[i]? = some g ∧ VC.Clock.le g.clk (p.m.vc t) ∧ VC.Clock.le g.callc (p.m.vc t) := by
  obtain ⟨hv, _, _⟩ := h.inv3
  obtain ⟨g, hg1, hg2⟩ := hv.seen t k i hs
  exact ⟨g, hg1, hg2, VC.Clock.le_trans (hv.callc k g (List.mem_of_getElem? hg1)) hg2⟩

/-! ### each flag is stored once: THE notifier -/

/-- An accepted store to `note<k>.notified` finds the flag 0 (and logs the previous value 0): the
    flag is stored at most once.  (Two threads at note.c/1 on the same note would both hold its
    mutex; a note at note.c/7 is in its early creation phase, unreachable for any other thread:
    `Proofs/NoteVCOnce.lean`.) -/
theorem C03_note_store_once {s s' : State} {t : Tid} {site : Site} {o : Ord} {k : NoteId}
    {n ob : Nat} (hr : Reachable s) (hs : step s (.stNote t site o k n ob) = .ok s') :
    (s.notes k).notified = false ∧ ob = 0 :=
  stNote_flag_false hr hs

/-- … so at most one store is ever recorded for a note. -/
theorem C03_note_single_store {p : PState} (h : PReachable p) (k : NoteId) :
    (p.sets k).length ≤ 1 := by
  refine PReachable.induction (P := fun p => ∀ k, (p.sets k).length ≤ 1)
    (fun k => by simp [pinit]) ?_ p h k
  intro p e p' hr hi hs k
  obtain ⟨hst, _, _, _, hsets, _, _⟩ := pstep_ok hs
  rw [hsets]
  cases e with
  | stNote t site o k0 n ob =>
    simp only [gSets]
    by_cases hk : k = k0
    · rw [if_pos hk]
      have hf := (stNote_flag_false hr.s hst).1
      have hnil : p.sets k0 = [] := by
        cases hl : (p.sets k0).getLast? with
        | none => exact List.getLast?_eq_none_iff.mp hl
        | some g =>
          have := (hr.inv3.1.last k0 g hl).1
          rw [hf] at this; cases this
      rw [hk, hnil]; simp
    · rw [if_neg hk]; exact hi k
  | _ => exact hi k

/-- THE NOTIFIER.  A thread `t` that read the flag of `k` as 1 (or stored it): exactly one store was
    ever performed on that flag, `p.sets k = [g]`; everything its performer did before the store, and
    before the API call during which it stored, happens before what `t` does from now on.
    (`C03_note_origin` says who `g` is.) -/
theorem C03_note_the_notifier {p : PState} (h : PReachable p) {t : Tid} {k : NoteId}
    (hs : p.saw t k ≠ 0) :
    ∃ g, p.sets k = [g] ∧ p.saw t k = 1 ∧ VC.Clock.le g.clk (p.m.vc t) ∧
      VC.Clock.le g.callc (p.m.vc t) := by
  cases hi : p.saw t k with
  | zero => exact absurd hi hs
  | succ i =>
    obtain ⟨g, h1, h2, h3⟩ := C03_note_edge h hi
    have hlen := C03_note_single_store h k
    cases hl : p.sets k with
    | nil => rw [hl] at h1; simp at h1
    | cons g0 rest =>
      rw [hl] at hlen h1
      have hr : rest = [] := by
        cases rest with
        | nil => rfl
        | cons a b => simp at hlen
      subst hr
      cases i with
      | zero =>
        simp at h1; subst h1
        exact ⟨g0, rfl, rfl, h2, h3⟩
      | succ j => simp at h1

/-- What an observer that is about to report note `n` notified has: either it read 1 from THE store
    of that flag (`p.sets n = [g]`; then the edge: the storer's clock from before the store and from
    its API call is covered; `C03_note_origin` says who the storer is), or it read a zero
    `expiry_time` with the flag 0 (a note notified from birth by a zero deadline). -/
def Observed (p : PState) (t : Tid) (n : NoteId) : Prop :=
  (∃ g, p.sets n = [g] ∧ p.saw t n = 1 ∧
      VC.Clock.le g.clk (p.m.vc t) ∧ VC.Clock.le g.callc (p.m.vc t)) ∨
  (p.saw t n = 0 ∧ p.zsaw t n = true)

theorem observed_of_pos {p : PState} (h : PReachable p) {t : Tid} {n : NoteId} (hp : Pos p t n) :
    Observed p t n := by
  by_cases hs : p.saw t n = 0
  · rcases hp with hp | hp
    · exact absurd hs hp
    · exact Or.inr ⟨hs, hp⟩
  · exact Or.inl (C03_note_the_notifier h hs)

/-- (a) C03 (note): whenever `ret nsync_note_is_notified 1` by thread `t` is accepted, `t` is
    returning from `nsync_note_is_notified (n)` and `Observed p t n`: the storer's clock from before
    its store, and from its API call, is covered by `t`'s clock at the return (the return changes no
    clock). -/
theorem C03_note_is_notified {p p' : PState} {t : Tid} (h : PReachable p)
    (hs : pstep p (.ret t (.isNotified true)) = .ok p') :
    ∃ n, p.s.pc t = .retIs n true ∧ p.capi t = some (.isNotified n) ∧ p'.m = p.m ∧
      p'.sets = p.sets ∧ Observed p t n := by
  have hc := h.inv3.2.1 t
  unfold TClaim at hc
  obtain ⟨hst, hm, _, _, hsets, _, _⟩ := pstep_ok hs
  have ho := step_actor hst rfl
  generalize p.s.pc t = pc at ho hc ⊢
  generalize p'.s.pc t = q at ho
  generalize p'.s = s' at ho
  cases ho
  subst ‹true = _›
  exact ⟨_, rfl, hc.1, hm, hsets, observed_of_pos h (hc.2 rfl)⟩

/-- (b) C03 (note): whenever `ret nsync_note_wait 1` by thread `t` is accepted — on the fast path
    (first `ready_time`), after an unsuccessful enqueue, after a wake-up by the notifier
    (`sem pd_ret 0`), after a spurious wake-up or a timeout that raced with the notification —
    `t` is returning from `nsync_note_wait (n, wdl)` and `Observed p t n`. -/
theorem C03_note_wait {p p' : PState} {t : Tid} (h : PReachable p)
    (hs : pstep p (.ret t (.wait true)) = .ok p') :
    ∃ n wdl, p.s.pc t = .wt0 (.ret 0) n wdl ∧ p.capi t = some (.wait n wdl) ∧ p'.m = p.m ∧
      p'.sets = p.sets ∧ Observed p t n := by
  have hc := h.inv3.2.1 t
  unfold TClaim at hc
  obtain ⟨hst, hm, _, _, hsets, _, _⟩ := pstep_ok hs
  have ho := step_actor hst rfl
  generalize p.s.pc t = pc at ho hc ⊢
  generalize p'.s.pc t = q at ho
  generalize p'.s = s' at ho
  cases ho
  have hrd := of_decide_eq_true (Eq.symm ‹true = _›)
  subst hrd
  exact ⟨_, _, rfl, hc.1, hm, hsets, observed_of_pos h (hc.2 rfl)⟩

/-- CARRIER of the edge: `saw t k` becomes non-zero only by `t`'s OWN acquire load of
    `note<k>.notified` reading 1, or by `t`'s own release store of that flag; it is reset by `t`'s
    next `call`. -/
theorem C03_note_carrier {p p' : PState} {e : Event} {t : Tid} {k : NoteId}
    (h : pstep p e = .ok p') (hs : p'.saw t k ≠ 0) :
    (p.saw t k = p'.saw t k ∧ ∀ c, e ≠ .call t c) ∨
    (∃ site, e = .ld t site .acq k 1) ∨ (∃ site ob, e = .stNote t site .rel k 1 ob) := by
  obtain ⟨hst, _, _, _, _, hsaw, _⟩ := pstep_ok h
  rw [hsaw] at hs ⊢
  cases e with
  | call u c =>
    simp only [gSaw] at hs ⊢
    by_cases hu : t = u
    · simp [hu] at hs
    · left; simp [hu]; intro h'; exact hu h'.symm
  | ld u site o x obs =>
    obtain ⟨ho, hobs⟩ := ld_ok hst
    simp only [gSaw] at hs ⊢
    by_cases hc : t = u ∧ k = x ∧ (p.s.notes x).notified = true
    · right; left
      obtain ⟨h1, h2, h3⟩ := hc
      subst h1 h2 ho
      rw [h3] at hobs
      exact ⟨site, by rw [hobs]; rfl⟩
    · left; rw [if_neg hc]; exact ⟨rfl, fun c h' => by cases h'⟩
  | stNote u site o x n ob =>
    obtain ⟨ho, hn, _⟩ := stNote_ok hst
    simp only [gSaw] at hs ⊢
    by_cases hc : t = u ∧ k = x
    · right; right
      obtain ⟨h1, h2⟩ := hc
      subst h1 h2 ho hn
      exact ⟨site, ob, rfl⟩
    · left; rw [if_neg hc]; exact ⟨rfl, fun c h' => by cases h'⟩
  | _ => left; exact ⟨rfl, fun c h' => by cases h'⟩

/-! ### trace form -/

theorem clocks_append (a b : List Event) :
    clocks (a ++ b) = VC.run (clocks a) (b.filterMap evVC) := by
  unfold clocks
  rw [List.filterMap_append]
  generalize a.filterMap evVC = xs
  generalize (VC.St.init : VC.St VLoc) = m
  induction xs generalizing m with
  | nil => rfl
  | cons x xs ih => simp only [List.cons_append, VC.run]; exact ih _

/-- C03 (note), trace form, no ghosts.  Thread `u` performs the release store
    `ATM_STORE_REL (&note<k>.notified, 1)`; then any events that contain no further store to that
    flag (`mid`); then thread `t` performs an acquire load of the flag.  Everything `u` did before
    the store happens before everything `t` does after the load.  (By `C03_note_orders` every store
    and load of a `notified` word in an ACCEPTED list has these orders.) -/
theorem C03_note_trace (pre mid : List Event) (u t : Tid) (k : NoteId) (s1 s2 : Site)
    (n ob obs : Nat) (hmid : ∀ e ∈ mid, ∀ v site o m b, e ≠ .stNote v site o k m b) :
    VC.Clock.le ((clocks pre).vc u)
      ((clocks (pre ++ [.stNote u s1 .rel k n ob] ++ mid ++ [.ld t s2 .acq k obs])).vc t) := by
  rw [List.append_assoc, List.append_assoc, clocks_append]
  simp only [List.cons_append, List.nil_append, List.filterMap_cons, evVC, List.filterMap_append,
    List.filterMap_nil, toOrd, VC.run]
  have key : ∀ (m : VC.St VLoc) (c : VC.Clock) (es : List Event),
      (∀ e ∈ es, ∀ v site o m b, e ≠ .stNote v site o k m b) →
      VC.SafeRun (VLoc.notified k) c m (es.filterMap evVC) := by
    intro m c es
    induction es generalizing m with
    | nil => intro _; trivial
    | cons e es ih =>
      intro hes
      have he := hes e List.mem_cons_self
      cases hev : evVC e with
      | none =>
        simp only [List.filterMap_cons, hev]
        exact ih m (fun e' he' => hes e' (List.mem_cons_of_mem _ he'))
      | some a =>
        simp only [List.filterMap_cons, hev, VC.SafeRun]
        refine ⟨?_, ih _ (fun e' he' => hes e' (List.mem_cons_of_mem _ he'))⟩
        intro hl hop
        cases e with
        | ld v site o x obs' => simp [evVC] at hev; subst hev; cases hop
        | stNote v site o x m' b =>
          simp [evVC] at hev; subst hev
          simp at hl; subst hl
          exact absurd rfl (he v site o m' b)
        | stW v site o r m' b => simp [evVC] at hev; subst hev; cases hl
        | _ => simp [evVC] at hev
  have hmp := VC.message_passing (clocks pre) ⟨u, .st, .rel, VLoc.notified k⟩
    (mid.filterMap evVC) ⟨t, .ld, .acq, VLoc.notified k⟩ rfl (Or.inl rfl)
    (key _ _ mid hmid) rfl rfl (Or.inl rfl)
  have hrun : ∀ (m : VC.St VLoc) (xs : List (VC.AEv VLoc)) (x : VC.AEv VLoc),
      VC.run m (xs ++ [x]) = VC.step (VC.run m xs) x := by
    intro m xs x
    induction xs generalizing m with
    | nil => rfl
    | cons y ys ih => simp only [List.cons_append, VC.run]; exact ih _
  rw [hrun]
  exact hmp

/-! ### any observer -/

/-- After the (one) store nobody stores that flag again, along any accepted continuation. -/
theorem no_second_store {s s' : State} (hr : Reachable s) {k : NoteId}
    (hf : (s.notes k).notified = true) {mid : List Event} (hrun : run s mid = .ok s') :
    ∀ e ∈ mid, ∀ v site o m b, e ≠ .stNote v site o k m b := by
  induction mid generalizing s with
  | nil => intro e he; cases he
  | cons e es ih =>
    simp only [run] at hrun
    cases hs : step s e with
    | error m => rw [hs] at hrun; cases hrun
    | ok s1 =>
      rw [hs] at hrun
      have hf1 : (s1.notes k).notified = true :=
        (step_stable hs).flag k (hr.inv6.1.flag k hf) hf
      intro e' he' v site o m b heq
      rcases List.mem_cons.mp he' with h | h
      · subst h; subst heq
        have := (stNote_flag_false hr hs).1
        rw [hf] at this; cases this
      · exact ih (hr.next hs) hf1 hrun e' h v site o m b heq

/-- ANY OBSERVER.  Trace form for an observer that need not be inside a note API call (e.g. the
    NOTIFIED_TIME (cancel_note) of a cancellable wait, sem_wait.c:49/68, which is the same
    `ATM_LOAD_ACQ` of common.h:212): if the event list up to and including `mid` is accepted by the
    Note acceptor and contains the store `notified := 1` on `k` by `u`, then ANY later acquire load
    of that flag, by any thread `t`, is ordered after everything `u` did before the store. -/
theorem C03_note_any_observer (pre mid : List Event) (u t : Tid) (k : NoteId) (s1 s2 : Site)
    (o : Ord) (n ob obs : Nat) {s : State}
    (hacc : run init (pre ++ [.stNote u s1 o k n ob] ++ mid) = .ok s) :
    o = .rel ∧
    VC.Clock.le ((clocks pre).vc u)
      ((clocks (pre ++ [.stNote u s1 o k n ob] ++ mid ++ [.ld t s2 .acq k obs])).vc t) := by
  rw [List.append_assoc] at hacc
  obtain ⟨sp, hp, h2⟩ := isRun.append.mp hacc
  obtain ⟨sq, hst, hmid⟩ := isRun.of_cons (h2 : run sp (_ :: mid) = _)
  obtain ⟨ho, _, hset, _, _⟩ := stNote_ok hst
  subst ho
  have hrp : Reachable sp := ⟨pre, hp⟩
  exact ⟨rfl, C03_note_trace pre mid u t k s1 s2 n ob obs
    (no_second_store (hrp.next hst) hset hmid)⟩

/-! ### non-vacuity, negative controls, scope -/

namespace ExampleVC

/-- nsync_note_new (par, dl) by thread `t` returning note `k` (not born notified), clock at `now` -/
def mkNote (t : Tid) (k : NoteId) (par : Option NoteId) (dl : Dl) (now : Nat) : List Event :=
  [.call t (.new par dl), .malloc t (some k), .ld t .dlLd1 .acq k 0, .lockCall t k, .lockRet t,
   .ld t .dlLd2 .acq k 0, .unlockCall t k, .unlockRet t, .now t now] ++
  (match par with
   | some p => [.lockCall t p, .lockRet t, .ld t .newLd .acq p 0, .unlockCall t p, .unlockRet t]
   | none => []) ++
  [.ret t (.new (some k))]

/-- nsync_note_notified_deadline_ (k) finding the note not notified and its deadline not passed -/
def slowLook (t : Tid) (k : NoteId) (now : Nat) : List Event :=
  [.ld t .dlLd1 .acq k 0, .lockCall t k, .lockRet t, .ld t .dlLd2 .acq k 0, .unlockCall t k,
   .unlockRet t, .now t now]

def T0 : Nat := 1000000000000

def okRun (evs : List Event) : Bool :=
  match prun pinit evs with | .ok _ => true | .error _ => false
def prunD (evs : List Event) : PState :=
  match prun pinit evs with | .ok p => p | .error _ => pinit

/-- A. Thread 0: nsync_note_notify (note0) (`o1` = order of its store, note.c/1).
       Thread 1: nsync_note_is_notified (note0) = 1 through the fast path (`o2` = order of
       note.c/4). -/
def notifyPre : List Event := [.tick T0] ++ mkNote 99 0 none none T0 ++ [.call 0 (.notify 0)]
def notifyMid (o1 : Ord) : List Event :=
  slowLook 0 0 T0 ++
  [.lockCall 0 0, .lockRet 0, .ld 0 .notifyLd .acq 0 0, .ld 0 .childLd .acq 0 0,
   .stNote 0 .childSt o1 0 1 0, .waitCall 0 0, .waitRet 0, .unlockCall 0 0, .unlockRet 0,
   .ret 0 .notify]
def observe (o2 : Ord) : List Event :=
  [.call 1 (.isNotified 0), .ld 1 .dlLd1 o2 0 1, .ret 1 (.isNotified true)]
def notifyAll : List Event := notifyPre ++ notifyMid .rel ++ observe .acq

/-- notify → is_notified: accepted; the observer read from store 0 of note0, performed by thread 0
    inside notify (note0) during nsync_note_notify (note0); the notifier's clock at its call
    (component 0 = 1) is covered by the observer's clock (whose component 0 was 0 initially). -/
example : (match prun pinit notifyAll with
    | .ok p => decide (p.saw 1 0 = 1 ∧ (p.sets 0).length = 1 ∧
        (p.sets 0).map (fun g => (g.who, g.api, g.top)) =
          [(0, some (.notify 0), some ⟨0, none, .ofApi⟩)] ∧
        (p.sets 0).map (fun g => g.callc 0) = [1] ∧ 1 ≤ p.m.vc 1 0 ∧
        p.s.observed.map (fun o => (o.t, o.n, o.res)) = [(1, 0, true)])
    | .error _ => false) = true := by decide

/-- the hypotheses of `C03_note_is_notified` are satisfiable -/
example : ∃ p p', PReachable p ∧ pstep p (.ret 1 (.isNotified true)) = .ok p' := by
  have h : okRun notifyAll = true := by decide
  unfold okRun at h
  have hsplit : notifyAll = notifyAll.dropLast ++ [.ret 1 (.isNotified true)] := by decide
  cases hr : prun pinit notifyAll with
  | error m => rw [hr] at h; cases h
  | ok pf =>
    rw [hsplit] at hr
    obtain ⟨p, hp, hq⟩ := isPRun.append.mp hr
    exact ⟨p, pf, ⟨_, hp⟩, isPRun.single ▸ hq⟩

/-- the instance of `C03_note_trace`, evaluated -/
example : (clocks notifyPre).vc 0 0 = 1 ∧ (clocks notifyAll).vc 1 0 = 1 ∧
    (clocks (notifyPre ++ notifyMid .rel)).vc 1 0 = 0 := by decide

/-- NEGATIVE CONTROL (notifier's side).  The same event list with the store
    `ATM_STORE_REL (&n->notified, 1)` [note.c/1] weakened to a relaxed store: on the clock machine the
    observer's clock does not cover the notifier's clock at its call.  The edge is carried by the
    release of note.c:113, not by the interleaving. -/
theorem C03_note_needs_release_store :
    ¬ VC.Clock.le ((clocks notifyPre).vc 0)
        ((clocks (notifyPre ++ notifyMid .rlx ++ observe .acq)).vc 1) := by
  intro hle
  have h0 := hle 0
  have e1 : (clocks notifyPre).vc 0 0 = 1 := by decide
  have e2 : (clocks (notifyPre ++ notifyMid .rlx ++ observe .acq)).vc 1 0 = 0 := by decide
  omega

/-- NEGATIVE CONTROL (observer's side).  The same event list with the load
    `ATM_LOAD_ACQ (&n->notified)` of nsync_note_notified_deadline_ [note.c/4] weakened to a relaxed
    load: the edge is gone. -/
theorem C03_note_needs_acquire_load :
    ¬ VC.Clock.le ((clocks notifyPre).vc 0)
        ((clocks (notifyPre ++ notifyMid .rel ++ observe .rlx)).vc 1) := by
  intro hle
  have h0 := hle 0
  have e1 : (clocks notifyPre).vc 0 0 = 1 := by decide
  have e2 : (clocks (notifyPre ++ notifyMid .rel ++ observe .rlx)).vc 1 0 = 0 := by decide
  omega

/-- The acceptor does not let either weakened variant through. -/
example : (run init (notifyPre ++ notifyMid .rlx)).toOption.isNone ∧
    (run init (notifyPre ++ notifyMid .rel ++ observe .rlx)).toOption.isNone := by decide

/-- In general: a relaxed load of a `notified` word changes no clock, and a relaxed store to it
    wipes its release clock. -/
theorem C03_note_relaxed_load_no_edge (m : VC.St VLoc) (t : Tid) (site : Site) (k : NoteId)
    (obs : Nat) : (vstep m (.ld t site .rlx k obs)).vc = m.vc :=
  VC.relaxed_load_no_edge m _ rfl rfl

theorem C03_note_relaxed_store_breaks (m : VC.St VLoc) (t : Tid) (site : Site) (k : NoteId)
    (n ob : Nat) : (vstep m (.stNote t site .rlx k n ob)).relc (.notified k) = VC.Clock.bot :=
  VC.relaxed_store_breaks m ⟨t, .st, .rlx, .notified k⟩ rfl rfl

/-- B. Tree note0 → note1.  Thread 1: nsync_note_wait (note1, no deadline) enqueues its record nw0 and
       sleeps.  Thread 0: nsync_note_notify (note0) stores the flag of note0, then (recursively,
       note_notify_child) the flag of note1, clears `nw0.waiting` with release [note.c/2] and posts.
       Thread 1 wakes (`pd_ret 0`), re-reads the flag twice [note.c/4 in ready_time and in
       note_dequeue], reads it under the lock [note.c/11] and returns 1. -/
def waitAll : List Event :=
  [.tick T0] ++ mkNote 99 0 none none T0 ++ mkNote 99 1 (some 0) none T0 ++
  [.call 1 (.wait 1 none), .waitnCall 1 none] ++ slowLook 1 1 T0 ++
  [.stW 1 .waitInit .rlx 0 0 0, .lockCall 1 1, .lockRet 1, .ld 1 .enqLd .acq 1 0,
   .stW 1 .enqSt1 .rlx 0 1 0, .unlockCall 1 1, .unlockRet 1] ++ slowLook 1 1 T0 ++
  [.pdEnter 1 0 none,
   .call 0 (.notify 0)] ++ slowLook 0 0 T0 ++
  [.lockCall 0 0, .lockRet 0, .ld 0 .notifyLd .acq 0 0, .ld 0 .childLd .acq 0 0,
   .stNote 0 .childSt .rel 0 1 0,
   .lockCall 0 1, .lockRet 0, .ld 0 .childLd .acq 1 0, .stNote 0 .childSt .rel 1 1 0,
   .stW 0 .childWake .rel 0 0 1, .semV 0 0,
   .waitCall 0 1, .waitRet 0, .unlockCall 0 1, .unlockRet 0,
   .waitCall 0 0, .waitRet 0, .unlockCall 0 0, .unlockRet 0, .ret 0 .notify,
   .pdRet 1 0 false, .ld 1 .dlLd1 .acq 1 1, .ld 1 .dlLd1 .acq 1 1,
   .lockCall 1 1, .lockRet 1, .ld 1 .deqLd .acq 1 1, .unlockCall 1 1, .unlockRet 1,
   .waitnRet 1 0, .ret 1 (.wait true)]

/-- notify (parent) → wait (child) woken: accepted; the waiter read from store 0 of note1, performed
    by thread 0 inside notify (note0) — the ANCESTOR — during nsync_note_notify (note0); the
    notifier's clock before that store (component 0 = 2: it had stored note0's flag) and at its call
    (1) are covered by the waiter's clock at its return. -/
example : (match prun pinit waitAll with
    | .ok p => decide (p.saw 1 1 = 1 ∧
        (p.sets 1).map (fun g => (g.who, g.api, g.top)) =
          [(0, some (.notify 0), some ⟨0, none, .ofApi⟩)] ∧
        (p.sets 1).map (fun g => (g.callc 0, g.clk 0)) = [(1, 2)] ∧ 2 ≤ p.m.vc 1 0 ∧
        0 ∈ p.s.ancEver 1 ∧
        p.s.observed.map (fun o => (o.t, o.n, o.res)) = [(1, 1, true)])
    | .error _ => false) = true := by decide

/-- C. note0 has a deadline.  Thread 0 polls (nsync_note_is_notified) after the deadline has passed
       and performs the notification itself (lazy expiry); thread 1 then sees the note notified. -/
def lazyAll : List Event :=
  [.tick T0] ++ mkNote 99 0 none (some (T0 + 1000)) T0 ++
  [.tick (T0 + 5000), .call 0 (.isNotified 0),
   .ld 0 .dlLd1 .acq 0 0, .lockCall 0 0, .lockRet 0, .ld 0 .dlLd2 .acq 0 0, .unlockCall 0 0,
   .unlockRet 0, .now 0 (T0 + 5000),
   .lockCall 0 0, .lockRet 0, .ld 0 .notifyLd .acq 0 0, .ld 0 .childLd .acq 0 0,
   .stNote 0 .childSt .rel 0 1 0, .waitCall 0 0, .waitRet 0, .unlockCall 0 0, .unlockRet 0,
   .ret 0 (.isNotified true)] ++ observe .acq

/-- lazy expiry: accepted; nobody called nsync_note_notify; the store was performed by the poller
    (thread 0) during its nsync_note_is_notified (note0), inside a `notify (note0)` entered from
    nsync_note_notified_deadline_; the poller itself returns 1 as the performer of the store, and the
    later observer (thread 1) covers the poller's clock at its call. -/
example : (match prun pinit lazyAll with
    | .ok p => decide (p.saw 1 0 = 1 ∧ p.s.notifyCalled 0 = false ∧
        (p.sets 0).map (fun g => (g.who, g.api, g.top)) =
          [(0, some (.isNotified 0), some ⟨0, none, .ofDeadline .isNotified⟩)] ∧
        (p.sets 0).map (fun g => g.callc 0) = [1] ∧ 1 ≤ p.m.vc 1 0 ∧
        p.s.observed.map (fun o => (o.t, o.n, o.res)) = [(1, 0, true), (0, 0, true)])
    | .error _ => false) = true := by decide

/-- D. Born notified (the F5 repair; `Traces.f5bTrace` recorded from the repaired library): note0 is
       notified explicitly by thread 0, which then creates note1 under it: nsync_note_new stores
       note1's flag [note.c/7].  Extended by an observer: thread 1 nsync_note_is_notified (note1). -/
def bornAll (o : Ord) : List Event :=
  Traces.f5bTrace.take 41 ++
  [.stNote 0 .newSt o 1 1 0, .unlockCall 0 0, .unlockRet 0, .ret 0 (.new (some 1)),
   .call 1 (.isNotified 1), .ld 1 .dlLd1 .acq 1 1, .ret 1 (.isNotified true)]

example : Traces.f5bTrace.drop 41 = [.stNote 0 .newSt .rel 1 1 0, .unlockCall 0 0, .unlockRet 0,
    .ret 0 (.new (some 1)), .call 0 (.expiry 1), .ret 0 (.expiry (some 1100000000000)),
    .call 0 (.isNotified 1), .ld 0 .dlLd1 .acq 1 1, .ret 0 (.isNotified true)] := by decide

/-- born notified: accepted; the store of note1's flag is the creator's (thread 0, during
    nsync_note_new (note0, 1100 s), `top = none`); the observer covers the creator's clock at that
    call (component 0 = 2: it had stored note0's flag before). -/
example : (match prun pinit (bornAll .rel) with
    | .ok p => decide (p.saw 1 1 = 1 ∧ p.s.bornNotified 1 = true ∧
        (p.sets 1).map (fun g => (g.who, g.api, g.top)) =
          [(0, some (.new (some 0) (some 1100000000000)), none)] ∧
        (p.sets 1).map (fun g => g.callc 0) = [2] ∧ 2 ≤ p.m.vc 1 0)
    | .error _ => false) = true := by decide

/-- NEGATIVE CONTROL (born notified).  With `ATM_STORE_REL (&n->notified, 1)` of nsync_note_new
    [note.c/7] weakened to a relaxed store the observer of the new note does not cover the creator's
    clock (and the acceptor rejects the weakened log). -/
theorem C03_note_born_needs_release_store :
    ¬ VC.Clock.le ((clocks (Traces.f5bTrace.take 41)).vc 0) ((clocks (bornAll .rlx)).vc 1) := by
  intro hle
  have h0 := hle 0
  have e1 : (clocks (Traces.f5bTrace.take 41)).vc 0 0 = 2 := by decide
  have e2 : (clocks (bornAll .rlx)).vc 1 0 = 0 := by decide
  omega

example : (run init (bornAll .rlx)).toOption.isNone ∧ (run init (bornAll .rel)).toOption.isSome := by
  decide

/-- E. SCOPE: a note created with a zero deadline is notified from birth with its flag 0.
       Thread 1: nsync_note_notify (note0) — a no-op: no store.  Thread 2:
       nsync_note_is_notified (note0) = 1, by reading `expiry_time == 0` under the lock. -/
def zeroAll : List Event :=
  [.tick T0, .call 99 (.new none (some 0)), .malloc 99 (some 0), .ld 99 .dlLd1 .acq 0 0,
   .lockCall 99 0, .lockRet 99, .ld 99 .dlLd2 .acq 0 0, .unlockCall 99 0, .unlockRet 99,
   .ret 99 (.new (some 0)),
   .call 1 (.notify 0), .ld 1 .dlLd1 .acq 0 0, .lockCall 1 0, .lockRet 1, .ld 1 .dlLd2 .acq 0 0,
   .unlockCall 1 0, .unlockRet 1, .ret 1 .notify,
   .call 2 (.isNotified 0), .ld 2 .dlLd1 .acq 0 0, .lockCall 2 0, .lockRet 2, .ld 2 .dlLd2 .acq 0 0,
   .unlockCall 2 0, .unlockRet 2, .ret 2 (.isNotified true)]

/-- Accepted; no store was ever performed on note0; the observer returns 1 through the second
    disjunct of `C03_note_is_notified` (`zsaw`); and on the clock machine the clock of the caller of
    nsync_note_notify is NOT covered by the observer's: nobody notifies such a note, no edge exists. -/
theorem C03_note_zero_deadline_no_edge :
    okRun zeroAll = true ∧ (prunD zeroAll).sets 0 = [] ∧ (prunD zeroAll).saw 2 0 = 0 ∧
    (prunD zeroAll).zsaw 2 0 = true ∧ (prunD zeroAll).s.notifyCalled 0 = true ∧
    ¬ VC.Clock.le ((prunD zeroAll).cc 1) ((prunD zeroAll).m.vc 2) := by
  refine ⟨by decide, by decide, by decide, by decide, by decide, ?_⟩
  intro hle
  have h1 := hle 1
  have e1 : (prunD zeroAll).cc 1 1 = 1 := by decide
  have e2 : (prunD zeroAll).m.vc 2 1 = 0 := by decide
  omega

/-- F. SCOPE: a second, redundant nsync_note_notify (thread 2, after thread 0's has completed) finds
       the flag set [note.c/4] and stores nothing: the later observer (thread 1) covers the clock of
       thread 0 (the notifier), not that of thread 2. -/
def redundantAll : List Event :=
  notifyPre ++ notifyMid .rel ++
  [.call 2 (.notify 0), .ld 2 .dlLd1 .acq 0 1, .ret 2 .notify] ++ observe .acq

theorem C03_note_redundant_notify_no_edge :
    okRun redundantAll = true ∧ ((prunD redundantAll).sets 0).length = 1 ∧
    ((prunD redundantAll).sets 0).map (fun g => g.who) = [0] ∧
    ¬ VC.Clock.le ((prunD redundantAll).cc 2) ((prunD redundantAll).m.vc 1) := by
  refine ⟨by decide, by decide, by decide, ?_⟩
  intro hle
  have h2 := hle 2
  have e1 : (prunD redundantAll).cc 2 2 = 1 := by decide
  have e2 : (prunD redundantAll).m.vc 1 2 = 0 := by decide
  omega

end ExampleVC

end Note
