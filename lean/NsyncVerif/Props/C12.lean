/-
  Property C12 — "The per-thread semaphore never loses a post."

  All theorems below are proved at full strength (nothing is `_partial`; Props/C12Audit.lean prints
  the dependencies of each: propext / Classical.choice / Quot.sound only).  They quantify over every `Reachable` state of the
  acceptor `Futex.step` (Model/Futex.lean), i.e. over ALL interleavings of one waiter thread
  (the owner; single-waiter is nsync's usage and an explicit API-contract rejection of the
  model) with ANY number of poster threads, at the granularity of one atomic operation / one
  futex call per step, with ANY number of injected futex faults (EINTR, EAGAIN, spurious 0,
  premature ETIMEDOUT) and clock ticks at any point.  The proofs are inductive invariants
  (Proofs/FutexInv.lean), not enumerations.

  The bound of `C12_post_enables` is 5 own steps to the `ret` event (4 to the successful take),
  because from "loaded 0, about to call futex" the waiter needs
  futex wait → wait_ret EAGAIN → load → CAS → ret.
  And a waiter that has already seen ETIMEDOUT with an expired deadline returns ETIMEDOUT and
  leaves the post for the next wait (`C12_post_kept_on_timeout`).
-/
import NsyncVerif.Proofs.FutexInv
import NsyncVerif.Proofs.FutexSolo
import NsyncVerif.Proofs.FutexRefine

namespace NsyncVerif.Futex

/-! ## Conservation: word = posts − takes -/

/-- The futex word is exactly (successful V CASes) − (successful P/PD CASes). -/
theorem C12_conservation (h : Reachable s) : s.word + s.takes = s.posts :=
  h.inv.cons

/-- A take never happens without a post. -/
theorem C12_takes_le_posts (h : Reachable s) : s.takes ≤ s.posts := by
  have := C12_conservation h; omega

/-- API vocabulary: #(P / P_with_deadline calls that returned 0) ≤ #(V calls that performed
    their CAS). -/
theorem C12_success_le_posts (h : Reachable s) : s.succRets ≤ s.posts := by
  have h1 := h.inv.cons; have h2 := h.inv.rets; omega

/-- The word is a non-negative `int` that fits 32 bits (overflow is a contract rejection). -/
theorem C12_word_fits (h : Reachable s) : s.word < 2 ^ 32 := h.inv.fits

/-- The count never goes negative: a decrementing CAS is only ever attempted with `i > 0`,
    so `i - 1` in the model is an exact subtraction … -/
theorem C12_take_positive (h : Reachable s) (hpc : s.pc t = .wCas k i) : 0 < i :=
  h.inv.casPos t k i hpc

/-- … and every step that increments `takes` decrements the word by exactly one, from a
    positive value. -/
theorem C12_take_exact (h : Reachable s) (hs : step s e = .ok s')
    (ht : s'.takes = s.takes + 1) : 0 < s.word ∧ s'.word + 1 = s.word ∧ s'.posts = s.posts := by
  cases Step.of_step hs
  case take hpc =>
    have := h.inv.casPos _ _ _ hpc
    exact ⟨this, by show s.word - 1 + 1 = s.word; omega, rfl⟩
  all_goals exact absurd ht (by show s.takes ≠ s.takes + 1; omega)

/-! ## A successful return needs its own take -/

theorem inFlight_le_one (s : State) : inFlight s ≤ 1 := by
  unfold inFlight
  split
  · omega
  · split <;> omega

/-- succRets = takes − (takes in flight); at most one take is in flight. -/
theorem C12_success_needs_post (h : Reachable s) :
    s.succRets + inFlight s = s.takes ∧ inFlight s ≤ 1 :=
  ⟨h.inv.rets, inFlight_le_one s⟩

/-- Every `ret … 0` of P / P_with_deadline consumes exactly one in-flight take: it is preceded
    by its own successful CAS, and one take serves one return. -/
theorem C12_success_ret_consumes_take (h : Reachable s) (hs : step s e = .ok s')
    (hr : s'.succRets = s.succRets + 1) :
    (∃ t, e = .retP t ∨ e = .retPD t false) ∧ inFlight s = 1 ∧ inFlight s' = 0 ∧
    s'.takes = s.takes := by
  have h1 := h.inv.rets
  have h2 := (h.step hs).inv.rets
  have h3 := inFlight_le_one s
  have hev : (∃ t, e = .retP t ∨ e = .retPD t false) ∧ s'.takes = s.takes := by
    cases Step.of_step hs
    case retP => exact ⟨⟨_, Or.inl rfl⟩, rfl⟩
    case retPD b _ =>
      cases b
      · exact ⟨⟨_, Or.inr rfl⟩, rfl⟩
      · exact absurd hr (by show s.succRets ≠ s.succRets + 1; omega)
    all_goals exact absurd hr (by show s.succRets ≠ s.succRets + 1; omega)
  refine ⟨hev.1, ?_, ?_, hev.2⟩ <;> omega

/-! ## No lost post -/

/-- If the waiter is asleep in the kernel (queued, no wake addressed to it yet) then the word
    is 0, or some poster is between its successful CAS and its futex wake.  Hence: a post that
    has not been consumed finds the waiter awake, or a wake for it is still coming. -/
theorem C12_no_lost_post (h : Reachable s) (ha : s.asleep) :
    s.word = 0 ∨ ∃ p, s.pc p = .vWake :=
  h.inv.noLost ha

/-- Only the owner sleeps, and it does so at its `futex wait` statement with the timeout of
    its call. -/
theorem C12_sleeper_is_owner (h : Reachable s) (hsl : s.sleeper = some si) :
    ∃ o k, s.owner = some o ∧ s.pc o = .wSleep k ∧ si.deadline = k.timeout :=
  h.inv.sleepPc si hsl

/-! ## A post enables the waiter -/

/-- If the count is positive and the waiter is inside P / P_with_deadline, not asleep in the
    kernel, and has not already committed to ETIMEDOUT, then running the waiter ALONE (no other
    thread, no tick, no fault) it returns 0 within 5 of its own steps, never sleeping
    (`runSolo` fails on any asleep state).  -/
theorem C12_post_enables (h : Reachable s) (hw : 0 < s.word)
    (hpc : (s.pc w).isWaiter = true) (hna : ¬ s.asleep) (htc : timeoutCommitted s w = false) :
    ∃ s', runSolo s w 5 = .ok s' ∧ SoloSuccess s w s' :=
  (post_enables_both h.inv hw hpc hna htc).1

/-- … and its successful take (CAS i → i-1) happens within 4 own steps. -/
theorem C12_post_enables_take4 (h : Reachable s) (hw : 0 < s.word)
    (hpc : (s.pc w).isWaiter = true) (hna : ¬ s.asleep) (htc : timeoutCommitted s w = false) :
    ∃ s', runSolo s w 4 = .ok s' ∧ TakeDone s w s' :=
  (post_enables_both h.inv hw hpc hna htc).2

/-- A call of P / P_with_deadline (`k`) by an idle thread that may wait, with the count positive:
    the caller alone returns 0 without sleeping. -/
theorem fresh_wait_returns (h : Reachable s) (hw : 0 < s.word) (hidle : s.pc w = .idle)
    (hown : s.owner = none ∨ s.owner = some w) (k : WKind)
    (hs1 : step s e = .ok { s with owner := some w, pc := setPc s.pc w (.wLoad k) }) :
    ∃ s1 s', step s e = .ok s1 ∧ runSolo s1 w 5 = .ok s' ∧ SoloSuccess s1 w s' := by
  have hsn : s.sleeper = none := h.inv.sleeper_none hown fun k hk => by rw [hidle] at hk; cases hk
  obtain ⟨s', hrun, hsucc⟩ := (post_enables_both (h.step hs1).inv (w := w) hw
    (by simp [PC.isWaiter]) (by simp [State.asleep, hsn, asleepInfo]) (by simp [timeoutCommitted])).1
  exact ⟨_, s', hs1, hrun, hsucc⟩

/-- "…or future wait": with a positive count, a fresh P by the owner returns without sleeping. -/
theorem C12_future_wait_returns (h : Reachable s) (hw : 0 < s.word) (hidle : s.pc w = .idle)
    (hown : s.owner = none ∨ s.owner = some w) :
    ∃ s1 s', step s (.callP w) = .ok s1 ∧ runSolo s1 w 5 = .ok s' ∧ SoloSuccess s1 w s' :=
  fresh_wait_returns h hw hidle hown .p (Step.callP hidle hown).accepted

/-- Same for a fresh P_with_deadline, whatever its deadline (even one already expired: the
    deadline is only consulted after a futex ETIMEDOUT). -/
theorem C12_future_timed_wait_returns (h : Reachable s) (hw : 0 < s.word)
    (hidle : s.pc w = .idle) (hown : s.owner = none ∨ s.owner = some w) (dl : Option Nat) :
    ∃ s1 s', step s (.callPD w dl) = .ok s1 ∧ runSolo s1 w 5 = .ok s' ∧ SoloSuccess s1 w s' :=
  fresh_wait_returns h hw hidle hown (.pd dl) (Step.callPD hidle hown).accepted

/-- The excluded case of `C12_post_enables`: a waiter that has committed to ETIMEDOUT returns
    it within 2 own steps and leaves word, posts and takes alone — the post is kept for the
    next wait (see `C12_future_wait_returns`). -/
theorem C12_post_kept_on_timeout (h : Reachable s) (htc : timeoutCommitted s w = true) :
    ∃ s', runSolo s w 2 = .ok s' ∧ s'.pc w = .idle ∧ s'.word = s.word ∧ s'.posts = s.posts ∧
      s'.takes = s.takes ∧ s'.succRets = s.succRets ∧ s'.toRets = s.toRets + 1 := by
  have hinv := h.inv
  have hown : s.owner = some w := hinv.owner_of_waiter (by
    unfold timeoutCommitted at htc
    split at htc <;> simp_all [PC.isWaiter])
  have hsn : s.sleeper = none := hinv.sleeper_none (Or.inr hown) fun k hk => by
    simp [timeoutCommitted, hk] at htc
  unfold timeoutCommitted at htc
  split at htc
  · next dl hp =>
    simp [runSolo, soloEvent, step, hp, setPc, htc, State.asleep, asleepInfo, hsn]
  · next k hp =>
    obtain ⟨d, hd, _⟩ := hinv.toReal w k hp
    subst hd
    simp [runSolo, soloEvent, step, hp, setPc, State.asleep, asleepInfo, hsn]
  · simp at htc

/-! ## The wait re-checks: atomic compare-and-sleep -/

/-- A futex wait is only issued by a thread that has just loaded 0 (`pc = wWait`), with
    `val = 0` and the timeout of the call; the kernel puts it to sleep iff the word is still 0
    at that instant, otherwise it will return EAGAIN. -/
theorem C12_wait_rechecks (hs : step s (.fwait t val dl) = .ok s') :
    val = 0 ∧ (∃ k, s.pc t = .wWait k ∧ dl = k.timeout ∧ s'.pc t = .wSleep k) ∧
    (s.word = 0 → s'.sleeper = some ⟨dl, false⟩) ∧
    (s.word ≠ 0 → s'.sleeper = none ∧ waitRetAllowed s'.sleeper .eagain = true ∧
      ∀ r, waitRetAllowed s'.sleeper r = true → r = .eagain) ∧
    s'.word = s.word := by
  cases Step.of_step hs with
  | fwait hpc =>
    refine ⟨rfl, ⟨_, hpc, rfl, setPc_same ..⟩, fun h0 => if_pos h0, fun h0 => ?_, rfl⟩
    have hn : ∀ x y : Option SleepInfo, (if s.word = 0 then x else y) = y := fun _ _ => if_neg h0
    refine ⟨hn _ _, ?_, fun r hr => ?_⟩
    · show waitRetAllowed (if _ then _ else _) _ = _
      rw [hn]; rfl
    · change waitRetAllowed (if _ then _ else _) _ = _ at hr
      rw [hn] at hr
      cases r
      case eagain => rfl
      all_goals cases hr

/-- `pc = wWait` (about to call futex wait) is only ever entered by a load that observed 0. -/
theorem C12_wait_only_after_zero_load (hs : step s e = .ok s')
    (h0 : ∀ k, s.pc t ≠ .wWait k) (h1 : s'.pc t = .wWait k) :
    (∃ site ord, e = .ld t site ord 0) ∧ s.word = 0 ∧ s.pc t = .wLoad k := by
  -- `t` is the thread that moves: the program point of any other thread is unchanged
  have hne : s'.pc t ≠ s.pc t := fun h => h0 k (h ▸ h1)
  cases Step.of_step hs
  case tick => exact absurd rfl hne
  all_goals
    obtain rfl : t = _ := Classical.byContradiction fun h => hne (setPc_other _ _ h)
    rw [show State.pc _ t = _ from setPc_same ..] at h1
  case wLd hpc =>
    split at h1
    · next hw => cases h1; exact ⟨⟨_, _, by rw [hw]⟩, hw, hpc⟩
    · cases h1
  case now => split at h1 <;> cases h1
  all_goals cases h1

/-- The waiter only ever falls asleep through a futex wait that found the word equal to 0. -/
theorem C12_sleep_only_if_zero (hs : step s e = .ok s') (h0 : ¬ s.asleep) (h1 : s'.asleep) :
    (∃ t dl, e = .fwait t 0 dl) ∧ s.word = 0 := by
  cases Step.of_step hs
  case fwait =>
    refine ⟨⟨_, _, rfl⟩, Classical.byContradiction fun hw => ?_⟩
    change asleepInfo (if _ then _ else _) = true at h1
    rw [if_neg hw] at h1; cases h1
  case timedOut | fwaitRet => cases h1
  case fwake => rw [State.asleep, show State.sleeper _ = _ from rfl, asleepInfo_markWoken] at h1; cases h1
  all_goals exact absurd h1 h0

/-! ## ETIMEDOUT only at or after the deadline -/

/-- Whatever the kernel did (premature ETIMEDOUT included), when P_with_deadline returns
    ETIMEDOUT the deadline of that call has been reached on the clock. -/
theorem C12_timeout_real (h : Reachable s) (hs : step s (.retPD t true) = .ok s') :
    ∃ d, callDeadline s t = some (some d) ∧ d ≤ s.now := by
  cases Step.of_step hs with
  | retPD hpc =>
    obtain ⟨d, hd, hle⟩ := h.inv.toReal t _ hpc
    cases hd
    exact ⟨d, by simp [callDeadline, hpc], hle⟩

/-- `callDeadline` really is the argument of the call … -/
theorem C12_deadline_set (hs : step s (.callPD t dl) = .ok s') :
    callDeadline s' t = some dl := by
  cases Step.of_step hs with
  | callPD => simp [callDeadline]

/-- … and does not change until the call returns. -/
theorem C12_deadline_stable (hs : step s e = .ok s') (hd : callDeadline s t = some d)
    (hni : s'.pc t ≠ .idle) : callDeadline s' t = some d := by
  rw [callDeadline_eq_some] at hd ⊢
  exact ((Step.of_step hs).call hd).resolve_left hni

/-- No timeout is reported for `no_deadline`. -/
theorem C12_no_deadline_never_times_out (h : Reachable s) (hpc : s.pc t = .wRet k true) :
    ∃ d, k = .pd (some d) :=
  let ⟨d, hd, _⟩ := h.inv.toReal t k hpc; ⟨d, hd⟩

/-! ## Faults are harmless -/

/-- Any return of the futex wait — 0 (real or spurious), EINTR, EAGAIN, ETIMEDOUT (real or
    premature) — leaves word, posts, takes and the return counters unchanged, takes the waiter
    out of the kernel, and sends it back to its load (re-check); ETIMEDOUT sends it to the clock
    read first.  Never to a successful return. -/
theorem C12_faults_harmless (hs : step s (.fwaitRet t r) = .ok s') :
    s'.word = s.word ∧ s'.posts = s.posts ∧ s'.takes = s.takes ∧ s'.succRets = s.succRets ∧
    s'.toRets = s.toRets ∧ s'.now = s.now ∧ s'.sleeper = none ∧
    (∃ k, s.pc t = .wSleep k ∧ (r ≠ .etimedout → s'.pc t = .wLoad k) ∧
      (r = .etimedout → ∃ dl, k = .pd dl ∧ s'.pc t = .wNow dl)) ∧
    (∀ k b, s'.pc t ≠ .wRet k b) := by
  cases Step.of_step hs <;>
    refine ⟨rfl, rfl, rfl, rfl, rfl, rfl, rfl, ⟨_, ‹s.pc t = _›, ?_, ?_⟩,
      fun k b h => by rw [show State.pc _ t = _ from setPc_same ..] at h; cases h⟩
  case timedOut.refine_1 => exact fun h => absurd rfl h
  case timedOut.refine_2 => exact fun _ => ⟨_, rfl, setPc_same ..⟩
  case fwaitRet.refine_1 => exact fun _ => setPc_same ..
  case fwaitRet.refine_2 => exact fun h => absurd h ‹_›

/-- The clock read after a futex ETIMEDOUT: a premature timeout (deadline not reached) leads
    back to the load; only an expired deadline yields ETIMEDOUT.  Counters untouched. -/
theorem C12_premature_timeout_rechecks (hs : step s (.now t ns) = .ok s') :
    ∃ dl, s.pc t = .wNow dl ∧ ns = s.now ∧
      s'.word = s.word ∧ s'.posts = s.posts ∧ s'.takes = s.takes ∧ s'.succRets = s.succRets ∧
      s'.toRets = s.toRets ∧
      (expired dl s.now = false → s'.pc t = .wLoad (.pd dl)) ∧
      (expired dl s.now = true → s'.pc t = .wRet (.pd dl) true) := by
  cases Step.of_step hs with
  | now hpc =>
    refine ⟨_, hpc, rfl, rfl, rfl, rfl, rfl, rfl, fun hx => ?_, fun hx => ?_⟩ <;>
      rw [show State.pc _ t = _ from setPc_same .., hx] <;> rfl

/-! ## Refinement of the abstract counting semaphore -/

theorem C12_refines_init : init.abs = AState.init := rfl

/-- Every concrete step is an abstract step of the counting semaphore (`post`: count+1,
    `take`: count-1 from a positive count, `timeout d`: count unchanged and d ≤ now, `tick`)
    or a stutter, under the abstraction `abs s = ⟨s.word, s.now⟩`. -/
theorem C12_refines (h : Reachable s) (hs : step s e = .ok s') :
    AStep s.abs (labelOf s e) s'.abs := by
  cases Step.of_step hs
  case tick hn => exact .tick _ _ _ hn
  case take hpc => simp only [labelOf, hpc]; exact AStep.take' (h.inv.casPos _ _ _ hpc)
  case post hpc _ => simp only [labelOf, hpc]; exact .post _ _
  case retPD b hpc =>
    cases b
    · exact .tau _
    · obtain ⟨d, hd, hle⟩ := h.inv.toReal _ _ hpc
      cases hd
      simp only [labelOf, callDeadline, hpc]; exact .timeout _ _ _ hle
  all_goals exact .tau _

/-- The labels are tied to the ghost counters: `post` ⇔ posts+1 (successful CAS of V),
    `take` ⇔ takes+1 (successful CAS of P/PD), `timeout` ⇔ an ETIMEDOUT return. -/
theorem C12_refines_labels (h : Reachable s) (hs : step s e = .ok s') :
    s'.posts = s.posts + (if labelOf s e = .post then 1 else 0) ∧
    s'.takes = s.takes + (if labelOf s e = .take then 1 else 0) ∧
    s'.toRets = s.toRets + (if (labelOf s e).isTimeout then 1 else 0) := by
  cases Step.of_step hs
  case take hpc | post hpc _ => simp [labelOf, hpc, ALabel.isTimeout]
  case retPD b hpc =>
    cases b
    · simp [labelOf, ALabel.isTimeout]
    · obtain ⟨d, hd, _⟩ := h.inv.toReal _ _ hpc
      cases hd
      simp [labelOf, callDeadline, hpc, ALabel.isTimeout]
  all_goals simp [labelOf, ALabel.isTimeout]

theorem refines_run_from (h : Reachable s) (hr : run s evs = .ok s') :
    ARun s.abs (labels s evs) s'.abs := by
  induction evs generalizing s with
  | nil => cases hr; exact .nil _
  | cons e es ih =>
    obtain ⟨s1, h1, hr⟩ := isRun.of_cons hr
    simp only [labels, h1]
    exact .cons (C12_refines h h1) (ih (h.step h1) hr)

/-- Trace form: every accepted log is a run of the abstract semaphore. -/
theorem C12_refines_run (hr : run init evs = .ok s) :
    ARun AState.init (labels init evs) s.abs :=
  refines_run_from .init hr

/-! ## Non-vacuity: concrete accepted traces -/

/-- waiter 0 sleeps, gets EINTR, re-sleeps; poster 1 posts and wakes; waiter returns 0. -/
def trace_eintr : List Event :=
  [ .callP 0,
    .ld 0 .p .rlx 0,
    .fwait 0 0 none,
    .fwaitRet 0 .eintr,
    .ld 0 .p .rlx 0,
    .fwait 0 0 none,
    .callV 1,
    .ld 1 .v .rlx 0,
    .cas 1 .v .rel 0 1 0 true,
    .fwake 1 1 1,
    .retV 1,
    .fwaitRet 0 .ok,
    .ld 0 .p .rlx 1,
    .cas 0 .p .acq 1 0 1 true,
    .retP 0 ]

def summary (r : Except String State) : Option (Nat × Nat × Nat × Nat × Nat × Bool) :=
  match r with
  | .ok s => some (s.word, s.posts, s.takes, s.succRets, s.toRets, s.sleeper.isSome)
  | .error _ => none

example : summary (run init trace_eintr) = some (0, 1, 1, 1, 0, false) := by decide

/-- After the second `futex wait` of that trace the waiter is asleep (hypothesis of
    `C12_no_lost_post` is satisfiable), and after the poster's CAS the right disjunct holds. -/
example : (match run init (trace_eintr.take 6) with
    | .ok s => decide s.asleep && s.word == 0 | .error _ => false) = true := by decide
example : (match run init (trace_eintr.take 9) with
    | .ok s => decide s.asleep && s.word == 1 && s.pc 1 == .vWake | .error _ => false) = true := by
  decide

/-- timed wait with deadline 100: premature ETIMEDOUT at time 40 (re-check, sleep again),
    then a real timeout at 100. -/
def trace_timeout : List Event :=
  [ .tick 10,
    .callPD 0 (some 100),
    .ld 0 .pd .rlx 0,
    .fwait 0 0 (some 100),
    .tick 40,
    .fwaitRet 0 .etimedout,        -- premature
    .now 0 40,
    .ld 0 .pd .rlx 0,
    .fwait 0 0 (some 100),
    .tick 100,
    .fwaitRet 0 .etimedout,
    .now 0 100,
    .retPD 0 true ]

example : summary (run init trace_timeout) = some (0, 0, 0, 0, 1, false) := by decide

/-- Hypotheses of `C12_post_enables` are satisfiable: poster posts between the waiter's load
    of 0 and its futex wait; the wait returns EAGAIN and the waiter takes the post. -/
def trace_eagain : List Event :=
  [ .callPD 0 none,
    .ld 0 .pd .rlx 0,
    .callV 7,
    .ld 7 .v .rlx 0,
    .cas 7 .v .rel 0 1 0 true ]

example : (match run init trace_eagain with
    | .ok s => decide (0 < s.word) && (s.pc 0).isWaiter && !decide s.asleep
                 && !timeoutCommitted s 0 | .error _ => false) = true := by decide
example : (match run init trace_eagain with
    | .ok s => summary (runSolo s 0 5) | .error _ => none) = some (0, 1, 1, 1, 0, false) := by
  decide

/-! ## The acceptor rejects what the C code cannot do -/

/-- P returning without a take. -/
example : (step (match run init [.callP 0, .ld 0 .p .rlx 0] with | .ok s => s | .error _ => init)
    (.retP 0)).toOption.isNone = true := by decide
/-- ETIMEDOUT returned before the deadline. -/
example : (run init [.tick 10, .callPD 0 (some 100), .ld 0 .pd .rlx 0, .fwait 0 0 (some 100),
    .fwaitRet 0 .etimedout, .now 0 10, .retPD 0 true]).toOption.isNone = true := by decide
/-- futex wake before the CAS of V. -/
example : (run init [.callV 1, .ld 1 .v .rlx 0, .fwake 1 1 0]).toOption.isNone = true := by decide
/-- A second waiter. -/
example : (run init [.callP 0, .callP 1]).toOption.isNone = true := by decide
/-- futex wait with a stale value / after a non-zero load. -/
example : (run init [.callV 1, .ld 1 .v .rlx 0, .cas 1 .v .rel 0 1 0 true, .callP 0,
    .ld 0 .p .rlx 1, .fwait 0 1 none]).toOption.isNone = true := by decide
/-- EINTR cannot be reported to a thread that never slept (word changed → EAGAIN only). -/
example : (run init (trace_eagain ++ [.fwait 0 0 none, .fwaitRet 0 .eintr])).toOption.isNone
    = true := by decide

end NsyncVerif.Futex
