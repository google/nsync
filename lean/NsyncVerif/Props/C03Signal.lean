/-
  Property C03, cv-signal edge — everything a thread did before nsync_cv_signal /
  nsync_cv_broadcast (indeed: before its store `waiting := 0` into a waiter record, which is later)
  happens before what the woken waiter does after its wait returns, under the DECLARED memory
  orders only.

  Model: `Model/CvFix.lean` (the current /repo/internal/cv.c + sem_wait.c + the cv hooks of wait.c,
  statement by statement).  Its events carry SITES; `siteOrd` (Proofs/CvFixVC.lean; exported as
  `siteOrdTable`) is the order each site declares in the source.  Happens-before is computed by the
  generic vector-clock machine `NsyncVerif.VC` from program order and from those orders (C++20
  release sequences; a failed CAS is a relaxed load); `toVC` is the projection, `clocks fo evs` the
  clocks of an event list.  Accesses by OTHER code to record fields (`fLd`/`fSt`/`fCas`: mu.c,
  mu_wait.c, …) carry no site: their order is taken from an oracle `fo : Nat → VC.Ord` (position in
  the list ↦ order) and every theorem holds for ALL oracles.  No edge is credited to the
  semaphores, to the mutex marks, or to the interleaving.  Unbounded: any number of threads and
  records, any accepted event list, both semaphore flavours.  The mutex word cv.c itself reads and
  CASes (cv.c/0..4, cv.c/7) is ONE location of the machine (this layer has no mutex identity); the
  proofs of the wake-up edges use only the release clock of the record's `waiting` flag.
  `Proofs/CvFixVCTie.lean` ties `siteOrd` to the site tables of the replay driver (an accepted log
  carries, at every site, exactly the order the clock machine uses); `sitesAgree` is the check of
  `siteOrd` against the regenerated table of ATM_* call sites of /repo.

  The edge is carried by
    waker   `ATM_STORE_REL (&p_nw->waiting, 0)`          cv.c/5  (wake_waiters)
    waiter  `while (ATM_LOAD_ACQ (&w->nw.waiting) != 0)`  cv.c/10 (nsync_cv_wait_with_deadline_generic)
    wait_n  `ATM_LOAD_ACQ (&nw->waiting)`                 cv.c/32 (cv_dequeue), or the wait-for-waker
            loop `while (ATM_LOAD_ACQ (&nw->waiting) != 0)` cv.c/35 (cv_dequeue, repair of F3)
  and by the fact (`woken_no_store`) that between the waker's store and the owner's load nobody
  performs a plain store to that flag.

  PROVED
    `C03_signal`              trace form, nsync_cv_wait*: waker's store … loop exit … `ret` = 0
    `C03_signal_waitn`        trace form, nsync_wait_n: waker's store … cv_dequeue's load observing 0
    `C03_signal_before_call`  program order: the waker's clock at the store covers its clock at any
                              earlier point, in particular at its `call nsync_cv_signal|broadcast`
    `C03_signal_wait`, `C03_signal_dequeue`   the same edges in state form (ghosts defined by
                              `C03_signal_ghosts`), with the waker's clock AT ITS CALL covered too
    `C03_signal_invariant`    the inductive invariant
    `C03_cv_spinlock`         the cv spinlock hands over the previous holder's clock
    `C03_signal_needs_release_store`, `C03_signal_needs_acquire_load`,
    `C03_signal_waitn_needs_acquire_load`, `C03_signal_waitn_needs_acquire_loop`
                              negative controls: with cv.c/5 relaxed, or cv.c/10, cv.c/32, cv.c/35
                              relaxed, the edge is not derivable on a concrete accepted trace
  WAITERS TRANSFERRED to the mutex queue (cv.c:64-135): in this layer only the edge up to the transfer
    `C03_signal_transfer_partial`   the waker's clock from before its `ATM_CAS_ACQ (&pmu->word)`
                              [cv.c/1] is covered by the release clock of the mutex word as soon as
                              the waker has released the mutex' spinlock with
                              `ATM_CAS_REL (&pmu->word)` [cv.c/3].
    `C03_signal_transfer_full`      (a `def`) … and by the waiter's clock at its return: FALSE of this
                              layer's clock machine (`C03_signal_transfer_full_not_in_model`, a
                              concrete accepted trace).  The wake-up of a transferred waiter is
                              performed by the mutex unlock path (mu.c: acquire CAS on the mutex word,
                              then `ATM_STORE_REL (&w->nw.waiting, 0)`), whose operations on the mutex
                              word are not events of this layer; here that store is a foreign store
                              by a thread whose clock never imported the mutex word's release clock.
                              The edge to the waiter's return is proved for the product with the
                              mutex protocol in Props/C03Transfer.lean (`C03_signal_transfer`,
                              `C03_signal_transfer_full_composed`).
-/
import NsyncVerif.Proofs.CvFixVCRun
import NsyncVerif.Proofs.CvFixVCTie
import NsyncVerif.Props.C04Fix

namespace NsyncVerif.CvFix
open NsyncVerif

/-- Every accepted event list has a product run; its acceptor component is the acceptor's state and
    its clock component is the clock machine run over the projected events. -/
theorem C03_signal_machine {cfg : Config} (fo : Nat → VC.Ord) {s : State} {evs : List Event}
    (h : run cfg init evs = .ok s) :
    ∃ p, prun cfg fo pinit evs = .ok p ∧ p.s = s ∧ p.c = clocks fo evs ∧ p.n = evs.length := by
  obtain ⟨p, h1, h2⟩ := prun_of_run (fo := fo) (p := pinit) h
  exact ⟨p, h1, h2, (preachable_clocks h1).1, (preachable_clocks h1).2⟩

/-- Definition of the ghosts, as a theorem. -/
theorem C03_signal_ghosts {cfg : Config} {fo : Nat → VC.Ord} {p p' : PState} {e : Event}
    (h : pstep cfg fo p e = .ok p') :
    step cfg p.s e = .ok p'.s ∧ p'.c = cstep (fo p.n) p.c e ∧
    -- set by …
    (∀ u, e = .callSignal u ∨ e = .callBroadcast u → p'.cc u = p.c.vc u) ∧
    (∀ u r n o, e = .recSt u .wake r n o → p'.wk r = some ⟨u, p.c.vc u, p.cc u⟩) ∧
    (∀ t r, e = .recLd t .wHead r 0 →
      p'.xw t = (if (p.s.recs r).stat = .woken then p.wk r else none) ∧
      p'.xt t = (if (p.s.recs r).stat = .xfer then p.xf r else none)) ∧
    (∀ u x n o r, e = .muCas u .wwCas x n o true → (p'.s.recs r).stat = .xfer →
      (p.s.recs r).stat ≠ .xfer → p'.xf r = some ⟨u, p.c.vc u, p.cc u⟩) ∧
    (∀ t site n o, e = .wordSt t site n o → p'.lastRel = p.c.vc t) ∧
    -- … and unchanged otherwise
    (∀ u, e ≠ .callSignal u → e ≠ .callBroadcast u → p'.cc u = p.cc u) ∧
    (∀ r, (∀ u n o, e ≠ .recSt u .wake r n o) → p'.wk r = p.wk r) ∧
    (∀ t, xwTid e ≠ some t → p'.xw t = p.xw t) ∧
    (∀ r, (p.s.recs r).stat = .xfer → p'.xf r = p.xf r) := by
  obtain ⟨s', hs, rfl⟩ := pstep_ok h
  refine ⟨hs, rfl, ?_, ?_, ?_, ?_, ?_, ?_, ?_, ?_, ?_⟩
  · rintro u (rfl | rfl) <;> exact VC.upd_same _ _ _
  · rintro u r n o rfl; exact VC.upd_same _ _ _
  · rintro t r rfl; exact ⟨VC.upd_same _ _ _, VC.upd_same _ _ _⟩
  · rintro u x n o r rfl h1 h2
    have h1' : (s'.recs r).stat = .xfer := h1
    simp [pnext, xfUpd, h1', h2]
  · rintro t site n o rfl; rfl
  · intro u h1 h2
    cases e <;> first | rfl | skip
    · rename_i t; simp only [pnext, ccUpd]
      exact VC.upd_other _ _ (fun hh => h1 (by rw [hh]))
    · rename_i t; simp only [pnext, ccUpd]
      exact VC.upd_other _ _ (fun hh => h2 (by rw [hh]))
  · intro r hr
    cases e <;> first | rfl | skip
    rename_i t site r' n o
    cases site <;> first | rfl | skip
    simp only [pnext, wkUpd]
    exact VC.upd_other _ _ (fun hh => hr t n o (by rw [hh]))
  · intro t ht; exact xwUpd_other p e t ht
  · intro r hr; exact xfUpd_keep p s' e r hr

/-- The inductive invariant (`VInv`, Proofs/CvFixVCInv.lean), over all reachable product states. -/
theorem C03_signal_invariant {cfg : Config} {fo : Nat → VC.Ord} {p : PState}
    (h : PReachable cfg fo p) : VInv p := vinv_preachable h

/-- C03, CV-SIGNAL EDGE (nsync_cv_wait, nsync_cv_wait_with_deadline[_generic]).  Take any accepted
    event list, any store `ATM_STORE_REL (&p_nw->waiting, 0)` [cv.c/5] in it (waker `u`, inside
    nsync_cv_signal or nsync_cv_broadcast, record `r`), the first load
    `ATM_LOAD_ACQ (&w->nw.waiting)` [cv.c/10] on `r` after it that observes 0 (thread `t` leaves
    its wait loop) and the first `ret` of `t`'s wait after that.  Then the wait returns 0, and
    `u`'s clock just before its store is covered by `t`'s clock at the return: everything `u` did
    before the store happens before everything `t` does after its wait returns.  For every
    assignment `fo` of orders to the foreign accesses. -/
theorem C03_signal {cfg : Config} {fo : Nat → VC.Ord} {pre mid rest post : List Event}
    {u t : Tid} {r : Rid} {n o : Nat} {res : Outcome} {s : State}
    (h : run cfg init (pre ++ [.recSt u .wake r n o] ++ mid ++ [.recLd t .wHead r 0] ++ rest ++
          [.retWait t res] ++ post) = .ok s)
    (hmid : ∀ t', Event.recLd t' .wHead r 0 ∉ mid)
    (hrest : ∀ res', Event.retWait t res' ∉ rest) :
    res = .ok ∧
    VC.Clock.le ((clocks fo pre).vc u)
      ((clocks fo (pre ++ [.recSt u .wake r n o] ++ mid ++ [.recLd t .wHead r 0] ++ rest ++
          [.retWait t res])).vc t) :=
  signal_trace h hmid hrest

/-- C03, CV-SIGNAL EDGE (nsync_wait_n on a condition variable).  Take any accepted event list, any
    store `ATM_STORE_REL (&p_nw->waiting, 0)` [cv.c/5] in it (waker `u`, record `r`) and the first
    load of `r.waiting` by cv_dequeue after it that observes 0 — `ATM_LOAD_ACQ` at cv.c/32, or in
    the wait-for-waker loop at cv.c/35.  Then `u`'s clock just before its store is covered by the
    clock of the thread `t` inside nsync_wait_n right after that load, and that cv_dequeue reports
    the object ready (`was_queued = 0`). -/
theorem C03_signal_waitn {cfg : Config} {fo : Nat → VC.Ord} {pre mid post : List Event}
    {u t : Tid} {r : Rid} {n o : Nat} {site : RSite} {s : State}
    (h : run cfg init (pre ++ [.recSt u .wake r n o] ++ mid ++ [.recLd t site r 0] ++ post) = .ok s)
    (hsite : site = .deqLd ∨ site = .deqSpin)
    (hmid : ∀ t', Event.recLd t' .deqLd r 0 ∉ mid ∧ Event.recLd t' .deqSpin r 0 ∉ mid ∧
      Event.recLd t' .wHead r 0 ∉ mid) :
    VC.Clock.le ((clocks fo pre).vc u)
      ((clocks fo (pre ++ [.recSt u .wake r n o] ++ mid ++ [.recLd t site r 0])).vc t) ∧
    ∃ s3, run cfg init (pre ++ [.recSt u .wake r n o] ++ mid ++ [.recLd t site r 0]) = .ok s3 ∧
      (s3.thr t).wasQ = false :=
  signal_trace_waitn h hsite hmid

/-- Program order: a thread's clock covers its clock at any earlier point of the list.  With
    `pre = pre₀ ++ pre₁` in `C03_signal` / `C03_signal_waitn` (e.g. `pre₀` ending just before the
    waker's `call nsync_cv_signal`), everything the waker did before its CALL happens before the
    woken waiter's continuation. -/
theorem C03_signal_before_call (fo : Nat → VC.Ord) (pre₀ pre₁ : List Event) (u : Tid) :
    VC.Clock.le ((clocks fo pre₀).vc u) ((clocks fo (pre₀ ++ pre₁)).vc u) :=
  clocks_prefix_le fo pre₀ pre₁ u

/-- Whenever `ret nsync_cv_wait* ` by thread `t` is accepted and the instance of the wait was
    unlinked by a waker `u` and not transferred to the mutex queue: the wait returns 0, the ghost
    `xw t` is a wake-up by `u`, and `u`'s clock just before its store `waiting := 0` — which covers
    `u`'s clock at its call of nsync_cv_signal / nsync_cv_broadcast — is covered by `t`'s clock. -/
theorem C03_signal_wait {cfg : Config} {fo : Nat → VC.Ord} {p p' : PState} {t u : Tid}
    {res : Outcome} (h : PReachable cfg fo p) (hs : pstep cfg fo p (.retWait t res) = .ok p')
    (hu : Unl.waker u ∈ (p.s.thr t).exitUnl) (hx : (p.s.thr t).xferd = false) :
    res = .ok ∧ ∃ w, p.xw t = some w ∧ w.by_ = u ∧ VC.Clock.le w.clk (p'.c.vc t) ∧
      VC.Clock.le w.call w.clk := by
  obtain ⟨s', hs', rfl⟩ := pstep_ok hs
  have hv := vinv_preachable h
  obtain ⟨w, hw, hby⟩ := hv.exit t (retWait_afterLoop hs') hx u hu
  obtain ⟨h1, h2⟩ := hv.seen t w hw
  exact ⟨(C04_outcome_partial (preachable_reachable h) hs').2 u hu, w, hw, hby, h1, h2⟩

/-- Whenever `cv_dequeue (pcv, r)` returns 0 ("not still enqueued": the object is ready) to thread
    `t` inside nsync_wait_n: the record was unlinked by the waker of the ghost `wk r`, and that
    waker's clock just before its store `waiting := 0` — which covers its clock at its call — is
    covered by `t`'s clock. -/
theorem C03_signal_dequeue {cfg : Config} {fo : Nat → VC.Ord} {p p' : PState} {t : Tid} {r : Rid}
    {e : Event} (h : PReachable cfg fo p) (hs : pstep cfg fo p e = .ok p')
    (hd : deqReturns p.s t r e) (hq : (p.s.thr t).wasQ = false) :
    ∃ w, p.wk r = some w ∧ (p.s.recs r).unl = [Unl.waker w.by_] ∧
      VC.Clock.le w.clk (p'.c.vc t) ∧ VC.Clock.le w.call w.clk := by
  obtain ⟨s', hs', rfl⟩ := pstep_ok hs
  have hv := vinv_preachable h
  have hr := preachable_reachable h
  have hf := invF_reachable hr
  rcases hd with ⟨new, obs, rfl, hl, rfl⟩ | rfl
  · have hwk : (p.s.recs (p.s.thr t).r).stat = .woken := by
      rcases (hf.thr t).wqRel hl with ⟨a, _, _⟩ | ⟨_, _, c⟩
      · rw [hq] at a; cases a
      · exact c
    obtain ⟨w, h1, h2, _, h4⟩ := hv.woken _ hwk
    obtain ⟨w', h1', h2'⟩ := hv.deq t hl hq
    rw [h1] at h1'; cases h1'
    exact ⟨w, h1, h2, VC.Clock.le_trans h2' (cstep_mono (fo p.n) p.c (.wordSt t .deqRel new obs) t), h4⟩
  · obtain ⟨hl, hx, hw, _⟩ := deqSpin_exit_accepted hs'
    have hwk : (p.s.recs r).stat = .woken := by
      rcases (C04_dequeue_waits_for_waker hr (.inr hl)).2.2 with ⟨v, _, _, c⟩ | ⟨c, _⟩
      · rw [← hx, hw] at c; cases c
      · rw [← hx] at c; exact c
    obtain ⟨w, h1, h2, h3, h4⟩ := hv.woken r hwk
    exact ⟨w, h1, h2, VC.Clock.le_trans h3 (cstep_acq_ld (fo p.n) p.c t .deqSpin r 0 rfl), h4⟩

/-- The cv spinlock (acquire CAS common.c/1, release stores cv.c/9,17,24,28,31,34) hands over the
    clock of the previous holder at its release — hence, by induction, of all previous holders:
    the plain accesses to `pcv->waiters` inside the critical sections are ordered. -/
theorem C03_cv_spinlock {cfg : Config} {fo : Nat → VC.Ord} {p p' : PState} {t : Tid}
    {exp new obs : Nat} (h : PReachable cfg fo p)
    (hs : pstep cfg fo p (.wordCas t exp new obs true) = .ok p') :
    VC.Clock.le p.lastRel (p'.c.vc t) := by
  obtain ⟨s', _, rfl⟩ := pstep_ok hs
  exact VC.Clock.le_trans (vinv_preachable h).spin (cstep_word_cas (fo p.n) p.c t exp new obs)

/-- THE EDGE UP TO THE TRANSFER.  A record that wake_waiters moved to the mutex queue (status
    `xfer`): the ghost `xf r` is that transfer, its waker is the record's unlinker, the waker's
    clock from just before it took the mutex' spinlock [cv.c/1] covers its clock at its call, and
    it is covered by the RELEASE CLOCK OF THE MUTEX WORD — or the waker is still between cv.c/1 and
    its successful `ATM_CAS_REL (&pmu->word, …)` [cv.c/3], and its own clock covers it. -/
theorem C03_signal_transfer_partial {cfg : Config} {fo : Nat → VC.Ord} {p : PState}
    (h : PReachable cfg fo p) (r : Rid) (hx : (p.s.recs r).stat = .xfer) :
    ∃ w, p.xf r = some w ∧ (p.s.recs r).unl = [Unl.waker w.by_] ∧ VC.Clock.le w.call w.clk ∧
      (VC.Clock.le w.clk (p.c.relc .mu) ∨
        ((p.s.thr w.by_).loc.muHeld = true ∧ VC.Clock.le w.clk (p.c.vc w.by_))) :=
  (xinv_preachable h).xfer r hx

/-- In particular once the waker has returned from nsync_cv_signal / nsync_cv_broadcast. -/
theorem C03_signal_transfer_released {cfg : Config} {fo : Nat → VC.Ord} {p : PState}
    (h : PReachable cfg fo p) (r : Rid) (hx : (p.s.recs r).stat = .xfer) :
    ∃ w, p.xf r = some w ∧ ((p.s.thr w.by_).loc = .idle → VC.Clock.le w.clk (p.c.relc .mu)) := by
  obtain ⟨w, h1, _, _, h4⟩ := C03_signal_transfer_partial h r hx
  refine ⟨w, h1, fun hl => ?_⟩
  rcases h4 with h4 | ⟨h4, _⟩
  · exact h4
  · rw [hl] at h4; cases h4

/-- The full statement for transferred waiters (false of this layer alone, see the header; proved
    for the product with the mutex protocol in Props/C03Transfer.lean): when the wait of a
    transferred waiter returns, the clock its waker had before the transfer is covered by the
    waiter's clock.  `xt t` = the transfer of `t`'s record, recorded when `t` left its loop. -/
def C03_signal_transfer_full : Prop :=
  ∀ (cfg : Config) (fo : Nat → VC.Ord) (p p' : PState) (t u : Tid) (res : Outcome),
    PReachable cfg fo p → pstep cfg fo p (.retWait t res) = .ok p' →
    Unl.waker u ∈ (p.s.thr t).exitUnl → (p.s.thr t).xferd = true →
    ∃ w, p.xt t = some w ∧ w.by_ = u ∧ VC.Clock.le w.clk (p'.c.vc t)

/-! ### non-vacuity and controls: concrete accepted traces -/

section Examples

/-- all foreign accesses relaxed -/
def fo0 : Nat → VC.Ord := fun _ => .rlx

/-- The table `siteOrd` with one site weakened to relaxed. -/
def weaken (x : Site) : Site → VC.Ord := fun s => if s = x then .rlx else siteOrd s

def clocksX (so : Site → VC.Ord) (evs : List Event) : VC.St VLoc := crunx so fo0 0 VC.St.init evs

theorem clocksX_siteOrd (evs : List Event) : clocksX siteOrd evs = clocks fo0 evs := rfl

/-- The product state after a concrete event list (`pinit` if it is rejected). -/
def prunD (cfg : Config) (evs : List Event) : PState :=
  match prun cfg fo0 pinit evs with
  | .ok p => p
  | .error _ => pinit

def pokRun (cfg : Config) (evs : List Event) : Bool :=
  match prun cfg fo0 pinit evs with
  | .ok _ => true
  | .error _ => false

theorem prun_prunD {cfg : Config} {evs : List Event} (h : pokRun cfg evs = true) :
    prun cfg fo0 pinit evs = .ok (prunD cfg evs) := by
  unfold pokRun at h; unfold prunD
  split at h
  · rename_i p hp; rw [hp]
  · cases h

/-- A writer-mode waiter (thread 0, pooled record w0) and a signaller (thread 1), up to the
    signaller's store: enqueue, release of the mutex, sleep; signal unlinks w0. -/
def sigPre : List Event := [
  .tick 100, .callWait 0 false none false, .wInit 0 (.w 0), .recSt 0 .wSt1 (.w 0) 1 0, .muLd 0 .wMode 1,
  .wordLd 0 .spin0 0, .wordCas 0 0 3 0 true, .recLd 0 .wRc (.w 0) 0, .wordSt 0 .waitRel 2 3,
  .relMark 0 .wr, .nret 0, .recLd 0 .wHead (.w 0) 1, .semPdEnter 0 0 none,
  .callSignal 1, .wordLd 1 .sigLd 2, .wordLd 1 .spin0 2, .wordCas 1 2 3 2 true,
  .recLd 1 (.sRcLd true) (.w 0) 0, .recCas 1 (.sRcCas true) (.w 0) 0 1 0 true, .wordSt 1 .sigRel 0 3,
  .muLd 1 .wwLd 0]

/-- … the store `waiting := 0` [cv.c/5], V, return of the signaller; the waiter wakes … -/
def sigMid : List Event := [.semV 1 0, .retSignal 1, .semPdRet 0 0 false, .recLd 0 .wTail (.w 0) 0]

/-- … leaves its loop [cv.c/10 observes 0], re-acquires the mutex and returns 0. -/
def sigAll : List Event :=
  sigPre ++ [.recSt 1 .wake (.w 0) 0 1] ++ sigMid ++ [.recLd 0 .wHead (.w 0) 0] ++
    [.lockMark 0 .wr, .nret 0] ++ [.retWait 0 .ok]

/-- The trace is accepted (both semaphore flavours): the hypotheses of `C03_signal` are
    satisfiable (`sigMid` contains no loop exit, the two marks no `ret`). -/
example : okRun ⟨false⟩ sigAll = true ∧ okRun ⟨true⟩ sigAll = true := by decide

/-- The instance of `C03_signal`, evaluated: the signaller's own component of its clock before the
    store is 4 (initial 1 + the spinlock CAS + the remove_count CAS + the spinlock release), and the
    waiter's clock at its return has caught up with it. -/
example : (clocks fo0 sigPre).vc 1 1 = 4 ∧ (clocks fo0 sigAll).vc 0 1 = 4 := by decide

/-- The hypotheses of the state form `C03_signal_wait` are satisfiable: just before the `ret` the
    product state is reachable, the instance was unlinked by waker 1, not transferred, and the
    ghost `xw 0` is a wake-up by thread 1 whose clock component 1 is 4. -/
example : pokRun ⟨false⟩ sigAll = true ∧
    ((prunD ⟨false⟩ sigAll.dropLast).s.thr 0).exitUnl = [Unl.waker 1] ∧
    ((prunD ⟨false⟩ sigAll.dropLast).s.thr 0).xferd = false ∧
    (match (prunD ⟨false⟩ sigAll.dropLast).xw 0 with
      | some w => decide (w.by_ = 1 ∧ w.clk 1 = 4 ∧ w.call 1 = 1)
      | none => false) = true := by decide

/-- The hypotheses of `C03_cv_spinlock` are satisfiable: the signaller's acquisition of the cv
    spinlock (17th event) follows the waiter's release; the waiter's clock at that release had
    component 4 (initial 1 + `remove_count := 0` + `waiting := 1` + spinlock CAS) and the signaller
    has it after its CAS. -/
example : pokRun ⟨false⟩ (sigPre.take 17) = true ∧ (prunD ⟨false⟩ (sigPre.take 16)).lastRel 0 = 4 ∧
    (prunD ⟨false⟩ (sigPre.take 17)).c.vc 1 0 = 4 := by decide

/-- NEGATIVE CONTROL (waker's side).  The same accepted trace with the waker's store
    `ATM_STORE_REL (&p_nw->waiting, 0)` [cv.c/5] weakened to a relaxed store: on the clock machine
    the waiter's clock at its return does not cover the signaller's clock before the store.  The
    edge of `C03_signal` is carried by the release of cv.c:149, not by the interleaving. -/
theorem C03_signal_needs_release_store :
    ¬ VC.Clock.le ((clocksX (weaken .cv5) sigPre).vc 1) ((clocksX (weaken .cv5) sigAll).vc 0) := by
  intro hle
  have h1 := hle 1
  have e1 : (clocksX (weaken .cv5) sigPre).vc 1 1 = 4 := by decide
  have e2 : (clocksX (weaken .cv5) sigAll).vc 0 1 = 0 := by decide
  omega

/-- NEGATIVE CONTROL (waiter's side).  The same trace with the load of the wait loop
    `ATM_LOAD_ACQ (&w->nw.waiting)` [cv.c/10] weakened to a relaxed load: the edge is gone. -/
theorem C03_signal_needs_acquire_load :
    ¬ VC.Clock.le ((clocksX (weaken .cv10) sigPre).vc 1) ((clocksX (weaken .cv10) sigAll).vc 0) := by
  intro hle
  have h1 := hle 1
  have e1 : (clocksX (weaken .cv10) sigPre).vc 1 1 = 4 := by decide
  have e2 : (clocksX (weaken .cv10) sigAll).vc 0 1 = 0 := by decide
  omega

/-- In general: a relaxed load changes no clock, a relaxed plain store wipes the release clock of
    its location. -/
theorem C03_signal_relaxed_load_no_edge (so : Site → VC.Ord) (site : RSite) (h : so (rSite site) = .rlx)
    (o : VC.Ord) (c : VC.St VLoc) (t : Tid) (r : Rid) (obs : Nat) :
    (cstepx so o c (.recLd t site r obs)).vc = c.vc := by
  simp only [cstepx, toVCx, h]
  exact VC.relaxed_load_no_edge c _ rfl rfl

theorem C03_signal_relaxed_store_breaks (so : Site → VC.Ord) (site : RSite) (h : so (rSite site) = .rlx)
    (o : VC.Ord) (c : VC.St VLoc) (t : Tid) (r : Rid) (new obs : Nat) :
    (cstepx so o c (.recSt t site r new obs)).relc (.fld r (rFld site)) = VC.Clock.bot := by
  simp only [cstepx, toVCx, h]
  exact VC.relaxed_store_breaks c ⟨t, .st, .rlx, .fld r (rFld site)⟩ rfl rfl

/-- nsync_wait_n (thread 0, record nw0) whose deadline expires; the broadcaster (thread 1) has
    unlinked nw0 and stores `waiting := 0` just before cv_dequeue's load [cv.c/32], which observes 0. -/
def wnPre : List Event := [
  .tick 100, .callWaitN 0, .nwInit 0 (.nw 0),
  .wordLd 0 .spin0 0, .wordCas 0 0 1 0 true, .recSt 0 .enqSt (.nw 0) 1 0, .wordSt 0 .enqRel 2 1,
  .recLd 0 .ready (.nw 0) 1, .semPdEnter 0 0 (some 200),
  .callBroadcast 1, .wordLd 1 .bcLd 2, .wordLd 1 .spin0 2, .wordCas 1 2 3 2 true, .wordSt 1 .bcRel 0 3,
  .tick 200, .semPdRet 0 0 true]

def wnMid : List Event := [.semV 1 0, .retBroadcast 1, .wordLd 0 .spin0 0, .wordCas 0 0 1 0 true]

def wnAll : List Event :=
  wnPre ++ [.recSt 1 .wake (.nw 0) 0 1] ++ wnMid ++ [.recLd 0 .deqLd (.nw 0) 0]

/-- accepted, and it continues to the return of nsync_wait_n: the hypotheses of
    `C03_signal_waitn` (site cv.c/32) are satisfiable -/
example : okRun ⟨false⟩ (wnAll ++ [.wordSt 0 .deqRel 0 1, .retWaitN 0]) = true := by decide

/-- the instance of `C03_signal_waitn`, evaluated: the broadcaster's component is 3 before its
    store (initial 1 + spinlock CAS + spinlock release) and the waiter has it after cv.c/32 -/
example : (clocks fo0 wnPre).vc 1 1 = 3 ∧ (clocks fo0 wnAll).vc 0 1 = 3 := by decide

/-- the hypotheses of the state form `C03_signal_dequeue` are satisfiable (return through cv.c/34) -/
example : pokRun ⟨false⟩ (wnAll ++ [.wordSt 0 .deqRel 0 1]) = true ∧
    ((prunD ⟨false⟩ wnAll).s.thr 0).loc = .nDeqRel ∧ ((prunD ⟨false⟩ wnAll).s.thr 0).r = .nw 0 ∧
    ((prunD ⟨false⟩ wnAll).s.thr 0).wasQ = false := by decide

/-- NEGATIVE CONTROL (nsync_wait_n, cv.c/32).  With cv_dequeue's `ATM_LOAD_ACQ (&nw->waiting)`
    weakened to a relaxed load the waiter only has what the cv spinlock gave it (the broadcaster's
    clock at its release of the spinlock: component 2), not the clock before the store (3). -/
theorem C03_signal_waitn_needs_acquire_load :
    ¬ VC.Clock.le ((clocksX (weaken .cv32) wnPre).vc 1) ((clocksX (weaken .cv32) wnAll).vc 0) := by
  intro hle
  have h1 := hle 1
  have e1 : (clocksX (weaken .cv32) wnPre).vc 1 1 = 3 := by decide
  have e2 : (clocksX (weaken .cv32) wnAll).vc 0 1 = 2 := by decide
  omega

/-- The F3 schedule on the repaired code (`f3Fixed`, Props/C04Fix.lean): cv_dequeue finds
    `waiting = 1` and the record gone from the queue, releases the spinlock and waits in its loop
    [cv.c/35] until the waker has stored 0. -/
def f3Pre : List Event := f3Fixed.take 22
def f3All : List Event := f3Fixed.take 26

example : f3Fixed.drop 22 = [.recSt 1 .wake (.nw 0) 0 1, .semV 1 0, .retBroadcast 1,
    .recLd 0 .deqSpin (.nw 0) 0, .retWaitN 0] := by decide

/-- the instance of `C03_signal_waitn` (site cv.c/35), evaluated -/
example : (clocks fo0 f3Pre).vc 1 1 = 3 ∧ (clocks fo0 f3All).vc 0 1 = 3 := by decide

/-- the hypotheses of the state form `C03_signal_dequeue` are satisfiable (return through cv.c/35) -/
example : pokRun ⟨false⟩ f3All = true ∧
    deqReturns (prunD ⟨false⟩ (f3Fixed.take 25)).s 0 (.nw 0) (.recLd 0 .deqSpin (.nw 0) 0) ∧
    ((prunD ⟨false⟩ (f3Fixed.take 25)).s.thr 0).wasQ = false :=
  ⟨by decide, .inr rfl, by decide⟩

/-- NEGATIVE CONTROL (nsync_wait_n, cv.c/35: the load added by the repair of F3).  With the load
    of the wait-for-waker loop weakened to a relaxed load the edge is gone on the F3 schedule. -/
theorem C03_signal_waitn_needs_acquire_loop :
    ¬ VC.Clock.le ((clocksX (weaken .cv35) f3Pre).vc 1) ((clocksX (weaken .cv35) f3All).vc 0) := by
  intro hle
  have h1 := hle 1
  have e1 : (clocksX (weaken .cv35) f3Pre).vc 1 1 = 3 := by decide
  have e2 : (clocksX (weaken .cv35) f3All).vc 0 1 = 2 := by decide
  omega

/-- A TRANSFER: the signaller (thread 1) finds the mutex held by a writer (`pmu->word = 1`), takes
    the mutex' spinlock [cv.c/1], moves w0 to the mutex queue and releases [cv.c/3] with
    MU_WRITER_WAITING; later the mutex unlock path (thread 2; only its accesses to the record and the
    semaphore are events of this layer) stores `waiting := 0` and posts; the waiter returns through
    nsync_mu_lock_slow_. -/
def xferAll : List Event := [
  .tick 100, .callWait 0 false none false, .wInit 0 (.w 0), .recSt 0 .wSt1 (.w 0) 1 0, .muLd 0 .wMode 1,
  .wordLd 0 .spin0 0, .wordCas 0 0 3 0 true, .recLd 0 .wRc (.w 0) 0, .wordSt 0 .waitRel 2 3,
  .relMark 0 .wr, .nret 0, .recLd 0 .wHead (.w 0) 1, .semPdEnter 0 0 none,
  .callSignal 1, .wordLd 1 .sigLd 2, .wordLd 1 .spin0 2, .wordCas 1 2 3 2 true,
  .recLd 1 (.sRcLd true) (.w 0) 0, .recCas 1 (.sRcCas true) (.w 0) 0 1 0 true, .wordSt 1 .sigRel 0 3,
  .muLd 1 .wwLd 1, .muCas 1 .wwCas 1 7 1 true, .muLd 1 .wwRelLd 7, .muCas 1 .wwRelCas 7 37 7 true,
  .retSignal 1,
  .fSt 2 (.w 0) .waiting 0, .semV 2 0,
  .semPdRet 0 0 false, .recLd 0 .wTail (.w 0) 0, .recLd 0 .wHead (.w 0) 0, .relockSlow 0,
  .retWait 0 .ok]

example : okRun ⟨false⟩ xferAll = true ∧ okRun ⟨true⟩ xferAll = true := by decide

/-- The hypothesis of `C03_signal_transfer_partial` is satisfiable: after the signaller's return
    w0 is transferred, the ghost is the transfer by thread 1 (clock component 4), and that clock
    is covered by the release clock of the mutex word (checked here on components 0..2). -/
example : ((prunD ⟨false⟩ (xferAll.take 25)).s.recs (.w 0)).stat = .xfer ∧
    (match (prunD ⟨false⟩ (xferAll.take 25)).xf (.w 0) with
      | some w => decide (w.by_ = 1 ∧ w.clk 1 = 4 ∧
          w.clk 0 ≤ (prunD ⟨false⟩ (xferAll.take 25)).c.relc .mu 0 ∧
          w.clk 1 ≤ (prunD ⟨false⟩ (xferAll.take 25)).c.relc .mu 1 ∧
          w.clk 2 ≤ (prunD ⟨false⟩ (xferAll.take 25)).c.relc .mu 2)
      | none => false) = true := by decide

/-- WHY THE MODEL CANNOT CARRY THE EDGE TO A TRANSFERRED WAITER.  On the trace above the waiter's
    clock at its return does not cover the clock the signaller had before the transfer: the store
    that wakes the waiter is performed by the mutex unlock path, whose acquire of the mutex word is
    not an event of this layer, so on this layer's clock machine nothing links the release clock
    of the mutex word to that store.  `C03_signal_transfer_full` is false HERE; it is a statement
    about the product of this layer with the mutex layer. -/
theorem C03_signal_transfer_full_not_in_model : ¬ C03_signal_transfer_full := by
  intro hfull
  have hok : pokRun ⟨false⟩ xferAll = true := by decide
  have hrun := prun_prunD hok
  have hsplit : xferAll = xferAll.dropLast ++ [.retWait 0 .ok] := by decide
  rw [hsplit] at hrun
  obtain ⟨p, hp, hlast⟩ := (isPRun _ _).append.mp hrun
  rw [(isPRun _ _).single] at hlast
  have hok' : pokRun ⟨false⟩ xferAll.dropLast = true := by decide
  have hp' := prun_prunD hok'
  rw [hp'] at hp; cases hp
  obtain ⟨w, hw, _, hle⟩ := hfull ⟨false⟩ fo0 _ _ 0 1 .ok ⟨_, hp'⟩ hlast (by decide) (by decide)
  have e1 : (match (prunD ⟨false⟩ xferAll.dropLast).xt 0 with
      | some w => decide (w.clk 1 = 4) | none => false) = true := by decide
  rw [hw] at e1
  have e1' : w.clk 1 = 4 := by simpa using e1
  have e2 : (prunD ⟨false⟩ (xferAll.dropLast ++ [.retWait 0 .ok])).c.vc 0 1 = 0 := by decide
  have h1 := hle 1
  rw [e1', e2] at h1
  omega

end Examples

end NsyncVerif.CvFix
