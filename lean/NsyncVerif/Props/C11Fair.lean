/-
  Props/C11Fair.lean — property C11, LIVENESS form: "nsync_wait_n does not keep sleeping after one of the
  objects becomes ready" / "every nsync_wait_n call with a deadline returns" / "every nsync_cv_signal and
  nsync_cv_broadcast call returns", for ALL fair schedules of the WaitN model (Model/WaitN.lean: wait.c
  statement by statement, the three waitable implementations, cv signallers with program counters,
  protocol-driven note / counter wakers, semaphores, clock).

  DEFINITIONS (Proofs/WaitNFairDefs.lean)
  * `Exec s0`      infinite execution (`σ i = none`: nobody moves at time `i`; ticks at any time).
  * `Moves x t j`  thread `t` executes the next operation of its own code at time `j`: its program point changes,
                   or (wake_waiters, protocol-driven wakers) it pops a record / posts the owed semaphore.
  * `Blocked s t`  asleep in the P of wait.c:78 on a semaphore with count 0 before `min_ntime`; or at the
                   acquisition of an object's mutex (`ret nsync_mu_lock`) / at the load of the test-and-set loop of a
                   cv's spinlock while the lock is held; or in the wait loop of cv_dequeue while `waiting` is set.
  * `Ready s t`    inside nsync_wait_n / nsync_cv_signal / broadcast, or owing a post (`post t = some r`: the
                   protocol-driven wakers must complete what they started), and not blocked.
  * `WeakFair x`   a thread that is continuously `Ready` from some time on moves.  NOTE (as in C10Fair): a thread at
                   a program point with no accepted own operation (the `malloc NULL` crash of wait.c) never moves, so
                   such executions are not weakly fair.
  * `LockFair x`   ASSUMPTION (strong fairness of acquisition, liveness half of "they are locks"): a thread cannot be
                   acquiring note_mu / counter_mu / a cv's spinlock for ever while that lock is free again and again.
                   That every lock IS free again and again is proved (`C11_fair_lock_free_again`).
  * `ForeignRelease x`  ASSUMPTION about code that is not programmed by this layer: a holder of an object's lock that
                   is not at a program point of wait.c / cv.c that accounts for it (`accounts`) releases it: foreign
                   API code (pc = idle), the protocol-driven wake loop of the lazy note expiry (`nfWake`), and a caller
                   that took a note's mutex before calling nsync_wait_n (the acceptor cannot exclude it).  For the
                   program points of wait.c / cv.c the release is PROVED (`C11_fair_holder_releases`).
  * `ClockAdvances x`  the clock passes every finite `min_ntime` a sleeper is waiting for.
  * `FiniteStrayPosts x`  from some time on a semaphore bound to an in-flight call is only posted by a waker that owes
                   the post for a live record of that call.  `FiniteWakeups x t`: from some time on the P of `t` does
                   not return 0.
                   (The acceptor accepts `sem v` on any semaphore from any thread — traffic of other layers —, and a
                   sleeper whose deadline has passed and that is woken again and again by stray posts rescans and
                   sleeps again for ever: `C11_fair_needs_finite_wakeups`.)

  PROVED HERE
  * `C11_fair_termination_partial`  both cases of the full statement, with `FiniteWakeups x t` in place of
        `FiniteStrayPosts x`: in every execution from a reachable state with `WeakFair`, `LockFair`, `ForeignRelease`,
        `ClockAdvances` and `FiniteWakeups x t`, an nsync_wait_n call of thread `t` returns PROVIDED
        (a) its abs_deadline is finite, or
        (b) at some time while it is at the P of wait.c:78 one of its objects is ready for it in the sense of
            `becameReady` (note notified / expired, counter at zero, cv record unlinked by a signaller) — `ReadyAtP`.
        Covers every path of wait.c: poll loop, malloc, enqueue loop with the object mutexes / cv spinlocks, the sleep
        loop, the dequeue loop including cv_dequeue's wait loop on `waiting` (`wspin_owned`: a signaller owns the
        record; it is never blocked, so it makes its store), free, relock, return.
        (a): the P times out once the clock has passed `min_ntime ≤ abs_deadline`.
        (b): `becameReady` is stable while the caller is in its sleep loop (`ready_step`); by `C11_no_oversleep` a token
        is available (it stays until the caller's own `pd_ret`: `token_stays`), or a waker owes the post (it is Ready,
        posts, and the post binds to the caller's semaphore: `inflight_posts`), or a signaller has unlinked the record
        (it clears `waiting`: `pend_clears`, then `C11_cleared_accounted`), or the record is queued on the ready object
        whose mutex is held — not for ever, the mutex is free again and again —, or `min_ntime` has passed.
        Why "at the P": for a condition variable `becameReady` (= the record is not on pcv->waiters) holds trivially
        between the record's initialisation and its enqueue, so, as in `C11_no_oversleep`, readiness is taken while the
        caller is about to enter / inside the P.  Readiness BEFORE the sleep needs no proviso:
  * `C11_fair_returns_or_sleeps`  (no deadline / readiness proviso, no clock) a call returns, or from some time on it
        sleeps in the P for ever — so a call that finds an object ready in its first poll or during the enqueue loop
        returns.
  * `C11_fair_termination_timed`  = case (a) alone.
  * `C11_fair_index_partial`  (corollary `C11_fair_index_full` with `FiniteWakeups`): in case (b) without abs_deadline the
        call returns by `ret nsync_wait_n r` with `r < count` and object `r` ready (`C11_index_ready`), not `count`
        (`C11_timeout`).
  * `C11_fair_timed_result`  in case (a) it returns by `ret nsync_wait_n r` with `r < count → readyFor` and
        `r = count →` a real timeout.
  * `C11_fair_signal_returns`  every nsync_cv_signal / nsync_cv_broadcast call returns (no clock, no wake-up bound).
  * `C11_fair_lock_free_again`, `C11_fair_holder_releases`.
  * NECESSITY, each by an explicit execution satisfying all other hypotheses in which a call with deadline 500 never
    returns: `C11_fair_needs_weak_fair`, `C11_fair_needs_lock_fair` (a foreign thread locks and unlocks note_mu for
    ever; the lock is free again and again), `C11_fair_needs_foreign_release`, `C11_fair_needs_clock`,
    `C11_fair_needs_finite_wakeups` (also `¬ FiniteStrayPosts`); and the readiness-or-deadline proviso:
    `C11_fair_needs_ready_or_deadline` (all hypotheses hold, no deadline, the note is never notified: the caller
    sleeps for ever).
  * NON-VACUITY: `timeoutExec` (`Example.heapTimeout`, then the `ret`, then idling) and `wokenExec`
    (`Example.noteCtr` …) satisfy all hypotheses; the caller really sleeps (Blocked) before it times out / is woken;
    the theorems apply (examples at the end).  `cvWokenExec` for the signaller.

  THE `_full` STATEMENTS are definitions here and are proved in Props/C11FairFull.lean (`C11_fair_termination`,
  `C11_fair_index`).  The only difference between them and the `_partial` theorems of this file is the hypothesis
  `FiniteStrayPosts x` (about who posts) in place of `FiniteWakeups x t` (about the caller's own P).  The link
  `FiniteStrayPosts x → FiniteWakeups x t` for a call that never returns (`C11_fair_finite_wakeups`) is a counting
  argument: once the stray posts have stopped, every token that reaches the call's semaphore is the post of a waker that
  owed it for one of the call's records; a record is popped only while its `waiting` is set, and `waiting` is never set
  again after the enqueue loop; so there are only finitely many such posts — those already owed when the call started to
  sleep (including the late V's of wakers of earlier calls that used the same stack records, as in `Example.lateV` of
  Props/C13WaitN.lean; finitely many because only finitely many threads have acted) plus at most one per record —, and
  each wake-up consumes one token.
  Remark on the statement: `FiniteStrayPosts` asks for a waker that owes the post for a LIVE record of the call that owns
  the semaphore; "some thread with `post ≠ none`" would not do in this model, because the acceptor accepts the late V
  of a waker whose record has died on any semaphore, also one that has been handed to another call since.
-/
import NsyncVerif.Proofs.WaitNFairReadyReturns
import NsyncVerif.Proofs.WaitNFairTrace

namespace WaitN

/-! ### statements at full strength -/

/-- FULL statement (proved with `FiniteWakeups x t` in place of `FiniteStrayPosts x`: `C11_fair_termination_partial`).
    `ReadyAtP x t i`: at some time `i' ≥ i`, the call of time `i` still running and at its P, object `k` is ready for its
    record `r = nw[k]` (`becameReady`). -/
def C11_fair_termination_full : Prop :=
  ∀ (s0 : State) (x : Exec s0), Reachable s0 → WeakFair x → LockFair x → ForeignRelease x → ClockAdvances x →
    FiniteStrayPosts x →
    ∀ t i, inCall ((x.ρ i).pc t) = true →
      ((∃ d : Int, ((x.ρ i).fr t).dl = some d) ∨ ReadyAtP x t i) →
      ∃ j, i ≤ j ∧ (x.ρ j).pc t = .idle

/-- FULL statement of the corollary (proved with `FiniteWakeups x t`: `C11_fair_index_partial`): without deadline the
    call returns an index, not `count`. -/
def C11_fair_index_full : Prop :=
  ∀ (s0 : State) (x : Exec s0), Reachable s0 → WeakFair x → LockFair x → ForeignRelease x → ClockAdvances x →
    FiniteStrayPosts x →
    ∀ t i, inCall ((x.ρ i).pc t) = true → ((x.ρ i).fr t).dl = none → ReadyAtP x t i →
      ∃ j r nested, i ≤ j ∧ x.σ j = some (.thr t (.retWaitN r nested)) ∧ (x.ρ (j + 1)).pc t = .idle
        ∧ r < ((x.ρ j).fr t).count ∧ readyFor (x.ρ j) t r

/-- `ReadyAtP` spelled out. -/
example {s0 : State} (x : Exec s0) (t : Tid) (i : Nat) : ReadyAtP x t i ↔
    ∃ i' k r, i ≤ i' ∧ (∀ j, i ≤ j → j ≤ i' → (x.ρ j).pc t ≠ .idle) ∧ atP (x.ρ i') t
      ∧ ((x.ρ i').fr t).recs[k]? = some r ∧ becameReady (x.ρ i') t k r := Iff.rfl

/-- Every lock (note_mu, counter_mu, cv spinlock) is free again and again: the premise of `LockFair` is always met. -/
theorem C11_fair_lock_free_again {s0 : State} (x : Exec s0) (hr : Reachable s0) (hw : WeakFair x)
    (hf : ForeignRelease x) (o : ObjId) (j : Nat) : ∃ j', j ≤ j' ∧ ((x.ρ j').obj o).lock = none :=
  lock_free_again x hr hw hf o j

set_option linter.unusedVariables false in
/-- Every holder of an object's lock releases it (for the program points of wait.c / cv.c this is proved, for
    the others it is `ForeignRelease`).  `h` is not needed: where it fails `j' = j` will do. -/
theorem C11_fair_holder_releases {s0 : State} (x : Exec s0) (hr : Reachable s0) (hw : WeakFair x)
    (hf : ForeignRelease x) (o : ObjId) (u : Tid) (j : Nat) (h : ((x.ρ j).obj o).lock = some u) :
    ∃ j', j ≤ j' ∧ ((x.ρ j').obj o).lock ≠ some u :=
  holder_releases x hr hw hf o u j

/-- FAIR TERMINATION (`C11_fair_termination_full` with `FiniteWakeups x t` in place of `FiniteStrayPosts x`): every
    nsync_wait_n call returns provided its abs_deadline is finite or one of its objects becomes ready for it. -/
theorem C11_fair_termination_partial {s0 : State} (x : Exec s0) (hr : Reachable s0) (hw : WeakFair x) (hl : LockFair x)
    (hf : ForeignRelease x) (hc : ClockAdvances x) (t : Tid) (hfw : FiniteWakeups x t) (i : Nat)
    (hin : inCall ((x.ρ i).pc t) = true)
    (hprov : (∃ d : Int, ((x.ρ i).fr t).dl = some d) ∨ ReadyAtP x t i) :
    ∃ j, i ≤ j ∧ (x.ρ j).pc t = .idle :=
  wait_returns x ⟨hr, hw, hl, hf⟩ hc t hfw i hin hprov

/-- "It does not keep sleeping after one of the objects becomes ready", with the result: without abs_deadline the call
    returns the index of a ready object (`C11_fair_index_full` with `FiniteWakeups x t`). -/
theorem C11_fair_index_partial {s0 : State} (x : Exec s0) (hr : Reachable s0) (hw : WeakFair x) (hl : LockFair x)
    (hf : ForeignRelease x) (hc : ClockAdvances x) (t : Tid) (hfw : FiniteWakeups x t) (i : Nat)
    (hin : inCall ((x.ρ i).pc t) = true) (hdl : ((x.ρ i).fr t).dl = none) (hrdy : ReadyAtP x t i) :
    ∃ j r nested, i ≤ j ∧ x.σ j = some (.thr t (.retWaitN r nested)) ∧ (x.ρ (j + 1)).pc t = .idle
      ∧ r < ((x.ρ j).fr t).count ∧ readyFor (x.ρ j) t r :=
  wait_index_ready x ⟨hr, hw, hl, hf⟩ hc t hfw i hin hdl hrdy

/-- Without any proviso: the only way for an nsync_wait_n call not to return is to sleep in the P of wait.c:78 for
    ever (from time `j` on it does not execute any operation of its own code, and it is `Blocked` again and again).  In
    particular a call that finds an object ready in its first poll, or during the enqueue loop, returns. -/
theorem C11_fair_returns_or_sleeps {s0 : State} (x : Exec s0) (hr : Reachable s0) (hw : WeakFair x) (hl : LockFair x)
    (hf : ForeignRelease x) (t : Tid) (hfw : FiniteWakeups x t) (i : Nat) (hin : inCall ((x.ρ i).pc t) = true) :
    (∃ j, i ≤ j ∧ (x.ρ j).pc t = .idle)
    ∨ (∃ j k, i ≤ j ∧ Still x t j ∧ (x.ρ j).pc t = .wPdWait k ∧ ∀ j1, j ≤ j1 → ∃ j', j1 ≤ j' ∧ Blocked (x.ρ j') t) :=
  wait_returns_or_sleeps x ⟨hr, hw, hl, hf⟩ t hfw i hin

/-- FAIR TERMINATION, timed case: every nsync_wait_n call with a finite abs_deadline returns. -/
theorem C11_fair_termination_timed {s0 : State} (x : Exec s0) (hr : Reachable s0) (hw : WeakFair x) (hl : LockFair x)
    (hf : ForeignRelease x) (hc : ClockAdvances x) (t : Tid) (hfw : FiniteWakeups x t) (i : Nat)
    (hin : inCall ((x.ρ i).pc t) = true) (d : Int) (hd : ((x.ρ i).fr t).dl = some d) :
    ∃ j, i ≤ j ∧ (x.ρ j).pc t = .idle :=
  wait_returns_timed x ⟨hr, hw, hl, hf⟩ hc t hfw i hin d hd

/-- … by a `ret nsync_wait_n r` event, and `r` is the index of a ready object (`C11_index_ready`) or `count` after a
    real timeout (`C11_timeout`). -/
theorem C11_fair_timed_result {s0 : State} (x : Exec s0) (hr : Reachable s0) (hw : WeakFair x) (hl : LockFair x)
    (hf : ForeignRelease x) (hc : ClockAdvances x) (t : Tid) (hfw : FiniteWakeups x t) (i : Nat)
    (hin : inCall ((x.ρ i).pc t) = true) (d : Int) (hd : ((x.ρ i).fr t).dl = some d) :
    ∃ j r nested, i ≤ j ∧ x.σ j = some (.thr t (.retWaitN r nested)) ∧ (x.ρ (j + 1)).pc t = .idle
      ∧ (r < ((x.ρ j).fr t).count → readyFor (x.ρ j) t r)
      ∧ (r = ((x.ρ j).fr t).count →
          (dlePast ((x.ρ j).fr t).dl = true ∧ ((x.ρ j).fr t).recs = [] ∧ ((x.ρ j).fr t).deqRes = [])
          ∨ (expiredB ((x.ρ j).fr t).dl (x.ρ j).now = true ∧ ((x.ρ j).fr t).deqRes.length = ((x.ρ j).fr t).recs.length
              ∧ ((x.ρ j).fr t).recs ≠ [] ∧ ∀ b ∈ ((x.ρ j).fr t).deqRes, b = true)) := by
  obtain ⟨j, hj, hidle⟩ := C11_fair_termination_timed x hr hw hl hf hc t hfw i hin d hd
  obtain ⟨k, r, nested, hk, _, _, hev, hk1⟩ := returns_by_ret x t i j hj hin hidle
  have hstep := x.next_some hev
  exact ⟨k, r, nested, hk, hev, hk1, fun hlt => C11_index_ready (x.reach hr k) hstep hlt,
    fun heq => C11_timeout (x.reach hr k) hstep heq⟩

/-- Every nsync_cv_signal / nsync_cv_broadcast call returns. -/
theorem C11_fair_signal_returns {s0 : State} (x : Exec s0) (hr : Reachable s0) (hw : WeakFair x) (hl : LockFair x)
    (hf : ForeignRelease x) (u : Tid) (c : Nat) (bc : Bool) (st : SgSt) (i : Nat)
    (hp : (x.ρ i).pc u = .sg c bc st) : ∃ j, i ≤ j ∧ (x.ρ j).pc u = .idle :=
  signal_returns x ⟨hr, hw, hl, hf⟩ u c bc st i hp

/-! ### each hypothesis is needed (explicit executions: Proofs/WaitNFairTrace.lean) -/

/-- `WeakFair` cannot be dropped: after `call nsync_wait_n` (deadline 500) nothing happens for ever. -/
theorem C11_fair_needs_weak_fair :
    ∃ x : Exec init, Reachable init ∧ ¬ WeakFair x ∧ LockFair x ∧ ForeignRelease x ∧ ClockAdvances x ∧
      (∀ t, FiniteWakeups x t) ∧ FiniteStrayPosts x ∧
      ((x.ρ 1).fr 0).dl = some 500 ∧ (∀ j, 1 ≤ j → (x.ρ j).pc 0 ≠ .idle) :=
  ⟨stallExec, stall_needs_weakFair⟩

/-- `LockFair` cannot be replaced by weak fairness of the acquisition: a foreign thread locks and unlocks note_mu for
    ever, the lock is free again and again, the caller (deadline 500) waits for it for ever. -/
theorem C11_fair_needs_lock_fair :
    ∃ x : Exec init, Reachable init ∧ WeakFair x ∧ ¬ LockFair x ∧ ForeignRelease x ∧ ClockAdvances x ∧
      (∀ t, FiniteWakeups x t) ∧ FiniteStrayPosts x ∧
      (∀ j, ∃ j', j ≤ j' ∧ ((x.ρ j').obj (.note 0)).lock = none) ∧
      ((x.ρ 2).fr 0).dl = some 500 ∧ (∀ j, 4 ≤ j → (x.ρ j).pc 0 = .wND .poll 0 .lockWait) :=
  ⟨bargeExec, barge_needs_lockFair⟩

/-- `ForeignRelease` cannot be dropped: a foreign thread keeps note_mu for ever. -/
theorem C11_fair_needs_foreign_release :
    ∃ x : Exec init, Reachable init ∧ WeakFair x ∧ LockFair x ∧ ¬ ForeignRelease x ∧ ClockAdvances x ∧
      (∀ t, FiniteWakeups x t) ∧ FiniteStrayPosts x ∧
      ((x.ρ 4).fr 0).dl = some 500 ∧
      (∀ j, 6 ≤ j → (x.ρ j).pc 0 = .wND .poll 0 .lockWait ∧ ((x.ρ j).obj (.note 0)).lock = some 1) :=
  ⟨holdExec, hold_needs_foreignRelease⟩

/-- `ClockAdvances` cannot be dropped: the caller sleeps with deadline 500 and the clock stays at 0. -/
theorem C11_fair_needs_clock :
    ∃ x : Exec init, Reachable init ∧ WeakFair x ∧ LockFair x ∧ ForeignRelease x ∧ ¬ ClockAdvances x ∧
      (∀ t, FiniteWakeups x t) ∧ FiniteStrayPosts x ∧
      ((x.ρ 1).fr 0).dl = some 500 ∧ (∀ j, (x.ρ j).now = 0) ∧
      (∀ j, 8 ≤ j → (x.ρ j).pc 0 = .wPdWait 0 ∧ ((x.ρ j).fr 0).min = some 500) ∧
      (∀ j, 1 ≤ j → (x.ρ j).pc 0 ≠ .idle) :=
  ⟨noClockExec, noClock_needs_clock⟩

/-- `FiniteWakeups` (resp. `FiniteStrayPosts`) cannot be dropped: the deadline 500 has passed, a stray post wakes the
    sleeper again and again, it rescans, finds nothing ready and sleeps again. -/
theorem C11_fair_needs_finite_wakeups :
    ∃ x : Exec init, Reachable init ∧ WeakFair x ∧ LockFair x ∧ ForeignRelease x ∧ ClockAdvances x ∧
      ¬ FiniteWakeups x 0 ∧ ¬ FiniteStrayPosts x ∧
      ((x.ρ 1).fr 0).dl = some 500 ∧ (∀ j, 9 ≤ j → (x.ρ j).now = 500) ∧ (∀ j, 1 ≤ j → (x.ρ j).pc 0 ≠ .idle) :=
  ⟨strayExec, stray_needs_finite⟩

/-- The readiness-or-deadline proviso cannot be dropped: ALL hypotheses hold, the call has no deadline, its only object
    (a note without deadline) is never notified — and the caller sleeps for ever. -/
theorem C11_fair_needs_ready_or_deadline :
    ∃ x : Exec init, Reachable init ∧ WeakFair x ∧ LockFair x ∧ ForeignRelease x ∧ ClockAdvances x ∧
      (∀ t, FiniteWakeups x t) ∧ FiniteStrayPosts x ∧
      ((x.ρ 2).fr 0).dl = none ∧ ((x.ρ 2).fr 0).objs = [.note 0] ∧
      (∀ j, ((x.ρ j).obj (.note 0)).flag = false ∧ ((x.ρ j).obj (.note 0)).expiry = none) ∧
      (∀ j, 30 ≤ j → (x.ρ j).pc 0 = .wPdWait 3 ∧ (x.ρ j).sem 3 = 0 ∧ ((x.ρ j).fr 0).min = none ∧ Blocked (x.ρ j) 0) :=
  ⟨foreverExec, forever_sleeps⟩

/-! ### non-vacuity -/

/-- `Example.heapTimeout` (five condition variables, heap array, mutex, deadline 500), its `ret`, then idling: all
    hypotheses hold; at time 34 the caller is asleep (Blocked: count 0, clock 0 < 500); event 34 is the tick to 500,
    event 35 the `pd_ret ETIMEDOUT`, event 63 the `ret nsync_wait_n 5`. -/
example : Reachable init ∧ WeakFair timeoutExec ∧ LockFair timeoutExec ∧ ForeignRelease timeoutExec ∧
    ClockAdvances timeoutExec ∧ (∀ t, FiniteWakeups timeoutExec t) ∧ FiniteStrayPosts timeoutExec := timeout_hyps

example : (timeoutExec.ρ 34).pc 0 = .wPdWait 1 ∧ (timeoutExec.ρ 34).sem 1 = 0 ∧ ((timeoutExec.ρ 34).fr 0).min = some 500 ∧
    (timeoutExec.ρ 34).now = 0 ∧ Blocked (timeoutExec.ρ 34) 0 :=
  ⟨timeout_sleeps.2.1, timeout_sleeps.2.2.1, timeout_sleeps.2.2.2.1, timeout_sleeps.2.2.2.2.1, timeout_sleeps.2.2.2.2.2.1⟩

/-- the theorem applies to the sleeping caller … -/
example : ∃ j, 34 ≤ j ∧ (timeoutExec.ρ j).pc 0 = .idle :=
  C11_fair_termination_timed timeoutExec timeout_hyps.1 timeout_hyps.2.1 timeout_hyps.2.2.1 timeout_hyps.2.2.2.1
    timeout_hyps.2.2.2.2.1 0 (timeout_hyps.2.2.2.2.2.1 0) 34 timeout_call.2.2.1 500 timeout_call.2.2.2

/-- … and in the concrete execution the return is event 63, with result 5 = count. -/
example : timeoutExec.σ 63 = some (.thr 0 (.retWaitN 5 false)) ∧ ((timeoutExec.ρ 63).fr 0).objs.length = 5 ∧
    ∀ j, 64 ≤ j → (timeoutExec.ρ j).pc 0 = .idle :=
  ⟨timeout_sleeps.2.2.2.2.2.2.2.2.2.1, timeout_sleeps.2.2.2.2.2.2.2.2.2.2.2.1, timeout_sleeps.2.2.2.2.2.2.2.2.2.2.2.2⟩

/-- `Example.noteCtr` (note 0 and counter 0, no deadline; the counter reaches zero during the sleep), its `ret`, then
    idling: all hypotheses hold; the caller is asleep (Blocked) at time 44 … 49, the counter reaches 0 at time 49
    (`becameReady`, the hypothesis of case (b) of `C11_fair_termination_full`), the post is event 50, the `pd_ret`
    event 54, the `ret nsync_wait_n 1` event 91. -/
example : (Reachable init ∧ WeakFair wokenExec ∧ LockFair wokenExec ∧ ForeignRelease wokenExec ∧
    ClockAdvances wokenExec ∧ (∀ t, FiniteWakeups wokenExec t) ∧ FiniteStrayPosts wokenExec)
    ∧ Blocked (wokenExec.ρ 44) 0 ∧ ((wokenExec.ρ 44).fr 0).dl = none
    ∧ ((wokenExec.ρ 49).fr 0).recs[1]? = some (.stk 1) ∧ becameReady (wokenExec.ρ 49) 0 1 (.stk 1)
    ∧ wokenExec.σ 91 = some (.thr 0 (.retWaitN 1 false)) :=
  ⟨woken_hyps, woken_sleeps.2.2.2.1, woken_call.2.1, woken_call.2.2.1, woken_call.2.2.2,
   woken_sleeps.2.2.2.2.2.2.2.2.2.2.2.2.1⟩

/-- case (b) applies to the sleeping caller at time 49 (the counter has just reached zero, the caller is still
    asleep, no token yet) and gives its return … -/
example : ∃ j, 49 ≤ j ∧ (wokenExec.ρ j).pc 0 = .idle :=
  C11_fair_termination_partial wokenExec woken_hyps.1 woken_hyps.2.1 woken_hyps.2.2.1 woken_hyps.2.2.2.1
    woken_hyps.2.2.2.2.1 0 (woken_hyps.2.2.2.2.2.1 0) 49 (by rw [woken_sleeps.2.2.2.2.2.2.1]; rfl)
    (.inr ⟨49, 1, .stk 1, Nat.le_refl _,
      fun j h1 h2 => by
        have : j = 49 := Nat.le_antisymm h2 h1
        subst this; rw [woken_sleeps.2.2.2.2.2.2.1]; simp,
      .inr ⟨3, woken_sleeps.2.2.2.2.2.2.1⟩, woken_call.2.2.1, woken_call.2.2.2⟩)

/-- `Example.cvWoken`: thread 1 has called nsync_cv_signal at time 10; the theorem gives its return. -/
example : ∃ j, 10 ≤ j ∧ (cvWokenExec.ρ j).pc 1 = .idle :=
  C11_fair_signal_returns cvWokenExec cvWoken_hyps.1 cvWoken_hyps.2.1 cvWoken_hyps.2.2.1 cvWoken_hyps.2.2.2.1
    1 0 false .load 10 cvWoken_sig

end WaitN
