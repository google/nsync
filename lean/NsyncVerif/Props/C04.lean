/-
  Property C04 — condition-variable wake-ups are never lost and never swallowed by a timeout.

  "Condition-variable wake-ups are never lost and never swallowed by a timeout.  A thread that
   started waiting on an nsync_cv before a wake-up is issued is covered by it: nsync_cv_broadcast
   wakes every such thread, nsync_cv_signal wakes at least one, and if the thread signal picks
   holds the mutex as a reader, all waiting readers are woken.  Releasing the mutex and starting to
   wait is atomic with respect to wakers that hold the mutex, and a wait that consumes a wake-up
   reports it as a wake-up (0, or the object's index from nsync_wait_n), never as a timeout or
   cancellation."

  Model: `NsyncVerif/Model/Cv.lean` — acceptor for the pinned /repo/internal/cv.c (before the repair
  3518d42 of defect F3; all of it; its line numbers are the ones cited here), the cv half of
  sem_wait.c and the way wait.c drives cv_enqueue / cv_ready_time / cv_dequeue, ONE condition
  variable, one atomic operation / semaphore operation / API boundary per step.  Every theorem
  quantifies over all reachable states: any number of threads and records, all interleavings of
  waiters (plain, timed, cancellable, reader-mode, generic-lock, nsync_wait_n) with signallers and
  broadcasters inside or after the critical section, deadlines expiring anywhere, both semaphore
  flavours (`cfg` arbitrary).  The invariants behind them: `InvA` of `Proofs/CvInvA.lean` (spinlock,
  queue, private lists, ownership; proved for the repaired cv.c in `Proofs/CvFixInvA*.lean` and
  carried over to the pinned code by the embedding of `Proofs/CvUp.lean`) and `Proofs/CvInvB*.lean`
  (remove_count handshake, `waiting` flags, unlinkers, outcome);
  `inv_reachable : Reachable cfg s → Inv s`.

  STATUS
  proved in full
    `C04_queue_inv`        CV_NON_EMPTY ↔ queue ≠ [] when the spinlock is free; no duplicates;
                           every queued record has `waiting = 1`
    `C04_wait_atomic`      enqueue happens before the release of the mutex
    `C04_signal`           signal unlinks the first waiter, and if it is a reader all readers
                           plus at most one other record
    `C04_broadcast`        when a broadcast returns, every instance published before its first load
                           of the cv word is out of the queue and off the broadcaster's list
                           (invariant `InvD` of `Proofs/CvInvD.lean` on the ghost sequence numbers);
                           `C04_broadcast_unlinks_all`: how — the acquisition unlinks the whole queue
    `C04_no_lost_wake`     a record unlinked by a waker and not transferred is on that waker's list
                           with the waker in flight, or woken: `waiting = 0` and posted, or the waker
                           is at the V for this instance (invariant `Proofs/CvInvE*.lean`)
    `C04_remove_count_handshake`  the timeout path removes the record only if it is still queued
                           (cv.c:259-260 never mis-fires: ghost flag `bad` is never set)
  proved for pooled waiters (`Rid.w`, i.e. every nsync_cv_wait*): `_partial`; FALSE for nsync_wait_n
    `C04_unlink_once_partial`  + `C04_unlink_once_full` (def) + `C04_unlink_once_nw_witness`,
                           `C04_unlink_once_full_false`: DEFECT F3 — `cv_dequeue` (cv.c:471-487)
                           decides "still queued" from `waiting != 0` alone, but a waker unlinks under
                           the spinlock and clears `waiting` only after dropping it; a wait_n that ends
                           by deadline in that window removes a record that is on the waker's private
                           list: the instance is unlinked twice, the wake-up is swallowed (wait_n
                           reports "nothing ready"), and the waker goes on to write `waiting := 0` into
                           a record whose owner may have returned (see Props/C13Cv.lean).  The witness
                           is an accepted trace of the model and a replayable harness schedule
                           (/verif/corpus/C04/f3_waitn_cv.txt, oracle `dead-object`).
    `C04_outcome_partial`  a cv wait returns non-zero only if the instance unlinked itself; an
                           instance unlinked by a waker returns 0.  (Covers every nsync_cv_wait*;
                           the index returned by nsync_wait_n spans several objects and is not
                           modelled in this single-cv layer — and for its cv objects the claim is
                           false, F3.)
  not in this layer
    the release mark of nsync_wait_n (it unlocks through a function pointer that the harness does
    not log as a nested call): `C04_wait_atomic` is stated for nsync_cv_wait*; for wait_n the order
    "cv_enqueue of every object, then unlock" is enforced by the acceptor only as program order of
    the atomics (cv.c/30-31 before the first cv.c/29).
-/
import NsyncVerif.Proofs.CvFacts

namespace NsyncVerif.Cv

/-- When the cv spinlock is free, CV_NON_EMPTY says exactly whether the queue is non-empty; the
    queue never contains a record twice; every queued record has `waiting = 1`. -/
theorem C04_queue_inv {cfg : Config} {s : State} (h : Reachable cfg s) :
    (s.word.spin = false → (s.word.ne = true ↔ s.queue ≠ [])) ∧ s.queue.Nodup ∧
    (∀ r, r ∈ s.queue → (s.recs r).waiting = true) ∧
    (∀ r, r ∈ s.queue ↔ (s.recs r).stat = .queued) := by
  have hi := (inv_reachable h).a
  refine ⟨?_, hi.qNd, fun r hr => hi.qWait r ((hi.qMem r).mp hr), hi.qMem⟩
  intro hsp
  apply hi.free
  have := hi.spin; rw [hsp] at this
  cases hh : s.holder with
  | none => rfl
  | some v => rw [hh] at this; simp at this

/-- The spinlock is a lock: the spin bit is set iff some thread is inside a critical section, and
    at most one thread is. -/
theorem C04_spinlock_excl {cfg : Config} {s : State} (h : Reachable cfg s) {t u : Tid}
    (ht : (s.thr t).loc.holds = true) (hu : (s.thr u).loc.holds = true) : u = t ∧ s.word.spin = true := by
  have hi := (inv_reachable h).a
  refine ⟨hi.holder_unique ht hu, ?_⟩
  have := hi.spin; rw [(hi.hold t).mpr ht] at this; simpa using this

/-- When a waiter starts releasing the mutex (cv.c:235-239) its record is already in the queue of
    the cv — or a waker that found it there has already unlinked it (it is on that waker's list,
    or transferred to the mutex queue, or woken).  The enqueue happens before the release. -/
theorem C04_wait_atomic {cfg : Config} {s s' : State} {t : Tid} {op : MuOp} (h : Reachable cfg s)
    (hs : step cfg s (.relMark t op) = .ok s') :
    (s.recs (s.thr t).r).owner = t ∧
    ((s.thr t).r ∈ s.queue ∨ (∃ u, (s.thr t).r ∈ (s.thr u).list) ∨
     (s.recs (s.thr t).r).stat = .xfer ∨ (s.recs (s.thr t).r).stat = .woken) := by
  have hl := relMark_accepted hs
  have hi := inv_reachable h
  obtain ⟨ho, _, hlv⟩ := (hi.a.thr t).live (by simp [waitLive, hl])
  refine ⟨ho, ?_⟩
  cases hst : (s.recs (s.thr t).r).stat with
  | idle => rw [hst] at hlv; simp [RStat.live] at hlv
  | prep => rw [hst] at hlv; simp [RStat.live] at hlv
  | queued => exact .inl ((hi.a.qMem _).mpr hst)
  | listed u => exact .inr (.inl ⟨u, (hi.a.lMem u _).mpr hst⟩)
  | xfer => exact .inr (.inr (.inl rfl))
  | woken => exact .inr (.inr (.inr rfl))
  | selfOut =>
    have := (hi.b.thr t).soLoc (by simp [waitLive, hl]) hst
    rw [hl] at this; simp at this

/-- Every instance of a wait that uses a pooled waiter (all nsync_cv_wait* calls) is unlinked at
    most once: by a waker or by itself, never both, never twice. -/
theorem C04_unlink_once_partial {cfg : Config} {s : State} (h : Reachable cfg s) (r : Rid)
    (hk : r.isMucv = true) : (s.recs r).unl.length ≤ 1 :=
  (inv_reachable h).b.unl1 r hk

/-- The same for every kind of record, including the `nsync_waiter_s` of nsync_wait_n. -/
def C04_unlink_once_full : Prop :=
  ∀ (cfg : Config) (s : State) (r : Rid), Reachable cfg s → (s.recs r).unl.length ≤ 1

/-- The remove_count comparison of the timeout path (cv.c:259-260) succeeds only if the record is
    still in the queue and nobody has unlinked it: the path never removes a record that a waker has
    already taken. -/
theorem C04_remove_count_handshake {cfg : Config} {s s' : State} {t : Tid} {r : Rid} {obs : Nat}
    (h : Reachable cfg s) (hs : step cfg s (.recLd t .wCmp r obs) = .ok s')
    (he : obs = (s.thr t).saved) : r ∈ s.queue ∧ (s.recs r).unl = [] := by
  have hi := inv_reachable h
  obtain ⟨hl, hr, ho⟩ := wCmp_accepted hs
  have hq := wCmpEq_queued h t r obs hl hr ho he
  exact ⟨(hi.a.qMem r).mpr hq, hi.b.unlQ r (.inl hq)⟩

/-- DEFECT F3, as an accepted trace of the model (counting semaphores): thread 0 waits with
    nsync_wait_n on the cv with deadline 200; thread 1 broadcasts, unlinks the record `nw0` under the
    spinlock and releases it; the deadline expires; thread 0's `cv_dequeue` still finds
    `waiting = 1` and "removes" the record — which is on thread 1's private list. -/
def f3Trace : List Event := [
  .tick 100, .callWaitN 0, .nwInit 0 (.nw 0),
  .wordLd 0 .spin0 0, .wordCas 0 0 1 0 true, .recSt 0 .enqSt (.nw 0) 1 0, .wordSt 0 .enqRel 2 1,
  .recLd 0 .ready (.nw 0) 1, .semPdEnter 0 0 (some 200),
  .callBroadcast 1, .wordLd 1 .bcLd 2, .wordLd 1 .spin0 2, .wordCas 1 2 3 2 true, .wordSt 1 .bcRel 0 3,
  .tick 200, .semPdRet 0 0 true,
  .wordLd 0 .spin0 0, .wordCas 0 0 1 0 true, .recLd 0 .deqLd (.nw 0) 1]

theorem C04_unlink_once_nw_witness :
    ∃ evs s, run ⟨false⟩ init evs = .ok s ∧ (s.recs (.nw 0)).unl = [Unl.waker 1, Unl.self] ∧ s.f3 = true :=
  ⟨f3Trace, runD ⟨false⟩ f3Trace, run_runD (by decide), by decide, by decide⟩

theorem C04_unlink_once_full_false : ¬ C04_unlink_once_full := by
  intro h
  have := h ⟨false⟩ (runD ⟨false⟩ f3Trace) (.nw 0) (reachable_runD (by decide))
  revert this
  decide


/-- A cv wait returns non-zero only if its instance unlinked ITSELF (timeout / cancel path,
    cv.c:259-276), and an instance unlinked by a waker returns 0.  `exitUnl` is the list of
    unlinkers of the instance, frozen when the wait loop is left. -/
theorem C04_outcome_partial {cfg : Config} {s s' : State} {t : Tid} {res : Outcome} (h : Reachable cfg s)
    (hs : step cfg s (.retWait t res) = .ok s') :
    (res ≠ .ok → (s.thr t).exitUnl = [Unl.self]) ∧
    (∀ u, Unl.waker u ∈ (s.thr t).exitUnl → res = .ok) := by
  obtain ⟨hl, hr⟩ := retWait_accepted hs
  have hb := (inv_reachable h).b.thr t
  have key : res ≠ .ok → (s.thr t).exitUnl = [Unl.self] := by
    intro hne
    exact hb.outE (by rcases hl with hl | hl <;> simp [hl, Loc.afterLoop]) (by rw [← hr]; exact hne)
  refine ⟨key, ?_⟩
  intro u hu
  cases hres : res with
  | ok => rfl
  | timedOut => have := key (by rw [hres]; simp); rw [this] at hu; simp at hu
  | cancelled => have := key (by rw [hres]; simp); rw [this] at hu; simp at hu

/-- `exitUnl` is what the record said when the loop was left. -/
theorem C04_exitUnl_is_unl {cfg : Config} {s s' : State} {t : Tid} {r : Rid}
    (hs : step cfg s (.recLd t .wHead r 0) = .ok s') :
    (s'.thr t).exitUnl = (s.recs r).unl ∧ (s.recs r).unl = (s'.recs r).unl := by
  obtain ⟨_, _, _, _, h5, h6, _⟩ := wHead_exit_accepted hs
  exact ⟨h5, h6.symm⟩

/-- When nsync_cv_signal takes the spinlock with a non-empty queue it unlinks the first waiter;
    if that one is a reader-mode waiter of an nsync_mu it unlinks every reader-mode waiter in the
    queue; among the records it unlinks at most one is not such a reader; and it unlinks nothing
    else (`sigSelect` is the exact set, in queue order: it becomes the private `to_wake_list`). -/
theorem C04_signal {cfg : Config} {s s' : State} {t : Tid} {exp new obs : Nat} {f : Rid} {rest : List Rid}
    (hs : step cfg s (.wordCas t exp new obs true) = .ok s') (hc : (s.thr t).cont = .sig)
    (hb : (s.thr t).bcast = false) (hq : s.queue = f :: rest) :
    (s'.recs f).stat = .listed t ∧
    (isReader s.recs f = true → ∀ r, r ∈ s.queue → isReader s.recs r = true → (s'.recs r).stat = .listed t) ∧
    (((s'.thr t).list.filter (fun r => !isReader s.recs r)).length ≤ 1) ∧
    (s'.thr t).list = sigSelect s.recs s.queue ∧
    (∀ r, r ∈ (s'.thr t).list → (s'.recs r).stat = .listed t ∧ Unl.waker t ∈ (s'.recs r).unl) ∧
    (∀ r, r ∉ (s'.thr t).list → s'.recs r = s.recs r) := by
  obtain ⟨_, _, hrec, hlist⟩ := acq_sig_state hs hc
  simp only [hb, Bool.false_eq_true, if_false] at hrec hlist
  have hsel : ∀ r, r ∈ sigSelect s.recs s.queue → (s'.recs r).stat = .listed t ∧ Unl.waker t ∈ (s'.recs r).unl := by
    intro r hr; rw [hrec r]; simp [hr]
  refine ⟨?_, ?_, ?_, hlist, ?_, ?_⟩
  · exact (hsel f (by rw [hq]; exact sigSelect_head _ _ _)).1
  · intro hf r hr hrd
    exact (hsel r (by rw [hq] at hr ⊢; exact sigSelect_readers _ _ _ hf r hr hrd)).1
  · rw [hlist]; exact sigSelect_nonreaders _ _
  · intro r hr; rw [hlist] at hr; exact hsel r hr
  · intro r hr; rw [hlist] at hr; rw [hrec r]; simp [hr]

/-- When a broadcast call returns, every instance whose enqueue was published (cv spinlock released
    after the append: "started waiting") before the call's first load of the cv word has been
    unlinked — it is no longer in the queue — and none is left on the broadcaster's own list: each
    record the broadcaster unlinked has been woken (`waiting := 0`, then V) or transferred to the
    mutex queue; a record unlinked by somebody else is that waker's business (`C04_no_lost_wake`),
    or it unlinked itself (timeout).  `enqSeq` / `seq0` are the ghost sequence numbers at the
    publication / at the first load. -/
theorem C04_broadcast {cfg : Config} {s s' : State} {t : Tid} (h : Reachable cfg s)
    (hs : step cfg s (.retBroadcast t) = .ok s') (r : Rid) (hp : (s.recs r).pub = true)
    (hseq : (s.recs r).enqSeq < (s.thr t).seq0) :
    r ∉ s.queue ∧ (s.recs r).stat ≠ .queued ∧ (s.recs r).stat ≠ .listed t ∧ r ∉ (s.thr t).list := by
  obtain ⟨hl, hb⟩ := retBroadcast_accepted hs
  have hi := (inv_reachable h).a
  have hd := invD_reachable h
  have hnq : r ∉ s.queue := by
    intro hm
    have := hd.done t (by simp [bcastDone, hl, hb]) r hm hp
    omega
  have hlist := (hi.thr t).list0 (by simp [hl, Loc.wakePhase])
  refine ⟨hnq, fun e => hnq ((hi.qMem r).mpr e), ?_, by rw [hlist]; simp⟩
  intro e
  have := (hi.lMem t r).mpr e
  rw [hlist] at this; simp at this

/-- How it does it.  (1) At its spinlock acquisition nsync_cv_broadcast unlinks EVERY record
    of the queue (all get status `listed t` and the broadcaster among their unlinkers), the queue
    is left empty and the private list is the old queue.  (2) When the call returns, no record is
    left on its list: each record it unlinked has been woken (`waiting := 0` stored, then V) or
    transferred to the mutex queue. -/
theorem C04_broadcast_unlinks_all {cfg : Config} :
    (∀ (s s' : State) (t : Tid) (exp new obs : Nat), Reachable cfg s →
      step cfg s (.wordCas t exp new obs true) = .ok s' → (s.thr t).cont = .sig → (s.thr t).bcast = true →
        s'.queue = [] ∧ (s'.thr t).list = s.queue ∧
        ∀ r, r ∈ s.queue → (s'.recs r).stat = .listed t ∧ Unl.waker t ∈ (s'.recs r).unl) ∧
    (∀ (s s' : State) (t : Tid), Reachable cfg s → step cfg s (.retBroadcast t) = .ok s' →
        (s.thr t).list = [] ∧ ∀ r, (s.recs r).stat ≠ .listed t) := by
  constructor
  · intro s s' t exp new obs _ hs hc hb
    obtain ⟨_, hqueue, hrec, hlist⟩ := acq_sig_state hs hc
    simp only [hb, if_true] at hqueue hrec hlist
    refine ⟨by rw [hqueue, filter_not_contains_self], hlist, ?_⟩
    intro r hr; rw [hrec r]; simp [hr]
  · intro s s' t h hs
    obtain ⟨hl, _⟩ := retBroadcast_accepted hs
    have hi := (inv_reachable h).a
    have hlist := (hi.thr t).list0 (by simp [hl, Loc.wakePhase])
    refine ⟨hlist, ?_⟩
    intro r e
    have := (hi.lMem t r).mpr e
    rw [hlist] at this; simp at this

/-- Invariant form of "the wake-up is never lost".  A record that a waker has unlinked and not
    transferred is
      * either still on that waker's private list, and the waker is inside its wake-up phase
        (between the unlink and its last V: the acceptor leaves that phase only through
        `waiting := 0` + V, or the transfer, for every record of the list) — and if it is a pooled
        record it still has `waiting = 1`, so its owner has not left;
      * or woken: `waiting = 0` has been stored and the semaphore has been posted, or the waker is
        at the V for exactly this instance (`cur`). -/
theorem C04_no_lost_wake {cfg : Config} {s : State} (h : Reachable cfg s) (r : Rid) :
    (∀ u, (s.recs r).stat = .listed u → r ∈ (s.thr u).list ∧ (s.thr u).loc.wakePhase = true) ∧
    (∀ u, (s.recs r).stat = .listed u → r.isMucv = true → (s.recs r).waiting = true) ∧
    ((s.recs r).stat = .woken → (s.recs r).waiting = false ∧
      ((s.recs r).posted = true ∨ ∃ u, (s.thr u).cur = some (r, (s.recs r).enqSeq) ∧ (s.thr u).loc = .wwV)) := by
  have hi := inv_reachable h
  refine ⟨?_, fun u hu hk => hi.b.lWait r u hu (.inl hk),
    fun hw => ⟨hi.b.wokenW r hw, (invE_reachable h).woken r hw⟩⟩
  intro u hu
  have hm := (hi.a.lMem u r).mpr hu
  refine ⟨hm, ?_⟩
  cases hw : (s.thr u).loc.wakePhase
  · have := (hi.a.thr u).list0 hw; rw [this] at hm; simp at hm
  · rfl

/-! ### non-vacuity: accepted concrete traces -/

/-- one writer-mode waiter (thread 0, record w0), one broadcaster (thread 1) -/
def exBroadcast : List Event := [
  .tick 100, .callWait 0 false none false, .wInit 0 (.w 0), .recSt 0 .wSt1 (.w 0) 1 0, .muLd 0 .wMode 1,
  .wordLd 0 .spin0 0, .wordCas 0 0 3 0 true, .recLd 0 .wRc (.w 0) 0, .wordSt 0 .waitRel 2 3,
  .relMark 0 .wr, .nret 0, .recLd 0 .wHead (.w 0) 1, .semPdEnter 0 0 none,
  .callBroadcast 1, .wordLd 1 .bcLd 2, .wordLd 1 .spin0 2, .wordCas 1 2 3 2 true,
  .recLd 1 .bRcLd (.w 0) 0, .recCas 1 .bRcCas (.w 0) 0 1 0 true, .wordSt 1 .bcRel 0 3,
  .muLd 1 .wwLd 0, .recSt 1 .wake (.w 0) 0 1, .semV 1 0, .retBroadcast 1,
  .semPdRet 0 0 false, .recLd 0 .wTail (.w 0) 0, .recLd 0 .wHead (.w 0) 0, .lockMark 0 .wr, .nret 0,
  .retWait 0 .ok]

example : okRun ⟨false⟩ exBroadcast = true := by decide
example : okRun ⟨true⟩ exBroadcast = true := by decide
example : ((runD ⟨false⟩ exBroadcast).recs (.w 0)).unl = [Unl.waker 1] := by decide
/-- the hypotheses of `C04_wait_atomic` are satisfiable: after the first 9 events the release mark is accepted -/
example : okRun ⟨false⟩ (exBroadcast.take 10) = true ∧
    ((runD ⟨false⟩ (exBroadcast.take 9)).queue = [.w 0]) := by decide

/-- the hypotheses of `C04_broadcast` are satisfiable: before the `ret` of the broadcast the record is
    published with a sequence number below the broadcast's first load, and it has been woken and posted -/
example : okRun ⟨false⟩ (exBroadcast.take 24) = true ∧
    ((runD ⟨false⟩ (exBroadcast.take 23)).recs (.w 0)).pub = true ∧
    ((runD ⟨false⟩ (exBroadcast.take 23)).recs (.w 0)).enqSeq < ((runD ⟨false⟩ (exBroadcast.take 23)).thr 1).seq0 ∧
    ((runD ⟨false⟩ (exBroadcast.take 23)).recs (.w 0)).stat = .woken ∧
    ((runD ⟨false⟩ (exBroadcast.take 23)).recs (.w 0)).posted = true := by decide

/-- timed waiter whose deadline (150) races a signal: the signaller unlinks first, the semaphore
    wait times out, the remove_count comparison fails, the wait spins until woken and returns 0 -/
def exTimedSignalWins : List Event := [
  .tick 100, .callWait 0 false (some 150) false, .recSt 0 .wSt1 (.w 0) 1 0, .muLd 0 .wMode 1,
  .wordLd 0 .spin0 0, .wordCas 0 0 3 0 true, .recLd 0 .wRc (.w 0) 0, .wordSt 0 .waitRel 2 3,
  .relMark 0 .wr, .nret 0, .recLd 0 .wHead (.w 0) 1, .semPdEnter 0 0 (some 150), .tick 150,
  .callSignal 1, .wordLd 1 .sigLd 2, .wordLd 1 .spin0 2, .wordCas 1 2 3 2 true,
  .recLd 1 (.sRcLd true) (.w 0) 0, .recCas 1 (.sRcCas true) (.w 0) 0 1 0 true, .wordSt 1 .sigRel 0 3,
  .semPdRet 0 0 true, .recLd 0 .wChk (.w 0) 1, .wordLd 0 .spin0 0, .wordCas 0 0 1 0 true,
  .recLd 0 .wChk2 (.w 0) 1, .recLd 0 .wCmp (.w 0) 1, .wordSt 0 .waitRel2 0 1, .recLd 0 .wTail (.w 0) 1,
  .recLd 0 .wHead (.w 0) 1,
  .muLd 1 .wwLd 0, .recSt 1 .wake (.w 0) 0 1, .semV 1 0, .retSignal 1,
  .recLd 0 .wChk (.w 0) 0, .recLd 0 .wTail (.w 0) 0, .recLd 0 .wHead (.w 0) 0, .lockMark 0 .wr, .nret 0,
  .retWait 0 .ok]

example : okRun ⟨false⟩ exTimedSignalWins = true := by decide
example : okRun ⟨true⟩ exTimedSignalWins = true := by decide
/-- the same call may NOT report a timeout -/
example : okRun ⟨false⟩ (exTimedSignalWins.dropLast ++ [.retWait 0 .timedOut]) = false := by decide

/-- the same race, the timeout wins: the waiter removes itself, the signal finds an empty queue -/
def exTimedTimeoutWins : List Event := [
  .tick 100, .callWait 0 false (some 150) false, .recSt 0 .wSt1 (.w 0) 1 0, .muLd 0 .wMode 1,
  .wordLd 0 .spin0 0, .wordCas 0 0 3 0 true, .recLd 0 .wRc (.w 0) 0, .wordSt 0 .waitRel 2 3,
  .relMark 0 .wr, .nret 0, .recLd 0 .wHead (.w 0) 1, .semPdEnter 0 0 (some 150), .tick 150,
  .semPdRet 0 0 true, .recLd 0 .wChk (.w 0) 1, .wordLd 0 .spin0 2, .wordCas 0 2 3 2 true,
  .recLd 0 .wChk2 (.w 0) 1, .recLd 0 .wCmp (.w 0) 0, .recLd 0 .wRmLd (.w 0) 0,
  .recCas 0 .wRmCas (.w 0) 0 1 0 true, .recSt 0 .wClr (.w 0) 0 1, .wordSt 0 .waitRel2 0 3,
  .callSignal 1, .wordLd 1 .sigLd 0, .retSignal 1,
  .recLd 0 .wTail (.w 0) 0, .recLd 0 .wHead (.w 0) 0, .lockMark 0 .wr, .nret 0, .retWait 0 .timedOut]

example : okRun ⟨false⟩ exTimedTimeoutWins = true := by decide
example : ((runD ⟨false⟩ exTimedTimeoutWins).recs (.w 0)).unl = [Unl.self] := by decide

/-- two reader-mode waiters (threads 0 and 1), one signal (thread 2) wakes both -/
def exReaders : List Event := [
  .tick 100,
  .callWait 0 false none false, .recSt 0 .wSt1 (.w 0) 1 0, .muLd 0 .wMode 512,
  .wordLd 0 .spin0 0, .wordCas 0 0 3 0 true, .recLd 0 .wRc (.w 0) 0, .wordSt 0 .waitRel 2 3,
  .relMark 0 .rd, .nret 0, .recLd 0 .wHead (.w 0) 1, .semPdEnter 0 0 none,
  .callWait 1 false none false, .recSt 1 .wSt1 (.w 1) 1 0, .muLd 1 .wMode 256,
  .wordLd 1 .spin0 2, .wordCas 1 2 3 2 true, .recLd 1 .wRc (.w 1) 0, .wordSt 1 .waitRel 2 3,
  .relMark 1 .rd, .nret 1, .recLd 1 .wHead (.w 1) 1, .semPdEnter 1 1 none,
  .callSignal 2, .wordLd 2 .sigLd 2, .wordLd 2 .spin0 2, .wordCas 2 2 3 2 true,
  .recLd 2 (.sRcLd true) (.w 0) 0, .recCas 2 (.sRcCas true) (.w 0) 0 1 0 true,
  .recLd 2 (.sRcLd false) (.w 1) 0, .recCas 2 (.sRcCas false) (.w 1) 0 1 0 true,
  .wordSt 2 .sigRel 0 3, .muLd 2 .wwLd 0,
  .recSt 2 .wake (.w 0) 0 1, .semV 2 0, .recSt 2 .wake (.w 1) 0 1, .semV 2 1, .retSignal 2]

example : okRun ⟨false⟩ exReaders = true := by decide
example : ((runD ⟨false⟩ exReaders).recs (.w 0)).stat = .woken ∧
          ((runD ⟨false⟩ exReaders).recs (.w 1)).stat = .woken := by decide
/-- a signal that wakes only the first reader is rejected -/
example : okRun ⟨false⟩ (exReaders.take 29 ++ [.wordSt 2 .sigRel 2 3]) = false := by decide

/-- an nsync_wait_n record woken by a broadcast; the call dequeues it (`waiting = 0`: it was ready) -/
def exWaitN : List Event := [
  .tick 100, .callWaitN 0, .nwInit 0 (.nw 0),
  .wordLd 0 .spin0 0, .wordCas 0 0 1 0 true, .recSt 0 .enqSt (.nw 0) 1 0, .wordSt 0 .enqRel 2 1,
  .recLd 0 .ready (.nw 0) 1, .semPdEnter 0 0 none,
  .callBroadcast 1, .wordLd 1 .bcLd 2, .wordLd 1 .spin0 2, .wordCas 1 2 3 2 true, .wordSt 1 .bcRel 0 3,
  .recSt 1 .wake (.nw 0) 0 1, .semV 1 0, .retBroadcast 1,
  .semPdRet 0 0 false, .recLd 0 .ready (.nw 0) 0,
  .wordLd 0 .spin0 0, .wordCas 0 0 1 0 true, .recLd 0 .deqLd (.nw 0) 0, .wordSt 0 .deqRel 0 1, .retWaitN 0]

example : okRun ⟨false⟩ exWaitN = true := by decide
example : ((runD ⟨false⟩ exWaitN).recs (.nw 0)).unl = [Unl.waker 1] ∧ (runD ⟨false⟩ exWaitN).f3 = false := by decide

end NsyncVerif.Cv
