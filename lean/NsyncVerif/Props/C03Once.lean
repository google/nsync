/-
  Property C03, once edge — the run of the once-function happens before every return of
  nsync_run_once / _arg / _spin / _arg_spin on the same nsync_once, under the DECLARED memory
  orders only.

  Happens-before is computed by the generic vector-clock machine `NsyncVerif.VC` from program
  order and from the order each atomic operation on the once word requests (release-sequence
  rule; a failed CAS is a relaxed load; no edge is credited to the slot mutex, the condition
  variable, the scheduler or the sequential consistency of the interleaving).  `Once.toVC`
  projects the events of the Once acceptor (`Model/Once.lean`) to that machine.  The acceptor
  rejects every order other than the one once.c declares (`ATM_LOAD_ACQ` for the wrapper load,
  the first impl load and the wait-loop load; `ATM_CAS_ACQ` for the claim; relaxed `ATM_LOAD`
  for the reload; `ATM_STORE_REL` for the store of 2), so the theorem is about the declared
  orders.  Unbounded: any number of threads and once objects, any interleaving, any hashing of
  once objects to slots.

  Status: proved in full (no `_partial`).
-/
import NsyncVerif.Proofs.OnceVCRun

namespace Once
open NsyncVerif

/-- The inductive invariant, over all reachable product states (Once state × clocks × ghost
    `ec o` = clock of the winner of `o` at the end of the once-function):
    (i)   word `o` = 2 → `ec o` ≤ release clock of the word;
    (ii)  a thread at a pc reachable only through an acquire load that observed 2
          (`fUnlockCall`, `fUnlockRet`, `readyRet`) → `ec o` ≤ its clock;
    (iii) the winner between the end of the function and its release store → `ec o` ≤ its clock. -/
theorem C03_once_invariant {cfg : Config} {p : PState} (h : PReachable cfg p) :
    (∀ o, p.s.word o = 2 → VC.Clock.le (p.ec o) (p.c.relc o)) ∧
    (∀ t o, (p.s.pc t).Leaving o → VC.Clock.le (p.ec o) (p.c.vc t)) ∧
    (∀ t o, (p.s.pc t).AfterCb o → VC.Clock.le (p.ec o) (p.c.vc t)) :=
  let v := (preachable_inv h).2
  ⟨v.relc, v.leaving, v.afterCb⟩

/-- C03, ONCE EDGE.  Take any event list accepted by the Once acceptor, any `cb … end` event in
    it (thread `w` leaving the once-function of the once object `g.o`, of which it is the CAS
    winner) and any later `ret` event (thread `t` returning from a run_once call on `f.o`).  If
    both concern the same once object, then the clock `w` had when the function ended is covered
    by the clock with which `t` continues after its return: everything `w` did up to the end of
    the once-function happens before everything `t` does after nsync_run_once* returns. -/
theorem C03_once {cfg : Config} {pre₀ rest post : List Event} {w t : Tid} {aw b a : Bool}
    {s : State}
    (h : run cfg init (pre₀ ++ [.cbEnd w aw] ++ rest ++ [.ret t b a] ++ post) = .ok s) :
    ∃ s₀ g s₁ f,
      run cfg init pre₀ = .ok s₀ ∧ s₀.pc w = .wCbEnd g ∧ s₀.winner g.o = some w ∧
      run cfg init (pre₀ ++ [.cbEnd w aw] ++ rest) = .ok s₁ ∧
      s₁.pc t = .readyRet f ∧ f.blocking = b ∧ f.arg = a ∧
      (f.o = g.o →
        VC.Clock.le ((clocks pre₀).vc w)
          ((clocks (pre₀ ++ [.cbEnd w aw] ++ rest ++ [.ret t b a])).vc t)) := by
  obtain ⟨pF, hF, -⟩ := prun_of_run (p := pinit) h
  obtain ⟨p3, h3, -⟩ := (isPRun cfg).append.mp hF
  obtain ⟨p2, h2, hret⟩ := (isPRun cfg).append.mp h3
  obtain ⟨p1, h1, hrest⟩ := (isPRun cfg).append.mp h2
  obtain ⟨p0, h0, hcb⟩ := (isPRun cfg).append.mp h1
  rw [(isPRun cfg).single] at hret hcb
  have r0 := run_of_prun h0
  have r2 := run_of_prun h2
  have r3 := run_of_prun h3
  obtain ⟨hi0, -⟩ := vinv_prun (inv_init cfg) vinv_init h0
  obtain ⟨hi1, -⟩ := vinv_prun (inv_init cfg) vinv_init h1
  obtain ⟨-, hv2⟩ := vinv_prun (inv_init cfg) vinv_init h2
  obtain ⟨g, hpcw, hec, hne, -⟩ := pstep_cbEnd hcb
  obtain ⟨f, hpct, hb, ha, hc⟩ := pstep_ret hret
  have hstable := ec_run_stable hi1 hne hrest
  have hwin : p0.s.winner g.o = some w := (hi0.inW w g.o (by simp [hpcw, PC.InW])).2
  refine ⟨p0.s, g, p2.s, f, r0.1, hpcw, hwin, r2.1, hpct, hb, ha, ?_⟩
  intro hfo
  have hle := hv2.leaving t f.o (by simp [hpct, PC.Leaving])
  have e0 : (clocks pre₀) = p0.c := r0.2.symm
  have e3 : clocks (pre₀ ++ [.cbEnd w aw] ++ rest ++ [.ret t b a]) = p2.c := by
    have := r3.2
    rw [hc] at this
    exact this.symm
  rw [e0, e3, ← hec, ← hstable, ← hfo]
  exact hle

/-- The same edge in state form: whenever a thread is about to return from a call on `o`
    (or is merely past the acquire load that observed 2), its clock covers `ec o`. -/
theorem C03_once_state {cfg : Config} {p : PState} (h : PReachable cfg p) {t : Tid} {f : Frame}
    (hpc : p.s.pc t = .readyRet f) : VC.Clock.le (p.ec f.o) (p.c.vc t) :=
  (preachable_inv h).2.leaving t f.o (by simp [hpc, PC.Leaving])

/-! ### negative control: the acquire on the wait-loop load is what carries the edge -/

section Control

/-- Spin caller 0 claims once 0 and runs `f`; spin caller 1 arrives while the word is 1 (its two
    acquire loads see 1: nothing to synchronise with yet); then 0 ends `f`. -/
def ctlPre₀ : List Event :=
  [.call 0 false false 0, .ld 0 (.outer false false) .acq 0 0, .ld 0 .impl .acq 0 0,
   .cas 0 .impl .acq 0 0 1 0 true, .cbStart 0 false,
   .call 1 false false 0, .ld 1 (.outer false false) .acq 0 1, .ld 1 .impl .acq 0 1]

/-- … `cb f end`, the release store of 2 … -/
def ctlMid : List Event := [.cbEnd 0 false, .st 0 .impl .rel 0 2 1]

def ctlCfg : Config := ⟨fun _ => 0⟩

/-- With the declared acquire wait-loop load the trace is accepted and thread 1 returns … -/
example : (run ctlCfg init (ctlPre₀ ++ ctlMid ++
    [.ld 1 .impl .acq 0 2, .ret 1 false false])).toOption.isSome := by decide

/-- … and (an instance of `C03_once`, here evaluated directly) component 0 of the returner's clock
    has caught up with the winner's clock at the end of the function (2 = initial 1 + the CAS). -/
example : (clocks ctlPre₀).vc 0 0 = 2 ∧
    (clocks (ctlPre₀ ++ ctlMid ++ [.ld 1 .impl .acq 0 2, .ret 1 false false])).vc 1 0 = 2 := by
  decide

/-- NEGATIVE CONTROL.  The same trace with a RELAXED wait-loop load: on the clock machine the
    returner's clock does not cover the winner's clock at the end of the function — the run of
    the once-function is NOT ordered before the continuation of thread 1.  The edge of
    `C03_once` is therefore carried by the acquire of `ATM_LOAD_ACQ` at once.c:87 (together
    with the release of `ATM_STORE_REL` at once.c:85), not by the interleaving. -/
theorem C03_once_needs_acquire :
    ¬ VC.Clock.le ((clocks ctlPre₀).vc 0)
        ((clocks (ctlPre₀ ++ ctlMid ++ [.ld 1 .impl .rlx 0 2, .ret 1 false false])).vc 1) := by
  intro hle
  have h0 := hle 0
  have e1 : (clocks ctlPre₀).vc 0 0 = 2 := by decide
  have e2 : (clocks (ctlPre₀ ++ ctlMid ++
      [.ld 1 .impl .rlx 0 2, .ret 1 false false])).vc 1 0 = 0 := by decide
  omega

/-- The acceptor does not let the relaxed variant through: it is rejected at that load. -/
example : (run ctlCfg init (ctlPre₀ ++ ctlMid ++ [.ld 1 .impl .rlx 0 2])).toOption.isNone := by
  decide

/-- In general: a relaxed load never changes any clock (`VC.relaxed_load_no_edge`), so a thread
    whose loads of the once word were relaxed could not acquire the edge from them. -/
theorem C03_once_relaxed_load_no_edge (c : VC.St OnceId) (t : Tid) (fn : Fn) (o : OnceId)
    (obs : Nat) : (cstep c (.ld t fn .rlx o obs)).vc = c.vc := by
  simp only [cstep, toVC, ordVC]
  exact VC.relaxed_load_no_edge c _ rfl rfl

/-- Likewise the release on the store is needed: with a relaxed store of 2 the release clock of
    the word would be wiped (`VC.relaxed_store_breaks`) instead of carrying the winner's clock. -/
theorem C03_once_relaxed_store_breaks (c : VC.St OnceId) (t : Tid) (fn : Fn) (o : OnceId)
    (new obs : Nat) : (cstep c (.st t fn .rlx o new obs)).relc o = VC.Clock.bot := by
  simp only [cstep, toVC, ordVC]
  exact VC.relaxed_store_breaks c ⟨t, .st, .rlx, o⟩ rfl rfl

end Control

end Once
