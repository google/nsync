/-
  Props/C11.lean — property C11: "nsync_wait_n reports a ready object, or a real timeout, and cleans up."

  All theorems are about `Reachable s` of the WaitN acceptor (Model/WaitN.lean, the code AFTER the repair of
  defect F3 in cv.c): every number of callers, wakers, objects (1 ≤ count, stack and heap bookkeeping), every
  interleaving, every deadline and every sequence of ticks.  Trusted: the objects' mutexes are locks (C01/C02),
  the queues are sequences (C17), the semaphores are counting semaphores (C12).  Contract (explicit
  `reject`s of the model): no increment of a counter from zero after a wait has been called.

  What "ready" means in the code (wait.c + the three waitables):
  * note:    NOTIFIED_TIME (n) <= 0 under note_mu, after nsync_note_notified_deadline_ has notified the
             note itself if its deadline had passed.  So a note whose deadline has passed counts as
             ready (and becomes notified by the caller), and a note created with a deadline that is not
             after time zero is "ready" without its `notified` flag ever being set (the flag is only
             read through NOTIFIED_TIME by the library; the harness oracles that read the flag
             directly report it, see tools/gen_waitn.py).  `noteReady` = notified ∨ deadline passed.
  * counter: value 0 observed (stable once a wait has been called: API contract).
  * cv:      cv_dequeue returned 0: it read `waiting == 0` under the cv spinlock, or it read `waiting != 0`,
             did not find the record on pcv->waiters and waited for `waiting == 0`.  In both cases a
             signaller had unlinked the record for this call (ghost `unl = waker`, recorded in the frame's
             ghost list `deqUnl` at the return of the dequeue call — the record itself may be reused by
             another thread's call between `free` and the return when count > 4).

  STATUS.  Proved as stated, for all three kinds of objects: `C11_index_ready`, `C11_timeout`,
  `C11_short_circuit`, `C11_cleanup` (+ `C11_cleanup_ret`), `C11_mutex` (+ `C11_mutex_marks`), `C11_heap_path`.
  * `C11_no_oversleep` (safety form of "it does not keep sleeping after one becomes ready"), proved:
    there is no reachable state in which a caller is about to enter / inside the P of wait.c:78 while an object
    it is registered on is ready for it and nobody is going to end the sleep.  Precisely, for a caller t at the
    P (`atP`: `pd_enter` next, or between `pd_enter` and `pd_ret`), a record r = nw[i] of the call and object i
    ready for it (`becameReady`: note notified or its deadline passed; counter at 0; cv record no longer on
    pcv->waiters — at the P only a signaller can have unlinked it, `C11_cv_unlinked_by_waker`), one of:
      (A) `Tok`       a token is available on the call's semaphore — under the counting flavour (`sem j > 0`)
                      AND under the binary flavour (`binSem evs j`, a function of the event sequence: V sets,
                      a P that returns 0 clears, a second V is absorbed); only t's own `pd_ret` consumes
                      tokens of a bound semaphore, so the P returns at once;
      (B) `InFlight`  some waker has executed its store `waiting := 0` on one of t's records and owes the V on
                      t's semaphore (`post u = some r'`): the acceptor rejects its unlock of the object's mutex,
                      a further pop, and its return from nsync_cv_signal / broadcast before that V, and the V
                      binds to (is checked against) the semaphore of t's call;
      (C)             a cv signaller has unlinked r under the cv spinlock and is before its
                      `ATM_STORE_REL (&p_nw->waiting, 0)` in wake_waiters (`r ∈ pend …`), which (B) follows;
      (D)             r is still queued on the ready note / counter and some thread u holds the object's mutex —
                      the acceptor rejects the release of that mutex before r (and every other queued waiter)
                      has been popped and posted: u is inside its wake loop.  (`u ≠ t` is not part of the
                      statement: threads in foreign API code are accepted site-independently, so the model cannot
                      exclude a caller that took a note's internal mutex before the call; nsync has no such path.)
      (E)             the P is timed and its deadline `min_ntime` has passed (the lazy expiry of a note: nobody
                      posts, but `min_ntime <= expiry <= now`, `C11_sleep_deadline`), so the P returns ETIMEDOUT.
    None of (B)–(E) can be dropped: `Example.oversleepB / C / D / E` are accepted traces that end in a state
    satisfying the hypotheses in which no token is available (`¬ Tok` is part of the examples for C, D, E) and
    that disjunct is the one that holds; `Example.oversleepA` is the token case (object ready between the caller's scan and its P: the P returns at once).
    Core of the proof (`C11_cleared_accounted`): at the P, EVERY record of the call with `waiting = 0` has (A) or
    (B) (as a theorem about `Reachable` states: `C11_no_oversleep_token`) — the scan that precedes the P would have seen it (`ready_time <= 0` ⇒ no P)
    unless it was cleared after its `ready_time` evaluation, and then the waker's post is accounted for.  Late V's after the return
    (`Example.lateV`, Props/C13WaitN.lean) and stale tokens only cause additional scans.
  * `C11_sleep_deadline`, proved: the P of wait.c:78 is called with `min_ntime`, which is after time zero, is
    `<= abs_deadline` and `<=` the expiry of every note of the call, and equals one of them (condition variables
    and counters have no ready time other than "now").
  Invariants: Proofs/WaitNSem*.lean (`inv_of_run`).
  The interleaving of defect F3 (caller times out between a signaller's unlink and its `waiting := 0`) is an
  `example` below: the old behaviour (cv_dequeue "removes" the record and reports a timeout) is REJECTED,
  the repaired behaviour (wait for the waker, return the cv's index) is accepted.
-/
import NsyncVerif.Proofs.WaitNAnn
import NsyncVerif.Proofs.WaitNDq
import NsyncVerif.Proofs.WaitNSemInv

namespace WaitN

/-! ### ready index -/

/-- object i of t's call is ready (notified / expired note, counter at zero, cv record unlinked by a
    signaller when its dequeue call returned) -/
def readyFor (s : State) (t : Tid) (i : Nat) : Prop :=
  match (s.fr t).objs[i]? with
  | some (.note n) => noteReady s n
  | some (.ctr c) => (s.obj (.ctr c)).value = 0
  | some (.cv _) => (s.fr t).deqUnl[i]? = some .waker
  | none => False

/-- what the return value of an accepted `ret nsync_wait_n r` is -/
theorem ret_facts {s s' : State} {t : Tid} {r : Nat} {nested : Bool} (hr : Reachable s)
    (hs : step s (.thr t (.retWaitN r nested)) = .ok s') :
    s.pc t = .wRet r ∧ LInv (.wRet r) (s.fr t) ∧ PostF s (s.fr t) := by
  have hpc := (ret_pc hs).1
  exact ⟨hpc, hpc ▸ linv_of_reachable hr t, by have := tf_of_reachable hr t; rw [hpc] at this; exact this⟩

/-- `ret nsync_wait_n i` with i < count is accepted only if object i is a note that is notified or whose
    deadline has passed, a counter whose value is 0, or a condition variable whose record a signaller had
    unlinked when cv_dequeue returned. -/
theorem C11_index_ready {s s' : State} {t : Tid} {r : Nat} {nested : Bool} (hr : Reachable s)
    (hs : step s (.thr t (.retWaitN r nested)) = .ok s') (hlt : r < (s.fr t).count) : readyFor s t r := by
  obtain ⟨_, hl, hp⟩ := ret_facts hr hs
  have hrr : r = (s.fr t).ready := hl.1
  unfold readyFor
  cases ho : (s.fr t).objs[r]? with
  | none =>
    have : r < (s.fr t).objs.length := hlt
    rw [List.getElem?_eq_getElem this] at ho; cases ho
  | some o =>
    cases o with
    | cv c =>
      simp only
      have hcv : isCvAt (s.fr t) (s.fr t).ready := ⟨c, hrr ▸ ho⟩
      have hne := hp.cvr (hrr ▸ hlt) hcv
      rcases hl.2 with ⟨hf, _, _⟩ | ⟨hpost, _⟩
      · exact absurd hf.recs hne
      · have h1 := (hpost.rdy.first (hrr ▸ hlt)).1
        rw [hrr]
        exact (dui_of_reachable hr).cv t _ c (hrr ▸ ho) h1
    | note n =>
      simp only
      have := hp.rdy (hrr ▸ hlt) (by rintro ⟨c, hc⟩; rw [← hrr, ho] at hc; cases hc)
      rw [← hrr] at this
      unfold sReady at this
      rw [ho] at this
      exact this
    | ctr k =>
      simp only
      have := hp.rdy (hrr ▸ hlt) (by rintro ⟨c, hc⟩; rw [← hrr, ho] at hc; cases hc)
      rw [← hrr] at this
      unfold sReady at this
      rw [ho] at this
      exact this.1

/-- every kind of object, cv included: after a sleep the returned index is the least one whose dequeue call
    reported "no longer enqueued" (for a cv: cv_dequeue read `waiting == 0` under the cv's spinlock). -/
theorem C11_index_ready_first {s s' : State} {t : Tid} {r : Nat} {nested : Bool} (hr : Reachable s)
    (hs : step s (.thr t (.retWaitN r nested)) = .ok s') (hlt : r < (s.fr t).count) (hne : (s.fr t).recs ≠ []) :
    (s.fr t).deqRes[r]? = some false ∧ ∀ k, k < r → (s.fr t).deqRes[k]? = some true := by
  obtain ⟨_, hl, _⟩ := ret_facts hr hs
  have hrr : r = (s.fr t).ready := hl.1
  rcases hl.2 with ⟨hf, _, _⟩ | ⟨hpost, _⟩
  · exact absurd hf.recs hne
  · rw [hrr]; exact hpost.rdy.first (hrr ▸ hlt)

/-! ### timeout -/

/-- `ret nsync_wait_n count` is accepted only if
    (a) the deadline was not after time zero and nothing was allocated, enqueued or slept on
        (the `abs_deadline <= 0` short-circuit of wait.c:39), or
    (b) the deadline of the call has passed, and every object was dequeued with the result
        "was still enqueued". -/
theorem C11_timeout {s s' : State} {t : Tid} {r : Nat} {nested : Bool} (hr : Reachable s)
    (hs : step s (.thr t (.retWaitN r nested)) = .ok s') (heq : r = (s.fr t).count) :
    (dlePast (s.fr t).dl = true ∧ (s.fr t).recs = [] ∧ (s.fr t).deqRes = [])
    ∨ (expiredB (s.fr t).dl s.now = true ∧ (s.fr t).deqRes.length = (s.fr t).recs.length
        ∧ (s.fr t).recs ≠ [] ∧ ∀ b ∈ (s.fr t).deqRes, b = true) := by
  obtain ⟨_, hl, hp⟩ := ret_facts hr hs
  have hrr : (s.fr t).ready = (s.fr t).count := hl.1 ▸ heq
  rcases hl.2 with ⟨hf, _, hd⟩ | ⟨hpost, _⟩
  · exact .inl ⟨hd hrr, hf.recs, hf.deqRes⟩
  · right
    have hall := hpost.rdy.all hrr
    have hwhy : (s.fr t).why = .timeout := by
      cases hw : (s.fr t).why with
      | none => exact absurd hw hpost.why
      | timeout => rfl
      | readyAt k =>
        have h1 := hp.why k hw
        have := hall false (List.mem_of_getElem? h1)
        cases this
    refine ⟨hp.tmo hwhy, hpost.dlen, ?_, hall⟩
    intro h0; have := hpost.npos; rw [h0] at this; exact absurd this (Nat.lt_irrefl _)

/-- the `abs_deadline <= 0` short-circuit: a caller whose deadline is not after time zero never
    leaves the first poll loop — no record, no allocation, no semaphore wait. -/
theorem C11_short_circuit {s : State} {t : Tid} (hr : Reachable s) (hc : inCall (s.pc t) = true)
    (hd : dlePast (s.fr t).dl = true) :
    (s.fr t).recs = [] ∧ (s.fr t).heap = none ∧ (s.fr t).mallocs = 0 ∧ (s.fr t).unlocked = false
    ∧ s.pc t ≠ .wPdEnter ∧ (∀ j, s.pc t ≠ .wPdWait j)
    ∧ ((∃ i l, s.pc t = .wCtrRT .poll i l) ∨ (∃ i st, s.pc t = .wND .poll i st) ∨ s.pc t = .wRet (s.fr t).ready) := by
  have hl := linv_of_reachable hr t
  have key : ∀ {f : Frame}, Alloc f → dlePast f.dl = true → False := fun a h => by rw [a.dl] at h; cases h
  cases hp : s.pc t <;> rw [hp] at hl
  case idle => rw [hp] at hc; cases hc
  case sg => rw [hp] at hc; cases hc
  case stuck => exact hl.elim
  case wCtrRT u i l =>
    cases u with
    | poll => exact ⟨hl.1.recs, hl.1.heap, hl.1.mallocs, hl.1.unlocked, by simp, by simp, .inl ⟨i, l, rfl⟩⟩
    | loop => exact (key hl.1.toAlloc hd).elim
    | deq => exact hl.elim
  case wND u i st =>
    cases u with
    | poll => exact ⟨hl.1.recs, hl.1.heap, hl.1.mallocs, hl.1.unlocked, by simp, by simp, .inr (.inl ⟨i, st, rfl⟩)⟩
    | loop => exact (key hl.1.toAlloc hd).elim
    | deq => exact (key hl.1.toAlloc hd).elim
  case wAlloc => rw [hl.2.2.2] at hd; cases hd
  case wRet r =>
    rcases hl.2 with ⟨hf, _, _⟩ | ⟨hpost, _⟩
    · exact ⟨hf.recs, hf.heap, hf.mallocs, hf.unlocked, by simp, by simp, .inr (.inr (by rw [hl.1]))⟩
    · exact (key hpost.toAlloc hd).elim
  -- every other program point lies behind the test of the deadline
  all_goals exact (key hl.1.toAlloc hd).elim

/-! ### the supplied mutex -/

/-- Inside nsync_wait_n a lock annotation of the supplied mutex is accepted only as the `(*unlock) (mu)` of
    wait.c:62 — after the enqueue loop has attempted every object — or as the `(*lock) (mu)` of wait.c:96. -/
theorem C11_mutex_marks {s s' : State} {t : Tid} {e : Ev} {m : MuId} (hr : Reachable s)
    (he : e = .annRel m ∨ e = .annAcq m) (hc : inCall (s.pc t) = true) (hm : (s.fr t).mu = some m)
    (hs : step s (.thr t e) = .ok s') :
    (e = .annRel m ∧ s.pc t = .wUnlock ∧ (s.fr t).recs.length = (s.fr t).count ∧ (s.fr t).held = true)
    ∨ (e = .annAcq m ∧ s.pc t = .wRelock ∧ (s.fr t).held = false ∧ (s.fr t).deqRes.length = (s.fr t).recs.length) := by
  have hl := linv_of_reachable hr t
  rcases ann_pc he hc hm hs with ⟨h1, h2⟩ | ⟨h1, h2⟩
  · rw [h2] at hl
    exact .inl ⟨h1, h2, hl.2.1, by rw [hl.1.held, hm]; rfl⟩
  · rw [h2] at hl
    exact .inr ⟨h1, h2, hl.2.2, hl.1.dlen⟩

/-- `held` (ghost: the supplied mutex is held by the caller): true until the enqueue loop is over, false
    while the caller sleeps — and then every object has been attempted —, true again at the return. -/
theorem C11_mutex {s : State} {t : Tid} (hr : Reachable s) (hm : (s.fr t).mu.isSome = true) :
    ((∃ i, s.pc t = .wInit i) ∨ (∃ i st, s.pc t = .wEnqCv i st) ∨ (∃ i st, s.pc t = .wEnq i st) ∨ s.pc t = .wUnlock
        → (s.fr t).held = true ∧ (s.fr t).unlocked = false)
    ∧ (s.pc t = .wPdEnter ∨ (∃ j, s.pc t = .wPdWait j)
        → (s.fr t).held = false ∧ (s.fr t).unlocked = true ∧ (s.fr t).recs.length = (s.fr t).count)
    ∧ (∀ r, s.pc t = .wRet r → (s.fr t).held = true) := by
  have hl := linv_of_reachable hr t
  refine ⟨?_, ?_, ?_⟩
  · rintro (⟨i, hp⟩ | ⟨i, st, hp⟩ | ⟨i, st, hp⟩ | hp) <;> rw [hp] at hl <;>
      exact ⟨by rw [hl.1.held, hm], hl.1.unlocked⟩
  · rintro (hp | ⟨j, hp⟩) <;> rw [hp] at hl <;> exact ⟨hl.1.held, by rw [hl.1.unlocked, hm], hl.1.full⟩
  · intro r hp
    rw [hp] at hl
    rcases hl.2 with ⟨hf, _, _⟩ | ⟨_, hh⟩
    · rw [hf.held, hm]
    · rw [hh, hm]

/-! ### stack and heap bookkeeping -/

/-- At the return: a call over more than four objects that got past the first poll used one malloc'ed array,
    all its records are elements of that array, and it freed it exactly once; a call over at most four
    objects never called malloc / free and all its records are on its stack. -/
theorem C11_heap_path {s : State} {t : Tid} {r : Nat} (hr : Reachable s) (hp : s.pc t = .wRet r) :
    ((s.fr t).recs = [] → (s.fr t).mallocs = 0 ∧ (s.fr t).frees = 0)
    ∧ ((s.fr t).recs ≠ [] → 4 < (s.fr t).count →
        (s.fr t).mallocs = 1 ∧ (s.fr t).frees = 1 ∧ ∃ a, (s.fr t).heap = some a ∧ ∀ x ∈ (s.fr t).recs, ∃ i, x = .heap a i)
    ∧ ((s.fr t).recs ≠ [] → (s.fr t).count ≤ 4 →
        (s.fr t).mallocs = 0 ∧ (s.fr t).frees = 0 ∧ (s.fr t).heap = none ∧ ∀ x ∈ (s.fr t).recs, ∃ k, x = .stk k) := by
  have hl := linv_of_reachable hr t
  rw [hp] at hl
  rcases hl.2 with ⟨hf, _, _⟩ | ⟨hpost, _⟩
  · exact ⟨fun _ => ⟨hf.mallocs, hf.frees⟩, fun h => absurd hf.recs h, fun h => absurd hf.recs h⟩
  · have hne : (s.fr t).recs ≠ [] := fun h0 => by have := hpost.npos; rw [h0] at this; exact absurd this (Nat.lt_irrefl _)
    refine ⟨fun h0 => absurd h0 hne, ?_, ?_⟩
    · intro _ h4
      have hh := hpost.heap; simp only [h4, decide_true] at hh
      obtain ⟨a, ha⟩ := Option.isSome_iff_exists.1 hh
      refine ⟨by rw [hpost.mallocs]; simp [h4], by rw [hpost.frees, hpost.mallocs]; simp [h4], a, ha, ?_⟩
      intro x hx
      have := hpost.kinds x hx
      rw [ha] at this
      cases x with
      | stk k => exact this.elim
      | heap a' i => simp only [recKind] at this; subst this; exact ⟨i, rfl⟩
    · intro _ h4
      have h4' : ¬ 4 < (s.fr t).count := Nat.not_lt.2 h4
      have hh := hpost.heap; simp only [h4', decide_false] at hh
      have hn : (s.fr t).heap = none := by
        cases hx : (s.fr t).heap with
        | none => rfl
        | some a => rw [hx] at hh; cases hh
      refine ⟨by rw [hpost.mallocs]; simp [h4'], by rw [hpost.frees, hpost.mallocs]; simp [h4'], hn, ?_⟩
      intro x hx
      have := hpost.kinds x hx
      rw [hn] at this
      cases x with
      | stk k => exact ⟨k, rfl⟩
      | heap a' i => exact this.elim

/-! ### cleanup -/

/-- a record whose lifetime ends in this step — the return of a call with count <= 4, or the `free` of the
    heap array — belongs to the stepping caller, whose dequeue call for it has returned; it is in no object's
    queue, no signaller is between unlinking it and clearing its `waiting`, and no note / counter waker is
    between removing it and posting. -/
theorem C11_cleanup {s s' : State} {ev : Event} {r : Rid} (hr : Reachable s) (hs : step s ev = .ok s')
    (hl : registered s r) (hd : ¬ registered s' r) :
    (∃ t e, ev = .thr t e ∧ (s.rcd r).owner = t ∧ r ∈ (s.fr t).recs ∧ (s.pc t = .wFree ∨ ∃ r0, s.pc t = .wRet r0))
    ∧ (s.rcd r).deqd = true
    ∧ (∀ o, r ∉ (s.obj o).queue)
    ∧ (∀ u c l, wk (s.pc u) = some (c, l) → r ∉ pend (s.post u) l)
    ∧ (∀ u, s.post u = some r → (wk (s.pc u)).isSome = true) := by
  have hd' : (s'.rcd r).live = false := by
    cases hx : (s'.rcd r).live with
    | false => rfl
    | true => exact absurd hx hd
  obtain ⟨t, e, h1, h2, h3, h4, h5, _⟩ := dies_facts hr hs hl hd'
  have := deqd_out (qinv_of_reachable hr).qi h4
  exact ⟨⟨t, e, h1, h3, h2, h5⟩, h4, this.1, this.2.1, this.2.2⟩

/-- the statement at the return of a call whose records are on the caller's stack (count <= 4): none of them
    is in a queue, between a signaller's unlink and clear, or in the hands of a note / counter waker.
    (For count > 4 the records die at `free`: `C11_cleanup`.) -/
theorem C11_cleanup_ret {s s' : State} {t : Tid} {i : Nat} {nested : Bool} (hr : Reachable s)
    (hs : step s (.thr t (.retWaitN i nested)) = .ok s') (hh : (s.fr t).heap = none) :
    ∀ r ∈ (s.fr t).recs, (∀ o, r ∉ (s.obj o).queue) ∧ (∀ u c l, wk (s.pc u) = some (c, l) → r ∉ pend (s.post u) l)
      ∧ (∀ u, s.post u = some r → (wk (s.pc u)).isSome = true) := by
  intro r hm
  obtain ⟨hpc, hl, _⟩ := ret_facts hr hs
  have hfz : (s.fr t).frees = 0 := by
    rcases hl.2 with ⟨hf, _, _⟩ | ⟨hpost, _⟩
    · exact hf.frees
    · have h4 : ¬ 4 < (s.fr t).count := by
        intro h4; have := hpost.heap; rw [hh] at this; simp [h4] at this
      rw [hpost.frees, hpost.mallocs]; simp [h4]
  have hlive := ((own_of_reachable hr).own t r (by rw [hpc]; rfl) hfz hm).1
  have hdead : ¬ registered s' r := by rw [ret_state hs]; simp [registered, hh, hm]
  have := C11_cleanup hr hs hlive hdead
  exact ⟨this.2.2.1, this.2.2.2.1, this.2.2.2.2⟩

/-! ### the sleep -/

/-- t is about to call (`pd_enter` is its next semaphore event), or is inside, the
    nsync_mu_semaphore_p_with_deadline of wait.c:78 -/
def atP (s : State) (t : Tid) : Prop := s.pc t = .wPdEnter ∨ ∃ j, s.pc t = .wPdWait j

/-- object i of t's call is ready for t's record r = nw[i]: the note is notified or its deadline has passed, the
    counter is at zero, the cv record is no longer on pcv->waiters -/
def becameReady (s : State) (t : Tid) (i : Nat) (r : Rid) : Prop :=
  match (s.fr t).objs[i]? with
  | some (.note n) => (s.obj (.note n)).flag = true ∨ expiredB (s.obj (.note n)).expiry s.now = true
  | some (.ctr c) => (s.obj (.ctr c)).value = 0
  | some (.cv c) => r ∉ (s.obj (.cv c)).queue
  | none => False

theorem inSleep_of_atP {s : State} {t : Tid} (h : atP s t) : inSleep (s.pc t) = true := by
  rcases h with h | ⟨j, h⟩ <;> rw [h] <;> rfl

theorem seen_atP {s : State} {t : Tid} {i : Nat} (hr : Reachable s) (h : atP s t) : ¬ Seen s (s.pc t) (s.fr t) i := by
  have hl := linv_of_reachable hr t
  intro hs
  rcases h with h | ⟨j, h⟩ <;> rw [h] at hl hs <;>
    (rcases hs with h1 | h1
     · rw [hl.2] at h1; cases h1
     · exact h1)

/-- At the P, every record of the call whose `waiting` is 0 is accounted for: a token is available on the
    call's semaphore (counting and binary flavour), or the V is the next semaphore operation of a waker. -/
theorem C11_cleared_accounted {evs : List Event} {s : State} {t : Tid} {i : Nat} {r : Rid}
    (hrun : run init evs = .ok s) (hp : atP s t) (hr : (s.fr t).recs[i]? = some r)
    (hw : (s.rcd r).waiting = false) : Tok s (binSem evs) t ∨ InFlight s t := by
  have ti := (inv_of_run evs s hrun).2 t
  rcases ti.os (inSleep_of_atP hp) i r hr hw with h | h | h
  · exact .inl h
  · exact .inr h
  · exact absurd h (seen_atP ⟨evs, hrun⟩ hp)

/-- A caller asleep in the semaphore whose call has a record with `waiting = 0` has a token to consume, or a
    waker is about to post it. -/
theorem C11_no_oversleep_token {s : State} {t : Tid} {j : SemId} (hr : Reachable s) (hpc : s.pc t = .wPdWait j)
    (h : ∃ r ∈ (s.fr t).recs, (s.rcd r).waiting = false) :
    0 < s.sem j ∨ ∃ u r, s.post u = some r ∧ r ∈ (s.fr t).recs := by
  obtain ⟨evs, hrun⟩ := hr
  obtain ⟨r, hm, hw⟩ := h
  obtain ⟨i, hi⟩ := List.mem_iff_getElem?.1 hm
  rcases C11_cleared_accounted hrun (.inr ⟨j, hpc⟩) hi hw with ⟨j', hj', hpos, _⟩ | h
  · have := (inv_of_run evs s hrun).1.b3 t j hpc
    rw [hj'] at this; cases this
    exact .inl hpos
  · exact .inr h

/-- The P is never entered with a deadline that is not after time zero; the deadline is at most abs_deadline and
    at most the expiry of every note of the call (state form of `C11_sleep_deadline`). -/
theorem sleep_deadline_state {s : State} {t : Tid} (hr : Reachable s) (hp : atP s t) :
    dlePast (s.fr t).min = false ∧ dle (s.fr t).min (s.fr t).dl
    ∧ (∀ (i n : Nat), (s.fr t).objs[i]? = some (ObjId.note n) → dle (s.fr t).min (s.obj (.note n)).expiry)
    ∧ ((s.fr t).min = (s.fr t).dl
        ∨ ∃ k n : Nat, (s.fr t).objs[k]? = some (ObjId.note n) ∧ (s.fr t).min = (s.obj (.note n)).expiry) := by
  obtain ⟨evs, hrun⟩ := hr
  have hr : Reachable s := ⟨evs, hrun⟩
  have ti := (inv_of_run evs s hrun).2 t
  have hl := linv_of_reachable hr t
  have htf := tf_of_reachable hr t
  have key : dlePast (s.fr t).min = false ∧ scanned (s.pc t) (s.fr t) = some (s.fr t).count ∧ LoopF s (s.fr t) := by
    rcases hp with h | ⟨j, h⟩ <;> rw [h] at hl htf ⊢ <;> exact ⟨hl.2, rfl, htf.2⟩
  obtain ⟨hm, hsc, hlf⟩ := key
  obtain ⟨h1, h2⟩ := ti.sd _ hsc hm
  refine ⟨hm, h1, fun i n hn => h2 i n (lt_count_of_get hn) hn, ?_⟩
  cases hw : (s.fr t).who with
  | none => exact .inl (hlf.whoNone hw)
  | some k =>
    obtain ⟨n, hn, he⟩ := hlf.whoSome k hw hm
    exact .inr ⟨k, n, hn, he⟩

/-- Safety form of "it does not keep sleeping after one becomes ready" (disjuncts (A)–(E) of the header). -/
theorem C11_no_oversleep {evs : List Event} {s : State} {t : Tid} {i : Nat} {r : Rid}
    (hrun : run init evs = .ok s) (hp : atP s t) (hr : (s.fr t).recs[i]? = some r) (hrdy : becameReady s t i r) :
    Tok s (binSem evs) t
    ∨ InFlight s t
    ∨ (∃ u c l, wk (s.pc u) = some (c, l) ∧ r ∈ pend (s.post u) l)
    ∨ (∃ o u, (s.fr t).objs[i]? = some o ∧ o.isCv = false ∧ wakeable o (s.obj o) = true ∧ r ∈ (s.obj o).queue
          ∧ (s.obj o).lock = some u)
    ∨ expiredB (s.fr t).min s.now = true := by
  have hreach : Reachable s := ⟨evs, hrun⟩
  cases hw : (s.rcd r).waiting with
  | false =>
    rcases C11_cleared_accounted hrun hp hr hw with h | h
    · exact .inl h
    · exact .inr (.inl h)
  | true =>
    have hsl := inSleep_of_atP hp
    have hc := inCall_of_inSleep hsl
    have hil := inLoop_of_inSleep hsl (linv_of_reachable hreach t)
    have own := own_of_reachable hreach
    have q := (qinv_of_reachable hreach).qi
    have hlive := (own.own t r hc hil.frees (List.mem_of_getElem? hr)).1
    have hidx := own.idx t i r hc hil.frees hr
    rcases q.q3 r hlive hw with hq | hpend
    · -- still queued on its object
      unfold becameReady at hrdy
      rw [hidx] at hrdy
      have held : ∀ o, (s.rcd r).obj = o → o.isCv = false → wakeable o (s.obj o) = true →
          ∃ o u, (s.fr t).objs[i]? = some o ∧ o.isCv = false ∧ wakeable o (s.obj o) = true ∧ r ∈ (s.obj o).queue
            ∧ (s.obj o).lock = some u := by
        intro o ho hcv hwk
        rw [ho] at hq hidx
        have := q.q7 o hcv hwk (List.ne_nil_of_mem hq)
        cases hlk : (s.obj o).lock with
        | none => exact absurd hlk this
        | some u => exact ⟨o, u, hidx, hcv, hwk, hq, hlk⟩
      cases ho : (s.rcd r).obj with
      | cv c => rw [ho] at hrdy hq; exact absurd hq hrdy
      | ctr c =>
        rw [ho] at hrdy
        exact .inr (.inr (.inr (.inl (held _ ho rfl (by simpa [wakeable] using hrdy)))))
      | note n =>
        rw [ho] at hrdy hidx
        rcases hrdy with hfl | hex
        · exact .inr (.inr (.inr (.inl (held _ ho rfl (by simpa [wakeable] using hfl)))))
        · exact .inr (.inr (.inr (.inr (expiredB_of_dle ((sleep_deadline_state hreach hp).2.2.1 i n hidx) hex))))
    · exact .inr (.inr (.inl hpend))

/-- `pd_enter` of the P of wait.c:78 is accepted only with the deadline `min_ntime` of the preceding scan, which
    is after time zero, at most abs_deadline, at most the expiry of every note of the call, and equal to
    abs_deadline or to the expiry of one of the notes. -/
theorem C11_sleep_deadline {s s' : State} {t : Tid} {j : SemId} {d : Deadline} (hr : Reachable s)
    (hpc : s.pc t = .wPdEnter) (hs : step s (.thr t (.pdEnter j d)) = .ok s') :
    d = (s.fr t).min ∧ dlePast d = false ∧ dle d (s.fr t).dl
    ∧ (∀ (i n : Nat), (s.fr t).objs[i]? = some (ObjId.note n) → dle d (s.obj (.note n)).expiry)
    ∧ (d = (s.fr t).dl ∨ ∃ k n : Nat, (s.fr t).objs[k]? = some (ObjId.note n) ∧ d = (s.obj (.note n)).expiry) := by
  have hd : d = (s.fr t).min := by
    simp only [step, stepThr, hpc, stepPdEnter] at hs
    split at hs
    · assumption
    · simp at hs
  subst hd
  exact ⟨rfl, sleep_deadline_state hr (.inl hpc)⟩

/-- At the P, a cv record that is no longer on pcv->waiters has been unlinked by a signaller (ghost `unl`). -/
theorem C11_cv_unlinked_by_waker {s : State} {t : Tid} {i c : Nat} {r : Rid} (hreach : Reachable s) (hp : atP s t)
    (hr : (s.fr t).recs[i]? = some r) (ho : (s.fr t).objs[i]? = some (.cv c)) (hq : r ∉ (s.obj (.cv c)).queue) :
    (s.rcd r).unl = .waker := by
  have hsl := inSleep_of_atP hp
  have hil := inLoop_of_inSleep hsl (linv_of_reachable hreach t)
  refine (cv_rec_queued_or_woken hreach (inCall_of_inSleep hsl) hil.frees ?_ ?_ ?_ hr ho).resolve_left hq
  all_goals rcases hp with hp | ⟨j, hp⟩ <;> rw [hp] <;> simp [freshAt, dqIdx]

/-! ### non-vacuity, and the interleaving of defect F3 before and after the repair -/

namespace Example

def lock (t : Tid) (o : ObjId) : List Event := [.thr t (.lockCall o), .thr t .other, .thr t .lockRet]
def unlock (t : Tid) (o : ObjId) : List Event := [.thr t (.unlockCall o), .thr t .other, .thr t .unlockRet]
/-- nsync_note_notified_deadline_ on an un-notified note without deadline -/
def nd (t : Tid) (n : Nat) (now : Nat) : List Event :=
  [.thr t (.ld .acq (.notified n) .noteND 0)] ++ lock t (.note n) ++ [.thr t (.ld .acq (.notified n) .noteND 0)]
  ++ unlock t (.note n) ++ [.thr t (.now now)]
def ctrRT (t : Tid) (k : Nat) (w v : Nat) : List Event :=
  [.thr t (.st .rlx (.waited k) .ctrRT 1 w), .thr t (.ld .acq (.value k) .ctrRT v)]
def noteEnq (t : Tid) (n : Nat) (r : Rid) : List Event :=
  lock t (.note n) ++ [.thr t (.ld .acq (.notified n) .noteEnq 0), .thr t (.st .rlx (.waiting r) .noteEnq 1 0)]
  ++ unlock t (.note n)
def ctrEnq (t : Tid) (k : Nat) (r : Rid) (v : Nat) : List Event :=
  lock t (.ctr k) ++ [.thr t (.ld .acq (.value k) .ctrEnq v), .thr t (.st .rlx (.waiting r) .ctrEnq 1 0)]
  ++ unlock t (.ctr k)
def noteDeq (t : Tid) (n : Nat) (r : Rid) (now : Nat) : List Event :=
  nd t n now ++ lock t (.note n)
  ++ [.thr t (.ld .acq (.notified n) .noteDeq 0), .thr t (.st .rlx (.waiting r) .noteDeq 0 1)] ++ unlock t (.note n)
def ctrDeq0 (t : Tid) (k : Nat) (r : Rid) : List Event :=
  lock t (.ctr k) ++ [.thr t (.ld .acq (.value k) .ctrDeq 0), .thr t (.ld .acq (.waiting r) .ctrDeq 0)] ++ unlock t (.ctr k)
def spin (t : Tid) (c w : Nat) : List Event :=
  [.thr t (.ld .rlx (.cvWord c) .spin w), .thr t (.cas .acq (.cvWord c) .spin w (w + 1) w true)]
def cvEnq (t : Tid) (c : Nat) (r : Rid) : List Event :=
  [.thr t (.st .rlx (.waiting r) .waitN 0 9)] ++ spin t c 0
  ++ [.thr t (.st .rlx (.waiting r) .cvEnq 1 0), .thr t (.st .rel (.cvWord c) .cvEnq 2 1)]
def cvDeq1 (t : Tid) (c : Nat) (r : Rid) : List Event :=
  spin t c 2 ++ [.thr t (.ld .acq (.waiting r) .cvDeq 1), .thr t (.st .rlx (.waiting r) .cvDeq 0 1),
                 .thr t (.st .rel (.cvWord c) .cvDeq 0 3)]

/-- note 0 and counter 0 (value 1), no deadline; the counter reaches zero during the sleep; returns 1 -/
def noteCtr : List Event :=
  [.thr 9 (.newNote 0 none), .thr 9 (.newCtr 0 1), .thr 0 (.callWaitN none none [.note 0, .ctr 0] false)]
  ++ nd 0 0 0 ++ ctrRT 0 0 0 1
  ++ [.thr 0 (.st .rlx (.waiting (.stk 0)) .waitN 0 5)] ++ noteEnq 0 0 (.stk 0)
  ++ [.thr 0 (.st .rlx (.waiting (.stk 1)) .waitN 0 5)] ++ ctrEnq 0 0 (.stk 1) 1
  ++ nd 0 0 0 ++ ctrRT 0 0 1 1 ++ [.thr 0 (.pdEnter 3 none)]
  ++ lock 1 (.ctr 0) ++ [.thr 1 (.ld .rlx (.value 0) .other 1), .thr 1 (.cas .ar (.value 0) .other 1 0 1 true),
      .thr 1 (.st .rel (.waiting (.stk 1)) .other 0 1), .thr 1 (.semV 3)] ++ unlock 1 (.ctr 0)
  ++ [.thr 0 (.pdRet 3 false)] ++ nd 0 0 0 ++ ctrRT 0 0 1 0
  ++ noteDeq 0 0 (.stk 0) 0 ++ ctrDeq0 0 0 (.stk 1)

example : accepts (noteCtr ++ [.thr 0 (.retWaitN 1 false)]) = true := by decide
/-- the hypotheses of `C11_index_ready` are satisfiable (object 1 is a counter at zero) -/
example : (final noteCtr).map (fun s => decide (s.pc 0 = .wRet 1 ∧ (s.obj (.ctr 0)).value = 0 ∧ (s.fr 0).deqRes = [true, false]))
    = some true := by decide
/-- the same return with a wrong index is rejected -/
example : accepts (noteCtr ++ [.thr 0 (.retWaitN 0 false)]) = false := by decide

def five : List ObjId := [.cv 0, .cv 1, .cv 2, .cv 3, .cv 4]
/-- five condition variables (count > 4: heap array 7), mutex 0, deadline 500: times out, returns 5 -/
def heapTimeout : List Event :=
  [.thr 0 (.callWaitN (some 0) (some 500) five false), .thr 0 (.malloc (some 7))]
  ++ cvEnq 0 0 (.heap 7 0) ++ cvEnq 0 1 (.heap 7 1) ++ cvEnq 0 2 (.heap 7 2) ++ cvEnq 0 3 (.heap 7 3) ++ cvEnq 0 4 (.heap 7 4)
  ++ [.thr 0 (.annRel 0)]
  ++ [.thr 0 (.ld .acq (.waiting (.heap 7 0)) .cvRT 1), .thr 0 (.ld .acq (.waiting (.heap 7 1)) .cvRT 1),
      .thr 0 (.ld .acq (.waiting (.heap 7 2)) .cvRT 1), .thr 0 (.ld .acq (.waiting (.heap 7 3)) .cvRT 1),
      .thr 0 (.ld .acq (.waiting (.heap 7 4)) .cvRT 1), .thr 0 (.pdEnter 1 (some 500)), .tick 500, .thr 0 (.pdRet 1 true)]
  ++ cvDeq1 0 0 (.heap 7 0) ++ cvDeq1 0 1 (.heap 7 1) ++ cvDeq1 0 2 (.heap 7 2) ++ cvDeq1 0 3 (.heap 7 3) ++ cvDeq1 0 4 (.heap 7 4)
  ++ [.thr 0 (.free 7), .thr 0 (.annAcq 0)]

example : accepts (heapTimeout ++ [.thr 0 (.retWaitN 5 false)]) = true := by decide
/-- the hypotheses of `C11_timeout` / `C11_heap_path` / `C11_mutex` are satisfiable -/
example : (final heapTimeout).map (fun s => decide (s.pc 0 = .wRet 5 ∧ (s.fr 0).mallocs = 1 ∧ (s.fr 0).frees = 1
    ∧ (s.fr 0).held = true ∧ (s.fr 0).deqRes = [true, true, true, true, true] ∧ s.now = 500)) = some true := by decide
/-- a timeout reported before the deadline is rejected; so is a missing `free` -/
example : accepts ([.thr 0 (.callWaitN none (some 500) [.cv 0] false)] ++ cvEnq 0 0 (.stk 0)
  ++ [.thr 0 (.ld .acq (.waiting (.stk 0)) .cvRT 1), .thr 0 (.pdEnter 1 (some 500)), .tick 499, .thr 0 (.pdRet 1 true)]) = false := by
  decide
example : accepts (heapTimeout.dropLast.dropLast ++ [.thr 0 (.annAcq 0)]) = false := by decide

/-- one condition variable with mutex 0, no deadline; a signaller wakes the caller; returns 0 -/
def cvWoken : List Event :=
  [.thr 0 (.callWaitN (some 0) none [.cv 0] false)] ++ cvEnq 0 0 (.stk 4)
  ++ [.thr 0 (.annRel 0), .thr 0 (.ld .acq (.waiting (.stk 4)) .cvRT 1), .thr 0 (.pdEnter 2 none)]
  ++ [.thr 1 (.callSig 0 false), .thr 1 (.ld .acq (.cvWord 0) .sig 2)] ++ spin 1 0 2
  ++ [.thr 1 (.st .rel (.cvWord 0) .sig 0 3), .thr 1 (.st .rel (.waiting (.stk 4)) .wake 0 1), .thr 1 (.semV 2),
      .thr 1 (.retSig false)]
  ++ [.thr 0 (.pdRet 2 false), .thr 0 (.ld .acq (.waiting (.stk 4)) .cvRT 0)] ++ spin 0 0 0
  ++ [.thr 0 (.ld .acq (.waiting (.stk 4)) .cvDeq 0), .thr 0 (.st .rel (.cvWord 0) .cvDeq 0 1), .thr 0 (.annAcq 0)]

example : accepts (cvWoken ++ [.thr 0 (.retWaitN 0 false)]) = true := by decide
example : (final cvWoken).map (fun s => decide (s.pc 0 = .wRet 0 ∧ (s.rcd (.stk 4)).unl = .waker ∧ (s.fr 0).deqUnl = [.waker])) = some true := by
  decide

/-! #### the window of defect F3 -/

def r0 : Rid := .stk 0
/-- t: nsync_wait_n ([cv 0]) up to the sleep: init, cv_enqueue, one scan, pd_enter on sem j (cv word w before) -/
def cvSleep (t : Tid) (r : Rid) (dl : Deadline) (j : SemId) (w : Nat) : List Event :=
  [.thr t (.callWaitN none dl [.cv 0] false), .thr t (.st .rlx (.waiting r) .waitN 0 7)] ++ spin t 0 w
  ++ [.thr t (.st .rlx (.waiting r) .cvEnq 1 0), .thr t (.st .rel (.cvWord 0) .cvEnq 2 (w + 1)),
      .thr t (.ld .acq (.waiting r) .cvRT 1), .thr t (.pdEnter j dl)]
/-- u: nsync_cv_signal (cv 0) up to and including the unlink (spinlock released, `waiting` not yet cleared) -/
def sigUnlink (u : Tid) : List Event :=
  [.thr u (.callSig 0 false), .thr u (.ld .acq (.cvWord 0) .sig 2)] ++ spin u 0 2
  ++ [.thr u (.st .rel (.cvWord 0) .sig 0 3)]
/-- the caller's deadline expires inside the window; cv_dequeue takes the spinlock and reads `waiting == 1` -/
def window : List Event :=
  cvSleep 0 r0 (some 500) 0 0 ++ sigUnlink 1 ++ [.tick 500, .thr 0 (.pdRet 0 true)] ++ spin 0 0 0
  ++ [.thr 0 (.ld .acq (.waiting r0) .cvDeq 1)]
/-- the code before the repair: "remove" the record, report a timeout -/
def oldF3 : List Event :=
  window ++ [.thr 0 (.st .rlx (.waiting r0) .cvDeq 0 1)]
/-- the repaired code (the first execution of corpus/C13/f3_waitn_cv.txt): the record is not on
    pcv->waiters, release the spinlock, wait until the signaller has cleared `waiting`, return index 0;
    the signaller's V comes after the return and touches no record -/
def fixed : List Event :=
  window ++ [.thr 0 (.st .rel (.cvWord 0) .cvDeq 0 1), .thr 0 (.ld .acq (.waiting r0) .cvDeq 1),
             .thr 1 (.st .rel (.waiting r0) .wake 0 1), .thr 0 (.ld .acq (.waiting r0) .cvDeq 0)]

example : accepts window = true := by decide
example : accepts oldF3 = false := by decide
example : accepts (fixed ++ [.thr 0 (.retWaitN 0 false), .thr 1 (.semV 0), .thr 1 (.retSig false)]) = true := by decide
/-- … and it cannot report a timeout, nor return before the waker's store -/
example : accepts (fixed ++ [.thr 0 (.retWaitN 1 false)]) = false := by decide
example : accepts (fixed.dropLast.dropLast ++ [.thr 0 (.ld .acq (.waiting r0) .cvDeq 0)]) = false := by decide
example : (final fixed).map (fun s => decide (s.pc 0 = .wRet 0 ∧ (s.fr 0).deqUnl = [.waker] ∧ (s.rcd r0).live = true
    ∧ s.post 1 = some r0)) = some true := by decide

/-! #### no oversleep: each disjunct of `C11_no_oversleep` in an accepted trace -/

/-- t: nsync_wait_n ([cv 0]) up to the end of the first scan: the next event of t is the `pd_enter` of the P -/
def cvScan (t : Tid) (r : Rid) (dl : Deadline) (w : Nat) : List Event :=
  [.thr t (.callWaitN none dl [.cv 0] false), .thr t (.st .rlx (.waiting r) .waitN 0 7)] ++ spin t 0 w
  ++ [.thr t (.st .rlx (.waiting r) .cvEnq 1 0), .thr t (.st .rel (.cvWord 0) .cvEnq 2 (w + 1)),
      .thr t (.ld .acq (.waiting r) .cvRT 1)]

/-- the cv becomes ready for the caller BETWEEN its scan and its P.
    (C): a signaller has unlinked the record under the spinlock and not yet cleared `waiting` -/
def oversleepC : List Event := cvScan 0 r0 none 0 ++ sigUnlink 1
/-- (B): it has cleared `waiting`; its next semaphore operation is the V -/
def oversleepB : List Event := oversleepC ++ [.thr 1 (.st .rel (.waiting r0) .wake 0 1)]
/-- (A): the V is done before the caller's `pd_enter`: the token waits for the P -/
def oversleepA : List Event := oversleepB ++ [.thr 1 (.semV 5)]

example : (final oversleepC).map (fun s => decide (s.pc 0 = .wPdEnter ∧ (s.fr 0).recs = [r0] ∧ r0 ∉ (s.obj (.cv 0)).queue
    ∧ (s.rcd r0).waiting = true ∧ wk (s.pc 1) = some (0, [r0]) ∧ s.post 1 = none ∧ s.post 0 = none
    ∧ (s.fr 0).sem = none)) = some true := by decide
example : (final oversleepB).map (fun s => decide (s.pc 0 = .wPdEnter ∧ (s.rcd r0).waiting = false ∧ s.post 1 = some r0
    ∧ (s.fr 0).sem = none ∧ s.sem 5 = 0)) = some true := by decide
example : (final oversleepA).map (fun s => decide (s.pc 0 = .wPdEnter ∧ (s.fr 0).sem = some 5 ∧ s.sem 5 = 1 ∧ s.post 1 = none))
    = some true := by decide
example : binSem oversleepA 5 = true := by decide
/-- the P returns at once (no tick), the next scan sees `waiting == 0`, the loop is left -/
example : (final (oversleepA ++ [.thr 0 (.pdEnter 5 none), .thr 0 (.pdRet 5 false), .thr 0 (.ld .acq (.waiting r0) .cvRT 0)])).map
    (fun s => decide (s.pc 0 = .wDeqCv 0 (.spin .ld) ∧ (s.fr 0).why = .readyAt 0 ∧ s.now = 0)) = some true := by decide
/-- a P that returns 0 before the V is rejected, in (C) and in (B) -/
example : accepts (oversleepC ++ [.thr 0 (.pdEnter 5 none), .thr 0 (.pdRet 5 false)]) = false := by decide
example : accepts (oversleepB ++ [.thr 0 (.pdEnter 5 none), .thr 0 (.pdRet 5 false)]) = false := by decide
/-- flavours: a second V (here from foreign code) is absorbed by a binary semaphore; after the P the counting
    count is 1, the binary one 0, and the caller is scanning, not sleeping -/
example : binSem (oversleepA ++ [.thr 2 (.semV 5), .thr 0 (.pdEnter 5 none), .thr 0 (.pdRet 5 false)]) 5 = false := by decide
example : (final (oversleepA ++ [.thr 2 (.semV 5), .thr 0 (.pdEnter 5 none), .thr 0 (.pdRet 5 false)])).map
    (fun s => decide (s.sem 5 = 1 ∧ s.pc 0 = .wCvRT 0)) = some true := by decide

/-- t: nsync_wait_n ([note 0]) asleep in the P on semaphore 3 with deadline d (= the note's expiry `ex`, or none) -/
def noteSleep (ex d : Deadline) : List Event :=
  [.thr 9 (.newNote 0 ex), .thr 0 (.callWaitN none none [.note 0] false)] ++ nd 0 0 0
  ++ [.thr 0 (.st .rlx (.waiting (.stk 0)) .waitN 0 5)] ++ noteEnq 0 0 (.stk 0) ++ nd 0 0 0 ++ [.thr 0 (.pdEnter 3 d)]

/-- (D): the note is notified while the caller sleeps; the notifier holds note_mu and the record is still queued -/
def oversleepD : List Event := noteSleep none none ++ lock 1 (.note 0) ++ [.thr 1 (.st .rel (.notified 0) .notify 1 0)]

example : (final oversleepD).map (fun s => decide (s.pc 0 = .wPdWait 3 ∧ (s.obj (.note 0)).flag = true
    ∧ Rid.stk 0 ∈ (s.obj (.note 0)).queue ∧ (s.obj (.note 0)).lock = some 1 ∧ (s.rcd (.stk 0)).waiting = true
    ∧ s.sem 3 = 0 ∧ s.post 1 = none)) = some true := by decide
/-- the notifier cannot release note_mu before it has woken the caller -/
example : accepts (oversleepD ++ [.thr 1 (.unlockCall (.note 0))]) = false := by decide
/-- … it pops the record, posts, unlocks; the P returns, the scan reads `notified` and the loop is left -/
example : (final (oversleepD ++ [.thr 1 (.st .rel (.waiting (.stk 0)) .notify 0 1), .thr 1 (.semV 3)] ++ unlock 1 (.note 0)
    ++ [.thr 0 (.pdRet 3 false), .thr 0 (.ld .acq (.notified 0) .noteND 1)])).map
    (fun s => decide (s.pc 0 = .wND .deq 0 .ld0 ∧ (s.fr 0).why = .readyAt 0)) = some true := by decide

/-- (E): lazy expiry.  Nobody notifies the note; its deadline 500 passes while the caller sleeps: the P was
    called with that deadline (`C11_sleep_deadline`), so it times out -/
def oversleepE : List Event := noteSleep (some 500) (some 500) ++ [.tick 500]

example : (final oversleepE).map (fun s => decide (s.pc 0 = .wPdWait 3 ∧ (s.obj (.note 0)).flag = false
    ∧ expiredB (s.obj (.note 0)).expiry s.now = true ∧ (s.obj (.note 0)).lock = none ∧ s.sem 3 = 0
    ∧ (s.fr 0).min = some 500 ∧ expiredB (s.fr 0).min s.now = true)) = some true := by decide
example : accepts (oversleepE ++ [.thr 0 (.pdRet 3 true)]) = true := by decide
/-- the P of a call on a note with a deadline cannot be entered without that deadline -/
example : accepts (noteSleep (some 500) none) = false := by decide
example : accepts (noteSleep (some 500) (some 501)) = false := by decide

/-! the hypotheses of `C11_no_oversleep` are satisfiable in states where no token is available -/

example : ∃ s, run init oversleepC = .ok s ∧ atP s 0 ∧ (s.fr 0).recs[0]? = some r0 ∧ becameReady s 0 0 r0
    ∧ ¬ Tok s (binSem oversleepC) 0 := by
  obtain ⟨s, hs, hp⟩ := final_run (evs := oversleepC) (P := fun s => decide (s.pc 0 = .wPdEnter ∧ (s.fr 0).recs[0]? = some r0
    ∧ (s.fr 0).objs[0]? = some (ObjId.cv 0) ∧ r0 ∉ (s.obj (.cv 0)).queue ∧ (s.fr 0).sem = none)) (by decide)
  simp only [decide_eq_true_eq] at hp
  refine ⟨s, hs, .inl hp.1, hp.2.1, ?_, ?_⟩
  · unfold becameReady; rw [hp.2.2.1]; exact hp.2.2.2.1
  · rintro ⟨j, hj, _⟩; rw [hp.2.2.2.2] at hj; cases hj

example : ∃ s, run init oversleepD = .ok s ∧ atP s 0 ∧ (s.fr 0).recs[0]? = some (Rid.stk 0) ∧ becameReady s 0 0 (.stk 0)
    ∧ ¬ Tok s (binSem oversleepD) 0 := by
  obtain ⟨s, hs, hp⟩ := final_run (evs := oversleepD) (P := fun s => decide (s.pc 0 = .wPdWait 3 ∧ (s.fr 0).recs[0]? = some (Rid.stk 0)
    ∧ (s.fr 0).objs[0]? = some (ObjId.note 0) ∧ (s.obj (.note 0)).flag = true ∧ (s.fr 0).sem = some 3 ∧ s.sem 3 = 0)) (by decide)
  simp only [decide_eq_true_eq] at hp
  refine ⟨s, hs, .inr ⟨3, hp.1⟩, hp.2.1, ?_, ?_⟩
  · unfold becameReady; rw [hp.2.2.1]; exact .inl hp.2.2.2.1
  · rintro ⟨j, hj, hpos, _⟩
    rw [hp.2.2.2.2.1] at hj; cases hj
    rw [hp.2.2.2.2.2] at hpos; cases hpos

example : ∃ s, run init oversleepE = .ok s ∧ atP s 0 ∧ (s.fr 0).recs[0]? = some (Rid.stk 0) ∧ becameReady s 0 0 (.stk 0)
    ∧ ¬ Tok s (binSem oversleepE) 0 := by
  obtain ⟨s, hs, hp⟩ := final_run (evs := oversleepE) (P := fun s => decide (s.pc 0 = .wPdWait 3 ∧ (s.fr 0).recs[0]? = some (Rid.stk 0)
    ∧ (s.fr 0).objs[0]? = some (ObjId.note 0) ∧ expiredB (s.obj (.note 0)).expiry s.now = true ∧ (s.fr 0).sem = some 3
    ∧ s.sem 3 = 0)) (by decide)
  simp only [decide_eq_true_eq] at hp
  refine ⟨s, hs, .inr ⟨3, hp.1⟩, hp.2.1, ?_, ?_⟩
  · unfold becameReady; rw [hp.2.2.1]; exact .inr hp.2.2.2.1
  · rintro ⟨j, hj, hpos, _⟩
    rw [hp.2.2.2.2.1] at hj; cases hj
    rw [hp.2.2.2.2.2] at hpos; cases hpos

/-- … and those of `C11_sleep_deadline` -/
example : ∃ s, Reachable s ∧ s.pc 0 = .wPdEnter
    ∧ okB (step s (.thr 0 (.pdEnter 3 (some 500)))) = true ∧ okB (step s (.thr 0 (.pdEnter 3 none))) = false := by
  obtain ⟨s, hs, hp⟩ := final_spec (evs := (noteSleep (some 500) (some 500)).dropLast) (P := fun s => decide (s.pc 0 = .wPdEnter
    ∧ okB (step s (.thr 0 (.pdEnter 3 (some 500)))) = true ∧ okB (step s (.thr 0 (.pdEnter 3 none))) = false)) (by decide)
  simp only [decide_eq_true_eq] at hp
  exact ⟨s, hs, hp⟩

end Example

end WaitN
