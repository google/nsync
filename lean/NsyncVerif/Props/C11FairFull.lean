/-
  Props/C11FairFull.lean — property C11, LIVENESS form, at full strength: `C11_fair_termination_full` and
  `C11_fair_index_full` of Props/C11Fair.lean are proved here.

  Props/C11Fair.lean proves both statements with the hypothesis `FiniteWakeups x t` (the P of the caller returns 0 only
  finitely often) in place of `FiniteStrayPosts x` (from some time on a semaphore that belongs to an in-flight call is
  only posted by a waker that owes the post for a live record of that call).  The missing link is
  `C11_fair_finite_wakeups` (Proofs/WaitNFairCount.lean): for a call that never returns, `FiniteStrayPosts` implies
  `FiniteWakeups`.  Were the caller woken again and again, it would be in its sleep loop for ever with the same records
  and the same semaphore; the number of its records with `waiting` set cannot increase there, so it is eventually
  constant; from then on no record of the call is popped (a pop clears a `waiting` that was set: `SemA.post_cases` with `QI`), so nobody
  comes to owe a post for one of them; the finitely many threads that owe one (`post_support`) make it (`ower_posts`,
  weak fairness) and owe nothing afterwards; then nobody posts the call's semaphore any more (`FiniteStrayPosts`), its
  count does not go up (`SemA.up`) and every wake-up takes a token (`wake_dec`): contradiction.
-/
import NsyncVerif.Props.C11Fair
import NsyncVerif.Proofs.WaitNFairCount

namespace WaitN

/-- For a call that never returns, finitely many stray posts mean finitely many wake-ups. -/
theorem C11_fair_finite_wakeups {s0 : State} (x : Exec s0) (hr : Reachable s0) (hw : WeakFair x) (hl : LockFair x)
    (hf : ForeignRelease x) (hsp : FiniteStrayPosts x) (t : Tid) (i : Nat)
    (hni : ∀ j, i ≤ j → (x.ρ j).pc t ≠ .idle) : FiniteWakeups x t :=
  finiteWakeups_of_stray x ⟨hr, hw, hl, hf⟩ hsp t i hni

/-- FAIR TERMINATION, as stated: in every execution of the WaitN model from a reachable state that is weakly fair, in
    which the object locks are starvation free and foreign holders release them, the clock passes every deadline a
    sleeper waits for and stray posts stop, every nsync_wait_n call returns provided its abs_deadline is finite or one
    of its objects becomes ready for it while it is at the P. -/
theorem C11_fair_termination : C11_fair_termination_full := by
  intro s0 x hr hw hl hf hc hsp t i hin hprov
  apply Classical.byContradiction
  intro hno
  have hni : ∀ j, i ≤ j → (x.ρ j).pc t ≠ .idle := fun j hj h => hno ⟨j, hj, h⟩
  exact hno (C11_fair_termination_partial x hr hw hl hf hc t
    (C11_fair_finite_wakeups x hr hw hl hf hsp t i hni) i hin hprov)

/-- … and without abs_deadline it returns the index of a ready object, not `count`. -/
theorem C11_fair_index : C11_fair_index_full := by
  intro s0 x hr hw hl hf hc hsp t i hin hdl hrdy
  obtain ⟨j, hj, hidle⟩ := C11_fair_termination s0 x hr hw hl hf hc hsp t i hin (.inr hrdy)
  exact index_of_return x hr t i j hj hin hdl hidle

/-! ### non-vacuity: the full theorems applied to the concrete executions of Props/C11Fair.lean -/

/-- `timeoutExec` (case (a)): the sleeping caller of time 34 returns. -/
example : ∃ j, 34 ≤ j ∧ (timeoutExec.ρ j).pc 0 = .idle :=
  C11_fair_termination init timeoutExec timeout_hyps.1 timeout_hyps.2.1 timeout_hyps.2.2.1 timeout_hyps.2.2.2.1
    timeout_hyps.2.2.2.2.1 timeout_hyps.2.2.2.2.2.2 0 34 timeout_call.2.2.1 (.inl ⟨500, timeout_call.2.2.2⟩)

/-- `wokenExec` (case (b)): the counter has just reached zero at time 49, the caller is asleep without a token; it
    returns. -/
example : ∃ j, 49 ≤ j ∧ (wokenExec.ρ j).pc 0 = .idle :=
  C11_fair_termination init wokenExec woken_hyps.1 woken_hyps.2.1 woken_hyps.2.2.1 woken_hyps.2.2.2.1
    woken_hyps.2.2.2.2.1 woken_hyps.2.2.2.2.2.2 0 49 (by rw [woken_sleeps.2.2.2.2.2.2.1]; rfl)
    (.inr ⟨49, 1, .stk 1, Nat.le_refl _,
      fun j h1 h2 => by
        have : j = 49 := Nat.le_antisymm h2 h1
        subst this; rw [woken_sleeps.2.2.2.2.2.2.1]; simp,
      .inr ⟨3, woken_sleeps.2.2.2.2.2.2.1⟩, woken_call.2.2.1, woken_call.2.2.2⟩)

end WaitN
