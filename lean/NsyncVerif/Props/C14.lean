import NsyncVerif.Proofs.MuQStepFacts
/-!
# C14 — a blocked locker cannot be overtaken indefinitely

Model: `NsyncVerif.Model.MuQ`.  `LONG_WAIT_THRESHOLD = 30` is `longWaitThreshold`.

The mechanism, as proved (all statements for every reachable state / every accepted step):
* `C14_escalates`            a thread inside lock_slow that has been woken 30 times (or more) has its
                             local `long_wait = MU_LONG_WAIT` (and only such a thread has).
* `C14_sets_bit`             with that local set, every successful enqueue CAS sets MU_LONG_WAIT in
                             the word; `C14_requeue_front`: every enqueue after the first wake-up
                             (`wait_count ≥ 1`) puts the record at the FRONT of the queue, the first
                             one at the end.
* `C14_blocks_fresh`         while MU_LONG_WAIT is set, no step of a thread that has not itself waited
                             in this call (lock/rlock fast paths, trylock, rtrylock, lock_slow with
                             `clear = 0`) acquires; the same for MU_WRITER_WAITING and fresh READERS.
* `C14_cleared_only_by_long_waiter`
                             MU_LONG_WAIT is cleared ONLY by the acquiring CAS of lock_slow of a
                             thread whose `long_wait` local is set, i.e. one that has itself been
                             woken ≥ 30 times.  In particular `clear_on_release` of unlock_slow never
                             contains the bit (not even when the queue becomes empty), and no
                             release, fast path or try-lock clears it.
* `C14_woken_ignores_hints`  a thread that has been woken at least once is stopped only by real lock
                             conflicts (writer bit; reader count for a writer).

Precise finding: the comment in common.h:126-129 ("The thread that sets it clears it when it
acquires") is exact only with one long waiter.  With two, the first one to acquire clears the bit
for both; the second one sets it again at its next enqueue (`C14_sets_bit`), so the guarantee
"fresh threads cannot acquire ahead" holds from each enqueue of a long waiter until the next
acquisition by SOME long waiter.  No liveness defect follows (woken threads ignore the bit).
-/
namespace NsyncVerif.MuQ

/-- `wait_count` reaches the threshold exactly when the `long_wait` local is set. -/
theorem C14_escalates {cfg : Cfg} {s : State} {t : Tid} {c : SL} {ph : Phase}
    (hr : Reachable cfg s) (hro : role (s.pc t) = .slow c ph) :
    (longWaitThreshold ≤ c.wc → c.lwl = true) ∧ (c.lwl = true → longWaitThreshold ≤ c.wc) ∧
    (1 ≤ c.wc ↔ c.clear = true) ∧ c.ign = c.clear := by
  obtain ⟨⟨h1, h2, h3⟩, _, _⟩ := (reachable_inv hr).queue.slok t c ph hro
  exact ⟨h3.2, h3.1, h2.symm, h1⟩

/-- A long waiter's successful enqueue CAS sets MU_LONG_WAIT (and MU_WAITING, and the spinlock). -/
theorem C14_sets_bit {cfg : Cfg} {s s' : State} {t : Tid} {c : SL} {old : Word} {o : Ord} {loc : Loc}
    {exp new obs : Nat} (_hr : Reachable cfg s) (hp : s.pc t = .lsCasEnq c old)
    (h : step cfg s (.cas t o loc exp new obs true) = .ok s') :
    s'.word = enqWord c.l c.clear c.lwl old ∧ (c.lwl = true → s'.word.lw = true) ∧
      s'.word.waiting = true ∧ s'.pc t = .lsSt c := by
  have ht := tstep_of_step h rfl
  rw [hp] at ht
  cases ht
  exact ⟨rfl, fun hl => by simp [enqWord, hl], rfl, by simp [setPc]⟩

/-- The store that follows: first wait → END of the queue; every later wait → FRONT. -/
theorem C14_requeue_front {cfg : Cfg} {s s' : State} {t : Tid} {c : SL} {o : Ord} {loc : Loc} {new obs : Nat}
    (_hr : Reachable cfg s) (hp : s.pc t = .lsSt c) (h : step cfg s (.st t o loc new obs) = .ok s') :
    ∃ k, loc = .waiting k ∧ (1 ≤ c.wc → s'.queue = k :: s.queue) ∧ (c.wc = 0 → s'.queue = s.queue ++ [k]) := by
  have ht := tstep_of_step h rfl
  rw [hp] at ht
  cases ht <;> exact ⟨_, rfl, fun hw => if_neg (by omega), fun hw => if_pos hw⟩

/-- While MU_LONG_WAIT is set (or MU_WRITER_WAITING, for a reader), a thread that has not itself
    waited in this call does not acquire, whatever step it takes: the lock bits and their owners
    are unchanged and the thread's next program point owns no share.  It stays fresh, returns
    failure (try-locks) or has taken the spinlock to queue itself. -/
theorem C14_blocks_fresh {cfg : Cfg} {s s' : State} {e : Event} {t : Tid} (hr : Reachable cfg s)
    (hf : freshPc (s.pc t))
    (hbit : s.word.lw = true ∨ (acqMode (s.pc t) = some .R ∧ s.word.ww = true))
    (h : step cfg s e = .ok s') (he : e.tid = some t) :
    pcShare (s'.pc t) = none ∧ s'.wOwner = s.wOwner ∧ s'.rOwners = s.rOwners ∧
      s'.word.wlock = s.word.wlock ∧ s'.word.readers = s.word.readers ∧
      (freshPc (s'.pc t) ∨ s'.pc t = .tryRet .W false ∨ s'.pc t = .tryRet .R false ∨ ∃ c, s'.pc t = .lsSt c) :=
  fresh_blocked (reachable_side hr).1 hf hbit h he

/-- MU_LONG_WAIT is cleared only by the acquiring CAS (mu.c:69-71) of a thread that has itself been
    woken at least 30 times. -/
theorem C14_cleared_only_by_long_waiter {cfg : Cfg} {s s' : State} {e : Event} (hr : Reachable cfg s)
    (h : step cfg s e = .ok s') (h1 : s.word.lw = true) (h2 : s'.word.lw = false) :
    ∃ t c old o exp new obs, e = .cas t o .word exp new obs true ∧ s.pc t = .lsCasAcq c old ∧
      c.lwl = true ∧ longWaitThreshold ≤ c.wc ∧ s'.pc t = .lkRet c.l := by
  obtain ⟨t, c, old, o, exp, new, obs, e1, e2, e3, e4⟩ := lw_cleared_only_by h h1 h2
  have hro : role (s.pc t) = .slow c .pre := by rw [e2]; rfl
  exact ⟨t, c, old, o, exp, new, obs, e1, e2, e3, (C14_escalates hr hro).2.1 e3, e4⟩

/-- A thread that has been woken at least once ignores the hint bits: at its next load of the
    word it proceeds to the acquiring CAS unless the writer bit is set (or, for a writer, the
    reader count is non-zero). -/
theorem C14_woken_ignores_hints {cfg : Cfg} {s s' : State} {t : Tid} {c : SL} {o : Ord} {loc : Loc} {obs : Nat}
    (hr : Reachable cfg s) (hp : s.pc t = .lsLd c) (hc : c.clear = true)
    (h : step cfg s (.ld t o loc obs) = .ok s') :
    (∀ w, blocked c.l c.ign w = (w.wlock || (c.l == .W && w.readers != 0))) ∧
    (s.word.wlock = false → (c.l = .W → s.word.readers = 0) → s'.pc t = .lsCasAcq c s.word) := by
  have hkt := (reachable_side hr).1 t; simp only [hp, PC.ok] at hkt
  have hign : c.ign = true := by rw [hkt.1.1]; exact hc
  have hbl : ∀ w, blocked c.l c.ign w = (w.wlock || (c.l == .W && w.readers != 0)) := fun w => by
    rw [hign]; cases c.l <;> simp [blocked]
  refine ⟨hbl, fun h1 h2 => ?_⟩
  have hb : blocked c.l c.ign s.word = false := by
    rw [hbl, h1]
    cases hl : c.l with
    | W => simp [h2 hl]
    | R => simp
  have ht := tstep_of_step h rfl
  rw [hp] at ht
  cases ht
  case lsLdAcq => simp [setPc]
  all_goals exact nomatch hb.symm.trans ‹blocked c.l c.ign s.word = true›

/-! ## non-vacuity: a real execution in which the victim is woken 30 times and loses every race -/

def accepts14 (cfg : Cfg) (evs : List Event) : Bool :=
  match run cfg init evs with
  | .ok _ => true
  | .error _ => false

def checkAfter14 (cfg : Cfg) (evs : List Event) (f : State → Bool) : Bool :=
  match run cfg init evs with
  | .ok s => f s
  | .error _ => false

/-- Harness log (scripted schedule) of the UNMODIFIED library: fiber 0 (victim, record w0) queues
    behind fiber 1; 30 times a holder unlocks (waking w0) and the other fiber barges in before the
    victim runs; the victim wakes, loses, re-queues at the front.  At the 30th wake-up its
    `long_wait` local is set (event 788), its enqueue CAS writes MU_LONG_WAIT (9 → 103, event 790);
    the next barging fiber 2 finds the mutex FREE (word 72 = MU_LONG_WAIT|MU_DESIG_WAKER), is stopped
    by the bit and queues itself (event 811); the victim acquires and clears the bit (108 → 5). -/
def traceStarve : List Event := [
  .call 1 .lock,
  .cas 1 .acq .word 0 1 0 true,
  .ret 1 .lock none,
  .call 1 .unlock,
  .call 0 .lock,
  .cas 0 .acq .word 0 1 1 false,
  .ld 0 .rlx .word 1,
  .ld 0 .rlx .word 1,
  .cas 0 .acq .word 1 39 1 true,
  .st 0 .rlx (.waiting 0) 1 0,
  .ld 0 .rlx .word 39,
  .cas 0 .rel .word 39 37 39 true,
  .ld 0 .acq (.waiting 0) 1,
  .semPEnter 0 0,
  .cas 1 .rel .word 1 0 37 false,
  .ld 1 .rlx .word 37,
  .ld 1 .rlx .word 37,
  .cas 1 .ar .word 37 46 37 true,
  .ld 1 .rlx (.rc 0) 0,
  .cas 1 .rlx (.rc 0) 0 1 0 true,
  .ld 1 .rlx .word 46,
  .cas 1 .rel .word 46 8 46 true,
  .st 1 .rel (.waiting 0) 0 1,
  .semV 1 0,
  .ret 1 .unlock none,
  .call 1 .lock,
  .call 2 .lock,
  .cas 2 .acq .word 0 1 8 false,
  .ld 2 .rlx .word 8,
  .cas 2 .acq .word 8 9 8 true,
  .ret 2 .lock none,
  .call 2 .unlock,
  .semPRet 0 0,
  .ld 0 .acq (.waiting 0) 0,
  .ld 0 .rlx .word 9,
  .cas 0 .acq .word 9 39 9 true,
  .st 0 .rlx (.waiting 0) 1 0,
  .ld 0 .rlx .word 39,
  .cas 0 .rel .word 39 37 39 true,
  .ld 0 .acq (.waiting 0) 1,
  .semPEnter 0 0,
  .cas 2 .rel .word 1 0 37 false,
  .ld 2 .rlx .word 37,
  .ld 2 .rlx .word 37,
  .cas 2 .ar .word 37 46 37 true,
  .ld 2 .rlx (.rc 0) 1,
  .cas 2 .rlx (.rc 0) 1 2 1 true,
  .ld 2 .rlx .word 46,
  .cas 2 .rel .word 46 8 46 true,
  .st 2 .rel (.waiting 0) 0 1,
  .semV 2 0,
  .ret 2 .unlock none,
  .call 2 .lock,
  .cas 1 .acq .word 0 1 8 false,
  .ld 1 .rlx .word 8,
  .cas 1 .acq .word 8 9 8 true,
  .ret 1 .lock none,
  .call 1 .unlock,
  .semPRet 0 0,
  .ld 0 .acq (.waiting 0) 0,
  .ld 0 .rlx .word 9,
  .cas 0 .acq .word 9 39 9 true,
  .st 0 .rlx (.waiting 0) 1 0,
  .ld 0 .rlx .word 39,
  .cas 0 .rel .word 39 37 39 true,
  .ld 0 .acq (.waiting 0) 1,
  .semPEnter 0 0,
  .cas 1 .rel .word 1 0 37 false,
  .ld 1 .rlx .word 37,
  .ld 1 .rlx .word 37,
  .cas 1 .ar .word 37 46 37 true,
  .ld 1 .rlx (.rc 0) 2,
  .cas 1 .rlx (.rc 0) 2 3 2 true,
  .ld 1 .rlx .word 46,
  .cas 1 .rel .word 46 8 46 true,
  .st 1 .rel (.waiting 0) 0 1,
  .semV 1 0,
  .ret 1 .unlock none,
  .call 1 .lock,
  .cas 2 .acq .word 0 1 8 false,
  .ld 2 .rlx .word 8,
  .cas 2 .acq .word 8 9 8 true,
  .ret 2 .lock none,
  .call 2 .unlock,
  .semPRet 0 0,
  .ld 0 .acq (.waiting 0) 0,
  .ld 0 .rlx .word 9,
  .cas 0 .acq .word 9 39 9 true,
  .st 0 .rlx (.waiting 0) 1 0,
  .ld 0 .rlx .word 39,
  .cas 0 .rel .word 39 37 39 true,
  .ld 0 .acq (.waiting 0) 1,
  .semPEnter 0 0,
  .cas 2 .rel .word 1 0 37 false,
  .ld 2 .rlx .word 37,
  .ld 2 .rlx .word 37,
  .cas 2 .ar .word 37 46 37 true,
  .ld 2 .rlx (.rc 0) 3,
  .cas 2 .rlx (.rc 0) 3 4 3 true,
  .ld 2 .rlx .word 46,
  .cas 2 .rel .word 46 8 46 true,
  .st 2 .rel (.waiting 0) 0 1,
  .semV 2 0,
  .ret 2 .unlock none,
  .call 2 .lock,
  .cas 1 .acq .word 0 1 8 false,
  .ld 1 .rlx .word 8,
  .cas 1 .acq .word 8 9 8 true,
  .ret 1 .lock none,
  .call 1 .unlock,
  .semPRet 0 0,
  .ld 0 .acq (.waiting 0) 0,
  .ld 0 .rlx .word 9,
  .cas 0 .acq .word 9 39 9 true,
  .st 0 .rlx (.waiting 0) 1 0,
  .ld 0 .rlx .word 39,
  .cas 0 .rel .word 39 37 39 true,
  .ld 0 .acq (.waiting 0) 1,
  .semPEnter 0 0,
  .cas 1 .rel .word 1 0 37 false,
  .ld 1 .rlx .word 37,
  .ld 1 .rlx .word 37,
  .cas 1 .ar .word 37 46 37 true,
  .ld 1 .rlx (.rc 0) 4,
  .cas 1 .rlx (.rc 0) 4 5 4 true,
  .ld 1 .rlx .word 46,
  .cas 1 .rel .word 46 8 46 true,
  .st 1 .rel (.waiting 0) 0 1,
  .semV 1 0,
  .ret 1 .unlock none,
  .call 1 .lock,
  .cas 2 .acq .word 0 1 8 false,
  .ld 2 .rlx .word 8,
  .cas 2 .acq .word 8 9 8 true,
  .ret 2 .lock none,
  .call 2 .unlock,
  .semPRet 0 0,
  .ld 0 .acq (.waiting 0) 0,
  .ld 0 .rlx .word 9,
  .cas 0 .acq .word 9 39 9 true,
  .st 0 .rlx (.waiting 0) 1 0,
  .ld 0 .rlx .word 39,
  .cas 0 .rel .word 39 37 39 true,
  .ld 0 .acq (.waiting 0) 1,
  .semPEnter 0 0,
  .cas 2 .rel .word 1 0 37 false,
  .ld 2 .rlx .word 37,
  .ld 2 .rlx .word 37,
  .cas 2 .ar .word 37 46 37 true,
  .ld 2 .rlx (.rc 0) 5,
  .cas 2 .rlx (.rc 0) 5 6 5 true,
  .ld 2 .rlx .word 46,
  .cas 2 .rel .word 46 8 46 true,
  .st 2 .rel (.waiting 0) 0 1,
  .semV 2 0,
  .ret 2 .unlock none,
  .call 2 .lock,
  .cas 1 .acq .word 0 1 8 false,
  .ld 1 .rlx .word 8,
  .cas 1 .acq .word 8 9 8 true,
  .ret 1 .lock none,
  .call 1 .unlock,
  .semPRet 0 0,
  .ld 0 .acq (.waiting 0) 0,
  .ld 0 .rlx .word 9,
  .cas 0 .acq .word 9 39 9 true,
  .st 0 .rlx (.waiting 0) 1 0,
  .ld 0 .rlx .word 39,
  .cas 0 .rel .word 39 37 39 true,
  .ld 0 .acq (.waiting 0) 1,
  .semPEnter 0 0,
  .cas 1 .rel .word 1 0 37 false,
  .ld 1 .rlx .word 37,
  .ld 1 .rlx .word 37,
  .cas 1 .ar .word 37 46 37 true,
  .ld 1 .rlx (.rc 0) 6,
  .cas 1 .rlx (.rc 0) 6 7 6 true,
  .ld 1 .rlx .word 46,
  .cas 1 .rel .word 46 8 46 true,
  .st 1 .rel (.waiting 0) 0 1,
  .semV 1 0,
  .ret 1 .unlock none,
  .call 1 .lock,
  .cas 2 .acq .word 0 1 8 false,
  .ld 2 .rlx .word 8,
  .cas 2 .acq .word 8 9 8 true,
  .ret 2 .lock none,
  .call 2 .unlock,
  .semPRet 0 0,
  .ld 0 .acq (.waiting 0) 0,
  .ld 0 .rlx .word 9,
  .cas 0 .acq .word 9 39 9 true,
  .st 0 .rlx (.waiting 0) 1 0,
  .ld 0 .rlx .word 39,
  .cas 0 .rel .word 39 37 39 true,
  .ld 0 .acq (.waiting 0) 1,
  .semPEnter 0 0,
  .cas 2 .rel .word 1 0 37 false,
  .ld 2 .rlx .word 37,
  .ld 2 .rlx .word 37,
  .cas 2 .ar .word 37 46 37 true,
  .ld 2 .rlx (.rc 0) 7,
  .cas 2 .rlx (.rc 0) 7 8 7 true,
  .ld 2 .rlx .word 46,
  .cas 2 .rel .word 46 8 46 true,
  .st 2 .rel (.waiting 0) 0 1,
  .semV 2 0,
  .ret 2 .unlock none,
  .call 2 .lock,
  .cas 1 .acq .word 0 1 8 false,
  .ld 1 .rlx .word 8,
  .cas 1 .acq .word 8 9 8 true,
  .ret 1 .lock none,
  .call 1 .unlock,
  .semPRet 0 0,
  .ld 0 .acq (.waiting 0) 0,
  .ld 0 .rlx .word 9,
  .cas 0 .acq .word 9 39 9 true,
  .st 0 .rlx (.waiting 0) 1 0,
  .ld 0 .rlx .word 39,
  .cas 0 .rel .word 39 37 39 true,
  .ld 0 .acq (.waiting 0) 1,
  .semPEnter 0 0,
  .cas 1 .rel .word 1 0 37 false,
  .ld 1 .rlx .word 37,
  .ld 1 .rlx .word 37,
  .cas 1 .ar .word 37 46 37 true,
  .ld 1 .rlx (.rc 0) 8,
  .cas 1 .rlx (.rc 0) 8 9 8 true,
  .ld 1 .rlx .word 46,
  .cas 1 .rel .word 46 8 46 true,
  .st 1 .rel (.waiting 0) 0 1,
  .semV 1 0,
  .ret 1 .unlock none,
  .call 1 .lock,
  .cas 2 .acq .word 0 1 8 false,
  .ld 2 .rlx .word 8,
  .cas 2 .acq .word 8 9 8 true,
  .ret 2 .lock none,
  .call 2 .unlock,
  .semPRet 0 0,
  .ld 0 .acq (.waiting 0) 0,
  .ld 0 .rlx .word 9,
  .cas 0 .acq .word 9 39 9 true,
  .st 0 .rlx (.waiting 0) 1 0,
  .ld 0 .rlx .word 39,
  .cas 0 .rel .word 39 37 39 true,
  .ld 0 .acq (.waiting 0) 1,
  .semPEnter 0 0,
  .cas 2 .rel .word 1 0 37 false,
  .ld 2 .rlx .word 37,
  .ld 2 .rlx .word 37,
  .cas 2 .ar .word 37 46 37 true,
  .ld 2 .rlx (.rc 0) 9,
  .cas 2 .rlx (.rc 0) 9 10 9 true,
  .ld 2 .rlx .word 46,
  .cas 2 .rel .word 46 8 46 true,
  .st 2 .rel (.waiting 0) 0 1,
  .semV 2 0,
  .ret 2 .unlock none,
  .call 2 .lock,
  .cas 1 .acq .word 0 1 8 false,
  .ld 1 .rlx .word 8,
  .cas 1 .acq .word 8 9 8 true,
  .ret 1 .lock none,
  .call 1 .unlock,
  .semPRet 0 0,
  .ld 0 .acq (.waiting 0) 0,
  .ld 0 .rlx .word 9,
  .cas 0 .acq .word 9 39 9 true,
  .st 0 .rlx (.waiting 0) 1 0,
  .ld 0 .rlx .word 39,
  .cas 0 .rel .word 39 37 39 true,
  .ld 0 .acq (.waiting 0) 1,
  .semPEnter 0 0,
  .cas 1 .rel .word 1 0 37 false,
  .ld 1 .rlx .word 37,
  .ld 1 .rlx .word 37,
  .cas 1 .ar .word 37 46 37 true,
  .ld 1 .rlx (.rc 0) 10,
  .cas 1 .rlx (.rc 0) 10 11 10 true,
  .ld 1 .rlx .word 46,
  .cas 1 .rel .word 46 8 46 true,
  .st 1 .rel (.waiting 0) 0 1,
  .semV 1 0,
  .ret 1 .unlock none,
  .call 1 .lock,
  .cas 2 .acq .word 0 1 8 false,
  .ld 2 .rlx .word 8,
  .cas 2 .acq .word 8 9 8 true,
  .ret 2 .lock none,
  .call 2 .unlock,
  .semPRet 0 0,
  .ld 0 .acq (.waiting 0) 0,
  .ld 0 .rlx .word 9,
  .cas 0 .acq .word 9 39 9 true,
  .st 0 .rlx (.waiting 0) 1 0,
  .ld 0 .rlx .word 39,
  .cas 0 .rel .word 39 37 39 true,
  .ld 0 .acq (.waiting 0) 1,
  .semPEnter 0 0,
  .cas 2 .rel .word 1 0 37 false,
  .ld 2 .rlx .word 37,
  .ld 2 .rlx .word 37,
  .cas 2 .ar .word 37 46 37 true,
  .ld 2 .rlx (.rc 0) 11,
  .cas 2 .rlx (.rc 0) 11 12 11 true,
  .ld 2 .rlx .word 46,
  .cas 2 .rel .word 46 8 46 true,
  .st 2 .rel (.waiting 0) 0 1,
  .semV 2 0,
  .ret 2 .unlock none,
  .call 2 .lock,
  .cas 1 .acq .word 0 1 8 false,
  .ld 1 .rlx .word 8,
  .cas 1 .acq .word 8 9 8 true,
  .ret 1 .lock none,
  .call 1 .unlock,
  .semPRet 0 0,
  .ld 0 .acq (.waiting 0) 0,
  .ld 0 .rlx .word 9,
  .cas 0 .acq .word 9 39 9 true,
  .st 0 .rlx (.waiting 0) 1 0,
  .ld 0 .rlx .word 39,
  .cas 0 .rel .word 39 37 39 true,
  .ld 0 .acq (.waiting 0) 1,
  .semPEnter 0 0,
  .cas 1 .rel .word 1 0 37 false,
  .ld 1 .rlx .word 37,
  .ld 1 .rlx .word 37,
  .cas 1 .ar .word 37 46 37 true,
  .ld 1 .rlx (.rc 0) 12,
  .cas 1 .rlx (.rc 0) 12 13 12 true,
  .ld 1 .rlx .word 46,
  .cas 1 .rel .word 46 8 46 true,
  .st 1 .rel (.waiting 0) 0 1,
  .semV 1 0,
  .ret 1 .unlock none,
  .call 1 .lock,
  .cas 2 .acq .word 0 1 8 false,
  .ld 2 .rlx .word 8,
  .cas 2 .acq .word 8 9 8 true,
  .ret 2 .lock none,
  .call 2 .unlock,
  .semPRet 0 0,
  .ld 0 .acq (.waiting 0) 0,
  .ld 0 .rlx .word 9,
  .cas 0 .acq .word 9 39 9 true,
  .st 0 .rlx (.waiting 0) 1 0,
  .ld 0 .rlx .word 39,
  .cas 0 .rel .word 39 37 39 true,
  .ld 0 .acq (.waiting 0) 1,
  .semPEnter 0 0,
  .cas 2 .rel .word 1 0 37 false,
  .ld 2 .rlx .word 37,
  .ld 2 .rlx .word 37,
  .cas 2 .ar .word 37 46 37 true,
  .ld 2 .rlx (.rc 0) 13,
  .cas 2 .rlx (.rc 0) 13 14 13 true,
  .ld 2 .rlx .word 46,
  .cas 2 .rel .word 46 8 46 true,
  .st 2 .rel (.waiting 0) 0 1,
  .semV 2 0,
  .ret 2 .unlock none,
  .call 2 .lock,
  .cas 1 .acq .word 0 1 8 false,
  .ld 1 .rlx .word 8,
  .cas 1 .acq .word 8 9 8 true,
  .ret 1 .lock none,
  .call 1 .unlock,
  .semPRet 0 0,
  .ld 0 .acq (.waiting 0) 0,
  .ld 0 .rlx .word 9,
  .cas 0 .acq .word 9 39 9 true,
  .st 0 .rlx (.waiting 0) 1 0,
  .ld 0 .rlx .word 39,
  .cas 0 .rel .word 39 37 39 true,
  .ld 0 .acq (.waiting 0) 1,
  .semPEnter 0 0,
  .cas 1 .rel .word 1 0 37 false,
  .ld 1 .rlx .word 37,
  .ld 1 .rlx .word 37,
  .cas 1 .ar .word 37 46 37 true,
  .ld 1 .rlx (.rc 0) 14,
  .cas 1 .rlx (.rc 0) 14 15 14 true,
  .ld 1 .rlx .word 46,
  .cas 1 .rel .word 46 8 46 true,
  .st 1 .rel (.waiting 0) 0 1,
  .semV 1 0,
  .ret 1 .unlock none,
  .call 1 .lock,
  .cas 2 .acq .word 0 1 8 false,
  .ld 2 .rlx .word 8,
  .cas 2 .acq .word 8 9 8 true,
  .ret 2 .lock none,
  .call 2 .unlock,
  .semPRet 0 0,
  .ld 0 .acq (.waiting 0) 0,
  .ld 0 .rlx .word 9,
  .cas 0 .acq .word 9 39 9 true,
  .st 0 .rlx (.waiting 0) 1 0,
  .ld 0 .rlx .word 39,
  .cas 0 .rel .word 39 37 39 true,
  .ld 0 .acq (.waiting 0) 1,
  .semPEnter 0 0,
  .cas 2 .rel .word 1 0 37 false,
  .ld 2 .rlx .word 37,
  .ld 2 .rlx .word 37,
  .cas 2 .ar .word 37 46 37 true,
  .ld 2 .rlx (.rc 0) 15,
  .cas 2 .rlx (.rc 0) 15 16 15 true,
  .ld 2 .rlx .word 46,
  .cas 2 .rel .word 46 8 46 true,
  .st 2 .rel (.waiting 0) 0 1,
  .semV 2 0,
  .ret 2 .unlock none,
  .call 2 .lock,
  .cas 1 .acq .word 0 1 8 false,
  .ld 1 .rlx .word 8,
  .cas 1 .acq .word 8 9 8 true,
  .ret 1 .lock none,
  .call 1 .unlock,
  .semPRet 0 0,
  .ld 0 .acq (.waiting 0) 0,
  .ld 0 .rlx .word 9,
  .cas 0 .acq .word 9 39 9 true,
  .st 0 .rlx (.waiting 0) 1 0,
  .ld 0 .rlx .word 39,
  .cas 0 .rel .word 39 37 39 true,
  .ld 0 .acq (.waiting 0) 1,
  .semPEnter 0 0,
  .cas 1 .rel .word 1 0 37 false,
  .ld 1 .rlx .word 37,
  .ld 1 .rlx .word 37,
  .cas 1 .ar .word 37 46 37 true,
  .ld 1 .rlx (.rc 0) 16,
  .cas 1 .rlx (.rc 0) 16 17 16 true,
  .ld 1 .rlx .word 46,
  .cas 1 .rel .word 46 8 46 true,
  .st 1 .rel (.waiting 0) 0 1,
  .semV 1 0,
  .ret 1 .unlock none,
  .call 1 .lock,
  .cas 2 .acq .word 0 1 8 false,
  .ld 2 .rlx .word 8,
  .cas 2 .acq .word 8 9 8 true,
  .ret 2 .lock none,
  .call 2 .unlock,
  .semPRet 0 0,
  .ld 0 .acq (.waiting 0) 0,
  .ld 0 .rlx .word 9,
  .cas 0 .acq .word 9 39 9 true,
  .st 0 .rlx (.waiting 0) 1 0,
  .ld 0 .rlx .word 39,
  .cas 0 .rel .word 39 37 39 true,
  .ld 0 .acq (.waiting 0) 1,
  .semPEnter 0 0,
  .cas 2 .rel .word 1 0 37 false,
  .ld 2 .rlx .word 37,
  .ld 2 .rlx .word 37,
  .cas 2 .ar .word 37 46 37 true,
  .ld 2 .rlx (.rc 0) 17,
  .cas 2 .rlx (.rc 0) 17 18 17 true,
  .ld 2 .rlx .word 46,
  .cas 2 .rel .word 46 8 46 true,
  .st 2 .rel (.waiting 0) 0 1,
  .semV 2 0,
  .ret 2 .unlock none,
  .call 2 .lock,
  .cas 1 .acq .word 0 1 8 false,
  .ld 1 .rlx .word 8,
  .cas 1 .acq .word 8 9 8 true,
  .ret 1 .lock none,
  .call 1 .unlock,
  .semPRet 0 0,
  .ld 0 .acq (.waiting 0) 0,
  .ld 0 .rlx .word 9,
  .cas 0 .acq .word 9 39 9 true,
  .st 0 .rlx (.waiting 0) 1 0,
  .ld 0 .rlx .word 39,
  .cas 0 .rel .word 39 37 39 true,
  .ld 0 .acq (.waiting 0) 1,
  .semPEnter 0 0,
  .cas 1 .rel .word 1 0 37 false,
  .ld 1 .rlx .word 37,
  .ld 1 .rlx .word 37,
  .cas 1 .ar .word 37 46 37 true,
  .ld 1 .rlx (.rc 0) 18,
  .cas 1 .rlx (.rc 0) 18 19 18 true,
  .ld 1 .rlx .word 46,
  .cas 1 .rel .word 46 8 46 true,
  .st 1 .rel (.waiting 0) 0 1,
  .semV 1 0,
  .ret 1 .unlock none,
  .call 1 .lock,
  .cas 2 .acq .word 0 1 8 false,
  .ld 2 .rlx .word 8,
  .cas 2 .acq .word 8 9 8 true,
  .ret 2 .lock none,
  .call 2 .unlock,
  .semPRet 0 0,
  .ld 0 .acq (.waiting 0) 0,
  .ld 0 .rlx .word 9,
  .cas 0 .acq .word 9 39 9 true,
  .st 0 .rlx (.waiting 0) 1 0,
  .ld 0 .rlx .word 39,
  .cas 0 .rel .word 39 37 39 true,
  .ld 0 .acq (.waiting 0) 1,
  .semPEnter 0 0,
  .cas 2 .rel .word 1 0 37 false,
  .ld 2 .rlx .word 37,
  .ld 2 .rlx .word 37,
  .cas 2 .ar .word 37 46 37 true,
  .ld 2 .rlx (.rc 0) 19,
  .cas 2 .rlx (.rc 0) 19 20 19 true,
  .ld 2 .rlx .word 46,
  .cas 2 .rel .word 46 8 46 true,
  .st 2 .rel (.waiting 0) 0 1,
  .semV 2 0,
  .ret 2 .unlock none,
  .call 2 .lock,
  .cas 1 .acq .word 0 1 8 false,
  .ld 1 .rlx .word 8,
  .cas 1 .acq .word 8 9 8 true,
  .ret 1 .lock none,
  .call 1 .unlock,
  .semPRet 0 0,
  .ld 0 .acq (.waiting 0) 0,
  .ld 0 .rlx .word 9,
  .cas 0 .acq .word 9 39 9 true,
  .st 0 .rlx (.waiting 0) 1 0,
  .ld 0 .rlx .word 39,
  .cas 0 .rel .word 39 37 39 true,
  .ld 0 .acq (.waiting 0) 1,
  .semPEnter 0 0,
  .cas 1 .rel .word 1 0 37 false,
  .ld 1 .rlx .word 37,
  .ld 1 .rlx .word 37,
  .cas 1 .ar .word 37 46 37 true,
  .ld 1 .rlx (.rc 0) 20,
  .cas 1 .rlx (.rc 0) 20 21 20 true,
  .ld 1 .rlx .word 46,
  .cas 1 .rel .word 46 8 46 true,
  .st 1 .rel (.waiting 0) 0 1,
  .semV 1 0,
  .ret 1 .unlock none,
  .call 1 .lock,
  .cas 2 .acq .word 0 1 8 false,
  .ld 2 .rlx .word 8,
  .cas 2 .acq .word 8 9 8 true,
  .ret 2 .lock none,
  .call 2 .unlock,
  .semPRet 0 0,
  .ld 0 .acq (.waiting 0) 0,
  .ld 0 .rlx .word 9,
  .cas 0 .acq .word 9 39 9 true,
  .st 0 .rlx (.waiting 0) 1 0,
  .ld 0 .rlx .word 39,
  .cas 0 .rel .word 39 37 39 true,
  .ld 0 .acq (.waiting 0) 1,
  .semPEnter 0 0,
  .cas 2 .rel .word 1 0 37 false,
  .ld 2 .rlx .word 37,
  .ld 2 .rlx .word 37,
  .cas 2 .ar .word 37 46 37 true,
  .ld 2 .rlx (.rc 0) 21,
  .cas 2 .rlx (.rc 0) 21 22 21 true,
  .ld 2 .rlx .word 46,
  .cas 2 .rel .word 46 8 46 true,
  .st 2 .rel (.waiting 0) 0 1,
  .semV 2 0,
  .ret 2 .unlock none,
  .call 2 .lock,
  .cas 1 .acq .word 0 1 8 false,
  .ld 1 .rlx .word 8,
  .cas 1 .acq .word 8 9 8 true,
  .ret 1 .lock none,
  .call 1 .unlock,
  .semPRet 0 0,
  .ld 0 .acq (.waiting 0) 0,
  .ld 0 .rlx .word 9,
  .cas 0 .acq .word 9 39 9 true,
  .st 0 .rlx (.waiting 0) 1 0,
  .ld 0 .rlx .word 39,
  .cas 0 .rel .word 39 37 39 true,
  .ld 0 .acq (.waiting 0) 1,
  .semPEnter 0 0,
  .cas 1 .rel .word 1 0 37 false,
  .ld 1 .rlx .word 37,
  .ld 1 .rlx .word 37,
  .cas 1 .ar .word 37 46 37 true,
  .ld 1 .rlx (.rc 0) 22,
  .cas 1 .rlx (.rc 0) 22 23 22 true,
  .ld 1 .rlx .word 46,
  .cas 1 .rel .word 46 8 46 true,
  .st 1 .rel (.waiting 0) 0 1,
  .semV 1 0,
  .ret 1 .unlock none,
  .call 1 .lock,
  .cas 2 .acq .word 0 1 8 false,
  .ld 2 .rlx .word 8,
  .cas 2 .acq .word 8 9 8 true,
  .ret 2 .lock none,
  .call 2 .unlock,
  .semPRet 0 0,
  .ld 0 .acq (.waiting 0) 0,
  .ld 0 .rlx .word 9,
  .cas 0 .acq .word 9 39 9 true,
  .st 0 .rlx (.waiting 0) 1 0,
  .ld 0 .rlx .word 39,
  .cas 0 .rel .word 39 37 39 true,
  .ld 0 .acq (.waiting 0) 1,
  .semPEnter 0 0,
  .cas 2 .rel .word 1 0 37 false,
  .ld 2 .rlx .word 37,
  .ld 2 .rlx .word 37,
  .cas 2 .ar .word 37 46 37 true,
  .ld 2 .rlx (.rc 0) 23,
  .cas 2 .rlx (.rc 0) 23 24 23 true,
  .ld 2 .rlx .word 46,
  .cas 2 .rel .word 46 8 46 true,
  .st 2 .rel (.waiting 0) 0 1,
  .semV 2 0,
  .ret 2 .unlock none,
  .call 2 .lock,
  .cas 1 .acq .word 0 1 8 false,
  .ld 1 .rlx .word 8,
  .cas 1 .acq .word 8 9 8 true,
  .ret 1 .lock none,
  .call 1 .unlock,
  .semPRet 0 0,
  .ld 0 .acq (.waiting 0) 0,
  .ld 0 .rlx .word 9,
  .cas 0 .acq .word 9 39 9 true,
  .st 0 .rlx (.waiting 0) 1 0,
  .ld 0 .rlx .word 39,
  .cas 0 .rel .word 39 37 39 true,
  .ld 0 .acq (.waiting 0) 1,
  .semPEnter 0 0,
  .cas 1 .rel .word 1 0 37 false,
  .ld 1 .rlx .word 37,
  .ld 1 .rlx .word 37,
  .cas 1 .ar .word 37 46 37 true,
  .ld 1 .rlx (.rc 0) 24,
  .cas 1 .rlx (.rc 0) 24 25 24 true,
  .ld 1 .rlx .word 46,
  .cas 1 .rel .word 46 8 46 true,
  .st 1 .rel (.waiting 0) 0 1,
  .semV 1 0,
  .ret 1 .unlock none,
  .call 1 .lock,
  .cas 2 .acq .word 0 1 8 false,
  .ld 2 .rlx .word 8,
  .cas 2 .acq .word 8 9 8 true,
  .ret 2 .lock none,
  .call 2 .unlock,
  .semPRet 0 0,
  .ld 0 .acq (.waiting 0) 0,
  .ld 0 .rlx .word 9,
  .cas 0 .acq .word 9 39 9 true,
  .st 0 .rlx (.waiting 0) 1 0,
  .ld 0 .rlx .word 39,
  .cas 0 .rel .word 39 37 39 true,
  .ld 0 .acq (.waiting 0) 1,
  .semPEnter 0 0,
  .cas 2 .rel .word 1 0 37 false,
  .ld 2 .rlx .word 37,
  .ld 2 .rlx .word 37,
  .cas 2 .ar .word 37 46 37 true,
  .ld 2 .rlx (.rc 0) 25,
  .cas 2 .rlx (.rc 0) 25 26 25 true,
  .ld 2 .rlx .word 46,
  .cas 2 .rel .word 46 8 46 true,
  .st 2 .rel (.waiting 0) 0 1,
  .semV 2 0,
  .ret 2 .unlock none,
  .call 2 .lock,
  .cas 1 .acq .word 0 1 8 false,
  .ld 1 .rlx .word 8,
  .cas 1 .acq .word 8 9 8 true,
  .ret 1 .lock none,
  .call 1 .unlock,
  .semPRet 0 0,
  .ld 0 .acq (.waiting 0) 0,
  .ld 0 .rlx .word 9,
  .cas 0 .acq .word 9 39 9 true,
  .st 0 .rlx (.waiting 0) 1 0,
  .ld 0 .rlx .word 39,
  .cas 0 .rel .word 39 37 39 true,
  .ld 0 .acq (.waiting 0) 1,
  .semPEnter 0 0,
  .cas 1 .rel .word 1 0 37 false,
  .ld 1 .rlx .word 37,
  .ld 1 .rlx .word 37,
  .cas 1 .ar .word 37 46 37 true,
  .ld 1 .rlx (.rc 0) 26,
  .cas 1 .rlx (.rc 0) 26 27 26 true,
  .ld 1 .rlx .word 46,
  .cas 1 .rel .word 46 8 46 true,
  .st 1 .rel (.waiting 0) 0 1,
  .semV 1 0,
  .ret 1 .unlock none,
  .call 1 .lock,
  .cas 2 .acq .word 0 1 8 false,
  .ld 2 .rlx .word 8,
  .cas 2 .acq .word 8 9 8 true,
  .ret 2 .lock none,
  .call 2 .unlock,
  .semPRet 0 0,
  .ld 0 .acq (.waiting 0) 0,
  .ld 0 .rlx .word 9,
  .cas 0 .acq .word 9 39 9 true,
  .st 0 .rlx (.waiting 0) 1 0,
  .ld 0 .rlx .word 39,
  .cas 0 .rel .word 39 37 39 true,
  .ld 0 .acq (.waiting 0) 1,
  .semPEnter 0 0,
  .cas 2 .rel .word 1 0 37 false,
  .ld 2 .rlx .word 37,
  .ld 2 .rlx .word 37,
  .cas 2 .ar .word 37 46 37 true,
  .ld 2 .rlx (.rc 0) 27,
  .cas 2 .rlx (.rc 0) 27 28 27 true,
  .ld 2 .rlx .word 46,
  .cas 2 .rel .word 46 8 46 true,
  .st 2 .rel (.waiting 0) 0 1,
  .semV 2 0,
  .ret 2 .unlock none,
  .call 2 .lock,
  .cas 1 .acq .word 0 1 8 false,
  .ld 1 .rlx .word 8,
  .cas 1 .acq .word 8 9 8 true,
  .ret 1 .lock none,
  .call 1 .unlock,
  .semPRet 0 0,
  .ld 0 .acq (.waiting 0) 0,
  .ld 0 .rlx .word 9,
  .cas 0 .acq .word 9 39 9 true,
  .st 0 .rlx (.waiting 0) 1 0,
  .ld 0 .rlx .word 39,
  .cas 0 .rel .word 39 37 39 true,
  .ld 0 .acq (.waiting 0) 1,
  .semPEnter 0 0,
  .cas 1 .rel .word 1 0 37 false,
  .ld 1 .rlx .word 37,
  .ld 1 .rlx .word 37,
  .cas 1 .ar .word 37 46 37 true,
  .ld 1 .rlx (.rc 0) 28,
  .cas 1 .rlx (.rc 0) 28 29 28 true,
  .ld 1 .rlx .word 46,
  .cas 1 .rel .word 46 8 46 true,
  .st 1 .rel (.waiting 0) 0 1,
  .semV 1 0,
  .ret 1 .unlock none,
  .call 1 .lock,
  .cas 2 .acq .word 0 1 8 false,
  .ld 2 .rlx .word 8,
  .cas 2 .acq .word 8 9 8 true,
  .ret 2 .lock none,
  .call 2 .unlock,
  .semPRet 0 0,
  .ld 0 .acq (.waiting 0) 0,
  .ld 0 .rlx .word 9,
  .cas 0 .acq .word 9 39 9 true,
  .st 0 .rlx (.waiting 0) 1 0,
  .ld 0 .rlx .word 39,
  .cas 0 .rel .word 39 37 39 true,
  .ld 0 .acq (.waiting 0) 1,
  .semPEnter 0 0,
  .cas 2 .rel .word 1 0 37 false,
  .ld 2 .rlx .word 37,
  .ld 2 .rlx .word 37,
  .cas 2 .ar .word 37 46 37 true,
  .ld 2 .rlx (.rc 0) 29,
  .cas 2 .rlx (.rc 0) 29 30 29 true,
  .ld 2 .rlx .word 46,
  .cas 2 .rel .word 46 8 46 true,
  .st 2 .rel (.waiting 0) 0 1,
  .semV 2 0,
  .ret 2 .unlock none,
  .call 2 .lock,
  .cas 1 .acq .word 0 1 8 false,
  .ld 1 .rlx .word 8,
  .cas 1 .acq .word 8 9 8 true,
  .ret 1 .lock none,
  .call 1 .unlock,
  .semPRet 0 0,
  .ld 0 .acq (.waiting 0) 0,
  .ld 0 .rlx .word 9,
  .cas 0 .acq .word 9 103 9 true,
  .st 0 .rlx (.waiting 0) 1 0,
  .ld 0 .rlx .word 103,
  .cas 0 .rel .word 103 101 103 true,
  .ld 0 .acq (.waiting 0) 1,
  .semPEnter 0 0,
  .cas 1 .rel .word 1 0 101 false,
  .ld 1 .rlx .word 101,
  .ld 1 .rlx .word 101,
  .cas 1 .ar .word 101 110 101 true,
  .ld 1 .rlx (.rc 0) 30,
  .cas 1 .rlx (.rc 0) 30 31 30 true,
  .ld 1 .rlx .word 110,
  .cas 1 .rel .word 110 72 110 true,
  .st 1 .rel (.waiting 0) 0 1,
  .semV 1 0,
  .ret 1 .unlock none,
  .call 1 .lock,
  .cas 2 .acq .word 0 1 72 false,
  .ld 2 .rlx .word 72,
  .ld 2 .rlx .word 72,
  .cas 2 .acq .word 72 110 72 true,
  .st 2 .rlx (.waiting 1) 1 0,
  .ld 2 .rlx .word 110,
  .cas 2 .rel .word 110 108 110 true,
  .ld 2 .acq (.waiting 1) 1,
  .semPEnter 2 1,
  .semPRet 0 0,
  .ld 0 .acq (.waiting 0) 0,
  .ld 0 .rlx .word 108,
  .cas 0 .acq .word 108 5 108 true,
  .ret 0 .lock none
]

/-- What the examples below test, at the index of each: the kernel runs the trace once (`starve_scan`) for all of
    them. -/
def starveProbe (i : Nat) (s : State) : Bool :=
  if i = 788 then decide (s.pc 0 = .lsLd { l := .W, w := some 0, clear := true, ign := true, wc := 30, lwl := true })
  else if i = 790 then
    encode s.word == 103 && s.word.lw && decide (s.pc 0 = .lsSt { l := .W, w := some 0, clear := true, ign := true, wc := 30, lwl := true })
  else if i = 808 then
    encode s.word == 72 && s.word.lw && !s.word.wlock && s.word.readers == 0 && decide (s.pc 2 = .lkLd .W)
  else if i = 812 then decide (s.queue = [1]) && decide (s.wOwner = none)
  else if i = 819 then s.word.lw
  else if i = 820 then !s.word.lw && decide (s.wOwner = some 0) && encode s.word == 5
  else true

set_option maxRecDepth 4096 in
theorem starve_scan : scan (step ⟨false⟩) starveProbe 0 init traceStarve = true := by decide +kernel

theorem starve_len : traceStarve.length = 821 := by decide +kernel

theorem starve_at (i : Nat) (hi : i ≤ 821) (f : State → Bool) (hf : ∀ s, starveProbe i s = true → f s = true) :
    checkAfter14 ⟨false⟩ (traceStarve.take i) f = true := by
  obtain ⟨s, hs, hp⟩ := (isRun ⟨false⟩).scan_take starve_scan i (by rw [starve_len]; exact hi)
  simp only [checkAfter14, hs]
  exact hf s (by simpa using hp)

set_option maxRecDepth 4096 in
example : accepts14 ⟨false⟩ traceStarve = true := by
  obtain ⟨s, hs, _⟩ := (isRun ⟨false⟩).scan_take starve_scan 821 (by rw [starve_len]; exact Nat.le_refl _)
  rw [List.take_of_length_le (by rw [starve_len]; exact Nat.le_refl _)] at hs
  simp only [accepts14, hs]

-- 30th wake-up: wait_count = 30, long_wait set, clear = MU_DESIG_WAKER (hypotheses of `C14_escalates`)
set_option maxRecDepth 4096 in
example : checkAfter14 ⟨false⟩ (traceStarve.take 788) (fun s =>
    decide (s.pc 0 = .lsLd { l := .W, w := some 0, clear := true, ign := true, wc := 30, lwl := true })) = true :=
  starve_at 788 (by decide) _ fun _ h => h
-- its enqueue CAS sets MU_LONG_WAIT: word 103 = WLOCK|SPIN|WAITING|WW|LW (`C14_sets_bit`)
set_option maxRecDepth 4096 in
example : checkAfter14 ⟨false⟩ (traceStarve.take 790) (fun s =>
    encode s.word == 103 && s.word.lw && decide (s.pc 0 = .lsSt { l := .W, w := some 0, clear := true, ign := true, wc := 30, lwl := true })) = true :=
  starve_at 790 (by decide) _ fun _ h => h
-- a fresh thread (fiber 2, fast path) meets a FREE mutex with MU_LONG_WAIT: hypotheses of `C14_blocks_fresh`
set_option maxRecDepth 4096 in
example : checkAfter14 ⟨false⟩ (traceStarve.take 808) (fun s =>
    encode s.word == 72 && s.word.lw && !s.word.wlock && s.word.readers == 0 && decide (s.pc 2 = .lkLd .W)) = true :=
  starve_at 808 (by decide) _ fun _ h => h
-- ... and queues itself instead of acquiring
set_option maxRecDepth 4096 in
example : checkAfter14 ⟨false⟩ (traceStarve.take 812) (fun s =>
    decide (s.queue = [1]) && decide (s.wOwner = none)) = true :=
  starve_at 812 (by decide) _ fun _ h => h
-- the victim acquires and clears the bit (`C14_cleared_only_by_long_waiter`)
set_option maxRecDepth 4096 in
example : checkAfter14 ⟨false⟩ (traceStarve.take 819) (fun s => s.word.lw) = true ∧
    checkAfter14 ⟨false⟩ (traceStarve.take 820) (fun s => !s.word.lw && decide (s.wOwner = some 0) && encode s.word == 5) = true :=
  ⟨starve_at 819 (by decide) _ fun _ h => h, starve_at 820 (by decide) _ fun _ h => h⟩

end NsyncVerif.MuQ
