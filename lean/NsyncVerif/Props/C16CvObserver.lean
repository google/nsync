/-
  Property C16, condition-variable observer half.

  "Calling nsync_mu_debug_state, nsync_cv_debug_state or their *_and_waiters variants concurrently
   with any other operations on the same mutex or condition variable never changes who holds the
   mutex, never loses a wake-up and never deadlocks.  For every buffer size n they write only
   within buf[0..n-1] …"

  (Buffer half: `Props/C16Buffer.lean`; mutex observers: `Props/C16Observer.lean`.)

  Model: `NsyncVerif/Model/CvFix.lean` EXTENDED with observer threads — /repo/internal/debug.c
  `emit_cv_state` entered through `nsync_cv_debug_state` (`DKind.state`: blocking = 0,
  print_waiters = 0), `nsync_cv_debug_state_and_waiters` (`.waiters`: 1, 1) and `nsync_cv_debugger`
  (`.debugger`: 0, 1) — at the granularity of the rest of the model (one atomic operation per
  step): the load [debug.c/6], the shared `nsync_spin_test_and_set_` loop, the two loads of
  `emit_waiters` per pooled waiter [debug.c/0, debug.c/1], the release store [debug.c/7].
  `Reachable` ranges over executions in which any number of threads make debug calls at any
  time, interleaved with waiters (plain, timed, cancellable, reader-mode, generic, nsync_wait_n),
  signallers and broadcasters.  EVERY theorem of Props/C04Fix.lean, C13CvFix.lean, C05CvFix.lean
  and C03Signal.lean is a theorem about this extended model
  (`Loc.holds` includes the observer's two program points `dWalk`, `dRc`).

  WHAT IS PROVED HERE (all in full)
  * `C16_cv_observer`  a step of a thread inside a debug call leaves the queue, EVERY record (status,
      `waiting`, `remove_count`, owner, all ghosts), every other thread's frame, the CV_NON_EMPTY
      bit, the semaphores, the clock unchanged; the word changes only at the successful
      test-and-set (spin bit set, `old` := the word found) and at the release store (the word becomes
      `old` again = the current word minus the spin bit).  `C16_cv_observer_holds_word`: in between
      the word is constantly `old | CV_SPINLOCK` and the observer is THE holder.
      `C16_cv_no_lost_wake`: the queue invariant and the no-lost-wake invariant of C04 hold in
      every reachable state of the extended model (stated explicitly; they are `C04_queue_inv`,
      `C04_no_lost_wake`).
  * `C16_cv_observer_release_exact`  the release store writes the value the test-and-set returned,
      and that value is the current word minus the spinlock bit.  This is where "every word change
      happens under the spinlock" enters (`Proofs/CvFixObs.lean`: `InvO`, proved from `InvA.hold` /
      `holder_unique`, i.e. `C04_spinlock_excl`).
  * `C16_cv_observer_progress`  (a) between the successful test-and-set and the release store the
      observer has no loop: each of its steps releases or decreases `dbgFuel ≤ 2·|queue|+1`;
      (b) `nsync_cv_debug_state` never touches the spinlock, and no variant takes it when
      CV_NON_EMPTY is clear; `nsync_cv_debugger` does not wait when it finds the spinlock held;
      (c) a thread inside a debug call performs no semaphore operation (every one is rejected): it
      never sleeps.
  * `C16_cv_observer_record_access`  every record an observer's step reads is, at that moment, in
      the cv queue with `waiting = 1`, the observer holds the spinlock, and the record's owner is
      still inside its wait: a pooled waiter's owner is in the loop of nsync_cv_wait_with_deadline
      on this very record (`InvH`), an nsync_wait_n record's call is in progress (`alive`).
  * controls (`decide`): `C16_cv_stale_release_rejected` — the release with the word loaded BEFORE
      the test-and-set (seed /verif/seeded/C16-cv-debug-stale-word) is rejected on two concrete
      traces, the correct value is accepted, and forcing the stale value breaks the invariants
      (spinlock left set with no holder: every later wait/signal spins forever; or CV_NON_EMPTY
      set on an empty queue).

  LIMITS (explicit)
  * `nsync_cv_debugger` with the spinlock free at the load calls `nsync_spin_test_and_set_` like
    the blocking variant; if it loses the race it spins there (the code does, debug.c:248).  (b)
    says exactly what holds.
  * NOT MODELLED, and a finding about the code: when print_waiters != 0 and the spinlock is not
    taken (CV_NON_EMPTY clear at the load [debug.c/6]; or nsync_cv_debugger finding the spinlock
    held) debug.c:255 still evaluates `emit_waiters (b, cv->waiters)` WITHOUT the spinlock: a
    waiter enqueued after the load is walked unprotected (plain reads racing with the list
    operations of cv.c; for nsync_cv_debugger the source comment itself calls that combination not safe, for
    nsync_cv_debug_state_and_waiters it does not).  Reads only: none of the three claims of C16
    (holder, wake-ups, deadlock) nor the buffer bound is affected; `touches` gives these reads no
    label and `C16_cv_observer_record_access` does not cover them.  In the harness the window cannot
    open (no scheduling point between the load and the read of `cv->waiters`).
  * `emit_waiters` applies DLL_WAITER to every element; for a bare `nsync_waiter_s` of nsync_wait_n
    that is no `waiter` (it reads `w->tag` in front of the record, finds no WAITER_TAG and stops).
    The model rejects the two loads for such an element (the walk stops there).
-/
import NsyncVerif.Proofs.CvFixObsStep
import NsyncVerif.Props.C13CvFix

namespace NsyncVerif.CvFix

/-- While an observer holds the spinlock it is the holder, the cv word is its local `word`
    (`old`: what the test-and-set returned) plus the spinlock bit, and nobody else is in a critical
    section. -/
theorem C16_cv_observer_holds_word {cfg : Config} {s : State} {t : Tid} (h : Reachable cfg s)
    (hl : (s.thr t).loc.dbgHolds = true) :
    s.holder = some t ∧ s.word = { (s.thr t).old with spin := true } ∧ (s.thr t).old.spin = false ∧
    (∀ u, (s.thr u).loc.holds = true → u = t) := by
  have ha := (inv_reachable h).a
  have hh : s.holder = some t := (ha.hold t).mpr (dbgHolds_holds hl)
  have hsp : s.word.spin = true := by have := ha.spin; rw [hh] at this; simpa using this
  have hne := (invO_reachable h t).oldW hl
  refine ⟨hh, ?_, (ha.old t hh).1, fun u hu => ha.holder_unique (dbgHolds_holds hl) hu⟩
  cases hw : s.word with | mk sp ne =>
  rw [hw] at hsp hne; simp at hsp hne; subst hsp
  simp [hne]

/-- A step of a thread that is inside a debug call changes nothing of the cv but the spinlock bit:
    the queue, every record, every other thread's frame, the CV_NON_EMPTY bit, the semaphores, the
    clock and the ghosts are unchanged; the thread stays inside its call or returns from `dRet`;
    and the word changes only at the successful test-and-set (which remembers the word it found in
    `old`) and at the release store (which puts `old` back). -/
theorem C16_cv_observer {cfg : Config} {s s' : State} {e : Event} {t : Tid} (h : Reachable cfg s)
    (hs : step cfg s e = .ok s') (ht : e.tid = some t) (hd : inDebug (s.thr t) = true) :
    s'.queue = s.queue ∧ s'.recs = s.recs ∧ (∀ u, u ≠ t → s'.thr u = s.thr u) ∧
    s'.word.ne = s.word.ne ∧ s'.sem = s.sem ∧ s'.now = s.now ∧ s'.seq = s.seq ∧ s'.bad = s.bad ∧
    (inDebug (s'.thr t) = true ∨ ((s'.thr t).loc = .idle ∧ (s.thr t).loc = .dRet)) ∧
    (s'.word ≠ s.word →
      ((∃ exp new obs, e = .wordCas t exp new obs true) ∧ s.word.spin = false ∧
        s'.word = { s.word with spin := true } ∧ (s'.thr t).loc = .dWalk ∧ (s'.thr t).old = s.word ∧
        s'.holder = some t) ∨
      ((∃ new obs, e = .wordSt t .dbgRel new obs) ∧ s.word.spin = true ∧
        s'.word = { s.word with spin := false } ∧ s'.word = (s.thr t).old ∧ (s'.thr t).loc = .dRet ∧
        s'.holder = none)) := by
  have ha := (inv_reachable h).a
  rcases obs_step hs ht hd with ⟨rfl, _⟩ | ⟨x', hl, rfl⟩ | ⟨exp, new, obs, n, rfl, hl, hc, hexp, he1, _, hn, hnew, rfl⟩ |
      ⟨new, obs, n, rfl, hl, hh, hnew, _, hn, hsp, rfl⟩
  · exact ⟨rfl, rfl, fun _ _ => rfl, rfl, rfl, rfl, rfl, rfl, .inl hd, fun hne => absurd rfl hne⟩
  · obtain ⟨h1, _, _⟩ := obs_ltr hl hd
    refine ⟨rfl, rfl, fun u hu => by simp [hu], rfl, rfl, rfl, rfl, rfl, by simpa using h1, fun hne => absurd rfl hne⟩
  · -- the successful test-and-set
    have hev := (ha.thr t).casEven hl
    have hspin : s.word.spin = false := enc_even_spin (by rw [← he1, hexp]; exact hev)
    have hne0 := (invO_reachable h t).noNE (by simp [hl, Loc.spinLoop]) hc
    rw [he1] at hnew; rw [hnew] at hn
    obtain ⟨n1, n2⟩ := acq_words hspin hn
    rw [hne0] at n2; simp at n2
    have hw : n = { s.word with spin := true } := by
      cases n with | mk a b => cases hw : s.word with | mk c d => rw [hw] at n2; simp_all
    refine ⟨rfl, rfl, fun u hu => by simp [hu], by simp [n2], rfl, rfl, rfl, rfl, .inl (by simp [inDebug]), fun _ => ?_⟩
    exact .inl ⟨⟨_, _, _, rfl⟩, hspin, by simp [hw], by simp, by simp, rfl⟩
  · -- the release store
    have hold := (C16_cv_observer_holds_word h (t := t) (by simp [hl, Loc.dbgHolds]))
    have hn' : n = (s.thr t).old := word_of_dec hnew hn
    have hsw : s.word.spin = true := by rw [hold.2.1]
    have hne : (s.thr t).old.ne = s.word.ne := by rw [hold.2.1]
    have hw : n = { s.word with spin := false } := by
      rw [hn']; cases ho : (s.thr t).old with | mk a b =>
      have := hold.2.2.1; rw [ho] at this hne; simp at this hne; subst this; simp [hne]
    refine ⟨rfl, rfl, fun u hu => by simp [hu], by simp [hn', hne], rfl, rfl, rfl, rfl, .inl (by simp [inDebug]), fun _ => ?_⟩
    exact .inr ⟨⟨_, _, rfl⟩, hsw, by simp [hw], by simp [hn'], by simp, rfl⟩

/-- "Never loses a wake-up": the queue invariant and the no-lost-wake invariant of C04 hold in every
    reachable state of the model WITH observers (these are `C04_queue_inv` and `C04_no_lost_wake`,
    whose `Reachable` ranges over executions containing debug calls). -/
theorem C16_cv_no_lost_wake {cfg : Config} {s : State} (h : Reachable cfg s) :
    ((s.word.spin = false → (s.word.ne = true ↔ s.queue ≠ [])) ∧ s.queue.Nodup ∧
      (∀ r, r ∈ s.queue → (s.recs r).waiting = true) ∧ (∀ r, r ∈ s.queue ↔ (s.recs r).stat = .queued)) ∧
    (∀ r, (∀ u, (s.recs r).stat = .listed u → r ∈ (s.thr u).list ∧ (s.thr u).loc.wakePhase = true) ∧
      (∀ u, (s.recs r).stat = .listed u → (s.recs r).waiting = true) ∧
      ((s.recs r).stat = .woken → (s.recs r).waiting = false ∧
        ((s.recs r).posted = true ∨ ∃ u, (s.thr u).cur = some (r, (s.recs r).enqSeq) ∧ (s.thr u).loc = .wwV))) :=
  ⟨C04_queue_inv h, fun r => C04_no_lost_wake h r⟩

/-- The release store of emit_cv_state [debug.c/7] writes the value `nsync_spin_test_and_set_`
    returned (`old`), and that value is the CURRENT word minus the spinlock bit: nobody changed the
    word while the observer held the spinlock.  After the store the word is free with the same
    CV_NON_EMPTY bit. -/
theorem C16_cv_observer_release_exact {cfg : Config} {s s' : State} {t : Tid} {new obs : Nat}
    (h : Reachable cfg s) (hs : step cfg s (.wordSt t .dbgRel new obs) = .ok s') :
    new = (s.thr t).old.enc ∧ (s.thr t).old = { s.word with spin := false } ∧ s.word.spin = true ∧
    obs = s.word.enc ∧ obs = new + 1 ∧ s.holder = some t ∧
    s'.word = { s.word with spin := false } ∧ s'.holder = none := by
  obtain ⟨hl, hnew, hh, hobs, n, hn, hsp, rfl⟩ := dbgRel_accepted hs
  have hold := C16_cv_observer_holds_word h (t := t) (by simp [hl, Loc.dbgHolds])
  have hn' : n = (s.thr t).old := word_of_dec hnew hn
  have hw : (s.thr t).old = { s.word with spin := false } := by
    rw [hold.2.1]
    cases ho : (s.thr t).old with | mk a b =>
    have := hold.2.2.1; rw [ho] at this; simp at this; subst this; rfl
  refine ⟨hnew, hw, by rw [hold.2.1], hobs, ?_, hh, by simp [hn', hw], rfl⟩
  rw [hobs, hnew, hw]
  cases hsw : s.word with | mk a b =>
  have : s.word.spin = true := by rw [hold.2.1]
  rw [hsw] at this; simp at this; subst this
  cases b <;> simp [Word.enc]

/-- What is left of the walk of emit_waiters: two loads per queue element not yet printed, and the
    release store (one more step when the next event is a `waiting` load or the store). -/
def dbgFuel (s : State) (t : Tid) : Nat :=
  2 * (s.queue.length - (s.thr t).dIdx) + (if (s.thr t).loc = .dWalk then 1 else 0)

/-- (a) No loop between the successful test-and-set and the release store: every ATOMIC OPERATION of
    an observer that holds the spinlock is the release store, or it decreases `dbgFuel`
    (≤ 2·|queue| + 1; the queue cannot change meanwhile: `C16_cv_observer_holds_word`).  The only
    other accepted event of such a thread is a ghost mark that changes nothing. -/
theorem C16_cv_observer_bounded_hold {cfg : Config} {s s' : State} {e : Event} {t : Tid}
    (_h : Reachable cfg s) (hs : step cfg s e = .ok s') (ht : e.tid = some t)
    (hl : (s.thr t).loc.dbgHolds = true) :
    (s' = s ∧ e.isAtomic = false) ∨
    ((∃ new obs, e = .wordSt t .dbgRel new obs) ∧ (s'.thr t).loc = .dRet ∧ s'.holder = none ∧
      s'.word.spin = false) ∨
    ((s'.thr t).loc.dbgHolds = true ∧ s'.queue = s.queue ∧ dbgFuel s' t < dbgFuel s t) := by
  have hd := dbgHolds_inDebug hl
  rcases obs_step hs ht hd with hst | ⟨x', hlt, rfl⟩ | ⟨_, _, _, _, _, hl', _⟩ | ⟨new, obs, n, rfl, _, _, _, _, _, hsp, rfl⟩
  · exact .inl hst
  · right; right
    obtain ⟨_, _, _, hw⟩ := obs_ltr hlt hd
    rcases (hw hl).2 with ⟨r, obs, _, hlw, hq, _, hx, hi⟩ | ⟨r, obs, _, hlr, hq, hx, hi⟩
    · -- `waiting` load of the walk: dWalk → dRc
      refine ⟨by simp [hx, Loc.dbgHolds], rfl, ?_⟩
      simp [dbgFuel, hx, hi, hlw]
    · -- `remove_count` load of the walk: dRc → dWalk, one element further
      obtain ⟨hlt', _⟩ := List.getElem?_eq_some_iff.mp hq
      refine ⟨by simp [hx, Loc.dbgHolds], rfl, ?_⟩
      simp [dbgFuel, hx, hi, hlr]; omega
  · rw [hl'] at hl; simp [Loc.dbgHolds] at hl
  · exact .inr (.inl ⟨⟨_, _, rfl⟩, by simp, rfl, hsp⟩)

/-- (b) The first load decides (debug.c:245-250): emit_cv_state goes for the spinlock only if
    print_waiters != 0, CV_NON_EMPTY was set, and (blocking, or the spinlock was free at the load);
    otherwise its next event is the `ret`.  So `nsync_cv_debug_state` never touches the spinlock,
    nobody takes it for an empty queue, and `nsync_cv_debugger` never waits for a spinlock it found
    held. -/
theorem C16_cv_observer_first_load {cfg : Config} {s s' : State} {t : Tid} {obs : Nat}
    (hs : step cfg s (.wordLd t .dbgLd obs) = .ok s') :
    (s.thr t).loc = .dLd ∧ obs = s.word.enc ∧
    (((s.thr t).dk.printWaiters = false ∨ obs / 2 % 2 = 0 ∨ ((s.thr t).dk.blocking = false ∧ obs % 2 = 1)) →
      (s'.thr t).loc = .dRet) ∧
    ((s'.thr t).loc = .dRet ∨
      ((s'.thr t).loc = .spLd0 ∧ (s'.thr t).cont = .dbg ∧ dbgAcquires (s.thr t).dk obs = true)) := by
  simp only [step, stepWordLd, need_ok] at hs
  obtain ⟨ho, hs⟩ := hs
  split at hs
  all_goals try (rename_i h1 h2; cases h1)
  · have hl := h2
    cases hs
    refine ⟨hl, ho, ?_, ?_⟩
    · intro hc
      have : dbgAcquires (s.thr t).dk obs = false := by
        unfold dbgAcquires
        rcases hc with hc | hc | ⟨hc1, hc2⟩
        · simp [hc]
        · simp [hc]
        · simp [hc1, hc2]
      simp [this]
    · by_cases hq : dbgAcquires (s.thr t).dk obs = true <;> simp [hq]
  · cases hs

/-- … and in every reachable state an observer that is in the test-and-set loop or holds the spinlock
    is there because debug.c:246-247 said so: print_waiters, CV_NON_EMPTY seen, and it is the blocking
    variant or saw the spinlock free.  In particular a thread inside `nsync_cv_debug_state` is never
    in the loop and never holds the spinlock. -/
theorem C16_cv_observer_why_locked {cfg : Config} {s : State} {t : Tid} (h : Reachable cfg s)
    (hl : ((s.thr t).loc.spinLoop = true ∧ (s.thr t).cont = .dbg) ∨ (s.thr t).loc.dbgHolds = true) :
    (s.thr t).dk.printWaiters = true ∧ (s.thr t).dWord / 2 % 2 = 1 ∧
    ((s.thr t).dk.blocking = true ∨ (s.thr t).dWord % 2 = 0) ∧ (s.thr t).dk ≠ .state := by
  have := (invO_reachable h t).why hl
  unfold dbgAcquires at this
  simp only [Bool.and_eq_true, Bool.or_eq_true, decide_eq_true_eq] at this
  refine ⟨this.1.2, this.1.1, this.2, ?_⟩
  intro e; rw [e] at this; simp [DKind.printWaiters] at this

/-- (c) A thread inside a debug call performs no semaphore operation: the acceptor rejects every one
    of them.  It never sleeps. -/
theorem C16_cv_observer_never_sleeps {cfg : Config} {s : State} {t : Tid}
    (hd : inDebug (s.thr t) = true) (k : SemId) (dl : Option Nat) (b : Bool) :
    (∃ m, step cfg s (.semPEnter t k) = .error m) ∧ (∃ m, step cfg s (.semPRet t k) = .error m) ∧
    (∃ m, step cfg s (.semPdEnter t k dl) = .error m) ∧ (∃ m, step cfg s (.semPdRet t k b) = .error m) ∧
    (∃ m, step cfg s (.semV t k) = .error m) := by
  have hno := inDebug_not_open hd
  unfold inDebug at hd
  refine ⟨?_, ?_, ?_, ?_, ?_⟩
  · simp [step, need, hno]
  · simp [step, need, hno]
  · simp only [step, stepSemPdEnter]
    cases hl : (s.thr t).loc <;> simp_all
  · simp only [step, stepSemPdRet]
    cases hl : (s.thr t).loc <;> simp_all
  · simp only [step, stepSemV]
    cases hl : (s.thr t).loc <;> simp_all [need, Loc.isOpen]

/-- Progress of observers: (a) bounded hold, (b) the non-blocking variants do not wait, (c) no
    semaphore operation. -/
theorem C16_cv_observer_progress {cfg : Config} :
    (∀ (s s' : State) (e : Event) (t : Tid), Reachable cfg s → step cfg s e = .ok s' → e.tid = some t →
      (s.thr t).loc.dbgHolds = true →
      (s' = s ∧ e.isAtomic = false) ∨
      ((∃ new obs, e = .wordSt t .dbgRel new obs) ∧ (s'.thr t).loc = .dRet ∧ s'.holder = none ∧
        s'.word.spin = false) ∨
      ((s'.thr t).loc.dbgHolds = true ∧ s'.queue = s.queue ∧ dbgFuel s' t < dbgFuel s t)) ∧
    (∀ (s : State) (t : Tid), dbgFuel s t ≤ 2 * s.queue.length + 1) ∧
    (∀ (s s' : State) (t : Tid) (obs : Nat), step cfg s (.wordLd t .dbgLd obs) = .ok s' →
      ((s.thr t).dk.printWaiters = false ∨ obs / 2 % 2 = 0 ∨ ((s.thr t).dk.blocking = false ∧ obs % 2 = 1)) →
      (s'.thr t).loc = .dRet) ∧
    (∀ (s : State) (t : Tid), Reachable cfg s → (s.thr t).dk = .state →
      ¬ ((s.thr t).loc.spinLoop = true ∧ (s.thr t).cont = .dbg) ∧ (s.thr t).loc.dbgHolds = false) ∧
    (∀ (s : State) (t : Tid) (k : SemId) (dl : Option Nat) (b : Bool), inDebug (s.thr t) = true →
      (∃ m, step cfg s (.semPEnter t k) = .error m) ∧ (∃ m, step cfg s (.semPRet t k) = .error m) ∧
      (∃ m, step cfg s (.semPdEnter t k dl) = .error m) ∧ (∃ m, step cfg s (.semPdRet t k b) = .error m) ∧
      (∃ m, step cfg s (.semV t k) = .error m)) := by
  refine ⟨fun s s' e t h hs ht hl => C16_cv_observer_bounded_hold h hs ht hl, ?_,
    fun s s' t obs hs hc => (C16_cv_observer_first_load hs).2.2.1 hc, ?_,
    fun s t k dl b hd => C16_cv_observer_never_sleeps hd k dl b⟩
  · intro s t; unfold dbgFuel; split <;> omega
  · intro s t h hk
    refine ⟨fun hc => (C16_cv_observer_why_locked h (.inl hc)).2.2.2 hk, ?_⟩
    cases hb : (s.thr t).loc.dbgHolds
    · rfl
    · exact absurd hk (C16_cv_observer_why_locked h (.inr hb)).2.2.2

theorem touches_nonatomic {s : State} {e : Event} (h : e.isAtomic = false) : touches s e = [] := by
  cases e <;> simp [Event.isAtomic] at h <;> rfl

theorem inDebug_not_waiting {x : Thr} (h : inDebug x = true) : waitLive x = false ∧ inWaitN x = false := by
  unfold inDebug at h
  unfold waitLive inWaitN
  cases hl : x.loc <;> simp_all

/-- Every record a step of an observer reads (`touches`: the `waiting` / `remove_count` loads of
    emit_waiters with the plain reads around them, and the rest of the walk at the release store) is,
    at that moment, in the cv queue — while the observer holds the spinlock — with `waiting = 1`, and
    its owner is another thread that is still inside its wait: for a pooled waiter the owner is in
    the loop of nsync_cv_wait_with_deadline working on this record; for a record of nsync_wait_n the
    call that created it is in progress (`alive`: its stack frame / heap array is valid).  The
    observer never reads a dead record. -/
theorem C16_cv_observer_record_access {cfg : Config} {s s' : State} {e : Event} {t : Tid} {r : Rid}
    (h : Reachable cfg s) (hs : step cfg s e = .ok s') (ht : e.tid = some t)
    (hd : inDebug (s.thr t) = true) (hr : r ∈ touches s e) :
    (s.thr t).loc.dbgHolds = true ∧ s.holder = some t ∧ r ∈ s.queue ∧ (s.recs r).stat = .queued ∧
    (s.recs r).waiting = true ∧ (s.recs r).owner ≠ t ∧
    (r.isMucv = true → waitLive (s.thr (s.recs r).owner) = true ∧ (s.thr (s.recs r).owner).r = r) ∧
    (r.isMucv = false → alive s r = true) := by
  have hi := inv_reachable h
  have key : (s.thr t).loc.dbgHolds = true ∧ r ∈ s.queue := by
    rcases obs_step hs ht hd with ⟨_, hna⟩ | ⟨x', hlt, _⟩ | ⟨_, _, _, _, rfl, hl, hc, _⟩ | ⟨_, _, _, rfl, hl, _⟩
    · rw [touches_nonatomic hna] at hr; cases hr
    · exact (obs_ltr hlt hd).2.2.1 r hr
    · simp [touches, hc] at hr
    · simp [touches] at hr; exact ⟨by simp [hl, Loc.dbgHolds], hr⟩
  obtain ⟨hh, hq⟩ := key
  have hst := (hi.a.qMem r).mp hq
  have hmu : r.isMucv = true → waitLive (s.thr (s.recs r).owner) = true ∧ (s.thr (s.recs r).owner).r = r :=
    fun hm => (invH_reachable h).own r hm hst
  have hal : r.isMucv = false → alive s r = true :=
    fun hm => registered_alive hi.a (invG_reachable h) r hm (by rw [hst]; simp)
  refine ⟨hh, (hi.a.hold t).mpr (dbgHolds_holds hh), hq, hst, hi.a.qWait r hst, ?_, hmu, hal⟩
  intro ho
  obtain ⟨n1, n2⟩ := inDebug_not_waiting hd
  cases hm : r.isMucv
  · have := hal hm
    unfold alive at this
    rw [ho, n2] at this; simp at this
  · have := (hmu hm).1
    rw [ho, n1] at this; cases this

/-! ### non-vacuity and controls -/

/-- One writer-mode waiter (thread 0, record w0) asleep; thread 1 calls
    nsync_cv_debug_state_and_waiters (load 2, test-and-set 2 → 3, walk: `waiting` and `remove_count`
    of w0, release store 2) and then nsync_cv_debug_state (one load); thread 2 broadcasts. -/
def exObserver : List Event := [
  .tick 100, .callWait 0 false none false, .wInit 0 (.w 0), .recSt 0 .wSt1 (.w 0) 1 0, .muLd 0 .wMode 1,
  .wordLd 0 .spin0 0, .wordCas 0 0 3 0 true, .recLd 0 .wRc (.w 0) 0, .wordSt 0 .waitRel 2 3,
  .relMark 0 .wr, .nret 0, .recLd 0 .wHead (.w 0) 1, .semPdEnter 0 0 none,
  .callDebug 1 .waiters, .wordLd 1 .dbgLd 2, .wordLd 1 .spin0 2, .wordCas 1 2 3 2 true,
  .recLd 1 .dbgW (.w 0) 1, .recLd 1 .dbgRc (.w 0) 0, .wordSt 1 .dbgRel 2 3, .retDebug 1 .waiters,
  .callDebug 1 .state, .wordLd 1 .dbgLd 2, .retDebug 1 .state,
  .callBroadcast 2, .wordLd 2 .bcLd 2, .wordLd 2 .spin0 2, .wordCas 2 2 3 2 true,
  .recLd 2 .bRcLd (.w 0) 0, .recCas 2 .bRcCas (.w 0) 0 1 0 true, .wordSt 2 .bcRel 0 3,
  .muLd 2 .wwLd 0, .recSt 2 .wake (.w 0) 0 1, .semV 2 0, .retBroadcast 2,
  .semPdRet 0 0 false, .recLd 0 .wTail (.w 0) 0, .recLd 0 .wHead (.w 0) 0, .lockMark 0 .wr, .nret 0,
  .retWait 0 .ok]

example : okRun ⟨false⟩ exObserver = true := by decide
example : okRun ⟨true⟩ exObserver = true := by decide
/-- the hypotheses of `C16_cv_observer`, `…_bounded_hold`, `…_record_access` are satisfiable: after 17
    events the observer holds the spinlock, the next event (the `waiting` load) is accepted and
    touches w0, which is queued and owned by thread 0 inside its wait -/
example : okRun ⟨false⟩ (exObserver.take 18) = true ∧
    inDebug ((runD ⟨false⟩ (exObserver.take 17)).thr 1) = true ∧
    ((runD ⟨false⟩ (exObserver.take 17)).thr 1).loc = .dWalk ∧
    (runD ⟨false⟩ (exObserver.take 17)).holder = some 1 ∧
    touches (runD ⟨false⟩ (exObserver.take 17)) (.recLd 1 .dbgW (.w 0) 1) = [.w 0] ∧
    touches (runD ⟨false⟩ (exObserver.take 19)) (.wordSt 1 .dbgRel 2 3) = [.w 0] ∧
    ((runD ⟨false⟩ (exObserver.take 17)).recs (.w 0)).owner = 0 ∧
    ((runD ⟨false⟩ (exObserver.take 17)).thr 0).loc = .wSemRet ∧
    dbgFuel (runD ⟨false⟩ (exObserver.take 17)) 1 = 3 ∧ dbgFuel (runD ⟨false⟩ (exObserver.take 18)) 1 = 2 ∧
    dbgFuel (runD ⟨false⟩ (exObserver.take 19)) 1 = 1 := by decide
/-- the word after the debug call is the word before it -/
example : (runD ⟨false⟩ (exObserver.take 13)).word = (runD ⟨false⟩ (exObserver.take 21)).word ∧
    (runD ⟨false⟩ (exObserver.take 21)).queue = [.w 0] ∧
    ((runD ⟨false⟩ (exObserver.take 21)).recs (.w 0)).stat = .queued := by decide
/-- the walk may stop early (output buffer full): release right after the test-and-set -/
example : okRun ⟨false⟩ (exObserver.take 17 ++ [.wordSt 1 .dbgRel 2 3, .retDebug 1 .waiters]) = true := by decide
/-- … but not between the two loads of one element, and not with a different element -/
example : okRun ⟨false⟩ (exObserver.take 18 ++ [.wordSt 1 .dbgRel 2 3]) = false ∧
    okRun ⟨false⟩ (exObserver.take 17 ++ [.recLd 1 .dbgW (.w 1) 0]) = false ∧
    okRun ⟨false⟩ (exObserver.take 19 ++ [.recLd 1 .dbgW (.w 0) 1]) = false := by decide
/-- an observer does no semaphore operation, and nsync_cv_debug_state does not touch the spinlock -/
example : okRun ⟨false⟩ (exObserver.take 17 ++ [.semPEnter 1 5]) = false ∧
    okRun ⟨false⟩ (exObserver.take 17 ++ [.semV 1 0]) = false ∧
    okRun ⟨false⟩ (exObserver.take 23 ++ [.wordLd 1 .spin0 2]) = false := by decide

/-- A timed waiter (thread 0) is in its timeout path holding the spinlock (word 3) when the blocking
    observer (thread 1) loads the word; the waiter removes itself and releases with 0 (queue empty);
    the observer's test-and-set returns 0.  `staleTrace` ends with the observer holding the
    spinlock. -/
def staleTrace : List Event := [
  .tick 100, .callWait 0 false (some 150) false, .recSt 0 .wSt1 (.w 0) 1 0, .muLd 0 .wMode 1,
  .wordLd 0 .spin0 0, .wordCas 0 0 3 0 true, .recLd 0 .wRc (.w 0) 0, .wordSt 0 .waitRel 2 3,
  .relMark 0 .wr, .nret 0, .recLd 0 .wHead (.w 0) 1, .semPdEnter 0 0 (some 150), .tick 150,
  .semPdRet 0 0 true, .recLd 0 .wChk (.w 0) 1, .wordLd 0 .spin0 2, .wordCas 0 2 3 2 true,
  .callDebug 1 .waiters, .wordLd 1 .dbgLd 3, .wordLd 1 .spin0 3,
  .recLd 0 .wChk2 (.w 0) 1, .recLd 0 .wCmp (.w 0) 0, .recLd 0 .wRmLd (.w 0) 0,
  .recCas 0 .wRmCas (.w 0) 0 1 0 true, .recSt 0 .wClr (.w 0) 0 1, .wordSt 0 .waitRel2 0 3,
  .wordLd 1 .spin2 0, .wordCas 1 0 1 0 true]

/-- The same race with the spinlock free at the observer's load (word 2): the waiter times out and
    removes itself between the load and the test-and-set. -/
def staleTrace2 : List Event := [
  .tick 100, .callWait 0 false (some 150) false, .recSt 0 .wSt1 (.w 0) 1 0, .muLd 0 .wMode 1,
  .wordLd 0 .spin0 0, .wordCas 0 0 3 0 true, .recLd 0 .wRc (.w 0) 0, .wordSt 0 .waitRel 2 3,
  .relMark 0 .wr, .nret 0, .recLd 0 .wHead (.w 0) 1, .semPdEnter 0 0 (some 150), .tick 150,
  .callDebug 1 .waiters, .wordLd 1 .dbgLd 2,
  .semPdRet 0 0 true, .recLd 0 .wChk (.w 0) 1, .wordLd 0 .spin0 2, .wordCas 0 2 3 2 true,
  .recLd 0 .wChk2 (.w 0) 1, .recLd 0 .wCmp (.w 0) 0, .recLd 0 .wRmLd (.w 0) 0,
  .recCas 0 .wRmCas (.w 0) 0 1 0 true, .recSt 0 .wClr (.w 0) 0 1, .wordSt 0 .waitRel2 0 3,
  .wordLd 1 .spin0 0, .wordCas 1 0 1 0 true]

/-- What the seeded bug does: the release store writes the local `word` as loaded BEFORE the
    test-and-set (`dWord`), whatever the model thinks of it. -/
def staleRelease (s : State) (t : Tid) : State :=
  match Word.dec? (s.thr t).dWord with
  | some w => { s with word := w, holder := none }
  | none => s

/-- Control: the variant observer that releases with the STALE word (the shape of
    /verif/seeded/C16-cv-debug-stale-word: `nsync_spin_test_and_set_ (…)` without the assignment to
    `word`) is rejected by the acceptor, the value the test-and-set returned is accepted, and the
    stale value, if forced, breaks the invariants: in the first trace the spinlock bit is left set
    with no holder (every later wait, signal or debug call spins forever: deadlock), in the second
    CV_NON_EMPTY is set on an empty queue with the spinlock free (`C04_queue_inv` fails). -/
theorem C16_cv_stale_release_rejected :
    okRun ⟨false⟩ staleTrace = true ∧
    ((runD ⟨false⟩ staleTrace).thr 1).dWord = 3 ∧ ((runD ⟨false⟩ staleTrace).thr 1).old.enc = 0 ∧
    okRun ⟨false⟩ (staleTrace ++ [.wordSt 1 .dbgRel 3 1]) = false ∧
    okRun ⟨false⟩ (staleTrace ++ [.wordSt 1 .dbgRel 0 1, .retDebug 1 .waiters]) = true ∧
    ((staleRelease (runD ⟨false⟩ staleTrace) 1).word.spin = true ∧
      (staleRelease (runD ⟨false⟩ staleTrace) 1).holder = none) ∧
    okRun ⟨false⟩ staleTrace2 = true ∧
    ((runD ⟨false⟩ staleTrace2).thr 1).dWord = 2 ∧ ((runD ⟨false⟩ staleTrace2).thr 1).old.enc = 0 ∧
    okRun ⟨false⟩ (staleTrace2 ++ [.wordSt 1 .dbgRel 2 1]) = false ∧
    okRun ⟨false⟩ (staleTrace2 ++ [.wordSt 1 .dbgRel 0 1, .retDebug 1 .waiters]) = true ∧
    ((staleRelease (runD ⟨false⟩ staleTrace2) 1).word.spin = false ∧
      (staleRelease (runD ⟨false⟩ staleTrace2) 1).word.ne = true ∧
      (staleRelease (runD ⟨false⟩ staleTrace2) 1).queue = []) := by decide

/-- The forced stale states are NOT reachable (they violate `C04_queue_inv` / `C04_spinlock_excl`'s
    invariant `word.spin = holder.isSome`). -/
theorem C16_cv_stale_states_unreachable {cfg : Config} :
    ¬ Reachable cfg (staleRelease (runD ⟨false⟩ staleTrace) 1) ∧
    ¬ Reachable cfg (staleRelease (runD ⟨false⟩ staleTrace2) 1) := by
  constructor
  · intro h
    have := (inv_reachable h).a.spin
    have e : (staleRelease (runD ⟨false⟩ staleTrace) 1).word.spin = true ∧
        (staleRelease (runD ⟨false⟩ staleTrace) 1).holder = none := by decide
    rw [e.1, e.2] at this; cases this
  · intro h
    have := (C04_queue_inv h).1
    have e : (staleRelease (runD ⟨false⟩ staleTrace2) 1).word.spin = false ∧
        (staleRelease (runD ⟨false⟩ staleTrace2) 1).word.ne = true ∧
        (staleRelease (runD ⟨false⟩ staleTrace2) 1).queue = [] := by decide
    have := (this e.1).mp e.2.1
    exact this e.2.2

end NsyncVerif.CvFix
