import NsyncVerif.Proofs.MuCInv3Step
import NsyncVerif.Props.C06
/-
  Props/C16Callback.lean — property C16, "never deadlocks", the part that concerns nsync_mu_wait:

  nsync_mu_debug_state_and_waiters is the only public entry point that takes MU_SPINLOCK outside the
  lock / unlock protocol (it spins for it whenever MU_WAITING is set).  It cannot deadlock as long as every
  holder of the spinlock releases it within a bounded number of its own steps WITHOUT running client code.
  The only client code the mutex implementation ever runs are the wait conditions of nsync_mu_wait
  (`condition_true` in mu.c, the first evaluation in mu_wait.c).  Over the MuC model (mu.c / mu_wait.c
  statement by statement, any number of threads, every interleaving):

  * `C16_no_callback_under_spinlock` — a wait condition is never evaluated by a thread that owns MU_SPINLOCK:
    whoever evaluates (the waiter itself inside nsync_mu_wait, or an unlocker inside nsync_mu_unlock_slow_
    that is `testing_conditions`) has released the spinlock first (mu.c:354 / mu_wait.c:182, 281).  So a
    debug call made from inside a condition (a condition instrumented with a debug trace) finds the spinlock
    free or held by ANOTHER thread that is in a callback-free region.
  * `C16_spinlock_regions_callback_free` — the same fact read from the other side: at every program point
    that owns the spinlock (`PC.spin`), the owner's next event is not a condition evaluation.

  That the code is so is the lockstep tie (MuC acceptor: a `cond` event is accepted at `mwEval` / `usEval`
  only, and the accesses that release and re-take the spinlock around `usEval` are prescribed) plus the
  harness family `debug_cond`.  Seeded change this is aimed at:
  seeded/C16-conditions-evaluated-under-spinlock (the release / re-acquisition around the evaluation removed).
-/
namespace NsyncVerif.MuC

/-- the program points at which a thread evaluates a wait condition -/
theorem cond_pc {s s' : State} {t : Tid} {fn : CFn} {k : Nat} {res : Bool} {cfg : Cfg}
    (hs : step cfg s (.cond t fn k res) = .ok s') : (∃ c, s.pc t = .mwEval c) ∨ (∃ r sc, s.pc t = .usEval r sc) := by
  simp only [step, stepCond] at hs
  split at hs
  · exact .inl ⟨_, by assumption⟩
  · exact .inr ⟨_, _, by assumption⟩
  · cases hs

/-- C16: no client callback runs under the queue spinlock. -/
theorem C16_no_callback_under_spinlock {cfg : Cfg} {s s' : State} {t : Tid} {fn : CFn} {k : Nat} {res : Bool}
    (hr : Reachable cfg s) (hs : step cfg s (.cond t fn k res) = .ok s') : s.sp ≠ some t := by
  have h3 := reachable_inv3 hr
  intro hsp
  have hspin := (h3.own t).1 hsp
  rcases cond_pc hs with ⟨c, hp⟩ | ⟨r, sc, hp⟩ <;> rw [hp] at hspin <;> simp [PC.spin] at hspin

/-- … read from the owner's side: a thread that owns the spinlock cannot make a `cond` step. -/
theorem C16_spinlock_regions_callback_free {cfg : Cfg} {s : State} {t : Tid} (hr : Reachable cfg s)
    (hsp : s.sp = some t) (fn : CFn) (k : Nat) (res : Bool) : ∃ m, step cfg s (.cond t fn k res) = .error m := by
  cases h : step cfg s (.cond t fn k res) with
  | error m => exact ⟨m, rfl⟩
  | ok s' => exact absurd hsp (C16_no_callback_under_spinlock hr h)

/-- The spinlock bit of the word is set exactly while some thread owns it, and the owner is unique (so a
    debug caller that finds the bit clear takes a free spinlock). -/
theorem C16_spinlock_bit_is_owner {cfg : Cfg} {s : State} (hr : Reachable cfg s) :
    s.word.spin = s.sp.isSome ∧ ∀ t, s.sp = some t ↔ (s.pc t).spin = true :=
  ⟨(reachable_inv3 hr).bit, (reachable_inv3 hr).own⟩

/-! ### non-vacuity and the seeded change (trace `traceEqPair` of Props/C06.lean: two waiters, one setter) -/

/-- just before the setter's unlock_slow evaluates the first waiter's condition: nobody owns the spinlock, the
    setter still owns the write lock (it has taken the two waiters off the queue to examine them) -/
example : stateAfter ⟨false⟩ (traceEqPair.take 51) (fun s => s.sp == none && !s.word.spin && s.wOwner == some 2
    && (match s.pc 2 with | .usEval _ _ => true | _ => false)) = true := by decide
/-- the evaluation is accepted there (the hypothesis of `C16_no_callback_under_spinlock` is satisfiable) -/
example : stateAfter ⟨false⟩ (traceEqPair.take 52) (fun _ => true) = true := by decide
/-- the seeded change: without the release of the spinlock (`ld` + `cas rel … 159 → 157`, events 49-50) the
    evaluation comes while the unlocker owns the spinlock — rejected -/
example : stateAfter ⟨false⟩ (traceEqPair.take 49 ++ [.cond 2 .eq 2 true]) (fun _ => true) = false := by decide
example : stateAfter ⟨false⟩ (traceEqPair.take 49) (fun s => s.sp == some 2 && s.word.spin) = true := by decide

end NsyncVerif.MuC
