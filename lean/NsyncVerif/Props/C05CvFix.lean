/-
  Property C05, condition-variable part.

  "nsync_cv_wait_with_deadline always returns with the mutex held in the mode in which the caller
   held it.  It returns ETIMEDOUT only if the deadline has been reached and ECANCELED only if the
   note is notified, and once the deadline has passed or the note is notified the call needs no
   further wake-up: it returns as soon as the mutex can be re-acquired."

  Model: `NsyncVerif/Model/CvFix.lean` (acceptor for the repaired cv.c / sem_wait.c, one atomic operation,
  semaphore operation or API boundary per step).  The theorems quantify over every reachable
  state: any number of threads and records, every interleaving of waiters (plain, timed,
  cancellable, reader-mode, generic-lock, nsync_wait_n) with signallers and broadcasters, every
  timing of clock ticks, both semaphore flavours (`cfg.binary` arbitrary).

  What is proved here
  * `C05_timedout`   a wait returns ETIMEDOUT only if `abs_deadline ≤ now`;
  * `C05_cancelled`  a wait returns ECANCELED only if the waiting thread itself observed its
                     cancel note notified (a load of `note.notified ≠ 0`, or its own notification
                     of the note on expiry, sem_wait.c:65);
  * `C05_no_resleep` once `nsync_sem_wait_with_cancel_` has returned non-zero the thread never
                     starts a semaphore wait again in this call (state form: in every reachable
                     state of a wait with `sem_outcome ≠ 0`, `sem pd_enter` is rejected), and
                     `C05_result_is_outcome`: the value returned is the local `outcome`, which is
                     either 0 or that `sem_outcome`.
  * Mode preservation ("returns with the mutex held in the caller's mode") is NOT a theorem of
    this layer: the mutex is abstract here.  It is proved in layer MuX (`Props/C01.lean`): its
    acceptor refuses a wait call that returns without the caller's share.  What this layer adds:
    the acceptor requires the release mark and the re-acquisition mark to use the lock function
    of the mode recorded at cv.c:215-230 (`relMark` / `lockMark` in `CvFix.step`), and a transferred
    waiter re-acquires through `nsync_mu_lock_slow_` with its own `l_type` (cv.c:300).
  * The semaphore contract used: a timed `P` returns ETIMEDOUT only if its deadline has been
    reached (checked by the acceptor on every log; proved for the futex semaphore in C12).

  Status: every statement below is proved in full.
-/
import NsyncVerif.Proofs.CvFixFull

namespace NsyncVerif.CvFix

/-- The value returned by a cv wait is the local `outcome`; it is 0 or the `sem_outcome` of the
    (last) semaphore wait. -/
theorem C05_result_is_outcome {cfg : Config} {s s' : State} {t : Tid} {res : Outcome}
    (h : Reachable cfg s) (hs : step cfg s (.retWait t res) = .ok s') :
    res = .ok ∨ res = (s.thr t).semOut := by
  obtain ⟨_, hr⟩ := retWait_accepted hs
  rw [hr]; exact (invC_reachable h t).out

/-- ETIMEDOUT only if the deadline has been reached. -/
theorem C05_timedout {cfg : Config} {s s' : State} {t : Tid} (h : Reachable cfg s)
    (hs : step cfg s (.retWait t .timedOut) = .ok s') : ∃ d, (s.thr t).dl = some d ∧ d ≤ s.now := by
  obtain ⟨_, hr⟩ := retWait_accepted hs
  have hi := invC_reachable h t
  rcases hi.out with ho | ho
  · rw [← hr] at ho; cases ho
  · exact hi.timed (by rw [← ho, ← hr])

/-- ECANCELED only if the note was observed notified by the waiting thread. -/
theorem C05_cancelled {cfg : Config} {s s' : State} {t : Tid} (h : Reachable cfg s)
    (hs : step cfg s (.retWait t .cancelled) = .ok s') : (s.thr t).sawNote = true := by
  obtain ⟨_, hr⟩ := retWait_accepted hs
  have hi := invC_reachable h t
  rcases hi.out with ho | ho
  · rw [← hr] at ho; cases ho
  · exact hi.canc (by rw [← ho, ← hr])

/-- Once the semaphore wait has returned non-zero (`sem_outcome ≠ 0`), a thread inside a cv wait
    never starts a semaphore wait again: the acceptor has no transition for `sem pd_enter`. -/
theorem C05_no_resleep {cfg : Config} {s : State} {t : Tid} (h : Reachable cfg s)
    (hso : (s.thr t).semOut ≠ .ok) (h1 : (s.thr t).loc ≠ .idle) (h2 : (s.thr t).loc ≠ .nOut)
    (k : SemId) (dl : Option Nat) : ∃ m, step cfg s (.semPdEnter t k dl) = .error m := by
  have hi := invC_reachable h t
  simp only [step, stepSemPdEnter]
  split
  · rename_i hl; exact absurd (hi.sem0 (by simp [hl, Loc.inSem])) hso
  · rename_i hl; exact absurd (hi.sem0 (by simp [hl, Loc.inSem])) hso
  · rename_i hl; exact absurd hl h1
  · rename_i hl; exact absurd hl h2
  · exact ⟨_, rfl⟩

/-- … and it is not blocked in one either. -/
theorem C05_not_sleeping {cfg : Config} {s : State} {t : Tid} (h : Reachable cfg s)
    (hso : (s.thr t).semOut ≠ .ok) :
    (s.thr t).loc ≠ .wSemEnter ∧ (s.thr t).loc ≠ .wSemRet ∧ (s.thr t).loc ≠ .cPre ∧ (s.thr t).loc ≠ .cWait := by
  have hi := invC_reachable h t
  refine ⟨?_, ?_, ?_, ?_⟩ <;> intro hl <;> exact hso (hi.sem0 (by simp [hl, Loc.inSem]))

end NsyncVerif.CvFix
