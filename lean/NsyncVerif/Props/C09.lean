/-
  Property C09: "Concurrent notify / free / create on related notes is safe.  Threads may
  concurrently notify, poll, wait on, create children of and free different notes of one tree, each
  note being freed only when no other thread uses that same note: no such call deadlocks, none
  touches a note after that note's nsync_note_free has returned, and the children of a freed note
  are adopted by its parent, so that a later notification of that ancestor still reaches them."

  Model: `NsyncVerif.Model.Note`.  The contract ("freed only when no other thread uses that same
  note") is built into the acceptor: `call nsync_note_free n` is rejected while another thread is
  inside a call whose argument is `n`, and every later call on `n` is rejected.

  The model follows note.c AFTER the repair of the defects F4 and F7
  (/verif/fixes/F4F7/note_fix.diff: "the last disconnector unlinks" — `n` is removed from
  `parent->children` only by a thread that sees `n->disconnecting == 1`, the recursive call of
  `note_notify_child` counts itself — and "adopters set parent->children_adopted and wake the
  scanner, which rescans").

  STATUS — everything is proved at full strength:
      `C09_lock_order`  — a thread waiting for the mutex of note `m` holds only mutexes of notes
                          strictly above `m` in the creation order (`Lt`: on `m`'s path to the root
                          when `m` was created; it is the order "parent before child" of note.c:38);
      `C09_no_lock_cycle` — hence no cycle of threads each waiting for a mutex held by the next;
      `C09_holds_iff`   — the abstract mutexes agree with the program counters;
      `C09_adoption`    — the adoption step of nsync_note_free (+ `C09_adoption_wakes`: it sets
                          `children_adopted` of the adopting parent), `C09_free_leaves_no_child`;
      `C09_no_use_after_free` — NO accepted step dereferences a freed note
                          (`C09_no_use_after_free_full`, refuted on the unrepaired code by defect F7).
                          Behind it (`InvLive`, Proofs/NoteFixG.lean): a note on a children list is
                          not freed, nor is the owner of the list; a note whose mutex is held is not
                          freed; and I1 (`InvForest.linked`, Proofs/NoteRelF.lean): the local
                          `parent` of a disconnector of `n` is `n->parent`, with `n` on its children
                          list, until that thread itself has seen `n` disconnected — so
                          `nsync_note_free (parent)` cannot get past its WAIT_FOR_NO_CHILDREN.
                          `C09_parent_not_stale` states I1.
      `C09_no_stuck_state` — NO reachable state in which every thread is idle, blocked on a note
                          mutex, blocked in WAIT_FOR_NO_CHILDREN or asleep has a thread blocked on a
                          mutex or in WAIT_FOR_NO_CHILDREN (`C09_no_stuck_state_full`, refuted on the
                          unrepaired code by defect F4).  Behind it (Proofs/NoteFixP.lean): I2
                          (`C09_wait_has_disconnectors`: while a thread is inside a
                          WAIT_FOR_NO_CHILDREN (`n`) whose condition is false, every child of `n` is
                          `disconnecting`), the exact count `InvForest.cnt` (`n->disconnecting` is the
                          number of threads that have incremented it and not yet decremented it), and
                          the locking order.
    `f7_repaired` / `f4_not_stuck` below replay, on the repaired library, the scenarios on which the
    unrepaired one was refuted; `C09_no_use_after_free_old_code_witness` and
    `C09_no_stuck_state_old_code_witness` show the offending states of the unrepaired code.
    /verif/corpus/C09/f7_*.txt, f4b_*.txt and /verif/corpus/C08/f4_*.txt are the regressions.
    `C09_no_use_after_free_partial` and `C09_no_stuck_state_partial` are corollaries under the
    hypotheses of the weaker statements.
-/
import NsyncVerif.Proofs.NoteFixP
import NsyncVerif.Proofs.NoteWitness
import NsyncVerif.Props.C08


namespace Note

/-! ### The locking discipline -/

/-- The abstract mutex of note `k` is held by thread `t` exactly when the program counter of `t`
    is inside a critical section of `k`. -/
theorem C09_holds_iff {s : State} (hr : Reachable s) (k : NoteId) (t : Tid) :
    (s.notes k).lockHolder = some t ↔ k ∈ (s.pc t).held :=
  hr.inv6.2.2.2.2.2.iff k t

/-- C09 ("no such call deadlocks", locking order): a thread that waits for the mutex of `m`
    (inside `nsync_mu_lock`, or re-acquiring in WAIT_FOR_NO_CHILDREN) holds only mutexes of notes
    strictly above `m`. -/
theorem C09_lock_order {s : State} (hr : Reachable s) {t : Tid} {m h : NoteId}
    (hw : (s.pc t).wants = some m) (hh : (s.notes h).lockHolder = some t) : Lt s h m :=
  lock_order hr hw hh

/-- Thread `t` waits for a mutex held by thread `u`. -/
def WaitsFor (s : State) (t u : Tid) : Prop :=
  ∃ m, (s.pc t).wants = some m ∧ (s.notes m).lockHolder = some u

/-- A non-empty chain of threads, each waiting for a mutex held by the next. -/
inductive WaitChain (s : State) : Tid → Tid → Prop
  | one {t u : Tid} : WaitsFor s t u → WaitChain s t u
  | more {t u v : Tid} : WaitsFor s t u → WaitChain s u v → WaitChain s t v

/-- C09 ("no such call deadlocks", mutexes): there is no cycle of threads each waiting for a note
    mutex held by the next one. -/
theorem C09_no_lock_cycle {s : State} (hr : Reachable s) (t : Tid) : ¬ WaitChain s t t := by
  have hL := hr.inv6.2.2.2.2.1
  -- along a chain the last thread holds a mutex at or below the one the first thread wants
  have key : ∀ t u, WaitChain s t u → ∀ m, (s.pc t).wants = some m →
      ∃ m', (s.notes m').lockHolder = some u ∧ (m = m' ∨ Lt s m m') := by
    intro t u hc
    induction hc with
    | one hw =>
      intro m hm
      obtain ⟨m0, h0, h1⟩ := hw
      rw [hm] at h0; cases h0
      exact ⟨m, h1, Or.inl rfl⟩
    | @more t u v hw hrest ih =>
      intro m hm
      obtain ⟨m0, h0, h1⟩ := hw
      rw [hm] at h0; cases h0
      -- `u` is itself waiting
      have hu : ∃ m1, (s.pc u).wants = some m1 := by
        cases hrest with
        | one h => exact ⟨_, h.choose_spec.1⟩
        | more h _ => exact ⟨_, h.choose_spec.1⟩
      obtain ⟨m1, hm1⟩ := hu
      have hlt : Lt s m m1 := C09_lock_order hr hm1 h1
      obtain ⟨m', h2, h3⟩ := ih m1 hm1
      refine ⟨m', h2, Or.inr ?_⟩
      rcases h3 with h3 | h3
      · exact h3 ▸ hlt
      · exact Lt.trans hL hlt h3
  intro hc
  have hw : ∃ m, (s.pc t).wants = some m := by
    cases hc with
    | one h => exact ⟨_, h.choose_spec.1⟩
    | more h _ => exact ⟨_, h.choose_spec.1⟩
  obtain ⟨m, hm⟩ := hw
  obtain ⟨m', h1, h2⟩ := key t t hc m hm
  have hlt : Lt s m' m := C09_lock_order hr hm h1
  rcases h2 with h2 | h2
  · subst h2; exact hlt.irrefl
  · exact Lt.asymm hL hlt h2

/-! ### Adoption -/

/-- C09 ("the children of a freed note are adopted by its parent"): the step of
    `nsync_note_free (n)` that finds the child `c` not disconnecting (note.c:255-270) makes the
    former parent `p` of `n` the parent of `c` and appends `c` to `p`'s children; `c` keeps
    everything else (flag, waiters, own children). -/
theorem C09_adoption {s s' : State} (hr : Reachable s) {t : Tid} {n p c : NoteId}
    {nx : Option NoteId}
    (hpc : s.pc t = .fr .lockChildRet n (some p) c nx) (hd : (s.notes c).disconnecting = 0)
    (hs : step s (.lockRet t) = .ok s') :
    (s'.notes c).parent = some p ∧ c ∈ (s'.notes p).children ∧
    (s'.notes c).children = (s.notes c).children ∧
    (s'.notes c).notified = (s.notes c).notified ∧ (s'.notes c).waiters = (s.notes c).waiters ∧
    s'.pc t = .fr .unlockChild n (some p) c nx := by
  have hL := hr.inv6.2.2.2.2.1
  have hc := hL.claim t
  rw [hpc] at hc
  have h1 : c ≠ n := fun e => (hc.2.2 rfl).2 e.symm
  have h2 : c ≠ p := fun e => (Lt.trans hL (hc.2.1 p rfl) (hc.2.2 rfl)).2 e.symm
  have h := step_actor hs rfl
  rw [hpc] at h
  generalize hp' : s'.pc t = pc' at h
  cases h
  · exact ⟨by simp, by simp, by simp [h1, h2], by simp, by simp, rfl⟩
  · exact absurd hd ‹_›

/-- … and wakes a thread that is notifying or freeing `p` and may already have examined the
    children of `p` (repair of F4): `p->children_adopted` is set. -/
theorem C09_adoption_wakes {s s' : State} {t : Tid} {n p c : NoteId} {nx : Option NoteId}
    (hpc : s.pc t = .fr .lockChildRet n (some p) c nx) (hd : (s.notes c).disconnecting = 0)
    (hs : step s (.lockRet t) = .ok s') : (s'.notes p).adopted = true :=
  step_adopt_sets hpc hd hs

/-- … and a parentless `n` simply drops the child (it becomes a root). -/
theorem C09_adoption_root {s s' : State} {t : Tid} {n c : NoteId} {nx : Option NoteId}
    (hpc : s.pc t = .fr .lockChildRet n none c nx) (hd : (s.notes c).disconnecting = 0)
    (hs : step s (.lockRet t) = .ok s') : (s'.notes c).parent = none := by
  have h := step_actor hs rfl
  rw [hpc] at h
  generalize s'.pc t = pc' at h
  cases h
  · simp
  · exact absurd hd ‹_›

/-- When `nsync_note_free (n)` leaves its WAIT_FOR_NO_CHILDREN, either no child is left behind —
    every child was adopted (above) or has disconnected itself (it was `disconnecting`) — and `n`
    is disconnected from its parent; or children were adopted by `n` meanwhile
    (`n->children_adopted`), and `nsync_note_free` scans the list again (repair of F4). -/
theorem C09_free_leaves_no_child {s s' : State} {t : Tid} {kept : Bool} {n c : NoteId}
    {par nx : Option NoteId} (hpc : s.pc t = .fr (.waitRet kept) n par c nx)
    (hs : step s (.waitRet t) = .ok s') :
    ((s.notes n).children = [] ∧ (s'.notes n).children = [] ∧
      (∀ p, par = some p → (s'.notes n).parent = none) ∧
      (s'.pc t = .fr .unlockPCall n par c nx ∨ s'.pc t = .fr .unlockCall n par c nx)) ∨
    ((s.notes n).children ≠ [] ∧ (s.notes n).adopted = true ∧
      s' = freeLoopStart (s.acquire n t) t n par) := by
  have h := step_actor hs rfl
  rw [hpc] at h
  generalize hp' : s'.pc t = pc' at h
  cases h
  · rename_i p h1 _ _
    exact Or.inl ⟨h1, by simp only [setPc_notes, unlink_f_children, acquire_f_children, h1]; split <;> simp,
      fun _ _ => by simp, Or.inl rfl⟩
  · rename_i h1 _ _
    exact Or.inl ⟨h1, by simp [h1], nofun, Or.inr rfl⟩
  · rename_i hwd h1 _
    exact Or.inr ⟨by simp [h1], by simpa [NoteRec.waitDone, h1] using hwd, rfl⟩

/-! ### Use after free -/

/-- The statement at full strength: no accepted step dereferences a note on which `free` has
    been performed (`touches` = the notes whose memory the step reads or writes). -/
def C09_no_use_after_free_full : Prop :=
  ∀ (s s' : State) (e : Event), Reachable s → step s e = .ok s' →
    ∀ k, k ∈ touches s e → (s.notes k).freed = false

/-- C09 ("none touches a note after that note's nsync_note_free has returned"), at full strength,
    for the repaired code: in every reachable state, every note an accepted step dereferences — the
    argument of the call, the note being created, the local `parent` of `notify` /
    `nsync_note_free`, the notes of the activations of `note_notify_child`, the child a loop is
    working on, and the neighbours on the children lists that are walked or edited — is a note on
    which `free` has not been performed. -/
theorem C09_no_use_after_free : C09_no_use_after_free_full :=
  fun _ _ _ hr hs k hk => touches_live hr hr.invLive hs k hk

/-- I1 of the repair of F7 ("the last disconnector unlinks"): the `parent` that a thread inside
    `notify (n)` / `nsync_note_free (n)` read from `n->parent` is still `n`'s parent, `n` is still
    on its children list and it is not freed — also while the thread holds neither mutex —, as long
    as the thread has not executed the end of its own `note_notify_child (n, parent)` / its own
    disconnection of `n`. -/
theorem C09_parent_not_stale {s : State} (hr : Reachable s) {t : Tid} {n p : NoteId}
    (h : (s.pc t).linked = some (n, p)) :
    (s.notes n).parent = some p ∧ n ∈ (s.notes p).children ∧ (s.notes p).freed = false := by
  have h1 := hr.invForest.linked t n p h
  have h2 := hr.invT.p2c p n h1
  exact ⟨h1, h2, (hr.invLive.child p n h2).2⟩

/-- A note on a children list is not freed, nor is the owner of the list; a note whose mutex is
    held is not freed. -/
theorem C09_linked_or_locked_is_live {s : State} (hr : Reachable s) :
    (∀ p c, c ∈ (s.notes p).children → (s.notes c).freed = false ∧ (s.notes p).freed = false) ∧
    (∀ k t, (s.notes k).lockHolder = some t → (s.notes k).freed = false) :=
  ⟨hr.invLive.child, hr.invLive.held⟩

theorem f7_ok : (run init Traces.f7Trace).toOption.isSome = true := by decide
theorem f7_prefix_ok : (run init (Traces.f7Trace.take 78)).toOption.isSome = true := by decide

/-- The scenario of defect F7 on the repaired library (tree note0 → note1; T0 and T1
    call `nsync_note_notify (note1)`, T2 calls `nsync_note_free (note0)`; trace recorded with
    `vfh run … seed=1 strategy=1`).  After 78 events both notifiers have incremented
    `disconnecting`, read `parent = note0`, failed the trylock and dropped note1's lock; T1 has
    notified note1 and returned WITHOUT disconnecting it (`disconnecting` was 2); T0 is inside
    `nsync_mu_lock (&note0->note_mu)` holding the possibly stale `parent`: but note1 is still on
    note0's list, T2 is still inside WAIT_FOR_NO_CHILDREN (note0), and note0 is not freed.  At the
    end of the run T0 has disconnected note1 as the last disconnector, and only then T2 has freed
    note0. -/
theorem f7_repaired :
    let s1 := stateAfter _ f7_prefix_ok
    let s2 := stateAfter _ f7_ok
    (s1.pc 0 = .nfy .sLockPRet 1 (some 0) .ofApi ∧ s1.pc 1 = .idle ∧
      s1.pc 2 = .fr (.waitRet false) 0 none 0 none ∧
      (s1.notes 1).notified = true ∧ (s1.notes 1).parent = some 0 ∧
      (s1.notes 0).children = [1] ∧ (s1.notes 1).disconnecting = 1 ∧
      (s1.notes 0).freed = false ∧ (s1.notes 0).waitDone = false) ∧
    (s2.pc 0 = .idle ∧ s2.pc 2 = .idle ∧ (s2.notes 0).freed = true ∧
      (s2.notes 1).parent = none ∧ (s2.notes 1).disconnecting = 0 ∧
      (s2.notes 1).freed = false) := by
  decide

/-- What the UNREPAIRED code did in this scenario (defect F7): T1 disconnected note1 although T0 was
    still counted in `note1->disconnecting`, T2 then freed note0, and T0 completed
    `nsync_mu_lock (&note0->note_mu)` on freed memory.  On the repaired code the state after 78
    events shows the difference: note1 is still linked (`disconnecting == 1`: T0), T2 still waits,
    note0 is not freed.  (`f7_repaired`, first half, under the name the check uses for documented
    old behaviour.) -/
theorem C09_no_use_after_free_old_code_witness :
    let s1 := stateAfter _ f7_prefix_ok
    s1.pc 0 = .nfy .sLockPRet 1 (some 0) .ofApi ∧ s1.pc 2 = .fr (.waitRet false) 0 none 0 none ∧
      (s1.notes 1).notified = true ∧ (s1.notes 1).parent = some 0 ∧
      (s1.notes 1).disconnecting = 1 ∧ (s1.notes 0).freed = false ∧
      0 ∈ touches s1 (.lockRet 0) := by
  decide

/-- A corollary of the invariants: the note passed to a call in progress is never a freed note —
    except for the `nsync_note_free` call itself between its `free` and its return. -/
theorem C09_no_use_after_free_partial {s : State} (hr : Reachable s) {t : Tid} {n : NoteId}
    (harg : (s.pc t).arg = some n) :
    (s.notes n).freed = false ∨ (s.pc t).freedIt = true := by
  have hU := hr.invU
  cases hf : (s.notes n).freed with
  | false => left; rfl
  | true => right; exact hU.freedK t n hf ((hU.users t n).mpr harg)

/-- The contract is enforced by the acceptor: once `nsync_note_free (n)` has been called no other
    thread is inside a call on `n`, and no new call on `n` is accepted. -/
theorem C09_free_is_exclusive {s : State} (hr : Reachable s) {t u : Tid} {n : NoteId}
    (hf : (s.pc t).freer = some n) (hu : (s.pc u).arg = some n) : u = t := by
  have hU := hr.invU
  have := (hU.users u n).mpr hu
  rw [hU.sole t n hf] at this
  exact List.mem_singleton.mp this

/-! ### No stuck state -/

/-- The statement at full strength: if every thread is idle, blocked on a note mutex (held by
    another thread), blocked in WAIT_FOR_NO_CHILDREN (its condition — no children, or
    `children_adopted` — is false) or asleep in a wait, then no thread is blocked on a mutex or in
    WAIT_FOR_NO_CHILDREN.  (`LockBlocked`, `WaitBlocked`, `Asleep`: Proofs/NoteFixP.lean.) -/
def C09_no_stuck_state_full : Prop :=
  ∀ s, Reachable s →
    (∀ t, s.pc t = .idle ∨ LockBlocked s t ∨ WaitBlocked s t ∨ Asleep s t) →
    ∀ t, ¬ LockBlocked s t ∧ ¬ WaitBlocked s t

/-- C09 ("no such call deadlocks"), at full strength, for the repaired code: there is no reachable
    state in which some call is blocked and nobody can move.  In particular a
    WAIT_FOR_NO_CHILDREN always has somebody responsible for emptying the list or for setting
    `children_adopted` (`C09_wait_has_disconnectors`). -/
theorem C09_no_stuck_state : C09_no_stuck_state_full :=
  fun _ hr hall t => no_stuck_state hr hall t

/-- I2 of the repair of F4: while a thread is inside a WAIT_FOR_NO_CHILDREN (`m`) whose condition
    is false, every child `c` of `m` is `disconnecting`, and some thread is counted in
    `c->disconnecting` — it is inside `notify (c)` / `nsync_note_free (c)` between the increment
    and the decrement, or inside the recursive call `note_notify_child (c, …)` — and will
    disconnect `c` (or leave that to another thread that is counted too, I1). -/
theorem C09_wait_has_disconnectors {s : State} (hr : Reachable s) {t : Tid} {m : NoteId}
    (hw : WaitBlockedOn s t m) :
    (s.notes m).children ≠ [] ∧
    ∀ c ∈ (s.notes m).children, (s.notes c).disconnecting ≠ 0 ∧ ∃ u, cntOf (s.pc u) c ≠ 0 :=
  hr.wait_disconnectors hw

/-- `n->disconnecting` counts exactly the threads that have incremented it and not yet decremented
    it (`L` lists the threads inside a call; `cntOf`: one per top-level section of `notify` /
    `nsync_note_free` on `n`, one per inner activation of `note_notify_child` on `n`). -/
theorem C09_disconnecting_count {s : State} (hr : Reachable s) :
    ∃ L : List Tid, L.Nodup ∧ (∀ t, s.pc t ≠ .idle → t ∈ L) ∧
      ∀ n, (s.notes n).disconnecting = (L.map (fun t => cntOf (s.pc t) n)).sum :=
  hr.invForest.cnt

/-- Threads that take no part in a trace stay idle. -/
theorem pc_idle_of_not_actor {evs : List Event} {s0 s : State} (hr : run s0 evs = .ok s)
    (t : Tid) (ht : ∀ e ∈ evs, e.actor ≠ some t) : s.pc t = s0.pc t :=
  run_pc_other hr t ht

theorem f4p_ok : (run init Traces.f4Prefix).toOption.isSome = true := f4_prefix_ok
theorem f4_ok : (run init Traces.f4Trace).toOption.isSome = true := f4_trace_ok

/-- The scenario of defect F4 on the repaired library (tree note0 → note1 → note2;
    T0 `nsync_note_notify (note0)` ∥ T1 `nsync_note_free (note1)`).  In the state in which the
    unrepaired code was stuck for ever (T1 has returned, T0 inside WAIT_FOR_NO_CHILDREN (note0),
    `note0->children = [note2]`, note2 neither notified nor `disconnecting`) T0 is NOT blocked any
    more: `note0->children_adopted` is set, the condition of its wait holds, note0's mutex is free;
    and it does go on (`f4Trace`): at the end everybody is idle and note2 is notified. -/
theorem f4_not_stuck :
    let s1 := stateAfter _ f4p_ok
    let s2 := stateAfter _ f4_ok
    (s1.pc 0 = .chd (.waitRet false) [⟨0, none⟩] ⟨0, none, .ofApi⟩ ∧ s1.pc 1 = .idle ∧
      (s1.notes 0).children = [2] ∧ (s1.notes 2).disconnecting = 0 ∧
      (s1.notes 0).adopted = true ∧ (s1.notes 0).lockHolder = none ∧
      ¬ WaitBlocked s1 0 ∧ (step s1 (.waitRet 0)).toOption.isSome = true) ∧
    (s2.pc 0 = .idle ∧ s2.pc 1 = .idle ∧ (s2.notes 2).notified = true ∧
      (s2.notes 0).children = []) := by
  refine ⟨⟨by decide, by decide, by decide, by decide, by decide, by decide, ?_, by decide⟩,
    by decide, by decide, by decide, by decide⟩
  intro h
  have hpc : (stateAfter _ f4p_ok).pc 0 =
      .chd (.waitRet false) [⟨0, none⟩] ⟨0, none, .ofApi⟩ := by decide
  unfold WaitBlocked at h
  rw [hpc] at h
  have hw : ((stateAfter _ f4p_ok).notes 0).waitDone = true := by decide
  simp only at h
  rw [hw] at h; cases h

/-- What the UNREPAIRED code did in the F4 scenario: it stopped for ever in the state after the first 82 events — everybody idle except T0, which was
    inside WAIT_FOR_NO_CHILDREN (note0) with `note0->children = [note2]`, note2 not
    `disconnecting`, and no `children_adopted` to end the wait.  (`f4_not_stuck`, first half, under
    the name the check uses for documented old behaviour.) -/
theorem C09_no_stuck_state_old_code_witness :
    let s1 := stateAfter _ f4p_ok
    s1.pc 0 = .chd (.waitRet false) [⟨0, none⟩] ⟨0, none, .ofApi⟩ ∧ s1.pc 1 = .idle ∧
      s1.pc 99 = .idle ∧ (s1.notes 0).children = [2] ∧ (s1.notes 2).disconnecting = 0 ∧
      (s1.notes 0).adopted = true ∧ (s1.notes 0).lockHolder = none := by
  decide

/-- No deadlock among the mutexes alone. -/
theorem C09_no_stuck_state_partial {s : State} (hr : Reachable s) (t : Tid) :
    ¬ WaitChain s t t := C09_no_lock_cycle hr t

/-! ### Non-vacuity -/

/-- Free of a middle note with adoption, then notification of the root reaches the adopted child
    (accepted trace from the harness; final `nsync_note_is_notified (note2)` returns 1). -/
example : (match run init Traces.adoptTrace with
    | .ok s => (s.notes 1).freed && (s.notes 2).notified && (s.notes 0).notified &&
        decide (s.observed.head?.map (fun o => (o.n, o.res)) = some (2, true))
    | .error _ => false) = true := by decide

end Note
