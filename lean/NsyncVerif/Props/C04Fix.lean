/-
  Property C04 on the REPAIRED cv.c (/verif/fixes/F3/cv_fix.diff) — condition-variable wake-ups
  are never lost and never swallowed by a timeout.

  "Condition-variable wake-ups are never lost and never swallowed by a timeout.  A thread that
   started waiting on an nsync_cv before a wake-up is issued is covered by it: nsync_cv_broadcast
   wakes every such thread, nsync_cv_signal wakes at least one, and if the thread signal picks
   holds the mutex as a reader, all waiting readers are woken.  Releasing the mutex and starting to
   wait is atomic with respect to wakers that hold the mutex, and a wait that consumes a wake-up
   reports it as a wake-up (0, or the object's index from nsync_wait_n), never as a timeout or
   cancellation."

  Model: `NsyncVerif/Model/CvFix.lean` — the acceptor for the patched
  code: `wake_waiters` reads `p_nw->sem` before it clears `waiting` (its V does not touch the
  record), `cv_dequeue` looks for the record in `pcv->waiters` when `waiting != 0`, removes it only
  if it is there, and otherwise waits (spinlock released) until the waker has cleared `waiting`,
  then returns 0.  Every theorem quantifies over all reachable states: any number of threads and
  records, all interleavings of waiters (plain, timed, cancellable, reader-mode, generic-lock,
  nsync_wait_n) with signallers and broadcasters, deadlines expiring anywhere, both semaphore
  flavours (`cfg` arbitrary).  Invariants: `Proofs/CvFixInvA*.lean`, `CvFixInvB*.lean` (those of the
  pinned code without the F3 ghost flag: `lWait` holds for every kind of record),
  `CvFixInvD*`, `CvFixInvE*`, and `Proofs/CvFixInvF*.lean` (who unlinked the current
  instance, for every kind of record, and what `cv_dequeue` is going to return).

  STATUS: everything is proved in full, for ALL record kinds (pooled `waiter`s of nsync_cv_wait*
  and the `nsync_waiter_s` of nsync_wait_n).
    `C04_queue_inv`, `C04_spinlock_excl`, `C04_wait_atomic`, `C04_signal`, `C04_broadcast`,
    `C04_broadcast_unlinks_all`, `C04_no_lost_wake`, `C04_remove_count_handshake`,
    `C04_exitUnl_is_unl`            as for the pinned code (same statements)
    `C04_unlink_once`               every instance is unlinked at most once: `unl` is `[]`, `[self]`
                                    or `[waker u]` — by a waker xor by itself, never both.
                                    `C04_unlink_once_full_true`: the statement that is refuted for
                                    the pinned code (`Cv.C04_unlink_once_full_false`) holds here;
                                    `C04_unlink_once_partial`: the bound for pooled waiters.
    `C04_unlinker_by_status`        who the unlinker is, by status of the record
    `C04_outcome`                   nsync_wait_n records: `cv_dequeue` returns `was_queued = 1`
                                    iff the instance was unlinked by its owner (`unl = [self]`),
                                    and 0 iff it was unlinked by a waker (`unl = [waker u]`): a
                                    waker-unlinked record is reported as ready; on return the record
                                    is idle and off the call's list
    `C04_outcome_partial`           cv waits (every nsync_cv_wait*)
    `C04_f3_schedule_fixed`         the F3 schedule (corpus C04/f3_waitn_cv.txt) on the repaired
                                    code: accepted, unlinked once (by the waker), `was_queued = 0`;
    `C04_f3_old_behaviour_rejected` what the pinned code does in that schedule (the store
                                    `waiting := 0` by cv_dequeue, cv.c/33) is rejected.
  not in this layer
    the release mark of nsync_wait_n; the index returned by nsync_wait_n spans several objects
    (layer WaitN); `was_queued` is the value each `cv_dequeue` hands to wait.c:83-89.
-/
import NsyncVerif.Proofs.CvFixFull

namespace NsyncVerif.CvFix

/-- When the cv spinlock is free, CV_NON_EMPTY says exactly whether the queue is non-empty; the
    queue never contains a record twice; every queued record has `waiting = 1`. -/
theorem C04_queue_inv {cfg : Config} {s : State} (h : Reachable cfg s) :
    (s.word.spin = false → (s.word.ne = true ↔ s.queue ≠ [])) ∧ s.queue.Nodup ∧
    (∀ r, r ∈ s.queue → (s.recs r).waiting = true) ∧
    (∀ r, r ∈ s.queue ↔ (s.recs r).stat = .queued) := by
  have hi := (inv_reachable h).a
  refine ⟨?_, hi.qNd, fun r hr => hi.qWait r ((hi.qMem r).mp hr), hi.qMem⟩
  intro hsp
  apply hi.free
  have := hi.spin; rw [hsp] at this
  cases hh : s.holder with
  | none => rfl
  | some v => rw [hh] at this; simp at this

/-- The spinlock is a lock: the spin bit is set iff some thread is inside a critical section, and
    at most one thread is. -/
theorem C04_spinlock_excl {cfg : Config} {s : State} (h : Reachable cfg s) {t u : Tid}
    (ht : (s.thr t).loc.holds = true) (hu : (s.thr u).loc.holds = true) : u = t ∧ s.word.spin = true := by
  have hi := (inv_reachable h).a
  refine ⟨hi.holder_unique ht hu, ?_⟩
  have := hi.spin; rw [(hi.hold t).mpr ht] at this; simpa using this

/-- When a waiter starts releasing the mutex (cv.c:240-244) its record is already in the queue of
    the cv — or a waker that found it there has already unlinked it (it is on that waker's list,
    or transferred to the mutex queue, or woken).  The enqueue happens before the release. -/
theorem C04_wait_atomic {cfg : Config} {s s' : State} {t : Tid} {op : MuOp} (h : Reachable cfg s)
    (hs : step cfg s (.relMark t op) = .ok s') :
    (s.recs (s.thr t).r).owner = t ∧
    ((s.thr t).r ∈ s.queue ∨ (∃ u, (s.thr t).r ∈ (s.thr u).list) ∨
     (s.recs (s.thr t).r).stat = .xfer ∨ (s.recs (s.thr t).r).stat = .woken) := by
  have hl := relMark_accepted hs
  have hi := inv_reachable h
  obtain ⟨ho, _, hlv⟩ := (hi.a.thr t).live (by simp [waitLive, hl])
  refine ⟨ho, ?_⟩
  cases hst : (s.recs (s.thr t).r).stat with
  | idle => rw [hst] at hlv; simp [RStat.live] at hlv
  | prep => rw [hst] at hlv; simp [RStat.live] at hlv
  | queued => exact .inl ((hi.a.qMem _).mpr hst)
  | listed u => exact .inr (.inl ⟨u, (hi.a.lMem u _).mpr hst⟩)
  | xfer => exact .inr (.inr (.inl rfl))
  | woken => exact .inr (.inr (.inr rfl))
  | selfOut =>
    have := (hi.b.thr t).soLoc (by simp [waitLive, hl]) hst
    rw [hl] at this; simp at this

/-- Every instance — of a cv wait (pooled waiter) or of an nsync_wait_n record — is unlinked from the
    cv queue at most once: by a waker xor by its owner. -/
theorem C04_unlink_once {cfg : Config} {s : State} (h : Reachable cfg s) (r : Rid) :
    (s.recs r).unl.length ≤ 1 ∧
    ((s.recs r).unl = [] ∨ (s.recs r).unl = [Unl.self] ∨ ∃ u, (s.recs r).unl = [Unl.waker u]) := by
  have h1 := (invF_reachable h).unl1 r
  refine ⟨h1, ?_⟩
  cases hu : (s.recs r).unl with
  | nil => exact .inl rfl
  | cons a l =>
    rw [hu] at h1
    cases l with
    | nil =>
      cases a with
      | waker u => exact .inr (.inr ⟨u, rfl⟩)
      | self => exact .inr (.inl rfl)
    | cons b l' => simp at h1

/-- The statement that is FALSE for the pinned code (`NsyncVerif.Cv.C04_unlink_once_full_false`). -/
def C04_unlink_once_full : Prop :=
  ∀ (cfg : Config) (s : State) (r : Rid), Reachable cfg s → (s.recs r).unl.length ≤ 1

theorem C04_unlink_once_full_true : C04_unlink_once_full :=
  fun _ _ r h => (C04_unlink_once h r).1

/-- The bound of `C04_unlink_once` for pooled waiters. -/
theorem C04_unlink_once_partial {cfg : Config} {s : State} (h : Reachable cfg s) (r : Rid)
    (_hk : r.isMucv = true) : (s.recs r).unl.length ≤ 1 :=
  (C04_unlink_once h r).1

/-- Who unlinked the current instance, by status: nobody while it is queued (or being prepared);
    the waker `u` while it is on `u`'s list; some waker once it is woken or transferred; the owner
    when it removed itself. -/
theorem C04_unlinker_by_status {cfg : Config} {s : State} (h : Reachable cfg s) (r : Rid) :
    ((s.recs r).stat = .queued ∨ (s.recs r).stat = .prep → (s.recs r).unl = []) ∧
    (∀ u, (s.recs r).stat = .listed u → (s.recs r).unl = [Unl.waker u]) ∧
    ((s.recs r).stat = .woken ∨ (s.recs r).stat = .xfer → ∃ u, (s.recs r).unl = [Unl.waker u]) ∧
    ((s.recs r).stat = .selfOut → (s.recs r).unl = [Unl.self]) := by
  have hf := invF_reachable h
  exact ⟨(inv_reachable h).b.unlQ r, hf.unlL r, hf.unlW r, hf.unlS r⟩

/-- The remove_count comparison of the timeout path (cv.c:264-265) succeeds only if the record is
    still in the queue and nobody has unlinked it: the path never removes a record that a waker has
    already taken. -/
theorem C04_remove_count_handshake {cfg : Config} {s s' : State} {t : Tid} {r : Rid} {obs : Nat}
    (h : Reachable cfg s) (hs : step cfg s (.recLd t .wCmp r obs) = .ok s')
    (he : obs = (s.thr t).saved) : r ∈ s.queue ∧ (s.recs r).unl = [] := by
  have hi := inv_reachable h
  obtain ⟨hl, hr, ho⟩ := wCmp_accepted hs
  have hq : (s.recs r).stat = .queued := hr ▸ wCmp_queued hi.b.weak hi.a t hl (by rw [← hr, ← ho, he])
  exact ⟨(hi.a.qMem r).mpr hq, hi.b.unlQ r (.inl hq)⟩

/-- A cv wait returns non-zero only if its instance unlinked ITSELF (timeout / cancel path,
    cv.c:264-281), and an instance unlinked by a waker returns 0.  `exitUnl` is the list of
    unlinkers of the instance, frozen when the wait loop is left. -/
theorem C04_outcome_partial {cfg : Config} {s s' : State} {t : Tid} {res : Outcome} (h : Reachable cfg s)
    (hs : step cfg s (.retWait t res) = .ok s') :
    (res ≠ .ok → (s.thr t).exitUnl = [Unl.self]) ∧
    (∀ u, Unl.waker u ∈ (s.thr t).exitUnl → res = .ok) := by
  obtain ⟨hl, hr⟩ := retWait_accepted hs
  have hb := (inv_reachable h).b.thr t
  have key : res ≠ .ok → (s.thr t).exitUnl = [Unl.self] := by
    intro hne
    exact hb.outE (retWait_afterLoop hs) (by rw [← hr]; exact hne)
  refine ⟨key, ?_⟩
  intro u hu
  cases hres : res with
  | ok => rfl
  | timedOut => have := key (by rw [hres]; simp); rw [this] at hu; simp at hu
  | cancelled => have := key (by rw [hres]; simp); rw [this] at hu; simp at hu

/-- `exitUnl` is what the record said when the loop was left. -/
theorem C04_exitUnl_is_unl {cfg : Config} {s s' : State} {t : Tid} {r : Rid}
    (hs : step cfg s (.recLd t .wHead r 0) = .ok s') :
    (s'.thr t).exitUnl = (s.recs r).unl ∧ (s.recs r).unl = (s'.recs r).unl := by
  obtain ⟨_, _, _, _, h5, h6, _⟩ := wHead_exit_accepted hs
  exact ⟨h5, h6.symm⟩

/-- `e`, performed by thread `t` in state `s`, is the last step of `cv_dequeue (pcv, r)`: the release
    of the spinlock with `being_woken == 0` [cv.c/34], or the load of the wait loop that observes
    `waiting == 0` [cv.c/35].  The value returned is the local `was_queued`, `(s.thr t).wasQ`. -/
def deqReturns (s : State) (t : Tid) (r : Rid) (e : Event) : Prop :=
  (∃ new obs, e = .wordSt t .deqRel new obs ∧ (s.thr t).loc = .nDeqRel ∧ r = (s.thr t).r) ∨
  (e = .recLd t .deqSpin r 0)

/-- nsync_wait_n records.  `cv_dequeue` returns "was still enqueued" (`was_queued = 1`) iff the
    instance was unlinked by its owner, and "not still enqueued" (0: the object is ready) iff it was
    unlinked by a waker: a consumed wake-up is always reported as a wake-up.  On return the record
    is idle, off the call's list, and its list of unlinkers is unchanged. -/
theorem C04_outcome {cfg : Config} {s s' : State} {t : Tid} {r : Rid} {e : Event} (h : Reachable cfg s)
    (hs : step cfg s e = .ok s') (hd : deqReturns s t r e) :
    r.isMucv = false ∧ (s.recs r).owner = t ∧
    ((s.thr t).wasQ = true ↔ (s.recs r).unl = [Unl.self]) ∧
    ((s.thr t).wasQ = false ↔ ∃ u, (s.recs r).unl = [Unl.waker u]) ∧
    (s'.recs r).unl = (s.recs r).unl ∧ (s'.recs r).stat = .idle ∧
    (s'.thr t).loc = .nOut ∧ r ∉ (s'.thr t).mine := by
  have hi := inv_reachable h
  have hf := invF_reachable h
  rcases hd with ⟨new, obs, rfl, hl, rfl⟩ | rfl
  · obtain ⟨n, rfl⟩ := deqRel_accepted hs hl
    obtain ⟨hm, _⟩ := (hi.a.thr t).nDeq (.inr hl)
    obtain ⟨hmu, hown, _, _⟩ := (hi.a.thr t).mine _ hm
    have hnd := (hi.a.thr t).mineNd
    refine ⟨hmu, hown, ?_, ?_, by simp, ?_, by simp, ?_⟩
    · rcases (hf.thr t).wqRel hl with ⟨a, b, _⟩ | ⟨a, ⟨u, b⟩, _⟩
      · simp [a, b]
      · simp [a, b]
    · rcases (hf.thr t).wqRel hl with ⟨a, b, _⟩ | ⟨a, ⟨u, b⟩, _⟩
      · simp [a, b]
      · simp [a, b]
    · rcases (hf.thr t).wqRel hl with ⟨_, _, c⟩ | ⟨_, _, c⟩ <;> simp [c]
    · simp; exact fun hc => (List.Nodup.mem_erase_iff hnd).mp hc |>.1 rfl
  · obtain ⟨hl, hr, hw, rfl⟩ := deqSpin_exit_accepted hs
    subst hr
    obtain ⟨hm, _⟩ := (hi.a.thr t).nSpin (.inr hl)
    obtain ⟨hmu, hown, _, _⟩ := (hi.a.thr t).mine _ hm
    have hnd := (hi.a.thr t).mineNd
    obtain ⟨a, u, b⟩ := (hf.thr t).wqW (.inr hl)
    refine ⟨hmu, hown, by simp [a, b], by simp [a, b], by simp, ?_, by simp, ?_⟩
    · simp
      cases hst : (s.recs (s.thr t).r).stat <;> simp
      rename_i v
      have := hi.b.lWait _ v hst; rw [hw] at this; cases this
    · simp; exact fun hc => (List.Nodup.mem_erase_iff hnd).mp hc |>.1 rfl

/-- In particular: a record that a waker has unlinked is never reported as "still enqueued". -/
theorem C04_waker_unlinked_is_ready {cfg : Config} {s s' : State} {t u : Tid} {r : Rid} {e : Event}
    (h : Reachable cfg s) (hs : step cfg s e = .ok s') (hd : deqReturns s t r e)
    (hu : Unl.waker u ∈ (s.recs r).unl) : (s.thr t).wasQ = false := by
  obtain ⟨_, _, h1, _, _⟩ := C04_outcome h hs hd
  cases hq : (s.thr t).wasQ
  · rfl
  · rw [h1.mp hq] at hu; simp at hu

/-- While `cv_dequeue` waits for the waker (program points `nDeqRelW`, `nDeqSpin`) its `was_queued`
    is 0 and the record has been unlinked by a waker: it is on that waker's list with
    `waiting = 1`, or already woken. -/
theorem C04_dequeue_waits_for_waker {cfg : Config} {s : State} {t : Tid} (h : Reachable cfg s)
    (hl : (s.thr t).loc = .nDeqRelW ∨ (s.thr t).loc = .nDeqSpin) :
    (s.thr t).wasQ = false ∧ (∃ u, (s.recs (s.thr t).r).unl = [Unl.waker u]) ∧
    ((∃ u, (s.recs (s.thr t).r).stat = .listed u ∧ (s.thr t).r ∈ (s.thr u).list ∧
        (s.recs (s.thr t).r).waiting = true) ∨
     ((s.recs (s.thr t).r).stat = .woken ∧ (s.recs (s.thr t).r).waiting = false)) := by
  have hi := inv_reachable h
  have hf := invF_reachable h
  obtain ⟨a, b⟩ := (hf.thr t).wqW hl
  refine ⟨a, b, ?_⟩
  obtain ⟨hm, hnq⟩ := (hi.a.thr t).nSpin hl
  obtain ⟨hmu, _, hni, hnp⟩ := (hi.a.thr t).mine _ hm
  cases hst : (s.recs (s.thr t).r).stat with
  | idle => exact absurd hst hni
  | prep => exact absurd hst hnp
  | queued => exact absurd hst hnq
  | listed u => exact .inl ⟨u, rfl, (hi.a.lMem u _).mpr hst, hi.b.lWait _ u hst⟩
  | xfer => have := hi.b.xferM _ hst; rw [hmu] at this; cases this
  | woken => exact .inr ⟨rfl, hi.b.wokenW _ hst⟩
  | selfOut =>
    have := ((hi.b.thr t).mineS _ hm hst).1
    rcases hl with hl | hl <;> rw [hl] at this <;> simp at this

/-- When nsync_cv_signal takes the spinlock with a non-empty queue it unlinks the first waiter;
    if that one is a reader-mode waiter of an nsync_mu it unlinks every reader-mode waiter in the
    queue; among the records it unlinks at most one is not such a reader; and it unlinks nothing
    else (`sigSelect` is the exact set, in queue order: it becomes the private `to_wake_list`). -/
theorem C04_signal {cfg : Config} {s s' : State} {t : Tid} {exp new obs : Nat} {f : Rid} {rest : List Rid}
    (hs : step cfg s (.wordCas t exp new obs true) = .ok s') (hc : (s.thr t).cont = .sig)
    (hb : (s.thr t).bcast = false) (hq : s.queue = f :: rest) :
    (s'.recs f).stat = .listed t ∧
    (isReader s.recs f = true → ∀ r, r ∈ s.queue → isReader s.recs r = true → (s'.recs r).stat = .listed t) ∧
    (((s'.thr t).list.filter (fun r => !isReader s.recs r)).length ≤ 1) ∧
    (s'.thr t).list = sigSelect s.recs s.queue ∧
    (∀ r, r ∈ (s'.thr t).list → (s'.recs r).stat = .listed t ∧ Unl.waker t ∈ (s'.recs r).unl) ∧
    (∀ r, r ∉ (s'.thr t).list → s'.recs r = s.recs r) := by
  obtain ⟨_, _, hrec, hlist⟩ := acq_sig_state hs hc
  simp only [hb, Bool.false_eq_true, if_false] at hrec hlist
  have hsel : ∀ r, r ∈ sigSelect s.recs s.queue → (s'.recs r).stat = .listed t ∧ Unl.waker t ∈ (s'.recs r).unl := by
    intro r hr; rw [hrec r]; simp [hr]
  refine ⟨?_, ?_, ?_, hlist, ?_, ?_⟩
  · exact (hsel f (by rw [hq]; exact sigSelect_head _ _ _)).1
  · intro hf r hr hrd
    exact (hsel r (by rw [hq] at hr ⊢; exact sigSelect_readers _ _ _ hf r hr hrd)).1
  · rw [hlist]; exact sigSelect_nonreaders _ _
  · intro r hr; rw [hlist] at hr; exact hsel r hr
  · intro r hr; rw [hlist] at hr; rw [hrec r]; simp [hr]

/-- When a broadcast call returns, every instance whose enqueue was published (cv spinlock released
    after the append: "started waiting") before the call's first load of the cv word has been
    unlinked — it is no longer in the queue — and none is left on the broadcaster's own list: each
    record the broadcaster unlinked has been woken (`waiting := 0`, then V) or transferred to the
    mutex queue; a record unlinked by somebody else is that waker's business (`C04_no_lost_wake`),
    or it unlinked itself (timeout).  `enqSeq` / `seq0` are the ghost sequence numbers at the
    publication / at the first load. -/
theorem C04_broadcast {cfg : Config} {s s' : State} {t : Tid} (h : Reachable cfg s)
    (hs : step cfg s (.retBroadcast t) = .ok s') (r : Rid) (hp : (s.recs r).pub = true)
    (hseq : (s.recs r).enqSeq < (s.thr t).seq0) :
    r ∉ s.queue ∧ (s.recs r).stat ≠ .queued ∧ (s.recs r).stat ≠ .listed t ∧ r ∉ (s.thr t).list := by
  obtain ⟨hl, hb⟩ := retBroadcast_accepted hs
  have hi := (inv_reachable h).a
  have hd := invD_reachable h
  have hnq : r ∉ s.queue := by
    intro hm
    have := hd.done t (by simp [bcastDone, hl, hb]) r hm hp
    omega
  have hlist := (hi.thr t).list0 (by simp [hl, Loc.wakePhase])
  refine ⟨hnq, fun e => hnq ((hi.qMem r).mpr e), ?_, by rw [hlist]; simp⟩
  intro e
  have := (hi.lMem t r).mpr e
  rw [hlist] at this; simp at this

/-- How it does it.  (1) At its spinlock acquisition nsync_cv_broadcast unlinks EVERY record
    of the queue (all get status `listed t` and the broadcaster among their unlinkers), the queue
    is left empty and the private list is the old queue.  (2) When the call returns, no record is
    left on its list: each record it unlinked has been woken (`waiting := 0` stored, then V) or
    transferred to the mutex queue. -/
theorem C04_broadcast_unlinks_all {cfg : Config} :
    (∀ (s s' : State) (t : Tid) (exp new obs : Nat), Reachable cfg s →
      step cfg s (.wordCas t exp new obs true) = .ok s' → (s.thr t).cont = .sig → (s.thr t).bcast = true →
        s'.queue = [] ∧ (s'.thr t).list = s.queue ∧
        ∀ r, r ∈ s.queue → (s'.recs r).stat = .listed t ∧ Unl.waker t ∈ (s'.recs r).unl) ∧
    (∀ (s s' : State) (t : Tid), Reachable cfg s → step cfg s (.retBroadcast t) = .ok s' →
        (s.thr t).list = [] ∧ ∀ r, (s.recs r).stat ≠ .listed t) := by
  constructor
  · intro s s' t exp new obs _ hs hc hb
    obtain ⟨_, hqueue, hrec, hlist⟩ := acq_sig_state hs hc
    simp only [hb, if_true] at hqueue hrec hlist
    refine ⟨by rw [hqueue, filter_not_contains_self], hlist, ?_⟩
    intro r hr; rw [hrec r]; simp [hr]
  · intro s s' t h hs
    obtain ⟨hl, _⟩ := retBroadcast_accepted hs
    have hi := (inv_reachable h).a
    have hlist := (hi.thr t).list0 (by simp [hl, Loc.wakePhase])
    refine ⟨hlist, ?_⟩
    intro r e
    have := (hi.lMem t r).mpr e
    rw [hlist] at this; simp at this

/-- Invariant form of "the wake-up is never lost".  A record that a waker has unlinked and not
    transferred is
      * either still on that waker's private list, and the waker is inside its wake-up phase
        (between the unlink and its last V: the acceptor leaves that phase only through
        `waiting := 0` + V, or the transfer, for every record of the list) — and it still has
        `waiting = 1` (EVERY kind of record, on the repaired code), so its owner has not left:
        a cv wait stays in its loop, a cv_dequeue stays in its wait loop;
      * or woken: `waiting = 0` has been stored and the semaphore has been posted, or the waker is
        at the V for exactly this instance (`cur`). -/
theorem C04_no_lost_wake {cfg : Config} {s : State} (h : Reachable cfg s) (r : Rid) :
    (∀ u, (s.recs r).stat = .listed u → r ∈ (s.thr u).list ∧ (s.thr u).loc.wakePhase = true) ∧
    (∀ u, (s.recs r).stat = .listed u → (s.recs r).waiting = true) ∧
    ((s.recs r).stat = .woken → (s.recs r).waiting = false ∧
      ((s.recs r).posted = true ∨ ∃ u, (s.thr u).cur = some (r, (s.recs r).enqSeq) ∧ (s.thr u).loc = .wwV)) := by
  have hi := inv_reachable h
  refine ⟨?_, fun u hu => hi.b.lWait r u hu,
    fun hw => ⟨hi.b.wokenW r hw, (invE_reachable h).woken r hw⟩⟩
  intro u hu
  have hm := (hi.a.lMem u r).mpr hu
  refine ⟨hm, ?_⟩
  cases hw : (s.thr u).loc.wakePhase
  · have := (hi.a.thr u).list0 hw; rw [this] at hm; simp at hm
  · rfl

/-! ### non-vacuity: accepted concrete traces -/

/-- one writer-mode waiter (thread 0, record w0), one broadcaster (thread 1) -/
def exBroadcast : List Event := [
  .tick 100, .callWait 0 false none false, .wInit 0 (.w 0), .recSt 0 .wSt1 (.w 0) 1 0, .muLd 0 .wMode 1,
  .wordLd 0 .spin0 0, .wordCas 0 0 3 0 true, .recLd 0 .wRc (.w 0) 0, .wordSt 0 .waitRel 2 3,
  .relMark 0 .wr, .nret 0, .recLd 0 .wHead (.w 0) 1, .semPdEnter 0 0 none,
  .callBroadcast 1, .wordLd 1 .bcLd 2, .wordLd 1 .spin0 2, .wordCas 1 2 3 2 true,
  .recLd 1 .bRcLd (.w 0) 0, .recCas 1 .bRcCas (.w 0) 0 1 0 true, .wordSt 1 .bcRel 0 3,
  .muLd 1 .wwLd 0, .recSt 1 .wake (.w 0) 0 1, .semV 1 0, .retBroadcast 1,
  .semPdRet 0 0 false, .recLd 0 .wTail (.w 0) 0, .recLd 0 .wHead (.w 0) 0, .lockMark 0 .wr, .nret 0,
  .retWait 0 .ok]

example : okRun ⟨false⟩ exBroadcast = true := by decide
example : okRun ⟨true⟩ exBroadcast = true := by decide
example : ((runD ⟨false⟩ exBroadcast).recs (.w 0)).unl = [Unl.waker 1] := by decide
/-- the hypotheses of `C04_wait_atomic` are satisfiable: after the first 9 events the release mark is accepted -/
example : okRun ⟨false⟩ (exBroadcast.take 10) = true ∧
    ((runD ⟨false⟩ (exBroadcast.take 9)).queue = [.w 0]) := by decide

/-- the hypotheses of `C04_broadcast` are satisfiable: before the `ret` of the broadcast the record is
    published with a sequence number below the broadcast's first load, and it has been woken and posted -/
example : okRun ⟨false⟩ (exBroadcast.take 24) = true ∧
    ((runD ⟨false⟩ (exBroadcast.take 23)).recs (.w 0)).pub = true ∧
    ((runD ⟨false⟩ (exBroadcast.take 23)).recs (.w 0)).enqSeq < ((runD ⟨false⟩ (exBroadcast.take 23)).thr 1).seq0 ∧
    ((runD ⟨false⟩ (exBroadcast.take 23)).recs (.w 0)).stat = .woken ∧
    ((runD ⟨false⟩ (exBroadcast.take 23)).recs (.w 0)).posted = true := by decide

/-- timed waiter whose deadline (150) races a signal: the signaller unlinks first, the semaphore
    wait times out, the remove_count comparison fails, the wait spins until woken and returns 0 -/
def exTimedSignalWins : List Event := [
  .tick 100, .callWait 0 false (some 150) false, .recSt 0 .wSt1 (.w 0) 1 0, .muLd 0 .wMode 1,
  .wordLd 0 .spin0 0, .wordCas 0 0 3 0 true, .recLd 0 .wRc (.w 0) 0, .wordSt 0 .waitRel 2 3,
  .relMark 0 .wr, .nret 0, .recLd 0 .wHead (.w 0) 1, .semPdEnter 0 0 (some 150), .tick 150,
  .callSignal 1, .wordLd 1 .sigLd 2, .wordLd 1 .spin0 2, .wordCas 1 2 3 2 true,
  .recLd 1 (.sRcLd true) (.w 0) 0, .recCas 1 (.sRcCas true) (.w 0) 0 1 0 true, .wordSt 1 .sigRel 0 3,
  .semPdRet 0 0 true, .recLd 0 .wChk (.w 0) 1, .wordLd 0 .spin0 0, .wordCas 0 0 1 0 true,
  .recLd 0 .wChk2 (.w 0) 1, .recLd 0 .wCmp (.w 0) 1, .wordSt 0 .waitRel2 0 1, .recLd 0 .wTail (.w 0) 1,
  .recLd 0 .wHead (.w 0) 1,
  .muLd 1 .wwLd 0, .recSt 1 .wake (.w 0) 0 1, .semV 1 0, .retSignal 1,
  .recLd 0 .wChk (.w 0) 0, .recLd 0 .wTail (.w 0) 0, .recLd 0 .wHead (.w 0) 0, .lockMark 0 .wr, .nret 0,
  .retWait 0 .ok]

example : okRun ⟨false⟩ exTimedSignalWins = true := by decide
example : okRun ⟨true⟩ exTimedSignalWins = true := by decide
/-- the same call may NOT report a timeout -/
example : okRun ⟨false⟩ (exTimedSignalWins.dropLast ++ [.retWait 0 .timedOut]) = false := by decide

/-- the same race, the timeout wins: the waiter removes itself, the signal finds an empty queue -/
def exTimedTimeoutWins : List Event := [
  .tick 100, .callWait 0 false (some 150) false, .recSt 0 .wSt1 (.w 0) 1 0, .muLd 0 .wMode 1,
  .wordLd 0 .spin0 0, .wordCas 0 0 3 0 true, .recLd 0 .wRc (.w 0) 0, .wordSt 0 .waitRel 2 3,
  .relMark 0 .wr, .nret 0, .recLd 0 .wHead (.w 0) 1, .semPdEnter 0 0 (some 150), .tick 150,
  .semPdRet 0 0 true, .recLd 0 .wChk (.w 0) 1, .wordLd 0 .spin0 2, .wordCas 0 2 3 2 true,
  .recLd 0 .wChk2 (.w 0) 1, .recLd 0 .wCmp (.w 0) 0, .recLd 0 .wRmLd (.w 0) 0,
  .recCas 0 .wRmCas (.w 0) 0 1 0 true, .recSt 0 .wClr (.w 0) 0 1, .wordSt 0 .waitRel2 0 3,
  .callSignal 1, .wordLd 1 .sigLd 0, .retSignal 1,
  .recLd 0 .wTail (.w 0) 0, .recLd 0 .wHead (.w 0) 0, .lockMark 0 .wr, .nret 0, .retWait 0 .timedOut]

example : okRun ⟨false⟩ exTimedTimeoutWins = true := by decide
example : ((runD ⟨false⟩ exTimedTimeoutWins).recs (.w 0)).unl = [Unl.self] := by decide

/-- two reader-mode waiters (threads 0 and 1), one signal (thread 2) wakes both -/
def exReaders : List Event := [
  .tick 100,
  .callWait 0 false none false, .recSt 0 .wSt1 (.w 0) 1 0, .muLd 0 .wMode 512,
  .wordLd 0 .spin0 0, .wordCas 0 0 3 0 true, .recLd 0 .wRc (.w 0) 0, .wordSt 0 .waitRel 2 3,
  .relMark 0 .rd, .nret 0, .recLd 0 .wHead (.w 0) 1, .semPdEnter 0 0 none,
  .callWait 1 false none false, .recSt 1 .wSt1 (.w 1) 1 0, .muLd 1 .wMode 256,
  .wordLd 1 .spin0 2, .wordCas 1 2 3 2 true, .recLd 1 .wRc (.w 1) 0, .wordSt 1 .waitRel 2 3,
  .relMark 1 .rd, .nret 1, .recLd 1 .wHead (.w 1) 1, .semPdEnter 1 1 none,
  .callSignal 2, .wordLd 2 .sigLd 2, .wordLd 2 .spin0 2, .wordCas 2 2 3 2 true,
  .recLd 2 (.sRcLd true) (.w 0) 0, .recCas 2 (.sRcCas true) (.w 0) 0 1 0 true,
  .recLd 2 (.sRcLd false) (.w 1) 0, .recCas 2 (.sRcCas false) (.w 1) 0 1 0 true,
  .wordSt 2 .sigRel 0 3, .muLd 2 .wwLd 0,
  .recSt 2 .wake (.w 0) 0 1, .semV 2 0, .recSt 2 .wake (.w 1) 0 1, .semV 2 1, .retSignal 2]

example : okRun ⟨false⟩ exReaders = true := by decide
example : ((runD ⟨false⟩ exReaders).recs (.w 0)).stat = .woken ∧
          ((runD ⟨false⟩ exReaders).recs (.w 1)).stat = .woken := by decide
/-- a signal that wakes only the first reader is rejected -/
example : okRun ⟨false⟩ (exReaders.take 29 ++ [.wordSt 2 .sigRel 2 3]) = false := by decide

/-- an nsync_wait_n record woken by a broadcast; the call dequeues it (`waiting = 0`: it was ready) -/
def exWaitN : List Event := [
  .tick 100, .callWaitN 0, .nwInit 0 (.nw 0),
  .wordLd 0 .spin0 0, .wordCas 0 0 1 0 true, .recSt 0 .enqSt (.nw 0) 1 0, .wordSt 0 .enqRel 2 1,
  .recLd 0 .ready (.nw 0) 1, .semPdEnter 0 0 none,
  .callBroadcast 1, .wordLd 1 .bcLd 2, .wordLd 1 .spin0 2, .wordCas 1 2 3 2 true, .wordSt 1 .bcRel 0 3,
  .recSt 1 .wake (.nw 0) 0 1, .semV 1 0, .retBroadcast 1,
  .semPdRet 0 0 false, .recLd 0 .ready (.nw 0) 0,
  .wordLd 0 .spin0 0, .wordCas 0 0 1 0 true, .recLd 0 .deqLd (.nw 0) 0, .wordSt 0 .deqRel 0 1, .retWaitN 0]

example : okRun ⟨false⟩ exWaitN = true := by decide
example : ((runD ⟨false⟩ exWaitN).recs (.nw 0)).unl = [Unl.waker 1] := by decide

/-- The F3 schedule (corpus C04/f3_waitn_cv.txt: the broadcaster unlinks `nw0` and releases the
    spinlock, the deadline of the wait_n expires, cv_dequeue finds `waiting = 1`) on the repaired
    code: the record is not in the queue, cv_dequeue releases the spinlock and waits; the waker
    clears `waiting` and posts; cv_dequeue returns 0 and the call returns. -/
def f3Fixed : List Event := [
  .tick 100, .callWaitN 0, .nwInit 0 (.nw 0),
  .wordLd 0 .spin0 0, .wordCas 0 0 1 0 true, .recSt 0 .enqSt (.nw 0) 1 0, .wordSt 0 .enqRel 2 1,
  .recLd 0 .ready (.nw 0) 1, .semPdEnter 0 0 (some 200),
  .callBroadcast 1, .wordLd 1 .bcLd 2, .wordLd 1 .spin0 2, .wordCas 1 2 3 2 true, .wordSt 1 .bcRel 0 3,
  .tick 200, .semPdRet 0 0 true,
  .wordLd 0 .spin0 0, .wordCas 0 0 1 0 true, .recLd 0 .deqLd (.nw 0) 1,
  .wordSt 0 .deqRel 0 1, .recLd 0 .deqSpin (.nw 0) 1, .recLd 0 .deqSpin (.nw 0) 1,
  .recSt 1 .wake (.nw 0) 0 1, .semV 1 0, .retBroadcast 1,
  .recLd 0 .deqSpin (.nw 0) 0, .retWaitN 0]

theorem C04_f3_schedule_fixed :
    okRun ⟨false⟩ f3Fixed = true ∧ okRun ⟨true⟩ f3Fixed = true ∧
    ((runD ⟨false⟩ f3Fixed).recs (.nw 0)).unl = [Unl.waker 1] ∧
    ((runD ⟨false⟩ (f3Fixed.take 25)).thr 0).loc = .nDeqSpin ∧
    ((runD ⟨false⟩ (f3Fixed.take 25)).thr 0).wasQ = false ∧
    ((runD ⟨false⟩ f3Fixed).recs (.nw 0)).stat = .idle := by decide

/-- … and what the pinned code does at that point — `ATM_STORE (&nw->waiting, 0)` [cv.c/33] by
    cv_dequeue on a record that is not in the queue — is rejected by this acceptor, as is a return
    of cv_dequeue before the waker has cleared `waiting`. -/
theorem C04_f3_old_behaviour_rejected :
    okRun ⟨false⟩ (f3Fixed.take 19) = true ∧
    okRun ⟨false⟩ (f3Fixed.take 19 ++ [.recSt 0 .deqSt (.nw 0) 0 1]) = false ∧
    okRun ⟨false⟩ (f3Fixed.take 20 ++ [.retWaitN 0]) = false ∧
    okRun ⟨false⟩ (f3Fixed.take 21 ++ [.retWaitN 0]) = false := by decide

/-- the hypotheses of `C04_outcome` are satisfiable, on both return paths -/
example : deqReturns (runD ⟨false⟩ (f3Fixed.take 25)) 0 (.nw 0) (.recLd 0 .deqSpin (.nw 0) 0) := .inr rfl
example : deqReturns (runD ⟨false⟩ (exWaitN.take 22)) 0 (.nw 0) (.wordSt 0 .deqRel 0 1) :=
  .inl ⟨0, 1, rfl, by decide, by decide⟩

/-- an nsync_wait_n whose deadline expires with nobody waking: cv_dequeue finds the record in the
    queue, removes it and returns `was_queued = 1` -/
def exWaitNTimeout : List Event := [
  .tick 100, .callWaitN 0, .nwInit 0 (.nw 0),
  .wordLd 0 .spin0 0, .wordCas 0 0 1 0 true, .recSt 0 .enqSt (.nw 0) 1 0, .wordSt 0 .enqRel 2 1,
  .recLd 0 .ready (.nw 0) 1, .semPdEnter 0 0 (some 200), .tick 200, .semPdRet 0 0 true,
  .wordLd 0 .spin0 2, .wordCas 0 2 3 2 true, .recLd 0 .deqLd (.nw 0) 1, .recSt 0 .deqSt (.nw 0) 0 1,
  .wordSt 0 .deqRel 0 3, .retWaitN 0]

example : okRun ⟨false⟩ exWaitNTimeout = true ∧
    ((runD ⟨false⟩ (exWaitNTimeout.take 15)).thr 0).wasQ = true ∧
    ((runD ⟨false⟩ exWaitNTimeout).recs (.nw 0)).unl = [Unl.self] := by decide

end NsyncVerif.CvFix
