import NsyncVerif.Props.C02Progress
import NsyncVerif.Proofs.MuQFairMain
import NsyncVerif.Proofs.MuQFairTrace
/-!
# C02, progress half, for ALL fair schedules — "every nsync_mu_lock and nsync_mu_rlock call eventually returns"

Model `NsyncVerif.Model.MuQ`; executions, fairness and the hypotheses are the definitions of
`Props/C02Progress.lean` (`Exec`, `WeakFair`, `HoldersRelease`, `FiniteArrivals`, `FiniteRcFails`).
Any number of threads, both semaphore flavours, environment posts (`envV`, `envSem`) and
idle steps (`σ i = none`) at any time.

## Machine-checked here

* `C02_fair_termination : C02_fair_termination_full` — the statement of
  `Props/C02Progress.lean`, proved AS STATED: in every infinite execution from a reachable state that
  is weakly fair, in which holders call unlock / runlock, acquisition calls stop arriving and CASes on
  `remove_count` stop failing, every thread inside lock / rlock / trylock / rtrylock / lock_slow
  eventually returns.
* `C02_fair_quiescence` — the stronger fact the proof establishes: such an execution reaches a time
  after which EVERY thread is idle and holds nothing (every pending call, unlock / runlock
  included, has returned; every sleeper has been woken, has acquired and has released).
* `C02_fair_return` — every thread inside ANY core call (unlock / runlock included) returns.
* `C02_fair_wake` — fair version of `C02_leads_to_wake`: a thread asleep in P on its semaphore
  (count 0) is eventually posted: at some later time it is still at the return point of P and the
  count is non-zero.

## The argument (no explicit global ranking; "eventually for ever" facts, each by a local rank)

After the last arrival (`Proofs/MuQFairSettle.lean`, `Proofs/MuQFairMain.lean`):
A. Σ stage is non-increasing (`C02_stage_monotone`), so every thread's stage freezes.
B. Then nobody is past a point of no return (final CAS of a release done, failed try-lock): such a
   thread returns in ≤ 2·|wake list| + 3 own steps, which weak fairness gives it, and its stage
   would drop.  Hence C. no `waiting` flag is cleared any more, hence D. each thread takes the
   spinlock with its enqueue CAS at most once more.
E. The spinlock is eventually free and then stays free, and the word is constant: its owner
   (mu_release_spinlock, or the scan and final CAS of unlock_slow — here `FiniteRcFails`) faces a
   constant word and finishes in boundedly many own steps.
F. With the word constant every CAS attempted after re-reading the word succeeds, so (local ranks
   `ownPart`, `rank2`) no contender that is not parked — un-queued, or woken and not yet aware of
   it — and no owner of a share (here, and only here, `HoldersRelease`) is left.
G. What is left is idle threads and threads in their wait loops with `waiting` set, and the
   invariants (`ALive.resp`, `AQueue.wt`) exclude the latter.
Spinning (`lsLd` / `usLd` with the spinlock taken), failed CASes and spurious semaphore wake-ups
(environment posts) are stutter: they change no component.  Weak fairness enters only through
`fair_move`: a thread that stays enabled until it moves, moves.

## Barging: `FiniteArrivals`, not C14

The proof uses `FiniteArrivals` outright (it covers try-locks: `Event.isAcqCall`); after the last
arrival no thread can barge more than once, so the MU_LONG_WAIT mechanism of C14 is NOT used.  (C14 is
what one would need to weaken `FiniteArrivals` to a bound on concurrent arrivals; under WEAK fairness
that is still not enough: see `C02_fair_needs_arrivals` below.)

## Hypotheses really used

`Reachable cfg s0` (invariants), `WeakFair`, `HoldersRelease` (step F, threads idle holding the mutex),
`FiniteArrivals` (step A), `FiniteRcFails` (step E).  Nothing else.

## Each hypothesis is needed (explicit fair executions, machine-checked)

* `C02_fair_needs_release`   `heldExec` (a holder that never unlocks, a sleeper; then idling): weakly
  fair, finitely many arrivals, no `remove_count` failure — thread 1 never returns.
* `C02_fair_needs_rc`        `rcExec` (lasso: the unlocker's CAS on `remove_count` fails and it
  re-loads, for ever): weakly fair, holders release, finitely many arrivals — threads 1, 2 never return.
* `C02_fair_needs_arrivals`  `bargeExec` (lasso of period 8: thread 0 locks and unlocks on the fast paths
  for ever, each time between thread 1's load and its enqueue CAS): weakly fair, holders release, no
  `remove_count` failure, infinitely many arrivals — thread 1 never returns.
(`WeakFair` itself is trivially needed: an execution in which an enabled thread is never scheduled.)

## Non-vacuity

`frontExec`: the harness trace `traceFront` of `Props/C02.lean` (three threads; two writers queue and
sleep while thread 0 holds, thread 0 barges once, thread 1 re-queues) followed by idling for ever is
an `Exec` satisfying all four hypotheses; in it `nsync_mu_lock` is called by thread 1 at time 4
while thread 0 owns the writer bit, and thread 1 is asleep on a semaphore with count 0 at time 14.
-/
namespace NsyncVerif.MuQ

/-- Quiescence: eventually every thread is idle holding nothing, for ever. -/
theorem C02_fair_quiescence {cfg : Cfg} {s0 : State} (x : Exec cfg s0) (hr : Reachable cfg s0)
    (hf : WeakFair x) (hh : HoldersRelease x) (ha : FiniteArrivals x) (hc : FiniteRcFails x) :
    ∃ n, ∀ j, n ≤ j → ∀ t, IdleHoldingNothing (x.ρ j) t := by
  obtain ⟨na, hna⟩ := ha
  obtain ⟨nc, hnc⟩ := hc
  obtain ⟨n, _, h⟩ := fair_quiescence x hr hf hh (n0 := max na nc)
    (fun j e hj hs => hna j e (by omega) hs) (fun j e hj hs => hnc j e (by omega) hs)
  exact ⟨n, h⟩

/-- Every thread inside a core call — unlock / runlock included — eventually returns. -/
theorem C02_fair_return {cfg : Cfg} {s0 : State} (x : Exec cfg s0) (hr : Reachable cfg s0)
    (hf : WeakFair x) (hh : HoldersRelease x) (ha : FiniteArrivals x) (hc : FiniteRcFails x)
    (t : Tid) (i : Nat) : ∃ j, i ≤ j ∧ (x.ρ j).pc t = .idle := by
  obtain ⟨n, h⟩ := C02_fair_quiescence x hr hf hh ha hc
  exact ⟨max i n, by omega, (h (max i n) (by omega) t).1⟩

/-- The statement of `Props/C02Progress.lean`, as stated there. -/
theorem C02_fair_termination : C02_fair_termination_full := by
  intro cfg s0 x hr hf hh ha hc t i _
  exact C02_fair_return x hr hf hh ha hc t i

/-- The only step a thread takes from the return point of P needs a non-zero count. -/
theorem own_pRet_posted {cfg : Cfg} {s s' : State} {t : Tid} {b : Bool} {c : SL} {k : Wid}
    (h : Own cfg s t b s') (hp : s.pc t = .lsPRet c) (hw : c.w = some k) : (s.wr k).sem ≠ 0 := by
  obtain ⟨e, _, h⟩ := h
  rw [hp] at h
  cases h with
  | pRet _ k' hw' hs => rw [hw] at hw'; cases hw'; exact hs

/-- Fair version of `C02_leads_to_wake`: a thread asleep in P on the semaphore of its waiter record
    (count 0) is eventually posted. -/
theorem C02_fair_wake {cfg : Cfg} {s0 : State} (x : Exec cfg s0) (hr : Reachable cfg s0)
    (hf : WeakFair x) (hh : HoldersRelease x) (ha : FiniteArrivals x) (hc : FiniteRcFails x)
    {t : Tid} {i : Nat} {c : SL} {k : Wid} (hp : (x.ρ i).pc t = .lsPRet c) (hw : c.w = some k) :
    ∃ j, i ≤ j ∧ (x.ρ j).pc t = .lsPRet c ∧ ((x.ρ j).wr k).sem ≠ 0 := by
  obtain ⟨j1, hj1, hidle⟩ := C02_fair_return x hr hf hh ha hc t i
  have hmv : ∃ j, i ≤ j ∧ Moves x t j := by
    apply Classical.byContradiction; intro hn
    obtain ⟨a, _⟩ := frame_between x hj1 (fun j' h1 _ hm => hn ⟨j', h1, hm⟩)
    rw [a, hp] at hidle; cases hidle
  obtain ⟨j, h1, h2, h3⟩ := Sched.first_at hmv
  obtain ⟨a, _⟩ := frame_between x h1 h3
  obtain ⟨e, _, hown⟩ := h2.own
  have hpj : (x.ρ j).pc t = .lsPRet c := by rw [a, hp]
  exact ⟨j, h1, hpj, own_pRet_posted hown hpj hw⟩

/-! ## non-vacuity -/

/-- The state after the whole of `traceFront`. -/
def frontFinal : State := stateAt ⟨false⟩ traceFront traceFront.length

theorem front_accepted : accepts ⟨false⟩ traceFront = true := by decide +kernel

theorem front_run : run ⟨false⟩ init traceFront = .ok frontFinal :=
  run_of_accepts front_accepted

/-- `traceFront`, then nothing for ever. -/
def frontExec : Exec ⟨false⟩ init := traceExec ⟨false⟩ traceFront frontFinal front_run

theorem front_threads : traceFront.all (fun e => match e.tid with | some t => decide (t < 3) | none => true) = true := by
  decide

theorem front_final_idle : checkAfter ⟨false⟩ traceFront (fun s =>
    (List.range 3).all (fun t => decide (s.pc t = .idle) && decide (s.held t = none))) = true := by decide +kernel

theorem front_quiescent (t : Tid) : IdleHoldingNothing frontFinal t := by
  by_cases ht : t < 3
  · have h := front_final_idle
    simp only [checkAfter, front_run, List.all_eq_true, List.mem_range, Bool.and_eq_true, decide_eq_true_eq] at h
    exact h t ht
  · exact run_untouched_ge (n := 3) front_threads ht front_run

theorem front_tail {j : Nat} (hj : traceFront.length ≤ j) : frontExec.ρ j = frontFinal ∧ frontExec.σ j = none :=
  traceExec_tail front_run hj

/-- `frontExec` satisfies every hypothesis of `C02_fair_termination` … -/
theorem front_hyps : Reachable ⟨false⟩ init ∧ WeakFair frontExec ∧ HoldersRelease frontExec ∧
    FiniteArrivals frontExec ∧ FiniteRcFails frontExec := by
  have hr := reachable_init ⟨false⟩
  refine ⟨hr, ?_, ?_, ?_⟩
  · exact weakFair_of_quiescent frontExec traceFront.length
      (fun j hj t => by rw [(front_tail hj).1]; exact (front_quiescent t).1)
  · exact holdersRelease_of_quiescent frontExec hr traceFront.length
      (fun j hj t => by rw [(front_tail hj).1]; exact (front_quiescent t).2)
  · exact finite_of_tail frontExec traceFront.length (fun j hj => (front_tail hj).2)

/-- … and in it nsync_mu_lock is called (time 4, thread 1) while thread 0 owns the writer bit; at
    time 5 thread 1 is inside the call; at time 14 it is asleep on semaphore w0 with count 0, queued
    behind a held mutex.  The theorems above say that it is posted and returns (in the trace: the
    post at time 33, a lost race and a second sleep, the return at time 65). -/
example : frontExec.σ 4 = some (.call 1 .lock) := rfl

set_option maxRecDepth 4096 in
example : (frontExec.ρ 4).word.wlock = true ∧ (frontExec.ρ 4).wOwner = some 0 ∧
    acqPc ((frontExec.ρ 5).pc 1) = true ∧
    (frontExec.ρ 14).pc 1 = .lsPRet { l := .W, w := some 0, clear := false, ign := false, wc := 0, lwl := false } ∧
    ((frontExec.ρ 14).wr 0).sem = 0 ∧ (frontExec.ρ 14).word.wlock = true := by
  decide

set_option maxRecDepth 4096 in
example : frontExec.σ 33 = some (.semV 0 0) ∧ frontExec.σ 65 = some (.ret 1 .lock none) ∧
    (frontExec.ρ 66).pc 1 = .idle := ⟨rfl, rfl, by decide⟩

example : ∃ j, 5 ≤ j ∧ (frontExec.ρ j).pc 1 = .idle :=
  C02_fair_termination _ _ frontExec front_hyps.1 front_hyps.2.1 front_hyps.2.2.1 front_hyps.2.2.2.1
    front_hyps.2.2.2.2 1 5 (by decide)

/-! ## the hypothesis of C02 is needed (sanity check of the formalisation)

Thread 0 acquires and never calls unlock; thread 1 calls nsync_mu_lock, queues and sleeps; then
nothing happens for ever.  The execution is weakly fair (thread 0 is idle, thread 1 is asleep on a
semaphore with count 0), has one arrival and no failing `remove_count` CAS — and thread 1 never
returns.  So `HoldersRelease` cannot be dropped (and, by `C02_fair_termination`, fails here). -/

def traceHeld : List Event := traceFront.take 3 ++ (traceFront.drop 4).take 10

def heldFinal : State := stateAt ⟨false⟩ traceHeld traceHeld.length

theorem held_run : run ⟨false⟩ init traceHeld = .ok heldFinal :=
  run_of_accepts (by decide +kernel)

def heldExec : Exec ⟨false⟩ init := traceExec ⟨false⟩ traceHeld heldFinal held_run

theorem held_final (t : Tid) : heldFinal.pc t = .idle ∨ AsleepOnSem heldFinal t := by
  by_cases ht : t < 3
  · have h : checkAfter ⟨false⟩ traceHeld (fun s =>
        (List.range 3).all (fun t => decide (s.pc t = .idle) || asleepB s t)) = true := by decide +kernel
    simp only [checkAfter, held_run, List.all_eq_true, List.mem_range, Bool.or_eq_true, decide_eq_true_eq] at h
    rcases h t ht with h1 | h1
    · exact Or.inl h1
    · exact Or.inr ((asleepB_iff _ _).1 h1)
  · left
    exact (run_untouched_ge (n := 3) (by decide +kernel) ht held_run).1

theorem C02_fair_needs_release :
    WeakFair heldExec ∧ FiniteArrivals heldExec ∧ FiniteRcFails heldExec ∧ ¬ HoldersRelease heldExec ∧
      acqPc ((heldExec.ρ 13).pc 1) = true ∧ ∀ j, 13 ≤ j → (heldExec.ρ j).pc 1 ≠ .idle := by
  have htail : ∀ j, 13 ≤ j → heldExec.ρ j = heldFinal ∧ heldExec.σ j = none :=
    fun j hj => traceExec_tail held_run (by show traceHeld.length ≤ j; simpa [traceHeld, traceFront] using hj)
  have hwf : WeakFair heldExec :=
    weakFair_of_final heldExec 13 (fun j hj t => by rw [(htail j hj).1]; exact held_final t)
  have hfin := finite_of_tail heldExec 13 (fun j hj => (htail j hj).2)
  have hp1 : heldFinal.pc 1 = .lsPRet { l := .W, w := some 0, clear := false, ign := false, wc := 0, lwl := false } := by
    have h : checkAfter ⟨false⟩ traceHeld (fun s => decide (s.pc 1 =
        .lsPRet { l := .W, w := some 0, clear := false, ign := false, wc := 0, lwl := false })) = true := by decide +kernel
    simpa [checkAfter, held_run] using h
  have hnever : ∀ j, 13 ≤ j → (heldExec.ρ j).pc 1 ≠ .idle := by
    intro j hj; rw [(htail j hj).1, hp1]; simp
  have hacq : acqPc ((heldExec.ρ 13).pc 1) = true := by
    rw [(htail 13 (Nat.le_refl _)).1, hp1]; rfl
  refine ⟨hwf, hfin.1, hfin.2, fun hh => ?_, hacq, hnever⟩
  obtain ⟨j, hj, hidle⟩ := C02_fair_termination _ _ heldExec (reachable_init _) hwf hh hfin.1 hfin.2 1 13 hacq
  exact hnever j hj hidle

/-! ## `FiniteRcFails` is needed in this model

`traceFront` up to the point where thread 0, inside unlock_slow with the spinlock, has loaded
`remove_count` of w0 (time 29; threads 1 and 2 asleep, counts 0); then its CAS on `remove_count`
fails and it re-loads, for ever.  The acceptor accepts this (`remove_count` is memory the mutex does
not own), the execution is weakly fair (thread 0 moves at every step), nobody holds, nobody arrives —
and threads 1 and 2 never return. -/

def traceRc : List Event := traceFront.take 29

def rcA : State := stateAt ⟨false⟩ traceRc traceRc.length

def rcScan : Scan := { wake := [0], todo := [1], wt := some .W, sww := false, saf := true }

def rcB : State := setPc rcA 0 (.usRcLd .W rcScan 0)

theorem rc_run : run ⟨false⟩ init traceRc = .ok rcA :=
  run_of_accepts (by decide +kernel)

theorem rcA_pc0 : rcA.pc 0 = .usRcCas .W rcScan 0 0 := by
  have h : checkAfter ⟨false⟩ traceRc (fun s => decide (s.pc 0 = .usRcCas .W rcScan 0 0)) = true := by decide +kernel
  simpa [checkAfter, rc_run] using h

theorem rc_step1 : step ⟨false⟩ rcA (.cas 0 .rlx (.rc 0) 0 1 5 false) = .ok rcB := by
  simp [step, stepCas, rcA_pc0, rcB]

theorem rc_step2 : step ⟨false⟩ rcB (.ld 0 .rlx (.rc 0) 0) = .ok rcA := by
  simp only [step, stepLd, rcB, setPc_pc_self]
  simp only [ne_eq, not_true_eq_false, if_false]
  rw [setPc_setPc_self rcA_pc0]

def rcLoop : List Event := [.cas 0 .rlx (.rc 0) 0 1 5 false, .ld 0 .rlx (.rc 0) 0]

theorem rc_loop : run ⟨false⟩ rcA rcLoop = .ok rcA := by
  simp [rcLoop, run, rc_step1, rc_step2]

def rcExec : Exec ⟨false⟩ init := lassoExec ⟨false⟩ traceRc rcLoop rcA rc_run rc_loop (by decide)

theorem C02_fair_needs_rc :
    WeakFair rcExec ∧ HoldersRelease rcExec ∧ FiniteArrivals rcExec ∧ ¬ FiniteRcFails rcExec ∧
      acqPc ((rcExec.ρ 29).pc 1) = true ∧ ∀ j, 29 ≤ j → (rcExec.ρ j).pc 1 ≠ .idle := by
  obtain ⟨a, b, c, _⟩ := lasso_hyps rc_run rc_loop (by decide) 3 (by decide +kernel) (by decide +kernel)
  -- thread 0 moves at step 0 of the loop, threads 1 and 2 are asleep; nobody holds; the loop has no call
  have hwf := a (by decide +kernel)
  have hhr := b ⟨0, by decide, by decide +kernel⟩
  have hfa := c (by decide +kernel)
  have hin : ∀ j, 29 ≤ j → acqPc ((rcExec.ρ j).pc 1) = true := fun j hj =>
    lasso_always rc_run rc_loop (by decide) (P := fun s => acqPc (s.pc 1)) (by decide +kernel) hj
  have hnever : ∀ j, 29 ≤ j → (rcExec.ρ j).pc 1 ≠ .idle := fun j hj hi => by
    have := hin j hj; rw [hi] at this; cases this
  refine ⟨hwf, hhr, hfa, fun hc => ?_, hin 29 (Nat.le_refl _), hnever⟩
  obtain ⟨j, hj, hidle⟩ :=
    C02_fair_termination _ _ rcExec (reachable_init _) hwf hhr hfa hc 1 29 (hin 29 (Nat.le_refl _))
  exact hnever j hj hidle

/-! ## `FiniteArrivals` is needed under weak fairness (and C14 does not help)

Thread 1 is inside lock_slow at its first load (it found the mutex held and has not queued yet); the
mutex is free again.  For ever: thread 0 calls nsync_mu_lock and acquires on the fast path; thread 1
loads the word (held, spinlock free) and prepares its enqueue CAS; thread 0 returns, calls
nsync_mu_unlock and releases on the fast path; thread 1's CAS fails (the word changed); thread 0
returns.  Every thread moves infinitely often, the holder always releases, no `remove_count` CAS
fails, and thread 1 never gets past its enqueue CAS (it never queues, so C14's MU_LONG_WAIT, which is
set by a waiter that has been woken 30 times, never comes into play) and never returns.  The
CAS-retry loop of lock_slow is lock-free, not wait-free: nsync's anti-starvation mechanism protects
QUEUED waiters only.  (No spinlock is needed for this.) -/

def tracePre : List Event := traceFront.take 7 ++ [.cas 0 .rel .word 1 0 1 true, .ret 0 .unlock none]

def bargeLoop : List Event := [
  .call 0 .lock,
  .cas 0 .acq .word 0 1 0 true,
  .ld 1 .rlx .word 1,
  .ret 0 .lock none,
  .call 0 .unlock,
  .cas 0 .rel .word 1 0 1 true,
  .cas 1 .acq .word 1 39 0 false,
  .ret 0 .unlock none ]

theorem barge_loop (s : State) (hw : s.word = Word.zero) (h1 : s.pc 1 = .lsLd (SL.entry .W))
    (h0 : s.pc 0 = .idle) (hh : s.held 0 = none) (hwo : s.wOwner = none) :
    run ⟨false⟩ s bargeLoop = .ok s := by
  obtain ⟨word, queue, wr, pc, held, wOwner, rOwners, sp⟩ := s
  simp only at hw h1 h0 hh hwo
  subst hw hwo
  simp [bargeLoop, run, step, stepCall, stepRet, stepCas, stepLd, casWord, ldWord, setPc, setFn, h0, h1, hh,
    addShare, subShare, encode, b2n, addWord, Word.zero, blocked, enqWord, SL.entry]
  refine ⟨?_, ?_⟩ <;> funext u <;> simp only [setFn]
  · by_cases hu0 : u = 0
    · subst hu0; simp [h0]
    · by_cases hu1 : u = 1
      · subst hu1; simp [h1, SL.entry]
      · simp [hu0, hu1]
  · by_cases hu0 : u = 0
    · subst hu0; simp [hh]
    · simp [hu0]

def bargeA : State := stateAt ⟨false⟩ tracePre tracePre.length

theorem barge_run : run ⟨false⟩ init tracePre = .ok bargeA :=
  run_of_accepts (by decide +kernel)

theorem bargeA_facts : bargeA.word = Word.zero ∧ bargeA.pc 1 = .lsLd (SL.entry .W) ∧ bargeA.pc 0 = .idle ∧
    bargeA.held 0 = none ∧ bargeA.wOwner = none := by
  have h : checkAfter ⟨false⟩ tracePre (fun s => decide (s.word = Word.zero) &&
      decide (s.pc 1 = .lsLd (SL.entry .W)) && decide (s.pc 0 = .idle) && decide (s.held 0 = none) &&
      decide (s.wOwner = none)) = true := by decide +kernel
  simpa [checkAfter, barge_run, and_assoc] using h

theorem barge_cycle : run ⟨false⟩ bargeA bargeLoop = .ok bargeA :=
  barge_loop bargeA bargeA_facts.1 bargeA_facts.2.1 bargeA_facts.2.2.1 bargeA_facts.2.2.2.1 bargeA_facts.2.2.2.2

def bargeExec : Exec ⟨false⟩ init :=
  lassoExec ⟨false⟩ tracePre bargeLoop bargeA barge_run barge_cycle (by decide)

theorem C02_fair_needs_arrivals :
    WeakFair bargeExec ∧ HoldersRelease bargeExec ∧ FiniteRcFails bargeExec ∧ ¬ FiniteArrivals bargeExec ∧
      acqPc ((bargeExec.ρ 9).pc 1) = true ∧ ∀ j, 9 ≤ j → (bargeExec.ρ j).pc 1 ≠ .idle := by
  obtain ⟨a, b, _, d⟩ := lasso_hyps barge_run barge_cycle (by decide) 2 (by decide +kernel) (by decide +kernel)
  -- both threads move in the loop; at its start nobody holds; no `remove_count` CAS in it
  have hwf := a (by decide +kernel)
  have hhr := b ⟨0, by decide, by decide +kernel⟩
  have hrc := d (by decide +kernel)
  have hin : ∀ j, 9 ≤ j → acqPc ((bargeExec.ρ j).pc 1) = true := fun j hj =>
    lasso_always barge_run barge_cycle (by decide) (P := fun s => acqPc (s.pc 1)) (by decide +kernel) hj
  have hnever : ∀ j, 9 ≤ j → (bargeExec.ρ j).pc 1 ≠ .idle := fun j hj hi => by
    have := hin j hj; rw [hi] at this; cases this
  refine ⟨hwf, hhr, hrc, fun hfa => ?_, hin 9 (Nat.le_refl _), hnever⟩
  obtain ⟨j, hj, hidle⟩ :=
    C02_fair_termination _ _ bargeExec (reachable_init _) hwf hhr hfa hrc 1 9 (hin 9 (Nat.le_refl _))
  exact hnever j hj hidle

end NsyncVerif.MuQ
