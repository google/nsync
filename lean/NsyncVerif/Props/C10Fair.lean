/-
  Props/C10Fair.lean — property C10, LIVENESS form: "every thread waiting when the counter reaches
  zero is released", for ALL weakly fair schedules.  Nothing here is `_partial` except where named so.

  Model `Counter` (Model/Counter.lean).  Executions, fairness and hypotheses are defined in
  `Proofs/CounterFairDefs.lean` (and `FiniteStrayPosts` in `Proofs/CounterFairTimeout.lean`):
  * `Exec s0`        infinite execution (`σ i = none`: nobody moves at time `i`; ticks, events of other
                     layers and stray semaphore posts may happen at any time);
  * `Moves x t j`    thread `t` executes the next operation of its own code at time `j` (its program
                     point changes; events the acceptor skips do not count);
  * `Blocked s t`    `t` is asleep in P-with-deadline on a semaphore with count 0 before its deadline,
                     or waits for the abstract counter_mu while somebody holds it;
  * `WeakFair x`     a thread that from some time on is inside a call and not blocked, moves.  The
                     holder of counter_mu is never blocked.  NOTE: a thread that has reached a contract
                     violation (an ASSERT of counter.c = a `reject` of the acceptor: decrement below
                     zero, overflow, increment from zero after a wait, free with waiters, double free)
                     has no accepted next operation, so an execution in which that happens is not
                     weakly fair in this sense: `WeakFair` includes "no thread sits at a failed ASSERT
                     for ever" (in the real system the process aborts there).
  * `FiniteArrivals x`   only finitely many API calls (`call nsync_counter_*`) occur.
  * `FiniteStrayPosts x` only finitely many semaphore posts come from outside the wake loop of
                     nsync_counter_add (late posts of the Mu layer, which the acceptor accounts).
  * `ClockAdvances x d`  the clock eventually reaches `d`.

  ## Machine-checked here

  * `C10_fair_release : C10_fair_release_full` — in EVERY weakly fair execution from a reachable state
    (any number of threads and of arrivals, ticks and stray events at any time): if at time `i` the
    value is 0 and `waited` is set (then the value stays 0, `C10_zero_forever`: an increment from zero
    after a wait is a contract violation the acceptor rejects), every thread that is inside
    nsync_counter_wait at a time `i' ≥ i` (there at time `i`, or entering later) reaches `idle`
    (returns) at some `j ≥ i'`, and every return point `wRet dl r` it passes has `r = 0` unless it
    already was at that very return point at time `i'` (and then, if `r ≠ 0`, its deadline had
    expired: `C10_fair_release_result`, cf. `C10_wait_nonzero`).
    NO `FiniteArrivals` hypothesis: at zero counter_mu is acquired only finitely often
    (`C10_fair_lock_free`): an add with non-zero delta that took counter_mu would sit at its CAS for
    ever, a free that took it frees the object, after which no call is accepted, and a wait that
    starts at zero does not lock.
  * `C10_fair_wait_returns : C10_fair_wait_returns_full` — a wait with a finite deadline `d` returns in
    every weakly fair execution in which the clock reaches `d` (`ClockAdvances`), with finitely many
    arrivals and finitely many stray posts.  Each of the three hypotheses is NEEDED:
    - `C10_fair_needs_clock`        `sleepExec`: the clock stays at 0, the counter at 1, the sleeper
                                    (deadline 500) is blocked for ever;
    - `C10_fair_needs_arrivals`     `arriveExec` (lasso, period 27): thread 1 has timed out and asks for
                                    counter_mu; thread 2's timed-out waits take counter_mu for ever, so
                                    thread 1 is never continuously enabled (WEAK fairness, abstract lock);
    - `C10_fair_needs_stray_posts`  `strayExec` (lasso, period 5): a stray post wakes the timed-out sleeper
                                    (`pd_ret 0`), it finds the counter non-zero and sleeps again, for ever.
    All three are weakly fair executions satisfying the other hypotheses in which the wait never returns.
  * `C10_fair_release_stays_partial` — variant of `C10_fair_release` whose hypothesis is only "the value
    is 0 from time `i` on" (`waited` not assumed), WITH `FiniteArrivals` (named `_partial` for that
    reason; the full theorem above does not need it).
  * `C10_fair_posted` — fair form of `C10_no_lost_wakeup`: a thread asleep on its semaphore while the
    counter stays zero is posted and leaves the P operation.
  * `C10_holder_releases` — the holder of counter_mu releases it.
  * non-vacuity: `releaseExec` (the accepted trace `Example.twoAddersAndWaiter` of Props/C10.lean, then
    idling) satisfies the hypotheses; in it thread 2 is asleep on semaphore 2 with count 0, still
    queued, at time 39 — the time at which the zeroing CAS has just made the value 0; it is posted at
    time 40 and returns 0.  `timeoutExec` (`Example.timesOut`, then idling) satisfies the hypotheses of
    `C10_fair_wait_returns`; in it thread 1 sleeps with deadline 500 at time 19 (clock 0) and returns 1
    after the clock has reached 500.

  ## The argument
  `Proofs/CounterFairStep.lean`: per-step facts read off the transitions of the acceptor
  (`Prog`, `Prog2`, `Prog3`, `Prog4`).  `holder_releases`: rank `hm` (2·|queue| + position); needs the row of
  `pcFacts` at `aCas` (the value an add is about to CAS is the current one, so the CAS does not fail).
  `pdwait_moves`: by `C10_no_lost_wakeup` a sleeper at zero with count 0 has a waker holding counter_mu
  that cannot release it before it has posted.  `lock_eventually_free(_zero)`: counter_mu is acquired
  finitely often (`lrank`, `lrank0`), then the last holder releases.  `fair_return_zero`: leads-to with rank
  `wrank` (at zero the path through nsync_counter_wait has no loop).  `fair_return_expired`:
  leads-to with the lexicographic measure `tmu` (no semaphore bound to the record yet, units the bound semaphore can
  still deliver `Bf`, position `tpos`).
  Weak fairness enters only through `fair_move`.

  ## What `WeakFair` means: enabledness (`Proofs/CounterFairEnabled.lean`)
  * `C10_thread_enabled` — in every reachable state a thread that is inside a call, not `Blocked` and
    not `AtAssert` (at a failed ASSERT of counter.c: free with waiters, double free, an add whose CAS
    would violate the contract, the `waited` check of an increment from zero) has an accepted event
    that changes its program point.  So `WeakFair` is weak fairness on ENABLED threads, plus "nobody
    sits at a failed ASSERT for ever".  (Invariants used: counter_mu's log name is bound while
    somebody is past `call nsync_mu_lock`; `phase = creating` at the initialising store; a free record
    id and a free semaphore id exist.)
  * `C10_blocked_cannot_move` — conversely a `Blocked` thread has no accepted event that changes its
    program point: `Blocked` is exactly "not enabled (and not at an ASSERT)".
-/
import NsyncVerif.Proofs.CounterFairTimeout
import NsyncVerif.Proofs.CounterFairZeroLock
import NsyncVerif.Proofs.CounterFairEnabled
import NsyncVerif.Proofs.CounterFairWitness

namespace Counter

/-! ## statements at full strength -/

/-- FULL statement; proved below (`C10_fair_release`). -/
def C10_fair_release_full : Prop :=
  ∀ (s0 : State) (x : Exec s0), Reachable s0 → WeakFair x →
    ∀ i, (x.ρ i).sh.value = 0 → (x.ρ i).sh.waited = true →
    ∀ t i', i ≤ i' → inWait ((x.ρ i').pc t) →
      ∃ j, i' ≤ j ∧ (x.ρ j).pc t = .idle ∧
        ∀ j', i' ≤ j' → j' ≤ j → ∀ dl r, (x.ρ j').pc t = .wRet dl r → r = 0 ∨ (x.ρ i').pc t = .wRet dl r

/-- FULL statement; proved below (`C10_fair_wait_returns`). -/
def C10_fair_wait_returns_full : Prop :=
  ∀ (s0 : State) (x : Exec s0), Reachable s0 → WeakFair x → FiniteArrivals x → FiniteStrayPosts x →
    ∀ t i (d : Int), pcDl ((x.ρ i).pc t) = some (some d) → ClockAdvances x d →
      ∃ j, i ≤ j ∧ (x.ρ j).pc t = .idle

/-- zero is absorbing once a wait has been called, along an execution -/
theorem C10_zero_forever {s0 : State} (x : Exec s0) (hr : Reachable s0) {i : Nat}
    (hz : (x.ρ i).sh.value = 0) (hw : (x.ρ i).sh.waited = true) :
    ∀ j, i ≤ j → (x.ρ j).sh.value = 0 ∧ (x.ρ j).sh.waited = true := by
  refine NsyncVerif.Sched.keeps_from (P := fun j => (x.ρ j).sh.value = 0 ∧ (x.ρ j).sh.waited = true) ⟨hz, hw⟩
    fun j _ ih => ?_
  cases h : x.σ j with
  | none => rw [x.next_none h]; exact ih
  | some e => exact C10_zero_stable (x.reach hr j) ih.1 ih.2 (x.next_some h)

theorem C10_fair_release_stays_partial {s0 : State} (x : Exec s0) (hr : Reachable s0) (hf : WeakFair x)
    (ha : FiniteArrivals x) {i : Nat} (hz : ∀ j, i ≤ j → (x.ρ j).sh.value = 0)
    (t : Tid) {i' : Nat} (hi : i ≤ i') (hw : inWait ((x.ρ i').pc t)) :
    ∃ j, i' ≤ j ∧ (x.ρ j).pc t = .idle ∧
      ∀ j', i' ≤ j' → j' ≤ j → ∀ dl r, (x.ρ j').pc t = .wRet dl r → r = 0 ∨ (x.ρ i').pc t = .wRet dl r :=
  fair_return_zero x hr hf (lock_eventually_free x hr hf ha) hz t hi (Or.inr hw)

/-- "Every thread waiting when the counter reaches zero is released", liveness form, for all weakly
    fair schedules and any number of arrivals. -/
theorem C10_fair_release : C10_fair_release_full := by
  intro s0 x hr hf i hz hw t i' hi hin
  have hzw := C10_zero_forever x hr hz hw
  exact fair_return_zero x hr hf (lock_eventually_free_zero x hr hf hzw) (fun j hj => (hzw j hj).1) t hi (Or.inr hin)

/-- a thread at a return point with a non-zero result: its deadline has expired -/
theorem C10_fair_release_result {s0 : State} (x : Exec s0) (hr : Reachable s0) {t : Tid} {i : Nat} {dl : Deadline}
    {r : Nat} (h : (x.ρ i).pc t = .wRet dl r) (hne : r ≠ 0) : expired dl (x.ρ i).sh.now := by
  have hp := (inv_of_reachable (x.reach hr i)).pcs t
  rw [h] at hp
  exact hp.2.2 hne

/-- Once the counter is zero and a wait has been called, counter_mu is eventually free for ever
    (no `FiniteArrivals`). -/
theorem C10_fair_lock_free {s0 : State} (x : Exec s0) (hr : Reachable s0) (hf : WeakFair x) {i : Nat}
    (hz : (x.ρ i).sh.value = 0) (hw : (x.ρ i).sh.waited = true) :
    ∃ n, ∀ j, n ≤ j → (x.ρ j).sh.lockHolder = none :=
  lock_eventually_free_zero x hr hf (C10_zero_forever x hr hz hw)

/-- Fair form of `C10_no_lost_wakeup` (no `FiniteArrivals`): a thread asleep in P-with-deadline
    while the counter stays zero leaves the P operation. -/
theorem C10_fair_posted {s0 : State} (x : Exec s0) (hr : Reachable s0) (hf : WeakFair x) {i : Nat}
    (hz : ∀ j, i ≤ j → (x.ρ j).sh.value = 0) {t : Tid} {dl : Deadline} {k : NwId} {j : SemId} {j0 : Nat}
    (hj0 : i ≤ j0) (hp : (x.ρ j0).pc t = .wPdWait dl k j) : ∃ j', j0 ≤ j' ∧ Moves x t j' :=
  pdwait_moves x hr hf hz hj0 hp

/-- The holder of counter_mu releases it (no `FiniteArrivals`). -/
theorem C10_holder_releases {s0 : State} (x : Exec s0) (hr : Reachable s0) (hf : WeakFair x) {u : Tid} {j : Nat}
    (h : (x.ρ j).sh.lockHolder = some u) : ∃ j', j ≤ j' ∧ (x.ρ j').sh.lockHolder ≠ some u := by
  have hh := holds_of_holder (inv_of_reachable (x.reach hr j)) h
  obtain ⟨j', h1, h2⟩ := holder_releases x hr hf hh
  refine ⟨j', h1, fun h3 => ?_⟩
  have := holds_of_holder (inv_of_reachable (x.reach hr j')) h3
  rw [h2] at this; cases this

/-- A wait with a finite deadline returns once the clock has passed the deadline. -/
theorem C10_fair_wait_returns : C10_fair_wait_returns_full := by
  intro s0 x hr hf ha hs t i d hw hc
  exact fair_return_expired x hr hf ha hs hc t hw

/-- The acceptor blocks a thread only on a semaphore whose count is 0 (before its deadline), on
    counter_mu while it is held, or at a failed ASSERT of counter.c. -/
theorem C10_thread_enabled {s : State} (hr : Reachable s) {t : Tid} (hne : s.pc t ≠ .idle)
    (hnb : ¬ Blocked s t) (hna : ¬ AtAssert s t) :
    ∃ e s', step s (.thr t e) = .ok s' ∧ s'.pc t ≠ s.pc t :=
  thread_enabled hr hne hnb hna

/-- A blocked thread has no accepted event that changes its program point. -/
theorem C10_blocked_cannot_move {s s' : State} {t : Tid} {e : Ev} (hb : Blocked s t)
    (h : step s (.thr t e) = .ok s') : s'.pc t = s.pc t :=
  blocked_cannot_move hb h

/-! ## non-vacuity -/

open Example in
def releaseFinal : State := stateAt twoAddersAndWaiter twoAddersAndWaiter.length

open Example in
theorem release_run : run init twoAddersAndWaiter = .ok releaseFinal := run_stateAt (by decide)

open Example in
/-- `twoAddersAndWaiter`, then nothing for ever. -/
def releaseExec : Exec init := traceExec twoAddersAndWaiter releaseFinal release_run

open Example in
theorem release_final_idle (t : Tid) : releaseFinal.pc t = .idle := by
  by_cases ht : t < 3
  · have h : (final twoAddersAndWaiter).map (fun s => (List.range 3).all (fun t => decide (s.pc t = .idle)))
        = some true := by decide
    simp only [final, release_run, Option.map_some, Option.some.injEq, List.all_eq_true, List.mem_range,
      decide_eq_true_eq] at h
    exact h t ht
  · exact idle_of_bound reachable_init release_run 3 (by decide) ht

open Example in
theorem release_tail {j : Nat} (hj : 57 ≤ j) : releaseExec.ρ j = releaseFinal ∧ releaseExec.σ j = none :=
  traceExec_tail release_run (by show twoAddersAndWaiter.length ≤ j; exact hj)

/-- `releaseExec` satisfies the hypotheses of `C10_fair_release` (and `FiniteArrivals`) … -/
theorem release_hyps : Reachable init ∧ WeakFair releaseExec ∧ FiniteArrivals releaseExec :=
  ⟨reachable_init,
   weakFair_of_final releaseExec 57 (fun j hj t => by rw [(release_tail hj).1]; exact Or.inl (release_final_idle t)),
   finiteArrivals_of_tail releaseExec 57 (fun j hj => (release_tail hj).2)⟩

/-- … and in it thread 2 really sleeps: at time 39 the zeroing CAS of thread 1 has just made the value 0
    (event 38), `waited` is set, thread 2 is asleep in P-with-deadline on semaphore 2 whose count is
    0, still queued; the post is event 40 … -/
example : releaseExec.σ 38 = some (.thr 1 (.cas .ar .value 1 0 1 true)) ∧
    releaseExec.σ 40 = some (.thr 1 (.semV 2)) := ⟨rfl, rfl⟩

set_option maxRecDepth 4096 in
example : (releaseExec.ρ 38).sh.value = 1 ∧ (releaseExec.ρ 39).sh.value = 0 ∧ (releaseExec.ρ 39).sh.waited = true ∧
    (releaseExec.ρ 39).pc 2 = .wPdWait none 0 2 ∧ (releaseExec.ρ 39).sh.sem 2 = 0 ∧
    (releaseExec.ρ 39).sh.waiters = [0] ∧ (releaseExec.ρ 41).sh.sem 2 = 1 := by decide

/-- … and the theorem applies: thread 2 returns, with result 0. -/
example : ∃ j, 39 ≤ j ∧ (releaseExec.ρ j).pc 2 = .idle ∧
    ∀ j', 39 ≤ j' → j' ≤ j → ∀ dl r, (releaseExec.ρ j').pc 2 = .wRet dl r → r = 0 := by
  have h39 : (releaseExec.ρ 39).sh.value = 0 ∧ (releaseExec.ρ 39).sh.waited = true ∧
      (releaseExec.ρ 39).pc 2 = .wPdWait none 0 2 := by decide
  obtain ⟨j, h1, h2, h3⟩ := C10_fair_release _ releaseExec release_hyps.1 release_hyps.2.1
    39 h39.1 h39.2.1 2 39 (Nat.le_refl 39) (by rw [h39.2.2]; simp [inWait, wrank])
  refine ⟨j, h1, h2, fun j' a b dl r hr => ?_⟩
  rcases h3 j' a b dl r hr with c | c
  · exact c
  · rw [h39.2.2] at c; cases c

/-! ### non-vacuity of `C10_fair_wait_returns`: `Example.timesOut`, then idling -/

open Example in
def timeoutFinal : State := stateAt timesOut timesOut.length

open Example in
theorem timeout_run : run init timesOut = .ok timeoutFinal := run_stateAt (by decide)

open Example in
/-- counter at 1; thread 1 waits with deadline 500, queues, sleeps (time 19); the clock goes to 499, 500;
    thread 1 gets ETIMEDOUT, dequeues itself, returns 1; then nothing for ever -/
def timeoutExec : Exec init := traceExec timesOut timeoutFinal timeout_run

open Example in
theorem timeout_tail {j : Nat} (hj : 33 ≤ j) : timeoutExec.ρ j = timeoutFinal ∧ timeoutExec.σ j = none :=
  traceExec_tail timeout_run (by show timesOut.length ≤ j; exact hj)

open Example in
theorem timeout_final_idle (t : Tid) : timeoutFinal.pc t = .idle := by
  by_cases ht : t < 2
  · have h : (final timesOut).map (fun s => (List.range 2).all (fun t => decide (s.pc t = .idle)))
        = some true := by decide
    simp only [final, timeout_run, Option.map_some, Option.some.injEq, List.all_eq_true, List.mem_range,
      decide_eq_true_eq] at h
    exact h t ht
  · exact idle_of_bound reachable_init timeout_run 2 (by decide) ht

theorem timeout_hyps : Reachable init ∧ WeakFair timeoutExec ∧ FiniteArrivals timeoutExec ∧
    FiniteStrayPosts timeoutExec ∧ ClockAdvances timeoutExec 500 :=
  ⟨reachable_init,
   weakFair_of_final timeoutExec 33 (fun j hj t => by rw [(timeout_tail hj).1]; exact Or.inl (timeout_final_idle t)),
   finiteArrivals_of_tail timeoutExec 33 (fun j hj => (timeout_tail hj).2),
   ⟨33, fun j t k hj he => by rw [(timeout_tail hj).2] at he; cases he⟩,
   ⟨22, by decide⟩⟩

/-- at time 19 thread 1 is asleep (count 0, clock 0 < 500) inside a wait with deadline 500; the
    theorem says it returns -/
example : (timeoutExec.ρ 19).pc 1 = .wPdWait (some 500) 3 1 ∧ (timeoutExec.ρ 19).sh.sem 1 = 0 ∧
    (timeoutExec.ρ 19).sh.now = 0 ∧ (timeoutExec.ρ 19).sh.value = 1 := by decide

example : ∃ j, 19 ≤ j ∧ (timeoutExec.ρ j).pc 1 = .idle :=
  C10_fair_wait_returns _ timeoutExec timeout_hyps.1 timeout_hyps.2.1 timeout_hyps.2.2.1 timeout_hyps.2.2.2.1
    1 19 500 (by decide) timeout_hyps.2.2.2.2

/-! ## `ClockAdvances` (or the counter reaching zero) is needed for a wait to return

Counter at 1; thread 1 calls nsync_counter_wait with deadline 500, queues and sleeps; then nothing
happens for ever, the clock stays at 0.  Weakly fair (thread 1 is blocked: count 0, deadline not
reached), one arrival — and thread 1 never returns. -/

open Example in
def traceSleep : List Event := timesOut.take 19

def sleepFinal : State := stateAt traceSleep traceSleep.length

theorem sleep_run : run init traceSleep = .ok sleepFinal := run_stateAt (by decide)

def sleepExec : Exec init := traceExec traceSleep sleepFinal sleep_run

theorem sleep_tail {j : Nat} (hj : 19 ≤ j) : sleepExec.ρ j = sleepFinal ∧ sleepExec.σ j = none :=
  traceExec_tail sleep_run (by show traceSleep.length ≤ j; exact hj)

theorem sleep_final : sleepFinal.pc 1 = .wPdWait (some 500) 3 1 ∧ sleepFinal.sh.sem 1 = 0 ∧ sleepFinal.sh.now = 0
    ∧ sleepFinal.pc 0 = .idle ∧ sleepFinal.sh.value = 1 := by decide

theorem C10_fair_needs_clock :
    Reachable init ∧ WeakFair sleepExec ∧ FiniteArrivals sleepExec ∧ ¬ ClockAdvances sleepExec 500 ∧
      pcDl ((sleepExec.ρ 19).pc 1) = some (some 500) ∧ inWait ((sleepExec.ρ 19).pc 1) ∧
      ∀ j, 19 ≤ j → (sleepExec.ρ j).pc 1 ≠ .idle := by
  obtain ⟨f1, f2, f3, f4, _⟩ := sleep_final
  have hidle : ∀ t, t ≠ 1 → sleepFinal.pc t = .idle := by
    intro t ht
    by_cases h2 : t < 2
    · match t, ht, h2 with
      | 0, _, _ => exact f4
      | 1, ht, _ => exact absurd rfl ht
      | n + 2, _, h2 => exact absurd h2 (Nat.not_lt.2 (Nat.le_add_left 2 n))
    · exact idle_of_bound reachable_init sleep_run 2 (by decide) h2
  refine ⟨reachable_init, ?_, finiteArrivals_of_tail sleepExec 19 (fun j hj => (sleep_tail hj).2), ?_, ?_, ?_, ?_⟩
  · refine weakFair_of_final sleepExec 19 (fun j hj t => ?_)
    rw [(sleep_tail hj).1]
    by_cases ht : t = 1
    · subst ht
      exact Or.inr (Or.inl ⟨_, _, _, f1, f2, by rw [f3]; decide⟩)
    · exact Or.inl (hidle t ht)
  · rintro ⟨j, hj⟩
    by_cases h19 : 19 ≤ j
    · rw [(sleep_tail h19).1, f3] at hj; omega
    · have hall : ∀ j, j < 19 → (sleepExec.ρ j).sh.now = 0 := by decide
      rw [hall j (by omega)] at hj; omega
  · rw [(sleep_tail (Nat.le_refl 19)).1, f1]; rfl
  · rw [(sleep_tail (Nat.le_refl 19)).1, f1]; simp [inWait, wrank]
  · intro j hj; rw [(sleep_tail hj).1, f1]; simp

/-! ## `FiniteStrayPosts` is needed for `C10_fair_wait_returns`

`strayExec` (Proofs/CounterFairWitness.lean): counter at 1, thread 1 asleep with deadline 500, the
clock at 500; then for ever: idle thread 0 (another layer) posts the semaphore, thread 1 wakes up with
`pd_ret 0`, runs ready_time (not ready) and goes back to sleep with `pd_enter` — it never gets the
ETIMEDOUT that would let it leave.  Weakly fair (thread 1 moves), no arrival, the clock has passed the
deadline. -/

theorem C10_fair_needs_stray_posts :
    Reachable init ∧ WeakFair strayExec ∧ FiniteArrivals strayExec ∧ ClockAdvances strayExec 500 ∧
      ¬ FiniteStrayPosts strayExec ∧ pcDl ((strayExec.ρ 20).pc 1) = some (some 500) ∧
      ∀ j, 20 ≤ j → (strayExec.ρ j).pc 1 ≠ .idle := by
  have h20 : strayExec.ρ 20 = strayA := by
    have := (stray_at 0 (r := 0) (by decide)).1
    rw [show strayLoop.take 0 = [] from rfl, stateFrom_nil] at this
    exact this
  refine ⟨reachable_init, stray_weakFair, ?_, ?_, ?_, ?_, stray_never⟩
  · refine ⟨20, fun j t e hj he => ?_⟩
    obtain ⟨m, r, hr, rfl⟩ : ∃ m r, r < 5 ∧ j = 20 + 5 * m + r :=
      ⟨(j - 20) / 5, (j - 20) % 5, Nat.mod_lt _ (by decide), by omega⟩
    rw [(stray_at m hr).2] at he
    have hm := List.mem_of_getElem? he
    have hall : strayLoop.all (fun ev => match ev with | .thr _ e => !e.isCall | _ => true) = true := by decide
    simp only [List.all_eq_true] at hall
    simpa using hall _ hm
  · exact ⟨20, by rw [h20, strayA_facts.2.2.2.2.2.2]; decide⟩
  · rintro ⟨n, hn⟩
    have hσ := (stray_at n (r := 0) (by decide)).2
    have hρ := (stray_at n (r := 0) (by decide)).1
    obtain ⟨d, r, idx, w, hpc⟩ := hn (20 + 5 * n + 0) 0 1 (by omega) hσ
    rw [hρ, (stray_loop_pcs 0 (by decide)).2] at hpc
    cases hpc
  · rw [h20, strayA_facts.1]; rfl

/-! ## `FiniteArrivals` is needed for `C10_fair_wait_returns` (weak fairness and the abstract lock)

`arriveExec` (Proofs/CounterFairWitness.lean): counter at 1; thread 1's wait (deadline 500) has timed out
at time 500 and asks for counter_mu in order to dequeue itself; for ever, thread 2 calls
nsync_counter_wait with the passed deadline 100: each call takes counter_mu twice (enqueue, dequeue).
Thread 1 is blocked whenever thread 2 holds counter_mu, so it is not continuously enabled and weak
fairness does not oblige it to move: it never returns.  No semaphore post at all, the clock has passed
the deadline. -/

theorem C10_fair_needs_arrivals :
    Reachable init ∧ WeakFair arriveExec ∧ FiniteStrayPosts arriveExec ∧ ClockAdvances arriveExec 500 ∧
      ¬ FiniteArrivals arriveExec ∧ pcDl ((arriveExec.ρ 49).pc 1) = some (some 500) ∧
      ∀ j, 49 ≤ j → (arriveExec.ρ j).pc 1 ≠ .idle := by
  have h49 : arriveExec.ρ 49 = arriveA := by
    have := (arrive_at 0 (r := 0) (by decide)).1
    rw [show arriveLoop.take 0 = [] from rfl, stateFrom_nil] at this
    exact this
  refine ⟨reachable_init, arrive_weakFair, ?_, ?_, ?_, ?_, arrive_never⟩
  · refine ⟨49, fun j t k hj he => ?_⟩
    exfalso
    obtain ⟨m, r, hr, rfl⟩ : ∃ m r, r < 27 ∧ j = 49 + 27 * m + r :=
      ⟨(j - 49) / 27, (j - 49) % 27, Nat.mod_lt _ (by decide), by omega⟩
    rw [(arrive_at m hr).2] at he
    have hm := List.mem_of_getElem? he
    have hall : arriveLoop.all (fun ev => match ev with | .thr _ (.semV _) => false | _ => true) = true := by
      decide
    simp only [List.all_eq_true] at hall
    simpa using hall _ hm
  · exact ⟨49, by rw [h49, arriveA_facts.2.2.2.2.2.2.2.2.1]; decide⟩
  · rintro ⟨n, hn⟩
    have hσ := (arrive_at n (r := 0) (by decide)).2
    have := hn (49 + 27 * n + 0) 2 (.callWait (some 100)) (by omega) hσ
    cases this
  · rw [h49, arriveA_facts.2.2.2.2.2.2.2.2.2.1]; rfl

end Counter
