/-
  Props/C05Cancel.lean — property C05, the part that lives in nsync_sem_wait_with_cancel_ (internal/sem_wait.c) and
  the cancel note (internal/note.c): "They return ETIMEDOUT only if the deadline has been reached and ECANCELED only
  if the note is notified … once the deadline has passed or the note is notified the call needs no further wake-up".

  nsync_sem_wait_with_cancel_ is the sleep of every cancellable nsync_cv_wait_with_deadline /
  nsync_mu_wait_with_deadline; its result is their `sem_outcome` (layers CvFix / MuC: Props/C05CvFix.lean,
  Props/C05Mu.lean prove that a non-zero result of the wait IS that value and that no further sleep follows it;
  they treat the note abstractly — "the thread saw the note notified").  This layer (Model/SemWait.lean) models
  the note: flag, expiry time, mutex, waiters list, notifiers, the clock and the semaphore.
  All theorems: every reachable state of the acceptor of the code (`noReread = false`), any number of notes,
  waiters and notifiers, every interleaving, every timing of the clock, both semaphore flavours.

  STATUS: all proved as stated.
  * `C05_cancel_reason`: at the return of nsync_sem_wait_with_cancel_: ECANCELED only if the note's `notified` flag
    is set at that moment (set by nsync_note_notify, by somebody's lazy expiry, or by the waiter's own
    nsync_note_notify of sem_wait.c:65), or the note's expiry time is `<= 0` (NOTIFIED_TIME (n) <= 0 without the
    flag: a note created already expired — nsync_note_new with a non-positive deadline or under a notified
    parent; what the first inspection at sem_wait.c:39 found); ETIMEDOUT only if the clock has reached
    abs_deadline; 0 only if the P of this call took a token (`C05_cancel_consumed_step`: the ghost `consumed` of a
    call is raised only by its `P` returning 0 with a positive count, which it decrements;
    `C05_cancel_zero_takes_token`: an accepted P-return 0 takes a token).  Once the record has been enqueued the
    expiry is positive, so ECANCELED then means the flag (`C05_cancel_reason_enqueued`).
  * `C05_cancel_no_missed`: a waiter that is enqueued and about to sleep / asleep in its P on a NOTIFIED note is
    never left without a wake-up: either its record is still on the list and the note's mutex is held by another
    thread — which cannot release it before it has emptied the list (`C05_cancel_unlock_needs_empty`: in every
    reachable state an accepted release of note_mu of a notified note finds the list empty; for the waiters' own
    releases this is a theorem, not a check of the acceptor) —, or a notifier holds it between unlink and V, or a
    token is in its semaphore.  This is what the re-read of NOTIFIED_TIME under note_mu (sem_wait.c:49) buys:
    CONTROL `ExampleC05.lost`: the variant that ignores the re-read (`noReread = true`) accepts a trace that ends with
    the waiter asleep for ever on a notified note, its record on the list, note_mu free, no V anywhere; under the
    acceptor of the code the same events leave the thread at its return with ECANCELED (`ExampleC05.lost_not_asleep`,
    `ExampleC05.raceEnqueue`).
  * `C05_cancel_deadline_bound`: the P is issued with min (abs_deadline, note expiry) (`C05_cancel_p_deadline`); an
    ETIMEDOUT of that P is accepted only if the clock has reached that minimum; if abs_deadline is strictly nearer
    the call returns ETIMEDOUT via the dequeue, otherwise the outcome becomes ECANCELED and the waiter calls
    nsync_note_notify itself, after which (`C05_cancel_l65_notified`) the flag is set.
-/
import NsyncVerif.Proofs.SemWaitSteps

namespace SemWait

/-- ECANCELED only if the note is notified (or was created expired); ETIMEDOUT only if the clock has reached
    abs_deadline; 0 only if a V was consumed -/
theorem C05_cancel_reason {cfg : Config} {s s' : State} {t : Tid} {o : Outcome} (hc : cfg.noReread = false)
    (hr : Reachable cfg s) (hs : step cfg s (.thr t (.retSW o)) = .ok s') :
    (o = .cancelled → (s.note (s.fr t).note).flag = true ∨ dlePast (s.note (s.fr t).note).expiry = true)
    ∧ (o = .timedOut → expiredB (s.fr t).dl s.now = true)
    ∧ (o = .ok → (s.fr t).consumed = true) := by
  have hi := inv_of_reachable hc hr
  obtain ⟨hpc, rfl, -⟩ := ret_cases hs
  have hl : late (s.pc t) = true := by rw [hpc]; rfl
  exact ⟨hi.o.o2 t hl, hi.o.o3 t hl, hi.o.o4 t hl⟩

/-- … and a note whose expiry is `<= 0` without the flag can only be what the FIRST inspection found: once the
    record has been enqueued the expiry is positive, so ECANCELED means the flag -/
theorem C05_cancel_reason_enqueued {cfg : Config} {s : State} {t : Tid} (hc : cfg.noReread = false)
    (hr : Reachable cfg s) (he : enq (s.pc t) = true) : dlePast (s.note (s.fr t).note).expiry = false :=
  (inv_of_reachable hc hr).q.e1 t he

/-- the ghost `consumed` of a call is raised only by the call's own P returning 0 with a token in the semaphore,
    which it takes (a new call starts with `consumed = false`: `Frame.empty`) -/
theorem C05_cancel_consumed_step {cfg : Config} {s s' : State} {e : Event} {t : Tid}
    (hs : step cfg s e = .ok s') (h0 : (s.fr t).consumed = false) (h1 : (s'.fr t).consumed = true) :
    ∃ j, s.pc t = .pdWait j ∧ 0 < s.sem j ∧ s'.sem j + 1 = s.sem j := by
  rcases step_cases hs with ⟨u, he⟩ | ⟨ns, -, rfl⟩
  · cases he with
    | m_p0 j c hpc hsem =>
      by_cases hu : t = u
      · subst hu; exact ⟨j, hpc, by omega, by simp [hsem]⟩
      · simp [hu, h0] at h1
    | nop | semV | semP | lock | unlock | setFlag | pop | post | newNote | inherit | born | ctl | m_ld68_rm =>
      have : (s.fr t).consumed = true := h1
      rw [h0] at this; cases this
    | postBind | m_init | m_ld49_enq | m_pdEnterBind | m_tmoNear | m_tmoFar =>
      simp only [posted_eq, bind_eq, inited_eq, enqd_eq, tmo_eq, setPc_fr] at h1
      rw [h0] at h1; cases h1
    | call | m_ret =>
      simp only [call_eq, returned_eq] at h1
      split at h1
      · cases h1
      · rw [h0] at h1; cases h1
  · simp [h0] at h1

/-- an accepted P-return 0 inside nsync_sem_wait_with_cancel_ takes a token -/
theorem C05_cancel_zero_takes_token {cfg : Config} {s s' : State} {t : Tid} {j j' : SemId} (hpc : s.pc t = .pdWait j)
    (hs : step cfg s (.thr t (.pdRet j' false)) = .ok s') : j' = j ∧ 0 < s.sem j ∧ s'.sem j + 1 = s.sem j := by
  obtain ⟨hj, h⟩ := pdRet_cases hpc hs
  rcases h with ⟨h, -⟩ | ⟨-, a, b, -⟩
  · cases h
  · exact ⟨hj, a, b⟩

/-- no release of note_mu leaves a waiter queued on a notified note — whoever releases it -/
theorem C05_cancel_unlock_needs_empty {cfg : Config} {s s' : State} {u : Tid} {k : NoteId} {e : Ev}
    (hc : cfg.noReread = false) (hr : Reachable cfg s) (he : e = .unlock k ∨ e = .muWait k)
    (hs : step cfg s (.thr u e) = .ok s') (hf : (s.note k).flag = true) : (s.note k).queue = [] := by
  have hi := inv_of_reachable hc hr
  rcases unlock_cases he hs with h | ⟨hk, hp, hl⟩
  · exact h hf
  · false_or_by_contra
    rename_i hne
    obtain ⟨-, h2⟩ := hi.q.k1 k hf hne
    rcases h2 u hl with h | h
    · rw [hp] at h; cases h
    · exact h hk.symm

/-- a waiter enqueued and about to sleep, or asleep, on a notified note has its wake-up: the list is being
    emptied by the holder of note_mu, or a notifier holds its record between unlink and V, or a token is in its
    semaphore -/
theorem C05_cancel_no_missed {cfg : Config} {s : State} {t : Tid} {r : Rid} (hc : cfg.noReread = false)
    (hr : Reachable cfg s) (hS : asleep (s.pc t) = true) (hnw : (s.fr t).nw = some r)
    (hflag : (s.note (s.fr t).note).flag = true) :
    (r ∈ (s.note (s.fr t).note).queue ∧ ∃ u, (s.note (s.fr t).note).lock = some u ∧ u ≠ t)
    ∨ (∃ u, s.post u = some r ∧ (s.note (s.fr t).note).lock = some u)
    ∨ ((s.fr t).sem ≠ none ∧ ∀ j, (s.fr t).sem = some j → 0 < s.sem j) := by
  have hi := inv_of_reachable hc hr
  obtain ⟨hl, ho, hn, -⟩ := hi.a.i1 t r hnw
  have he : enq (s.pc (s.rcd r).owner) = true := by rw [ho]; exact enqNL_enq (asleep_enqNL hS)
  rcases hi.q.q5 r hl he with hm | hw
  · rw [hn] at hm
    left
    refine ⟨hm, ?_⟩
    obtain ⟨h1, h2⟩ := hi.q.k1 _ hflag (List.ne_nil_of_mem hm)
    cases hlk : (s.note (s.fr t).note).lock with
    | none => exact absurd hlk h1
    | some u =>
      refine ⟨u, rfl, ?_⟩
      rintro rfl
      rcases h2 u hlk with h | h
      · have : protoMode (s.pc u) = false := by
          generalize s.pc u = p at hS
          pc_full p <;> first | rfl | exact absurd hS (by decide)
        rw [this] at h; cases h
      · exact h rfl
  · obtain ⟨-, -, h3⟩ := hi.q.q4 r hl hw
    cases hp : (s.rcd r).posted with
    | false =>
      right; left
      have := h3 hp
      exact ⟨_, this, hn ▸ (hi.q.q3 _ _ this).2.2.1⟩
    | true =>
      right; right
      exact hi.q.l3 t r hS hnw hw hp

/-- the P of sem_wait.c:61 is issued with min (abs_deadline, note expiry) -/
theorem C05_cancel_p_deadline {cfg : Config} {s s' : State} {t : Tid} {j : SemId} {d : Deadline}
    (hc : cfg.noReread = false) (hr : Reachable cfg s) (hpc : s.pc t = .pdEnter)
    (hs : step cfg s (.thr t (.pdEnter j d)) = .ok s') : d = dmin (s.fr t).dl (s.note (s.fr t).note).expiry := by
  have hi := inv_of_reachable hc hr
  rw [(pdEnter_cases hpc hs).1]
  exact (hi.o.p1 t (by rw [hpc]; rfl)).1

/-- ETIMEDOUT from that P: only if the clock has reached min (abs_deadline, note expiry); with abs_deadline
    strictly nearer the call goes on to return ETIMEDOUT, otherwise the outcome is converted to ECANCELED and the
    waiter calls nsync_note_notify (cancel_note) -/
theorem C05_cancel_deadline_bound {cfg : Config} {s s' : State} {t : Tid} {j j' : SemId} (hc : cfg.noReread = false)
    (hr : Reachable cfg s) (hpc : s.pc t = .pdWait j) (hs : step cfg s (.thr t (.pdRet j' true)) = .ok s') :
    expiredB (dmin (s.fr t).dl (s.note (s.fr t).note).expiry) s.now = true
    ∧ (if dlt (s.fr t).dl (s.note (s.fr t).note).expiry
        then s'.pc t = .lk2 ∧ (s'.fr t).out = .timedOut
        else s'.pc t = .nd .l65 .ld0 ∧ (s'.fr t).out = .cancelled) := by
  have hi := inv_of_reachable hc hr
  obtain ⟨h1, h2⟩ := hi.o.p1 t (by rw [hpc]; rfl)
  obtain ⟨-, h⟩ := pdRet_cases hpc hs
  rcases h with ⟨-, hx, h⟩ | ⟨h, -⟩
  · rw [h1] at hx
    refine ⟨hx, ?_⟩
    rcases h with ⟨hn, a, b⟩ | ⟨hn, a, b⟩
    · rw [h2] at hn; rw [if_pos hn]; exact ⟨a, b⟩
    · rw [h2] at hn; rw [if_neg (by simp [hn])]; exact ⟨a, b⟩
  · cases h

/-- after the nsync_note_notify of sem_wait.c:65 (and in general whenever the dequeue part is reached with
    sem_outcome = ECANCELED) the note's flag is set -/
theorem C05_cancel_l65_notified {cfg : Config} {s : State} {t : Tid} (hc : cfg.noReread = false)
    (hr : Reachable cfg s) (hpc : s.pc t = .lk2) (ho : (s.fr t).out = .cancelled) :
    (s.note (s.fr t).note).flag = true := by
  have hi := inv_of_reachable hc hr
  rcases hi.o.o2 t (by rw [hpc]; rfl) ho with h | h
  · exact h
  · have := hi.q.e1 t (by rw [hpc]; rfl)
    rw [this] at h; cases h

/-! ### non-vacuity, and the control -/

namespace ExampleC05

def cfg : Config := { binary := false }
def cfgNoReread : Config := { binary := false, noReread := true }

def mkNote (n : NoteId) (d : Deadline) : List Event := [.thr 9 (.newNote n d)]

/-- first inspection by t at time `now`: not notified, not expired -/
def inspect (t : Tid) (n : NoteId) (dl : Deadline) (now : Nat) : List Event :=
  [.thr t (.callSW n dl), .thr t (.ld .acq (.notified n) .nd 0), .thr t (.lock n),
   .thr t (.ld .acq (.notified n) .nd 0), .thr t (.unlock n), .thr t (.now now)]

/-- `nw.waiting := 1`; lock; re-read: not notified, enqueue; unlock; P (sem j, deadline d) -/
def enqueue (t : Tid) (n : NoteId) (r : Rid) (j : SemId) (d : Deadline) : List Event :=
  [.thr t (.st .rlx (.waiting r) .sw 1 12345),
   .thr t (.lock n), .thr t (.ld .acq (.notified n) .sw 0), .thr t (.unlock n), .thr t (.pdEnter j d)]

/-- nsync_note_notify (n) by u at time `now`, note not yet notified: up to the store of the flag -/
def notifyHead (u : Tid) (n : NoteId) (now : Nat) : List Event :=
  [.thr u (.ld .acq (.notified n) .nd 0), .thr u (.lock n), .thr u (.ld .acq (.notified n) .nd 0), .thr u (.unlock n),
   .thr u (.now now),
   .thr u (.lock n), .thr u (.ld .acq (.notified n) .notify 0), .thr u (.ld .acq (.notified n) .child 0),
   .thr u (.st .rel (.notified n) .child 1 0)]
def notifyWake (u : Tid) (r : Rid) (j : SemId) : List Event :=
  [.thr u (.st .rel (.waiting r) .child 0 1), .thr u (.semV j)]
def notifyTail (u : Tid) (n : NoteId) : List Event :=
  [.thr u (.muWait n), .thr u (.lock n), .thr u (.unlock n)]

/-- final part of the call: lock, NOTIFIED_TIME (`obs` = the flag), [dequeue], unlock, return -/
def finish (t : Tid) (n : NoteId) (obs : Nat) (o : Outcome) : List Event :=
  [.thr t (.lock n), .thr t (.ld .acq (.notified n) .sw obs), .thr t (.unlock n), .thr t (.retSW o)]

/-- (1) cancel by nsync_note_notify while asleep: the V wakes the P (returns 0); the next call of the wait's
    loop finds the flag at once: ECANCELED -/
def cancelByNotify : List Event :=
  [.tick 5] ++ mkNote 0 none ++ inspect 0 0 none 5 ++ enqueue 0 0 0 7 none
  ++ notifyHead 1 0 5 ++ notifyWake 1 0 7 ++ notifyTail 1 0
  ++ [.thr 0 (.pdRet 7 false)] ++ finish 0 0 1 .ok
  ++ [.thr 0 (.callSW 0 none), .thr 0 (.ld .acq (.notified 0) .nd 1), .thr 0 (.retSW .cancelled)]
example : accepts cfg cancelByNotify = true := by decide
example : accepts { binary := true } cancelByNotify = true := by decide

/-- (2) cancel by expiry: the note's deadline (100) is nearer than abs_deadline (none): the P is issued with 100,
    times out at 100, the waiter notifies the note itself (popping its own record, posting its own semaphore) and
    returns ECANCELED with the flag set -/
def cancelByExpiry : List Event :=
  [.tick 5] ++ mkNote 0 (some 100) ++ inspect 0 0 none 5 ++ enqueue 0 0 0 7 (some 100)
  ++ [.tick 100, .thr 0 (.pdRet 7 true)]
  ++ notifyHead 0 0 100 ++ notifyWake 0 0 7 ++ notifyTail 0 0
  ++ finish 0 0 1 .cancelled
example : accepts cfg cancelByExpiry = true := by decide
example : (final cfg cancelByExpiry).map (fun s => decide ((s.note 0).flag = true ∧ s.pc 0 = .idle ∧ s.sem 7 = 1
    ∧ (s.rcd 0).live = false)) = some true := by decide
/-- the P may not be issued with another deadline, nor time out early -/
example : accepts cfg ([.tick 5] ++ mkNote 0 (some 100) ++ inspect 0 0 none 5 ++ enqueue 0 0 0 7 none) = false := by decide
example : accepts cfg ([.tick 5] ++ mkNote 0 (some 100) ++ inspect 0 0 none 5 ++ enqueue 0 0 0 7 (some 100)
  ++ [.tick 99, .thr 0 (.pdRet 7 true)]) = false := by decide

/-- (3) timeout: abs_deadline (50) nearer than the note's (100): ETIMEDOUT at 50, dequeue, return -/
def timeout : List Event :=
  [.tick 5] ++ mkNote 0 (some 100) ++ inspect 0 0 (some 50) 5 ++ enqueue 0 0 0 7 (some 50)
  ++ [.tick 50, .thr 0 (.pdRet 7 true)] ++ finish 0 0 0 .timedOut
example : accepts cfg timeout = true := by decide
example : (final cfg timeout).map (fun s => decide ((s.note 0).flag = false ∧ (s.note 0).queue = [] ∧ s.pc 0 = .idle))
    = some true := by decide
/-- … it cannot be reported as ECANCELED -/
example : accepts cfg ([.tick 5] ++ mkNote 0 (some 100) ++ inspect 0 0 (some 50) 5 ++ enqueue 0 0 0 7 (some 50)
  ++ [.tick 50, .thr 0 (.pdRet 7 true)] ++ finish 0 0 0 .cancelled) = false := by decide

/-- (4) plain wake-up: a V of another layer (cv signal, mutex hand-off) by thread 2: 0, dequeue, return -/
def wakeup : List Event :=
  [.tick 5] ++ mkNote 0 none ++ inspect 0 0 none 5 ++ enqueue 0 0 0 7 none
  ++ [.thr 2 (.semV 7), .thr 0 (.pdRet 7 false)] ++ finish 0 0 0 .ok
example : accepts cfg wakeup = true := by decide
/-- no 0 without a token -/
example : accepts cfg ([.tick 5] ++ mkNote 0 none ++ inspect 0 0 none 5 ++ enqueue 0 0 0 7 none
  ++ [.thr 0 (.pdRet 7 false)]) = false := by decide

/-- (5) notify racing the enqueue: the note is notified between the first inspection and the lock of
    sem_wait.c:48; the re-read under note_mu sees it: no enqueue, ECANCELED -/
def raceHead : List Event :=
  [.tick 5] ++ mkNote 0 none ++ inspect 0 0 none 5 ++ [.thr 0 (.st .rlx (.waiting 0) .sw 1 12345)]
  ++ notifyHead 1 0 5 ++ notifyTail 1 0
  ++ [.thr 0 (.lock 0), .thr 0 (.ld .acq (.notified 0) .sw 1), .thr 0 (.unlock 0)]
def raceEnqueue : List Event := raceHead ++ [.thr 0 (.retSW .cancelled)]
example : accepts cfg raceEnqueue = true := by decide

/-- (6) a cancel note born notified: nsync_note_new (parent 1, inf) after note 1 has been notified sets the flag of
    the fresh note 0 under the parent's mutex (repair of F5); a wait with it returns ECANCELED at the first
    inspection, nothing is enqueued -/
def bornNotified : List Event :=
  [.tick 5] ++ mkNote 1 none ++ notifyHead 1 1 5 ++ notifyTail 1 1
  ++ [.thr 2 (.newNote 0 none), .thr 2 (.inherit 0 1), .thr 2 (.lock 1), .thr 2 (.ld .acq (.notified 1) .other 1),
      .thr 2 (.bornNotified 0 1 1 0), .thr 2 (.unlock 1)]
  ++ [.thr 0 (.callSW 0 none), .thr 0 (.ld .acq (.notified 0) .nd 1), .thr 0 (.retSW .cancelled)]
example : accepts cfg bornNotified = true := by decide
example : (final cfg bornNotified).map (fun s => decide ((s.note 0).flag = true ∧ (s.note 0).queue = [] ∧ s.pc 0 = .idle))
    = some true := by decide
/-- … only under a parent that IS notified, and only while nobody uses the note -/
example : accepts cfg ([.tick 5] ++ mkNote 1 none ++ [.thr 2 (.newNote 0 none), .thr 2 (.lock 1),
    .thr 2 (.bornNotified 0 1 1 0)]) = false := by decide

/-- CONTROL: the variant without the re-read enqueues and sleeps: accepted by the variant, and the final state
    violates `C05_cancel_no_missed` — asleep on a notified note, record on the list, note_mu free, no post
    pending, no token -/
def lost : List Event := raceHead ++ [.thr 0 (.pdEnter 7 none)]
example : accepts cfgNoReread lost = true := by decide
example : (final cfgNoReread lost).map (fun s => decide (asleep (s.pc 0) = true ∧ (s.fr 0).nw = some 0
    ∧ (s.note 0).flag = true ∧ (s.note 0).queue = [0] ∧ (s.note 0).lock = none ∧ s.post 1 = none ∧ s.post 0 = none
    ∧ (s.fr 0).sem = some 7 ∧ s.sem 7 = 0)) = some true := by decide
/-- under the acceptor of the code the same events do not put the thread to sleep: the re-read sent it to the
    return (program point `ret`, nothing enqueued; the `pd_enter` line is then a P of another layer), and the
    trace continues with `ret ECANCELED` (`raceEnqueue`) -/
theorem lost_not_asleep : (final cfg lost).map (fun s => decide (s.pc 0 = .ret ∧ asleep (s.pc 0) = false
    ∧ (s.note 0).queue = [] ∧ (s.fr 0).out = .cancelled)) = some true := by decide

end ExampleC05

end SemWait
