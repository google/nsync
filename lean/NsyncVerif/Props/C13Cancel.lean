/-
  Props/C13Cancel.lean — property C13, the cancellable-wait half: "no waker accesses the bookkeeping of … a
  cancellable wait after that call can have returned, so the caller's stack frame may be reused immediately".

  The bookkeeping: the on-stack `struct nsync_waiter_s nw` of nsync_sem_wait_with_cancel_ (internal/sem_wait.c),
  the sleep of every cancellable nsync_cv_wait_with_deadline / nsync_mu_wait_with_deadline; it is linked on the
  cancel note's `waiters` list and dies when nsync_sem_wait_with_cancel_ returns.  The wakers: notify () /
  note_notify_child (internal/note.c) — nsync_note_notify, or the lazy expiry inside
  nsync_note_notified_deadline_ (nsync_note_is_notified, another waiter, the owner itself).  Model:
  Model/SemWait.lean; all statements are over every reachable state of the acceptor of the code
  (`noReread = false`): any number of notes, waiters, notifiers, any interleaving and clock, both semaphore flavours.

  `touches s u e r`: event `e` of thread `u` loads / stores `nw->waiting` of r, or is the
  `nsync_mu_semaphore_v (nw->sem)` of the notifier that unlinked r.  What the code does (note.c:90-95): under
  note_mu, `n->waiters = nsync_dll_remove_ (…); ATM_STORE_REL (&nw->waiting, 0); nsync_mu_semaphore_v (nw->sem);`
  — the read of `nw->sem` comes AFTER `waiting := 0`, but still INSIDE note_mu, and the owner's path to its
  return goes through `nsync_mu_lock (&cancel_note->note_mu)` (sem_wait.c:67) whatever made its P return
  (the V, its deadline, a V of another layer).  So there is no window: NO DEFECT found here (unlike cv.c before
  the repair of F3, where the waker touched the record outside the lock).

  STATUS: all proved as stated.
  * `C13_cancel_record_touch`: every access to a record by a thread other than its owner is made by the thread
    that holds the note's mutex, to a registered record, whose owner is inside nsync_sem_wait_with_cancel_
    between its enqueue and the return of its final `nsync_mu_lock (&cancel_note->note_mu)` (`enqNL`) — it cannot
    return before the notifier's unlock —, and the record is the head of the note's list (the unlinking store) or
    in the hands of that notifier between its unlink and its V (`post u = some r`).
  * `C13_cancel_owner_access`: the owner's own accesses are the initialising store, or accesses as notifier to a
    registered record.
  * `C13_cancel_owner_returns_clean`: at the return the record is unregistered, on no list, and in no notifier's
    hands; no registered record, list element or pending post belongs to the returning thread.
  * `C13_cancel_remove_safe`: the owner's `nsync_dll_remove_` (sem_wait.c:71) is only reached with the record on
    the list (the acceptor's "not on the list" rejection is dead).
-/
import NsyncVerif.Proofs.SemWaitSteps

namespace SemWait

/-- every access to a waiter record by a thread other than its owner: by the holder of the note's mutex, to a
    registered record whose owner is between its enqueue and its final acquisition of note_mu -/
theorem C13_cancel_record_touch {cfg : Config} {s s' : State} {u : Tid} {e : Ev} {r : Rid} (hc : cfg.noReread = false)
    (hr : Reachable cfg s) (hs : step cfg s (.thr u e) = .ok s') (ht : touches s u e r)
    (hne : (s'.rcd r).owner ≠ u) :
    registered s r
    ∧ (s.note (s.rcd r).note).lock = some u
    ∧ enqNL (s.pc (s.rcd r).owner) = true
    ∧ (s.fr (s.rcd r).owner).nw = some r ∧ (s.fr (s.rcd r).owner).note = (s.rcd r).note
    ∧ ((∃ tl, (s.note (s.rcd r).note).queue = r :: tl) ∨ s.post u = some r) := by
  have hi := inv_of_reachable hc hr
  cases e with
  | ld ord loc fn obs =>
    cases loc with
    | waiting r' => exact (touch_ld_never hs).elim
    | _ => exact ht.elim
  | st ord loc fn new obs =>
    cases loc with
    | waiting r' =>
      have : r' = r := ht
      subst this
      rcases touch_st_cases hs with ⟨-, ho⟩ | ⟨hp, tl, hqu, hl, -, -⟩
      · exact absurd ho hne
      · obtain ⟨h1, h2⟩ := pop_facts hi.a hi.q hp hqu hl
        exact ⟨h2, hl, h1, (hi.a.own h2).1, (hi.a.own h2).2.1.symm, .inl ⟨tl, hqu⟩⟩
    | _ => exact ht.elim
  | semV j =>
    obtain ⟨a, -, e', f, -⟩ := hi.q.q3 u r ht
    exact ⟨a, e', f, (hi.a.own a).1, (hi.a.own a).2.1.symm, .inr ht⟩
  | _ => exact ht.elim

/-- the owner's own accesses: the initialising store, or an access as notifier (the lazy expiry of
    sem_wait.c:65 pops the caller's own record) — to a registered record too -/
theorem C13_cancel_owner_access {cfg : Config} {s s' : State} {u : Tid} {e : Ev} {r : Rid} (hc : cfg.noReread = false)
    (hr : Reachable cfg s) (hs : step cfg s (.thr u e) = .ok s') (ht : touches s u e r) :
    registered s r ∨ (s.pc u = .init ∧ (s'.rcd r).owner = u) := by
  have hi := inv_of_reachable hc hr
  cases e with
  | ld ord loc fn obs =>
    cases loc with
    | waiting r' => exact (touch_ld_never hs).elim
    | _ => exact ht.elim
  | st ord loc fn new obs =>
    cases loc with
    | waiting r' =>
      have : r' = r := ht
      subst this
      rcases touch_st_cases hs with h | ⟨hp, tl, hqu, hl, -, -⟩
      · exact .inr h
      · exact .inl (pop_facts hi.a hi.q hp hqu hl).2
    | _ => exact ht.elim
  | semV j => exact .inl (hi.q.q3 u r ht).1
  | _ => exact ht.elim

/-- at the return of nsync_sem_wait_with_cancel_: the frame's record is dead, on no list, in no notifier's hands;
    nothing registered, queued or pending belongs to the returning thread -/
theorem C13_cancel_owner_returns_clean {cfg : Config} {s s' : State} {t : Tid} {o : Outcome} (hc : cfg.noReread = false)
    (hr : Reachable cfg s) (hs : step cfg s (.thr t (.retSW o)) = .ok s') :
    (∀ r, (s.fr t).nw = some r →
        ¬ registered s' r ∧ (∀ k, r ∉ (s'.note k).queue) ∧ (∀ u, s'.post u ≠ some r))
    ∧ (∀ r, registered s' r → (s'.rcd r).owner ≠ t)
    ∧ (∀ k r, r ∈ (s'.note k).queue → registered s' r ∧ (s'.rcd r).owner ≠ t)
    ∧ (∀ u r, s'.post u = some r → registered s' r ∧ (s'.rcd r).owner ≠ t) := by
  have hi' := inv_of_reachable hc (reachable_step hr hs)
  obtain ⟨hpc, -, rfl⟩ := ret_cases hs
  have hidle : (s.returned t).pc t = .idle := by simp [State.returned]
  have h1 : ∀ r, registered (s.returned t) r → ((s.returned t).rcd r).owner ≠ t := by
    intro r hl ho
    have := (hi'.a.own hl).2.2
    rw [ho, hidle] at this
    cases this
  refine ⟨?_, h1, ?_, ?_⟩
  · intro r hnw
    have hdead : ¬ registered (s.returned t) r := by simp [registered, State.returned, hnw]
    exact ⟨hdead, fun k hm => hdead (hi'.q.q1 k r hm).1, fun u hp => hdead (hi'.q.q3 u r hp).1⟩
  · intro k r hm
    have := (hi'.q.q1 k r hm).1
    exact ⟨this, h1 r this⟩
  · intro u r hp
    have := (hi'.q.q3 u r hp).1
    exact ⟨this, h1 r this⟩

/-- the dequeue of sem_wait.c:71 (`NOTIFIED_TIME > 0` read under note_mu at :68) finds the record on the list -/
theorem C13_cancel_remove_safe {cfg : Config} {s : State} {t : Tid} {r : Rid} (hc : cfg.noReread = false)
    (hr : Reachable cfg s) (hpc : s.pc t = .ld68) (hnw : (s.fr t).nw = some r)
    (htp : timePos (s.note (s.fr t).note) = true) : r ∈ (s.note (s.fr t).note).queue := by
  have hi := inv_of_reachable hc hr
  obtain ⟨hl, ho, hn, -⟩ := hi.a.i1 t r hnw
  rcases hi.q.q5 r hl (by rw [ho, hpc]; rfl) with h | h
  · rw [hn] at h; exact h
  · have := (hi.q.q4 r hl h).1
    rw [hn] at this
    simp [timePos, this] at htp

/-! ### non-vacuity -/

namespace Example

def cfg : Config := { binary := false }

/-- nsync_note_new (NULL, d) -/
def mkNote (n : NoteId) (d : Deadline) : List Event := [.thr 9 (.newNote n d)]

/-- entry of nsync_sem_wait_with_cancel_ (w, dl, note n) by t at time `now`, first inspection: not notified,
    not expired; `nw.waiting := 1` (record r); lock; re-read: not notified, enqueue; unlock; P (sem j, deadline d) -/
def sleep (t : Tid) (n : NoteId) (dl : Deadline) (now : Nat) (r : Rid) (j : SemId) (d : Deadline) : List Event :=
  [.thr t (.callSW n dl), .thr t (.ld .acq (.notified n) .nd 0), .thr t (.lock n),
   .thr t (.ld .acq (.notified n) .nd 0), .thr t (.unlock n), .thr t (.now now),
   .thr t (.st .rlx (.waiting r) .sw 1 12345),
   .thr t (.lock n), .thr t (.ld .acq (.notified n) .sw 0), .thr t (.unlock n),
   .thr t (.pdEnter j d)]

/-- nsync_note_notify (n) by u up to and including the unlink of record r: note_mu held, `waiting := 0` done,
    `nsync_mu_semaphore_v (nw->sem)` not yet -/
def notifyToPop (u : Tid) (n : NoteId) (now : Nat) (r : Rid) : List Event :=
  [.thr u (.ld .acq (.notified n) .nd 0), .thr u (.lock n), .thr u (.ld .acq (.notified n) .nd 0), .thr u (.unlock n),
   .thr u (.now now),
   .thr u (.lock n), .thr u (.ld .acq (.notified n) .notify 0), .thr u (.ld .acq (.notified n) .child 0),
   .thr u (.st .rel (.notified n) .child 1 0), .thr u (.st .rel (.waiting r) .child 0 1)]

/-- … the V, WAIT_FOR_NO_CHILDREN, unlock -/
def notifyRest (u : Tid) (n : NoteId) (j : SemId) : List Event :=
  [.thr u (.semV j), .thr u (.muWait n), .thr u (.lock n), .thr u (.unlock n)]

/-- the waiter's P returns 0; final lock, NOTIFIED_TIME = 0: no dequeue, unlock, return 0 -/
def wake (t : Tid) (n : NoteId) (j : SemId) : List Event :=
  [.thr t (.pdRet j false), .thr t (.lock n), .thr t (.ld .acq (.notified n) .sw 1), .thr t (.unlock n),
   .thr t (.retSW .ok)]

/-- a waiter asleep on note 0, a notifier between its unlink and its V: the V is an access to a registered
    record, under note_mu, the owner inside its P -/
def midNotify : List Event := [.tick 5] ++ mkNote 0 none ++ sleep 0 0 none 5 0 7 none ++ notifyToPop 1 0 5 0

example : accepts cfg (midNotify ++ [.thr 1 (.semV 7)]) = true := by decide
example : (final cfg midNotify).map (fun s => decide (s.post 1 = some 0 ∧ (s.rcd 0).live = true
    ∧ (s.note 0).lock = some 1 ∧ s.pc 0 = .pdWait 7 ∧ (s.note 0).queue = [])) = some true := by decide
/-- the owner cannot pass its final `nsync_mu_lock` while the notifier holds note_mu (its P may have returned
    for another reason: here a V of another layer by thread 2) -/
example : accepts cfg (midNotify ++ [.thr 2 (.semV 7), .thr 0 (.pdRet 7 false), .thr 0 (.lock 0)]) = false := by decide
/-- the notifier may not release note_mu before its V -/
example : accepts cfg (midNotify ++ [.thr 1 (.unlock 0)]) = false := by decide
/-- the complete cancellation by nsync_note_notify; the return leaves nothing behind -/
def cancelByNotify : List Event := midNotify ++ notifyRest 1 0 7 ++ wake 0 0 7
example : accepts cfg cancelByNotify = true := by decide
example : (final cfg cancelByNotify).map (fun s => decide ((s.rcd 0).live = false ∧ s.pc 0 = .idle
    ∧ (s.note 0).queue = [] ∧ s.post 1 = none ∧ (s.note 0).flag = true)) = some true := by decide
/-- the same under binary semaphores -/
example : accepts { binary := true } cancelByNotify = true := by decide
/-- a load of `nw->waiting` is in nobody's vocabulary -/
example : accepts cfg (midNotify ++ [.thr 1 (.ld .acq (.waiting 0) .child 0)]) = false := by decide

end Example

end SemWait
