/-
Property C16, buffer half (fixed text):
  "For every buffer size n [the debug-state functions] write only within buf[0..n-1],
   NUL-terminate the result when n>=1 and end it with "..." when it was truncated and n>=4."

Everything below is proved in full (no `_partial`).

Model: `NsyncVerif.Model.Emit` (`emit_init`/`emit_c` of /repo/internal/debug.c, exactly, with a
ghost log `written` of every index stored to).  `b` below is the buffer state after what every
debug entry point does: `emit_init (&b, buf, n)`, the character stream `cs` through `emit_c`, and
the final `emit_c (b, 0)`.  `IsCStr mem s` (Proofs/Emit.lean) says that the buffer holds the
NUL-terminated C string `s`; by `IsCStr_unique` that string is unique.

What happens for 1 <= n <= 3 on truncation (worked out from the suffix loop, clause (v)):
the buffer holds n-1 dots and a NUL ("" for n=1, "." for n=2, ".." for n=3); for n <= 0
(including negative n) nothing at all is stored (clause (vi)).
-/
import NsyncVerif.Model.Emit
import NsyncVerif.Proofs.Emit
import NsyncVerif.Proofs.EmitStreams

namespace NsyncVerif
namespace Emit

theorem C16_buffer (n : Int) (cs : List UInt8) (hcs : ∀ c ∈ cs, c ≠ 0) :
    let b := emitC (cs.foldl emitC (init n)) 0
    -- (i) every store is inside buf[0..n-1]
    (∀ i ∈ b.written, 0 ≤ i ∧ i < n) ∧
    -- (ii) n >= 1: a NUL-terminated C string lies inside the buffer
    (1 ≤ n → ∃ k, 0 ≤ k ∧ k < n ∧ b.mem k = some 0 ∧
        ∀ j, 0 ≤ j → j < k → ∃ v, b.mem j = some v ∧ v ≠ 0) ∧
    -- (iii) truncated and n >= 4: first n-4 stream bytes then "...", length n-1
    (4 ≤ n → n < (cs.length : Int) + 1 →
        IsCStr b.mem (cs.take (n - 4).toNat ++ [46, 46, 46]) ∧
        ((cs.take (n - 4).toNat ++ [46, 46, 46]).length : Int) = n - 1) ∧
    -- (iv) not truncated: exactly the stream
    ((cs.length : Int) + 1 ≤ n → IsCStr b.mem cs) ∧
    -- (v) truncated and 1 <= n <= 3: n-1 dots
    (1 ≤ n → n ≤ 3 → n < (cs.length : Int) + 1 →
        IsCStr b.mem (List.replicate (n - 1).toNat 46)) ∧
    -- (vi) n <= 0: nothing is stored
    (n ≤ 0 → b.written = []) ∧
    -- the ghost log is complete: every byte of the buffer that differs from "untouched" is logged
    (∀ j, b.mem j ≠ none → j ∈ b.written) ∧
    -- the overflow flag records truncation
    (b.overflow = true ↔ n < (cs.length : Int) + 1) := by
  intro b
  have hb : b = run n cs := rfl
  have h := inv_run n cs
  rw [← hb] at h
  refine ⟨h.wr, ?_, ?_, ?_, ?_, ?_, h.rd, ?_⟩
  · intro hn
    by_cases hfit : (cs.length : Int) + 1 ≤ n
    · exact IsCStr_terminated (specMem_fits h.mem hcs hfit) (by omega)
    · have hov : n < (cs.length : Int) + 1 := by omega
      exact IsCStr_terminated (specMem_truncated h.mem hcs hn hov)
        (by rw [truncated_length hn hov]; omega)
  · intro hn hov
    have h1 := specMem_truncated h.mem hcs (by omega) hov
    have h2 := truncated_length (cs := cs) (show 1 ≤ n by omega) hov
    rw [truncated_ge4 cs hn] at h1 h2
    exact ⟨h1, h2⟩
  · intro hfit; exact specMem_fits h.mem hcs hfit
  · intro h1 h3 hov
    have := specMem_truncated h.mem hcs h1 hov
    rwa [truncated_small cs (by omega)] at this
  · intro hn
    cases hw : b.written with
    | nil => rfl
    | cons i rest =>
      have := h.wr i (by rw [hw]; exact List.mem_cons_self)
      omega
  · rw [hb]; exact run_overflow n cs

/-- The string left in the buffer is uniquely determined (so (iii)-(v) identify *the* result). -/
theorem C16_cstr_unique {mem : Int → Option UInt8} {s t : List UInt8}
    (hs : IsCStr mem s) (ht : IsCStr mem t) : s = t := IsCStr_unique hs ht

/-- Instantiation for the real entry points: `nsync_mu_debug_state (mu, buf, n)` with `mu` at
address `addr` whose word reads `word`, and `nsync_cv_debug_state` likewise.  Their streams
contain no NUL, so all clauses of `C16_buffer` apply. -/
theorem C16_mu_debug_state (addr word : Nat) (n : Int) :
    let b := muDebugState addr word n
    (∀ i ∈ b.written, 0 ≤ i ∧ i < n) ∧
    (1 ≤ n → ∃ k, 0 ≤ k ∧ k < n ∧ b.mem k = some 0 ∧
        ∀ j, 0 ≤ j → j < k → ∃ v, b.mem j = some v ∧ v ≠ 0) ∧
    (4 ≤ n → n < ((muDebugChars addr word).length : Int) + 1 →
        IsCStr b.mem ((muDebugChars addr word).take (n - 4).toNat ++ [46, 46, 46])) ∧
    (((muDebugChars addr word).length : Int) + 1 ≤ n → IsCStr b.mem (muDebugChars addr word)) := by
  -- unfolded first: left to the unifier, `muDebugState … =?= emitC (foldl …) 0` is decided by
  -- evaluating both sides, stream included
  unfold muDebugState run emitAll
  have h := C16_buffer n _ (muDebugChars_ne_zero addr word)
  exact ⟨h.1, h.2.1, fun a b => (h.2.2.1 a b).1, h.2.2.2.1⟩

theorem C16_cv_debug_state (addr word : Nat) (n : Int) :
    let b := cvDebugState addr word n
    (∀ i ∈ b.written, 0 ≤ i ∧ i < n) ∧
    (1 ≤ n → ∃ k, 0 ≤ k ∧ k < n ∧ b.mem k = some 0 ∧
        ∀ j, 0 ≤ j → j < k → ∃ v, b.mem j = some v ∧ v ≠ 0) ∧
    (4 ≤ n → n < ((cvDebugChars addr word).length : Int) + 1 →
        IsCStr b.mem ((cvDebugChars addr word).take (n - 4).toNat ++ [46, 46, 46])) ∧
    (((cvDebugChars addr word).length : Int) + 1 ≤ n → IsCStr b.mem (cvDebugChars addr word)) := by
  unfold cvDebugState run emitAll
  have h := C16_buffer n _ (cvDebugChars_ne_zero addr word)
  exact ⟨h.1, h.2.1, fun a b => (h.2.2.1 a b).1, h.2.2.2.1⟩

/-! ### Non-vacuity: concrete runs (stream "ABCDEFGHIJKL", 12 bytes), unwritten bytes shown as 0xEE -/

def demo : List UInt8 := [65, 66, 67, 68, 69, 70, 71, 72, 73, 74, 75, 76]

-- n = 0 and n = -1: nothing stored
example : (run 0 demo).written = [] ∧ (run (-1) demo).written = [] := by decide +kernel
-- n = 1: just the NUL
example : dump (run 1 demo) 1 0xEE = [0] ∧ (run 1 demo).written = [0, 0] := by decide +kernel
-- n = 2, 3: dots only
example : dump (run 2 demo) 2 0xEE = [46, 0] := by decide +kernel
example : dump (run 3 demo) 3 0xEE = [46, 46, 0] := by decide +kernel
-- n = 4: "..." + NUL, nothing of the stream survives
example : dump (run 4 demo) 4 0xEE = [46, 46, 46, 0] := by decide +kernel
-- n = 10: 6 stream bytes, "...", NUL; writes 0..9 then the suffix backwards 9,8,7,6
example : dump (run 10 demo) 10 0xEE = [65, 66, 67, 68, 69, 70, 46, 46, 46, 0] ∧
    (run 10 demo).written = [0, 1, 2, 3, 4, 5, 6, 7, 8, 9, 9, 8, 7, 6] ∧
    (run 10 demo).overflow = true := by decide +kernel
-- n = 12: the stream fits but its NUL does not: truncated
example : dump (run 12 demo) 12 0xEE = [65, 66, 67, 68, 69, 70, 71, 72, 46, 46, 46, 0] := by decide +kernel
-- n = 13: exact fit, not truncated; n = 16: bytes 13..15 untouched
example : dump (run 13 demo) 13 0xEE = demo ++ [0] ∧ (run 13 demo).overflow = false := by decide +kernel
example : dump (run 16 demo) 16 0xEE = demo ++ [0, 0xEE, 0xEE, 0xEE] := by decide +kernel
-- the hypotheses of (iii) are satisfiable, and (iii) then pins down the buffer
example : IsCStr (run 10 demo).mem [65, 66, 67, 68, 69, 70, 46, 46, 46] :=
  ((C16_buffer 10 demo (by decide)).2.2.1 (by decide) (by decide)).1
-- a real debug string: write-locked mutex, 17 readers impossible together, so two samples
example : muDebugChars 0x7ffd1234 1 = asc "mu 0x7ffd1234 -> 0x1 = { wlock }" := by decide +kernel
example : muDebugChars 0x7ffd1234 0x1100 = asc "mu 0x7ffd1234 -> 0x1100 = { readers=0x11 }" := by
  decide +kernel
example : cvDebugChars 0x10 0 = asc "cv 0x10 -> 0x0 = { }" := by decide +kernel
set_option maxRecDepth 4096 in
example : dump (muDebugState 0x7ffd1234 1 12) 12 0xEE = asc "mu 0x7ff..." ++ [0] := by decide +kernel

end Emit
end NsyncVerif
