/-
  Property C09, liveness half — "no such call deadlocks" — and C08's "every thread waiting on them
  is released", for fair schedules.

  Model: `NsyncVerif/Model/Note.lean` (note.c after the repairs of F4 / F5 / F7, statement by
  statement, and the `nsync_wait_n` path of `nsync_note_wait`), as in `Props/C09.lean` and
  `Props/C08Release.lean`: any forest, any number of threads, any clock; notify / free / new /
  wait on related notes, recursion into children, WAIT_FOR_NO_CHILDREN, adoptions, rescans.
  Definitions (`Exec`, `Moves`, `Ready`, `WeakFair`, `LockFair`, `WaitFair`, `FiniteArrivals`,
  `ClockAdvances`, `SemSound`, `WaitEnds`, `WaitEndsFlag`, `LeafCalls`, the `…_full` statements)
  are in `Proofs/NoteFairDefs.lean` (+ `FiniteWork`, `Looper` in `Proofs/NoteFairGen.lean`,
  `Frozen` in `Proofs/NoteFairDeadlock.lean`).

  The theorems (`C09_fair_termination_partial` is the special case with `WaitEndsPartial`):
  * `C09_fair_termination : C09_fair_termination_full` — ALL calls, no restriction on the forest
    or on what the calls do: in every weakly fair execution from a reachable state with
    starvation-free note mutexes (`LockFair`, `WaitFair`) and finitely many arrivals, every call of
    nsync_note_new / _notify / _is_notified / _expiry / _free returns, and every nsync_note_wait
    returns whose note is notified at some time (`State.Notified`: flag set or expiry time zero),
    or — if the clock passes every value (`ClockAdvances`) and the semaphore returns 0 only when
    posted (`SemSound`) — whose own deadline or whose note's expiry time is finite (`WaitEnds`).
    Its cases are theorems of their own: `C09_fair_termination_flag` (flag set at some time),
    `C09_fair_termination_deadline` (finite deadline of the wait), `notified_returns`,
    `expiry_returns` (Proofs/NoteFairExp.lean).
  * The two halves of the proof, each a theorem of its own:
      `C09_fair_finite_work` — BOUNDED WORK: every thread takes finitely many steps inside its
          calls unless it goes round the wait loop of an un-notified nsync_note_wait for ever
          (no fairness of the mutexes needed).  Rank (Proofs/NoteFairRankG.lean, NoteFairFiniteWork.lean):
          lexicographically (potential, phase, work, waiters) where
            potential = 2·(Σ over notes of the number of notes above their parent in the creation
                        order + (B+1)·number of nsync_note_new calls before their link)
                        + number of `children_adopted` marks + number of notes not yet notified;
                        it never increases; an adoption decreases it (the adopted note moves
                        strictly up: `C09_lock_order`'s order), so does a rescan after
                        WAIT_FOR_NO_CHILDREN (it clears a mark) and the store of a flag (so every
                        recursive activation that scans a list pays for it);
            work      = position in the code, and in the loops over children 12·(number of
                        children from the saved `next` pointer on) per activation — the lists are
                        stable while the thread holds the mutex (`held_children`), have no
                        duplicates (`C08_children_nodup`), and only shrink when the thread itself
                        disconnects a child.
      `C09_fair_termination_modulo_work` — BLOCKING: with bounded work every call returns.  A
          thread that has stopped for ever inside a call waits for a mutex or for the children of
          a note (`WeakFair`); then the mutex is held for ever by ONE thread that has stopped too,
          strictly below (`LockFair`, `C09_lock_order`); or a child of the note is `disconnecting`
          and a thread counted in it has stopped at or below the child, or at the mutex of the
          note itself (`WaitFair`, `C09_wait_has_disconnectors`, `C09_disconnecting_count`,
          `counted_target`): descent along the finite creation order.  A sleeper whose note has
          its flag set has been posted once no activation on the note is left
          (`C08_waiters_released`) — C08's "every thread waiting on them is released".
      For the deadline clauses: a P that returns 0 is impossible while the flag is unset
      (`Reachable.postedFlag` + `SemSound`), so the wait is no looper (`ph2`); the deadline of its
      sleep is the minimum of its own deadline and the note's expiry time (`Reachable.sleepOk`,
      `Reachable.wOk`; the expiry time is constant during the wait, `expiry_const`), which the
      clock passes.  For a note with expiry time zero: a wait on it never gets a waiter record
      (`Reachable.wOk`), so it never sleeps and never re-reads the flag.
  * Also proved:
      `C09_fair_termination_leaf : C09_fair_termination_leaf_full` — for executions in which no
          call works on a child note (`LeafCalls`; nobody is then ever inside a
          WAIT_FOR_NO_CHILDREN that released the mutex, so `WaitFair` holds and is not a
          hypothesis), with `C09_fair_lock_free_again`: every note mutex is free again and again.
      `C09_fair_no_deadlock : C09_fair_no_deadlock_full` — with weak fairness ALONE and without
          `FiniteArrivals`: an execution cannot come to a standstill with a call blocked on a note
          mutex or inside a WAIT_FOR_NO_CHILDREN (liveness reading of `C09_no_stuck_state`).
      `C09_fair_needs_weak_fair`, `C09_fair_needs_lock_fair` — each is needed: an execution
          satisfying all the other hypotheses (and `LeafCalls`) in which a call never returns.
      non-vacuity: `timedExec` / `timed_hyps` (a timed wait on a note that is never notified
          really sleeps, the clock — which then ticks for ever — passes its deadline, it
          returns 0), `leafExec` / `leaf_hyps`, `releaseExec` / `release_hyps`
          (`Traces.releaseTrace`, recorded from the library, followed by idling: a waiter on a
          CHILD really sleeps, `notify (parent)` really recurses into the child and posts; the
          theorem is applied to the sleeper and to the notifier inside the recursive activation).
  * There is no necessity witness for `FiniteArrivals` (with infinitely many arrivals an ever
    growing chain of threads, the k-th holding the mutex of note k and waiting for that of its
    fresh child k+1, starves the first for ever; it is not a lasso) and for `WaitFair`.

  THE ENABLEDNESS / FAIRNESS NOTIONS, and why
  * `Ready s t` := inside a call, the note mutex it waits for (`PC.wants`, if any) is free, it is
    not inside a WAIT_FOR_NO_CHILDREN whose condition is false, and if it sleeps on the semaphore
    of its waiter record, the record has been posted (`posted ≠ 0`, "count non-zero": the model
    does not keep the semaphore count, A3) or the deadline of the sleep has passed.
  * `WeakFair`: a thread that is continuously `Ready` moves.  For a mutex acquisition this is the
    weak form; it is TOO WEAK: `C09_fair_needs_lock_fair` is a weakly fair lasso with finitely many
    arrivals and leaf calls only in which `nsync_note_is_notified (n)` waits for ever inside
    `nsync_mu_lock (&n->note_mu)` while a thread in `nsync_note_wait (n)` goes round the wait loop
    of `nsync_wait_n` (its P returns 0 again and again although nobody posted: accepted by
    assumption A3 of the model) and takes and releases the mutex each time.  Hence `LockFair`
    (strong fairness of the acquisition; liveness half of assumption A1), exactly as in
    Props/C07Fair.lean, and `WaitFair` for the return of `nsync_mu_wait` (liveness half of A2:
    mutex free AND condition true, again and again).  With a semaphore that never returns 0
    unposted (`SemSound`) this particular witness disappears; no theorem here says whether
    `LockFair` is then derivable from `FiniteArrivals`.
  * `FiniteArrivals` makes the set of notes finite and constant from some time on (`settled_gen`),
    which the potential (`C09_fair_finite_work`) and the descent (`C09_fair_termination_modulo_work`)
    need.
-/
import NsyncVerif.Proofs.NoteFairWitness
import NsyncVerif.Proofs.NoteFairDeadlock
import NsyncVerif.Proofs.NoteFairExp
import NsyncVerif.Proofs.NoteFairFull


namespace Note

/-! ### the theorems -/

/-- FAIR TERMINATION, all calls: in every weakly fair execution from a reachable state with
    starvation-free note mutexes and finitely many arrivals, every call of nsync_note_new / _notify /
    _is_notified / _expiry / _free returns, and so does every nsync_note_wait on a note whose flag
    is set at some time.  (`C09_fair_termination_full` but for `WaitEndsFlag` in the place of
    `WaitEnds`.) -/
theorem C09_fair_termination_flag : C09_fair_termination_flag_full := by
  intro s0 x hr hw hl hwt hf t i _ hwe
  exact gen_returns x (.of_fair hr hw hl hwt hf) hwe

/-- … and every nsync_note_wait with a finite deadline of its own returns, whether or not its note
    is ever notified, if the clock passes every value and the semaphore returns 0 only when it
    has been posted. -/
theorem C09_fair_termination_deadline {s0 : State} (x : Exec s0) (hr : Reachable s0)
    (hw : WeakFair x) (hl : LockFair x) (hwt : WaitFair x) (hf : FiniteArrivals x)
    (hclk : ClockAdvances x) (hss : SemSound x) {t : Tid} {i : Nat} {n : NoteId} {w : Nat}
    (hwo : ((x.ρ i).pc t).waitOn = some (n, some w)) : ∃ j, i ≤ j ∧ (x.ρ j).pc t = .idle :=
  dl_returns x (.of_fair hr hw hl hwt hf) hclk hss hwo

/-- FAIR TERMINATION, the FULL statement: in every weakly fair execution from a reachable state with
    starvation-free note mutexes (`LockFair`, `WaitFair`) and finitely many arrivals, every call of
    nsync_note_new / _notify / _is_notified / _expiry / _free returns, and so does every
    nsync_note_wait whose note is notified at some time (flag set, or expiry time zero), or — if the
    clock passes every value and the semaphore returns 0 only when posted — whose own deadline or
    whose note's expiry time is finite. -/
theorem C09_fair_termination : C09_fair_termination_full := by
  intro s0 x hr hw hl hwt hf t i _ hwe
  cases hwo : ((x.ρ i).pc t).waitOn with
  | none =>
    exact gen_returns x (.of_fair hr hw hl hwt hf) (fun n wdl h => by rw [hwo] at h; cases h)
  | some p =>
    obtain ⟨n, wdl⟩ := p
    rcases hwe n wdl hwo with ⟨j, hN⟩ | ⟨hclk, hss, hfin⟩
    · exact notified_returns x (.of_fair hr hw hl hwt hf) hwo hN
    · cases wdl with
      | some w => exact dl_returns x (.of_fair hr hw hl hwt hf) hclk hss hwo
      | none =>
        cases hex : ((x.ρ i).notes n).expiry with
        | some ex => exact expiry_returns x (.of_fair hr hw hl hwt hf) hclk hss hwo hex
        | none => rcases hfin with h | h <;> exact absurd (by first | rfl | exact hex) h

/-- A corollary: the full statement with `WaitEndsPartial` (flag set at some time, or finite
    deadline of the wait passed by the clock) in the place of `WaitEnds`. -/
theorem C09_fair_termination_partial : C09_fair_termination_partial_statement := by
  intro s0 x hr hw hl hwt hf t i hp hwe
  refine C09_fair_termination s0 x hr hw hl hwt hf t i hp (fun n wdl h => ?_)
  rcases hwe n wdl h with ⟨j, hfl⟩ | ⟨hclk, hss, hfin⟩
  · exact .inl ⟨j, .inl hfl⟩
  · exact .inr ⟨hclk, hss, .inl hfin⟩

/-- BOUNDED WORK: every thread takes finitely many steps inside its calls, unless it goes round the
    wait loop of an un-notified nsync_note_wait for ever. -/
theorem C09_fair_finite_work {s0 : State} (x : Exec s0) (hr : Reachable s0) (hw : WeakFair x)
    (hf : FiniteArrivals x) : FiniteWork x :=
  finiteWork x hr hw hf

/-- BLOCKING: with bounded work every call returns. -/
theorem C09_fair_termination_modulo_work : C09_fair_termination_modulo_work_full := by
  intro s0 x hr hw hl hwt hf hfw t i _ hwe
  exact gen_returns x ⟨hr, hw, hl, hwt, hf, hfw⟩ hwe

/-- FAIR TERMINATION for leaf calls (no `WaitFair`): in every weakly fair execution from a reachable state with
    starvation-free note mutexes, finitely many arrivals and leaf calls only, every call of
    nsync_note_new / _notify / _is_notified / _expiry / _free returns, and so does every
    nsync_note_wait on a note whose flag is set at some time. -/
theorem C09_fair_termination_leaf : C09_fair_termination_leaf_full := by
  intro s0 x hr hw hl hf hleaf t i _ hwe
  exact gen_returns x (.of_fair hr hw hl (waitFair_of_leaf x hleaf) hf) hwe

/-- … and from some time on every note mutex is free again and again. -/
theorem C09_fair_lock_free_again {s0 : State} (x : Exec s0) (hr : Reachable s0) (hw : WeakFair x)
    (hl : LockFair x) (hf : FiniteArrivals x) (hleaf : LeafCalls x) :
    ∃ N, ∀ m i, N ≤ i → ∃ j, i ≤ j ∧ ((x.ρ j).notes m).lockHolder = none := by
  have hy : GenHyps x := .of_fair hr hw hl (waitFair_of_leaf x hleaf) hf
  obtain ⟨T, _, hC⟩ := classified x hy 0
  exact ⟨T, fun m i hi => lock_free_again x hy hC m hi⟩

/-- NO DEADLOCK (all calls, weak fairness alone): if from time `T` on no thread moves, every
    thread is outside any call, or asleep in nsync_note_wait — not blocked on a note mutex, not
    inside a WAIT_FOR_NO_CHILDREN — on a semaphore that is unposted before its deadline. -/
theorem C09_fair_no_deadlock : C09_fair_no_deadlock_full := by
  intro s0 x hr hw T hf t
  exact fair_no_deadlock x hr hw hf t

/-! ### each hypothesis is needed -/

/-- `WeakFair` cannot be dropped: all other hypotheses hold and the call never returns. -/
theorem C09_fair_needs_weak_fair :
    ∃ x : Exec stallA, Reachable stallA ∧ LockFair x ∧ WaitFair x ∧ FiniteArrivals x ∧
      LeafCalls x ∧ WaitEndsFlag x 0 0 ∧ ¬ WeakFair x ∧
      ∀ j, (x.ρ j).pc 0 = .newMalloc none none := by
  have hpc0 := (stallA_pc 0).1 rfl
  have hpc : ∀ t, stallA.pc t = .newMalloc none none ∨ stallA.pc t = .idle := by
    intro t
    by_cases ht : t = 0
    · subst ht; exact Or.inl hpc0
    · exact Or.inr ((stallA_pc t).2 ht)
  refine ⟨stallExec, stall_reach, ?_, ?_, ⟨0, ?_⟩, ?_, ?_, ?_, ?_⟩
  · intro t m i h _
    have hL := h i (Nat.le_refl _)
    rw [(stall_at i).1] at hL
    rcases hpc t with h' | h' <;> (rw [h'] at hL; cases hL)
  · intro t m i h _
    have hL := h i (Nat.le_refl _)
    rw [(stall_at i).1] at hL
    rcases hpc t with h' | h' <;> (rw [h'] at hL; cases hL)
  · intro j t a _ he
    rw [(stall_at j).2] at he; cases he
  · intro j t
    rw [(stall_at j).1]
    rcases hpc t with h' | h' <;> (rw [h']; rfl)
  · intro n wdl h
    rw [(stall_at 0).1, hpc0] at h; cases h
  · intro hwf
    obtain ⟨j, _, e, he, _⟩ := hwf 0 0 (fun j _ => by
      rw [Ready, (stall_at j).1, hpc0]
      refine ⟨(by intro h; cases h), (by intro m h; cases h), ?_, ?_⟩
      · unfold WaitBlocked; rw [hpc0]; exact fun h => h
      · unfold SemReady; rw [hpc0]; trivial)
    rw [(stall_at j).2] at he; cases he
  · intro j; rw [(stall_at j).1]; exact hpc0

/-- `LockFair` cannot be replaced by weak fairness of the acquisition, not even with finitely
    many arrivals and leaf calls only: a weakly fair execution from a reachable state in which
    the mutex of note0 is free again and again and yet `nsync_note_is_notified (note0)` waits
    inside `nsync_mu_lock` for ever. -/
theorem C09_fair_needs_lock_fair :
    ∃ x : Exec bargeA, Reachable bargeA ∧ WeakFair x ∧ WaitFair x ∧ FiniteArrivals x ∧
      LeafCalls x ∧ WaitEndsFlag x 0 0 ∧ ¬ LockFair x ∧
      (∀ j, ∃ j', j ≤ j' ∧ ((x.ρ j').notes 0).lockHolder = none) ∧
      (∀ j, (x.ρ j).pc 0 = .dl .lockRet 0 none .isNotified) := by
  have hfree : ∀ j, ∃ j', j ≤ j' ∧ ((bargeExec.ρ j').notes 0).lockHolder = none :=
    NsyncVerif.Lasso.mod_again (n := 9) (Q := fun k => ((stateFrom bargeA (bargeLoop.take k)).notes 0).lockHolder = none)
      (k := 0) (by decide) ((barge_states 0 (by omega)).2.2.2.1 rfl)
  refine ⟨bargeExec, barge_reach, ?_, ?_, ⟨0, ?_⟩, ?_, ?_, ?_, hfree, barge_pc0⟩
  · -- weakly fair
    intro t i h
    by_cases ht1 : t = 1
    · subst ht1; exact ⟨i, Nat.le_refl _, barge_moves i⟩
    · by_cases ht0 : t = 0
      · subst ht0
        -- four steps after a multiple of 9 the mutex is held by T1
        have hR := h (9 * i + 4) (by omega)
        have hl := (barge_states 4 (by omega)).2.2.1 rfl
        have hm : (9 * i + 4) % 9 = 4 := by omega
        have hfree := hR.2.1 0 (by rw [barge_pc0]; rfl)
        rw [barge_state, hm, hl] at hfree
        cases hfree
      · exact absurd (barge_idle i (two_le_of_ne ht1 ht0)) (h i (Nat.le_refl _)).1
  · -- no child wait at all
    intro t m i h _
    have hL := h i (Nat.le_refl _)
    by_cases ht1 : t = 1
    · subst ht1
      rw [barge_state, (barge_states (i % 9) (by omega)).2.1] at hL; cases hL
    · by_cases ht0 : t = 0
      · subst ht0; rw [barge_pc0] at hL; cases hL
      · rw [barge_idle i (two_le_of_ne ht1 ht0)] at hL; cases hL
  · intro j t a _ he
    have hc : bargeLoop.all (fun e => match e with | .call .. => false | _ => true) = true := by decide
    rw [barge_ev] at he
    simpa using List.all_eq_true.1 hc _ (List.mem_of_getElem? he)
  · intro j t
    by_cases ht1 : t = 1
    · subst ht1; rw [barge_state]; exact (barge_states (j % 9) (by omega)).1
    · by_cases ht0 : t = 0
      · subst ht0; rw [barge_pc0]; rfl
      · rw [barge_idle j (two_le_of_ne ht1 ht0)]; rfl
  · intro n wdl h
    rw [barge_pc0] at h; cases h
  · intro hlf
    obtain ⟨j, _, hm⟩ := hlf 0 0 0 (fun j _ => by rw [barge_pc0]; rfl) (fun j _ => hfree j)
    exact barge_not_moves0 j hm

/-! ### non-vacuity: the hypotheses hold in executions in which threads really wait -/

/-- In `leafExec` (all hypotheses of the leaf theorem: `leaf_hyps`) at time 34 T1 is asleep in
    `nsync_note_wait (note0)` on an unposted semaphore, its record queued with `waiting = 1`, the
    flag unset; T0's `nsync_note_notify (note0)` stores the flag at time 46, clears `waiting` at
    47 and posts at 48; T1's P returns at 54; both calls return (53, 63). -/
example : (leafExec.ρ 34).pc 1 = .wt (.pdRet none) 0 none 0 ∧
    ((leafExec.ρ 34).recs 0).posted = 0 ∧ ((leafExec.ρ 34).recs 0).waiting = true ∧
    ((leafExec.ρ 34).notes 0).waiters = [0] ∧ ((leafExec.ρ 34).notes 0).notified = false ∧
    leafExec.σ 46 = some (.stNote 0 .childSt .rel 0 1 0) ∧
    leafExec.σ 47 = some (.stW 0 .childWake .rel 0 0 1) ∧ leafExec.σ 48 = some (.semV 0 0) ∧
    ((leafExec.ρ 49).recs 0).posted = 1 ∧ ((leafExec.ρ 49).notes 0).notified = true ∧
    leafExec.σ 53 = some (.ret 0 .notify) ∧ leafExec.σ 54 = some (.pdRet 1 0 false) ∧
    leafExec.σ 63 = some (.ret 1 (.wait true)) ∧ leafEvs.length = 64 := by
  decide

/-- The sleeper is not `Ready` at time 34 (nothing is asked of it by `WeakFair`). -/
example : ¬ Ready (leafExec.ρ 34) 1 := by
  intro h
  have hpc : (leafExec.ρ 34).pc 1 = .wt (.pdRet none) 0 none 0 := by decide
  have hs := h.2.2.2
  unfold SemReady at hs
  rw [hpc] at hs
  have hp : ((leafExec.ρ 34).recs 0).posted = 0 := by decide
  rcases hs with hs | hs
  · exact hs hp
  · simp [Dl.leNow] at hs

theorem leaf_waitEnds : WaitEndsFlag leafExec 1 34 := by
  intro n wdl h
  have hpc : (leafExec.ρ 34).pc 1 = .wt (.pdRet none) 0 none 0 := by decide
  rw [hpc] at h
  cases h
  exact ⟨64, by decide⟩

/-- The theorem applies and gives the return of the sleeping thread T1. -/
example : ∃ j, 34 ≤ j ∧ (leafExec.ρ j).pc 1 = .idle :=
  C09_fair_termination_leaf init leafExec leaf_hyps.1 leaf_hyps.2.1 leaf_hyps.2.2.1
    leaf_hyps.2.2.2.2.1 leaf_hyps.2.2.2.2.2 1 34 (by decide) leaf_waitEnds

/-- … and that of the notifier T0, in the middle of its wake loop (time 47). -/
example : ∃ j, 47 ≤ j ∧ (leafExec.ρ j).pc 0 = .idle :=
  C09_fair_termination_leaf init leafExec leaf_hyps.1 leaf_hyps.2.1 leaf_hyps.2.2.1
    leaf_hyps.2.2.2.2.1 leaf_hyps.2.2.2.2.2 0 47 (by decide)
    (fun n wdl h => by
      have hpc : (leafExec.ρ 47).pc 0 = .chd (.wake 0) [⟨0, none⟩] ⟨0, none, .ofApi⟩ := by decide
      rw [hpc] at h; cases h)

/-- At time 82 of `releaseExec` T0 is asleep in `nsync_note_wait (note1)`. -/
theorem releaseExec_pc82 : (releaseExec.ρ 82).pc 0 = .wt (.pdRet none) 1 none 0 := by decide

/-- At the end of `releaseExec` the flag of the child note1 is set. -/
theorem release_flag :
    ((releaseExec.ρ Traces.releaseTrace.length).notes 1).notified = true := by decide

/-- The hypotheses of the FULL statement (`C09_fair_termination_full`) are satisfiable by an
    execution recorded from the library in which a notifier works on CHILDREN: in `releaseExec`
    (`release_hyps`) at time 82 T0 is asleep in `nsync_note_wait (note1)`, T1 inside
    `note_notify_child (note1, note0)` (a recursive activation) is about to clear
    `nw0.waiting`; at the end everybody has returned. -/
example : (releaseExec.ρ 82).pc 0 = .wt (.pdRet none) 1 none 0 ∧
    (releaseExec.ρ 82).pc 1 = .chd (.wake 0) [⟨1, none⟩, ⟨0, some 2⟩] ⟨0, none, .ofApi⟩ ∧
    ((releaseExec.ρ 82).pc 1).inChildLoop = true ∧
    WaitEnds releaseExec 0 82 ∧
    (∀ t, (releaseExec.ρ Traces.releaseTrace.length).pc t = .idle) := by
  refine ⟨by decide, by decide, by decide, ?_, fun t => rel_tail (Nat.le_refl _) t⟩
  intro n wdl h
  rw [releaseExec_pc82] at h
  cases h
  exact Or.inl ⟨_, Or.inl release_flag⟩

theorem release_waitEnds_full : WaitEnds releaseExec 0 82 := by
  intro n wdl h
  rw [releaseExec_pc82] at h
  cases h
  exact Or.inl ⟨_, Or.inl release_flag⟩

/-- The FULL theorem applies to `releaseExec`: the waiter T0, asleep on the child note1 while T1
    notifies the parent, returns. -/
example : ∃ j, 82 ≤ j ∧ (releaseExec.ρ j).pc 0 = .idle :=
  C09_fair_termination init releaseExec release_hyps.1 release_hyps.2.1 release_hyps.2.2.1
    release_hyps.2.2.2.1 release_hyps.2.2.2.2 0 82 (by decide) release_waitEnds_full

theorem release_waitEnds : WaitEndsFlag releaseExec 0 82 := by
  intro n wdl h
  rw [releaseExec_pc82] at h
  cases h
  exact ⟨_, release_flag⟩

/-- The general theorem applies to `releaseExec` and gives the return of the waiter T0, asleep on
    the CHILD note1 while T1 notifies the parent … -/
example : ∃ j, 82 ≤ j ∧ (releaseExec.ρ j).pc 0 = .idle :=
  C09_fair_termination_flag init releaseExec release_hyps.1 release_hyps.2.1 release_hyps.2.2.1
    release_hyps.2.2.2.1 release_hyps.2.2.2.2 0 82 (by decide) release_waitEnds

/-- … and that of the notifier T1, inside the recursive activation for the child. -/
example : ∃ j, 82 ≤ j ∧ (releaseExec.ρ j).pc 1 = .idle :=
  C09_fair_termination_flag init releaseExec release_hyps.1 release_hyps.2.1 release_hyps.2.2.1
    release_hyps.2.2.2.1 release_hyps.2.2.2.2 1 82 (by decide)
    (fun n wdl h => by
      have hpc : (releaseExec.ρ 82).pc 1 =
          .chd (.wake 0) [⟨1, none⟩, ⟨0, some 2⟩] ⟨0, none, .ofApi⟩ := by decide
      rw [hpc] at h; cases h)

/-- The hypotheses of `C09_fair_termination_deadline` hold (`timed_hyps`) for `timedExec`: root
    note0 is never notified; T1 calls `nsync_note_wait (note0, deadline 5)` at time 0 and at time 34
    is asleep with the deadline 5, its record queued and unposted; the clock goes to 7 (event 34);
    P returns ETIMEDOUT (35); the wait dequeues its record and returns 0 (50); then the clock
    ticks for ever. -/
example : (timedExec.ρ 34).pc 1 = .wt (.pdRet (some 5)) 0 (some 5) 0 ∧
    ((timedExec.ρ 34).recs 0).posted = 0 ∧ ((timedExec.ρ 34).notes 0).waiters = [0] ∧
    ((timedExec.ρ 34).notes 0).notified = false ∧ (timedExec.ρ 34).now = 0 ∧
    timedExec.σ 34 = some (.tick 7) ∧ timedExec.σ 35 = some (.pdRet 1 0 true) ∧
    timedExec.σ 50 = some (.ret 1 (.wait false)) ∧ timedEvs.length = 51 ∧
    ((timedExec.ρ 51).notes 0).notified = false ∧ ((timedExec.ρ 51).notes 0).waiters = [] ∧
    timedExec.σ 51 = some (.tick 8) ∧ (timedExec.ρ 60).now = 16 := by
  decide

/-- The theorem applies and gives the return of the sleeper, whose note is never notified. -/
example : ∃ j, 34 ≤ j ∧ (timedExec.ρ j).pc 1 = .idle :=
  C09_fair_termination_deadline timedExec timed_hyps.1 timed_hyps.2.1 timed_hyps.2.2.1
    timed_hyps.2.2.2.1 timed_hyps.2.2.2.2.1 timed_hyps.2.2.2.2.2.1 timed_hyps.2.2.2.2.2.2
    (t := 1) (i := 34) (n := 0) (w := 5) (by decide)

/-- `C09_fair_no_deadlock` applies to `releaseExec` (it is at a standstill from the end of the
    trace on) and says that nobody is left inside a call. -/
example : ∀ t, (releaseExec.ρ Traces.releaseTrace.length).pc t = .idle ∨
    (Asleep (releaseExec.ρ Traces.releaseTrace.length) t ∧
      ¬ LockBlocked (releaseExec.ρ Traces.releaseTrace.length) t ∧
      ¬ WaitBlocked (releaseExec.ρ Traces.releaseTrace.length) t ∧
      ∃ j, Traces.releaseTrace.length ≤ j ∧ ¬ SemReady (releaseExec.ρ j) t) :=
  C09_fair_no_deadlock init releaseExec release_hyps.1 release_hyps.2.1 _
    (fun j t hj ⟨e, he, _⟩ => by
      rw [show releaseExec.σ j = none from (traceExec_tail rel_run hj).2] at he; cases he)

end Note
