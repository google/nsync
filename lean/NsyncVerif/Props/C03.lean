import NsyncVerif.Proofs.MuXVC
/-
  Property C03 — every hand-off is a happens-before edge under the declared memory orders
  (mutex part; the once / note / counter / signal edges rest on the clock lemmas of Proofs/VC.lean and on
  the per-layer acceptors' order checks).

  Happens-before is computed ONLY from the order each atomic operation on the mutex word requests
  (`Ord`: relaxed / acquire / release / acq_rel), with the C++20 release-sequence rule: a release
  operation heads a sequence that is continued by read-modify-writes and broken by a relaxed plain
  store; an acquire read of any write in the sequence synchronises with its head.  No ordering is
  credited to the CPU, to sequential consistency of the interleaving, or to the semaphores.
  Ghosts of the MuX model: `vc t` (thread clock), `relc` (release clock of the word), `released`
  (join of the clocks threads had at their release points = everything that "happened before some
  release of this mutex").
-/
namespace NsyncVerif.Props.C03
open NsyncVerif.MuX

/-- The release clock of the word always covers every past release point, and so does the clock of
    the owner of the writer bit. -/
theorem C03_release_chain {s : State} (h : Reachable s) :
    VC.le s.released s.relc ∧ ∀ t, s.w = some t → VC.le s.released (s.vc t) :=
  let v := reachable_vinv h; ⟨v.v1, v.v3⟩

/-- HAND-OFF.  Whatever happened before ANY earlier release of the mutex happens before the acquirer's
    continuation: at the step by which thread `t` comes to own a share (writer bit, a reader count, or
    the reader→writer conversion), its new clock dominates `released`. -/
theorem C03_mutex_handoff {s s' : State} (h : Reachable s) (t : Tid) (exp new : Nat) (ord : Ord)
    (hs : step s (.cas t exp new ord) = .ok s')
    (hgain : shareOf s t = .none) (hown : shareOf s' t ≠ .none) :
    VC.le s.released (s'.vc t) :=
  -- gaining a share forces acquire order, and an acquire RMW imports the word's release clock
  have hw := (step_cas hs).2.2
  applyWrite_acquire (reachable_vinv h) hw (acquire_of_gain (reachable_inv h) hw hgain hown)

/-- RELEASE.  At a release point (a write that gives up the writer bit or decrements the reader count)
    the releasing thread's clock — i.e. everything it did before, in particular its critical section —
    is recorded in `released`. -/
theorem C03_release_recorded {s s' : State} (t : Tid) (new : Nat) (ord : Ord) (rmw : Bool)
    (hs : applyWrite s t new ord rmw = .ok s')
    (hrp : ∃ ld, lockDelta (decode s.word) (decode new) = some ld ∧ isReleasePoint ld = true) :
    VC.le (s.vc t) s'.released := by
  obtain ⟨ld, hld, hrpt⟩ := hrp
  obtain ⟨d, _, _, hd, -, -, -, _, -, rfl⟩ := applyWrite_ok hs
  cases hd.symm.trans hld
  show VC.le _ (clocks s t ord rmw (isReleasePoint ld)).2.2
  rw [clocks_released, hrpt]
  exact VC.le_trans le_seen (VC.le_join_right _ _)

/-- `released` only grows. -/
theorem C03_released_monotone_step {s s' : State} {e : Ev} (h : step s e = .ok s') :
    VC.le s.released s'.released := by
  rcases step_ok h with ⟨_, _, _, hw, -⟩ | ⟨_, _, _, -, -, rfl⟩
  · exact applyWrite_released_mono hw
  · exact VC.le_refl _

theorem C03_released_monotone {s s' : State} {evs : List Ev} (h : run s evs = .ok s') :
    VC.le s.released s'.released :=
  isRun.induct (Q := fun s1 => VC.le s.released s1.released) (VC.le_refl _)
    (fun _ _ _ _ hp hs => VC.le_trans hp (C03_released_monotone_step hs)) h

/-- Everything a thread did before a release point (by CAS or by plain store) happens before the
    continuation of ANY later acquire RMW on the word, whatever that RMW is for: taking a share, the
    reader→writer conversion, or only the queue spinlock. -/
theorem release_before_acquire {s1 s1' s2 s2' : State} {u t : Tid} {newU new : Nat} {ordU ord : Ord}
    {rmw : Bool} {evs : List Ev} (hrel : applyWrite s1 u newU ordU rmw = .ok s1')
    (hrp : ∃ ld, lockDelta (decode s1.word) (decode newU) = some ld ∧ isReleasePoint ld = true)
    (hrun : run s1' evs = .ok s2) (h2 : Reachable s2)
    (hacq : applyWrite s2 t new ord true = .ok s2') (ha : ord.isAcq = true) :
    VC.le (s1.vc u) (s2'.vc t) :=
  VC.le_trans (C03_release_recorded u newU ordU rmw hrel hrp)
    (VC.le_trans (C03_released_monotone hrun) (applyWrite_acquire (reachable_vinv h2) hacq ha))

/-- END TO END.  If `u` gives up its share at some reachable state and, any number of steps of any
    threads later, `t` comes to own a share, then everything `u` did before releasing happens before
    `t`'s continuation — for every interleaving, any number of threads, under the declared orders only. -/
theorem C03_unlock_happens_before_lock {s1 s1' s2 s2' : State} (h1 : Reachable s1)
    (u : Tid) (newU : Nat) (ordU : Ord)
    (hrel : step s1 (.cas u s1.word newU ordU) = .ok s1')
    (hrp : ∃ ld, lockDelta (decode s1.word) (decode newU) = some ld ∧ isReleasePoint ld = true)
    (evs : List Ev) (hrun : run s1' evs = .ok s2)
    (t : Tid) (exp new : Nat) (ord : Ord) (hacq : step s2 (.cas t exp new ord) = .ok s2')
    (hgain : shareOf s2 t = .none) (hown : shareOf s2' t ≠ .none) :
    VC.le (s1.vc u) (s2'.vc t) :=
  have h2 := (h1.step hrel).run hrun
  have hw := (step_cas hacq).2.2
  release_before_acquire (step_cas hrel).2.2 hrp hrun h2 hw (acquire_of_gain (reachable_inv h2) hw hgain hown)

/-- What the acceptor demands of the declared orders (so that the theorems above apply to the code):
    taking a share or the spinlock must be an acquire, giving one up a release, and a plain store to the
    word must be a release store by the owner of writer bit and spinlock. -/
theorem C03_orders_required {s s' : State} {t : Tid} {new : Nat} {ord : Ord} {rmw : Bool}
    (h : applyWrite s t new ord rmw = .ok s') :
    ∀ ld, lockDelta (decode s.word) (decode new) = some ld →
      (needsAcq ld (spinDelta (decode s.word) (decode new)) = true → ord.isAcq = true) ∧
      (needsRel ld (spinDelta (decode s.word) (decode new)) = true → ord.isRel = true) := by
  intro ld hld
  obtain ⟨d, _, _, hd, -, hacq, hrel, -⟩ := applyWrite_ok h
  cases hd.symm.trans hld
  exact ⟨hacq, hrel⟩

/-! ### Non-vacuity -/
/-- writer 1 releases with a release CAS; writer 2 acquires with an acquire CAS: 2's clock then covers 1's. -/
def handoffTrace : List Ev :=
  [ .call 1 (.acq .W false), .cas 1 0 1 .acq, .ret 1 true, .call 1 (.rel .W), .cas 1 1 0 .rel, .ret 1 true,
    .call 2 (.acq .W false), .cas 2 0 1 .acq, .ret 2 true ]
example : (run init handoffTrace).toOption.map (fun s => (s.vc 2 1, s.released 1)) = some (2, 2) := by decide +kernel
/-- the same with a RELAXED unlock CAS is refused by the acceptor -/
example : (run init [ .call 1 (.acq .W false), .cas 1 0 1 .acq, .ret 1 true, .call 1 (.rel .W), .cas 1 1 0 .rlx ]).toOption.isSome = false := by decide +kernel
/-- … and so is an acquire without acquire order -/
example : (run init [ .call 1 (.acq .W false), .cas 1 0 1 .rlx ]).toOption.isSome = false := by decide +kernel

end NsyncVerif.Props.C03
