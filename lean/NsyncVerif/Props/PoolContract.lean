/-
  The waiter-pool contract (trusted-base item "a waiter struct handed out by nsync_waiter_new_ is
  used by exactly one call at a time, is initialised, and comes back only through
  nsync_waiter_free_"), proved for the model `Pool` of /repo/internal/common.c:139-229
  (`nsync_waiter_new_`, `nsync_waiter_free_`, `waiter_destroy`) at one-atomic-operation
  granularity, for any number of threads, any nesting of new/free pairs, any schedule.

  All theorems quantify over every reachable state (`Reachable s ↔ ∃ evs, run init evs = .ok s`).
  Everything stated here is proved in full (no `_partial`), with one scope restriction:

  * `malloc` returning NULL is REJECTED by the model (`Ev.mallocNull`, theorem
    `Pool_malloc_null_rejected`): common.c:195-197 dereferences the result unchecked
    (`w->tag = WAITER_TAG`).  Executions with a failed allocation are therefore outside these
    theorems (and outside property C19, by its quantifier).  Hence the name
    `Pool_no_leak_partial`: "no struct is lost" is proved for all executions in which every
    `malloc` of `nsync_waiter_new_` succeeds.

  Ghost vocabulary: `s.loc w` (where struct `w` is) is a ghost function; the theorems tie each
  of its values to the concrete representation (list, pcs, flag bits, per-thread slots) and —
  for `Loc.held` — to the trace (`Pool_held_by_trace`), so that no statement rests on the ghost
  alone.
-/
import NsyncVerif.Proofs.PoolTrace

namespace Pool

/-- **Pool_exclusive (state form).**  The IN_USE bit is set exactly on the structs that are
    handed out; a struct is handed out to at most one thread; and in the state in which
    `nsync_waiter_new_` returns `w` (to anybody, through the fast path or the pool path, reserved
    or pooled struct) nobody holds `w` and its IN_USE bit is clear. -/
theorem Pool_exclusive {s : State} (hr : Reachable s) :
    (∀ w, s.inuse w = true ↔ ∃ t, s.loc w = .held t) ∧
    (∀ w t u, s.loc w = .held t → s.loc w = .held u → t = u) ∧
    (∀ t w s', step s (.ret t w) = .ok s' →
      (∀ u, s.loc w ≠ .held u) ∧ s.inuse w = false ∧ s'.loc w = .held t ∧ s'.inuse w = true) := by
  have hi := reachable_inv hr
  refine ⟨hi.l.inuseIff, ?_, ?_⟩
  · intro w t u h1 h2; rw [h1] at h2; injection h2
  · intro t w s' h
    have hpre := ret_pre hi h
    have hnh : ∀ u, s.loc w ≠ .held u := by
      intro u hu; rw [hu] at hpre; rcases hpre with h1 | h1 <;> cases h1
    exact ⟨hnh, hi.l.inuse_false hnh, ret_post h,
      ((reachable_inv (hr.step h)).l.inuseIff w).2 ⟨t, ret_post h⟩⟩

/-- **Pool_exclusive (trace form).**  Between `new` returning `w` to `t` and the next return of
    `w` by `new` — to any thread `u`, `u = t` included (a nested call) — `t` has called
    `nsync_waiter_free_ (w)`. -/
theorem Pool_exclusive_trace {pre mid : List Ev} {t u : Tid} {w : Wid} {s : State}
    (h : run init (pre ++ .ret t w :: (mid ++ [.ret u w])) = .ok s) : .free t w ∈ mid := by
  obtain ⟨s0, h0, h1⟩ := isRun.append.mp h
  obtain ⟨s1, h2, h3⟩ := isRun.of_cons h1
  obtain ⟨s2, h4, h5⟩ := isRun.append.mp h3
  obtain ⟨s3, h6, _⟩ := isRun.of_cons h5
  have hr1 : Reachable s1 := (Reachable.run Reachable.init h0).step h2
  rcases held_run hr1 (ret_post h2) h4 with hm | hm
  · exact hm
  · have := ret_pre (reachable_inv (hr1.run h4)) h6
    rw [hm] at this; rcases this with h7 | h7 <;> cases h7

/-- The ghost location `held t` is exactly "the last `new`-return / `free`-entry event about `w`
    in the trace is `new` returning `w` to `t`". -/
theorem Pool_held_by_trace {evs : List Ev} {s : State} (h : run init evs = .ok s) (w : Wid)
    (t : Tid) : s.loc w = .held t ↔ heldBy w none evs = some t := by
  have := heldOf_run (w := w) Reachable.init h
  rw [← heldOf_eq, this]; rfl

/-- Only the holder frees, and only the holder blocks on the struct's semaphore (client
    obligations that the acceptor checks on the logs). -/
theorem Pool_client_checks {s s' : State} :
    (∀ t w, step s (.free t w) = .ok s' → s.loc w = .held t) ∧
    (∀ t w, step s (.use t w) = .ok s' → s.loc w = .held t) :=
  ⟨fun _ _ h => by cases step_sound h <;> assumption, fun _ _ h => by cases step_sound h; assumption⟩

/-- **Pool_free_list_inv.**  (1) no duplicates; (2) the list holds exactly the allocated structs
    that are neither IN_USE nor RESERVED nor carried by a thread inside a pool function;
    (3) spinlock exclusion: at most one thread is in a critical section, the word is 1 exactly
    then and 0 otherwise; (4) the list is modified only by the release-store step of the thread
    that holds the spinlock (the list operation is folded into that step). -/
theorem Pool_free_list_inv {s : State} (hr : Reachable s) :
    s.free.Nodup ∧
    (∀ w, w ∈ s.free ↔ (w < s.nalloc ∧ s.inuse w = false ∧ s.reserved w = false ∧
                          ∀ t, (s.pc t).transit ≠ some w)) ∧
    ((∀ t u j j', s.pc t = .cs j → s.pc u = .cs j' → t = u) ∧
     (s.mu = 1 ↔ ∃ t j, s.pc t = .cs j) ∧ (s.mu = 0 ∨ s.mu = 1)) ∧
    (∀ e s', step s e = .ok s' → s'.free ≠ s.free →
      ∃ t fn obs j, e = .rel t fn obs ∧ s.pc t = .cs j ∧ s.holder = some t ∧ s.mu = 1) := by
  have hi := reachable_inv hr
  obtain ⟨hm, hl, hf⟩ := hi
  refine ⟨hl.nodup, ?_, ⟨?_, ?_, hm.mu_le⟩, ?_⟩
  · intro w
    rw [hl.locFree w]
    constructor
    · intro hw
      refine ⟨hl.lt_nalloc (by simp [hw]), hl.inuse_false (by simp [hw]),
        hl.res.reserved_false (by simp [hw]), fun t ht => ?_⟩
      have := (hl.locTr t w).1 ht; rw [hw] at this; cases this
    · intro ⟨hlt, hu, hres, htr⟩
      cases hloc : s.loc w with
      | free => rfl
      | unalloc => exact absurd ((hl.locUn w).2 hloc) (Nat.not_le_of_lt hlt)
      | transit t => exact absurd ((hl.locTr t w).2 hloc) (htr t)
      | held t => have := (hl.inuseIff w).2 ⟨t, hloc⟩; rw [hu] at this; cases this
      | resIdle t =>
        have := (hl.res.ptwOK t w (hl.res.resIdle t w hloc)).1; rw [hres] at this; cases this
  · intro t u j j' h1 h2
    have a := (hm.thr t).csIff.1 ⟨j, h1⟩
    have b := (hm.thr u).csIff.1 ⟨j', h2⟩
    rw [a] at b; injection b
  · have hmu := hm.muVal
    constructor
    · intro h1
      cases hh : s.holder with
      | none => rw [hh] at hmu; simp at hmu; omega
      | some t => obtain ⟨j, hj⟩ := (hm.thr t).csIff.2 hh; exact ⟨t, j, hj⟩
    · intro ⟨t, j, hj⟩
      have := (hm.thr t).csIff.1 ⟨j, hj⟩
      rw [this] at hmu; simpa using hmu
  · intro e s' h hne
    obtain ⟨t, fn, obs, j, rfl, hpc⟩ := free_changes h hne
    have hh := (hm.thr t).csIff.1 ⟨j, hpc⟩
    refine ⟨t, fn, obs, j, rfl, hpc, hh, ?_⟩
    have := hm.muVal; rw [hh] at this; simpa using this

/-- At a quiescent moment (no thread inside a pool function) the list holds exactly the structs
    that are neither IN_USE nor RESERVED. -/
theorem Pool_free_list_quiescent {s : State} (hr : Reachable s) (hq : ∀ t, s.pc t = .idle) :
    ∀ w, w ∈ s.free ↔ (w < s.nalloc ∧ s.inuse w = false ∧ s.reserved w = false) := by
  intro w
  rw [(Pool_free_list_inv hr).2.1 w]
  constructor
  · intro ⟨a, b, c, _⟩; exact ⟨a, b, c⟩
  · intro ⟨a, b, c⟩; exact ⟨a, b, c, fun t => by rw [hq t]; simp [PC.transit]⟩

/-- The four contract fields as one record. -/
def fieldsOf (s : State) (w : Wid) : Nat × Nat × Nat × Option Wid :=
  (s.rc w, s.waiting w, s.nwflags w, s.sem w)

/-- **Pool_init.**  (1) every struct returned by `new` has completed the initialisation block
    exactly once, every contract field has been written by pool code exactly once (in that
    block), `nw.flags = MUCV`, `nw.sem = &w->sem`; (2) no pool step (`new`, `free`,
    `waiter_destroy`, any path) changes `remove_count`, `nw.waiting`, `nw.flags`, `nw.sem` — or
    the write counts — of an initialised struct: the only pool writes to those fields are in the
    initialisation block of a struct that no client has seen yet. -/
theorem Pool_init {s : State} (hr : Reachable s) :
    (∀ t w s', step s (.ret t w) = .ok s' →
      s.ready w = true ∧ s.inits w = 1 ∧ (∀ f, s.nwr w f = 1) ∧
      s.nwflags w = MUCV ∧ s.sem w = some w) ∧
    (∀ e s' w, step s e = .ok s' → e.isEnv = false → s.ready w = true →
      fieldsOf s' w = fieldsOf s w ∧ s'.inits w = s.inits w ∧ (∀ f, s'.nwr w f = s.nwr w f) ∧
      s'.ready w = true) := by
  have hi := reachable_inv hr
  constructor
  · intro t w s' h
    have hpre := ret_pre hi h
    have hrdy : s.ready w = true := by
      rw [hi.f.readyIff w]
      constructor
      · exact hi.l.lt_nalloc fun hu => by rw [hu] at hpre; rcases hpre with h1 | h1 <;> cases h1
      · intro u hu
        have hpcu : s.pc u = .newInit w := by
          unfold iniOf PC.initing at hu
          split at hu
          · injection hu with hu; subst hu; assumption
          · cases hu
        have hlu := (hi.l.locTr u w).1 (by rw [hpcu]; rfl)
        rcases hpre with h1 | h1 <;> rw [hlu] at h1
        · cases h1
        · injection h1 with h1; subst h1
          cases step_sound h with
          | retFast _ _ hq | retReserve _ _ hq | retPlain _ _ _ hq => rw [hq] at hpcu; cases hpcu
    obtain ⟨a, b, c, d⟩ := hi.f.fields w hrdy
    exact ⟨hrdy, c, d, a, b⟩
  · intro e s' w h he hw
    obtain ⟨a, b, c, d, e', f, g⟩ := fields_frame hi h he hw
    exact ⟨by simp [fieldsOf, a, b, c, d], e', f, g⟩

/-- **Pool_init, consequence used by C04.**  `remove_count` of an initialised struct is monotone
    along every run — across any number of reuses of the struct, by any threads — provided the
    client writes to it are non-decreasing (clients only CAS `n → n+1`, mu.c:21/cv.c). -/
theorem Pool_remove_count_monotone {s s' : State} {es : List Ev} {w : Wid} (hr : Reachable s)
    (hw : s.ready w = true) (h : run s es = .ok s')
    (hcl : ∀ obs new, Ev.env w .rc obs new ∈ es → obs ≤ new) :
    s'.ready w = true ∧ s.rc w ≤ s'.rc w :=
  rc_mono_run hr hw h hcl

/-- **Pool_reserved.**  (1) a thread's reserved struct is never on the free list, carries the
    RESERVED bit, and is either idle or held by that very thread; conversely a RESERVED struct is
    some thread's reserved struct, and that thread is unique; (2) whenever `new` returns to a
    thread whose reserved struct is not IN_USE, it returns that struct (the pool path is never
    entered — nor completed — while the reserved struct is idle); (3) the fast path only ever
    returns the caller's own reserved struct; (4) `waiter_destroy` puts the struct on the list
    exactly once: its release store pushes a struct that was not on the list, the list has no
    duplicates afterwards, and the thread has left the function. -/
theorem Pool_reserved {s : State} (hr : Reachable s) :
    (∀ t r, s.ptw t = some r →
      r ∉ s.free ∧ s.reserved r = true ∧ (s.loc r = .resIdle t ∨ s.loc r = .held t)) ∧
    (∀ w, s.reserved w = true → ∃ t, s.ptw t = some w ∧ ∀ u, s.ptw u = some w → u = t) ∧
    (∀ t r w s', s.ptw t = some r → s.inuse r = false → step s (.ret t w) = .ok s' → w = r) ∧
    (∀ t r site obs s', s.ptw t = some r → s.inuse r = false → s.pc t = .idle →
      step s (.ld t site obs) ≠ .ok s') ∧
    (∀ t w s', s.pc t = .idle → step s (.ret t w) = .ok s' → s.ptw t = some w) ∧
    (∀ t obs s', step s (.rel t .destroy obs) = .ok s' →
      ∃ w, s.pc t = .cs (.destroy w) ∧ w ∉ s.free ∧ s'.free = w :: s.free ∧ s'.free.Nodup ∧
           s'.pc t = .idle ∧ s'.reserved w = false) := by
  have hi := reachable_inv hr
  have hn := reachable_ninv hr
  refine ⟨?_, ?_, ?_, ?_, ?_, ?_⟩
  · intro t r hp
    obtain ⟨h1, h2⟩ := hi.l.res.ptwOK t r hp
    refine ⟨?_, h1, h2⟩
    intro hm
    have := (hi.l.locFree r).1 hm
    rcases h2 with h3 | h3 <;> rw [this] at h3 <;> cases h3
  · intro w hw
    obtain ⟨t, ht⟩ := hi.l.res.resOK w hw
    exact ⟨t, ht, fun u hu => hi.l.res.ptw_inj ht hu⟩
  · intro t r w s' hp hu h
    have hres := (hi.l.res.ptwOK t r hp).1
    cases step_sound h with
    | retFast _ _ _ hf => rw [fast_of hp hres hu] at hf; injection hf with hf; exact hf.symm
    | retReserve _ _ _ hnone => rw [hp] at hnone; cases hnone
    | retPlain _ _ _ hq =>
      rw [(hi.l.inuseIff r).2 ⟨t, hn t r (by rw [hq]; rfl) hp⟩] at hu; cases hu
  · intro t r site obs s' hp hu hq h
    cases step_sound h with | ld _ _ _ j _ hc => ?_
    have hres := (hi.l.res.ptwOK t r hp).1
    rcases hc with ⟨_, _, _, hf⟩ | ⟨h1, _⟩ | ⟨h1, _⟩
    · rw [fast_of hp hres hu] at hf; cases hf
    · rw [hq] at h1; cases h1
    · rw [hq] at h1; cases h1
  · intro t w s' hq h
    cases step_sound h with
    | retFast _ _ _ hf => exact (fast_some hf).1
    | retReserve _ _ h1 | retPlain _ _ _ h1 => rw [hq] at h1; cases h1
  · intro t obs s' h
    have hi' := reachable_inv (hr.step h)
    cases step_sound h with | relPush _ _ _ j w hpc hfn hj => ?_
    rcases hj with rfl | rfl
    · cases hfn
    · have hloc : s.loc w = .transit t := (hi.l.locTr t w).1 (by rw [hpc]; rfl)
      have hnm : w ∉ s.free := by
        intro hm; have := (hi.l.locFree w).1 hm; rw [hloc] at this; cases this
      exact ⟨w, hpc, hnm, rfl, hi'.l.nodup, upd_same .., hi.l.res.reserved_false (by simp [hloc])⟩

/-- **Pool_no_leak_partial** ("partial" only in that executions with a failed `malloc` are
    rejected, see the header).  Every allocated struct is, at any time, in exactly one place:
    on the free list, carried by exactly one thread inside a pool function, handed out to exactly
    one thread, or the idle reserved struct of exactly one thread.  The place is the value of the
    ghost function `s.loc w` (a function: hence "exactly one"), and each value is characterised
    by the concrete state, resp. by the trace. -/
theorem Pool_no_leak_partial {evs : List Ev} {s : State} (h : run init evs = .ok s) (w : Wid)
    (hw : w < s.nalloc) :
    s.loc w ≠ .unalloc ∧
    (s.loc w = .free ↔ w ∈ s.free) ∧
    (∀ t, s.loc w = .transit t ↔ (s.pc t).transit = some w) ∧
    (∀ t, s.loc w = .held t ↔ heldBy w none evs = some t) ∧
    (∀ t, s.loc w = .resIdle t ↔ (s.ptw t = some w ∧ s.inuse w = false)) := by
  have hr : Reachable s := ⟨evs, h⟩
  have hi := reachable_inv hr
  exact ⟨fun hu => absurd ((hi.l.locUn w).2 hu) (Nat.not_le_of_lt hw), (hi.l.locFree w).symm,
    fun t => (hi.l.locTr t w).symm, fun t => Pool_held_by_trace h w t, fun _ => hi.l.resIdle_iff⟩

/-- The same, spelled out without the ghost: the four kinds of place are exhaustive and pairwise
    exclusive, and the thread is unique within each kind. -/
theorem Pool_no_leak_exactly_one {evs : List Ev} {s : State} (h : run init evs = .ok s) (w : Wid)
    (hw : w < s.nalloc) :
    let onList := w ∈ s.free
    let carried := fun t => (s.pc t).transit = some w
    let out := fun t => heldBy w none evs = some t
    let idle := fun t => s.ptw t = some w ∧ s.inuse w = false
    (onList ∨ (∃ t, carried t) ∨ (∃ t, out t) ∨ (∃ t, idle t)) ∧
    (onList → (∀ t, ¬ carried t) ∧ (∀ t, ¬ out t) ∧ (∀ t, ¬ idle t)) ∧
    (∀ t, carried t → (∀ u, carried u → u = t) ∧ (∀ u, ¬ out u) ∧ (∀ u, ¬ idle u)) ∧
    (∀ t, out t → (∀ u, out u → u = t) ∧ (∀ u, ¬ idle u)) ∧
    (∀ t, idle t → ∀ u, idle u → u = t) := by
  obtain ⟨h0, h1, h2, h3, h4⟩ := Pool_no_leak_partial h w hw
  -- each kind of place is a value of the function `s.loc`
  simp only [← h1, ← h2, ← h3, ← h4]
  clear h1 h2 h3 h4
  revert h0
  cases s.loc w <;> simp

/-- `malloc` failure is not handled by common.c; the model rejects it. -/
theorem Pool_malloc_null_rejected (s : State) (t : Tid) : ∀ s', step s (.mallocNull t) ≠ .ok s' :=
  fun _ => step_mallocNull

/-! ### Non-vacuity: concrete accepted traces (checked by `decide`) -/

/-- `nsync_waiter_new_` by `t`, pool path, uncontended, list empty: allocates struct `w`. -/
def newAlloc (t : Tid) (w : Wid) : List Ev :=
  [.ld t 0 0, .cas t 0 1 0 true, .rel t .new 1, .malloc t w, .stRc t w 3452816845, .ret t w]

/-- `nsync_waiter_new_` by `t`, pool path, uncontended, pops struct `w`. -/
def newPop (t : Tid) (w : Wid) : List Ev :=
  [.ld t 0 0, .cas t 0 1 0 true, .rel t .new 1, .ret t w]

/-- the spin loop + release store of `nsync_waiter_free_` / `waiter_destroy`, uncontended. -/
def pushBy (t : Tid) (fn : Fn) : List Ev :=
  [.ld t 0 0, .cas t 0 1 0 true, .rel t fn 1]

/-- Summary of a final state, for the examples. -/
structure Summary where
  free : List Wid
  nalloc : Nat
  loc0 : Loc
  loc1 : Loc
  ptw0 : Option Wid
  ptw1 : Option Wid
  /-- (RESERVED, IN_USE) of w0 -/
  flags0 : Bool × Bool
  /-- (RESERVED, IN_USE) of w1 -/
  flags1 : Bool × Bool
  deriving DecidableEq, Repr

def summary (r : Except String State) : Option Summary :=
  match r with
  | .ok s => some ⟨s.free, s.nalloc, s.loc 0, s.loc 1, s.ptw 0, s.ptw 1,
                   (s.reserved 0, s.inuse 0), (s.reserved 1, s.inuse 1)⟩
  | .error _ => none

/-- Two threads alternating, with contention on the spinlock (t1 sees the word at 1, reloads,
    loses nothing), each reusing its reserved struct through the invisible fast path; clients
    bump `remove_count` of w0 in between: it survives the reuse. -/
def exAlternate : List Ev :=
  [.ld 0 0 0, .cas 0 0 1 0 true, .ld 1 0 1, .ld 1 2 1, .rel 0 .new 1, .ld 1 2 0,
   .malloc 0 0, .cas 1 0 1 0 true, .stRc 0 0 7, .rel 1 .new 1, .ret 0 0, .malloc 1 1,
   .stRc 1 1 7, .ret 1 1,
   .env 0 .waiting 0 1, .use 0 0, .env 0 .rc 0 1, .env 0 .waiting 1 0,
   .free 0 0, .free 1 1, .ret 0 0, .ret 1 1, .env 0 .rc 1 2, .free 1 1, .free 0 0]

example : summary (run init exAlternate) =
    some ⟨[], 2, .resIdle 0, .resIdle 1, some 0, some 1, (true, false), (true, false)⟩ := by
  decide +kernel

example : (match run init exAlternate with | .ok s => s.rc 0 | .error _ => 0) = 2 := by decide +kernel

/-- Nested second waiter: t0 holds its reserved w0 (inside a cv wait) and takes a second struct
    (nested `nsync_mu_lock` going slow): pool path, malloc w1; frees w1 to the list, then w0;
    t1's first call then pops w1 and reserves it. -/
def exNested : List Ev :=
  newAlloc 0 0 ++ newAlloc 0 1 ++ [.free 0 1] ++ pushBy 0 .free ++ [.free 0 0] ++ newPop 1 1

example : summary (run init exNested) =
    some ⟨[], 2, .resIdle 0, .held 1, some 0, some 1, (true, false), (true, true)⟩ := by
  decide +kernel

/-- While t0 holds both, both are IN_USE and w1 is not reserved. -/
example : summary (run init (newAlloc 0 0 ++ newAlloc 0 1)) =
    some ⟨[], 2, .held 0, .held 0, some 0, none, (true, true), (false, true)⟩ := by
  decide +kernel

/-- Thread exit: t0 gets w0, frees it, exits (`waiter_destroy` pushes w0, reservation dropped);
    t1's first call pops w0 and reserves it for itself. -/
def exExit : List Ev :=
  newAlloc 0 0 ++ [.free 0 0, .exit 0] ++ pushBy 0 .destroy ++ newPop 1 0

example : summary (run init (newAlloc 0 0 ++ [.free 0 0, .exit 0] ++ pushBy 0 .destroy)) =
    some ⟨[0], 1, .free, .unalloc, none, none, (false, false), (false, false)⟩ := by
  decide +kernel

example : summary (run init exExit) =
    some ⟨[], 1, .held 1, .unalloc, none, some 0, (true, true), (false, false)⟩ := by
  decide +kernel

/-- The hypotheses of `Pool_exclusive_trace` are satisfiable: w0 returned twice to t0 with the
    `free` in between (and the acceptor rejects the same trace without the `free`). -/
example : (run init (newAlloc 0 0 ++ .ret 0 0 :: ([] ++ [.ret 0 0]))).toOption.isSome = false := by
  decide +kernel

example : (run init ([.ld 0 0 0, .cas 0 0 1 0 true, .rel 0 .new 1, .malloc 0 0, .stRc 0 0 7] ++
    .ret 0 0 :: ([.free 0 0] ++ [.ret 0 0]))).toOption.isSome = true := by
  decide +kernel

/-- Rejections: taking the pool path while the reserved struct is idle; freeing a struct one does
    not hold; a failed `malloc`; a second thread entering the critical section. -/
example : (run init (newAlloc 0 0 ++ [.free 0 0, .ld 0 0 0])).toOption.isSome = false := by decide +kernel
example : (run init (newAlloc 0 0 ++ [.free 1 0])).toOption.isSome = false := by decide +kernel
example : (run init [.ld 0 0 0, .cas 0 0 1 0 true, .rel 0 .new 1, .mallocNull 0]).toOption.isSome
    = false := by decide +kernel
example : (run init [.ld 0 0 0, .ld 1 0 0, .cas 0 0 1 0 true, .cas 1 0 1 0 true]).toOption.isSome
    = false := by decide +kernel

end Pool
