/-
Arithmetic half of property C15 (deadline classification): how the library's test
`nsync_time_cmp (deadline, nsync_time_zero) <= 0` / comparison with `nsync_time_no_deadline`
classifies normalized deadlines.  All proved in full.
-/
import NsyncVerif.Model.Time
import NsyncVerif.Proofs.Time

namespace NsyncVerif
namespace Time

/-- `cmp d zero <= 0` holds exactly for the non-positive durations. -/
theorem C15_cmp_zero_classifies {d : Time} (hd : Norm d) : cmp d zero ≤ 0 ↔ toNs d ≤ 0 :=
  cmp_le_iff_toNs hd (by decide)

/-- Any normalized deadline before the epoch compares as strictly expired. -/
theorem C15_neg_sec_is_past {d : Time} (_hd : Norm d) (hneg : d.sec < 0) : cmp d zero < 0 :=
  (cmp_lt_iff d zero).2 (.inl hneg)

/-- `nsync_time_no_deadline` is the maximum of all normalized representable times. -/
theorem C15_noDeadline_max {d : Time} (hd : Norm d) (hr : InRange64 d.sec) :
    cmp d noDeadline ≤ 0 :=
  cmp_noDeadline_le hd hr

/-- Equality with `no_deadline` (how the library recognises "wait forever") is exact. -/
theorem C15_noDeadline_eq_iff (d : Time) : cmp d noDeadline = 0 ↔ d = noDeadline :=
  cmp_eq_zero_iff d noDeadline

-- non-vacuity
example : cmp ⟨-1, 999999999⟩ zero < 0 := C15_neg_sec_is_past (by decide) (by decide)
example : cmp ⟨0, 0⟩ zero ≤ 0 ∧ ¬ cmp ⟨0, 1⟩ zero ≤ 0 := by decide
example : cmp ⟨9223372036854775807, 999999998⟩ noDeadline = -1 := by decide

end Time
end NsyncVerif
