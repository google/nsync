import NsyncVerif.Props.C06
import NsyncVerif.Proofs.MuCFairMain
import NsyncVerif.Proofs.MuCFairWit
import NsyncVerif.Proofs.MuCFairLasso
/-!
# C06 / C02, liveness for ALL fair schedules on a mutex with conditional critical sections —
# "nsync_mu_wait returns once its condition has been made true; every lock / unlock call returns"

Model `NsyncVerif.Model.MuC`.  Pattern: `Props/C02Progress.lean` + `Props/C02Fair.lean` (model MuQ).
Definitions: `Proofs/MuCFairDefs.lean`.  Any number of threads, both semaphore flavours.

## STATUS: PARTIAL.  `C06_fair_termination_full` is STATED at full strength and NOT PROVED.

What is missing, exactly: `C06_fair_finite_steps_full` (Proofs/MuCFairMain.lean) — in an execution that satisfies the
hypotheses only finitely many steps of the library happen (a pure termination statement about the loops of mu.c /
mu_wait.c: spinlock acquisition, CAS retries, the wait loops, the scan of unlock_slow; the analogue of steps A–F of
Props/C02Fair.lean; what exists of it for MuC — `stage`, the points of no return, the exits from the spinlock regions —
is in Props/C06FairFull.lean).  Everything from there to the theorem IS proved:

    C06_fair_finite_steps_full  ⟹  C06_fair_quiescence_or_sleepers_full  ⟹  C06_fair_termination_full
        (`C06_fair_settled_of_finite_steps`)            (`C06_fair_termination_of_settled`)

## The statement (`C06_fair_termination_full`)

For every infinite execution `x : Exec cfg s0` (`σ i = none`: nobody moves at time `i`) with `FairHyps x`:
* `Reachable cfg s0`;
* `WeakFair`       a thread that from some time on is inside a call and not asleep (`AsleepOnSem`: in the P of
                   lock_slow with count 0, or in a timed P of nsync_mu_wait with count 0 whose deadline — if any —
                   the clock has not reached) takes a step OF THE LIBRARY: client data reads (`dataR`, which the
                   acceptor accepts from any thread at any time) do not count;
* `HoldersRelease` every thread that holds the mutex makes a call (after the last arrival: a release);
* `FiniteArrivals` finitely many lock / rlock / trylock / rtrylock / nsync_mu_wait calls;
* `FiniteRcFails`  finitely many failed CASes on a `remove_count` (both sites: unlock_slow, mu_try_acquire_after_timeout);
* `ContractKept`   `WithoutWakeupContract` in every state;
* `ClockAdvances`  the clock passes every finite deadline a sleeper waits for;
and the two hypotheses the MODEL needs on top of those asked for (each shown necessary below):
* `FiniteEnvPosts` finitely many semaphore posts from outside the mutex (`envV`): a timed P whose deadline has passed may
                   still return 0 when the count is non-zero, so a waiter posted again and again never takes its timeout;
* `NoteHonoured`   nsync_sem_wait_with_cancel_ is not inside a P once it has seen its note notified, and does not look at
                   the note again after that (the traffic on the note is abstract in the model; the acceptor accepts both);
every thread `t` inside a call at time `i` returns (`∃ j ≥ i, pc t = idle`) provided `MustReturn x t i`: unconditionally for
lock / rlock / trylock / rtrylock / unlock / runlock / unlock_without_wakeup (`PC.mw = none`); for
nsync_mu_wait_with_deadline with locals `c` if `c.dl ≠ none` (finite deadline), or at some time `≥ i` the call has seen its
cancel note notified (`MW.saw`, set by `noteSeen` / `noteNotify` — the model has no other notion of "the note is notified"),
or its condition, if any, is true on the protected data from some time on (`∀ cd, c.cond = some cd → ∃ n, ∀ j ≥ n,
evalCond (x.ρ j).data cd = true`).

## Machine-checked here

THE REDUCTION (the proof of the theorem, from the two open statements)
* `C06_fair_termination_of_settled`   `C06_fair_quiescence_or_sleepers_full → C06_fair_termination_full`
* `C06_fair_termination_partial`      the same for ONE execution: if it settles (`SettledFrom x n`: from time `n` on every
  thread is idle holding nothing or asleep, i.e. `Quiescent`), the conclusion of the theorem holds for it.  Uses only
  `Reachable`, `ContractKept`, `NoteHonoured`.  Proof: `C06_no_stuck_state` in the settled states (the only sleepers are
  nsync_mu_wait waiters in a P WITHOUT deadline, queued, whose condition is false on the data), and three invariants:
  - `keep_step` (Proofs/MuCFairStep.lean): condition, deadline and note of the nsync_mu_wait call in progress never change,
    `saw` is never reset, a thread inside another call never gets inside nsync_mu_wait without returning;
  - `reachable_okD`: the deadline of a timed P is not later than the deadline of the call (so a P without deadline means a
    call without deadline);
  - `reachable_pd_cond` / `InvRC` (Proofs/MuCFairKeep.lean, MuCFairStep.lean): from the store `waiting := 1` of mu_wait.c:210 until the
    thread re-contends, the condition stored in its waiter record IS the condition of the call.
* `C06_fair_settled_of_finite_steps`  `C06_fair_finite_steps_full → C06_fair_quiescence_or_sleepers_full`: an execution in
  which no thread takes a library step any more has settled (here `WeakFair`, `HoldersRelease`, `ClockAdvances`,
  `FiniteEnvPosts` are used: nobody can be awake inside a call, idle holding the mutex, or in a P with a finite deadline).
* `C06_fair_termination_of_finite_steps`  the composition.

WEAK FAIRNESS ALONE (no other hypothesis; Proofs/MuCFairRegions.lean, `fair_reach_pc`: a thread that is awake in a region
of program points in which each of its own steps reaches the goal or lowers a rank reaches the goal)
* `C06_fair_trylock_returns`        nsync_mu_trylock / nsync_mu_rtrylock are wait-free: the call returns.
* `C06_fair_return_point`           a thread at the return point of any call returns.
* `C06_fair_wakes_delivered`        after the final CAS of unlock_slow the thread clears `waiting` of and posts every
                                    waiter on its wake list and comes back to its caller.
* `C06_fair_past_release_returns`   hence a thread inside unlock / runlock / unlock_without_wakeup past that CAS returns.
* `C06_fair_wait_null_returns`      nsync_mu_wait_with_deadline with a NULL condition returns at once.

NON-VACUITY  `nwExec` = the harness trace `traceNoWakeup` (Props/C06.lean) followed by idling: `nw_hyps : FairHyps nwExec`;
thread 0 calls nsync_mu_wait (x0 == 1) at time 3, really sleeps (count 0, condition false, queued) at time 14, its
condition is made true at time 49 (`nw_must : MustReturn nwExec 0 5`), and it returns at time 73.

EACH HYPOTHESIS IS NEEDED (explicit executions; in each ALL the other hypotheses hold, the proviso `MustReturn` holds for
the call shown, and the call never returns)
* `C06_fair_needs_proviso`    `falseExec`: a waiter without deadline and note whose condition stays false sleeps for ever
                              (here `MustReturn` fails, everything else holds): the proviso cannot be dropped.
* `C06_fair_needs_release`    `heldExec`: a holder that never calls again, a thread asleep inside nsync_mu_lock.
* `C06_fair_needs_clock`      `clockExec`: nsync_mu_wait_with_deadline, deadline 5, the clock stays at 0.
* `C06_fair_needs_note`       `noteExec`: the note is seen notified, then a P without deadline is started (1st clause).
* `C06_fair_needs_note2`      `spinExec` (lasso): `noteSeen` for ever (2nd clause; the 1st holds).
* `C06_fair_needs_rc`         `rcExec` (lasso): the unlocker's CAS on `remove_count` fails and it re-loads, for ever.
* `C06_fair_needs_env_posts`  `envExec` (lasso): deadline passed (`ClockAdvances` holds), but the environment posts the
                              semaphore before every P and the P returns 0 each time.
* `C06_fair_needs_arrivals`   `bargeExec` (lasso of period 8, as in Props/C02Fair.lean): lock/unlock pairs on the fast paths
                              between a contender's load and its enqueue CAS.
(`WeakFair` is trivially needed.  `ContractKept` is the hypothesis of `C06_no_stuck_state`; see `traceNwViol`, Props/C06.lean.)

## Findings / remarks

* The statement as asked for is FALSE in this model without `FiniteEnvPosts` and `NoteHonoured` (witnesses above); both are
  looseness of the acceptor (a semaphore that prefers the count to the deadline; the abstract note), not defects of the code.
* `dataR` events are accepted from threads inside a call; a fairness notion that counted them as the thread's step would be
  vacuous.  `WeakFair` asks for a library step.
* NOT proved for MuC: the analogue of `C02_thread_enabled` (the acceptor blocks a thread ONLY in `AsleepOnSem`); it would
  need panic-freedom of the scan (`scanRun`) and a supply of free waiter records.  Without it `WeakFair` is a hypothesis on
  the execution like the others (an execution in which an awake thread has no accepted library step is simply not fair).
* mu_try_acquire_after_timeout_or_cancel spins while MU_LONG_WAIT is set (MU_WZERO_TO_ACQUIRE), and only the thread that
  set the bit clears it.  In nsync's code before the repair of defect F9 a timed-out waiter that was woken (designated) while
  it spun, with the long waiter queued behind it, deadlocked the mutex: `traceDead`, Props/C06FairFull.lean.  The model follows
  the repaired code (a woken spinner no longer waits for the bit); the invariants proved so far do not exclude the dead state
  for it (`RespT` counts a spinning timed-out waiter as responsible): `C06_long_wait_progress_full`, Props/C06FairFull.lean.
-/
namespace NsyncVerif.MuC

/-- The reduction, as a statement about the two `_full` statements. -/
theorem C06_fair_termination_of_settled : C06_fair_quiescence_or_sleepers_full → C06_fair_termination_full := by
  intro hq cfg s0 x hy t i hm
  obtain ⟨n, hs⟩ := hq cfg s0 x hy
  exact fair_termination_of_settled x hy.reach hy.contract hy.note hs t i hm

/-- PROVED PART of `C06_fair_termination_full`: for executions that settle. -/
theorem C06_fair_termination_partial {cfg : Cfg} {s0 : State} (x : Exec cfg s0) (hr : Reachable cfg s0)
    (hc : ContractKept x) (hn : NoteHonoured x) (hs : ∃ n, SettledFrom x n) :
    ∀ t i, MustReturn x t i → ∃ j, i ≤ j ∧ (x.ρ j).pc t = .idle := by
  intro t i hm
  obtain ⟨n, hs⟩ := hs
  exact fair_termination_of_settled x hr hc hn hs t i hm

/-- An execution in which only finitely many library steps happen settles. -/
theorem C06_fair_settled_of_finite_steps : C06_fair_finite_steps_full → C06_fair_quiescence_or_sleepers_full := by
  intro hfin cfg s0 x hy
  obtain ⟨N, hN⟩ := hfin cfg s0 x hy
  exact settled_of_no_steps x hy hN

theorem C06_fair_termination_of_finite_steps : C06_fair_finite_steps_full → C06_fair_termination_full :=
  fun h => C06_fair_termination_of_settled (C06_fair_settled_of_finite_steps h)

/-! ## weak fairness alone -/

/-- nsync_mu_trylock / nsync_mu_rtrylock are wait-free. -/
theorem C06_fair_trylock_returns {cfg : Cfg} {s0 : State} (x : Exec cfg s0) (hf : WeakFair x) (t : Tid) (i : Nat)
    (h : tryPc ((x.ρ i).pc t)) : ∃ j, i ≤ j ∧ (x.ρ j).pc t = .idle :=
  fair_trylock x hf t i h

/-- A thread at the return point of a call returns. -/
theorem C06_fair_return_point {cfg : Cfg} {s0 : State} (x : Exec cfg s0) (hf : WeakFair x) (t : Tid) (i : Nat)
    (h : retPc ((x.ρ i).pc t)) : ∃ j, i ≤ j ∧ (x.ρ j).pc t = .idle :=
  fair_ret x hf t i h

/-- After the final CAS of unlock_slow every waiter on the wake list is released and posted, and the thread comes back to
    its caller (`r.pc`: the return point of unlock / runlock / unlock_without_wakeup, or the wait loop of nsync_mu_wait). -/
theorem C06_fair_wakes_delivered {cfg : Cfg} {s0 : State} (x : Exec cfg s0) (hf : WeakFair x) (t : Tid) (r : Ret) (i : Nat)
    (h : wakePc r ((x.ρ i).pc t)) : ∃ j, i ≤ j ∧ (x.ρ j).pc t = r.pc :=
  fair_wakes x hf t r i h

theorem C06_fair_past_release_returns {cfg : Cfg} {s0 : State} (x : Exec cfg s0) (hf : WeakFair x) (t : Tid) (l : Mode)
    (nw : Bool) (i : Nat) (h : wakePc (.ul l nw) ((x.ρ i).pc t)) : ∃ j, i ≤ j ∧ (x.ρ j).pc t = .idle :=
  fair_past_release x hf t l nw i h

/-- nsync_mu_wait_with_deadline with a NULL condition returns at once. -/
theorem C06_fair_wait_null_returns {cfg : Cfg} {s0 : State} (x : Exec cfg s0) (hf : WeakFair x) (t : Tid) (c : MW) (i : Nat)
    (h : (x.ρ i).pc t = .mwLd0 c) (hc : c.cond = none) : ∃ j, i ≤ j ∧ (x.ρ j).pc t = .idle :=
  fair_wait_null x hf t c i h hc

/-! ## non-vacuity -/

def cd0 : Cond := { fn := .eq, k := 0, var := 0, val := 1, hasEq := false }

set_option maxRecDepth 4096 in
theorem nw_accepts : acceptsF ⟨false⟩ traceNoWakeup = true := by decide

def nwFinal : State := stateAt ⟨false⟩ traceNoWakeup traceNoWakeup.length

theorem nw_run : run ⟨false⟩ init traceNoWakeup = .ok nwFinal := run_of_accepts nw_accepts

/-- `traceNoWakeup` (Props/C06.lean), then nothing for ever. -/
def nwExec : Exec ⟨false⟩ init := traceExec ⟨false⟩ traceNoWakeup nwFinal nw_run

set_option maxRecDepth 4096 in
/-- `nwExec` satisfies every hypothesis of `C06_fair_termination_full` … -/
theorem nw_hyps : FairHyps nwExec :=
  trace_fairHyps nw_run (T := 2) (by decide) (by decide) (by decide) (by decide) (by decide) (by decide)

set_option maxRecDepth 4096 in
/-- … thread 0 calls nsync_mu_wait (x0 == 1, no deadline, no note) at time 3 and at time 14 really sleeps on its
    semaphore (count 0) with a false condition, queued; the condition is made true at time 49 … -/
example : nwExec.σ 3 = some (.call 0 (.wait (some cd0) none false)) ∧ asleepSemB (nwExec.ρ 14) 0 = true ∧
    (nwExec.ρ 14).queue = [0] ∧ evalCond (nwExec.ρ 14).data cd0 = false ∧ nwExec.σ 49 = some (.dataW 1 0 1) := by
  decide

set_option maxRecDepth 4096 in
/-- … so the proviso of the theorem holds for that call … -/
theorem nw_must : MustReturn nwExec 0 5 := by
  intro c hc
  right; right
  intro cd hcd
  have h5 : ((nwExec.ρ 5).pc 0).mw.map (·.cond) = some (some cd0) := by decide
  rw [hc] at h5
  simp only [Option.map_some, Option.some.injEq] at h5
  have e : cd = cd0 := by rw [hcd] at h5; exact Option.some.inj h5
  subst e
  exact ⟨50, fun j hj => allStates_from nw_run (f := fun s => evalCond s.data cd0) 50 (by decide) j hj⟩

set_option maxRecDepth 4096 in
/-- … and in the trace the call returns (time 73), as the theorem says it must. -/
example : (nwExec.ρ 74).pc 0 = .idle ∧
    nwExec.σ 73 = some (.ret 0 (.wait (some cd0) none false) (.outc .ok)) := by decide

/-! ## the proviso of `MustReturn` is needed: a waiter whose condition stays false sleeps for ever -/

def traceFalse : List Event := traceNoWakeup.take 44

set_option maxRecDepth 4096 in
theorem false_accepts : acceptsF ⟨false⟩ traceFalse = true := by decide

def falseFinal : State := stateAt ⟨false⟩ traceFalse traceFalse.length

theorem false_run : run ⟨false⟩ init traceFalse = .ok falseFinal := run_of_accepts false_accepts

def falseExec : Exec ⟨false⟩ init := traceExec ⟨false⟩ traceFalse falseFinal false_run

def sawB (s : State) (t : Tid) : Bool :=
  match (s.pc t).mw with
  | some c => !c.saw
  | none => true

set_option maxRecDepth 4096 in
/-- All hypotheses hold; thread 0 is inside nsync_mu_wait (no deadline, no note, condition false for ever: the two
    write sections that follow end with nsync_mu_unlock_without_wakeup and leave it false) and never returns. -/
theorem C06_fair_needs_proviso :
    FairHyps falseExec ∧ ¬ MustReturn falseExec 0 14 ∧ ∀ j, 14 ≤ j → (falseExec.ρ j).pc 0 ≠ .idle := by
  have hy : FairHyps falseExec :=
    trace_fairHyps false_run (T := 2) (by decide) (by decide) (by decide) (by decide) (by decide) (by decide)
  refine ⟨hy, ?_, ?_⟩
  · intro hm
    have hmw : ((falseExec.ρ 14).pc 0).mw.isSome = true := by decide
    obtain ⟨c, hc⟩ := Option.isSome_iff_exists.mp hmw
    have hdl : ((falseExec.ρ 14).pc 0).mw.map (·.dl) = some none := by decide
    have hcd : ((falseExec.ρ 14).pc 0).mw.map (·.cond) = some (some cd0) := by decide
    rw [hc] at hdl hcd
    simp only [Option.map_some, Option.some.injEq] at hdl hcd
    rcases hm c hc with h | ⟨j, c', _, hmw', hsaw⟩ | h
    · exact h hdl
    · have := trace_all false_run (T := 2) (by decide) sawB (fun s t h => by simp [sawB, h, PC.mw]) (by decide) j 0
      have hmw'' : ((stateAt ⟨false⟩ traceFalse j).pc 0).mw = some c' := hmw'
      simp [sawB, hmw'', hsaw] at this
    · obtain ⟨n, hn⟩ := h cd0 hcd
      have := hn (max n traceFalse.length) (by omega)
      have e : falseExec.ρ (max n traceFalse.length) = falseFinal :=
        (traceExec_tail false_run (show traceFalse.length ≤ max n traceFalse.length by omega)).1
      rw [e] at this
      have hf : evalCond falseFinal.data cd0 = false := by decide
      rw [hf] at this; cases this
  · exact never_idle_from false_run 0 14 (by decide)

/-! ## `HoldersRelease` is needed

Thread 1 acquires and never calls again; thread 0 calls nsync_mu_lock, queues itself and sleeps; then nothing happens
for ever.  (The first 14 events of `traceLongWait` without thread 1's call of nsync_mu_unlock.) -/

def traceHeld : List Event := traceLongWait.take 3 ++ (traceLongWait.drop 4).take 10

set_option maxRecDepth 4096 in
theorem held_accepts : acceptsF ⟨false⟩ traceHeld = true := by decide

def heldFinal : State := stateAt ⟨false⟩ traceHeld traceHeld.length

theorem held_run : run ⟨false⟩ init traceHeld = .ok heldFinal := run_of_accepts held_accepts

def heldExec : Exec ⟨false⟩ init := traceExec ⟨false⟩ traceHeld heldFinal held_run

def isCall1 : Event → Bool
  | .call 1 _ => true
  | _ => false

set_option maxRecDepth 4096 in
theorem C06_fair_needs_release :
    WeakFair heldExec ∧ FiniteArrivals heldExec ∧ FiniteRcFails heldExec ∧ FiniteEnvPosts heldExec ∧ NoteHonoured heldExec ∧
      ContractKept heldExec ∧ ClockAdvances heldExec ∧ ¬ HoldersRelease heldExec ∧
      MustReturn heldExec 0 4 ∧ (heldExec.ρ 4).pc 0 ≠ .idle ∧ ∀ j, 4 ≤ j → (heldExec.ρ j).pc 0 ≠ .idle := by
  have hT : tidsBelow 2 traceHeld = true := by decide
  obtain ⟨a, b, c, d⟩ := trace_fair4 held_run hT (by decide)
  have hnever : ∀ j, 4 ≤ j → (heldExec.ρ j).pc 0 ≠ .idle := never_idle_from held_run 0 4 (by decide)
  refine ⟨a, b, c, d, trace_note held_run hT (by decide) (by decide), trace_contract held_run (by decide),
    trace_clock held_run hT (by decide), ?_, ?_, hnever 4 (Nat.le_refl _), hnever⟩
  · intro hh
    have hheld : (heldExec.ρ 3).held 1 ≠ none := by decide
    obtain ⟨j, ap, hj, hσ⟩ := hh 1 3 hheld
    have hσ' : traceHeld[j]? = some (.call 1 ap) := hσ
    have hall : (traceHeld.drop 3).all (fun e => !isCall1 e) = true := by decide
    have hmem : Event.call 1 ap ∈ traceHeld.drop 3 := by
      have : (traceHeld.drop 3)[j - 3]? = some (.call 1 ap) := by
        rw [List.getElem?_drop, show 3 + (j - 3) = j by omega]; exact hσ'
      exact List.mem_of_getElem? this
    have := (List.all_eq_true.mp hall) _ hmem
    simp [isCall1] at this
  · intro c hc
    have : ((heldExec.ρ 4).pc 0).mw = none := by decide
    rw [this] at hc; cases hc

/-! ## `ClockAdvances` is needed

Thread 0 calls nsync_mu_wait_with_deadline (x0 == 1, deadline 5) at clock 0, finds the condition false, queues itself,
releases and sleeps in its timed P; the clock never moves. -/

def traceClock : List Event := [
 .call 0 .lock,
 .cas 0 .acq .word 0 1 0 true,
 .ret 0 .lock .void,
 .call 0 (.wait (some cd0) (some 5) false),
 .ld 0 .rlx .word 1,
 .cond 0 .eq 0 false,
 .st 0 .rlx (.waiting 0) 1 0,
 .ld 0 .rlx (.rc 0) 0,
 .ld 0 .rlx .word 1,
 .cas 0 .acq .word 1 23 1 true,
 .ld 0 .rlx .word 23,
 .cas 0 .rel .word 23 20 23 true,
 .ld 0 .acq (.waiting 0) 1,
 .semPdEnter 0 0 (some 5) ]

theorem clock_accepts : acceptsF ⟨false⟩ traceClock = true := by decide

def clockFinal : State := stateAt ⟨false⟩ traceClock traceClock.length

theorem clock_run : run ⟨false⟩ init traceClock = .ok clockFinal := run_of_accepts clock_accepts

def clockExec : Exec ⟨false⟩ init := traceExec ⟨false⟩ traceClock clockFinal clock_run

def mwClock : MW :=
  { hm := .W, l := .W, cond := some cd0, dl := some 5, note := false, first := false, w := some 0, rcl := 0,
    hadW := false, so := .ok, hl := false, outc := .ok, saw := false }

theorem C06_fair_needs_clock :
    WeakFair clockExec ∧ HoldersRelease clockExec ∧ FiniteArrivals clockExec ∧ FiniteRcFails clockExec ∧
      FiniteEnvPosts clockExec ∧ NoteHonoured clockExec ∧ ContractKept clockExec ∧ ¬ ClockAdvances clockExec ∧
      MustReturn clockExec 0 4 ∧ (clockExec.ρ 4).pc 0 ≠ .idle ∧ ∀ j, 4 ≤ j → (clockExec.ρ j).pc 0 ≠ .idle := by
  have hT : tidsBelow 1 traceClock = true := by decide
  obtain ⟨a, b, c, d, e⟩ := trace_fair5 clock_run hT (by decide)
  have hnever : ∀ j, 4 ≤ j → (clockExec.ρ j).pc 0 ≠ .idle := never_idle_from clock_run 0 4 (by decide)
  refine ⟨a, b, c, d, e, trace_note clock_run hT (by decide) (by decide), trace_contract clock_run (by decide), ?_, ?_,
    hnever 4 (Nat.le_refl _), hnever⟩
  · intro hk
    have hpc : (clockExec.ρ 14).pc 0 = .mwPdRet mwClock (some 5) := by decide
    obtain ⟨j, hj, h⟩ := hk 0 14 mwClock 5 hpc
    have e : clockExec.ρ j = clockFinal := (traceExec_tail clock_run (show traceClock.length ≤ j from hj)).1
    rw [e] at h
    have h1 : clockFinal.now = 0 := by decide
    have h2 : clockFinal.pc 0 = .mwPdRet mwClock (some 5) := by decide
    rcases h with h | h
    · rw [h1] at h; omega
    · exact h h2
  · intro c hc
    have h4 : ((clockExec.ρ 4).pc 0).mw.map (·.dl) = some (some 5) := by decide
    rw [hc] at h4
    simp only [Option.map_some, Option.some.injEq] at h4
    left; rw [h4]; simp

/-! ## `NoteHonoured` is needed in this model

Thread 0 calls nsync_mu_wait_with_deadline with a cancel note and no deadline; inside nsync_sem_wait_with_cancel_ it
sees the note notified (`noteSeen`) — and then starts a P without deadline all the same, which the acceptor accepts
(the library returns ECANCELED instead). -/

def traceNote : List Event := [
 .call 0 .lock,
 .cas 0 .acq .word 0 1 0 true,
 .ret 0 .lock .void,
 .call 0 (.wait (some cd0) none true),
 .ld 0 .rlx .word 1,
 .cond 0 .eq 0 false,
 .st 0 .rlx (.waiting 0) 1 0,
 .ld 0 .rlx (.rc 0) 0,
 .ld 0 .rlx .word 1,
 .cas 0 .acq .word 1 23 1 true,
 .ld 0 .rlx .word 23,
 .cas 0 .rel .word 23 20 23 true,
 .ld 0 .acq (.waiting 0) 1,
 .noteSeen 0,
 .semPdEnter 0 0 none ]

theorem note_accepts : acceptsF ⟨false⟩ traceNote = true := by decide

def noteFinal : State := stateAt ⟨false⟩ traceNote traceNote.length

theorem note_run : run ⟨false⟩ init traceNote = .ok noteFinal := run_of_accepts note_accepts

def noteExec : Exec ⟨false⟩ init := traceExec ⟨false⟩ traceNote noteFinal note_run

def mwNote : MW :=
  { hm := .W, l := .W, cond := some cd0, dl := none, note := true, first := false, w := some 0, rcl := 0,
    hadW := false, so := .ok, hl := false, outc := .ok, saw := true }

theorem C06_fair_needs_note :
    WeakFair noteExec ∧ HoldersRelease noteExec ∧ FiniteArrivals noteExec ∧ FiniteRcFails noteExec ∧
      FiniteEnvPosts noteExec ∧ ContractKept noteExec ∧ ClockAdvances noteExec ∧ ¬ NoteHonoured noteExec ∧
      MustReturn noteExec 0 4 ∧ (noteExec.ρ 4).pc 0 ≠ .idle ∧ ∀ j, 4 ≤ j → (noteExec.ρ j).pc 0 ≠ .idle := by
  have hT : tidsBelow 1 traceNote = true := by decide
  obtain ⟨a, b, c, d, e⟩ := trace_fair5 note_run hT (by decide)
  have hnever : ∀ j, 4 ≤ j → (noteExec.ρ j).pc 0 ≠ .idle := never_idle_from note_run 0 4 (by decide)
  have hpc : (noteExec.ρ 15).pc 0 = .mwPdRet mwNote none := by decide
  refine ⟨a, b, c, d, e, trace_contract note_run (by decide), trace_clock note_run hT (by decide), ?_, ?_,
    hnever 4 (Nat.le_refl _), hnever⟩
  · intro hn
    have := hn.1 15 0 mwNote none hpc
    cases this
  · intro c _
    right; left
    exact ⟨15, mwNote, by omega, by rw [hpc]; rfl, rfl⟩

/-! ## … and so is its second clause: the acceptor accepts `noteSeen` again and again -/

def traceSpin : List Event := traceNote.take 14

theorem spin_accepts : acceptsF ⟨false⟩ traceSpin = true := by decide

def spinA : State := stateAt ⟨false⟩ traceSpin traceSpin.length

theorem spin_run : run ⟨false⟩ init traceSpin = .ok spinA := run_of_accepts spin_accepts

def spinLoop : List Event := [.noteSeen 0]

theorem spin_loop : run ⟨false⟩ spinA spinLoop = .ok spinA := by
  have hpc : spinA.pc 0 = .mwSem mwNote := by decide
  have h1 : step ⟨false⟩ spinA (.noteSeen 0) = .ok spinA := by
    simp only [step, hpc]
    have : ({ mwNote with saw := true } : MW) = mwNote := rfl
    rw [this]
    have hn : mwNote.note = true := rfl
    simp only [hn, if_true]
    congr 1
    rw [← hpc]
    cases hs : spinA
    simp [setPc, setFn_self]
  simp [spinLoop, run, h1]

def spinExec : Exec ⟨false⟩ init := lassoExec ⟨false⟩ traceSpin spinLoop spinA spin_run spin_loop (by decide)

/-- Everything but `NoteHonoured` holds (its first clause too); the call has seen its note notified (the proviso holds),
    and it never returns: it looks at the note for ever. -/
theorem C06_fair_needs_note2 :
    WeakFair spinExec ∧ HoldersRelease spinExec ∧ FiniteArrivals spinExec ∧ FiniteRcFails spinExec ∧
      FiniteEnvPosts spinExec ∧ ContractKept spinExec ∧ ClockAdvances spinExec ∧ ¬ NoteHonoured spinExec ∧
      (∀ j t c dl, (spinExec.ρ j).pc t = .mwPdRet c dl → c.saw = false) ∧
      MustReturn spinExec 0 4 ∧ (spinExec.ρ 4).pc 0 ≠ .idle ∧ ∀ j, 4 ≤ j → (spinExec.ρ j).pc 0 ≠ .idle := by
  have hT : tidsBelow 1 traceSpin = true := by decide
  have hT2 : tidsBelow 1 spinLoop = true := by decide
  have hp : 0 < spinLoop.length := by decide
  have hnever : ∀ j, 4 ≤ j → (spinExec.ρ j).pc 0 ≠ .idle := by
    intro j hj
    have := lasso_from spin_run spin_loop hp (fun s => !decide (s.pc 0 = .idle)) 4 (by decide) (by decide) j hj
    show ((lassoExec ⟨false⟩ traceSpin spinLoop spinA spin_run spin_loop hp).ρ j).pc 0 ≠ .idle
    simpa using this
  have hpc : (spinExec.ρ 14).pc 0 = .mwSem mwNote := by decide
  refine ⟨lasso_weakFair spin_run spin_loop hp hT hT2 0 (r0 := 0) rfl rfl rfl (by decide),
    lasso_release spin_run spin_loop hp hT hT2 (by decide),
    lasso_finite spin_run spin_loop hp Event.isArrival (by decide),
    lasso_finite spin_run spin_loop hp Event.rcFail (by decide),
    lasso_finite spin_run spin_loop hp Event.isEnvV (by decide),
    lasso_contract spin_run spin_loop hp (by decide) (by decide),
    lasso_clock spin_run spin_loop hp hT hT2 (by decide) (by decide), ?_, ?_, ?_, hnever 4 (Nat.le_refl _), hnever⟩
  · intro hn
    have hσ : spinExec.σ 14 = some (.noteSeen 0) := by decide
    exact hn.2 14 0 mwNote hpc rfl hσ
  · intro j t c dl hpc'
    have := lasso_all_thr spin_run spin_loop hp hT hT2 noteB (fun s t a _ => noteB_idle s t a) (by decide) (by decide) j t
    have hpc'' : ((lassoExec ⟨false⟩ traceSpin spinLoop spinA spin_run spin_loop hp).ρ j).pc t = .mwPdRet c dl := hpc'
    simpa [noteB, hpc''] using this
  · intro c _
    right; left
    exact ⟨14, mwNote, by omega, by rw [hpc]; rfl, rfl⟩


/-! ## `FiniteRcFails` is needed in this model

`traceNoWakeup` up to the point where thread 1, inside unlock_slow with the condition of thread 0's record found
true, has loaded `remove_count` of w0 (time 59; thread 0 asleep, count 0); then its CAS on `remove_count` fails and it
re-loads, for ever. -/

def traceRc : List Event := traceNoWakeup.take 59

set_option maxRecDepth 4096 in
theorem rc_accepts : acceptsF ⟨false⟩ traceRc = true := by decide

def rcA : State := stateAt ⟨false⟩ traceRc traceRc.length

theorem rc_run : run ⟨false⟩ init traceRc = .ok rcA := run_of_accepts rc_accepts

set_option maxRecDepth 4096 in
theorem rc_pc : ∃ r sc, rcA.pc 1 = .usRcCas r sc 0 0 := by
  have h : (match rcA.pc 1 with | .usRcCas _ _ 0 0 => true | _ => false) = true := by decide
  cases hp : rcA.pc 1 <;> rw [hp] at h <;> try (cases h; done)
  rename_i r sc k old
  refine ⟨r, sc, ?_⟩
  split at h
  · rename_i heq; cases heq; rfl
  · cases h

def rcLoop : List Event := [.cas 1 .rlx (.rc 0) 0 1 5 false, .ld 1 .rlx (.rc 0) 0]

theorem rc_loop : run ⟨false⟩ rcA rcLoop = .ok rcA := by
  obtain ⟨r, sc, hpc⟩ := rc_pc
  have h1 : step ⟨false⟩ rcA (.cas 1 .rlx (.rc 0) 0 1 5 false) = .ok (setPc rcA 1 (.usRcLd r sc 0)) := by
    simp [step, stepCas, hpc]
  have h2 : step ⟨false⟩ (setPc rcA 1 (.usRcLd r sc 0)) (.ld 1 .rlx (.rc 0) 0) = .ok rcA := by
    simp only [step, stepLd, setPc_pc, setFn_same]
    simp only [ne_eq, not_true_eq_false, if_false]
    rw [setPc_setPc_self hpc]
  simp [rcLoop, run, h1, h2]

def rcExec : Exec ⟨false⟩ init := lassoExec ⟨false⟩ traceRc rcLoop rcA rc_run rc_loop (by decide)

set_option maxRecDepth 4096 in
/-- Everything but `FiniteRcFails` holds; thread 0's condition is true from time 50 on (the proviso holds), and it
    never returns. -/
theorem C06_fair_needs_rc :
    WeakFair rcExec ∧ HoldersRelease rcExec ∧ FiniteArrivals rcExec ∧ FiniteEnvPosts rcExec ∧ NoteHonoured rcExec ∧
      ContractKept rcExec ∧ ClockAdvances rcExec ∧ ¬ FiniteRcFails rcExec ∧
      MustReturn rcExec 0 50 ∧ ∀ j, 50 ≤ j → (rcExec.ρ j).pc 0 ≠ .idle := by
  have hT : tidsBelow 2 traceRc = true := by decide
  have hT2 : tidsBelow 2 rcLoop = true := by decide
  have hp : 0 < rcLoop.length := by decide
  refine ⟨lasso_weakFair rc_run rc_loop hp hT hT2 1 (r0 := 0) rfl rfl rfl (by decide),
    lasso_release rc_run rc_loop hp hT hT2 (by decide),
    lasso_finite rc_run rc_loop hp Event.isArrival (by decide),
    lasso_finite rc_run rc_loop hp Event.isEnvV (by decide),
    lasso_note rc_run rc_loop hp hT hT2 (by decide) (by decide) (by decide),
    lasso_contract rc_run rc_loop hp (by decide) (by decide),
    lasso_clock rc_run rc_loop hp hT hT2 (by decide) (by decide), ?_, ?_, ?_⟩
  · rintro ⟨n, hn⟩
    obtain ⟨j, h1, h2, h3⟩ := lasso_pos (evs := traceRc) hp n (r := 0) (by decide)
    have hσ : rcExec.σ j = some (.cas 1 .rlx (.rc 0) 0 1 5 false) := by
      have := (lassoExec_tail rc_run rc_loop hp h2).2
      rw [h3] at this; exact this
    have := hn j _ h1 hσ
    cases this
  · intro c hc
    right; right
    intro cd hcd
    have h5 : ((rcExec.ρ 50).pc 0).mw.map (·.cond) = some (some cd0) := by decide
    rw [hc] at h5
    simp only [Option.map_some, Option.some.injEq] at h5
    have e : cd = cd0 := by rw [hcd] at h5; exact Option.some.inj h5
    subst e
    exact ⟨50, fun j hj => lasso_from rc_run rc_loop hp (fun s => evalCond s.data cd0) 50 (by decide) (by decide) j hj⟩
  · intro j hj
    have := lasso_from rc_run rc_loop hp (fun s => !decide (s.pc 0 = .idle)) 50 (by decide) (by decide) j hj
    show ((lassoExec ⟨false⟩ traceRc rcLoop rcA rc_run rc_loop hp).ρ j).pc 0 ≠ .idle
    simpa using this

/-! ## `FiniteEnvPosts` is needed in this model

Thread 0 calls nsync_mu_wait_with_deadline with deadline 0 at clock 0 (the deadline has passed), condition false,
queues itself and starts its timed P.  For ever: the environment posts its semaphore, the P returns 0 (count
non-zero — the acceptor, like a semaphore that looks at the count first, allows that although the deadline has passed),
the thread finds `waiting` still set and starts the next P.  The timeout is never taken. -/

def traceEnv : List Event := [
 .call 0 .lock,
 .cas 0 .acq .word 0 1 0 true,
 .ret 0 .lock .void,
 .call 0 (.wait (some cd0) (some 0) false),
 .ld 0 .rlx .word 1,
 .cond 0 .eq 0 false,
 .st 0 .rlx (.waiting 0) 1 0,
 .ld 0 .rlx (.rc 0) 0,
 .ld 0 .rlx .word 1,
 .cas 0 .acq .word 1 23 1 true,
 .ld 0 .rlx .word 23,
 .cas 0 .rel .word 23 20 23 true,
 .ld 0 .acq (.waiting 0) 1,
 .semPdEnter 0 0 (some 0) ]

theorem env_accepts : acceptsF ⟨false⟩ traceEnv = true := by decide

def envA : State := stateAt ⟨false⟩ traceEnv traceEnv.length

theorem env_run : run ⟨false⟩ init traceEnv = .ok envA := run_of_accepts env_accepts

def mwEnv : MW :=
  { hm := .W, l := .W, cond := some cd0, dl := some 0, note := false, first := false, w := some 0, rcl := 0,
    hadW := false, so := .ok, hl := false, outc := .ok, saw := false }

def envLoop : List Event := [
  .envV 0,
  .semPdRet 0 0 false,
  .ld 0 .rlx (.waiting 0) 1,
  .ld 0 .acq (.waiting 0) 1,
  .semPdEnter 0 0 (some 0) ]

theorem env_loop_gen (s : State) (hpc : s.pc 0 = .mwPdRet mwEnv (some 0)) (hsem : (s.wr 0).sem = 0)
    (hw : (s.wr 0).waiting = true) : run ⟨false⟩ s envLoop = .ok s := by
  obtain ⟨word, queue, wr, pc, data, cargs, now, held, wOwner, rOwners, sp, secStart, nwViol⟩ := s
  simp only at hpc hsem hw
  simp [envLoop, run, step, stepLd, ldWaiting, semPost, setPc, setFn, hpc, hsem, hw, mwEnv, b2n, dlLe]
  refine ⟨?_, ?_⟩ <;> funext u <;> simp only [setFn]
  · by_cases hu : u = 0
    · subst hu
      cases hwr : wr 0
      simp_all
    · simp [hu]
  · by_cases hu : u = 0
    · subst hu; simp [hpc, mwEnv]
    · simp [hu]

theorem env_loop : run ⟨false⟩ envA envLoop = .ok envA :=
  env_loop_gen envA (by decide) (by decide) (by decide)

def envExec : Exec ⟨false⟩ init := lassoExec ⟨false⟩ traceEnv envLoop envA env_run env_loop (by decide)

/-- Everything but `FiniteEnvPosts` holds (in particular the clock has passed the deadline: `ClockAdvances`); the call
    has a finite deadline (the proviso holds), and it never returns. -/
theorem C06_fair_needs_env_posts :
    WeakFair envExec ∧ HoldersRelease envExec ∧ FiniteArrivals envExec ∧ FiniteRcFails envExec ∧ NoteHonoured envExec ∧
      ContractKept envExec ∧ ClockAdvances envExec ∧ ¬ FiniteEnvPosts envExec ∧
      MustReturn envExec 0 4 ∧ (envExec.ρ 4).pc 0 ≠ .idle ∧ ∀ j, 4 ≤ j → (envExec.ρ j).pc 0 ≠ .idle := by
  have hT : tidsBelow 1 traceEnv = true := by decide
  have hT2 : tidsBelow 1 envLoop = true := by decide
  have hp : 0 < envLoop.length := by decide
  have hnever : ∀ j, 4 ≤ j → (envExec.ρ j).pc 0 ≠ .idle := by
    intro j hj
    have := lasso_from env_run env_loop hp (fun s => !decide (s.pc 0 = .idle)) 4 (by decide) (by decide) j hj
    show ((lassoExec ⟨false⟩ traceEnv envLoop envA env_run env_loop hp).ρ j).pc 0 ≠ .idle
    simpa using this
  refine ⟨lasso_weakFair env_run env_loop hp hT hT2 0 (r0 := 1) rfl rfl rfl (by decide),
    lasso_release env_run env_loop hp hT hT2 (by decide),
    lasso_finite env_run env_loop hp Event.isArrival (by decide),
    lasso_finite env_run env_loop hp Event.rcFail (by decide),
    lasso_note env_run env_loop hp hT hT2 (by decide) (by decide) (by decide),
    lasso_contract env_run env_loop hp (by decide) (by decide),
    lasso_clock env_run env_loop hp hT hT2 (by decide) (by decide), ?_, ?_, hnever 4 (Nat.le_refl _), hnever⟩
  · rintro ⟨n, hn⟩
    obtain ⟨j, h1, h2, h3⟩ := lasso_pos (evs := traceEnv) hp n (r := 0) (by decide)
    have hσ : envExec.σ j = some (.envV 0) := by
      have := (lassoExec_tail env_run env_loop hp h2).2
      rw [h3] at this; exact this
    have := hn j _ h1 hσ
    cases this
  · intro c hc
    have h4 : ((envExec.ρ 4).pc 0).mw.map (·.dl) = some (some 0) := by decide
    rw [hc] at h4
    simp only [Option.map_some, Option.some.injEq] at h4
    left; rw [h4]; simp

/-! ## `FiniteArrivals` is needed under weak fairness

Thread 1 is inside nsync_mu_lock_slow_ at its first load (it found the mutex held and has not queued yet); the mutex is
free again.  For ever: thread 0 calls nsync_mu_lock and acquires on the fast path; thread 1 loads the word (held,
spinlock free) and prepares its enqueue CAS; thread 0 returns, calls nsync_mu_unlock and releases on the fast path;
thread 1's CAS fails (the word changed); thread 0 returns.  (The execution of Props/C02Fair.lean, in this model.) -/

def tracePre : List Event := [
  .call 0 .lock,
  .cas 0 .acq .word 0 1 0 true,
  .ret 0 .lock .void,
  .call 1 .lock,
  .cas 1 .acq .word 0 1 1 false,
  .ld 1 .rlx .word 1,
  .call 0 .unlock,
  .cas 0 .rel .word 1 0 1 true,
  .ret 0 .unlock .void ]

theorem pre_accepts : acceptsF ⟨false⟩ tracePre = true := by decide

def bargeA : State := stateAt ⟨false⟩ tracePre tracePre.length

theorem barge_run : run ⟨false⟩ init tracePre = .ok bargeA := run_of_accepts pre_accepts

def bargeLoop : List Event := [
  .call 0 .lock,
  .cas 0 .acq .word 0 1 0 true,
  .ld 1 .rlx .word 1,
  .ret 0 .lock .void,
  .call 0 .unlock,
  .cas 0 .rel .word 1 0 1 true,
  .cas 1 .acq .word 1 39 0 false,
  .ret 0 .unlock .void ]

theorem barge_loop_gen (s : State) (hw : s.word = Word.zero) (h1 : s.pc 1 = .lsLd (SL.entry .W))
    (h0 : s.pc 0 = .idle) (hh : s.held 0 = none) (hwo : s.wOwner = none) (hsec : s.secStart = s.data) :
    run ⟨false⟩ s bargeLoop = .ok s := by
  obtain ⟨word, queue, wr, pc, data, cargs, now, held, wOwner, rOwners, sp, secStart, nwViol⟩ := s
  simp only at hw h1 h0 hh hwo hsec
  subst hw hwo hsec
  simp [bargeLoop, run, step, stepCall, stepRet, stepCas, stepLd, casWord, ldWord, setPc, setFn, h0, h1, hh,
    addShare, subShare, setHeld, encode, b2n, addWord, Word.zero, blocked, enqWord, SL.entry]
  refine ⟨?_, ?_⟩ <;> funext u <;> simp only [setFn]
  · by_cases hu0 : u = 0
    · subst hu0; simp [h0]
    · by_cases hu1 : u = 1
      · subst hu1; simp [h1, SL.entry]
      · simp [hu0, hu1]
  · by_cases hu0 : u = 0
    · subst hu0; simp [hh]
    · simp [hu0]

theorem barge_loop : run ⟨false⟩ bargeA bargeLoop = .ok bargeA :=
  barge_loop_gen bargeA (by decide) (by decide) (by decide) (by decide) (by decide)
    (by funext x; simp [bargeA, stateAt, tracePre, run, step, stepCall, stepRet, stepCas, stepLd, casWord, ldWord, setPc,
          setHeld, addShare, subShare, init, setFn, encode, b2n, addWord, Word.zero, blocked])

def bargeExec : Exec ⟨false⟩ init := lassoExec ⟨false⟩ tracePre bargeLoop bargeA barge_run barge_loop (by decide)

/-- Everything but `FiniteArrivals` holds, and thread 1, inside nsync_mu_lock, never returns. -/
theorem C06_fair_needs_arrivals :
    WeakFair bargeExec ∧ HoldersRelease bargeExec ∧ FiniteRcFails bargeExec ∧ FiniteEnvPosts bargeExec ∧
      NoteHonoured bargeExec ∧ ContractKept bargeExec ∧ ClockAdvances bargeExec ∧ ¬ FiniteArrivals bargeExec ∧
      MustReturn bargeExec 1 6 ∧ (bargeExec.ρ 6).pc 1 ≠ .idle ∧ ∀ j, 6 ≤ j → (bargeExec.ρ j).pc 1 ≠ .idle := by
  have hT : tidsBelow 2 tracePre = true := by decide
  have hT2 : tidsBelow 2 bargeLoop = true := by decide
  have hp : 0 < bargeLoop.length := by decide
  have hnever : ∀ j, 6 ≤ j → (bargeExec.ρ j).pc 1 ≠ .idle := by
    intro j hj
    have := lasso_from barge_run barge_loop hp (fun s => !decide (s.pc 1 = .idle)) 6 (by decide) (by decide) j hj
    show ((lassoExec ⟨false⟩ tracePre bargeLoop bargeA barge_run barge_loop hp).ρ j).pc 1 ≠ .idle
    simpa using this
  refine ⟨lasso_weakFairB barge_run barge_loop hp hT hT2 (by decide),
    lasso_release_rec barge_run barge_loop hp hT (by decide),
    lasso_finite barge_run barge_loop hp Event.rcFail (by decide),
    lasso_finite barge_run barge_loop hp Event.isEnvV (by decide),
    lasso_note barge_run barge_loop hp hT hT2 (by decide) (by decide) (by decide),
    lasso_contract barge_run barge_loop hp (by decide) (by decide),
    lasso_clock barge_run barge_loop hp hT hT2 (by decide) (by decide), ?_, ?_, hnever 6 (Nat.le_refl _), hnever⟩
  · rintro ⟨n, hn⟩
    obtain ⟨j, h1, h2, h3⟩ := lasso_pos (evs := tracePre) hp n (r := 0) (by decide)
    have hσ : bargeExec.σ j = some (.call 0 .lock) := by
      have := (lassoExec_tail barge_run barge_loop hp h2).2
      rw [h3] at this; exact this
    have := hn j _ h1 hσ
    cases this
  · intro c hc
    have : ((bargeExec.ρ 6).pc 1).mw = none := by decide
    rw [this] at hc; cases hc

end NsyncVerif.MuC
