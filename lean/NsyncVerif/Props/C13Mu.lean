import NsyncVerif.Proofs.MuQStepFacts
/-!
# C13 (mutex half) — a release makes no access to the mutex after its release point

Model: `NsyncVerif.Model.MuQ`.  Every step carries the ghost label `stepTouchesMu` (the step taken
from this program point reads or writes mu->word or mu->waiters; conservatively `true` for all
steps between the grab CAS and the final CAS of unlock_slow, whose folded plain code reads and
writes mu->waiters).

* `C13_release_point`: once a thread inside nsync_mu_unlock / nsync_mu_runlock /
  nsync_mu_unlock_slow_ owns neither a share of the lock nor the spinlock, NO further step of this
  call touches the mutex: whatever the other threads do, all its remaining steps (clearing
  `waiting` of the waiters on its private list and posting their semaphores, then `ret`) have
  `touchesMu = false`.
* `C13_release_is_last_needed`: the step that takes the call across that point — hence the last
  step with `touchesMu = true` — is a SUCCESSFUL CAS on mu->word: either the CAS that gives up the
  caller's share (first CAS, second CAS, uncontended CAS of unlock_slow), after which the call
  only returns, or the final CAS of unlock_slow that drops the spinlock.  Before that CAS the
  thread still owns the share or the spinlock, so nobody who "learns under the lock that it is
  the last user" can have freed the memory.

* `C13_before_release_point`: before that point the thread owns a share or the spinlock.

Together: another thread can acquire only after the releasing thread's last access; a thread that
acquires afterwards and frees the mutex as soon as its own unlock returns races with nothing.
-/
namespace NsyncVerif.MuQ

theorem C13_release_point {cfg : Cfg} {s : State} {t : Tid} (hr : Reachable cfg s)
    (hin : inRelease (s.pc t)) (hw : s.wOwner ≠ some t) (hrd : t ∉ s.rOwners) (hsp : s.sp ≠ some t) :
    relDone (s.pc t) ∧ ∀ evs, QuietUntilRet cfg t s evs := by
  have hd := relDone_of_owns_nothing hr hin hw hrd hsp
  exact ⟨hd, fun evs => quiet_of_relDone evs s hd⟩

/-- Before the release point the thread owns a share or the spinlock. -/
theorem C13_before_release_point {cfg : Cfg} {s : State} {t : Tid} (hr : Reachable cfg s)
    (hin : inRelease (s.pc t)) (hnd : ¬ relDone (s.pc t)) :
    s.wOwner = some t ∨ t ∈ s.rOwners ∨ s.sp = some t := by
  apply Classical.byContradiction
  intro hn
  exact hnd (relDone_of_owns_nothing hr hin (fun h => hn (Or.inl h)) (fun h => hn (Or.inr (Or.inl h)))
    (fun h => hn (Or.inr (Or.inr h))))

theorem C13_release_is_last_needed {cfg : Cfg} {s s' : State} {e : Event} {t : Tid} (_hr : Reachable cfg s)
    (hin : inRelease (s.pc t)) (hnd : ¬ relDone (s.pc t)) (h : step cfg s e = .ok s')
    (he : e.tid = some t) (hd : relDone (s'.pc t)) :
    (∃ o exp new obs, e = .cas t o .word exp new obs true) ∧ stepTouchesMu s e = true ∧
      ((∃ l, pcShare (s.pc t) = some l ∧ s'.pc t = .ulRet l ∧ pcShare (s'.pc t) = none) ∨
       (∃ l f old, s.pc t = .usFinCas l f old ∧ s'.word = finWord f old ∧ s'.word.spin = false ∧ s'.sp = none)) := by
  obtain ⟨h1, h2, h3⟩ := release_point_step hin hnd h he hd
  refine ⟨h1, h2, ?_⟩
  rcases h3 with ⟨l, e1, e2⟩ | ⟨l, f, old, e1, e2, e3, e4⟩
  · left; refine ⟨l, e1, ?_, ?_⟩ <;> rw [e2] <;> simp [setPc, pcShare]
  · right; exact ⟨l, f, old, e1, e3, by rw [e3]; rfl, e4⟩

/-! ## non-vacuity -/

/-- A state past the release point with work left: thread 0 of this accepted prefix has done the
    final CAS of unlock_slow and has still to clear `waiting` of w0 and post its semaphore. -/
def tracePoint : List Event := [
  .call 0 .lock, .cas 0 .acq .word 0 1 0 true, .ret 0 .lock none, .call 0 .unlock,
  .call 1 .lock, .cas 1 .acq .word 0 1 1 false, .ld 1 .rlx .word 1, .ld 1 .rlx .word 1,
  .cas 1 .acq .word 1 39 1 true, .st 1 .rlx (.waiting 0) 1 0, .ld 1 .rlx .word 39,
  .cas 1 .rel .word 39 37 39 true, .ld 1 .acq (.waiting 0) 1, .semPEnter 1 0,
  .cas 0 .rel .word 1 0 37 false, .ld 0 .rlx .word 37, .ld 0 .rlx .word 37,
  .cas 0 .ar .word 37 46 37 true, .ld 0 .rlx (.rc 0) 0, .cas 0 .rlx (.rc 0) 0 1 0 true,
  .ld 0 .rlx .word 46, .cas 0 .rel .word 46 8 46 true ]

def checkAfter13 (cfg : Cfg) (evs : List Event) (f : State → Bool) : Bool :=
  match run cfg init evs with
  | .ok s => f s
  | .error _ => false

example : checkAfter13 ⟨false⟩ tracePoint (fun s =>
    decide (s.pc 0 = .usWakeSt .W 0 []) && decide (s.wOwner = none) && decide (s.rOwners = []) &&
    decide (s.sp = none) && encode s.word == 8) = true := by decide +kernel

-- one step earlier the thread still owns the spinlock (hypotheses of `C13_release_is_last_needed`)
example : checkAfter13 ⟨false⟩ (tracePoint.take 21) (fun s =>
    decide (s.sp = some 0) && decide (s.wOwner = none)) = true := by decide +kernel

end NsyncVerif.MuQ
