/-
  Props/C19Counter.lean — counter half of property C19: "If memory cannot be obtained,
  nsync_counter_new returns NULL and leaves every existing object unchanged and usable."

  Single-counter LTS: the malloc-NULL path changes nothing but the caller's program counter, and
  between `malloc NULL` and `ret … NULL` the acceptor rejects every access to the counter's
  locations.  Driver (several counters): the three lines of a failed nsync_counter_new leave the
  map of existing counters, the in-flight table and the environment untouched.
  Nothing here is `_partial`.
-/
import NsyncVerif.Proofs.CounterFacts
import NsyncVerif.Model.CounterDriver

namespace Counter

/-- The failing path: `call nsync_counter_new v`, `malloc NULL`, `ret nsync_counter_new NULL` is
    accepted from every state in which the thread is idle and the object does not exist, and the
    resulting state differs from the original one in nothing (the program counter is idle again). -/
theorem C19_counter_new_fail {s : State} {t : Tid} {v : Nat} (hpc : s.pc t = .idle)
    (hph : s.sh.phase = .absent) (hv : v < two32) :
    ∃ s3, run s [.thr t (.callNew v), .thr t (.malloc false), .thr t (.retNew false)] = .ok s3
      ∧ s3.sh = s.sh ∧ ∀ u, s3.pc u = s.pc u := by
  rw [Tr.run_cons hpc (.callNew ⟨hph, hv⟩), Tr.run_cons (mk'_pc ..) .mallocFail, Tr.run_cons (mk'_pc ..) (.newRet rfl)]
  refine ⟨_, rfl, rfl, fun u => ?_⟩
  by_cases hu : u = t
  · subst hu; simp [State.mk', hpc]
  · simp [State.mk', hu]

/-- After `malloc NULL` zero further operations on the object are accepted: every atomic access to
    `ctr.value` / `ctr.waited` by the caller is rejected, and the only counter-API event accepted
    is `ret nsync_counter_new NULL`, which changes only the program counter. -/
theorem C19_counter_new_fail_no_access {s : State} {t : Tid} (hpc : s.pc t = .newRet false) :
    (∀ o l obs, l = Loc.value ∨ l = Loc.waited → ∃ m, step s (.thr t (.ld o l obs)) = .error m)
    ∧ (∀ o l n obs, l = Loc.value ∨ l = Loc.waited → ∃ m, step s (.thr t (.st o l n obs)) = .error m)
    ∧ (∀ o l x n obs ok, l = Loc.value ∨ l = Loc.waited →
        ∃ m, step s (.thr t (.cas o l x n obs ok)) = .error m)
    ∧ (∀ ok s', step s (.thr t (.retNew ok)) = .ok s' → ok = false ∧ s'.sh = s.sh ∧ s'.pc t = .idle) := by
  -- an accepted event is a transition, and `newRet` has only the return, or `dflt`'s, which lets no access to the counter pass
  have no : ∀ e, (e.loc = some .value ∨ e.loc = some .waited) → ∃ m, step s (.thr t e) = .error m := by
    intro e he
    cases hs : step s (.thr t e) with
    | error m => exact ⟨m, rfl⟩
    | ok s' =>
      rcases stepThr_ok (t := t) (e := e) hs with ⟨⟨_, hd⟩, _⟩ | ⟨_, _, htr, _⟩
      · exact absurd he (not_or.2 (dflt_ok hd).2.2.1)
      · rw [hpc] at htr; cases htr; cases he <;> contradiction
  refine ⟨?_, ?_, ?_, ?_⟩
  · rintro o l obs (rfl | rfl) <;> exact no _ (by simp [Ev.loc])
  · rintro o l n obs (rfl | rfl) <;> exact no _ (by simp [Ev.loc])
  · rintro o l x n obs ok (rfl | rfl) <;> exact no _ (by simp [Ev.loc])
  · intro ok s' h
    obtain ⟨h1, h2⟩ := retNew_pc h
    rw [hpc] at h1
    injection h1 with h1
    subst h2
    exact ⟨h1.symm, rfl, by simp [State.setPc]⟩

/-- The successful path creates a usable counter holding v: live, value v, history [v], empty
    queue, free mutex, `waited` clear. -/
theorem C19_counter_new_ok {s : State} {t : Tid} {v : Nat} (h : Reachable s) (hpc : s.pc t = .idle)
    (hph : s.sh.phase = .absent) (hv : v < two32) :
    ∃ s4, run s [.thr t (.callNew v), .thr t (.malloc true), .thr t (.st .rlx .value v 0),
                 .thr t (.retNew true)] = .ok s4
      ∧ s4.sh.phase = .live ∧ s4.sh.value = v ∧ s4.sh.hist = [v] ∧ s4.sh.waiters = []
      ∧ s4.sh.lockHolder = none ∧ s4.sh.waited = false ∧ s4.pc t = .idle
      ∧ ∀ u, u ≠ t → s4.pc u = s.pc u := by
  have hs := (inv_of_reachable h).sh
  have hn := hs.hnil (hs.creating (Or.inr hph))
  rw [Tr.run_cons hpc (.callNew ⟨hph, hv⟩), Tr.run_cons (mk'_pc ..) (.mallocOk hph),
    Tr.run_cons (mk'_pc ..) (.newStore ⟨rfl, rfl, rfl⟩), Tr.run_cons (mk'_pc ..) (.newRet rfl)]
  exact ⟨_, rfl, rfl, rfl, rfl, hn.2.2.2.2.1, hn.2.2.1, hn.2.2.2.1, mk'_pc .., fun u hu => by simp [State.mk', hu]⟩

/-! ### the driver's map of counters -/

namespace Driver

theorem erase_of_lookup_none {α} {k : Nat} {l : List (Nat × α)} (h : lookup k l = none) :
    erase k l = l := by
  induction l with
  | nil => rfl
  | cons x xs ih =>
    obtain ⟨k', v⟩ := x
    simp only [lookup] at h
    split at h
    · cases h
    · rename_i hne; simp [erase, hne, ih h]

theorem erase_insert {α} (k : Nat) (v : α) (l : List (Nat × α)) : erase k (insert k v l) = erase k l := by
  have : ∀ l : List (Nat × α), erase k (erase k l) = erase k l := by
    intro l
    induction l with
    | nil => rfl
    | cons x xs ih =>
      obtain ⟨k', w⟩ := x
      by_cases hk : k' = k <;> simp [erase, hk, ih]
  simp [insert, erase, this]

theorem lookup_insert {α} (k : Nat) (v : α) (l : List (Nat × α)) : lookup k (insert k v l) = some v := by
  simp [insert, lookup]

/-- A failed nsync_counter_new (three log lines) is accepted by the driver and leaves every
    existing counter, the in-flight table and the environment untouched. -/
theorem C19_driver_new_fail (d : DState) (t : Tid) (v : Nat)
    (ha : lookup t d.active = none) (hc : lookup t d.creating = none)
    (hpc : d.env.pc t = .idle) (hph : d.env.sh.phase = .absent) (hv : v < two32) :
    let r1 := exec d (.callNew t v)
    let r2 := exec r1.1 (.malloc t none)
    let r3 := exec r2.1 (.retNew t none)
    r1.2 = "ok" ∧ r2.2 = "ok" ∧ r3.2 = "ok"
    ∧ r3.1.ctrs = d.ctrs ∧ r3.1.active = d.active ∧ r3.1.creating = d.creating ∧ r3.1.env = d.env := by
  have h1 := Tr.step_at hpc (.callNew ⟨hph, hv⟩)
  have h2 := Tr.step_at (mk'_pc d.env.sh d.env t (.newMalloc v)) .mallocFail
  have h3 := Tr.step_at (mk'_pc (State.mk' d.env.sh d.env t (.newMalloc v)).sh (State.mk' d.env.sh d.env t (.newMalloc v)) t
    (.newRet false)) (.newRet rfl)
  simp [exec, ha, hc, h1, h2, h3, lookup_insert, erase_insert, erase_of_lookup_none hc]

/-- The hypotheses about `env` above always hold: the environment instance never leaves the
    "not created, every thread idle" state. -/
def EnvOK (d : DState) : Prop := (∀ t, d.env.pc t = .idle) ∧ d.env.sh.phase = .absent

theorem envOK_init : EnvOK init := ⟨fun _ => rfl, rfl⟩

theorem envOK_step_ev {env en : State} {t : Tid} {e : Ev} (h : (∀ t, env.pc t = .idle) ∧ env.sh.phase = .absent)
    (hr : isRouted e = false) (hs : Counter.step env (.thr t e) = .ok en) :
    (∀ t, en.pc t = .idle) ∧ en.sh.phase = .absent := by
  -- an idle thread accepts a call, which is routed, or what `dflt` lets pass
  rcases stepThr_ok hs with ⟨⟨_, hd⟩, _⟩ | ⟨_, _, htr, _⟩
  · have := dflt_pc_phase hd
    exact ⟨fun u => by rw [this.1]; exact h.1 u, by rw [this.2]; exact h.2⟩
  · rw [h.1 t] at htr
    cases htr <;> cases hr

theorem envOK_exec {d : DState} (h : EnvOK d) (c : Cmd) : EnvOK (exec d c).1 := by
  unfold exec
  repeat' split
  all_goals first
    | exact h
    | (dsimp only; split <;> exact h)
    | skip
  · -- tick
    rename_i hen
    simp only [Counter.step] at hen
    split at hen
    · cases hen; exact h
    · cases hen
  · -- broadcast
    rename_i hr _ d' hb
    unfold broadcast at hb
    repeat' (split at hb)
    all_goals first | (cases hb; done) | skip
    cases hb
    rename_i hen
    exact envOK_step_ev h (by simpa using hr) hen

end Driver

end Counter
