import NsyncVerif.Proofs.MuQStepFacts
/-
  MuQ, solo progress (C02): definitions.

  `acqRank M s t` bounds the number of steps thread `t`, inside an ACQUIRING operation (lock, rlock,
  trylock, rtrylock, lock_slow), can still take when it runs alone (only its own events are
  scheduled); `M` bounds the semaphore counts.  It has two parts: `ownPart`, what the thread itself
  has to do, and `semPart`, what a stale count can cost (one trip round the wait loop: P returns,
  `waiting` is re-read, P is entered again).  Only the first is a rank when other threads move.
  `relRank word q p` (`q` = queue length) is the corresponding bound for the RELEASING operations (unlock, runlock,
  unlock_slow), linear in the length of the part of the queue still to be scanned and in the length
  of the private wake list.

  Both ranks look at the state only through: `s.word = old` ("the expected word of my pending CAS
  is still the word": the CAS will succeed), the `waiting` flag and the semaphore count of the
  thread's own waiter record, and `s.queue.length`.
-/
namespace NsyncVerif.MuQ

/-- Program points of the acquiring operations (including the return points). -/
def acqPc : PC → Bool
  | .lkCas0 _ | .lkLd _ | .lkCas1 _ _ | .lkRet _ => true
  | .tryCas0 _ | .tryLd _ | .tryCas1 _ _ | .tryRet _ _ => true
  | .lsLd _ | .lsCasAcq _ _ | .lsCasEnq _ _ | .lsSt _ | .lsRelLd _ | .lsRelCas _ _ => true
  | .lsWaitLd _ | .lsPEnter _ | .lsPRet _ => true
  | _ => false

/-- Count of the semaphore of the thread's waiter record; `M` while it has none yet (the record it
    will be handed by `nsync_waiter_new_` may carry any stale count up to the bound). -/
def semOf (M : Nat) (wr : Wid → WRec) : Option Wid → Nat
  | some k => (wr k).sem
  | none => M

def waitingOf (wr : Wid → WRec) : Option Wid → Bool
  | some k => (wr k).waiting
  | none => false

/-- The waiter record of a thread inside lock_slow. -/
def slRec : PC → Option Wid
  | .lsLd c | .lsCasAcq c _ | .lsCasEnq c _ | .lsSt c | .lsRelLd c | .lsRelCas c _
  | .lsWaitLd c | .lsPEnter c | .lsPRet c => c.w
  | _ => none

/-- The thread's own part of the rank: the steps it still has to take at program point `p` when the
    word is `word` (the CAS it is about to attempt succeeds iff the word is the expected one) and
    the `waiting` flag of its record is `wt`, not counting trips round the wait loop on stale counts. -/
def acqLoc (word : Word) (wt : Bool) : PC → Nat
  | .lkCas0 _ => 14
  | .lkLd _ => 13
  | .lkCas1 _ _ => 12
  | .lkRet _ => 1
  | .tryCas0 _ => 4
  | .tryLd _ => 3
  | .tryCas1 _ _ => 2
  | .tryRet _ _ => 1
  | .lsLd _ => 11
  | .lsCasAcq _ old => if word = old then 2 else 12
  | .lsCasEnq _ old => if word = old then 10 else 12
  | .lsSt _ => 9
  | .lsRelLd _ => 7
  | .lsRelCas _ old => if word = old then 6 else 8
  | .lsWaitLd _ => if wt then 5 else 12
  | .lsPEnter _ => if wt then 4 else 14
  | .lsPRet _ => if wt then 3 else 13
  | _ => 0

/-- The environment's part: the stale count that can still send the thread round its wait loop
    (one P per trip).  Nothing at the return points. -/
def semPart (M : Nat) (wr : Wid → WRec) : PC → Nat
  | .lkRet _ | .tryRet _ _ => 0
  | p => if acqPc p then semOf M wr (slRec p) else 0

def ownPart (s : State) (t : Tid) : Nat := acqLoc s.word (waitingOf s.wr (slRec (s.pc t))) (s.pc t)

def acqRank (M : Nat) (s : State) (t : Tid) : Nat := 3 * semPart M s.wr (s.pc t) + ownPart s t

theorem semOf_le {M : Nat} {wr : Wid → WRec} (hM : ∀ k, (wr k).sem ≤ M) (w : Option Wid) : semOf M wr w ≤ M := by
  cases w with
  | none => exact Nat.le_refl _
  | some k => exact hM k

theorem acqLoc_le (word : Word) (wt : Bool) (p : PC) : acqLoc word wt p ≤ 14 := by
  cases p <;> simp only [acqLoc] <;> (try split) <;> decide

theorem semPart_le {M : Nat} {wr : Wid → WRec} (hM : ∀ k, (wr k).sem ≤ M) (p : PC) : semPart M wr p ≤ M := by
  cases p <;> first | exact Nat.zero_le _ | exact semOf_le hM none | exact semOf_le hM _

theorem acqRank_le {M : Nat} {s : State} (hM : ∀ k, (s.wr k).sem ≤ M) (t : Tid) : acqRank M s t ≤ 3 * M + 14 := by
  have := semPart_le hM (s.pc t)
  have := acqLoc_le s.word (waitingOf s.wr (slRec (s.pc t))) (s.pc t)
  unfold acqRank ownPart; omega

def postSL : PC → Option SL
  | .lsRelLd c | .lsRelCas c _ | .lsWaitLd c | .lsPEnter c | .lsPRet c => some c
  | _ => none

/-- Thread `t` has queued itself and its `waiting` flag is (still) set: it is parked. -/
def Post2 (s : State) (t : Tid) : Prop :=
  ∃ c k, postSL (s.pc t) = some c ∧ c.w = some k ∧ (s.wr k).waiting = true

/-- What one own step of an acquiring thread achieves, with the spinlock free or its own. -/
structure AcqNext (M : Nat) (s : State) (t : Tid) (s' : State) : Prop where
  pc : acqPc (s'.pc t) = true
  sp : s'.sp = none ∨ s'.sp = some t
  /-- it parks itself only through the enqueue store -/
  park : Post2 s' t → Post2 s t ∨ ∃ c, s.pc t = .lsSt c
  /-- its own part goes down, except when P returns on a stale count while it is parked: then the
      environment's part pays -/
  own : ownPart s' t < ownPart s t ∨
    (Post2 s t ∧ ownPart s' t = ownPart s t + 2 ∧ semPart M s'.wr (s'.pc t) < semPart M s.wr (s.pc t))
  /-- the environment's part does not go up -/
  env : (∀ k, (s.wr k).sem ≤ M) → (∀ k, (s'.wr k).sem ≤ M) ∧ semPart M s'.wr (s'.pc t) ≤ semPart M s.wr (s.pc t)

theorem AcqNext.rank_lt {M : Nat} {s s' : State} {t : Tid} (n : AcqNext M s t s') (hM : ∀ k, (s.wr k).sem ≤ M) :
    acqRank M s' t < acqRank M s t := by
  have := (n.env hM).2
  unfold acqRank
  rcases n.own with h | ⟨_, h, _⟩ <;> omega

/-! ### release side -/

def scanRank (sc : Scan) : Nat := 4 * sc.todo.length + 2 * sc.wake.length

/-- `word`: the word of the state; `q`: the length of the queue. -/
def relRank (word : Word) (q : Nat) : PC → Nat
  | .ulCas0 _ => 4 * q + 11
  | .ulLd _ => 4 * q + 10
  | .ulCas1 _ old => if word = old then 2 else 4 * q + 9
  | .ulRet _ => 1
  | .usLd _ => 4 * q + 8
  | .usCasUnc _ old => if word = old then 2 else 4 * q + 9
  | .usCasGrab _ old => 4 * q + (if word = old then 7 else 9)
  | .usRcLd _ sc _ => scanRank sc + 6
  | .usRcCas _ sc _ _ => scanRank sc + 5
  | .usFinLd _ f => 2 * f.wake.length + 3
  | .usFinCas _ f old => 2 * f.wake.length + (if word = old then 2 else 4)
  | .usWakeSt _ _ r => 2 * r.length + 3
  | .usWakeV _ _ r => 2 * r.length + 2
  | _ => 0

/-- Program points of the releasing operations (Bool version of `inRelease`). -/
def relPc : PC → Bool
  | .ulCas0 _ | .ulLd _ | .ulCas1 _ _ | .ulRet _ => true
  | .usLd _ | .usCasUnc _ _ | .usCasGrab _ _ | .usRcLd _ _ _ | .usRcCas _ _ _ _ => true
  | .usFinLd _ _ | .usFinCas _ _ _ | .usWakeSt _ _ _ | .usWakeV _ _ _ => true
  | _ => false

/-- A failed CAS on `remove_count` (memory this mutex does not own). -/
def Event.rcFail : Event → Bool
  | .cas _ _ (.rc _) _ _ _ false => true
  | _ => false

theorem scanGo_rank (lt : Wid → Mode) : ∀ (todo : List Wid) (sc : Scan),
    (∀ k sc', scanGo lt todo sc = .remove k sc' →
      sc'.todo.length + 1 ≤ todo.length ∧ sc'.wake.length = sc.wake.length + 1) ∧
    (∀ sc', scanGo lt todo sc = .done sc' → sc'.wake.length = sc.wake.length) := by
  intro todo sc
  obtain ⟨h1, h2⟩ := scanGo_spec lt todo sc
  constructor
  · intro k sc' h
    obtain ⟨mid, e1, e2, _⟩ := h1 k sc' h
    constructor
    · rw [e1]; simp
    · rw [e2]; simp
  · intro sc' h
    obtain ⟨mid, _, e2, _⟩ := h2 sc' h
    rw [e2]

/-- With the spinlock free or its own, a thread that is not at a spinlock-owning program point
    finds the spinlock bit clear. -/
theorem spin_clear_of_free {cfg : Cfg} {s : State} {t : Tid} (hr : Reachable cfg s)
    (hsp : s.sp = none ∨ s.sp = some t) (hf : (role (s.pc t)).spin = false) : s.word.spin = false := by
  have inv := reachable_inv hr
  have hb : s.word.spin = s.sp.isSome := inv.spin.bit
  rcases hsp with h1 | h1
  · rw [hb, h1]; rfl
  · have h2 : (role (s.pc t)).spin = true := (inv.spin.own t).1 h1
    rw [hf] at h2; cases h2

end NsyncVerif.MuQ
