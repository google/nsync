/-
  Layer `Once` × vector clocks: the edge invariant along runs, stability of the ghost `ec`
  (the once-function of an once object ends at most once), and the shape of the two events the
  C03 theorem talks about (`cb … end`, `ret`).
-/
import NsyncVerif.Proofs.OnceVCStep

namespace Once
open NsyncVerif

theorem pstep_inv {cfg : Config} {p p' : PState} {e : Event} (hi : Inv cfg p.s)
    (h : pstep cfg p e = .ok p') : Inv cfg p'.s := by
  obtain ⟨s', hs, rfl⟩ := pstep_ok h
  exact inv_step hi hs

theorem vinv_prun {cfg : Config} {evs : List Event} {p p' : PState} (hi : Inv cfg p.s)
    (hv : VInv p) (h : prun cfg p evs = .ok p') : Inv cfg p'.s ∧ VInv p' :=
  (isPRun cfg).induct (Q := fun p => Inv cfg p.s ∧ VInv p) ⟨hi, hv⟩
    (fun _ _ _ _ hq hs => ⟨pstep_inv hq.1 hs, vinv_step hq.1 hq.2 hs⟩) h

theorem preachable_inv {cfg : Config} {p : PState} (h : PReachable cfg p) :
    Inv cfg p.s ∧ VInv p := by
  obtain ⟨evs, h⟩ := h
  exact vinv_prun (inv_init cfg) vinv_init h

/-- Once the function of `o` has ended, no further event touches `ec o` (a second `cb … end` on
    `o` is impossible), and `fEnds o` stays non-empty. -/
theorem ec_step_stable {cfg : Config} {p p' : PState} {e : Event} {o : OnceId}
    (hi : Inv cfg p.s) (hne : p.s.fEnds o ≠ []) (h : pstep cfg p e = .ok p') :
    p'.ec o = p.ec o ∧ p'.s.fEnds o ≠ [] := by
  obtain ⟨s, c, ec⟩ := p
  obtain ⟨s', hs, rfl⟩ := pstep_ok h
  dsimp only at hi hne hs ⊢
  cases step_ok hs with
  | skip hn =>
    refine ⟨?_, hne⟩
    cases e <;> first | rfl | cases hn
  | @cbEnd t f hp =>
    -- `t` is the winner of `f.o` and has not ended its function: `fEnds f.o` is empty
    have ho : o ≠ f.o := by
      rintro rfl
      exact hne (hi.winner_at hp rfl).2.2.2
    simp only [endUpd, hp]
    exact ⟨upd_ne _ ho, by rwa [upd_ne _ ho]⟩
  | _ => exact ⟨rfl, hne⟩

theorem ec_run_stable {cfg : Config} {evs : List Event} {p p' : PState} {o : OnceId}
    (hi : Inv cfg p.s) (hne : p.s.fEnds o ≠ []) (h : prun cfg p evs = .ok p') :
    p'.ec o = p.ec o :=
  ((isPRun cfg).induct (Q := fun q => Inv cfg q.s ∧ q.s.fEnds o ≠ [] ∧ q.ec o = p.ec o) ⟨hi, hne, rfl⟩
    (fun _ _ _ _ hq hs =>
      have h1 := ec_step_stable hq.1 hq.2.1 hs
      ⟨pstep_inv hq.1 hs, h1.2, h1.1.trans hq.2.2⟩) h).2.2

/-- An accepted `cb … end` of thread `w`: `w` is inside the once-function of some once object
    `g.o`; the event records `w`'s current clock as `ec g.o` and leaves the clocks unchanged. -/
theorem pstep_cbEnd {cfg : Config} {p p' : PState} {w : Tid} {a : Bool}
    (h : pstep cfg p (.cbEnd w a) = .ok p') :
    ∃ g, p.s.pc w = .wCbEnd g ∧ p'.ec g.o = p.c.vc w ∧ p'.s.fEnds g.o ≠ [] ∧ p'.c = p.c := by
  obtain ⟨s', hs, rfl⟩ := pstep_ok h
  cases step_ok hs with
  | skip hn => cases hn
  | @cbEnd _ g hp => exact ⟨g, hp, by simp [endUpd, hp], by simp, rfl⟩

/-- An accepted `ret` of thread `t`: `t` is at `readyRet f` (the return of its call on `f.o`);
    the clocks are unchanged. -/
theorem pstep_ret {cfg : Config} {p p' : PState} {t : Tid} {b a : Bool}
    (h : pstep cfg p (.ret t b a) = .ok p') :
    ∃ f, p.s.pc t = .readyRet f ∧ f.blocking = b ∧ f.arg = a ∧ p'.c = p.c := by
  obtain ⟨s', hs, rfl⟩ := pstep_ok h
  cases step_ok hs with
  | skip hn => cases hn
  | ret hp => exact ⟨_, hp, rfl, rfl, rfl⟩

end Once
