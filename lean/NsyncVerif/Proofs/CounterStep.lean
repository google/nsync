/-
  Proofs/CounterStep.lean — the invariant is preserved by every accepted step.

  The shared state is changed in a dozen ways (take / release counter_mu, the CAS, enqueue, dequeue,
  wake, post, bind, release of a record, ...).  For each of them: `ShInv` is preserved under the
  facts the acting thread's program point supplies, and every other thread may rely on it (`Rely`).
  A transition `Tr` is one of these updates; the facts at the new program point are read off the
  old ones and the guard.
-/
import NsyncVerif.Proofs.CounterTrans
import NsyncVerif.Proofs.CounterInv
import NsyncVerif.Proofs.Run

namespace Counter

variable {sh sh' : Shared} {s s' : State} {t u : Tid} {k : NwId} {j : SemId} {p p' : PC} {e : Ev}

theorem setPc_eq (s : State) (t : Tid) (p : PC) : s.setPc t p = State.mk' s.sh s t p := rfl

theorem bind_eq (h : sh.bind k j = some sh') :
    (sh' = sh ∧ (sh.nw k).sem = some j) ∨
    ((sh.nw k).sem = none ∧ sh.semUser j = none ∧
      sh' = (sh.setRec k { sh.nw k with sem := some j }).setSemUser j (some k)) := by
  unfold Shared.bind at h
  split at h
  · split at h
    · cases h; left; simp_all
    · cases h
  · split at h
    · cases h
    · cases h; right; simp_all

/-- binding a semaphore changes only the records and the semaphores' users -/
theorem bind_frame (h : sh.bind k j = some sh') : ∃ nw su, sh' = { sh with nw := nw, semUser := su } := by
  rcases bind_eq h with ⟨rfl, _⟩ | ⟨_, _, rfl⟩ <;> exact ⟨_, _, rfl⟩

/-- the end of a record's lifetime as one update -/
theorem release_eq (sh : Shared) (k : NwId) : sh.release k =
    { sh with nw := fun i => if i = k then { sh.nw k with live := false, waiting := false } else sh.nw i,
              semUser := fun j => if (sh.nw k).sem = some j then none else sh.semUser j } := by
  unfold Shared.release Shared.setRec Shared.setSemUser
  split <;> rename_i h <;> simp [h, eq_comm]

/-- `ShInv` does not speak of `mu`, `sem`, `now`, `active`. -/
theorem ShInv.frame (hs : ShInv sh) (m f n a) : ShInv { sh with mu := m, sem := f, now := n, active := a } :=
  let ⟨a, b, c, d, e, f, g, h, i, j, k, l, m⟩ := hs; ⟨a, b, c, d, e, f, g, h, i, j, k, l, m⟩

theorem ShInv.malloc (hs : ShInv sh) (hp : sh.phase = .absent) : ShInv { sh with phase := .creating } :=
  let ⟨a, b, c, d, e, f, g, h, i, j, k, l, _⟩ := hs
  ⟨a, b, c, d, e, f, g, h, i, j, fun _ => k (.inr hp), l, nofun⟩

theorem ShInv.freed (hs : ShInv sh) : ShInv { sh with phase := .freed } :=
  let ⟨a, b, c, d, e, f, g, h, i, j, _, l, _⟩ := hs
  ⟨a, b, c, d, e, f, g, h, i, j, by simp, l, nofun⟩

theorem ShInv.newStore (hs : ShInv sh) (hp : sh.phase = .creating) (v : Nat) :
    ShInv { sh with phase := .live, value := v, created := true, initial := v, hist := [v] } := by
  obtain ⟨_, _, _, _, hd⟩ := hs.hnil (hs.creating (.inl hp))
  obtain ⟨a, b, c, d, e, f, g, h, i, j, k, l, m⟩ := hs
  refine ⟨a, b, c, ?_, e, f, ?_, ?_, ?_, ?_, ?_, l, ?_⟩ <;> simp_all [sums]

theorem ShInv.acquire (hs : ShInv sh) (hc : sh.created = true) : ShInv { sh with lockHolder := some t } :=
  let ⟨a, b, c, d, _, f, g, h, i, _, k, l, m⟩ := hs
  ⟨a, b, c, d, nofun, f, g, h, i, fun h => by simp [hc] at h, k, l, m⟩

/-- release of counter_mu; an add that has emptied the queue also ends its wake loop -/
theorem ShInv.unlock (hs : ShInv sh) (hp : sh.posting = none) (hq : sh.waking = true → sh.waiters = []) :
    ShInv { sh with lockHolder := none, waking := false } := by
  obtain ⟨a, b, c, d, e, f, g, h, i, j, k, l, m⟩ := hs
  refine ⟨a, b, c, fun h => (d h).imp_right fun w => absurd (hq w) h, fun _ => ⟨rfl, hp⟩, ?_, nofun, h, i, ?_,
    k, l, m⟩
  · intro k hk; rw [hp] at hk; cases hk
  · intro hc; have := j hc; simp_all

theorem sums_ne_nil (a : Int) (ds : List Int) : sums a ds ≠ [] := by
  cases ds <;> simp [sums]

theorem sums_append (a : Int) (ds : List Int) (d x : Int) (h : (sums a ds).getLast? = some x) :
    sums a (ds ++ [d]) = sums a ds ++ [x + d] := by
  induction ds generalizing a with
  | nil => simp [sums] at h ⊢; omega
  | cons c cs ih =>
    simp only [sums, List.cons_append] at h ⊢
    rw [List.getLast?_cons_of_ne_nil (sums_ne_nil _ _)] at h
    rw [ih _ h]

theorem hsum_append {hist : List Nat} {init : Nat} {deltas : List Int} {value new : Nat} {d : Int}
    (hl : hist.getLast? = some value) (hs : hist.map (fun (n : Nat) => (n : Int)) = sums init deltas)
    (hn : (new : Int) = (value : Int) + d) :
    (hist ++ [new]).map (fun (n : Nat) => (n : Int)) = sums init (deltas ++ [d]) := by
  have h1 : (sums (init : Int) deltas).getLast? = some (value : Int) := by
    rw [← hs, List.getLast?_map, hl]; rfl
  rw [sums_append _ _ _ _ h1, List.map_append, hs]; simp [hn]

theorem ShInv.cas (hs : ShInv sh) (hc : sh.created = true) (hp : sh.posting = none)
    (hl : sh.lockHolder = some t) {new : Nat} {d : Int} (hn : (new : Int) = (sh.value : Int) + d) :
    ShInv { sh with value := new, hist := sh.hist ++ [new], deltas := sh.deltas ++ [d],
                    waking := decide (new = 0) } := by
  obtain ⟨a, b, c, _, _, _, _, h, i, _, k, l, m⟩ := hs
  refine ⟨a, b, c, ?_, ?_, ?_, ?_, ?_, fun _ => hsum_append (h hc) (i hc) hn, ?_, k, l, m⟩ <;> simp_all
  omega

/-- the waker takes the first record off the queue -/
theorem ShInv.wake {tl} (hs : ShInv sh) (hw : sh.waiters = k :: tl) (hk : sh.waking = true) :
    ShInv ({ sh with waiters := tl, posting := some k }.setRec k { sh.nw k with waiting := false }) := by
  obtain ⟨q1, q2, q3, q4, q5, q6, q7, q8, q9, q10, q11, q12, q13⟩ := hs
  refine ⟨?_, ?_, ?_, ?_, ?_, ?_, q7, q8, q9, ?_, q11, ?_, q13⟩ <;> simp only [Shared.setRec] <;> grind

theorem ShInv.bind (hs : ShInv sh) (h : sh.bind k j = some sh') : ShInv sh' := by
  rcases bind_eq h with ⟨rfl, _⟩ | ⟨h1, h2, rfl⟩
  · exact hs
  · obtain ⟨q1, q2, q3, q4, q5, q6, q7, q8, q9, q10, q11, q12, q13⟩ := hs
    refine ⟨?_, ?_, q3, q4, q5, ?_, q7, q8, q9, q10, q11, ?_, q13⟩ <;>
      simp only [Shared.setRec, Shared.setSemUser] <;> grind

/-- the waker has posted the semaphore of the record it took off the queue -/
theorem ShInv.posted (hs : ShInv sh) (f) : ShInv { sh with sem := f, posting := none } :=
  let ⟨a, b, c, d, e, _, g, h, i, j, k, l, m⟩ := hs
  ⟨a, b, c, d, fun h => ⟨(e h).1, rfl⟩, nofun, g, h, i, j, k, l, m⟩

theorem ShInv.waited (hs : ShInv sh) (hc : sh.created = true) : ShInv { sh with waited := true } :=
  let ⟨a, b, c, d, e, f, g, h, i, _, k, l, m⟩ := hs
  ⟨a, b, c, d, e, f, g, h, i, fun h => by simp [hc] at h, k, l, m⟩

theorem ShInv.wInit (hs : ShInv sh) (hl : (sh.nw k).live = false) :
    ShInv (sh.setRec k { live := true, waiting := false, sem := none, owner := t }) := by
  obtain ⟨q1, q2, q3, q4, q5, q6, q7, q8, q9, q10, q11, q12, q13⟩ := hs
  refine ⟨?_, ?_, q3, q4, q5, ?_, q7, q8, q9, q10, q11, ?_, q13⟩ <;> simp only [Shared.setRec] <;> grind

theorem ShInv.enqueue (hs : ShInv sh) (hl : (sh.nw k).live = true) (hw : (sh.nw k).waiting = false)
    (hc : sh.created = true) (hv : sh.value ≠ 0) :
    ShInv ({ sh with waiters := sh.waiters ++ [k] }.setRec k { sh.nw k with waiting := true }) := by
  obtain ⟨q1, q2, q3, q4, q5, q6, q7, q8, q9, q10, q11, q12, q13⟩ := hs
  refine ⟨?_, ?_, ?_, fun _ => .inl hv, q5, ?_, q7, q8, q9, ?_, q11, ?_, q13⟩ <;> simp only [Shared.setRec] <;>
    grind

theorem setRec_waiting (hw : (sh.nw k).waiting = false) :
    sh.setRec k { sh.nw k with waiting := false } = sh := by
  have : (fun i => if i = k then { sh.nw k with waiting := false } else sh.nw i) = sh.nw := by
    funext i; split
    · subst i; rw [← hw]
    · rfl
  simp only [Shared.setRec, this]

theorem ShInv.dequeue (hs : ShInv sh) :
    ShInv ({ sh with waiters := sh.waiters.erase k }.setRec k { sh.nw k with waiting := false }) := by
  obtain ⟨q1, q2, q3, q4, q5, q6, q7, q8, q9, q10, q11, q12, q13⟩ := hs
  refine ⟨?_, ?_, ?_, ?_, q5, ?_, q7, q8, q9, ?_, q11, ?_, q13⟩ <;> simp only [Shared.setRec] <;> grind

theorem ShInv.release (hs : ShInv sh) (hl : (sh.nw k).live = true) (hw : (sh.nw k).waiting = false)
    (hp : sh.posting ≠ some k) : ShInv (sh.release k) := by
  obtain ⟨q1, q2, q3, q4, q5, q6, q7, q8, q9, q10, q11, q12, q13⟩ := hs
  rw [release_eq]
  refine ⟨?_, ?_, q3, q4, q5, ?_, q7, q8, q9, q10, q11, ?_, q13⟩ <;> grind

theorem Rely.refl (sh : Shared) (u : Tid) : Rely sh sh u := by
  constructor <;> simp_all

theorem append_nil_ex {α} (l : List α) : ∃ m, l = l ++ m := ⟨[], (List.append_nil l).symm⟩

/-- `Rely` does not speak of `phase`, `mu`, `active`. -/
theorem rely_frame (sh : Shared) (u : Tid) (ph m a) : Rely sh { sh with phase := ph, mu := m, active := a } u :=
  let ⟨a, b, c, d, e, f, g, h, i, j, k, l, m, n⟩ := Rely.refl sh u; ⟨a, b, c, d, e, f, g, h, i, j, k, l, m, n⟩

theorem rely_newStore (hs : ShInv sh) (hc : sh.created = false) (u : Tid) (v : Nat) :
    Rely sh { sh with phase := .live, value := v, created := true, initial := v, hist := [v] } u := by
  obtain ⟨h1, _, h2, h3, _⟩ := hs.hnil hc
  constructor <;> simp_all [own, woken, semPos]

theorem rely_acquire (hl : sh.lockHolder = none) (hu : u ≠ t) : Rely sh { sh with lockHolder := some t } u := by
  constructor <;> simp_all [own, woken, semPos] <;> grind

theorem rely_unlock (hl : sh.lockHolder = some t) (hu : u ≠ t) (w : Bool) :
    Rely sh { sh with lockHolder := none, waking := w } u := by
  constructor <;> simp_all [own, woken, semPos] <;> grind

theorem rely_cas (hl : sh.lockHolder = some t) (hu : u ≠ t) {new : Nat}
    (hz : sh.waited = true → sh.value = 0 → new = 0) (d : Int) :
    Rely sh { sh with value := new, hist := sh.hist ++ [new], deltas := sh.deltas ++ [d],
                      waking := decide (new = 0) } u := by
  constructor <;> simp_all [own, woken, semPos] <;> grind

theorem rely_wake {tl} (hs : ShInv sh) (hw : sh.waiters = k :: tl) (hp : sh.posting = none)
    (hl : sh.lockHolder = some t) (hu : u ≠ t) :
    Rely sh ({ sh with waiters := tl, posting := some k }.setRec k { sh.nw k with waiting := false }) u := by
  have hq := (hs.queue k).1 (by simp [hw])
  refine ⟨?_, ?_, ?_, ?_, append_nil_ex _, ?_, ?_, ?_, ?_, ?_, ?_, ?_, ?_, ?_⟩ <;> simp only [Shared.setRec, own, woken, semPos] <;> grind

/-- the waker posts: the owner of the record sees it woken, at value 0, with a positive semaphore -/
theorem rely_post (hs : ShInv sh) (h : sh.bind k j = some sh') (hp : sh.posting = some k)
    (hl : sh.lockHolder = some t) (hu : u ≠ t) :
    Rely sh { sh'.setSem j (sh'.sem j + 1) with posting := none } u := by
  have hz := hs.wk0 (hs.post k hp).1
  rcases bind_eq h with ⟨rfl, _⟩ | ⟨h1, h2, rfl⟩ <;>
    refine ⟨?_, ?_, ?_, ?_, append_nil_ex _, ?_, ?_, ?_, ?_, ?_, ?_, ?_, ?_, ?_⟩ <;>
    simp only [Shared.setSem, Shared.setRec, Shared.setSemUser, own, woken, semPos] <;> grind

theorem rely_waited (sh : Shared) (u : Tid) : Rely sh { sh with waited := true } u := by
  constructor <;> simp_all [own, woken, semPos]

/-- a change of a record that `u` does not own, and of the queue -/
theorem rely_setRec (hk : ¬ own sh u k) (w : List NwId) (r : Rec) :
    Rely sh ({ sh with waiters := w }.setRec k r) u := by
  refine ⟨?_, ?_, ?_, ?_, append_nil_ex _, ?_, ?_, ?_, ?_, ?_, ?_, ?_, ?_, ?_⟩ <;> simp only [Shared.setRec, own, woken, semPos] at hk ⊢ <;>
    grind

theorem rely_bind (h : sh.bind k j = some sh') (hk : ¬ own sh u k) : Rely sh sh' u := by
  rcases bind_eq h with ⟨rfl, _⟩ | ⟨h1, h2, rfl⟩
  · exact Rely.refl _ _
  · refine ⟨?_, ?_, ?_, ?_, append_nil_ex _, ?_, ?_, ?_, ?_, ?_, ?_, ?_, ?_, ?_⟩ <;>
      simp only [Shared.setRec, Shared.setSemUser, own, woken, semPos] at hk ⊢ <;> grind

theorem rely_release (hk : ¬ own sh u k) : Rely sh (sh.release k) u := by
  rw [release_eq]
  refine ⟨?_, ?_, ?_, ?_, append_nil_ex _, ?_, ?_, ?_, ?_, ?_, ?_, ?_, ?_, ?_⟩ <;>
    simp only [own, woken, semPos] at hk ⊢ <;> grind

/-- a semaphore count changes; it does not go down on a semaphore that a record of `u` uses -/
theorem rely_setSem (u : Tid) {n : Nat} (hj : ∀ k, own sh u k → (sh.nw k).sem = some j → sh.sem j ≤ n) :
    Rely sh (sh.setSem j n) u := by
  refine ⟨?_, ?_, ?_, ?_, append_nil_ex _, ?_, ?_, ?_, ?_, ?_, ?_, ?_, ?_, ?_⟩ <;> simp only [Shared.setSem, own, woken, semPos] at hj ⊢ <;>
    grind

theorem rely_tick (u : Tid) {n : Nat} (h : sh.now ≤ n) : Rely sh { sh with now := n } u := by
  constructor <;> simp_all [own, woken, semPos]

theorem inv_mk' (hi : Inv s) (hsh : ShInv sh') (hp : pcInv sh' t p')
    (hr : ∀ u, u ≠ t → Rely s.sh sh' u) : Inv (State.mk' sh' s t p') := by
  refine ⟨hsh, fun u => ?_⟩
  by_cases hu : u = t
  · subst hu; simpa [State.mk'] using hp
  · simp only [State.mk', hu, if_false]
    exact pcInv_rely (hr u hu) (hi.pcs u)

theorem inv_sh (hi : Inv s) (hsh : ShInv sh') (hr : ∀ u, Rely s.sh sh' u) : Inv { s with sh := sh' } :=
  ⟨hsh, fun u => pcInv_rely (hr u) (hi.pcs u)⟩

theorem inv_dflt {idle : Bool} (hi : Inv s) (h : dflt s idle e = .ok s') : Inv s' := by
  obtain ⟨_, _, _, rfl | ⟨j, n, rfl, hn⟩⟩ := dflt_ok h
  · exact hi
  · refine inv_sh hi (hi.sh.frame _ _ _ _) fun u => rely_setSem u fun k ho hk => ?_
    rcases hn with ⟨_, rfl⟩ | ⟨hu, _⟩
    · exact Nat.le_succ _
    · rw [hi.sh.semu k _ ho.1 hk] at hu; cases hu

theorem value_mem_hist (hs : ShInv sh) (hc : sh.created = true) : sh.value ∈ sh.hist :=
  List.mem_of_getLast? (hs.last hc)

theorem wrapAdd_eq {v : Nat} {d : Int} (h1 : ¬ ((v : Int) + d < 0)) (h2 : ¬ ((two32 : Int) ≤ (v : Int) + d)) :
    ((wrapAdd v d : Nat) : Int) = (v : Int) + d := by
  unfold wrapAdd
  have : ((v : Int) + d) % (two32 : Int) = (v : Int) + d := Int.emod_eq_of_lt (by omega) (by omega)
  rw [this]; omega

/-- what the guard of a successful CAS says: it was applied to the current value and did not wrap -/
theorem cas_ok {v exp new obs : Nat} {ok : Bool} {d : Int}
    (hc : exp = v ∧ new = wrapAdd v d ∧ obs = sh.value ∧ ok = decide (obs = exp)) (ho : ok = true)
    (h1 : ¬ (v : Int) + d < 0) (h2 : ¬ (two32 : Int) ≤ (v : Int) + d) :
    v = sh.value ∧ (new : Int) = (sh.value : Int) + d := by
  obtain ⟨he, hn, hob, hk⟩ := hc
  have hv : v = sh.value := by rw [hk, he, hob] at ho; exact (of_decide_eq_true ho).symm
  exact ⟨hv, by rw [hn, ← hv]; exact wrapAdd_eq h1 h2⟩

/-- the contract check of the CAS keeps a zero that a waiter may have seen -/
theorem cas_zero {v new : Nat} {d : Int} (hv : v = sh.value) (hn : (new : Int) = (sh.value : Int) + d)
    (h3 : ¬ (v = 0 ∧ 0 < d ∧ sh.waited)) (hw : sh.waited = true) (hz : sh.value = 0) : new = 0 := by
  have : ¬ 0 < d := fun h => h3 ⟨hv.trans hz, h, hw⟩
  rw [hz] at hn; omega

theorem not_own (ho : own sh t k) (hu : u ≠ t) : ¬ own sh u k := fun h => hu (h.2.symm.trans ho.2)

theorem ShInv.tr (hs : ShInv sh) (hp : pcInv sh t p) (h : Tr sh t p e sh' p') : ShInv sh' := by
  cases h with
  | callAddZero | callAdd | callValue | callWait | valRet | azRet | aRet | wRet | pdWoken
  | fLockCall | aLockCall | wEnqLockCall | wDeqLockCall => exact hs.frame _ _ _ _
  | mallocOk h => exact hs.malloc h
  | newStore h => obtain ⟨rfl, _, h⟩ := h; exact hs.newStore h _
  | fFree => exact hs.freed
  | fLockWait => exact hs.acquire hp.2
  | aLockWait => exact hs.acquire hp.2.1
  | wEnqLockWait | wDeqLockWait => exact hs.acquire hp.2.1.created
  | fHeld => exact hp.2.2.waking ▸ hs.unlock hp.2.2.posting (by simp [hp.2.2.waking])
  | wEnqUnlockCall | wDeqUnlockCall =>
    exact hp.2.2.1.waking ▸ hs.unlock hp.2.2.1.posting (by simp [hp.2.2.1.waking])
  | aUnlock h => exact hs.unlock hp.2.2.2.2.2 fun w => h.2 (hp.2.2.2.2.1 ▸ w)
  | casWaited hc ho h1 h2 | casHeld hc ho h1 h2 =>
    exact hs.cas hp.2.1 hp.2.2.1.posting (hp.1.2 rfl) (cas_ok hc ho h1 h2).2
  | wake hw h => obtain ⟨rfl, rfl, _⟩ := h; exact hs.wake hw hp.2.2.2.2.1
  | aPost h => exact (hs.bind h).posted _
  | w0Store | wLoopStore => first | exact hs.waited hp.2 | exact hs.waited hp.2.1.created
  | wInit h => exact hs.wInit h.2
  | enqueue h hv => obtain ⟨rfl, _⟩ := h; exact hs.enqueue hp.2.1.own.1 hp.2.2.1 hp.2.1.created (hp.2.2.2.2 ▸ hv)
  | noEnqueue h => obtain ⟨rfl, _⟩ := h; exact (setRec_waiting hp.2.2.1).symm ▸ hs
  | wPdEnter _ h => exact hs.bind h
  | dequeue h => obtain ⟨rfl, _⟩ := h; exact hs.dequeue
  | deqZero | deqNonzero => exact hs.release hp.2.1.own.1 hp.2.2.2.2.1.1 hp.2.2.2.2.1.2
  | _ => exact hs

theorem rely_tr (hs : ShInv sh) (hp : pcInv sh t p) (h : Tr sh t p e sh' p') (hu : u ≠ t) : Rely sh sh' u := by
  cases h with
  | callAddZero | callAdd | callValue | callWait | valRet | azRet | aRet | wRet | mallocOk | fFree
  | fLockCall | aLockCall | wEnqLockCall | wDeqLockCall => exact rely_frame _ _ _ _ _
  | newStore h => obtain ⟨rfl, _, h⟩ := h; exact rely_newStore hs (hs.creating (.inl h)) _ _
  | fLockWait h | aLockWait h | wEnqLockWait h | wDeqLockWait h => exact rely_acquire h hu
  | fHeld | wEnqUnlockCall | wDeqUnlockCall | aUnlock => exact rely_unlock (hp.1.2 rfl) hu _
  | casWaited hc ho h1 h2 h3 | casHeld hc ho h1 h2 h3 =>
    obtain ⟨hv, hn⟩ := cas_ok hc ho h1 h2
    exact rely_cas (hp.1.2 rfl) hu (cas_zero hv hn h3) _
  | wake hw h => obtain ⟨_, rfl, _⟩ := h; exact rely_wake hs hw hp.2.2.2.2.2 (hp.1.2 rfl) hu
  | aPost h => exact rely_post hs h hp.2.2.2.2.2 (hp.1.2 rfl) hu
  | w0Store | wLoopStore => exact rely_waited _ _
  | wInit h => exact rely_setRec (fun ho => Bool.noConfusion (ho.1.symm.trans h.2)) _ _
  | enqueue h | noEnqueue h | dequeue h => obtain ⟨rfl, _⟩ := h; exact rely_setRec (not_own hp.2.1.own hu) _ _
  | wPdEnter _ h => exact rely_bind h (not_own hp.2.1.own hu)
  | pdWoken =>
    refine rely_setSem u fun k' ho hk => absurd ho ?_
    cases (hs.semu _ _ ho.1 hk).symm.trans (hs.semu _ _ hp.2.1.own.1 hp.2.2.1)
    exact not_own hp.2.1.own hu
  | deqZero | deqNonzero => exact rely_release (not_own hp.2.1.own hu)
  | _ => exact Rely.refl _ _

theorem addGhost_append {hist : List Nat} {value new : Nat} {d : Int}
    (hl : hist.getLast? = some value) (hn : (new : Int) = (value : Int) + d) :
    addGhost (hist ++ [new]) d new hist.length := by
  refine ⟨by simp, ?_⟩
  cases hist with
  | nil => simp at hl
  | cons x xs =>
    refine ⟨xs.length, value, by simp, ?_, hn⟩
    rw [List.getLast?_eq_getElem?] at hl
    simp only [List.length_cons, Nat.add_sub_cancel] at hl
    exact getElem?_append_some hl

/-- the facts at the new program point follow from those at the old one and the guard -/
theorem pcInv_tr (hs : ShInv sh) (hp : pcInv sh t p) (h : Tr sh t p e sh' p') : pcInv sh' t p' := by
  have hvm := @value_mem_hist _ hs
  have hdp := @expired_of_dlePast
  have h5 := hs.free
  have h6 := hs.post
  have h13 := hs.phase
  cases h with
  | casWaited hc ho h1 h2 | casHeld hc ho h1 h2 =>
    obtain ⟨hv, hn⟩ := cas_ok hc ho h1 h2
    have hg := addGhost_append (hs.last hp.2.1) hn
    simp only [pcInv, pcFacts, quiet_iff, holds] at hp ⊢
    grind
  | aPost h | wPdEnter _ h =>
    rcases bind_eq h with ⟨rfl, hb⟩ | ⟨hb1, hb2, rfl⟩ <;>
      simp only [pcInv, pcFacts, mine_iff, holds, own, woken, semPos, Shared.setRec, Shared.setSem, Shared.setSemUser]
        at hp ⊢ <;> grind
  | _ =>
    simp only [pcInv, pcFacts, mine_iff, quiet_iff, holds, own, woken, semPos, Shared.setRec, Shared.setSem, release_eq] at hp ⊢
    grind

theorem inv_stepThr (hi : Inv s) (h : stepThr s t e = .ok s') : Inv s' := by
  rcases stepThr_ok h with ⟨⟨_, hd⟩, _⟩ | ⟨sh', p', htr, rfl⟩
  · exact inv_dflt hi hd
  · have hp := hi.pcs t
    exact inv_mk' hi (hi.sh.tr hp htr) (pcInv_tr hi.sh hp htr) fun u hu => rely_tr hi.sh hp htr hu

theorem step_tick {ns : Nat} (h : step s (.tick ns) = .ok s') :
    s.sh.now ≤ ns ∧ s' = { s with sh := { s.sh with now := ns } } := by
  simp only [step] at h
  split at h
  · cases h; exact ⟨‹_›, rfl⟩
  · cases h

theorem inv_step {e : Event} (hi : Inv s) (h : step s e = .ok s') : Inv s' := by
  cases e with
  | thr t e => exact inv_stepThr hi h
  | tick ns =>
    obtain ⟨hle, rfl⟩ := step_tick h
    exact inv_sh hi (hi.sh.frame _ _ _ _) fun u => rely_tick u hle

theorem inv_init : Inv init := by
  refine ⟨?_, ?_⟩
  · constructor <;> simp [init, Shared.init]
  · intro t; simp [init, Shared.init, pcInv, pcFacts, holds]

theorem isRun : NsyncVerif.IsRun step run := ⟨fun _ => rfl, fun s e _ => by rw [run]; cases step s e <;> rfl⟩

theorem inv_run {evs : List Event} (hi : Inv s) (h : run s evs = .ok s') : Inv s' :=
  isRun.induct hi (fun _ _ _ _ hq hs => inv_step hq hs) h

theorem inv_of_reachable (h : Reachable s) : Inv s := by
  obtain ⟨evs, h⟩ := h
  exact inv_run inv_init h

theorem run_append (a b : List Event) (s : State) :
    run s (a ++ b) = match run s a with | .ok s1 => run s1 b | .error m => .error m := by
  induction a generalizing s with
  | nil => rfl
  | cons e es ih =>
    simp only [List.cons_append, run]
    cases hs : step s e with
    | ok s1 => simp only [ih]
    | error m => rfl

theorem reachable_step {e : Event} (hr : Reachable s) (h : step s e = .ok s') : Reachable s' := by
  obtain ⟨evs, he⟩ := hr
  exact ⟨evs ++ [e], isRun.snoc he h⟩

theorem Reachable.induct {P : State → Prop} (h0 : P init)
    (hstep : ∀ s e s', Reachable s → P s → step s e = .ok s' → P s') {s : State} (h : Reachable s) : P s := by
  obtain ⟨evs, he⟩ := h
  exact isRun.induct h0 hstep he

end Counter
