/-
  Futex layer (C12): the accepted steps of the acceptor `Futex.step` as a relation (`Step`), the
  inductive invariant `Inv`, its preservation, and `Reachable → Inv`.

  Every fact about one ACCEPTED step goes through `Step.of_step`: one case per event and program
  point at which the event is accepted, with the guards and the successor state written out; that
  an event IS accepted goes through the converse `Step.accepted` (only `step_bump`, which speaks of
  the value of `step` on every event, opens it).  Preservation
  of `Inv` is proved per kind of update (the program point of one thread; one shared field at
  unchanged program points; the two updates that move a counter together with a program point) and
  `Inv.step` composes these.
-/
import NsyncVerif.Model.Futex
import NsyncVerif.Proofs.Run

namespace NsyncVerif.Futex

inductive Step (s : State) : Event → State → Prop
  | tick (h : s.now ≤ ns) : Step s (.tick ns) { s with now := ns }
  | callP (hpc : s.pc t = .idle) (ho : s.owner = none ∨ s.owner = some t) :
      Step s (.callP t) { s with owner := some t, pc := setPc s.pc t (.wLoad .p) }
  | callPD (hpc : s.pc t = .idle) (ho : s.owner = none ∨ s.owner = some t) :
      Step s (.callPD t dl) { s with owner := some t, pc := setPc s.pc t (.wLoad (.pd dl)) }
  | callV (hpc : s.pc t = .idle) : Step s (.callV t) { s with pc := setPc s.pc t .vLoad }
  | retP (hpc : s.pc t = .wRet .p false) :
      Step s (.retP t) { s with pc := setPc s.pc t .idle, succRets := s.succRets + 1 }
  | retPD (hpc : s.pc t = .wRet (.pd dl) b) :
      Step s (.retPD t b) { s with pc := setPc s.pc t .idle,
                                   succRets := if b then s.succRets else s.succRets + 1,
                                   toRets := if b then s.toRets + 1 else s.toRets }
  | retV (hpc : s.pc t = .vRet) : Step s (.retV t) { s with pc := setPc s.pc t .idle }
  | wLd (hpc : s.pc t = .wLoad k) :
      Step s (.ld t (ldSite k) .rlx s.word)
        { s with pc := setPc s.pc t (if s.word = 0 then .wWait k else .wCas k s.word) }
  | vLd (hpc : s.pc t = .vLoad) :
      Step s (.ld t vLdSite .rlx s.word) { s with pc := setPc s.pc t (.vCas s.word) }
  | take (hpc : s.pc t = .wCas k s.word) :
      Step s (.cas t (casSite k) .acq s.word (s.word - 1) s.word true)
        { s with word := s.word - 1, takes := s.takes + 1, pc := setPc s.pc t (.wRet k false) }
  | takeFail (hpc : s.pc t = .wCas k i) (hne : s.word ≠ i) :
      Step s (.cas t (casSite k) .acq i (i - 1) s.word false) { s with pc := setPc s.pc t (.wLoad k) }
  | post (hpc : s.pc t = .vCas s.word) (hlt : s.word + 1 < limit) :
      Step s (.cas t vCasSite .rel s.word (s.word + 1) s.word true)
        { s with word := s.word + 1, posts := s.posts + 1, pc := setPc s.pc t .vWake }
  | postFail (hpc : s.pc t = .vCas old) (hlt : old + 1 < limit) (hne : s.word ≠ old) :
      Step s (.cas t vCasSite .rel old (old + 1) s.word false) { s with pc := setPc s.pc t .vLoad }
  | fwait (hpc : s.pc t = .wWait k) :
      Step s (.fwait t 0 k.timeout)
        { s with sleeper := if s.word = 0 then some ⟨k.timeout, false⟩ else none,
                 pc := setPc s.pc t (.wSleep k) }
  | timedOut (hpc : s.pc t = .wSleep (.pd dl))
      (hr : waitRetAllowed s.sleeper .etimedout = true) :
      Step s (.fwaitRet t .etimedout) { s with sleeper := none, pc := setPc s.pc t (.wNow dl) }
  | fwaitRet (hpc : s.pc t = .wSleep k)
      (hr : waitRetAllowed s.sleeper r = true) (hne : r ≠ .etimedout) :
      Step s (.fwaitRet t r) { s with sleeper := none, pc := setPc s.pc t (.wLoad k) }
  | fwake (hpc : s.pc t = .vWake) :
      Step s (.fwake t 1 (wakeCount s.sleeper))
        { s with sleeper := markWoken s.sleeper, pc := setPc s.pc t .vRet }
  | now (hpc : s.pc t = .wNow dl) :
      Step s (.now t s.now)
        { s with pc := setPc s.pc t (if expired dl s.now then .wRet (.pd dl) true else .wLoad (.pd dl)) }

theorem Step.of_step (hs : step s e = .ok s') : Step s e s' := by
  -- per event: open the match on the program point, then the guard; every branch but the accepting
  -- one returns `.error`, which `cases hs` refutes, and `cases hs` on the accepting one names `s'`
  cases e <;> simp only [step] at hs
  case st => cases hs
  case tick => split at hs <;> cases hs; exact .tick ‹_›
  all_goals split at hs <;> try split at hs
  all_goals try cases hs
  -- what is left: the accepting branch of each event, in the order of `Event`
  · exact .callP ‹_› ‹_›
  · exact .callPD ‹_› ‹_›
  · exact .callV ‹_›
  · exact .retP ‹_›
  · subst ‹_ = _›; exact .retPD ‹_›
  · exact .retV ‹_›
  · obtain ⟨rfl, rfl, rfl⟩ := ‹_ ∧ _›; exact .wLd ‹_›
  · obtain ⟨rfl, rfl, rfl⟩ := ‹_ ∧ _›; exact .vLd ‹_›
  · obtain ⟨rfl, rfl, rfl, rfl, rfl, rfl⟩ := ‹_ ∧ _›
    split at hs <;> cases hs
    · subst ‹_ = _›; simpa using Step.take ‹_›
    · simpa [*] using Step.takeFail ‹_› ‹_›
  · obtain ⟨rfl, rfl, rfl, rfl, rfl, rfl⟩ := ‹_ ∧ _›
    split at hs <;> try split at hs
    all_goals cases hs
    · subst ‹_ = _›; simpa using Step.post ‹_› ‹_›
    · simpa [*] using Step.postFail ‹_› ‹_› ‹_›
  · obtain ⟨rfl, rfl⟩ := ‹_ ∧ _›
    have h := Step.fwait ‹s.pc _ = _›
    split at hs <;> cases hs
    · rwa [if_pos ‹_›] at h
    · rwa [if_neg ‹_›] at h
  · split at hs <;> cases hs
    · exact .timedOut ‹_› ‹_›
    · next k _ _ _ _ h1 h2 =>
      exact .fwaitRet ‹_› ‹_› (by rintro rfl; cases k <;> simp at h1 h2)
  · obtain ⟨rfl, rfl⟩ := ‹_ ∧ _›; exact .fwake ‹_›
  · subst ‹_ = _›; exact .now ‹_›

theorem Step.accepted (h : Step s e s') : step s e = .ok s' := by
  cases h <;> simp [step, *]
  -- left: the futex wait, whose compare-and-sleep `step` writes as two branches
  split <;> simp [*]

@[simp] theorem setPc_same (f : Tid → PC) (t : Tid) (v : PC) : setPc f t v t = v := by simp [setPc]

theorem setPc_other (f : Tid → PC) {t u : Tid} (v : PC) (h : u ≠ t) : setPc f t v u = f u := by
  simp [setPc, h]

theorem expired_eq_true {dl : Option Nat} {n : Nat} :
    expired dl n = true ↔ ∃ d, dl = some d ∧ d ≤ n := by
  cases dl <;> simp [expired]

theorem asleepInfo_markWoken (sl : Option SleepInfo) : asleepInfo (markWoken sl) = false := by
  cases sl <;> simp [asleepInfo, markWoken]

theorem markWoken_eq_some {sl : Option SleepInfo} {si : SleepInfo} :
    markWoken sl = some si ↔ ∃ s0, sl = some s0 ∧ si = { s0 with woken := true } := by
  cases sl <;> simp [markWoken, eq_comm]

/-- A call of the interface: P or P_with_deadline (with its deadline), or V. -/
inductive Call where
  | wait (k : WKind)
  | post

def PC.call : PC → Option Call
  | .idle => none
  | .wLoad k | .wWait k | .wSleep k | .wCas k _ | .wRet k _ => some (.wait k)
  | .wNow dl => some (.wait (.pd dl))
  | .vLoad | .vCas _ | .vWake | .vRet => some .post

theorem PC.isWaiter_iff {p : PC} : p.isWaiter = true ↔ ∃ k, p.call = some (.wait k) := by
  cases p <;> simp [PC.isWaiter, PC.call]

theorem callDeadline_eq_some : callDeadline s t = some d ↔ (s.pc t).call = some (.wait (.pd d)) := by
  unfold callDeadline
  cases s.pc t <;> (try cases ‹WKind›) <;> simp [PC.call]

/-- Until it returns, every step leaves a thread inside the call it is executing. -/
theorem Step.call (h : Step s e s') (hc : (s.pc t).call = some c) :
    s'.pc t = .idle ∨ (s'.pc t).call = some c := by
  by_cases hne : s'.pc t = s.pc t
  · exact Or.inr (hne ▸ hc)
  cases h
  case tick => exact absurd rfl hne
  all_goals
    obtain rfl : t = _ := Classical.byContradiction fun h => hne (setPc_other _ _ h)
    rw [‹s.pc t = _›] at hc
  case callP | callPD | callV => cases hc
  case retP | retPD | retV => exact Or.inl (setPc_same ..)
  case wLd | now => exact Or.inr (by rw [show State.pc _ t = _ from setPc_same ..]; split <;> exact hc)
  all_goals exact Or.inr (by rw [show State.pc _ t = _ from setPc_same ..]; exact hc)

/-- The inductive invariant, all clauses but `rets`.
  cons      word = posts − takes
  nonOwner  only the owner is ever inside P / P_with_deadline
  sleepPc   the kernel's sleeper record belongs to the owner, which is at its futex wait
  casPos    the decrementing CAS is only attempted with i > 0 (the count never goes negative)
  casLe     … and with i ≤ word: the waiter loaded i from the word and only posts happened since
  noLost    asleep → word = 0 ∨ some poster is between its CAS and its futex wake
  toReal    result = ETIMEDOUT → the call has a finite deadline ≤ now
  fits      word < 2^32 -/
structure Inv0 (s : State) : Prop where
  cons : s.word + s.takes = s.posts
  nonOwner : ∀ t, s.owner ≠ some t → (s.pc t).isWaiter = false
  sleepPc : ∀ si, s.sleeper = some si →
    ∃ o k, s.owner = some o ∧ s.pc o = .wSleep k ∧ si.deadline = k.timeout
  casPos : ∀ t k i, s.pc t = .wCas k i → 0 < i
  casLe : ∀ t k i, s.pc t = .wCas k i → i ≤ s.word
  noLost : s.asleep → s.word = 0 ∨ ∃ p, s.pc p = .vWake
  toReal : ∀ t k, s.pc t = .wRet k true → ∃ d, k = .pd (some d) ∧ d ≤ s.now
  fits : s.word < limit

/-- The inductive invariant.
  rets      successful returns = takes − (take in flight); the one clause that ties a counter to a
            program point, so it is kept apart from the clauses a move of one thread preserves -/
structure Inv (s : State) : Prop extends Inv0 s where
  rets : s.succRets + inFlight s = s.takes

theorem Inv0.owner_of_waiter (h : Inv0 s) (hw : (s.pc t).isWaiter = true) :
    s.owner = some t :=
  Classical.byContradiction fun hc => by rw [h.nonOwner t hc] at hw; cases hw

theorem Inv0.waiter_unique (h : Inv0 s) (ht : (s.pc t).isWaiter = true)
    (hu : (s.pc u).isWaiter = true) : t = u :=
  Option.some.inj ((h.owner_of_waiter ht).symm.trans (h.owner_of_waiter hu))

/-- Nobody is queued in the kernel unless the owner is at its futex wait. -/
theorem Inv0.sleeper_none (h : Inv0 s) (ho : s.owner = none ∨ s.owner = some o)
    (hpc : ∀ k, s.pc o ≠ .wSleep k) : s.sleeper = none := by
  cases hsl : s.sleeper with
  | none => rfl
  | some si =>
    obtain ⟨o', k, ho', hpo, _⟩ := h.sleepPc si hsl
    rcases ho with ho | ho <;> rw [ho] at ho' <;> cases ho'
    exact absurd hpo (hpc k)

theorem forall_setPc {Q : Tid → PC → Prop} {f : Tid → PC} {t : Tid} {p' : PC} (h : ∀ u, Q u (f u))
    (ht : Q t p') : ∀ u, Q u (setPc f t p' u) := by
  intro u
  by_cases hut : u = t
  · subst hut; rw [setPc_same]; exact ht
  · rw [setPc_other _ _ hut]; exact h u

theorem inFlight_eq_zero {s : State} (h : ∀ o k, s.owner = some o → s.pc o ≠ .wRet k false) :
    inFlight s = 0 := by
  unfold inFlight
  split
  · rfl
  · split
    · exact absurd ‹_› (h _ _ ‹_›)
    · rfl

/-- The take in flight is a matter of the owner's program point only. -/
theorem inFlight_move {s s' : State} (ho : s'.owner = s.owner)
    (hpc : s'.pc = setPc s.pc t p') (hp : ∀ k, s.pc t ≠ .wRet k false) (hp' : ∀ k, p' ≠ .wRet k false) :
    inFlight s' = inFlight s := by
  by_cases hot : s.owner = some t
  · rw [inFlight_eq_zero (s := s) fun o k h => by rw [hot] at h; cases h; exact hp k,
      inFlight_eq_zero fun o k h => by
        rw [ho, hot] at h; cases h; rw [hpc, setPc_same]; exact hp' k]
  · unfold inFlight
    rw [ho, hpc]
    split
    · rfl
    · next o h => rw [setPc_other _ _ fun e => hot (by rw [h, e])]

section
variable {s : State} {t : Tid}

/-- Only the program point of `t` changes, from `p` to `p'`.  Leaving `p` is harmless when `t` is
    not queued in the kernel and is not the poster an asleep waiter counts on; entering `p'` when
    only the owner enters a waiter's program point and `p'` claims nothing `casPos` / `casLe` /
    `toReal` forbid. -/
theorem Inv0.move {p p' : PC} (h : Inv0 s) (hpc : s.pc t = p)
    (hp : (∀ k, p = .wSleep k → s.sleeper = none) ∧ (p = .vWake → ¬ s.asleep))
    (hp' : (p'.isWaiter = true → p.isWaiter = true ∨ s.owner = some t) ∧
      (∀ k i, p' = .wCas k i → 0 < i ∧ i ≤ s.word) ∧
      ∀ k, p' = .wRet k true → ∃ d, k = .pd (some d) ∧ d ≤ s.now) :
    Inv0 { s with pc := setPc s.pc t p' } := by
  subst hpc
  obtain ⟨hsl, hvw⟩ := hp
  obtain ⟨hw, hcas, hto⟩ := hp'
  exact {
    cons := h.cons
    fits := h.fits
    nonOwner := forall_setPc (Q := fun u p => s.owner ≠ some u → p.isWaiter = false) h.nonOwner
      fun hu => by
        cases hq : p'.isWaiter
        · rfl
        · exact absurd ((hw hq).elim h.owner_of_waiter id) hu
    sleepPc := fun si hsi => by
      obtain ⟨o, k, ho, hpo, hd⟩ := h.sleepPc si hsi
      have hot : o ≠ t := fun hot => by rw [hsl k (by rw [← hot]; exact hpo)] at hsi; cases hsi
      exact ⟨o, k, ho, (setPc_other _ _ hot).trans hpo, hd⟩
    casPos := forall_setPc (Q := fun _ p => ∀ k i, p = .wCas k i → 0 < i) h.casPos
      fun k i hq => (hcas k i hq).1
    casLe := forall_setPc (Q := fun _ p => ∀ k i, p = .wCas k i → i ≤ s.word) h.casLe
      fun k i hq => (hcas k i hq).2
    noLost := fun ha => (h.noLost ha).imp_right fun ⟨u, hu⟩ =>
      ⟨u, (setPc_other _ _ fun hut => hvw (by rw [← hut]; exact hu) ha).trans hu⟩
    toReal := forall_setPc
      (Q := fun _ p => ∀ k, p = .wRet k true → ∃ d, k = .pd (some d) ∧ d ≤ s.now) h.toReal hto }

/-- … and with no take in flight before or after, `rets` is kept as well. -/
theorem Inv.move {p p' : PC} (h : Inv s) (hpc : s.pc t = p)
    (hp : (∀ k, p = .wSleep k → s.sleeper = none) ∧ (p = .vWake → ¬ s.asleep) ∧
      ∀ k, p ≠ .wRet k false)
    (hp' : (p'.isWaiter = true → p.isWaiter = true ∨ s.owner = some t) ∧ (∀ k, p' ≠ .wRet k false) ∧
      (∀ k i, p' = .wCas k i → 0 < i ∧ i ≤ s.word) ∧
      ∀ k, p' = .wRet k true → ∃ d, k = .pd (some d) ∧ d ≤ s.now) :
    Inv { s with pc := setPc s.pc t p' } where
  toInv0 := h.toInv0.move hpc ⟨hp.1, hp.2.1⟩ ⟨hp'.1, hp'.2.2⟩
  rets := by
    have e : inFlight { s with pc := setPc s.pc t p' } = inFlight s :=
      inFlight_move rfl rfl (hpc ▸ hp.2.2) hp'.2.1
    show s.succRets + inFlight _ = s.takes
    rw [e]; exact h.rets

theorem Inv.tick (h : Inv s) (hn : s.now ≤ ns) : Inv { s with now := ns } :=
  { h with toReal := fun u k hu => (h.toReal u k hu).imp fun _ hd => ⟨hd.1, Nat.le_trans hd.2 hn⟩ }

/-- An idle thread becomes the owner. -/
theorem Inv.setOwner (h : Inv s) (hpc : s.pc t = .idle) (ho : s.owner = none ∨ s.owner = some t) :
    Inv { s with owner := some t } :=
  { h with
    rets := by
      have := h.rets
      rcases ho with ho | ho <;> simp only [inFlight, ho, hpc] at this ⊢ <;> exact this
    nonOwner := fun u hu => h.nonOwner u fun hu' => by
      rcases ho with ho | ho <;> rw [ho] at hu' <;> cases hu'
      exact hu rfl
    sleepPc := fun si hsi => by
      have := h.sleeper_none ho fun k hk => by rw [hpc] at hk; cases hk
      rw [this] at hsi; cases hsi }

/-- The successful CAS of V, seen from the program point after it. -/
theorem Inv.post (h : Inv s) (hpc : s.pc t = .vWake) (hlt : s.word + 1 < limit) :
    Inv { s with word := s.word + 1, posts := s.posts + 1 } :=
  { h with
    cons := by have := h.cons; show s.word + 1 + s.takes = s.posts + 1; omega
    casLe := fun u k i hu => Nat.le_succ_of_le (h.casLe u k i hu)
    noLost := fun _ => Or.inr ⟨t, hpc⟩
    fits := hlt }

/-- FUTEX_WAKE: whoever is queued is no longer asleep. -/
theorem Inv.markWoken (h : Inv s) : Inv { s with sleeper := markWoken s.sleeper } :=
  { h with
    sleepPc := fun si hsi => by
      obtain ⟨s0, h0, rfl⟩ := markWoken_eq_some.1 hsi
      exact h.sleepPc s0 h0
    noLost := fun ha => by
      rw [State.asleep, asleepInfo_markWoken] at ha; cases ha }

theorem Inv.clearSleeper (h : Inv s) : Inv { s with sleeper := none } :=
  { h with
    sleepPc := fun si hsi => by cases hsi
    noLost := fun ha => by cases ha }

/-- The kernel's compare-and-sleep, seen from the program point inside the call. -/
theorem Inv.sleep (h : Inv s) (hpc : s.pc t = .wSleep k) :
    Inv { s with sleeper := if s.word = 0 then some ⟨k.timeout, false⟩ else none } := by
  by_cases hw : s.word = 0
  · rw [if_pos hw]
    exact { h with
      sleepPc := fun si hsi => by
        cases hsi
        exact ⟨t, k, h.owner_of_waiter (by rw [hpc]; rfl), hpc, rfl⟩
      noLost := fun _ => Or.inl hw }
  · rw [if_neg hw]; exact h.clearSleeper

/-- The word goes down by one for a take, at unchanged program points none of which is a CAS
    of P any more. -/
theorem Inv0.dec (h : Inv0 s) (hpos : 0 < s.word) (hnc : ∀ u k i, s.pc u ≠ .wCas k i) :
    Inv0 { s with word := s.word - 1, takes := s.takes + 1 } :=
  { h with
    cons := by have := h.cons; show s.word - 1 + (s.takes + 1) = s.posts; omega
    fits := by have := h.fits; show s.word - 1 < limit; omega
    casLe := fun u k i hu => absurd hu (hnc u k i)
    noLost := fun ha => (h.noLost ha).elim (fun h0 => absurd h0 (Nat.ne_of_gt hpos)) Or.inr }

/-- The successful CAS of P / P_with_deadline. -/
theorem Inv.take (h : Inv s) (hpc : s.pc t = .wCas k s.word) :
    Inv { s with word := s.word - 1, takes := s.takes + 1, pc := setPc s.pc t (.wRet k false) } := by
  have hown := h.owner_of_waiter (t := t) (by rw [hpc]; rfl)
  -- only the owner is inside P, and it has left its CAS
  have hnc : ∀ u k' i, setPc s.pc t (.wRet k false) u ≠ .wCas k' i := fun u k' i hu => by
    by_cases hut : u = t
    · rw [hut, setPc_same] at hu; cases hu
    · rw [setPc_other _ _ hut] at hu
      exact hut (h.waiter_unique (by rw [hu]; rfl) (by rw [hpc]; rfl))
  exact {
    toInv0 := (h.toInv0.move hpc (by simp) (by simp [PC.isWaiter])).dec (h.casPos t k _ hpc) hnc
    rets := by
      have := h.rets
      simp only [inFlight, hown, hpc] at this
      simp only [inFlight, hown, setPc_same]
      omega }

/-- A return of P / P_with_deadline: with result 0 it consumes the take in flight. -/
theorem Inv.ret {b : Bool} (h : Inv s) (hpc : s.pc t = .wRet k b) :
    Inv { s with pc := setPc s.pc t .idle, succRets := if b then s.succRets else s.succRets + 1,
                 toRets := tr } := by
  have hown := h.owner_of_waiter (t := t) (by rw [hpc]; rfl)
  exact {
    (h.toInv0.move hpc (by simp) (by simp [PC.isWaiter]) : Inv0 _) with
    rets := by
      have := h.rets
      simp only [inFlight, hown, hpc] at this
      simp only [inFlight, hown, setPc_same]
      cases b <;> simpa using this }

end

theorem Inv.step (h : Inv s) (hs : step s e = .ok s') : Inv s' := by
  cases Step.of_step hs
  case tick hn => exact h.tick hn
  case callP hpc ho | callPD hpc ho => exact (h.setOwner hpc ho).move hpc (by simp) (by simp)
  case retP hpc | retPD hpc => exact h.ret hpc
  case take hpc => exact h.take hpc
  case callV hpc | retV hpc | vLd hpc | takeFail hpc _ | postFail hpc _ _ =>
    exact h.move hpc (by simp) (by simp [PC.isWaiter])
  case wLd hpc =>
    exact h.move hpc (by simp) (by by_cases h0 : s.word = 0 <;> simp [h0, PC.isWaiter]; omega)
  case now hpc =>
    exact h.move hpc (by simp) (by
      cases he : expired _ s.now <;> simp [PC.isWaiter]
      exact expired_eq_true.1 he)
  case post hpc hlt => exact (h.move hpc (by simp) (by simp [PC.isWaiter])).post (setPc_same ..) hlt
  case fwait hpc => exact (h.move hpc (by simp) (by simp [PC.isWaiter])).sleep (setPc_same ..)
  case timedOut hpc _ | fwaitRet hpc _ _ =>
    exact h.clearSleeper.move hpc (by simp) (by simp [PC.isWaiter])
  case fwake hpc =>
    exact h.markWoken.move hpc (by simp [State.asleep, asleepInfo_markWoken]) (by simp [PC.isWaiter])

theorem Inv.init : Inv init where
  toInv0 := by constructor <;> simp [Futex.init, State.asleep, asleepInfo, PC.isWaiter, limit]
  rets := rfl

theorem isRun : IsRun step run := ⟨fun _ => rfl, fun s e _ => by rw [run]; cases step s e <;> rfl⟩

theorem Inv.run (h : Inv s) (hr : run s evs = .ok s') : Inv s' :=
  isRun.induct h (fun _ _ _ _ hi hs => hi.step hs) hr

theorem Reachable.inv (h : Reachable s) : Inv s := by
  obtain ⟨evs, hr⟩ := h
  exact Inv.init.run hr

theorem Reachable.init : Reachable Futex.init := ⟨[], rfl⟩

theorem Reachable.step (h : Reachable s) (hs : step s e = .ok s') : Reachable s' := by
  obtain ⟨evs, hr⟩ := h
  exact ⟨evs ++ [e], isRun.snoc hr hs⟩

theorem Reachable.run (h : Reachable s) (hr : run s es = .ok s') : Reachable s' := by
  obtain ⟨evs, hr0⟩ := h
  exact ⟨evs ++ es, by rw [isRun.append_of_ok hr0]; exact hr⟩

end NsyncVerif.Futex
