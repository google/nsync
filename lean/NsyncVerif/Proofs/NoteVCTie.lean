/-
  Layer `Note` × vector clocks: the exported site table agrees with the replay driver
  (`Model/NoteDriver.lean`), which decides which log line becomes which model event.

  * `ord_names_tie` (kernel-checked): the order token of the table (`rlx|acq|rel|ar`) is parsed by the
    driver to the order `noteSiteOrd` declares; with `step_orders` (the acceptor rejects any other
    order at that site) an accepted log carries, at every site, exactly the order the clock machine
    uses.
  * the two `#guard`s (evaluated at every build; `String.splitOn` does not reduce in the kernel):
    the site token `<file>/<k>/<function>` of the table is parsed by the driver to the model site,
    and the table has its 14 rows.
  The tie of `noteSiteOrd` to the SOURCE (the regenerated table `Gen.sites`) is `note_sites_tie`
  (Proofs/TieNote.lean), which evaluates `noteSitesAgree`.
-/
import NsyncVerif.Proofs.NoteVC
import NsyncVerif.Model.NoteDriver

namespace Note

theorem ord_names_tie :
    (Site.all.all fun s => decide (Driver.parseOrd (ordStr (noteSiteOrd s)) = some (noteSiteOrd s))) = true := by
  decide

#guard Site.all.all fun s => decide (Driver.parseSite (noteSiteName s) = some s)
#guard noteSiteOrdTable.length == 14

end Note
