/-
  Layer `Note`: which steps set a flag, change the forest (`step_forest_raw`: the six shapes of update
  of parent pointers and children lists, with the thread that makes it; who extends a children list,
  who sets a parent pointer), or allocate a note.
-/
import NsyncVerif.Proofs.NoteInvN


namespace Note

theorem step_flag_new {s s' : State} {e : Event} (hs : step s e = .ok s') (n : NoteId)
    (hn : (s'.notes n).notified = true) :
    (s.notes n).notified = true ∨
    (∃ a f rest top, e.actor = some a ∧ s.pc a = .chd .st (f :: rest) top ∧ f.note = n) ∨
    (∃ a p dl, e.actor = some a ∧ s.pc a = .newP .st n p dl) := by
  rcases step_flag_store hs n hn with h | ⟨a, f, rest, top, ha, hpc, hf, _⟩ | ⟨a, p, dl, ha, hpc, _⟩
  · exact Or.inl h
  · exact Or.inr (Or.inl ⟨a, f, rest, top, ha, hpc, hf⟩)
  · exact Or.inr (Or.inr ⟨a, p, dl, ha, hpc⟩)

/-! ## How a step changes the forest -/

/-- The step leaves the forest alone. -/
def ForestSame (s s' : State) : Prop :=
  ∀ j, (s'.notes j).children = (s.notes j).children ∧ (s'.notes j).parent = (s.notes j).parent

/-- `c->parent = p; p->children += c` (note.c:220-222 / 259-261). -/
def ForestLink (s s' : State) (c p : NoteId) : Prop :=
  ∀ j, (s'.notes j).children = (if j = p then (s.notes j).children ++ [c]
      else (s.notes j).children) ∧
    (s'.notes j).parent = (if j = c then some p else (s.notes j).parent)

/-- The adoption of `c` by `nsync_note_free (n)` as the code performs it: `n->children -= c;
    c->parent = p; p->children += c` (note.c:256-261); that `p ≠ n` is the locking discipline's. -/
def ForestAdopt (s s' : State) (c n p : NoteId) : Prop :=
  ∀ j, (s'.notes j).children =
      (if j = p then (if j = n then (s.notes j).children.erase c else (s.notes j).children) ++ [c]
        else if j = n then (s.notes j).children.erase c else (s.notes j).children) ∧
    (s'.notes j).parent = (if j = c then some p else (s.notes j).parent)

/-- `p->children -= c; c->parent = NULL` (note.c:136-141 / 274-278; for a note `n` without
    parent freed by `nsync_note_free`: `n->children -= c; c->parent = NULL`). -/
def ForestUnlink (s s' : State) (c p : NoteId) : Prop :=
  ∀ j, (s'.notes j).children = (if j = p then (s.notes j).children.erase c
      else (s.notes j).children) ∧
    (s'.notes j).parent = (if j = c then none else (s.notes j).parent)

/-- `malloc` returns `k`: a blank record. -/
def ForestFresh (s s' : State) (k : NoteId) : Prop :=
  ∀ j, (s'.notes j).children = (if j = k then [] else (s.notes j).children) ∧
    (s'.notes j).parent = (if j = k then none else (s.notes j).parent)

/-- The thread is about to end an activation of `note_notify_child (c, p)` — it found `c`
    notified already (`ld`), or leaves WAIT_FOR_NO_CHILDREN (`c`) — or to leave the
    WAIT_FOR_NO_CHILDREN (`c`) of `nsync_note_free (c)`; the step may disconnect `c` from `p`. -/
def PC.unlinks (pc : PC) (c p : NoteId) : Prop :=
  (∃ pos f rest top, pc = .chd pos (f :: rest) top ∧ (pos = .ld ∨ ∃ kept, pos = .waitRet kept) ∧
    f.note = c ∧ frameParent rest top = some p) ∨
  (∃ kept c' nx, pc = .fr (.waitRet kept) c (some p) c' nx)

/-- The thread is inside `note_notify_child`. -/
def PC.isChd : PC → Bool
  | .chd .. => true
  | _ => false

theorem childUnlinks_some {s : State} {f : Frame} {rest : List Frame} {top : Top} {p : NoteId}
    (h : childUnlinks s f rest top = some p) :
    frameParent rest top = some p ∧ (s.notes f.note).disconnecting = 1 := by
  unfold childUnlinks at h
  split at h
  · next q hq =>
    split at h
    · next hd => cases h; exact ⟨hq, hd⟩
    · cases h
  · cases h

/-- The end of an activation of `note_notify_child`: the forest is left alone, or the note of the
    activation is disconnected from the `parent` argument — by the last disconnector. -/
theorem forest_childReturn (s s1 : State) (t : Tid) (f : Frame) (rest : List Frame) (top : Top)
    (h1 : ∀ j, (s1.notes j).children = (s.notes j).children ∧
      (s1.notes j).parent = (s.notes j).parent)
    (hd : (s1.notes f.note).disconnecting = (s.notes f.note).disconnecting) :
    ForestSame s (childReturn s1 t f rest top) ∨
    (∃ p, frameParent rest top = some p ∧ (s.notes f.note).disconnecting = 1 ∧
      ForestUnlink s (childReturn s1 t f rest top) f.note p) := by
  cases hu : childUnlinks s1 f rest top with
  | none => left; intro j; simp [hu, h1 j]
  | some p =>
    right
    obtain ⟨h2, h3⟩ := childUnlinks_some hu
    refine ⟨p, h2, hd ▸ h3, fun j => ⟨?_, ?_⟩⟩
    · simp only [childReturn_f_children, hu, Option.some.injEq, (h1 j).1]
      by_cases hj : j = p
      · subst hj; simp
      · rw [if_neg (fun h => hj h.symm), if_neg hj]
    · simp [hu, (h1 j).2]

/-- The six things one accepted step can do to the parent pointers and children lists, with the
    program counter of the thread that does it. -/
theorem step_forest_raw {s s' : State} {e : Event} (hs : step s e = .ok s') :
    ForestSame s s' ∨
    (∃ a c p dl, e.actor = some a ∧ s.pc a = .newP .ld c p dl ∧ (s.notes p).ntime.pos ∧
      s'.pc a = .newP .unlockCall c p dl ∧ ForestLink s s' c p) ∨
    (∃ a n p c nx, e = .lockRet a ∧ s.pc a = .fr .lockChildRet n (some p) c nx ∧
      (s.notes c).disconnecting = 0 ∧ ForestAdopt s s' c n p) ∨
    (∃ a n c nx, e.actor = some a ∧ s.pc a = .fr .lockChildRet n none c nx ∧
      (s.notes c).disconnecting = 0 ∧ ForestUnlink s s' c n) ∨
    (∃ a c p, e.actor = some a ∧ (s.pc a).unlinks c p ∧
      ((s.pc a).isChd = true → (s.notes c).disconnecting = 1) ∧ ForestUnlink s s' c p) ∨
    (∃ k, (s.notes k).allocated = false ∧ ForestFresh s s' k) := by
  rcases step_own hs with ⟨a, pc, pc', ha, hpc, hpc', h⟩ | ⟨_, rfl, _, rfl⟩ | ⟨rfl, rfl⟩
  · clear hs
    cases h
    -- the end of an activation of note_notify_child
    case ld_chd_ld_2_in | ld_chd_ld_2_par | ld_chd_ld_2_top | waitRet_chd_waitRet_1_in
        | waitRet_chd_waitRet_1_par | waitRet_chd_waitRet_1_top =>
      refine (forest_childReturn s _ a _ _ _ ?_ ?_).elim Or.inl fun ⟨p, hp, hd, hf⟩ =>
        Or.inr (Or.inr (Or.inr (Or.inr (Or.inl
          ⟨a, _, p, ha, Or.inl ⟨_, _, _, _, hpc, by simp, rfl, hp⟩, fun _ => hd, hf⟩))))
      · intro j; constructor <;> first | rfl | simp
      · first | rfl | simp
    all_goals (repeat' split)
    -- nsync_note_new links the new note
    case ld_newP_ld_1 =>
      exact Or.inr (Or.inl ⟨a, _, _, _, ha, hpc, ‹_›, hpc', fun j => ⟨by simp, by simp⟩⟩)
    -- nsync_note_free adopts a child
    case lockRet_fr_lockChildRet_1 =>
      exact Or.inr (Or.inr (Or.inl ⟨a, _, _, _, _, rfl, hpc, ‹_›, fun j => ⟨by simp, by simp⟩⟩))
    case lockRet_fr_lockChildRet_2 =>
      exact Or.inr (Or.inr (Or.inr (Or.inl ⟨a, _, _, _, ha, hpc, ‹_›, fun j => ⟨by simp, by simp⟩⟩)))
    -- nsync_note_free disconnects the note from its parent
    case waitRet_fr_waitRet_1 =>
      exact Or.inr (Or.inr (Or.inr (Or.inr (Or.inl ⟨a, _, _, ha, Or.inr ⟨_, _, _, hpc⟩,
        by rw [hpc]; simp [PC.isChd], fun j => ⟨by simp, by simp⟩⟩))))
    case malloc_newMalloc_2 =>
      refine Or.inr (Or.inr (Or.inr (Or.inr (Or.inr ⟨_, ‹_›, fun j => ?_⟩))))
      simp only [setPc_notes, allocNote_f]
      split <;> simp [NoteRec.blank]
    all_goals (try (left; intro j; exact ⟨rfl, rfl⟩))
    all_goals (left; intro j; constructor <;> simp)
  · exact Or.inl fun _ => ⟨rfl, rfl⟩
  · exact Or.inl fun _ => ⟨rfl, rfl⟩

/-- A note enters a children list only by `nsync_note_new` (note.c:221), which has found the parent
    not notified, or by the adoption in `nsync_note_free` (note.c:260) of a child that nobody is
    disconnecting. -/
theorem step_children' {s s' : State} {e : Event} (hs : step s e = .ok s') (p c : NoteId)
    (hc : c ∈ (s'.notes p).children) :
    c ∈ (s.notes p).children ∨
    (∃ a dl, e.actor = some a ∧ s.pc a = .newP .ld c p dl ∧ (s.notes p).ntime.pos) ∨
    (∃ a n nx, e = .lockRet a ∧ s.pc a = .fr .lockChildRet n (some p) c nx ∧
      (s.notes c).disconnecting = 0) := by
  have herase : ∀ {l : List NoteId} {x : NoteId} {b : Prop} [Decidable b],
      c ∈ (if b then l.erase x else l) → c ∈ l := by
    intro l x b _ h; split at h
    · exact List.mem_of_mem_erase h
    · exact h
  rcases step_forest_raw hs with h | ⟨a, c0, p0, dl, ha, hpc, hpos, _, h⟩ |
    ⟨a, n, p0, c0, nx, he, hpc, hd, h⟩ | ⟨_, n, c0, _, _, _, _, h⟩ | ⟨_, c0, p0, _, _, _, h⟩ | ⟨k, _, h⟩
  all_goals rw [(h p).1] at hc
  · exact Or.inl hc
  · split at hc
    · next hp =>
      subst hp
      rcases List.mem_append.mp hc with h | h
      · exact Or.inl h
      · cases List.mem_singleton.mp h; exact Or.inr (Or.inl ⟨a, dl, ha, hpc, hpos⟩)
    · exact Or.inl hc
  · split at hc
    · next hp =>
      subst hp
      rcases List.mem_append.mp hc with h | h
      · exact Or.inl (herase h)
      · cases List.mem_singleton.mp h; exact Or.inr (Or.inr ⟨a, n, nx, he, hpc, hd⟩)
    · exact Or.inl (herase hc)
  · exact Or.inl (herase hc)
  · exact Or.inl (herase hc)
  · split at hc
    · cases hc
    · exact Or.inl hc

/-- A parent pointer is set only by `nsync_note_new` (note.c:220) or by the adoption in
    `nsync_note_free` (note.c:259). -/
theorem step_parent {s s' : State} {e : Event} (hs : step s e = .ok s') (p c : NoteId)
    (hc : (s'.notes c).parent = some p) :
    (s.notes c).parent = some p ∨
    (∃ a dl, e.actor = some a ∧ s.pc a = .newP .ld c p dl) ∨
    (∃ a n nx, e.actor = some a ∧ s.pc a = .fr .lockChildRet n (some p) c nx) := by
  rcases step_forest_raw hs with h | ⟨a, c0, p0, dl, ha, hpc, _, _, h⟩ |
    ⟨a, n, p0, c0, nx, he, hpc, _, h⟩ | ⟨_, n, c0, _, _, _, _, h⟩ | ⟨_, c0, p0, _, _, _, h⟩ | ⟨k, _, h⟩
  all_goals rw [(h c).2] at hc
  · exact Or.inl hc
  · split at hc
    · next hcc => subst hcc; cases hc; exact Or.inr (Or.inl ⟨a, dl, ha, hpc⟩)
    · exact Or.inl hc
  · split at hc
    · next hcc => subst hcc; cases hc; exact Or.inr (Or.inr ⟨a, n, nx, he ▸ rfl, hpc⟩)
    · exact Or.inl hc
  all_goals (split at hc; (· cases hc); exact Or.inl hc)

/-- The ghost history of a note is written once, by the `malloc` that creates the note. -/
theorem step_ghost {s s' : State} {e : Event} (hs : step s e = .ok s') (n : NoteId) :
    (s'.ancEver n = s.ancEver n ∧ s'.ownDl n = s.ownDl n ∧ s'.pathMin n = s.pathMin n ∧
      s'.cparent n = s.cparent n) ∨
    ((s.notes n).allocated = false ∧ (s'.notes n).allocated = true) := by
  rcases step_own hs with ⟨a, pc, pc', -, -, -, h⟩ | ⟨_, rfl, _, rfl⟩ | ⟨rfl, rfl⟩
  · cases h
    all_goals (repeat' split)
    case malloc_newMalloc_2 =>
      rename_i k _ _ hfresh
      by_cases hk : n = k
      · subst hk; right; exact ⟨hfresh, by simp⟩
      · left; simp [upd_apply, hk]
    all_goals (try (left; exact ⟨rfl, rfl, rfl, rfl⟩))
    all_goals (try (left; simp; done))
  · left; exact ⟨rfl, rfl, rfl, rfl⟩
  · left; exact ⟨rfl, rfl, rfl, rfl⟩

end Note
