/-
  Layer `CvFix` (repaired cv.c): the invariant behind `C04_no_lost_wake` — a woken record has been posted, or its
  waker is at the V.
-/
import NsyncVerif.Proofs.CvFixInvDAll

namespace NsyncVerif.CvFix

structure InvE (s : State) : Prop where
  /-- `cur` is set exactly between the store `waiting := 0` and the V -/
  curLoc : ∀ u, (s.thr u).cur ≠ none ↔ (s.thr u).loc = .wwV
  /-- a woken record is posted, or its waker is at the V for this very instance -/
  woken : ∀ r, (s.recs r).stat = .woken →
    (s.recs r).posted = true ∨ ∃ u, (s.thr u).cur = some (r, (s.recs r).enqSeq) ∧ (s.thr u).loc = .wwV

theorem invE_init : InvE init := by
  constructor <;> simp [init]

/-- Frame: no thread changes `cur` or enters / leaves the V; no record becomes woken; woken records
    keep `enqSeq` and do not lose `posted`. -/
theorem invE_frame {s s' : State} (hi : InvE s)
    (hthr : ∀ u, (s'.thr u).cur = (s.thr u).cur ∧ ((s'.thr u).loc = .wwV ↔ (s.thr u).loc = .wwV))
    (hrec : ∀ r, (s'.recs r).stat = .woken → (s.recs r).stat = .woken ∧ (s'.recs r).enqSeq = (s.recs r).enqSeq ∧
      ((s.recs r).posted = true → (s'.recs r).posted = true)) : InvE s' := by
  obtain ⟨e1, e2⟩ := hi
  constructor
  · intro u; rw [(hthr u).1, (hthr u).2]; exact e1 u
  · intro r hw
    obtain ⟨h1, h2, h3⟩ := hrec r hw
    rcases e2 r h1 with hp | ⟨u, hc, hl⟩
    · exact .inl (h3 hp)
    · exact .inr ⟨u, by rw [(hthr u).1, h2]; exact hc, (hthr u).2.mpr hl⟩

theorem ltr_cur {s : State} {t : Tid} {e : Event} {x' : Thr} (hi : InvE s) (h : LTr s t e x') :
    x'.cur = (s.thr t).cur ∧ (x'.loc = .wwV ↔ (s.thr t).loc = .wwV) := by
  cases h.eff with
  | move _ _ hc => exact ⟨hc.1, hc.2.1⟩
  | fresh hl hl' _ hf =>
    have h1 : (s.thr t).loc ≠ .wwV := fun e => by rw [e] at hl; cases hl.2
    have h2 : x'.loc ≠ .wwV := fun e => by rw [e] at hl'; simp at hl'
    refine ⟨hf.1.trans ?_, iff_of_false h2 h1⟩
    cases hc : (s.thr t).cur with
    | none => rfl
    | some v => exact absurd ((hi.curLoc t).mp (by rw [hc]; simp)) h1

end NsyncVerif.CvFix
