import NsyncVerif.Proofs.MuCOther
import NsyncVerif.Proofs.MuCInv8
/-
  MuC: `Inv8` through every step: a step of `t` keeps `PC.ok8` of `t` (`Eff.ok8`), and leaves the other threads alone.
-/
namespace NsyncVerif.MuC

macro "ok8_close" h:ident hs:ident : tactic => `(tactic|
  first
  | (cases $hs:ident; done)
  | (cases $hs:ident
     (first
      | (simp_all [PC.ok8, SL.ok8, SL.entry, SL.fromWait, SL.woken, setFn, mwLoop_eq, loopPc, afterFin_eq, afterWakes_eq, finPc, Ret.pc, uncontended]; done)
      | ((repeat' split) <;> simp_all [PC.ok8, SL.ok8, SL.entry, SL.fromWait, SL.woken, setFn, mwLoop_eq, loopPc, afterFin_eq, afterWakes_eq, finPc, Ret.pc, uncontended])))
  | (exfalso; simp_all; done))

theorem StEff.ok8 {s s' : State} {t : Tid} (e : StEff s t s') (hok : (s.pc t).ok8) : (s'.pc t).ok8 := by
  cases e <;> simp_all [PC.ok8, SL.ok8, enqLast, enqFirst]

theorem ScanStart.ok8 {s s' : State} {t : Tid} {r : Ret} (h : ScanStart s t r s') (hok : (s.pc t).ok8) : (s'.pc t).ok8 := by
  cases h with
  | grab old _ _ hs => exact (scanInv_ok8 t r).afterPickup hs ⟨nofun, fun e => absurd rfl e⟩
  | rel sc old heq _ hs => rw [heq] at hok; exact (scanInv_ok8 t r).run _ _ _ hs hok
  | re sc old heq _ hs => rw [heq] at hok; exact (scanInv_ok8 t r).afterPickup hs hok
  | rc sc k old heq hs => rw [heq] at hok; exact (scanInv_ok8 t r).run _ _ _ hs hok
  | eval sc k rest cd heq _ _ hs => rw [heq] at hok; exact afterEval_ok8 hs hok

theorem CasEff.ok8 {s s' : State} {t : Tid} {ok : Bool} (h : CasEff s t ok s') (hok : (s.pc t).ok8) : (s'.pc t).ok8 := by
  cases h with
  | fail hm => rw [setPc_pc, setFn_same]; exact hm.ok8 hok
  | plain hp ok => rw [ok.pc, setFn_same]; exact hp.ok8 hok
  | scan hsc => exact hsc.ok8 hok
  | fin _ _ e => rw [e.pc, setFn_same]; exact ok8_finPc _ _
  | mwEnq c old k _ hk _ => rw [setPc_pc, setFn_same]; simp [PC.ok8, hk]
  | mtRm c old rc k _ _ => show (setFn s.pc t _ t).ok8; rw [setFn_same]; exact trivial

theorem Eff.ok8 {cfg : Cfg} {s s' : State} {t : Tid} (h : Eff cfg s t s') (hok : (s.pc t).ok8) : (s'.pc t).ok8 := by
  cases h with
  | move hm => rw [setPc_pc, setFn_same]; exact hm.ok8 hok
  | callQ h0 hh hm => rw [setPc_pc, setFn_same]; exact (h0 ▸ hm : PcMove s (s.pc t) _).ok8 hok
  | cas hc => exact hc.ok8 hok
  | st e => exact e.ok8 hok
  | ldRc c k obs _ _ => show (setFn s.pc t _ t).ok8; rw [setFn_same]; exact trivial
  | ldDeq c old k _ _ _ _ => rw [setPc_pc, setFn_same]; exact trivial
  | ret _ e => rw [e.pc, setFn_same]; exact trivial
  | call _ hp e => rw [e.pc, setFn_same]; cases hp <;> exact trivial
  | scan hsc => exact hsc.ok8 hok
  | eval c cd _ _ => rw [setPc_pc, setFn_same]; exact ok8_loopPc _ _
  | sem hp e => rw [e.pc, setFn_same]; exact hp.ok8 hok
  | dataW x v _ => exact hok
  | dataR => exact hok

theorem inv8_step {cfg : Cfg} {s s' : State} {e : Event} (h : Inv8 s) (hs : step cfg s e = .ok s') : Inv8 s' := by
  intro u
  by_cases hu : e.tid = some u
  · exact (step_eff hs hu).ok8 (h u)
  · rw [(step_other hs u hu).1]; exact h u

theorem inv8_init : Inv8 init := by intro t; simp [init, PC.ok8]

end NsyncVerif.MuC
