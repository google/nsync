import NsyncVerif.Proofs.MuQSoloAcq
import NsyncVerif.Proofs.MuQSoloRel
import NsyncVerif.Proofs.MuQSoloFrame
import NsyncVerif.Proofs.MuQSoloEnabled
/-
  MuQ, leads-to (C02): schedules built from SOLO RUNS.

  `RunP cfg P s evs s'`: `evs` is accepted from `s`, ends in `s'`, and every step satisfies `P`.
  `QuietStep s e`: the step is taken by a thread that is neither a fresh contender for the lock
  (`freshPc`: fast paths of lock/rlock/trylock/rtrylock, lock_slow before its first sleep without
  the spinlock) nor idle holding nothing (so a `call` in such a schedule is always the unlock /
  runlock of a holder): no barging, no new acquisition, no environment event.

  Existence of solo runs (from `thread_enabled` + the solo ranks):
  * `solo_acq_exists`   a non-fresh acquiring thread, spinlock free or its own, can be run alone
                        until it has returned or is asleep; nobody else's program point, `held` or
                        asleep-status changes.
  * `solo_rel_exists`   a releasing thread can be run alone until it has returned.
  * `holder_release_exists`  a thread that owns a share (or is past its release point) can be run
                        alone — return from lock, call unlock/runlock, run to the return — until it
                        is idle holding nothing.
-/
namespace NsyncVerif.MuQ

def QuietStep (s : State) (e : Event) : Prop :=
  ∃ u, e.tid = some u ∧ ¬ freshPc (s.pc u) ∧ ¬ IdleHoldingNothing s u

inductive RunP (cfg : Cfg) (P : State → Event → Prop) : State → List Event → State → Prop
  | nil (s : State) : RunP cfg P s [] s
  | cons {s s1 s' : State} {e : Event} {es : List Event} :
      P s e → step cfg s e = .ok s1 → RunP cfg P s1 es s' → RunP cfg P s (e :: es) s'

theorem RunP.run_eq {cfg : Cfg} {P : State → Event → Prop} {s s' : State} {evs : List Event}
    (h : RunP cfg P s evs s') : run cfg s evs = .ok s' := by
  induction h with
  | nil s => rfl
  | cons hp hs _ ih => simp [run, hs, ih]

theorem RunP.append {cfg : Cfg} {P : State → Event → Prop} {s s1 s2 : State} {evs evs' : List Event}
    (h : RunP cfg P s evs s1) (h' : RunP cfg P s1 evs' s2) : RunP cfg P s (evs ++ evs') s2 := by
  induction h with
  | nil s => exact h'
  | cons hp hs _ ih => exact .cons hp hs (ih h')

theorem RunP.reachable {cfg : Cfg} {P : State → Event → Prop} {s s' : State} {evs : List Event}
    (h : RunP cfg P s evs s') (hr : Reachable cfg s) : Reachable cfg s' := by
  induction h with
  | nil s => exact hr
  | cons hp hs _ ih => exact ih (reachable_step hr hs)

theorem RunP.all {cfg : Cfg} {P : State → Event → Prop} {s s' : State} {evs : List Event}
    (h : RunP cfg P s evs s') {Q : Event → Prop} (hq : ∀ s e, P s e → Q e) : ∀ e ∈ evs, Q e := by
  induction h with
  | nil s => intro e he; cases he
  | cons hp hs _ ih =>
    intro e he
    rcases List.mem_cons.1 he with rfl | he
    · exact hq _ _ hp
    · exact ih e he

/-- Building a run by descent on a rank: while the target is not reached some run (one step, or a
    whole round of a thread) keeps `Inv` and lowers the rank. -/
theorem runP_wf {cfg : Cfg} {P : State → Event → Prop} (Inv Tgt : State → Prop)
    (Fr : State → State → Prop) (rank : State → Nat)
    (frefl : ∀ s, Fr s s) (ftrans : ∀ a b c, Fr a b → Fr b c → Fr a c)
    (hround : ∀ s, Inv s → ¬ Tgt s → ∃ evs s', RunP cfg P s evs s' ∧ Fr s s' ∧
      (Tgt s' ∨ (Inv s' ∧ rank s' < rank s))) :
    ∀ n s, rank s < n → Inv s → ∃ evs s', RunP cfg P s evs s' ∧ Tgt s' ∧ Fr s s' := by
  intro n
  induction n with
  | zero => intro s hn; omega
  | succ n ih =>
    intro s hn hi
    by_cases ht : Tgt s
    · exact ⟨[], s, .nil s, ht, frefl s⟩
    · obtain ⟨evs, s', hrun, hf, h⟩ := hround s hi ht
      rcases h with h | ⟨hi', h⟩
      · exact ⟨evs, s', hrun, h, hf⟩
      · obtain ⟨evs2, s'', hrun2, ht'', hf''⟩ := ih s' (by omega) hi'
        exact ⟨evs ++ evs2, s'', hrun.append hrun2, ht'', ftrans _ _ _ hf hf''⟩

/-! ### the semaphore counts are bounded -/

theorem reachable_semBound {cfg : Cfg} {s : State} (h : Reachable cfg s) : ∃ M, ∀ k, (s.wr k).sem ≤ M := by
  refine reachable_induction (P := fun s => ∃ M, ∀ k, (s.wr k).sem ≤ M) ⟨0, fun _ => Nat.le_refl _⟩ ?_ s h
  intro s e s' _ ⟨M, hM⟩ hs
  obtain ⟨k, hk, _⟩ := step_wr hs
  refine ⟨max M (s'.wr k).sem, fun k' => ?_⟩
  by_cases e : k' = k
  · subst e; exact Nat.le_max_right _ _
  · rw [hk k' e]; exact Nat.le_trans (hM k') (Nat.le_max_left _ _)

/-! ### frames -/

/-- Only thread `u` moved (as far as program points and the client ghost are concerned). -/
def Frame (u : Tid) (s s' : State) : Prop :=
  ∀ t, t ≠ u → s'.pc t = s.pc t ∧ s'.held t = s.held t

/-- … and nobody else fell asleep or was woken. -/
def FrameA (u : Tid) (s s' : State) : Prop :=
  Frame u s s' ∧ ∀ t, t ≠ u → asleepB s' t = asleepB s t

/-- … and `held` did not change at all. -/
def FrameR (u : Tid) (s s' : State) : Prop :=
  (∀ t, t ≠ u → s'.pc t = s.pc t) ∧ s'.held = s.held

theorem Frame.refl (u : Tid) (s : State) : Frame u s s := fun _ _ => ⟨rfl, rfl⟩
theorem Frame.trans {u : Tid} {a b c : State} (h1 : Frame u a b) (h2 : Frame u b c) : Frame u a c :=
  fun t ht => ⟨by rw [(h2 t ht).1, (h1 t ht).1], by rw [(h2 t ht).2, (h1 t ht).2]⟩

theorem FrameA.refl (u : Tid) (s : State) : FrameA u s s := ⟨Frame.refl u s, fun _ _ => rfl⟩
theorem FrameA.trans {u : Tid} {a b c : State} (h1 : FrameA u a b) (h2 : FrameA u b c) : FrameA u a c :=
  ⟨h1.1.trans h2.1, fun t ht => by rw [h2.2 t ht, h1.2 t ht]⟩

theorem FrameR.refl (u : Tid) (s : State) : FrameR u s s := ⟨fun _ _ => rfl, rfl⟩
theorem FrameR.trans {u : Tid} {a b c : State} (h1 : FrameR u a b) (h2 : FrameR u b c) : FrameR u a c :=
  ⟨fun t ht => by rw [h2.1 t ht, h1.1 t ht], by rw [h2.2, h1.2]⟩

theorem FrameR.frame {u : Tid} {a b : State} (h : FrameR u a b) : Frame u a b :=
  fun t ht => ⟨h.1 t ht, by rw [h.2]⟩

theorem step_frame {cfg : Cfg} {s s' : State} {e : Event} {u : Tid}
    (h : step cfg s e = .ok s') (he : e.tid = some u) : Frame u s s' := by
  intro t ht
  have hne : e.tid ≠ some t := by rw [he]; intro e'; exact ht (Option.some.inj e').symm
  exact ⟨step_pc_other h hne, step_held_other h hne⟩

theorem relPc_not_fresh {p : PC} (h : relPc p = true) : ¬ freshPc p := by
  cases p <;> simp [relPc] at h <;> simp [freshPc]

/-! ### solo runs exist -/

/-- An acquiring thread of a class `C` of program points that its own steps do not leave (except by
    returning), with the spinlock free or its own, can be run alone until it has returned or is
    asleep on its semaphore; every step of the run satisfies `P`. -/
theorem solo_acq_exists_of {cfg : Cfg} {P : State → Event → Prop} {C : PC → Bool} {s : State} {u : Tid}
    (hC : ∀ p, C p = true → acqPc p = true)
    (hkeep : ∀ s e s', C (s.pc u) = true → e.tid = some u → step cfg s e = .ok s' →
      acqPc (s'.pc u) = true → C (s'.pc u) = true ∨ s'.pc u = .idle)
    (hP : ∀ s e, C (s.pc u) = true → s.pc u ≠ .idle → e.tid = some u → P s e)
    (hr : Reachable cfg s) (hpc : C (s.pc u) = true) (hsp : s.sp = none ∨ s.sp = some u) :
    ∃ evs s', RunP cfg P s evs s' ∧ (s'.pc u = .idle ∨ AsleepOnSem s' u) ∧ FrameA u s s' := by
  obtain ⟨M, hM⟩ := reachable_semBound hr
  refine runP_wf (cfg := cfg) (P := P)
    (fun s => Reachable cfg s ∧ (∀ k, (s.wr k).sem ≤ M) ∧ C (s.pc u) = true ∧ (s.sp = none ∨ s.sp = some u))
    (fun s => s.pc u = .idle ∨ AsleepOnSem s u) (FrameA u) (fun s => acqRank M s u)
    (FrameA.refl u) (fun _ _ _ => FrameA.trans) ?_ _ s (Nat.lt_succ_self _) ⟨hr, hM, hpc, hsp⟩
  intro s ⟨hr, hM, hpc, hsp⟩ htgt
  have hne : s.pc u ≠ .idle := fun h => htgt (Or.inl h)
  have hna : ¬ AsleepOnSem s u := fun h => htgt (Or.inr h)
  obtain ⟨e, he, _, _, s', hs⟩ := thread_enabled hr hne hna
  have hacq := hC _ hpc
  refine ⟨[e], s', .cons (hP s e hpc hne he) hs (.nil s'),
    ⟨step_frame hs he, fun t ht => acq_step_asleep_other hr hacq he hs ht⟩, ?_⟩
  rcases solo_acq_step hr hM hacq hsp he hs with hid | ⟨hM', hacq', hsp', hrk⟩
  · exact Or.inl (Or.inl hid)
  · rcases hkeep s e s' hpc he hs hacq' with hw | hid
    · exact Or.inr ⟨⟨reachable_step hr hs, hM', hw, hsp'⟩, hrk⟩
    · exact Or.inl (Or.inl hid)

/-- A non-fresh acquiring thread (`wokenPc`), with the spinlock free or its own, can be run alone
    until it has returned or is asleep on its semaphore. -/
theorem solo_acq_exists {cfg : Cfg} {s : State} {u : Tid} (hr : Reachable cfg s)
    (hpc : wokenPc (s.pc u) = true) (hsp : s.sp = none ∨ s.sp = some u) :
    ∃ evs s', RunP cfg QuietStep s evs s' ∧ (s'.pc u = .idle ∨ AsleepOnSem s' u) ∧ FrameA u s s' :=
  solo_acq_exists_of (fun _ => wokenPc_acq) (fun _ _ _ hw he hs _ => woken_step hw he hs)
    (fun _ _ hw hne he => ⟨u, he, wokenPc_not_fresh hw, fun h => hne h.1⟩) hr hpc hsp

/-- A releasing thread, with the spinlock free or its own, can be run alone until it has returned
    (the CASes on `remove_count` offered by `thread_enabled` succeed). -/
theorem solo_rel_exists {cfg : Cfg} {s : State} {u : Tid} (hr : Reachable cfg s)
    (hpc : relPc (s.pc u) = true) (hsp : s.sp = none ∨ s.sp = some u) :
    ∃ evs s', RunP cfg QuietStep s evs s' ∧ s'.pc u = .idle ∧ FrameR u s s' := by
  refine runP_wf (cfg := cfg) (P := QuietStep)
    (fun s => Reachable cfg s ∧ relPc (s.pc u) = true ∧ (s.sp = none ∨ s.sp = some u))
    (fun s => s.pc u = .idle) (FrameR u) (fun s => relRank s.word s.queue.length (s.pc u))
    (FrameR.refl u) (fun _ _ _ => FrameR.trans) ?_ _ s (Nat.lt_succ_self _) ⟨hr, hpc, hsp⟩
  intro s ⟨hr, hpc, hsp⟩ htgt
  have hna : ¬ AsleepOnSem s u := by
    rintro ⟨c, k, hp, _⟩; rw [hp] at hpc; cases hpc
  obtain ⟨e, he, hrc, _, s', hs⟩ := thread_enabled hr htgt hna
  refine ⟨[e], s', .cons ⟨u, he, relPc_not_fresh hpc, fun h => htgt h.1⟩ hs (.nil s'),
    ⟨fun t ht => (step_frame hs he t ht).1, rel_step_held hpc he hs⟩, ?_⟩
  rcases solo_rel_step hr hpc hsp he hs with hid | ⟨hpc', hsp', hrk⟩
  · exact Or.inl hid
  · simp only [hrc, Bool.false_eq_true, if_false] at hrk
    exact Or.inr ⟨⟨reachable_step hr hs, hpc', hsp'⟩, hrk⟩

/-- Return points of the acquiring operations. -/
def retPc : PC → Bool
  | .lkRet _ | .tryRet _ _ => true
  | _ => false

/-- At a return point the only accepted own event is the `ret`. -/
theorem ret_only {cfg : Cfg} {s s1 : State} {e : Event} {t : Tid}
    (hret : retPc (s.pc t) = true) (he : e.tid = some t) (hs : step cfg s e = .ok s1) :
    ∃ hd, s1 = { setPc s t .idle with held := hd } := by
  have ht := tstep_of_step hs he
  generalize s.pc t = p at ht hret
  cases ht <;> first | (cases hret; done) | exact ⟨_, rfl⟩

/-- Owns a share or is past the release point: will be idle holding nothing after returning,
    calling unlock / runlock and returning again. -/
def HolderLike (s : State) (u : Tid) : Prop :=
  (s.pc u = .idle ∧ s.held u ≠ none) ∨ retPc (s.pc u) = true ∨ relPc (s.pc u) = true

theorem holder_idle_exists {cfg : Cfg} {s : State} {u : Tid} (hr : Reachable cfg s)
    (hpc : s.pc u = .idle) (hh : s.held u ≠ none) (hsp : s.sp = none ∨ s.sp = some u) :
    ∃ evs s', RunP cfg QuietStep s evs s' ∧ s'.pc u = .idle ∧ s'.held u = none ∧ Frame u s s' := by
  cases hm : s.held u with
  | none => exact absurd hm hh
  | some m =>
    -- the call of unlock / runlock
    let a : Api := match m with | .W => .unlock | .R => .runlock
    have hstep : step cfg s (.call u a) = .ok { setPc s u (.ulCas0 m) with held := setFn s.held u none } := by
      cases m <;> simp [a, step, stepCall, hpc, hm]
    have hr1 := reachable_step hr hstep
    obtain ⟨evs, s', hrun, hid, hf⟩ := solo_rel_exists (u := u) hr1 (by simp [setPc, relPc]) (by simpa [setPc] using hsp)
    have hq : QuietStep s (.call u a) := ⟨u, rfl, by rw [hpc]; simp [freshPc], fun h => hh h.2⟩
    refine ⟨_ :: evs, s', .cons hq hstep hrun, hid, ?_, (step_frame hstep rfl).trans hf.frame⟩
    rw [hf.2]; simp

theorem holder_release_exists {cfg : Cfg} {s : State} {u : Tid} (hr : Reachable cfg s)
    (hl : HolderLike s u) (hsp : s.sp = none ∨ s.sp = some u) :
    ∃ evs s', RunP cfg QuietStep s evs s' ∧ s'.pc u = .idle ∧ s'.held u = none ∧ Frame u s s' := by
  rcases hl with ⟨hpc, hh⟩ | hret | hrel
  · exact holder_idle_exists hr hpc hh hsp
  · -- return from the acquiring call first
    have hne : s.pc u ≠ .idle := by intro h; rw [h] at hret; cases hret
    have hna : ¬ AsleepOnSem s u := by
      rintro ⟨c, k, hp, _⟩; rw [hp] at hret; cases hret
    have hnf : ¬ freshPc (s.pc u) := by
      cases hp : s.pc u <;> simp [hp, retPc] at hret <;> simp [freshPc]
    obtain ⟨e, he, _, _, s1, hs⟩ := thread_enabled hr hne hna
    have hq : QuietStep s e := ⟨u, he, hnf, fun h => hne h.1⟩
    have hr1 := reachable_step hr hs
    have hshape := ret_only hret he hs
    have hid1 : s1.pc u = .idle := by obtain ⟨hd, rfl⟩ := hshape; simp [setPc]
    have hsp1 : s1.sp = none ∨ s1.sp = some u := by obtain ⟨hd, rfl⟩ := hshape; simpa [setPc] using hsp
    by_cases hh1 : s1.held u = none
    · exact ⟨[e], s1, .cons hq hs (.nil s1), hid1, hh1, step_frame hs he⟩
    · obtain ⟨evs, s', hrun, hid, hh', hf⟩ := holder_idle_exists hr1 hid1 hh1 hsp1
      exact ⟨e :: evs, s', .cons hq hs hrun, hid, hh', (step_frame hs he).trans hf⟩
  · have hne : s.pc u ≠ .idle := by intro h; rw [h] at hrel; cases hrel
    have hnone : s.held u = none := held_none_of_active (reachable_side hr).2 hne
    obtain ⟨evs, s', hrun, hid, hf⟩ := solo_rel_exists hr hrel hsp
    exact ⟨evs, s', hrun, hid, by rw [hf.2]; exact hnone, hf.frame⟩

end NsyncVerif.MuQ
