/-
  Proofs/CounterFairMain.lean — Counter layer, fair release: a thread asleep at zero is posted
  (`pdwait_moves`), every thread inside nsync_counter_wait at zero keeps moving (`wait_moves`), and
  therefore returns (`fair_return_zero`, rank `wrank`).
-/
import NsyncVerif.Proofs.CounterFairLock
import NsyncVerif.Props.C10

namespace Counter

variable {s0 : State}

/-- the semaphore of a thread asleep in P-with-deadline is only taken by that thread -/
theorem sem_stays (x : Exec s0) (hr : Reachable s0) {t : Tid} {dl : Deadline} {k : NwId} {j : SemId} {i : Nat}
    (hp : (x.ρ i).pc t = .wPdWait dl k j) (hnm : ¬ Moves x t i) (hs : 0 < (x.ρ i).sh.sem j) :
    0 < (x.ρ (i + 1)).sh.sem j := by
  have hi := inv_of_reachable (x.reach hr i)
  have hpt := (hi.pcs t).2; rw [hp] at hpt
  obtain ⟨⟨hown, _, _⟩, hsem, _⟩ := hpt
  have hu : (x.ρ i).sh.semUser j = some k := hi.sh.semu k j hown.1 hsem
  rcases x.step_cases hr i with h1 | ⟨_, _, h2⟩ | ⟨u, e, _, g, f⟩
  · rw [h1]; exact hs
  · rw [h2]; exact hs
  · apply Classical.byContradiction
    intro h0
    rcases g.semdec j (by omega) with a | ⟨dl', k', a, b⟩
    · rw [hu] at a; cases a
    · have hpu := (hi.pcs u).2; rw [a] at hpu
      obtain ⟨⟨hown', _, _⟩, hsem', _⟩ := hpu
      have hu' := hi.sh.semu k' j hown'.1 hsem'
      rw [hu] at hu'; cases hu'
      have : u = t := by rw [← hown'.2, ← hown.2]
      subst this
      apply hnm; unfold Moves; rw [b, hp]; simp

/-- A thread asleep in P-with-deadline while the counter is (and stays) zero is posted and moves. -/
theorem pdwait_moves (x : Exec s0) (hr : Reachable s0) (hf : WeakFair x) {i : Nat}
    (hz : ∀ j, i ≤ j → (x.ρ j).sh.value = 0) {t : Tid} {dl : Deadline} {k : NwId} {j : SemId} {j0 : Nat}
    (hj0 : i ≤ j0) (hp : (x.ρ j0).pc t = .wPdWait dl k j) : ∃ j', j0 ≤ j' ∧ Moves x t j' := by
  apply Classical.byContradiction
  intro hn
  have hnm : ∀ j', j0 ≤ j' → ¬ Moves x t j' := fun j' hj hm => hn ⟨j', hj, hm⟩
  have hpc : ∀ j', j0 ≤ j' → (x.ρ j').pc t = .wPdWait dl k j :=
    fun j' hj => by rw [frame_between x hj (fun j'' h1 _ => hnm j'' h1), hp]
  -- the semaphore is posted at some time
  have hpost : ∃ j1, j0 ≤ j1 ∧ 0 < (x.ρ j1).sh.sem j := by
    apply Classical.byContradiction
    intro hno
    have hzero : ∀ j', j0 ≤ j' → (x.ρ j').sh.sem j = 0 := by
      intro j' hj
      cases h : (x.ρ j').sh.sem j with
      | zero => rfl
      | succ n => exact absurd ⟨j', hj, by omega⟩ hno
    have hwake : ∀ j', j0 ≤ j' → ∃ u, (x.ρ j').sh.lockHolder = some u ∧ wakeLoop ((x.ρ j').pc u)
        ∧ (k ∈ (x.ρ j').sh.waiters ∨ ∃ d r idx, (x.ρ j').pc u = .aPost d r idx k) := by
      intro j' hj
      rcases C10_no_lost_wakeup (x.reach hr j') (hpc j' hj) with a | a | ⟨u, a, b, c⟩ | ⟨u, d, r, idx, a, b⟩
      · exact absurd (hz j' (by omega)) a
      · rw [hzero j' hj] at a; cases a
      · exact ⟨u, a, b, Or.inl c⟩
      · exact ⟨u, a, by rw [b]; trivial, Or.inr ⟨d, r, idx, b⟩⟩
    obtain ⟨u, hu, _, _⟩ := hwake j0 (Nat.le_refl _)
    have hh := holds_of_holder (inv_of_reachable (x.reach hr j0)) hu
    -- the step by which the holder releases counter_mu
    obtain ⟨j', h1, h5', hbefore⟩ := NsyncVerif.Sched.first_at (M := fun j => holds ((x.ρ j).pc u) = false)
      (holder_releases x hr hf hh)
    have hne : j' ≠ j0 := fun h => by rw [h, hh] at h5'; cases h5'
    obtain ⟨j2, rfl⟩ : ∃ j2, j' = j2 + 1 := ⟨j' - 1, by omega⟩
    have h3 : j0 ≤ j2 := by omega
    have h4 : holds ((x.ρ j2).pc u) = true := by simpa using hbefore j2 h3 (Nat.lt_succ_self _)
    have hmv : Moves x u j2 := by
      intro he; rw [he, h4] at h5'; cases h5'
    obtain ⟨e, _, g, _⟩ := moves_prog x hr hmv
    obtain ⟨u', a, b, c⟩ := hwake j2 h3
    have := holder_of_holds (inv_of_reachable (x.reach hr j2)) h4
    rw [a] at this; cases this
    obtain ⟨w1, w2⟩ := g.wrel b h5'
    rcases c with c | ⟨d', r, idx, c⟩
    · rw [w1] at c; cases c
    · exact w2 _ _ _ _ c
  obtain ⟨j1, h1, h2⟩ := hpost
  have hpos : ∀ d, 0 < (x.ρ (j1 + d)).sh.sem j := fun d =>
    NsyncVerif.Sched.inv_between (M := Moves x t) (P := fun k => 0 < (x.ρ k).sh.sem j)
      (fun k hk a hm => sem_stays x hr (hpc k (by omega)) hm a) h2 (Nat.le_add_right _ d)
      (fun j' a _ => hnm j' (by omega))
  obtain ⟨j', h3, h4⟩ := fair_move x hf (t := t) (i := j1) (by rw [hpc j1 h1]; simp) (by
    intro j' hj _
    obtain ⟨d, rfl⟩ : ∃ d, j' = j1 + d := ⟨j' - j1, by omega⟩
    rintro (⟨dl', k', j'', a, b, _⟩ | ⟨a, _⟩)
    · rw [hpc (j1 + d) (by omega)] at a; cases a
      have := hpos d; omega
    · rw [hpc (j1 + d) (by omega)] at a; cases a)
  exact hnm j' (by omega) h4

/-- Every thread inside nsync_counter_wait keeps moving while the counter stays zero. -/
theorem wait_moves (x : Exec s0) (hr : Reachable s0) (hf : WeakFair x)
    (hlock : ∃ n2, ∀ j, n2 ≤ j → (x.ρ j).sh.lockHolder = none) {i : Nat}
    (hz : ∀ j, i ≤ j → (x.ρ j).sh.value = 0) {t : Tid} {j0 : Nat} (hj0 : i ≤ j0)
    (hw : 0 < wrank ((x.ρ j0).pc t)) : ∃ j', j0 ≤ j' ∧ Moves x t j' := by
  by_cases hpd : ∃ dl k j, (x.ρ j0).pc t = .wPdWait dl k j
  · obtain ⟨dl, k, j, hp⟩ := hpd
    exact pdwait_moves x hr hf hz hj0 hp
  · obtain ⟨n2, hfree⟩ := hlock
    refine fair_move_after x hf n2 (fun h => by rw [h] at hw; simp [wrank] at hw) fun j' _ hn hp => ?_
    rintro (⟨dl', k', j'', a, _⟩ | ⟨_, a⟩)
    · exact hpd ⟨_, _, _, hp ▸ a⟩
    · exact a (hfree j' hn)

/-- Every thread inside nsync_counter_wait while the counter stays zero returns (leads-to with rank
    `wrank`), with result 0 unless it already was at its return point with another result (a return
    point reached at zero is the old one or has result 0: kept from step to step). -/
theorem fair_return_zero (x : Exec s0) (hr : Reachable s0) (hf : WeakFair x)
    (hlock : ∃ n2, ∀ j, n2 ≤ j → (x.ρ j).sh.lockHolder = none) {i : Nat}
    (hz : ∀ j, i ≤ j → (x.ρ j).sh.value = 0) (t : Tid) {j : Nat} (hj : i ≤ j)
    (hw : (x.ρ j).pc t = .idle ∨ 0 < wrank ((x.ρ j).pc t)) :
    ∃ j', j ≤ j' ∧ (x.ρ j').pc t = .idle ∧
      ∀ j'', j ≤ j'' → j'' ≤ j' → ∀ dl r, (x.ρ j'').pc t = .wRet dl r → r = 0 ∨ (x.ρ j).pc t = .wRet dl r := by
  -- what has been seen at the return point: a return point reached at zero is the old one or has result 0
  have hQ := NsyncVerif.Sched.keeps_from (i := j)
    (P := fun k => ∀ j'', j ≤ j'' → j'' ≤ k → ∀ dl r, (x.ρ j'').pc t = .wRet dl r → r = 0 ∨ (x.ρ j).pc t = .wRet dl r)
    (fun j'' a b dl r h => by cases Nat.le_antisymm b a; exact .inr h)
    fun k hk hq j'' a b dl r hret => by
      rcases Nat.lt_or_eq_of_le b with b | rfl
      · exact hq j'' a (Nat.le_of_lt_succ b) dl r hret
      · by_cases hm : Moves x t k
        · obtain ⟨e, _, g, _⟩ := moves_prog x hr hm
          exact (g.zret (hz k (by omega)) dl r hret).elim (hq k hk (Nat.le_refl _) dl r) .inl
        · exact hq k hk (Nat.le_refl _) dl r (not_moves_eq hm ▸ hret)
  rcases hw with hw | hw
  · exact ⟨j, Nat.le_refl _, hw, hQ j (Nat.le_refl _)⟩
  · -- the way out: leads-to with rank `wrank`
    obtain ⟨j', _, hj', hidle⟩ := NsyncVerif.Sched.leads (M := Moves x t)
      (fun k => j ≤ k ∧ 0 < wrank ((x.ρ k).pc t)) (fun k => j ≤ k ∧ (x.ρ k).pc t = .idle)
      (fun k => wrank ((x.ρ k).pc t))
      (fun k ⟨hk, hwk⟩ hnm => by
        have hpc := not_moves_eq hnm
        exact .inr ⟨⟨by omega, by rw [hpc]; exact hwk⟩, by rw [hpc]; exact Nat.le_refl _⟩)
      (fun k ⟨hk, hwk⟩ hm => by
        obtain ⟨e, _, g, _⟩ := moves_prog x hr hm
        rcases g.zrank (hz k (by omega)) hwk with a | ⟨a, b | b⟩
        · exact absurd a hm
        · exact .inl ⟨by omega, b⟩
        · exact .inr ⟨⟨by omega, b⟩, a⟩)
      (fun k ⟨hk, hwk⟩ => wait_moves x hr hf hlock hz (by omega) hwk)
      j ⟨Nat.le_refl _, hw⟩
    exact ⟨j', hj', hidle, hQ j' hj'⟩

end Counter
