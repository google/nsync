/-
  Layer `Pool`: the steps the acceptor admits, as a relation (`Step`, `step_sound`), and
  run/reachability basics.
-/
import NsyncVerif.Model.Pool
import NsyncVerif.Proofs.Run

namespace Pool

theorem need_ok {c : Prop} [Decidable c] {m : String} {k : Except String State} {s' : State} :
    need c m k = .ok s' ↔ c ∧ k = .ok s' := by
  unfold need
  split
  · exact ⟨fun h => ⟨‹c›, h⟩, fun h => h.2⟩
  · exact ⟨(nomatch ·), fun h => absurd h.1 ‹¬ c›⟩

/-! ### the accepted steps as a relation

One constructor per way the acceptor admits an event: what it requires of the old state and the
state it yields. -/

inductive Step (s : State) : Ev → State → Prop
  | ld (t : Tid) (site obs : Nat) (j : Job) (hobs : obs = s.mu)
      (hpc : (s.pc t = .idle ∧ j = .new ∧ site = 0 ∧ fast s t = none) ∨ (s.pc t = .spin0 j ∧ site = 0) ∨
        (s.pc t = .spinLd2 j ∧ site = 2)) :
      Step s (.ld t site obs) { s with pc := upd s.pc t (afterLoad j obs) }
  | casOk (t : Tid) (j : Job) (exp obs : Nat) (hpc : s.pc t = .spinCas j exp) (hobs : obs = s.mu)
      (hok : obs = exp) :
      Step s (.cas t exp (exp ||| 1) obs true)
        { s with mu := exp ||| 1, holder := some t, pc := upd s.pc t (.cs j) }
  | casFail (t : Tid) (j : Job) (exp obs : Nat) (hpc : s.pc t = .spinCas j exp) (hobs : obs = s.mu)
      (hok : obs ≠ exp) :
      Step s (.cas t exp (exp ||| 1) obs false) { s with pc := upd s.pc t (.spinLd2 j) }
  | relEmpty (t : Tid) (obs : Nat) (hpc : s.pc t = .cs .new) (hfr : s.free = []) (hobs : obs = s.mu) :
      Step s (.rel t .new obs) { s with mu := 0, holder := none, pc := upd s.pc t .newMalloc }
  | relPop (t : Tid) (obs : Nat) (q : Wid) (rest : List Wid) (hpc : s.pc t = .cs .new)
      (hfr : s.free = q :: rest) (hobs : obs = s.mu) :
      Step s (.rel t .new obs)
        { s with mu := 0, holder := none, free := rest, loc := upd s.loc q (.transit t),
                 pc := upd s.pc t (.newRet q) }
  | relPush (t : Tid) (fn : Fn) (obs : Nat) (j : Job) (w : Wid) (hpc : s.pc t = .cs j)
      (hfn : j.fn = fn) (hj : j = .free w ∨ j = .destroy w) (hobs : obs = s.mu) :
      Step s (.rel t fn obs)
        { s with mu := 0, holder := none, free := w :: s.free, loc := upd s.loc w .free,
                 pc := upd s.pc t .idle }
  | malloc (t : Tid) (w : Wid) (hpc : s.pc t = .newMalloc) (hw : w = s.nalloc) :
      Step s (.malloc t w)
        { s with nalloc := s.nalloc + 1, loc := upd s.loc w (.transit t),
                 sem := upd s.sem w (some w), waiting := upd s.waiting w 0,
                 nwflags := upd s.nwflags w MUCV, inits := upd s.inits w (s.inits w + 1),
                 nwr := bump (bump (bump s.nwr w .sem) w .waiting) w .nwflags,
                 pc := upd s.pc t (.newInit w) }
  | stRc (t : Tid) (w : Wid) (obs : Nat) (hpc : s.pc t = .newInit w) :
      Step s (.stRc t w obs)
        { s with rc := upd s.rc w 0, reserved := upd s.reserved w false,
                 inuse := upd s.inuse w false, ready := upd s.ready w true,
                 nwr := bump s.nwr w .rc, pc := upd s.pc t (.newRet w) }
  | retFast (t : Tid) (w : Wid) (hpc : s.pc t = .idle) (hf : fast s t = some w) :
      Step s (.ret t w) { s with inuse := upd s.inuse w true, loc := upd s.loc w (.held t) }
  | retReserve (t : Tid) (w : Wid) (hpc : s.pc t = .newRet w) (hp : s.ptw t = none) :
      Step s (.ret t w)
        { s with reserved := upd s.reserved w true, ptw := upd s.ptw t (some w),
                 inuse := upd s.inuse w true, loc := upd s.loc w (.held t),
                 pc := upd s.pc t .idle }
  | retPlain (t : Tid) (w r : Wid) (hpc : s.pc t = .newRet w) (hp : s.ptw t = some r) :
      Step s (.ret t w)
        { s with inuse := upd s.inuse w true, loc := upd s.loc w (.held t), pc := upd s.pc t .idle }
  | freeRes (t : Tid) (w : Wid) (hpc : s.pc t = .idle) (hloc : s.loc w = .held t)
      (hu : s.inuse w = true) (hr : s.reserved w = true) :
      Step s (.free t w) { s with inuse := upd s.inuse w false, loc := upd s.loc w (.resIdle t) }
  | freePool (t : Tid) (w : Wid) (hpc : s.pc t = .idle) (hloc : s.loc w = .held t)
      (hu : s.inuse w = true) (hr : s.reserved w = false) :
      Step s (.free t w)
        { s with inuse := upd s.inuse w false, loc := upd s.loc w (.transit t),
                 pc := upd s.pc t (.spin0 (.free w)) }
  | exit (t : Tid) (w : Wid) (hpc : s.pc t = .idle) (hp : s.ptw t = some w)
      (hr : s.reserved w = true) (hu : s.inuse w = false) :
      Step s (.exit t)
        { s with reserved := upd s.reserved w false, ptw := upd s.ptw t none,
                 loc := upd s.loc w (.transit t), pc := upd s.pc t (.spin0 (.destroy w)) }
  | use (t : Tid) (w : Wid) (hloc : s.loc w = .held t) : Step s (.use t w) s
  | envRc (w : Wid) (obs new : Nat) (hr : s.ready w = true) (hobs : obs = s.rc w) :
      Step s (.env w .rc obs new) { s with rc := upd s.rc w new }
  | envWaiting (w : Wid) (obs new : Nat) (hr : s.ready w = true) (hobs : obs = s.waiting w) :
      Step s (.env w .waiting obs new) { s with waiting := upd s.waiting w new }

theorem step_mallocNull {s s' : State} {t : Tid} : step s (.mallocNull t) ≠ .ok s' := by
  simp [step]

theorem step_sound {s s' : State} {e : Ev} (h : step s e = .ok s') : Step s e s' := by
  unfold step at h
  cases e with
  | ld t site obs =>
    simp only [need_ok] at h
    obtain ⟨hobs, h⟩ := h
    split at h
    · simp only [need_ok] at h
      obtain ⟨h2, h3, h⟩ := h
      cases h; exact .ld t site obs .new hobs (.inl ⟨‹_›, rfl, h2, h3⟩)
    · simp only [need_ok] at h
      obtain ⟨h2, h⟩ := h
      cases h; exact .ld t site obs _ hobs (.inr (.inl ⟨‹_›, h2⟩))
    · simp only [need_ok] at h
      obtain ⟨h2, h⟩ := h
      cases h; exact .ld t site obs _ hobs (.inr (.inr ⟨‹_›, h2⟩))
    · cases h
  | cas t exp new obs ok =>
    dsimp only at h
    split at h
    · simp only [need_ok] at h
      obtain ⟨rfl, rfl, hobs, hok, h⟩ := h
      cases ok with
      | true =>
        rw [if_pos rfl] at h
        cases h; exact .casOk t _ _ _ ‹_› hobs (of_decide_eq_true hok.symm)
      | false =>
        rw [if_neg Bool.false_ne_true] at h
        cases h; exact .casFail t _ _ _ ‹_› hobs (of_decide_eq_false hok.symm)
    · cases h
  | rel t fn obs =>
    dsimp only at h
    split at h
    · simp only [need_ok] at h
      obtain ⟨h1, h2, h⟩ := h
      split at h
      · cases h1
        split at h
        · cases h; exact .relEmpty t obs ‹_› ‹_› h2
        · cases h; exact .relPop t obs _ _ ‹_› ‹_› h2
      · cases h; exact .relPush t fn obs _ _ ‹_› h1 (.inl rfl) h2
      · cases h; exact .relPush t fn obs _ _ ‹_› h1 (.inr rfl) h2
    · cases h
  | malloc t w =>
    dsimp only at h
    split at h
    · simp only [need_ok] at h
      obtain ⟨hw, h⟩ := h
      cases h; exact .malloc t w ‹_› hw
    · cases h
  | mallocNull t => cases h
  | stRc t w obs =>
    dsimp only at h
    split at h
    · simp only [need_ok] at h
      obtain ⟨rfl, h⟩ := h
      cases h; exact .stRc t w obs ‹_›
    · cases h
  | ret t w =>
    dsimp only at h
    split at h
    · simp only [need_ok] at h
      obtain ⟨hf, h⟩ := h
      cases h; exact .retFast t w ‹_› hf
    · simp only [need_ok] at h
      obtain ⟨rfl, h⟩ := h
      split at h
      · cases h; exact .retReserve t w ‹_› ‹_›
      · cases h; exact .retPlain t w _ ‹_› ‹_›
    · cases h
  | free t w =>
    dsimp only at h
    split at h
    · simp only [need_ok] at h
      obtain ⟨h1, h2, h⟩ := h
      split at h
      · cases h; exact .freeRes t w ‹_› h1 h2 ‹_›
      · cases h; exact .freePool t w ‹_› h1 h2 (by simpa using ‹¬ s.reserved w = true›)
    · cases h
  | exit t =>
    dsimp only at h
    split at h
    · split at h
      · simp only [need_ok] at h
        obtain ⟨⟨hr, hu⟩, h⟩ := h
        cases h; exact .exit t _ ‹_› ‹_› hr hu
      · cases h
    · cases h
  | use t w =>
    simp only [need_ok] at h
    obtain ⟨hloc, h⟩ := h
    cases h; exact .use t w hloc
  | env w f obs new =>
    simp only [need_ok] at h
    obtain ⟨hr, h⟩ := h
    split at h
    · simp only [need_ok] at h
      obtain ⟨ho, h⟩ := h
      cases h; exact .envRc w obs new hr ho
    · simp only [need_ok] at h
      obtain ⟨ho, h⟩ := h
      cases h; exact .envWaiting w obs new hr ho

theorem run_nil (s : State) : run s [] = .ok s := rfl

theorem isRun : NsyncVerif.IsRun step run := ⟨fun _ => rfl, fun s e _ => by rw [run]; cases step s e <;> rfl⟩

theorem Reachable.init : Reachable init := ⟨[], rfl⟩

theorem Reachable.step {s s' : State} {e : Ev} (hr : Reachable s) (h : step s e = .ok s') :
    Reachable s' := by
  obtain ⟨evs, h0⟩ := hr
  exact ⟨evs ++ [e], isRun.snoc h0 h⟩

theorem Reachable.run {s s' : State} {es : List Ev} (hr : Reachable s) (h : run s es = .ok s') :
    Reachable s' := by
  obtain ⟨evs, h0⟩ := hr
  exact ⟨evs ++ es, by rw [isRun.append_of_ok h0]; exact h⟩

theorem Reachable.induct {P : State → Prop} (h0 : P Pool.init)
    (hs : ∀ s s' e, Reachable s → P s → Pool.step s e = .ok s' → P s') :
    ∀ s, Reachable s → P s :=
  fun _ ⟨_, h⟩ => isRun.induct h0 (fun s e s' => hs s s' e) h

end Pool
