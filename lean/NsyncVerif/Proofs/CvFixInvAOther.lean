/-
  Layer `CvFix` (repaired cv.c): structural invariant — how the per-thread facts of the threads that do not act
  survive a change of records.
-/
import NsyncVerif.Proofs.CvFixInvALoc

namespace NsyncVerif.CvFix

/-- A record keeps the facts that its owner's `TInvA` may rely on. -/
structure RecOK (a b : Rec) : Prop where
  owner : b.owner = a.owner
  idle : b.stat ≠ .idle
  prep : a.stat = .prep ↔ b.stat = .prep
  live : a.stat.live = true → b.stat.live = true
  selfO : a.stat = .selfOut → b.stat = .selfOut
  nq : a.stat ≠ .queued → b.stat ≠ .queued

theorem RecOK.rfl' {a : Rec} (h : a.stat ≠ .idle) : RecOK a a := ⟨rfl, h, Iff.rfl, id, id, id⟩

theorem RecOK.of_stat {a b : Rec} (ho : b.owner = a.owner) (hs : b.stat = a.stat) (h : a.stat ≠ .idle) :
    RecOK a b := by
  constructor <;> simp_all

/-- The thread `u` does not act, its frame is unchanged; the records it owns and that are not idle
    keep their status class; if `u` holds the spinlock no queued record is unqueued. -/
theorem tinvA_other {s s' : State} {u : Tid} (h : TInvA s u) (ht : s'.thr u = s.thr u)
    (hr : ∀ q, (s.recs q).owner = u → (s.recs q).stat ≠ .idle → RecOK (s.recs q) (s'.recs q))
    (hq : (s.thr u).loc.holds = true → ∀ q, (s.recs q).stat = .queued → (s'.recs q).stat = .queued) :
    TInvA s' u := by
  obtain ⟨t1, t2, t3, t4, t5, t6, t7, t8, t9, t10, t11, t12⟩ := h
  constructor <;> rw [ht]
  · exact t1
  · intro hp
    obtain ⟨a, b, c⟩ := t2 hp
    have := hr _ b (by rw [a]; simp)
    exact ⟨this.prep.mp a, this.owner.trans b, c⟩
  · intro hp
    obtain ⟨a, b, c⟩ := t3 hp
    have := hr _ a (by intro e; rw [e] at c; simp [RStat.live] at c)
    exact ⟨this.owner.trans a, b, this.live c⟩
  · intro hp
    have a := t4 hp
    apply hq _ _ a
    rcases hp with hp | hp <;> simp [hp, Loc.holds]
  · intro hp
    have a := t5 hp
    obtain ⟨o, _, lv⟩ := t3 (by rcases hp with hp | hp | hp <;> simp [waitLive, hp])
    exact (hr _ o (by rw [a]; simp)).selfO a
  · intro r hm
    obtain ⟨a, b, c, d⟩ := t6 r hm
    have := hr _ b c
    exact ⟨a, this.owner.trans b, this.idle, fun e => d (this.prep.mpr e)⟩
  · exact t7
  · exact t8
  · intro hp
    obtain ⟨a, b⟩ := t9 hp
    exact ⟨hq (by simp [hp, Loc.holds]) _ a, b⟩
  · intro hp
    obtain ⟨a, b⟩ := t10 hp
    obtain ⟨_, o, c, _⟩ := t6 _ a
    exact ⟨a, (hr _ o c).nq b⟩
  · exact t11
  · intro hp
    obtain ⟨a, b⟩ := t12 hp
    obtain ⟨_, o, c, _⟩ := t6 _ a
    exact ⟨a, (hr _ o c).nq b⟩

/-- Mutual exclusion: two holders are the same thread. -/
theorem InvA.holder_unique {s : State} (hi : InvA s) {t u : Tid} (ht : (s.thr t).loc.holds = true)
    (hu : (s.thr u).loc.holds = true) : u = t := by
  have a := (hi.hold t).mpr ht
  have b := (hi.hold u).mpr hu
  rw [a] at b; cases b; rfl

/-- Nobody holds the spinlock when the word has the spin bit clear. -/
theorem InvA.nobody_holds {s : State} (hi : InvA s) (h : s.word.spin = false) (u : Tid) :
    (s.thr u).loc.holds = false := by
  cases hb : (s.thr u).loc.holds
  · rfl
  · have := (hi.hold u).mpr hb
    have := hi.spin
    simp_all

end NsyncVerif.CvFix
