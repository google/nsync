/-
  Proofs/WaitNOwn.lean — what the frames of the calls in flight are made of (`Own`): the live records are exactly the
  records of the frames of the calls that have not freed / returned, each owned by its caller, pairwise distinct, the
  record at index i belongs to object i of the call, and the objects of a call exist.  All of it changes only in
  the four structural steps.
-/
import NsyncVerif.Proofs.WaitNMono


namespace WaitN

/-- the objects of every call in flight exist -/
def Known (s : State) : Prop := ∀ t, inCall (s.pc t) = true → ∀ o ∈ (s.fr t).objs, (s.obj o).known = true

/-- the records of a frame are pairwise distinct -/
def RecsNodup (s : State) : Prop := ∀ t, (s.fr t).recs.Nodup

theorem idx_unique {l : List Rid} (h : l.Nodup) {i j : Nat} {r : Rid} (hi : l[i]? = some r) (hj : l[j]? = some r) : i = j := by
  obtain ⟨h1, h2⟩ := List.getElem?_eq_some_iff.1 hi
  obtain ⟨h3, h4⟩ := List.getElem?_eq_some_iff.1 hj
  exact (List.getElem_inj h).1 (h2.trans h4.symm)

structure Own (s : State) : Prop where
  own : ∀ (t : Tid) (r : Rid), inCall (s.pc t) = true → (s.fr t).frees = 0 → r ∈ (s.fr t).recs →
          (s.rcd r).live = true ∧ (s.rcd r).owner = t
  back : ∀ (r : Rid), (s.rcd r).live = true →
          inCall (s.pc (s.rcd r).owner) = true ∧ (s.fr (s.rcd r).owner).frees = 0 ∧ r ∈ (s.fr (s.rcd r).owner).recs
  idx : ∀ (t : Tid) (i : Nat) (r : Rid), inCall (s.pc t) = true → (s.fr t).frees = 0 → (s.fr t).recs[i]? = some r →
          (s.fr t).objs[i]? = some (s.rcd r).obj
  known : Known s
  nodup : RecsNodup s

theorem owner_unique {s : State} (own : Own s) {v t : Tid} {r : Rid} (hcv : inCall (s.pc v) = true)
    (hfv : (s.fr v).frees = 0) (hrv : r ∈ (s.fr v).recs) (hct : inCall (s.pc t) = true) (hft : (s.fr t).frees = 0)
    (hrt : r ∈ (s.fr t).recs) : v = t := by
  rw [← (own.own v r hcv hfv hrv).2, (own.own t r hct hft hrt).2]

/-- `waiting` of a record of a call in flight (nothing freed yet) is set only by its caller, at the store of an enqueue -/
theorem Own.waiting_set {s s' : State} {v t : Tid} {r : Rid} (own : Own s) (hlv : LInv (s.pc v) (s.fr v)) (m : Mono s s' v)
    (hc : inCall (s.pc t) = true) (hf : (s.fr t).frees = 0) (hm : r ∈ (s.fr t).recs)
    (hw : (s.rcd r).waiting = false) (hw' : (s'.rcd r).waiting = true) :
    v = t ∧ ∃ i, s.pc t = .wEnq i (.store true) ∨ s.pc t = .wEnqCv i .store := by
  obtain ⟨i, hi, hri⟩ := m.wtrue r hw hw'
  have hvt : v = t := by
    rcases hi with hi | hi <;> rw [hi] at hlv <;>
      exact owner_unique own (by rw [hi]; rfl) hlv.1.frees (List.mem_of_getElem? hri) hc hf hm
  exact ⟨hvt, i, hvt ▸ hi⟩

theorem own_init : Own init :=
  ⟨fun _ _ h => by simp [init, inCall] at h, fun _ h => by simp [init] at h, fun _ _ _ h => by simp [init, inCall] at h,
   fun _ h => by simp [init, inCall] at h, fun _ => by simp [init, Frame.empty]⟩

theorem own_quiet {s s' : State} {u : Tid} (q : Quiet s s') (m : Mono s s' u) (h : Own s) : Own s' := by
  constructor
  · intro t r hc hf hr
    rw [q.inCall] at hc; rw [q.frees] at hf; rw [q.recs] at hr
    rw [q.live, q.owner]; exact h.own t r hc hf hr
  · intro r hl
    rw [q.live] at hl
    rw [q.owner, q.inCall, q.frees, q.recs]; exact h.back r hl
  · intro t i r hc hf hr
    rw [q.inCall] at hc; rw [q.frees] at hf; rw [q.recs] at hr
    rw [q.objs, q.robj]; exact h.idx t i r hc hf hr
  · intro t hc o ho
    rw [q.inCall] at hc; rw [q.objs] at ho
    exact m.known o (h.known t hc o ho)
  · intro t; rw [q.recs]; exact h.nodup t

/-- a structural step of `u` leaves the objects and the other threads alone -/
theorem Structural.others {s s' : State} {u : Tid} (st : Structural s s' u) :
    s'.obj = s.obj ∧ ∀ t, t ≠ u → s'.pc t = s.pc t ∧ s'.fr t = s.fr t := by
  cases st <;> (rename_i hs; subst hs; exact ⟨rfl, fun t ht => by simp [ht]⟩)

/-- frees = 0 when a call that used the stack array returns -/
theorem frees_of_linv_ret {r : Nat} {f : Frame} (h : LInv (.wRet r) f) (hh : f.heap.isSome = false) : f.frees = 0 := by
  rcases h.2 with h | h
  · exact h.1.frees
  · rw [h.1.frees, h.1.mallocs]
    have := h.1.heap
    rw [hh] at this
    simp at this
    simp [this]

/-- The record at index `k` of a call in flight after a structural step of `v`: the one `init` has just made, or
    the one that was there, untouched; the program point of another thread and its records are untouched too. -/
theorem Structural.rec_at {s s' : State} {v t : Tid} {k : Nat} {r : Rid} (st : Structural s s' v)
    (hl : LInv (s.pc v) (s.fr v)) (own : Own s)
    (hc' : inCall (s'.pc t) = true) (hf' : (s'.fr t).frees = 0) (hk' : (s'.fr t).recs[k]? = some r) :
    (∃ oid, t = v ∧ s.pc v = .wInit k ∧ (s.fr v).objs[k]? = some oid ∧ s'.rcd r = Rec.fresh v oid
        ∧ s'.pc v = (if oid.isCv then .wEnqCv k (.spin .ld) else .wEnq k .lockCall) ∧ (s'.fr v).objs = (s.fr v).objs)
    ∨ (inCall (s.pc t) = true ∧ (s.fr t).frees = 0 ∧ (s.fr t).recs[k]? = some r ∧ s'.rcd r = s.rcd r
        ∧ (s'.fr t).objs = (s.fr t).objs
        ∧ (t = v → ∃ i, s.pc v = .wInit i) ∧ (t ≠ v → s'.pc t = s.pc t ∧ (s'.fr t).recs = (s.fr t).recs)) := by
  have other : t ≠ v → s'.pc t = s.pc t → s'.fr t = s.fr t → (∀ x, (s.rcd x).live = true → (s.rcd x).owner = t → s'.rcd x = s.rcd x) →
      inCall (s.pc t) = true ∧ (s.fr t).frees = 0 ∧ (s.fr t).recs[k]? = some r ∧ s'.rcd r = s.rcd r
        ∧ (s'.fr t).objs = (s.fr t).objs
        ∧ (t = v → ∃ i, s.pc v = .wInit i) ∧ (t ≠ v → s'.pc t = s.pc t ∧ (s'.fr t).recs = (s.fr t).recs) := fun hne h1 h2 h3 => by
    rw [h1] at hc'; rw [h2] at hf' hk'
    have ho := own.own t r hc' hf' (List.mem_of_getElem? hk')
    exact ⟨hc', hf', hk', h3 r ho.1 ho.2, by rw [h2], fun h => (hne h).elim, fun _ => ⟨h1, by rw [h2]⟩⟩
  cases st with
  | call mu dl objs nested hpc hne hk hs =>
    subst hs
    by_cases ht : t = v
    · subst ht; simp [Frame.new, Frame.empty] at hk'
    · exact .inr (other ht (by simp [ht]) (by simp [ht]) (fun _ _ _ => rfl))
  | init i r0 oid hpc hoid hdead hi hs =>
    subst hs
    have dead : ∀ x, (s.rcd x).live = true → x ≠ r0 := fun x hx h => by rw [h, hdead] at hx; cases hx
    by_cases ht : t = v
    · subst ht
      have hfr : (s.fr t).frees = 0 := (hpc ▸ hl : LInv (.wInit _) _).1.frees
      have hct : inCall (s.pc t) = true := by rw [hpc]; rfl
      simp only [setPc_fr, setFr_fr, if_true] at hk'
      rcases Nat.lt_or_ge k (s.fr t).recs.length with h' | h'
      · rw [List.getElem?_append_left h'] at hk'
        have hne := dead r (own.own t r hct hfr (List.mem_of_getElem? hk')).1
        exact .inr ⟨hct, hfr, hk', by simp [hne], by simp, fun _ => ⟨i, hpc⟩, fun h => (h rfl).elim⟩
      · rw [List.getElem?_append_right h'] at hk'
        have hk0 : k = (s.fr t).recs.length := by
          rcases Nat.eq_zero_or_pos (k - (s.fr t).recs.length) with h0 | h0
          · omega
          · rw [List.getElem?_eq_none (by simp; omega)] at hk'; cases hk'
        subst hk0
        simp at hk'; subst hk'
        exact .inl ⟨oid, rfl, hi ▸ hpc, hi ▸ hoid, by simp [Rec.fresh], by simp [← hi], by simp⟩
    · exact .inr (other ht (by simp [ht]) (by simp [ht]) (fun x hx _ => by simp [dead x hx]))
  | free hpc hs =>
    subst hs
    by_cases ht : t = v
    · subst ht; simp at hf'
    · have hfr : (s.fr v).frees = 0 := (hpc ▸ hl : LInv .wFree _).1.frees
      refine .inr (other ht (by simp [ht]) (by simp [ht]) (fun x _ hx => ?_))
      have : x ∉ (s.fr v).recs := fun hm => ht (hx.symm.trans (own.own v x (by rw [hpc]; rfl) hfr hm).2)
      simp [this]
  | ret r0 hpc hs =>
    subst hs
    by_cases ht : t = v
    · subst ht; simp [inCall] at hc'
    · refine .inr (other ht (by simp [ht]) (by simp [ht]) (fun x _ hx => ?_))
      have : x ∉ (if (s.fr v).heap.isSome = true then [] else (s.fr v).recs) := by
        split
        · simp
        · rename_i hh
          have hfr := frees_of_linv_ret (hpc ▸ hl) (by simpa using hh)
          exact fun hm => ht (hx.symm.trans (own.own v x (by rw [hpc]; rfl) hfr hm).2)
      simp [this]

theorem own_structural {s s' : State} {t : Tid} (hl : LInv (s.pc t) (s.fr t)) (st : Structural s s' t) (h : Own s) :
    Own s' := by
  refine ⟨fun u r hc hf hr => ?_, ?_, fun u i r hc hf hr => ?_, fun u hc o ho => ?_, fun u => ?_⟩
  · obtain ⟨k, hk⟩ := List.getElem?_of_mem hr
    rcases st.rec_at hl h hc hf hk with ⟨oid, rfl, _, _, hrc, _⟩ | ⟨hc0, hf0, hk0, hrc, _⟩
    · rw [hrc]; exact ⟨rfl, rfl⟩
    · rw [hrc]; exact h.own u r hc0 hf0 (List.mem_of_getElem? hk0)
  · -- from a live record back to its frame: by the kind of step
    cases st with
    | call mu dl objs nested hpc hne hk hs =>
      subst hs
      intro r hlive
      simp only [setPc_rcd, setFr_rcd] at hlive ⊢
      have hb := h.back r hlive
      have hne : (s.rcd r).owner ≠ t := by
        intro heq; rw [heq, hpc] at hb; simp [inCall] at hb
      simpa [hne] using hb
    | init i r oid hpc hoid hdead hi hs =>
      subst hs
      have hfr : (s.fr t).frees = 0 := (hpc ▸ hl : LInv (.wInit _) _).1.frees
      have hcn : inCall (if oid.isCv = true then PC.wEnqCv i (CvEnqSt.spin SpinSt.ld) else PC.wEnq i EnqSt.lockCall) = true := by
        split <;> rfl
      intro r' hlive
      simp only [setPc_rcd, setFr_rcd, setRec_rcd] at hlive ⊢
      by_cases hr : r' = r
      · subst hr; simp [hcn]; exact hfr
      · simp only [hr, if_false] at hlive ⊢
        have hb := h.back r' hlive
        by_cases ho : (s.rcd r').owner = t
        · rw [ho] at hb ⊢
          simp [hcn, hb.2.1, hb.2.2]
        · simpa [ho] using hb
    | free hpc hs =>
      subst hs
      intro r hlive
      simp only [setPc_rcd, setFr_rcd, kill_rcd] at hlive ⊢
      by_cases hm : r ∈ (s.fr t).recs
      · simp [hm] at hlive
      · simp only [hm, if_false] at hlive ⊢
        have hb := h.back r hlive
        have hne : (s.rcd r).owner ≠ t := by intro heq; rw [heq] at hb; exact hm hb.2.2
        simpa [hne] using hb
    | ret r0 hpc hs =>
      subst hs
      intro r hlive
      simp only [setPc_rcd, setFr_rcd, kill_rcd] at hlive ⊢
      by_cases hm : r ∈ (if (s.fr t).heap.isSome = true then [] else (s.fr t).recs)
      · simp [hm] at hlive
      · simp only [hm, if_false] at hlive ⊢
        have hb := h.back r hlive
        have hne : (s.rcd r).owner ≠ t := by
          intro heq; rw [heq] at hb
          apply hm
          split
          · rename_i hh
            -- heap case: frees = 1 at wRet contradicts frees = 0
            have hl' : LInv (.wRet r0) (s.fr t) := hpc ▸ hl
            rcases hl'.2 with hfresh | hpost
            · rw [hfresh.1.heap] at hh; simp at hh
            · have h1 := hpost.1.frees; have h2 := hpost.1.mallocs; have h3 := hpost.1.heap
              rw [hh] at h3; simp at h3
              rw [h2] at h1; simp [h3] at h1; rw [h1] at hb; simp at hb
          · exact hb.2.2
        simpa [hne] using hb
  · rcases st.rec_at hl h hc hf hr with ⟨oid, rfl, _, ho, hrc, _, hob⟩ | ⟨hc0, hf0, hk0, hrc, hob, _⟩
    · rw [hrc, hob]; exact ho
    · rw [hrc, hob]; exact h.idx u i r hc0 hf0 hk0
  · -- the objects of a new call are known; the other steps keep the objects of a frame
    by_cases hu : u = t
    · subst hu
      cases st with
      | call mu dl objs nested hpc hne hk hs =>
        subst hs
        simp only [setPc_fr, setFr_fr, if_true, Frame.new] at ho
        simpa using List.all_eq_true.1 hk o ho
      | init i r oid hpc hoid hdead hi hs => subst hs; simpa using h.known u (by rw [hpc]; rfl) o (by simpa using ho)
      | free hpc hs => subst hs; simpa using h.known u (by rw [hpc]; rfl) o (by simpa using ho)
      | ret r0 hpc hs => subst hs; simp [inCall] at hc
    · obtain ⟨h0, h1⟩ := st.others
      rw [(h1 u hu).1] at hc; rw [(h1 u hu).2] at ho; rw [h0]; exact h.known u hc o ho
  · -- the record `init` appends was dead, those of the frame are alive
    by_cases hu : u = t
    · subst hu
      cases st with
      | call mu dl objs nested hpc hne hk hs => subst hs; simp [Frame.new, Frame.empty]
      | init i r oid hpc hoid hdead hi hs =>
        subst hs
        simp only [setPc_fr, setFr_fr, if_true]
        have hnm : r ∉ (s.fr u).recs := fun hm => by
          have := (h.own u r (by rw [hpc]; rfl) (hpc ▸ hl : LInv (.wInit _) _).1.frees hm).1
          rw [hdead] at this; cases this
        exact List.nodup_append.2 ⟨h.nodup u, by simp, by intro a ha b hb; simp at hb; subst hb; intro hab; subst hab; exact hnm ha⟩
      | free hpc hs => subst hs; simpa using h.nodup u
      | ret r0 hpc hs => subst hs; simp [Frame.empty]
    · rw [(st.others.2 u hu).2]; exact h.nodup u

theorem own_of_reachable {s : State} (h : Reachable s) : Own s := by
  refine reachable_inv own_init (fun _ _ h _ => ⟨h.own, h.back, h.idx, h.known, h.nodup⟩) ?_ h
  intro s s' t ev hr ih hs
  rcases quiet_or_structural hs with q | st
  · exact own_quiet q (mono_stepThr hs) ih
  · exact own_structural (linv_of_reachable hr t) st ih

theorem known_of_reachable {s : State} (h : Reachable s) : Known s := (own_of_reachable h).known

theorem recsNodup_of_reachable {s : State} (h : Reachable s) : RecsNodup s := (own_of_reachable h).nodup

end WaitN
