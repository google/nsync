/-
  Proofs/CounterFairExec.lean — Counter layer, fair release: what stays the same between two moves of a thread
  (`frame_between`, from Proofs/Sched.lean), the use of weak fairness `fair_move`, and
  `holder_releases`: under weak fairness the holder of counter_mu releases it.
-/
import NsyncVerif.Proofs.CounterFairDefs
import NsyncVerif.Proofs.Sched

namespace Counter

variable {s0 : State}

theorem not_moves_eq {x : Exec s0} {t : Tid} {j : Nat} (h : ¬ Moves x t j) :
    (x.ρ (j + 1)).pc t = (x.ρ j).pc t := by
  unfold Moves at h; exact Classical.not_not.1 h

theorem frame_between (x : Exec s0) {t : Tid} {i j : Nat} (hij : i ≤ j)
    (h : ∀ j', i ≤ j' → j' < j → ¬ Moves x t j') : (x.ρ j).pc t = (x.ρ i).pc t :=
  NsyncVerif.Sched.const_between (M := Moves x t) (f := fun j => (x.ρ j).pc t) (fun _ => not_moves_eq) hij h

/-- Weak fairness: a thread that is not blocked as long as it has not moved, moves. -/
theorem fair_move' (x : Exec s0) (hf : WeakFair x) {t : Tid} {i : Nat} (hne : (x.ρ i).pc t ≠ .idle)
    (h : ∀ j, i ≤ j → (∀ j', i ≤ j' → j' < j → ¬ Moves x t j') → ¬ Blocked (x.ρ j) t) :
    ∃ j, i ≤ j ∧ Moves x t j :=
  NsyncVerif.Sched.moves_of_fair (hf t i) fun j hj hnm =>
    ⟨by rw [frame_between x hj hnm]; exact hne, h j hj hnm⟩

theorem fair_move (x : Exec s0) (hf : WeakFair x) {t : Tid} {i : Nat} (hne : (x.ρ i).pc t ≠ .idle)
    (h : ∀ j, i ≤ j → (x.ρ j).pc t = (x.ρ i).pc t → ¬ Blocked (x.ρ j) t) :
    ∃ j, i ≤ j ∧ Moves x t j :=
  fair_move' x hf hne fun j hj hnm => h j hj (frame_between x hj hnm)

/-- … where the thread need not be blocked only from a later time `n` on -/
theorem fair_move_after (x : Exec s0) (hf : WeakFair x) {t : Tid} {i : Nat} (n : Nat) (hne : (x.ρ i).pc t ≠ .idle)
    (h : ∀ j, i ≤ j → n ≤ j → (x.ρ j).pc t = (x.ρ i).pc t → ¬ Blocked (x.ρ j) t) :
    ∃ j, i ≤ j ∧ Moves x t j := by
  apply Classical.byContradiction
  intro hn
  have hpc : ∀ j, i ≤ j → (x.ρ j).pc t = (x.ρ i).pc t :=
    fun j hj => frame_between x hj fun j' h1 _ hm => hn ⟨j', h1, hm⟩
  obtain ⟨j, h1, h2⟩ := fair_move x hf (t := t) (i := max i n) (by rw [hpc _ (Nat.le_max_left ..)]; exact hne)
    fun j hj _ => h j (by omega) (by omega) (hpc j (by omega))
  exact hn ⟨j, by omega, h2⟩

/-- a move of `t` is an accepted event of `t` -/
theorem moves_prog (x : Exec s0) (hr : Reachable s0) {t : Tid} {j : Nat} (h : Moves x t j) :
    ∃ e, x.σ j = some (.thr t e) ∧ Prog (x.ρ j).sh ((x.ρ j).pc t) e (x.ρ (j + 1)).sh ((x.ρ (j + 1)).pc t)
      ∧ StepFacts (x.ρ j) t e (x.ρ (j + 1)) := by
  rcases x.step_cases hr j with h1 | ⟨h1, _⟩ | ⟨u, e, h1, h2, h3⟩
  · exact absurd (by rw [h1]) h
  · exact absurd (by rw [h1]) h
  · by_cases hu : t = u
    · subst hu; exact ⟨e, h1, h2, h3⟩
    · exact absurd (h3.others t hu) h

theorem holder_of_holds {s : State} (hi : Inv s) {u : Tid} (h : holds (s.pc u) = true) :
    s.sh.lockHolder = some u := (hi.pcs u).1.2 h

theorem holds_of_holder {s : State} (hi : Inv s) {u : Tid} (h : s.sh.lockHolder = some u) :
    holds (s.pc u) = true := (hi.pcs u).1.1 h

/-! ### the holder of counter_mu releases it -/

theorem hm_congr {sh sh' : Shared} (h : sh'.waiters = sh.waiters) (p : PC) : hm sh' p = hm sh p := by
  cases p <;> simp [hm, h]

/-- one step seen from the holder `u` -/
theorem hm_step (x : Exec s0) (hr : Reachable s0) {u : Tid} {j : Nat}
    (hh : holds ((x.ρ j).pc u) = true) :
    (¬ Moves x u j → hm (x.ρ (j + 1)).sh ((x.ρ (j + 1)).pc u) ≤ hm (x.ρ j).sh ((x.ρ j).pc u))
    ∧ (Moves x u j → holds ((x.ρ (j + 1)).pc u) = false
        ∨ hm (x.ρ (j + 1)).sh ((x.ρ (j + 1)).pc u) < hm (x.ρ j).sh ((x.ρ j).pc u)) := by
  have hi := inv_of_reachable (x.reach hr j)
  rcases x.step_cases hr j with h1 | ⟨h1, _, h2⟩ | ⟨t, e, h1, g, f⟩
  · exact ⟨fun _ => (by rw [h1]; exact Nat.le_refl _), fun hm => absurd (by rw [h1]) hm⟩
  · refine ⟨fun _ => ?_, fun hm => absurd (by rw [h1]) hm⟩
    rw [h1, hm_congr (show (x.ρ (j + 1)).sh.waiters = (x.ρ j).sh.waiters by rw [h2])]
    exact Nat.le_refl _
  · by_cases hu : u = t
    · subst hu
      rcases g.hrank (fun d v h => by have hp := (hi.pcs u).2; rw [h] at hp; exact hp.2.2.1) hh with ⟨a, b⟩ | a | a
      · exact ⟨fun _ => (by rw [a, hm_congr b]; exact Nat.le_refl _), fun hm => absurd a hm⟩
      · exact ⟨fun hn => (by rw [not_moves_eq hn, hh] at a; cases a), fun _ => Or.inl a⟩
      · exact ⟨fun _ => Nat.le_of_lt a, fun _ => Or.inr a⟩
    · have hl := holder_of_holds hi hh
      have hw := f.waiters (by rw [hl]; intro h; cases h; exact hu rfl)
      refine ⟨fun _ => ?_, fun hm => absurd (f.others u hu) hm⟩
      rw [f.others u hu, hm_congr hw]; exact Nat.le_refl _

theorem holds_not_blocked {s : State} {u : Tid} (h : holds (s.pc u) = true) : ¬ Blocked s u := by
  rintro (⟨dl, k, j, hp, _⟩ | ⟨hp, _⟩)
  · rw [hp] at h; cases h
  · cases hpc : s.pc u <;> rw [hpc] at h hp <;> simp [holds, lockWaitPc] at h hp

theorem holds_not_idle {p : PC} (h : holds p = true) : p ≠ .idle := by
  intro hp; rw [hp] at h; cases h

/-- Under weak fairness the holder of counter_mu releases it: while it holds the mutex it is never
    blocked, its own steps take `hm` down and nobody else's takes it up. -/
theorem holder_releases (x : Exec s0) (hr : Reachable s0) (hf : WeakFair x) {u : Tid} {j : Nat}
    (hh : holds ((x.ρ j).pc u) = true) : ∃ j', j ≤ j' ∧ holds ((x.ρ j').pc u) = false := by
  refine NsyncVerif.Sched.leads (M := Moves x u) (fun j => holds ((x.ρ j).pc u) = true)
    (fun j => holds ((x.ρ j).pc u) = false) (fun j => hm (x.ρ j).sh ((x.ρ j).pc u)) ?_ ?_ ?_ j hh
  · intro j hh hnm
    exact .inr ⟨by rw [not_moves_eq hnm]; exact hh, (hm_step x hr hh).1 hnm⟩
  · intro j hh hm
    rcases (hm_step x hr hh).2 hm with c | c
    · exact .inl c
    · cases hh2 : holds ((x.ρ (j + 1)).pc u) with
      | false => exact .inl rfl
      | true => exact .inr ⟨rfl, c⟩
  · intro j hh
    exact fair_move x hf (holds_not_idle hh) fun j' _ hp => holds_not_blocked (by rw [hp]; exact hh)

end Counter
