/-
  Layer `CvFix`: `InvF` is preserved by every transition.
-/
import NsyncVerif.Proofs.CvFixInvF

namespace NsyncVerif.CvFix

/-- Local transitions: the only ones that end inside the dequeue phase are the two outcomes of the
    load of `nw->waiting` in cv_dequeue that do not remove anything, and the wait loop. -/
theorem ltr_deq {s : State} {t : Tid} {e : Event} {x' : Thr} (ha : InvA s) (hb : InvB s) (hf : InvF s)
    (h : LTr s t e x') : TInvF (s.setThr t x') t := by
  cases h with
  | deqLd0 r hl hr ho =>
    have hu : (∃ u, (s.recs r).unl = [Unl.waker u]) ∧ (s.recs r).stat = .woken := by
      rcases deq_entry_stat ha hb t r hl hr with h | ⟨u, h⟩ | h
      · have := ha.qWait r h; rw [ho] at this; cases this
      · have := hb.lWait r u h; rw [ho] at this; cases this
      · exact ⟨hf.unlW r (.inl h), h⟩
    constructor <;> simp
    exact hu
  | deqLdGone r obs hl hr hw hq =>
    have hu : ∃ u, (s.recs r).unl = [Unl.waker u] := by
      rcases deq_entry_stat ha hb t r hl hr with h | ⟨u, h⟩ | h
      · exact absurd ((ha.qMem r).mpr h) hq
      · exact ⟨u, hf.unlL r u h⟩
      · have := hb.wokenW r h; rw [hw] at this; cases this
    constructor <;> simp
    exact hu
  | deqSpinStay r obs hl hr hw => rw [setThr_self]; exact hf.thr t
  | spinLd site obs hl ho => refine tinvF_out ?_; simp; split <;> simp [Loc.deqPhase]
  | spinLdN obs hl ho => refine tinvF_out ?_; simp; split <;> simp [Loc.deqPhase]
  | sigLd site obs hl hs ho => refine tinvF_out ?_; simp; split <;> simp [Loc.deqPhase]
  | wHeadStay r obs hl hr ho hz =>
    refine tinvF_out ?_; simp; split
    · by_cases hn : (s.thr t).note = true <;> simp [hn, Loc.deqPhase]
    · simp [Loc.deqPhase]
  | wChk y r obs hy hl hr ho hso => refine tinvF_out ?_; simp; split <;> simp [Loc.deqPhase]
  | wChk2 r obs hl hr ho => refine tinvF_out ?_; simp; split <;> simp [Loc.deqPhase]
  | wwLd obs f rest hl hlist => refine tinvF_out ?_; simp; split <;> simp [Loc.deqPhase]
  | wwRelCasOk exp new obs hl => refine tinvF_out ?_; simp; split <;> simp [Loc.deqPhase]
  | ready r obs hl hr ho => refine tinvF_out ?_; simp [hl, Loc.deqPhase]
  | noteSeen hl => refine tinvF_out ?_; rcases hl with hl | hl | hl <;> simp [hl, Loc.deqPhase]
  | noteNotify hl ht => refine tinvF_out ?_; simp [hl, Loc.deqPhase]
  | dbgLd obs hl ho => refine tinvF_out ?_; simp; split <;> simp [Loc.deqPhase]
  | _ => refine tinvF_out ?_; simp [Loc.deqPhase, Thr.fresh]

theorem ite_sRel_deq (b : Bool) : (if b = true then Loc.sRel else Loc.sRcLd).deqPhase = false := by
  cases b <;> rfl

theorem open_not_deq {l : Loc} (h : l.isOpen = true) : l.deqPhase = false := by
  cases l <;> first | rfl | cases h

/-- The acting thread: the rules of cv_dequeue, every other rule ends outside it. -/
theorem invF_tr {cfg : Config} {s s' : State} {e : Event} (ha : InvA s) (hb : InvB s) (hf : InvF s)
    (h : Tr cfg s e s') : InvF s' := by
  refine invF_of ha hb hf h fun u hu => ?_
  cases h with
  | same e h => exact hf.thr u
  | tick => cases hu
  | semOther e sem' h => exact tinvF_keep (hf.thr u) rfl (fun _ => rfl) (fun _ => rfl)
  | loc h => cases (ltr_tid h).symm.trans hu; exact ltr_deq ha hb hf h
  | acq t exp new obs o n hl =>
    cases hu
    refine tinvF_out ?_
    rcases (afterAcquire_thr_self { s with word := n, holder := some u } u { s.thr u with old := o }).2.2.2.2 with
      h | h | h | h | h | h <;> rw [h] <;> rfl
  | relSig t site new obs n hl =>
    cases hu
    refine tinvF_out ?_
    simp
    rcases wakeEntry_cases s (s.thr u).list with ⟨_, hw⟩ | ⟨_, hw | hw⟩ <;> simp [hw, Loc.deqPhase]
  | relDeqW t new obs n hl =>
    cases hu
    have := (hf.thr u).wqW (.inl hl)
    constructor <;> simp
    exact this
  | deqLdQueued t r obs hl hr hw hq =>
    cases hu
    have hst := (ha.qMem r).mp hq
    constructor <;> simp [hb.unlQ r (.inl hst)]
  | deqSt t r obs hl hr =>
    cases hu; subst hr
    have := (hf.thr u).wqSt hl
    have hso := (hb.thr u).deqS hl
    constructor <;> simp
    exact .inl ⟨this.1, this.2, hso⟩
  | wSt1 t r obs hl hm hst => cases hu; refine tinvF_out ?_; simp; split <;> simp [Loc.deqPhase]
  | semVWake t k r q hl hc => cases hu; refine tinvF_out ?_; simp; split <;> simp [Loc.deqPhase]
  | sRcCasOk t site r exp new obs hl =>
    cases hu; refine tinvF_out ?_; simp only [setThr_thr, if_true]; exact ite_sRel_deq _
  | wInit t r hl | fStW t r new hl | fCasOk t r exp new obs hl =>
    cases hu; exact tinvF_out (open_not_deq (by simpa using hl))
  | nwInit t r hl => cases hu; exact tinvF_out (by simp [hl, Loc.deqPhase])
  | wHeadExit t r y hy hl => cases hu; subst hy; refine tinvF_out ?_; simp [Loc.deqPhase]
  | _ => cases hu; refine tinvF_out ?_; simp [Loc.deqPhase]

end NsyncVerif.CvFix
