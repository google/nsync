import NsyncVerif.Proofs.MuCEff
/-
  MuC: facts about the locals of one thread (pc-local invariant `Inv8`), among them:
  * the scan of unlock_slow drops MU_ALL_FALSE from `set_on_release` only after it has decided to wake
    somebody (`wake` non-empty) — so a scan that wakes nobody ends with MU_ALL_FALSE still in
    `set_on_release`;
  * the word a fast-path release CAS expects passed the test that selects the fast path.
  The plain code of the scan keeps them (`scanInv_ok8`, `afterEval_ok8`), and so do the relations between
  program points (`PcMove.ok8`, `CasPc.ok8`, `SemPc.ok8`).
-/
namespace NsyncVerif.MuC

def Scan.ok8 (sc : Scan) : Prop := (sc.saf = false → sc.wake ≠ []) ∧ (sc.wt ≠ none → sc.wake ≠ [])

/-- lock_slow: `clear` and the masking of the hint bits go together (mu.c:105-122), a thread that has
    never been woken has no `long_wait`.  (That there is a waiter record in the wait loop is in `PC.ok8`.) -/
def SL.ok8 (c : SL) : Prop := c.clear = c.ign ∧ (c.ign = false → c.lwl = false)

def PC.ok8 : PC → Prop
  | .lsLd c | .lsCasAcq c _ | .lsSt c => c.ok8
  | .lsCasEnq c old => c.ok8 ∧ blocked c.l c.ign old = true
  | .lsRelLd c | .lsRelCas c _ | .lsWaitLd c | .lsPEnter c | .lsPRet c => c.ok8 ∧ c.w.isSome = true
  | .mwRelLd c => c.w.isSome = true
  | .mwRelCas c old add0 =>
    add0 = (!(subWord c.l old).wlock && (subWord c.l old).readers == 0 && c.hadW && !old.desig) ∧ c.w.isSome = true
  | .usRelLd _ sc | .usRelCas _ sc _ | .usEval _ sc | .usRcLd _ sc _ | .usRcCas _ sc _ _ | .usReLd _ sc | .usReCas _ sc _ => sc.ok8
  | .usFinLd _ f | .usFinCas _ f _ => (f.saf = false → f.wake ≠ []) ∧ f.cDesig = f.wake.isEmpty
  | .ulCas1 .W nw old => (old.waiting && !old.desig && !(nw && old.af)) = false
  | .ulCas1 .R _ old => (old.waiting && !old.desig && old.readers == 1 && !old.af) = false
  | .usCasUnc _ old => uncontended old = true
  | _ => True

def Inv8 (s : State) : Prop := ∀ t, (s.pc t).ok8

def ScanRes.good8 : ScanRes → Prop
  | .eval _ sc' | .remove _ sc' | .iterEnd sc' => sc'.ok8
  | .panic => True

theorem scanGo_ok8 (wr : Wid → WRec) (l : List Wid) (sc : Scan) (h : sc.ok8) : (scanGo wr l sc).good8 := by
  induction l generalizing sc with
  | nil => exact h
  | cons k rest ih =>
    unfold scanGo
    split
    · rename_i hw
      exact ⟨fun _ => h.2 (by rw [hw]; simp), h.2⟩
    · split
      · split
        · exact h
        · trivial
      · by_cases hw : sc.wt = none ∨ (wr k).lType = .R
        · simp only [wakeOrPass, hw, if_true, ScanRes.good8, Scan.ok8]
          exact ⟨fun _ => by simp, fun _ => by simp⟩
        · simp only [wakeOrPass, hw, if_false]
          refine ih _ ⟨fun _ => h.2 (fun e => hw (Or.inl e)), h.2⟩

theorem pickup_ok8 {s : State} {sc sc2 : Scan} (h : (pickup s sc).2 = some sc2) (hok : sc.ok8) : sc2.ok8 := by
  unfold pickup at h
  split at h
  · cases h
  · simp only [Option.some.injEq] at h; subst h; exact hok

theorem ok8_stop {s : State} {t : Tid} {p : PC} (h : p.ok8) : ((setPc s t p).pc t).ok8 := by
  rw [setPc_pc, setFn_same]; exact h

theorem scanInv_ok8 (t : Tid) (r : Ret) : ScanInv t r (fun _ sc => sc.ok8) (fun s' => (s'.pc t).ok8) where
  eval := fun hok hgo => ok8_stop (hgo ▸ scanGo_ok8 _ _ _ hok : ScanRes.good8 (.eval _ _))
  remove := fun hok hgo => ok8_stop (hgo ▸ scanGo_ok8 _ _ _ hok : ScanRes.good8 (.remove _ _))
  iterEnd := fun hok hgo => (hgo ▸ scanGo_ok8 _ _ _ hok : ScanRes.good8 (.iterEnd _))
  reLd := fun hok _ => ok8_stop hok
  fin := fun hok _ => ok8_stop (p := .usFinLd r _) ⟨hok.1, rfl⟩
  pick := fun hok e2 => pickup_ok8 e2 hok
  relLd := fun hok _ => ok8_stop hok

theorem afterEval_ok8 {s : State} {sc : Scan} {t : Tid} {r : Ret} {res : Bool} {s' : State}
    (h : afterEval s t r sc res = .ok s') (hok : sc.ok8) : (s'.pc t).ok8 :=
  (scanInv_ok8 t r).afterEval h (fun _ _ _ _ => hok)
    (fun _ _ _ _ _ => ok8_stop (p := .usRcLd r _ _) ⟨fun _ => by simp, fun _ => by simp⟩)
    (fun _ _ _ _ hw => ⟨fun _ => hok.2 (fun e => hw (Or.inl e)), hok.2⟩)

theorem ok8_retPc (r : Ret) : r.pc.ok8 := by cases r <;> exact trivial

theorem ok8_finPc (r : Ret) (l : List Wid) : (finPc r l).ok8 := by
  cases l with
  | nil => exact ok8_retPc r
  | cons k rest => exact trivial

theorem ok8_loopPc (c : MW) (b : Bool) : (loopPc c b).ok8 := by
  unfold loopPc; split <;> exact trivial

theorem PcMove.ok8 {s : State} {p p' : PC} (h : PcMove s p p') (hok : p.ok8) : p'.ok8 := by
  cases h
  case ld h => cases h <;> first | exact trivial | exact hok | simp_all [PC.ok8, SL.ok8, SL.entry, SL.fromWait, SL.woken]
  all_goals first | exact trivial | exact hok | simp_all [PC.ok8, SL.ok8, SL.entry]

theorem CasPc.ok8 {s : State} {p p' : PC} {nw : Word} {w : Option Wid} (h : CasPc s p p' nw w) (hok : p.ok8) : p'.ok8 := by
  cases h
  case unc r old _ => exact ok8_retPc r
  case acqMw => split <;> first | exact trivial | exact ok8_loopPc _ _
  all_goals first | exact trivial | simp_all [PC.ok8]

theorem SemPc.ok8 {cfg : Cfg} {s : State} {p p' : PC} {k : Wid} {n : Nat} (h : SemPc cfg s p p' k n) (hok : p.ok8) : p'.ok8 := by
  cases h with
  | ls c k _ _ => exact hok
  | mw c dl k _ _ => exact trivial
  | v r k rest => exact ok8_finPc r rest

end NsyncVerif.MuC
