/-
  Proofs/SemWaitInvAux.lean — two consequences of the invariant used by its preservation proof and by C13: the
  record at the head of a list that a notifier is about to unlink, and the empty list of a fresh note.
-/
import NsyncVerif.Proofs.SemWaitInv

namespace SemWait

/-- the record at the head of a note's list whose mutex a protocol-driven thread holds -/
theorem pop_facts {s : State} {t : Tid} {r : Rid} {tl : List Rid} (ha : InvA s) (hq : InvQ s)
    (hp : protoMode (s.pc t) = true) (hqu : (s.note (s.rcd r).note).queue = r :: tl)
    (hl : (s.note (s.rcd r).note).lock = some t) :
    enqNL (s.pc (s.rcd r).owner) = true ∧ (s.rcd r).live = true := by
  have hm : r ∈ (s.note (s.rcd r).note).queue := by rw [hqu]; exact List.mem_cons_self
  obtain ⟨hlive, -, henq⟩ := hq.q1 _ _ hm
  refine ⟨?_, hlive⟩
  rcases enq_cases henq with h | h
  · exact h
  · have h1 := ha.h1 _ h
    have h2 := (ha.own hlive).2.1
    rw [← h2, hl] at h1
    cases h1
    rw [proto_not_holds hp] at h
    cases h

/-- nobody waits on a note that no nsync_sem_wait_with_cancel_ has been called with -/
theorem fresh_queue_nil {s : State} {k : NoteId} (ha : InvA s) (hq : InvQ s) (hf : (s.note k).fresh = true) :
    (s.note k).queue = [] := by
  cases hqu : (s.note k).queue with
  | nil => rfl
  | cons r tl =>
    have hm : r ∈ (s.note k).queue := by rw [hqu]; exact List.mem_cons_self
    obtain ⟨hl, hn, -⟩ := hq.q1 k r hm
    obtain ⟨-, hn', hin⟩ := ha.own hl
    have := (ha.i5 _ hin).2
    rw [← hn', hn, hf] at this
    cases this

/-- nothing refers to a note that nsync_note_new has not returned yet -/
theorem unknown_unused {s : State} {k : NoteId} (ha : InvA s) (hq : InvQ s) (hk : (s.note k).known = false) :
    (∀ t, inCall (s.pc t) = true → (s.fr t).note ≠ k) ∧ (∀ r, (s.rcd r).live = true → (s.rcd r).note ≠ k)
      ∧ (s.note k).queue = [] := by
  have h1 : ∀ t, inCall (s.pc t) = true → (s.fr t).note ≠ k := fun t hin e => by
    have := (ha.i5 t hin).1
    rw [e, hk] at this; cases this
  have h2 : ∀ r, (s.rcd r).live = true → (s.rcd r).note ≠ k := fun r hl e =>
    h1 _ (ha.own hl).2.2 ((ha.own hl).2.1 ▸ e)
  refine ⟨h1, h2, ?_⟩
  cases hqu : (s.note k).queue with
  | nil => rfl
  | cons r tl =>
    obtain ⟨hl, hn, -⟩ := hq.q1 k r (by rw [hqu]; exact List.mem_cons_self)
    exact absurd hn (h2 r hl)

end SemWait
