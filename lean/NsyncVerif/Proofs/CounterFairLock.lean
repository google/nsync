/-
  Proofs/CounterFairLock.lean — Counter layer, fair release: with finitely many API calls,
  counter_mu is acquired only finitely often (`lrank`), and under weak fairness it is eventually
  free for ever (`lock_eventually_free`).
-/
import NsyncVerif.Proofs.CounterFairExec

namespace Counter

variable {s0 : State}

/-- only finitely many threads are inside a call -/
theorem finite_support {s : State} (h : Reachable s) : ∃ L : List Tid, ∀ t, t ∉ L → s.pc t = .idle := by
  refine Reachable.induct (P := fun s => ∃ L : List Tid, ∀ t, t ∉ L → s.pc t = .idle) ?_ ?_ h
  · exact ⟨[], fun t _ => rfl⟩
  · rintro s e s' hr ⟨L, hL⟩ hs
    cases e with
    | tick ns => obtain ⟨_, rfl⟩ := step_tick hs; exact ⟨L, hL⟩
    | thr t ev =>
      have f := facts_stepThr (inv_of_reachable hr) hs
      refine ⟨t :: L, fun u hu => ?_⟩
      have h1 : u ≠ t := fun h => hu (by simp [h])
      have h2 : u ∉ L := fun h => hu (by simp [h])
      rw [f.others u h1]; exact hL u h2

/-- A rank of program points that is 0 at `idle`, that no step takes up from time `n` on and that every
    acquisition of counter_mu takes down: counter_mu is acquired only finitely often.  (Only finitely many
    threads are not idle at time `n`; the others cannot acquire, their rank being 0.) -/
theorem no_acq_of_rank (x : Exec s0) (hr : Reachable s0) (rk : PC → Nat) (h0 : rk .idle = 0) {n : Nat}
    (hmove : ∀ j, n ≤ j → ∀ t, Moves x t j → rk ((x.ρ (j + 1)).pc t) ≤ rk ((x.ρ j).pc t)
      ∧ (holds ((x.ρ j).pc t) = false → holds ((x.ρ (j + 1)).pc t) = true →
          rk ((x.ρ (j + 1)).pc t) < rk ((x.ρ j).pc t))) :
    ∃ n1, ∀ j, n1 ≤ j → ∀ t, holds ((x.ρ j).pc t) = false → holds ((x.ρ (j + 1)).pc t) = false := by
  -- a thread that does not move keeps its program point
  have hstep : ∀ j, n ≤ j → ∀ t, rk ((x.ρ (j + 1)).pc t) ≤ rk ((x.ρ j).pc t)
      ∧ (holds ((x.ρ j).pc t) = false → holds ((x.ρ (j + 1)).pc t) = true →
          rk ((x.ρ (j + 1)).pc t) < rk ((x.ρ j).pc t)) := fun j hj t => by
    by_cases hm : Moves x t j
    · exact hmove j hj t hm
    · rw [not_moves_eq hm]; exact ⟨Nat.le_refl _, fun a b => by rw [a] at b; cases b⟩
  obtain ⟨L, hL⟩ := finite_support (x.reach hr n)
  have hzero : ∀ t, t ∉ L → ∀ j, n ≤ j → rk ((x.ρ j).pc t) ≤ 0 := fun t ht j hj => by
    have := NsyncVerif.Sched.mono_from (f := fun j => rk ((x.ρ j).pc t)) (fun j hj => (hstep j hj t).1) j hj
    rwa [hL t ht, h0] at this
  obtain ⟨n1, h1, hP⟩ := NsyncVerif.Sched.eventually_list
    (P := fun t j => holds ((x.ρ j).pc t) = false → holds ((x.ρ (j + 1)).pc t) = false) n L (by
      intro t _
      obtain ⟨nt, h1, h2⟩ := NsyncVerif.Sched.mono_stabilizes (fun j => rk ((x.ρ j).pc t)) (i := n)
        (fun j hj => (hstep j hj t).1)
      refine ⟨nt, h1, fun j hj a => ?_⟩
      cases hb : holds ((x.ρ (j + 1)).pc t) with
      | false => rfl
      | true =>
        have := (hstep j (by omega) t).2 a hb
        have e1 := h2 j hj
        have e2 := h2 (j + 1) (by omega)
        omega)
  refine ⟨n1, fun j hj t a => ?_⟩
  by_cases ht : t ∈ L
  · exact hP t ht j hj a
  · cases hb : holds ((x.ρ (j + 1)).pc t) with
    | false => rfl
    | true =>
      exfalso
      have := (hstep j (by omega) t).2 a hb
      have z := hzero t ht j (by omega)
      omega

/-- with finitely many arrivals, counter_mu is acquired only finitely often -/
theorem no_acq_eventually (x : Exec s0) (hr : Reachable s0) (ha : FiniteArrivals x) :
    ∃ n1, ∀ j, n1 ≤ j → ∀ t, holds ((x.ρ j).pc t) = false → holds ((x.ρ (j + 1)).pc t) = false := by
  obtain ⟨n, hn⟩ := ha
  refine no_acq_of_rank x hr lrank rfl (n := n) fun j hj t hm => ?_
  obtain ⟨e, h1, g, _⟩ := moves_prog x hr hm
  exact ⟨g.lrk (hn j t e hj h1), g.acq⟩

theorem not_holds {s : State} (hi : Inv s) {u : Tid} (h : s.sh.lockHolder ≠ some u) : holds (s.pc u) = false :=
  Bool.eq_false_iff.2 fun hb => h (holder_of_holds hi hb)

/-- if counter_mu is acquired only finitely often then, under weak fairness, it is eventually free
    for ever -/
theorem lock_free_of_no_acq (x : Exec s0) (hr : Reachable s0) (hf : WeakFair x)
    (h : ∃ n1, ∀ j, n1 ≤ j → ∀ t, holds ((x.ρ j).pc t) = false → holds ((x.ρ (j + 1)).pc t) = false) :
    ∃ n2, ∀ j, n2 ≤ j → (x.ρ j).sh.lockHolder = none := by
  obtain ⟨n1, hacq⟩ := h
  have hinv : ∀ j, Inv (x.ρ j) := fun j => inv_of_reachable (x.reach hr j)
  -- from `n1` on, a thread that does not hold counter_mu never holds it later: so whoever holds it at
  -- `j` held it at every `i` between `n1` and `j`
  have since : ∀ i, n1 ≤ i → ∀ j, i ≤ j → ∀ t, (x.ρ j).sh.lockHolder = some t → (x.ρ i).sh.lockHolder = some t := by
    intro i hi j hj t ht
    apply Classical.byContradiction
    intro hne
    have := NsyncVerif.Sched.keeps_from (P := fun j => holds ((x.ρ j).pc t) = false) (not_holds (hinv i) hne)
      (fun j hj => hacq j (Nat.le_trans hi hj) t) j hj
    rw [holds_of_holder (hinv j) ht] at this; cases this
  cases h0 : (x.ρ n1).sh.lockHolder with
  | none =>
    refine ⟨n1, fun j hj => ?_⟩
    cases h1 : (x.ρ j).sh.lockHolder with
    | none => rfl
    | some t => have := since n1 (Nat.le_refl _) j hj t h1; rw [h0] at this; cases this
  | some u =>
    -- the holder at `n1` releases at some `j'`; a later holder would have held at `n1` and at `j'`
    obtain ⟨j', h1, h2⟩ := holder_releases x hr hf (holds_of_holder (hinv n1) h0)
    refine ⟨j', fun j hj => ?_⟩
    cases h3 : (x.ρ j).sh.lockHolder with
    | none => rfl
    | some t =>
      have a := since n1 (Nat.le_refl _) j (Nat.le_trans h1 hj) t h3
      rw [h0] at a; cases a
      have := holds_of_holder (hinv j') (since j' h1 j hj u h3)
      rw [h2] at this; cases this

/-- … and, under weak fairness, it is eventually free for ever. -/
theorem lock_eventually_free (x : Exec s0) (hr : Reachable s0) (hf : WeakFair x) (ha : FiniteArrivals x) :
    ∃ n2, ∀ j, n2 ≤ j → (x.ρ j).sh.lockHolder = none :=
  lock_free_of_no_acq x hr hf (no_acq_eventually x hr ha)

end Counter
