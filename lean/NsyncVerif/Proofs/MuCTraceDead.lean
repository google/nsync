import NsyncVerif.Model.MuC
/-
  MuC: an accepted execution (899 model events) that ends in a DEAD mutex — MU_LONG_WAIT set, the long waiter asleep on
  the queue, the only woken thread spinning in mu_try_acquire_after_timeout_or_cancel for MU_LONG_WAIT to clear, nobody
  holding the mutex.  Witness of `C06_fair_termination_old_code_witness` (Props/C06FairFull.lean): an execution of
  mu_wait.c before the repair of defect F9.  Generated from a schedule by the model's own successor function (every event is
  the unique event the acceptor accepts for the scheduled thread, up to the choices "which record" / "the timed P times
  out").

  CONFIRMED ON THE REAL LIBRARY (unmodified /repo sources under the harness, `sh /verif/harness/build.sh <dir>`): scenario
    sem counting
    objs mu=1 cv=0 var=1
    var x0 0 mu0
    cond c0 eq x0 1
    fiber lock mu0 ; unlock mu0
    fiber lock mu0 ; unlock mu0 ; <31 times: lock mu0 ; unlock mu0 ;> lock mu0 ; wr x0 1 ; unlock mu0
    fiber rlock mu0 ; runlock mu0
    fiber rlock mu0 ; runlock mu0
    fiber rlock mu0 ; muwait mu0 c0 p5 ; runlock mu0
    expect stuck-ok
  with the schedule (fiber numbers, `NxK` = K times N, T = let the pending deadline expire)
    sched=1x2 2x13 3x13 1x14 2x5 4x14 1x3 0x13 1x17 0x8 1x13 0x8 1x13 0x8 1x13 0x8 1x13 0x8 1x13 0x8 1x13 0x8 1x13 0x8 1x13 0x8 1x13 0x8 1x13 0x8 1x13 0x8 1x13 0x8 1x13 0x8 1x13 0x8 1x13 0x8 1x13 0x8 1x13 0x8 1x13 0x8 1x13 0x8 1x13 0x8 1x13 0x8 1x13 0x8 1x13 0x8 1x13 0x8 1x13 0x8 1x13 0x8 1x13 0x8 1x13 0x8 1x22 3x4 T 4x6 3x6 0x8 3x12 4x5
  ends with  `# outcome oracle … violation=lock-missed: fiber 0 is asleep inside nsync_mu_lock / nsync_mu_rlock although
  mu0 is free and no thread can move`  — fiber 4 loads mu0.word = 116 again and again at
  mu_wait.c/3/mu_try_acquire_after_timeout_or_cancel, fiber 0 is in `sem p_enter`, fibers 1, 2, 3 have finished.  The words
  of the harness log coincide with those of this trace (… 61, 119, 117, 119, 116).  (Files: /tmp/f9_mu_long_wait_deadlock/.)

  Threads: 0 = L (nsync_mu_lock, becomes the long waiter), 1 = the holder that barges 30 times and sets x0 := 1,
  2 = Y and 3 = X (nsync_mu_rlock; woken together, X stays "in flight" all along), 4 = T (nsync_mu_rlock;
  nsync_mu_wait_with_deadline x0 == 1, deadline 5; nsync_mu_runlock).
  Scenario:
    1 locks; 2, 3 call rlock and queue; 1 unlocks and wakes both; 2 acquires (clears MU_DESIG_WAKER), releases; 3 is not
    scheduled.  4: rlock, nsync_mu_wait (condition false) — queued with its condition, asleep in its timed P.
    1 locks; 0 calls lock and queues.  29 times: 1 unlocks (wakes 0), 1 locks again, 0 finds the mutex held and re-queues
    at the front.  1 unlocks: 30th wake of 0, which is not scheduled (MU_DESIG_WAKER set).
    1 locks, x0 := 1, unlocks (fast path: MU_DESIG_WAKER).  3 at last acquires its read lock — its acquire CAS clears
    MU_DESIG_WAKER, although 0 is still in flight.  The clock passes 5: 4's P times out, 4 finds `waiting` still set and
    spins in mu_try_acquire_after_timeout_or_cancel (a reader holds).  3 calls runlock: slow path (MU_DESIG_WAKER clear),
    grabs, takes 4's record, releases the spinlock to evaluate.  Now 0 runs: 30th failed attempt (3 holds the writer bit
    while it scans): it queues itself with MU_LONG_WAIT — on mu->waiters, i.e. BEHIND 4's record, which is on 3's private
    list.  3 evaluates 4's condition: true, 4 is a reader: woken; picks up 0's record: a writer after a reader: passed
    over (MU_WRITER_WAITING).  3 wakes 4 and returns.  The mutex is free; 4 spins for ever (MU_LONG_WAIT); 0 sleeps for
    ever; every newcomer queues behind MU_LONG_WAIT.
-/
namespace NsyncVerif.MuC

def traceDead : List Event := [
 .call 1 .lock,
 .cas 1 .acq .word 0 1 0 true,
 .ret 1 .lock .void,
 .call 2 .rlock,
 .cas 2 .acq .word 0 256 1 false,
 .ld 2 .rlx .word 1,
 .ld 2 .rlx .word 1,
 .cas 2 .acq .word 1 7 1 true,
 .st 2 .rlx (.waiting 1) 1 0,
 .ld 2 .rlx .word 7,
 .cas 2 .rel .word 7 5 7 true,
 .ld 2 .acq (.waiting 1) 1,
 .semPEnter 2 1,
 .call 3 .rlock,
 .cas 3 .acq .word 0 256 5 false,
 .ld 3 .rlx .word 5,
 .ld 3 .rlx .word 5,
 .cas 3 .acq .word 5 7 5 true,
 .st 3 .rlx (.waiting 2) 1 0,
 .ld 3 .rlx .word 7,
 .cas 3 .rel .word 7 5 7 true,
 .ld 3 .acq (.waiting 2) 1,
 .semPEnter 3 2,
 .call 1 .unlock,
 .cas 1 .rel .word 1 0 5 false,
 .ld 1 .rlx .word 5,
 .ld 1 .rlx .word 5,
 .cas 1 .ar .word 5 14 5 true,
 .ld 1 .rlx (.rc 1) 0,
 .cas 1 .rlx (.rc 1) 0 1 0 true,
 .ld 1 .rlx (.rc 2) 0,
 .cas 1 .rlx (.rc 2) 0 1 0 true,
 .ld 1 .rlx .word 14,
 .cas 1 .rel .word 14 8 14 true,
 .st 1 .rel (.waiting 1) 0 1,
 .semV 1 1,
 .st 1 .rel (.waiting 2) 0 1,
 .semV 1 2,
 .ret 1 .unlock .void,
 .semPRet 2 1,
 .ld 2 .acq (.waiting 1) 0,
 .ld 2 .rlx .word 8,
 .cas 2 .acq .word 8 256 8 true,
 .ret 2 .rlock .void,
 .call 2 .runlock,
 .cas 2 .rel .word 256 0 256 true,
 .ret 2 .runlock .void,
 .call 4 .rlock,
 .cas 4 .acq .word 0 256 0 true,
 .ret 4 .rlock .void,
 .call 4 (.wait (some { fn := .eq, k := 0, var := 0, val := 1, hasEq := false }) (some 5) false),
 .ld 4 .rlx .word 256,
 .cond 4 .eq 0 false,
 .st 4 .rlx (.waiting 3) 1 0,
 .ld 4 .rlx (.rc 3) 0,
 .ld 4 .rlx .word 256,
 .cas 4 .acq .word 256 278 256 true,
 .ld 4 .rlx .word 278,
 .cas 4 .rel .word 278 20 278 true,
 .ld 4 .acq (.waiting 3) 1,
 .semPdEnter 4 3 (some 5),
 .call 1 .lock,
 .cas 1 .acq .word 0 1 20 false,
 .ld 1 .rlx .word 20,
 .cas 1 .acq .word 20 21 20 true,
 .ret 1 .lock .void,
 .call 0 .lock,
 .cas 0 .acq .word 0 1 21 false,
 .ld 0 .rlx .word 21,
 .ld 0 .rlx .word 21,
 .cas 0 .acq .word 21 55 21 true,
 .st 0 .rlx (.waiting 0) 1 0,
 .ld 0 .rlx .word 55,
 .cas 0 .rel .word 55 53 55 true,
 .ld 0 .acq (.waiting 0) 1,
 .semPEnter 0 0,
 .call 1 .unlock,
 .cas 1 .rel .word 1 0 53 false,
 .ld 1 .rlx .word 53,
 .ld 1 .rlx .word 53,
 .cas 1 .ar .word 53 63 53 true,
 .ld 1 .rlx .word 63,
 .cas 1 .rel .word 63 61 63 true,
 .cond 1 .eq 0 false,
 .ld 1 .rlx (.rc 0) 0,
 .cas 1 .rlx (.rc 0) 0 1 0 true,
 .ld 1 .rlx .word 61,
 .cas 1 .acq .word 61 63 61 true,
 .ld 1 .rlx .word 63,
 .cas 1 .rel .word 63 188 63 true,
 .st 1 .rel (.waiting 0) 0 1,
 .semV 1 0,
 .ret 1 .unlock .void,
 .call 1 .lock,
 .cas 1 .acq .word 0 1 188 false,
 .ld 1 .rlx .word 188,
 .cas 1 .acq .word 188 157 188 true,
 .ret 1 .lock .void,
 .semPRet 0 0,
 .ld 0 .acq (.waiting 0) 0,
 .ld 0 .rlx .word 157,
 .cas 0 .acq .word 157 55 157 true,
 .st 0 .rlx (.waiting 0) 1 0,
 .ld 0 .rlx .word 55,
 .cas 0 .rel .word 55 53 55 true,
 .ld 0 .acq (.waiting 0) 1,
 .semPEnter 0 0,
 .call 1 .unlock,
 .cas 1 .rel .word 1 0 53 false,
 .ld 1 .rlx .word 53,
 .ld 1 .rlx .word 53,
 .cas 1 .ar .word 53 63 53 true,
 .ld 1 .rlx (.rc 0) 1,
 .cas 1 .rlx (.rc 0) 1 2 1 true,
 .ld 1 .rlx .word 63,
 .cas 1 .rel .word 63 60 63 true,
 .st 1 .rel (.waiting 0) 0 1,
 .semV 1 0,
 .ret 1 .unlock .void,
 .call 1 .lock,
 .cas 1 .acq .word 0 1 60 false,
 .ld 1 .rlx .word 60,
 .cas 1 .acq .word 60 29 60 true,
 .ret 1 .lock .void,
 .semPRet 0 0,
 .ld 0 .acq (.waiting 0) 0,
 .ld 0 .rlx .word 29,
 .cas 0 .acq .word 29 55 29 true,
 .st 0 .rlx (.waiting 0) 1 0,
 .ld 0 .rlx .word 55,
 .cas 0 .rel .word 55 53 55 true,
 .ld 0 .acq (.waiting 0) 1,
 .semPEnter 0 0,
 .call 1 .unlock,
 .cas 1 .rel .word 1 0 53 false,
 .ld 1 .rlx .word 53,
 .ld 1 .rlx .word 53,
 .cas 1 .ar .word 53 63 53 true,
 .ld 1 .rlx (.rc 0) 2,
 .cas 1 .rlx (.rc 0) 2 3 2 true,
 .ld 1 .rlx .word 63,
 .cas 1 .rel .word 63 60 63 true,
 .st 1 .rel (.waiting 0) 0 1,
 .semV 1 0,
 .ret 1 .unlock .void,
 .call 1 .lock,
 .cas 1 .acq .word 0 1 60 false,
 .ld 1 .rlx .word 60,
 .cas 1 .acq .word 60 29 60 true,
 .ret 1 .lock .void,
 .semPRet 0 0,
 .ld 0 .acq (.waiting 0) 0,
 .ld 0 .rlx .word 29,
 .cas 0 .acq .word 29 55 29 true,
 .st 0 .rlx (.waiting 0) 1 0,
 .ld 0 .rlx .word 55,
 .cas 0 .rel .word 55 53 55 true,
 .ld 0 .acq (.waiting 0) 1,
 .semPEnter 0 0,
 .call 1 .unlock,
 .cas 1 .rel .word 1 0 53 false,
 .ld 1 .rlx .word 53,
 .ld 1 .rlx .word 53,
 .cas 1 .ar .word 53 63 53 true,
 .ld 1 .rlx (.rc 0) 3,
 .cas 1 .rlx (.rc 0) 3 4 3 true,
 .ld 1 .rlx .word 63,
 .cas 1 .rel .word 63 60 63 true,
 .st 1 .rel (.waiting 0) 0 1,
 .semV 1 0,
 .ret 1 .unlock .void,
 .call 1 .lock,
 .cas 1 .acq .word 0 1 60 false,
 .ld 1 .rlx .word 60,
 .cas 1 .acq .word 60 29 60 true,
 .ret 1 .lock .void,
 .semPRet 0 0,
 .ld 0 .acq (.waiting 0) 0,
 .ld 0 .rlx .word 29,
 .cas 0 .acq .word 29 55 29 true,
 .st 0 .rlx (.waiting 0) 1 0,
 .ld 0 .rlx .word 55,
 .cas 0 .rel .word 55 53 55 true,
 .ld 0 .acq (.waiting 0) 1,
 .semPEnter 0 0,
 .call 1 .unlock,
 .cas 1 .rel .word 1 0 53 false,
 .ld 1 .rlx .word 53,
 .ld 1 .rlx .word 53,
 .cas 1 .ar .word 53 63 53 true,
 .ld 1 .rlx (.rc 0) 4,
 .cas 1 .rlx (.rc 0) 4 5 4 true,
 .ld 1 .rlx .word 63,
 .cas 1 .rel .word 63 60 63 true,
 .st 1 .rel (.waiting 0) 0 1,
 .semV 1 0,
 .ret 1 .unlock .void,
 .call 1 .lock,
 .cas 1 .acq .word 0 1 60 false,
 .ld 1 .rlx .word 60,
 .cas 1 .acq .word 60 29 60 true,
 .ret 1 .lock .void,
 .semPRet 0 0,
 .ld 0 .acq (.waiting 0) 0,
 .ld 0 .rlx .word 29,
 .cas 0 .acq .word 29 55 29 true,
 .st 0 .rlx (.waiting 0) 1 0,
 .ld 0 .rlx .word 55,
 .cas 0 .rel .word 55 53 55 true,
 .ld 0 .acq (.waiting 0) 1,
 .semPEnter 0 0,
 .call 1 .unlock,
 .cas 1 .rel .word 1 0 53 false,
 .ld 1 .rlx .word 53,
 .ld 1 .rlx .word 53,
 .cas 1 .ar .word 53 63 53 true,
 .ld 1 .rlx (.rc 0) 5,
 .cas 1 .rlx (.rc 0) 5 6 5 true,
 .ld 1 .rlx .word 63,
 .cas 1 .rel .word 63 60 63 true,
 .st 1 .rel (.waiting 0) 0 1,
 .semV 1 0,
 .ret 1 .unlock .void,
 .call 1 .lock,
 .cas 1 .acq .word 0 1 60 false,
 .ld 1 .rlx .word 60,
 .cas 1 .acq .word 60 29 60 true,
 .ret 1 .lock .void,
 .semPRet 0 0,
 .ld 0 .acq (.waiting 0) 0,
 .ld 0 .rlx .word 29,
 .cas 0 .acq .word 29 55 29 true,
 .st 0 .rlx (.waiting 0) 1 0,
 .ld 0 .rlx .word 55,
 .cas 0 .rel .word 55 53 55 true,
 .ld 0 .acq (.waiting 0) 1,
 .semPEnter 0 0,
 .call 1 .unlock,
 .cas 1 .rel .word 1 0 53 false,
 .ld 1 .rlx .word 53,
 .ld 1 .rlx .word 53,
 .cas 1 .ar .word 53 63 53 true,
 .ld 1 .rlx (.rc 0) 6,
 .cas 1 .rlx (.rc 0) 6 7 6 true,
 .ld 1 .rlx .word 63,
 .cas 1 .rel .word 63 60 63 true,
 .st 1 .rel (.waiting 0) 0 1,
 .semV 1 0,
 .ret 1 .unlock .void,
 .call 1 .lock,
 .cas 1 .acq .word 0 1 60 false,
 .ld 1 .rlx .word 60,
 .cas 1 .acq .word 60 29 60 true,
 .ret 1 .lock .void,
 .semPRet 0 0,
 .ld 0 .acq (.waiting 0) 0,
 .ld 0 .rlx .word 29,
 .cas 0 .acq .word 29 55 29 true,
 .st 0 .rlx (.waiting 0) 1 0,
 .ld 0 .rlx .word 55,
 .cas 0 .rel .word 55 53 55 true,
 .ld 0 .acq (.waiting 0) 1,
 .semPEnter 0 0,
 .call 1 .unlock,
 .cas 1 .rel .word 1 0 53 false,
 .ld 1 .rlx .word 53,
 .ld 1 .rlx .word 53,
 .cas 1 .ar .word 53 63 53 true,
 .ld 1 .rlx (.rc 0) 7,
 .cas 1 .rlx (.rc 0) 7 8 7 true,
 .ld 1 .rlx .word 63,
 .cas 1 .rel .word 63 60 63 true,
 .st 1 .rel (.waiting 0) 0 1,
 .semV 1 0,
 .ret 1 .unlock .void,
 .call 1 .lock,
 .cas 1 .acq .word 0 1 60 false,
 .ld 1 .rlx .word 60,
 .cas 1 .acq .word 60 29 60 true,
 .ret 1 .lock .void,
 .semPRet 0 0,
 .ld 0 .acq (.waiting 0) 0,
 .ld 0 .rlx .word 29,
 .cas 0 .acq .word 29 55 29 true,
 .st 0 .rlx (.waiting 0) 1 0,
 .ld 0 .rlx .word 55,
 .cas 0 .rel .word 55 53 55 true,
 .ld 0 .acq (.waiting 0) 1,
 .semPEnter 0 0,
 .call 1 .unlock,
 .cas 1 .rel .word 1 0 53 false,
 .ld 1 .rlx .word 53,
 .ld 1 .rlx .word 53,
 .cas 1 .ar .word 53 63 53 true,
 .ld 1 .rlx (.rc 0) 8,
 .cas 1 .rlx (.rc 0) 8 9 8 true,
 .ld 1 .rlx .word 63,
 .cas 1 .rel .word 63 60 63 true,
 .st 1 .rel (.waiting 0) 0 1,
 .semV 1 0,
 .ret 1 .unlock .void,
 .call 1 .lock,
 .cas 1 .acq .word 0 1 60 false,
 .ld 1 .rlx .word 60,
 .cas 1 .acq .word 60 29 60 true,
 .ret 1 .lock .void,
 .semPRet 0 0,
 .ld 0 .acq (.waiting 0) 0,
 .ld 0 .rlx .word 29,
 .cas 0 .acq .word 29 55 29 true,
 .st 0 .rlx (.waiting 0) 1 0,
 .ld 0 .rlx .word 55,
 .cas 0 .rel .word 55 53 55 true,
 .ld 0 .acq (.waiting 0) 1,
 .semPEnter 0 0,
 .call 1 .unlock,
 .cas 1 .rel .word 1 0 53 false,
 .ld 1 .rlx .word 53,
 .ld 1 .rlx .word 53,
 .cas 1 .ar .word 53 63 53 true,
 .ld 1 .rlx (.rc 0) 9,
 .cas 1 .rlx (.rc 0) 9 10 9 true,
 .ld 1 .rlx .word 63,
 .cas 1 .rel .word 63 60 63 true,
 .st 1 .rel (.waiting 0) 0 1,
 .semV 1 0,
 .ret 1 .unlock .void,
 .call 1 .lock,
 .cas 1 .acq .word 0 1 60 false,
 .ld 1 .rlx .word 60,
 .cas 1 .acq .word 60 29 60 true,
 .ret 1 .lock .void,
 .semPRet 0 0,
 .ld 0 .acq (.waiting 0) 0,
 .ld 0 .rlx .word 29,
 .cas 0 .acq .word 29 55 29 true,
 .st 0 .rlx (.waiting 0) 1 0,
 .ld 0 .rlx .word 55,
 .cas 0 .rel .word 55 53 55 true,
 .ld 0 .acq (.waiting 0) 1,
 .semPEnter 0 0,
 .call 1 .unlock,
 .cas 1 .rel .word 1 0 53 false,
 .ld 1 .rlx .word 53,
 .ld 1 .rlx .word 53,
 .cas 1 .ar .word 53 63 53 true,
 .ld 1 .rlx (.rc 0) 10,
 .cas 1 .rlx (.rc 0) 10 11 10 true,
 .ld 1 .rlx .word 63,
 .cas 1 .rel .word 63 60 63 true,
 .st 1 .rel (.waiting 0) 0 1,
 .semV 1 0,
 .ret 1 .unlock .void,
 .call 1 .lock,
 .cas 1 .acq .word 0 1 60 false,
 .ld 1 .rlx .word 60,
 .cas 1 .acq .word 60 29 60 true,
 .ret 1 .lock .void,
 .semPRet 0 0,
 .ld 0 .acq (.waiting 0) 0,
 .ld 0 .rlx .word 29,
 .cas 0 .acq .word 29 55 29 true,
 .st 0 .rlx (.waiting 0) 1 0,
 .ld 0 .rlx .word 55,
 .cas 0 .rel .word 55 53 55 true,
 .ld 0 .acq (.waiting 0) 1,
 .semPEnter 0 0,
 .call 1 .unlock,
 .cas 1 .rel .word 1 0 53 false,
 .ld 1 .rlx .word 53,
 .ld 1 .rlx .word 53,
 .cas 1 .ar .word 53 63 53 true,
 .ld 1 .rlx (.rc 0) 11,
 .cas 1 .rlx (.rc 0) 11 12 11 true,
 .ld 1 .rlx .word 63,
 .cas 1 .rel .word 63 60 63 true,
 .st 1 .rel (.waiting 0) 0 1,
 .semV 1 0,
 .ret 1 .unlock .void,
 .call 1 .lock,
 .cas 1 .acq .word 0 1 60 false,
 .ld 1 .rlx .word 60,
 .cas 1 .acq .word 60 29 60 true,
 .ret 1 .lock .void,
 .semPRet 0 0,
 .ld 0 .acq (.waiting 0) 0,
 .ld 0 .rlx .word 29,
 .cas 0 .acq .word 29 55 29 true,
 .st 0 .rlx (.waiting 0) 1 0,
 .ld 0 .rlx .word 55,
 .cas 0 .rel .word 55 53 55 true,
 .ld 0 .acq (.waiting 0) 1,
 .semPEnter 0 0,
 .call 1 .unlock,
 .cas 1 .rel .word 1 0 53 false,
 .ld 1 .rlx .word 53,
 .ld 1 .rlx .word 53,
 .cas 1 .ar .word 53 63 53 true,
 .ld 1 .rlx (.rc 0) 12,
 .cas 1 .rlx (.rc 0) 12 13 12 true,
 .ld 1 .rlx .word 63,
 .cas 1 .rel .word 63 60 63 true,
 .st 1 .rel (.waiting 0) 0 1,
 .semV 1 0,
 .ret 1 .unlock .void,
 .call 1 .lock,
 .cas 1 .acq .word 0 1 60 false,
 .ld 1 .rlx .word 60,
 .cas 1 .acq .word 60 29 60 true,
 .ret 1 .lock .void,
 .semPRet 0 0,
 .ld 0 .acq (.waiting 0) 0,
 .ld 0 .rlx .word 29,
 .cas 0 .acq .word 29 55 29 true,
 .st 0 .rlx (.waiting 0) 1 0,
 .ld 0 .rlx .word 55,
 .cas 0 .rel .word 55 53 55 true,
 .ld 0 .acq (.waiting 0) 1,
 .semPEnter 0 0,
 .call 1 .unlock,
 .cas 1 .rel .word 1 0 53 false,
 .ld 1 .rlx .word 53,
 .ld 1 .rlx .word 53,
 .cas 1 .ar .word 53 63 53 true,
 .ld 1 .rlx (.rc 0) 13,
 .cas 1 .rlx (.rc 0) 13 14 13 true,
 .ld 1 .rlx .word 63,
 .cas 1 .rel .word 63 60 63 true,
 .st 1 .rel (.waiting 0) 0 1,
 .semV 1 0,
 .ret 1 .unlock .void,
 .call 1 .lock,
 .cas 1 .acq .word 0 1 60 false,
 .ld 1 .rlx .word 60,
 .cas 1 .acq .word 60 29 60 true,
 .ret 1 .lock .void,
 .semPRet 0 0,
 .ld 0 .acq (.waiting 0) 0,
 .ld 0 .rlx .word 29,
 .cas 0 .acq .word 29 55 29 true,
 .st 0 .rlx (.waiting 0) 1 0,
 .ld 0 .rlx .word 55,
 .cas 0 .rel .word 55 53 55 true,
 .ld 0 .acq (.waiting 0) 1,
 .semPEnter 0 0,
 .call 1 .unlock,
 .cas 1 .rel .word 1 0 53 false,
 .ld 1 .rlx .word 53,
 .ld 1 .rlx .word 53,
 .cas 1 .ar .word 53 63 53 true,
 .ld 1 .rlx (.rc 0) 14,
 .cas 1 .rlx (.rc 0) 14 15 14 true,
 .ld 1 .rlx .word 63,
 .cas 1 .rel .word 63 60 63 true,
 .st 1 .rel (.waiting 0) 0 1,
 .semV 1 0,
 .ret 1 .unlock .void,
 .call 1 .lock,
 .cas 1 .acq .word 0 1 60 false,
 .ld 1 .rlx .word 60,
 .cas 1 .acq .word 60 29 60 true,
 .ret 1 .lock .void,
 .semPRet 0 0,
 .ld 0 .acq (.waiting 0) 0,
 .ld 0 .rlx .word 29,
 .cas 0 .acq .word 29 55 29 true,
 .st 0 .rlx (.waiting 0) 1 0,
 .ld 0 .rlx .word 55,
 .cas 0 .rel .word 55 53 55 true,
 .ld 0 .acq (.waiting 0) 1,
 .semPEnter 0 0,
 .call 1 .unlock,
 .cas 1 .rel .word 1 0 53 false,
 .ld 1 .rlx .word 53,
 .ld 1 .rlx .word 53,
 .cas 1 .ar .word 53 63 53 true,
 .ld 1 .rlx (.rc 0) 15,
 .cas 1 .rlx (.rc 0) 15 16 15 true,
 .ld 1 .rlx .word 63,
 .cas 1 .rel .word 63 60 63 true,
 .st 1 .rel (.waiting 0) 0 1,
 .semV 1 0,
 .ret 1 .unlock .void,
 .call 1 .lock,
 .cas 1 .acq .word 0 1 60 false,
 .ld 1 .rlx .word 60,
 .cas 1 .acq .word 60 29 60 true,
 .ret 1 .lock .void,
 .semPRet 0 0,
 .ld 0 .acq (.waiting 0) 0,
 .ld 0 .rlx .word 29,
 .cas 0 .acq .word 29 55 29 true,
 .st 0 .rlx (.waiting 0) 1 0,
 .ld 0 .rlx .word 55,
 .cas 0 .rel .word 55 53 55 true,
 .ld 0 .acq (.waiting 0) 1,
 .semPEnter 0 0,
 .call 1 .unlock,
 .cas 1 .rel .word 1 0 53 false,
 .ld 1 .rlx .word 53,
 .ld 1 .rlx .word 53,
 .cas 1 .ar .word 53 63 53 true,
 .ld 1 .rlx (.rc 0) 16,
 .cas 1 .rlx (.rc 0) 16 17 16 true,
 .ld 1 .rlx .word 63,
 .cas 1 .rel .word 63 60 63 true,
 .st 1 .rel (.waiting 0) 0 1,
 .semV 1 0,
 .ret 1 .unlock .void,
 .call 1 .lock,
 .cas 1 .acq .word 0 1 60 false,
 .ld 1 .rlx .word 60,
 .cas 1 .acq .word 60 29 60 true,
 .ret 1 .lock .void,
 .semPRet 0 0,
 .ld 0 .acq (.waiting 0) 0,
 .ld 0 .rlx .word 29,
 .cas 0 .acq .word 29 55 29 true,
 .st 0 .rlx (.waiting 0) 1 0,
 .ld 0 .rlx .word 55,
 .cas 0 .rel .word 55 53 55 true,
 .ld 0 .acq (.waiting 0) 1,
 .semPEnter 0 0,
 .call 1 .unlock,
 .cas 1 .rel .word 1 0 53 false,
 .ld 1 .rlx .word 53,
 .ld 1 .rlx .word 53,
 .cas 1 .ar .word 53 63 53 true,
 .ld 1 .rlx (.rc 0) 17,
 .cas 1 .rlx (.rc 0) 17 18 17 true,
 .ld 1 .rlx .word 63,
 .cas 1 .rel .word 63 60 63 true,
 .st 1 .rel (.waiting 0) 0 1,
 .semV 1 0,
 .ret 1 .unlock .void,
 .call 1 .lock,
 .cas 1 .acq .word 0 1 60 false,
 .ld 1 .rlx .word 60,
 .cas 1 .acq .word 60 29 60 true,
 .ret 1 .lock .void,
 .semPRet 0 0,
 .ld 0 .acq (.waiting 0) 0,
 .ld 0 .rlx .word 29,
 .cas 0 .acq .word 29 55 29 true,
 .st 0 .rlx (.waiting 0) 1 0,
 .ld 0 .rlx .word 55,
 .cas 0 .rel .word 55 53 55 true,
 .ld 0 .acq (.waiting 0) 1,
 .semPEnter 0 0,
 .call 1 .unlock,
 .cas 1 .rel .word 1 0 53 false,
 .ld 1 .rlx .word 53,
 .ld 1 .rlx .word 53,
 .cas 1 .ar .word 53 63 53 true,
 .ld 1 .rlx (.rc 0) 18,
 .cas 1 .rlx (.rc 0) 18 19 18 true,
 .ld 1 .rlx .word 63,
 .cas 1 .rel .word 63 60 63 true,
 .st 1 .rel (.waiting 0) 0 1,
 .semV 1 0,
 .ret 1 .unlock .void,
 .call 1 .lock,
 .cas 1 .acq .word 0 1 60 false,
 .ld 1 .rlx .word 60,
 .cas 1 .acq .word 60 29 60 true,
 .ret 1 .lock .void,
 .semPRet 0 0,
 .ld 0 .acq (.waiting 0) 0,
 .ld 0 .rlx .word 29,
 .cas 0 .acq .word 29 55 29 true,
 .st 0 .rlx (.waiting 0) 1 0,
 .ld 0 .rlx .word 55,
 .cas 0 .rel .word 55 53 55 true,
 .ld 0 .acq (.waiting 0) 1,
 .semPEnter 0 0,
 .call 1 .unlock,
 .cas 1 .rel .word 1 0 53 false,
 .ld 1 .rlx .word 53,
 .ld 1 .rlx .word 53,
 .cas 1 .ar .word 53 63 53 true,
 .ld 1 .rlx (.rc 0) 19,
 .cas 1 .rlx (.rc 0) 19 20 19 true,
 .ld 1 .rlx .word 63,
 .cas 1 .rel .word 63 60 63 true,
 .st 1 .rel (.waiting 0) 0 1,
 .semV 1 0,
 .ret 1 .unlock .void,
 .call 1 .lock,
 .cas 1 .acq .word 0 1 60 false,
 .ld 1 .rlx .word 60,
 .cas 1 .acq .word 60 29 60 true,
 .ret 1 .lock .void,
 .semPRet 0 0,
 .ld 0 .acq (.waiting 0) 0,
 .ld 0 .rlx .word 29,
 .cas 0 .acq .word 29 55 29 true,
 .st 0 .rlx (.waiting 0) 1 0,
 .ld 0 .rlx .word 55,
 .cas 0 .rel .word 55 53 55 true,
 .ld 0 .acq (.waiting 0) 1,
 .semPEnter 0 0,
 .call 1 .unlock,
 .cas 1 .rel .word 1 0 53 false,
 .ld 1 .rlx .word 53,
 .ld 1 .rlx .word 53,
 .cas 1 .ar .word 53 63 53 true,
 .ld 1 .rlx (.rc 0) 20,
 .cas 1 .rlx (.rc 0) 20 21 20 true,
 .ld 1 .rlx .word 63,
 .cas 1 .rel .word 63 60 63 true,
 .st 1 .rel (.waiting 0) 0 1,
 .semV 1 0,
 .ret 1 .unlock .void,
 .call 1 .lock,
 .cas 1 .acq .word 0 1 60 false,
 .ld 1 .rlx .word 60,
 .cas 1 .acq .word 60 29 60 true,
 .ret 1 .lock .void,
 .semPRet 0 0,
 .ld 0 .acq (.waiting 0) 0,
 .ld 0 .rlx .word 29,
 .cas 0 .acq .word 29 55 29 true,
 .st 0 .rlx (.waiting 0) 1 0,
 .ld 0 .rlx .word 55,
 .cas 0 .rel .word 55 53 55 true,
 .ld 0 .acq (.waiting 0) 1,
 .semPEnter 0 0,
 .call 1 .unlock,
 .cas 1 .rel .word 1 0 53 false,
 .ld 1 .rlx .word 53,
 .ld 1 .rlx .word 53,
 .cas 1 .ar .word 53 63 53 true,
 .ld 1 .rlx (.rc 0) 21,
 .cas 1 .rlx (.rc 0) 21 22 21 true,
 .ld 1 .rlx .word 63,
 .cas 1 .rel .word 63 60 63 true,
 .st 1 .rel (.waiting 0) 0 1,
 .semV 1 0,
 .ret 1 .unlock .void,
 .call 1 .lock,
 .cas 1 .acq .word 0 1 60 false,
 .ld 1 .rlx .word 60,
 .cas 1 .acq .word 60 29 60 true,
 .ret 1 .lock .void,
 .semPRet 0 0,
 .ld 0 .acq (.waiting 0) 0,
 .ld 0 .rlx .word 29,
 .cas 0 .acq .word 29 55 29 true,
 .st 0 .rlx (.waiting 0) 1 0,
 .ld 0 .rlx .word 55,
 .cas 0 .rel .word 55 53 55 true,
 .ld 0 .acq (.waiting 0) 1,
 .semPEnter 0 0,
 .call 1 .unlock,
 .cas 1 .rel .word 1 0 53 false,
 .ld 1 .rlx .word 53,
 .ld 1 .rlx .word 53,
 .cas 1 .ar .word 53 63 53 true,
 .ld 1 .rlx (.rc 0) 22,
 .cas 1 .rlx (.rc 0) 22 23 22 true,
 .ld 1 .rlx .word 63,
 .cas 1 .rel .word 63 60 63 true,
 .st 1 .rel (.waiting 0) 0 1,
 .semV 1 0,
 .ret 1 .unlock .void,
 .call 1 .lock,
 .cas 1 .acq .word 0 1 60 false,
 .ld 1 .rlx .word 60,
 .cas 1 .acq .word 60 29 60 true,
 .ret 1 .lock .void,
 .semPRet 0 0,
 .ld 0 .acq (.waiting 0) 0,
 .ld 0 .rlx .word 29,
 .cas 0 .acq .word 29 55 29 true,
 .st 0 .rlx (.waiting 0) 1 0,
 .ld 0 .rlx .word 55,
 .cas 0 .rel .word 55 53 55 true,
 .ld 0 .acq (.waiting 0) 1,
 .semPEnter 0 0,
 .call 1 .unlock,
 .cas 1 .rel .word 1 0 53 false,
 .ld 1 .rlx .word 53,
 .ld 1 .rlx .word 53,
 .cas 1 .ar .word 53 63 53 true,
 .ld 1 .rlx (.rc 0) 23,
 .cas 1 .rlx (.rc 0) 23 24 23 true,
 .ld 1 .rlx .word 63,
 .cas 1 .rel .word 63 60 63 true,
 .st 1 .rel (.waiting 0) 0 1,
 .semV 1 0,
 .ret 1 .unlock .void,
 .call 1 .lock,
 .cas 1 .acq .word 0 1 60 false,
 .ld 1 .rlx .word 60,
 .cas 1 .acq .word 60 29 60 true,
 .ret 1 .lock .void,
 .semPRet 0 0,
 .ld 0 .acq (.waiting 0) 0,
 .ld 0 .rlx .word 29,
 .cas 0 .acq .word 29 55 29 true,
 .st 0 .rlx (.waiting 0) 1 0,
 .ld 0 .rlx .word 55,
 .cas 0 .rel .word 55 53 55 true,
 .ld 0 .acq (.waiting 0) 1,
 .semPEnter 0 0,
 .call 1 .unlock,
 .cas 1 .rel .word 1 0 53 false,
 .ld 1 .rlx .word 53,
 .ld 1 .rlx .word 53,
 .cas 1 .ar .word 53 63 53 true,
 .ld 1 .rlx (.rc 0) 24,
 .cas 1 .rlx (.rc 0) 24 25 24 true,
 .ld 1 .rlx .word 63,
 .cas 1 .rel .word 63 60 63 true,
 .st 1 .rel (.waiting 0) 0 1,
 .semV 1 0,
 .ret 1 .unlock .void,
 .call 1 .lock,
 .cas 1 .acq .word 0 1 60 false,
 .ld 1 .rlx .word 60,
 .cas 1 .acq .word 60 29 60 true,
 .ret 1 .lock .void,
 .semPRet 0 0,
 .ld 0 .acq (.waiting 0) 0,
 .ld 0 .rlx .word 29,
 .cas 0 .acq .word 29 55 29 true,
 .st 0 .rlx (.waiting 0) 1 0,
 .ld 0 .rlx .word 55,
 .cas 0 .rel .word 55 53 55 true,
 .ld 0 .acq (.waiting 0) 1,
 .semPEnter 0 0,
 .call 1 .unlock,
 .cas 1 .rel .word 1 0 53 false,
 .ld 1 .rlx .word 53,
 .ld 1 .rlx .word 53,
 .cas 1 .ar .word 53 63 53 true,
 .ld 1 .rlx (.rc 0) 25,
 .cas 1 .rlx (.rc 0) 25 26 25 true,
 .ld 1 .rlx .word 63,
 .cas 1 .rel .word 63 60 63 true,
 .st 1 .rel (.waiting 0) 0 1,
 .semV 1 0,
 .ret 1 .unlock .void,
 .call 1 .lock,
 .cas 1 .acq .word 0 1 60 false,
 .ld 1 .rlx .word 60,
 .cas 1 .acq .word 60 29 60 true,
 .ret 1 .lock .void,
 .semPRet 0 0,
 .ld 0 .acq (.waiting 0) 0,
 .ld 0 .rlx .word 29,
 .cas 0 .acq .word 29 55 29 true,
 .st 0 .rlx (.waiting 0) 1 0,
 .ld 0 .rlx .word 55,
 .cas 0 .rel .word 55 53 55 true,
 .ld 0 .acq (.waiting 0) 1,
 .semPEnter 0 0,
 .call 1 .unlock,
 .cas 1 .rel .word 1 0 53 false,
 .ld 1 .rlx .word 53,
 .ld 1 .rlx .word 53,
 .cas 1 .ar .word 53 63 53 true,
 .ld 1 .rlx (.rc 0) 26,
 .cas 1 .rlx (.rc 0) 26 27 26 true,
 .ld 1 .rlx .word 63,
 .cas 1 .rel .word 63 60 63 true,
 .st 1 .rel (.waiting 0) 0 1,
 .semV 1 0,
 .ret 1 .unlock .void,
 .call 1 .lock,
 .cas 1 .acq .word 0 1 60 false,
 .ld 1 .rlx .word 60,
 .cas 1 .acq .word 60 29 60 true,
 .ret 1 .lock .void,
 .semPRet 0 0,
 .ld 0 .acq (.waiting 0) 0,
 .ld 0 .rlx .word 29,
 .cas 0 .acq .word 29 55 29 true,
 .st 0 .rlx (.waiting 0) 1 0,
 .ld 0 .rlx .word 55,
 .cas 0 .rel .word 55 53 55 true,
 .ld 0 .acq (.waiting 0) 1,
 .semPEnter 0 0,
 .call 1 .unlock,
 .cas 1 .rel .word 1 0 53 false,
 .ld 1 .rlx .word 53,
 .ld 1 .rlx .word 53,
 .cas 1 .ar .word 53 63 53 true,
 .ld 1 .rlx (.rc 0) 27,
 .cas 1 .rlx (.rc 0) 27 28 27 true,
 .ld 1 .rlx .word 63,
 .cas 1 .rel .word 63 60 63 true,
 .st 1 .rel (.waiting 0) 0 1,
 .semV 1 0,
 .ret 1 .unlock .void,
 .call 1 .lock,
 .cas 1 .acq .word 0 1 60 false,
 .ld 1 .rlx .word 60,
 .cas 1 .acq .word 60 29 60 true,
 .ret 1 .lock .void,
 .semPRet 0 0,
 .ld 0 .acq (.waiting 0) 0,
 .ld 0 .rlx .word 29,
 .cas 0 .acq .word 29 55 29 true,
 .st 0 .rlx (.waiting 0) 1 0,
 .ld 0 .rlx .word 55,
 .cas 0 .rel .word 55 53 55 true,
 .ld 0 .acq (.waiting 0) 1,
 .semPEnter 0 0,
 .call 1 .unlock,
 .cas 1 .rel .word 1 0 53 false,
 .ld 1 .rlx .word 53,
 .ld 1 .rlx .word 53,
 .cas 1 .ar .word 53 63 53 true,
 .ld 1 .rlx (.rc 0) 28,
 .cas 1 .rlx (.rc 0) 28 29 28 true,
 .ld 1 .rlx .word 63,
 .cas 1 .rel .word 63 60 63 true,
 .st 1 .rel (.waiting 0) 0 1,
 .semV 1 0,
 .ret 1 .unlock .void,
 .call 1 .lock,
 .cas 1 .acq .word 0 1 60 false,
 .ld 1 .rlx .word 60,
 .cas 1 .acq .word 60 29 60 true,
 .ret 1 .lock .void,
 .semPRet 0 0,
 .ld 0 .acq (.waiting 0) 0,
 .ld 0 .rlx .word 29,
 .cas 0 .acq .word 29 55 29 true,
 .st 0 .rlx (.waiting 0) 1 0,
 .ld 0 .rlx .word 55,
 .cas 0 .rel .word 55 53 55 true,
 .ld 0 .acq (.waiting 0) 1,
 .semPEnter 0 0,
 .call 1 .unlock,
 .cas 1 .rel .word 1 0 53 false,
 .ld 1 .rlx .word 53,
 .ld 1 .rlx .word 53,
 .cas 1 .ar .word 53 63 53 true,
 .ld 1 .rlx (.rc 0) 29,
 .cas 1 .rlx (.rc 0) 29 30 29 true,
 .ld 1 .rlx .word 63,
 .cas 1 .rel .word 63 60 63 true,
 .st 1 .rel (.waiting 0) 0 1,
 .semV 1 0,
 .ret 1 .unlock .void,
 .call 1 .lock,
 .cas 1 .acq .word 0 1 60 false,
 .ld 1 .rlx .word 60,
 .cas 1 .acq .word 60 29 60 true,
 .ret 1 .lock .void,
 .dataW 1 0 1,
 .call 1 .unlock,
 .cas 1 .rel .word 1 0 29 false,
 .ld 1 .rlx .word 29,
 .cas 1 .rel .word 29 28 29 true,
 .ret 1 .unlock .void,
 .semPRet 3 2,
 .ld 3 .acq (.waiting 2) 0,
 .ld 3 .rlx .word 28,
 .cas 3 .acq .word 28 276 28 true,
 .ret 3 .rlock .void,
 .tick 10,
 .semPdRet 4 3 true,
 .ld 4 .rlx (.waiting 3) 1,
 .ld 4 .rlx .word 276,
 .cas 4 .ar .word 276 308 276 true,
 .ld 4 .rlx .word 308,
 .call 3 .runlock,
 .cas 3 .rel .word 256 0 308 false,
 .ld 3 .rlx .word 308,
 .ld 3 .rlx .word 308,
 .cas 3 .ar .word 308 63 308 true,
 .ld 3 .rlx .word 63,
 .cas 3 .rel .word 63 61 63 true,
 .semPRet 0 0,
 .ld 0 .acq (.waiting 0) 0,
 .ld 0 .rlx .word 61,
 .cas 0 .acq .word 61 119 61 true,
 .st 0 .rlx (.waiting 0) 1 0,
 .ld 0 .rlx .word 119,
 .cas 0 .rel .word 119 117 119 true,
 .ld 0 .acq (.waiting 0) 1,
 .semPEnter 0 0,
 .cond 3 .eq 0 true,
 .ld 3 .rlx (.rc 3) 0,
 .cas 3 .rlx (.rc 3) 0 1 0 true,
 .ld 3 .rlx .word 117,
 .cas 3 .acq .word 117 119 117 true,
 .ld 3 .rlx .word 119,
 .cas 3 .rel .word 119 117 119 true,
 .ld 3 .rlx .word 117,
 .cas 3 .acq .word 117 119 117 true,
 .ld 3 .rlx .word 119,
 .cas 3 .rel .word 119 116 119 true,
 .st 3 .rel (.waiting 3) 0 1,
 .semV 3 3,
 .ret 3 .runlock .void
]

end NsyncVerif.MuC
