/-
  Futex layer (C12): running the waiter alone (`runSolo`) from a state with a positive count
  reaches `ret 0` in ≤ 5 own steps (successful take in ≤ 4) without sleeping.
-/
import NsyncVerif.Proofs.FutexInv

namespace NsyncVerif.Futex


/-- The waiter has already decided to report ETIMEDOUT (clock read pending with an expired
    deadline, or result already set): the available post is left for the *next* wait. -/
def timeoutCommitted (s : State) (w : Tid) : Bool :=
  match s.pc w with
  | .wNow dl => expired dl s.now
  | .wRet _ true => true
  | _ => false

/-- What a successful solo run to the `ret 0` looks like. -/
def SoloSuccess (s : State) (w : Tid) (s' : State) : Prop :=
  s'.pc w = .idle ∧ s'.succRets = s.succRets + 1 ∧ s'.toRets = s.toRets ∧
  s'.posts = s.posts ∧ s'.takes + inFlight s = s.takes + 1 ∧ s'.now = s.now ∧
  s'.sleeper = none

/-- The waiter has performed its successful take (CAS i → i-1), or has even returned. -/
def TakeDone (s : State) (w : Tid) (s' : State) : Prop :=
  (s'.pc w = .idle ∨ ∃ k, s'.pc w = .wRet k false) ∧ s'.takes + inFlight s = s.takes + 1 ∧
  s'.posts = s.posts ∧ s'.toRets = s.toRets ∧ s'.sleeper = none

section
/- What running the waiter unfolds to, in every case below. -/
attribute [local simp] runSolo soloEvent step setPc ldSite casSite SoloSuccess TakeDone inFlight
  State.asleep asleepInfo waitRetAllowed

/-- Both bounds at once: the evaluation of `runSolo` from each program point is the same. -/
theorem post_enables_both (hinv : Inv s) (hw : 0 < s.word) (hpc : (s.pc w).isWaiter = true)
    (hna : ¬ s.asleep) (htc : timeoutCommitted s w = false) :
    (∃ s', runSolo s w 5 = .ok s' ∧ SoloSuccess s w s') ∧
    ∃ s', runSolo s w 4 = .ok s' ∧ TakeDone s w s' := by
  have hna' : asleepInfo s.sleeper = false := by simpa [State.asleep] using hna
  have hown : s.owner = some w := hinv.owner_of_waiter hpc
  have hslp : (∀ k, s.pc w ≠ .wSleep k) → s.sleeper = none := hinv.sleeper_none (Or.inr hown)
  have hne : s.word ≠ 0 := by omega
  cases hp : s.pc w <;> simp [hp, PC.isWaiter] at hpc
  all_goals (try (have hsn : s.sleeper = none := by apply hslp; simp [hp]))
  case wLoad k | wWait k =>
    cases k <;> simp [hp, hne, hown, hsn] <;> omega
  case wSleep k =>
    cases hsl : s.sleeper with
    | none => cases k <;> simp [hp, hne, hown, hsl] <;> omega
    | some si =>
      have hwk : si.woken = true := by simpa [State.asleep, asleepInfo, hsl] using hna
      cases k <;> simp [hp, hne, hown, hsl, hwk] <;> omega
  case wNow dl =>
    have hex : expired dl s.now = false := by simpa [timeoutCommitted, hp] using htc
    simp [hp, hne, hown, hsn, hex] <;> omega
  case wCas k i =>
    have hi : 0 < i := hinv.casPos w k i hp
    by_cases hwi : s.word = i <;> cases k <;> simp [hp, hne, hown, hsn, hwi] <;> omega
  case wRet k b =>
    have hb : b = false := by
      cases b <;> simp_all [timeoutCommitted]
    subst hb
    cases k <;> simp [hp, hown, hsn]

end

end NsyncVerif.Futex
