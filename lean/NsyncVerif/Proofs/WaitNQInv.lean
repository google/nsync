/-
  Proofs/WaitNQInv.lean — `QI ∧ CF` is preserved by the stepping thread's own steps, step function by step function
  (first: nsync_note_notified_deadline_, incl. the lazy notification); the queue invariant holds in every reachable state.
-/
import NsyncVerif.Proofs.WaitNQOpen


namespace WaitN

set_option hygiene false in
/-- a pure move of the caller's program counter inside the current waitable call -/
macro "q_mv" : tactic =>
  `(tactic| (cases h; refine qcf_move c hpc rfl rfl ?_ ?_ ?_ ?_ ?_ ?_ ?_ <;>
      first
        | (left; rfl)
        | (right; rfl)
        | rfl
        | (cases u <;> rfl)
        | (intro hx; simp [isNfWake] at hx)))

/-- the end of a nsync_note_notified_deadline_ call, for the three uses -/
theorem qcf_rtDone_nd {s s' : State} {t : Tid} {u : Use} {i : Nat} {st0 : NDst} {time : Deadline} (c : QCtx s t)
    (hpc : s.pc t = .wND u i st0) (hnop : opn (s.pc t) = false)
    (h : rtDone s t u i time = .ok s') : QI s' ∧ CF s' t := by
  have hl : LInv (.wND u i st0) (s.fr t) := hpc ▸ c.linv t
  have hc : inCall (s.pc t) = true := by rw [hpc]; rfl
  cases u with
  | poll =>
    have := len_of_linv (c.linv t) hc (by rw [hpc]; rfl)
    exact qcf_rtDone c (by simp) hc hnop (by rw [hpc]; rfl) this.1 this.2 (fun _ => hl.1.recs) h
  | loop =>
    have := len_of_linv (c.linv t) hc (by rw [hpc]; rfl)
    exact qcf_rtDone c (by simp) hc hnop (by rw [hpc]; rfl) this.1 this.2 (fun hx => by cases hx) h
  | deq =>
    unfold rtDone at h
    simp only at h
    cases h
    exact qcf_move c hpc (hpc ▸ hnop) rfl (.inr rfl) (.inr rfl) (.inr rfl) (.inr rfl) rfl rfl (fun _ => .inr rfl)

/-- protocol-driven steps of a caller inside the lazy notification keep its facts -/
theorem cf_stepOpen_nfWake {s s' : State} {t : Tid} {u : Use} {i n : Nat} {e : Ev} (c : QCtx s t)
    (hpc : s.pc t = .wND u i .nfWake) (hoi : (s.fr t).objs[i]? = some (.note n))
    (hne : e ≠ .unlockCall (.note n)) (h : stepOpen s t e = .ok s') : CF s' t := by
  have k := keeps_stepOpen (t := t) h
  have kp := stepOpen_keeps h
  have hfr : s'.fr t = { s.fr t with sem := (s'.fr t).sem } := k.2
  have hho : holdsAt (s.pc t) (s.fr t) = some (.note n) := by rw [hpc]; simpa [holdsAt] using hoi
  constructor
  · intro o ho
    rw [k.1, hfr, holdsAt_sem, hho] at ho; cases ho
    refine ⟨kp.2 _ (c.cf.holds _ hho).1 hne, fun hx => ?_⟩
    rw [k.1, hpc] at hx; simp [isNfWake] at hx
  · intro r hr; rw [k.1, hfr, freshAt_sem, hpc] at hr; simp [freshAt] at hr
  · intro r hr; rw [k.1, hfr, clearedAt_sem, hpc] at hr; simp [clearedAt] at hr
  · intro o ho; rw [k.1, hfr, enqTrueAt_sem, hpc] at ho; simp [enqTrueAt] at ho
  · intro hc hf0 k' r hk'
    rw [k.1] at hc ⊢
    rw [hfr] at hf0 hk' ⊢
    rw [dqIdx_sem, (kp.1 r).1]
    exact c.cf.dq hc hf0 k' r hk'

theorem qcf_stepND {s s' : State} {t : Tid} {u : Use} {i : Nat} {st0 : NDst} {e : Ev} (c : QCtx s t)
    (hpc : s.pc t = .wND u i st0) (h : stepND s t u i st0 e = .ok s') : QI s' ∧ CF s' t := by
  have hl : LInv (.wND u i st0) (s.fr t) := hpc ▸ c.linv t
  have hc : inCall (s.pc t) = true := by rw [hpc]; rfl
  unfold stepND at h
  split at h
  · rename_i n hoi
    have hkn : (s.obj (.note n)).known = true := c.own.known t hc _ (List.mem_of_getElem? hoi)
    dsimp only at h
    split at h
    · -- ld0
      have hnop : opn (s.pc t) = false := by rw [hpc]; rfl
      split at h
      · split at h
        · split at h
          · exact qcf_rtDone_nd c hpc hnop h
          · q_mv
        · simp at h
      · exact qcf_dflt c h
    · -- lockCall
      split at h
      · split at h
        · q_mv
        · simp at h
      · exact qcf_dflt c h
    · -- lockWait
      split at h
      · split at h
        · rename_i hn
          cases h
          exact qcf_acquire c hpc rfl rfl hn hkn rfl hoi (.inr rfl) rfl rfl rfl (by cases u <;> rfl)
        · simp at h
      · exact qcf_dflt c h
    · -- ld1
      split at h
      · split at h
        · q_mv
        · simp at h
      · exact qcf_dflt c h
    · -- unlockCall
      have hnop : opn (s.pc t) = false := by rw [hpc]; rfl
      split at h
      · split at h
        · cases h
          exact qcf_release c hpc (post_none_of_pc c.qi hnop) (mc_none_of_pc c.qi hnop) rfl hoi nofun
            rfl rfl rfl (.inr rfl) rfl rfl (by cases u <;> rfl)
        · simp at h
      · exact qcf_dflt c h
    · -- unlockWait
      have hnop : opn (s.pc t) = false := by rw [hpc]; rfl
      split at h
      · split at h
        · exact qcf_rtDone_nd c hpc hnop h
        · split at h
          · exact qcf_rtDone_nd c hpc hnop h
          · q_mv
      · exact qcf_dflt c h
    · -- now
      have hnop : opn (s.pc t) = false := by rw [hpc]; rfl
      split at h
      · split at h
        · split at h
          · q_mv
          · exact qcf_rtDone_nd c hpc hnop h
        · simp at h
      · exact qcf_dflt c h
    · -- nfLockCall
      split at h
      · split at h
        · q_mv
        · simp at h
      · exact qcf_dflt c h
    · -- nfLockWait
      split at h
      · split at h
        · rename_i hn
          cases h
          exact qcf_acquire c hpc rfl rfl hn hkn rfl hoi (.inr rfl) rfl rfl rfl (by cases u <;> rfl)
        · simp at h
      · exact qcf_dflt c h
    · -- nfLd0
      split at h
      · rename_i n' obs
        split at h
        · by_cases hobs : obs ≠ 0
          · rw [if_pos hobs] at h; q_mv
          · rw [if_neg hobs] at h; q_mv
        · simp at h
      · exact qcf_dflt c h
    · -- nfLd1
      split at h
      · split at h
        · q_mv
        · simp at h
      · exact qcf_dflt c h
    · -- nfStore
      have hnop : opn (s.pc t) = false := by rw [hpc]; rfl
      split at h
      · split at h
        · rename_i hg
          cases h
          have hpost := post_none_of_pc c.qi hnop
          have hmc := mc_none_of_pc c.qi hnop
          refine ⟨qi_setPc (qi_setFlag c.qi hg.2.2.2.2) (wk_none_of_opn hnop) rfl hpost hmc, ?_⟩
          constructor
          · intro o ho
            simp only [setPc_pc, setPc_fr, setObj_fr, if_true, setPc_obj, setObj_obj] at ho ⊢
            have : o = .note n := by simpa [holdsAt, hoi] using ho.symm
            subst this
            simp only [if_true]
            exact ⟨(c.cf.holds_at hpc hoi).1, fun hx => by simp [isNfWake] at hx⟩
          · intro r hr; simp [freshAt] at hr
          · intro r hr; simp [clearedAt] at hr
          · intro o ho; simp [enqTrueAt] at ho
          · intro hc' hf0 k r hk
            simp only [setPc_pc, setPc_fr, setObj_fr, if_true, setPc_rcd, setObj_rcd] at hc' hf0 hk ⊢
            have := c.cf.dq hc hf0 k r hk
            rw [hpc] at this
            cases u <;> exact this
        · simp at h
      · exact qcf_dflt c h
    · -- nfWake
      have hop : opn (s.pc t) = true := by rw [hpc]; rfl
      have hwk : wk (s.pc t) = none := by rw [hpc]; rfl
      split at h
      · rename_i o' hmc
        split at h
        · split at h
          · rename_i hg
            cases h
            exact qcf_release c hpc hg.2.1 hmc rfl hoi (fun _ => hg.2.2) rfl rfl rfl (.inr rfl) rfl rfl
              (by cases u <;> rfl)
          · simp at h
        · rename_i hne
          exact ⟨qi_stepOpen c.qi hop hwk h, cf_stepOpen_nfWake c hpc hoi (by intro hh; cases hh; exact hne rfl) h⟩
      · rename_i hnm
        refine ⟨qi_stepOpen c.qi hop hwk h, cf_stepOpen_nfWake c hpc hoi ?_ h⟩
        intro hh
        subst hh
        -- mc ≠ none: a nested unlock call is rejected
        cases hm : s.mc t with
        | none => exact hnm _ hm rfl
        | locking o => unfold stepOpen at h; rw [hm] at h; simp [dflt] at h
        | unlocking => unfold stepOpen at h; rw [hm] at h; simp [dflt] at h
    · -- nfUnlockCall
      have hnop : opn (s.pc t) = false := by rw [hpc]; rfl
      split at h
      · split at h
        · cases h
          exact qcf_release c hpc (post_none_of_pc c.qi hnop) (mc_none_of_pc c.qi hnop) rfl hoi nofun
            rfl rfl rfl (.inr rfl) rfl rfl (by cases u <;> rfl)
        · simp at h
      · exact qcf_dflt c h
    · -- nfUnlockWait
      have hnop : opn (s.pc t) = false := by rw [hpc]; rfl
      split at h
      · exact qcf_rtDone_nd c hpc hnop h
      · exact qcf_dflt c h
  · simp at h

/-- only frame fields that `CF` does not read change, the program counter moves to a plain point -/
theorem qcf_frame_plain {s : State} {t : Tid} {f' : Frame} {p' : PC} (c : QCtx s t) (hnop : opn (s.pc t) = false)
    (hc : inCall (s.pc t) = true) (h0 : dqIdx (s.pc t) (s.fr t) = 0)
    (hr : f'.recs = (s.fr t).recs) (hfrees : f'.frees = (s.fr t).frees)
    (hpl : Plain p' f') (hw1 : wk p' = none) (hd0 : dqIdx p' f' = 0) :
    QI ((s.setFr t f').setPc t p') ∧ CF ((s.setFr t f').setPc t p') t := by
  refine ⟨qi_goto (qi_setFr c.qi) hnop hw1,
          cf_plain (by simpa using hpl) ?_⟩
  intro _ hf0 k r hk
  simp only [setPc_fr, setFr_fr, if_true, setPc_pc, setPc_rcd, setFr_rcd] at hf0 hk ⊢
  rw [hr] at hk; rw [hfrees] at hf0
  rw [hd0, noneDeqd_of_cf c.cf hc hf0 h0 k r hk]; simp

theorem qcf_stepCtrRT {s s' : State} {t : Tid} {u : Use} {i : Nat} {l : Bool} {e : Ev} (c : QCtx s t)
    (hpc : s.pc t = .wCtrRT u i l) (h : stepCtrRT s t u i l e = .ok s') : QI s' ∧ CF s' t := by
  have hl : LInv (.wCtrRT u i l) (s.fr t) := hpc ▸ c.linv t
  have hc : inCall (s.pc t) = true := by rw [hpc]; rfl
  have hnop : opn (s.pc t) = false := by rw [hpc]; rfl
  have hlen := len_of_linv (c.linv t) hc (by rw [hpc]; rfl)
  have h0 : dqIdx (s.pc t) (s.fr t) = 0 := by rw [hpc]; cases u <;> rfl
  unfold stepCtrRT at h
  split at h
  · dsimp only at h
    split at h
    · split at h
      · cases h
        refine ⟨qi_goto (qi_setWaited c.qi) hnop rfl,
                cf_plain (plain_of_pc (p := .wCtrRT u i true) (by simp) ⟨rfl, rfl, rfl, rfl⟩) ?_⟩
        intro _ hf0 k r hk
        simp only [setPc_fr, setObj_fr, setPc_pc, if_true, setPc_rcd, setObj_rcd] at hf0 hk ⊢
        have : dqIdx (PC.wCtrRT u i true) (s.fr t) = 0 := by cases u <;> rfl
        rw [this, noneDeqd_of_cf c.cf hc hf0 h0 k r hk]; simp
      · simp at h
    · split at h
      · refine qcf_rtDone c ?_ hc hnop h0 hlen.1 hlen.2 ?_ h
        · intro hu; subst hu; exact hl.elim
        · intro hu; subst hu; exact hl.1.recs
      · simp at h
    · exact qcf_dflt c h
  · simp at h

/-- `CF` of a thread that is not inside nsync_wait_n -/
theorem cf_notInCall {s' : State} {t : Tid} (h : inCall (s'.pc t) = false) : CF s' t := by
  have hp : Plain (s'.pc t) (s'.fr t) := by
    cases hpc : s'.pc t <;> simp [hpc, inCall] at h <;> exact ⟨rfl, rfl, rfl, rfl⟩
  exact cf_plain hp (fun hc => by rw [h] at hc; cases hc)

/-- `QI ∧ CF` across the statements of wait.c between the waitable calls, by the shape of the step's `Tail` -/
theorem qcf_stmt {s s' : State} {t : Tid} {e : Ev} (c : QCtx s t) (hst : stmt (s.pc t) = true)
    (h : stepThr s t e = .ok s') : QI s' ∧ CF s' t := by
  obtain ⟨k, s1, a, b⟩ := steps_stepThr h
  have hl := c.linv t
  have hc := inCall_of_stmt hst
  have hnop : opn (s.pc t) = false := opn_false_of_inCall hc (by cases hp : s.pc t <;> simp [hp, stmt] at hst <;> rfl)
  have hpost := post_none_of_pc c.qi hnop
  have hmc := mc_none_of_pc c.qi hnop
  have hw0 := wk_none_of_opn hnop
  have no : ∀ {p : PC}, s.pc t = p → stmt p = false → False := fun h1 h2 => by rw [h1, h2] at hst; cases hst
  cases b
  case same ho => rw [not_stays_of_stmt hst] at ho; cases ho
  case nested ho m => have := stays_of_driven ho; rw [not_stays_of_stmt hst] at this; cases this
  case v ho _ _ _ _ _ _ => have := stays_of_driven ho; rw [not_stays_of_stmt hst] at this; cases this
  case goto p hf => exact (no rfl hf.not_stmt).elim
  case giveUp hpc _ _ _ _ => exact (no hpc rfl).elim
  case afterEnq hat _ => generalize hq : s.pc t = q at hat; cases hat <;> exact (no hq rfl).elim
  case deqDone hpc _ => rcases hpc with hp | ⟨hp, -, -⟩ | hp <;> exact (no hp rfl).elim
  case vgoto hpc _ => exact (no hpc rfl).elim
  case call hpc _ _ _ => exact (no hpc rfl).elim
  case dflt hs hd => subst s1; exact qcf_dflt c hd
  case rtDone hs u i time hat hd =>
    subst s1
    generalize hq : s.pc t = q at hat
    cases hat
    · exact (no hq rfl).elim
    · exact (no hq rfl).elim
    · have hlen := len_of_linv hl hc (by rw [hq]; rfl)
      exact qcf_rtDone c (by simp) hc hnop (by rw [hq]; rfl) hlen.1 hlen.2 (fun hx => by cases hx) hd
  case pdEnter hs j d s2 hpc he hb =>
    subst s1
    have k := keeps_bindSem (t := t) hb
    have g := agree_bindSem (t := t) hb
    have hmc1 : s2.mc = s.mc := by unfold bindSem at hb; split_ok hb; all_goals (cases hb; try rfl)
    refine ⟨qi_setPc (qi_bindSem c.qi hb) (by rw [k.1]; exact hw0) rfl (by rw [g.post]; exact hpost)
              (by rw [hmc1]; exact hmc), ?_⟩
    have hcf1 : CF s2 t := cf_congr c.cf k.1 k.2 g.obj g.rcd
    refine cf_plain (plain_of_pc (p := .wPdWait j) (by simp) ⟨rfl, rfl, rfl, rfl⟩) ?_
    intro _ hf0 k' r hk
    simp only [setPc_fr, setPc_pc, if_true, setPc_rcd] at hf0 hk ⊢
    have := hcf1.dq (by rw [k.1]; exact hc) hf0 k' r hk
    rw [k.1, hpc] at this
    exact this
  case pdWake hs j n hpc he hs' =>
    subst s1
    rw [hpc] at hl
    have hnd := noneDeqd_of_cf c.cf hc hl.1.frees (by rw [hpc]; rfl)
    exact qcf_startScan (s := s.setSem _ _) (qi_setSem c.qi) hnd hnop hl.1.len
  case alloc hs arr hpc =>
    subst s1
    rw [hpc] at hl
    refine qcf_frame_plain c hnop hc (by rw [hpc]; rfl) rfl rfl ((entry_enqNext _ _ _).plain _)
      (entry_enqNext _ _ _).wk (dqIdx_enqNext _ _ _ ?_)
    simp [hl.1.recs]
  case unlockMu hs hpc =>
    subst s1
    rw [hpc] at hl
    exact qcf_frame_plain c hnop hc (by rw [hpc]; rfl) rfl rfl ((entry_loopNext _ _).plain _)
      (entry_loopNext _ _).wk (dqIdx_loopNext _ _ hl.1.len)
  case timeout hs j w hex hw hpc =>
    subst s1
    rw [hpc] at hl
    exact qcf_frame_plain c hnop hc (by rw [hpc]; rfl) rfl rfl ((entry_deqNext _ _).plain _)
      (entry_deqNext _ _).wk (dqIdx_deqNext (Nat.zero_le _) hl.1.len)
  case relock hs hpc =>
    subst s1
    refine ⟨qi_goto (qi_setFr c.qi) hnop rfl,
            cf_plain (plain_of_pc (p := .wRet (s.fr t).ready) (by simp) ⟨rfl, rfl, rfl, rfl⟩) ?_⟩
    intro _ hf0 k r hk
    simp only [setPc_fr, setFr_fr, setPc_pc, if_true, setPc_rcd, setFr_rcd] at hf0 hk ⊢
    have := c.cf.dq hc hf0 k r hk
    rw [hpc] at this
    exact this
  case init i r oid hpc hoid hdead hrid hi hs =>
    subst hs
    rw [hpc] at hl
    have hnd := noneDeqd_of_cf c.cf hc hl.1.frees (by rw [hpc]; rfl)
    have hp' : wk (if oid.isCv = true then PC.wEnqCv i (CvEnqSt.spin SpinSt.ld) else PC.wEnq i EnqSt.lockCall) = none := by
      split <;> rfl
    refine ⟨qi_goto (qi_setFr (qi_init c.qi hdead)) hnop hp', ?_⟩
    have hget : ((s.fr t).recs ++ [r])[i]? = some r := by rw [hi]; simp
    constructor
    · intro o ho
      simp only [setPc_pc, setPc_fr, setFr_fr, if_true] at ho
      split at ho <;> simp [holdsAt] at ho
    · intro r' hr'
      simp only [setPc_pc, setPc_fr, setFr_fr, setRec_fr, if_true, setPc_rcd, setFr_rcd, setRec_rcd] at hr' ⊢
      have : r' = r := by
        split at hr' <;> simp [freshAt, hget] at hr' <;> exact hr'.symm
      subst this; simp [Rec.fresh]
    · intro r' hr'
      simp only [setPc_pc, setPc_fr, setFr_fr, if_true] at hr'
      split at hr' <;> simp [clearedAt] at hr'
    · intro o ho
      simp only [setPc_pc, setPc_fr, setFr_fr, if_true] at ho
      split at ho <;> simp [enqTrueAt] at ho
    · intro _ hf0 k r' hk
      simp only [setPc_pc, setPc_fr, setFr_fr, setRec_fr, if_true, setPc_rcd, setFr_rcd, setRec_rcd] at hk ⊢
      have hd0 : dqIdx (if oid.isCv = true then PC.wEnqCv i (CvEnqSt.spin SpinSt.ld) else PC.wEnq i EnqSt.lockCall)
          { s.fr t with recs := (s.fr t).recs ++ [r] } = 0 := by split <;> rfl
      rw [hd0]
      by_cases hrr : r' = r
      · subst hrr; simp [Rec.fresh]
      · simp only [hrr, if_false]
        have : (s.fr t).recs[k]? = some r' := by
          rcases Nat.lt_or_ge k (s.fr t).recs.length with h' | h'
          · rw [List.getElem?_append_left h'] at hk; exact hk
          · rw [List.getElem?_append_right h'] at hk
            have : k - (s.fr t).recs.length = 0 := by
              rcases Nat.eq_zero_or_pos (k - (s.fr t).recs.length) with h0 | h0
              · exact h0
              · rw [List.getElem?_eq_none (by simp; omega)] at hk; cases hk
            rw [this] at hk; simp at hk; exact absurd hk.symm hrr
        rw [hnd k r' this]; simp
  case free hpc hs =>
    subst hs
    rw [hpc] at hl
    have hall : ∀ r ∈ (s.fr t).recs, (s.rcd r).deqd = true ∨ (s.rcd r).live = false := by
      intro r hr
      obtain ⟨k, hk⟩ := List.getElem?_of_mem hr
      have := (c.cf.dq hc hl.1.frees k r hk).2
      rw [hpc] at this
      exact .inl (this (List.getElem?_eq_some_iff.1 hk).1)
    refine ⟨qi_setPc (qi_setFr (qi_kill c.qi hall)) hw0 (entry_relockNext _).wk hpost hmc, cf_plain ?_ ?_⟩
    · simpa using (entry_relockNext _).plain _
    · intro _ hf0; simp at hf0
  case ret r0 hpc hs =>
    subst hs
    rw [hpc] at hl
    have hall : ∀ r ∈ (if (s.fr t).heap.isSome = true then [] else (s.fr t).recs),
        (s.rcd r).deqd = true ∨ (s.rcd r).live = false := by
      intro r hr
      split at hr
      · cases hr
      · rename_i hh
        have hfr := frees_of_linv_ret hl (by simpa using hh)
        obtain ⟨k, hk⟩ := List.getElem?_of_mem hr
        have := (c.cf.dq hc hfr k r hk).2
        rw [hpc] at this
        exact .inl (this (List.getElem?_eq_some_iff.1 hk).1)
    refine ⟨qi_goto (qi_setFr (qi_kill c.qi hall)) hnop rfl, cf_notInCall ?_⟩
    simp [inCall]

theorem cf_idle_keeps {s s' : State} {t : Tid} (hpc : s.pc t = .idle) (k : s'.pc t = s.pc t) : CF s' t :=
  cf_notInCall (by rw [k, hpc]; rfl)

theorem qcf_stepIdle {s s' : State} {t : Tid} {e : Ev} (c : QCtx s t)
    (hpc : s.pc t = .idle) (h : stepIdle s t e = .ok s') : QI s' ∧ CF s' t := by
  have hop : opn (s.pc t) = true := by rw [hpc]; rfl
  have hw0 : wk (s.pc t) = none := by rw [hpc]; rfl
  unfold stepIdle at h
  split at h
  · -- callWaitN
    split at h
    · rename_i hg
      cases h
      refine ⟨qi_setPc (qi_setFr c.qi) hw0 ((entry_pollNext _ _).wk) hg.2.1 hg.1,
              cf_plain (by simpa using (entry_pollNext _ 0).plain _) ?_⟩
      intro _ _ k r hk
      simp [Frame.new, Frame.empty] at hk
    · simp at h
  · -- callSig
    split at h
    · rename_i hg
      cases h
      exact ⟨qi_setPc c.qi hw0 rfl hg.2 hg.1, cf_notInCall (by simp [inCall])⟩
    · simp at h
  · -- newNote
    split at h
    · rename_i k ex hg
      cases h
      exact ⟨qi_newObj (e := ex) (v := (s.obj (.note k)).value) c.qi hg, cf_notInCall (by simp [hpc, inCall])⟩
    · simp at h
  · -- newCtr
    split at h
    · rename_i k v hg
      cases h
      exact ⟨qi_newObj (e := (s.obj (.ctr k)).expiry) (v := v) c.qi hg, cf_notInCall (by simp [hpc, inCall])⟩
    · simp at h
  · exact ⟨qi_stepOpen c.qi hop hw0 h, cf_idle_keeps hpc (keeps_stepOpen (t := t) h).1⟩

theorem qi_spinAcq {s s' : State} {t : Tid} {c : Nat} {st : SpinSt} {mk : SpinSt → PC} {done : PC} {e : Ev}
    (h : QI s) (hnop : opn (s.pc t) = false) (hmk : ∀ x, wk (mk x) = none) (hdone : wk done = none)
    (hs : spinAcq s t c st mk done e = .ok s') : QI s' := by
  unfold spinAcq at hs
  split_ok hs
  all_goals first
    | exact qi_dflt h hs
    | (cases hs; exact qi_goto h hnop (hmk _))
    | (cases hs; exact qi_goto (qi_cvWord h rfl rfl) hnop hdone)

/-- the unlink step in the general form used for signal (first record) and broadcast (all) -/
theorem qi_sgHeld {s : State} {t : Tid} {c0 : Nat} {bc : Bool} {l q : List Rid} {ob : Obj} (c : QI s)
    (hpc : s.pc t = .sg c0 bc .held) (hsplit : (s.obj (.cv c0)).queue = l ++ q) (hq : ob.queue = q)
    (hk : ob.known = (s.obj (.cv c0)).known) :
    QI (({ (s.setObj (.cv c0) ob) with
            rcd := fun r => if r ∈ l then { (s.setObj (.cv c0) ob).rcd r with unl := Unl.waker } else (s.setObj (.cv c0) ob).rcd r } : State).setPc t
          (.sg c0 bc (if l = [] then .ret else .wake l))) := by
  have hnop : opn (s.pc t) = false := by rw [hpc]; rfl
  have hpost := post_none_of_pc c hnop
  have hmc := mc_none_of_pc c hnop
  have hw0 := wk_none_of_opn hnop
  let f : Rid → Rec := fun r => if r ∈ l then { s.rcd r with unl := Unl.waker } else s.rcd r
  have hg1 : QI { s with rcd := f } := by
    apply qi_recGhost c f <;> intro r <;> simp only [f] <;> split <;> rfl
  by_cases hl : l = []
  · subst hl
    simp only [if_true]
    have hqq : ob.queue = (({ s with rcd := f } : State).obj (.cv c0)).queue := by
      show ob.queue = (s.obj (.cv c0)).queue
      rw [hq, hsplit]; rfl
    exact qi_setPc (s := ({ s with rcd := f } : State).setObj (.cv c0) ob) (p := .sg c0 bc .ret) (qi_cvWord hg1 hqq hk) hw0 rfl hpost hmc
  · simp only [hl, if_false]
    exact qi_unlink (s := { s with rcd := f }) hg1 hsplit hq hk hw0 hpost hmc rfl

theorem qcf_stepSg {s s' : State} {t : Tid} {c0 : Nat} {bc : Bool} {st0 : SgSt} {e : Ev} (c : QCtx s t)
    (hpc : s.pc t = .sg c0 bc st0) (h : stepSg s t c0 bc st0 e = .ok s') : QI s' ∧ CF s' t := by
  refine ⟨?_, cf_notInCall (by rw [(quiet_stepSg hpc h).inCall t, hpc]; rfl)⟩
  unfold stepSg at h
  split at h
  · -- load
    have hnop : opn (s.pc t) = false := by rw [hpc]; rfl
    split_ok h
    all_goals first
      | exact qi_dflt c.qi h
      | (cases h; exact qi_goto c.qi hnop rfl)
  · -- spin
    have hnop : opn (s.pc t) = false := by rw [hpc]; rfl
    exact qi_spinAcq c.qi hnop (fun _ => rfl) rfl h
  · -- held: unlink under the spinlock
    split at h
    · rename_i c' fn new obs
      cases bc with
      | true =>
        simp only [if_true] at h
        split at h
        · cases h
          exact qi_sgHeld (l := (s.obj (.cv c0)).queue) (q := []) c.qi hpc (by simp) rfl rfl
        · simp at h
      | false =>
        simp only [Bool.false_eq_true, if_false] at h
        split at h
        · cases h
          exact qi_sgHeld (l := (s.obj (.cv c0)).queue.take 1) (q := (s.obj (.cv c0)).queue.drop 1) c.qi hpc
            (List.take_append_drop 1 _).symm (by simp) rfl
        · simp at h
    · exact qi_dflt c.qi h
  · -- wake
    rename_i l
    split at h
    · -- the clearing store
      split at h
      · cases h
        exact qi_clear c.qi (by rw [hpc]; rfl) ‹s.post t = none›
      · simp at h
    · -- the post
      rename_i r hd rest j hpo
      split at h
      · rename_i s1 hps
        cases h
        have hpo : s.post t = some r := ‹s.post t = some r›
        have k := keeps_postSem (t := t) hps
        have h1 := qi_postSem c.qi hps
        have hpo1 : s1.post t = some r := by
          unfold postSem at hps; split at hps
          · unfold bindSem at hps; split_ok hps; all_goals (cases hps; try exact hpo)
          · cases hps; exact hpo
        have hq := qi_sgPost (s := s1.setSem j (s1.sem j + 1)) (c := c0) (t := t) (r0 := hd) (r := r) (rest := rest)
          (p := .sg c0 bc (if rest = [] then .ret else .wake rest)) (qi_setSem h1)
          (by simp only [setSem_pc]; rw [k.1, hpc]; rfl) (by simpa using hpo1)
          (by split <;> simp [wk, *])
        exact hq
      · simp at h
    · simp at h
    · exact qi_dflt c.qi h
  · -- ret
    have hnop : opn (s.pc t) = false := by rw [hpc]; rfl
    split at h
    · split at h
      · cases h
        exact qi_goto c.qi hnop rfl
      · simp at h
    · exact qi_dflt c.qi h

/-- facts about the record at index i of the caller's live frame -/
theorem own_rec {s : State} {t : Tid} {i : Nat} {r : Rid} (ho : Own s) (hc : inCall (s.pc t) = true)
    (hf : (s.fr t).frees = 0) (hr : (s.fr t).recs[i]? = some r) :
    (s.rcd r).live = true ∧ (s.rcd r).owner = t ∧ (s.fr t).objs[i]? = some (s.rcd r).obj :=
  ⟨(ho.own t r hc hf (List.mem_of_getElem? hr)).1, (ho.own t r hc hf (List.mem_of_getElem? hr)).2, ho.idx t i r hc hf hr⟩

/-- the caller holds no note / counter mutex before and after; only `waiting` / ghost fields of records and
    cv words may have changed -/
theorem cf_noHold {s s' : State} {t : Tid} (hcf : CF s t) (hfr : s'.fr t = s.fr t)
    (hh : holdsAt (s'.pc t) (s.fr t) = none) (he : enqTrueAt (s'.pc t) (s.fr t) = none)
    (hf : ∀ r, freshAt (s'.pc t) (s.fr t) = some r → (s'.rcd r).waiting = false)
    (hcl : ∀ r, clearedAt (s'.pc t) (s.fr t) = some r → (s'.rcd r).waiting = false)
    (hic : inCall (s'.pc t) = inCall (s.pc t)) (hdq : dqIdx (s'.pc t) (s.fr t) = dqIdx (s.pc t) (s.fr t))
    (hd : ∀ r, (s'.rcd r).deqd = (s.rcd r).deqd) : CF s' t := by
  constructor
  · intro o ho; rw [hfr, hh] at ho; cases ho
  · intro r hr; rw [hfr] at hr; exact hf r hr
  · intro r hr; rw [hfr] at hr; exact hcl r hr
  · intro o ho; rw [hfr, he] at ho; cases ho
  · intro hc hf0 k r hk
    rw [hfr] at hf0 hk ⊢
    rw [hdq, hd]; exact hcf.dq (hic ▸ hc) hf0 k r hk

theorem qcf_stepEnqCv {s s' : State} {t : Tid} {i : Nat} {st0 : CvEnqSt} {e : Ev} (c : QCtx s t)
    (hpc : s.pc t = .wEnqCv i st0) (h : stepEnqCv s t i st0 e = .ok s') : QI s' ∧ CF s' t := by
  have hl : LInv (.wEnqCv i st0) (s.fr t) := hpc ▸ c.linv t
  have hc : inCall (s.pc t) = true := by rw [hpc]; rfl
  have hnop : opn (s.pc t) = false := by rw [hpc]; rfl
  have hpost := post_none_of_pc c.qi hnop
  have hnd := noneDeqd_of_cf c.cf hc hl.1.frees (by rw [hpc]; rfl)
  unfold stepEnqCv at h
  split at h
  · rename_i cv r hoi hri
    have hor := own_rec c.own hc hl.1.frees hri
    dsimp only at h
    split at h
    · -- spin
      rename_i sp
      have hfresh : (s.rcd r).waiting = false := c.cf.fresh r (by rw [hpc]; simpa [freshAt] using hri)
      obtain ⟨hfr', hrcd', -, hpc2⟩ := spinAcq_pc h
      refine ⟨qi_spinAcq c.qi hnop (fun _ => rfl) rfl h, ?_⟩
      have hpc' : ∃ st', s'.pc t = .wEnqCv i st' ∧ (st' = .store ∨ ∃ x, st' = .spin x) := by
        rcases hpc2 with ⟨x, h1⟩ | h1 | h1
        · exact ⟨_, h1, .inr ⟨x, rfl⟩⟩
        · exact ⟨_, h1, .inl rfl⟩
        · exact ⟨_, h1.trans hpc, .inr ⟨sp, rfl⟩⟩
      obtain ⟨st', hst', hcase⟩ := hpc'
      refine cf_noHold c.cf (congrFun hfr' t) (by rw [hst']; rfl) (by rw [hst']; rfl) ?_ (by rw [hst']; simp [clearedAt])
        (by rw [hst', hpc]; rfl) (by rw [hst', hpc]; rfl) (fun r' => by rw [hrcd'])
      intro r' hr'
      rw [hrcd']
      have : r' = r := by
        rw [hst'] at hr'
        rcases hcase with h1 | ⟨x, h1⟩ <;> subst h1 <;> simp [freshAt, hri] at hr' <;> exact hr'.symm
      subst this; exact hfresh
    · -- store
      have hfresh : (s.rcd r).waiting = false := c.cf.fresh r (by rw [hpc]; simpa [freshAt] using hri)
      split at h
      · split at h
        · rename_i hg
          cases h
          have hobj : (s.rcd r).obj = .cv cv := by
            have := hor.2.2; rw [hoi] at this; exact (Option.some.inj this).symm
          have hq := qi_append (o := .cv cv) c.qi hor.1 hobj hfresh (hnd i r hri) hg.2.2.2 hpost
            (by intro n hn; cases hn) (c.qi.q10 cv)
          refine ⟨qi_goto hq hnop rfl, ?_⟩
          refine cf_noHold c.cf rfl (by simp [holdsAt]) (by simp [enqTrueAt]) (by intro r' hr'; simp [freshAt] at hr')
            (by intro r' hr'; simp [clearedAt] at hr') (by simp [hpc, inCall]) (by simp [hpc, dqIdx]) ?_
          intro r'; by_cases hr : r' = r <;> simp [hr]
        · simp at h
      · exact qcf_dflt c h
    · -- release
      split at h
      · split at h
        · rename_i hg
          exact qcf_afterEnq (s := s.setObj (.cv cv) { s.obj (.cv cv) with lock := none, flag := true })
            (qi_cvWord c.qi rfl rfl) hnd hnop hl.1.len h
        · simp at h
      · exact qcf_dflt c h
  · simp at h

/-- a record update that rewrites `waiting` with the value it already has -/
theorem qi_rewriteWaiting {s : State} {r : Rid} {b : Bool} (h : QI s) (hw : (s.rcd r).waiting = b) :
    QI (s.setRec r { s.rcd r with waiting := b }) := by
  have : s.setRec r { s.rcd r with waiting := b } =
      { s with rcd := fun r' => if r' = r then { s.rcd r with waiting := b } else s.rcd r' } := rfl
  rw [this]
  apply qi_recGhost h <;> intro r' <;> by_cases hr : r' = r <;> simp [hr, hw]

theorem qcf_stepEnq {s s' : State} {t : Tid} {i : Nat} {st0 : EnqSt} {e : Ev} (c : QCtx s t)
    (hpc : s.pc t = .wEnq i st0) (h : stepEnq s t i st0 e = .ok s') : QI s' ∧ CF s' t := by
  have hl : LInv (.wEnq i st0) (s.fr t) := hpc ▸ c.linv t
  have hc : inCall (s.pc t) = true := by rw [hpc]; rfl
  have hnop : opn (s.pc t) = false := by rw [hpc]; rfl
  have hpost := post_none_of_pc c.qi hnop
  have hmc := mc_none_of_pc c.qi hnop
  have hnd := noneDeqd_of_cf c.cf hc hl.1.frees (by rw [hpc]; rfl)
  unfold stepEnq at h
  split at h
  · rename_i oid r hoi hri
    have hor := own_rec c.own hc hl.1.frees hri
    have hobj : (s.rcd r).obj = oid := by have := hor.2.2; rw [hoi] at this; exact (Option.some.inj this).symm
    have hkn : (s.obj oid).known = true := c.own.known t hc _ (List.mem_of_getElem? hoi)
    dsimp only at h
    split at h
    · -- lockCall
      split at h
      · split at h
        · cases h
          exact qcf_move c hpc rfl rfl (.inr rfl) (.inl rfl) (.inr rfl) (.inr rfl) rfl rfl nofun
        · simp at h
      · exact qcf_dflt c h
    · -- lockWait
      split at h
      · split at h
        · rename_i hn
          cases h
          have hcv : oid.isCv = false := by
            rcases hl.2.2.1 with ⟨n, hn'⟩ | ⟨k, hk'⟩
            · rw [hoi] at hn'; cases hn'; rfl
            · rw [hoi] at hk'; cases hk'; rfl
          exact qcf_acquire c hpc rfl hcv hn hkn rfl hoi (.inl rfl) rfl rfl rfl rfl
        · simp at h
      · exact qcf_dflt c h
    · -- load: decides whether the record will be queued
      have hfr : freshAt (s.pc t) (s.fr t) = some r := by rw [hpc]; simpa [freshAt] using hri
      -- common construction for the two outcomes
      have mk : ∀ enq : Bool, (enq = true → wakeable oid (s.obj oid) = false ∧ ∀ n, oid = .note n → dlePast (s.obj oid).expiry = false) →
          QI (s.setPc t (.wEnq i (.store enq))) ∧ CF (s.setPc t (.wEnq i (.store enq))) t := by
        intro enq henq
        refine ⟨qi_goto c.qi hnop rfl, ?_⟩
        constructor
        · intro o ho
          simp only [setPc_pc, setPc_fr, if_true, setPc_obj] at ho ⊢
          have : o = oid := by simpa [holdsAt, hoi] using ho.symm
          subst this
          obtain ⟨a1, a2⟩ := c.cf.holds_at hpc hoi
          exact ⟨a1, fun _ => a2 rfl⟩
        · intro r' hr'
          simp only [setPc_pc, setPc_fr, if_true, setPc_rcd] at hr' ⊢
          have : r' = r := by simpa [freshAt, hri] using hr'.symm
          subst this; exact c.cf.fresh _ hfr
        · intro r' hr'; simp [clearedAt] at hr'
        · intro o ho
          simp only [setPc_pc, setPc_fr, if_true, setPc_obj] at ho ⊢
          cases enq with
          | false => simp [enqTrueAt] at ho
          | true =>
            have : o = oid := by simpa [enqTrueAt, hoi] using ho.symm
            subst this; exact henq rfl
        · intro _ hf0 k r' hk
          simp only [setPc_pc, setPc_fr, if_true, setPc_rcd] at hf0 hk ⊢
          rw [hnd k r' hk]; simp [dqIdx]
      split at h
      · rename_i n n' obs
        split at h
        · rename_i hg
          cases h
          apply mk
          intro henq
          unfold noteTimePos at henq
          simp only [Bool.and_eq_true, decide_eq_true_eq, Bool.not_eq_true'] at henq
          refine ⟨?_, fun n'' hn'' => by cases hn''; exact henq.2⟩
          have : (s.obj (.note n)).flag = false := by
            have := hg.2; rw [henq.1] at this; simpa using this.symm
          simp [wakeable, this]
        · simp at h
      · rename_i k k' obs
        split at h
        · rename_i hg
          cases h
          apply mk
          intro henq
          refine ⟨?_, fun n'' hn'' => by cases hn''⟩
          have : (s.obj (.ctr k)).value ≠ 0 := by rw [← hg.2]; simpa using henq
          simp [wakeable, this]
        · simp at h
      · exact qcf_dflt c h
    · -- store
      rename_i enq
      have hfresh : (s.rcd r).waiting = false := c.cf.fresh r (by rw [hpc]; simpa [freshAt] using hri)
      obtain ⟨hlk, hH4⟩ := c.cf.holds_at hpc hoi
      cases enq with
      | true =>
        have hE := c.cf.enqT oid (by rw [hpc]; simpa [enqTrueAt] using hoi)
        simp only [if_true] at h
        generalize (match oid with | ObjId.note _ => Fn.noteEnq | _ => Fn.ctrEnq) = fnx at h
        split_ok h
        all_goals first
          | exact qcf_dflt c h
          | (cases h
             have hq := qi_append c.qi hor.1 hobj hfresh (hnd i r hri) hlk hpost hE.2 hkn
             refine ⟨qi_goto hq hnop rfl, ?_⟩
             constructor
             · intro o ho
               simp only [setPc_pc, setPc_fr, setRec_fr, setObj_fr, if_true, setPc_obj, setRec_obj, setObj_obj] at ho ⊢
               simp only [holdsAt, hoi, Option.some.injEq] at ho
               subst ho
               simp only [if_true]
               refine ⟨hlk, fun _ hw => ?_⟩
               have hE1 := hE.1
               simp only [wakeable] at hw hE1
               first | (split at hw <;> simp_all) | simp_all
             · intro r' hr'; simp [freshAt] at hr'
             · intro r' hr'; simp [clearedAt] at hr'
             · intro o ho
               simp only [setPc_pc, setPc_fr, setRec_fr, setObj_fr, if_true, setPc_obj, setRec_obj, setObj_obj] at ho ⊢
               simp only [enqTrueAt, hoi, Option.some.injEq] at ho
               subst ho
               simp only [if_true]
               refine ⟨?_, hE.2⟩
               have hE1 := hE.1
               simp only [wakeable] at hE1 ⊢
               first | (split <;> simp_all) | simp_all
             · intro _ hf0 k r' hk
               simp only [setPc_pc, setPc_fr, setRec_fr, setObj_fr, if_true, setPc_rcd, setRec_rcd, setObj_rcd] at hf0 hk ⊢
               have := hnd k r' hk
               by_cases hrr : r' = r <;> simp [hrr, dqIdx] <;> simp_all)
      | false =>
        simp only [Bool.false_eq_true, if_false] at h
        generalize (match oid with | ObjId.note _ => Fn.noteEnq | _ => Fn.ctrEnq) = fnx at h
        split_ok h
        all_goals first
          | exact qcf_dflt c h
          | (cases h
             have hq := qi_rewriteWaiting (b := false) c.qi hfresh
             refine ⟨qi_goto hq hnop rfl, ?_⟩
             constructor
             · intro o ho
               simp only [setPc_pc, setPc_fr, setRec_fr, if_true, setPc_obj, setRec_obj] at ho ⊢
               simp only [holdsAt, hoi, Option.some.injEq] at ho
               subst ho
               exact ⟨hlk, fun _ => hH4 rfl⟩
             · intro r' hr'; simp [freshAt] at hr'
             · intro r' hr'; simp [clearedAt] at hr'
             · intro o ho; simp [enqTrueAt] at ho
             · intro _ hf0 k r' hk
               simp only [setPc_pc, setPc_fr, setRec_fr, if_true, setPc_rcd, setRec_rcd] at hf0 hk ⊢
               have := hnd k r' hk
               by_cases hrr : r' = r <;> simp [hrr, dqIdx] <;> simp_all)
    · -- unlockCall
      split at h
      · split at h
        · cases h
          exact qcf_release c hpc hpost hmc rfl hoi nofun rfl rfl rfl (.inr rfl) rfl rfl rfl
        · simp at h
      · exact qcf_dflt c h
    · -- unlockWait
      split at h
      · exact qcf_afterEnq c.qi hnd hnop hl.1.len h
      · exact qcf_dflt c h
  · simp at h

/-- the dequeue marks after the call on record j is over -/
theorem dq_after {s : State} {t : Tid} {j : Nat} {r : Rid} {f : Rid → Rec} (hnd : (s.fr t).recs.Nodup)
    (hri : (s.fr t).recs[j]? = some r)
    (hold : ∀ (k : Nat) (r' : Rid), (s.fr t).recs[k]? = some r' → ((s.rcd r').deqd = true ↔ k < j))
    (hr : (f r).deqd = true) (hother : ∀ r', r' ≠ r → (f r').deqd = (s.rcd r').deqd) :
    ∀ (k : Nat) (r' : Rid), (s.fr t).recs[k]? = some r' → ((f r').deqd = true ↔ k < j + 1) := by
  intro k r' hk
  by_cases hrr : r' = r
  · subst hrr
    have := idx_unique hnd hk hri
    subst this
    simp [hr]
  · rw [hother r' hrr, hold k r' hk]
    have : k ≠ j := fun hh => by subst hh; rw [hri] at hk; exact hrr (Option.some.inj hk).symm
    omega

theorem qcf_stepDeqCv {s s' : State} {t : Tid} {j : Nat} {st0 : CvDeqSt} {e : Ev} (c : QCtx s t)
    (hpc : s.pc t = .wDeqCv j st0) (h : stepDeqCv s t j st0 e = .ok s') : QI s' ∧ CF s' t := by
  have hl : LInv (.wDeqCv j st0) (s.fr t) := hpc ▸ c.linv t
  have hc : inCall (s.pc t) = true := by rw [hpc]; rfl
  have hnop : opn (s.pc t) = false := by rw [hpc]; rfl
  have hdq0 := c.cf.dq hc hl.1.frees
  rw [hpc] at hdq0
  simp only [dqIdx] at hdq0
  unfold stepDeqCv at h
  split at h
  · rename_i cv r hoi hri
    have hor := own_rec c.own hc hl.1.frees hri
    have hobj : (s.rcd r).obj = .cv cv := by have := hor.2.2; rw [hoi] at this; exact (Option.some.inj this).symm
    dsimp only at h
    split at h
    · -- spin
      rename_i sp
      obtain ⟨hfr', hrcd', -, hpc2⟩ := spinAcq_pc h
      refine ⟨qi_spinAcq c.qi hnop (fun _ => rfl) rfl h, ?_⟩
      have hpc' : ∃ st', s'.pc t = .wDeqCv j st' ∧ (st' = .load ∨ ∃ x, st' = .spin x) := by
        rcases hpc2 with ⟨x, h1⟩ | h1 | h1
        · exact ⟨_, h1, .inr ⟨x, rfl⟩⟩
        · exact ⟨_, h1, .inl rfl⟩
        · exact ⟨_, h1.trans hpc, .inr ⟨sp, rfl⟩⟩
      obtain ⟨st', hst', hcase⟩ := hpc'
      refine cf_noHold c.cf (congrFun hfr' t) (by rw [hst']; rfl) (by rw [hst']; rfl) (by rw [hst']; simp [freshAt]) ?_
        (by rw [hst', hpc]; rfl) (by rw [hst', hpc]; rfl) (fun r' => by rw [hrcd'])
      intro r' hr'
      rw [hst'] at hr'
      rcases hcase with h1 | ⟨x, h1⟩ <;> subst h1 <;> simp [clearedAt] at hr'
    · -- load
      split at h
      · rename_i r' obs
        split at h
        · rename_i hg
          cases h
          refine ⟨qi_goto c.qi hnop rfl, ?_⟩
          refine cf_noHold c.cf rfl (by simp; split <;> rfl) (by simp; split <;> rfl)
            (by intro r'' hr''; simp at hr''; split at hr'' <;> simp [freshAt] at hr'') ?_
            (by simp [hpc, inCall]) (by simp [hpc]; split <;> rfl) (fun _ => rfl)
          intro r'' hr''
          simp only [setPc_pc, if_true, setPc_rcd] at hr'' ⊢
          split at hr''
          · simp [clearedAt] at hr''
          · rename_i h0
            simp only [clearedAt, hri, Option.some.injEq] at hr''
            subst hr''
            have : obs = 0 := by simpa using h0
            rw [this] at hg; simpa using hg.2.symm
        · simp at h
      · exact qcf_dflt c h
    · -- store
      split at h
      · split at h
        · rename_i hg
          cases h
          have hin : r ∈ (s.obj (.cv cv)).queue := by simpa using hg.2.2.2.2
          refine ⟨qi_goto (qi_ownerRemove c.qi (.inl hin)) hnop rfl, ?_⟩
          refine cf_noHold c.cf rfl (by simp [holdsAt]) (by simp [enqTrueAt]) (by intro r'' hr''; simp [freshAt] at hr'') ?_
            (by simp [hpc, inCall]) (by simp [hpc, dqIdx]) ?_
          · intro r'' hr''
            simp only [setPc_pc, if_true, clearedAt, hri, Option.some.injEq] at hr''
            subst hr''
            simp
          · intro r''; simp only [setPc_rcd, ownerRemove_rcd]; split
            · rename_i hh; rw [hh]
            · rfl
        · simp at h
      · -- not found: release the spinlock and wait for the waker
        split at h
        · rename_i hg
          cases h
          have hq1 := qi_cvWord (c := cv) (ob := { s.obj (.cv cv) with lock := none, flag := (s.obj (.cv cv)).flag && !(s.obj (.cv cv)).queue.isEmpty })
            c.qi rfl rfl
          refine ⟨qi_goto hq1 hnop rfl, ?_⟩
          exact cf_noHold c.cf rfl (by simp [holdsAt]) (by simp [enqTrueAt]) (by intro r'' hr''; simp [freshAt] at hr'')
            (by intro r'' hr''; simp [clearedAt] at hr'') (by simp [hpc, inCall]) (by simp [hpc, dqIdx]) (fun _ => rfl)
        · simp at h
      · exact qcf_dflt c h
    · -- release
      rename_i res
      split at h
      · split at h
        · rename_i hg
          have hcl : (s.rcd r).waiting = false := c.cf.cleared r (by rw [hpc]; simpa [clearedAt] using hri)
          have hp5 : ∀ u, s.post u = some r → (wk (s.pc u)).isSome = true := by
            intro u hu
            rcases c.qi.q5 u r hu with h1 | ⟨_, _, a3, _, _⟩
            · exact h1
            · rw [hobj] at a3; cases a3
          have hq1 := qi_cvWord (c := cv) (ob := { s.obj (.cv cv) with lock := none, flag := (s.obj (.cv cv)).flag && !(s.obj (.cv cv)).queue.isEmpty })
            (qi_setDeqd c.qi hcl hp5) rfl rfl
          refine qcf_deqDone (s := (s.setObj (.cv cv) _).setRec r _) hq1 ?_ hnop hl.2.2.1 hl.1.len h
          intro k r' hk
          simp only [setRec_fr, setObj_fr, setRec_rcd, setObj_rcd] at hk ⊢
          exact dq_after (f := fun x => if x = r then { s.rcd r with deqd := true } else s.rcd x) (c.own.nodup t) hri hdq0
            (by simp) (fun r'' hne => by simp [hne]) k r' hk
        · simp at h
      · exact qcf_dflt c h
    · -- wspin
      split at h
      · split at h
        · rename_i hg
          split at h
          · rename_i h0
            have hcl : (s.rcd r).waiting = false := by
              have := hg.2; rw [h0] at this
              cases hx : (s.rcd r).waiting with
              | false => rfl
              | true => rw [hx] at this; simp [b2n] at this
            have hp5 : ∀ u, s.post u = some r → (wk (s.pc u)).isSome = true := by
              intro u hu
              rcases c.qi.q5 u r hu with h1 | ⟨_, _, a3, _, _⟩
              · exact h1
              · rw [hobj] at a3; cases a3
            refine qcf_deqDone (s := s.setRec r _) (qi_setDeqd c.qi hcl hp5) ?_ hnop hl.2.2.1 hl.1.len h
            intro k r' hk
            simp only [setRec_fr, setRec_rcd] at hk ⊢
            exact dq_after (f := fun x => if x = r then { s.rcd r with deqd := true } else s.rcd x) (c.own.nodup t) hri hdq0
              (by simp) (fun r'' hne => by simp [hne]) k r' hk
          · cases h; exact ⟨c.qi, c.cf⟩
        · simp at h
      · exact qcf_dflt c h
  · simp at h

/-- a note / counter record that is not in its object's queue is not marked waiting -/
theorem not_waiting_of_not_queued {s : State} {r : Rid} (h : QI s) (hl : (s.rcd r).live = true)
    (hcv : (s.rcd r).obj.isCv = false) (hq : r ∉ (s.obj (s.rcd r).obj).queue) : (s.rcd r).waiting = false := by
  cases hw : (s.rcd r).waiting with
  | false => rfl
  | true =>
    rcases h.q3 r hl hw with h1 | ⟨u, c, l, h1, h2⟩
    · exact absurd h1 hq
    · have := ((h.q4 u c l h1).2.2 r h2).2.1
      rw [this] at hcv; cases hcv

theorem qcf_stepDeq {s s' : State} {t : Tid} {j : Nat} {st0 : DeqSt} {e : Ev} (c : QCtx s t) (hpc : s.pc t = .wDeq j st0) (h : stepDeq s t j st0 e = .ok s') : QI s' ∧ CF s' t := by
  have hl : LInv (.wDeq j st0) (s.fr t) := hpc ▸ c.linv t
  have hc : inCall (s.pc t) = true := by rw [hpc]; rfl
  have hnop : opn (s.pc t) = false := by rw [hpc]; rfl
  have hpost := post_none_of_pc c.qi hnop
  have hdq0 := c.cf.dq hc hl.1.frees
  unfold stepDeq at h
  split at h
  · rename_i oid r hoi hri
    have hor := own_rec c.own hc hl.1.frees hri
    have hobj : (s.rcd r).obj = oid := by have := hor.2.2; rw [hoi] at this; exact (Option.some.inj this).symm
    have hkn : (s.obj oid).known = true := c.own.known t hc _ (List.mem_of_getElem? hoi)
    have hcv : oid.isCv = false := by
      rcases hl.2.2.2.1 with ⟨n, hn'⟩ | ⟨k, hk'⟩
      · rw [hoi] at hn'; cases hn'; rfl
      · rw [hoi] at hk'; cases hk'; rfl
    -- moving inside the critical section to a point where `waiting` of the record is known to be clear
    have toCleared : ∀ (p' : PC), holdsAt p' (s.fr t) = some oid → clearedAt p' (s.fr t) = some r →
        freshAt p' (s.fr t) = none → enqTrueAt p' (s.fr t) = none → isNfWake p' = false → wk p' = none →
        inCall p' = true → dqIdx p' (s.fr t) = dqIdx (.wDeq j st0) (s.fr t) →
        holdsAt (.wDeq j st0) (s.fr t) = some oid → (s.rcd r).waiting = false →
        QI (s.setPc t p') ∧ CF (s.setPc t p') t := by
      intro p' h1 h2 h3 h4 _ h6 _ h8 hho hwf
      refine ⟨qi_goto c.qi hnop h6, ?_⟩
      constructor
      · intro o ho
        simp only [setPc_pc, setPc_fr, if_true, setPc_obj] at ho ⊢
        rw [h1] at ho; cases ho
        obtain ⟨a1, a2⟩ := c.cf.holds_at hpc hho
        exact ⟨a1, fun _ => a2 rfl⟩
      · intro r' hr'; simp only [setPc_pc, setPc_fr, if_true] at hr'; rw [h3] at hr'; cases hr'
      · intro r' hr'
        simp only [setPc_pc, setPc_fr, if_true, setPc_rcd] at hr' ⊢
        rw [h2] at hr'; cases hr'; exact hwf
      · intro o ho; simp only [setPc_pc, setPc_fr, if_true] at ho; rw [h4] at ho; cases ho
      · intro _ hf0 k r' hk
        simp only [setPc_pc, setPc_fr, if_true, setPc_rcd] at hf0 hk ⊢
        rw [h8, ← hpc]
        exact hdq0 k r' hk
    dsimp only at h
    split at h
    · -- lockCall
      split at h
      · split at h
        · cases h
          exact qcf_move c hpc rfl rfl (.inr rfl) (.inr rfl) (.inr rfl) (.inr rfl) rfl rfl nofun
        · simp at h
      · exact qcf_dflt c h
    · -- lockWait
      split at h
      · split at h
        · rename_i hn
          cases h
          exact qcf_acquire c hpc rfl hcv hn hkn rfl hoi (.inr rfl) rfl rfl rfl rfl
        · simp at h
      · exact qcf_dflt c h
    · -- load
      obtain ⟨hlk, hH4⟩ := c.cf.holds_at hpc hoi
      have hH4' := hH4 rfl
      split at h
      · rename_i n n' obs
        split at h
        · rename_i hg
          by_cases hb : noteTimePos (s.obj (.note n)) obs = true
          · rw [if_pos hb] at h
            cases h
            exact qcf_move c hpc rfl rfl (.inl rfl) (.inr rfl) (.inr rfl) (.inr rfl) rfl rfl nofun
          · rw [if_neg hb] at h
            cases h
            -- NOTIFIED_TIME <= 0: the record is not in the queue, hence not marked waiting
            have hqe : (s.obj (.note n)).queue = [] := by
              unfold noteTimePos at hb
              by_cases h0 : obs = 0
              · have : dlePast (s.obj (.note n)).expiry = true := by simpa [h0] using hb
                exact c.qi.q8 n this
              · have hf : (s.obj (.note n)).flag = true := by
                  cases hfl : (s.obj (.note n)).flag with
                  | true => rfl
                  | false => rw [hfl] at hg; simp at hg; exact absurd hg.2 h0
                exact hH4' (by simp [wakeable, hf])
            have hwf : (s.rcd r).waiting = false :=
              not_waiting_of_not_queued c.qi hor.1 (by rw [hobj]; rfl) (by rw [hobj, hqe]; simp)
            exact toCleared _ hoi hri rfl rfl rfl rfl rfl rfl hoi hwf
        · simp at h
      · rename_i k k' obs
        split at h
        · cases h
          exact qcf_move c hpc rfl rfl (.inl rfl) (.inr rfl) (.inr rfl) (.inr rfl) rfl rfl nofun
        · simp at h
      · exact qcf_dflt c h
    · -- loadW
      rename_i res
      split at h
      · rename_i r' obs
        split at h
        · rename_i hg
          by_cases h0 : obs ≠ 0
          · rw [if_pos h0] at h
            cases h
            exact qcf_move c hpc rfl rfl (.inl rfl) (.inr rfl) (.inr rfl) (.inr rfl) rfl rfl nofun
          · rw [if_neg h0] at h
            cases h
            have hwf : (s.rcd r).waiting = false := by
              have : obs = 0 := by simpa using h0
              rw [this] at hg; simpa using hg.2.symm
            exact toCleared _ hoi hri rfl rfl rfl rfl rfl rfl hoi hwf
        · simp at h
      · exact qcf_dflt c h
    · -- store
      rename_i res
      obtain ⟨hlk, hH4⟩ := c.cf.holds_at hpc hoi
      have hH4' := hH4 rfl
      have hin : r ∈ (s.obj oid).queue ∨ (s.rcd r).waiting = false := by
        by_cases hm : r ∈ (s.obj oid).queue
        · exact .inl hm
        · exact .inr (not_waiting_of_not_queued c.qi hor.1 (by rw [hobj]; exact hcv) (by rw [hobj]; exact hm))
      have hold := hdq0
      rw [hpc] at hold
      simp only [dqIdx] at hold
      split_ok h
      all_goals first
        | exact qcf_dflt c h
        | (cases h
           refine ⟨qi_goto (qi_ownerRemove c.qi hin) hnop rfl, ?_⟩
           constructor
           · intro o ho
             simp only [setPc_pc, setPc_fr, ownerRemove_fr, if_true, setPc_obj, ownerRemove_obj] at ho ⊢
             simp only [holdsAt, hoi, Option.some.injEq] at ho
             subst ho
             simp only [if_true]
             refine ⟨hlk, fun _ hw => ?_⟩
             have hq := hH4' (by simp only [wakeable] at hw ⊢; exact hw)
             rw [hq]; rfl
           · intro r' hr'; simp [freshAt] at hr'
           · intro r' hr'
             simp only [setPc_pc, setPc_fr, ownerRemove_fr, if_true, clearedAt, hri, Option.some.injEq] at hr'
             subst hr'
             simp
           · intro o ho; simp [enqTrueAt] at ho
           · intro _ hf0 k r' hk
             simp only [setPc_pc, setPc_fr, ownerRemove_fr, if_true, setPc_rcd, ownerRemove_rcd] at hf0 hk ⊢
             have := hold k r' hk
             simp only [dqIdx]
             split
             · rename_i hh; rw [hh] at this; exact this
             · exact this)
    · -- unlockCall
      rename_i res
      obtain ⟨hlk, hH4⟩ := c.cf.holds_at hpc hoi
      have hH4' := hH4 rfl
      have hcl : (s.rcd r).waiting = false := c.cf.cleared r (by rw [hpc]; simpa [clearedAt] using hri)
      split at h
      · split at h
        · cases h
          have hq1 := qi_lockRel c.qi hlk hpost (fun _ hw => hH4' hw)
          have hq2 : QI ((s.setObj oid { s.obj oid with lock := none }).setRec r { s.rcd r with deqd := true }) := by
            refine qi_setDeqd (s := s.setObj oid { s.obj oid with lock := none }) hq1 hcl ?_
            intro u hu
            rcases hq1.q5 u r hu with h1 | ⟨_, _, _, a4, _⟩
            · exact h1
            · simp only [setObj_rcd, setObj_obj, hobj, if_true] at a4; cases a4
          refine ⟨qi_goto hq2 hnop rfl, ?_⟩
          constructor
          · intro o ho; simp [holdsAt] at ho
          · intro r' hr'; simp [freshAt] at hr'
          · intro r' hr'
            simp only [setPc_pc, setPc_fr, setRec_fr, setObj_fr, if_true, clearedAt, hri, Option.some.injEq] at hr'
            subst hr'
            simp [hcl]
          · intro o ho; simp [enqTrueAt] at ho
          · intro _ hf0 k r' hk
            simp only [setPc_pc, setPc_fr, setRec_fr, setObj_fr, if_true, setPc_rcd, setRec_rcd, setObj_rcd] at hf0 hk ⊢
            have hold := hdq0
            rw [hpc] at hold
            simp only [dqIdx] at hold ⊢
            exact dq_after (f := fun x => if x = r then { s.rcd r with deqd := true } else s.rcd x) (c.own.nodup t) hri hold
              (by simp) (fun r'' hne => by simp [hne]) k r' hk
        · simp at h
      · exact qcf_dflt c h
    · -- unlockWait
      rename_i res
      split at h
      · have hold := hdq0
        rw [hpc] at hold
        simp only [dqIdx] at hold
        exact qcf_deqDone c.qi hold hnop hl.2.2.1 hl.1.len h
      · exact qcf_dflt c h
  · simp at h

theorem qi_init_state : QI init := by
  constructor
  · intro o r hr; simp [init, Obj.init] at hr
  · intro _; simp [init, Obj.init]
  · intro r h; simp [init] at h
  · intro u c l h; simp [init, wk] at h
  · intro u u' c l c' l' _ h; simp [init, wk] at h
  · intro u r h; simp [init] at h
  · intro u h; simp [init] at h
  · intro o _ _ h; simp [init, Obj.init] at h
  · intro n _; simp [init, Obj.init]
  · intro o _; simp [init, Obj.init]
  · intro _; simp [init, Obj.init, ObjId.isCv]
  · intro u h; simp [init] at h

theorem cf_init_state (t : Tid) : CF init t := cf_notInCall (by simp [init, inCall])

/-- own step: dispatch over the program counter -/
theorem qcf_stepThr {s s' : State} {t : Tid} {e : Ev} (c : QCtx s t)
    (h : stepThr s t e = .ok s') : QI s' ∧ CF s' t := by
  by_cases hst : stmt (s.pc t) = true
  · exact qcf_stmt c hst h
  unfold stepThr at h
  split at h <;> rename_i hpc
  · exact qcf_stepIdle c hpc h
  · simp at h
  · exact qcf_stepSg c hpc h
  · exact qcf_stepCtrRT c hpc h
  · exact qcf_stepND c hpc h
  · exact qcf_stepEnqCv c hpc h
  · exact qcf_stepEnq c hpc h
  · exact qcf_stepDeqCv c hpc h
  · exact qcf_stepDeq c hpc h
  all_goals exact (hst (by rw [hpc]; rfl)).elim

/-- in every reachable state every waiter record is accounted for -/
theorem qinv_of_reachable {s : State} (h : Reachable s) : QInv s := by
  refine reachable_inv ⟨qi_init_state, cf_init_state⟩ (fun s ns q _ => ?_) ?_ h
  · exact ⟨qi_transfer q.qi rfl rfl rfl (fun _ => rfl) q.qi.q6 q.qi.q11,
           fun t => cf_congr (q.cf t) rfl (frSame_refl _) rfl rfl⟩
  · intro s s' u ev hr q hs
    have hown := own_of_reachable hr
    have hl := linv_of_reachable hr
    have hown' := qcf_stepThr ⟨hown, hl, q.qi, q.cf u⟩ hs
    refine ⟨hown'.1, fun t => ?_⟩
    by_cases ht : t = u
    · subst ht; exact hown'.2
    · exact cf_other ht hown hl (q.cf t) hs

end WaitN
