import NsyncVerif.Proofs.MuCProj
/-
  MuC: what the plain code of the scan of unlock_slow (`scanRun`, `afterPickup`, `afterEval`) leaves
  unchanged, and at which program points it stops.
-/
namespace NsyncVerif.MuC

/-- Where unlock_slow returns to. -/
def Ret.pc : Ret → PC
  | .ul l nw => .ulRet l nw
  | .mw c => .mwWaitLd c

def finPc (r : Ret) : List Wid → PC
  | [] => r.pc
  | k :: rest => .usWakeSt r k rest

def loopPc (c : MW) (cit : Bool) : PC :=
  if c.outc = .ok ∧ cit = false then .mwStW c else .mwRet c cit

theorem afterWakes_eq (s : State) (t : Tid) (r : Ret) : afterWakes s t r = setPc s t r.pc := by
  cases r <;> rfl

theorem afterFin_eq (s : State) (t : Tid) (r : Ret) (l : List Wid) : afterFin s t r l = setPc s t (finPc r l) := by
  cases l with
  | nil => exact afterWakes_eq s t r
  | cons k rest => rfl

theorem mwLoop_eq (s : State) (t : Tid) (c : MW) (cit : Bool) : mwLoop s t c cit = setPc s t (loopPc c cit) := by
  unfold mwLoop loopPc; split <;> rfl

theorem loopPc_true (c : MW) : loopPc c true = .mwRet c true := by simp [loopPc]

@[simp] theorem setPc_pc (s : State) (t : Tid) (p : PC) : (setPc s t p).pc = setFn s.pc t p := rfl
theorem setPc_others {s s1 : State} (hpc : s1.pc = s.pc) (t : Tid) (p : PC) : ∀ u, u ≠ t → (setPc s1 t p).pc u = s.pc u :=
  setFn_others (by rw [setPc_pc, hpc])
@[simp] theorem toFin_pc (s : State) (t : Tid) (r : Ret) (sc : Scan) :
    (toFin s t r sc).pc = setFn s.pc t (.usFinLd r (mkFin sc s.queue.isEmpty)) := rfl
@[simp] theorem afterWakes_pc (s : State) (t : Tid) (r : Ret) : (afterWakes s t r).pc = setFn s.pc t r.pc := by
  rw [afterWakes_eq]; rfl
@[simp] theorem afterFin_pc (s : State) (t : Tid) (r : Ret) (l : List Wid) :
    (afterFin s t r l).pc = setFn s.pc t (finPc r l) := by rw [afterFin_eq]; rfl
@[simp] theorem mwLoop_pc (s : State) (t : Tid) (c : MW) (cit : Bool) :
    (mwLoop s t c cit).pc = setFn s.pc t (loopPc c cit) := by rw [mwLoop_eq]; rfl

@[simp] theorem addShare_wOwner_W (s : State) (t : Tid) : (addShare s t .W).wOwner = some t := rfl
@[simp] theorem addShare_wOwner_R (s : State) (t : Tid) : (addShare s t .R).wOwner = s.wOwner := rfl
@[simp] theorem addShare_rOwners_W (s : State) (t : Tid) : (addShare s t .W).rOwners = s.rOwners := rfl
@[simp] theorem addShare_rOwners_R (s : State) (t : Tid) : (addShare s t .R).rOwners = t :: s.rOwners := rfl
@[simp] theorem subShare_wOwner_W (s : State) (t : Tid) : (subShare s t .W).wOwner = none := rfl
@[simp] theorem subShare_wOwner_R (s : State) (t : Tid) : (subShare s t .R).wOwner = s.wOwner := rfl
@[simp] theorem subShare_rOwners_W (s : State) (t : Tid) : (subShare s t .W).rOwners = s.rOwners := rfl
@[simp] theorem subShare_rOwners_R (s : State) (t : Tid) : (subShare s t .R).rOwners = s.rOwners.erase t := rfl
@[simp] theorem setHeld_held (s : State) (t : Tid) (m : Option Mode) : (setHeld s t m).held = setFn s.held t m := rfl

/-- Everything but `wr`, `queue` and `pc` is unchanged. -/
structure Frame (s s' : State) : Prop where
  word : s'.word = s.word
  data : s'.data = s.data
  cargs : s'.cargs = s.cargs
  now : s'.now = s.now
  held : s'.held = s.held
  wOwner : s'.wOwner = s.wOwner
  rOwners : s'.rOwners = s.rOwners
  sp : s'.sp = s.sp
  secStart : s'.secStart = s.secStart
  nwViol : s'.nwViol = s.nwViol

theorem Frame.refl (s : State) : Frame s s := ⟨rfl, rfl, rfl, rfl, rfl, rfl, rfl, rfl, rfl, rfl⟩

theorem Frame.trans {a b c : State} (h1 : Frame a b) (h2 : Frame b c) : Frame a c :=
  ⟨h2.word.trans h1.word, h2.data.trans h1.data, h2.cargs.trans h1.cargs, h2.now.trans h1.now,
   h2.held.trans h1.held, h2.wOwner.trans h1.wOwner, h2.rOwners.trans h1.rOwners, h2.sp.trans h1.sp,
   h2.secStart.trans h1.secStart, h2.nwViol.trans h1.nwViol⟩

theorem frame_removeLinks (s : State) (p : Option Wid) (k : Wid) (n : Option Wid) : Frame s (removeLinks s p k n) :=
  ⟨by simp, by simp, by simp, by simp, by simp, by simp, by simp, by simp, by simp, by simp⟩

theorem frame_pickup (s : State) (sc : Scan) : Frame s (pickup s sc).1 :=
  ⟨by simp, by simp, by simp, by simp, by simp, by simp, by simp, by simp, by simp, by simp⟩

theorem Frame.setPc {s s1 : State} (h : Frame s s1) (t : Tid) (p : PC) : Frame s (setPc s1 t p) :=
  ⟨h.word, h.data, h.cargs, h.now, h.held, h.wOwner, h.rOwners, h.sp, h.secStart, h.nwViol⟩

/-- Relations between the locals of the scan that hold at every program point. -/
def Scan.ok (sc : Scan) : Prop := sc.tc = true → sc.late = true

/-- The program points at which the plain code of the scan stops. -/
def ScanPc (r : Ret) (late : Bool) : PC → Prop
  | .usEval r' sc => r' = r ∧ sc.late = late ∧ sc.tc = true ∧ sc.todo ≠ [] ∧ sc.ok
  | .usRcLd r' sc _ | .usReLd r' sc | .usRelLd r' sc => r' = r ∧ sc.late = late ∧ sc.ok
  | .usFinLd r' f => r' = r ∧ f.late = late
  | _ => False

theorem wakeOrPass_inl {wr : Wid → WRec} {k : Wid} {rest : List Wid} {sc : Scan} {res : ScanRes}
    (h : wakeOrPass wr k rest sc = .inl res) :
    ∃ sc', res = .remove k sc' ∧ sc'.late = sc.late ∧ sc'.tc = sc.tc := by
  unfold wakeOrPass at h
  split at h
  · simp only [Sum.inl.injEq] at h; exact ⟨_, h.symm, rfl, rfl⟩
  · cases h

theorem wakeOrPass_inr {wr : Wid → WRec} {k : Wid} {rest : List Wid} {sc sc' : Scan}
    (h : wakeOrPass wr k rest sc = .inr sc') : sc'.late = sc.late ∧ sc'.tc = sc.tc ∧ sc'.todo = rest := by
  unfold wakeOrPass at h
  split at h
  · cases h
  · simp only [Sum.inr.injEq] at h; subst h; exact ⟨rfl, rfl, rfl⟩

/-- What `scanGo` started with locals `sc` can return. -/
def ScanRes.good (sc : Scan) : ScanRes → Prop
  | .eval _ sc' => sc'.late = sc.late ∧ sc'.tc = sc.tc ∧ sc.tc = true ∧ sc'.todo ≠ []
  | .remove _ sc' => sc'.late = sc.late ∧ sc'.tc = sc.tc
  | .iterEnd sc' => sc'.late = sc.late ∧ sc'.tc = sc.tc
  | .panic => True

theorem ScanRes.good_of_eq {sc sc0 : Scan} {r : ScanRes} (h : r.good sc) (h1 : sc.late = sc0.late) (h2 : sc.tc = sc0.tc) :
    r.good sc0 := by
  cases r <;> simp_all [ScanRes.good]

/-- `scanGo` changes neither `late` nor `tc`. -/
theorem scanGo_spec (wr : Wid → WRec) (l : List Wid) (sc : Scan) : (scanGo wr l sc).good sc := by
  induction l generalizing sc with
  | nil => simp [scanGo, ScanRes.good]
  | cons k rest ih =>
    unfold scanGo
    split
    · simp [ScanRes.good]
    · split
      · split
        · rename_i h; simp [ScanRes.good, h]
        · trivial
      · split
        · rename_i res h
          obtain ⟨sc', rfl, h1, h2⟩ := wakeOrPass_inl h
          exact ⟨h1, h2⟩
        · rename_i sc' h
          obtain ⟨h1, h2, _⟩ := wakeOrPass_inr h
          exact ScanRes.good_of_eq (ih sc') h1 h2

theorem scanGo_good {wr : Wid → WRec} {l : List Wid} {sc : Scan} {res : ScanRes} (e : scanGo wr l sc = res) : res.good sc :=
  e ▸ scanGo_spec wr l sc

theorem pickup_some {s : State} {sc sc2 : Scan} (h : (pickup s sc).2 = some sc2) :
    sc2.late = sc.late ∧ (sc2.tc = true → sc.tc = true) := by
  unfold pickup at h
  split at h
  · cases h
  · simp only [Option.some.injEq] at h; subst h
    refine ⟨rfl, ?_⟩
    intro h; simp only [Bool.and_eq_true] at h; exact h.1.1

/-! ### an invariant along the plain code -/

/-- `I` holds of state and locals at the head of the loop of the plain code of the scan of thread `t`, `J` after the inner
    loop, and they give `Q` where the code stops: one rule per branch of `scanRun`. -/
structure ScanInvJ (t : Tid) (r : Ret) (I J : State → Scan → Prop) (Q : State → Prop) : Prop where
  eval : ∀ {s sc k sc'}, I s sc → scanGo s.wr sc.todo sc = .eval k sc' → Q (setPc s t (.usEval r sc'))
  remove : ∀ {s sc k sc'}, I s sc → scanGo s.wr sc.todo sc = .remove k sc' →
    Q (setPc (removeLinks s sc'.passed.getLast? k sc'.todo.head?) t (.usRcLd r sc' k))
  iterEnd : ∀ {s sc sc'}, I s sc → scanGo s.wr sc.todo sc = .iterEnd sc' → J s sc'
  reLd : ∀ {s sc}, J s sc → sc.tc = true → Q (setPc s t (.usReLd r sc))
  fin : ∀ {s sc}, J s sc → (pickup s sc).2 = none → Q (toFin (pickup s sc).1 t r sc)
  pick : ∀ {s sc sc2}, J s sc → (pickup s sc).2 = some sc2 → I (pickup s sc).1 sc2
  relLd : ∀ {s sc}, I s sc → sc.tc = true → Q (setPc s t (.usRelLd r sc))

/-- The same invariant at both places. -/
abbrev ScanInv (t : Tid) (r : Ret) (I : State → Scan → Prop) (Q : State → Prop) : Prop := ScanInvJ t r I I Q

namespace ScanInvJ
variable {t : Tid} {r : Ret} {I J : State → Scan → Prop} {Q : State → Prop} {s' : State}

theorem run (h : ScanInvJ t r I J Q) : ∀ (n : Nat) (s : State) (sc : Scan), scanRun n s t r sc = .ok s' → I s sc → Q s' := by
  intro n
  induction n with
  | zero => intro s sc hs; simp [scanRun] at hs
  | succ n ih =>
    intro s sc hs hI
    unfold scanRun at hs
    split at hs
    · cases hs
    · rename_i heq; cases hs; exact h.eval hI heq
    · rename_i heq; cases hs; exact h.remove hI heq
    · rename_i sc' heq
      have hJ := h.iterEnd hI heq
      split at hs
      · rename_i htc; cases hs; exact h.reLd hJ htc
      · split at hs
        · rename_i s1 hp
          cases hs
          have := h.fin hJ (by rw [hp]); rw [hp] at this; exact this
        · rename_i s1 sc2 hp
          have hI2 := h.pick hJ (sc2 := sc2) (by rw [hp]); rw [hp] at hI2
          split at hs
          · rename_i htc; cases hs; exact h.relLd hI2 htc
          · exact ih _ _ hs hI2

theorem afterPickup (h : ScanInvJ t r I J Q) {s : State} {sc : Scan} (hs : MuC.afterPickup (pickup s sc) t r sc = .ok s')
    (hJ : J s sc) : Q s' := by
  unfold MuC.afterPickup at hs
  split at hs
  · rename_i s1 hp
    cases hs
    have := h.fin hJ (by rw [hp]); rw [hp] at this; exact this
  · rename_i s1 sc2 hp
    have hI2 := h.pick hJ (sc2 := sc2) (by rw [hp]); rw [hp] at hI2
    split at hs
    · rename_i htc; cases hs; exact h.relLd hI2 htc
    · exact h.run _ _ _ hs hI2

/-- After the evaluation of the condition of the first waiter of `todo`: it is skipped with its ring, woken, or passed. -/
theorem afterEval (h : ScanInvJ t r I J Q) {s : State} {sc : Scan} {res : Bool} (hs : MuC.afterEval s t r sc res = .ok s')
    (hskip : ∀ k rest, sc.todo = k :: rest → res = false →
      I s { sc with passed := (skipPast s.wr sc.passed k rest).1, todo := (skipPast s.wr sc.passed k rest).2 })
    (hwake : ∀ k rest, sc.todo = k :: rest → res = true → sc.wt = none ∨ (s.wr k).lType = .R →
      Q (setPc (removeLinks s sc.passed.getLast? k rest.head?) t
        (.usRcLd r { sc with todo := rest, wake := sc.wake ++ [k], wt := some (s.wr k).lType } k)))
    (hpass : ∀ k rest, sc.todo = k :: rest → res = true → ¬ (sc.wt = none ∨ (s.wr k).lType = .R) →
      I s { sc with passed := sc.passed ++ [k], todo := rest, sww := true, saf := false }) : Q s' := by
  unfold MuC.afterEval at hs
  split at hs
  · cases hs
  · rename_i k rest hk
    split at hs
    · rename_i hres; exact h.run _ _ _ hs (hskip k rest hk (by simpa using hres))
    · rename_i hres
      have hres' : res = true := by simpa using hres
      by_cases hc : sc.wt = none ∨ (s.wr k).lType = .R
      · simp only [wakeOrPass, hc, if_true] at hs; cases hs; exact hwake k rest hk hres' hc
      · simp only [wakeOrPass, hc, if_false] at hs; exact h.run _ _ _ hs (hpass k rest hk hres' hc)

end ScanInvJ

/-! ### what the plain code leaves unchanged, where it stops -/

theorem Scan.ok.of_eq {sc sc' : Scan} (hok : sc.ok) (hl : sc'.late = sc.late) (htc : sc'.tc = sc.tc) : sc'.ok :=
  fun h => hl ▸ hok (htc ▸ h)

/-- Everything but `wr`, `queue` and the program point of `t` is unchanged, whatever the locals (take `c` false); from locals
    that are `ok` the plain code stops at a `ScanPc`. -/
theorem scanInv_frame (t : Tid) (r : Ret) (s0 : State) (late : Bool) (c : Prop) :
    ScanInv t r (fun s sc => Frame s0 s ∧ s.pc = s0.pc ∧ (c → sc.late = late ∧ sc.ok))
      (fun s' => Frame s0 s' ∧ ∃ p, s'.pc = setFn s0.pc t p ∧ (c → ScanPc r late p)) where
  eval := by
    intro s sc k sc' ⟨hf, hpc, h⟩ hgo
    have hsp := scanGo_good hgo
    exact ⟨hf.setPc _ _, .usEval r sc', by rw [setPc_pc, hpc],
      fun hc => ⟨rfl, hsp.1.trans (h hc).1, hsp.2.1 ▸ hsp.2.2.1, hsp.2.2.2, .of_eq (h hc).2 hsp.1 hsp.2.1⟩⟩
  remove := by
    intro s sc k sc' ⟨hf, hpc, h⟩ hgo
    have hsp := scanGo_good hgo
    exact ⟨(hf.trans (frame_removeLinks _ _ _ _)).setPc _ _, .usRcLd r sc' k, by simp [hpc],
      fun hc => ⟨rfl, hsp.1.trans (h hc).1, .of_eq (h hc).2 hsp.1 hsp.2⟩⟩
  iterEnd := by
    intro s sc sc' ⟨hf, hpc, h⟩ hgo
    have hsp := scanGo_good hgo
    exact ⟨hf, hpc, fun hc => ⟨hsp.1.trans (h hc).1, .of_eq (h hc).2 hsp.1 hsp.2⟩⟩
  reLd := fun ⟨hf, hpc, h⟩ _ => ⟨hf.setPc _ _, .usReLd r _, by rw [setPc_pc, hpc], fun hc => ⟨rfl, h hc⟩⟩
  fin := fun ⟨hf, hpc, h⟩ _ =>
    ⟨(hf.trans (frame_pickup _ _)).setPc _ _, .usFinLd r _, by simp [toFin, hpc]; rfl, fun hc => ⟨rfl, by simp [mkFin, (h hc).1]⟩⟩
  pick := fun ⟨hf, hpc, h⟩ e2 =>
    ⟨hf.trans (frame_pickup _ _), by simp [hpc],
      fun hc => ⟨(pickup_some e2).1.trans (h hc).1, fun h' => (pickup_some e2).1 ▸ (h hc).2 ((pickup_some e2).2 h')⟩⟩
  relLd := fun ⟨hf, hpc, h⟩ _ => ⟨hf.setPc _ _, .usRelLd r _, by rw [setPc_pc, hpc], fun hc => ⟨rfl, h hc⟩⟩

theorem scanRun_frame (n : Nat) (s : State) (t : Tid) (r : Ret) (sc : Scan) (s' : State) (h : scanRun n s t r sc = .ok s') :
    Frame s s' ∧ ∃ p, s'.pc = setFn s.pc t p ∧ (sc.ok → ScanPc r sc.late p) :=
  (scanInv_frame t r s sc.late sc.ok).run n s sc h ⟨.refl s, rfl, fun hok => ⟨rfl, hok⟩⟩

theorem afterPickup_frame {s : State} {sc0 : Scan} {t : Tid} {r : Ret} {s' : State}
    (h : afterPickup (pickup s sc0) t r sc0 = .ok s') :
    Frame s s' ∧ ∃ p, s'.pc = setFn s.pc t p ∧ (sc0.ok → ScanPc r sc0.late p) :=
  (scanInv_frame t r s sc0.late sc0.ok).afterPickup h ⟨.refl s, rfl, fun hok => ⟨rfl, hok⟩⟩

theorem afterEval_frame {s : State} {sc : Scan} {t : Tid} {r : Ret} {res : Bool} {s' : State}
    (h : afterEval s t r sc res = .ok s') :
    Frame s s' ∧ ∃ p, s'.pc = setFn s.pc t p ∧ (sc.ok → ScanPc r sc.late p) :=
  (scanInv_frame t r s sc.late sc.ok).afterEval h (fun _ _ _ _ => ⟨.refl s, rfl, fun hok => ⟨rfl, hok⟩⟩)
    (fun k rest _ _ _ => ⟨(frame_removeLinks _ _ _ _).setPc _ _,
      .usRcLd r { sc with todo := rest, wake := sc.wake ++ [k], wt := some (s.wr k).lType } k, by simp, fun hok => ⟨rfl, rfl, hok⟩⟩)
    (fun _ _ _ _ _ => ⟨.refl s, rfl, fun hok => ⟨rfl, hok⟩⟩)

end NsyncVerif.MuC
