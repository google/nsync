import NsyncVerif.Proofs.MuCInv4
/-
  MuC: meaning of MU_CONDITION — if the bit is clear no queued waiter has a condition.
-/
namespace NsyncVerif.MuC

/-- `old_word` of mu_try_acquire_after_timeout_or_cancel once the spinlock and the writer bit are held:
    the release store of mu_wait.c:120/125 writes a word built from it. -/
def PC.mtOld : PC → Option Word
  | .mtLdW _ o | .mtLdRc _ o | .mtRmLd _ o | .mtRmCas _ o _ | .mtStW _ o | .mtStRel _ o _ => some o
  | _ => none

theorem PcMove.mtOld {s : State} {p p' : PC} (h : PcMove s p p') : p'.mtOld = p.mtOld := by
  cases h <;> first | rfl | (rename_i h; cases h <;> rfl)

theorem CasPc.mtOld {s : State} {p p' : PC} {nw : Word} {w : Option Wid} (h : CasPc s p p' nw w) : p'.mtOld = none ∨ ∃ c old, p = .mtCasAcq c old := by
  cases h <;> first | exact Or.inl rfl | (cases ‹Ret› <;> exact Or.inl rfl) | exact Or.inr ⟨_, _, rfl⟩ |
    (rw [loopPc_true]; split <;> exact Or.inl rfl)

/-- Between the store `waiting := 1` and the release CAS of mu_wait: the record and the condition of the call. -/
def PC.limboC : PC → Option (Wid × Option Cond)
  | .mwRcLd c | .mwEnqLd c | .mwEnqCas c _ | .mwRelLd c | .mwRelCas c _ _ => c.w.map (fun k => (k, c.cond))
  | _ => none

structure Inv5 (s : State) : Prop where
  h1 : ∀ k, Queued s k → (s.wr k).cond ≠ none → s.word.cond = true
  h2 : ∀ t old, (s.pc t).mtOld = some old → ∀ k, Queued s k → (s.wr k).cond ≠ none → old.cond = true
  h3 : ∀ t k c, (s.pc t).limboC = some (k, c) → (s.wr k).cond = c

theorem Inv5.local {s s' : State} (t : Tid) (h : Inv5 s)
    (hQ : ∀ k, Queued s' k → Queued s k)
    (hcnd : ∀ x, (s'.wr x).cond = (s.wr x).cond)
    (hw : s.word.cond = true → s'.word.cond = true)
    (hpc : ∀ u, u ≠ t → s'.pc u = s.pc u)
    (hmt : ∀ old, (s'.pc t).mtOld = some old → (s.pc t).mtOld = some old ∨ s.word = old)
    (hlc : ∀ k c, (s'.pc t).limboC = some (k, c) → (s.pc t).limboC = some (k, c)) : Inv5 s' := by
  refine ⟨?_, ?_, ?_⟩
  · intro k hk hc
    rw [hcnd] at hc; exact hw (h.h1 k (hQ k hk) hc)
  · intro u old ho k hk hc
    rw [hcnd] at hc
    by_cases hu : u = t
    · subst hu
      rcases hmt old ho with e1 | e1
      · exact h.h2 u old e1 k (hQ k hk) hc
      · rw [← e1]; exact h.h1 k (hQ k hk) hc
    · rw [hpc u hu] at ho; exact h.h2 u old ho k (hQ k hk) hc
  · intro u k c hl
    rw [hcnd]
    by_cases hu : u = t
    · subst hu; exact h.h3 u k c (hlc k c hl)
    · rw [hpc u hu] at hl; exact h.h3 u k c hl

theorem PcMove.limboC {s : State} {p p' : PC} (h : PcMove s p p') : p'.limboC = p.limboC := by
  cases h <;> first | rfl | (rename_i h; cases h <;> rfl)

theorem Inv5.env {s s' : State} (h : Inv5 s) (hq : s'.queue = s.queue) (hwr : ∀ x, (s'.wr x).cond = (s.wr x).cond)
    (hw : s'.word.cond = s.word.cond) (hpc : s'.pc = s.pc) : Inv5 s' := by
  have hQ : ∀ k, Queued s' k ↔ Queued s k := fun k => by simp only [Queued, hq, hpc]
  refine ⟨?_, ?_, ?_⟩
  · intro k hk hc; rw [hw]; rw [hwr] at hc; exact h.h1 k ((hQ k).1 hk) hc
  · intro u old ho k hk hc; rw [hpc] at ho; rw [hwr] at hc; exact h.h2 u old ho k ((hQ k).1 hk) hc
  · intro u k c hl; rw [hpc] at hl; rw [hwr]; exact h.h3 u k c hl

theorem queued_same {s s' : State} {t : Tid} (hq : s'.queue = s.queue) (hpc : ∀ u, u ≠ t → s'.pc u = s.pc u)
    (hsc : (s'.pc t).scan? = (s.pc t).scan?) (k : Wid) : Queued s' k ↔ Queued s k :=
  queued_congr hq (eq_of_others hpc hsc) k

theorem CasPc.mtOld_word {s : State} {p p' : PC} {nw : Word} {w : Option Wid} (h : CasPc s p p' nw w) {o : Word} (e : p'.mtOld = some o) :
    s.word = o := by
  cases h <;> first | (cases e; assumption) | (cases e; done) | (cases ‹Ret› <;> cases e) | (rw [loopPc_true] at e; split at e <;> cases e)
theorem CasPc.limboC {s : State} {p p' : PC} {nw : Word} {w : Option Wid} (h : CasPc s p p' nw w) : p'.limboC = none := by
  cases h <;> first | rfl | (cases ‹Ret› <;> rfl) | (rw [loopPc_true]; split <;> rfl)

theorem dropW_cond (s : State) (w : Option Wid) (x : Wid) : ((dropW s w).wr x).cond = (s.wr x).cond := by
  obtain ⟨o, e⟩ := dropW_wr_eq s w x; rw [e]

theorem Inv5.cas {s s' : State} {t : Tid} {p' : PC} {nw : Word} {w : Option Wid} (h : Inv5 s) (hp : CasPc s (s.pc t) p' nw w)
    (ok : CasOk s t p' nw w s') : Inv5 s' := by
  have hpt : s'.pc t = p' := setFn_at ok.pc
  have hoth : ∀ u, u ≠ t → s'.pc u = s.pc u := setFn_others ok.pc
  exact Inv5.local t h (fun k hk => (queued_same (t := t) ok.queue hoth (by rw [hpt, hp.scan.1, hp.scan.2]) k).1 hk)
    (fun _ => by rw [ok.wr, dropW_cond]) (fun e => by rw [ok.word]; exact hp.cond_keep e) hoth
    (fun old e => Or.inr (hp.mtOld_word (by rw [hpt] at e; exact e))) (fun k c e => by rw [hpt, hp.limboC] at e; cases e)

theorem Inv5.move {s : State} {t : Tid} {p' : PC} (h : Inv5 s) (hp : PcMove s (s.pc t) p') : Inv5 (setPc s t p') :=
  Inv5.local t h
    (fun k hk => (queued_same (s := s) (s' := setPc s t p') (t := t) rfl (setFn_others rfl) (by simpa using hp.scan) k).1 hk)
    (fun _ => rfl) id (setFn_others rfl) (fun old ho => Or.inl (by simpa [hp.mtOld] using ho))
    (fun k c hl => by simpa [hp.limboC] using hl)

/-- `s.word.cond → s'.word.cond` for the word updates that keep or set MU_CONDITION -/
macro "word_cond" : tactic => `(tactic|
  first
  | (simp; done)
  | (simp_all [acqWord, addWord, relUncWord, relNwWord, subWord, Word.zero, enqWord, mwEnqWord, mtAcqWord, grabWord]; done)
  | (simp_all [acqWord, addWord, relUncWord, relNwWord, subWord, Word.zero, enqWord, mwEnqWord, mtAcqWord, grabWord] <;>
      (repeat' split) <;> simp_all))

/-- steps that change neither the lists nor any condition -/
macro "inv5_local" t:ident h:ident heq:ident : tactic => `(tactic|
  (refine Inv5.local $t $h ?_ ?_ ?_ ?_ ?_ ?_
   · intro k hk
     exact (queued_same (t := $t) (by simp) (by intro u hu; simp [setFn, hu])
        (by rw [$heq:ident]; simp [setFn, PC.scan?, loopPc, finPc, Ret.pc] <;> (repeat' split) <;> simp [PC.scan?]) k).1 hk
   · intro x; (simp [setFn]) <;> (try split) <;> simp_all
   · word_cond
   · intro u hu; simp [setFn, hu]
   · intro old ho
     left
     rw [$heq:ident]
     (simp_all [PC.mtOld, setFn, loopPc, finPc, Ret.pc]) <;> grind
   · intro k c hl
     rw [$heq:ident]
     (simp_all [PC.limboC, setFn, loopPc, finPc, Ret.pc]) <;> grind))

macro "ld_case5" t:ident h:ident heq:ident hs:ident : tactic => `(tactic|
  (try dsimp only at $hs:ident
   try simp only [ldWord, ldWaiting] at $hs:ident
   repeat' split at $hs:ident
   all_goals first
     | (cases $hs:ident; done)
     | (cases $hs:ident; inv5_local $t $h $heq)
     | (cases $hs:ident; split <;> inv5_local $t $h $heq)))

theorem finPc_mtOld (r : Ret) (l : List Wid) : (finPc r l).mtOld = none := by
  cases l <;> cases r <;> rfl

theorem scanPc_mtOld {r : Ret} {late : Bool} {p : PC} (h : ScanPc r late p) : p.mtOld = none := by
  cases p <;> simp [ScanPc] at h <;> rfl

theorem spin_of_mtOld {p : PC} {old : Word} (h : p.mtOld = some old) : p.spin = true := by
  cases p <;> simp [PC.mtOld] at h <;> rfl

theorem no_mtOld_of_nospin {s : State} (h3 : Inv3 s) (hw : s.word.spin = false) (u : Tid) : (s.pc u).mtOld = none := by
  cases ho : (s.pc u).mtOld with
  | none => rfl
  | some old =>
    have := spin_of_mtOld ho
    rw [h3.no_spin_of_free hw u] at this; cases this

end NsyncVerif.MuC
