import NsyncVerif.Gen.Sites
import NsyncVerif.Proofs.CvMuVC
/-
  Tie lemma (T-gen) for the cv-signal edge of C03, transferred waiters: the sites of mu.c, mu_wait.c,
  common.c and cv.c whose declared orders the composed chain uses (`transferSiteRows`) carry, in
  /repo's CURRENT source (regenerated table `Gen.sites`), the macro — hence the memory order — the
  chain assumes; and every plain store to a mutex word anywhere in the library is a release store.
  A weakened `ATM_CAS_RELACQ` in nsync_mu_unlock_slow_, a weakened `ATM_STORE_REL
  (&…->waiting, 0)` there, or a moved site makes this fail — also on paths no explored schedule
  reaches.
-/
namespace NsyncVerif.Tie
theorem transfer_sites_tie : NsyncVerif.CvMu.transferSitesAgree Gen.sites = true := by decide +kernel
theorem mu_word_stores_tie : NsyncVerif.CvMu.muWordStoresRel Gen.sites = true := by decide +kernel
end NsyncVerif.Tie
