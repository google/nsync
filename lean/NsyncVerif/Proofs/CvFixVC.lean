/-
  Layer `CvFix` × vector clocks (property C03, cv-signal edge): definitions.

  The events of the CvFix acceptor (`Model/CvFix.lean`: the current /repo/internal/cv.c, statement
  by statement) carry SITES, not memory orders.  `siteOrd` gives the order each site DECLARES in the
  source (the suffix of its ATM_* macro; the table is exported as `siteOrdTable` so that it can be
  tied to the regenerated site table).  `toVC` projects an event to an operation of the generic
  vector-clock machine (`NsyncVerif.VC`): a load with the order of its site; a failed CAS is a
  relaxed load; a successful CAS is a read-modify-write with the order of its site; a store is a
  plain store with the order of its site.  Locations: the cv word, the mutex word cv.c itself
  looks at (one location: the model has no mutex identity), and the two atomic fields of every
  record.

  FOREIGN accesses (`fLd`/`fSt`/`fCas`: mu.c, mu_wait.c, wait.c, … working on a record that is idle
  or transferred) carry no site.  Their order is taken from an ORACLE `fo : Nat → VC.Ord` indexed by
  the position of the event in the list; every theorem is for ALL oracles, i.e. for every
  assignment of orders to the foreign accesses.

  Not events (and therefore not operations of the machine): the initialising
  `NSYNC_ATOMIC_UINT32_STORE_ (&w->nw.waiting, 0)` of a freshly malloc'ed waiter (common.c:202: not
  an ATM_* site, private memory), and every plain access.

  Nothing else contributes an edge: not the semaphores, not the mutex marks (`relMark`,
  `lockMark`, `relockSlow`: the mutex' own atomics are not in this layer's events), not the
  interleaving.

  `PState` = acceptor state × clock state × ghosts:
    `cc u`   clock of thread `u` at its latest `call nsync_cv_signal|broadcast`;
    `wk r`   the latest wake-up of record `r` by wake_waiters (`ATM_STORE_REL (&p_nw->waiting, 0)`,
             cv.c/5): who, the waker's clock just before the store, its clock at its call;
    `xw t`   what the pooled record of `t`'s cv wait said when `t` left its wait loop
             (`some w` iff the record was in status `woken`, i.e. woken by a waker of this cv);
    `xf r`   the latest TRANSFER of record `r` to the mutex queue by wake_waiters (cv.c:67-114):
             who, the waker's clock just before its `ATM_CAS_ACQ (&pmu->word, …)` [cv.c/1], its
             clock at its call;
    `xt t`   `some` transfer iff `t`'s record was in status `xfer` when `t` left its wait loop;
    `lastRel` clock of the latest releaser of the cv spinlock just before its release store.
-/
import NsyncVerif.Proofs.CvFixThr
import NsyncVerif.Proofs.CvFixFull
import NsyncVerif.Proofs.VC

namespace NsyncVerif.CvFix
open NsyncVerif

/-- The ATM_* call sites the model's events stand for: `<file><k>` = ordinal `k` of the ATM_* macro
    in that file, in source order (the `<file>/<k>/<function>` of the event log). -/
inductive Site where
  | common0 | common1 | common2 | common5 | wait0
  | cv0 | cv1 | cv2 | cv3 | cv4 | cv5 | cv6 | cv7 | cv8 | cv9
  | cv10 | cv11 | cv12 | cv13 | cv14 | cv15 | cv16 | cv17 | cv18 | cv19
  | cv20 | cv21 | cv22 | cv23 | cv24 | cv25 | cv26 | cv27 | cv28 | cv29
  | cv30 | cv31 | cv32 | cv33 | cv34 | cv35
  /-- debug.c: emit_waiters (0, 1) and emit_cv_state (6, 7) -/
  | debug0 | debug1 | debug6 | debug7
  deriving DecidableEq, Repr

def Site.all : List Site :=
  [.common0, .common1, .common2, .common5, .wait0,
   .cv0, .cv1, .cv2, .cv3, .cv4, .cv5, .cv6, .cv7, .cv8, .cv9,
   .cv10, .cv11, .cv12, .cv13, .cv14, .cv15, .cv16, .cv17, .cv18, .cv19,
   .cv20, .cv21, .cv22, .cv23, .cv24, .cv25, .cv26, .cv27, .cv28, .cv29,
   .cv30, .cv31, .cv32, .cv33, .cv34, .cv35, .debug0, .debug1, .debug6, .debug7]

theorem Site.mem_all (s : Site) : s ∈ Site.all := by cases s <;> decide

/-- `<file>/<k>/<function>` as in the event log. -/
def Site.name : Site → String
  | .common0 => "common.c/0/nsync_spin_test_and_set_"
  | .common1 => "common.c/1/nsync_spin_test_and_set_"
  | .common2 => "common.c/2/nsync_spin_test_and_set_"
  | .common5 => "common.c/5/nsync_waiter_new_"
  | .wait0 => "wait.c/0/nsync_wait_n"
  | .cv0 => "cv.c/0/wake_waiters"
  | .cv1 => "cv.c/1/wake_waiters"
  | .cv2 => "cv.c/2/wake_waiters"
  | .cv3 => "cv.c/3/wake_waiters"
  | .cv4 => "cv.c/4/wake_waiters"
  | .cv5 => "cv.c/5/wake_waiters"
  | .cv6 => "cv.c/6/nsync_cv_wait_with_deadline_generic"
  | .cv7 => "cv.c/7/nsync_cv_wait_with_deadline_generic"
  | .cv8 => "cv.c/8/nsync_cv_wait_with_deadline_generic"
  | .cv9 => "cv.c/9/nsync_cv_wait_with_deadline_generic"
  | .cv10 => "cv.c/10/nsync_cv_wait_with_deadline_generic"
  | .cv11 => "cv.c/11/nsync_cv_wait_with_deadline_generic"
  | .cv12 => "cv.c/12/nsync_cv_wait_with_deadline_generic"
  | .cv13 => "cv.c/13/nsync_cv_wait_with_deadline_generic"
  | .cv14 => "cv.c/14/nsync_cv_wait_with_deadline_generic"
  | .cv15 => "cv.c/15/nsync_cv_wait_with_deadline_generic"
  | .cv16 => "cv.c/16/nsync_cv_wait_with_deadline_generic"
  | .cv17 => "cv.c/17/nsync_cv_wait_with_deadline_generic"
  | .cv18 => "cv.c/18/nsync_cv_wait_with_deadline_generic"
  | .cv19 => "cv.c/19/nsync_cv_signal"
  | .cv20 => "cv.c/20/nsync_cv_signal"
  | .cv21 => "cv.c/21/nsync_cv_signal"
  | .cv22 => "cv.c/22/nsync_cv_signal"
  | .cv23 => "cv.c/23/nsync_cv_signal"
  | .cv24 => "cv.c/24/nsync_cv_signal"
  | .cv25 => "cv.c/25/nsync_cv_broadcast"
  | .cv26 => "cv.c/26/nsync_cv_broadcast"
  | .cv27 => "cv.c/27/nsync_cv_broadcast"
  | .cv28 => "cv.c/28/nsync_cv_broadcast"
  | .cv29 => "cv.c/29/cv_ready_time"
  | .cv30 => "cv.c/30/cv_enqueue"
  | .cv31 => "cv.c/31/cv_enqueue"
  | .cv32 => "cv.c/32/cv_dequeue"
  | .cv33 => "cv.c/33/cv_dequeue"
  | .cv34 => "cv.c/34/cv_dequeue"
  | .cv35 => "cv.c/35/cv_dequeue"
  | .debug0 => "debug.c/0/emit_waiters"
  | .debug1 => "debug.c/1/emit_waiters"
  | .debug6 => "debug.c/6/emit_cv_state"
  | .debug7 => "debug.c/7/emit_cv_state"

/-- The order each site declares (for a CAS: the order on success; on failure all three atomic.h
    flavours request relaxed).  Source lines are those of the current /repo/internal files. -/
def siteOrd : Site → VC.Ord
  | .common0 => .rlx   -- common.c:105  old = ATM_LOAD (w)
  | .common1 => .acq   -- common.c:106  ATM_CAS_ACQ (w, old, (old | set) & ~clear)
  | .common2 => .rlx   -- common.c:108  old = ATM_LOAD (w)
  | .common5 => .rlx   -- common.c:204  ATM_STORE (&w->remove_count, 0)
  | .wait0 => .rlx     -- wait.c:54     ATM_STORE (&nw[i].waiting, 0)
  | .cv0 => .rlx       -- cv.c:61   ATM_LOAD (&pmu->word)
  | .cv1 => .acq       -- cv.c:67   ATM_CAS_ACQ (&pmu->word, …)
  | .cv2 => .rlx       -- cv.c:130  ATM_LOAD (&pmu->word)
  | .cv3 => .rel       -- cv.c:131  ATM_CAS_REL (&pmu->word, …)
  | .cv4 => .rlx       -- cv.c:133  ATM_LOAD (&pmu->word)
  | .cv5 => .rel       -- cv.c:149  ATM_STORE_REL (&p_nw->waiting, 0)          <- the waker's store
  | .cv6 => .rlx       -- cv.c:201  ATM_STORE (&w->nw.waiting, 1)
  | .cv7 => .rlx       -- cv.c:215  ATM_LOAD (&cv_mu->word)
  | .cv8 => .rlx       -- cv.c:235  ATM_LOAD (&w->remove_count)
  | .cv9 => .rel       -- cv.c:237  ATM_STORE_REL (&pcv->word, old_word|CV_NON_EMPTY)
  | .cv10 => .acq      -- cv.c:249  while (ATM_LOAD_ACQ (&w->nw.waiting) != 0)  <- the waiter's load
  | .cv11 => .rlx      -- cv.c:254  ATM_LOAD (&w->nw.waiting)
  | .cv12 => .rlx      -- cv.c:264  ATM_LOAD (&w->nw.waiting)
  | .cv13 => .rlx      -- cv.c:265  ATM_LOAD (&w->remove_count)
  | .cv14 => .rlx      -- cv.c:275  ATM_LOAD (&w->remove_count)
  | .cv15 => .rlx      -- cv.c:276  ATM_CAS (&w->remove_count, old_value, old_value+1)
  | .cv16 => .rel      -- cv.c:280  ATM_STORE_REL (&w->nw.waiting, 0)
  | .cv17 => .rel      -- cv.c:284  ATM_STORE_REL (&pcv->word, old_word)
  | .cv18 => .rlx      -- cv.c:287  ATM_LOAD (&w->nw.waiting)
  | .cv19 => .acq      -- cv.c:321  ATM_LOAD_ACQ (&pcv->word)
  | .cv20 => .rlx      -- cv.c:338  ATM_LOAD (&DLL_WAITER (first)->remove_count)
  | .cv21 => .rlx      -- cv.c:339  ATM_CAS (&DLL_WAITER (first)->remove_count, …)
  | .cv22 => .rlx      -- cv.c:379  ATM_LOAD (&DLL_WAITER (p)->remove_count)
  | .cv23 => .rlx      -- cv.c:381  ATM_CAS (&DLL_WAITER (p)->remove_count, …)
  | .cv24 => .rel      -- cv.c:394  ATM_STORE_REL (&pcv->word, old_word)
  | .cv25 => .acq      -- cv.c:405  ATM_LOAD_ACQ (&pcv->word)
  | .cv26 => .rlx      -- cv.c:425  ATM_LOAD (&DLL_WAITER (p)->remove_count)
  | .cv27 => .rlx      -- cv.c:426  ATM_CAS (&DLL_WAITER (p)->remove_count, …)
  | .cv28 => .rel      -- cv.c:432  ATM_STORE_REL (&pcv->word, 0)
  | .cv29 => .acq      -- cv.c:461  ATM_LOAD_ACQ (&nw->waiting)   (cv_ready_time)
  | .cv30 => .rlx      -- cv.c:470  ATM_STORE (&nw->waiting, 1)
  | .cv31 => .rel      -- cv.c:472  ATM_STORE_REL (&pcv->word, old_word | CV_NON_EMPTY)
  | .cv32 => .acq      -- cv.c:482  ATM_LOAD_ACQ (&nw->waiting)   (cv_dequeue)  <- wait_n's load
  | .cv33 => .rlx      -- cv.c:496  ATM_STORE (&nw->waiting, 0)
  | .cv34 => .rel      -- cv.c:508  ATM_STORE_REL (&pcv->word, old_word)
  | .cv35 => .acq      -- cv.c:514  while (ATM_LOAD_ACQ (&nw->waiting) != 0)    <- wait_n's loop (F3 repair)
  | .debug0 => .rlx    -- debug.c:165  ATM_LOAD (&nw->waiting)        (emit_waiters)
  | .debug1 => .rlx    -- debug.c:172  ATM_LOAD (&w->remove_count)    (emit_waiters)
  | .debug6 => .rlx    -- debug.c:245  word = ATM_LOAD (&cv->word)
  | .debug7 => .rel    -- debug.c:258  ATM_STORE_REL (&cv->word, word)   <- the observer's release store

def ordStr : VC.Ord → String
  | .rlx => "rlx" | .acq => "acq" | .rel => "rel" | .ar => "ar"

/-- The table `siteOrd` as data: (site name as in the event log, declared order). -/
def siteOrdTable : List (String × String) := Site.all.map (fun s => (s.name, ordStr (siteOrd s)))

/-- The same information in structured form, for the tie with the regenerated site table
    (`NsyncVerif.Gen.sites`: (file, function, macro, location) in source order). -/
def Site.file : Site → String
  | .common0 | .common1 | .common2 | .common5 => "common.c"
  | .wait0 => "wait.c"
  | .debug0 | .debug1 | .debug6 | .debug7 => "debug.c"
  | _ => "cv.c"

/-- ordinal of the ATM_* macro in its file -/
def Site.k : Site → Nat
  | .common0 => 0 | .common1 => 1 | .common2 => 2 | .common5 => 5 | .wait0 => 0
  | .cv0 => 0 | .cv1 => 1 | .cv2 => 2 | .cv3 => 3 | .cv4 => 4 | .cv5 => 5 | .cv6 => 6 | .cv7 => 7
  | .cv8 => 8 | .cv9 => 9 | .cv10 => 10 | .cv11 => 11 | .cv12 => 12 | .cv13 => 13 | .cv14 => 14
  | .cv15 => 15 | .cv16 => 16 | .cv17 => 17 | .cv18 => 18 | .cv19 => 19 | .cv20 => 20 | .cv21 => 21
  | .cv22 => 22 | .cv23 => 23 | .cv24 => 24 | .cv25 => 25 | .cv26 => 26 | .cv27 => 27 | .cv28 => 28
  | .cv29 => 29 | .cv30 => 30 | .cv31 => 31 | .cv32 => 32 | .cv33 => 33 | .cv34 => 34 | .cv35 => 35
  | .debug0 => 0 | .debug1 => 1 | .debug6 => 6 | .debug7 => 7

def Site.fn : Site → String
  | .common0 | .common1 | .common2 => "nsync_spin_test_and_set_"
  | .common5 => "nsync_waiter_new_"
  | .wait0 => "nsync_wait_n"
  | .cv0 | .cv1 | .cv2 | .cv3 | .cv4 | .cv5 => "wake_waiters"
  | .cv6 | .cv7 | .cv8 | .cv9 | .cv10 | .cv11 | .cv12 | .cv13 | .cv14 | .cv15 | .cv16 | .cv17
  | .cv18 => "nsync_cv_wait_with_deadline_generic"
  | .cv19 | .cv20 | .cv21 | .cv22 | .cv23 | .cv24 => "nsync_cv_signal"
  | .cv25 | .cv26 | .cv27 | .cv28 => "nsync_cv_broadcast"
  | .cv29 => "cv_ready_time"
  | .cv30 | .cv31 => "cv_enqueue"
  | .cv32 | .cv33 | .cv34 | .cv35 => "cv_dequeue"
  | .debug0 | .debug1 => "emit_waiters"
  | .debug6 | .debug7 => "emit_cv_state"

/-- kind of operation: `ld`, `st`, `cas` -/
def Site.op : Site → String
  | .common1 | .cv1 | .cv3 | .cv15 | .cv21 | .cv23 | .cv27 => "cas"
  | .common5 | .wait0 | .cv5 | .cv6 | .cv9 | .cv16 | .cv17 | .cv24 | .cv28 | .cv30 | .cv31 | .cv33
  | .cv34 | .debug7 => "st"
  | _ => "ld"

/-- The ATM_* macro that requests order `o` for an operation of kind `op`. -/
def macroOf (op : String) (o : VC.Ord) : String :=
  if op == "ld" then (match o with | .rlx => "ATM_LOAD" | .acq => "ATM_LOAD_ACQ" | _ => "?")
  else if op == "st" then (match o with | .rlx => "ATM_STORE" | .rel => "ATM_STORE_REL" | _ => "?")
  else (match o with | .rlx => "ATM_CAS" | .acq => "ATM_CAS_ACQ" | .rel => "ATM_CAS_REL" | .ar => "ATM_CAS_RELACQ")

/-- (file, ordinal, function, macro the model assumes at that site) -/
def siteOrdRows : List (String × Nat × String × String) :=
  Site.all.map (fun s => (s.file, s.k, s.fn, macroOf s.op (siteOrd s)))

/-- Does a site table `gen` ((file, function, macro, location) in source order, as regenerated in
    `NsyncVerif.Gen.sites`) have, at every site the model uses, the function and the macro (hence
    the memory order) that `siteOrd` assumes?  `signal_sites_tie` (Proofs/TieSignal.lean) evaluates
    it on the regenerated table. -/
def sitesAgree (gen : List (String × String × String × String)) : Bool :=
  siteOrdRows.all (fun row =>
    match (gen.filter (fun g => g.1 == row.1))[row.2.1]? with
    | some g => g.2.1 == row.2.2.1 && g.2.2.1 == row.2.2.2
    | none => false)

/-- Model sites ↦ code sites: the table of `Model/CvFixDriver.lean` (`wordSite`, `recSite`, `muSite`). -/
def wSite : WSite → Site
  | .spin0 => .common0 | .spin2 => .common2 | .waitRel => .cv9 | .waitRel2 => .cv17
  | .sigLd => .cv19 | .sigRel => .cv24 | .bcLd => .cv25 | .bcRel => .cv28
  | .enqRel => .cv31 | .deqRel => .cv34 | .dbgLd => .debug6 | .dbgRel => .debug7

def rSite : RSite → Site
  | .wSt1 => .cv6 | .wRc => .cv8 | .wHead => .cv10 | .wChk => .cv11 | .wChk2 => .cv12
  | .wCmp => .cv13 | .wRmLd => .cv14 | .wRmCas => .cv15 | .wClr => .cv16 | .wTail => .cv18
  | .sRcLd true => .cv20 | .sRcCas true => .cv21 | .sRcLd false => .cv22 | .sRcCas false => .cv23
  | .bRcLd => .cv26 | .bRcCas => .cv27
  | .wake => .cv5 | .ready => .cv29 | .enqSt => .cv30 | .deqLd => .cv32 | .deqSt => .cv33
  | .deqSpin => .cv35 | .dbgW => .debug0 | .dbgRc => .debug1

def mSite : MSite → Site
  | .wMode => .cv7 | .wwLd => .cv0 | .wwCas => .cv1 | .wwRelLd => .cv2 | .wwRelCas => .cv3
  | .wwRelLd2 => .cv4

/-- The field of the record a record site works on. -/
def rFld : RSite → Fld
  | .wRc | .wCmp | .wRmLd | .wRmCas | .sRcLd _ | .sRcCas _ | .bRcLd | .bRcCas | .dbgRc => .rc
  | _ => .waiting

inductive VLoc where
  /-- the cv word -/
  | word
  /-- the mutex word read and written by wake_waiters / the wait (cv.c/0..4, cv.c/7) -/
  | mu
  /-- `nw.waiting` / `remove_count` of a record -/
  | fld (r : Rid) (f : Fld)
  deriving DecidableEq, Repr

/-- The clock-machine operation of an event; `so` = order table, `o` = order of a foreign access. -/
def toVCx (so : Site → VC.Ord) (o : VC.Ord) : Event → Option (VC.AEv VLoc)
  | .wordLd t site _ => some ⟨t, .ld, so (wSite site), .word⟩
  | .wordCas t _ _ _ ok => some (if ok then ⟨t, .rmw, so .common1, .word⟩ else ⟨t, .ld, .rlx, .word⟩)
  | .wordSt t site _ _ => some ⟨t, .st, so (wSite site), .word⟩
  | .recLd t site r _ => some ⟨t, .ld, so (rSite site), .fld r (rFld site)⟩
  | .recSt t site r _ _ => some ⟨t, .st, so (rSite site), .fld r (rFld site)⟩
  | .recCas t site r _ _ _ ok =>
    some (if ok then ⟨t, .rmw, so (rSite site), .fld r (rFld site)⟩ else ⟨t, .ld, .rlx, .fld r (rFld site)⟩)
  | .muLd t site _ => some ⟨t, .ld, so (mSite site), .mu⟩
  | .muCas t site _ _ _ ok => some (if ok then ⟨t, .rmw, so (mSite site), .mu⟩ else ⟨t, .ld, .rlx, .mu⟩)
  | .wInit t r => some ⟨t, .st, so .common5, .fld r .rc⟩
  | .nwInit t r => some ⟨t, .st, so .wait0, .fld r .waiting⟩
  | .fLd t r f _ => some ⟨t, .ld, o, .fld r f⟩
  | .fSt t r f _ => some ⟨t, .st, o, .fld r f⟩
  | .fCas t r f _ _ _ ok => some (if ok then ⟨t, .rmw, o, .fld r f⟩ else ⟨t, .ld, .rlx, .fld r f⟩)
  | _ => none

def toVC (o : VC.Ord) (e : Event) : Option (VC.AEv VLoc) := toVCx siteOrd o e

def cstepx (so : Site → VC.Ord) (o : VC.Ord) (c : VC.St VLoc) (e : Event) : VC.St VLoc :=
  match toVCx so o e with
  | some a => VC.step c a
  | none => c

def cstep (o : VC.Ord) (c : VC.St VLoc) (e : Event) : VC.St VLoc := cstepx siteOrd o c e

/-- The clock state after an event list; the `n`-th event (from `n0`) takes its foreign order from
    `fo n`. -/
def crunx (so : Site → VC.Ord) (fo : Nat → VC.Ord) : Nat → VC.St VLoc → List Event → VC.St VLoc
  | _, c, [] => c
  | n, c, e :: es => crunx so fo (n + 1) (cstepx so (fo n) c e) es

/-- The clocks of an event list under the declared orders: only program order and the declared
    orders count. -/
def clocks (fo : Nat → VC.Ord) (evs : List Event) : VC.St VLoc := crunx siteOrd fo 0 VC.St.init evs

/-- The location a plain store of the event writes. -/
def stOn : Event → Option VLoc
  | .wordSt .. => some .word
  | .recSt _ site r _ _ => some (.fld r (rFld site))
  | .wInit _ r => some (.fld r .rc)
  | .nwInit _ r => some (.fld r .waiting)
  | .fSt _ r f _ => some (.fld r f)
  | _ => none

theorem toVCx_st {so : Site → VC.Ord} {o : VC.Ord} {e : Event} {a : VC.AEv VLoc}
    (h : toVCx so o e = some a) (hop : a.op = .st) : stOn e = some a.loc := by
  cases e <;> simp only [toVCx, stOn, Option.some.injEq, reduceCtorEq] at h ⊢
  all_goals first
    | (subst h; first | rfl | cases hop)
    | (split at h <;> subst h <;> cases hop)

theorem crunx_append (so : Site → VC.Ord) (fo : Nat → VC.Ord) (n : Nat) (c : VC.St VLoc)
    (a b : List Event) :
    crunx so fo n c (a ++ b) = crunx so fo (n + a.length) (crunx so fo n c a) b := by
  induction a generalizing n c with
  | nil => rfl
  | cons e es ih =>
    simp only [List.cons_append, crunx, List.length_cons]
    rw [ih]; congr 1; omega

theorem clocks_snoc (fo : Nat → VC.Ord) (evs : List Event) (e : Event) :
    clocks fo (evs ++ [e]) = cstep (fo evs.length) (clocks fo evs) e := by
  unfold clocks
  rw [crunx_append]
  simp [crunx, cstep]

theorem cstepx_eq (so : Site → VC.Ord) (o : VC.Ord) (c : VC.St VLoc) (e : Event) :
    cstepx so o c e = VC.stepO c (toVCx so o e) := by
  unfold cstepx; cases toVCx so o e <;> rfl

/-- Program order: a thread's clock only grows, whatever the order table. -/
theorem cstepx_mono (so : Site → VC.Ord) (o : VC.Ord) (c : VC.St VLoc) (e : Event) (u : Tid) :
    VC.Clock.le (c.vc u) ((cstepx so o c e).vc u) := by
  rw [cstepx_eq]; exact VC.stepO_mono _ _ u

theorem cstep_mono (o : VC.Ord) (c : VC.St VLoc) (e : Event) (u : Tid) :
    VC.Clock.le (c.vc u) ((cstep o c e).vc u) := cstepx_mono siteOrd o c e u

/-- A clock carried by the release clock of `x` stays carried by every event that is not a plain
    store to `x`. -/
theorem cstep_keep (o : VC.Ord) (c : VC.St VLoc) (e : Event) (x : VLoc) (k : VC.Clock)
    (hs : stOn e ≠ some x) (hk : VC.Clock.le k (c.relc x)) :
    VC.Clock.le k ((cstep o c e).relc x) := by
  rw [cstep, cstepx_eq]
  exact VC.stepO_keep x k c _ hk fun a ha hl hop => absurd (by rw [← hl]; exact toVCx_st ha hop) hs

/-- An acquire load imports the release clock of its location. -/
theorem cstep_acq_ld (o : VC.Ord) (c : VC.St VLoc) (t : Tid) (site : RSite) (r : Rid) (obs : Nat)
    (ha : (siteOrd (rSite site)).isAcq = true) :
    VC.Clock.le (c.relc (.fld r (rFld site))) ((cstep o c (.recLd t site r obs)).vc t) :=
  VC.acq_sees_relc c ⟨t, .ld, siteOrd (rSite site), .fld r (rFld site)⟩ ha (.inl rfl)

/-- A release store exports the writer's clock. -/
theorem cstep_rel_st (o : VC.Ord) (c : VC.St VLoc) (t : Tid) (site : RSite) (r : Rid) (new obs : Nat)
    (hr : (siteOrd (rSite site)).isRel = true) :
    VC.Clock.le (c.vc t) ((cstep o c (.recSt t site r new obs)).relc (.fld r (rFld site))) :=
  VC.rel_records c ⟨t, .st, siteOrd (rSite site), .fld r (rFld site)⟩ hr (.inl rfl)

theorem cstep_word_st (o : VC.Ord) (c : VC.St VLoc) (t : Tid) (site : WSite) (new obs : Nat)
    (hr : (siteOrd (wSite site)).isRel = true) :
    VC.Clock.le (c.vc t) ((cstep o c (.wordSt t site new obs)).relc .word) :=
  VC.rel_records c ⟨t, .st, siteOrd (wSite site), .word⟩ hr (.inl rfl)

theorem cstep_word_cas (o : VC.Ord) (c : VC.St VLoc) (t : Tid) (exp new obs : Nat) :
    VC.Clock.le (c.relc .word) ((cstep o c (.wordCas t exp new obs true)).vc t) :=
  VC.acq_sees_relc c ⟨t, .rmw, siteOrd .common1, .word⟩ rfl (.inr rfl)

theorem cstep_mu_cas_rel (o : VC.Ord) (c : VC.St VLoc) (t : Tid) (exp new obs : Nat) :
    VC.Clock.le (c.vc t) ((cstep o c (.muCas t .wwRelCas exp new obs true)).relc .mu) :=
  VC.rel_records c ⟨t, .rmw, siteOrd .cv3, .mu⟩ rfl (.inr rfl)

/-- A wake-up of a record by wake_waiters. -/
structure Wake where
  /-- the waker -/
  by_ : Tid
  /-- the waker's clock just before its `ATM_STORE_REL (&p_nw->waiting, 0)` -/
  clk : VC.Clock
  /-- the waker's clock at its `call nsync_cv_signal|broadcast` -/
  call : VC.Clock

structure PState where
  s : State
  c : VC.St VLoc
  /-- number of events so far (index into the oracle) -/
  n : Nat
  cc : Tid → VC.Clock
  wk : Rid → Option Wake
  xw : Tid → Option Wake
  xf : Rid → Option Wake
  xt : Tid → Option Wake
  lastRel : VC.Clock

def pinit : PState :=
  ⟨init, VC.St.init, 0, fun _ => VC.Clock.bot, fun _ => none, fun _ => none, fun _ => none,
    fun _ => none, VC.Clock.bot⟩

def ccUpd (p : PState) : Event → Tid → VC.Clock
  | .callSignal t | .callBroadcast t => VC.upd p.cc t (p.c.vc t)
  | _ => p.cc

def wkUpd (p : PState) : Event → Rid → Option Wake
  | .recSt t .wake r _ _ => VC.upd p.wk r (some ⟨t, p.c.vc t, p.cc t⟩)
  | _ => p.wk

def xwUpd (p : PState) : Event → Tid → Option Wake
  | .recLd t .wHead r 0 => VC.upd p.xw t (if (p.s.recs r).stat = .woken then p.wk r else none)
  | .callWait t .. => VC.upd p.xw t none
  | _ => p.xw

/-- The records that enter status `xfer` in this step (`s'` = the acceptor's successor state). -/
def xfUpd (p : PState) (s' : State) : Event → Rid → Option Wake
  | .muCas u .wwCas _ _ _ true => fun r =>
    if (s'.recs r).stat = .xfer ∧ (p.s.recs r).stat ≠ .xfer then some ⟨u, p.c.vc u, p.cc u⟩ else p.xf r
  | _ => p.xf

def xtUpd (p : PState) : Event → Tid → Option Wake
  | .recLd t .wHead r 0 => VC.upd p.xt t (if (p.s.recs r).stat = .xfer then p.xf r else none)
  | .callWait t .. => VC.upd p.xt t none
  | _ => p.xt

def lrUpd (p : PState) : Event → VC.Clock
  | .wordSt t .. => p.c.vc t
  | _ => p.lastRel

/-- The successor product state, given the acceptor's successor. -/
def pnext (fo : Nat → VC.Ord) (p : PState) (e : Event) (s' : State) : PState :=
  { s := s', c := cstep (fo p.n) p.c e, n := p.n + 1,
    cc := ccUpd p e, wk := wkUpd p e, xw := xwUpd p e, xf := xfUpd p s' e, xt := xtUpd p e,
    lastRel := lrUpd p e }

def pstep (cfg : Config) (fo : Nat → VC.Ord) (p : PState) (e : Event) : Except String PState :=
  match step cfg p.s e with
  | .ok s' => .ok (pnext fo p e s')
  | .error m => .error m

def prun (cfg : Config) (fo : Nat → VC.Ord) (p : PState) : List Event → Except String PState
  | [] => .ok p
  | e :: es =>
    match pstep cfg fo p e with
    | .ok p' => prun cfg fo p' es
    | .error m => .error m

def PReachable (cfg : Config) (fo : Nat → VC.Ord) (p : PState) : Prop :=
  ∃ evs, prun cfg fo pinit evs = .ok p

theorem pstep_ok {cfg : Config} {fo : Nat → VC.Ord} {p p' : PState} {e : Event}
    (h : pstep cfg fo p e = .ok p') : ∃ s', step cfg p.s e = .ok s' ∧ p' = pnext fo p e s' := by
  unfold pstep at h
  split at h
  · rename_i s' hs; cases h; exact ⟨s', hs, rfl⟩
  · cases h

theorem pstep_s {cfg : Config} {fo : Nat → VC.Ord} (p : PState) (e : Event) (p' : PState)
    (h : pstep cfg fo p e = .ok p') : step cfg p.s e = .ok p'.s := by
  obtain ⟨_, hs, rfl⟩ := pstep_ok h; exact hs

theorem isPRun (cfg : Config) (fo : Nat → VC.Ord) : IsRun (pstep cfg fo) (prun cfg fo) :=
  ⟨fun _ => rfl, fun p e _ => by rw [prun]; cases pstep cfg fo p e <;> rfl⟩

/-- The product run is the acceptor's run decorated with clocks and ghosts: it accepts exactly the
    same event lists … -/
theorem prun_of_run {cfg : Config} {fo : Nat → VC.Ord} {evs : List Event} {p : PState} {s' : State}
    (h : run cfg p.s evs = .ok s') : ∃ p', prun cfg fo p evs = .ok p' ∧ p'.s = s' :=
  (isRun cfg).lift (isPRun cfg fo) (π := PState.s)
    (fun p e s' hs => ⟨_, by unfold pstep; rw [hs], rfl⟩) h

/-- … its acceptor component is the acceptor's state, its clock component is the clock machine run
    over the projected events, and `n` counts the events. -/
theorem run_of_prun {cfg : Config} {fo : Nat → VC.Ord} {evs : List Event} {p p' : PState}
    (h : prun cfg fo p evs = .ok p') :
    run cfg p.s evs = .ok p'.s ∧ p'.c = crunx siteOrd fo p.n p.c evs ∧ p'.n = p.n + evs.length := by
  refine ⟨(isRun cfg).proj (isPRun cfg fo) pstep_s h, ?_⟩
  induction evs generalizing p with
  | nil => cases h; exact ⟨rfl, rfl⟩
  | cons e es ih =>
    obtain ⟨p1, hp, h⟩ := (isPRun cfg fo).of_cons h
    obtain ⟨s1, -, rfl⟩ := pstep_ok hp
    obtain ⟨h2, h3⟩ := ih h
    exact ⟨by rw [h2]; rfl, by rw [h3]; simp only [pnext, List.length_cons]; omega⟩

theorem preachable_step {cfg : Config} {fo : Nat → VC.Ord} {p p' : PState} {e : Event}
    (h : PReachable cfg fo p) (hs : pstep cfg fo p e = .ok p') : PReachable cfg fo p' :=
  h.elim fun evs he => ⟨evs ++ [e], (isPRun cfg fo).snoc he hs⟩

theorem preachable_reachable {cfg : Config} {fo : Nat → VC.Ord} {p : PState}
    (h : PReachable cfg fo p) : Reachable cfg p.s := by
  obtain ⟨evs, h⟩ := h
  exact ⟨evs, (run_of_prun h).1⟩

theorem preachable_clocks {cfg : Config} {fo : Nat → VC.Ord} {p : PState} {evs : List Event}
    (h : prun cfg fo pinit evs = .ok p) : p.c = clocks fo evs ∧ p.n = evs.length := by
  obtain ⟨_, h2, h3⟩ := run_of_prun h
  exact ⟨h2, by simpa [pinit] using h3⟩

end NsyncVerif.CvFix
