import NsyncVerif.Proofs.MuQAbs
/-
  MuQ refinement: every accepted step of the model is invisible to `abs` or is one `AStep`
  (by cases on the rule of the step), and keeps the side conditions `PcOk` and `HeldIdle`; hence an
  invariant of `AStep` holds, through `abs`, in every reachable state.
-/
namespace NsyncVerif.MuQ

def Refines (cfg : Cfg) (s s' : State) : Prop := abs s' = abs s ∨ AStep cfg (abs s) (abs s')

theorem abs_setPc (s : State) (t : Tid) (p : PC) :
    abs (setPc s t p) = { abs s with ts := setFn (abs s).ts t (tshare (s.held t) p),
                                     ro := setFn (abs s).ro t (role p) } := by
  simp only [abs, setPc, AState.mk.injEq, true_and]
  constructor <;> funext u <;> simp only [setFn] <;> split <;> simp_all

theorem abs_setPc_sameShare (s : State) (t : Tid) (p : PC)
    (hsh : pcShare p = pcShare (s.pc t)) :
    abs (setPc s t p) = { abs s with ro := setFn (abs s).ro t (role p) } := by
  rw [abs_setPc]
  have : tshare (s.held t) p = (abs s).ts t := by simp [abs, tshare, hsh]
  rw [this, setFn_self]

theorem refines_quiet {cfg : Cfg} (s : State) (t : Tid) (p : PC)
    (hsh : pcShare p = pcShare (s.pc t)) (hr : role p = role (s.pc t)) :
    Refines cfg s (setPc s t p) := by
  left
  rw [abs_setPc_sameShare s t p hsh]
  have : role p = (abs s).ro t := by simp [abs, hr]
  rw [this, setFn_self]

theorem refines_ro {cfg : Cfg} (s : State) (t : Tid) (p : PC)
    (hsh : pcShare p = pcShare (s.pc t))
    (h : AStep cfg (abs s) { abs s with ro := setFn (abs s).ro t (role p) }) :
    Refines cfg s (setPc s t p) := by
  right; rw [abs_setPc_sameShare s t p hsh]; exact h

theorem abs_ro (s : State) (t : Tid) : (abs s).ro t = role (s.pc t) := rfl
theorem abs_ts (s : State) (t : Tid) : (abs s).ts t = tshare (s.held t) (s.pc t) := rfl

/-- Side conditions after a pc-only transition. -/
theorem side_setPc {s : State} (t : Tid) (p : PC) (hk : PcOk s) (hh : HeldIdle s)
    (hp : p.ok) (hi : s.held t = none ∨ p = .idle) : PcOk (setPc s t p) ∧ HeldIdle (setPc s t p) := by
  constructor
  · intro u; simp only [setPc, setFn]; split
    · exact hp
    · exact hk u
  · intro u hu; simp only [setPc, setFn] at hu ⊢; split
    · rename_i h; subst h; rcases hi with hi | hi
      · exact absurd hi hu
      · exact hi
    · exact hh u hu

theorem held_none_of_active {s : State} (hh : HeldIdle s) {t : Tid} (h : s.pc t ≠ .idle) : s.held t = none := by
  cases hx : s.held t with
  | none => rfl
  | some m => exact absurd (hh t (by simp [hx])) h

theorem abs_setPcHeld (s : State) (t : Tid) (p : PC) (h' : Option Mode) :
    abs { setPc s t p with held := setFn s.held t h' } =
      { abs s with ts := setFn (abs s).ts t (tshare h' p), ro := setFn (abs s).ro t (role p) } := by
  simp only [abs, setPc, AState.mk.injEq, true_and]
  constructor <;> funext u <;> simp only [setFn] <;> split <;> simp_all

theorem refines_quietHeld {cfg : Cfg} (s : State) (t : Tid) (p : PC) (h' : Option Mode)
    (hsh : tshare h' p = tshare (s.held t) (s.pc t)) (hr : role p = role (s.pc t)) :
    Refines cfg s { setPc s t p with held := setFn s.held t h' } := by
  left
  rw [abs_setPcHeld]
  have h1 : tshare h' p = (abs s).ts t := by simp [abs, hsh]
  have h2 : role p = (abs s).ro t := by simp [abs, hr]
  rw [h1, h2, setFn_self, setFn_self]

theorem side_setPcHeld {s : State} (t : Tid) (p : PC) (h' : Option Mode) (hk : PcOk s) (hh : HeldIdle s)
    (hp : p.ok) (hi : h' = none ∨ p = .idle) :
    PcOk { setPc s t p with held := setFn s.held t h' } ∧ HeldIdle { setPc s t p with held := setFn s.held t h' } := by
  constructor
  · intro u; simp only [setPc, setFn]; split
    · exact hp
    · exact hk u
  · intro u hu; simp only [setPc, setFn] at hu ⊢; split
    · rename_i h; subst h; simp at hu; rcases hi with hi | hi
      · exact absurd hi hu
      · exact hi
    · rename_i h; simp [h] at hu; exact hh u hu

/-- Side conditions when only `pc t` (to a non-idle `p`), and fields other than `pc`/`held` change. -/
theorem side_of_pc {s s' : State} (t : Tid) (p : PC) (hk : PcOk s) (hh : HeldIdle s)
    (hpc : s'.pc = setFn s.pc t p) (hheld : s'.held = s.held)
    (hp : p.ok) (hi : s.held t = none) : PcOk s' ∧ HeldIdle s' := by
  constructor
  · intro u; rw [hpc]; simp only [setFn]; split
    · exact hp
    · exact hk u
  · intro u hu; rw [hheld] at hu; rw [hpc]; simp only [setFn]; split
    · rename_i h; subst h; exact absurd hi hu
    · exact hh u hu

theorem side_same {s s' : State} (hk : PcOk s) (hh : HeldIdle s)
    (hpc : s'.pc = s.pc) (hheld : s'.held = s.held) : PcOk s' ∧ HeldIdle s' := by
  constructor
  · intro u; rw [hpc]; exact hk u
  · intro u hu; rw [hheld] at hu; rw [hpc]; exact hh u hu

theorem ts_setFn (s : State) (t : Tid) (p : PC) (hsh : pcShare p = pcShare (s.pc t)) :
    (fun u => tshare (s.held u) (setFn s.pc t p u)) = fun u => tshare (s.held u) (s.pc u) := by
  funext u; simp only [setFn]; split
  · rename_i h; subst h; simp [tshare, hsh]
  · rfl

theorem ro_setFn (s : State) (t : Tid) (p : PC) :
    (fun u => role (setFn s.pc t p u)) = setFn (fun u => role (s.pc u)) t (role p) := by
  funext u; simp only [setFn]; split <;> rfl

theorem astep_cast {cfg : Cfg} {a b b' : AState} (h : AStep cfg a b) (e : b' = b) : AStep cfg a b' := e ▸ h

theorem ts_setFn_none (s : State) (t : Tid) (p : PC) (h : s.held t = none) :
    (fun u => tshare (s.held u) (setFn s.pc t p u)) = setFn (fun u => tshare (s.held u) (s.pc u)) t (pcShare p) := by
  funext u; simp only [setFn]; split
  · rename_i hu; subst hu; simp [tshare, h]
  · rfl

theorem ro_setFn_same (s : State) (t : Tid) (p : PC) (h : role p = role (s.pc t)) :
    (fun u => role (setFn s.pc t p u)) = fun u => role (s.pc u) := by
  funext u; simp only [setFn]; split
  · rename_i hu; subst hu; exact h
  · rfl

theorem addWord_eq (l : Mode) : addWord l = acqWord l false false Word.zero := by cases l <;> rfl

theorem blocked_zero (l : Mode) : blocked l false Word.zero = false := by cases l <;> rfl

theorem relUnc_addWord (l : Mode) : relUncWord l (addWord l) = Word.zero := by cases l <;> rfl

theorem hasShare_addWord (l : Mode) : hasShare l (addWord l) = true := by cases l <;> rfl

/-- Successful acquiring CAS from a quiet program point. -/
theorem refines_acqFresh {cfg : Cfg} (s : State) (t : Tid) (l : Mode) (p : PC)
    (hnone : s.held t = none) (hr0 : role (s.pc t) = .quiet) (hs0 : pcShare (s.pc t) = none)
    (hr : role p = .quiet) (hs : pcShare p = some l) (hb : blocked l false s.word = false) :
    Refines cfg s (addShare { setPc s t p with word := acqWord l false false s.word } t l) := by
  right
  have := AStep.acqFresh (cfg := cfg) (abs s) t l (by simp [abs_ro, hr0]) (by simp [abs_ts, hnone, tshare, hs0])
    (by simpa [abs] using hb)
  refine astep_cast this ?_
  cases l <;>
  · simp only [abs, addShare, AState.addShare, setPc, AState.mk.injEq, true_and]
    refine ⟨?_, ro_setFn_same s t p (by rw [hr, hr0])⟩
    rw [ts_setFn_none s t p hnone, hs]

/-- Successful releasing CAS that does not take the spinlock. -/
theorem refines_release {cfg : Cfg} (s : State) (t : Tid) (l : Mode) (p : PC)
    (hnone : s.held t = none) (hr0 : role (s.pc t) = .quiet) (hs0 : pcShare (s.pc t) = some l)
    (hr : role p = .quiet) (hs : pcShare p = none) (hh : hasShare l s.word = true) (hc : relCond s.word) :
    Refines cfg s (subShare { setPc s t p with word := relUncWord l s.word } t l) := by
  right
  have := AStep.release (cfg := cfg) (abs s) t l (by simp [abs_ro, hr0]) (by simp [abs_ts, hnone, tshare, hs0])
    (by simpa [abs] using hh) (by simpa [abs] using hc)
  refine astep_cast this ?_
  cases l <;>
  · simp only [abs, subShare, AState.subShare, setPc, AState.mk.injEq, true_and]
    refine ⟨?_, ro_setFn_same s t p (by rw [hr, hr0])⟩
    rw [ts_setFn_none s t p hnone, hs]

theorem abs_scanAdvance (s : State) (t : Tid) (l : Mode) (sc : Scan) (hnone : s.held t = none) :
    abs (scanAdvance s t l sc) = (({ abs s with ts := setFn (abs s).ts t none } : AState).advance t sc) := by
  simp only [scanAdvance, AState.advance, abs]
  split
  · rename_i k sc' hg; simp only [hg]
    simp only [setPc, AState.mk.injEq, true_and]
    refine ⟨?_, ro_setFn s t _⟩
    rw [ts_setFn_none s t _ hnone]; rfl
  · rename_i sc' hg; simp only [hg]
    simp only [setPc, AState.mk.injEq, true_and]
    refine ⟨?_, ro_setFn s t _⟩
    rw [ts_setFn_none s t _ hnone]; rfl

theorem side_scanAdvance {s : State} (t : Tid) (l : Mode) (sc : Scan) (hk : PcOk s) (hh : HeldIdle s)
    (hnone : s.held t = none) : PcOk (scanAdvance s t l sc) ∧ HeldIdle (scanAdvance s t l sc) := by
  simp only [scanAdvance]
  split
  · exact side_of_pc t _ hk hh rfl rfl (by simp [PC.ok]) hnone
  · exact side_of_pc t _ hk hh rfl rfl (by simp [PC.ok]) hnone

/-- A step that changes only the program point of `t`, within the same role and with the same share. -/
theorem quiet_step {cfg : Cfg} {s : State} {t : Tid} {p p' : PC} (hk : PcOk s) (hh : HeldIdle s)
    (hp : s.pc t = p) (hnone : s.held t = none) (hsh : pcShare p' = pcShare p) (hr : role p' = role p)
    (hok : p'.ok) : Refines cfg s (setPc s t p') ∧ PcOk (setPc s t p') ∧ HeldIdle (setPc s t p') :=
  ⟨refines_quiet s t p' (hp ▸ hsh) (hp ▸ hr), side_setPc t p' hk hh hok (Or.inl hnone)⟩

/-- A step that changes, for `abs`, only the role of `t`. -/
theorem ro_step {cfg : Cfg} {s : State} {t : Tid} {p p' : PC} (hk : PcOk s) (hh : HeldIdle s)
    (hp : s.pc t = p) (hnone : s.held t = none) (hsh : pcShare p' = pcShare p) (hok : p'.ok)
    (h : AStep cfg (abs s) { abs s with ro := setFn (abs s).ro t (role p') }) :
    Refines cfg s (setPc s t p') ∧ PcOk (setPc s t p') ∧ HeldIdle (setPc s t p') :=
  ⟨refines_ro s t p' (hp ▸ hsh) h, side_setPc t p' hk hh hok (Or.inl hnone)⟩

theorem relCond_of_fast {l : Mode} {old : Word} (hok : (PC.ulCas1 l old).ok) : relCond old := by
  intro hx
  cases l
  · have := hok.2; simp only [hx, true_and] at this
    left; cases hd : old.desig <;> simp_all
  · have h1 := hok.1; have h2 := hok.2
    simp only [hasShare, bne_iff_ne, ne_eq] at h1
    cases hd : old.desig
    · cases ha : old.af
      · right; left; simp only [hx, hd, ha, true_and, and_true] at h2; omega
      · right; right; rfl
    · left; rfl

theorem relCond_of_uncontended {old : Word} (h2 : uncontended old = true) : relCond old := by
  intro hx
  simp only [uncontended, hx, Bool.not_true, Bool.false_or, Bool.or_eq_true, decide_eq_true_eq,
    Bool.and_eq_true, beq_iff_eq] at h2
  rcases h2 with (h2 | h2) | h2
  · left; exact h2
  · right; left; exact h2
  · right; right; exact h2.2

/-- Every step of a thread is invisible to `abs` or is one `AStep`, and keeps the side conditions. -/
theorem tstep_refines {cfg : Cfg} {s s' : State} {t : Tid} {p : PC} {e : Event}
    (hk : PcOk s) (hh : HeldIdle s) (hp : s.pc t = p) (ht : TStep cfg s t p e s') :
    Refines cfg s s' ∧ PcOk s' ∧ HeldIdle s' := by
  have hkt : p.ok := hp ▸ hk t
  have hnone' : p ≠ .idle → s.held t = none := fun hne => held_none_of_active hh (hp ▸ hne)
  cases ht
  -- API boundaries: the client ghost `held` and the share of the program point make up `ts`
  case callLock hx => exact quiet_step hk hh hp hx rfl rfl trivial
  case callRlock hx => exact quiet_step hk hh hp hx rfl rfl trivial
  case callTry hx => exact quiet_step hk hh hp hx rfl rfl trivial
  case callRtry hx => exact quiet_step hk hh hp hx rfl rfl trivial
  case callUnlock hx =>
    exact ⟨refines_quietHeld s t _ _ (by simp [hx, tshare, pcShare]) (by simp [hp, role]),
      side_setPcHeld t _ _ hk hh trivial (Or.inl rfl)⟩
  case callRunlock hx =>
    exact ⟨refines_quietHeld s t _ _ (by simp [hx, tshare, pcShare]) (by simp [hp, role]),
      side_setPcHeld t _ _ hk hh trivial (Or.inl rfl)⟩
  case retLock =>
    exact ⟨refines_quietHeld s t _ _ (by simp [hp, hnone' (by simp), tshare, pcShare]) (by simp [hp, role]),
      side_setPcHeld t _ _ hk hh trivial (Or.inr rfl)⟩
  case retRlock =>
    exact ⟨refines_quietHeld s t _ _ (by simp [hp, hnone' (by simp), tshare, pcShare]) (by simp [hp, role]),
      side_setPcHeld t _ _ hk hh trivial (Or.inr rfl)⟩
  case retTry r =>
    exact ⟨refines_quietHeld s t _ _ (by cases r <;> simp [hp, hnone' (by simp), tshare, pcShare]) (by simp [hp, role]),
      side_setPcHeld t _ _ hk hh trivial (Or.inr rfl)⟩
  case retRtry r =>
    exact ⟨refines_quietHeld s t _ _ (by cases r <;> simp [hp, hnone' (by simp), tshare, pcShare]) (by simp [hp, role]),
      side_setPcHeld t _ _ hk hh trivial (Or.inr rfl)⟩
  case retUnlock =>
    exact ⟨refines_quiet s t _ (by simp [hp, pcShare]) (by simp [hp, role]), side_setPc t _ hk hh trivial (Or.inr rfl)⟩
  case retRunlock =>
    exact ⟨refines_quiet s t _ (by simp [hp, pcShare]) (by simp [hp, role]), side_setPc t _ hk hh trivial (Or.inr rfl)⟩
  all_goals have hnone : s.held t = none := hnone' (by simp)
  -- entering lock_slow
  case lkLdSlow l _ =>
    exact ro_step hk hh hp hnone rfl (by simp [PC.ok, SL.ok, SL.entry, longWaitThreshold])
      (AStep.enterSlow (abs s) t l (by simp [abs_ro, hp, role]) (by simp [abs_ts, hp, hnone, tshare, pcShare]))
  case lkCas1F l old _ =>
    exact ro_step hk hh hp hnone rfl (by simp [PC.ok, SL.ok, SL.entry, longWaitThreshold])
      (AStep.enterSlow (abs s) t l (by simp [abs_ro, hp, role]) (by simp [abs_ts, hp, hnone, tshare, pcShare]))
  -- the wait loop
  case lsWaitLdSleep c k hw hwt =>
    exact ro_step hk hh hp hnone rfl (by simpa [PC.ok] using hkt)
      (AStep.loopWait (abs s) t c k (by simp [abs_ro, hp, role]) hw (by simpa [abs] using hwt))
  case lsWaitLdWoken c k hw hwt =>
    exact ro_step hk hh hp hnone rfl ⟨SL.ok_woken hkt.1, by simp [SL.woken, hw]⟩
      (AStep.loopWoken (abs s) t c k (by simp [abs_ro, hp, role]) hw (by simpa [abs] using hwt))
  case pRet c k hw hs =>
    refine ⟨Or.inr ?_, side_of_pc t (.lsWaitLd c) hk hh rfl rfl (by simpa [PC.ok] using hkt) hnone⟩
    refine astep_cast (AStep.pRet (cfg := cfg) (abs s) t c k (by simp [abs_ro, hp, role]) hw (by simpa [abs] using hs)) ?_
    simp only [abs, setPc, AState.mk.injEq, true_and]
    exact ⟨ts_setFn s t _ (by simp [hp, pcShare]), ro_setFn s t _⟩
  -- the enqueue
  case lsStAdopt c k hw hq hown hwt =>
    refine ⟨Or.inr ?_, side_of_pc t (.lsRelLd { c with w := some k }) hk hh rfl rfl ⟨hkt.1, rfl⟩ hnone⟩
    refine astep_cast (AStep.adopt (cfg := cfg) (abs s) t c k (by simp [abs_ro, hp, role]) hw (by simpa [abs] using hq)
      (by simpa [abs] using hown) (by simpa [abs] using hwt)) ?_
    simp only [abs, setPc, AState.mk.injEq, true_and]
    exact ⟨ts_setFn s t _ (by simp [hp, pcShare]), ro_setFn s t _⟩
  case lsStRequeue c k hw hq =>
    refine ⟨Or.inr ?_, side_of_pc t (.lsRelLd c) hk hh rfl rfl ⟨hkt.1, by simp [hw]⟩ hnone⟩
    refine astep_cast (AStep.requeue (cfg := cfg) (abs s) t c k (by simp [abs_ro, hp, role]) hw (by simpa [abs] using hq)) ?_
    simp only [abs, setPc, AState.mk.injEq, true_and]
    exact ⟨ts_setFn s t _ (by simp [hp, pcShare]), ro_setFn s t _⟩
  case lsCasEnq c old hw =>
    subst hw
    refine ⟨Or.inr ?_, side_of_pc t (.lsSt c) hk hh rfl rfl ⟨hkt.1, hkt.2.1⟩ hnone⟩
    refine astep_cast (AStep.enq (cfg := cfg) (abs s) t c (by simp [abs_ro, hp, role])
      (by simpa [abs] using hkt.2.2.2) (by simpa [abs] using hkt.2.2.1)) ?_
    simp only [abs, setPc, AState.mk.injEq, true_and]
    exact ⟨ts_setFn s t _ (by simp [hp, pcShare]), ro_setFn s t _⟩
  case lsRelCas c old hw =>
    subst hw
    refine ⟨Or.inr ?_, side_of_pc t (.lsWaitLd c) hk hh rfl rfl (by simpa [PC.ok] using hkt) hnone⟩
    refine astep_cast (AStep.relSpin (cfg := cfg) (abs s) t c (by simp [abs_ro, hp, role])) ?_
    simp only [abs, setPc, AState.mk.injEq, true_and]
    exact ⟨ts_setFn s t _ (by simp [hp, pcShare]), ro_setFn s t _⟩
  -- acquiring
  case lkCas0 l hw =>
    refine ⟨?_, side_of_pc t (.lkRet l) hk hh (by simp [setPc]) (by simp [setPc]) trivial hnone⟩
    have := refines_acqFresh (cfg := cfg) s t l (.lkRet l) hnone (by simp [hp, role]) (by simp [hp, pcShare])
      rfl rfl (by rw [hw]; exact blocked_zero l)
    rw [hw, ← addWord_eq] at this; exact this
  case tryCas0 l hw =>
    refine ⟨?_, side_of_pc t (.tryRet l true) hk hh (by simp [setPc]) (by simp [setPc]) trivial hnone⟩
    have := refines_acqFresh (cfg := cfg) s t l (.tryRet l true) hnone (by simp [hp, role]) (by simp [hp, pcShare])
      rfl rfl (by rw [hw]; exact blocked_zero l)
    rw [hw, ← addWord_eq] at this; exact this
  case lkCas1 l old hw =>
    refine ⟨?_, side_of_pc t (.lkRet l) hk hh (by simp [setPc]) (by simp [setPc]) trivial hnone⟩
    have := refines_acqFresh (cfg := cfg) s t l (.lkRet l) hnone (by simp [hp, role]) (by simp [hp, pcShare])
      rfl rfl (by rw [hw]; exact hkt)
    rw [hw] at this; exact this
  case tryCas1 l old hw =>
    refine ⟨?_, side_of_pc t (.tryRet l true) hk hh (by simp [setPc]) (by simp [setPc]) trivial hnone⟩
    have := refines_acqFresh (cfg := cfg) s t l (.tryRet l true) hnone (by simp [hp, role]) (by simp [hp, pcShare])
      rfl rfl (by rw [hw]; exact hkt)
    rw [hw] at this; exact this
  case lsCasAcq c old hw =>
    subst hw
    refine ⟨Or.inr ?_, side_of_pc t (.lkRet c.l) hk hh (by simp [setPc]) (by simp [setPc]) trivial hnone⟩
    refine astep_cast (AStep.acqSlow (cfg := cfg) (abs s) t c (by simp [abs_ro, hp, role])
      (by simp [abs_ts, hp, hnone, tshare, pcShare]) hkt.2.2) ?_
    cases hl : c.l <;> cases hcw : c.w <;>
    · simp only [abs, addShare, AState.addShare, dropW, AState.dropW, setPc, AState.mk.injEq, true_and]
      refine ⟨?_, ro_setFn s t _⟩
      rw [ts_setFn_none s t _ hnone]; simp [pcShare]
  -- releasing without the spinlock
  case ulCas0 l hw =>
    refine ⟨?_, side_of_pc t (.ulRet l) hk hh (by simp [setPc]) (by simp [setPc]) trivial hnone⟩
    have := refines_release (cfg := cfg) s t l (.ulRet l) hnone (by simp [hp, role]) (by simp [hp, pcShare])
      rfl rfl (by rw [hw]; exact hasShare_addWord l)
      (by rw [hw]; intro hx; cases l <;> simp [addWord, Word.zero] at hx)
    rw [hw, relUnc_addWord] at this; exact this
  case ulCas1 l old hw =>
    refine ⟨?_, side_of_pc t (.ulRet l) hk hh (by simp [setPc]) (by simp [setPc]) trivial hnone⟩
    have := refines_release (cfg := cfg) s t l (.ulRet l) hnone (by simp [hp, role]) (by simp [hp, pcShare])
      rfl rfl (by rw [hw]; cases l <;> exact hkt.1) (by rw [hw]; exact relCond_of_fast hkt)
    rw [hw] at this; exact this
  case usCasUnc l old hw =>
    refine ⟨?_, side_of_pc t (.ulRet l) hk hh (by simp [setPc]) (by simp [setPc]) trivial hnone⟩
    have := refines_release (cfg := cfg) s t l (.ulRet l) hnone (by simp [hp, role]) (by simp [hp, pcShare])
      rfl rfl (by rw [hw]; exact hkt.1) (by rw [hw]; exact relCond_of_uncontended hkt.2)
    rw [hw] at this; exact this
  -- unlock_slow with the spinlock
  case usCasGrab l old hw =>
    subst hw
    have hside : PcOk (subShare { s with word := grabWord l s.word, sp := some t } t l) ∧
        HeldIdle (subShare { s with word := grabWord l s.word, sp := some t } t l) :=
      side_same hk hh (by simp) (by simp)
    refine ⟨Or.inr ?_, side_scanAdvance t l _ hside.1 hside.2 (by simpa using hnone)⟩
    refine astep_cast (AStep.grab (cfg := cfg) (abs s) t l (by simp [abs_ro, hp, role])
      (by simp [abs_ts, hp, hnone, tshare, pcShare]) hkt.1 hkt.2.1 hkt.2.2) ?_
    rw [grabbed, abs_scanAdvance _ t l _ (by simpa using hnone)]
    congr 1
    cases l <;> simp [abs, subShare, AState.subShare]
  case usRcCas l sc k old obs _ =>
    refine ⟨Or.inr ?_, side_scanAdvance t l _ hk hh hnone⟩
    refine astep_cast (AStep.rcDone (cfg := cfg) (abs s) t sc (by simp [abs_ro, hp, role])) ?_
    rw [abs_scanAdvance _ t l _ hnone]
    congr 1
    have : (abs s).ts t = none := by simp [abs_ts, hp, hnone, tshare, pcShare]
    rw [← this, setFn_self]
  case usFinCas l f old hw =>
    subst hw
    refine ⟨Or.inr ?_, ?_⟩
    · refine astep_cast (AStep.finish (cfg := cfg) (abs s) t f (by simp [abs_ro, hp, role])) ?_
      cases f.wake <;>
      · simp only [abs, afterFin, setPc, roleAfter, AState.mk.injEq, true_and]
        exact ⟨ts_setFn s t _ (by simp [hp, pcShare]), ro_setFn s t _⟩
    · cases f.wake with
      | nil => exact side_of_pc t (.ulRet l) hk hh rfl rfl trivial hnone
      | cons k2 r2 => exact side_of_pc t (.usWakeSt l k2 r2) hk hh rfl rfl trivial hnone
  case usWakeSt l k r =>
    refine ⟨Or.inr ?_, side_of_pc t (.usWakeV l k r) hk hh rfl rfl trivial hnone⟩
    refine astep_cast (AStep.wakeStore (cfg := cfg) (abs s) t k r (by simp [abs_ro, hp, role])) ?_
    simp only [abs, setPc, AState.mk.injEq, true_and]
    exact ⟨ts_setFn s t _ (by simp [hp, pcShare]), ro_setFn s t _⟩
  case semV l k r =>
    refine ⟨Or.inr ?_, ?_⟩
    · refine astep_cast (AStep.post (cfg := cfg) (abs s) t k r (by simp [abs_ro, hp, role])) ?_
      cases r <;>
      · simp only [abs, semPost, afterFin, setPc, AState.semPost, roleAfter, AState.mk.injEq, true_and]
        exact ⟨ts_setFn s t _ (by simp [hp, pcShare]), ro_setFn s t _⟩
    · cases r with
      | nil => exact side_of_pc t (.ulRet l) hk hh rfl rfl trivial hnone
      | cons k2 r2 => exact side_of_pc t (.usWakeSt l k2 r2) hk hh rfl rfl trivial hnone
  -- everything else moves within a role
  all_goals exact quiet_step hk hh hp hnone rfl rfl (by simp_all [PC.ok, hasShare])

theorem step_refines {cfg : Cfg} {s s' : State} {e : Event}
    (hk : PcOk s) (hh : HeldIdle s) (h : step cfg s e = .ok s') :
    Refines cfg s s' ∧ PcOk s' ∧ HeldIdle s' := by
  cases step_inv h with
  | thread t p hp ht => exact tstep_refines hk hh hp ht
  | envV k => exact ⟨Or.inr (AStep.envV (abs s) k), side_same hk hh rfl rfl⟩
  | envSem k n ho => exact ⟨Or.inr (AStep.envSem (abs s) k n (by simpa [abs] using ho)), side_same hk hh rfl rfl⟩

theorem side_init : PcOk init ∧ HeldIdle init := by
  constructor
  · intro t; simp [init, PC.ok]
  · intro t h; simp [init] at h

theorem reachable_side {cfg : Cfg} {s : State} (h : Reachable cfg s) : PcOk s ∧ HeldIdle s :=
  reachable_induction (P := fun s => PcOk s ∧ HeldIdle s) side_init
    (fun _ _ _ _ hp hs => (step_refines hp.1 hp.2 hs).2) s h

/-- An abstract invariant holds in every reachable state. -/
theorem reachable_ainv {cfg : Cfg} {P : AState → Prop} (h0 : P (abs init))
    (hstep : ∀ a a', P a → AStep cfg a a' → P a') :
    ∀ s, Reachable cfg s → P (abs s) := by
  apply reachable_induction (P := fun s => P (abs s)) h0
  intro s e s' hr hp hs
  have hside := reachable_side hr
  rcases (step_refines hside.1 hside.2 hs).1 with h | h
  · rw [h]; exact hp
  · exact hstep _ _ hp h

end NsyncVerif.MuQ
