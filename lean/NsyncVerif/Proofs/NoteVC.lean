/-
  Layer `Note` × vector clocks (property C03, note edge): definitions.

  The Note acceptor (`Model/Note.lean`: the current /repo/internal/note.c, i.e. after the repair of
  the defects F5 and F4 / F7, + the nsync_wait_n path of nsync_note_wait) is run in lock-step with the generic
  vector-clock machine `NsyncVerif.VC`.  The events of the acceptor carry the memory order each
  atomic operation REQUESTS in the log, and the acceptor rejects every atomic event whose order is
  not the one of the ATM_* macro at that site (`noteSiteOrd`, `step_orders`).  The machine is fed
  exactly the atomics on `note<k>.notified` and `nw<r>.waiting`, each with that order (all of them
  are loads or plain stores: note.c contains no CAS).  NOTHING else contributes an edge: not the
  note mutexes (lock / unlock / trylock / mu_wait events are invisible to the machine), not the
  semaphores, not the clock reads, not the interleaving.

  `PState` = acceptor state × clock state × ghosts:
    `cc t`     clock of thread `t` at its latest API `call` event;
    `capi t`   that call;
    `sets k`   the stores `notified := 1` performed on note `k` so far, OLDEST FIRST: who, the
               storer's clock just before the store, its clock at its API call, that call, and the
               `notify (n)` activation it belongs to (`top`; `none` for the store of
               nsync_note_new, note.c/7);
    `saw t k`  `i+1` iff, during its current API call, thread `t` performed an acquire load of
               `note<k>.notified` that read 1 from the store `(sets k)[i]`, or performed that store
               itself (latest such event); `0` otherwise;
    `zsaw t k` during its current API call thread `t` evaluated NOTIFIED_TIME (k) to zero by reading
               `expiry_time == 0` with the flag still 0 (a note created with a zero deadline on
               its path: notified from birth, nobody ever notifies it).
-/
import NsyncVerif.Proofs.NoteLock
import NsyncVerif.Proofs.VC
import NsyncVerif.Proofs.Run


namespace Note
open NsyncVerif

/-! ### the declared order of every site -/

/-- The order the ATM_* macro at each site of note.c / wait.c requests.  `<file>/<k>/<function>`:
    `k` = ordinal of the macro EXPANSION in that translation unit (the harness numbers them with
    `__COUNTER__`, so the six uses of NOTIFIED_TIME count: NOTIFIED_TIME (n) is
    `ATM_LOAD_ACQ (&(n_)->notified) != 0 ? nsync_time_zero : (n_)->expiry_time`, common.h:212).
    Source lines are those of the current /repo/internal/note.c (after the repair of F4 / F7). -/
def noteSiteOrd : Site → Ord
  | .childLd => .acq    -- note.c/0   note.c:109  t = NOTIFIED_TIME (n)                  (note_notify_child)
  | .childSt => .rel    -- note.c/1   note.c:113  ATM_STORE_REL (&n->notified, 1)        <- the notifier's store
  | .childWake => .rel  -- note.c/2   note.c:117  ATM_STORE_REL (&nw->waiting, 0)
  | .notifyLd => .acq   -- note.c/3   note.c:149  t = NOTIFIED_TIME (n)                  (notify)
  | .dlLd1 => .acq      -- note.c/4   note.c:175  if (ATM_LOAD_ACQ (&n->notified) != 0)  <- the observer's fast path
  | .dlLd2 => .acq      -- note.c/5   note.c:179  ntime = NOTIFIED_TIME (n)              (nsync_note_notified_deadline_)
  | .newLd => .acq      -- note.c/6   note.c:219  NOTIFIED_TIME (parent)                 (nsync_note_new)
  | .newSt => .rel      -- note.c/7   note.c:228  ATM_STORE_REL (&n->notified, 1)        <- born notified (F5 repair)
  | .enqLd => .acq      -- note.c/8   note.c:315  ntime = NOTIFIED_TIME (n)              (note_enqueue)
  | .enqSt1 => .rlx     -- note.c/9   note.c:318  ATM_STORE (&nw->waiting, 1)
  | .enqSt0 => .rlx     -- note.c/10  note.c:321  ATM_STORE (&nw->waiting, 0)
  | .deqLd => .acq      -- note.c/11  note.c:334  ntime = NOTIFIED_TIME (n)              (note_dequeue)
  | .deqSt => .rlx      -- note.c/12  note.c:337  ATM_STORE (&nw->waiting, 0)
  | .waitInit => .rlx   -- wait.c/0   wait.c:54   ATM_STORE (&nw[i].waiting, 0)
  | .other => .rlx      -- never accepted on a note location

def Site.all : List Site :=
  [.childLd, .childSt, .childWake, .notifyLd, .dlLd1, .dlLd2, .newLd, .newSt, .enqLd, .enqSt1,
   .enqSt0, .deqLd, .deqSt, .waitInit]

theorem Site.mem_all (s : Site) (h : s ≠ .other) : s ∈ Site.all := by
  cases s <;> simp [Site.all] at h ⊢

/-- `<file>/<k>/<function>` as in the event log. -/
def noteSiteName : Site → String
  | .childLd => "note.c/0/note_notify_child"
  | .childSt => "note.c/1/note_notify_child"
  | .childWake => "note.c/2/note_notify_child"
  | .notifyLd => "note.c/3/notify"
  | .dlLd1 => "note.c/4/nsync_note_notified_deadline_"
  | .dlLd2 => "note.c/5/nsync_note_notified_deadline_"
  | .newLd => "note.c/6/nsync_note_new"
  | .newSt => "note.c/7/nsync_note_new"
  | .enqLd => "note.c/8/note_enqueue"
  | .enqSt1 => "note.c/9/note_enqueue"
  | .enqSt0 => "note.c/10/note_enqueue"
  | .deqLd => "note.c/11/note_dequeue"
  | .deqSt => "note.c/12/note_dequeue"
  | .waitInit => "wait.c/0/nsync_wait_n"
  | .other => "?"

def ordStr : Ord → String
  | .rlx => "rlx" | .acq => "acq" | .rel => "rel" | .ar => "ar"

/-- The table `noteSiteOrd` as data: (site name as in the event log, declared order). -/
def noteSiteOrdTable : List (String × String) :=
  Site.all.map (fun s => (noteSiteName s, ordStr (noteSiteOrd s)))

/-- kind of operation at the site: `ld` or `st` (note.c has no CAS) -/
def Site.op : Site → String
  | .childSt | .childWake | .newSt | .enqSt1 | .enqSt0 | .deqSt | .waitInit => "st"
  | _ => "ld"

/-- The ATM_* macro that requests order `o` for an operation of kind `op`. -/
def macroOf (op : String) (o : Ord) : String :=
  if op == "ld" then (match o with | .rlx => "ATM_LOAD" | .acq => "ATM_LOAD_ACQ" | _ => "?")
  else (match o with | .rlx => "ATM_STORE" | .rel => "ATM_STORE_REL" | _ => "?")

/-- Where the macro of a site is written in the source: the sites that use NOTIFIED_TIME have
    their ATM_* macro in the body of that macro in common.h (one entry `("common.h", "(macro)", …)`
    of the regenerated table); the others are the direct ATM_* call sites of note.c / wait.c, in
    source order (`j` = index among the entries of that file).  (file, j, function, location) -/
def Site.src : Site → String × Nat × String × String
  | .childLd | .notifyLd | .dlLd2 | .newLd | .enqLd | .deqLd =>
    ("common.h", 0, "(macro)", "&(n_)->notified")
  | .childSt => ("note.c", 0, "note_notify_child", "&n->notified")
  | .childWake => ("note.c", 1, "note_notify_child", "&nw->waiting")
  | .dlLd1 => ("note.c", 2, "nsync_note_notified_deadline_", "&n->notified")
  | .newSt => ("note.c", 3, "nsync_note_new", "&n->notified")
  | .enqSt1 => ("note.c", 4, "note_enqueue", "&nw->waiting")
  | .enqSt0 => ("note.c", 5, "note_enqueue", "&nw->waiting")
  | .deqSt => ("note.c", 6, "note_dequeue", "&nw->waiting")
  | .waitInit => ("wait.c", 0, "nsync_wait_n", "&nw[i].waiting")
  | .other => ("?", 0, "?", "?")

/-- (file, index among the ATM_* entries of that file, function, macro the model assumes there,
    location expression) -/
def noteSiteRows : List (String × Nat × String × String × String) :=
  Site.all.map (fun s => (s.src.1, s.src.2.1, s.src.2.2.1, macroOf s.op (noteSiteOrd s), s.src.2.2.2))

/-- Does a site table `gen` ((file, function, macro, location) in source order, as regenerated in
    `NsyncVerif.Gen.sites`) have, at every site the Note product uses, the function, the macro (hence
    the memory order) and the location that `noteSiteOrd` assumes — and no further ATM_* call site in
    note.c (7 direct sites; in particular no load of `nw->waiting` and no CAS), exactly one in wait.c
    and exactly one macro body in common.h (NOTIFIED_TIME)?  Evaluated on
    `Gen.sites` by `note_sites_tie` (Proofs/TieNote.lean). -/
def noteSitesAgree (gen : List (String × String × String × String)) : Bool :=
  noteSiteRows.all (fun row =>
    match (gen.filter (fun g => g.1 == row.1))[row.2.1]? with
    | some g => g.2.1 == row.2.2.1 && g.2.2.1 == row.2.2.2.1 && g.2.2.2 == row.2.2.2.2
    | none => false)
  && (gen.filter (fun g => g.1 == "note.c")).length == 7
  && (gen.filter (fun g => g.1 == "wait.c")).length == 1
  && (gen.filter (fun g => g.1 == "common.h")).length == 1

/-! ### projection to the clock machine -/

def toOrd : Ord → VC.Ord
  | .rlx => .rlx | .acq => .acq | .rel => .rel | .ar => .ar

/-- Atomic locations of the machine. -/
inductive VLoc where
  /-- `note<k>.notified` -/
  | notified (k : NoteId)
  /-- `nw<r>.waiting` -/
  | waiting (r : Rid)
  deriving DecidableEq, Repr

/-- The clock-machine operation of an event: the atomics on `notified` and `waiting`, with the order
    the event declares.  Everything else (in particular every operation on a note mutex and every
    semaphore operation) is invisible to the machine. -/
def evVC : Event → Option (VC.AEv VLoc)
  | .ld t _ o k _ => some ⟨t, .ld, toOrd o, .notified k⟩
  | .stNote t _ o k _ _ => some ⟨t, .st, toOrd o, .notified k⟩
  | .stW t _ o r _ _ => some ⟨t, .st, toOrd o, .waiting r⟩
  | _ => none

def vstep (m : VC.St VLoc) (e : Event) : VC.St VLoc :=
  match evVC e with
  | some a => VC.step m a
  | none => m

/-- The clocks of an event list: happens-before as far as the declared orders give it. -/
def clocks (evs : List Event) : VC.St VLoc := VC.run VC.St.init (evs.filterMap evVC)

/-- One store `notified := 1`. -/
structure Setter where
  /-- the storing thread -/
  who : Tid
  /-- its clock just before the store -/
  clk : VC.Clock
  /-- its clock at the `call` event of the API call during which it stores -/
  callc : VC.Clock
  /-- that API call -/
  api : Option ApiCall
  /-- `some ⟨n, par, k⟩`: the store is note.c/1 inside the activation `notify (n)` (`k`: entered
      from nsync_note_notify, or from a call of nsync_note_notified_deadline_ that found the deadline
      passed); `none`: the store is note.c/7 (nsync_note_new, parent already notified) -/
  top : Option Top

def topOf : PC → Option Top
  | .chd _ _ top => some top
  | _ => none

structure PState where
  s : State
  m : VC.St VLoc
  cc : Tid → VC.Clock
  capi : Tid → Option ApiCall
  sets : NoteId → List Setter
  saw : Tid → NoteId → Nat
  zsaw : Tid → NoteId → Bool

def pinit : PState :=
  { s := init, m := VC.St.init, cc := fun _ => VC.Clock.bot, capi := fun _ => none,
    sets := fun _ => [], saw := fun _ _ => 0, zsaw := fun _ _ => false }

def newSetter (p : PState) (t : Tid) : Setter :=
  ⟨t, p.m.vc t, p.cc t, p.capi t, topOf (p.s.pc t)⟩

def gCc (p : PState) : Event → Tid → VC.Clock
  | .call t _ => fun u => if u = t then p.m.vc t else p.cc u
  | _ => p.cc

def gCapi (p : PState) : Event → Tid → Option ApiCall
  | .call t a => fun u => if u = t then some a else p.capi u
  | _ => p.capi

def gSets (p : PState) : Event → NoteId → List Setter
  | .stNote t _ _ k _ _ => fun x => if x = k then p.sets x ++ [newSetter p t] else p.sets x
  | _ => p.sets

def gSaw (p : PState) : Event → Tid → NoteId → Nat
  | .call t _ => fun u x => if u = t then 0 else p.saw u x
  | .ld t _ _ k _ =>
    fun u x => if u = t ∧ x = k ∧ (p.s.notes k).notified = true then (p.sets k).length else p.saw u x
  | .stNote t _ _ k _ _ => fun u x => if u = t ∧ x = k then (p.sets k).length + 1 else p.saw u x
  | _ => p.saw

def gZsaw (p : PState) : Event → Tid → NoteId → Bool
  | .call t _ => fun u x => if u = t then false else p.zsaw u x
  | .ld t _ _ k _ =>
    fun u x => if u = t ∧ x = k ∧ (p.s.notes k).notified = false ∧ (p.s.notes k).expiry = some 0
      then true else p.zsaw u x
  | _ => p.zsaw

def pstep (p : PState) (e : Event) : Except String PState :=
  match step p.s e with
  | .error msg => .error msg
  | .ok s' =>
    .ok { s := s', m := vstep p.m e, cc := gCc p e, capi := gCapi p e, sets := gSets p e,
          saw := gSaw p e, zsaw := gZsaw p e }

def prun (p : PState) : List Event → Except String PState
  | [] => .ok p
  | e :: es =>
    match pstep p e with
    | .ok p' => prun p' es
    | .error m => .error m

def PReachable (p : PState) : Prop := ∃ evs, prun pinit evs = .ok p

theorem pstep_ok {p p' : PState} {e : Event} (h : pstep p e = .ok p') :
    step p.s e = .ok p'.s ∧ p'.m = vstep p.m e ∧ p'.cc = gCc p e ∧ p'.capi = gCapi p e ∧
    p'.sets = gSets p e ∧ p'.saw = gSaw p e ∧ p'.zsaw = gZsaw p e := by
  unfold pstep at h
  split at h
  · cases h
  · cases h; exact ⟨by assumption, rfl, rfl, rfl, rfl, rfl, rfl⟩

theorem pstep_s {p p' : PState} {e : Event} (h : pstep p e = .ok p') : step p.s e = .ok p'.s :=
  (pstep_ok h).1

theorem pstep_total {p : PState} {e : Event} {s' : State} (h : step p.s e = .ok s') :
    ∃ p', pstep p e = .ok p' ∧ p'.s = s' := by
  unfold pstep; rw [h]; exact ⟨_, rfl, rfl⟩

theorem isPRun : IsRun pstep prun := ⟨fun _ => rfl, fun p e _ => by rw [prun]; cases pstep p e <;> rfl⟩

theorem PReachable.start : PReachable pinit := ⟨[], rfl⟩

theorem PReachable.next {p p' : PState} {e : Event} (h : PReachable p) (hs : pstep p e = .ok p') :
    PReachable p' := by
  obtain ⟨evs, h⟩ := h
  exact ⟨evs ++ [e], isPRun.snoc h hs⟩

theorem PReachable.induction {P : PState → Prop} (h0 : P pinit)
    (hstep : ∀ p e p', PReachable p → P p → pstep p e = .ok p' → P p') :
    ∀ p, PReachable p → P p :=
  fun _ ⟨_, h⟩ => isPRun.induct h0 hstep h

/-- the acceptor component of a reachable product state is a reachable acceptor state -/
theorem PReachable.s {p : PState} (h : PReachable p) : Reachable p.s := by
  obtain ⟨evs, h⟩ := h
  exact ⟨evs, isRun.proj isPRun (fun _ _ _ => pstep_s) h⟩

/-- every accepted event list has a product run with the same acceptor state -/
theorem prun_total {p : PState} {evs : List Event} {s : State} (h : run p.s evs = .ok s) :
    ∃ p', prun p evs = .ok p' ∧ p'.s = s :=
  isRun.lift isPRun (π := PState.s) (fun _ _ _ => pstep_total) h

/-- the machine component is the clock machine run over the projected atomics of the event list -/
theorem prun_m {p p' : PState} {evs : List Event} (h : prun p evs = .ok p') :
    p'.m = VC.run p.m (evs.filterMap evVC) := by
  rw [VC.run_filterMap]
  refine isPRun.fold (κ := PState.m) (fun p e p' hs => ?_) h
  rw [(pstep_ok hs).2.1]; unfold vstep; cases evVC e <;> rfl

end Note
