import NsyncVerif.Proofs.MuCEffScan
import NsyncVerif.Proofs.MuCInv6
/-
  MuC, ring invariant (`Inv6`) through every step: one lemma per kind of step (`Eff`), `inv6_step`, `inv6_init`.
-/
namespace NsyncVerif.MuC

theorem finPc_keep6 {r : Ret} {l : List Wid} {p : PC} (hsc : p.scan? = none) (hmw : p.mw = r.mw?) : Keep6 (finPc r l) p :=
  .of_eq ((finPc_scan r l).trans hsc.symm) ((finPc_mw r l).trans hmw.symm)
theorem loopPc_keep6 {c : MW} {b : Bool} {p : PC} (hsc : p.scan? = none) (hmw : p.mw = some c) : Keep6 (loopPc c b) p := by
  unfold loopPc; split <;> exact .of_eq hsc.symm hmw.symm
theorem RetPc.keep6 {hd : Option Mode} {p : PC} {m : Option Mode} {w : Option Wid} {b : Bool} (h : RetPc hd p m w b) :
    Keep6 .idle p :=
  ⟨h.scan.symm, fun _ hc => nomatch hc⟩
theorem SemPc.keep6 {cfg : Cfg} {s : State} {p p' : PC} {k : Wid} {n : Nat} (h : SemPc cfg s p p' k n) : Keep6 p' p := by
  cases h
  · exact .of_eq rfl rfl
  · exact .of_eq rfl rfl
  · exact finPc_keep6 rfl rfl
theorem PC.scanSrc_mw {p : PC} {r : Ret} (h : p.scanSrc = some r) : p.mw = r.mw? := by
  cases p <;> cases h <;> rfl

/-- nsync_mu_wait records what the argument object of its condition denotes; an object that has a meaning keeps it. -/
theorem CallEff.cargs6 {s s' : State} {t : Tid} {p' : PC} {nw : Bool} {ca : Option Cond} (hp : CallPc s t p' nw ca)
    (e : CallEff s t p' nw ca s') :
    (∀ j v, s.cargs j = some v → s'.cargs j = some v) ∧ p'.scan? = none ∧ ∀ c, p'.mw = some c → CondOk s'.cargs c.cond := by
  have hca := e.cargs
  cases hp with
  | ul l nw hh hnw => exact ⟨fun j v hj => by rw [hca]; exact hj, rfl, fun _ hc => nomatch hc⟩
  | wait m cnd dl note hh hg =>
    cases ca with
    | none => exact ⟨fun j v hj => by rw [hca]; exact hj, rfl, fun _ hc => by cases hc; exact fun _ hcd => nomatch hcd⟩
    | some cd =>
      refine ⟨fun j v hj => ?_, rfl, fun _ hc => ?_⟩
      · rw [hca]; show setFn s.cargs cd.k _ j = _
        rw [setFn_apply]; split
        · subst_vars
          rcases hg cd rfl with e0 | e0 <;> rw [e0] at hj
          · cases hj
          · exact hj
        · exact hj
      · cases hc
        intro cd' hcd'; cases hcd'
        exact setFn_at hca

theorem Inv6.ret {s s' : State} {t : Tid} {m : Option Mode} {w : Option Wid} {b : Bool} (h : Inv6 s)
    (hp : RetPc (s.held t) (s.pc t) m w b) (e : RetEff s t m w b s') : Inv6 s' :=
  h.frame e.pc e.queue (fun x => by rw [e.wr]; exact dropW_lnk_cond s w x) e.cargs hp.keep6

theorem Inv6.call {s s' : State} {t : Tid} {p' : PC} {nw : Bool} {ca : Option Cond} (h : Inv6 s) (h0 : s.pc t = .idle)
    (hp : CallPc s t p' nw ca) (e : CallEff s t p' nw ca s') : Inv6 s' := by
  obtain ⟨hca, hsc, hmw⟩ := e.cargs6 hp
  have hpt : s'.pc t = p' := setFn_at e.pc
  exact Inv6.local' t h e.queue (fun _ => by rw [e.wr]; exact ⟨rfl, rfl⟩) hca
    (setFn_others e.pc) (by rw [hpt, hsc, h0]; rfl) (by rw [hpt]; exact hmw)

theorem Inv6.sem {cfg : Cfg} {s s' : State} {t : Tid} {p' : PC} {k : Wid} {n : Nat} (h : Inv6 s)
    (hp : SemPc cfg s (s.pc t) p' k n) (e : SemEff s t p' k n s') : Inv6 s' :=
  h.frame e.pc e.queue (fun x => by rw [e.wr]; exact setFn_lnk_cond (by rfl) (by rfl) x) e.cargs hp.keep6

theorem Inv6.fin {s s' : State} {t : Tid} {r : Ret} {f : Fin} {old : Word} (h : Inv6 s)
    (heq : s.pc t = .usFinCas r f old) (e : CasOk s t (finPc r f.wake) (finWord f old) none s') : Inv6 s' :=
  h.frame e.pc e.queue (fun _ => by rw [e.wr_none]; exact ⟨rfl, rfl⟩) e.cargs (heq ▸ finPc_keep6 rfl rfl)

theorem Inv6.eval {s : State} {t : Tid} {c : MW} (h : Inv6 s) (heq : s.pc t = .mwEval c) (b : Bool) :
    Inv6 (setPc s t (loopPc c b)) :=
  h.frame rfl rfl (fun _ => ⟨rfl, rfl⟩) rfl (heq ▸ loopPc_keep6 rfl rfl)

theorem Inv6.ldRc {s : State} {t : Tid} {c : MW} {k : Wid} (h : Inv6 s) (heq : s.pc t = .mwRcLd c) (obs : Nat) :
    Inv6 { setPc s t (.mwEnqLd { c with rcl := obs }) with wr := setFn s.wr k { s.wr k with rc := obs } } :=
  h.frame rfl rfl (setFn_lnk_cond (by rfl) (by rfl)) rfl (heq ▸ .of_mw (c0 := c) rfl rfl rfl rfl)

theorem Inv6.mtRm {s : State} {t : Tid} {c : MW} {old : Word} {rc : Nat} {k : Wid} (h : Inv6 s)
    (heq : s.pc t = .mtRmCas c old rc) (n : Nat) :
    Inv6 { setPc s t (.mtStW c old) with wr := setFn s.wr k { s.wr k with rc := n } } :=
  h.frame rfl rfl (setFn_lnk_cond (by rfl) (by rfl)) rfl (heq ▸ .of_eq rfl rfl)

/-- The waiter takes its record off the queue (mu_wait.c:112). -/
theorem Inv6.ldDeq {s : State} {t : Tid} {c : MW} {old : Word} {k : Wid} (h4 : Inv4 s) (h : Inv6 s)
    (heq : s.pc t = .mtLdRc c old) (hmem : k ∈ s.queue) : Inv6 (setPc (dequeue s k) t (.mtRmLd c old)) :=
  Inv6.selfRemove t k _ h h4 hmem (heq ▸ .of_eq rfl rfl)

/-- The enqueue CAS of nsync_mu_wait: the record in limbo is queued. -/
theorem Inv6.mwEnq {s : State} {t : Tid} {c : MW} {old : Word} {k : Wid} (h4 : Inv4 s) (h : Inv6 s)
    (heq : s.pc t = .mwEnqCas c old) (hcw : c.w = some k) :
    Inv6 (setPc (if c.first then enqLast { s with word := mwEnqWord c.cond.isSome old, sp := some t } k
                 else enqFirst { s with word := mwEnqWord c.cond.isSome old, sp := some t } k) t
           (.mwRelLd { c with hadW := old.waiting, first := false })) := by
  have h1 : Inv6 { s with word := mwEnqWord c.cond.isSome old, sp := some t } := h.env rfl (fun _ => ⟨rfl, rfl⟩) rfl rfl
  exact Inv6.enq_step t k _ (by split; exact .inl rfl; exact .inr rfl) h1 (fun u => h4.nd_prefix u)
    (h4.limbo t k (by rw [heq]; simp [PC.limbo, hcw])).2.1 (show Keep6 _ (s.pc t) from heq ▸ .of_mw (c0 := c) rfl rfl rfl rfl)

theorem ScanStart.chainsAt {s s' : State} {t : Tid} {r : Ret} (h4 : Inv4 s) (h : Inv6 s)
    (halone : ∀ u, u ≠ t → (s.pc u).unl = false) (hsc : ScanStart s t r s') : ChainsAt s' t := by
  cases hsc with
  | grab old heq hw hs =>
    have hno : ∀ u, (s.pc u).unl = false := fun u => by
      by_cases e : u = t
      · subst e; rw [heq]; rfl
      · exact halone u e
    exact (scanInv_chains t r).afterPickup hs ((h.chainsS0 h4 hno rfl rfl rfl).congr_state (by simp) (by simp))
  | rel sc old heq hw hs => exact (scanInv_chains t r).run _ _ _ hs ((h.chainsS h4 (by rw [heq]; rfl)).congr_state rfl rfl)
  | re sc old heq hw hs => exact (scanInv_chains t r).afterPickup hs ((h.chainsS h4 (by rw [heq]; rfl)).congr_state rfl rfl)
  | rc sc k old heq hs =>
    exact (scanInv_chains t r).run _ _ _ hs ((h.chainsS h4 (by rw [heq]; rfl)).congr_wr (setFn_lnk_cond (by rfl) (by rfl)) rfl)
  | eval sc k rest cd heq hk hcd hs => exact afterEval_chains hs (h.chainsS h4 (by rw [heq]; rfl))

theorem Inv6.scan {s s' : State} {t : Tid} {r : Ret} {late : Bool} (h4 : Inv4 s) (h : Inv6 s)
    (hsc : ScanStart s t r s') (e : ScanEff s t r late s') : Inv6 s' :=
  Inv6.of_chainsAt t h (hsc.chainsAt h4 h e.alone) (fun x => (e.wr x).2.2.2.2) e.cargs e.oth e.alone
    (by rw [e.dst.mw, PC.scanSrc_mw e.src])

/-- The stores: queue insertion by lock_slow, the wake-up store, the reset of the record in nsync_mu_wait, the two
    stores of mu_try_acquire_after_timeout_or_cancel. -/
theorem Inv6.st {s s' : State} {t : Tid} (h4 : Inv4 s) (h : Inv6 s) (e : StEff s t s') : Inv6 s' := by
  cases e
  case lsNewLast c k heq hq hcw hown hwait _ | lsNewFirst c k heq hq hcw hown hwait _
     | lsOwnLast c k heq hq hcw hwait _ | lsOwnFirst c k heq hq hcw hwait _ =>
    -- the record is reset and queued
    have hnq : ¬ Queued s k := h4.not_queued hwait
    exact Inv6.enq_step (s1 := { s with wr := setFn s.wr k _ }) t k _ (by first | exact .inl rfl | exact .inr rfl)
      (Inv6.reset k h hnq rfl rfl rfl (by intro x hx; simp [setFn, hx]) (by simp [setFn]) (by intro cd hcd; simp [setFn] at hcd))
      (fun u => h4.nd_prefix u) hnq
      (show Keep6 _ (s.pc t) from heq ▸ .of_eq rfl rfl)
  case wake r k rest heq | mtGone c old k heq hcw =>
    exact h.frame rfl rfl (setFn_lnk_cond (by rfl) (by rfl)) rfl (heq ▸ .of_eq rfl rfl)
  case mwNew c k heq hq hcw hown hwait | mwOwn c k heq hq hcw hwait =>
    -- the record, on no list, gets the condition of the call
    have hnq : ¬ Queued s k := h4.not_queued hwait
    exact Inv6.resetPc t k _ _ h hnq rfl (h.cmw t c (by rw [heq]; rfl)) (heq ▸ .of_mw (c0 := c) rfl rfl rfl rfl)
  case mtKeep c old heq | mtGive c old heq =>
    exact h.frame (t := t) (by simp; rfl) (by simp) (fun _ => by simp) (by simp)
      (by rw [heq]; exact .of_mw (c0 := c) rfl rfl rfl rfl)

theorem Inv6.envEff {cfg : Cfg} {s s' : State} (h : Inv6 s) (e : EnvEff cfg s s') : Inv6 s' := by
  cases e with
  | post k => exact h.env (by simp) (fun x => by simp only [semPost]; exact setFn_lnk_cond (by rfl) (by rfl) x) (by simp) (by simp)
  | sem k n _ => exact h.env rfl (setFn_lnk_cond (by rfl) (by rfl)) rfl rfl
  | tick n _ => exact h.env rfl (fun _ => ⟨rfl, rfl⟩) rfl rfl

theorem inv6_step {cfg : Cfg} {s s' : State} {e : Event} (h1 : Inv1 s) (h3 : Inv3 s) (h4 : Inv4 s) (h : Inv6 s)
    (hs : step cfg s e = .ok s') : Inv6 s' := by
  cases ht : e.tid with
  | none => exact h.envEff (step_env hs ht)
  | some t =>
    cases step_eff hs ht with
    | move hm => exact h.move hm
    | callQ h0 hh hm => exact h.move (h0 ▸ hm)
    | cas hc =>
      cases hc with
      | fail hm => exact h.move hm
      | plain hp ok => exact h.cas hp ok
      | scan hsc => obtain ⟨late, e⟩ := hsc.eff h1 h3 h4; exact h.scan h4 hsc e
      | fin heq hw e => exact h.fin heq e
      | mwEnq c old k heq hk hw => exact h.mwEnq h4 heq hk
      | mtRm c old rc k heq hk => exact h.mtRm heq _
    | st e => exact h.st h4 e
    | ldRc c k obs heq hk => exact h.ldRc heq obs
    | ldDeq c old k heq hk hmem hrc => exact h.ldDeq h4 heq hmem
    | ret hp e => exact h.ret hp e
    | call h0 hp e => exact h.call h0 hp e
    | scan hsc => obtain ⟨late, e⟩ := hsc.eff h1 h3 h4; exact h.scan h4 hsc e
    | eval c cd heq hcd => exact h.eval heq _
    | sem hp e => exact h.sem hp e
    | dataW x v hh => exact h.env rfl (fun _ => ⟨rfl, rfl⟩) rfl rfl
    | dataR => exact h

theorem inv6_init : Inv6 init := by
  refine ⟨?_, ?_, ?_, ?_, ?_⟩
  · simp [init, Chain]
  · intro u sc hu; simp [init, PC.scan?] at hu
  · intro k hk; simp [init] at hk
  · intro k cd hc; simp [init] at hc
  · intro t c hc; simp [init, PC.mw] at hc

end NsyncVerif.MuC
