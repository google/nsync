/-
  Proofs/WaitNSemBind.lean — `BindEff`: what one step does to the lazy binding call ↔ semaphore
  (`Frame.sem`, `State.semUser`): a binding is created by the first semaphore event that names the semaphore
  (the caller's pd_enter or a waker's V), is never changed, and is dropped by the caller's nsync_waiter_free_.
-/
import NsyncVerif.Proofs.WaitNSem


namespace WaitN

def BindEff (s s' : State) (u : Tid) : Prop :=
  (∀ t j, (s.fr t).sem = some j → (s'.fr t).sem = some j ∨ (t = u ∧ inSleep (s'.pc u) = false))
  ∧ (∀ t j, (s'.fr t).sem = some j → (s.fr t).sem = some j ∨ (s.semUser j = none ∧ s'.semUser j = some t))
  ∧ (∀ j, s'.semUser j = s.semUser j ∨ (s.semUser j = none ∧ ∃ t, s'.semUser j = some t ∧ (s'.fr t).sem = some j)
        ∨ (s'.semUser j = none ∧ (s.fr u).sem = some j ∧ (s'.fr u).sem = none))
  ∧ (∀ j, s'.pc u = .wPdWait j → s.pc u = .wPdWait j ∨ (s'.fr u).sem = some j)

theorem BindEff.of_same {s s' : State} {u : Tid} (hf : ∀ t, (s'.fr t).sem = (s.fr t).sem) (hu : s'.semUser = s.semUser)
    (hp : ∀ j, s'.pc u = .wPdWait j → s.pc u = .wPdWait j) : BindEff s s' u :=
  ⟨fun t j h => .inl (by rw [hf]; exact h), fun t j h => .inl (by rw [← hf]; exact h), fun j => .inl (by rw [hu]),
   fun j h => .inl (hp j h)⟩

theorem BindEff.refl (s : State) (u : Tid) : BindEff s s u := BindEff.of_same (fun _ => rfl) rfl (fun _ h => h)

/-- the state before the step may be replaced by one with the same frames, users and program counters -/
theorem BindEff.pre {s1 s s' : State} {u : Tid} (h : BindEff s1 s' u) (hf : s1.fr = s.fr) (hu : s1.semUser = s.semUser)
    (hpc : s1.pc = s.pc) : BindEff s s' u := by
  unfold BindEff at *
  rw [hf, hu, hpc] at h
  exact h

/-- … and the state after it by one with the same frames and users, when the new program counter is not the P -/
theorem BindEff.post {s s1 s' : State} {u : Tid} (h : BindEff s s1 u) (hf : s'.fr = s1.fr) (hu : s'.semUser = s1.semUser)
    (hpc : ∀ j, s'.pc u ≠ .wPdWait j) (hsl : inSleep (s1.pc u) = false → inSleep (s'.pc u) = false) : BindEff s s' u := by
  unfold BindEff at *
  rw [hf, hu]
  refine ⟨fun t j hj => ?_, h.2.1, h.2.2.1, fun j hj => absurd hj (hpc j)⟩
  rcases h.1 t j hj with h1 | ⟨h1, h2⟩
  · exact .inl h1
  · exact .inr ⟨h1, hsl h2⟩

theorem bind_bindSem {s s' : State} {o : Tid} {j : SemId} (u : Tid) (h : bindSem s o j = some s') :
    BindEff s s' u ∧ (s'.fr o).sem = some j ∧ s'.pc = s.pc := by
  unfold bindSem at h
  split at h
  · rename_i j' hj
    split at h
    · rename_i he; subst he; cases h; exact ⟨BindEff.refl _ _, hj, rfl⟩
    · cases h
  · rename_i hn
    split at h
    · cases h
    · rename_i hnu
      cases h
      refine ⟨⟨fun t j0 hj0 => .inl ?_, fun t j0 hj0 => ?_, fun j0 => ?_, fun j0 hj0 => .inl hj0⟩, by simp, rfl⟩
      · simp only [setSemUser_fr, setFr_fr]
        split
        · rename_i ht; subst ht; rw [hn] at hj0; cases hj0
        · exact hj0
      · simp only [setSemUser_fr, setFr_fr] at hj0
        split at hj0
        · rename_i ht; subst ht
          simp only at hj0; cases hj0
          exact .inr ⟨hnu, by simp⟩
        · exact .inl hj0
      · simp only [setSemUser_semUser]
        split
        · rename_i hjj; subst hjj
          exact .inr (.inl ⟨hnu, o, rfl, by simp⟩)
        · exact .inl rfl

theorem bind_postSem {s s' : State} {r : Rid} {j : SemId} (u : Tid) (h : postSem s r j = some s') :
    BindEff s s' u ∧ s'.pc = s.pc := by
  unfold postSem at h
  split at h
  · have := bind_bindSem u h; exact ⟨this.1, this.2.2⟩
  · cases h; exact ⟨BindEff.refl _ _, rfl⟩

theorem bind_dflt {s s' : State} {u : Tid} {e : Ev} (h : dflt s u e = .ok s') : BindEff s s' u := by
  obtain ⟨f, rfl⟩ := dflt_sem h; exact BindEff.of_same (fun _ => rfl) rfl (fun _ h => h)

/-- closes `∀ t, (s'.fr t).sem = (s.fr t).sem` for an explicit s' -/
macro "frsem_tac" : tactic =>
  `(tactic| (intro x; simp only [setPc_fr, setFr_fr, setObj_fr, setRec_fr, setSem_fr, setPost_fr, setMc_fr, setSemUser_fr, kill_fr,
                ownerRemove_fr] <;> (try split) <;> (try subst_vars) <;> rfl))

theorem bind_rtDone {s s' : State} {t : Tid} {u : Use} {i : Nat} {time : Deadline} (h : rtDone s t u i time = .ok s') :
    BindEff s s' t := by
  unfold rtDone at h
  split_ok h
  all_goals (cases h; refine BindEff.of_same (by frsem_tac) rfl ?_; intro j hj; simp at hj)

theorem bind_afterEnq {s s' : State} {t : Tid} {i : Nat} {res : Bool} (h : afterEnq s t i res = .ok s') :
    BindEff s s' t := by
  unfold afterEnq at h
  cases h
  refine BindEff.of_same ?_ rfl ?_
  · intro x; simp only [setPc_fr, setFr_fr]; split
    · rename_i hx; subst hx; split <;> rfl
    · rfl
  · intro j hj; simp at hj

theorem bind_unbindSem (s : State) (t : Tid) :
    (∀ x j, (s.fr x).sem = some j → ((unbindSem s t).fr x).sem = some j ∨ x = t)
    ∧ (∀ x j, ((unbindSem s t).fr x).sem = some j → (s.fr x).sem = some j)
    ∧ (∀ j, (unbindSem s t).semUser j = s.semUser j ∨ ((unbindSem s t).semUser j = none ∧ (s.fr t).sem = some j))
    ∧ ((unbindSem s t).fr t).sem = none ∧ (unbindSem s t).pc = s.pc := by
  unfold unbindSem
  split
  · rename_i j hj
    refine ⟨fun x j0 h0 => ?_, fun x j0 h0 => ?_, fun j0 => ?_, by simp, rfl⟩
    · by_cases hx : x = t
      · exact .inr hx
      · left; simp [hx]; exact h0
    · by_cases hx : x = t
      · subst hx; simp at h0
      · simpa [hx] using h0
    · simp only [setSemUser_semUser]
      split
      · rename_i hjj; subst hjj; exact .inr ⟨rfl, hj⟩
      · exact .inl rfl
  · rename_i hn
    refine ⟨fun x j0 h0 => ?_, fun x j0 h0 => ?_, fun j0 => .inl rfl, by simp [hn], rfl⟩
    · by_cases hx : x = t
      · exact .inr hx
      · left; simp [hx]; exact h0
    · by_cases hx : x = t
      · subst hx; simp [hn] at h0
      · simpa [hx] using h0

theorem bind_deqDone {s s' : State} {t : Tid} {j : Nat} {res : Bool} (h : deqDone s t j res = .ok s') :
    BindEff s s' t := by
  unfold deqDone at h
  dsimp only at h
  split at h
  · cases h
    refine BindEff.of_same (by frsem_tac) rfl ?_
    intro j hj; simp at hj
  · cases h
    have hu := bind_unbindSem (s.setFr t
      { s.fr t with ready := if (!res ∧ (s.fr t).ready = (s.fr t).count) then j else (s.fr t).ready,
                    deqRes := (s.fr t).deqRes ++ [res],
                    deqUnl := (s.fr t).deqUnl ++ [match (s.fr t).recs[j]? with | some r => (s.rcd r).unl | none => .none] }) t
    refine ⟨fun x j0 h0 => ?_, fun x j0 h0 => .inl ?_, fun j0 => ?_, fun j0 h0 => ?_⟩
    · by_cases hx : x = t
      · exact .inr ⟨hx, by simp⟩
      · rcases hu.1 x j0 (by simpa [hx] using h0) with h1 | h1
        · exact .inl h1
        · exact absurd h1 hx
    · have := hu.2.1 x j0 h0
      by_cases hx : x = t
      · subst hx; simpa using this
      · simpa [hx] using this
    · rcases hu.2.2.1 j0 with h1 | ⟨h1, h2⟩
      · exact .inl h1
      · exact .inr (.inr ⟨h1, by simpa using h2, hu.2.2.2.1⟩)
    · simp at h0

/-! ### `BindEff` for every accepted step, by the shape of its `Tail`. -/

theorem BindEff.post_same {s s1 s' : State} {u : Tid} (h : BindEff s s1 u) (hf : s'.fr = s1.fr) (hu : s'.semUser = s1.semUser)
    (hpc : s'.pc = s1.pc) : BindEff s s' u := by
  unfold BindEff at *
  rw [hf, hu, hpc]; exact h

/-- closes `∀ j, s'.pc u = .wPdWait j → s.pc u = .wPdWait j` for an explicit s' -/
macro "pdw_tac" : tactic =>
  `(tactic| (intro j hj; first | (simp at hj; done) | exact hj | (simp at hj; exact hj) | (simp [startScan] at hj; done)))

macro "bind_leaf" h:ident : tactic =>
  `(tactic| first
    | exact bind_dflt $h
    | exact bind_spinAcq (by intro x j; simp) (by intro j; simp) $h
    | (have hb := bind_rtDone $h; exact hb.pre rfl rfl rfl)
    | (have hb := bind_deqDone $h; exact hb.pre rfl rfl rfl)
    | (have hb := bind_afterEnq $h; exact hb.pre rfl rfl rfl)
    | (cases $h:ident; first
        | exact BindEff.refl _ _
        | (refine BindEff.of_same ?_ rfl ?_ <;> first | frsem_tac | pdw_tac)
        | (refine BindEff.of_same ?_ rfl ?_ <;> first | (unfold startScan; frsem_tac) | pdw_tac)
        | (have hps := ‹postSem _ _ _ = some _›
           exact (bind_postSem _ hps).1.post_same rfl rfl rfl)
        | (have hps := ‹postSem _ _ _ = some _›
           refine (bind_postSem _ hps).1.post rfl rfl ?_ ?_ <;> (intro j; simp [inSleep]))))

/-- a local statement that keeps the binding and does not go to the P -/
theorem bind_local {s : State} {t : Tid} {f : Frame} {p : PC} (hs : f.sem = (s.fr t).sem) (hp : ∀ j, p ≠ .wPdWait j) :
    BindEff s ((s.setFr t f).setPc t p) t := by
  refine .of_same (fun x => ?_) rfl fun j hj => ?_
  · rw [setPc_fr, setFr_fr]; split
    · rename_i h; rw [h, hs]
    · rfl
  · rw [setPc_pc, if_pos rfl] at hj; exact absurd hj (hp j)

/-- the frame is replaced by one without semaphore, outside the sleep loop -/
theorem bind_reset {s : State} {t : Tid} {f : Frame} {p : PC} (hs : f.sem = none) (hp : inSleep p = false) :
    BindEff s ((s.setFr t f).setPc t p) t := by
  have hpc : ((s.setFr t f).setPc t p).pc t = p := by rw [setPc_pc, if_pos rfl]
  refine ⟨fun x j0 h0 => ?_, fun x j0 h0 => .inl ?_, fun j0 => .inl rfl, fun j0 h0 => ?_⟩
  · by_cases hx : x = t
    · exact .inr ⟨hx, by rw [hpc]; exact hp⟩
    · left; rw [setPc_fr, setFr_fr, if_neg hx]; exact h0
  · by_cases hx : x = t
    · subst hx; rw [setPc_fr, setFr_fr, if_pos rfl, hs] at h0; cases h0
    · rw [setPc_fr, setFr_fr, if_neg hx] at h0; exact h0
  · rw [hpc] at h0; subst h0; cases hp

theorem bind_tail {s s1 s' : State} {t : Tid} {e : Ev} {k : Kind} (hpc1 : s1.pc = s.pc) (b : Tail s s1 t e k s') :
    BindEff s1 s' t := by
  cases b
  case same => exact .refl _ _
  case goto p hf =>
    refine .of_same (fun _ => rfl) rfl fun j hj => ?_
    rw [setPc_pc, if_pos rfl] at hj; exact absurd hj (hf.ne_pd j)
  case giveUp =>
    refine .of_same (fun _ => rfl) rfl fun j hj => ?_
    rw [setPc_pc, if_pos rfl] at hj; cases hj
  case nested => exact .of_same (fun _ => rfl) rfl fun _ h => h
  case dflt h => exact bind_dflt h
  case rtDone h => exact bind_rtDone h
  case afterEnq h => exact bind_afterEnq h
  case deqDone h => exact bind_deqDone h
  case v r j s2 hp0 he h => exact (bind_postSem t h).1.post_same rfl rfl rfl
  case vgoto r j s2 hp0 he h c bc st0 st hpc hf0 =>
    refine (bind_postSem t h).1.post rfl rfl (fun j hj => ?_) fun _ => ?_
    · rw [setPc_pc, if_pos rfl] at hj; cases hj
    · rw [setPc_pc, if_pos rfl]; rfl
  case pdEnter j d s2 hpc he h =>
    obtain ⟨⟨k1, k2, k3, k4⟩, hsem, hpc2⟩ := bind_bindSem t h
    refine ⟨fun x j0 h0 => ?_, k2, k3, fun j0 h0 => .inr ?_⟩
    · rcases k1 x j0 h0 with h1 | ⟨h1, h2⟩
      · exact .inl h1
      · rw [hpc2, hpc1, hpc] at h2; cases h2
    · rw [setPc_pc, if_pos rfl] at h0; cases h0; exact hsem
  case pdWake j n hpc he hs =>
    have b : BindEff s1 ((s1.setFr t { s1.fr t with min := (s1.fr t).dl, who := none }).setPc t
        (loopNext { s1.fr t with min := (s1.fr t).dl, who := none } 0)) t := bind_local rfl fun j h => by simp at h
    exact b.post_same rfl rfl rfl
  case call mu dl objs nested hpc hne hk hs =>
    refine bind_reset rfl ?_
    exact inSleep_pollFrom _ (List.length_pos_iff.2 hne) _ _
  case alloc => exact bind_local rfl fun j h => by simp at h
  case init i r oid hpc _ _ _ _ => exact bind_local rfl fun j h => by split at h <;> cases h
  case unlockMu => exact bind_local rfl fun j h => by simp at h
  case timeout => exact bind_local rfl fun j h => by simp at h
  case free => exact bind_local rfl fun j h => by simp at h
  case relock => exact bind_local rfl fun j h => by cases h
  case ret => exact bind_reset rfl rfl

theorem bind_stepThr {s s' : State} {t : Tid} {e : Ev} (h : stepThr s t e = .ok s') : BindEff s s' t := by
  obtain ⟨_, s1, a, b⟩ := steps_stepThr h
  exact (bind_tail a.pc b).pre a.fr a.semUser a.pc

end WaitN
