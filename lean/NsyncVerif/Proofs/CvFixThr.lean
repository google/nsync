/-
  Layer `CvFix`: whose frame a transition changes.  A thread's frame changes only by a transition of
  that thread: a local one (`LTr`), or one of those that also change shared state, and these start
  from the program points `Loc.shared` only.
-/
import NsyncVerif.Proofs.CvFixInvA

namespace NsyncVerif.CvFix

theorem ltr_tid {s : State} {t : Tid} {e : Event} {x' : Thr} (h : LTr s t e x') : e.tid = some t := by
  cases h <;> rfl

/-- Program points from which a transition that changes more than the thread's frame starts. -/
def Loc.shared : Loc → Bool
  | .spCas | .wRel | .wRel2 | .sRel | .nEnqRel | .nDeqRel | .nDeqRelW | .dWalk | .wHead | .wCmp
  | .nLocked | .nDeqSpin | .wNew | .wClr | .wwStore | .nDeqSt | .wRmCas | .sRcCas | .wMode
  | .wwMuCas | .wwV | .wSemRet | .cWait => true
  | _ => false

theorem tr_thr {cfg : Config} {s s' : State} {e : Event} (h : Tr cfg s e s') (u : Tid) :
    s'.thr u = s.thr u ∨ (∃ x', LTr s u e x' ∧ s'.thr u = x') ∨
    (e.tid = some u ∧ (s.thr u).loc.shared = true) := by
  -- the acting thread `t0` at program point `l`
  have act : ∀ {t0 : Tid} {l : Loc}, (∀ v, v ≠ t0 → s'.thr v = s.thr v) → e.tid = some t0 →
      (s.thr t0).loc = l → l.shared = true → s'.thr u = s.thr u ∨ (∃ x', LTr s u e x' ∧ s'.thr u = x') ∨
        (e.tid = some u ∧ (s.thr u).loc.shared = true) := by
    intro t0 l ho ht hl hs
    by_cases hu : u = t0
    · subst hu; exact .inr (.inr ⟨ht, by rw [hl]; exact hs⟩)
    · exact .inl (ho u hu)
  cases h with
  | same | tick | semOther | wInit | nwInit | fStW | fCasOk => exact .inl rfl
  | loc h =>
    rename_i t0 x'
    by_cases hu : u = t0
    · subst hu; exact .inr (.inl ⟨x', h, by simp⟩)
    · exact .inl (by simp [hu])
  | acq t0 exp new obs o n hl =>
    exact act (fun v hv => afterAcquire_thr_other _ _ _ _ hv) rfl hl rfl
  | wHeadExit t0 r y hy hl => subst hy; exact act (fun v hv => by simp [hv]) rfl hl rfl
  | relWait t0 new obs n hl | relWait2 t0 new obs n hl | relSig t0 site new obs n hl
  | relEnq t0 new obs n hl | relDeq t0 new obs n hl | relDeqW t0 new obs n hl | relDbg t0 new obs n hl
  | wCmpEq t0 r obs hl | deqLdQueued t0 r obs hl | deqSpinExit t0 r hl | wSt1 t0 r obs hl
  | wClr t0 r obs hl | wake t0 r obs hl | enqSt t0 r obs hl | deqSt t0 r obs hl
  | wRmCasOk t0 r exp new obs hl | sRcCasOk t0 site r exp new obs hl | muMode t0 obs lt hl
  | wwCasOk t0 exp new obs f rest hl | semVWake t0 k r q hl | semPdRetOkW t0 k hl
  | semPdRetOkC t0 k hl =>
    exact act (fun v hv => by simp [hv]) rfl hl rfl

theorem Loc.afterLoop_cases {l : Loc} (h : l.afterLoop = true) :
    l = .wExit ∨ l = .wLocking ∨ l = .wRelocking ∨ l = .wRet := by
  cases l <;> first | (simp; done) | cases h

theorem afterLoop_not_shared {l : Loc} (h : l.afterLoop = true) : l.shared = false := by
  rcases Loc.afterLoop_cases h with h | h | h | h <;> rw [h] <;> rfl

/-- A step of another thread (or a tick) does not change the frame of `t`. -/
theorem tr_other {cfg : Config} {s s' : State} {e : Event} (h : Tr cfg s e s') {t : Tid}
    (hne : e.tid ≠ some t) : s'.thr t = s.thr t := by
  rcases tr_thr h t with h | ⟨x', h, _⟩ | ⟨h, _⟩
  · exact h
  · exact absurd (ltr_tid h) hne
  · exact absurd h hne

/-- A thread at a program point of a class that contains none of `Loc.shared` moves by local
    transitions only. -/
theorem tr_local {cfg : Config} {s s' : State} {e : Event} (h : Tr cfg s e s') {u : Tid}
    (hl : (s.thr u).loc.shared = false) :
    s'.thr u = s.thr u ∨ ∃ x', LTr s u e x' ∧ s'.thr u = x' := by
  rcases tr_thr h u with h | h | ⟨_, h⟩
  · exact .inl h
  · exact .inr h
  · rw [hl] at h; cases h

end NsyncVerif.CvFix
