import NsyncVerif.Gen.Sites
import NsyncVerif.Proofs.NoteVC
/-
  Tie lemma (T-gen) for the note edge of C03: the order `noteSiteOrd` gives to each atomic site of
  note.c / wait.c (and the NOTIFIED_TIME macro of common.h) that the product Note × vector clocks uses
  is the order the macro at that site of /repo's CURRENT source requests (regenerated `Gen.sites`).
-/
namespace NsyncVerif.Tie
theorem note_sites_tie : Note.noteSitesAgree Gen.sites = true := by decide +kernel
end NsyncVerif.Tie
