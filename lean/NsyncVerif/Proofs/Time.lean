/-
Helper lemmas for the Time layer (C18, C15 arithmetic half).
-/
import NsyncVerif.Model.Time

namespace NsyncVerif
namespace Time

theorem NS_IN_S_eq : NS_IN_S = 1000000000 := by decide

theorem million_eq : wrapI32 (1000 * 1000) = 1000000 := by decide

theorem million_toNat : (wrapI32 (1000 * 1000)).toNat = 1000000 := by decide

theorem noDeadline_eq : noDeadline = { sec := 9223372036854775807, nsec := 999999999 } := by decide

theorem InRange64_iff (x : Int) : InRange64 x ↔ -2^63 ≤ x ∧ x < 2^63 := by
  unfold InRange64; constructor <;> intro h <;> omega

/-! ### wrap functions are the identity on representable values, and always land in range -/

theorem wrap64_of_inRange {x : Int} (h : InRange64 x) : wrap64 x = x := by
  unfold InRange64 at h; unfold wrap64; omega

theorem wrap64_inRange (x : Int) : InRange64 (wrap64 x) := by
  unfold InRange64 wrap64; omega

/-- `wrap64` is congruent to its argument modulo 2^64 (two's complement). -/
theorem wrap64_mod (x : Int) : (wrap64 x - x) % 18446744073709551616 = 0 := by
  unfold wrap64; omega

theorem wrapI32_of_inRange {x : Int} (h : -2147483648 ≤ x ∧ x < 2147483648) : wrapI32 x = x := by
  unfold wrapI32; omega

theorem wrapU32_of_lt {x : Nat} (h : x < 4294967296) : wrapU32 x = x := by
  unfold wrapU32; omega

theorem norm_inRange {t : Time} (h : Norm t) : InRange64 t.nsec := by
  unfold Norm at h; unfold InRange64; omega

/-! ### cmp: the three-way comparison of the lexicographic order on `(sec, nsec)` -/

/-- The C idiom `(x > y) - (x < y)` is the sign of `x - y`. -/
theorem sign_idiom (x y : Int) :
    wrapI32 (b2i (decide (x > y)) - b2i (decide (x < y))) =
      if x < y then -1 else if y < x then 1 else 0 := by
  unfold b2i
  rcases Int.lt_trichotomy x y with h | h | h
  · simp [h, Int.lt_asymm h, wrapI32]
  · simp [h, wrapI32]
  · simp [h, Int.lt_asymm h, wrapI32]

/-- `cmp` compares `(sec, nsec)` lexicographically. -/
theorem cmp_eq (a b : Time) :
    cmp a b =
      if a.sec < b.sec then -1 else if b.sec < a.sec then 1
      else if a.nsec < b.nsec then -1 else if b.nsec < a.nsec then 1 else 0 := by
  unfold cmp
  simp only [sign_idiom]
  by_cases h1 : a.sec < b.sec
  · simp [h1]
  · by_cases h2 : b.sec < a.sec <;> simp [h1, h2]

theorem cmp_spec (a b : Time) :
    (cmp a b = 1 ∧ (a.sec > b.sec ∨ (a.sec = b.sec ∧ a.nsec > b.nsec))) ∨
    (cmp a b = 0 ∧ a.sec = b.sec ∧ a.nsec = b.nsec) ∨
    (cmp a b = -1 ∧ (a.sec < b.sec ∨ (a.sec = b.sec ∧ a.nsec < b.nsec))) := by
  rw [cmp_eq]
  split
  · exact .inr (.inr ⟨rfl, .inl ‹_›⟩)
  split
  · exact .inl ⟨rfl, .inl ‹_›⟩
  have hs : a.sec = b.sec := by omega
  split
  · exact .inr (.inr ⟨rfl, .inr ⟨hs, ‹_›⟩⟩)
  split
  · exact .inl ⟨rfl, .inr ⟨hs, ‹_›⟩⟩
  · exact .inr (.inl ⟨rfl, hs, by omega⟩)

theorem cmp_range (a b : Time) : cmp a b = -1 ∨ cmp a b = 0 ∨ cmp a b = 1 := by
  have := cmp_spec a b; omega

theorem time_ext {x y : Time} (h1 : x.sec = y.sec) (h2 : x.nsec = y.nsec) : x = y := by
  cases x; cases y; simp only at h1 h2; subst h1; subst h2; rfl

theorem cmp_swap (a b : Time) : cmp a b = - cmp b a := by
  have := cmp_spec a b; have := cmp_spec b a; omega

theorem cmp_le_iff (a b : Time) :
    cmp a b ≤ 0 ↔ a.sec < b.sec ∨ (a.sec = b.sec ∧ a.nsec ≤ b.nsec) := by
  have := cmp_spec a b; omega

/-- On normalized times `cmp a b ≤ 0` is the order of integer time. -/
theorem cmp_le_iff_toNs {a b : Time} (ha : Norm a) (hb : Norm b) : cmp a b ≤ 0 ↔ toNs a ≤ toNs b := by
  rw [cmp_le_iff]
  unfold Norm at ha hb; unfold toNs
  omega

theorem cmp_lt_iff (a b : Time) :
    cmp a b < 0 ↔ a.sec < b.sec ∨ (a.sec = b.sec ∧ a.nsec < b.nsec) := by
  have := cmp_spec a b; omega

theorem cmp_eq_zero_iff (a b : Time) : cmp a b = 0 ↔ a = b := by
  have := cmp_spec a b
  constructor
  · intro h; exact time_ext (by omega) (by omega)
  · intro h; subst h; omega

theorem cmp_noDeadline_le {d : Time} (hd : Norm d) (hr : InRange64 d.sec) :
    cmp d noDeadline ≤ 0 := by
  simp only [cmp_le_iff, noDeadline_eq]
  unfold Norm at hd; unfold InRange64 at hr
  omega

/-! ### add / sub in closed form under the exact no-overflow conditions -/

theorem add_eq_exact {a b : Time} (h : AddNoOverflow a b) :
    add a b =
      if a.nsec + b.nsec ≥ 1000000000 then
        { sec := a.sec + b.sec + 1, nsec := a.nsec + b.nsec - 1000000000 }
      else { sec := a.sec + b.sec, nsec := a.nsec + b.nsec } := by
  unfold AddNoOverflow at h
  rw [NS_IN_S_eq] at h
  obtain ⟨h0, hn, hc⟩ := h
  unfold add
  simp only [NS_IN_S_eq, wrap64_of_inRange hn, wrap64_of_inRange h0]
  split
  · rename_i hge
    rw [wrap64_of_inRange (hc hge).1, wrap64_of_inRange (hc hge).2]
  · rfl

theorem sub_eq_exact {a b : Time} (h : SubNoOverflow a b) :
    sub a b =
      if a.nsec < b.nsec then
        { sec := a.sec - b.sec - 1, nsec := a.nsec + 1000000000 - b.nsec }
      else { sec := a.sec - b.sec, nsec := a.nsec - b.nsec } := by
  unfold SubNoOverflow at h
  rw [NS_IN_S_eq] at h
  obtain ⟨h0, hb, hn⟩ := h
  unfold sub
  simp only [NS_IN_S_eq, wrap64_of_inRange h0]
  split
  · rename_i hlt
    rw [wrap64_of_inRange (hb hlt).1, wrap64_of_inRange (hb hlt).2.1,
        wrap64_of_inRange (hb hlt).2.2]
  · rename_i hge
    rw [wrap64_of_inRange (hn hge)]

/-- The hypotheses of C18_add imply that the C execution is overflow-free. -/
theorem addNoOverflow_of {a b : Time} (ha : Norm a) (hb : Norm b)
    (h1 : InRange64 (a.sec + b.sec + 1)) (h0 : InRange64 (a.sec + b.sec)) :
    AddNoOverflow a b := by
  unfold AddNoOverflow; rw [NS_IN_S_eq]
  unfold Norm at ha hb; unfold InRange64 at *
  omega

theorem subNoOverflow_of {a b : Time} (ha : Norm a) (hb : Norm b)
    (h1 : InRange64 (a.sec - b.sec - 1)) (h0 : InRange64 (a.sec - b.sec)) :
    SubNoOverflow a b := by
  unfold SubNoOverflow; rw [NS_IN_S_eq]
  unfold Norm at ha hb; unfold InRange64 at *
  omega

/-! ### ms / us: the machine expression equals the ideal one (no unsigned wrap) -/

/-- The `unsigned` product `1000 * 1000 * (ms % 1000)` never wraps: it is at most 999000000. -/
theorem ms_nsec_no_wrap (x : Nat) :
    wrapU32 ((wrapI32 (1000 * 1000)).toNat * (x % 1000)) = 1000000 * (x % 1000)
    ∧ 1000000 * (x % 1000) < 4294967296 := by
  rw [million_toNat]; unfold wrapU32; omega

/-- The `unsigned` product `1000 * (us % (1000 * 1000))` never wraps: at most 999999000. -/
theorem us_nsec_no_wrap (x : Nat) :
    wrapU32 (1000 * (x % (wrapI32 (1000 * 1000)).toNat)) = 1000 * (x % 1000000)
    ∧ 1000 * (x % 1000000) < 4294967296 := by
  rw [million_toNat]; unfold wrapU32; omega

/-- `unsigned -> long` is value-preserving. -/
theorem wrap64_ofNat {n : Nat} (hn : n < 4294967296) : wrap64 (Int.ofNat n) = Int.ofNat n :=
  wrap64_of_inRange (by unfold InRange64; simp only [Int.ofNat_eq_natCast]; omega)

theorem sNs_eq (s : Int) {n : Nat} (hn : n < 4294967296) :
    sNs s n = { sec := s, nsec := Int.ofNat n } := by
  unfold sNs; rw [wrap64_ofNat hn]

theorem ms_eq (x : Nat) (hx : x < 4294967296) :
    ms x = { sec := Int.ofNat (x / 1000), nsec := Int.ofNat (1000000 * (x % 1000)) } := by
  unfold ms
  rw [(ms_nsec_no_wrap x).1, sNs_eq _ (ms_nsec_no_wrap x).2, wrap64_ofNat (by omega)]

theorem us_eq (x : Nat) (hx : x < 4294967296) :
    us x = { sec := Int.ofNat (x / 1000000), nsec := Int.ofNat (1000 * (x % 1000000)) } := by
  unfold us
  rw [(us_nsec_no_wrap x).1, sNs_eq _ (us_nsec_no_wrap x).2, million_toNat,
    wrap64_ofNat (by omega)]

end Time
end NsyncVerif
