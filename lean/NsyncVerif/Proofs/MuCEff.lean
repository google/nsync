import NsyncVerif.Proofs.MuCCas
import NsyncVerif.Proofs.MuCShare
/-
  MuC: what one accepted step does, by kind.  A step of thread `t` moves the program point of `t` and makes at
  most one named update besides: nothing (`PcMove`), the word and the record released (`CasPc`/`CasOk`),
  a store (`StEff`), a return (`RetPc`/`RetEff`), a call (`CallPc`/`CallEff`), a semaphore count (`SemPc`/`SemEff`), the
  plain code of the scan (`ScanStart`), or one of a few single shapes.  `Eff` is their union, `step_eff` says that every
  accepted event of a thread is one of them, `EnvEff`/`step_env` the same for the events of no thread.  The guards the
  model tests are hypotheses of the rules.
-/
namespace NsyncVerif.MuC

/-! ### return -/

/-- The return points: the mode the client holds afterwards (`hd`: what it held before), the record released,
    and whether the snapshot of the data is taken (a write section begins). -/
inductive RetPc (hd : Option Mode) : PC → Option Mode → Option Wid → Bool → Prop
  | lk (l : Mode) : RetPc hd (.lkRet l) (some l) none (l == .W)
  | try_ (l : Mode) (r : Bool) : RetPc hd (.tryRet l r) (if r then some l else none) none (r && l == .W)
  | ul (l : Mode) (nw : Bool) : RetPc hd (.ulRet l nw) hd none false
  | mw (c : MW) (cit : Bool) : RetPc hd (.mwRet c cit) (some c.l) c.w (!c.first && c.l == .W)

/-- A return of `t`: back to `idle`, `held t := m`, the record `w` released. -/
structure RetEff (s : State) (t : Tid) (m : Option Mode) (w : Option Wid) (snap : Bool) (s' : State) : Prop where
  pc : s'.pc = setFn s.pc t .idle
  wr : s'.wr = (dropW s w).wr
  held : s'.held = setFn s.held t m
  secStart : s'.secStart = if snap then s.data else s.secStart
  word : s'.word = s.word
  queue : s'.queue = s.queue
  data : s'.data = s.data
  cargs : s'.cargs = s.cargs
  now : s'.now = s.now
  wOwner : s'.wOwner = s.wOwner
  rOwners : s'.rOwners = s.rOwners
  sp : s'.sp = s.sp
  nwViol : s'.nwViol = s.nwViol

theorem stepRet_eff {s s' : State} {t : Tid} {a : Api} {res : Res} (hs : stepRet s t a res = .ok s') :
    ∃ m w snap, RetPc (s.held t) (s.pc t) m w snap ∧ RetEff s t m w snap s' := by
  unfold stepRet at hs
  split at hs
  case h_1 heq | h_2 heq =>
    rw [heq]; cases hs
    exact ⟨_, _, _, .lk _, by constructor <;> first | rfl | simp [dropW, setHeld]⟩
  case h_3 heq | h_4 heq =>
    rw [heq]
    split at hs
    · cases hs
      refine ⟨_, _, _, .try_ _ _, ?_⟩
      constructor <;> first | rfl | simp_all [setHeld]
    · cases hs
  case h_5 heq | h_6 heq | h_7 heq =>
    rw [heq]; cases hs
    exact ⟨_, _, _, .ul _ _, by constructor <;> first | rfl | simp [setFn_self]⟩
  case h_8 c cit cnd dl note o heq =>
    rw [heq]
    obtain ⟨-, g1⟩ := guard_ok hs
    obtain ⟨-, g2⟩ := guard_ok g1
    cases g2
    clear hs g1
    refine ⟨_, _, _, .mw c cit, ?_⟩
    cases hf : c.first <;> constructor <;> first | rfl | (simp [setHeld]; done) | (cases c.w <;> simp [dropW, setHeld])
  case h_9 => cases hs

/-! ### call -/

/-- The contract of nsync_mu_unlock_without_wakeup is broken by this release: a queued waiter's condition became
    true in the write section that ends. -/
def nwBroken (s : State) : Bool :=
  s.queue.any (fun k =>
    match (s.wr k).cond with
    | some c => !evalCond s.secStart c && evalCond s.data c
    | none => false)

/-- The calls that are no quiet moves (unlock functions, nsync_mu_wait): the entry point, whether it is
    unlock_without_wakeup, the condition whose argument object is recorded; what the caller must hold. -/
inductive CallPc (s : State) (t : Tid) : PC → Bool → Option Cond → Prop
  | ul (l : Mode) (nw : Bool) : s.held t = some l → (nw = true → l = .W) → CallPc s t (.ulCas0 l nw) nw none
  | wait (m : Mode) (cnd : Option Cond) (dl : Option Int) (note : Bool) : s.held t = some m →
      (∀ cd, cnd = some cd → s.cargs cd.k = none ∨ s.cargs cd.k = some (cd.var, cd.val, cd.hasEq)) →
      CallPc s t (.mwLd0 { hm := m, l := m, cond := cnd, dl := dl, note := note, first := true, w := none, rcl := 0,
                           hadW := false, so := .ok, hl := false, outc := .ok, saw := false }) false cnd

/-- A call of `t` from `idle` to `p'` that gives up `held t`. -/
structure CallEff (s : State) (t : Tid) (p' : PC) (nw : Bool) (ca : Option Cond) (s' : State) : Prop where
  pc : s'.pc = setFn s.pc t p'
  held : s'.held = setFn s.held t none
  nwViol : s'.nwViol = (s.nwViol || (nw && nwBroken s))
  cargs : s'.cargs = match ca with
    | none => s.cargs
    | some cd => setFn s.cargs cd.k (some (cd.var, cd.val, cd.hasEq))
  wr : s'.wr = s.wr
  word : s'.word = s.word
  queue : s'.queue = s.queue
  data : s'.data = s.data
  now : s'.now = s.now
  wOwner : s'.wOwner = s.wOwner
  rOwners : s'.rOwners = s.rOwners
  sp : s'.sp = s.sp
  secStart : s'.secStart = s.secStart

theorem stepCall_eff {s s' : State} {t : Tid} {a : Api} (hs : stepCall s t a = .ok s') :
    s.pc t = .idle ∧ ((∃ p', PcMove s .idle p' ∧ s.held t = none ∧ s' = setPc s t p') ∨
      ∃ p' nw ca, CallPc s t p' nw ca ∧ CallEff s t p' nw ca s') := by
  unfold stepCall at hs
  split at hs
  · rename_i heq
    refine ⟨heq, ?_⟩
    cases a with
    | lock | rlock | trylock | rtrylock =>
      dsimp only at hs
      split at hs
      · cases hs; exact Or.inl ⟨_, by constructor, ‹_›, rfl⟩
      · cases hs
    | unlock =>
      dsimp only at hs
      split at hs
      · cases hs; exact Or.inr ⟨_, _, _, .ul .W false ‹_› (by simp), by constructor <;> simp⟩
      · cases hs
    | runlock =>
      dsimp only at hs
      split at hs
      · cases hs; exact Or.inr ⟨_, _, _, .ul .R false ‹_› (by simp), by constructor <;> simp⟩
      · cases hs
    | unlockNw =>
      dsimp only at hs
      split at hs
      · cases hs; exact Or.inr ⟨_, _, _, .ul .W true ‹_› (by simp), by constructor <;> first | rfl | simp only [nwBroken, Bool.true_and]⟩
      · cases hs
    | wait cnd dl note =>
      dsimp only at hs
      split at hs
      · cases hs
      · rename_i m hm
        split at hs
        · cases hs; exact Or.inr ⟨_, _, _, .wait m none dl note hm (by simp), by constructor <;> simp⟩
        · rename_i cd
          split at hs
          · cases hs
          · rename_i hg
            cases hs
            refine Or.inr ⟨_, _, _, .wait m (some cd) dl note hm ?_, by constructor <;> simp⟩
            intro cd' e; cases e
            by_cases h : s.cargs cd.k = none
            · exact Or.inl h
            · exact Or.inr (Decidable.of_not_not fun h2 => hg ⟨h, h2⟩)
  · cases hs

/-! ### a semaphore count -/

/-- The thread consumes a post of its own semaphore (`lsPRet`, `mwPdRet`), or posts the semaphore of a waiter it
    wakes (`usWakeV`): the two program points, the record and its new count. -/
inductive SemPc (cfg : Cfg) (s : State) : PC → PC → Wid → Nat → Prop
  | ls (c : SL) (k : Wid) : c.w = some k → (s.wr k).sem ≠ 0 →
      SemPc cfg s (.lsPRet c) (.lsWaitLd c) k (if cfg.binary then 0 else (s.wr k).sem - 1)
  | mw (c : MW) (dl : Option Int) (k : Wid) : c.w = some k → (s.wr k).sem ≠ 0 →
      SemPc cfg s (.mwPdRet c dl) (.mwLd255 c) k (if cfg.binary then 0 else (s.wr k).sem - 1)
  | v (r : Ret) (k : Wid) (rest : List Wid) :
      SemPc cfg s (.usWakeV r k rest) (finPc r rest) k (if cfg.binary then 1 else (s.wr k).sem + 1)

/-- `s'` is `s` with the program point of `t` moved and `sem` of record `k` set to `n`. -/
structure SemEff (s : State) (t : Tid) (p' : PC) (k : Wid) (n : Nat) (s' : State) : Prop where
  pc : s'.pc = setFn s.pc t p'
  wr : s'.wr = setFn s.wr k { s.wr k with sem := n }
  word : s'.word = s.word
  queue : s'.queue = s.queue
  data : s'.data = s.data
  cargs : s'.cargs = s.cargs
  now : s'.now = s.now
  held : s'.held = s.held
  wOwner : s'.wOwner = s.wOwner
  rOwners : s'.rOwners = s.rOwners
  sp : s'.sp = s.sp
  secStart : s'.secStart = s.secStart
  nwViol : s'.nwViol = s.nwViol

theorem SemEff.of_eq {s : State} {t : Tid} {p' : PC} {k : Wid} {n : Nat} :
    SemEff s t p' k n { setPc s t p' with wr := setFn s.wr k { s.wr k with sem := n } } :=
  ⟨rfl, rfl, rfl, rfl, rfl, rfl, rfl, rfl, rfl, rfl, rfl, rfl, rfl⟩

theorem step_semPRet {cfg : Cfg} {s s' : State} {t : Tid} {k : Wid} (hs : step cfg s (.semPRet t k) = .ok s') :
    ∃ p' n, SemPc cfg s (s.pc t) p' k n ∧ SemEff s t p' k n s' := by
  simp only [step] at hs
  split at hs
  · rename_i c heq
    split at hs; · cases hs
    split at hs; · cases hs
    cases hs
    exact ⟨_, _, by rw [heq]; exact .ls c k (by simp_all) (by assumption), .of_eq⟩
  · cases hs

theorem step_semPdRet {cfg : Cfg} {s s' : State} {t : Tid} {k : Wid} {b : Bool} (hs : step cfg s (.semPdRet t k b) = .ok s') :
    (∃ p', PcMove s (s.pc t) p' ∧ s' = setPc s t p') ∨ ∃ p' n, SemPc cfg s (s.pc t) p' k n ∧ SemEff s t p' k n s' := by
  simp only [step] at hs
  split at hs
  · rename_i c dl heq
    split at hs; · cases hs
    split at hs
    · split at hs; · cases hs
      cases hs
      exact Or.inr ⟨_, _, by rw [heq]; exact .mw c dl k (by simp_all) (by assumption), .of_eq⟩
    · split at hs
      · cases hs
      · rename_i d
        split at hs; · cases hs
        split at hs
        · cases hs; exact Or.inl ⟨_, by rw [heq]; exact .semTimedOut c _ d rfl (by omega) (by assumption), rfl⟩
        · cases hs; exact Or.inl ⟨_, by rw [heq]; exact .semNoteDl c _, rfl⟩
  · cases hs

theorem step_semV {cfg : Cfg} {s s' : State} {t : Tid} {k : Wid} (hs : step cfg s (.semV t k) = .ok s') :
    ∃ p' n, SemPc cfg s (s.pc t) p' k n ∧ SemEff s t p' k n s' := by
  simp only [step] at hs
  split at hs
  · rename_i r k' rest heq
    split at hs; · cases hs
    cases hs
    obtain rfl : k = k' := Decidable.of_not_not ‹_›
    refine ⟨_, _, by rw [heq]; exact .v r k rest, ?_⟩
    rw [afterFin_eq]
    exact ⟨rfl, rfl, rfl, rfl, rfl, rfl, rfl, rfl, rfl, rfl, rfl, rfl, rfl⟩
  · cases hs

/-! ### the scan -/

/-- A step that continues with the plain code of the scan of unlock_slow for the caller `r`: the four CASes when
    they succeed (grab, mu.c:354 release, mu.c:399 re-acquire, remove_count) and the evaluation of a condition;
    the state and locals the plain code starts from, and its outcome. -/
inductive ScanStart (s : State) (t : Tid) (r : Ret) (s' : State) : Prop
  | grab (old : Word) : s.pc t = .usCasGrab r old → s.word = old →
      afterPickup (pickup ({ subShare { s with word := grabWord r.mode old.cond old, sp := some t } t r.mode with
          wOwner := if old.cond then some t else (subShare { s with word := grabWord r.mode old.cond old, sp := some t } t r.mode).wOwner })
        { late := old.cond, tc := old.cond, done := [], passed := [], todo := [], wake := [], wt := none, sww := false, saf := true }) t r
        { late := old.cond, tc := old.cond, done := [], passed := [], todo := [], wake := [], wt := none, sww := false, saf := true } = .ok s' →
      ScanStart s t r s'
  | rel (sc : Scan) (old : Word) : s.pc t = .usRelCas r sc old → s.word = old →
      scanRun 3 { s with word := { old with spin := false }, sp := none } t r sc = .ok s' → ScanStart s t r s'
  | re (sc : Scan) (old : Word) : s.pc t = .usReCas r sc old → s.word = old →
      afterPickup (pickup { s with word := { old with spin := true }, sp := some t } sc) t r sc = .ok s' → ScanStart s t r s'
  | rc (sc : Scan) (k : Wid) (old : Nat) : s.pc t = .usRcCas r sc k old →
      scanRun 3 { s with wr := setFn s.wr k { s.wr k with rc := (old + 1) % 4294967296 } } t r sc = .ok s' → ScanStart s t r s'
  | eval (sc : Scan) (k : Wid) (rest : List Wid) (cd : Cond) : s.pc t = .usEval r sc → sc.todo = k :: rest →
      (s.wr k).cond = some cd → afterEval s t r sc (evalCond s.data cd) = .ok s' → ScanStart s t r s'


/-- The program points from which a step runs the plain code of the scan. -/
def PC.scanSrc : PC → Option Ret
  | .usCasGrab r _ | .usRelCas r _ _ | .usReCas r _ _ | .usRcCas r _ _ _ | .usEval r _ => some r
  | _ => none

/-- The owner of the spinlock after a scan step of `t` from this program point. -/
def PC.scanSp (t : Tid) (sp : Option Tid) : PC → Option Tid
  | .usCasGrab _ _ | .usReCas _ _ _ => some t
  | .usRelCas _ _ _ => none
  | _ => sp

/-- MU_SPINLOCK after a scan step from this program point. -/
def PC.scanSpin (b : Bool) : PC → Bool
  | .usCasGrab _ _ | .usReCas _ _ _ => true
  | .usRelCas _ _ _ => false
  | _ => b

/-- A scan step of `t` as far as it does not concern queue and records: where the thread stops (`ScanPc`), the
    word, the ghost owners, what is unchanged. -/
structure ScanBase (s : State) (t : Tid) (r : Ret) (late : Bool) (s' : State) : Prop where
  src : (s.pc t).scanSrc = some r
  dst : ScanPc r late (s'.pc t)
  oth : ∀ u, u ≠ t → s'.pc u = s.pc u
  word : (∃ b, s'.word = { s.word with spin := b }) ∨
    (s.pc t = .usCasGrab r s.word ∧ s'.word = grabWord r.mode s.word.cond s.word ∧ late = s.word.cond)
  own : (s'.wOwner = s.wOwner ∧ s'.rOwners = s.rOwners) ∨
    (s.pc t = .usCasGrab r s.word ∧ s'.wOwner = (if s.word.cond then some t else (subShare s t r.mode).wOwner) ∧
      s'.rOwners = (subShare s t r.mode).rOwners)
  sp : s'.sp = (s.pc t).scanSp t s.sp
  spin : s'.word.spin = (s.pc t).scanSpin s.word.spin
  share : (∀ old, s.pc t ≠ .usCasGrab r old) → pcShare (s.pc t) = if late then some .W else none
  data : s'.data = s.data
  now : s'.now = s.now
  held : s'.held = s.held
  nwViol : s'.nwViol = s.nwViol
  cargs : s'.cargs = s.cargs
  secStart : s'.secStart = s.secStart

/-- From the outcome of the plain code started in `s0`, which differs from `s` in word, ghosts and a `rc` at most. -/
theorem ScanBase.of_frame {s s0 s' : State} {t : Tid} {r : Ret} {late : Bool} {c : Prop}
    (hf : Frame s0 s' ∧ ∃ p, s'.pc = setFn s0.pc t p ∧ (c → ScanPc r late p)) (hok : c) (src : (s.pc t).scanSrc = some r) (hpc : s0.pc = s.pc)
    (hw : (∃ b, s0.word = { s.word with spin := b }) ∨
      (s.pc t = .usCasGrab r s.word ∧ s0.word = grabWord r.mode s.word.cond s.word ∧ late = s.word.cond))
    (hown : (s0.wOwner = s.wOwner ∧ s0.rOwners = s.rOwners) ∨
      (s.pc t = .usCasGrab r s.word ∧ s0.wOwner = (if s.word.cond then some t else (subShare s t r.mode).wOwner) ∧
        s0.rOwners = (subShare s t r.mode).rOwners))
    (hsp : s0.sp = (s.pc t).scanSp t s.sp) (hspin : s0.word.spin = (s.pc t).scanSpin s.word.spin)
    (hshare : (∀ old, s.pc t ≠ .usCasGrab r old) → pcShare (s.pc t) = if late then some .W else none)
    (hd : s0.data = s.data) (hn : s0.now = s.now) (hh : s0.held = s.held) (hv : s0.nwViol = s.nwViol)
    (hc : s0.cargs = s.cargs) (hss : s0.secStart = s.secStart) :
    ScanBase s t r late s' := by
  obtain ⟨hf, p, e, hsc⟩ := hf
  exact ⟨src, by rw [e]; simpa using hsc hok, fun u hu => by rw [e, hpc]; exact setFn_other _ _ _ _ hu, by rw [hf.word]; exact hw,
    by rw [hf.wOwner, hf.rOwners]; exact hown, by rw [hf.sp, hsp], by rw [hf.word, hspin], hshare, by rw [hf.data, hd], by rw [hf.now, hn], by rw [hf.held, hh],
    by rw [hf.nwViol, hv], by rw [hf.cargs, hc], by rw [hf.secStart, hss]⟩

/-- The hint bits of the word are those before the step (the grab changes the lock bits, the spinlock and the designated waker). -/
theorem ScanBase.hints {s s' : State} {t : Tid} {r : Ret} {late : Bool} (b : ScanBase s t r late s') :
    s'.word.waiting = s.word.waiting ∧ s'.word.cond = s.word.cond ∧ s'.word.af = s.word.af := by
  rcases b.word with ⟨x, hw⟩ | ⟨-, hw, -⟩ <;> rw [hw]
  · exact ⟨rfl, rfl, rfl⟩
  · cases r.mode <;> exact ⟨rfl, rfl, rfl⟩

/-- So are MU_WRITER_WAITING and MU_LONG_WAIT. -/
theorem ScanBase.waitBits {s s' : State} {t : Tid} {r : Ret} {late : Bool} (b : ScanBase s t r late s') :
    s'.word.ww = s.word.ww ∧ s'.word.lw = s.word.lw := by
  rcases b.word with ⟨x, hw⟩ | ⟨-, hw, -⟩ <;> rw [hw]
  · exact ⟨rfl, rfl⟩
  · cases r.mode <;> exact ⟨rfl, rfl⟩

theorem ScanStart.src {s s' : State} {t : Tid} {r : Ret} (h : ScanStart s t r s') : (s.pc t).scanSrc = some r := by
  cases h <;> (rw [‹s.pc t = _›]; rfl)

/-- A scan step from a program point at which the local facts hold. -/
theorem ScanStart.base {s s' : State} {t : Tid} {r : Ret} (hok : (s.pc t).ok) (h : ScanStart s t r s') :
    ∃ late, ScanBase s t r late s' := by
  have src := h.src
  cases h with
  | grab old heq hw hs =>
    subst hw
    refine ⟨_, .of_frame (afterPickup_frame hs) (fun h => h) src ?_ (Or.inr ⟨heq, ?_, rfl⟩) (Or.inr ⟨heq, ?_, ?_⟩) ?_ ?_ (fun hn => absurd heq (hn _)) ?_ ?_ ?_ ?_ ?_ ?_⟩
    all_goals first | (rw [heq]; cases r.mode <;> rfl) | (cases r.mode <;> simp)
  | rel sc old heq hw hs =>
    rw [heq] at hok; subst hw
    exact ⟨_, .of_frame (scanRun_frame _ _ t r sc s' hs) hok.2 src rfl (Or.inl ⟨_, rfl⟩) (Or.inl ⟨rfl, rfl⟩) (by rw [heq]; rfl) (by rw [heq]; rfl) (fun _ => by rw [heq]; rfl) rfl rfl rfl rfl rfl rfl⟩
  | re sc old heq hw hs =>
    rw [heq] at hok; subst hw
    exact ⟨_, .of_frame (afterPickup_frame hs) hok.2 src rfl (Or.inl ⟨_, rfl⟩) (Or.inl ⟨rfl, rfl⟩) (by rw [heq]; rfl) (by rw [heq]; rfl) (fun _ => by rw [heq]; rfl) rfl rfl rfl rfl rfl rfl⟩
  | rc sc k old heq hs =>
    rw [heq] at hok
    exact ⟨_, .of_frame (scanRun_frame _ _ t r sc s' hs) hok.2 src rfl (Or.inl ⟨_, rfl⟩) (Or.inl ⟨rfl, rfl⟩) (by rw [heq]; rfl) (by rw [heq]; rfl) (fun _ => by rw [heq]; rfl) rfl rfl rfl rfl rfl rfl⟩
  | eval sc k rest cd heq hk hcd hs =>
    rw [heq] at hok
    exact ⟨_, .of_frame (afterEval_frame hs) hok.2.1 src rfl (Or.inl ⟨_, rfl⟩) (Or.inl ⟨rfl, rfl⟩) (by rw [heq]; rfl) (by rw [heq]; rfl) (fun _ => by rw [heq]; rfl) rfl rfl rfl rfl rfl rfl⟩

/-! ### CAS -/

/-- What a CAS event of `t` with result `ok` does. -/
inductive CasEff (s : State) (t : Tid) : Bool → State → Prop
  | fail {p' : PC} : PcMove s (s.pc t) p' → s.pc t ≠ .idle → CasEff s t false (setPc s t p')
  | plain {p' : PC} {nw : Word} {w : Option Wid} {s' : State} : CasPc s (s.pc t) p' nw w → CasOk s t p' nw w s' → CasEff s t true s'
  | scan {r : Ret} {s' : State} : ScanStart s t r s' → CasEff s t true s'
  | fin {r : Ret} {f : Fin} {old : Word} {s' : State} : s.pc t = .usFinCas r f old → s.word = old →
      CasOk s t (finPc r f.wake) (finWord f old) none s' → CasEff s t true s'
  | mwEnq (c : MW) (old : Word) (k : Wid) : s.pc t = .mwEnqCas c old → c.w = some k → s.word = old →
      CasEff s t true
        (setPc (if c.first then enqLast { s with word := mwEnqWord c.cond.isSome old, sp := some t } k
                else enqFirst { s with word := mwEnqWord c.cond.isSome old, sp := some t } k) t
          (.mwRelLd { c with hadW := old.waiting, first := false }))
  | mtRm (c : MW) (old : Word) (rc : Nat) (k : Wid) : s.pc t = .mtRmCas c old rc → c.w = some k →
      CasEff s t true { setPc s t (.mtStW c old) with wr := setFn s.wr k { s.wr k with rc := (rc + 1) % 4294967296 } }

theorem CasEff.fail_at {s : State} {t : Tid} {p p' : PC} (heq : s.pc t = p) (hm : PcMove s p p') (hne : p ≠ .idle) :
    CasEff s t false (setPc s t p') :=
  .fail (heq ▸ hm) (heq ▸ hne)

theorem stepCas_eff {s s' : State} {t : Tid} {o : Ord} {loc : Loc} {exp new obs : Nat} {ok : Bool}
    (hs : stepCas s t o loc exp new obs ok = .ok s') : CasEff s t ok s' := by
  unfold stepCas at hs
  split at hs
  all_goals try dsimp only at hs
  case h_5 c old heq =>
    rcases casWord_ok hs with ⟨hw, rfl, rfl⟩ | ⟨hne, rfl, rfl⟩
    · cases hmw : c.mw with
      | none =>
        refine .plain (by rw [heq]; exact .acqLk c old hmw hw) ?_
        constructor <;> first
          | (cases c.l <;> cases c.w <;> simp [dropW]; done)
          | (rw [heq]; simp only [PC.casGhost]; cases c.l <;> cases c.w <;> rfl)
      | some m =>
        refine .plain (by rw [heq]; exact .acqMw c old m hmw hw) ?_
        simp only [mwLoop_eq]
        constructor <;> first
          | (cases c.l <;> split <;> simp [dropW, *]; done)
          | (rw [heq]; simp only [PC.casGhost]; cases c.l <;> split <;> rfl)
    · exact .fail_at heq (by constructor; exact hne) PC.noConfusion
  case h_11 r old heq =>
    rcases casWordE_ok hs with ⟨hw, rfl, hk⟩ | ⟨hne, rfl, rfl⟩
    · exact .scan (.grab old heq hw hk)
    · exact .fail_at heq (by constructor; exact hne) PC.noConfusion
  case h_12 r sc old heq =>
    rcases casWordE_ok hs with ⟨hw, rfl, hk⟩ | ⟨hne, rfl, rfl⟩
    · exact .scan (.rel sc old heq hw hk)
    · exact .fail_at heq (by constructor; exact hne) PC.noConfusion
  case h_13 r sc old heq =>
    rcases casWordE_ok hs with ⟨hw, rfl, hk⟩ | ⟨hne, rfl, rfl⟩
    · exact .scan (.re sc old heq hw hk)
    · exact .fail_at heq (by constructor; exact hne) PC.noConfusion
  case h_14 r sc k old heq =>
    obtain ⟨-, g1⟩ := guard_ok hs
    obtain ⟨-, g2⟩ := guard_ok g1
    obtain ⟨-, g3⟩ := guard_ok g2
    obtain ⟨h4, g4⟩ := guard_ok g3
    obtain ⟨-, hs⟩ := guard_ok g4
    obtain rfl : new = (old + 1) % 4294967296 := Decidable.of_not_not h4
    clear g1 g2 g3 g4
    cases ok with
    | true => exact .scan (.rc sc k old heq hs)
    | false => cases hs; exact .fail_at heq (by constructor) PC.noConfusion
  case h_15 r f old heq =>
    rcases casWord_ok hs with ⟨hw, rfl, rfl⟩ | ⟨hne, rfl, rfl⟩
    · refine .fin heq hw ?_
      rw [afterFin_eq]
      split <;> constructor <;> first | (simp [dropW]; done) | (rw [heq]; simp [PC.casGhost, *])
    · exact .fail_at heq (by constructor; exact hne) PC.noConfusion
  case h_16 c old heq =>
    split at hs
    · cases hs
    · rename_i k hk
      rcases casWord_ok hs with ⟨hw, rfl, rfl⟩ | ⟨hne, rfl, rfl⟩
      · exact .mwEnq c old k heq hk hw
      · exact .fail_at heq (by constructor; exact hne) PC.noConfusion
  case h_20 c old rc heq =>
    split at hs
    · cases hs
    · rename_i k hk
      obtain ⟨-, g1⟩ := guard_ok hs
      obtain ⟨-, g2⟩ := guard_ok g1
      obtain ⟨-, g3⟩ := guard_ok g2
      obtain ⟨h4, g4⟩ := guard_ok g3
      obtain ⟨-, hs⟩ := guard_ok g4
      obtain rfl : new = (rc + 1) % 4294967296 := Decidable.of_not_not h4
      clear g1 g2 g3 g4
      cases ok with
      | true => cases hs; exact .mtRm c old rc k heq hk
      | false => cases hs; exact .fail_at heq (by constructor) PC.noConfusion
  case h_17 c old add0 heq =>
    cases add0 <;> rcases casWord_ok hs with ⟨hw, rfl, rfl⟩ | ⟨hne, rfl, rfl⟩
    · refine .plain (by rw [heq]; constructor; exact hw) ?_
      constructor <;> first | (simp [dropW]; done) | (rw [heq]; simp only [PC.casGhost, Bool.false_eq_true, ↓reduceIte]; cases c.l <;> rfl) | (simp; cases c.l <;> rfl)
    · exact .fail_at heq (by constructor; exact hne) PC.noConfusion
    · refine .plain (by rw [heq]; constructor; exact hw) ?_
      constructor <;> first | (simp [dropW]; done) | (rw [heq]; rfl)
    · exact .fail_at heq (by constructor; exact hne) PC.noConfusion
  case h_1 l heq | h_2 l old heq | h_3 l heq | h_4 l old heq | h_8 l nwk heq | h_9 l nwk old heq =>
    rcases casWord_ok hs with ⟨hw, rfl, rfl⟩ | ⟨hne, rfl, rfl⟩
    · refine .plain (by rw [heq]; constructor; exact hw) ?_
      constructor <;> first | (simp [dropW]; done) | (rw [heq]; cases l <;> rfl) | (simp; cases l <;> rfl)
    · exact .fail_at heq (by constructor; exact hne) PC.noConfusion
  case h_10 r old heq =>
    simp only [afterWakes_eq] at hs
    rcases casWord_ok hs with ⟨hw, rfl, rfl⟩ | ⟨hne, rfl, rfl⟩
    · refine .plain (by rw [heq]; constructor; exact hw) ?_
      constructor <;> first | (simp [dropW]; done) | (rw [heq]; simp only [PC.casGhost]; cases r.mode <;> rfl)
    · exact .fail_at heq (by constructor; exact hne) PC.noConfusion
  case h_21 => cases hs
  all_goals
    (rename_i heq
     rcases casWord_ok hs with ⟨hw, rfl, rfl⟩ | ⟨hne, rfl, rfl⟩
     · refine .plain (by rw [heq]; constructor; exact hw) ?_
       constructor <;> first | (simp [dropW]; done) | (rw [heq]; rfl)
     · exact .fail_at heq (by constructor; exact hne) PC.noConfusion)

theorem LdPc.ne_idle {s : State} {p p' : PC} (h : LdPc s p p') : p ≠ .idle := by
  cases h <;> exact PC.noConfusion

/-! ### every event -/

/-- What an accepted event of thread `t` does. -/
inductive Eff (cfg : Cfg) (s : State) (t : Tid) : State → Prop
  | move {p' : PC} : PcMove s (s.pc t) p' → s.pc t ≠ .idle → Eff cfg s t (setPc s t p')
  | callQ {p' : PC} : s.pc t = .idle → s.held t = none → PcMove s .idle p' → Eff cfg s t (setPc s t p')
  | cas {ok : Bool} {s' : State} : CasEff s t ok s' → Eff cfg s t s'
  | st {s' : State} : StEff s t s' → Eff cfg s t s'
  | ldRc (c : MW) (k : Wid) (obs : Nat) : s.pc t = .mwRcLd c → c.w = some k →
      Eff cfg s t { setPc s t (.mwEnqLd { c with rcl := obs }) with wr := setFn s.wr k { s.wr k with rc := obs } }
  | ldDeq (c : MW) (old : Word) (k : Wid) : s.pc t = .mtLdRc c old → c.w = some k → k ∈ s.queue → (s.wr k).rc = c.rcl →
      Eff cfg s t (setPc (dequeue s k) t (.mtRmLd c old))
  | ret {m : Option Mode} {w : Option Wid} {snap : Bool} {s' : State} :
      RetPc (s.held t) (s.pc t) m w snap → RetEff s t m w snap s' → Eff cfg s t s'
  | call {p' : PC} {nw : Bool} {ca : Option Cond} {s' : State} :
      s.pc t = .idle → CallPc s t p' nw ca → CallEff s t p' nw ca s' → Eff cfg s t s'
  | scan {r : Ret} {s' : State} : ScanStart s t r s' → Eff cfg s t s'
  | eval (c : MW) (cd : Cond) : s.pc t = .mwEval c → c.cond = some cd →
      Eff cfg s t (setPc s t (loopPc c (evalCond s.data cd)))
  | sem {p' : PC} {k : Wid} {n : Nat} {s' : State} : SemPc cfg s (s.pc t) p' k n → SemEff s t p' k n s' → Eff cfg s t s'
  | dataW (x : Nat) (v : Int) : s.held t = some .W → Eff cfg s t { s with data := setFn s.data x v }
  | dataR : Eff cfg s t s

/-- An accepted evaluation: where the thread is, which condition the model prescribes, and that the logged function,
    argument and result are that condition's. -/
theorem stepCond_inv {s s' : State} {t : Tid} {fn : CFn} {k : Nat} {res : Bool}
    (hs : stepCond s t fn k res = .ok s') :
    ∃ cd : Cond, cd.fn = fn ∧ cd.k = k ∧ res = evalCond s.data cd ∧
      ((∃ c, s.pc t = .mwEval c ∧ c.cond = some cd ∧ s' = mwLoop s t c res) ∨
       (∃ r sc w rest, s.pc t = .usEval r sc ∧ sc.todo = w :: rest ∧ (s.wr w).cond = some cd ∧
          afterEval s t r sc res = .ok s')) := by
  unfold stepCond at hs
  dsimp only at hs
  split at hs
  · rename_i c heq
    split at hs; · cases hs
    rename_i cd hcd
    split at hs; · cases hs
    split at hs; · cases hs
    rename_i h1 h2
    simp only [not_or, Decidable.not_not] at h1 h2
    cases hs
    exact ⟨cd, h1.1, h1.2, h2, .inl ⟨c, heq, hcd, rfl⟩⟩
  · rename_i r sc heq
    split at hs; · cases hs
    rename_i w rest hk
    split at hs; · cases hs
    rename_i cd hcd
    split at hs; · cases hs
    split at hs; · cases hs
    rename_i h1 h2
    simp only [not_or, Decidable.not_not] at h1 h2
    exact ⟨cd, h1.1, h1.2, h2, .inr ⟨r, sc, w, rest, heq, hk, hcd, hs⟩⟩
  · cases hs

theorem stepCond_eff {cfg : Cfg} {s s' : State} {t : Tid} {fn : CFn} {k : Nat} {res : Bool}
    (hs : stepCond s t fn k res = .ok s') : Eff cfg s t s' := by
  obtain ⟨cd, _, _, rfl, ⟨c, heq, hcd, rfl⟩ | ⟨r, sc, w, rest, heq, hk, hcd, hs⟩⟩ := stepCond_inv hs
  · rw [mwLoop_eq]; exact .eval c cd heq hcd
  · exact .scan (.eval sc w rest cd heq hk hcd hs)

theorem step_eff {cfg : Cfg} {s s' : State} {e : Event} {t : Tid} (hs : step cfg s e = .ok s') (ht : e.tid = some t) :
    Eff cfg s t s' := by
  cases e <;> cases ht
  case call a =>
    obtain ⟨h0, ⟨p', hm, hh, rfl⟩ | ⟨p', nw, ca, hp, he⟩⟩ := stepCall_eff hs
    · exact .callQ h0 hh hm
    · exact .call h0 hp he
  case ret a res => obtain ⟨m, w, snap, hp, he⟩ := stepRet_eff hs; exact .ret hp he
  case ld o loc obs =>
    rcases stepLd_effect hs with ⟨p', hp, rfl⟩ | ⟨c, k, heq, hk, rfl⟩ | ⟨c, old, k, heq, hk, hmem, hrc, rfl⟩
    · exact .move (.ld hp) hp.ne_idle
    · exact .ldRc c k obs heq hk
    · exact .ldDeq c old k heq hk hmem hrc
  case st o loc new obs => exact .st (stepSt_effect hs)
  case cas o loc exp new obs ok => exact .cas (stepCas_eff hs)
  case cond fn k res => exact stepCond_eff hs
  case semPEnter k =>
    have hne : s.pc t ≠ .idle := fun h0 => by simp [step, h0] at hs
    obtain ⟨p', hp, rfl⟩ := step_semPEnter hs; exact .move hp hne
  case semPRet k => obtain ⟨p', n, hp, he⟩ := step_semPRet hs; exact .sem hp he
  case semPdEnter k dl =>
    have hne : s.pc t ≠ .idle := fun h0 => by simp [step, h0] at hs
    obtain ⟨p', hp, rfl⟩ := step_semPdEnter hs; exact .move hp hne
  case semPdRet k b =>
    have hne : s.pc t ≠ .idle := fun h0 => by simp [step, h0] at hs
    rcases step_semPdRet hs with ⟨p', hp, rfl⟩ | ⟨p', n, hp, he⟩
    · exact .move hp hne
    · exact .sem hp he
  case semV k => obtain ⟨p', n, hp, he⟩ := step_semV hs; exact .sem hp he
  case dataW x v =>
    simp only [step] at hs
    split at hs
    · cases hs; exact .dataW x v ‹_›
    · cases hs
  case dataR x v =>
    simp only [step] at hs
    split at hs
    · cases hs; exact .dataR
    · cases hs
  case noteSeen =>
    have hne : s.pc t ≠ .idle := fun h0 => by simp [step, h0] at hs
    obtain ⟨p', hp, rfl⟩ := step_noteSeen hs; exact .move hp hne
  case noteNotify =>
    have hne : s.pc t ≠ .idle := fun h0 => by simp [step, h0] at hs
    obtain ⟨p', hp, rfl⟩ := step_noteNotify hs; exact .move hp hne

/-- What an accepted event of no thread does. -/
inductive EnvEff (cfg : Cfg) (s : State) : State → Prop
  | post (k : Wid) : EnvEff cfg s (semPost cfg s k)
  | sem (k : Wid) (n : Nat) : (s.wr k).owner = none → EnvEff cfg s { s with wr := setFn s.wr k { s.wr k with sem := n } }
  | tick (n : Int) : s.now ≤ n → EnvEff cfg s { s with now := n }

theorem step_env {cfg : Cfg} {s s' : State} {e : Event} (hs : step cfg s e = .ok s') (ht : e.tid = none) :
    EnvEff cfg s s' := by
  cases e <;> cases ht
  case envV k => cases hs; exact .post k
  case envSem k n =>
    simp only [step] at hs
    split at hs
    · cases hs; exact .sem k n ‹_›
    · cases hs
  case tick n =>
    simp only [step] at hs
    split at hs
    · cases hs; exact .tick n ‹_›
    · cases hs

end NsyncVerif.MuC
