/-
  Proofs/WaitNRecTr.lean — the writers of a waiter record: what one accepted step of a thread does to ONE record
  (`RecTr`), read off the `Act` of the step once (`Act.rcd`, `tr_rec`).  Who clears or sets `waiting`, who marks
  `unl`, `deqd`, where records are born and die, and what else holds at that moment, is asked of this relation.
-/
import NsyncVerif.Proofs.WaitNAct

namespace WaitN

/-- What one step of `u` does to ONE waiter record `r`: the writers of `Rec`, each with where it happens. -/
inductive RecTr (s s' : State) (u : Tid) (r : Rid) : Kind → Prop
  /-- a record the step does not write keeps its place in the queues -/
  | keep {k : Kind} (hq : ∀ o, r ∈ (s'.obj o).queue ↔ r ∈ (s.obj o).queue) (h : s'.rcd r = s.rcd r) : RecTr s s' u r k
  /-- a cv signaller unlinks it under the spinlock … -/
  | unlink (c : Nat) (bc : Bool) (hpc : s.pc u = .sg c bc .held) (h : s'.rcd r = { s.rcd r with unl := .waker }) :
      RecTr s s' u r .plain
  /-- … and later clears it, as the head of its wake list; the V is then pending -/
  | clear (c : Nat) (bc : Bool) (rest : List Rid) (hpc : s.pc u = .sg c bc (.wake (r :: rest))) (hp : s.post u = none)
      (hp1 : s'.post u = some r) (h : s'.rcd r = { s.rcd r with waiting := false }) : RecTr s s' u r .plain
  /-- a note / counter waker pops it from the queue of a ready object; the V is then pending -/
  | pop (hcv : (s.rcd r).obj.isCv = false) (hw : wakeable (s.rcd r).obj (s'.obj (s.rcd r).obj) = true) (hp : s.post u = none)
      (hp1 : s'.post u = some r) (h : s'.rcd r = { s.rcd r with waiting := false, unl := .waker }) : RecTr s s' u r .plain
  /-- records are born at their initialising store and die with the array that holds them -/
  | init (i : Nat) (oid : ObjId) (hpc : s.pc u = .wInit i) (hoid : (s.fr u).objs[i]? = some oid)
      (hdead : (s.rcd r).live = false) (h : s'.rcd r = Rec.fresh u oid) : RecTr s s' u r .life
  | kill (hm : r ∈ (s.fr u).recs) (hpc : s.pc u = .wFree ∨ ∃ x, s.pc u = .wRet x ∧ (s.fr u).heap.isSome = false)
      (h : s'.rcd r = { s.rcd r with live := false }) : RecTr s s' u r .life
  /-- the owner's accesses to record `j` of its frame -/
  | enqueue (j : Nat) (oid : ObjId) (hr : (s.fr u).recs[j]? = some r)
      (hpc : s.pc u = .wEnqCv j .store ∨ s.pc u = .wEnq j (.store true)) (hq : r ∈ (s'.obj oid).queue)
      (h : s'.rcd r = { s.rcd r with waiting := true }) : RecTr s s' u r .plain
  | refused (j : Nat) (hr : (s.fr u).recs[j]? = some r) (hpc : s.pc u = .wEnq j (.store false))
      (h : s'.rcd r = { s.rcd r with waiting := false }) : RecTr s s' u r .plain
  | remove (j : Nat) (oid : ObjId) (hr : (s.fr u).recs[j]? = some r)
      (hpc : (s.pc u = .wDeqCv j .store ∧ r ∈ (s.obj oid).queue) ∨ ∃ res, s.pc u = .wDeq j (.store res))
      (h : s'.rcd r = { s.rcd r with waiting := false, unl := if r ∈ (s.obj oid).queue then .owner else (s.rcd r).unl }) :
      RecTr s s' u r .plain
  | deqd (j : Nat) (hr : (s.fr u).recs[j]? = some r) (hpc : (∃ st, s.pc u = .wDeq j st) ∨ ∃ st, s.pc u = .wDeqCv j st)
      (h : s'.rcd r = { s.rcd r with deqd := true }) : RecTr s s' u r .plain

/-- writing one object in place leaves `x` where it is in the queues, if it does so for the queue of that object -/
theorem mem_setObj_queue {s : State} {o : ObjId} {v : Obj} {x : Rid} (h : x ∈ v.queue ↔ x ∈ (s.obj o).queue) (i : ObjId) :
    x ∈ ((s.setObj o v).obj i).queue ↔ x ∈ (s.obj i).queue := by
  rw [setObj_obj]
  split
  · rename_i hi; rw [hi]; exact h
  · rfl

theorem Act.rcd {s s1 : State} {u : Tid} {k : Kind} (a : Act s u k s1) (x : Rid) : RecTr s s1 u x k := by
  cases a
  case pop r tl hq hcv hl hw hp =>
    by_cases hx : x = r
    · subst hx
      exact .pop hcv (by rw [← hw]; exact wakeable_congr (by simp) (by simp)) hp (by simp) (by simp)
    · exact .keep (mem_setObj_queue (by simp [hq, hx])) (by simp [hx])
  case sgUnlink c bc l q fl hpc hl hq =>
    by_cases hx : x ∈ l
    · exact .unlink c bc hpc (by rw [sgUnlink_rcd, if_pos hx])
    · exact .keep (mem_setObj_queue (by simp [← hq, hx])) (by rw [sgUnlink_rcd, if_neg hx])
  case sgWake c bc r rest hpc hp =>
    by_cases hx : x = r
    · subst hx; exact .clear c bc rest hpc hp (by simp) (by simp)
    · exact .keep (fun _ => .rfl) (by simp [hx])
  case init i r oid hpc hoid hdead hi =>
    by_cases hx : x = r
    · subst hx; exact .init i oid hpc hoid hdead (by simp)
    · exact .keep (fun _ => .rfl) (by simp [hx])
  case enqueue i r oid hpc hr ho hl =>
    by_cases hx : x = r
    · subst hx; exact .enqueue i oid hr hpc (by simp) (by simp)
    · exact .keep (mem_setObj_queue (by simp [hx])) (by simp [hx])
  case refused i r hpc hr =>
    by_cases hx : x = r
    · subst hx; exact .refused i hr hpc (by simp)
    · exact .keep (fun _ => .rfl) (by simp [hx])
  case remove j r oid hpc hr ho hl =>
    by_cases hx : x = r
    · subst hx; exact .remove j oid hr hpc (by simp [ownerRemove])
    · exact .keep (mem_setObj_queue (List.mem_erase_of_ne hx)) (by simp [ownerRemove, hx])
  case unlockDeq j r oid res hpc hr hl =>
    by_cases hx : x = r
    · subst hx; exact .deqd j hr (.inl ⟨_, hpc⟩) (by simp)
    · exact .keep (mem_setObj_queue .rfl) (by simp [hx])
  case cvReleaseDeq j r c fl res hpc hr hl =>
    by_cases hx : x = r
    · subst hx; exact .deqd j hr (.inr ⟨_, hpc⟩) (by simp)
    · exact .keep (mem_setObj_queue .rfl) (by simp [hx])
  case wspinDone j r hpc hr hw =>
    by_cases hx : x = r
    · subst hx; exact .deqd j hr (.inr ⟨_, hpc⟩) (by simp)
    · exact .keep (fun _ => .rfl) (by simp [hx])
  case kill l hpc =>
    by_cases hx : x ∈ l
    · rcases hpc with ⟨h, rfl⟩ | ⟨y, h, rfl⟩
      · exact .kill hx (.inl h) (by rw [kill_rcd, if_pos hx])
      · split at hx
        · cases hx
        · rename_i hh
          exact .kill hx (.inr ⟨y, h, by simpa using hh⟩) (by rw [kill_rcd, if_pos (by rw [if_neg hh]; exact hx)])
    · exact .keep (fun _ => .rfl) (by rw [kill_rcd, if_neg hx])
  case skip | posted => exact .keep (fun _ => .rfl) rfl
  all_goals exact .keep (mem_setObj_queue .rfl) rfl

theorem RecTr.agree {s s1 s' : State} {u : Tid} {r : Rid} {k : Kind} (g : Agree s1 s' u) (a : RecTr s s1 u r k) :
    RecTr s s' u r k := by
  have hr : s'.rcd r = s1.rcd r := by rw [g.rcd]
  have hp : s'.post u = s1.post u := by rw [g.post]
  cases a
  case keep hq h => exact .keep (by rw [g.obj]; exact hq) (hr.trans h)
  case unlink c bc hpc h => exact .unlink c bc hpc (hr.trans h)
  case clear c bc rest hpc hp0 hp1 h => exact .clear c bc rest hpc hp0 (hp.trans hp1) (hr.trans h)
  case pop hcv hw hp0 hp1 h => exact .pop hcv (by rw [g.obj]; exact hw) hp0 (hp.trans hp1) (hr.trans h)
  case init i oid hpc hoid hdead h => exact .init i oid hpc hoid hdead (hr.trans h)
  case kill hm hpc h => exact .kill hm hpc (hr.trans h)
  case enqueue j oid hrj hpc hq h => exact .enqueue j oid hrj hpc (by rw [g.obj]; exact hq) (hr.trans h)
  case refused j hrj hpc h => exact .refused j hrj hpc (hr.trans h)
  case remove j oid hrj hpc h => exact .remove j oid hrj hpc (hr.trans h)
  case deqd j hrj hpc h => exact .deqd j hrj hpc (hr.trans h)

theorem tr_rec {s s' : State} {t : Tid} {e : Ev} (h : stepThr s t e = .ok s') (r : Rid) : ∃ k, RecTr s s' t r k := by
  obtain ⟨k, s1, a, g⟩ := act_stepThr h
  exact ⟨k, (a.rcd r).agree g⟩

/-- who a record is changes only where records are born and die -/
theorem RecTr.ident {s s' : State} {u : Tid} {r : Rid} {k : Kind} (tr : RecTr s s' u r k) (hk : k ≠ .life) :
    (s'.rcd r).live = (s.rcd r).live ∧ (s'.rcd r).owner = (s.rcd r).owner ∧ (s'.rcd r).obj = (s.rcd r).obj := by
  cases tr <;> first | exact absurd rfl hk | (rename_i h; rw [h]; exact ⟨rfl, rfl, rfl⟩)

/-- `waiting` is set only by the owner's enqueue store -/
theorem RecTr.wtrue {s s' : State} {u : Tid} {r : Rid} {k : Kind} (tr : RecTr s s' u r k)
    (h1 : (s.rcd r).waiting = false) (h2 : (s'.rcd r).waiting = true) :
    ∃ i, (s.pc u = .wEnq i (.store true) ∨ s.pc u = .wEnqCv i .store) ∧ (s.fr u).recs[i]? = some r := by
  cases tr
  case enqueue j _ hr hpc _ h => exact ⟨j, hpc.symm, hr⟩
  all_goals (rename_i h; rw [h] at h2; first | exact nomatch h1.symm.trans h2 | exact nomatch h2)

end WaitN
