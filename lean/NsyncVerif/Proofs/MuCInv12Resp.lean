import NsyncVerif.Proofs.MuCInv12Hint
/-
  MuC, Inv12, the induction step: somebody is responsible for every queued waiter without a condition (`inv12_nm_step`);
  `inv12_of_tl` puts the clauses together.
-/
namespace NsyncVerif.MuC

theorem blocked_cases {l : Mode} {ign : Bool} {w : Word} (h : blocked l ign w = true) :
    (w.wlock = true ∨ w.readers ≠ 0) ∨ (ign = false ∧ (w.lw = true ∨ (l = .R ∧ w.ww = true))) := by
  cases l <;> simp [blocked] at h
  · rcases h with (h | h) | h
    · exact Or.inl (Or.inl h)
    · exact Or.inl (Or.inr h)
    · exact Or.inr ⟨h.1, Or.inl h.2⟩
  · rcases h with h | h
    · exact Or.inl (Or.inl h)
    · rcases h.2 with h2 | h2
      · exact Or.inr ⟨h.1, Or.inr ⟨rfl, h2⟩⟩
      · exact Or.inr ⟨h.1, Or.inl h2⟩

section state
variable {s : State}

theorem not_needN_of_not_waiting (a : Invs s) (hw : s.word.waiting = false) : ¬ NeedN s := by
  rintro (⟨k, hk, _⟩ | ⟨u, hu⟩)
  · have := a.i9.w4 k hk; rw [hw] at this; cases this
  · have := a.i9.w4p u hu; rw [hw] at this; cases this

theorem not_needN_of_af (a : Invs s) (haf : s.word.af = true) : ¬ NeedN s := by
  rintro (⟨k, hk, hc⟩ | ⟨u, hu⟩)
  · exact (a.i7.a1 haf k hk).1 hc
  · have := a.i7.enq u hu; rw [haf] at this; cases this

/-- A thread that gives up its share: nobody needs anything, or somebody else is responsible. -/
theorem resp_or_quietN (a : Invs s) {t : Tid} (hns : ¬ StrongResp s t)
    (hc : s.word.waiting = false ∨ s.word.desig = true ∨ (∃ u, u ≠ t ∧ shareOf s u ≠ none) ∨ s.word.af = true) :
    ¬ NeedN s ∨ ∃ u, u ≠ t ∧ RespT s u := by
  rcases hc with b | b | ⟨u, hu, b⟩ | b
  · exact Or.inl (not_needN_of_not_waiting a b)
  · obtain ⟨w, hw⟩ := a.i11.hd b
    refine Or.inr ⟨w, ?_, Or.inr (Or.inl hw)⟩
    intro e; subst e; exact hns hw
  · exact Or.inr ⟨u, hu, Or.inl b⟩
  · exact Or.inl (not_needN_of_af a b)

/-- A thread that is woken, waits inside lock_slow or spins after a timeout, on a mutex whose spinlock is free:
    it is responsible itself, or its record is queued and somebody is responsible for that. -/
theorem resp_of_cases (a : Invs s) (h : Inv12 s) (hnv : s.nwViol = false) (hsp : s.word.spin = false) (u : Tid)
    (hc : (s.pc u).woken = true ∨ (s.pc u).spin = true ∨ (∃ k, (s.pc u).lsRec = some k) ∨ (s.pc u).timedOut = true) :
    ∃ w, RespT s w := by
  rcases hc with b | b | ⟨k, b⟩ | b
  · exact ⟨u, Or.inr (Or.inl (Or.inr (Or.inl b)))⟩
  · have := a.i3.no_spin_of_free hsp u; rw [b] at this; cases this
  · by_cases hq : Queued s k
    · exact h.nm hnv (Or.inl ⟨k, hq, h.rcn u k b⟩)
    · exact ⟨u, Or.inr (Or.inl (Or.inr (Or.inr ⟨k, (lsRec_waitRec b).1, (lsRec_waitRec b).2, hq⟩)))⟩
  · exact ⟨u, Or.inr (Or.inr b)⟩

/-- At a successful enqueue CAS of lock_slow somebody is responsible: a holder, or what justifies the hint that blocked
    the thread. -/
theorem resp_at_enq (a : Invs s) (h : Inv12 s) (hnv : s.nwViol = false) {t : Tid} {c : SL} {old : Word}
    (hpc : s.pc t = .lsCasEnq c old) (hw : s.word = old) : ∃ w, RespT s w := by
  have hok8 := a.i8 t; rw [hpc] at hok8
  have hok3 := a.i3.ok3 t; rw [hpc] at hok3
  have hsp : s.word.spin = false := by rw [hw]; exact hok3
  rcases blocked_cases hok8.2 with b | ⟨_, b | ⟨_, b⟩⟩
  · obtain ⟨u, hu⟩ := holder_of_locked a.i1 (by rw [hw]; exact b)
    exact ⟨u, Or.inl hu⟩
  · obtain ⟨u, c', hu, hc'⟩ := h.lw (by rw [hw]; exact b)
    rcases lwl_cases (a.i8 u) hu hc' with d | d | d
    · exact resp_of_cases a h hnv hsp u (Or.inl d)
    · exact resp_of_cases a h hnv hsp u (Or.inr (Or.inl d))
    · exact resp_of_cases a h hnv hsp u (Or.inr (Or.inr (Or.inl d)))
  · rcases h.ww (by rw [hw]; exact b) with ⟨u, d | ⟨k, d1, d2, _, d4⟩⟩ | ⟨k, hq, _, he⟩
    · exact resp_of_cases a h hnv hsp u (wwA_cases (a.i8 u) d)
    · exact ⟨u, Or.inr (Or.inl (Or.inr (Or.inr ⟨k, d1, d2, d4⟩)))⟩
    · cases hcd : (s.wr k).cond with
      | none => exact h.nm hnv (Or.inl ⟨k, hq, hcd⟩)
      | some cd =>
        rw [hcd] at he
        exact a.i11.nm hnv ⟨k, cd, hq, hcd, he⟩

theorem strong_cases {t : Tid} (h : StrongResp s t) : (s.pc t).unl = true ∨ (s.pc t).woken = true ∨ InFlightRec s t := h

/-- The steps at which a responsible thread gives up: somebody else is responsible (or nobody needed anything). -/
theorem gaveUp_resp {s' : State} {t : Tid} (a : Invs s) (hg : GaveUp s s' t) (hnif : ¬ InFlightRec s t) (hr : RespT s t)
    (hN : NeedN s ∨ ∃ c old, s.pc t = .lsCasEnq c old ∧ s.word = old ∧ s'.pc t = .lsSt c) : ∃ w, w ≠ t ∧ RespT s w := by
  have needN_of : (∀ c old, s.pc t ≠ .lsCasEnq c old) → NeedN s := by
    intro hne
    rcases hN with b | ⟨c, old, b, _⟩
    · exact b
    · exact absurd b (hne c old)
  have of_quiet : (∀ c old, s.pc t ≠ .lsCasEnq c old) → (¬ NeedN s ∨ ∃ u, u ≠ t ∧ RespT s u) → ∃ w, w ≠ t ∧ RespT s w := by
    intro hne hq
    rcases hq with b | b
    · exact absurd (needN_of hne) b
    · exact b
  have hheld : s.pc t ≠ .idle → s.held t = none := fun b => a.i1.held_none b
  rcases hg with ⟨l, nw, hpc, hw⟩ | ⟨l, nw, old, hpc, hw⟩ | ⟨r, old, hpc, hw⟩ | ⟨c, old, hpc, hw⟩ | ⟨r, f, old, hpc, hw, _⟩ |
    ⟨c, old, hpc, hw, _⟩
  · -- ulCas0
    have hns : ¬ StrongResp s t := by
      intro b; rcases strong_cases b with b | b | b
      · rw [hpc] at b; cases b
      · rw [hpc] at b; cases b
      · exact hnif b
    refine of_quiet (by intro c old e; rw [hpc] at e; cases e) (resp_or_quietN a hns (Or.inl ?_))
    rw [hw]; cases l <;> simp [addWord, Word.zero]
  · -- ulCas1
    have hns : ¬ StrongResp s t := by
      intro b; rcases strong_cases b with b | b | b
      · rw [hpc] at b; cases b
      · rw [hpc] at b; cases b
      · exact hnif b
    exact of_quiet (by intro c old e; rw [hpc] at e; cases e)
      (resp_or_quietN a hns ((quiet_ul1 a.i1 a.i8 hpc hw).imp_right (.imp_right (.imp_right And.left))))
  · -- usCasUnc
    have hns : ¬ StrongResp s t := by
      intro b; rcases strong_cases b with b | b | b
      · rw [hpc] at b; cases b
      · rw [hpc] at b; cases b
      · exact hnif b
    exact of_quiet (by intro c old e; rw [hpc] at e; cases e)
      (resp_or_quietN a hns ((quiet_unc a.i1 a.i8 hpc hw).imp_right (.imp_right (.imp_right And.left))))
  · -- mwRelCas, add0 = false
    have hns : ¬ StrongResp s t := by
      intro b; rcases strong_cases b with b | b | b
      · rw [hpc] at b; cases b
      · rw [hpc] at b; cases b
      · exact hnif b
    have hne : ∀ c' old', s.pc t ≠ .lsCasEnq c' old' := by intro c' old' e; rw [hpc] at e; cases e
    rcases quiet_mwRel a.i1 a.i5 a.i8 a.i10 hpc hw with b | b | b
    · exact of_quiet hne (resp_or_quietN a hns (Or.inr (Or.inl b)))
    · exact of_quiet hne (resp_or_quietN a hns (Or.inr (Or.inr (Or.inl b))))
    · exfalso
      rcases needN_of hne with ⟨x, hx, hcn⟩ | ⟨u, hu⟩
      · have := b x hx; rw [hcn] at this; cases this
      · have hut : u ≠ t := by intro e; subst e; rw [hpc] at hu; cases hu
        have := a.i3.others_no_spin (t := t) (by rw [hpc]; rfl) u hut
        rw [spin_of_enqPend hu] at this; cases this
  · -- usFinCas
    have hok8 := a.i8 t; rw [hpc] at hok8
    have hne : ∀ c' old', s.pc t ≠ .lsCasEnq c' old' := by intro c' old' e; rw [hpc] at e; cases e
    by_cases hwk : f.wake = []
    · exfalso
      have hsaf : f.saf = true := by
        cases e : f.saf with
        | true => rfl
        | false => exact absurd hwk (hok8.1 e)
      rcases needN_of hne with ⟨x, hx, hcn⟩ | ⟨u, hu⟩
      · have hxq : x ∈ s.queue := by
          rcases hx with hx | ⟨u, sc, h1', _⟩
          · exact hx
          · exfalso
            by_cases e : u = t
            · subst e; rw [hpc] at h1'; cases h1'
            · exact e (a.i4.uniq u t (unl_of_scan h1') (by rw [hpc]; rfl))
        exact ((a.i7.fin t f (by rw [hpc]; rfl)).2 hsaf x hxq).2.has hcn
      · have hut : u ≠ t := by intro e; subst e; rw [hpc] at hu; cases hu
        have := a.i3.others_no_spin (t := t) (by rw [hpc]; rfl) u hut
        rw [spin_of_enqPend hu] at this; cases this
    · obtain ⟨k, hk⟩ := List.exists_mem_of_ne_nil _ hwk
      obtain ⟨u, hu1, hu2, hu3⟩ := inFlight_of_wake a.i4 a.i9 (t := t) (k := k) (by rw [hpc]; simpa [PC.wakeL] using hk)
      refine ⟨u, ?_, Or.inr (Or.inl (Or.inr (Or.inr ⟨k, hu1, hu2, hu3⟩)))⟩
      intro e; subst e; exact hnif ⟨k, hu1, hu2, hu3⟩
  · -- lsCasEnq
    have hok8 := a.i8 t; rw [hpc] at hok8
    have hsh : shareOf s t = none := by simp [shareOf, tshare, hheld (by rw [hpc]; simp), hpc, pcShare]
    cases hcl : c.clear with
    | false =>
      exfalso
      rcases hr with b | (b | b | b) | b
      · exact b hsh
      · rw [hpc] at b; cases b
      · rw [hpc] at b; simp [PC.woken, hcl] at b
      · exact hnif b
      · rw [hpc] at b; cases b
    | true =>
      have hb := hok8.2
      rw [← hok8.1.1, hcl, ← hw] at hb
      obtain ⟨u, hu⟩ := holder_of_locked a.i1 (by cases hl : c.l <;> simp_all [blocked])
      refine ⟨u, ?_, Or.inl hu⟩
      intro e; subst e; exact hu hsh

end state

section step
variable {s s' : State} {t : Tid}

/-- What is needed afterwards was needed before, or the step is a successful enqueue CAS of lock_slow. -/
theorem needN_back (a : Invs s) (a' : Invs s') (tl : StepTL s s' t) (hn' : NeedN s') :
    NeedN s ∨ ∃ c old, s.pc t = .lsCasEnq c old ∧ s.word = old ∧ s'.pc t = .lsSt c := by
  rcases hn' with ⟨k, hq', hcn'⟩ | ⟨u, hu⟩
  · have hw' := a'.i4.wait k hq'
    cases hw : (s.wr k).waiting with
    | false =>
      rcases (tl.rc.r2 k hw hw').1 with b | b
      · exact Or.inl (Or.inr ⟨t, b⟩)
      · exact absurd hq' (a'.i4.limbo t k b).2.1
    | true =>
      have hcn : (s.wr k).cond = none := by
        rcases tl.rc.r3 k with b | ⟨b, _⟩
        · rw [← b.2]; exact hcn'
        · rw [hw] at b; cases b
      obtain ⟨u', hu'⟩ := a'.i9.own k (Or.inl hq')
      have key : ∀ v, (s.pc v).waitRec = some k → NeedN s := by
        intro v hv
        rcases a.i9.w3 v k hv hw with b | ⟨x, hx⟩
        · exact Or.inl ⟨k, b, hcn⟩
        · exact absurd hq' (notQueued_keep a a' tl hv (a.i4.wk x k hx).2)
      by_cases e : u' = t
      · subst e
        rcases tl.wt.p1' k hu' with b | b | ⟨c, b⟩ | b
        · exact Or.inl (key u' b)
        · exact Or.inl (Or.inr ⟨u', b⟩)
        · exfalso
          obtain ⟨f1, f2, f3⟩ := mwRel_facts b
          rw [f1] at hu'
          have h5 := a'.i5.h3 u' k c.cond (by rw [f3, hu']; rfl)
          have hpf := a'.i10.pcf u' c f2
          rw [← h5, hcn'] at hpf
          simp [evalOpt] at hpf
        · have := a'.i9.hlf u' k b; rw [hw'] at this; cases this
      · rw [(tl.oth u' e).1] at hu'; exact Or.inl (key u' hu')
  · by_cases e : u = t
    · subst e
      rcases tl.wt.p11 hu with b | b
      · exact Or.inl (Or.inr ⟨u, b⟩)
      · exact Or.inr b
    · rw [(tl.oth u e).1] at hu; exact Or.inl (Or.inr ⟨u, hu⟩)

theorem inv12_nm_step (a : Invs s) (a' : Invs s') (tl : StepTL s s' t) (h : Inv12 s) (hnv' : s'.nwViol = false)
    (hn' : NeedN s') : ∃ w, RespT s' w := by
  have hnv := tl.nv hnv'
  have hN := needN_back a a' tl hn'
  have h1 : ∃ w, RespT s w := by
    rcases hN with b | ⟨c, old, e1, e2, _⟩
    · exact h.nm hnv b
    · exact resp_at_enq a h hnv e1 e2
  obtain ⟨w, hw⟩ := h1
  by_cases e : w = t
  · subst e
    rcases respT_step_self a a' tl hw with b | ⟨b1, b2⟩
    · exact ⟨w, b⟩
    · obtain ⟨u, hu, hr⟩ := gaveUp_resp a b1 b2 hw hN
      exact ⟨u, respT_step_other a a' tl hu hr⟩
  · exact ⟨w, respT_step_other a a' tl e hw⟩

/-- The induction step of `Inv12` for every event of a thread that is not a client data access. -/
theorem inv12_of_tl (a : Invs s) (a' : Invs s') (tl : StepTL s s' t) (h : Inv12 s) : Inv12 s' :=
  ⟨inv12_ww_step a a' tl h, inv12_wws_step a a' tl h, inv12_lw_step tl h, inv12_mtw_step a tl h, inv12_mtlw_step a tl h, inv12_ok_step tl h,
   inv12_rcn_step a tl h, inv12_nm_step a a' tl h⟩

end step

end NsyncVerif.MuC
