/-
  Layer `Cv`: the invariant behind `C04_no_lost_wake` — a woken record has been posted, or its
  waker is at the V.  It is the repaired layer's `CvFix.InvE` at the embedded state
  (`Proofs/CvUp.lean`); the argument is in `Proofs/CvFixInvE*.lean`.
-/
import NsyncVerif.Proofs.CvInvA
import NsyncVerif.Proofs.CvUpTr
import NsyncVerif.Proofs.CvFixInvEAll

namespace NsyncVerif.Cv

structure InvE (s : State) : Prop where
  /-- `cur` is set exactly between the store `waiting := 0` and the V -/
  curLoc : ∀ u, (s.thr u).cur ≠ none ↔ (s.thr u).loc = .wwV
  /-- a woken record is posted, or its waker is at the V for this very instance -/
  woken : ∀ r, (s.recs r).stat = .woken →
    (s.recs r).posted = true ∨ ∃ u, (s.thr u).cur = some (r, (s.recs r).enqSeq) ∧ (s.thr u).loc = .wwV

theorem up_cur {x : Thr} {r : Rid} {n : Nat} (h : x.up.cur = some (r.up, n)) : x.cur = some (r, n) := by
  simp only [Thr.up] at h
  cases hc : x.cur with
  | none => rw [hc] at h; cases h
  | some p =>
    rw [hc] at h
    simp only [Option.map_some, Option.some.injEq, Prod.mk.injEq] at h
    obtain ⟨h1, h2⟩ := h
    rw [← Rid.up_inj h1, ← h2]

theorem invE_up {s : State} (h : CvFix.InvE s.up) : InvE s := by
  obtain ⟨e1, e2⟩ := h
  constructor
  · intro u
    have := e1 u
    simp only [State.up_thr, Thr.up_loc] at this
    constructor
    · intro hc; exact Loc.up_inj (this.mp (by simp only [Thr.up]; cases h : (s.thr u).cur <;> simp_all))
    · intro hl hc; exact this.mpr (congrArg Loc.up hl) (by simp [Thr.up, hc])
  · intro r hw
    have := e2 r.up (up_stat hw)
    rw [State.up_recs] at this
    rcases this with hp | ⟨u, hc, hl⟩
    · exact .inl hp
    · exact .inr ⟨u, up_cur hc, Loc.up_inj hl⟩

end NsyncVerif.Cv
