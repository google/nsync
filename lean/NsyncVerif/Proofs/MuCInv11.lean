import NsyncVerif.Proofs.MuCInv8
import NsyncVerif.Proofs.MuCInv9
import NsyncVerif.Proofs.MuCInv10
/-
  MuC: somebody is responsible for every queued waiter whose condition is true (I_resp), and
  MU_DESIG_WAKER is never set without an unlocker mid-scan or a woken thread in flight (`Inv11`).
  What a move of a thread keeps of its being responsible (`PC.srKeep`, `PC.rKeep`, `Keep11`) with the lemmas per
  relation between program points; the frame lemmas; the word at a release that wakes nobody (`QuietWord`); quiet moves
  and plain CASes.
-/
namespace NsyncVerif.MuC

/-- lock_slow after a wake-up: the next acquire / enqueue CAS clears MU_DESIG_WAKER. -/
def PC.woken : PC → Bool
  | .lsLd c | .lsCasAcq c _ | .lsCasEnq c _ => c.clear
  | _ => false

/-- nsync_mu_wait after a timeout / cancellation has been recorded: the thread spins (mu_wait.c:256-274,
    mu_try_acquire_after_timeout_or_cancel) until it is woken or has taken the mutex itself. -/
def PC.timedOut : PC → Bool
  | .mwLd244 _ | .mtLd _ | .mtCasAcq _ _ | .mtCasWW _ _ | .mtLdWk _ _ => true
  | .mwLd255 c | .mwWaitLd c => decide (c.so ≠ .ok) && !c.hl
  | _ => false

/-- A thread that has been taken off the queue (or is being woken) and has not yet re-contended. -/
def InFlight (s : State) (t : Tid) : Prop :=
  (s.pc t).woken = true ∨ ∃ k, (s.pc t).waitRec = some k ∧ (s.pc t).hlRec = none ∧ ¬ Queued s k

def StrongResp (s : State) (t : Tid) : Prop := (s.pc t).unl = true ∨ InFlight s t

/-- Responsible: owns a share (it will release), is an unlocker mid-scan, is in flight, or is spinning
    after a timeout. -/
def RespT (s : State) (t : Tid) : Prop := shareOf s t ≠ none ∨ StrongResp s t ∨ (s.pc t).timedOut = true

/-- Some queued waiter has a condition that is true on the current data. -/
def NeedC (s : State) : Prop := ∃ k c, Queued s k ∧ (s.wr k).cond = some c ∧ evalCond s.data c = true

structure Inv11 (s : State) : Prop where
  hd : s.word.desig = true → ∃ t, StrongResp s t
  hdm : ∀ t old, (s.pc t).mtOld = some old → old.desig = true → ∃ u, StrongResp s u
  nm : s.nwViol = false → NeedC s → ∃ t, RespT s t

/-- What `t`'s move from `p` to `p'` keeps of its being in flight / mid-scan. -/
def PC.srKeep (p p' : PC) : Prop :=
  (p.unl = true → p'.unl = true) ∧ (p.woken = true → p'.woken = true) ∧
  (∀ k, p.waitRec = some k → p.hlRec = none → (p'.waitRec = some k ∧ p'.hlRec = none) ∨ p'.woken = true)

theorem strongResp_keep {s s' : State} {t : Tid} (hQ : ∀ k, Queued s' k → Queued s k) (hk : (s.pc t).srKeep (s'.pc t))
    (h : StrongResp s t) : StrongResp s' t := by
  rcases h with a | a | ⟨k, h1, h2, h3⟩
  · exact Or.inl (hk.1 a)
  · exact Or.inr (Or.inl (hk.2.1 a))
  · rcases hk.2.2 k h1 h2 with ⟨b, c⟩ | b
    · exact Or.inr (Or.inr ⟨k, b, c, fun e => h3 (hQ k e)⟩)
    · exact Or.inr (Or.inl b)

theorem strongResp_other {s s' : State} {u : Tid} (hQ : ∀ k, Queued s' k → Queued s k) (hpc : s'.pc u = s.pc u)
    (h : StrongResp s u) : StrongResp s' u := by
  refine strongResp_keep hQ ?_ h
  rw [hpc]
  exact ⟨id, id, fun k a b => Or.inl ⟨a, b⟩⟩

theorem shareOf_of_held {s : State} {t : Tid} (h : s.held t ≠ none) : shareOf s t ≠ none := by
  unfold shareOf tshare
  cases hm : s.held t with
  | some m => simp
  | none => exact absurd hm h

theorem shareOf_of_pc {s : State} {t : Tid} (h : pcShare (s.pc t) ≠ none) : shareOf s t ≠ none := by
  unfold shareOf tshare
  cases s.held t with
  | some m => simp
  | none => exact h

theorem respT_other {s s' : State} {u : Tid} (hQ : ∀ k, Queued s' k → Queued s k) (hpc : s'.pc u = s.pc u) (hh : s'.held u = s.held u)
    (h : RespT s u) : RespT s' u := by
  rcases h with a | a | a
  · left; simpa [shareOf, hpc, hh] using a
  · exact Or.inr (Or.inl (strongResp_other hQ hpc a))
  · exact Or.inr (Or.inr (by rw [hpc]; exact a))

theorem not_strongResp {s : State} {t : Tid} (h1 : (s.pc t).unl = false) (h2 : (s.pc t).woken = false)
    (h3 : (s.pc t).waitRec = none) : ¬ StrongResp s t := by
  rintro (a | a | ⟨k, a, _⟩)
  · rw [h1] at a; cases a
  · rw [h2] at a; cases a
  · rw [h3] at a; cases a

/-- A thread whose program point is neither mid-scan, woken, waiting on a record nor spinning after a timeout is
    responsible only by its share. -/
theorem RespT.share {s : State} {t : Tid} (h : RespT s t) (h1 : (s.pc t).unl = false) (h2 : (s.pc t).woken = false)
    (h3 : (s.pc t).waitRec = none) (h4 : (s.pc t).timedOut = false) : shareOf s t ≠ none := by
  rcases h with a | a | a
  · exact a
  · exact absurd a (not_strongResp h1 h2 h3)
  · rw [h4] at a; cases a

/-- A program point at which the thread is neither mid-scan, woken nor waiting on a record. -/
theorem PC.srKeep.of_none {p p' : PC} (h1 : p.unl = false) (h2 : p.woken = false) (h3 : p.waitRec = none) : p.srKeep p' :=
  ⟨fun a => (by rw [h1] at a; cases a), fun a => (by rw [h2] at a; cases a), fun k a => (by rw [h3] at a; cases a)⟩

/-- A step of `t` that leaves lists, conditions and data alone. -/
theorem Inv11.local {s s' : State} (t : Tid) (h : Inv11 s)
    (hQ : ∀ k, Queued s' k → Queued s k)
    (hcnd : ∀ x, Queued s' x → (s'.wr x).cond = (s.wr x).cond)
    (hd : s'.data = s.data) (hnv : s'.nwViol = false → s.nwViol = false)
    (hpc : ∀ u, u ≠ t → s'.pc u = s.pc u) (hheld : ∀ u, u ≠ t → s'.held u = s.held u)
    (hdes : s'.word.desig = true → s.word.desig = true ∨ ∃ u old, (s.pc u).mtOld = some old ∧ old.desig = true)
    (hmt : ∀ old, (s'.pc t).mtOld = some old → (s.pc t).mtOld = some old ∨ s.word = old)
    (hstr : (s.pc t).srKeep (s'.pc t) ∨
      (StrongResp s t → s'.word.desig = false ∧ (∀ u, (s.pc u).mtOld = none) ∧ (s'.pc t).mtOld = none))
    (hresp : s.nwViol = false → RespT s t → RespT s' t ∨ ¬ NeedC s ∨ ∃ u, u ≠ t ∧ RespT s u) : Inv11 s' := by
  have hstr' : StrongResp s t → StrongResp s' t ∨
      (s'.word.desig = false ∧ (∀ u, (s.pc u).mtOld = none) ∧ (s'.pc t).mtOld = none) := by
    intro a
    rcases hstr with b | b
    · exact Or.inl (strongResp_keep hQ b a)
    · exact Or.inr (b a)
  refine ⟨?_, ?_, ?_⟩
  · intro hd'
    have key : ∃ w, StrongResp s w := by
      rcases hdes hd' with a | ⟨u, old, a, b⟩
      · exact h.hd a
      · exact h.hdm u old a b
    obtain ⟨w, hw⟩ := key
    by_cases e : w = t
    · subst e
      rcases hstr' hw with a | ⟨a, _⟩
      · exact ⟨w, a⟩
      · rw [a] at hd'; cases hd'
    · exact ⟨w, strongResp_other hQ (hpc w e) hw⟩
  · intro u old ho hod
    have key : ∃ w, StrongResp s w := by
      by_cases e : u = t
      · subst e
        rcases hmt old ho with a | a
        · exact h.hdm u old a hod
        · exact h.hd (by rw [a]; exact hod)
      · rw [hpc u e] at ho; exact h.hdm u old ho hod
    obtain ⟨w, hw⟩ := key
    by_cases e : w = t
    · subst e
      rcases hstr' hw with a | ⟨_, a, b⟩
      · exact ⟨w, a⟩
      · by_cases e' : u = w
        · subst e'; rw [b] at ho; cases ho
        · rw [hpc u e', a u] at ho; cases ho
    · exact ⟨w, strongResp_other hQ (hpc w e) hw⟩
  · intro hnv' hneed
    have hneed0 : NeedC s := by
      obtain ⟨k, c, h1, h2, h3⟩ := hneed
      exact ⟨k, c, hQ k h1, by rw [← hcnd k h1]; exact h2, by rw [← hd]; exact h3⟩
    obtain ⟨w, hw⟩ := h.nm (hnv hnv') hneed0
    by_cases e : w = t
    · subst e
      rcases hresp (hnv hnv') hw with a | a | ⟨u, hu, a⟩
      · exact ⟨w, a⟩
      · exact absurd hneed0 a
      · exact ⟨u, respT_other hQ (hpc u hu) (hheld u hu) a⟩
    · exact ⟨w, respT_other hQ (hpc w e) (hheld w e) hw⟩

/-- What `t`'s move from `p` to `p'` keeps of its being responsible (the client ghost `held` unchanged). -/
def PC.rKeep (p p' : PC) : Prop :=
  p.srKeep p' ∧ (pcShare p ≠ none → pcShare p' ≠ none) ∧
  (p.timedOut = true → p'.timedOut = true ∨ p'.woken = true ∨ pcShare p' ≠ none)

theorem respT_keep {s s' : State} {t : Tid} (hQ : ∀ k, Queued s' k → Queued s k) (hh : s'.held t = s.held t)
    (hk : (s.pc t).rKeep (s'.pc t)) (h : RespT s t) : RespT s' t := by
  rcases h with a | a | a
  · left
    unfold shareOf tshare at a ⊢
    rw [hh]
    cases hm : s.held t with
    | some m => simp
    | none => rw [hm] at a; exact hk.2.1 a
  · exact Or.inr (Or.inl (strongResp_keep hQ hk.1 a))
  · rcases hk.2.2 a with b | b | b
    · exact Or.inr (Or.inr b)
    · exact Or.inr (Or.inl (Or.inr (Or.inl b)))
    · exact Or.inl (shareOf_of_pc b)

/-- `Inv11.local` for a step on which `t` keeps what makes it responsible. -/
theorem Inv11.localPc {s s' : State} (t : Tid) (h : Inv11 s)
    (hQ : ∀ k, Queued s' k → Queued s k)
    (hcnd : ∀ x, Queued s' x → (s'.wr x).cond = (s.wr x).cond)
    (hd : s'.data = s.data) (hnv : s'.nwViol = false → s.nwViol = false)
    (hpc : ∀ u, u ≠ t → s'.pc u = s.pc u) (hheld : ∀ u, s'.held u = s.held u)
    (hdes : s'.word.desig = true → s.word.desig = true)
    (hmt : ∀ old, (s'.pc t).mtOld = some old → (s.pc t).mtOld = some old ∨ s.word = old)
    (hk : (s.pc t).rKeep (s'.pc t)) : Inv11 s' :=
  Inv11.local t h hQ hcnd hd hnv hpc (fun u _ => hheld u) (fun a => Or.inl (hdes a)) hmt (Or.inl hk.1)
    (fun _ a => Or.inl (respT_keep hQ (hheld t) hk a))

/-- A step of `t` to `p'` that keeps the queue, the scan locals of `t`, the conditions of the queued records and the data. -/
theorem Inv11.frame {s s' : State} {t : Tid} {p' : PC} (h : Inv11 s) (hpc : s'.pc = setFn s.pc t p') (hq : s'.queue = s.queue)
    (hcnd : ∀ x, Queued s x → (s'.wr x).cond = (s.wr x).cond)
    (hd : s'.data = s.data) (hnv : s'.nwViol = false → s.nwViol = false) (hheld : ∀ u, u ≠ t → s'.held u = s.held u)
    (hdes : s'.word.desig = true → s.word.desig = true ∨ ∃ u old, (s.pc u).mtOld = some old ∧ old.desig = true)
    (hsc : p'.scan? = (s.pc t).scan?)
    (hmt : ∀ old, p'.mtOld = some old → (s.pc t).mtOld = some old ∨ s.word = old)
    (hstr : (s.pc t).srKeep p' ∨ (StrongResp s t → s'.word.desig = false ∧ (∀ u, (s.pc u).mtOld = none) ∧ p'.mtOld = none))
    (hresp : (∀ k, Queued s' k → Queued s k) → s.nwViol = false → RespT s t → RespT s' t ∨ ¬ NeedC s ∨ ∃ u, u ≠ t ∧ RespT s u) :
    Inv11 s' := by
  have hpt : s'.pc t = p' := setFn_at hpc
  have hoth : ∀ u, u ≠ t → s'.pc u = s.pc u := setFn_others hpc
  have hQ : ∀ k, Queued s' k → Queued s k := fun k => (queued_same (t := t) hq hoth (by rw [hpt, hsc]) k).1
  exact Inv11.local t h hQ (fun x hx => hcnd x (hQ x hx)) hd hnv hoth hheld hdes (fun old ho => hmt old (hpt ▸ ho)) (hpt ▸ hstr) (hresp hQ)

/-- What `Inv11.keep` asks of the program points. -/
structure Keep11 (p p' : PC) : Prop where
  sc : p'.scan? = p.scan?
  mt : p'.mtOld = p.mtOld
  r : p.rKeep p'

/-- A move between program points at which the thread is responsible by its share only. -/
theorem Keep11.of_share {p p' : PC} (hsc : p'.scan? = p.scan?) (hmt : p'.mtOld = p.mtOld) (h1 : p.unl = false)
    (h2 : p.woken = false) (h3 : p.waitRec = none) (h4 : p.timedOut = false) (hsh : pcShare p' ≠ none) : Keep11 p p' :=
  ⟨hsc, hmt, .of_none h1 h2 h3, fun _ => hsh, fun a => (by rw [h4] at a; cases a)⟩

/-- `Inv11.frame` for a step on which `t` keeps what makes it responsible. -/
theorem Inv11.keep {s s' : State} {t : Tid} {p' : PC} (h : Inv11 s) (hpc : s'.pc = setFn s.pc t p') (hq : s'.queue = s.queue)
    (hcnd : ∀ x, Queued s x → (s'.wr x).cond = (s.wr x).cond)
    (hd : s'.data = s.data) (hnv : s'.nwViol = s.nwViol) (hheld : s'.held = s.held)
    (hdes : s'.word.desig = true → s.word.desig = true) (k : Keep11 (s.pc t) p') : Inv11 s' :=
  h.frame hpc hq hcnd hd (by rw [hnv]; exact id) (fun u _ => by rw [hheld]) (fun a => Or.inl (hdes a)) k.sc
    (fun old ho => Or.inl (k.mt ▸ ho)) (Or.inl k.r.1)
    (fun hQ _ a => Or.inl (respT_keep hQ (by rw [hheld]) (by rw [hpc, setFn_same]; exact k.r) a))

/-- Somebody is mid-scan or in flight: nothing to show. -/
theorem Inv11.of_strong {s : State} (w : Tid) (hw : StrongResp s w) : Inv11 s :=
  ⟨fun _ => ⟨w, hw⟩, fun _ _ _ _ => ⟨w, hw⟩, fun _ _ => ⟨w, Or.inr (Or.inl hw)⟩⟩

/-- Nothing the invariant speaks about changes. -/
theorem Inv11.env {s s' : State} (h : Inv11 s) (hq : s'.queue = s.queue)
    (hwr : ∀ x, (s'.wr x).cond = (s.wr x).cond) (hd : s'.data = s.data) (hpc : s'.pc = s.pc)
    (hh : s'.held = s.held) (hw : s'.word = s.word) (hnv : s'.nwViol = s.nwViol) : Inv11 s' :=
  Inv11.localPc 0 h (fun k hk => (queued_congr hq (by intro u; rw [hpc]) k).1 hk) (fun x _ => hwr x) hd (by rw [hnv]; exact id)
    (by intro u _; rw [hpc]) (by intro u; rw [hh]) (by rw [hw]; exact id) (by rw [hpc]; exact fun _ a => Or.inl a)
    (by rw [hpc]; exact ⟨⟨id, id, fun k a b => Or.inl ⟨a, b⟩⟩, id, fun a => Or.inl a⟩)

theorem holder_of_locked {s : State} (h1 : Inv1 s) (hw : s.word.wlock = true ∨ s.word.readers ≠ 0) : ∃ u, shareOf s u ≠ none := by
  rcases hw with hw | hw
  · have := h1.lock.wl; rw [hw] at this
    cases ho : s.wOwner with
    | none => rw [ho] at this; cases this
    | some u => exact ⟨u, by rw [(h1.lock.wown u).1 ho]; simp⟩
  · have := h1.lock.rd
    cases hr : s.rOwners with
    | nil => rw [hr] at this; exact absurd this hw
    | cons u _ => exact ⟨u, by rw [(h1.lock.rown u).1 (by rw [hr]; simp)]; simp⟩

theorem other_of_many_readers {s : State} (h1 : Inv1 s) (hr : 1 < s.word.readers) (t : Tid) :
    ∃ u, u ≠ t ∧ shareOf s u ≠ none := by
  have hrd := h1.lock.rd
  have hnd := h1.lock.nodup
  have hsh : ∀ u, u ∈ s.rOwners → shareOf s u ≠ none := fun u hu => by rw [(h1.lock.rown u).1 hu]; simp
  cases hro : s.rOwners with
  | nil => rw [hro] at hrd; simp at hrd; omega
  | cons a l =>
    cases l with
    | nil => rw [hro] at hrd; simp at hrd; omega
    | cons b l' =>
      rw [hro] at hnd
      by_cases e : a = t
      · refine ⟨b, ?_, hsh b (by rw [hro]; simp)⟩
        intro e'; rw [e, e'] at hnd; simp at hnd
      · exact ⟨a, e, hsh a (by rw [hro]; simp)⟩

theorem other_reader {s : State} (h1 : Inv1 s) {t : Tid} (ht : shareOf s t = some .R) (hr : s.word.readers ≠ 1) :
    ∃ u, u ≠ t ∧ shareOf s u ≠ none := by
  have hmem := (h1.lock.rown t).2 ht
  have hrd := h1.lock.rd
  have : s.rOwners.length ≠ 0 := by
    intro e; rw [List.length_eq_zero_iff] at e; rw [e] at hmem; cases hmem
  exact other_of_many_readers h1 (by omega) t

theorem no_mtOld_of_unlocked {s : State} (h1 : Inv1 s) (hw : s.word.wlock = false) (u : Tid) : (s.pc u).mtOld = none := by
  cases ho : (s.pc u).mtOld with
  | none => rfl
  | some old =>
    have hne : s.pc u ≠ .idle := by intro e; rw [e] at ho; simp [PC.mtOld] at ho
    have hsh : shareOf s u = some .W := by rw [h1.share_eq hne]; exact share_of_mtOld ho
    have := h1.lock.wl
    rw [(h1.lock.wown u).2 hsh, hw] at this; cases this

theorem not_needC_of_condFalse {s : State} (h : ∀ k, Queued s k → CondFalse s s.data k) : ¬ NeedC s := by
  rintro ⟨k, c, hk, hc, he⟩
  obtain ⟨c', h1, h2⟩ := h k hk
  rw [hc] at h1; cases h1
  rw [he] at h2; cases h2

theorem not_needC_of_not_waiting {s : State} (h9 : Inv9 s) (hw : s.word.waiting = false) : ¬ NeedC s := by
  rintro ⟨k, c, hk, _⟩
  have := h9.w4 k hk; rw [hw] at this; cases this

/-- MU_ALL_FALSE seen by a thread that owns a share and is neither the client inside its section nor a
    writer about to release: every queued condition is false on the current data. -/
theorem af_all_false {s : State} (h1 : Inv1 s) (h7 : Inv7 s) {t : Tid} (ht : shareOf s t ≠ none)
    (hts : (s.pc t).susp = false) (htf : (s.pc t).firstW = false) (hth : s.held t = none)
    (haf : s.word.af = true) (hnv : s.nwViol = false) : ∀ k, Queued s k → CondFalse s s.data k := by
  have key : (∀ u, (s.pc u).susp = false) ∧ ¬ SecOpen s := by
    cases ho : s.wOwner with
    | none => exact ⟨no_susp_of_free h1 ho, not_secOpen_of_free h1 ho⟩
    | some w =>
      have hw := (h1.lock.wown w).1 ho
      have : t = w := h1.lock.writer_alone hw ht
      subst this
      exact ⟨no_susp_of_owner h1 ho hts, not_secOpen_of_owner h1 ho (by rw [hth]; simp) htf⟩
  intro k hk
  exact (h7.a1 haf k hk).2 hnv key.1 s.data (refData_of_closed key.2)

/-- The word on which `t` may give up its share without waking anybody: no waiter, a designated waker, another
    holder, or MU_ALL_FALSE seen by a thread that is neither the client inside its section nor a writer about to release. -/
abbrev QuietWord (s : State) (t : Tid) : Prop :=
  s.word.waiting = false ∨ s.word.desig = true ∨ (∃ u, u ≠ t ∧ shareOf s u ≠ none) ∨
    (s.word.af = true ∧ shareOf s t ≠ none ∧ (s.pc t).susp = false ∧ (s.pc t).firstW = false ∧ s.held t = none)

/-- A thread that is not itself in flight gives up its share: either nobody needs anything, or somebody
    else is responsible. -/
theorem resp_or_quiet {s : State} (h1 : Inv1 s) (h7 : Inv7 s) (h9 : Inv9 s) (h : Inv11 s) {t : Tid} (hns : ¬ StrongResp s t)
    (hnv : s.nwViol = false)
    (hc : s.word.waiting = false ∨ s.word.desig = true ∨ (∃ u, u ≠ t ∧ shareOf s u ≠ none) ∨
          (s.word.af = true ∧ shareOf s t ≠ none ∧ (s.pc t).susp = false ∧ (s.pc t).firstW = false ∧ s.held t = none)) :
    ¬ NeedC s ∨ ∃ u, u ≠ t ∧ RespT s u := by
  rcases hc with a | a | ⟨u, hu, a⟩ | ⟨a, b, c, d, e⟩
  · exact Or.inl (not_needC_of_not_waiting h9 a)
  · obtain ⟨w, hw⟩ := h.hd a
    refine Or.inr ⟨w, ?_, Or.inr (Or.inl hw)⟩
    intro e; subst e; exact hns hw
  · exact Or.inr ⟨u, hu, Or.inl a⟩
  · exact Or.inl (not_needC_of_condFalse (af_all_false h1 h7 b c d e a hnv))

/-- The fast-path release CAS of nsync_mu_unlock / runlock / unlock_without_wakeup expects a word that passed the test
    of mu.c:480 / 507-508 / the like test of nsync_mu_unlock_without_wakeup in mu_wait.c. -/
theorem quiet_ul1 {s : State} (h1 : Inv1 s) (h8 : Inv8 s) {t : Tid} {l : Mode} {nw : Bool} {old : Word}
    (heq : s.pc t = .ulCas1 l nw old) (hw : s.word = old) : QuietWord s t := by
  have hok8 := h8 t; rw [heq, ← hw] at hok8
  have hheld : s.held t = none := h1.held_none (by rw [heq]; simp)
  have hsh : shareOf s t = some l := by rw [shareOf_self hheld, heq]; rfl
  cases hwt : s.word.waiting with
  | false => exact Or.inl hwt
  | true =>
    cases hdg : s.word.desig with
    | true => exact Or.inr (Or.inl hdg)
    | false =>
      right; right
      cases l with
      | W =>
        right
        simp only [PC.ok8, hwt, hdg, Bool.not_false, Bool.and_true, Bool.true_and] at hok8
        have hok8' : nw = true ∧ s.word.af = true := by simpa using hok8
        exact ⟨hok8'.2, by rw [hsh]; simp, by rw [heq]; simp [PC.susp, hok8'.1], by rw [heq]; rfl, hheld⟩
      | R =>
        simp only [PC.ok8, hwt, hdg, Bool.not_false, Bool.and_true, Bool.true_and] at hok8
        by_cases hr : s.word.readers = 1
        · right
          simp [hr] at hok8
          exact ⟨hok8, by rw [hsh]; simp, by rw [heq]; simp [PC.susp], by rw [heq]; rfl, hheld⟩
        · exact Or.inl (other_reader h1 hsh hr)

/-- The uncontended release CAS of unlock_slow expects a word that passed the test of mu.c:288-290. -/
theorem quiet_unc {s : State} (h1 : Inv1 s) (h8 : Inv8 s) {t : Tid} {r : Ret} {old : Word}
    (heq : s.pc t = .usCasUnc r old) (hw : s.word = old) : QuietWord s t := by
  have hok8 := h8 t; rw [heq, ← hw] at hok8
  have hheld : s.held t = none := h1.held_none (by rw [heq]; simp)
  have hsh : shareOf s t = some r.mode := by rw [shareOf_self hheld, heq]; rfl
  simp only [PC.ok8, uncontended] at hok8
  cases hwt : s.word.waiting with
  | false => exact Or.inl hwt
  | true =>
    cases hdg : s.word.desig with
    | true => exact Or.inr (Or.inl hdg)
    | false =>
      right; right
      by_cases hr : 1 < s.word.readers
      · exact Or.inl (other_of_many_readers h1 hr t)
      · right
        simp [hwt, hdg, hr] at hok8
        have hmode : r.mode = .R := by
          cases hm : r.mode with
          | R => rfl
          | W =>
            exfalso
            rw [hm] at hsh
            have hwl : s.word.wlock = true := by rw [h1.lock.wl, (h1.lock.wown t).2 hsh]; rfl
            have := h1.lock.excl hwl
            omega
        refine ⟨hok8.2, by rw [hsh]; simp, ?_, by rw [heq]; rfl, hheld⟩
        rw [heq]; simp only [PC.susp]
        cases hd : r.dirty with
        | false => rfl
        | true => have := dirty_mode hd; rw [hmode] at this; cases this

/-- The release CAS of nsync_mu_wait that does not go on to unlock_slow: there is a designated waker or another
    holder, or the queue holds nothing but the caller's record, whose condition is false. -/
theorem quiet_mwRel {s : State} (h1 : Inv1 s) (h5 : Inv5 s) (h8 : Inv8 s) (h10 : Inv10 s) {t : Tid} {c : MW} {old : Word}
    (heq : s.pc t = .mwRelCas c old false) (hw : s.word = old) :
    s.word.desig = true ∨ (∃ u, u ≠ t ∧ shareOf s u ≠ none) ∨ ∀ x, Queued s x → evalOpt s.data (s.wr x).cond = false := by
  have hok8 := h8 t; rw [heq] at hok8
  have hheld : s.held t = none := h1.held_none (by rw [heq]; simp)
  have hsh : shareOf s t = some c.l := by rw [shareOf_self hheld, heq]; rfl
  obtain ⟨hadd, hsome⟩ := hok8
  rw [← hw] at hadd
  obtain ⟨k, hk⟩ := Option.isSome_iff_exists.mp hsome
  cases hdg : s.word.desig with
  | true => exact Or.inl rfl
  | false =>
    right
    by_cases hr : c.l = .R ∧ s.word.readers ≠ 1
    · exact Or.inl (other_reader h1 (by rw [hsh, hr.1]) hr.2)
    · right
      have hhw : c.hadW = false := by
        cases hl : c.l with
        | W =>
          have hwl : s.word.wlock = true := by rw [h1.lock.wl, (h1.lock.wown t).2 (by rw [hsh, hl])]; rfl
          have := h1.lock.excl hwl
          simp [hl, subWord, this, hdg] at hadd
          exact hadd
        | R =>
          have : s.word.readers = 1 := by
            by_cases e : s.word.readers = 1
            · exact e
            · exact absurd ⟨hl, e⟩ hr
          have hwl : s.word.wlock = false := by
            cases e : s.word.wlock with
            | false => rfl
            | true => have := h1.lock.excl e; omega
          simp [hl, subWord, this, hdg, hwl] at hadd
          exact hadd
      intro x hx
      have hxk := h10.prel t c k (by rw [heq]; rfl) hk hhw x hx
      subst hxk
      rw [h5.h3 t x c.cond (by rw [heq]; simp [PC.limboC, hk])]
      exact h10.pcf t c (by rw [heq]; rfl)

theorem hlRec_of_waitRec {p : PC} {k : Wid} (h : p.waitRec = some k) : p.hlRec = none ∨ p.hlRec = some k := by
  cases p with
  | mtStRel c old ok => cases ok <;> first | exact Or.inl rfl | cases h
  | mwLd255 c | mwWaitLd c =>
    cases hl : c.hl with
    | true => exact Or.inr (by simp only [PC.hlRec, hl]; exact h)
    | false => exact Or.inl (by simp [PC.hlRec, hl])
  | _ => exact Or.inl rfl

/-- The owner of a record on a wake list is in flight. -/
theorem inFlight_of_wake {s : State} (h4 : Inv4 s) (h9 : Inv9 s) {t : Tid} {k : Wid} (hk : k ∈ (s.pc t).wakeL) :
    ∃ u, (s.pc u).waitRec = some k ∧ (s.pc u).hlRec = none ∧ ¬ Queued s k := by
  obtain ⟨u, hu⟩ := h9.own k (Or.inr ⟨t, hk⟩)
  have hw := h4.wk t k hk
  refine ⟨u, hu, ?_, hw.2⟩
  rcases hlRec_of_waitRec hu with a | a
  · exact a
  · have := h9.hlf u k a; rw [hw.1] at this; cases this

/-- Most quiet moves change none of the projections; the others are computed. -/
theorem PcMove.rKeep {s : State} {p p' : PC} (h : PcMove s p p') (hok : p.ok) : p.rKeep p' := by
  cases h
  case ld h =>
    cases h <;> first
      | exact ⟨⟨id, id, fun _ a b => Or.inl ⟨a, b⟩⟩, id, Or.inl⟩
      | ((simp_all [PC.rKeep, PC.srKeep, PC.unl, PC.woken, PC.timedOut, pcShare, PC.waitRec, PC.hlRec, SL.fromWait,
          SL.woken, PC.ok, MW.ok, MW.inner, SL.okL]) <;> grind)
  all_goals first
    | exact ⟨⟨id, id, fun _ a b => Or.inl ⟨a, b⟩⟩, id, Or.inl⟩
    | ((simp_all [PC.rKeep, PC.srKeep, PC.unl, PC.woken, PC.timedOut, pcShare, PC.waitRec, PC.hlRec,
        PC.ok, MW.ok, MW.inner]) <;> grind)

theorem PcMove.keep11 {s : State} {p p' : PC} (h : PcMove s p p') (hok : p.ok) : Keep11 p p' := ⟨h.scan, h.mtOld, h.rKeep hok⟩

theorem Inv11.move {s : State} {t : Tid} {p' : PC} (h1 : Inv1 s) (h : Inv11 s) (hp : PcMove s (s.pc t) p') :
    Inv11 (setPc s t p') :=
  h.keep rfl rfl (fun _ _ => rfl) rfl rfl rfl id (hp.keep11 (h1.pcok t))

theorem addWord_desig (l : Mode) : (addWord l).desig = false := by cases l <;> rfl
theorem acqWord_desig (l : Mode) (c lwl : Bool) (w : Word) : (acqWord l c lwl w).desig = (w.desig && !c) := by cases l <;> rfl
theorem subWord_desig (l : Mode) (w : Word) : (subWord l w).desig = w.desig := by cases l <;> rfl
theorem relUncWord_desig (l : Mode) (w : Word) : (relUncWord l w).desig = w.desig := by cases l <;> rfl

theorem CasPc.desig {s : State} {p p' : PC} {nw : Word} {w : Option Wid} (h : CasPc s p p' nw w) (e : nw.desig = true) : s.word.desig = true := by
  cases h <;> rename_i hw <;> rw [hw] <;> revert e <;> (try cases ‹Mode›) <;> (try cases ‹Bool›) <;>
    simp +contextual [addWord_desig, acqWord_desig, subWord_desig, relUncWord_desig, relNwWord, enqWord, mtAcqWord, Word.zero]

/-- A CAS on the word other than the acquiring one of lock_slow keeps what makes the thread responsible, except that a release gives up the share and the enqueue CAS
    of a woken thread clears MU_DESIG_WAKER. -/
theorem CasPc.rKeep {s : State} {p p' : PC} {nw : Word} {w : Option Wid} (h : CasPc s p p' nw w) (hok : p.ok)
    (hna : ∀ c old, p ≠ .lsCasAcq c old) : p.rKeep p' ∨ (p.srKeep p' ∧ pcShare p ≠ none ∧ pcShare p' = none) ∨
      (∃ c old, p = .lsCasEnq c old ∧ c.clear = true ∧ s.word = old ∧ nw.desig = false ∧ p'.mtOld = none) := by
  cases h
  case acqLk | acqMw => exact absurd rfl (hna _ _)
  case lsEnq c old hw =>
    cases hcl : c.clear with
    | false => left; simp [PC.rKeep, PC.srKeep, PC.unl, PC.woken, PC.timedOut, pcShare, PC.waitRec, hcl]
    | true => right; right; exact ⟨c, old, rfl, hcl, hw, by simp [enqWord], rfl⟩
  case ul0 | ul1 => right; left; simp [PC.srKeep, PC.unl, PC.woken, pcShare, PC.waitRec]
  case unc r old hw =>
    right; left
    cases r <;> simp_all [PC.srKeep, PC.unl, PC.woken, pcShare, PC.waitRec, PC.hlRec, Ret.pc, Ret.w?, PC.ok, Ret.ok, MW.inner]
  case mwRelSleep => right; left; simp [PC.srKeep, PC.unl, PC.woken, pcShare, PC.waitRec, PC.hlRec]
  all_goals
    left; simp [PC.rKeep, PC.srKeep, PC.unl, PC.woken, PC.timedOut, pcShare, PC.waitRec, PC.hlRec, Ret.w?, Ret.mode]

/-- A thread that is neither mid-scan nor in flight gives up its share by a CAS that wakes nobody: nobody needs
    anything, or somebody else is responsible. -/
theorem release_quiet {s : State} {t : Tid} {p' : PC} {nw : Word} {w : Option Wid} (h1 : Inv1 s) (h5 : Inv5 s) (h7 : Inv7 s) (h8 : Inv8 s)
    (h9 : Inv9 s) (h10 : Inv10 s) (h : Inv11 s) (hp : CasPc s (s.pc t) p' nw w) (hsh : pcShare (s.pc t) ≠ none)
    (hno : pcShare p' = none) (hns : ¬ StrongResp s t) (hnv : s.nwViol = false) : ¬ NeedC s ∨ ∃ u, u ≠ t ∧ RespT s u := by
  generalize hpc : s.pc t = p at hp hsh
  cases hp with
  | ul0 l nw hw => exact resp_or_quiet h1 h7 h9 h hns hnv (Or.inl (by rw [hw]; exact addWord_waiting l))
  | ul1 l nw old hw => exact resp_or_quiet h1 h7 h9 h hns hnv (quiet_ul1 h1 h8 hpc hw)
  | unc r old hw => exact resp_or_quiet h1 h7 h9 h hns hnv (quiet_unc h1 h8 hpc hw)
  | mwRelSleep c old hw =>
    rcases quiet_mwRel h1 h5 h8 h10 hpc hw with a | a | a
    · exact resp_or_quiet h1 h7 h9 h hns hnv (Or.inr (Or.inl a))
    · exact resp_or_quiet h1 h7 h9 h hns hnv (Or.inr (Or.inr (Or.inl a)))
    · left
      rintro ⟨x, cd, hx, hc, he⟩
      have := a x hx
      rw [hc] at this; simp [evalOpt, he] at this
  | mwRelUs c old hw => cases hno
  | _ => exact absurd rfl hsh

/-- The acquiring CAS of lock_slow: where it leads, seen by the invariant. -/
theorem CasPc.acq11 {s : State} {c : SL} {old : Word} {p' : PC} {nw : Word} {w : Option Wid} (h : CasPc s (.lsCasAcq c old) p' nw w) :
    s.word = old ∧ nw = acqWord c.l c.clear c.lwl old ∧ p'.scan? = none ∧ p'.mtOld = none ∧ pcShare p' ≠ none := by
  cases h with
  | acqLk _ _ _ hw => exact ⟨hw, rfl, rfl, rfl, nofun⟩
  | acqMw _ _ m _ hw => refine ⟨hw, rfl, ?_⟩; rw [loopPc_true]; split <;> exact ⟨rfl, rfl, nofun⟩

/-- A thread in flight at the acquiring CAS of lock_slow has been woken: the CAS clears MU_DESIG_WAKER, and the word
    was not write-locked. -/
theorem Inv11.acq {s s' : State} {t : Tid} {c : SL} {old : Word} {p' : PC} {nw : Word} {w : Option Wid} (h1 : Inv1 s) (h : Inv11 s)
    (heq : s.pc t = .lsCasAcq c old) (hp : CasPc s (.lsCasAcq c old) p' nw w) (e : CasOk s t p' nw w s') : Inv11 s' := by
  obtain ⟨hw, rfl, v1, v2, v3⟩ := hp.acq11
  have hdes : s'.word.desig = (s.word.desig && !c.clear) := by rw [e.word, acqWord_desig, hw]
  refine h.frame e.pc e.queue (fun x _ => by rw [e.wr, dropW_cond]) e.data (by rw [e.nwViol]; exact id) (fun u _ => by rw [e.held])
    (fun a => Or.inl (by rw [hdes] at a; simp at a; exact a.1)) (by rw [v1, heq]; rfl) (fun _ ho => by rw [v2] at ho; cases ho)
    (Or.inr fun hst => ?_) (fun _ _ _ => Or.inl (Or.inl (shareOf_of_pc (by rw [e.pc, setFn_same]; exact v3))))
  have hcl : c.clear = true := by
    rcases hst with a | a | ⟨k, a, _⟩ <;> rw [heq] at a
    · cases a
    · exact a
    · cases a
  have hwl : s.word.wlock = false := by
    have := h1.pcok t; rw [heq] at this
    have := this.2; rw [← hw] at this
    cases hl : c.l <;> simp_all [blocked]
  exact ⟨by rw [hdes, hcl]; simp, no_mtOld_of_unlocked h1 hwl, v2⟩

theorem Inv11.cas {s s' : State} {t : Tid} {p' : PC} {nw : Word} {w : Option Wid} (h1 : Inv1 s) (h3 : Inv3 s) (h5 : Inv5 s) (h7 : Inv7 s)
    (h8 : Inv8 s) (h9 : Inv9 s) (h10 : Inv10 s) (h : Inv11 s) (hp : CasPc s (s.pc t) p' nw w) (ok : CasOk s t p' nw w s') :
    Inv11 s' := by
  by_cases hacq : ∃ c old, s.pc t = .lsCasAcq c old
  · obtain ⟨c, old, heq⟩ := hacq
    exact h.acq h1 heq (heq ▸ hp) ok
  have hpt : s'.pc t = p' := setFn_at ok.pc
  have hk := hp.rKeep (h1.pcok t) fun c old e => hacq ⟨c, old, e⟩
  refine h.frame ok.pc ok.queue (fun _ _ => by rw [ok.wr, dropW_cond]) ok.data (by rw [ok.nwViol]; exact id) (fun u _ => by rw [ok.held])
    (fun a => Or.inl (hp.desig (ok.word ▸ a))) (by rw [hp.scan.1, hp.scan.2]) (fun old e => Or.inr (hp.mtOld_word e)) ?_ ?_
  · rcases hk with a | ⟨a, _⟩ | ⟨c, old, e, _, hw, a, b⟩
    · exact Or.inl a.1
    · exact Or.inl a
    · -- the spinlock was free: nobody is inside mu_try_acquire_after_timeout_or_cancel with the lock
      have hok3 := h3.ok3 t; rw [e] at hok3
      exact Or.inr fun _ => ⟨by rw [ok.word]; exact a, no_mtOld_of_nospin h3 (by rw [hw]; exact hok3), b⟩
  · intro hQ hnv hr
    rcases hk with a | ⟨a, b, c⟩ | ⟨c, old, e, hcl, hw, _⟩
    · exact Or.inl (respT_keep hQ (by rw [ok.held]) (hpt ▸ a) hr)
    · by_cases hst : StrongResp s t
      · exact Or.inl (Or.inr (Or.inl (strongResp_keep hQ (hpt ▸ a) hst)))
      · exact Or.inr (release_quiet h1 h5 h7 h8 h9 h10 h hp b c hst hnv)
    · -- lock_slow was blocked by a lock bit: somebody else holds the mutex
      have hok8 := h8 t; rw [e] at hok8
      have hb := hok8.2
      rw [← hok8.1.1, hcl, ← hw] at hb
      obtain ⟨u, hu⟩ := holder_of_locked h1 (by cases hl : c.l <;> simp_all [blocked])
      refine Or.inr (Or.inr ⟨u, ?_, Or.inl hu⟩)
      intro e'; subst e'
      rw [shareOf_self (h1.held_none (by rw [e]; simp)), e] at hu; exact hu rfl

/-! ### tactics for a step whose successor state is written out -/

macro "pc11" heq:ident : tactic => `(tactic|
  (try rw [$heq:ident]
   (simp_all [PC.rKeep, PC.srKeep, PC.unl, PC.woken, PC.timedOut, pcShare, PC.waitRec, PC.hlRec, PC.mtOld, Ret.w?, setFn, loopPc, finPc,
      Ret.pc, SL.entry, SL.fromWait, SL.woken, PC.ok, MW.ok, MW.inner, Ret.ok, SL.okL]) <;> grind))

/-- `s'.word.desig → s.word.desig` for the word updates that keep or clear MU_DESIG_WAKER -/
macro "word_desig" : tactic => `(tactic|
  first
  | (simp; done)
  | (simp_all [acqWord, addWord, relUncWord, relNwWord, subWord, enqWord, mwEnqWord, mtAcqWord]; done)
  | (simp_all [acqWord, addWord, relUncWord, relNwWord, subWord, enqWord, mwEnqWord, mtAcqWord] <;>
      (repeat' split) <;> simp_all))

macro "inv11_local" t:ident h1:ident h:ident heq:ident : tactic => `(tactic|
  (have hok := ($h1).pcok $t
   rw [$heq:ident] at hok
   refine Inv11.localPc $t $h ?_ ?_ (by simp) (by simp) ?_ (by intro u; simp) ?_ ?_ ?_
   · intro k
     exact (queued_same (t := $t) (by simp) (by intro u hu; simp [setFn, hu])
        (by rw [$heq:ident]; simp [setFn, PC.scan?, loopPc, finPc, Ret.pc] <;> (repeat' split) <;> simp [PC.scan?]) k).1
   · intro x _; (simp [setFn]) <;> (try split) <;> simp_all
   · intro u hu; simp [setFn, hu]
   · word_desig
   · intro old ho
     first
     | (left; revert ho; pc11 $heq)
     | (right; revert ho; pc11 $heq)
   · pc11 $heq))


/-- As `inv11_local`, for a step on which `t` may stop being responsible: the goals about `t` remain. -/
macro "inv11_loc2" t:ident h1:ident h:ident heq:ident : tactic => `(tactic|
  (have hok := ($h1).pcok $t
   rw [$heq:ident] at hok
   refine Inv11.local $t $h ?_ ?_ (by simp) (by first | (simp; done) | (intro a; simp at a; exact a.1)) ?_ (by intro u hu; first | (simp; done) | simp [setFn, hu]) ?_ ?_ ?_ ?_
   · intro k
     exact (queued_same (t := $t) (by simp) (by intro u hu; simp [setFn, hu])
        (by rw [$heq:ident]; simp [setFn, PC.scan?, loopPc, finPc, Ret.pc] <;> (repeat' split) <;> simp [PC.scan?]) k).1
   · intro x _; (simp [setFn]) <;> (try split) <;> simp_all
   · intro u hu; simp [setFn, hu]
   · intro hdd; left; revert hdd; word_desig
   · intro old ho
     first
     | (left; revert ho; pc11 $heq)
     | (right; revert ho; pc11 $heq)))

macro "ld_case11" t:ident h1:ident h:ident heq:ident hs:ident : tactic => `(tactic|
  (try dsimp only at $hs:ident
   try simp only [ldWord, ldWaiting] at $hs:ident
   repeat' split at $hs:ident
   all_goals first
     | (cases $hs:ident; done)
     | (cases $hs:ident; inv11_local $t $h1 $h $heq)
     | (cases $hs:ident; split <;> inv11_local $t $h1 $h $heq)))

macro "not_strong" heq:ident : tactic => `(tactic|
  (rintro (a | a | ⟨k, a, _⟩) <;> rw [$heq:ident] at a <;> simp [PC.unl, PC.woken, PC.waitRec, Ret.w?] at a))

/-- the goal about `t`'s responsibility at an API boundary: it owns a share afterwards, or it was not responsible. -/
macro "resp_api" t:ident h1:ident heq:ident : tactic => `(tactic|
  (intro _ hr
   first
   | (right; left; simp [shareOf, tshare, setHeld, setFn, pcShare]; done)
   | (exfalso
      have hheld := ($h1).held_none (t := $t) (by rw [$heq:ident]; simp)
      rcases hr with a | a | a
      · (simp [shareOf, tshare, hheld, $heq:ident, pcShare] at a; try simp_all)
      · (revert a; not_strong $heq)
      · (rw [$heq:ident] at a; simp [PC.timedOut] at a))))

end NsyncVerif.MuC
