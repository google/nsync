import NsyncVerif.Proofs.MuCScan
/-
  MuC: the spinlock invariant (I_spin): MU_SPINLOCK is owned by exactly the thread whose program
  point lies in a region that holds it.
-/
namespace NsyncVerif.MuC

/-- The program points at which the thread holds MU_SPINLOCK. -/
def PC.spin : PC → Bool
  | .lsSt _ | .lsRelLd _ | .lsRelCas _ _ => true
  | .usRelLd _ _ | .usRelCas _ _ _ => true
  | .usRcLd _ sc _ | .usRcCas _ sc _ _ => !sc.tc
  | .usFinLd _ _ | .usFinCas _ _ _ => true
  | .mwRelLd _ | .mwRelCas _ _ _ => true
  | .mtLdW _ _ | .mtLdRc _ _ | .mtRmLd _ _ | .mtRmCas _ _ _ | .mtStW _ _ | .mtStRel _ _ _ => true
  | _ => false

/-- Local facts needed for (I_spin): a CAS that takes the spinlock expects a word without it; the
    spinlock is released (mu.c:354) only while testing conditions. -/
def PC.ok3 : PC → Prop
  | .usReCas _ sc old => old.spin = false ∧ sc.tc = true
  | .lsCasEnq _ old | .usCasGrab _ old | .mwEnqCas _ old | .mtCasAcq _ old | .mtCasWW _ old
  | .mtLdW _ old | .mtLdRc _ old | .mtRmLd _ old | .mtRmCas _ old _ | .mtStW _ old | .mtStRel _ old _ => old.spin = false
  | .usRelLd _ sc | .usRelCas _ sc _ | .usEval _ sc | .usReLd _ sc => sc.tc = true
  | _ => True

structure Inv3 (s : State) : Prop where
  own : ∀ t, s.sp = some t ↔ (s.pc t).spin = true
  bit : s.word.spin = s.sp.isSome
  ok3 : ∀ t, (s.pc t).ok3

theorem Inv3.local {s s' : State} (t : Tid) (h : Inv3 s) (hw : s'.word.spin = s.word.spin) (hsp : s'.sp = s.sp)
    (hpc : ∀ u, u ≠ t → s'.pc u = s.pc u) (hspin : (s'.pc t).spin = (s.pc t).spin) (hok : (s'.pc t).ok3) : Inv3 s' := by
  refine ⟨fun u => ?_, by rw [hw, hsp]; exact h.bit, forall_of_others hpc hok h.ok3⟩
  rw [hsp, eq_of_others hpc hspin u]; exact h.own u

theorem Inv3.take {s s' : State} (t : Tid) (h : Inv3 s) (hfree : s.word.spin = false)
    (hw : s'.word.spin = true) (hsp : s'.sp = some t)
    (hpc : ∀ u, u ≠ t → s'.pc u = s.pc u) (hspin : (s'.pc t).spin = true) (hok : (s'.pc t).ok3) : Inv3 s' := by
  have hnone : s.sp = none := by
    have := h.bit; rw [hfree] at this
    cases hs : s.sp with
    | none => rfl
    | some x => rw [hs] at this; cases this
  refine ⟨fun u => ?_, by rw [hw, hsp]; rfl, forall_of_others hpc hok h.ok3⟩
  · by_cases hu : u = t
    · subst hu; rw [hsp, hspin]; simp
    · rw [hsp, hpc u hu]
      constructor
      · intro e; cases e; exact absurd rfl hu
      · intro e; have := (h.own u).2 e; rw [hnone] at this; cases this

theorem Inv3.give {s s' : State} (t : Tid) (h : Inv3 s) (ht : (s.pc t).spin = true)
    (hw : s'.word.spin = false) (hsp : s'.sp = none)
    (hpc : ∀ u, u ≠ t → s'.pc u = s.pc u) (hspin : (s'.pc t).spin = false) (hok : (s'.pc t).ok3) : Inv3 s' := by
  have hown := (h.own t).2 ht
  refine ⟨fun u => ?_, by rw [hw, hsp]; rfl, forall_of_others hpc hok h.ok3⟩
  · by_cases hu : u = t
    · subst hu; rw [hsp, hspin]; simp
    · rw [hsp, hpc u hu]
      constructor
      · intro e; cases e
      · intro e; have := (h.own u).2 e; rw [hown] at this; cases this; exact absurd rfl hu

/-- The plain code of the scan stops at a program point that holds the spinlock iff it is not
    testing conditions. -/
theorem scanRun_spin : ∀ (n : Nat) (s : State) (t : Tid) (r : Ret) (sc : Scan) (s' : State),
    scanRun n s t r sc = .ok s' → (s'.pc t).spin = !sc.tc ∧ (s'.pc t).ok3 := by
  intro n
  induction n with
  | zero => intro s t r sc s' h; simp [scanRun] at h
  | succ n ih =>
    intro s t r sc s' h
    unfold scanRun at h
    have hsp := scanGo_spec s.wr sc.todo sc
    split at h
    · cases h
    · rename_i k sc' heq
      rw [heq] at hsp
      simp only [Except.ok.injEq] at h; subst h
      simp [PC.spin, PC.ok3, hsp.2.2.1, hsp.2.1 ▸ hsp.2.2.1]
    · rename_i k sc' heq
      rw [heq] at hsp
      simp only [Except.ok.injEq] at h; subst h
      simp [PC.spin, PC.ok3, hsp.2]
    · rename_i sc' heq
      rw [heq] at hsp
      split at h
      · rename_i htc
        simp only [Except.ok.injEq] at h; subst h
        simp [PC.spin, PC.ok3, htc, ← hsp.2]
      · rename_i htc
        have htc0 : sc.tc = false := by rw [← hsp.2]; simpa using htc
        split at h
        · simp only [Except.ok.injEq] at h; subst h
          simp [toFin, PC.spin, PC.ok3, htc0]
        · rename_i s1 sc2 hp
          have e2 : (pickup s sc').2 = some sc2 := by rw [hp]
          obtain ⟨hl, htc2⟩ := pickup_some e2
          split at h
          · rename_i h2; exact absurd (htc2 h2) htc
          · rename_i h2
            have := ih _ t r sc2 s' h
            simp only [Bool.not_eq_true] at h2
            rw [h2] at this; rw [htc0]; exact this

theorem afterPickup_spin {s : State} {sc0 : Scan} {t : Tid} {r : Ret} {s' : State}
    (h : afterPickup (pickup s sc0) t r sc0 = .ok s') : (s'.pc t).spin = true ∧ (s'.pc t).ok3 := by
  unfold afterPickup at h
  split at h
  · simp only [Except.ok.injEq] at h; subst h
    simp [toFin, PC.spin, PC.ok3]
  · rename_i s1 sc2 hp
    split at h
    · rename_i h2
      simp only [Except.ok.injEq] at h; subst h
      simp [PC.spin, PC.ok3, h2]
    · rename_i h2
      have := scanRun_spin _ _ t r sc2 s' h
      simp only [Bool.not_eq_true] at h2
      rw [h2] at this; exact this

theorem afterEval_spin {s : State} {sc : Scan} {t : Tid} {r : Ret} {res : Bool} {s' : State}
    (h : afterEval s t r sc res = .ok s') (htc : sc.tc = true) : (s'.pc t).spin = false ∧ (s'.pc t).ok3 := by
  unfold afterEval at h
  split at h
  · cases h
  · rename_i k rest hk
    split at h
    · have := scanRun_spin 3 s t r { sc with passed := (skipPast s.wr sc.passed k rest).1, todo := (skipPast s.wr sc.passed k rest).2 } s' h
      simpa [htc] using this
    · split at h
      · rename_i k' sc' hw
        obtain ⟨sc'', he, h1, h2⟩ := wakeOrPass_inl hw
        simp only [ScanRes.remove.injEq] at he
        obtain ⟨rfl, rfl⟩ := he
        simp only [Except.ok.injEq] at h; subst h
        simp [PC.spin, PC.ok3, h2, htc]
      · cases h
      · rename_i sc' hw
        obtain ⟨h1, h2, _⟩ := wakeOrPass_inr hw
        have := scanRun_spin _ _ t r sc' s' h
        simpa [h2, htc] using this

macro "inv3_local" t:ident h:ident heq:ident : tactic => `(tactic|
  (have hok := ($h).ok3 $t
   rw [$heq:ident] at hok
   refine Inv3.local $t $h (by simp) (by simp) (by intro u hu; simp [setFn, hu]) ?_ ?_
   · (simp_all [PC.spin, loopPc, finPc, Ret.pc]) <;> grind
   · (simp_all [PC.ok3, loopPc, finPc, Ret.pc]) <;> grind))

macro "ld_case3" t:ident h:ident heq:ident hs:ident : tactic => `(tactic|
  (try dsimp only at $hs:ident
   try simp only [ldWord, ldWaiting] at $hs:ident
   repeat' split at $hs:ident
   all_goals first
     | (cases $hs:ident; done)
     | (cases $hs:ident; inv3_local $t $h $heq)
     | (cases $hs:ident; split <;> inv3_local $t $h $heq)))

/-- `s'.word.spin = s.word.spin` for the word updates that leave MU_SPINLOCK alone -/
macro "word_spin" : tactic => `(tactic|
  first
  | (simp; done)
  | (simp_all [acqWord, addWord, relUncWord, relNwWord, subWord, Word.zero, finWord]; done)
  | (simp_all [acqWord, addWord, relUncWord, relNwWord, subWord, Word.zero, finWord] <;> (repeat' split) <;> simp_all))

macro "inv3_localw" t:ident h:ident heq:ident : tactic => `(tactic|
  (have hok := ($h).ok3 $t
   rw [$heq:ident] at hok
   refine Inv3.local $t $h (by word_spin) (by simp) (by intro u hu; simp [setFn, hu]) ?_ ?_
   · (simp_all [PC.spin, loopPc, finPc, Ret.pc]) <;> grind
   · (simp_all [PC.ok3, loopPc, finPc, Ret.pc]) <;> grind))

theorem Inv3.others_no_spin {s : State} (h3 : Inv3 s) {t : Tid} (ht : (s.pc t).spin = true) (u : Tid) (hu : u ≠ t) :
    (s.pc u).spin = false := by
  cases e : (s.pc u).spin with
  | false => rfl
  | true =>
    have h1 := (h3.own t).2 ht
    have h2 := (h3.own u).2 e
    rw [h1] at h2; cases h2; exact absurd rfl hu

theorem Inv3.no_spin_of_free {s : State} (h3 : Inv3 s) (hw : s.word.spin = false) (u : Tid) : (s.pc u).spin = false := by
  cases e : (s.pc u).spin with
  | false => rfl
  | true =>
    have h2 := (h3.own u).2 e
    have := h3.bit; rw [hw, h2] at this; cases this

end NsyncVerif.MuC
