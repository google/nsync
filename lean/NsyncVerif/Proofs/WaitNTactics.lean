/-
  Proofs/WaitNTactics.lean — leaf closers for a proof that walks a step function of the layer by `split_ok` and
  shows a predicate `X s s' t` on the step at every accepting leaf: try the lemma `X_…` for the helper function the
  leaf ends in (dflt, rtDone, deqDone, afterEnq, spinAcq), then the explicit updates.  One set per predicate
  (`Others`, `Mono`, `Frame2`, `ClrEff`, `SemA`; the set `receff_…` is for a predicate on the fields of a record, which
  is the relation `RecTr` of Proofs/WaitNRecTr.lean); the modules of these predicates obtain them from the shapes
  of `Act` and `Tail` (Proofs/WaitNAct.lean) and do not call the closers.
-/
import NsyncVerif.Proofs.WaitNBase

namespace WaitN

macro "others_simp" : tactic =>
  `(tactic| (apply Others.of_eq <;> (intro u hu; simp [hu]; done)))

/-- closes the goal `Others s s' t` from an accepting leaf `h` of a step function -/
macro "others_leaf" h:ident : tactic =>
  `(tactic| first
    | exact others_dflt $h
    | exact others_rtDone $h
    | exact others_deqDone $h
    | exact others_afterEnq $h
    | exact others_spinAcq $h
    | (cases $h:ident; first
        | exact Others.refl _ _
        | others_simp
        | exact others_startScan _ _
        | exact Others.trans (others_postSem ‹postSem _ _ _ = some _›) (by others_simp)
        | exact Others.trans (others_bindSem ‹bindSem _ _ _ = some _›) (by others_simp)))

macro "receff_eq" : tactic => `(tactic| (apply RecEff.of_eq; (first | rfl | (simp; done))))

macro "receff_leaf" h:ident : tactic =>
  `(tactic| first
    | exact receff_dflt $h
    | exact receff_rtDone $h
    | exact receff_deqDone $h
    | exact receff_afterEnq $h
    | exact receff_spinAcq $h
    | (cases $h:ident; first
        | exact RecEff.refl _ _
        | receff_eq
        | (apply RecEff.of_eq; unfold startScan; rfl)
        | (apply RecEff.of_eq; simp only [setPc_rcd, setPost_rcd, setSem_rcd, setFr_rcd, setMc_rcd, setObj_rcd]
           first
             | exact rcd_postSem ‹postSem _ _ _ = some _›
             | exact rcd_bindSem ‹bindSem _ _ _ = some _›)))

/-- explicit `s'` that differs from `s` in one record -/
macro "receff_tac" : tactic =>
  `(tactic| (constructor <;> intro x <;> simp <;> (try split) <;> (try simp_all)))

macro "receff_leaf2" h:ident : tactic =>
  `(tactic| first
    | receff_leaf $h
    | exact receff_stepOpen $h
    | exact receff_proto $h
    | (cases $h:ident; receff_tac; done)
    | (have hsh := shared_deqDone $h; refine RecEff.trans_eq (s1 := _) ?_ hsh.2.1; receff_tac; done)
    | (have hsh := shared_afterEnq $h; refine RecEff.trans_eq (s1 := _) ?_ hsh.2.1; receff_tac; done))

macro "mono_eq" : tactic => `(tactic| (apply Mono.of_eq <;> (first | rfl | (simp; done))))

/-- explicit `s'`: the six goals after unfolding -/
macro "mono_tac" : tactic =>
  `(tactic| (constructor <;> intros <;> (try simp at *) <;> (try split) <;> (try simp_all [ObjId.isCv]) <;>
      (try omega) <;> (try (intro hx; subst hx; simp_all [ObjId.isCv]))))

macro "mono_leaf" h:ident : tactic =>
  `(tactic| first
    | exact mono_dflt $h
    | exact mono_rtDone $h
    | exact mono_deqDone $h
    | exact mono_afterEnq $h
    | exact mono_spinAcq $h
    | (cases $h:ident; first
        | exact Mono.refl _ _
        | mono_eq
        | exact mono_startScan _ _
        | (refine Mono.trans_eq (mono_postSem ‹postSem _ _ _ = some _›) ?_ ?_ ?_ <;> (first | rfl | (simp; done)))
        | (refine Mono.trans_eq (mono_bindSem ‹bindSem _ _ _ = some _›) ?_ ?_ ?_ <;> (first | rfl | (simp; done)))
        | (mono_tac; done)))

macro "mono_leaf2" h:ident : tactic =>
  `(tactic| first
    | mono_leaf $h
    | exact mono_stepOpen $h
    | exact mono_proto $h
    | (refine Mono.trans_eq ?_ rfl rfl rfl; mono_leaf $h)
    | (cases $h:ident; mono_tac; done)
    | (have hsh := shared_deqDone $h; refine Mono.trans_eq (s1 := _) ?_ hsh.1 hsh.2.1 hsh.2.2; mono_tac; done)
    | (have hsh := shared_afterEnq $h; refine Mono.trans_eq (s1 := _) ?_ hsh.1 hsh.2.1 hsh.2.2; mono_tac; done)
    | (have hsh := shared_rtDone $h; refine Mono.trans_eq (s1 := _) ?_ hsh.1 hsh.2.1 hsh.2.2; mono_tac; done))

macro "frame2_eq" : tactic => `(tactic| (apply Frame2.of_eq <;> (first | rfl | (simp; done))))

/-- explicit `s'`: the three goals after unfolding -/
macro "frame2_tac" : tactic =>
  `(tactic| (constructor <;> intros <;> (try simp at *) <;> (try split) <;> (try simp_all [wakeable, ObjId.isCv]) <;>
      (try (intro hx; subst hx; simp_all [wakeable, ObjId.isCv])) <;> (try grind)))

macro "frame2_leaf" h:ident : tactic =>
  `(tactic| first
    | exact frame2_dflt $h
    | exact frame2_rtDone $h
    | exact frame2_deqDone $h
    | exact frame2_afterEnq $h
    | exact frame2_spinAcq $h
    | (cases $h:ident; first
        | exact Frame2.refl _ _
        | frame2_eq
        | (refine Frame2.trans_eq (frame2_postSem ‹postSem _ _ _ = some _›) ?_ ?_ <;> (first | rfl | (simp; done)))
        | (refine Frame2.trans_eq (frame2_bindSem ‹bindSem _ _ _ = some _›) ?_ ?_ <;> (first | rfl | (simp; done)))
        | (frame2_tac; done)))

macro "frame2_leaf2" h:ident : tactic =>
  `(tactic| first
    | frame2_leaf $h
    | exact frame2_stepOpen $h
    | exact frame2_proto $h
    | (have hsh := shared_deqDone $h; refine Frame2.trans_eq (s1 := _) ?_ hsh.1 hsh.2.1; frame2_tac; done)
    | (have hsh := shared_afterEnq $h; refine Frame2.trans_eq (s1 := _) ?_ hsh.1 hsh.2.1; frame2_tac; done)
    | (have hsh := shared_rtDone $h; refine Frame2.trans_eq (s1 := _) ?_ hsh.1 hsh.2.1; frame2_tac; done)
    | (cases $h:ident; unfold startScan; frame2_eq))

macro "clr_leaf" h:ident : tactic =>
  `(tactic| first
    | exact ClrEff.of_eq3 (shared_dflt $h)
    | exact ClrEff.of_eq3 (shared_rtDone $h)
    | exact ClrEff.of_eq3 (shared_deqDone $h)
    | exact ClrEff.of_eq3 (shared_afterEnq $h)
    | exact clr_spinAcq $h
    | (cases $h:ident; first
        | exact ClrEff.of_eq rfl
        | (apply ClrEff.of_eq; unfold startScan; rfl)
        | (apply ClrEff.of_eq; simp only [setPc_rcd, setPost_rcd, setSem_rcd, setFr_rcd, setMc_rcd, setObj_rcd]
           first
             | exact rcd_postSem ‹postSem _ _ _ = some _›
             | exact rcd_bindSem ‹bindSem _ _ _ = some _›)))

/-- explicit `s'` that differs from `s` in one record -/
macro "clr_tac" : tactic =>
  `(tactic| (intro x <;> simp <;> (try split) <;> (try simp_all)))

macro "clr_leaf2" h:ident : tactic =>
  `(tactic| first
    | clr_leaf $h
    | exact clr_stepOpen $h
    | exact clr_proto $h
    | (have hsh := shared_deqDone $h; refine fun x hx1 hx2 => ?_; rw [hsh.2.1] at hx2; revert x; clr_tac; done)
    | (have hsh := shared_afterEnq $h; refine fun x hx1 hx2 => ?_; rw [hsh.2.1] at hx2; revert x; clr_tac; done)
    | (cases $h:ident; clr_tac; done))

macro "sema_leaf" h:ident : tactic =>
  `(tactic| first
    | exact sema_dflt $h
    | exact sema_spinAcq $h
    | (have hsp := semPost_rtDone $h; exact SemA.of_eq2 (fun _ => rfl) hsp)
    | (have hsp := semPost_deqDone $h; exact SemA.of_eq2 (fun _ => rfl) hsp)
    | (have hsp := semPost_afterEnq $h; exact SemA.of_eq2 (fun _ => rfl) hsp)
    | (cases $h:ident; first
        | exact SemA.of_eq (fun _ => rfl) rfl rfl
        | exact SemA.of_postNone (fun _ => rfl) rfl (by simp_all)
        | exact SemA.of_v ‹_ = some _› ‹postSem _ _ _ = some _› rfl rfl))

macro "sema_leaf2" h:ident : tactic =>
  `(tactic| first
    | sema_leaf $h
    | exact sema_stepOpen $h
    | exact sema_proto $h
    | (cases $h:ident
       have hb := bindSem_sem ‹bindSem _ _ _ = some _›
       exact SemA.of_eq (fun _ => rfl) hb.2.1 (congrFun hb.2.2.1 _)))

/-- closes `Eff s s' t e` at an accepting leaf -/
macro "eff_leaf" h:ident : tactic => `(tactic| first
  | exact eff_dflt $h
  | exact Eff.of_keep ((keep_rtDone $h).1.trans rfl) ((keep_rtDone $h).2.trans rfl)
  | exact Eff.of_keep ((keep_deqDone $h).1.trans rfl) ((keep_deqDone $h).2.trans rfl)
  | exact Eff.of_keep ((keep_afterEnq $h).1.trans rfl) ((keep_afterEnq $h).2.trans rfl)
  | exact eff_spinAcq $h
  | exact eff_stepOpen $h
  | (cases $h:ident; exact Eff.of_keep rfl rfl))

end WaitN
