/-
  Proofs/CounterVC.lean — the Counter acceptor run in lock-step with the generic vector-clock
  machine (Model/VC.lean): product state, ghosts for property C03 (counter edge), and the per-step
  facts needed by the product invariant.

  Only the atomics on `ctr.value`, `ctr.waited` and `nw<k>.waiting` are given to the machine, each
  with the memory order it DECLARES in the log (the acceptor checks that this is the order of the
  ATM_* macro in counter.c / wait.c).  Atomics of other layers (`Loc.other`: mutex words, the waiter
  pool, …) are dropped: in particular NO edge is credited to counter_mu, to the semaphores or to the
  interleaving.  A failed CAS is a relaxed load; a successful CAS is an RMW with its declared order.
-/
import NsyncVerif.Proofs.CounterFacts
import NsyncVerif.Proofs.VC

namespace Counter

open NsyncVerif

def toOrd : Counter.Ord → VC.Ord
  | .rlx => .rlx | .acq => .acq | .rel => .rel | .ar => .ar

/-- the machine event of a log event (declared order; failed CAS = relaxed load) -/
def toVC (t : Tid) : Ev → Option (VC.AEv Loc)
  | .ld _ .other _ | .st _ .other _ _ | .cas _ .other _ _ _ _ => none
  | .ld o l _ => some ⟨t, .ld, toOrd o, l⟩
  | .st o l _ _ => some ⟨t, .st, toOrd o, l⟩
  | .cas o l _ _ _ true => some ⟨t, .rmw, toOrd o, l⟩
  | .cas _ l _ _ _ false => some ⟨t, .ld, .rlx, l⟩
  | _ => none

def evVC : Event → Option (VC.AEv Loc)
  | .thr t e => toVC t e
  | .tick _ => none

def vstep (m : VC.St Loc) (e : Event) : VC.St Loc :=
  match evVC e with
  | some a => VC.step m a
  | none => m

/-- the thread whose event is the successful CAS of its add, if the event is one -/
def casOf (s : State) : Event → Option Tid
  | .thr t (.cas .ar .value _ _ _ true) =>
    match s.pc t with
    | .aCas _ _ => some t
    | _ => none
  | _ => none

/-- acceptor state × machine state × ghosts -/
structure PState where
  s : State
  m : VC.St Loc
  /-- clock of the adding thread just BEFORE the latest CAS that took the value from non-zero to 0 -/
  zeroClock : VC.Clock
  /-- number of successful adds up to and including that zeroing add (0: none yet) -/
  zeroIdx : Nat
  /-- pre-CAS clocks of the adds whose CAS succeeded, oldest first (`adds[i]` produced `hist[i+1]`) -/
  adds : List VC.Clock

def pinit : PState := { s := init, m := VC.St.init, zeroClock := VC.Clock.bot, zeroIdx := 0, adds := [] }

def pstep (p : PState) (e : Event) : Except String PState :=
  match step p.s e with
  | .error msg => .error msg
  | .ok s' =>
    .ok { s := s', m := vstep p.m e,
          zeroClock := match casOf p.s e with
            | some t => if p.s.sh.value ≠ 0 ∧ s'.sh.value = 0 then p.m.vc t else p.zeroClock
            | none => p.zeroClock,
          zeroIdx := match casOf p.s e with
            | some _ => if p.s.sh.value ≠ 0 ∧ s'.sh.value = 0 then p.adds.length + 1 else p.zeroIdx
            | none => p.zeroIdx,
          adds := match casOf p.s e with
            | some t => p.adds ++ [p.m.vc t]
            | none => p.adds }

def prun (p : PState) : List Event → Except String PState
  | [] => .ok p
  | e :: es => match pstep p e with
    | .ok p' => prun p' es
    | .error m => .error m

def PReachable (p : PState) : Prop := ∃ evs, prun pinit evs = .ok p

/-- the thread has read 0 from `value` with an acquire load and will return 0 -/
def seenZero : PC → Bool
  | .wRet _ 0 | .wDeqLoadW _ _ _ 0 | .wDeqStore _ _ _ 0 | .wDeqUnlockCall _ _ _ 0
  | .wDeqUnlockWait _ _ _ 0 => true
  | _ => false

/-- inside nsync_counter_wait after its first `ATM_STORE (&c->waited, 1)` -/
def pastStore : PC → Bool
  | .w0Store _ => false
  | p => (pcDl p).isSome

/-- ghost index (into `hist`) of the value an add's own CAS produced -/
def pcIdx : PC → Option Nat
  | .aLoadWaited _ _ i | .aHeld _ _ i _ | .aPost _ _ i _ | .aUnlockWait _ _ i | .aRet _ _ i => some i
  | _ => none

/-- value obtained by the acquire load of nsync_counter_value / nsync_counter_add (0) -/
def pcVal : PC → Option Nat
  | .valRet v | .azRet v => some v
  | _ => none

/-- What one accepted event of a thread does, as far as the vector-clock product looks at it. -/
structure VCFacts (sh : Shared) (p : PC) (e : Ev) (sh' : Shared) (p' : PC) : Prop where
  seen : seenZero p' = true → seenZero p = true
      ∨ (∃ obs, e = .ld .acq .value obs ∧ obs = 0 ∧ sh.value = 0 ∧ pastStore p = true)
  past : pastStore p' = true → pastStore p = true ∨ sh'.waited = true
  idx : ∀ i, pcIdx p' = some i → pcIdx p = some i
      ∨ (i = sh.hist.length ∧ ∃ d v new, p = .aCas d v ∧ e = .cas .ar .value v new v true)
  val : ∀ v, pcVal p' = some v → pcVal p = some v
      ∨ (e = .ld .acq .value v ∧ v = sh.value ∧ sh.created = true)
  stv : ∀ o n ob, e = .st o .value n ob → sh.created = false
  rmwv : ∀ o x n ob, e = .cas o .value x n ob true → o = .ar ∧ ∃ d v, p = .aCas d v
  cas : ∀ d v, p = .aCas d v → ∀ x n ob, e = .cas .ar .value x n ob true →
      sh.created = true ∧ sh'.hist = sh.hist ++ [n] ∧ sh'.value = n ∧ x = sh.value
  crt : sh'.created = true → sh.created = true ∨ (sh'.hist.length = 1 ∧ ∃ v, p = .newStore v)
  crt' : sh.created = true → sh'.created = true

variable {sh sh' : Shared} {t : Tid} {p p' : PC} {e : Ev}

attribute [local simp] Shared.setSem Shared.setRec release_eq seenZero pastStore pcIdx pcVal pcDl in
theorem Tr.vc (hs : ShInv sh) (hp : pcInv sh t p) (h : Tr sh t p e sh' p') : VCFacts sh p e sh' p' where
  seen := by cases h <;> simp <;> grind
  past := by
    cases h with
    | aPost hb | wPdEnter _ hb => obtain ⟨_, _, rfl⟩ := bind_frame hb; simp
    | _ => simp
  idx := by
    cases h with
    | casWaited hc ho | casHeld hc ho =>
      -- the CAS succeeded, so it observed what it expected
      obtain ⟨rfl, _, rfl, rfl⟩ := hc
      cases of_decide_eq_true ho
      simp
    | _ => simp
  val := by
    simp only [pcInv, pcFacts, mine_iff, quiet_iff] at hp
    cases h <;> simp <;> grind
  stv := by
    rintro o n ob rfl
    cases h with | newStore hg => exact hs.creating (.inl hg.2.2)
  rmwv := by
    rintro o x n ob rfl
    cases h <;> first | exact ⟨rfl, _, _, rfl⟩ | simp_all
  cas := by
    rintro d v rfl x n ob he
    simp only [pcInv, pcFacts] at hp
    cases h with
    | casFail _ ho => cases he; exact absurd rfl ho
    | casWaited hc ho h1 h2 | casHeld hc ho h1 h2 =>
      cases he
      exact ⟨hp.2.1, rfl, rfl, hc.1.trans (cas_ok hc ho h1 h2).1⟩
  crt := by
    cases h with
    | aPost hb | wPdEnter _ hb => obtain ⟨_, _, rfl⟩ := bind_frame hb; exact .inl
    | _ => simp
  crt' := (rely_tr hs hp h (Nat.succ_ne_self t)).created

theorem Own.vc (hs : ShInv sh) (hp : pcInv sh t p) (h : Own sh t p e sh' p') : VCFacts sh p e sh' p' := by
  cases h with
  | tr h => exact h.vc hs hp
  | skip _ _ hst hcas =>
    exact ⟨.inl, .inl, fun _ => .inl, fun _ => .inl, fun o n ob h => absurd h (hst o n ob),
      fun o x n ob h => absurd h (hcas o x n ob true), fun _ _ _ x n ob h => absurd h (hcas _ x n ob true), .inl, id⟩

theorem vcfacts_stepThr {s s' : State} {e : Ev} (hi : Inv s) (h : stepThr s t e = .ok s') :
    VCFacts s.sh (s.pc t) e s'.sh (s'.pc t) := (own_step h).1.vc hi.sh (hi.pcs t)

end Counter
