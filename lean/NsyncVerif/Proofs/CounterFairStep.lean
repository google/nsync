/-
  Proofs/CounterFairStep.lean — Counter layer, liveness form of C10: the measures and the per-step facts
  the fairness arguments use, read off the transitions of the acceptor.

  Fair release (`Prog`):
  * `wrank`  position of a thread inside nsync_counter_wait on its way to the return WHEN THE VALUE IS 0
             (at zero every ready_time says "ready", so the path has no loop)
  * `hm`     what the holder of counter_mu still has to do before it releases it
  * `lrank`  how many more times the call in progress can acquire counter_mu

  Fair timeouts, "a wait whose deadline has passed returns" (`Prog2`):
  * `tpos`  position of a thread inside nsync_counter_wait; every own operation decreases it, except
            the way back from the sleep (`pd_ret 0`: wPdWait → wLoopStore), which consumes one unit of
            the record's semaphore
  * `Bf`    units the record's semaphore can still deliver: its count, plus one while the record is
            queued or its waker is between the store and the post

  Fair release WITHOUT `FiniteArrivals`, "at zero, counter_mu is acquired only finitely often" (`Prog3`):
  no call is accepted on a freed counter and freed is for ever, a wait that starts at zero does not lock,
  and whoever else acquires counter_mu is a free or an add (which `Proofs/CounterFairZeroLock.lean` follows
  step by step: the free frees the object, the add is stuck at its CAS).

  Enabledness (`Prog4`, for `Proofs/CounterFairEnabled.lean`): counter_mu's log name stays bound, the
  phase is `creating` exactly while a thread is at the initialising store, semaphore bindings are
  created only by `pd_enter` / the waker's post.
-/
import NsyncVerif.Proofs.CounterFacts

namespace Counter

/-- position inside nsync_counter_wait; 0 outside -/
def wrank : PC → Nat
  | .wInit _ => 22 | .wEnqLockCall _ _ => 21 | .wEnqLockWait _ _ => 20 | .wEnqLoad _ _ => 19
  | .wEnqStore _ _ _ => 18 | .wEnqUnlockCall _ _ _ => 17 | .wEnqUnlockWait _ _ _ => 16
  | .wPdEnter _ _ => 15 | .wPdWait _ _ _ => 14 | .wLoopStore _ _ => 13 | .wLoopLoad _ _ => 12
  | .wDeqLockCall _ _ _ => 11 | .wDeqLockWait _ _ _ => 10 | .wDeqLoadV _ _ _ => 9
  | .wDeqLoadW _ _ _ _ => 8 | .wDeqStore _ _ _ _ => 7 | .wDeqUnlockCall _ _ _ _ => 6
  | .wDeqUnlockWait _ _ _ _ => 5 | .wFinalLoad _ => 4 | .w0Store _ => 3 | .w0Load _ => 2
  | .wRet _ _ => 1
  | _ => 0

/-- work left for the holder of counter_mu -/
def hm (sh : Shared) : PC → Nat
  | .fHeld => 1
  | .aLoad _ => 2 * sh.waiters.length + 6
  | .aCas _ _ => 2 * sh.waiters.length + 5
  | .aLoadWaited _ _ _ => 2 * sh.waiters.length + 4
  | .aHeld _ _ _ _ => 2 * sh.waiters.length + 3
  | .aPost _ _ _ _ => 2 * sh.waiters.length + 4
  | .wEnqLoad _ _ => 3 | .wEnqStore _ _ _ => 2 | .wEnqUnlockCall _ _ _ => 1
  | .wDeqLoadV _ _ _ => 4 | .wDeqLoadW _ _ _ _ => 3 | .wDeqStore _ _ _ _ => 2
  | .wDeqUnlockCall _ _ _ _ => 1
  | _ => 0

/-- acquisitions of counter_mu the call in progress can still make -/
def lrank : PC → Nat
  | .fLockCall | .fLockWait | .aLockCall _ | .aLockWait _ => 1
  | .w0Store _ | .w0Load _ | .wInit _ | .wEnqLockCall _ _ | .wEnqLockWait _ _ => 2
  | .wEnqLoad _ _ | .wEnqStore _ _ _ | .wEnqUnlockCall _ _ _ | .wEnqUnlockWait _ _ _
  | .wLoopStore _ _ | .wLoopLoad _ _ | .wPdEnter _ _ | .wPdWait _ _ _
  | .wDeqLockCall _ _ _ | .wDeqLockWait _ _ _ => 1
  | _ => 0

/-- program points at which a thread waits for counter_mu -/
def lockWaitPc : PC → Bool
  | .fLockWait | .aLockWait _ | .wEnqLockWait _ _ | .wDeqLockWait _ _ _ => true
  | _ => false

def tpos : PC → Nat
  | .w0Store _ => 33 | .w0Load _ => 32 | .wInit _ => 31
  | .wEnqLockCall _ _ => 30 | .wEnqLockWait _ _ => 29 | .wEnqLoad _ _ => 28
  | .wEnqStore _ _ _ => 27 | .wEnqUnlockCall _ _ _ => 26 | .wEnqUnlockWait _ _ _ => 25
  | .wLoopStore _ _ => 24 | .wLoopLoad _ _ => 23 | .wPdEnter _ _ => 22 | .wPdWait _ _ _ => 21
  | .wDeqLockCall _ _ _ => 20 | .wDeqLockWait _ _ _ => 19 | .wDeqLoadV _ _ _ => 18
  | .wDeqLoadW _ _ _ _ => 17 | .wDeqStore _ _ _ _ => 16 | .wDeqUnlockCall _ _ _ _ => 15
  | .wDeqUnlockWait _ _ _ _ => 14 | .wFinalLoad _ => 13 | .wRet _ _ => 12
  | _ => 0

theorem tpos_pos_iff (p : PC) : 0 < tpos p ↔ 0 < wrank p := by
  cases p <;> simp [tpos, wrank]

def Bf (sh : Shared) (k : NwId) (j : SemId) : Nat :=
  sh.sem j + (if (sh.nw k).waiting = true ∨ sh.posting = some k then 1 else 0)

/-- acquisitions of counter_mu a nsync_counter_wait past its first ready_time can still make -/
def lrank0 : PC → Nat
  | .wInit _ | .wEnqLockCall _ _ | .wEnqLockWait _ _ => 2
  | .wEnqLoad _ _ | .wEnqStore _ _ _ | .wEnqUnlockCall _ _ _ | .wEnqUnlockWait _ _ _
  | .wLoopStore _ _ | .wLoopLoad _ _ | .wPdEnter _ _ | .wPdWait _ _ _
  | .wDeqLockCall _ _ _ | .wDeqLockWait _ _ _ => 1
  | _ => 0

/-- the thread has called nsync_mu_lock (counter_mu) and has not yet called nsync_mu_unlock -/
def pastLock (p : PC) : Bool := lockWaitPc p || holds p

theorem wakeLoop_holds {p : PC} (h : wakeLoop p) : holds p = true := by
  cases p <;> simp_all [wakeLoop, holds]

/-! Each family of facts is a structure over the components of an own step (`Own`): the old and the new
shared state and program point and the event.  A field whose hypothesis fixes the program point is
read off the one or two transitions that start or end there; the others are tables over all
transitions, closed by evaluating the rank functions. -/

attribute [local simp] Shared.setSem Shared.setRec Shared.setSemUser release_eq wrank hm lrank lrank0 tpos
  pcNw pastLock lockWaitPc holds wakeLoop Ev.isCall

variable {sh sh' : Shared} {t : Tid} {p p' : PC} {e : Ev}

/-- What one accepted event of a thread does, as far as the argument for fair release needs it. -/
structure Prog (sh : Shared) (p : PC) (e : Ev) (sh' : Shared) (p' : PC) : Prop where
  now : sh'.now = sh.now
  zrank : sh.value = 0 → 0 < wrank p → p' = p ∨ (wrank p' < wrank p ∧ (p' = .idle ∨ 0 < wrank p'))
  zret : sh.value = 0 → ∀ dl r, p' = .wRet dl r → p = .wRet dl r ∨ r = 0
  semdec : ∀ j, sh'.sem j < sh.sem j →
      sh.semUser j = none ∨ ∃ dl k, p = .wPdWait dl k j ∧ p' = .wLoopStore dl k
  hrank : (∀ d v, p = .aCas d v → v = sh.value) → holds p = true →
      (p' = p ∧ sh'.waiters = sh.waiters) ∨ holds p' = false ∨ hm sh' p' < hm sh p
  wrel : wakeLoop p → holds p' = false → sh.waiters = [] ∧ ∀ d r i k, p ≠ .aPost d r i k
  lrk : e.isCall = false → lrank p' ≤ lrank p
  acq : holds p = false → holds p' = true → lrank p' < lrank p

theorem Tr.prog (h : Tr sh t p e sh' p') : Prog sh p e sh' p' where
  now := by
    cases h with
    | aPost hb | wPdEnter _ hb => obtain ⟨_, _, rfl⟩ := bind_frame hb; rfl
    | _ => first | rfl | simp
  zrank := by cases h <;> simp <;> grind
  zret := by
    rintro hz dl r rfl
    cases h <;> simp_all
  semdec := by
    cases h with
    | aPost hb => obtain ⟨_, _, rfl⟩ := bind_frame hb; simp; grind
    | wPdEnter _ hb => obtain ⟨_, _, rfl⟩ := bind_frame hb; simp
    | _ => simp <;> grind
  hrank := by
    cases h with
    | aPost hb | wPdEnter _ hb => obtain ⟨_, _, rfl⟩ := bind_frame hb; simp
    | _ => simp <;> grind
  wrel := by cases h <;> simp <;> grind
  lrk := by cases h <;> simp
  acq := by cases h <;> simp

theorem Own.prog (h : Own sh t p e sh' p') : Prog sh p e sh' p' := by
  cases h with
  | tr h => exact h.prog
  | @skip f hc _ _ _ hf =>
    refine ⟨rfl, fun _ _ => .inl rfl, fun _ _ _ h => .inl h, fun j hj => ?_, fun _ _ => .inl ⟨rfl, rfl⟩,
      fun hw hh => absurd ((wakeLoop_holds hw).symm.trans hh) nofun,
      fun _ => Nat.le_refl _, fun h1 h2 => absurd (h1.symm.trans h2) nofun⟩
    -- a count that goes down belongs to a semaphore no wait uses
    have hj : f j < sh.sem j := hj
    rcases hf j (Nat.ne_of_lt hj) with ⟨_, h, _⟩ | ⟨h, _⟩
    · omega
    · exact .inl h

theorem prog_stepThr {s s' : State} {e : Ev} (h : stepThr s t e = .ok s') :
    Prog s.sh (s.pc t) e s'.sh (s'.pc t) := (own_step h).1.prog

/-- For "a wait whose deadline has passed returns": the units a record's semaphore can still deliver do
    not grow, and the position goes down except on the way back from the sleep, which consumes a unit. -/
structure Prog2 (sh : Shared) (p : PC) (e : Ev) (sh' : Shared) (p' : PC) : Prop where
  bmono : ∀ k j, (sh.nw k).live = true → (sh.nw k).sem = some j →
      (∀ jj, e = .semV jj → ∃ d r idx w, p = .aPost d r idx w) →
      (∀ dl v, p ≠ .wEnqStore dl k v) →
      (∀ dl jj, p = .wPdWait dl k jj → p' = p) →
      Bf sh' k j ≤ Bf sh k j
  semkeep : ∀ k j, (sh.nw k).live = true → (sh.nw k).sem = some j → (sh'.nw k).live = true →
      (sh'.nw k).sem = some j
  trank : 0 < tpos p → p' = p
      ∨ (tpos p' < tpos p ∧ (p' = .idle ∨ 0 < tpos p')
          ∧ (∀ k, pcNw p' = some k → pcNw p = some k ∨ tpos p = 31))
      ∨ (∃ dl k j, p = .wPdWait dl k j ∧ p' = .wLoopStore dl k ∧ sh'.sem j + 1 = sh.sem j
          ∧ sh'.nw = sh.nw ∧ sh'.posting = sh.posting)

theorem Tr.prog2 (hs : ShInv sh) (hp : pcInv sh t p) (h : Tr sh t p e sh' p') : Prog2 sh p e sh' p' where
  bmono := by
    have hsemu := hs.semu
    have hq := hs.queue
    have hpost := hs.post
    simp only [pcInv] at hp
    cases h with
    | aPost hb | wPdEnter _ hb =>
      simp only [pcFacts, mine_iff, own] at hp
      rcases bind_eq hb with ⟨rfl, _⟩ | ⟨_, _, rfl⟩ <;> simp only [Shared.setSem, Shared.setRec, Shared.setSemUser, Bf] <;>
        grind
    | wake | wInit | enqueue | noEnqueue | dequeue | pdWoken | deqZero | deqNonzero =>
      simp only [pcFacts, mine_iff, own] at hp
      simp only [Shared.setSem, Shared.setRec, release_eq, Bf] <;> grind
    | _ => exact fun _ _ _ _ _ _ _ => Nat.le_refl _
  semkeep := by
    have hsemu := hs.semu
    simp only [pcInv] at hp
    cases h with
    | aPost hb | wPdEnter _ hb =>
      simp only [pcFacts, mine_iff, own] at hp
      rcases bind_eq hb with ⟨rfl, _⟩ | ⟨_, _, rfl⟩
      · exact fun _ _ _ h _ => h
      · simp only [Shared.setSem, Shared.setRec, Shared.setSemUser]; grind
    | wake | wInit | enqueue | noEnqueue | dequeue | pdWoken | deqZero | deqNonzero =>
      simp only [pcFacts, mine_iff, own] at hp
      simp only [Shared.setSem, Shared.setRec, release_eq] <;> grind
    | _ => exact fun _ _ _ h _ => h
  trank := by
    cases h with
    | pdWoken hj _ hn =>
      subst hj
      exact fun _ => .inr (.inr ⟨_, _, _, rfl, rfl, by simp [hn], rfl, rfl⟩)
    | _ => simp

theorem Own.prog2 (hs : ShInv sh) (hp : pcInv sh t p) (h : Own sh t p e sh' p') : Prog2 sh p e sh' p' := by
  cases h with
  | tr h => exact h.prog2 hs hp
  | @skip f _ _ _ _ hf =>
    refine ⟨fun k j _ _ hv _ _ => Nat.add_le_add_right ?_ _, fun _ _ _ h _ => h, fun _ => .inl rfl⟩
    -- the count of `j` does not go up: a post accepted here would be a waker's, at `aPost`
    show f j ≤ sh.sem j
    by_cases hj : f j = sh.sem j
    · exact Nat.le_of_eq hj
    · rcases hf j hj with ⟨he, _, hx⟩ | ⟨_, h⟩
      · obtain ⟨d, r, idx, w, hpc⟩ := hv j he
        exact absurd hpc (hx d r idx w)
      · omega

theorem prog2_stepThr {s s' : State} {e : Ev} (hi : Inv s) (h : stepThr s t e = .ok s') :
    Prog2 s.sh (s.pc t) e s'.sh (s'.pc t) := (own_step h).1.prog2 hi.sh (hi.pcs t)

/-- For "at zero, counter_mu is acquired only finitely often": nothing is called on a freed counter, freed
    is for ever, a wait that starts at zero does not lock, an acquisition is a free's, an add's or takes
    `lrank0` down. -/
structure Prog3 (sh : Shared) (p : PC) (e : Ev) (sh' : Shared) (p' : PC) : Prop where
  callfreed : e.isCall = true → sh.phase ≠ .freed
  freedabs : sh.phase = .freed → sh'.phase = .freed
  lrk0 : sh.value = 0 → lrank0 p' ≤ lrank0 p
  acqkind : holds p = false → holds p' = true → p' = .fHeld ∨ (∃ d, p' = .aLoad d) ∨ lrank0 p' < lrank0 p

theorem Tr.prog3 (h : Tr sh t p e sh' p') : Prog3 sh p e sh' p' where
  callfreed := by cases h <;> simp_all
  freedabs := by
    cases h with
    | aPost hb | wPdEnter _ hb => obtain ⟨_, _, rfl⟩ := bind_frame hb; exact id
    | _ => simp_all
  lrk0 := by cases h <;> simp_all
  acqkind := by cases h <;> simp

theorem Own.prog3 (h : Own sh t p e sh' p') : Prog3 sh p e sh' p' := by
  cases h with
  | tr h => exact h.prog3
  | skip hc _ _ _ _ =>
    exact ⟨fun h => absurd (hc.symm.trans h) nofun, id, fun _ => Nat.le_refl _, fun h1 h2 => absurd (h1.symm.trans h2) nofun⟩

theorem prog3_stepThr {s s' : State} {e : Ev} (h : stepThr s t e = .ok s') :
    Prog3 s.sh (s.pc t) e s'.sh (s'.pc t) := (own_step h).1.prog3

/-- For enabledness: counter_mu's log name stays bound, the phase is `creating` exactly while a thread
    is at the initialising store, semaphore bindings are created only by `pd_enter` / the waker's post. -/
structure Prog4 (sh : Shared) (p : PC) (e : Ev) (sh' : Shared) (p' : PC) : Prop where
  muk : sh.mu ≠ none → sh'.mu ≠ none
  mub : pastLock p' = true → pastLock p = true ∨ sh'.mu ≠ none
  ph2 : ∀ v, p' = .newStore v → (p = .newStore v ∧ sh'.phase = sh.phase)
      ∨ (sh.phase = .absent ∧ sh'.phase = .creating)
  ph3 : sh.phase = .creating → sh'.phase = .creating ∨ (∃ v, p = .newStore v)
  su : ∀ j, sh'.semUser j ≠ none → sh.semUser j ≠ none ∨ (∃ dl k, p' = .wPdWait dl k j)
      ∨ (e = .semV j ∧ ∃ d r idx, p' = .aHeld d r idx true)

theorem Tr.prog4 (h : Tr sh t p e sh' p') : Prog4 sh p e sh' p' where
  muk := by
    cases h with
    | aPost hb | wPdEnter _ hb => obtain ⟨_, _, rfl⟩ := bind_frame hb; exact id
    | _ => simp_all
  mub := by
    cases h with
    | aPost hb | wPdEnter _ hb => obtain ⟨_, _, rfl⟩ := bind_frame hb; simp
    | _ => simp
  ph2 := by
    rintro v rfl
    cases h with | mallocOk hg => exact .inr ⟨hg, rfl⟩
  ph3 := by
    cases h with
    | aPost hb | wPdEnter _ hb => obtain ⟨_, _, rfl⟩ := bind_frame hb; exact .inl
    | _ => simp_all
  su := by
    cases h with
    | aPost hb | wPdEnter _ hb => rcases bind_eq hb with ⟨rfl, _⟩ | ⟨_, _, rfl⟩ <;> simp <;> grind
    | _ => simp <;> grind

theorem Own.prog4 (h : Own sh t p e sh' p') : Prog4 sh p e sh' p' := by
  cases h with
  | tr h => exact h.prog4
  | skip => exact ⟨id, .inl, fun _ h => .inl ⟨h, rfl⟩, .inl, fun _ => .inl⟩

theorem prog4_stepThr {s s' : State} {e : Ev} (h : stepThr s t e = .ok s') :
    Prog4 s.sh (s.pc t) e s'.sh (s'.pc t) := (own_step h).1.prog4

end Counter
