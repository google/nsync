/-
  Layer `CvFix` (repaired cv.c): protocol invariant — generic lemma for a transition that changes one record and the
  frame of the acting thread (no `todo` list changes).
-/
import NsyncVerif.Proofs.CvFixInvBFrame

namespace NsyncVerif.CvFix

variable {f3 : Bool}

/-- The handshake facts of thread `u` about its record, evaluated in `s'`. -/
def SvOK (s s' : State) (u : Tid) : Prop :=
  ((s'.recs (s.thr u).r).stat = .queued → (s'.recs (s.thr u).r).rc = (s.thr u).saved) ∧
  ((s'.recs (s.thr u).r).stat = .xfer ∨ (s'.recs (s.thr u).r).stat = .woken →
    (s.thr u).saved < (s'.recs (s.thr u).r).rc) ∧
  (∀ v, (s'.recs (s.thr u).r).stat = .listed v →
    ((s.thr u).r ∈ (s'.thr v).todo → (s'.recs (s.thr u).r).rc = (s.thr u).saved) ∧
    ((s.thr u).r ∉ (s'.thr v).todo → (s.thr u).saved < (s'.recs (s.thr u).r).rc))

/-- A thread that does not act keeps its facts if, among the records it owns, the self-removed ones
    are the same (with the same `waiting`) and the handshake for its own record is re-established. -/
theorem tinvB_other3 {s s' : State} {u : Tid} (h : TInvB' f3 s u) (ha : TInvA s u) (ht : s'.thr u = s.thr u)
    (hls : (s.thr u).loc = .nDeqSt ∨ (s.thr u).loc = .nDeqRel →
      ∀ v, (s'.recs (s.thr u).r).stat = .listed v → (s.recs (s.thr u).r).stat = .listed v)
    (hso : ∀ q, (s.recs q).owner = u → (s.recs q).stat ≠ .idle →
      ((s'.recs q).stat = .selfOut ↔ (s.recs q).stat = .selfOut) ∧
      ((s.recs q).stat = .selfOut → (s'.recs q).waiting = (s.recs q).waiting))
    (hsv : savedLoc (s.thr u) = true → SvOK s s' u) : TInvB' f3 s' u := by
  obtain ⟨b1, b2, b3, b4, b5, b6, b7, b8, b9, b10, b11, b12, b13, b14, b15⟩ := h
  have hlive : waitLive (s.thr u) = true →
      ((s'.recs (s.thr u).r).stat = .selfOut ↔ (s.recs (s.thr u).r).stat = .selfOut) ∧
      ((s.recs (s.thr u).r).stat = .selfOut → (s'.recs (s.thr u).r).waiting = (s.recs (s.thr u).r).waiting) := by
    intro hl
    obtain ⟨o, _, lv⟩ := ha.live hl
    exact hso _ o (by intro e; rw [e] at lv; simp [RStat.live] at lv)
  constructor <;> rw [ht]
  · intro h1; exact (hsv h1).1
  · intro h1; exact (hsv h1).2.1
  · intro h1; exact (hsv h1).2.2
  · intro h1 h2; exact b4 h1 ((hlive h1).1.mp h2)
  · intro h1 h2 h3; rw [(hlive h1).2 ((hlive h1).1.mp h2)]; exact b5 h1 ((hlive h1).1.mp h2) h3
  · exact b6
  · intro h1 h2; obtain ⟨c1, c2⟩ := b7 h1 h2; exact ⟨(hlive h1).1.mpr c1, c2⟩
  · exact b8
  · intro q hq h2
    obtain ⟨_, o, ni, _⟩ := ha.mine q hq
    exact b9 q hq ((hso q o ni).1.mp h2)
  · exact b10
  · exact b11
  · exact b12
  · exact b13
  · intro h1 v h2; exact b14 h1 v (hls h1 v h2)
  · intro h1
    obtain ⟨hm, _⟩ := ha.nDeq (.inl h1)
    obtain ⟨_, o, ni, _⟩ := ha.mine _ hm
    exact (b15 h1).imp_left ((hso _ o ni).1).mpr

theorem invB_one {s s' : State} {t : Tid} {r : Rid} {x' : Thr} {v : Rec} (hi : InvB' f3 s) (ha : InvA s)
    (hthr' : s'.thr = updT s.thr t x') (hrecs' : s'.recs = updR s.recs r v)
    (htodo' : x'.todo = (s.thr t).todo)
    (hbad : s'.bad = false)
    (hls : ∀ u, u ≠ t → (s.recs r).owner = u → ∀ v, (s'.recs r).stat = .listed v → (s.recs r).stat = .listed v)
    -- the owner of the record, if it is another thread
    (hown : ∀ u, u ≠ t → (s.recs r).owner = u → (s.recs r).stat ≠ .idle →
      ((s'.recs r).stat = .selfOut ↔ (s.recs r).stat = .selfOut) ∧
      ((s.recs r).stat = .selfOut → (s'.recs r).waiting = (s.recs r).waiting) ∧
      (savedLoc (s.thr u) = true → (s.thr u).r = r → SvOK s s' u))
    (ht : TInvB' f3 s' t) : FrameB f3 s' := by
  have hthr : ∀ u, u ≠ t → s'.thr u = s.thr u := fun u hu => by rw [hthr']; simp [hu]
  have hrecs : ∀ q, q ≠ r → s'.recs q = s.recs q := fun q hq => by rw [hrecs']; simp [updR, hq]
  have htodo : (s'.thr t).todo = (s.thr t).todo := by rw [hthr']; simpa using htodo'
  obtain ⟨b1, b2, b3, b4, b5, b6, b7, b8⟩ := hi
  have todo_eq : ∀ v, (s'.thr v).todo = (s.thr v).todo := by
    intro v
    by_cases hv : v = t
    · subst hv; exact htodo
    · rw [hthr v hv]
  refine ⟨fun u => ?_, hbad⟩
  by_cases hu : u = t
  · subst hu; exact ht
  · refine tinvB_other3 (b7 u) (ha.thr u) (hthr u hu) ?_ ?_ ?_
    · intro h1 v hv
      obtain ⟨hm, _⟩ := (ha.thr u).nDeq h1
      by_cases hq : (s.thr u).r = r
      · rw [hq] at hv ⊢; exact hls u hu (hq ▸ ((ha.thr u).mine _ hm).2.1) v hv
      · rw [hrecs _ hq] at hv; exact hv
    · intro q ho hni
      by_cases hq : q = r
      · subst hq
        obtain ⟨c1, c2, _⟩ := hown u hu ho hni
        exact ⟨c1, c2⟩
      · rw [hrecs q hq]; exact ⟨Iff.rfl, fun _ => rfl⟩
    · intro hs
      by_cases hq : (s.thr u).r = r
      · obtain ⟨o, _, lv⟩ := (ha.thr u).live (savedLoc_live hs)
        rw [hq] at o lv
        exact (hown u hu o (by intro e; rw [e] at lv; simp [RStat.live] at lv)).2.2 hs hq
      · unfold SvOK
        rw [hrecs _ hq]
        refine ⟨(b7 u).svQ hs, (b7 u).svX hs, ?_⟩
        intro v; rw [todo_eq v]; exact (b7 u).svL hs v

/-- `invB_one` for a record that `t` itself owns: no other thread's clauses read it. -/
theorem invB_own {s s' : State} {t : Tid} {r : Rid} {x' : Thr} {v : Rec} (hi : InvB' f3 s) (ha : InvA s)
    (hthr' : s'.thr = updT s.thr t x') (hrecs' : s'.recs = updR s.recs r v) (htodo' : x'.todo = (s.thr t).todo)
    (hbad : s'.bad = false) (hown : (s.recs r).owner = t) (ht : TInvB' f3 s' t) : FrameB f3 s' :=
  invB_one hi ha hthr' hrecs' htodo' hbad (fun _ hu ho => absurd (hown.symm.trans ho) (Ne.symm hu))
    (fun _ hu ho => absurd (hown.symm.trans ho) (Ne.symm hu)) ht

end NsyncVerif.CvFix
