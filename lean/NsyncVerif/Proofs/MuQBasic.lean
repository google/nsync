import NsyncVerif.Model.MuQ
import NsyncVerif.Proofs.Run
/-
  MuQ: basic facts — encode/decode, function updates, induction over runs.
-/
namespace NsyncVerif.MuQ

/-- The lowest bit and the rest of `b + 2 n`. -/
theorem bit_peel (b : Bool) (n : Nat) : ((b2n b + 2 * n) % 2 == 1) = b ∧ (b2n b + 2 * n) / 2 = n := by
  cases b <;> simp [b2n] <;> omega

theorem decode_encode (w : Word) : decode (encode w) = w := by
  obtain ⟨a, b, c, d, e, f, g, h, r⟩ := w
  -- Horner form of the encoding
  have hv : encode ⟨a, b, c, d, e, f, g, h, r⟩ =
      b2n a + 2 * (b2n b + 2 * (b2n c + 2 * (b2n d + 2 * (b2n e + 2 * (b2n f + 2 * (b2n g + 2 * (b2n h + 2 * r))))))) := by
    simp only [encode]; omega
  have dd : ∀ v k : Nat, v / (k * 2) = v / k / 2 := fun v k => (Nat.div_div_eq_div_mul v k 2).symm
  simp only [decode, hv, dd _ 128, dd _ 64, dd _ 32, dd _ 16, dd _ 8, dd _ 4, dd _ 2, bit_peel]
theorem encode_inj {a b : Word} (h : encode a = encode b) : a = b := by
  rw [← decode_encode a, ← decode_encode b, h]

theorem encode_zero : encode Word.zero = 0 := by decide


@[simp] theorem setFn_same {α : Type} (f : Nat → α) (t : Nat) (v : α) : setFn f t v t = v := by simp [setFn]

theorem setFn_other {α : Type} (f : Nat → α) (t u : Nat) (v : α) (h : u ≠ t) : setFn f t v u = f u := by
  simp [setFn, h]

theorem setFn_others {α : Type} {f g : Nat → α} {t : Nat} {v : α} (h : g = setFn f t v) : ∀ u, u ≠ t → g u = f u :=
  fun u hu => h ▸ setFn_other f t u v hu

/-- An update that keeps the field `f` of the updated entry keeps it everywhere. -/
theorem setFn_field {α β : Type} (f : α → β) {g : Nat → α} {t : Nat} {v : α} (u : Nat)
    (h : f v = f (g t) := by rfl) : f (setFn g t v u) = f (g u) := by
  by_cases e : u = t
  · rw [e, setFn_same, h]
  · rw [setFn_other _ _ _ _ e]

theorem setFn_apply {α : Type} (f : Nat → α) (t u : Nat) (v : α) : setFn f t v u = if u = t then v else f u := rfl

theorem setFn_self {α : Type} (f : Nat → α) (t : Nat) : setFn f t (f t) = f := by
  funext u; simp [setFn]; intro h; rw [h]

/-- One check of the acceptor: the chain accepts iff the check does not fire and the rest accepts. -/
theorem guard_ok {α : Type} {g : Prop} [Decidable g] {m : String} {x : Except String α} {a : α} :
    (if g then .error m else x) = .ok a ↔ ¬ g ∧ x = .ok a := by
  by_cases hg : g
  · rw [if_pos hg]; exact ⟨nofun, fun h => absurd hg h.1⟩
  · rw [if_neg hg]; exact ⟨fun h => ⟨hg, h⟩, fun h => h.2⟩

theorem isRun (cfg : Cfg) : IsRun (step cfg) (run cfg) :=
  ⟨fun _ => rfl, fun s e _ => by rw [run]; cases step cfg s e <;> rfl⟩

theorem reachable_init (cfg : Cfg) : Reachable cfg init := ⟨[], rfl⟩

theorem reachable_step {cfg : Cfg} {s s' : State} {e : Event} (h : Reachable cfg s)
    (hs : step cfg s e = .ok s') : Reachable cfg s' := by
  obtain ⟨evs, h⟩ := h
  exact ⟨evs ++ [e], (isRun cfg).snoc h hs⟩

/-- Induction principle for reachable states. -/
theorem reachable_induction {cfg : Cfg} {P : State → Prop} (h0 : P init)
    (hstep : ∀ s e s', Reachable cfg s → P s → step cfg s e = .ok s' → P s') :
    ∀ s, Reachable cfg s → P s :=
  fun _ ⟨_, h⟩ => (isRun cfg).induct h0 hstep h

end NsyncVerif.MuQ
