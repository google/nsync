/-
  Layer `CvFix` (repaired cv.c): structural invariant — transitions of the spinlock holder that change one record.
-/
import NsyncVerif.Proofs.CvFixInvARec

namespace NsyncVerif.CvFix

/-- `old_word` after removing `r` from the queue (cv.c:277-279, 504-506). -/
theorem old_after_erase {s : State} (hi : InvA s) {t : Tid} (hh : s.holder = some t) (r : Rid) :
    let old' : Word := if (s.queue.erase r).isEmpty then { (s.thr t).old with ne := false } else (s.thr t).old
    old'.spin = false ∧ (old'.ne = true ↔ s.queue.erase r ≠ []) := by
  obtain ⟨o1, o2⟩ := hi.old t hh
  by_cases hz : (s.queue.erase r).isEmpty = true
  · simp only [hz, if_true]
    simp at hz
    simp [o1, hz]
  · simp only [hz]
    simp at hz
    refine ⟨o1, ?_⟩
    simp [hz]
    apply o2.mpr
    intro e; rw [e] at hz; simp at hz

theorem invA_enqSt {s : State} (hi : InvA s) (t : Tid) (r : Rid) (hl : (s.thr t).loc = .nLocked) (hm : r.isMucv = false)
    (hst : (s.recs r).stat = .idle) (ho : (s.recs r).owner = t) :
    FrameA ({ s with queue := s.queue ++ [r] }.setRec r
            { s.recs r with waiting := true, stat := .queued, pub := false, unl := [], posted := false }
          |>.setThr t { s.thr t with r := r, mine := r :: (s.thr t).mine, old := { (s.thr t).old with ne := true }, loc := .nEnqRel }) := by
  tfacts hl
  have hholds : (s.thr t).loc.holds = true := by simp [hl, Loc.holds]
  have hh := (hi.hold t).mpr hholds
  have hnot := hi.others_free hholds
  have hlist : (s.thr t).list = [] := t1 trivial
  have hrq : r ∉ s.queue := fun e => by have := (hi.qMem r).mp e; rw [hst] at this; cases this
  have hrm : r ∉ (s.thr t).mine := fun e => (t6 r e).2.2.1 hst
  obtain ⟨o1, o2⟩ := hi.old t hh
  refine invA_one (t := t) (r := r) hi (fun u hu => by simp [hu]) (fun q hq => by simp [hq]) hnot
    (by simpa using hi.spin) (.inl ⟨by simpa using hh, by simp [Loc.holds]⟩) (by simp [o1])
    (by simp [hh]) ?_ ?_ (by simp [hlist]) (lMem_nil hi r hlist (by simp [hlist]) (fun q hq => by simp [hq]) (by simp))
    (by simp [hst]) (by simp [hst]) ?_ (by simp)
  · simp only [setThr_queue, setRec_queue]
    rw [List.nodup_append]
    refine ⟨hi.qNd, by simp, ?_⟩
    intro a ha b hb; simp at hb; subst hb; exact fun e => hrq (e ▸ ha)
  · intro q
    simp only [setThr_queue, setRec_queue, setThr_recs, setRec_recs, List.mem_append, List.mem_singleton]
    by_cases hq : q = r
    · subst hq; simp
    · simp [hq]; exact hi.qMem q
  · constructor <;> simp [waitLive, waitPrep, inWaitN, Loc.wakePhase, hlist, hm, ho]
    · intro q hq
      have hne : q ≠ r := fun e => hrm (e ▸ hq)
      simp [hne]; exact t6 q hq
    · exact ⟨hrm, t7⟩

/-- Removal of the holder's own queued record: the timeout path of the wait (`wCmp`, `lnew = wRmLd`)
    and cv_dequeue (`nLocked`, `lnew = nDeqSt`). -/
theorem invA_selfRemove {s : State} (hi : InvA s) (t : Tid) (r : Rid) (lnew : Loc) (ul : List Unl) (wq : Bool)
    (hholds : (s.thr t).loc.holds = true) (hlist : (s.thr t).list = [])
    (hst : (s.recs r).stat = .queued) (ho : (s.recs r).owner = t) (hln : lnew.holds = true)
    (hb : ¬ (lnew = .sRcLd ∨ lnew = .sRcCas ∨ lnew = .sRel))
    (ht : TInvA ({ s with queue := s.queue.erase r }.setRec r { s.recs r with stat := .selfOut, unl := ul }
          |>.setThr t { s.thr t with r := r, loc := lnew, wasQ := wq, old := if (s.queue.erase r).isEmpty then { (s.thr t).old with ne := false } else (s.thr t).old }) t) :
    FrameA ({ s with queue := s.queue.erase r }.setRec r { s.recs r with stat := .selfOut, unl := ul }
          |>.setThr t { s.thr t with r := r, loc := lnew, wasQ := wq, old := if (s.queue.erase r).isEmpty then { (s.thr t).old with ne := false } else (s.thr t).old }) := by
  have hh := (hi.hold t).mpr hholds
  have hnot := hi.others_free hholds
  have hold := old_after_erase hi hh r
  refine invA_one (t := t) (r := r) hi (fun u hu => by simp [hu]) (fun q hq => by simp [hq]) hnot
    (by simpa using hi.spin) (.inl ⟨by simpa using hh, by simpa using hln⟩) (by intro _; simpa using hold)
    (by simp [hh]) ?_ ?_ (by simp [hlist]) (lMem_nil hi r hlist (by simp [hlist]) (fun q hq => by simp [hq]) (by simp))
    (by simp [hst]) (fun _ => .inl ho) ht ?_
  · simp; exact hi.qNd.erase r
  · intro q
    simp only [setThr_queue, setRec_queue, setThr_recs, setRec_recs]
    by_cases hq : q = r
    · subst hq; simp; exact fun e => (List.Nodup.mem_erase_iff hi.qNd).mp e |>.1 rfl
    · simp [hq, List.mem_erase_of_ne hq]; exact hi.qMem q
  · intro _ hb2
    simp at hb2; exact absurd hb2 hb

theorem invA_wCmpEq {s : State} (hi : InvA s) (t : Tid) (r : Rid) (hl : (s.thr t).loc = .wCmp) (hr : r = (s.thr t).r)
    (hst : (s.recs r).stat = .queued) :
    FrameA ({ s with queue := s.queue.erase r }.setRec r
            { s.recs r with stat := .selfOut, unl := (s.recs r).unl ++ [Unl.self] }
          |>.setThr t { s.thr t with loc := .wRmLd, old := if (s.queue.erase r).isEmpty then { (s.thr t).old with ne := false } else (s.thr t).old }) := by
  tfacts hl
  subst hr
  have := invA_selfRemove hi t (s.thr t).r .wRmLd ((s.recs (s.thr t).r).unl ++ [Unl.self]) (s.thr t).wasQ (by simp [hl, Loc.holds])
    (t1 trivial) hst (t3 trivial).1 rfl (by simp) ?_
  · exact this
  · have hmine : (s.thr t).mine = [] := t8 trivial
    constructor <;> simp [waitLive, waitPrep, inWaitN, Loc.wakePhase, hmine, t1, RStat.live]
    exact ⟨(t3 trivial).1, (t3 trivial).2.1⟩

theorem invA_deqLdQueued {s : State} (hi : InvA s) (t : Tid) (r : Rid) (wq : Bool) (hl : (s.thr t).loc = .nLocked)
    (hr : r ∈ (s.thr t).mine) (hst : (s.recs r).stat = .queued) :
    FrameA ({ s with queue := s.queue.erase r }.setRec r
            { s.recs r with stat := .selfOut, unl := (s.recs r).unl ++ [Unl.self] }
          |>.setThr t { s.thr t with r := r, loc := .nDeqSt, wasQ := wq, old := if (s.queue.erase r).isEmpty then { (s.thr t).old with ne := false } else (s.thr t).old }) := by
  tfacts hl
  refine invA_selfRemove hi t r .nDeqSt ((s.recs r).unl ++ [Unl.self]) wq (by simp [hl, Loc.holds])
    (t1 trivial) hst (t6 r hr).2.1 rfl (by simp) ?_
  constructor <;> simp [waitLive, waitPrep, inWaitN, Loc.wakePhase, t1, hr]
  · intro q hq
    by_cases hqr : q = r
    · subst hqr; simp; exact ⟨(t6 q hq).1, (t6 q hq).2.1⟩
    · simp [hqr]; exact t6 q hq
  · exact t7

/-- Defect F3 of the pinned cv.c (`Old.deqLdF3`): cv_dequeue "removes" a record that is on a waker's
    private list; the record keeps its status and stays on that list. -/
theorem invA_deqLdF3 {s : State} (hi : InvA s) (t : Tid) (r : Rid) (u : Tid) (hl : (s.thr t).loc = .nLocked)
    (hr : r ∈ (s.thr t).mine) (hst : (s.recs r).stat = .listed u) :
    FrameA (s.setRec r { s.recs r with unl := (s.recs r).unl ++ [Unl.self] }
          |>.setThr t { s.thr t with r := r, loc := .nDeqSt, old := if s.queue.isEmpty then { (s.thr t).old with ne := false } else (s.thr t).old }) := by
  tfacts hl
  have hholds : (s.thr t).loc.holds = true := by simp [hl, Loc.holds]
  have hh := (hi.hold t).mpr hholds
  obtain ⟨o1, o2⟩ := hi.old t hh
  refine invA_frame (t := t) hi rfl rfl rfl (fun v hv => by simp [hv]) (by simp [hl, Loc.holds]) (by simp) ?_
    (RecSame.set ⟨rfl, fun _ => rfl⟩) ?_ (by simp)
  · intro _
    by_cases hz : s.queue.isEmpty = true
    · simp only [setThr_thr, if_true, hz]; simp at hz; simp [o1, hz]
    · simp only [setThr_thr, if_true, hz]; exact ⟨o1, o2⟩
  · constructor <;> simp [waitLive, waitPrep, inWaitN, Loc.wakePhase, t1, hr, hst]
    · intro q hq
      by_cases hqr : q = r
      · subst hqr; simp; exact ⟨(t6 q hq).1, (t6 q hq).2.1⟩
      · simp [hqr]; exact t6 q hq
    · exact t7

end NsyncVerif.CvFix
