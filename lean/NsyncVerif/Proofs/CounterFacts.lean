/-
  Proofs/CounterFacts.lean — per-step facts (what one accepted event can change), used by the
  trace-level theorems of C10; which program point accepts an API return; who the lock holder is
  when the ghost flags `waking` / `posting` are set.
-/
import NsyncVerif.Proofs.CounterStep

namespace Counter

/-- the waiter record a program point refers to -/
def pcNw : PC → Option NwId
  | .wEnqLockCall _ k | .wEnqLockWait _ k | .wEnqLoad _ k | .wEnqStore _ k _
  | .wEnqUnlockCall _ k _ | .wEnqUnlockWait _ k _ | .wLoopStore _ k | .wLoopLoad _ k
  | .wPdEnter _ k | .wPdWait _ k _
  | .wDeqLockCall _ k _ | .wDeqLockWait _ k _ | .wDeqLoadV _ k _ | .wDeqLoadW _ k _ _
  | .wDeqStore _ k _ _ | .wDeqUnlockCall _ k _ _ | .wDeqUnlockWait _ k _ _ => some k
  | _ => none

/-- program points of nsync_counter_wait after the first ready_time said "not ready":
    from the record initialisation to the end of dequeue -/
def sleepPath : PC → Bool
  | .wInit _ => true
  | p => (pcNw p).isSome

/-- the thread is an add that made the counter zero and has not released counter_mu yet -/
def wakeLoop : PC → Prop
  | .aLoadWaited _ r _ => r = 0
  | .aHeld _ _ _ wake => wake = true
  | .aPost _ _ _ _ => True
  | _ => False

/-- the delta of the nsync_counter_add call in progress -/
def pcDelta : PC → Option Int
  | .azLoad | .azRet _ => some 0
  | .aLockCall d | .aLockWait d | .aLoad d | .aCas d _ | .aLoadWaited d _ _ | .aHeld d _ _ _
  | .aPost d _ _ _ | .aUnlockWait d _ _ | .aRet d _ _ => some d
  | _ => none

/-- the deadline of the nsync_counter_wait call in progress -/
def pcDl : PC → Option Deadline
  | .w0Store dl | .w0Load dl | .wInit dl | .wEnqLockCall dl _ | .wEnqLockWait dl _ | .wEnqLoad dl _
  | .wEnqStore dl _ _ | .wEnqUnlockCall dl _ _ | .wEnqUnlockWait dl _ _ | .wLoopStore dl _
  | .wLoopLoad dl _ | .wPdEnter dl _ | .wPdWait dl _ _ | .wDeqLockCall dl _ _ | .wDeqLockWait dl _ _
  | .wDeqLoadV dl _ _ | .wDeqLoadW dl _ _ _ | .wDeqStore dl _ _ _ | .wDeqUnlockCall dl _ _ _
  | .wDeqUnlockWait dl _ _ _ | .wFinalLoad dl | .wRet dl _ => some dl
  | _ => none

structure StepFacts (s : State) (t : Tid) (e : Ev) (s' : State) : Prop where
  others : ∀ u, u ≠ t → s'.pc u = s.pc u
  hist : (s'.sh.hist = s.sh.hist ∧ s'.sh.deltas = s.sh.deltas ∧ s'.sh.value = s.sh.value
            ∧ s'.sh.initial = s.sh.initial)
       ∨ (∃ d v new, s.pc t = .aCas d v ∧ e = .cas .ar .value v new v true ∧ v = s.sh.value
            ∧ s'.sh.hist = s.sh.hist ++ [new] ∧ s'.sh.deltas = s.sh.deltas ++ [d]
            ∧ (new : Int) = (s.sh.value : Int) + d ∧ s'.sh.value = new ∧ s'.sh.initial = s.sh.initial)
       ∨ (∃ v, s.pc t = .newStore v ∧ s.sh.created = false ∧ s'.sh.hist = [v] ∧ s'.sh.value = v)
  zst : s.sh.waited = true → s.sh.value = 0 → s'.sh.value = 0
  wtd : s.sh.waited = true → s'.sh.waited = true
  nosleep : s.sh.value = 0 → sleepPath (s.pc t) = false → sleepPath (s'.pc t) = false
  recs : ∀ k, (s'.sh.nw k).live = true →
      ((s.sh.nw k).live = true ∧ (s'.sh.nw k).owner = (s.sh.nw k).owner
          ∧ (pcNw (s.pc t) = some k → pcNw (s'.pc t) = some k))
      ∨ ((s'.sh.nw k).owner = t ∧ pcNw (s'.pc t) = some k)
  access : ∀ k, touches e k → (s.sh.nw k).live = true → (s.sh.nw k).owner ≠ t →
      s.sh.lockHolder = some t ∧ k ∈ s.sh.waiters ∧ wakeLoop (s.pc t)
  waiters : s.sh.lockHolder ≠ some t → s'.sh.waiters = s.sh.waiters
  delta : ∀ d, pcDelta (s.pc t) = some d → s'.pc t = .idle ∨ pcDelta (s'.pc t) = some d
  dline : ∀ d, pcDl (s.pc t) = some d → s'.pc t = .idle ∨ pcDl (s'.pc t) = some d
  callA : ∀ d, e = .callAdd d → s.pc t = .idle ∧ pcDelta (s'.pc t) = some d
  callW : ∀ d, e = .callWait d → s.pc t = .idle ∧ s'.pc t = .w0Store d

theorem dflt_facts {s s' : State} {idle : Bool} {e : Ev} (t : Tid) (h : dflt s idle e = .ok s') :
    StepFacts s t e s' := by
  -- the program points and everything `StepFacts` reads of the shared state stay as they are
  obtain ⟨hc, ht, _, rfl | ⟨j, n, rfl, _⟩⟩ := dflt_ok h <;>
    exact ⟨fun _ _ => rfl, .inl ⟨rfl, rfl, rfl, rfl⟩, fun _ h => h, id, fun _ h => h, fun _ h => .inl ⟨h, rfl, id⟩,
      fun k hk hl => absurd ((ht k hk).symm.trans hl) nofun, fun _ => rfl, fun _ => .inr, fun _ => .inr,
      fun _ hd => (by subst hd; cases hc), fun _ hd => (by subst hd; cases hc)⟩

variable {sh sh' : Shared} {t : Tid} {p p' : PC} {e : Ev}

/-- what a transition does to the call in progress -/
theorem tr_flow (h : Tr sh t p e sh' p') :
    (sh.value = 0 → sleepPath p = false → sleepPath p' = false)
    ∧ (∀ d, pcDelta p = some d → p' = .idle ∨ pcDelta p' = some d)
    ∧ (∀ d, pcDl p = some d → p' = .idle ∨ pcDl p' = some d)
    ∧ (∀ d, e = .callAdd d → p = .idle ∧ pcDelta p' = some d)
    ∧ (∀ d, e = .callWait d → p = .idle ∧ p' = .w0Store d) := by
  cases h <;> simp [sleepPath, pcNw, pcDelta, pcDl] <;> grind

/-- a record of another thread is touched only by a waker, under counter_mu, while it is queued -/
theorem tr_access (hp : pcInv sh t p) (h : Tr sh t p e sh' p') (k : NwId) (ht : touches e k)
    (hl : (sh.nw k).live = true) (ho : (sh.nw k).owner ≠ t) :
    sh.lockHolder = some t ∧ k ∈ sh.waiters ∧ wakeLoop p := by
  cases h <;> simp only [touches] at ht <;> simp only [pcInv, pcFacts, mine_iff, quiet_iff, holds, own, wakeLoop] at hp ⊢ <;> grind

/-- what a transition does to the history, the queue and the records -/
theorem tr_shared (hs : ShInv sh) (hp : pcInv sh t p) (h : Tr sh t p e sh' p') :
    ((sh'.hist = sh.hist ∧ sh'.deltas = sh.deltas ∧ sh'.value = sh.value ∧ sh'.initial = sh.initial)
       ∨ (∃ d v new, p = .aCas d v ∧ e = .cas .ar .value v new v true ∧ v = sh.value
            ∧ sh'.hist = sh.hist ++ [new] ∧ sh'.deltas = sh.deltas ++ [d]
            ∧ (new : Int) = (sh.value : Int) + d ∧ sh'.value = new ∧ sh'.initial = sh.initial)
       ∨ (∃ v, p = .newStore v ∧ sh.created = false ∧ sh'.hist = [v] ∧ sh'.value = v))
    ∧ (sh.lockHolder ≠ some t → sh'.waiters = sh.waiters)
    ∧ ∀ k, (sh'.nw k).live = true →
        ((sh.nw k).live = true ∧ (sh'.nw k).owner = (sh.nw k).owner ∧ (pcNw p = some k → pcNw p' = some k))
        ∨ ((sh'.nw k).owner = t ∧ pcNw p' = some k) := by
  cases h with
  | aPost hb | wPdEnter _ hb =>
    rcases bind_eq hb with ⟨rfl, _⟩ | ⟨_, _, rfl⟩ <;> simp only [Shared.setSem, Shared.setRec, Shared.setSemUser, pcNw] <;>
      grind
  | casWaited hc ho h1 h2 | casHeld hc ho h1 h2 =>
    obtain ⟨hv, hn⟩ := cas_ok hc ho h1 h2
    obtain ⟨rfl, _, rfl, rfl⟩ := hc
    simp only [pcNw]; grind
  | newStore hg =>
    have hn := hs.creating (.inl hg.2.2)
    simp only [pcNw]; grind
  | _ =>
    simp only [pcInv, pcFacts, mine_iff, quiet_iff, holds, own] at hp
    simp only [Shared.setSem, Shared.setRec, release_eq, pcNw]; grind

theorem facts_stepThr {s s' : State} {t : Tid} {e : Ev} (hi : Inv s) (h : stepThr s t e = .ok s') :
    StepFacts s t e s' := by
  rcases stepThr_ok h with ⟨⟨_, hd⟩, _⟩ | ⟨sh', p', htr, rfl⟩
  · exact dflt_facts t hd
  · have hp := hi.pcs t
    obtain ⟨h1, h2, h3⟩ := tr_shared hi.sh hp htr
    obtain ⟨f1, f2, f3, f4, f5⟩ := tr_flow htr
    -- `zst` and `wtd` are what any other thread may rely on
    have hr := rely_tr hi.sh hp htr (Nat.succ_ne_self t)
    have hpt : (State.mk' sh' s t p').pc t = p' := if_pos rfl
    refine ⟨fun u hu => if_neg hu, h1, hr.zstable, hr.waited, ?_, ?_, tr_access hp htr, h2, ?_, ?_, ?_, ?_⟩ <;>
      rw [hpt] <;> assumption

/-- What a program point of some thread says after a step of `t` it said before, unless the thread is `t` and
    the step is one of the edges `E` that establish it. -/
theorem StepFacts.lift {s s' : State} {t : Tid} {e : Ev} (f : StepFacts s t e s') (C : PC → Prop) {E : Prop}
    (hg : C (s'.pc t) → C (s.pc t) ∨ E) {u : Tid} (hu : C (s'.pc u)) : C (s.pc u) ∨ (u = t ∧ E) := by
  by_cases hut : u = t
  · subst hut; exact (hg hu).imp_right fun e => ⟨rfl, e⟩
  · exact .inl (f.others u hut ▸ hu)

/-- every live record is referred to by the program counter of its owner -/
def RecsInv (s : State) : Prop :=
  ∀ k, (s.sh.nw k).live = true → pcNw (s.pc (s.sh.nw k).owner) = some k

theorem recs_step {s s' : State} {e : Event} (hi : Inv s) (hr : RecsInv s) (h : step s e = .ok s') :
    RecsInv s' := by
  cases e with
  | tick ns => obtain ⟨_, rfl⟩ := step_tick h; exact hr
  | thr t ev =>
    have f := facts_stepThr hi h
    intro k hk
    rcases f.recs k hk with ⟨h1, h2, h3⟩ | ⟨h1, h2⟩
    · rw [h2]
      by_cases ho : (s.sh.nw k).owner = t
      · rw [ho]; apply h3; rw [← ho]; exact hr k h1
      · rw [f.others _ ho]; exact hr k h1
    · rw [h1]; exact h2

theorem recs_of_reachable {s : State} (h : Reachable s) : RecsInv s := by
  refine Reachable.induct (P := RecsInv) ?_ ?_ h
  · intro k hk; simp [init, Shared.init] at hk
  · intro s e s' hr hp hs; exact recs_step (inv_of_reachable hr) hp hs

variable {s s' : State} {t : Tid}

theorem retValue_pc {v : Nat} (h : stepThr s t (.retValue v) = .ok s') : s.pc t = .valRet v := by
  rcases stepThr_ok h with ⟨⟨_, hd⟩, _⟩ | ⟨_, _, htr, _⟩
  · cases hd
  · generalize s.pc t = p at htr
    cases htr with | valRet h => rw [h]

theorem retAdd_pc {r : Nat} (h : stepThr s t (.retAdd r) = .ok s') :
    s.pc t = .azRet r ∨ ∃ d idx, s.pc t = .aRet d r idx := by
  rcases stepThr_ok h with ⟨⟨_, hd⟩, _⟩ | ⟨_, _, htr, _⟩
  · cases hd
  · generalize s.pc t = p at htr
    cases htr with
    | azRet h => rw [h]; exact .inl rfl
    | aRet h => rw [h]; exact .inr ⟨_, _, rfl⟩

theorem retWait_pc {r : Nat} (h : stepThr s t (.retWait r) = .ok s') : ∃ dl, s.pc t = .wRet dl r := by
  rcases stepThr_ok h with ⟨⟨_, hd⟩, _⟩ | ⟨_, _, htr, _⟩
  · cases hd
  · generalize s.pc t = p at htr
    cases htr with | wRet h => rw [h]; exact ⟨_, rfl⟩

theorem retNew_pc {ok : Bool} (h : stepThr s t (.retNew ok) = .ok s') :
    s.pc t = .newRet ok ∧ s' = s.setPc t .idle := by
  rcases stepThr_ok h with ⟨⟨_, hd⟩, _⟩ | ⟨_, _, htr, rfl⟩
  · cases hd
  · generalize hp : s.pc t = p at htr
    cases htr with | newRet hk => rw [hk]; exact ⟨rfl, rfl⟩

/-- the thread holding counter_mu when `waking` is set is an add in its wake loop -/
theorem waking_holder (hi : Inv s) (hw : s.sh.waking = true) :
    ∃ u, s.sh.lockHolder = some u ∧ wakeLoop (s.pc u) := by
  have hs := hi.sh
  cases hl : s.sh.lockHolder with
  | none => have := hs.free hl; simp [hw] at this
  | some u =>
    refine ⟨u, rfl, ?_⟩
    have hp := hi.pcs u
    cases hpu : s.pc u <;> simp_all [pcInv, pcFacts, mine_iff, quiet_iff, holds, wakeLoop]
    all_goals grind

/-- … and when `posting = some k` it is exactly between the store and the post for record k -/
theorem posting_holder (hi : Inv s) {k : NwId} (hw : s.sh.posting = some k) :
    ∃ u d r idx, s.sh.lockHolder = some u ∧ s.pc u = .aPost d r idx k := by
  have hs := hi.sh
  cases hl : s.sh.lockHolder with
  | none => have := hs.free hl; simp [hw] at this
  | some u =>
    have hp := hi.pcs u
    cases hpu : s.pc u <;> simp_all [pcInv, pcFacts, mine_iff, quiet_iff, holds]

end Counter
