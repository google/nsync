/-
  Layer `Once`: progress (deadlock freedom).  In every reachable state each thread inside
  run_once either has an accepted next event of its own, or waits for a slot lock whose holder
  has one.  (Fair termination on top of this: `Props/C07Fair.lean`; a lock holder never blocks,
  every pc sequence is finite except the wait loop, and the wait loop exits once the word is 2.)
-/
import NsyncVerif.Proofs.OnceFacts

namespace Once

/-- Thread is at a lock acquisition (`ret nsync_mu_lock` / `ret nsync_cv_wait…` pending) for
    slot `k`. -/
def PC.LockWait (cfg : Config) : PC → SlotId → Prop
  | .lock1Ret f _, k | .wLockRet f, k | .cvWaitRet f, k => cfg.slotOf f.o = k
  | _, _ => False

/-- Thread `t` has an own event that the acceptor takes in `s`. -/
def Enabled (cfg : Config) (s : State) (t : Tid) : Prop :=
  ∃ e s', e.tid = some t ∧ step cfg s e = .ok s'

theorem Step.enabled {cfg s e s' t} (h : Step cfg s e s') (he : e.tid = some t := by rfl) :
    Enabled cfg s t :=
  ⟨e, s', he, h.accepted⟩

/-- A thread inside run_once whose awaited slot lock (if any) is free can take its next step: the
    rule of `Step` for its program point applies (the cv wait may return for any reason). -/
theorem enabled_of_lock_free {cfg s t} (hi : Inv cfg s) (hpc : s.pc t ≠ .idle)
    (hfree : ∀ k, (s.pc t).LockWait cfg k → s.lockHolder k = none) : Enabled cfg s t := by
  have hb := hi.blk t
  have hh := fun k => hi.held k t
  generalize hp : s.pc t = p at hpc hfree hb hh
  cases p with
  | idle => exact absurd rfl hpc
  | outerLd f => exact (Step.outerLd hp).enabled
  | implLd f => exact (Step.implLd hp).enabled
  | lock1Call f loc => exact (Step.lock1Call hp).enabled
  | lock1Ret f loc => exact (Step.lock1Ret hp (hfree _ rfl)).enabled
  | casTry f =>
    by_cases hw : s.word f.o = 0
    · exact (Step.casOk hp hw).enabled
    · exact (Step.casFail hp hw).enabled
  | casReload f => exact (Step.casReload hp).enabled
  | wUnlockCall f => exact (Step.wUnlockCall hp (hh _ ⟨hb, rfl⟩)).enabled
  | wUnlockRet f => exact (Step.wUnlockRet hp).enabled
  | wCbStart f => exact (Step.cbStart hp).enabled
  | wCbEnd f => exact (Step.cbEnd hp).enabled
  | wLockCall f => exact (Step.wLockCall hp).enabled
  | wLockRet f => exact (Step.wLockRet hp (hfree _ rfl)).enabled
  | wBcastCall f => exact (Step.wBcastCall hp).enabled
  | wBcastRet f => exact (Step.wBcastRet hp).enabled
  | wStore f => exact (Step.store hp).enabled
  | waitLd f => exact (Step.waitLd hp).enabled
  | cvWaitCall f => exact (Step.cvWaitCall hp (hh _ ⟨hb, rfl⟩)).enabled
  | cvWaitRet f => exact (Step.cvWaitRet (r := false) hp (hfree _ rfl)).enabled
  | fUnlockCall f => exact (Step.fUnlockCall hp (hh _ ⟨hb, rfl⟩)).enabled
  | fUnlockRet f => exact (Step.fUnlockRet hp).enabled
  | readyRet f => exact (Step.ret hp).enabled

/-- At a program point that holds a slot lock the thread is inside run_once and is not at a lock
    acquisition. -/
theorem holds_not_lockWait {cfg : Config} {p : PC} {k : SlotId} (h : p.Holds cfg k) :
    p ≠ .idle ∧ ∀ k', ¬ p.LockWait cfg k' := by
  cases p <;> simp [PC.Holds, PC.LockWait] at h ⊢

/-- A thread that holds a slot lock is never blocked: its next step is always accepted. -/
theorem enabled_of_holds {cfg s u k} (hi : Inv cfg s) (hl : s.lockHolder k = some u) :
    Enabled cfg s u :=
  have h := holds_not_lockWait (hi.lock k u hl)
  enabled_of_lock_free hi h.1 fun k' hw => absurd hw (h.2 k')

/-- Deadlock freedom of run_once, for any number of threads, once objects and any hashing. -/
theorem progress {cfg s t} (hi : Inv cfg s) (hpc : s.pc t ≠ .idle) :
    Enabled cfg s t ∨
    ∃ k u, (s.pc t).LockWait cfg k ∧ s.lockHolder k = some u ∧ u ≠ t ∧ Enabled cfg s u := by
  by_cases hfree : ∀ k, (s.pc t).LockWait cfg k → s.lockHolder k = none
  · exact .inl (enabled_of_lock_free hi hpc hfree)
  · right
    simp only [Classical.not_forall] at hfree
    obtain ⟨k, hw, hk⟩ := hfree
    cases hl : s.lockHolder k with
    | none => exact absurd hl hk
    | some u =>
      refine ⟨k, u, hw, hl, ?_, enabled_of_holds hi hl⟩
      rintro rfl
      exact (holds_not_lockWait (hi.lock k u hl)).2 k hw

end Once
