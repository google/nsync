/-
  Proofs/WaitNAnn.lean — the lock annotations of the caller's own mutex are accepted only at the two
  program points of wait.c that call (*unlock) (mu) and (*lock) (mu); and a witness extractor for the
  concrete traces of the Props files.
-/
import NsyncVerif.Proofs.WaitNDeath


namespace WaitN

def isAnn (e : Ev) (m : MuId) : Prop := e = .annRel m ∨ e = .annAcq m

theorem stepOpen_ann {s s' : State} {t : Tid} {e : Ev} {m : MuId} (he : isAnn e m) (hc : inCall (s.pc t) = true)
    (hm : (s.fr t).mu = some m) : stepOpen s t e = .ok s' → False := by
  intro h
  unfold stepOpen at h
  rcases he with rfl | rfl <;> split at h <;> simp [proto, dflt, hc, hm] at h

theorem spinAcq_ann {s s' : State} {t : Tid} {c : Nat} {st : SpinSt} {mk : SpinSt → PC} {done : PC} {e : Ev} {m : MuId}
    (he : isAnn e m) (hc : inCall (s.pc t) = true) (hm : (s.fr t).mu = some m) :
    spinAcq s t c st mk done e = .ok s' → False := by
  intro h
  rcases he with rfl | rfl <;> cases st <;> simp [spinAcq, dflt, hc, hm] at h

/-- an annotation of the caller's own mutex inside nsync_wait_n is the `(*unlock) (mu)` after the enqueue
    loop or the `(*lock) (mu)` before the return: every other program point hands it to `dflt`, which rejects it -/
theorem ann_pc {s s' : State} {t : Tid} {e : Ev} {m : MuId} (he : isAnn e m) (hc : inCall (s.pc t) = true)
    (hm : (s.fr t).mu = some m) (h : step s (.thr t e) = .ok s') :
    (e = .annRel m ∧ s.pc t = .wUnlock) ∨ (e = .annAcq m ∧ s.pc t = .wRelock) := by
  simp only [step] at h
  unfold stepThr at h
  split at h <;> rename_i hpc
  case h_12 =>
    rcases he with rfl | rfl
    · exact .inl ⟨rfl, hpc⟩
    · simp [stepUnlockMu, dflt, hc, hm] at h
  case h_17 =>
    rcases he with rfl | rfl
    · simp [stepRelock, dflt, hc, hm] at h
    · exact .inr ⟨rfl, hpc⟩
  all_goals exfalso
  · rw [hpc] at hc; cases hc
  · cases h
  · rw [hpc] at hc; cases hc
  · unfold stepCtrRT at h; rcases he with rfl | rfl <;> split at h <;> simp [dflt, hc, hm] at h
  · rename_i st
    unfold stepND at h; split at h
    · rcases he with rfl | rfl <;> cases st <;> simp [dflt, hc, hm] at h
      all_goals exact stepOpen_ann (by first | exact .inl rfl | exact .inr rfl) hc hm h
    · cases h
  · rename_i st
    unfold stepEnqCv at h; split at h
    · cases st
      · exact spinAcq_ann he hc hm h
      all_goals rcases he with rfl | rfl <;> simp [dflt, hc, hm] at h
    · cases h
  · rename_i st
    unfold stepEnq at h; split at h
    · rcases he with rfl | rfl <;> cases st <;> simp [dflt, hc, hm] at h
    · cases h
  · rename_i st
    unfold stepDeqCv at h; split at h
    · cases st
      · exact spinAcq_ann he hc hm h
      all_goals rcases he with rfl | rfl <;> simp [dflt, hc, hm] at h
    · cases h
  · rename_i st
    unfold stepDeq at h; split at h
    · rcases he with rfl | rfl <;> cases st <;> simp [dflt, hc, hm] at h
    · cases h
  · rcases he with rfl | rfl <;> simp [stepAlloc, dflt, hc, hm] at h
  · rcases he with rfl | rfl <;> simp [stepInit, dflt, hc, hm] at h
  · rcases he with rfl | rfl <;> simp [stepCvRT, dflt, hc, hm] at h
  · rcases he with rfl | rfl <;> simp [stepPdEnter, dflt, hc, hm] at h
  · rcases he with rfl | rfl <;> simp [stepPdWait, dflt, hc, hm] at h
  · rcases he with rfl | rfl <;> simp [stepFree, dflt, hc, hm] at h
  · rcases he with rfl | rfl <;> simp [stepRet, dflt, hc, hm] at h
namespace Example
/-- from a `decide`d fact about the final state of a concrete trace to the run that reaches it … -/
theorem final_run {evs : List Event} {P : State → Bool} (h : (final evs).map P = some true) :
    ∃ s, run init evs = .ok s ∧ P s = true := by
  unfold final at h
  split at h
  · rename_i s hs
    simp only [Option.map_some, Option.some.injEq] at h
    exact ⟨s, hs, h⟩
  · simp at h
end Example

/-- … and to an existential over reachable states -/
theorem final_spec {evs : List Event} {P : State → Bool} (h : (final evs).map P = some true) :
    ∃ s, Reachable s ∧ P s = true :=
  let ⟨s, hs, hp⟩ := Example.final_run h
  ⟨s, ⟨evs, hs⟩, hp⟩

/-- the step is accepted -/
def okB (r : R) : Bool := match r with | .ok _ => true | .error _ => false

theorem okB_spec {r : R} (h : okB r = true) : ∃ s', r = .ok s' := by
  cases r with
  | ok s' => exact ⟨s', rfl⟩
  | error m => simp [okB] at h

end WaitN
