/-
  Layer `Once`, fair termination (C07): infinite executions of the Once acceptor, the fairness
  notions, the hypotheses and the FULL statements of `C07_fair_termination` /
  `C07_fair_exactly_once` (proved in `Props/C07Fair.lean`), and generic facts about `Exec`
  (the invariant holds in every state, a pc changes only when its thread moves, the use of weak
  fairness `fair_move`); the first move after a given time and the leads-to rule are those of
  `Proofs/Sched.lean` with `Moves x t` as the predicate on time.

  The choice of the enabledness notion is justified in the header of `Props/C07Fair.lean`.
-/
import NsyncVerif.Proofs.OnceProgress
import NsyncVerif.Proofs.Sched

namespace Once
open NsyncVerif

/-- An infinite execution from `s0`; `σ i = none` means that nobody moves at time `i`. -/
structure Exec (cfg : Config) (s0 : State) where
  ρ : Nat → State
  σ : Nat → Option Event
  start : ρ 0 = s0
  next : ∀ i, match σ i with
    | none => ρ (i + 1) = ρ i
    | some e => step cfg (ρ i) e = .ok (ρ (i + 1))

def Moves {cfg : Config} {s0 : State} (x : Exec cfg s0) (t : Tid) (j : Nat) : Prop :=
  ∃ e, x.σ j = some e ∧ e.tid = some t

/-- The thread is executing the CLIENT's function (between `cb start` and `cb end`): whether it
    ever comes back is not the library's business (hypothesis `InitReturns`). -/
def PC.InUser : PC → Prop
  | .wCbEnd _ => True
  | _ => False

/-- `t` is inside a run_once call, is executing library code, and is not blocked: the slot lock
    it waits for (if it is at `ret nsync_mu_lock` / `ret nsync_cv_wait…`) is free.  Such a
    thread has an accepted next event (`ready_enabled` below, from `enabled_of_lock_free`). -/
def Ready (cfg : Config) (s : State) (t : Tid) : Prop :=
  s.pc t ≠ .idle ∧ ¬ (s.pc t).InUser ∧ ∀ k, (s.pc t).LockWait cfg k → s.lockHolder k = none

/-- Weak fairness on each thread's next step: a thread that from time `i` on is continuously
    `Ready` moves at some time `j ≥ i`.  For a thread waiting for slot lock `k` this is the weak
    form "moves if `k` is continuously free"; while the lock is held nothing is required. -/
def WeakFair {cfg : Config} {s0 : State} (x : Exec cfg s0) : Prop :=
  ∀ t i, (∀ j, i ≤ j → Ready cfg (x.ρ j) t) → ∃ j, i ≤ j ∧ Moves x t j

/-- Starvation freedom of the abstract slot lock (liveness half of assumption A1): a thread that
    waits for slot lock `k` for ever while `k` is free again and again acquires it (strong
    fairness of the acquisition). -/
def LockFair {cfg : Config} {s0 : State} (x : Exec cfg s0) : Prop :=
  ∀ t k i, (∀ j, i ≤ j → ((x.ρ j).pc t).LockWait cfg k) →
    (∀ j, i ≤ j → ∃ j', j ≤ j' ∧ (x.ρ j').lockHolder k = none) → ∃ j, i ≤ j ∧ Moves x t j

/-- The client's function returns: every initializer callback that was started also ends. -/
def InitReturns {cfg : Config} {s0 : State} (x : Exec cfg s0) : Prop :=
  ∀ t i f, (x.ρ i).pc t = .wCbEnd f → ∃ j, i ≤ j ∧ x.σ j = some (.cbEnd t f.arg)

/-- Only finitely many calls of run_once arrive (NOT a hypothesis of the theorem; used to show
    that it cannot replace `LockFair`). -/
def FiniteArrivals {cfg : Config} {s0 : State} (x : Exec cfg s0) : Prop :=
  ∃ n, ∀ j t b a o, n ≤ j → x.σ j ≠ some (.call t b a o)

/-- FULL statement.  Proved in `Props/C07Fair.lean`:
    `theorem C07_fair_termination : C07_fair_termination_full`. -/
def C07_fair_termination_full : Prop :=
  ∀ (cfg : Config) (s0 : State) (x : Exec cfg s0), Reachable cfg s0 →
    WeakFair x → LockFair x → InitReturns x →
    ∀ t i, (x.ρ i).pc t ≠ .idle → ∃ j, i ≤ j ∧ (x.ρ j).pc t = .idle

/-- FULL statement of the corollary: the call that is in progress at time `i` (frame `f`: once
    object, entry point) performs its `ret` at some time `j ≥ i`, and in the state right after it
    the call is recorded as returned and the initializer of that once object has been started
    exactly once and ended exactly once, by the CAS winner; the word is 2.
    Proved in `Props/C07Fair.lean`: `theorem C07_fair_exactly_once`. -/
def C07_fair_exactly_once_full : Prop :=
  ∀ (cfg : Config) (s0 : State) (x : Exec cfg s0), Reachable cfg s0 →
    WeakFair x → LockFair x → InitReturns x →
    ∀ t i f, ((x.ρ i).pc t).frame? = some f →
      ∃ j, i ≤ j ∧ x.σ j = some (.ret t f.blocking f.arg) ∧ (x.ρ (j + 1)).pc t = .idle ∧
        (t, f.o) ∈ (x.ρ (j + 1)).returned ∧
        ∃ w, (x.ρ (j + 1)).winner f.o = some w ∧ (x.ρ (j + 1)).fStarts f.o = [w] ∧
          (x.ρ (j + 1)).fEnds f.o = [w] ∧ (x.ρ (j + 1)).word f.o = 2

variable {cfg : Config} {s0 : State}

theorem Exec.next_none (x : Exec cfg s0) {i : Nat} (h : x.σ i = none) : x.ρ (i + 1) = x.ρ i := by
  have := x.next i; rw [h] at this; exact this

theorem Exec.next_some (x : Exec cfg s0) {i : Nat} {e : Event} (h : x.σ i = some e) :
    step cfg (x.ρ i) e = .ok (x.ρ (i + 1)) := by
  have := x.next i; rw [h] at this; exact this

/-- Of the start state the proof uses only the invariant. -/
theorem Exec.inv (x : Exec cfg s0) (hi : Inv cfg s0) (i : Nat) : Inv cfg (x.ρ i) :=
  Sched.along x.next_none x.next_some (fun _ _ _ h => inv_step h) (i := 0) (x.start.symm ▸ hi) i
    (Nat.zero_le _)

/-- `Ready` implies `Enabled` (the notion of `C07_progress`). -/
theorem ready_enabled {s : State} {t : Tid} (hi : Inv cfg s) (h : Ready cfg s t) : Enabled cfg s t :=
  enabled_of_lock_free hi h.1 h.2.2

theorem not_moves_pc (x : Exec cfg s0) {t : Tid} {j : Nat} (h : ¬ Moves x t j) :
    (x.ρ (j + 1)).pc t = (x.ρ j).pc t := by
  cases hs : x.σ j with
  | none => rw [x.next_none hs]
  | some e =>
    have hne : e.tid ≠ some t := fun ht => h ⟨e, hs, ht⟩
    exact pc_step_other (x.next_some hs) t hne

theorem pc_between (x : Exec cfg s0) {t : Tid} {i j : Nat} (hij : i ≤ j)
    (h : ∀ j', i ≤ j' → j' < j → ¬ Moves x t j') : (x.ρ j).pc t = (x.ρ i).pc t :=
  Sched.const_between (f := fun j => (x.ρ j).pc t) (fun _ => not_moves_pc x) hij h

/-- The form in which weak fairness is used for a lock holder: a thread that stays `Ready` as
    long as it does not move, moves. -/
theorem fair_move (x : Exec cfg s0) (hf : WeakFair x) {t : Tid} {i : Nat}
    (h : ∀ j, i ≤ j → (∀ j', i ≤ j' → j' < j → ¬ Moves x t j') → Ready cfg (x.ρ j) t) :
    ∃ j, i ≤ j ∧ Moves x t j :=
  Sched.moves_of_fair (hf t i) h

end Once
