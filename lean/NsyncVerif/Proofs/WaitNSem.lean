/-
  Proofs/WaitNSem.lean — semaphore accounting for nsync_wait_n.
  * `binSem evs`: the state of every semaphore under the BINARY flavour after the events `evs` (a V sets it,
    a P that returns 0 clears it; a second V is absorbed).  It is a function of the event sequence alone.
  * `inSleep`: the program points of the do-while of wait.c (scans, and the P).
  * `SemA`: what one accepted step does to the semaphore counts and to the pending posts.
  * `pret_pc`: a P that returns 0 is handed to `dflt` everywhere but at the caller's own P; with it `SemA` for every
    accepted step is read off the shapes of `Act` and `Tail` (`sema_stepThr`).
  * `ClrEff`: who clears the `waiting` field of a record, and what the clearing thread owes afterwards.  `waiting`
    goes from 1 to 0 only
    - in the store of a waker (cv signaller on the head of its wake list; note / counter waker popping the head of
      the queue of a ready object) — and then that thread has the pending post `post u = some r`, i.e. its next
      semaphore operation is the V for that record;
    - in the owner's own dequeue / enqueue store;
    - at the (re-)initialisation of a dead record.
-/
import NsyncVerif.Proofs.WaitNCvLife

namespace WaitN

section

/-- `e` is a V on semaphore j -/
def isV : Ev → SemId → Bool
  | .semV j', j => j' == j
  | _, _ => false

/-- `e` is a P (with or without deadline) on semaphore j that returns 0, i.e. consumes a token -/
def isPret : Ev → SemId → Bool
  | .pRet j', j => j' == j
  | .pdRet j' false, j => j' == j
  | _, _ => false

/-- binary flavour: V sets the semaphore, a successful P clears it -/
def binStep (b : SemId → Bool) : Event → SemId → Bool
  | .thr _ e => fun j => if isV e j then true else if isPret e j then false else b j
  | .tick _ => b

/-- the binary semaphores after `evs` (all initially 0) -/
def binSem (evs : List Event) : SemId → Bool := evs.foldl binStep (fun _ => false)

theorem binSem_append (evs : List Event) (e : Event) : binSem (evs ++ [e]) = binStep (binSem evs) e := by
  simp [binSem, List.foldl_append]

/-- the do-while of wait.c: the scans over `ready_time (v, &nw[j])` and the P -/
def inSleep : PC → Bool
  | .wCvRT _ | .wCtrRT .loop _ _ | .wND .loop _ _ | .wPdEnter | .wPdWait _ => true
  | _ => false

theorem inCall_of_inSleep {p : PC} (h : inSleep p = true) : inCall p = true := by
  cases p <;> simp [inSleep, inCall] at h ⊢

/-- a step of a caller inside the do-while changes neither the calls in flight nor the live records -/
theorem quiet_of_inSleep {s s' : State} {t : Tid} {e : Ev} (h : stepThr s t e = .ok s') (hs : inSleep (s.pc t) = true) :
    Quiet s s' := by
  refine (quiet_or_structural h).resolve_right fun st => ?_
  cases st with
  | call _ _ _ _ hpc | init _ _ _ hpc | free hpc | ret _ hpc => rw [hpc] at hs; cases hs

@[simp] theorem inSleep_relockNext (f : Frame) : inSleep (relockNext f) = false := by
  unfold relockNext; split <;> rfl
@[simp] theorem inSleep_finNext (f : Frame) : inSleep (finNext f) = false := by
  unfold finNext; split
  · rfl
  · exact inSleep_relockNext f
@[simp] theorem inSleep_deqNext (f : Frame) (k : Nat) : inSleep (deqNext f k) = false := by
  unfold deqNext; split
  · split <;> rfl
  · simp
theorem inSleep_pollFrom (f : Frame) (hc : 0 < f.count) (l : List ObjId) (i : Nat) : inSleep (pollFrom f l i) = false := by
  induction l generalizing i with
  | nil =>
    unfold pollFrom; split
    · rfl
    · split
      · rfl
      · unfold enqNext; rw [if_pos ⟨rfl, hc⟩]; rfl
  | cons o rest ih =>
    cases o with
    | cv c => simp only [pollFrom]; exact ih _
    | note n => rfl
    | ctr k => rfl

/-- induction over the accepted event sequences, with the binary semaphores alongside -/
theorem reachB_induction {P : State → (SemId → Bool) → Prop} (h0 : P init (fun _ => false))
    (hstep : ∀ s b e s', Reachable s → P s b → step s e = .ok s' → P s' (binStep b e)) :
    ∀ evs s, run init evs = .ok s → P s (binSem evs) := by
  have key : ∀ evs s0 b0 s, Reachable s0 → P s0 b0 → run s0 evs = .ok s → P s (evs.foldl binStep b0) := by
    intro evs
    induction evs with
    | nil => intro s0 b0 s _ hp h; cases h; exact hp
    | cons e es ih =>
      intro s0 b0 s hr hp h
      obtain ⟨s1, hs1, h⟩ := isRun.of_cons h
      exact ih s1 _ s (reachable_step hr hs1) (hstep s0 b0 e s1 hr hp hs1) h
  exact fun evs s h => key evs init _ s reachable_init h0 h

/-- what an accepted step of `u` does to the semaphore counts and to `u`'s pending post -/
structure SemA (s s' : State) (u : Tid) (e : Ev) : Prop where
  /-- an accepted P-return is on a semaphore no nsync_wait_n call uses, or it is the caller's own P -/
  pret : ∀ j, isPret e j = true → s.semUser j = none ∨ (s.pc u = .wPdWait j ∧ ∀ j', s'.pc u ≠ .wPdWait j')
  /-- counts only decrease at P-returns … -/
  dec : ∀ j, s'.sem j < s.sem j → isPret e j = true
  /-- … and only increase at the V -/
  up : ∀ j, s.sem j < s'.sem j → e = .semV j
  /-- a pending post disappears only by the V, which binds the semaphore of the record's call -/
  vpost : ∀ r, s.post u = some r → s'.post u ≠ some r → ∃ j, isV e j = true ∧ 0 < s'.sem j ∧
            ((s.rcd r).live = true → (s.fr (s.rcd r).owner).freed = false → (s'.fr (s.rcd r).owner).sem = some j)
  /-- … and appears only where there was none: a signaller clears the head of its wake list, a note / counter waker
      pops the head of the queue of a ready object -/
  pnew : ∀ r, s'.post u = some r → s.post u ≠ some r → s.post u = none ∧ (s'.rcd r).waiting = false
           ∧ ((∃ c bc l, s.pc u = .sg c bc (.wake l) ∧ l.head? = some r) ∨ ∃ tl, (s.obj (s.rcd r).obj).queue = r :: tl)

/-- the pending post of the stepping thread: kept, posted, or a record is popped -/
theorem SemA.post_cases {s s' : State} {u : Tid} {e : Ev} (a : SemA s s' u e) :
    s'.post u = s.post u ∨ s'.post u = none
    ∨ ∃ r, s'.post u = some r ∧ s.post u = none ∧ (s'.rcd r).waiting = false
        ∧ ((∃ c bc l, s.pc u = .sg c bc (.wake l) ∧ l.head? = some r) ∨ ∃ tl, (s.obj (s.rcd r).obj).queue = r :: tl) := by
  cases h' : s'.post u with
  | none => exact .inr (.inl rfl)
  | some r =>
    by_cases h : s.post u = some r
    · exact .inl h.symm
    · exact .inr (.inr ⟨r, rfl, a.pnew r h' h⟩)

/-- a step that keeps the pending post -/
theorem SemA.of_post {s s' : State} {u : Tid} {e : Ev} (hp : s'.post u = s.post u)
    (pret : ∀ j, isPret e j = true → s.semUser j = none ∨ (s.pc u = .wPdWait j ∧ ∀ j', s'.pc u ≠ .wPdWait j'))
    (dec : ∀ j, s'.sem j < s.sem j → isPret e j = true) (up : ∀ j, s.sem j < s'.sem j → e = .semV j) : SemA s s' u e :=
  ⟨pret, dec, up, fun r h1 h2 => by rw [hp] at h2; exact absurd h1 h2, fun r h1 h2 => by rw [hp] at h1; exact absurd h1 h2⟩

theorem SemA.of_eq {s s' : State} {u : Tid} {e : Ev} (he : ∀ j, isPret e j = false) (hs : s'.sem = s.sem)
    (hp : s'.post u = s.post u) : SemA s s' u e :=
  .of_post hp (fun j h => by rw [he] at h; cases h) (fun j h => by rw [hs] at h; exact absurd h (Nat.lt_irrefl _))
    (fun j h => by rw [hs] at h; exact absurd h (Nat.lt_irrefl _))

theorem bindSem_sem {s s' : State} {o : Tid} {j : SemId} (h : bindSem s o j = some s') :
    (s'.fr o).sem = some j ∧ s'.sem = s.sem ∧ s'.post = s.post ∧ s'.pc = s.pc ∧ s'.rcd = s.rcd ∧ s'.obj = s.obj := by
  unfold bindSem at h
  split at h
  · rename_i j' hj
    split at h
    · rename_i he; subst he; cases h; exact ⟨hj, rfl, rfl, rfl, rfl, rfl⟩
    · cases h
  · split at h
    · cases h
    · cases h; simp

theorem postSem_sem {s s' : State} {r : Rid} {j : SemId} (h : postSem s r j = some s') :
    ((s.rcd r).live = true → (s.fr (s.rcd r).owner).freed = false → (s'.fr (s.rcd r).owner).sem = some j)
    ∧ s'.sem = s.sem ∧ s'.post = s.post ∧ s'.pc = s.pc ∧ s'.rcd = s.rcd ∧ s'.obj = s.obj := by
  unfold postSem at h
  split at h
  · have := bindSem_sem h
    exact ⟨fun _ _ => this.1, this.2⟩
  · rename_i hn
    cases h
    refine ⟨fun h1 h2 => ?_, rfl, rfl, rfl, rfl, rfl⟩
    exact absurd ⟨h1, by simp [h2]⟩ hn

theorem isPret_false_of {e : Ev} (h1 : ∀ j, e ≠ .pRet j) (h2 : ∀ j, e ≠ .pdRet j false) : ∀ j, isPret e j = false := by
  intro j
  cases e with
  | pRet j' => exact absurd rfl (h1 j')
  | pdRet j' tmo =>
    cases tmo with
    | true => rfl
    | false => exact absurd rfl (h2 j')
  | _ => rfl

theorem sema_dflt {s s' : State} {u : Tid} {e : Ev} (h : dflt s u e = .ok s') : SemA s s' u e := by
  -- a P that returns 0 on a semaphore no call uses takes a token
  have take : ∀ {j n : Nat}, isPret e j = true → (∀ j', isPret e j' = true → j' = j) → (∀ k, e ≠ .semV k) →
      s.semUser j = none → s.sem j = n + 1 → SemA s (s.setSem j n) u e := by
    intro j n hj huniq hnv hu hn
    refine .of_post rfl (fun j' hj' => .inl (huniq j' hj' ▸ hu)) (fun j' hlt => ?_) (fun j' hlt => ?_)
    · simp only [setSem_sem] at hlt
      split at hlt
      · rename_i h'; exact h' ▸ hj
      · exact absurd hlt (Nat.lt_irrefl _)
    · simp only [setSem_sem] at hlt
      split at hlt
      · rename_i h'; subst h'; omega
      · exact absurd hlt (Nat.lt_irrefl _)
  cases e with
  | semV j =>
    simp only [dflt] at h; cases h
    refine .of_post rfl (fun _ h => by cases h) (fun j' hlt => ?_) (fun j' hlt => ?_)
    · simp only [setSem_sem] at hlt
      split at hlt
      · rename_i h'; subst h'; omega
      · exact absurd hlt (Nat.lt_irrefl _)
    · simp only [setSem_sem] at hlt
      split at hlt
      · rename_i h'; rw [h']
      · exact absurd hlt (Nat.lt_irrefl _)
  | pRet j =>
    simp only [dflt] at h
    split at h
    · simp at h
    · rename_i hu
      split at h
      · simp at h
      · rename_i n hn
        cases h
        exact take (by simp [isPret]) (fun j' h' => by simp [isPret] at h'; exact h'.symm) (fun _ => nofun) hu hn
  | pdRet j tmo =>
    cases tmo with
    | true => simp only [dflt] at h; cases h; exact SemA.of_eq (fun _ => rfl) rfl rfl
    | false =>
      simp only [dflt] at h
      split at h
      · simp at h
      · rename_i hu
        split at h
        · simp at h
        · rename_i n hn
          cases h
          exact take (by simp [isPret]) (fun j' h' => by simp [isPret] at h'; exact h'.symm) (fun _ => nofun) hu hn
  | _ =>
    (simp only [dflt] at h) <;> (split_ok h) <;> (cases h; exact SemA.of_eq (fun _ => rfl) rfl rfl)

/-- helper functions that touch neither the counts nor the posts -/
theorem semPost_rtDone {s s' : State} {t : Tid} {u : Use} {i : Nat} {time : Deadline} (h : rtDone s t u i time = .ok s') :
    s'.sem = s.sem ∧ s'.post = s.post := by
  unfold rtDone at h
  split_ok h <;> (cases h; exact ⟨rfl, rfl⟩)

theorem semPost_unbindSem (s : State) (t : Tid) : (unbindSem s t).sem = s.sem ∧ (unbindSem s t).post = s.post := by
  unfold unbindSem; split <;> exact ⟨rfl, rfl⟩

theorem semPost_deqDone {s s' : State} {t : Tid} {j : Nat} {res : Bool} (h : deqDone s t j res = .ok s') :
    s'.sem = s.sem ∧ s'.post = s.post := by
  unfold deqDone at h
  dsimp only at h
  split at h
  · cases h; exact ⟨rfl, rfl⟩
  · cases h; exact ⟨(semPost_unbindSem _ t).1, (semPost_unbindSem _ t).2⟩

theorem semPost_afterEnq {s s' : State} {t : Tid} {i : Nat} {res : Bool} (h : afterEnq s t i res = .ok s') :
    s'.sem = s.sem ∧ s'.post = s.post := by
  unfold afterEnq at h
  cases h; exact ⟨rfl, rfl⟩

theorem isPret_cases {e : Ev} {j : SemId} (h : isPret e j = true) : e = .pRet j ∨ e = .pdRet j false := by
  cases e with
  | pRet j' => simp [isPret] at h; subst h; exact .inl rfl
  | pdRet j' tmo => cases tmo <;> simp [isPret] at h; subst h; exact .inr rfl
  | _ => simp [isPret] at h

theorem stepOpen_pret {s s' : State} {t : Tid} {e : Ev} {j : SemId} (hp : isPret e j = true)
    (h : stepOpen s t e = .ok s') : dflt s t e = .ok s' := by
  unfold stepOpen at h
  rcases isPret_cases hp with rfl | rfl <;> split at h <;> first | exact h | (simp only [proto] at h; exact h)

theorem spinAcq_pret {s s' : State} {t : Tid} {c : Nat} {st : SpinSt} {mk : SpinSt → PC} {done : PC} {e : Ev} {j : SemId}
    (hp : isPret e j = true) (h : spinAcq s t c st mk done e = .ok s') : dflt s t e = .ok s' := by
  rcases isPret_cases hp with rfl | rfl <;> cases st <;> simp only [spinAcq] at h <;> exact h

/-- a P that returns 0 is in no step function's vocabulary but that of the caller's own P: everywhere else it is
    handed to `dflt` -/
theorem pret_pc {s s' : State} {t : Tid} {e : Ev} {j : SemId} (hp : isPret e j = true) (h : stepThr s t e = .ok s') :
    dflt s t e = .ok s' ∨ (e = .pdRet j false ∧ s.pc t = .wPdWait j ∧ ∃ n, s.sem j = n + 1 ∧ s' = startScan (s.setSem j n) t) := by
  unfold stepThr at h
  split at h <;> rename_i hpc
  · left; unfold stepIdle at h
    rcases isPret_cases hp with rfl | rfl <;> exact stepOpen_pret hp h
  · cases h
  · rename_i c bc st
    left; unfold stepSg at h
    rcases isPret_cases hp with rfl | rfl <;> cases st <;> simp only at h <;>
      first | exact h | exact spinAcq_pret hp h | (split at h <;> first | exact h | contradiction)
  · left; unfold stepCtrRT at h
    rcases isPret_cases hp with rfl | rfl <;> split at h <;> first | cases h | (split at h <;> first | exact h | contradiction)
  · rename_i u i st
    left; unfold stepND at h
    rcases isPret_cases hp with rfl | rfl <;> split at h <;> first | cases h | skip
    all_goals cases st <;> simp only at h <;>
      first | exact h | (split at h <;> first | exact stepOpen_pret hp h | contradiction)
  · rename_i i st
    left; unfold stepEnqCv at h
    rcases isPret_cases hp with rfl | rfl <;> split at h <;> first | cases h | skip
    all_goals cases st <;> simp only at h <;> first | exact h | exact spinAcq_pret hp h
  · rename_i i st
    left; unfold stepEnq at h
    rcases isPret_cases hp with rfl | rfl <;> split at h <;> first | cases h | skip
    all_goals cases st <;> simp only at h <;> first | exact h | (split at h <;> first | exact h | contradiction)
  · rename_i i st
    left; unfold stepDeqCv at h
    rcases isPret_cases hp with rfl | rfl <;> split at h <;> first | cases h | skip
    all_goals cases st <;> simp only at h <;> first | exact h | exact spinAcq_pret hp h
  · rename_i i st
    left; unfold stepDeq at h
    rcases isPret_cases hp with rfl | rfl <;> split at h <;> first | cases h | skip
    all_goals cases st <;> simp only at h <;> first | exact h | (split at h <;> first | exact h | contradiction)
  · left; rcases isPret_cases hp with rfl | rfl <;> exact h
  · left; unfold stepInit at h; dsimp only at h
    rcases isPret_cases hp with rfl | rfl <;> split at h <;> first | exact h | contradiction
  · left; rcases isPret_cases hp with rfl | rfl <;> exact h
  · left; unfold stepCvRT at h
    rcases isPret_cases hp with rfl | rfl <;> split at h <;> first | exact h | contradiction
  · rcases isPret_cases hp with rfl | rfl <;> cases h
  · rename_i j'
    rcases isPret_cases hp with rfl | rfl
    · cases h
    · right
      simp only [stepPdWait, Bool.false_eq_true, if_false] at h
      split at h
      · rename_i hj; subst hj
        split at h
        · cases h
        · rename_i n hn; cases h; exact ⟨rfl, hpc, n, hn, rfl⟩
      · cases h
  · left; rcases isPret_cases hp with rfl | rfl <;> exact h
  · left; rcases isPret_cases hp with rfl | rfl <;> exact h
  · left; rcases isPret_cases hp with rfl | rfl <;> exact h

/-- the counts go down only at a P that returns 0 and up only at the V -/
theorem Tail.sem {s0 s1 s' : State} {t : Tid} {e : Ev} {k : Kind} (b : Tail s0 s1 t e k s') (j : SemId) :
    (s'.sem j < s1.sem j → isPret e j = true) ∧ (s1.sem j < s'.sem j → e = .semV j) := by
  have same : ∀ {s2 : State}, s2.sem = s1.sem →
      (s2.sem j < s1.sem j → isPret e j = true) ∧ (s1.sem j < s2.sem j → e = .semV j) := fun h2 => by
    rw [h2]; exact ⟨fun h => absurd h (Nat.lt_irrefl _), fun h => absurd h (Nat.lt_irrefl _)⟩
  have up : ∀ {s2 : State} {j' : SemId}, e = .semV j' → s2.sem = s1.sem →
      ((s2.setSem j' (s2.sem j' + 1)).sem j < s1.sem j → isPret e j = true)
      ∧ (s1.sem j < (s2.setSem j' (s2.sem j' + 1)).sem j → e = .semV j) := by
    intro s2 j' he h2
    rw [setSem_sem, h2]
    split
    · rename_i hj; subst hj; exact ⟨fun h => by omega, fun _ => he⟩
    · exact ⟨fun h => absurd h (Nat.lt_irrefl _), fun h => absurd h (Nat.lt_irrefl _)⟩
  cases b
  case dflt hd => exact ⟨(sema_dflt (u := t) hd).dec j, (sema_dflt (u := t) hd).up j⟩
  case rtDone hd => exact same (semPost_rtDone hd).1
  case afterEnq hd => exact same (semPost_afterEnq hd).1
  case deqDone hd => exact same (semPost_deqDone hd).1
  case v he hb => exact up he (postSem_sem hb).2.1
  case vgoto he hb _ _ _ _ _ _ => exact up he (postSem_sem hb).2.1
  case pdEnter hb => exact same (bindSem_sem hb).2.1
  case pdWake j' n hpc he hs =>
    subst he
    simp only [startScan, setPc_sem, setFr_sem, setSem_sem]
    split
    · rename_i hj; subst hj; exact ⟨fun _ => by simp [isPret], fun h => by omega⟩
    · exact ⟨fun h => absurd h (Nat.lt_irrefl _), fun h => absurd h (Nat.lt_irrefl _)⟩
  all_goals exact same rfl

/-- `SemA` for every accepted step: the P-returns by `pret_pc`, the counts by the shape of the `Tail`, the pending
    post by that of the `Act` (only `posted` discharges it, and its `Tail` is the V; only `pop` and `sgWake` make one) -/
theorem sema_stepThr {s s' : State} {t : Tid} {e : Ev} (h : stepThr s t e = .ok s') : SemA s s' t e := by
  obtain ⟨k, s1, a, b⟩ := steps_stepThr h
  have g := b.agree
  refine ⟨fun j hj => ?_, fun j hlt => (b.sem j).1 (by rw [a.sem]; exact hlt),
    fun j hlt => (b.sem j).2 (by rw [a.sem]; exact hlt), fun r h1 h2 => ?_, fun r h1 h2 => ?_⟩
  · rcases pret_pc hj h with hd | ⟨rfl, hpc, n, -, rfl⟩
    · exact (sema_dflt hd).pret j hj
    · exact .inr ⟨hpc, fun j' => by simp [startScan]⟩
  · rw [g.post] at h2
    cases a
    case pop hp => rw [hp] at h1; cases h1
    case sgWake hp => rw [hp] at h1; cases h1
    case posted r' hp' =>
      rw [hp'] at h1; cases h1
      cases b
      case v j s2 hp he hb =>
        subst he; rw [hp'] at hp; cases hp
        exact ⟨j, by simp [isV], by simp, (postSem_sem hb).1⟩
      case vgoto j s2 hp he hb c bc st0 st hpc hf0 =>
        subst he; rw [hp'] at hp; cases hp
        exact ⟨j, by simp [isV], by simp, (postSem_sem hb).1⟩
    all_goals exact absurd h1 h2
  · rw [g.post] at h1
    cases a
    case pop r' tl hq hcv hl hw hp =>
      rw [setPost_post, if_pos rfl] at h1; cases h1
      exact ⟨hp, by rw [g.rcd, setPost_rcd, setRec_rcd, if_pos rfl], .inr ⟨tl, hq⟩⟩
    case sgWake c bc r' rest hpc hp =>
      rw [setPost_post, if_pos rfl] at h1; cases h1
      exact ⟨hp, by rw [g.rcd, setPost_rcd, setRec_rcd, if_pos rfl], .inl ⟨c, bc, _, hpc, rfl⟩⟩
    case posted r' hp => rw [setPost_post, if_pos rfl] at h1; cases h1
    all_goals exact absurd h1 h2

end

def ClrEff (s s' : State) (u : Tid) : Prop :=
  ∀ r, (s.rcd r).waiting = true → (s'.rcd r).waiting = false →
    (s'.post u = some r ∧ ((∃ c bc l, s.pc u = .sg c bc (.wake l) ∧ s.post u = none ∧ l.head? = some r)
                            ∨ wakeable (s.rcd r).obj (s'.obj (s.rcd r).obj) = true))
    ∨ (∃ j, (s.pc u = .wDeqCv j .store ∨ (∃ b, s.pc u = .wDeq j (.store b)) ∨ (∃ b, s.pc u = .wEnq j (.store b)))
          ∧ (s.fr u).recs[j]? = some r)
    ∨ (s.rcd r).live = false

theorem clr_stepThr {s s' : State} {t : Tid} {e : Ev} (h : stepThr s t e = .ok s') : ClrEff s s' t := by
  intro r
  obtain ⟨_, tr⟩ := tr_rec h r
  cases tr
  case clear c bc rest hpc hp hp1 h => exact fun _ _ => .inl ⟨hp1, .inl ⟨c, bc, _, hpc, hp, rfl⟩⟩
  case pop hcv hw hp hp1 h => exact fun _ _ => .inl ⟨hp1, .inr hw⟩
  case init i oid hpc hoid hdead h => exact fun _ _ => .inr (.inr hdead)
  case refused j hr hpc h => exact fun _ _ => .inr (.inl ⟨j, .inr (.inr ⟨_, hpc⟩), hr⟩)
  case remove j oid hr hpc h =>
    refine fun _ _ => .inr (.inl ⟨j, ?_, hr⟩)
    rcases hpc with ⟨h, -⟩ | h
    · exact .inl h
    · exact .inr (.inl h)
  all_goals (rename_i h; rw [h]; intro h1 h2; first | exact nomatch h1.symm.trans h2 | exact nomatch h2)

end WaitN
