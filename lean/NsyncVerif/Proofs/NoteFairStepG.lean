/-
  Layer `Note`, fair termination: every own step of a thread inside a call — leaf or not —
  decreases the rank (`own_step_gen`: the potential `PG` or `restR`), with one exception (the load
  of the wait loop that finds the flag unset), provided no note is allocated any more and the step
  is not an adoption.
-/
import NsyncVerif.Proofs.NoteFairRankG


namespace Note

/-- The inner part of the rank of a thread at program counter `pc`. -/
def restP (s : State) (pc : PC) : Nat × (Nat × Nat) := (phG pc, (wG s pc, mn s pc))

def restR (s : State) (t : Tid) : Nat × (Nat × Nat) := restP s (s.pc t)

/-- What an own step from `pc` to `pc'` does to the rank. -/
def GoodG (B : Nat) (s s' : State) (pc pc' : PC) : Prop :=
  pc' = .idle ∨ PG B s' < PG B s ∨ RestLt (restP s' pc') (restP s pc) ∨
    ∃ n nt r wdl, pc = .dl .ld1 n nt (.ready2 r wdl) ∧ (s.notes n).notified = false

theorem ch_modNote (s : State) (k : NoteId) {f : NoteRec → NoteRec}
    (hf : ∀ r, (f r).children = r.children) : (s.modNote k f).ch = s.ch := by
  funext j
  simp only [State.ch, modNote_notes, upd_apply]
  split
  · next h => rw [h]; exact hf _
  · rfl

@[simp] theorem ch_setPc (s : State) (t : Tid) (p : PC) : (s.setPc t p).ch = s.ch := rfl
@[simp] theorem ch_acquire (s : State) (k : NoteId) (t : Tid) : (s.acquire k t).ch = s.ch :=
  ch_modNote _ _ fun _ => rfl
@[simp] theorem ch_release (s : State) (k : NoteId) : (s.release k).ch = s.ch :=
  ch_modNote _ _ fun _ => rfl
@[simp] theorem ch_incDisc (s : State) (k : NoteId) : (s.incDisc k).ch = s.ch :=
  ch_modNote _ _ fun _ => rfl
@[simp] theorem ch_decDisc (s : State) (k : NoteId) : (s.decDisc k).ch = s.ch :=
  ch_modNote _ _ fun _ => rfl
@[simp] theorem ch_setAdopted (s : State) (k : NoteId) (b : Bool) : (s.setAdopted k b).ch = s.ch :=
  ch_modNote _ _ fun _ => rfl
@[simp] theorem ch_setWaiters (s : State) (k : NoteId) (ws : List Rid) : (s.setWaiters k ws).ch = s.ch :=
  ch_modNote _ _ fun _ => rfl
@[simp] theorem ch_setNotified (s : State) (k : NoteId) : (s.setNotified k).ch = s.ch :=
  ch_modNote _ _ fun _ => rfl
@[simp] theorem ch_setExpiry (s : State) (k : NoteId) (d : Dl) : (s.setExpiry k d).ch = s.ch :=
  ch_modNote _ _ fun _ => rfl
@[simp] theorem ch_markFreed (s : State) (k : NoteId) : (s.markFreed k).ch = s.ch :=
  ch_modNote _ _ fun _ => rfl
@[simp] theorem ch_addUser (s : State) (n : NoteId) (t : Tid) : (s.addUser n t).ch = s.ch := rfl
@[simp] theorem ch_delUser (s : State) (n : NoteId) (t : Tid) : (s.delUser n t).ch = s.ch := rfl
@[simp] theorem ch_markFreeing (s : State) (n : NoteId) : (s.markFreeing n).ch = s.ch := rfl
@[simp] theorem ch_markCalled (s : State) (n : NoteId) : (s.markCalled n).ch = s.ch := rfl
@[simp] theorem ch_markBorn (s : State) (n : NoteId) : (s.markBorn n).ch = s.ch := rfl
@[simp] theorem ch_publish (s : State) (n : NoteId) : (s.publish n).ch = s.ch := rfl
@[simp] theorem ch_setAfter (s : State) (t : Tid) (b : Bool) : (s.setAfter t b).ch = s.ch := rfl
@[simp] theorem ch_pushObs (s : State) (o : Obs) : (s.pushObs o).ch = s.ch := rfl
@[simp] theorem ch_setNow (s : State) (v : Nat) : (s.setNow v).ch = s.ch := rfl
@[simp] theorem ch_leave (s : State) (t : Tid) (n : NoteId) : (s.leave t n).ch = s.ch := rfl
@[simp] theorem ch_clearParent (s : State) (c : NoteId) : (s.clearParent c).ch = s.ch :=
  ch_modNote _ _ fun _ => rfl
@[simp] theorem ch_modRec (s : State) (r : Rid) (f : WRec → WRec) : (s.modRec r f).ch = s.ch := rfl
@[simp] theorem ch_afterDeadline (s : State) (t : Tid) (n : NoteId) (nt : Dl) (k : DK) :
    (afterDeadline s t n nt k).ch = s.ch := by
  funext j; simp [State.ch]
@[simp] theorem ch_afterNotify (s : State) (t : Tid) (n : NoteId) (k : NK) :
    (afterNotify s t n k).ch = s.ch := by
  funext j; simp [State.ch]
@[simp] theorem ch_enterChild (s : State) (t : Tid) (n : NoteId) (par : Option NoteId) (k : NK) :
    (enterChild s t n par k).ch = s.ch := rfl
@[simp] theorem ch_childWakeNext (s : State) (t : Tid) (f : Frame) (rest : List Frame) (top : Top) :
    (childWakeNext s t f rest top).ch = s.ch := by
  funext j; simp [State.ch]
@[simp] theorem ch_childScanStart (s : State) (t : Tid) (f : Frame) (rest : List Frame) (top : Top) :
    (childScanStart s t f rest top).ch = s.ch := by
  funext j; simp [State.ch]
@[simp] theorem ch_freeLoopStart (s : State) (t : Tid) (n : NoteId) (par : Option NoteId) :
    (freeLoopStart s t n par).ch = s.ch := by
  funext j; simp [State.ch]

theorem chd_cons {s : State} (hr : Reachable s) {t : Tid} {pos : CPos} {stk : List Frame} {top : Top}
    (hpc : s.pc t = .chd pos stk top) : ∃ f rest, stk = f :: rest := by
  cases stk with
  | nil => exact absurd hpc (hr.inv6.2.2.2.2.1.chd_ne_nil t _ _)
  | cons f rest => exact ⟨f, rest, rfl⟩

theorem rest_afterDeadlinePc (s' : State) (n : NoteId) (nt : Dl) (k : DK) :
    phG (afterDeadlinePc n nt k) = 0 ∧ wG s' (afterDeadlinePc n nt k) = mj (afterDeadlinePc n nt k) := by
  cases k <;> simp only [afterDeadlinePc] <;> (repeat' split) <;> exact ⟨rfl, rfl⟩

theorem restLt_mj {s s' : State} {p' p : PC} (h1 : phG p' = 0 ∧ wG s' p' = mj p')
    (h2 : phG p = 0 ∧ wG s p = mj p) (hlt : mj p' < mj p) :
    RestLt (phG p', (wG s' p', mn s' p')) (phG p, (wG s p, mn s p)) := by
  rw [h1.1, h1.2, h2.1, h2.2]; exact Or.inr ⟨rfl, Or.inl hlt⟩

theorem chd_head_alloc {s : State} (hr : Reachable s) {t : Tid} {pos : CPos} {f : Frame}
    {rest : List Frame} {top : Top} (hpc : s.pc t = .chd pos (f :: rest) top) :
    (s.notes f.note).allocated = true := by
  have := hr.inv6.2.1.claim t
  rw [hpc] at this
  exact this.2.2.2.2.1

/-- An inner activation of `note_notify_child` returns to the loop of the enclosing one. -/
theorem pop_lt {ch' ch : NoteId → List NoteId}
    (hmono : ∀ k nx, sufLen (ch' k) nx ≤ sufLen (ch k) nx) (f g : Frame) (r : List Frame)
    (top : Top) (hv : Nat) :
    wGc ch' (.chd (.unlockChild f.note) (g :: r) top) < top.k.after + 4 + hv + outerW ch (g :: r) := by
  simp only [wGc, headW, outerW]
  have h2 := outerW_mono hmono r
  have h3 := hmono g.note g.next
  have : KK * (sufLen (ch' g.note) g.next + 1) ≤ KK * (sufLen (ch g.note) g.next + 1) :=
    Nat.mul_le_mul_left _ (by omega)
  omega

theorem ch_childReturn_mono (s : State) (t : Tid) (f : Frame) (rest : List Frame) (top : Top) :
    ∀ k nx, sufLen ((childReturn s t f rest top).ch k) nx ≤ sufLen (s.ch k) nx := by
  intro k nx
  simp only [State.ch, childReturn_f_children]
  split
  · exact sufLen_erase _ _ _
  · exact Nat.le_refl _

/-- Starting the scan of the children. -/
theorem scanStart_lt (ch : NoteId → List NoteId) (f : Frame) (rest : List Frame) (top : Top) :
    ∀ cs, ch f.note = cs → cs.Nodup →
      wGc ch (childLoopStartPc cs f rest top) <
        top.k.after + 4 + (KK * (cs.length + 1) + 3) + outerW ch rest := by
  intro cs hcs hn
  cases cs with
  | nil => simp [childLoopStartPc, wGc, headW, KK]
  | cons c cs' =>
    simp only [childLoopStartPc, wGc, headW, hcs, sufLen_head hn, List.length_cons]
    simp [KK]; omega

theorem phG_childLoopStartPc (cs : List NoteId) (f : Frame) (rest : List Frame) (top : Top) :
    phG (childLoopStartPc cs f rest top) = 0 := by cases cs <;> rfl

theorem mn_childLoopStartPc (s : State) (cs : List NoteId) (f : Frame) (rest : List Frame) (top : Top) :
    mn s (childLoopStartPc cs f rest top) = 0 := by cases cs <;> rfl

/-- The next position of the wake loop. -/
theorem wakeNext_restLt (s s1 : State) (t : Tid) (f : Frame) (rest : List Frame) (top : Top)
    (hch : s1.ch = s.ch) (hw : (s1.notes f.note).waiters = (s.notes f.note).waiters)
    (hn : (s.ch f.note).Nodup) (m0 : Nat)
    (hm0 : m0 = 2 * (s.notes f.note).waiters.length) :
    RestLt (phG (childWakeNextPc s1 f rest top),
        (wG (childWakeNext s1 t f rest top) (childWakeNextPc s1 f rest top),
         mn (childWakeNext s1 t f rest top) (childWakeNextPc s1 f rest top)))
      (0, (top.k.after + 4 + (KK * ((s.ch f.note).length + 1) + 3) + outerW s.ch rest, m0)) := by
  have hch' : (childWakeNext s1 t f rest top).ch = s.ch := by rw [ch_childWakeNext, hch]
  unfold childWakeNextPc
  cases hws : (s1.notes f.note).waiters with
  | nil =>
    simp only
    rw [phG_childLoopStartPc]
    refine Or.inr ⟨rfl, Or.inl ?_⟩
    have hc : (s1.notes f.note).children = s.ch f.note := by
      have := congrFun hch f.note; simpa [State.ch] using this
    show wG _ _ < _
    unfold wG
    rw [hch', hc]
    exact scanStart_lt s.ch f rest top _ rfl hn
  | cons r ws =>
    simp only
    refine Or.inr ⟨rfl, Or.inr ⟨?_, ?_⟩⟩
    · dsimp only
      unfold wG
      rw [hch']
      rfl
    · simp only [mn, childWakeNext_f_waiters, if_true, hws, List.tail_cons]
      rw [hm0, ← hw, hws]
      simp; omega

theorem chd_next_restLt {s : State} (hr : Reachable s) {c p : NoteId} {f : Frame}
    {rest : List Frame} {top : Top} (hf : f.next = some p) (hp : p ∈ (s.notes f.note).children)
    (s' : State) (hch : s'.ch = s.ch) :
    RestLt (phG (.chd (.lockChild p) (⟨f.note, nextAfter (s.notes f.note).children p⟩ :: rest) top),
        (wG s' (.chd (.lockChild p) (⟨f.note, nextAfter (s.notes f.note).children p⟩ :: rest) top),
         mn s' (.chd (.lockChild p) (⟨f.note, nextAfter (s.notes f.note).children p⟩ :: rest) top)))
      (phG (.chd (.unlockChildRet c) (f :: rest) top),
        (wG s (.chd (.unlockChildRet c) (f :: rest) top),
         mn s (.chd (.unlockChildRet c) (f :: rest) top))) := by
  have := sufLen_next (hr.invForest.nodup f.note) hp
  have hc : ∀ k, (s'.notes k).children = (s.notes k).children := by
    intro k; have := congrFun hch k; simpa [State.ch] using this
  refine Or.inr ⟨rfl, Or.inl ?_⟩
  simp only [wG, wGc, headW, hch, hf, State.ch, hc]
  simp only [KK]; omega

theorem fr_next_restLt {s : State} (hr : Reachable s) {n c0 p : NoteId} {par : Option NoteId}
    (hp : p ∈ (s.notes n).children) (s' : State) (hch : s'.ch = s.ch) :
    RestLt (phG (.fr .lockChild n par p (nextAfter (s.notes n).children p)),
        (wG s' (.fr .lockChild n par p (nextAfter (s.notes n).children p)),
         mn s' (.fr .lockChild n par p (nextAfter (s.notes n).children p))))
      (phG (.fr .unlockChildRet n par c0 (some p)),
        (wG s (.fr .unlockChildRet n par c0 (some p)),
         mn s (.fr .unlockChildRet n par c0 (some p)))) := by
  have := sufLen_next (hr.invForest.nodup n) hp
  have hc : ∀ k, (s'.notes k).children = (s.notes k).children := by
    intro k; have := congrFun hch k; simpa [State.ch] using this
  refine Or.inr ⟨rfl, Or.inl ?_⟩
  simp only [wG, wGc, frW, State.ch, hc]
  simp only [KK]; omega

theorem fr_drop_restLt (s s' : State) {n c : NoteId} {nx par : Option NoteId}
    (h : s'.ch n = (s.ch n).erase c) :
    RestLt (phG (.fr .unlockChild n par c nx),
        (wG s' (.fr .unlockChild n par c nx), mn s' (.fr .unlockChild n par c nx)))
      (phG (.fr .lockChildRet n par c nx),
        (wG s (.fr .lockChildRet n par c nx), mn s (.fr .lockChildRet n par c nx))) := by
  have := sufLen_erase (s.ch n) c nx
  refine Or.inr ⟨rfl, Or.inl ?_⟩
  simp only [wG, wGc, frW, h]
  simp only [KK]; omega

/-- The phase does not increase and the work decreases. -/
theorem restLt_plain {s s' : State} {pc pc' : PC} (hph : phG pc' ≤ phG pc)
    (hw : wGc s'.ch pc' < wGc s.ch pc) :
    RestLt (phG pc', (wG s' pc', mn s' pc')) (phG pc, (wG s pc, mn s pc)) := by
  rcases Nat.lt_or_ge (phG pc') (phG pc) with h | h
  · exact Or.inl h
  · exact Or.inr ⟨Nat.le_antisymm hph h, Or.inl hw⟩

theorem adopted_of_waitDone {r : NoteRec} (h : r.waitDone = true) (hc : ¬ r.children = []) :
    r.adopted = true := by
  simp only [NoteRec.waitDone, Bool.or_eq_true, decide_eq_true_eq] at h
  exact h.resolve_left hc

attribute [note_rank] wGc frW headW outerW mj DPos.rk NPos.rk CPos.rk NewPos.rk FPos.rk W0Pos.rk
  WPos.rk DK.after NK.after KK ch_setPc ch_acquire ch_release ch_incDisc ch_decDisc ch_modRec
  ch_setWaiters ch_markFreed ch_enterChild

/-- The step moves on inside the code of one function and touches no children list: the work at
    the new position is smaller. -/
macro "rank_plain" : tactic => `(tactic| (
  refine .inr (.inr (.inl (restLt_plain ?_ ?_)))
  · first | exact Nat.le_refl _ | exact Nat.zero_le _
  · simp only [note_rank]
    omega))

/-- Every own step of a thread inside a call decreases the rank, or is the return, or is the load of
    the wait loop that finds the flag unset. -/
theorem Own.rank {s s' : State} {e : Event} {t : Tid} {pc pc' : PC} (B : Nat)
    (h : Own s t pc e pc' s') (hs0 : step s e = .ok s') (hpc : s.pc t = pc) (hpc' : s'.pc t = pc')
    (hp : pc ≠ .idle)
    (hr : Reachable s) (hB : ∀ k, (s.notes k).allocated = true → k < B) (hm : NoMalloc s)
    (hna : ¬ Adopts s e) : GoodG B s s' pc pc' := by
  unfold GoodG restP
  cases h
  all_goals first
    | exact absurd rfl hp
    | exact .inl rfl
    | rank_plain
    | skip
  -- `nsync_note_notified_deadline_` returns to its caller
  case ld_dl_ld1_1 =>
    exact .inr (.inr (.inl (restLt_mj (rest_afterDeadlinePc ..) ⟨rfl, rfl⟩ (mj_ld1_flag ..))))
  case unlockRet_dl_unlockRet_2 | now_dl_now_2 =>
    exact .inr (.inr (.inl (restLt_mj (rest_afterDeadlinePc ..) ⟨rfl, rfl⟩
      (mj_after_lt_dl _ _ _ _ _ (by decide)))))
  case unlockRet_nfy_unlockRet_dl =>
    exact .inr (.inr (.inl (restLt_mj (rest_afterDeadlinePc ..) ⟨rfl, rfl⟩ (mj_afterNotify_lt ..))))
  -- the load of the wait loop
  case ld_dl_ld1_2 =>
    cases ‹DK›
    case ready2 => exact .inr (.inr (.inr ⟨_, _, _, _, rfl, Bool.eq_false_iff.2 ‹_›⟩))
    all_goals rank_plain
  -- an activation of `note_notify_child` returns
  case ld_chd_ld_2_in =>
    rename_i f g gs top _ _ _ _ _
    exact .inr (.inr (.inl (.inr ⟨rfl, .inl (pop_lt (ch_childReturn_mono s t f (g :: gs) top) f g gs top 5)⟩)))
  case waitRet_chd_waitRet_1_in =>
    rename_i f g gs top _ _ _
    have hmono := ch_childReturn_mono (s.acquire f.note t) t f (g :: gs) top
    rw [ch_acquire] at hmono
    exact .inr (.inr (.inl (.inr ⟨rfl, .inl (pop_lt hmono f g gs top 1)⟩)))
  -- a rescan clears a `children_adopted` mark
  case waitRet_chd_waitRet_2 =>
    exact .inr (.inl (PG_lt_adopted B hs0 hm hna (hB _ (chd_head_alloc hr hpc))
      (adopted_of_waitDone ‹_› (by simp [*])) (by simp)))
  case waitRet_fr_waitRet_3 =>
    have hcl := hr.inv6.2.2.2.2.1.claim t
    rw [hpc] at hcl
    exact .inr (.inl (PG_lt_adopted B hs0 hm hna (hB _ hcl.1)
      (adopted_of_waitDone ‹_› (by simp [*])) (by simp)))
  -- the flag is stored
  case stNote_chd_st_wake | stNote_chd_st_none | stNote_chd_st_child =>
    have hf := hr.invF t
    rw [hpc] at hf
    obtain ⟨_, _, rfl, _⟩ := ‹_ = Site.childSt ∧ _›
    exact .inr (.inl (PG_lt_flag B hs0 hm hna (hB _ ‹_›) ‹_› hf (by simp)))
  -- the wake loop
  case stW_chd_wake =>
    exact .inr (.inr (.inl (.inr ⟨rfl, .inr ⟨rfl, Nat.lt_succ_self _⟩⟩)))
  case semV_chd_semV_wake | semV_chd_semV_none | semV_chd_semV_child =>
    -- the three branches at once, as the model computes the new program counter
    simp only [childWakeNext_pc, upd_same] at hpc'
    rw [← hpc']
    exact .inr (.inr (.inl (wakeNext_restLt s _ t _ _ _ (by simp) (by simp)
      (hr.invForest.nodup _) _ rfl)))
  -- around the recursive call
  case lockCall_chd_lockChild | unlockCall_chd_unlockChild | lockRet_chd_lockChildRet_1
      | lockRet_chd_lockChildRet_2 =>
    obtain ⟨f, rest, rfl⟩ := chd_cons hr hpc; rank_plain
  -- `nsync_note_free` starts its first scan
  case lockRet_fr_lockRet_2_child | lockRet_fr_sLockNRet_child | tryRet_fr_tryRet_1_child =>
    exact .inr (.inr (.inl (.inl Nat.zero_lt_one)))
  -- the adoption is excluded; a parentless note drops the child
  case lockRet_fr_lockChildRet_1 =>
    exact absurd ⟨t, _, _, _, _, rfl, hpc, ‹_ = 0›⟩ hna
  case lockRet_fr_lockChildRet_2 =>
    exact .inr (.inr (.inl (fr_drop_restLt _ _ (by simp [State.ch]))))
  -- the next child
  case unlockRet_chd_unlockChildRet_1 =>
    exact .inr (.inr (.inl (chd_next_restLt hr ‹_› ‹_› _ (by simp))))
  case unlockRet_fr_unlockChildRet_1 =>
    exact .inr (.inr (.inl (fr_next_restLt hr ‹_› _ (by simp))))

theorem own_step_gen {s s' : State} {e : Event} {t : Tid} (B : Nat) (hs : step s e = .ok s')
    (ha : e.actor = some t) (hp : s.pc t ≠ .idle) (hr : Reachable s)
    (hB : ∀ k, (s.notes k).allocated = true → k < B) (hm : NoMalloc s) (hna : ¬ Adopts s e) :
    GoodG B s s' (s.pc t) (s'.pc t) :=
  (step_actor hs ha).rank B hs rfl rfl hp hr hB hm hna

end Note
