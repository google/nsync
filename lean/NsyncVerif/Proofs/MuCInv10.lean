import NsyncVerif.Proofs.MuCShare
import NsyncVerif.Proofs.MuCQScan
import NsyncVerif.Proofs.MuCInv5
/-
  MuC: facts about the locals of nsync_mu_wait_with_deadline between the evaluation that found the
  condition false and the release (the condition is still false; `had_waiters` clear means the queue
  holds nothing but the caller's record), and about `set_on_release & MU_WRITER_WAITING` of the scan.
  The frame lemma (`Inv10.local`, `Keep10`, `Inv10.frame`); `set_on_release & MU_WRITER_WAITING` through the plain code of
  the scan (`SwwOk` → `ScanAt10`); a record is queued (`Inv10.enq_step`).
-/
namespace NsyncVerif.MuC

/-- From the false evaluation (mu_wait.c:182/281) to the release CAS (mu_wait.c:244). -/
def PC.mwPre : PC → Option MW
  | .mwStW c | .mwRcLd c | .mwEnqLd c | .mwEnqCas c _ | .mwRelLd c | .mwRelCas c _ _ => some c
  | _ => none

/-- Between the enqueue CAS and the release CAS: the spinlock is held. -/
def PC.mwRel : PC → Option MW
  | .mwRelLd c | .mwRelCas c _ _ => some c
  | _ => none

/-- A writer the scan has passed over although it could have run (mu.c:382-385): it has no condition, or
    the unlocker holds the writer bit and found its condition true. -/
def PassedW (s : State) (late : Bool) (k : Wid) : Prop :=
  (s.wr k).lType = .W ∧ ((s.wr k).cond = none ∨ (late = true ∧ ∃ c, (s.wr k).cond = some c ∧ evalCond s.data c = true))

structure Inv10 (s : State) : Prop where
  pcf : ∀ t c, (s.pc t).mwPre = some c → evalOpt s.data c.cond = false
  prel : ∀ t c k, (s.pc t).mwRel = some c → c.w = some k → c.hadW = false → ∀ x, Queued s x → x = k
  sww : ∀ t sc, (s.pc t).scan? = some sc → sc.sww = true → ∃ k, k ∈ sc.done ++ sc.passed ∧ PassedW s sc.late k
  swf : ∀ t f, (s.pc t).finOf = some f → f.sww = true → ∃ k, k ∈ s.queue ∧ PassedW s f.late k

theorem mwPre_share {p : PC} {c : MW} (h : p.mwPre = some c) : pcShare p = some c.l := by
  cases p <;> simp [PC.mwPre] at h <;> subst h <;> rfl

theorem mwRel_spin {p : PC} {c : MW} (h : p.mwRel = some c) : p.spin = true := by
  cases p <;> simp [PC.mwRel] at h <;> rfl

theorem PassedW.congr {s s' : State} {late : Bool} {k : Wid} (hl : (s'.wr k).lType = (s.wr k).lType)
    (hc : (s'.wr k).cond = (s.wr k).cond) (hd : s'.data = s.data) (h : PassedW s late k) : PassedW s' late k := by
  unfold PassedW at h ⊢
  rw [hl, hc, hd]; exact h

theorem queued_of_passed {s : State} {u : Tid} {sc : Scan} {k : Wid} (hu : (s.pc u).scan? = some sc) (hk : k ∈ sc.done ++ sc.passed) :
    Queued s k :=
  Or.inr ⟨u, sc, hu, List.mem_append_left _ hk⟩

/-- A step of `t` that leaves lists, the records on them and data alone. -/
theorem Inv10.local {s s' : State} (t : Tid) (h : Inv10 s)
    (hQ : ∀ k, Queued s' k → Queued s k) (hq : s'.queue = s.queue)
    (hwr : ∀ x, Queued s x → (s'.wr x).lType = (s.wr x).lType ∧ (s'.wr x).cond = (s.wr x).cond)
    (hd : s'.data = s.data)
    (hpc : ∀ u, u ≠ t → s'.pc u = s.pc u)
    (hpre : ∀ c, (s'.pc t).mwPre = some c → (∃ c0, (s.pc t).mwPre = some c0 ∧ c.cond = c0.cond) ∨ evalOpt s.data c.cond = false)
    (hrel : ∀ c, (s'.pc t).mwRel = some c → ∃ c0, (s.pc t).mwRel = some c0 ∧ c.w = c0.w ∧ c.hadW = c0.hadW)
    (hsc : ∀ sc, (s'.pc t).scan? = some sc → (s.pc t).scan? = some sc)
    (hfin : ∀ f, (s'.pc t).finOf = some f → (s.pc t).finOf = some f) : Inv10 s' := by
  refine ⟨?_, ?_, ?_, ?_⟩
  · intro u c hu
    rw [hd]
    by_cases e : u = t
    · subst e
      rcases hpre c hu with ⟨c0, h0, e0⟩ | a
      · rw [e0]; exact h.pcf u c0 h0
      · exact a
    · rw [hpc u e] at hu; exact h.pcf u c hu
  · intro u c k hu hk hh x hx
    by_cases e : u = t
    · subst e
      obtain ⟨c0, h0, e1, e2⟩ := hrel c hu
      exact h.prel u c0 k h0 (by rw [← e1]; exact hk) (by rw [← e2]; exact hh) x (hQ x hx)
    · rw [hpc u e] at hu; exact h.prel u c k hu hk hh x (hQ x hx)
  · intro u sc hu hs
    have hu' : (s.pc u).scan? = some sc := by
      by_cases e : u = t
      · subst e; exact hsc sc hu
      · rw [← hpc u e]; exact hu
    obtain ⟨k, hk, hp⟩ := h.sww u sc hu' hs
    have hw := hwr k (queued_of_passed hu' hk)
    exact ⟨k, hk, hp.congr hw.1 hw.2 hd⟩
  · intro u f hu hs
    have hu' : (s.pc u).finOf = some f := by
      by_cases e : u = t
      · subst e; exact hfin f hu
      · rw [← hpc u e]; exact hu
    obtain ⟨k, hk, hp⟩ := h.swf u f hu' hs
    have hw := hwr k (Or.inl hk)
    exact ⟨k, by rw [hq]; exact hk, hp.congr hw.1 hw.2 hd⟩

/-- What `Inv10.local` asks of the program point `p'` a thread moves to from `p`. -/
structure Keep10 (data : Nat → Int) (p' p : PC) : Prop where
  scan : p'.scan? = p.scan?
  pre : ∀ c, p'.mwPre = some c → (∃ c0, p.mwPre = some c0 ∧ c.cond = c0.cond) ∨ evalOpt data c.cond = false
  rel : ∀ c, p'.mwRel = some c → ∃ c0, p.mwRel = some c0 ∧ c.w = c0.w ∧ c.hadW = c0.hadW
  fin : ∀ f, p'.finOf = some f → p.finOf = some f

/-- To a program point outside nsync_mu_wait's path to the release and outside the final CAS of unlock_slow. -/
theorem Keep10.of_none {data : Nat → Int} {p' p : PC} (hsc : p'.scan? = p.scan?) (hpre : p'.mwPre = none) (hrel : p'.mwRel = none)
    (hfin : p'.finOf = none) : Keep10 data p' p :=
  ⟨hsc, fun _ e => (by rw [hpre] at e; cases e), fun _ e => (by rw [hrel] at e; cases e), fun _ e => (by rw [hfin] at e; cases e)⟩

theorem Keep10.of_eq {data : Nat → Int} {p' p : PC} (hsc : p'.scan? = p.scan?) (hpre : p'.mwPre = p.mwPre) (hrel : p'.mwRel = p.mwRel)
    (hfin : p'.finOf = p.finOf) : Keep10 data p' p :=
  ⟨hsc, fun c e => Or.inl ⟨c, hpre ▸ e, rfl⟩, fun c e => ⟨c, hrel ▸ e, rfl, rfl⟩, fun _ e => hfin ▸ e⟩

/-- Along nsync_mu_wait's path to the release, with the same condition. -/
theorem Keep10.of_pre {data : Nat → Int} {p' p : PC} {c c0 : MW} (hsc : p'.scan? = p.scan?) (h0 : p.mwPre = some c0)
    (h' : p'.mwPre = some c) (hc : c.cond = c0.cond) (hrel : p'.mwRel = none) (hfin : p'.finOf = none) : Keep10 data p' p :=
  ⟨hsc, fun _ e => Or.inl ⟨c0, h0, by rw [h'] at e; cases e; exact hc⟩, fun _ e => (by rw [hrel] at e; cases e),
    fun _ e => (by rw [hfin] at e; cases e)⟩

/-- A step of `t` to `p'` that leaves lists, the records on them and data alone. -/
theorem Inv10.frame {s s' : State} {t : Tid} {p' : PC} (h : Inv10 s) (hpc : s'.pc = setFn s.pc t p') (hq : s'.queue = s.queue)
    (hwr : ∀ x, Queued s x → (s'.wr x).lType = (s.wr x).lType ∧ (s'.wr x).cond = (s.wr x).cond) (hd : s'.data = s.data)
    (k : Keep10 s.data p' (s.pc t)) : Inv10 s' := by
  have hpt : s'.pc t = p' := setFn_at hpc
  have hoth : ∀ u, u ≠ t → s'.pc u = s.pc u := setFn_others hpc
  exact Inv10.local t h (fun x hx => (queued_same (t := t) hq hoth (by rw [hpt]; exact k.scan) x).1 hx) hq hwr hd hoth
    (by rw [hpt]; exact k.pre) (by rw [hpt]; exact k.rel) (by rw [hpt, k.scan]; exact fun _ e => e) (by rw [hpt]; exact k.fin)

theorem PcMove.mwPre {s : State} {p p' : PC} (h : PcMove s p p') : p'.mwPre = p.mwPre := by
  cases h <;> first | rfl | (rename_i h; cases h <;> rfl)
theorem PcMove.mwRel {s : State} {p p' : PC} (h : PcMove s p p') : p'.mwRel = p.mwRel := by
  cases h <;> first | rfl | (rename_i h; cases h <;> rfl)

theorem Inv10.move {s : State} {t : Tid} {p' : PC} (h : Inv10 s) (hp : PcMove s (s.pc t) p') : Inv10 (setPc s t p') :=
  h.frame rfl rfl (fun _ _ => ⟨rfl, rfl⟩) rfl (.of_eq hp.scan hp.mwPre hp.mwRel hp.finOf)

theorem CasPc.mwPre {s : State} {p p' : PC} {nw : Word} {w : Option Wid} (h : CasPc s p p' nw w) : p'.mwPre = none := by
  cases h <;> first | rfl | (cases ‹Ret› <;> rfl) | (rw [loopPc_true]; split <;> rfl)
theorem CasPc.mwRel {s : State} {p p' : PC} {nw : Word} {w : Option Wid} (h : CasPc s p p' nw w) : p'.mwRel = none := by
  cases h <;> first | rfl | (cases ‹Ret› <;> rfl) | (rw [loopPc_true]; split <;> rfl)

theorem Inv10.cas {s s' : State} {t : Tid} {p' : PC} {nw : Word} {w : Option Wid} (h : Inv10 s) (hp : CasPc s (s.pc t) p' nw w)
    (ok : CasOk s t p' nw w s') : Inv10 s' :=
  h.frame ok.pc ok.queue (fun x _ => by rw [ok.wr]; obtain ⟨o, e⟩ := dropW_wr_eq s w x; rw [e]; exact ⟨rfl, rfl⟩) ok.data
    (.of_none (by rw [hp.scan.1, hp.scan.2]) hp.mwPre hp.mwRel hp.finOf)

/-- A step that changes only semaphores / clock / the word. -/
theorem Inv10.env {s s' : State} (h : Inv10 s) (hq : s'.queue = s.queue)
    (hwr : ∀ x, (s'.wr x).lType = (s.wr x).lType ∧ (s'.wr x).cond = (s.wr x).cond) (hd : s'.data = s.data) (hpc : s'.pc = s.pc) :
    Inv10 s' :=
  Inv10.local 0 h (fun k hk => (queued_congr hq (by intro u; rw [hpc]) k).1 hk) hq (fun x _ => hwr x) hd (by intro u _; rw [hpc])
    (by rw [hpc]; exact fun c hc => Or.inl ⟨c, hc, rfl⟩) (by rw [hpc]; exact fun c hc => ⟨c, hc, rfl, rfl⟩)
    (by rw [hpc]; exact fun _ e => e) (by rw [hpc]; exact fun _ e => e)

theorem setFn_lType_cond {wr : Wid → WRec} {k : Wid} {r : WRec} (hl : r.lType = (wr k).lType) (hc : r.cond = (wr k).cond) (x : Wid) :
    (setFn wr k r x).lType = (wr x).lType ∧ (setFn wr k r x).cond = (wr x).cond :=
  ⟨setFn_proj WRec.lType hl x, setFn_proj WRec.cond hc x⟩

macro "pc10" heq:ident : tactic => `(tactic|
  (try rw [$heq:ident]
   (simp_all [PC.mwPre, PC.mwRel, PC.scan?, PC.finOf, setFn, loopPc, finPc, Ret.pc, SL.entry, SL.fromWait, SL.woken]) <;> grind))

macro "inv10_local" t:ident h:ident heq:ident : tactic => `(tactic|
  (refine Inv10.local $t $h ?_ (by simp) ?_ (by simp) ?_ ?_ ?_ ?_ ?_
   · intro k hk
     exact (queued_same (t := $t) (by simp) (by intro u hu; simp [setFn, hu])
        (by rw [$heq:ident]; simp [setFn, PC.scan?, loopPc, finPc, Ret.pc] <;> (repeat' split) <;> simp [PC.scan?]) k).1 hk
   · intro x; (simp [setFn]) <;> (try split) <;> simp_all
   · intro u hu; simp [setFn, hu]
   · intro c hc
     first
     | (left; revert hc; pc10 $heq)
     | (right; revert hc; pc10 $heq)
   · intro c hc; revert hc; pc10 $heq
   · intro sc hc; revert hc; pc10 $heq
   · intro f hc; revert hc; pc10 $heq))

macro "ld_case10" t:ident h:ident heq:ident hs:ident : tactic => `(tactic|
  (try dsimp only at $hs:ident
   try simp only [ldWord, ldWaiting] at $hs:ident
   repeat' split at $hs:ident
   all_goals first
     | (cases $hs:ident; done)
     | (cases $hs:ident; inv10_local $t $h $heq)
     | (cases $hs:ident; split <;> inv10_local $t $h $heq)))

theorem skipPast_prefix (wr : Wid → WRec) (passed : List Wid) (k : Wid) (rest : List Wid) {x : Wid} (h : x ∈ passed) :
    x ∈ (skipPast wr passed k rest).1 := by
  simp only [skipPast]; (repeat' split) <;> simp [h]

def SwwOk (PW : Wid → Prop) (sc : Scan) : Prop := sc.sww = true → ∃ k, k ∈ sc.done ++ sc.passed ∧ PW k

def ScanAt10 (PW : Wid → Prop) (s' : State) (t : Tid) : Prop :=
  (∀ sc', (s'.pc t).scan? = some sc' → SwwOk PW sc') ∧
  (∀ f, (s'.pc t).finOf = some f → f.sww = true → ∃ k, k ∈ s'.queue ∧ PW k)

def ScanRes.good10 (PW : Wid → Prop) : ScanRes → Prop
  | .eval _ sc' | .remove _ sc' | .iterEnd sc' => SwwOk PW sc'
  | .panic => True

theorem scanGo_sww (wr : Wid → WRec) (PW : Wid → Prop) (hPW : ∀ k, (wr k).lType = .W → (wr k).cond = none → PW k)
    (l : List Wid) (sc : Scan) (h : SwwOk PW sc) : (scanGo wr l sc).good10 PW := by
  induction l generalizing sc with
  | nil => exact h
  | cons k rest ih =>
    unfold scanGo
    split
    · exact h
    · split
      · split
        · exact h
        · trivial
      · rename_i hcnd
        by_cases hw : sc.wt = none ∨ (wr k).lType = .R
        · simp only [wakeOrPass, hw, if_true, ScanRes.good10]
          exact h
        · simp only [wakeOrPass, hw, if_false]
          refine ih _ ?_
          intro _
          refine ⟨k, by simp, hPW k ?_ ?_⟩
          · cases hl : (wr k).lType with
            | W => rfl
            | R => exact absurd (Or.inr hl) hw
          · cases hc : (wr k).cond with
            | none => rfl
            | some c => rw [hc] at hcnd; simp at hcnd

theorem pickup_sww {s : State} {sc sc2 : Scan} {PW : Wid → Prop} (h : (pickup s sc).2 = some sc2) (hok : SwwOk PW sc) : SwwOk PW sc2 := by
  obtain ⟨_, hd, hp, _, _, _⟩ := pickup_some' h
  have hs : sc2.sww = sc.sww := by
    unfold pickup at h
    split at h
    · cases h
    · simp only [Option.some.injEq] at h; subst h; rfl
  intro hsw
  rw [hs] at hsw
  obtain ⟨k, hk, hp'⟩ := hok hsw
  refine ⟨k, ?_, hp'⟩
  rw [hd, hp]
  simp only [List.mem_append] at hk ⊢
  rcases hk with a | a
  · exact Or.inl (Or.inl a)
  · exact Or.inl (Or.inr (Or.inl a))

theorem scanAt10_scan {PW : Wid → Prop} {s : State} {t : Tid} {p : PC} {sc : Scan} (hp : p.scan? = some sc) (hok : SwwOk PW sc)
    (hfin : p.finOf = none) : ScanAt10 PW (setPc s t p) t := by
  refine ⟨?_, ?_⟩
  · intro sc' h; simp only [setPc_pc, setFn_same, hp, Option.some.injEq] at h; subst h; exact hok
  · intro f h; simp only [setPc_pc, setFn_same, hfin] at h; cases h

theorem pickup_sww_none {PW : Wid → Prop} {s : State} {sc : Scan} (t : Tid) (r : Ret) (e2 : (pickup s sc).2 = none)
    (hok : SwwOk PW sc) : ScanAt10 PW (toFin (pickup s sc).1 t r sc) t := by
  obtain ⟨_, hq1⟩ := pickup_none' e2
  refine ⟨?_, ?_⟩
  · intro sc' h; simp [toFin, PC.scan?] at h
  · intro f h hsw
    simp only [toFin, setPc_pc, setFn_same, PC.finOf, Option.some.injEq] at h
    subst h
    obtain ⟨k, hk, hp'⟩ := hok (by simpa [mkFin] using hsw)
    refine ⟨k, ?_, hp'⟩
    simp only [toFin, setPc_queue]
    rw [hq1]
    simp only [List.mem_append] at hk ⊢
    rcases hk with a | a
    · exact Or.inl a
    · exact Or.inr (Or.inl a)

/-- Along the plain code `set_on_release & MU_WRITER_WAITING` is backed by a passed writer (`LnkOnly` keeps `lType` and `cond`,
    so the hypothesis on `PW` passes to the state after a `pickup`). -/
theorem scanInv_sww (PW : Wid → Prop) (t : Tid) (r : Ret) :
    ScanInv t r (fun s sc => (∀ k, (s.wr k).lType = .W → (s.wr k).cond = none → PW k) ∧ SwwOk PW sc) (fun s' => ScanAt10 PW s' t) where
  eval := fun ⟨hPW, hok⟩ hgo => scanAt10_scan rfl (hgo ▸ scanGo_sww _ PW hPW _ _ hok :) rfl
  remove := fun ⟨hPW, hok⟩ hgo => scanAt10_scan rfl (hgo ▸ scanGo_sww _ PW hPW _ _ hok :) rfl
  iterEnd := fun ⟨hPW, hok⟩ hgo => ⟨hPW, (hgo ▸ scanGo_sww _ PW hPW _ _ hok :)⟩
  reLd := fun ⟨_, hok⟩ _ => scanAt10_scan rfl hok rfl
  fin := fun ⟨_, hok⟩ e2 => pickup_sww_none t r e2 hok
  pick := fun ⟨hPW, hok⟩ e2 =>
    ⟨fun k a b => hPW k ((lnkOnly_pickup _ _ k).2.2.1 ▸ a) ((lnkOnly_pickup _ _ k).2.2.2.2.1 ▸ b), pickup_sww e2 hok⟩
  relLd := fun ⟨_, hok⟩ _ => scanAt10_scan rfl hok rfl

theorem afterEval_sww {PW : Wid → Prop} {s : State} {sc : Scan} {t : Tid} {r : Ret} {res : Bool} {s' : State}
    (h : afterEval s t r sc res = .ok s')
    (hPW : ∀ k, (s.wr k).lType = .W → (s.wr k).cond = none → PW k)
    (hok : SwwOk PW sc)
    (htrue : res = true → ∀ k rest, sc.todo = k :: rest → (s.wr k).lType = .W → PW k) : ScanAt10 PW s' t := by
  refine (scanInv_sww PW t r).afterEval h ?_ ?_ ?_
  · intro k rest _ _
    refine ⟨hPW, fun hsw => ?_⟩
    obtain ⟨x, hx, hp⟩ := hok hsw
    refine ⟨x, ?_, hp⟩
    simp only [List.mem_append] at hx ⊢
    exact hx.imp id (skipPast_prefix s.wr sc.passed k rest)
  · intro k rest _ _ _
    exact scanAt10_scan rfl hok rfl
  · intro k rest hk hres hc
    refine ⟨hPW, fun _ => ⟨k, by simp, htrue hres k rest hk ?_⟩⟩
    cases hl : (s.wr k).lType with
    | W => rfl
    | R => exact absurd (Or.inr hl) hc

/-- `t`, holding the spinlock (or taking the free one), moves to `p` outside the scan; mu->waiters may lose records or gain
    `k`; the records that were queued keep `l_type` and condition, the data are kept. -/
theorem Inv10.spin_step {s s2 : State} {t : Tid} {k : Wid} {p : PC} (h : Inv10 s)
    (hsp : ∀ u, u ≠ t → (s.pc u).spin = false)
    (hq : ∀ y, y ∈ s2.queue → y = k ∨ y ∈ s.queue) (hpc : s2.pc = s.pc) (hd : s2.data = s.data)
    (hwr : ∀ x, Queued s x → (s2.wr x).lType = (s.wr x).lType ∧ (s2.wr x).cond = (s.wr x).cond)
    (hpre : ∀ c, p.mwPre = some c → ∃ c0, (s.pc t).mwPre = some c0 ∧ c.cond = c0.cond)
    (hrel : ∀ c, p.mwRel = some c → c.w = some k ∧ (c.hadW = false → ∀ x, ¬ Queued s x))
    (hsc : p.scan? = none) (hfin : p.finOf = none) : Inv10 (setPc s2 t p) := by
  have hoth : ∀ u, u ≠ t → (setPc s2 t p).pc u = s.pc u := setPc_others hpc t p
  have hpt : (setPc s2 t p).pc t = p := setFn_same _ _ _
  refine ⟨?_, ?_, ?_, ?_⟩
  · intro u c hu
    show evalOpt s2.data c.cond = false
    rw [hd]
    by_cases e : u = t
    · subst e
      obtain ⟨c0, h0, e0⟩ := hpre c (hpt ▸ hu)
      rw [e0]; exact h.pcf u c0 h0
    · rw [hoth u e] at hu; exact h.pcf u c hu
  · intro u c k' hu hk hh x hx
    by_cases e : u = t
    · subst e
      obtain ⟨a, b⟩ := hrel c (hpt ▸ hu)
      rw [a] at hk; cases hk
      exact (queued_grow hq hpc hsc hx).resolve_right (b hh x)
    · rw [hoth u e] at hu
      have := mwRel_spin hu; rw [hsp u e] at this; cases this
  · intro u sc hu hs
    by_cases e : u = t
    · subst e; rw [hpt, hsc] at hu; cases hu
    · rw [hoth u e] at hu
      obtain ⟨x, hx, hp⟩ := h.sww u sc hu hs
      have hw := hwr x (queued_of_passed hu hx)
      exact ⟨x, hx, hp.congr hw.1 hw.2 hd⟩
  · intro u f hu
    by_cases e : u = t
    · subst e; rw [hpt, hfin] at hu; cases hu
    · rw [hoth u e] at hu
      have := fin_spin hu; rw [hsp u e] at this; cases this

/-- `t`, holding the spinlock (or taking the free one), moves to `p` and queues record `k` at either end of mu->waiters,
    from a state `s1` that differs from `s` in the record `k`, the word and ghosts at most. -/
theorem Inv10.enq_step {s s1 s2 : State} {t : Tid} {k : Wid} {p : PC} (h : Inv10 s)
    (hsp : ∀ u, u ≠ t → (s.pc u).spin = false)
    (hs2 : s2 = enqLast s1 k ∨ s2 = enqFirst s1 k)
    (hq : s1.queue = s.queue) (hpc : s1.pc = s.pc) (hd : s1.data = s.data)
    (hwr : ∀ x, x ≠ k → (s1.wr x).lType = (s.wr x).lType ∧ (s1.wr x).cond = (s.wr x).cond)
    (hkq : ¬ Queued s k)
    (hpre : ∀ c, p.mwPre = some c → ∃ c0, (s.pc t).mwPre = some c0 ∧ c.cond = c0.cond)
    (hrel : ∀ c, p.mwRel = some c → c.w = some k ∧ (c.hadW = false → ∀ x, ¬ Queued s x))
    (hsc : p.scan? = none) (hfin : p.finOf = none) : Inv10 (setPc s2 t p) := by
  obtain ⟨g1, g2, g3, g4⟩ := enq_grow hs2
  refine h.spin_step hsp (hq ▸ g1) (g2.trans hpc) (g3.trans hd) (fun x hx => ?_) hpre hrel hsc hfin
  have hw := hwr x fun e => hkq (e ▸ hx)
  exact ⟨(g4 x).2.2.1.trans hw.1, (g4 x).2.2.2.2.1.trans hw.2⟩

end NsyncVerif.MuC
