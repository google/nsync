/-
  Layer `Note`, fair termination: the simp set of the rank computation in the case analysis over the
  rules of `Own` (Proofs/NoteFairStepG.lean).
-/
import Lean.Meta.Tactic.Simp.RegisterCommand

/-- The definitions of the rank of a thread, and the children lists after the state updates
    (collected in Proofs/NoteFairStepG.lean). -/
register_simp_attr note_rank
