/-
  Layer `Once`: the pc predicates and the inductive invariant `Inv` (preserved by every accepted
  event: `Proofs/OnceStep.lean`).
-/
import NsyncVerif.Model.Once

namespace Once

/-- The call frame of a thread inside run_once. -/
def PC.frame? : PC → Option Frame
  | .idle => none
  | .outerLd f | .implLd f | .lock1Call f _ | .lock1Ret f _ | .casTry f | .casReload f
  | .wUnlockCall f | .wUnlockRet f | .wCbStart f | .wCbEnd f | .wLockCall f | .wLockRet f
  | .wBcastCall f | .wBcastRet f | .wStore f | .waitLd f | .cvWaitCall f | .cvWaitRet f
  | .fUnlockCall f | .fUnlockRet f | .readyRet f => some f

/-- Thread is between its successful CAS 0→1 on `o` and its store of 2 to `o`. -/
def PC.InW : PC → OnceId → Prop
  | .wUnlockCall f, o | .wUnlockRet f, o | .wCbStart f, o | .wCbEnd f, o | .wLockCall f, o
  | .wLockRet f, o | .wBcastCall f, o | .wBcastRet f, o | .wStore f, o => f.o = o
  | _, _ => False

/-- Thread is inside the user function of `o` (between `cb start` and `cb end`). -/
def PC.InCb : PC → OnceId → Prop
  | .wCbEnd f, o => f.o = o
  | _, _ => False

/-- The `fStarts` history implied by the winner's pc. -/
def PC.startsOf : PC → Tid → List Tid
  | .wCbEnd _, t | .wLockCall _, t | .wLockRet _, t | .wBcastCall _, t | .wBcastRet _, t
  | .wStore _, t => [t]
  | _, _ => []

/-- The `fEnds` history implied by the winner's pc. -/
def PC.endsOf : PC → Tid → List Tid
  | .wLockCall _, t | .wLockRet _, t | .wBcastCall _, t | .wBcastRet _, t | .wStore _, t => [t]
  | _, _ => []

/-- Thread is in the wait loop of once.c:87-98 (or re-reading after a failed CAS) on `o`. -/
def PC.Waiting : PC → OnceId → Prop
  | .casReload f, o | .waitLd f, o | .cvWaitCall f, o | .cvWaitRet f, o => f.o = o
  | _, _ => False

/-- Thread read a non-zero word into its local `o` and is still acquiring the first lock. -/
def PC.SawNonzero : PC → OnceId → Prop
  | .lock1Call f loc, o | .lock1Ret f loc, o => loc ≠ 0 ∧ f.o = o
  | _, _ => False

/-- Thread has seen the word equal to 2 on `o` and is on its way out. -/
def PC.Leaving : PC → OnceId → Prop
  | .fUnlockCall f, o | .fUnlockRet f, o | .readyRet f, o => f.o = o
  | _, _ => False

/-- Program points that exist only in the blocking variants. -/
def PC.BlockingOnly : PC → Prop
  | .lock1Call f _ | .lock1Ret f _ | .wUnlockCall f | .wUnlockRet f | .wLockCall f | .wLockRet f
  | .wBcastCall f | .wBcastRet f | .cvWaitCall f | .cvWaitRet f | .fUnlockCall f
  | .fUnlockRet f => f.blocking = true
  | _ => True

/-- Program points at which the thread holds the lock of slot `k`. -/
def PC.Holds (cfg : Config) : PC → SlotId → Prop
  | .casTry f, k | .casReload f, k | .wUnlockCall f, k | .wBcastCall f, k | .wBcastRet f, k
  | .wStore f, k | .waitLd f, k | .cvWaitCall f, k | .fUnlockCall f, k =>
      f.blocking = true ∧ cfg.slotOf f.o = k
  | _, _ => False

structure Inv (cfg : Config) (s : State) : Prop where
  word_le : ∀ o, s.word o ≤ 2
  w0 : ∀ o, s.word o = 0 → s.winner o = none ∧ s.fStarts o = [] ∧ s.fEnds o = []
  w1 : ∀ o, s.word o = 1 → ∃ t, s.winner o = some t ∧ (s.pc t).InW o ∧
        s.fStarts o = (s.pc t).startsOf t ∧ s.fEnds o = (s.pc t).endsOf t
  w2 : ∀ o, s.word o = 2 → ∃ t, s.winner o = some t ∧ s.fStarts o = [t] ∧ s.fEnds o = [t]
  inW : ∀ t o, (s.pc t).InW o → s.word o = 1 ∧ s.winner o = some t
  leaving : ∀ t o, (s.pc t).Leaving o → s.word o = 2
  ret : ∀ t o, (t, o) ∈ s.returned → s.word o = 2
  waiting : ∀ t o, (s.pc t).Waiting o → s.word o ≠ 0
  sawNonzero : ∀ t o, (s.pc t).SawNonzero o → s.word o ≠ 0
  blk : ∀ t, (s.pc t).BlockingOnly
  lock : ∀ k t, s.lockHolder k = some t → (s.pc t).Holds cfg k
  held : ∀ k t, (s.pc t).Holds cfg k → s.lockHolder k = some t
  called : ∀ t f, (s.pc t).frame? = some f → (t, f.o) ∈ s.called
  winCalled : ∀ o t, s.winner o = some t → (t, o) ∈ s.called

theorem need_ok {c : Prop} [Decidable c] {msg : String} {k : Except String State} {s' : State} :
    need c msg k = .ok s' ↔ c ∧ k = .ok s' := by
  unfold need; split <;> simp_all

theorem inv_init (cfg : Config) : Inv cfg init := by
  constructor <;> simp [init, PC.InW, PC.Leaving, PC.Waiting, PC.SawNonzero, PC.BlockingOnly, PC.Holds, PC.frame?]

/-- Normalises `step … = .ok s'` after the match on the pc has been split. -/
macro "step_norm" h:ident : tactic => `(tactic|
  (simp only [need_ok, reduceCtorEq, Except.ok.injEq] at $h:ident))

end Once
