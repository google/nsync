/-
  Proofs/SemWaitInv.lean — the inductive invariant of the SemWait acceptor (its three parts `InvA`, `InvQ`, `InvO`),
  the classes of program points it speaks of, and what a control step of the waiter does to each class.
-/
import NsyncVerif.Proofs.SemWaitEff

namespace SemWait

/-- the thread holds the mutex of its cancel note (program points of the waiter's own code) -/
def holdsPc : PC → Bool
  | .nd _ .ld1 | .nd _ (.ulk _) | .nf _ .ld | .nf _ .ulk | .ld49 | .ulk1 _ | .ld68 | .ulk2 => true
  | _ => false

/-- `nw` has been on the note's list -/
def afterEnq : PC → Bool
  | .ulk1 true | .pdEnter | .pdWait _ | .nd .l65 _ | .nf .l65 _ | .lk2 | .ld68 | .ulk2 | .ret => true
  | _ => false

theorem proto_not_holds {p : PC} (h : protoMode p = true) : holdsPc p = false := by
  pc_full p <;> first | rfl | exact absurd h (by decide)

theorem enq_afterEnq {p : PC} (h : enq p = true) : afterEnq p = true := by
  pc_full p <;> first | rfl | exact absurd h (by decide)

theorem enq_cases {p : PC} (h : enq p = true) : enqNL p = true ∨ holdsPc p = true := by
  pc_full p <;> first | exact .inl rfl | exact .inr rfl | exact absurd h (by decide)

theorem expiredB_mono {d : Deadline} {a b : Nat} (h : expiredB d a = true) (hab : a ≤ b) : expiredB d b = true := by
  cases d with
  | none => exact h
  | some x => simp only [expiredB, decide_eq_true_eq] at *; omega

/-- inside the nsync_note_notify of sem_wait.c:65 -/
def inL65 : PC → Bool
  | .nd .l65 _ | .nf .l65 _ => true
  | _ => false

/-- `sem_outcome` still has its initial value ECANCELED -/
def undecided (p : PC) : Bool := early p || inL65 p

/-- at the release that ends a notify () in which the waiter has inspected the note -/
def endNotify : PC → Bool
  | .nf _ .ulk | .nd _ (.ulk true) => true
  | _ => false

theorem asleep_inCall {p : PC} (h : asleep p = true) : inCall p = true := by
  pc_full p <;> first | rfl | exact absurd h (by decide)

theorem late_inCall {p : PC} (h : late p = true) : inCall p = true := by
  pc_full p <;> first | rfl | exact absurd h (by decide)

/-- frames, records, semaphores -/
structure InvA (s : State) : Prop where
  i1 : ∀ t r, (s.fr t).nw = some r →
        (s.rcd r).live = true ∧ (s.rcd r).owner = t ∧ (s.rcd r).note = (s.fr t).note ∧ inCall (s.pc t) = true
  i3 : ∀ t, preNw (s.pc t) = true → (s.fr t).nw = none
  i4 : ∀ r, (s.rcd r).live = true → (s.fr (s.rcd r).owner).nw = some r
  i5 : ∀ t, inCall (s.pc t) = true → (s.note (s.fr t).note).known = true ∧ (s.note (s.fr t).note).fresh = false
  i6 : ∀ t j, (s.fr t).sem = some j ↔ s.semUser j = some t
  i7 : ∀ t, s.pc t = .idle → (s.fr t).sem = none
  i8 : ∀ t j, s.pc t = .pdWait j → (s.fr t).sem = some j
  h1 : ∀ t, holdsPc (s.pc t) = true → (s.note (s.fr t).note).lock = some t

/-- A live record and the frame of its owner name each other. -/
theorem InvA.own {s : State} (ha : InvA s) {r : Rid} (hl : (s.rcd r).live = true) :
    (s.fr (s.rcd r).owner).nw = some r ∧ (s.rcd r).note = (s.fr (s.rcd r).owner).note
      ∧ inCall (s.pc (s.rcd r).owner) = true :=
  have h := ha.i4 r hl
  ⟨h, (ha.i1 _ _ h).2.2.1, (ha.i1 _ _ h).2.2.2⟩

/-- the list of a note, the records on it and the records in the hands of a notifier -/
structure InvQ (s : State) : Prop where
  q1 : ∀ k r, r ∈ (s.note k).queue →
        (s.rcd r).live = true ∧ (s.rcd r).note = k ∧ enq (s.pc (s.rcd r).owner) = true
  q2 : ∀ k, (s.note k).queue.Nodup
  q3 : ∀ u r, s.post u = some r →
        (s.rcd r).live = true ∧ (s.rcd r).popper = u ∧ (s.note (s.rcd r).note).lock = some u
        ∧ enqNL (s.pc (s.rcd r).owner) = true ∧ protoMode (s.pc u) = true
  q4 : ∀ r, (s.rcd r).live = true → (s.rcd r).unl = .waker →
        (s.note (s.rcd r).note).flag = true ∧ afterEnq (s.pc (s.rcd r).owner) = true
        ∧ ((s.rcd r).posted = false → s.post (s.rcd r).popper = some r)
  q5 : ∀ r, (s.rcd r).live = true → enq (s.pc (s.rcd r).owner) = true →
        r ∈ (s.note (s.rcd r).note).queue ∨ (s.rcd r).unl = .waker
  l3 : ∀ t r, asleep (s.pc t) = true → (s.fr t).nw = some r → (s.rcd r).unl = .waker → (s.rcd r).posted = true →
        (s.fr t).sem ≠ none ∧ ∀ j, (s.fr t).sem = some j → 0 < s.sem j
  k1 : ∀ k, (s.note k).flag = true → (s.note k).queue ≠ [] →
        (s.note k).lock ≠ none ∧ ∀ u, (s.note k).lock = some u → protoMode (s.pc u) = true ∨ (s.fr u).note ≠ k
  e1 : ∀ t, enq (s.pc t) = true → dlePast (s.note (s.fr t).note).expiry = false

/-- the result and the local deadline -/
structure InvO (s : State) : Prop where
  p1 : ∀ t, asleep (s.pc t) = true →
        (s.fr t).locald = dmin (s.fr t).dl (s.note (s.fr t).note).expiry
        ∧ (s.fr t).nearer = dlt (s.fr t).dl (s.note (s.fr t).note).expiry
  o0 : ∀ t, undecided (s.pc t) = true → (s.fr t).out = .cancelled
  o1 : ∀ t, endNotify (s.pc t) = true →
        (s.note (s.fr t).note).flag = true ∨ dlePast (s.note (s.fr t).note).expiry = true
  o2 : ∀ t, late (s.pc t) = true → (s.fr t).out = .cancelled →
        (s.note (s.fr t).note).flag = true ∨ dlePast (s.note (s.fr t).note).expiry = true
  o3 : ∀ t, late (s.pc t) = true → (s.fr t).out = .timedOut → expiredB (s.fr t).dl s.now = true
  o4 : ∀ t, late (s.pc t) = true → (s.fr t).out = .ok → (s.fr t).consumed = true

theorem ctl_inCall {cfg s t op p'} (h : Ctl cfg s t op p') : inCall (s.pc t) = true ∧ inCall p' = true := by
  cases h <;> (try cases ‹Use›) <;> (try cases ‹Bool›) <;> simp_all [inCall, ndNext, nfNext]

theorem ctl_preNw {cfg s t op p'} (h : Ctl cfg s t op p') (h' : preNw p' = true) : preNw (s.pc t) = true := by
  cases h <;> (try cases ‹Use›) <;> (try cases ‹Bool›) <;> simp_all [preNw, ndNext, nfNext]

theorem ctl_pdWait {cfg s t op p' j} (h : Ctl cfg s t op p') (h' : p' = .pdWait j) : (s.fr t).sem = some j := by
  cases h <;> (try cases ‹Use›) <;> (try cases ‹Bool›) <;> simp_all [ndNext, nfNext]

/-- the mutex of the waiter's note after a control step, if the waiter is then at a point where it holds it -/
theorem ctl_holds {cfg s t op p'} (h : Ctl cfg s t op p')
    (hh : holdsPc (s.pc t) = true → (s.note (s.fr t).note).lock = some t) (h' : holdsPc p' = true) :
    op.app t (s.note (s.fr t).note).lock = some t := by
  cases h <;> (try cases ‹Use›) <;> (try cases ‹Bool›) <;> simp_all [holdsPc, ndNext, nfNext, LockOp.app]

/-- … and if another thread holds it -/
theorem ctl_lock_other {cfg s t op p' u} (h : Ctl cfg s t op p') (hl : (s.note (s.fr t).note).lock = some u) (hu : u ≠ t) :
    op.app t (s.note (s.fr t).note).lock = some u := by
  cases h <;> simp_all [LockOp.app]

theorem forall_setPc {π : PC → Bool} {Q : Tid → Prop} {s : State} {t : Tid} {p' : PC}
    (h : ∀ u, u ≠ t → π (s.pc u) = true → Q u) (ht : π p' = true → Q t) :
    ∀ u, π ((s.setPc t p').pc u) = true → Q u := by
  intro u
  rw [setPc_pc]
  split
  · rename_i hu; exact hu ▸ ht
  · rename_i hu; exact h u hu

theorem ctl_enq {cfg s t op p'} (h : Ctl cfg s t op p') (h' : enq (s.pc t) = true) :
    enq p' = true ∨ (s.pc t = .ld68 ∧ timePos (s.note (s.fr t).note) = false) := by
  cases h <;> (try cases ‹Use›) <;> (try cases ‹Bool›) <;> simp_all [enq, ndNext, nfNext]

/-- a waiter that releases note_mu from protocol-driven code has no post pending -/
theorem ctl_proto {cfg s t op p'} (h : Ctl cfg s t op p') (h' : protoMode (s.pc t) = true) : s.post t = none := by
  cases h <;> simp_all [protoMode]

theorem ctl_enqNL {cfg s t op p'} (h : Ctl cfg s t op p') (h' : enqNL (s.pc t) = true) :
    enqNL p' = true ∨ (s.note (s.fr t).note).lock = none := by
  cases h <;> (try cases ‹Use›) <;> (try cases ‹Bool›) <;> simp_all [enqNL, ndNext, nfNext]

theorem ctl_afterEnq {cfg s t op p'} (h : Ctl cfg s t op p') (h' : afterEnq (s.pc t) = true) : afterEnq p' = true := by
  cases h <;> (try cases ‹Use›) <;> (try cases ‹Bool›) <;> simp_all [afterEnq, ndNext, nfNext]

theorem ctl_enq_of {cfg s t op p'} (h : Ctl cfg s t op p') (h' : enq p' = true) : enq (s.pc t) = true := by
  cases h <;> (try cases ‹Use›) <;> (try cases ‹Bool›) <;> simp_all [enq, ndNext, nfNext]

theorem ctl_asleep_of {cfg s t op p'} (h : Ctl cfg s t op p') (h' : asleep p' = true) : asleep (s.pc t) = true := by
  cases h <;> (try cases ‹Use›) <;> (try cases ‹Bool›) <;> simp_all [asleep, ndNext, nfNext]

/-- the only control step out of protocol-driven code is the release that ends the open part of notify (),
    and that leaves no waiter on the notified note -/
theorem ctl_proto_queue {cfg s t op p'} (h : Ctl cfg s t op p') (h' : protoMode (s.pc t) = true) :
    (s.note (s.fr t).note).queue = [] := by
  cases h <;> simp_all [protoMode]

theorem ctl_early_of {cfg s t op p'} (h : Ctl cfg s t op p') (h' : undecided p' = true) :
    undecided (s.pc t) = true := by
  cases h <;> (try cases ‹Use›) <;> (try cases ‹Bool›) <;> simp_all [undecided, early, inL65, ndNext, nfNext]

/-- a waiter reaches a point where `sem_outcome` is final from another such point, or with the initial
    ECANCELED still in place -/
theorem ctl_late_of {cfg s t op p'} (h : Ctl cfg s t op p') (h' : late p' = true) :
    late (s.pc t) = true ∨ undecided (s.pc t) = true := by
  cases h <;> (try cases ‹Use›) <;> (try cases ‹Bool›) <;> simp_all [late, undecided, early, inL65, ndNext, nfNext]

/-- the waiter reaches the release at the end of notify () only after it has found the note notified or expired -/
theorem ctl_endNotify {cfg s t op p'} (h : Ctl cfg s t op p') (h' : endNotify p' = true) :
    (s.note (s.fr t).note).flag = true ∨ dlePast (s.note (s.fr t).note).expiry = true := by
  cases h <;> (try cases ‹Use›) <;> (try cases ‹Use›) <;> (try cases ‹Bool›) <;> simp_all [endNotify, ndNext, nfNext]
  all_goals cases hf : (s.note (s.fr t).note).flag <;> simp_all

/-- a waiter whose `sem_outcome` becomes final while it is still the initial ECANCELED has seen the note
    notified or expired -/
theorem ctl_late_cancel {cfg s t op p'} (h : Ctl cfg s t op p')
    (o1 : endNotify (s.pc t) = true →
      (s.note (s.fr t).note).flag = true ∨ dlePast (s.note (s.fr t).note).expiry = true) (h' : late p' = true) :
    late (s.pc t) = true ∨ (s.note (s.fr t).note).flag = true ∨ dlePast (s.note (s.fr t).note).expiry = true := by
  cases h <;> (try cases ‹Use›) <;> (try cases ‹Bool›) <;> simp_all [late, endNotify, ndNext, nfNext, timePos]
  all_goals cases hf : (s.note (s.fr t).note).flag <;> simp_all

end SemWait
