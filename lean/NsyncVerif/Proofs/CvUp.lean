/-
  Layers `Cv` and `CvFix`: the model of the pinned cv.c inside the model of the repaired cv.c.

  `State.up` embeds a state of layer `Cv` into the states of layer `CvFix`.  It forgets what only the
  pinned code's model carries: the ghost flag `f3` and the semaphore pointer `nw->sem` that a V
  learns (`Rec.sem`); a frame gets the repaired code's additional locals (`was_queued`, the locals of
  emit_cv_state) at their initial values and is never at one of the additional program points (the
  wait-for-waker loop of cv_dequeue, debug.c).  Everything else is copied.

  On embedded states a step of the pinned code is a step of the repaired code, or one of the steps
  `CvFix.Old` (cv_dequeue without the walk over `pcv->waiters`): `LTr.up` here for the steps that
  change only the frame of the acting thread, `Tr.up` in `Proofs/CvUpTr.lean` for all.  The invariants
  that do not speak of defect F3 (`InvA`, `InvC`, `InvD`, `InvE`) are therefore proved for the repaired
  code's relation and for `Old` (`Proofs/CvFixInv*.lean`); layer `Cv` states them over its own state
  and reads them back from the embedded one (`Proofs/CvInvAAll.lean`, `CvInvC.lean`, `CvInvD.lean`,
  `CvInvE.lean`), and `Proofs/CvInvBAll.lean` runs the induction over the reachable states.
-/
import NsyncVerif.Proofs.CvTr
import NsyncVerif.Proofs.CvFixTr

namespace NsyncVerif.Cv

def Rid.up : Rid → CvFix.Rid
  | .w k => .w k
  | .nw k => .nw k
  | .nwa j i => .nwa j i

def LType.up : LType → CvFix.LType
  | .gen => .gen
  | .R => .R
  | .W => .W

def Outcome.up : Outcome → CvFix.Outcome
  | .ok => .ok
  | .timedOut => .timedOut
  | .cancelled => .cancelled

def Unl.up : Unl → CvFix.Unl
  | .waker t => .waker t
  | .self => .self

def RStat.up : RStat → CvFix.RStat
  | .idle => .idle
  | .prep => .prep
  | .queued => .queued
  | .listed u => .listed u
  | .xfer => .xfer
  | .woken => .woken
  | .selfOut => .selfOut

def Loc.up : Loc → CvFix.Loc
  | .idle => .idle
  | .wNew => .wNew
  | .wMode => .wMode
  | .wEnq => .wEnq
  | .wRel => .wRel
  | .wUnlock => .wUnlock
  | .wUnlocking => .wUnlocking
  | .wHead => .wHead
  | .wSemEnter => .wSemEnter
  | .wSemRet => .wSemRet
  | .cPre => .cPre
  | .cWait => .cWait
  | .cPost => .cPost
  | .wChk => .wChk
  | .wChk2 => .wChk2
  | .wCmp => .wCmp
  | .wRmLd => .wRmLd
  | .wRmCas => .wRmCas
  | .wClr => .wClr
  | .wRel2 => .wRel2
  | .wTail => .wTail
  | .wExit => .wExit
  | .wLocking => .wLocking
  | .wRelocking => .wRelocking
  | .wRet => .wRet
  | .spLd0 => .spLd0
  | .spLd2 => .spLd2
  | .spCas => .spCas
  | .sLd => .sLd
  | .sRcLd => .sRcLd
  | .sRcCas => .sRcCas
  | .sRel => .sRel
  | .wwMuLd => .wwMuLd
  | .wwMuCas => .wwMuCas
  | .wwRelLd => .wwRelLd
  | .wwRelCas => .wwRelCas
  | .wwRelLd2 => .wwRelLd2
  | .wwStore => .wwStore
  | .wwV => .wwV
  | .kRet => .kRet
  | .nOut => .nOut
  | .nLocked => .nLocked
  | .nEnqRel => .nEnqRel
  | .nDeqSt => .nDeqSt
  | .nDeqRel => .nDeqRel

def Cont.up : Cont → CvFix.Cont
  | .waitEnq => .waitEnq
  | .waitChk => .waitChk
  | .sig => .sig
  | .waitn => .waitn

def WSite.up : WSite → CvFix.WSite
  | .spin0 => .spin0
  | .spin2 => .spin2
  | .waitRel => .waitRel
  | .waitRel2 => .waitRel2
  | .sigLd => .sigLd
  | .sigRel => .sigRel
  | .bcLd => .bcLd
  | .bcRel => .bcRel
  | .enqRel => .enqRel
  | .deqRel => .deqRel

def RSite.up : RSite → CvFix.RSite
  | .wSt1 => .wSt1
  | .wRc => .wRc
  | .wHead => .wHead
  | .wChk => .wChk
  | .wChk2 => .wChk2
  | .wCmp => .wCmp
  | .wRmLd => .wRmLd
  | .wRmCas => .wRmCas
  | .wClr => .wClr
  | .wTail => .wTail
  | .sRcLd first => .sRcLd first
  | .sRcCas first => .sRcCas first
  | .bRcLd => .bRcLd
  | .bRcCas => .bRcCas
  | .wake => .wake
  | .ready => .ready
  | .enqSt => .enqSt
  | .deqLd => .deqLd
  | .deqSt => .deqSt

def MSite.up : MSite → CvFix.MSite
  | .wMode => .wMode
  | .wwLd => .wwLd
  | .wwCas => .wwCas
  | .wwRelLd => .wwRelLd
  | .wwRelCas => .wwRelCas
  | .wwRelLd2 => .wwRelLd2

def Fld.up : Fld → CvFix.Fld
  | .waiting => .waiting
  | .rc => .rc

def MuOp.up : MuOp → CvFix.MuOp
  | .wr => .wr
  | .rd => .rd
  | .gen => .gen

def Word.up (w : Word) : CvFix.Word := ⟨w.spin, w.ne⟩

def Event.up : Event → CvFix.Event
  | .tick ns => .tick ns
  | .callWait t gen dl note => .callWait t gen dl note
  | .retWait t res => .retWait t res.up
  | .callSignal t => .callSignal t
  | .retSignal t => .retSignal t
  | .callBroadcast t => .callBroadcast t
  | .retBroadcast t => .retBroadcast t
  | .callWaitN t => .callWaitN t
  | .retWaitN t => .retWaitN t
  | .relMark t op => .relMark t op.up
  | .lockMark t op => .lockMark t op.up
  | .relockSlow t => .relockSlow t
  | .nret t => .nret t
  | .wordLd t site obs => .wordLd t site.up obs
  | .wordCas t exp new obs ok => .wordCas t exp new obs ok
  | .wordSt t site new obs => .wordSt t site.up new obs
  | .recLd t site r obs => .recLd t site.up r.up obs
  | .recSt t site r new obs => .recSt t site.up r.up new obs
  | .recCas t site r exp new obs ok => .recCas t site.up r.up exp new obs ok
  | .muLd t site obs => .muLd t site.up obs
  | .muCas t site exp new obs ok => .muCas t site.up exp new obs ok
  | .semPdEnter t k dl => .semPdEnter t k dl
  | .semPdRet t k timedOut => .semPdRet t k timedOut
  | .semPEnter t k => .semPEnter t k
  | .semPRet t k => .semPRet t k
  | .semV t k => .semV t k
  | .wInit t r => .wInit t r.up
  | .nwInit t r => .nwInit t r.up
  | .fLd t r f obs => .fLd t r.up f.up obs
  | .fSt t r f new => .fSt t r.up f.up new
  | .fCas t r f exp new obs ok => .fCas t r.up f.up exp new obs ok
  | .noteSeen t => .noteSeen t
  | .noteNotify t => .noteNotify t
  | .skip => .skip

def _root_.NsyncVerif.CvFix.Rid.down : CvFix.Rid → Rid
  | .w k => .w k
  | .nw k => .nw k
  | .nwa j i => .nwa j i

def Rec.up (x : Rec) : CvFix.Rec :=
  { waiting := x.waiting, rc := x.rc, owner := x.owner, lt := x.lt.up, stat := x.stat.up, pub := x.pub,
    enqSeq := x.enqSeq, unl := x.unl.map Unl.up, posted := x.posted, epoch := x.epoch }

def Thr.up (x : Thr) : CvFix.Thr :=
  { loc := x.loc.up, r := x.r.up, gen := x.gen, dl := x.dl, note := x.note, saved := x.saved, old := x.old.up,
    semOut := x.semOut.up, out := x.out.up, sawNote := x.sawNote, semDl := x.semDl, cTimed := x.cTimed,
    cNotified := x.cNotified, cont := x.cont.up, setNE := x.setNE, casExp := x.casExp, xferd := x.xferd,
    bcast := x.bcast, list := x.list.map Rid.up, todo := x.todo.map Rid.up, firstRc := x.firstRc,
    cur := x.cur.map fun p => (p.1.up, p.2), allReaders := x.allReaders, seq0 := x.seq0, muObs := x.muObs,
    setOnRel := x.setOnRel, mine := x.mine.map Rid.up, epoch := x.epoch, exitUnl := x.exitUnl.map Unl.up }

def State.up (s : State) : CvFix.State :=
  { word := s.word.up, holder := s.holder, queue := s.queue.map Rid.up, recs := fun r => (s.recs r.down).up,
    thr := fun t => (s.thr t).up, sem := s.sem, now := s.now, seq := s.seq, bad := s.bad }

@[simp] theorem Rid.down_up (r : Rid) : r.up.down = r := by cases r <;> rfl
@[simp] theorem Rid.up_down (r : CvFix.Rid) : r.down.up = r := by cases r <;> rfl
theorem Rid.up_inj {a b : Rid} (h : a.up = b.up) : a = b := by
  have := congrArg CvFix.Rid.down h; simpa using this
@[simp] theorem Rid.up_eq_iff {a b : Rid} : a.up = b.up ↔ a = b := ⟨Rid.up_inj, congrArg _⟩
@[simp] theorem Rid.mem_map_up {a : Rid} {l : List Rid} : a.up ∈ l.map Rid.up ↔ a ∈ l := by
  simp
@[simp] theorem State.up_thr (s : State) (t : Tid) : s.up.thr t = (s.thr t).up := rfl
@[simp] theorem State.up_recs (s : State) (r : Rid) : s.up.recs r.up = (s.recs r).up := by simp [State.up]
@[simp] theorem Thr.up_loc (x : Thr) : x.up.loc = x.loc.up := rfl
@[simp] theorem Thr.up_r (x : Thr) : x.up.r = x.r.up := rfl
@[simp] theorem Thr.up_list (x : Thr) : x.up.list = x.list.map Rid.up := rfl
@[simp] theorem Thr.up_mine (x : Thr) : x.up.mine = x.mine.map Rid.up := rfl
@[simp] theorem Rec.up_stat (x : Rec) : x.up.stat = x.stat.up := rfl
@[simp] theorem Rec.up_owner (x : Rec) : x.up.owner = x.owner := rfl
@[simp] theorem Rec.up_waiting (x : Rec) : x.up.waiting = x.waiting := rfl


theorem up_loc {s : State} {t : Tid} {l : Loc} (h : (s.thr t).loc = l) : (s.up.thr t).loc = l.up := congrArg Loc.up h
theorem up_loc' {x : Thr} {l : Loc} (h : x.loc = l) : x.up.loc = l.up := congrArg Loc.up h
theorem up_r {s : State} {t : Tid} {r : Rid} (h : r = (s.thr t).r) : r.up = (s.up.thr t).r := congrArg Rid.up h
theorem up_rc {s : State} {r : Rid} {n : Nat} (h : n = (s.recs r).rc) : n = (s.up.recs r.up).rc := by simp [h, Rec.up]
theorem up_waiting {s : State} {r : Rid} {n : Nat} (h : n = b2n (s.recs r).waiting) :
    n = CvFix.b2n (s.up.recs r.up).waiting := by simp [h, Rec.up, b2n, CvFix.b2n]
theorem up_mine {s : State} {t : Tid} {r : Rid} (h : r ∈ (s.thr t).mine) : r.up ∈ (s.up.thr t).mine :=
  List.mem_map_of_mem h
theorem up_todo {s : State} {t : Tid} {r : Rid} (h : (s.thr t).todo.head? = some r) :
    (s.up.thr t).todo.head? = some r.up := by simp [Thr.up, h]
theorem up_lt {s : State} {r : Rid} {op : MuOp}
    (h : op = match (s.recs r).lt with | .gen => MuOp.gen | .R => .rd | .W => .wr) :
    op.up = match (s.up.recs r.up).lt with | .gen => CvFix.MuOp.gen | .R => .rd | .W => .wr := by
  subst h; simp only [State.up_recs, Rec.up]; cases (s.recs r).lt <;> rfl
theorem up_wantTransfer (lt : LType) (a b : Nat) (c : Bool) :
    CvFix.wantTransfer lt.up a b c = wantTransfer lt a b c := by cases lt <;> rfl
theorem up_dlLe (a b : Option Nat) : CvFix.dlLe a b = dlLe a b := by cases a <;> cases b <;> rfl

theorem Loc.up_ctorIdx (l : Loc) : l.up.ctorIdx = l.ctorIdx := by cases l <;> rfl

theorem Loc.up_inj {a b : Loc} (h : a.up = b.up) : a = b := by
  have := congrArg CvFix.Loc.ctorIdx h
  rw [Loc.up_ctorIdx, Loc.up_ctorIdx] at this
  rw [← Loc.ofNat_ctorIdx a, this, Loc.ofNat_ctorIdx]

theorem Settle.up {x y : Thr} (h : Settle x y) : CvFix.Settle x.up y.up := by
  cases h with
  | id h1 h2 => exact .id (fun e => h1 (Loc.up_inj e)) (fun e => h2 (Loc.up_inj e))
  | pre h hn => exact .pre (up_loc' h) hn
  | postOk h ht => exact .postOk (up_loc' h) ht
  | postCancel h ht hc hn => exact .postCancel (up_loc' h) ht hc hn
  | postTimed h ht hc hd => exact .postTimed (up_loc' h) ht hc hd

theorem LTr.up {s : State} {t : Tid} {e : Event} {x' : Thr} (h : LTr s t e x') : CvFix.LTr s.up t e.up x'.up := by
  cases h with
  | callWait gen dl note hl => exact .callWait gen dl note (up_loc hl)
  | retWait res hl hr => exact .retWait res.up (hl.imp up_loc up_loc) (congrArg Outcome.up hr)
  | callSignal hl => exact .callSignal (up_loc hl)
  | callBroadcast hl => exact .callBroadcast (up_loc hl)
  | retSignal hl hb => exact .retSignal (up_loc hl) hb
  | retBroadcast hl hb => exact .retBroadcast (up_loc hl) hb
  | callWaitN hl => exact .callWaitN (up_loc hl)
  | retWaitN hl hm => exact .retWaitN (up_loc hl) (by simp [Thr.up, hm])
  | relMark op hl ho => exact .relMark op.up (up_loc hl) (up_lt ho)
  | lockMark op hl hx ho => exact .lockMark op.up (up_loc hl) hx (up_lt ho)
  | relockSlow hl hx => exact .relockSlow (up_loc hl) hx
  | nretUnlock hl => exact .nretUnlock (up_loc hl)
  | nretLock hl => exact .nretLock (up_loc hl)
  | spinLd site obs hl ho =>
    rw [apply_ite Thr.up]
    exact .spinLd site.up obs (hl.imp (fun a => ⟨congrArg WSite.up a.1, up_loc a.2⟩) (fun a => ⟨congrArg WSite.up a.1, up_loc a.2⟩)) ho
  | spinLdN obs hl ho => rw [apply_ite Thr.up]; exact .spinLdN obs (up_loc hl) ho
  | sigLd site obs hl hs ho =>
    rw [apply_ite Thr.up]
    exact .sigLd site.up obs (up_loc hl) (hs.imp (fun a => ⟨congrArg WSite.up a.1, a.2⟩) (fun a => ⟨congrArg WSite.up a.1, a.2⟩)) ho
  | casFail exp new obs hl ho hne => exact .casFail exp new obs (up_loc hl) ho hne
  | wRc r obs hl hr ho => exact .wRc r.up obs (up_loc hl) (up_r hr) (up_rc ho)
  | wHeadStay r obs hl hr ho hz =>
    have := CvFix.LTr.wHeadStay (s := s.up) (t := t) r.up obs (up_loc hl) (up_r hr) (up_waiting ho) hz
    cases h1 : (s.thr t).semOut <;> by_cases h2 : (s.thr t).note = true <;>
      simpa [h1, h2, Thr.up, Outcome.up, Loc.up, Event.up, RSite.up] using this
  | wChk y r obs hy hl hr ho hso =>
    rw [apply_ite Thr.up]
    exact .wChk y.up r.up obs hy.up (up_loc' hl) (congrArg Rid.up hr) (up_waiting ho)
      (fun e => hso (by cases hx : y.semOut <;> simp_all [Thr.up, Outcome.up]))
  | wChk2 r obs hl hr ho =>
    have := CvFix.LTr.wChk2 (s := s.up) (t := t) r.up obs (up_loc hl) (up_r hr) (up_waiting ho)
    by_cases h1 : obs = 0 <;> simpa [h1, Thr.up, Loc.up, Event.up, RSite.up, MSite.up] using this
  | wCmpNe r obs hl hr ho hne => exact .wCmpNe r.up obs (up_loc hl) (up_r hr) (up_rc ho) hne
  | wRmLd r obs hl hr ho => exact .wRmLd r.up obs (up_loc hl) (up_r hr) (up_rc ho)
  | wTail y r obs hy hl hr ho => exact .wTail y.up r.up obs hy.up (up_loc' hl) (congrArg Rid.up hr) (up_waiting ho)
  | rcLd site r obs hl hs hr ho =>
    exact .rcLd site.up r.up obs (up_loc hl) (hs.imp (fun a => ⟨congrArg RSite.up a.1, a.2⟩) (fun a => ⟨congrArg RSite.up a.1, a.2⟩))
      (up_todo hr) (up_rc ho)
  | ready r obs hl hr ho => exact .ready r.up obs (up_loc hl) (up_mine hr) (up_waiting ho)
  | deqLd0 r hl hr ho =>
    have := CvFix.LTr.deqLd0 (s := s.up) (t := t) r.up (up_loc hl) (up_mine hr) (by simpa [Rec.up] using ho)
    by_cases h1 : s.queue.isEmpty = true <;> simpa [h1, Thr.up, Loc.up, State.up, Word.up, Event.up, RSite.up] using this
  | wRmCasFail r exp new obs hl hr => exact .wRmCasFail r.up exp new obs (up_loc hl) (up_r hr)
  | sRcCasFail site r exp new obs hl hr hs =>
    exact .sRcCasFail site.up r.up exp new obs (up_loc hl) (up_todo hr)
      (hs.imp (fun a => ⟨congrArg RSite.up a.1, a.2⟩) (fun a => ⟨congrArg RSite.up a.1, a.2⟩))
  | wwLd obs f rest hl hlist =>
    have := CvFix.LTr.wwLd (s := s.up) (t := t) obs f.up (rest.map Rid.up) (up_loc hl) (by simp [Thr.up, hlist])
    rw [State.up_recs] at this
    simp only [Rec.up, up_wantTransfer] at this
    by_cases h1 : wantTransfer (s.recs f).lt obs (s.thr t).list.length (s.thr t).allReaders = true <;>
      simpa [h1, Thr.up, Loc.up, Event.up, RSite.up, MSite.up] using this
  | wwRelLd site obs hl =>
    exact .wwRelLd site.up obs (hl.imp (fun a => ⟨congrArg MSite.up a.1, up_loc a.2⟩) (fun a => ⟨congrArg MSite.up a.1, up_loc a.2⟩))
  | wwCasFail exp new obs hl => exact .wwCasFail exp new obs (up_loc hl)
  | wwRelCasOk exp new obs hl =>
    have := CvFix.LTr.wwRelCasOk (s := s.up) (t := t) exp new obs (up_loc hl)
    by_cases h1 : (s.thr t).list.isEmpty = true <;> simpa [h1, Thr.up, Loc.up, Event.up, RSite.up, MSite.up] using this
  | wwRelCasFail exp new obs hl => exact .wwRelCasFail exp new obs (up_loc hl)
  | semPdEnterW k dl hl hk hd => exact .semPdEnterW k dl (up_loc hl) (congrArg Rid.up hk) hd
  | semPdEnterC k dl hl hk hd => exact .semPdEnterC k dl (up_loc hl) (congrArg Rid.up hk) (by rw [up_dlLe]; exact hd)
  | semPdRetTimedW k d hl hd hn => exact .semPdRetTimedW k d (up_loc hl) hd hn
  | semPdRetTimedC k d hl hd hn => exact .semPdRetTimedC k d (up_loc hl) hd hn
  | noteSeen hl => exact .noteSeen (hl.imp up_loc (Or.imp up_loc up_loc))
  | noteNotify hl ht => exact .noteNotify (up_loc hl) ht

end NsyncVerif.Cv
