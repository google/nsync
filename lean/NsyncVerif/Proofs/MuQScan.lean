import NsyncVerif.Proofs.MuQAbs
/-
  MuQ: specification of the waiter scan `scanGo` (mu.c:361-394 with testing_conditions = 0).
-/
namespace NsyncVerif.MuQ

theorem mode_ne_R {m : Mode} (h : ¬ m = .R) : m = .W := by cases m <;> simp_all

theorem scanGo_spec (lt : Wid → Mode) : ∀ (todo : List Wid) (sc : Scan),
    (∀ k sc', scanGo lt todo sc = .remove k sc' →
      ∃ mid, todo = mid ++ k :: sc'.todo ∧ sc'.wake = sc.wake ++ [k] ∧ sc'.wt = some (lt k) ∧
        (sc.wt = none → mid = []) ∧ (mid = [] → sc'.sww = sc.sww ∧ sc'.saf = sc.saf) ∧
        (mid ≠ [] → sc'.sww = true ∧ sc'.saf = false ∧ ∃ x, x ∈ mid ∧ lt x = .W)) ∧
    (∀ sc', scanGo lt todo sc = .done sc' →
      ∃ mid, todo = mid ++ sc'.todo ∧ sc'.wake = sc.wake ∧ sc'.wt = sc.wt ∧
        (sc.wt = none → todo = []) ∧ (mid = [] → sc'.sww = sc.sww ∧ (sc'.todo = [] → sc'.saf = sc.saf)) ∧
        (sc'.todo ≠ [] → sc'.saf = false) ∧
        (mid ≠ [] → sc'.sww = true ∧ sc'.saf = false ∧ ∃ x, x ∈ mid ∧ lt x = .W)) := by
  intro todo
  induction todo with
  | nil =>
    intro sc
    constructor
    · intro k sc' h; simp [scanGo] at h
    · intro sc' h; simp only [scanGo, ScanRes.done.injEq] at h; subst h
      exact ⟨[], by simp⟩
  | cons k rest ih =>
    intro sc
    by_cases h1 : sc.wt = some .W
    · constructor
      · intro k' sc' h; simp [scanGo, h1] at h
      · intro sc' h; simp only [scanGo, h1, if_true, ScanRes.done.injEq] at h; subst h
        exact ⟨[], by simp [h1]⟩
    · by_cases h2 : sc.wt = none ∨ lt k = .R
      · constructor
        · intro k' sc' h
          simp only [scanGo, h1, if_false, h2, if_true, ScanRes.remove.injEq] at h
          obtain ⟨rfl, rfl⟩ := h
          exact ⟨[], by simp⟩
        · intro sc' h; simp [scanGo, h1, h2] at h
      · have hk : lt k = .W := mode_ne_R (fun h => h2 (Or.inr h))
        have hwt : sc.wt ≠ none := fun h => h2 (Or.inl h)
        obtain ⟨ihr, ihd⟩ := ih { sc with sww := true, saf := false }
        constructor
        · intro k' sc' h
          simp only [scanGo, h1, if_false, h2] at h
          obtain ⟨mid, e1, e2, e3, _, e5, e6⟩ := ihr k' sc' h
          refine ⟨k :: mid, by simp [e1], e2, e3, fun h => absurd h hwt, (fun h => by cases h), fun _ => ?_⟩
          by_cases hm : mid = []
          · obtain ⟨a1, a2⟩ := e5 hm
            exact ⟨a1, a2, k, by simp, hk⟩
          · obtain ⟨a1, a2, _⟩ := e6 hm
            exact ⟨a1, a2, k, by simp, hk⟩
        · intro sc' h
          simp only [scanGo, h1, if_false, h2] at h
          obtain ⟨mid, e1, e2, e3, _, e5, e6, e7⟩ := ihd sc' h
          refine ⟨k :: mid, by simp [e1], e2, e3, fun h => absurd h hwt, (fun h => by cases h), e6, fun _ => ?_⟩
          by_cases hm : mid = []
          · obtain ⟨a1, a2⟩ := e5 hm
            refine ⟨a1, ?_, k, by simp, hk⟩
            by_cases ht : sc'.todo = []
            · exact a2 ht
            · exact e6 ht
          · obtain ⟨a1, a2, _⟩ := e7 hm
            exact ⟨a1, a2, k, by simp, hk⟩

/-- Erasing an element of a duplicate-free list given with its position. -/
theorem erase_mid {pre mid rest : List Wid} {k : Wid} (hnd : (pre ++ (mid ++ k :: rest)).Nodup) :
    (pre ++ (mid ++ k :: rest)).erase k = (pre ++ mid) ++ rest := by
  have hkn : k ∉ pre ++ mid := by
    intro hm
    rw [← List.append_assoc, List.nodup_append] at hnd
    exact hnd.2.2 k hm k (by simp) rfl
  rw [← List.append_assoc, List.erase_append_right _ hkn, List.erase_cons_head]

end NsyncVerif.MuQ
