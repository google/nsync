/-
  Layer `CvFix` × vector clocks: the inductive invariants that carry the cv-signal edge, and their
  preservation by every accepted event, for every oracle of foreign orders.

  `VInv`: records WOKEN by wake_waiters.  `XInv`: records TRANSFERRED to the mutex queue by
  wake_waiters (cv.c:64-135).  The waker takes the mutex' spinlock with
  `ATM_CAS_ACQ (&pmu->word, …)` [cv.c/1], moves the records (plain accesses), and releases it with
  `ATM_CAS_REL (&pmu->word, …)` [cv.c/3].  The wake-up itself comes later from the mutex unlock
  path (mu.c), which is not in this layer.  What this layer can carry: once the waker has released
  the mutex' spinlock, its clock (from before the transfer) is covered by the RELEASE CLOCK of the
  mutex word — whoever later acquires that word (mu.c does, with ATM_CAS_ACQ, before it dequeues
  and wakes the waiter) inherits it.
-/
import NsyncVerif.Proofs.CvFixVCFacts

namespace NsyncVerif.CvFix
open NsyncVerif

/-- The edge invariant.
    `woken`  a record in status `woken` (a waker of this cv has stored `waiting := 0` into it and its
             owner has not yet noticed): the ghost `wk r` is that wake-up, its waker is the record's
             unlinker, the waker's clock just before the store is covered by the RELEASE CLOCK of
             `r.waiting`, and covers the waker's clock at its call;
    `call`   a thread's clock covers its clock at its latest signal/broadcast call;
    `seen`   what a thread recorded when it left its wait loop is covered by its clock;
    `exit`   a cv wait past its loop, not transferred, whose instance a waker `u` unlinked, has
             recorded a wake-up by `u`;
    `deq`    a cv_dequeue about to return 0 straight from its load of `waiting`: the wake-up of its
             record is covered by its clock;
    `spin`   the clock of the latest releaser of the cv spinlock is covered by the release clock of
             the cv word. -/
structure VInv (p : PState) : Prop where
  woken : ∀ r, (p.s.recs r).stat = .woken → ∃ w, p.wk r = some w ∧
    (p.s.recs r).unl = [Unl.waker w.by_] ∧ VC.Clock.le w.clk (p.c.relc (.fld r .waiting)) ∧
    VC.Clock.le w.call w.clk
  call : ∀ u, VC.Clock.le (p.cc u) (p.c.vc u)
  seen : ∀ t w, p.xw t = some w → VC.Clock.le w.clk (p.c.vc t) ∧ VC.Clock.le w.call w.clk
  exit : ∀ t, (p.s.thr t).loc.afterLoop = true → (p.s.thr t).xferd = false →
    ∀ u, Unl.waker u ∈ (p.s.thr t).exitUnl → ∃ w, p.xw t = some w ∧ w.by_ = u
  deq : ∀ t, (p.s.thr t).loc = .nDeqRel → (p.s.thr t).wasQ = false →
    ∃ w, p.wk (p.s.thr t).r = some w ∧ VC.Clock.le w.clk (p.c.vc t)
  spin : VC.Clock.le p.lastRel (p.c.relc .word)

theorem vinv_init : VInv pinit := by
  constructor
  · intro r h; simp [pinit, init] at h
  · intro u i; simp [pinit, VC.Clock.bot]
  · intro t w h; simp [pinit] at h
  · intro t h; simp [pinit, init, Loc.afterLoop] at h
  · intro t h; simp [pinit, init] at h
  · intro i; simp [pinit, VC.Clock.bot]

theorem wkUpd_keep (p : PState) (e : Event) (r : Rid) (h : stOn e ≠ some (.fld r .waiting)) :
    wkUpd p e r = p.wk r := by
  cases e <;> try rfl
  case recSt t site r' new obs =>
    cases site <;> try rfl
    simp only [stOn, rFld, ne_eq, Option.some.injEq, VLoc.fld.injEq, and_true] at h
    simp only [wkUpd]
    exact VC.upd_other _ _ (fun hh => h hh.symm)

theorem ccUpd_le (p : PState) (e : Event) (h : ∀ u, VC.Clock.le (p.cc u) (p.c.vc u)) (u : Tid) :
    VC.Clock.le (ccUpd p e u) (p.c.vc u) := by
  cases e <;> first | exact h u | exact VC.upd_self_le h _ u

/-- The shape of the ghosts `xw`, `xt`: what the record said (`val r`) when the thread left its wait
    loop; reset at the call. -/
def exitGhost (g : Tid → Option Wake) (val : Rid → Option Wake) : Event → Tid → Option Wake
  | .recLd t .wHead r 0 => VC.upd g t (val r)
  | .callWait t .. => VC.upd g t none
  | _ => g

theorem exitGhost_other (g : Tid → Option Wake) (val : Rid → Option Wake) (e : Event) (t : Tid)
    (h : xwTid e ≠ some t) : exitGhost g val e t = g t := by
  cases e <;> try rfl
  case callWait t' gen dl note =>
    simp only [xwTid, ne_eq, Option.some.injEq] at h
    exact VC.upd_other _ _ (fun hh => h hh.symm)
  case recLd t' site r obs =>
    cases site <;> try rfl
    cases obs with
    | succ k => rfl
    | zero =>
      simp only [xwTid, ne_eq, Option.some.injEq] at h
      exact VC.upd_other _ _ (fun hh => h hh.symm)

theorem xwUpd_other (p : PState) (e : Event) (t : Tid) (h : xwTid e ≠ some t) :
    xwUpd p e t = p.xw t := exitGhost_other p.xw _ e t h

/-- The clause `seen` of `VInv` and of `JI` after an event, whatever the clocks: they only grow, and
    what the record says when its owner leaves the loop is covered by the owner's new clock. -/
theorem exitGhost_seen {g : Tid → Option Wake} {val : Rid → Option Wake} {e : Event}
    {vc vc' : Tid → VC.Clock} (hm : ∀ u, VC.Clock.le (vc u) (vc' u))
    (hg : ∀ t w, g t = some w → VC.Clock.le w.clk (vc t) ∧ VC.Clock.le w.call w.clk)
    (hv : ∀ t r w, e = .recLd t .wHead r 0 → val r = some w →
      VC.Clock.le w.clk (vc' t) ∧ VC.Clock.le w.call w.clk) (t : Tid) (w : Wake)
    (hx : exitGhost g val e t = some w) : VC.Clock.le w.clk (vc' t) ∧ VC.Clock.le w.call w.clk := by
  by_cases h : xwTid e = some t
  · cases e <;> simp only [xwTid, reduceCtorEq] at h
    case callWait t' gen dl note =>
      cases h
      rw [show exitGhost g val (.callWait t gen dl note) t = none from VC.upd_same _ _ _] at hx
      cases hx
    case recLd t' site r obs =>
      cases site <;> try (simp at h; done)
      cases obs with
      | succ k => simp at h
      | zero =>
        simp only [Option.some.injEq] at h
        subst h
        exact hv t' r w rfl ((VC.upd_same _ _ _).symm.trans hx)
  · rw [exitGhost_other g val e t h] at hx
    exact ⟨VC.Clock.le_trans (hg t w hx).1 (hm t), (hg t w hx).2⟩

/-- The clause `exit` of `VInv` (`b = false`) and of `JI` (`b = true`) after an event: past the loop
    nothing sets the ghost, and at the loop exit it becomes what the record says. -/
theorem exitGhost_exit {cfg : Config} {s s' : State} {e : Event} {g : Tid → Option Wake}
    {val : Rid → Option Wake} {b : Bool} (hf : InvF s) (hs : step cfg s e = .ok s')
    (hg : ∀ t, (s.thr t).loc.afterLoop = true → (s.thr t).xferd = b →
      ∀ u, Unl.waker u ∈ (s.thr t).exitUnl → ∃ w, g t = some w ∧ w.by_ = u)
    (hv : ∀ t r, (s.thr t).loc = .wHead → r = (s.thr t).r → (s.recs r).waiting = false →
      decide ((s.recs r).stat = .xfer) = b → ∀ u, Unl.waker u ∈ (s.recs r).unl →
      ∃ w, val r = some w ∧ w.by_ = u) (t : Tid)
    (hal : (s'.thr t).loc.afterLoop = true) (hx : (s'.thr t).xferd = b) (u : Tid)
    (hu : Unl.waker u ∈ (s'.thr t).exitUnl) : ∃ w, exitGhost g val e t = some w ∧ w.by_ = u := by
  rcases (tfacts_tr hf (step_tr hs) t).exit hal with ⟨h0, h1, h2⟩ | ⟨r, rfl, hl, hr, hw, h1, h2⟩
  · rw [exitGhost_other g val e t fun hh => by have := xwTid_loc hs hh; rw [h0] at this; cases this]
    exact hg t h0 (h1 ▸ hx) u (h2 ▸ hu)
  · rw [show exitGhost g val (.recLd t .wHead r 0) t = val r from VC.upd_same _ _ _]
    exact hv t r hl hr hw (h1 ▸ hx) u (h2 ▸ hu)

theorem lrUpd_le (cfg : Config) (o : VC.Ord) (p : PState) (e : Event) (s' : State)
    (hs : step cfg p.s e = .ok s') (h : VC.Clock.le p.lastRel (p.c.relc .word)) :
    VC.Clock.le (lrUpd p e) ((cstep o p.c e).relc .word) := by
  by_cases hw : stOn e = some .word
  · cases e <;> simp only [stOn, reduceCtorEq, Option.some.injEq] at hw
    case wordSt t site new obs => exact cstep_word_st o p.c t site new obs (wordSt_rel hs)
  · have : lrUpd p e = p.lastRel := by
      cases e <;> first | rfl | (simp [stOn] at hw)
    rw [this]
    exact cstep_keep o p.c e .word _ hw h

theorem vinv_step {cfg : Config} {fo : Nat → VC.Ord} {p : PState} {e : Event} {s' : State}
    (hi : Inv p.s) (hf : InvF p.s) (hv : VInv p) (hs : step cfg p.s e = .ok s') :
    VInv (pnext fo p e s') := by
  have htr := step_tr hs
  constructor
  · -- woken
    intro r hw'
    rcases woken_entry hi htr r hw' with ⟨hw, hu⟩ | ⟨t, obs, rfl, hst, hu⟩
    · obtain ⟨w, h1, h2, h3, h4⟩ := hv.woken r hw
      have hns := woken_no_store hi hs r hw
      refine ⟨w, ?_, ?_, cstep_keep (fo p.n) _ _ _ _ hns h3, h4⟩
      · simp only [pnext]; rw [wkUpd_keep p e r hns]; exact h1
      · simp only [pnext]; rw [hu]; exact h2
    · refine ⟨⟨t, p.c.vc t, p.cc t⟩, ?_, ?_, ?_, hv.call t⟩
      · simp only [pnext, wkUpd]; exact VC.upd_same _ _ _
      · simp only [pnext]; rw [hu]; exact hf.unlL r t hst
      · exact cstep_rel_st (fo p.n) p.c t .wake r 0 obs rfl
  · -- call
    intro u
    exact VC.Clock.le_trans (ccUpd_le p e hv.call u) (cstep_mono (fo p.n) _ _ _)
  · -- seen
    refine exitGhost_seen (cstep_mono (fo p.n) _ _) hv.seen fun t r w he hx => ?_
    subst he
    split at hx
    · rename_i hw
      obtain ⟨w', h1, _, h3, h4⟩ := hv.woken r hw
      rw [h1] at hx; cases hx
      exact ⟨VC.Clock.le_trans h3 (cstep_acq_ld (fo p.n) p.c t .wHead r 0 rfl), h4⟩
    · cases hx
  · -- exit
    refine exitGhost_exit hf hs hv.exit fun t r hl hr hw hx u hu => ?_
    obtain ⟨_, _, hlv⟩ := (hi.a.thr t).live (by simp [waitLive, hl])
    rw [← hr] at hlv
    have hwk : (p.s.recs r).stat = .woken := by
      cases hst : (p.s.recs r).stat with
      | idle | prep => rw [hst] at hlv; cases hlv
      | queued => have := hi.a.qWait r hst; rw [hw] at this; cases this
      | listed v => have := hi.b.lWait r v hst; rw [hw] at this; cases this
      | xfer => rw [hst] at hx; simp at hx
      | woken => rfl
      | selfOut => have := hf.unlS r hst; rw [this] at hu; simp at hu
    obtain ⟨w, h1, h2, _, _⟩ := hv.woken r hwk
    exact ⟨w, by rw [if_pos hwk]; exact h1, (by simpa [h2] using hu : u = w.by_).symm⟩
  · -- deq
    intro t hl hq
    simp only [pnext] at hl hq ⊢
    rcases (tfacts_tr hf htr t).deq hl hq with ⟨h0, h1, h2⟩ | ⟨r, rfl, h2, h3, h4, h5⟩
    · obtain ⟨w, ha, hb⟩ := hv.deq t h0 h1
      have hwk : (p.s.recs (p.s.thr t).r).stat = .woken := by
        rcases (hf.thr t).wqRel h0 with ⟨a, _, _⟩ | ⟨_, _, c⟩
        · rw [h1] at a; cases a
        · exact c
      have hns := woken_no_store hi hs _ hwk
      rw [h2, wkUpd_keep p e _ hns]
      exact ⟨w, ha, VC.Clock.le_trans hb (cstep_mono (fo p.n) _ _ _)⟩
    · have hwk : (p.s.recs r).stat = .woken := by
        rcases deq_entry_stat hi.a hi.b t r h3 h4 with h | ⟨v, h⟩ | h
        · have := hi.a.qWait r h; rw [h5] at this; cases this
        · have := hi.b.lWait r v h; rw [h5] at this; cases this
        · exact h
      obtain ⟨w, h1', _, h3', _⟩ := hv.woken r hwk
      rw [h2]
      exact ⟨w, h1', VC.Clock.le_trans h3' (cstep_acq_ld (fo p.n) p.c t .deqLd r 0 rfl)⟩
  · -- spin
    exact lrUpd_le cfg (fo p.n) p e s' hs hv.spin

theorem vinv_preachable {cfg : Config} {fo : Nat → VC.Ord} {p : PState}
    (h : PReachable cfg fo p) : VInv p :=
  h.elim fun _ => (isPRun cfg fo).induct vinv_init fun _ _ _ hr hv hp => by
    obtain ⟨_, hs, rfl⟩ := pstep_ok hp
    exact vinv_step (inv_reachable (preachable_reachable hr)) (invF_reachable (preachable_reachable hr)) hv hs

/-- wake_waiters holds the mutex' spinlock (between cv.c/1 succeeded and cv.c/3 succeeded). -/
def Loc.muHeld : Loc → Bool
  | .wwRelLd | .wwRelCas | .wwRelLd2 => true
  | _ => false

/-- A record enters status `xfer` only through the successful CAS [cv.c/1] of the waker on whose
    list it is, which then holds the mutex' spinlock. -/
theorem xfer_entry {cfg : Config} {s s' : State} {e : Event} (hi : Inv s) (h : Tr cfg s e s')
    (r : Rid) (hw : (s'.recs r).stat = .xfer) :
    ((s.recs r).stat = .xfer ∧ (s'.recs r).unl = (s.recs r).unl) ∨
    (∃ u exp new obs, e = .muCas u .wwCas exp new obs true ∧ (s.recs r).stat = .listed u ∧
      (s'.recs r).unl = (s.recs r).unl ∧ (s'.thr u).loc = .wwRelLd) := by
  rcases done_entry hi h r (.inr hw) with ⟨h1, h2⟩ | ⟨_, _, _, _, h3, _⟩ | ⟨u, exp, new, obs, h1, h2, _, h4, h5⟩
  · exact .inl ⟨h1.trans hw, h2⟩
  · rw [hw] at h3; cases h3
  · exact .inr ⟨u, exp, new, obs, h1, h2, h4, h5⟩

def MuLeave (e : Event) (s' : State) (u : Tid) : Prop :=
  (s'.thr u).loc.muHeld = true ∨ ∃ exp new obs, e = .muCas u .wwRelCas exp new obs true

theorem muHeld_not_shared {l : Loc} (h : l.muHeld = true) : l.shared = false := by
  cases l <;> first | rfl | cases h

theorem ml_ltr {s : State} {t : Tid} {e : Event} {x' : Thr} (h : LTr s t e x')
    (hm : (s.thr t).loc.muHeld = true) :
    x'.loc.muHeld = true ∨ ∃ exp new obs, e = .muCas t .wwRelCas exp new obs true := by
  cases h with
  | wwRelLd site obs hl => left; rfl
  | wwRelCasOk exp new obs hl => exact .inr ⟨exp, new, obs, rfl⟩
  | wwRelCasFail exp new obs hl => left; rfl
  | retWait res hl hr => rcases hl with hl | hl <;> rw [hl] at hm <;> cases hm
  | spinLd site obs hl ho => rcases hl with ⟨_, hl⟩ | ⟨_, hl⟩ <;> rw [hl] at hm <;> cases hm
  | noteSeen hl => rcases hl with hl | hl | hl <;> rw [hl] at hm <;> cases hm
  | wChk y r obs hy hl hr ho hso =>
    exfalso
    cases hy <;> simp_all [Loc.muHeld]
  | wTail y r obs hy hl hr ho =>
    exfalso
    cases hy <;> simp_all [Loc.muHeld]
  | _ => exfalso; simp_all [Loc.muHeld]

theorem mu_leave {cfg : Config} {s s' : State} {e : Event} (h : Tr cfg s e s') (u : Tid)
    (hm : (s.thr u).loc.muHeld = true) : MuLeave e s' u := by
  unfold MuLeave
  rcases tr_local h (muHeld_not_shared hm) with h1 | ⟨x', hx, h1⟩ <;> rw [h1]
  · exact .inl hm
  · exact ml_ltr hx hm

/-- A transferred record: the ghost `xf r` is its transfer, the waker is the record's unlinker, and
    the waker's clock from before the transfer is covered by the release clock of the mutex word —
    or the waker still holds the mutex' spinlock (it has not yet executed its `ATM_CAS_REL`
    successfully) and its own clock covers it. -/
structure XInv (p : PState) : Prop where
  xfer : ∀ r, (p.s.recs r).stat = .xfer → ∃ w, p.xf r = some w ∧
    (p.s.recs r).unl = [Unl.waker w.by_] ∧ VC.Clock.le w.call w.clk ∧
    (VC.Clock.le w.clk (p.c.relc .mu) ∨
      ((p.s.thr w.by_).loc.muHeld = true ∧ VC.Clock.le w.clk (p.c.vc w.by_)))

theorem xinv_init : XInv pinit := by
  constructor
  intro r h; simp [pinit, init] at h

theorem stOn_ne_mu (e : Event) : stOn e ≠ some .mu := by
  cases e <;> simp [stOn]

theorem xfUpd_keep (p : PState) (s' : State) (e : Event) (r : Rid) (h : (p.s.recs r).stat = .xfer) :
    xfUpd p s' e r = p.xf r := by
  cases e <;> try rfl
  case muCas u site exp new obs ok =>
    cases site <;> try rfl
    cases ok <;> try rfl
    simp [xfUpd, h]

theorem xinv_step {cfg : Config} {fo : Nat → VC.Ord} {p : PState} {e : Event} {s' : State}
    (hi : Inv p.s) (hf : InvF p.s) (hv : VInv p) (hx : XInv p) (hs : step cfg p.s e = .ok s') :
    XInv (pnext fo p e s') := by
  have htr := step_tr hs
  constructor
  intro r hw'
  rcases xfer_entry hi htr r hw' with ⟨hw, hu⟩ | ⟨u, exp, new, obs, rfl, hst, hu, hl⟩
  · obtain ⟨w, h1, h2, h3, h4⟩ := hx.xfer r hw
    refine ⟨w, ?_, ?_, h3, ?_⟩
    · simp only [pnext]; rw [xfUpd_keep p s' e r hw]; exact h1
    · simp only [pnext]; rw [hu]; exact h2
    · rcases h4 with h4 | ⟨h4, h5⟩
      · exact .inl (cstep_keep (fo p.n) _ _ _ _ (stOn_ne_mu e) h4)
      · rcases mu_leave htr w.by_ h4 with h6 | ⟨exp, new, obs, rfl⟩
        · exact .inr ⟨h6, VC.Clock.le_trans h5 (cstep_mono (fo p.n) _ _ _)⟩
        · exact .inl (VC.Clock.le_trans h5 (cstep_mu_cas_rel (fo p.n) p.c w.by_ exp new obs))
  · refine ⟨⟨u, p.c.vc u, p.cc u⟩, ?_, ?_, hv.call u, .inr ⟨?_, ?_⟩⟩
    · have hw'' : (s'.recs r).stat = .xfer := hw'
      simp [pnext, xfUpd, hw'', hst]
    · simp only [pnext]; rw [hu]; exact hf.unlL r u hst
    · simp only [pnext]; rw [hl]; rfl
    · show VC.Clock.le (p.c.vc u) ((cstep (fo p.n) p.c (.muCas u .wwCas exp new obs true)).vc u)
      exact cstep_mono (fo p.n) p.c _ u

theorem xinv_preachable {cfg : Config} {fo : Nat → VC.Ord} {p : PState}
    (h : PReachable cfg fo p) : XInv p :=
  h.elim fun _ => (isPRun cfg fo).induct xinv_init fun _ _ _ hr hx hp => by
    obtain ⟨_, hs, rfl⟩ := pstep_ok hp
    exact xinv_step (inv_reachable (preachable_reachable hr)) (invF_reachable (preachable_reachable hr))
      (vinv_preachable hr) hx hs

end NsyncVerif.CvFix
