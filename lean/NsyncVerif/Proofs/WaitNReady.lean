/-
  Proofs/WaitNReady.lean — the readiness facts nsync_wait_n relies on (a note stays notified / expired,
  a counter stays at zero once a wait has been called, a record whose `waiting` was cleared stays
  cleared) and the per-program-point facts `TF` that tie the ghost `why` and the `ready` index to them.
  Definitions, stability under `Mono`, preservation by the steps of other threads and by the caller's own steps.
-/
import NsyncVerif.Proofs.WaitNOwn


namespace WaitN

theorem expiredB_mono {d : Deadline} {a b : Nat} (h : a ≤ b) (e : expiredB d a = true) : expiredB d b = true := by
  cases d with
  | none => simp [expiredB] at e
  | some x => simp only [expiredB, decide_eq_true_eq] at *; omega

theorem expiredB_of_dlePast {d : Deadline} (now : Nat) (h : dlePast d = true) : expiredB d now = true := by
  cases d with
  | none => simp [dlePast] at h
  | some x => simp only [dlePast, expiredB, decide_eq_true_eq] at *; omega

/-- the note is notified or its deadline has passed: `nsync_note_notified_deadline_` treats it as ready
    (it notifies the note itself when the deadline has passed) -/
def noteReady (s : State) (n : Nat) : Prop :=
  (s.obj (.note n)).flag = true ∨ expiredB (s.obj (.note n)).expiry s.now = true

/-- NOTIFIED_TIME (n) <= 0 : notified, or created with a deadline that is not after time zero -/
def noteNotif (s : State) (n : Nat) : Prop :=
  (s.obj (.note n)).flag = true ∨ dlePast (s.obj (.note n)).expiry = true

def ctrZero (s : State) (c : Nat) : Prop := (s.obj (.ctr c)).value = 0 ∧ (s.obj (.ctr c)).flag = true

theorem noteReady_of_notif {s : State} {n : Nat} (h : noteNotif s n) : noteReady s n :=
  h.elim .inl (fun h => .inr (expiredB_of_dlePast _ h))

/-- object k of the frame is ready for good -/
def sReady (s : State) (f : Frame) (k : Nat) : Prop :=
  match f.objs[k]? with
  | some (.note n) => noteReady s n
  | some (.ctr c) => ctrZero s c
  | some (.cv _) => ∃ r, f.recs[k]? = some r ∧ (s.rcd r).waiting = false
  | none => False

/-- counter_ready_time has been called on every counter among the first n objects -/
def Waited (s : State) (f : Frame) (n : Nat) : Prop :=
  ∀ k c, k < n → f.objs[k]? = some (.ctr c) → (s.obj (.ctr c)).flag = true

/-- inside nsync_note_notified_deadline_ on note n -/
def NDF (s : State) (n : Nat) : NDst → Prop
  | .unlockCall obs | .unlockWait obs => obs = true → (s.obj (.note n)).flag = true
  | .nfWake | .nfUnlockCall | .nfUnlockWait => (s.obj (.note n)).flag = true
  | _ => True

def NDFat (s : State) (f : Frame) (i : Nat) (st : NDst) : Prop :=
  ∀ n, f.objs[i]? = some (.note n) → NDF s n st

structure LoopF (s : State) (f : Frame) : Prop where
  whoNone : f.who = none → f.min = f.dl
  whoSome : ∀ k, f.who = some k → dlePast f.min = false →
              ∃ n, f.objs[k]? = some (.note n) ∧ f.min = (s.obj (.note n)).expiry
  why : ∀ k, f.why = .readyAt k → sReady s f k
  noTmo : f.why ≠ .timeout

structure DeqF (s : State) (f : Frame) : Prop where
  tmo : f.why = .timeout → expiredB f.dl s.now = true
  why : ∀ k, f.why = .readyAt k →
          f.deqRes[k]? = some false ∨ (f.deqRes.length ≤ k ∧ k < f.recs.length ∧ sReady s f k)
  rdy : f.ready < f.count → ¬ isCvAt f f.ready → sReady s f f.ready

structure PostF (s : State) (f : Frame) : Prop where
  tmo : f.why = .timeout → expiredB f.dl s.now = true
  why : ∀ k, f.why = .readyAt k → f.deqRes[k]? = some false
  rdy : f.ready < f.count → ¬ isCvAt f f.ready → sReady s f f.ready
  /-- the first poll loop never reports a condition variable (cv_ready_time without a record: no deadline) -/
  cvr : f.ready < f.count → isCvAt f f.ready → f.recs ≠ []

/-- the dequeue call on object j will return / has returned `res` -/
def ResF (s : State) (f : Frame) (j : Nat) (res : Bool) : Prop :=
  (f.why = .readyAt j → res = false) ∧ (res = false → sReady s f j)

def EnqF (s : State) (f : Frame) (i : Nat) : EnqSt → Prop
  | .store false | .unlockCall false | .unlockWait false => sReady s f i
  | _ => True

def DeqStF (s : State) (f : Frame) (j : Nat) : DeqSt → Prop
  | .lockCall | .lockWait | .load => ∀ n, f.objs[j]? = some (.note n) → f.why = .readyAt j → noteNotif s n
  | .loadW res | .store res | .unlockCall res | .unlockWait res => ResF s f j res

def CvDeqF (_ : State) (f : Frame) (j : Nat) : CvDeqSt → Prop
  | .store => f.why ≠ .readyAt j
  | .release res => f.why = .readyAt j → res = false
  | _ => True

/-- facts at each program point of a caller about the shared state -/
def TF (s : State) (p : PC) (f : Frame) : Prop :=
  match p with
  | .wCtrRT .poll i l => Waited s f i ∧ (l = true → Waited s f (i + 1))
  | .wND .poll i st => Waited s f i ∧ NDFat s f i st
  | .wAlloc | .wInit _ | .wEnqCv _ _ => Waited s f f.count
  | .wEnq i st => Waited s f f.count ∧ EnqF s f i st
  | .wUnlock => Waited s f f.count ∧ (∀ k, f.why = .readyAt k → sReady s f k) ∧ f.why ≠ .timeout
  | .wCvRT _ | .wCtrRT .loop _ _ | .wPdEnter | .wPdWait _ => Waited s f f.count ∧ LoopF s f
  | .wND .loop i st => Waited s f f.count ∧ LoopF s f ∧ NDFat s f i st
  | .wDeqCv j st => Waited s f f.count ∧ DeqF s f ∧ CvDeqF s f j st
  | .wND .deq j st => Waited s f f.count ∧ DeqF s f ∧ NDFat s f j st
  | .wDeq j st => Waited s f f.count ∧ DeqF s f ∧ DeqStF s f j st
  | .wFree | .wRelock | .wRet _ => PostF s f
  | _ => True

/-- the part of the state `TF` reads, related by a step that does not touch the thread's own records -/
structure Stable (W : Prop) (s s' : State) (f : Frame) : Prop where
  expiry : ∀ o ∈ f.objs, (s'.obj o).expiry = (s.obj o).expiry
  flag : ∀ o ∈ f.objs, o.isCv = false → (s.obj o).flag = true → (s'.obj o).flag = true
  zero : ∀ k, .ctr k ∈ f.objs → (s.obj (.ctr k)).value = 0 → (s.obj (.ctr k)).flag = true → (s'.obj (.ctr k)).value = 0
  now : s.now ≤ s'.now
  wfalse : W → ∀ r ∈ f.recs, (s.rcd r).waiting = false → (s'.rcd r).waiting = false

theorem mem_objs_of_get {f : Frame} {k : Nat} {o : ObjId} (h : f.objs[k]? = some o) : o ∈ f.objs :=
  List.mem_of_getElem? h

theorem noteReady_stable {W : Prop} {s s' : State} {f : Frame} {n k : Nat} (st : Stable W s s' f) (hk : f.objs[k]? = some (.note n))
    (h : noteReady s n) : noteReady s' n := by
  have hm := mem_objs_of_get hk
  rcases h with h | h
  · exact .inl (st.flag _ hm rfl h)
  · right; rw [st.expiry _ hm]; exact expiredB_mono st.now h

theorem noteNotif_stable {W : Prop} {s s' : State} {f : Frame} {n k : Nat} (st : Stable W s s' f) (hk : f.objs[k]? = some (.note n))
    (h : noteNotif s n) : noteNotif s' n := by
  have hm := mem_objs_of_get hk
  rcases h with h | h
  · exact .inl (st.flag _ hm rfl h)
  · right; rw [st.expiry _ hm]; exact h

theorem ctrZero_stable {W : Prop} {s s' : State} {f : Frame} {c k : Nat} (st : Stable W s s' f) (hk : f.objs[k]? = some (.ctr c))
    (h : ctrZero s c) : ctrZero s' c := by
  have hm := mem_objs_of_get hk
  exact ⟨st.zero c hm h.1 h.2, st.flag _ hm rfl h.2⟩

theorem sReady_stable {W : Prop} {s s' : State} {f : Frame} {k : Nat} (st : Stable W s s' f) (hc : W ∨ ¬ isCvAt f k)
    (h : sReady s f k) : sReady s' f k := by
  unfold sReady at *
  split at h
  · rename_i n hk; exact noteReady_stable st hk h
  · rename_i c hk; exact ctrZero_stable st hk h
  · rename_i c hk
    obtain ⟨r, hr, hw⟩ := h
    rcases hc with hc | hc
    · exact ⟨r, hr, st.wfalse hc r (List.mem_of_getElem? hr) hw⟩
    · exact absurd ⟨c, hk⟩ hc
  · exact h

theorem waited_stable {W : Prop} {s s' : State} {f : Frame} {n : Nat} (st : Stable W s s' f) (h : Waited s f n) : Waited s' f n := by
  intro k c hk ho
  exact st.flag _ (mem_objs_of_get ho) rfl (h k c hk ho)

theorem ndf_stable {W : Prop} {s s' : State} {f : Frame} {i : Nat} {st0 : NDst} (st : Stable W s s' f) (h : NDFat s f i st0) :
    NDFat s' f i st0 := by
  intro n hn
  have := h n hn
  have hm := mem_objs_of_get hn
  cases st0 <;> simp only [NDF] at this ⊢ <;> first | trivial | (intro ho; exact st.flag _ hm rfl (this ho)) | exact st.flag _ hm rfl this

theorem loopF_stable {W : Prop} {s s' : State} {f : Frame} (st : Stable W s s' f) (hf : W) (h : LoopF s f) : LoopF s' f := by
  refine ⟨h.whoNone, ?_, fun k hk => sReady_stable st (.inl hf) (h.why k hk), h.noTmo⟩
  intro k hk hm
  obtain ⟨n, hn, he⟩ := h.whoSome k hk hm
  exact ⟨n, hn, by rw [st.expiry _ (mem_objs_of_get hn)]; exact he⟩

theorem deqF_stable {W : Prop} {s s' : State} {f : Frame} (st : Stable W s s' f) (hf : W) (h : DeqF s f) : DeqF s' f := by
  refine ⟨fun ht => expiredB_mono st.now (h.tmo ht), ?_, fun h1 h2 => sReady_stable st (.inl hf) (h.rdy h1 h2)⟩
  intro k hk
  rcases h.why k hk with h1 | ⟨h1, h2, h3⟩
  · exact .inl h1
  · exact .inr ⟨h1, h2, sReady_stable st (.inl hf) h3⟩

theorem postF_stable {W : Prop} {s s' : State} {f : Frame} (st : Stable W s s' f) (h : PostF s f) : PostF s' f :=
  ⟨fun ht => expiredB_mono st.now (h.tmo ht), h.why, fun h1 h2 => sReady_stable st (.inr h2) (h.rdy h1 h2), h.cvr⟩

/-- program points at which the frame's records may already be dead -/
def PostPc (p : PC) : Bool :=
  match p with
  | .wRelock | .wRet _ | .idle | .sg _ _ _ | .stuck => true
  | _ => false

theorem frees_of_linv {p : PC} {f : Frame} (hl : LInv p f) : PostPc p = true ∨ f.frees = 0 := by
  cases p with
  | wCtrRT u i l => cases u <;> simp only [LInv] at hl <;> first | exact .inr hl.1.frees | exact hl.elim
  | wND u i st0 => cases u <;> simp only [LInv] at hl <;> exact .inr hl.1.frees
  | idle | stuck | sg _ _ _ | wRelock | wRet _ => exact .inl rfl
  | _ => simp only [LInv] at hl; exact .inr hl.1.frees

theorem tf_stable {W : Prop} {s s' : State} {p : PC} {f : Frame} (st : Stable W s s' f)
    (hfr0 : PostPc p = true ∨ W) (h : TF s p f) : TF s' p f := by
  have hW : PostPc p = false → W := fun hp => hfr0.elim (fun h => by rw [hp] at h; cases h) id
  cases p with
  | wCtrRT u i l =>
    cases u <;> simp only [TF] at h ⊢
    · exact ⟨waited_stable st h.1, fun hl => waited_stable st (h.2 hl)⟩
    · exact ⟨waited_stable st h.1, loopF_stable st (hW rfl) h.2⟩
  | wND u i st0 =>
    cases u <;> simp only [TF] at h ⊢
    · exact ⟨waited_stable st h.1, ndf_stable st h.2⟩
    · exact ⟨waited_stable st h.1, loopF_stable st (hW rfl) h.2.1, ndf_stable st h.2.2⟩
    · exact ⟨waited_stable st h.1, deqF_stable st (hW rfl) h.2.1, ndf_stable st h.2.2⟩
  | wAlloc => exact waited_stable st h
  | wInit i => exact waited_stable st h
  | wEnqCv i st0 => exact waited_stable st h
  | wEnq i st0 =>
    have hfr := hW rfl
    refine ⟨waited_stable st h.1, ?_⟩
    have := h.2
    cases st0 with
    | store b => cases b <;> simp only [EnqF] at this ⊢; exact sReady_stable st (.inl hfr) this
    | unlockCall b => cases b <;> simp only [EnqF] at this ⊢; exact sReady_stable st (.inl hfr) this
    | unlockWait b => cases b <;> simp only [EnqF] at this ⊢; exact sReady_stable st (.inl hfr) this
    | _ => trivial
  | wUnlock => exact ⟨waited_stable st h.1, fun k hk => sReady_stable st (.inl (hW rfl)) (h.2.1 k hk), h.2.2⟩
  | wCvRT j => exact ⟨waited_stable st h.1, loopF_stable st (hW rfl) h.2⟩
  | wPdEnter => exact ⟨waited_stable st h.1, loopF_stable st (hW rfl) h.2⟩
  | wPdWait j => exact ⟨waited_stable st h.1, loopF_stable st (hW rfl) h.2⟩
  | wDeqCv j st0 => exact ⟨waited_stable st h.1, deqF_stable st (hW rfl) h.2.1, h.2.2⟩
  | wDeq j st0 =>
    have hfr := hW rfl
    refine ⟨waited_stable st h.1, deqF_stable st hfr h.2.1, ?_⟩
    have := h.2.2
    cases st0 with
    | lockCall => intro n hn hw; exact noteNotif_stable st hn (this n hn hw)
    | lockWait => intro n hn hw; exact noteNotif_stable st hn (this n hn hw)
    | load => intro n hn hw; exact noteNotif_stable st hn (this n hn hw)
    | loadW res => exact ⟨this.1, fun hr => sReady_stable st (.inl hfr) (this.2 hr)⟩
    | store res => exact ⟨this.1, fun hr => sReady_stable st (.inl hfr) (this.2 hr)⟩
    | unlockCall res => exact ⟨this.1, fun hr => sReady_stable st (.inl hfr) (this.2 hr)⟩
    | unlockWait res => exact ⟨this.1, fun hr => sReady_stable st (.inl hfr) (this.2 hr)⟩
  | wFree => exact postF_stable st h
  | wRelock => exact postF_stable st h
  | wRet r => exact postF_stable st h
  | idle => trivial
  | stuck => trivial
  | sg c bc st0 => trivial

theorem Stable.of_eq {s s' : State} {f : Frame} (ho : s'.obj = s.obj) (hr : s'.rcd = s.rcd) (hn : s'.now = s.now) :
    Stable True s s' f := by
  refine ⟨fun _ _ => by rw [ho], fun _ _ _ h => by rw [ho]; exact h, fun _ _ h1 _ => by rw [ho]; exact h1,
          by rw [hn]; exact Nat.le_refl _, fun _ _ _ h => by rw [hr]; exact h⟩

theorem Stable.congr_right {W : Prop} {s s' s1 : State} {f : Frame} (st : Stable W s s' f)
    (ho : s1.obj = s'.obj) (hr : s1.rcd = s'.rcd) (hn : s1.now = s'.now) : Stable W s s1 f :=
  ⟨fun o h => by rw [ho]; exact st.expiry o h, fun o h1 h2 h3 => by rw [ho]; exact st.flag o h1 h2 h3,
   fun k h1 h2 h3 => by rw [ho]; exact st.zero k h1 h2 h3, by rw [hn]; exact st.now,
   fun hW r h1 h2 => by rw [hr]; exact st.wfalse hW r h1 h2⟩

/-- `TF` only reads flag / value / expiry of objects, `waiting` of records, and the clock -/
theorem tf_congr {s s' : State} {p : PC} {f : Frame} (ho : s'.obj = s.obj) (hr : s'.rcd = s.rcd) (hn : s'.now = s.now)
    (h : TF s p f) : TF s' p f := by
  exact tf_stable (Stable.of_eq ho hr hn) (.inr trivial) h

/-- `Mono` for the stepping thread `u` gives `Stable` for a frame whose records `u` does not enqueue (given `W`) -/
theorem Stable.of_mono {W : Prop} {s s' : State} {u : Tid} {f : Frame} (m : Mono s s' u)
    (hk : ∀ o ∈ f.objs, (s.obj o).known = true)
    (hw : W → ∀ r ∈ f.recs, ∀ i, (s.pc u = .wEnq i (.store true) ∨ s.pc u = .wEnqCv i .store) →
            (s.fr u).recs[i]? ≠ some r) : Stable W s s' f := by
  refine ⟨fun o ho => m.expiry o (hk o ho), fun o ho hc hf => m.flag o hc (hk o ho) hf,
          fun k ho hz hf => m.zero k (hk _ ho) hz hf, m.now, ?_⟩
  intro hf r hr hwf
  cases hw' : (s'.rcd r).waiting with
  | false => rfl
  | true =>
    obtain ⟨i, hpc, hri⟩ := m.wtrue r hwf hw'
    exact absurd hri (hw hf r hr i hpc)

/-- a step of another thread keeps the facts of thread t stable -/
theorem stable_of_other {s s' : State} {t u : Tid} (hne : t ≠ u) (ho : Own s)
    (hlu : LInv (s.pc u) (s.fr u)) (hc : inCall (s.pc t) = true) (m : Mono s s' u) :
    Stable ((s.fr t).frees = 0) s s' (s.fr t) := by
  apply Stable.of_mono m (ho.known t hc)
  intro hf r hr i hpc hri
  have h1 := (ho.own t r hc hf hr).2
  have hcu : inCall (s.pc u) = true := by rcases hpc with h | h <;> rw [h] <;> rfl
  have hfu : (s.fr u).frees = 0 := by
    rcases hpc with h | h <;> rw [h] at hlu <;> exact hlu.1.frees
  have h2 := (ho.own u r hcu hfu (List.mem_of_getElem? hri)).2
  exact hne (h1.symm.trans h2)

/-! `TF` does not read the lazily bound semaphore -/

theorem sReady_sem (s : State) (f : Frame) (v) (k : Nat) : sReady s { f with sem := v } k ↔ sReady s f k := Iff.rfl
theorem Waited_sem (s : State) (f : Frame) (v) (n : Nat) : Waited s { f with sem := v } n ↔ Waited s f n := Iff.rfl
theorem NDFat_sem (s : State) (f : Frame) (v) (i : Nat) (st) : NDFat s { f with sem := v } i st ↔ NDFat s f i st := Iff.rfl
theorem LoopF_sem (s : State) (f : Frame) (v) : LoopF s { f with sem := v } ↔ LoopF s f :=
  ⟨fun a => { a with }, fun a => { a with }⟩
theorem DeqF_sem (s : State) (f : Frame) (v) : DeqF s { f with sem := v } ↔ DeqF s f :=
  ⟨fun a => { a with }, fun a => { a with }⟩
theorem PostF_sem (s : State) (f : Frame) (v) : PostF s { f with sem := v } ↔ PostF s f :=
  ⟨fun a => { a with }, fun a => { a with }⟩
theorem EnqF_sem (s : State) (f : Frame) (v) (i : Nat) (st) : EnqF s { f with sem := v } i st ↔ EnqF s f i st := by
  cases st <;> rfl
theorem DeqStF_sem (s : State) (f : Frame) (v) (j : Nat) (st) : DeqStF s { f with sem := v } j st ↔ DeqStF s f j st := by
  cases st <;> rfl
theorem CvDeqF_sem (s : State) (f : Frame) (v) (j : Nat) (st) : CvDeqF s { f with sem := v } j st ↔ CvDeqF s f j st := by
  cases st <;> rfl

theorem TF_sem (s : State) (p : PC) (f : Frame) (v) : TF s p { f with sem := v } ↔ TF s p f := by
  cases p with
  | wCtrRT u i l => cases u <;> simp only [TF, Waited_sem, LoopF_sem, Frame.count]
  | wND u i st => cases u <;> simp only [TF, Waited_sem, LoopF_sem, DeqF_sem, NDFat_sem, Frame.count]
  | _ => simp only [TF, Waited_sem, LoopF_sem, DeqF_sem, PostF_sem, EnqF_sem, DeqStF_sem, CvDeqF_sem, sReady_sem,
                    Frame.count]

theorem TF.same {s : State} {p : PC} {f g : Frame} (h : frSame f g) (a : TF s p f) : TF s p g := by
  rw [h]; exact (TF_sem s p f _).2 a

/-- the facts of thread t survive a step of another thread u -/
theorem tf_other {s s' : State} {t u : Tid} {e : Ev} (hne : t ≠ u) (ho : Own s)
    (hl : ∀ x, LInv (s.pc x) (s.fr x)) (h : TF s (s.pc t) (s.fr t)) (hs : stepThr s u e = .ok s') :
    TF s' (s'.pc t) (s'.fr t) := by
  obtain ⟨h1, _, _, h4⟩ := others_stepThr hs t hne
  rw [h1]
  apply TF.same h4
  by_cases hc : inCall (s.pc t) = true
  · exact tf_stable (stable_of_other hne ho (hl u) hc (mono_stepThr hs)) (frees_of_linv (hl t)) h
  · cases hp : s.pc t <;> simp [hp, inCall] at hc <;> simp [TF]

/-!
### landing lemmas for `TF`: the facts hold at the program point computed by pollNext / loopNext / deqNext / enqNext
/ finNext.
-/

theorem sReady_lt {s : State} {f : Frame} {k : Nat} (h : sReady s f k) : k < f.count := by
  unfold sReady at h
  split at h
  · rename_i hk; exact lt_count_of_get hk
  · rename_i hk; exact lt_count_of_get hk
  · rename_i hk; exact lt_count_of_get hk
  · exact h.elim

theorem postF_of_deqF {s : State} {f : Frame} (h : DeqF s f) (hl : f.deqRes.length = f.recs.length)
    (hn : f.recs ≠ []) : PostF s f := by
  refine ⟨h.tmo, ?_, h.rdy, fun _ _ => hn⟩
  intro k hk
  rcases h.why k hk with h1 | ⟨h1, h2, _⟩
  · exact h1
  · omega

theorem tf_relockNext {s : State} {f : Frame} (h : PostF s f) : TF s (relockNext f) f := by
  unfold relockNext; split <;> exact h

theorem tf_finNext {s : State} {f : Frame} (h : PostF s f) : TF s (finNext f) f := by
  unfold finNext; split
  · exact h
  · exact tf_relockNext h

theorem tf_deqNext {s : State} {f : Frame} {j : Nat} (hw : Waited s f f.count) (h : DeqF s f)
    (hle : f.recs.length ≤ f.count) (hj : j < f.recs.length) : TF s (deqNext f j) f := by
  unfold deqNext
  rw [if_pos hj]
  have hc : j < f.count := Nat.lt_of_lt_of_le hj hle
  rcases kind_cases hc with ⟨c, ho⟩ | ⟨n, ho⟩ | ⟨k, ho⟩ <;> rw [ho] <;> simp only [TF]
  · exact ⟨hw, h, trivial⟩
  · exact ⟨hw, h, fun _ _ => trivial⟩
  · refine ⟨hw, h, ?_⟩
    intro n hn; rw [ho] at hn; cases hn

theorem deqF_of_loopF {s : State} {f : Frame} (h : LoopF s f) (hd : f.deqRes = []) (hr : f.ready = f.count)
    (hfull : f.recs.length = f.count) : DeqF s f := by
  refine ⟨fun ht => absurd ht h.noTmo, ?_, fun hlt => by rw [hr] at hlt; exact absurd hlt (Nat.lt_irrefl _)⟩
  intro k hk
  have := h.why k hk
  exact .inr ⟨by simp [hd], by rw [hfull]; exact sReady_lt this, this⟩

theorem tf_scanEnd {s : State} {f : Frame} (hw : Waited s f f.count) (h : LoopF s f) (hl : InLoop f) :
    TF s (scanEnd f) f := by
  unfold scanEnd
  split
  · exact tf_deqNext hw (deqF_of_loopF h hl.deqRes hl.ready hl.full) hl.len
      (by rw [hl.full]; exact hl.pos)
  · exact ⟨hw, h⟩

theorem tf_loopNext {s : State} {f : Frame} (hw : Waited s f f.count) (h : LoopF s f) (hl : InLoop f) (j : Nat) :
    TF s (loopNext f j) f := by
  unfold loopNext
  split
  · rename_i hj
    rcases kind_cases hj with ⟨c, ho⟩ | ⟨n, ho⟩ | ⟨k, ho⟩ <;> rw [ho] <;> simp only [TF]
    · exact ⟨hw, h⟩
    · exact ⟨hw, h, fun _ _ => trivial⟩
    · exact ⟨hw, h⟩
  · exact tf_scanEnd hw h hl

/-- after the enqueue loop (frame already updated by `afterEnq`) -/
theorem tf_enqNext {s : State} {f : Frame} {i : Nat} {res : Bool} (hw : Waited s f f.count) (hp : PreLoop f)
    (hl : f.recs.length = i) (hwho : f.who = none)
    (hwhy : if res then f.why = .none else (0 < i ∧ f.why = .readyAt (i - 1) ∧ sReady s f (i - 1))) :
    TF s (enqNext f i res) f := by
  have hwhy' : ∀ k, f.why = .readyAt k → sReady s f k := by
    intro k hk
    cases res with
    | true => simp at hwhy; rw [hwhy] at hk; cases hk
    | false => simp at hwhy; rw [hwhy.2.1] at hk; cases hk; exact hwhy.2.2
  have hnt : f.why ≠ .timeout := by
    cases res with
    | true => simp at hwhy; rw [hwhy]; simp
    | false => simp at hwhy; rw [hwhy.2.1]; simp
  unfold enqNext
  split
  · exact hw
  · rename_i hc
    split
    · rename_i hic
      split
      · exact ⟨hw, hwhy', hnt⟩
      · rename_i hm
        have hil := inLoop_of_preLoop hp (by simpa using hm) (by rw [hl, hic])
        exact tf_loopNext hw ⟨fun _ => hp.min, fun k hk => (by rw [hwho] at hk; cases hk), hwhy', hnt⟩ hil 0
    · rename_i hic
      have hlen := hp.len
      have hres : res = false := by
        cases res with
        | false => rfl
        | true => exact absurd ⟨rfl, by omega⟩ hc
      subst hres
      simp at hwhy
      refine tf_deqNext hw ⟨fun ht => (by rw [hwhy.2.1] at ht; cases ht), ?_, ?_⟩ hp.len (by omega)
      · intro k hk
        rw [hwhy.2.1] at hk; cases hk
        exact .inr ⟨by simp [hp.deqRes], by omega, hwhy.2.2⟩
      · intro hlt; rw [hp.ready] at hlt; exact absurd hlt (Nat.lt_irrefl _)

theorem waited_skip_cv {s : State} {f : Frame} {i c : Nat} (h : Waited s f i) (ho : f.objs[i]? = some (.cv c)) :
    Waited s f (i + 1) := by
  intro k c' hk hc
  rcases Nat.lt_or_ge k i with h' | h'
  · exact h k c' h' hc
  · have : k = i := by omega
    subst this; rw [ho] at hc; cases hc

theorem waited_all {s : State} {f : Frame} {i : Nat} (h : Waited s f i) (hd : f.objs.drop i = []) : Waited s f f.count := by
  intro k c hk hc
  apply h k c _ hc
  have : f.objs.length ≤ i := by simpa using hd
  unfold Frame.count at hk; omega

theorem tf_pollFrom {s : State} {f : Frame} (hf : Fresh f) (hr : f.ready = f.count) :
    ∀ (l : List ObjId) (i : Nat), f.objs.drop i = l → Waited s f i → TF s (pollFrom f l i) f := by
  intro l
  induction l with
  | nil =>
    intro i hd hw
    have hwc := waited_all hw hd
    unfold pollFrom
    split
    · refine ⟨fun ht => (by rw [hf.why] at ht; cases ht), fun k hk => (by rw [hf.why] at hk; cases hk), ?_, ?_⟩
      · intro hlt; rw [hr] at hlt; exact absurd hlt (Nat.lt_irrefl _)
      · intro hlt; rw [hr] at hlt; exact absurd hlt (Nat.lt_irrefl _)
    · split
      · exact hwc
      · rename_i h4
        have : enqNext f 0 true = .wInit 0 := by
          unfold enqNext; rw [if_pos ⟨rfl, hf.pos⟩]
        rw [this]; exact hwc
  | cons o rest ih =>
    intro i hdrop hw
    have hget : f.objs[i]? = some o := by
      have := congrArg List.head? hdrop
      simpa [List.head?_drop] using this
    have hrest : f.objs.drop (i + 1) = rest := by
      have := congrArg List.tail hdrop
      simpa [List.tail_drop] using this
    cases o with
    | cv c => simp only [pollFrom]; exact ih (i + 1) hrest (waited_skip_cv hw hget)
    | note n => simp only [pollFrom, TF]; exact ⟨hw, fun _ _ => trivial⟩
    | ctr k => simp only [pollFrom, TF]; exact ⟨hw, fun h => by cases h⟩

theorem tf_pollNext {s : State} {f : Frame} (hf : Fresh f) (hr : f.ready = f.count) (i : Nat)
    (hw : Waited s f i) : TF s (pollNext f i) f :=
  tf_pollFrom hf hr _ i rfl hw

theorem inLoop_upd {f : Frame} (hl : InLoop f) (m : Deadline) (x : Option Nat) (w : Why)
    (hm : dlePast m = true → w ≠ .none) : InLoop { f with min := m, who := x, why := w } :=
  { hl with whyMin := hm }

theorem inLoop_upd2 {f : Frame} (hl : InLoop f) (m : Deadline) (x : Option Nat)
    (hm : dlePast m = true → f.why ≠ .none) : InLoop { f with min := m, who := x } :=
  { hl with whyMin := hm }

theorem dlt_none (d : Deadline) : dlt none d = false := by cases d <;> rfl

theorem tf_rtDone_poll {s s' : State} {t : Tid} {i : Nat} {time : Deadline}
    (hf : Fresh (s.fr t)) (hr : (s.fr t).ready = (s.fr t).count)
    (hw : Waited s (s.fr t) (i + 1)) (hready : dlePast time = true → sReady s (s.fr t) i)
    (h : rtDone s t .poll i time = .ok s') : TF s' (s'.pc t) (s'.fr t) := by
  unfold rtDone at h
  simp only at h
  split at h
  · rename_i hd
    cases h
    simp only [setPc_pc, setPc_fr, setFr_fr, if_true]
    refine tf_congr (s := s) rfl rfl rfl ?_
    refine ⟨fun ht => (by rw [hf.why] at ht; cases ht), fun k hk => (by rw [hf.why] at hk; cases hk), fun _ _ => hready hd, ?_⟩
    intro _ hcv
    have hsr := hready hd
    unfold sReady at hsr
    obtain ⟨c, hc⟩ := hcv
    simp only at hc
    rw [hc] at hsr
    obtain ⟨r, hr, _⟩ := hsr
    rw [hf.recs] at hr; cases hr
  · cases h
    simp only [setPc_pc, setPc_fr, if_true]
    exact tf_congr (s := s) rfl rfl rfl (tf_pollNext hf hr _ hw)

theorem tf_rtDone_loop {s s' : State} {t : Tid} {i : Nat} {time : Deadline}
    (hl : InLoop (s.fr t)) (hw : Waited s (s.fr t) (s.fr t).count) (hlf : LoopF s (s.fr t))
    (hready : dlePast time = true → sReady s (s.fr t) i)
    (hnr : dlePast time = false → time = none ∨ ∃ n, (s.fr t).objs[i]? = some (.note n) ∧ time = (s.obj (.note n)).expiry)
    (h : rtDone s t .loop i time = .ok s') : TF s' (s'.pc t) (s'.fr t) := by
  unfold rtDone at h
  simp only at h
  cases h
  simp only [setPc_pc, setPc_fr, setFr_fr, if_true]
  refine tf_congr (s := s) rfl rfl rfl ?_
  split
  · rename_i hd
    apply tf_loopNext (by exact hw) _ (inLoop_upd hl _ _ _ (fun _ => by simp))
    refine ⟨fun hn => (by cases hn), fun k _ hm => (by simp [dlePast] at hm), ?_, (by simp)⟩
    intro k hk
    simp only at hk; cases hk
    exact hready hd
  · rename_i hd
    have hd : dlePast time = false := by simpa using hd
    split
    · rename_i hlt
      apply tf_loopNext (by exact hw) _ (inLoop_upd2 hl _ _ (fun hm => by rw [hm] at hd; cases hd))
      refine ⟨fun hn => (by cases hn), ?_, hlf.why, hlf.noTmo⟩
      intro k hk hm
      simp only at hk; cases hk
      rcases hnr hd with h0 | h0
      · rw [h0, dlt_none] at hlt; cases hlt
      · exact h0
    · exact tf_loopNext hw hlf hl _

theorem tf_rtDone_deq {s s' : State} {t : Tid} {i : Nat} {time : Deadline} {st : NDst}
    (htf : TF s (.wND .deq i st) (s.fr t))
    (hn : ∀ n, (s.fr t).objs[i]? = some (.note n) → (s.fr t).why = .readyAt i → noteNotif s n)
    (h : rtDone s t .deq i time = .ok s') : TF s' (s'.pc t) (s'.fr t) := by
  unfold rtDone at h
  simp only at h
  cases h
  simp only [setPc_pc, setPc_fr, if_true]
  exact tf_congr (s := s) rfl rfl rfl ⟨htf.1, htf.2.1, hn⟩

/-- the dequeue loop: result `res` of the call on object j -/
theorem deqF_push {s : State} {f : Frame} {j : Nat} {res : Bool} (h : DeqF s f) (hl : f.deqRes.length = j)
    (hres : ResF s f j res ∨ (isCvAt f j ∧ (f.why = .readyAt j → res = false))) :
    DeqF s { f with ready := if !res ∧ f.ready = f.count then j else f.ready, deqRes := f.deqRes ++ [res] } := by
  have hw : f.why = .readyAt j → res = false := by
    rcases hres with h' | h'
    · exact h'.1
    · exact h'.2
  refine ⟨h.tmo, ?_, ?_⟩
  · intro k hk
    simp only at hk
    by_cases hkj : k = j
    · subst hkj
      left
      simp [hl, hw hk]
    · rcases h.why k hk with h1 | ⟨h1, h2, h3⟩
      · left
        have : k < f.deqRes.length := by
          rcases Nat.lt_or_ge k f.deqRes.length with h' | h'
          · exact h'
          · rw [List.getElem?_eq_none h'] at h1; cases h1
        simp only [List.getElem?_append_left this]; exact h1
      · right
        refine ⟨by simp; omega, h2, h3⟩
  · show (if !res ∧ f.ready = f.count then j else f.ready) < f.count →
      ¬ isCvAt f (if !res ∧ f.ready = f.count then j else f.ready) → sReady s f (if !res ∧ f.ready = f.count then j else f.ready)
    split
    · rename_i hc
      intro _ hncv
      have hrf : res = false := by simpa using hc.1
      rcases hres with h' | h'
      · exact h'.2 hrf
      · exact absurd h'.1 hncv
    · exact h.rdy

theorem PostF.semFreed {s : State} {f : Frame} (v b) (h : PostF s f) : PostF s { f with sem := v, freed := b } :=
  { h with }
theorem PostF.freedOnly {s : State} {f : Frame} (b) (h : PostF s f) : PostF s { f with freed := b } := { h with }

theorem DeqF.setUnl {s : State} {f : Frame} (u : List Unl) (h : DeqF s f) : DeqF s { f with deqUnl := u } := { h with }

theorem tf_deqDone {s s' : State} {t : Tid} {j : Nat} {res : Bool}
    (hd : InDeq (s.fr t)) (hw : Waited s (s.fr t) (s.fr t).count) (h0 : DeqF s (s.fr t))
    (hl : (s.fr t).deqRes.length = j) (hjr : j < (s.fr t).recs.length)
    (hres : ResF s (s.fr t) j res ∨ (isCvAt (s.fr t) j ∧ ((s.fr t).why = .readyAt j → res = false)))
    (h : deqDone s t j res = .ok s') : TF s' (s'.pc t) (s'.fr t) := by
  have hpush0 := deqF_push h0 hl hres
  have hpush := fun u => DeqF.setUnl u hpush0
  unfold deqDone at h
  dsimp only at h
  split at h
  · rename_i hlt
    cases h
    simp only [setPc_pc, setPc_fr, setFr_fr, if_true]
    refine tf_congr (s := s) rfl rfl rfl ?_
    exact tf_deqNext (by exact hw) (hpush _) hd.len hlt
  · rename_i hlt
    cases h
    simp only [setPc_pc, setPc_fr, if_true]
    refine tf_congr (s := s) (shared_unbindSem _ t).1 (shared_unbindSem _ t).2.1 (shared_unbindSem _ t).2.2 ?_
    unfold unbindSem
    split
    · simp only [setSemUser_fr, setFr_fr, if_true]
      exact tf_finNext (PostF.semFreed _ _ (postF_of_deqF (hpush _) (by simp at hlt ⊢; omega) (by simp; intro h0; have := hd.npos; rw [h0] at this; cases this)))
    · simp only [setFr_fr, if_true]
      exact tf_finNext (PostF.freedOnly _ (postF_of_deqF (hpush _) (by simp at hlt ⊢; omega) (by simp; intro h0; have := hd.npos; rw [h0] at this; cases this)))

theorem tf_afterEnq {s s' : State} {t : Tid} {i : Nat} {res : Bool}
    (hp : PreLoop (s.fr t)) (hl : (s.fr t).recs.length = i + 1) (hwn : (s.fr t).why = .none)
    (hw : Waited s (s.fr t) (s.fr t).count) (hres : res = false → sReady s (s.fr t) i)
    (h : afterEnq s t (i + 1) res = .ok s') : TF s' (s'.pc t) (s'.fr t) := by
  unfold afterEnq at h
  dsimp only at h
  cases h
  simp only [setPc_pc, setPc_fr, setFr_fr, if_true]
  refine tf_congr (s := s) rfl rfl rfl ?_
  cases res with
  | true =>
    simp only [if_true]
    exact tf_enqNext (res := true) (by exact hw) { hp with } hl rfl (by simpa using hwn)
  | false =>
    simp only [Bool.false_eq_true, if_false]
    exact tf_enqNext (res := false) (by exact hw) { hp with } hl rfl (by simp; exact hres rfl)

theorem tf_startScan {s : State} {t : Tid} (hl : InLoop (s.fr t)) (hw : Waited s (s.fr t) (s.fr t).count)
    (hlf : LoopF s (s.fr t)) : TF (startScan s t) ((startScan s t).pc t) ((startScan s t).fr t) := by
  unfold startScan
  simp only [setPc_pc, setPc_fr, setFr_fr, if_true]
  refine tf_congr (s := s) rfl rfl rfl ?_
  apply tf_loopNext (by exact hw) _ (inLoop_upd2 hl _ _ (by intro hm; rw [hl.dl] at hm; cases hm))
  exact ⟨fun _ => rfl, fun k hk => (by cases hk), hlf.why, hlf.noTmo⟩

/-- what is known about a caller before its own step -/
structure Ctx (s : State) (t : Tid) : Prop where
  own : Own s
  linv : LInv (s.pc t) (s.fr t)
  tf : TF s (s.pc t) (s.fr t)

theorem shared_dflt {s s' : State} {t : Tid} {e : Ev} (h : dflt s t e = .ok s') :
    s'.obj = s.obj ∧ s'.rcd = s.rcd ∧ s'.now = s.now :=
  ⟨(agree_dflt (t := t) h).obj, (agree_dflt (t := t) h).rcd, (agree_dflt (t := t) h).now⟩

theorem tf_dflt {s s' : State} {t : Tid} {e : Ev} (c : Ctx s t) (h : dflt s t e = .ok s') :
    TF s' (s'.pc t) (s'.fr t) := by
  have k := keeps_dflt (t := t) h
  have sh := shared_dflt h
  rw [k.1]
  exact TF.same k.2 (tf_congr sh.1 sh.2.1 sh.2.2 c.tf)

/-- the caller's own step, when it is not an enqueue store, keeps its readiness facts -/
theorem own_stable {s s' : State} {t : Tid} (c : Ctx s t) (hc : inCall (s.pc t) = true) (m : Mono s s' t)
    (hne : ∀ i, s.pc t ≠ .wEnq i (.store true) ∧ s.pc t ≠ .wEnqCv i .store) :
    Stable True s s' (s.fr t) := by
  refine .of_mono m (c.own.known t hc) fun _ r _ i hpc => ?_
  rcases hpc with h | h
  · exact absurd h (hne i).1
  · exact absurd h (hne i).2

theorem tf_stepOpen {s s' : State} {t : Tid} {e : Ev} (c : Ctx s t) (hc : inCall (s.pc t) = true)
    (ho : driven (s.pc t) = true) (hne : ∀ i, s.pc t ≠ .wEnq i (.store true) ∧ s.pc t ≠ .wEnqCv i .store)
    (h : stepOpen s t e = .ok s') : TF s' (s'.pc t) (s'.fr t) := by
  have k := keeps_stepOpen (t := t) h
  have st := own_stable c hc (Mono.of_acts (steps_stepOpen ho h).acts) hne
  rw [k.1]
  exact TF.same k.2 (tf_stable st (.inr trivial) c.tf)

theorem tf_nd_move {s s' : State} {u : Use} {i : Nat} {a b : NDst} {f : Frame} (st : Stable True s s' f)
    (htf : TF s (.wND u i a) f) (hn : NDFat s' f i b) : TF s' (.wND u i b) f := by
  have := tf_stable st (.inr trivial) htf
  cases u <;> simp only [TF] at this ⊢
  · exact ⟨this.1, hn⟩
  · exact ⟨this.1, this.2.1, hn⟩
  · exact ⟨this.1, this.2.1, hn⟩

theorem tf_ctr_move {s s' : State} {u : Use} {i : Nat} {f : Frame} (st : Stable True s s' f)
    (htf : TF s (.wCtrRT u i false) f) (hw : ∀ c, f.objs[i]? = some (.ctr c) → (s'.obj (.ctr c)).flag = true) :
    TF s' (.wCtrRT u i true) f := by
  have := tf_stable st (.inr trivial) htf
  cases u with
  | poll =>
    simp only [TF] at this ⊢
    refine ⟨this.1, fun _ => ?_⟩
    intro k c hk hc
    rcases Nat.lt_or_ge k i with h' | h'
    · exact this.1 k c h' hc
    · have : k = i := by omega
      subst this; exact hw c hc
  | loop => exact this
  | deq => trivial

theorem waited_succ {s : State} {f : Frame} {i : Nat} (h : Waited s f i)
    (hi : ∀ c, f.objs[i]? = some (.ctr c) → (s.obj (.ctr c)).flag = true) : Waited s f (i + 1) := by
  intro k c hk hc
  rcases Nat.lt_or_ge k i with h' | h'
  · exact h k c h' hc
  · have : k = i := by omega
    subst this; exact hi c hc

/-- a `ready_time` call that ends: the facts needed by the three uses -/
theorem tf_rtDone {s s' : State} {t : Tid} {u : Use} {i : Nat} {time : Deadline} {p : PC}
    (hl : LInv p (s.fr t)) (htf : TF s p (s.fr t))
    (hp : (∃ l, p = .wCtrRT u i l ∧ u ≠ .deq) ∨ (∃ st, p = .wND u i st))
    (hwi : u = .poll → ∀ c, (s.fr t).objs[i]? = some (.ctr c) → (s.obj (.ctr c)).flag = true)
    (hready : dlePast time = true → sReady s (s.fr t) i)
    (hnr : dlePast time = false → time = none ∨ ∃ n, (s.fr t).objs[i]? = some (.note n) ∧ time = (s.obj (.note n)).expiry)
    (hn : u = .deq → ∀ n, (s.fr t).objs[i]? = some (.note n) → (s.fr t).why = .readyAt i → noteNotif s n)
    (h : rtDone s t u i time = .ok s') : TF s' (s'.pc t) (s'.fr t) := by
  cases u with
  | poll =>
    rcases hp with ⟨l, rfl, _⟩ | ⟨st, rfl⟩
    · simp only [LInv, TF] at hl htf
      exact tf_rtDone_poll hl.1 hl.2.1 (waited_succ htf.1 (hwi rfl)) hready h
    · simp only [LInv, TF] at hl htf
      exact tf_rtDone_poll hl.1 hl.2.1 (waited_succ htf.1 (hwi rfl)) hready h
  | loop =>
    rcases hp with ⟨l, rfl, _⟩ | ⟨st, rfl⟩
    · simp only [LInv, TF] at hl htf
      exact tf_rtDone_loop hl.1 htf.1 htf.2 hready hnr h
    · simp only [LInv, TF] at hl htf
      exact tf_rtDone_loop hl.1 htf.1 htf.2.1 hready hnr h
  | deq =>
    rcases hp with ⟨l, rfl, hne⟩ | ⟨st, rfl⟩
    · exact absurd rfl hne
    · exact tf_rtDone_deq htf (hn rfl) h

theorem ne_enq_of_pc {s : State} {t : Tid} {p : PC} (hpc : s.pc t = p)
    (h : ∀ i, p ≠ .wEnq i (.store true) ∧ p ≠ .wEnqCv i .store) :
    ∀ i, s.pc t ≠ .wEnq i (.store true) ∧ s.pc t ≠ .wEnqCv i .store := by
  rw [hpc]; exact h

theorem tf_stepCtrRT {s s' : State} {t : Tid} {u : Use} {i : Nat} {l : Bool} {e : Ev} (c : Ctx s t)
    (hpc : s.pc t = .wCtrRT u i l) (h : stepCtrRT s t u i l e = .ok s') : TF s' (s'.pc t) (s'.fr t) := by
  have hl : LInv (.wCtrRT u i l) (s.fr t) := hpc ▸ c.linv
  have htf : TF s (.wCtrRT u i l) (s.fr t) := hpc ▸ c.tf
  have hc : inCall (s.pc t) = true := by rw [hpc]; rfl
  have st := own_stable c hc (Mono.of_acts (steps_stepCtrRT hpc h).acts) (ne_enq_of_pc hpc (fun _ => ⟨by simp, by simp⟩))
  unfold stepCtrRT at h
  split at h
  · rename_i k hk
    dsimp only at h
    split at h
    · -- store waited
      split at h
      · cases h
        simp only [setPc_pc, setPc_fr, setObj_fr, if_true]
        exact tf_ctr_move st htf (by intro c' hc'; rw [hk] at hc'; cases hc'; simp)
      · simp at h
    · -- load value
      rename_i k' obs
      split at h
      · rename_i hg
        refine tf_rtDone hl htf (.inl ⟨_, rfl, ?_⟩) ?_ ?_ ?_ ?_ h
        · intro hu; subst hu; simp [LInv] at hl
        · intro hu c' hc'
          subst hu
          simp only [TF] at htf
          exact htf.2 trivial i c' (Nat.lt_succ_self i) hc'
        · intro hd
          have hobs : obs = 0 := by
            by_cases h0 : obs = 0
            · exact h0
            · simp [h0, dlePast] at hd
          unfold sReady; rw [hk]
          refine ⟨by rw [← hg.2]; exact hobs, ?_⟩
          cases u with
          | poll => simp only [TF] at htf; exact htf.2 trivial i k (Nat.lt_succ_self i) hk
          | loop => simp only [TF] at htf; exact htf.1 i k (lt_count_of_get hk) hk
          | deq => simp [LInv] at hl
        · intro hd
          left
          by_cases h0 : obs = 0
          · simp [h0, dlePast] at hd
          · simp [h0]
        · intro _ n hn; rw [hk] at hn; cases hn
      · simp at h
    · exact tf_dflt c h
  · simp at h

theorem flag_of_obs {b : Bool} {obs : Nat} (h : obs = b2n b) (h0 : obs ≠ 0) : b = true := by
  cases b <;> simp_all

set_option hygiene false in
/-- the program counter moves inside nsync_note_notified_deadline_ -/
macro "nd_mv" t:term : tactic =>
  `(tactic| (cases h; simp only [setPc_pc, setPc_fr, setObj_fr, if_true]; exact tf_nd_move st htf $t))

theorem tf_stepND {s s' : State} {t : Tid} {u : Use} {i : Nat} {st0 : NDst} {e : Ev} (c : Ctx s t)
    (hpc : s.pc t = .wND u i st0) (h : stepND s t u i st0 e = .ok s') : TF s' (s'.pc t) (s'.fr t) := by
  have hl : LInv (.wND u i st0) (s.fr t) := hpc ▸ c.linv
  have htf : TF s (.wND u i st0) (s.fr t) := hpc ▸ c.tf
  have hc : inCall (s.pc t) = true := by rw [hpc]; rfl
  have hne := ne_enq_of_pc hpc (fun _ => ⟨by simp, by simp⟩)
  have st := own_stable c hc (Mono.of_acts (steps_stepND hpc h).acts) hne
  have hnd : NDFat s (s.fr t) i st0 := by
    cases u <;> simp only [TF] at htf
    · exact htf.2
    · exact htf.2.2
    · exact htf.2.2
  have hnote : isNoteAt (s.fr t) i := by
    cases u <;> simp only [LInv] at hl
    · exact hl.2.2
    · exact hl.2
    · exact hl.2.2.2.1
  -- what a finished call needs
  have hrt : ∀ {time : Deadline} {s1 : State},
      (dlePast time = true → sReady s (s.fr t) i) →
      (dlePast time = false → time = none ∨ ∃ n, (s.fr t).objs[i]? = some (.note n) ∧ time = (s.obj (.note n)).expiry) →
      (u = .deq → ∀ n, (s.fr t).objs[i]? = some (.note n) → (s.fr t).why = .readyAt i → noteNotif s n) →
      rtDone s t u i time = .ok s1 → TF s1 (s1.pc t) (s1.fr t) := by
    intro time s1 h1 h2 h3 h4
    exact tf_rtDone hl htf (.inr ⟨_, rfl⟩)
      (by intro _ c' hc'; obtain ⟨n, hn⟩ := hnote; rw [hn] at hc'; cases hc') h1 h2 h3 h4
  unfold stepND at h
  split at h
  · rename_i n hoi
    have flagReady : (s.obj (.note n)).flag = true → sReady s (s.fr t) i := by
      intro hf; unfold sReady; rw [hoi]; exact .inl hf
    have flagNotif : (s.obj (.note n)).flag = true → u = .deq →
        ∀ n', (s.fr t).objs[i]? = some (.note n') → (s.fr t).why = .readyAt i → noteNotif s n' := by
      intro hf _ n' hn' _; rw [hoi] at hn'; cases hn'; exact .inl hf
    have hndn : NDF s n st0 := hnd n hoi
    have mk : ∀ {s1 : State} {b : NDst}, NDF s1 n b → NDFat s1 (s.fr t) i b := by
      intro s1 b hb n' hn'; rw [hoi] at hn'; cases hn'; exact hb
    dsimp only at h
    split at h
    · -- ld0
      split at h
      · rename_i n' obs
        split at h
        · rename_i hg
          split at h
          · rename_i hobs
            have hf := flag_of_obs hg.2 hobs
            exact hrt (fun _ => flagReady hf) (by intro hd; simp [dlePast] at hd) (flagNotif hf) h
          · nd_mv (mk trivial)
        · simp at h
      · exact tf_dflt c h
    · -- lockCall
      split at h
      · split at h
        · nd_mv (mk trivial)
        · simp at h
      · exact tf_dflt c h
    · -- lockWait
      split at h
      · split at h
        · nd_mv (mk trivial)
        · simp at h
      · exact tf_dflt c h
    · -- ld1
      split at h
      · rename_i n' obs
        split at h
        · rename_i hg
          nd_mv (mk (by intro ho; simp at ho; exact flag_of_obs hg.2 ho))
        · simp at h
      · exact tf_dflt c h
    · -- unlockCall obs
      split at h
      · split at h
        · nd_mv (mk (by intro ho; simpa using hndn ho))
        · simp at h
      · exact tf_dflt c h
    · -- unlockWait obs
      rename_i obs
      split at h
      · split at h
        · rename_i hobs
          have hf := hndn hobs
          exact hrt (fun _ => flagReady hf) (by intro hd; simp [dlePast] at hd) (flagNotif hf) h
        · split at h
          · rename_i hd
            refine hrt (fun _ => ?_) (fun h' => by rw [h'] at hd; cases hd) ?_ h
            · unfold sReady; rw [hoi]; exact .inr (expiredB_of_dlePast _ hd)
            · intro _ n' hn' _; rw [hoi] at hn'; cases hn'; exact .inr hd
          · nd_mv (mk trivial)
      · exact tf_dflt c h
    · -- now
      split at h
      · rename_i ns
        split at h
        · rename_i hns
          split at h
          · nd_mv (mk trivial)
          · rename_i hex
            subst hns
            refine hrt (fun hd => ?_) (fun _ => .inr ⟨n, hoi, rfl⟩) ?_ h
            · exact absurd (expiredB_of_dlePast _ hd) hex
            · intro hu n' hn' hw
              rw [hoi] at hn'; cases hn'
              subst hu
              simp only [TF, LInv] at htf hl
              rcases htf.2.1.why i hw with h1 | ⟨_, _, h3⟩
              · rw [List.getElem?_eq_none (by rw [hl.2.1]; exact Nat.le_refl _)] at h1; cases h1
              · unfold sReady at h3; rw [hoi] at h3
                rcases h3 with h3 | h3
                · exact .inl h3
                · exact absurd h3 hex
        · simp at h
      · exact tf_dflt c h
    · -- nfLockCall
      split at h
      · split at h
        · nd_mv (mk trivial)
        · simp at h
      · exact tf_dflt c h
    · -- nfLockWait
      split at h
      · split at h
        · nd_mv (mk trivial)
        · simp at h
      · exact tf_dflt c h
    · -- nfLd0
      split at h
      · rename_i n' obs
        split at h
        · rename_i hg
          by_cases hobs : obs ≠ 0
          · rw [if_pos hobs] at h
            nd_mv (mk (flag_of_obs hg.2 hobs))
          · rw [if_neg hobs] at h
            nd_mv (mk trivial)
        · simp at h
      · exact tf_dflt c h
    · -- nfLd1
      split at h
      · split at h
        · nd_mv (mk trivial)
        · simp at h
      · exact tf_dflt c h
    · -- nfStore
      split at h
      · split at h
        · nd_mv (mk (by simp [NDF]))
        · simp at h
      · exact tf_dflt c h
    · -- nfWake
      split at h
      · split at h
        · split at h
          · nd_mv (mk (by simpa [NDF] using hndn))
          · simp at h
        · exact tf_stepOpen c hc (by rw [hpc]; rfl) hne h
      · exact tf_stepOpen c hc (by rw [hpc]; rfl) hne h
    · -- nfUnlockCall
      split at h
      · split at h
        · nd_mv (mk (by simpa [NDF] using hndn))
        · simp at h
      · exact tf_dflt c h
    · -- nfUnlockWait
      split at h
      · have hf : (s.obj (.note n)).flag = true := hndn
        exact hrt (fun _ => flagReady hf) (by intro hd; simp [dlePast] at hd) (flagNotif hf) h
      · exact tf_dflt c h
  · simp at h

/-- own step, no claim about `waiting` -/
theorem own_stable_nw {s s' : State} {t : Tid} (c : Ctx s t) (hc : inCall (s.pc t) = true) (m : Mono s s' t) :
    Stable False s s' (s.fr t) := by
  have hk := c.own.known t hc
  exact ⟨fun o ho => m.expiry o (hk o ho), fun o ho hcv hf => m.flag o hcv (hk o ho) hf,
         fun k ho hz hf => m.zero k (hk _ ho) hz hf, m.now, fun h => h.elim⟩

theorem tf_stepEnqCv {s s' : State} {t : Tid} {i : Nat} {st0 : CvEnqSt} {e : Ev} (c : Ctx s t)
    (hpc : s.pc t = .wEnqCv i st0) (h : stepEnqCv s t i st0 e = .ok s') : TF s' (s'.pc t) (s'.fr t) := by
  have hl : LInv (.wEnqCv i st0) (s.fr t) := hpc ▸ c.linv
  have htf : TF s (.wEnqCv i st0) (s.fr t) := hpc ▸ c.tf
  have hc : inCall (s.pc t) = true := by rw [hpc]; rfl
  have st := own_stable_nw c hc (Mono.of_acts (steps_stepEnqCv hpc h).acts)
  have hw' : Waited s' (s.fr t) (s.fr t).count := waited_stable st htf
  unfold stepEnqCv at h
  split at h
  · dsimp only at h
    split at h
    · -- spin
      unfold spinAcq at h
      split_ok h
      all_goals first
        | exact tf_dflt c h
        | (cases h; simp only [setPc_pc, setPc_fr, setObj_fr, if_true]; exact hw')
    · -- store
      split_ok h
      all_goals first
        | exact tf_dflt c h
        | (cases h; simp only [setPc_pc, setPc_fr, setObj_fr, setRec_fr, if_true]; exact hw')
    · -- release
      split_ok h
      all_goals first
        | exact tf_dflt c h
        | (refine tf_afterEnq (s := s.setObj _ _) hl.1 hl.2.1 hl.2.2.2 ?_ (by simp) h
           simp only [setObj_fr]
           intro k c' hk hc'
           simpa using htf k c' hk hc')
  · simp at h

theorem not_cv_of {f : Frame} {i : Nat} (h : isNoteAt f i ∨ isCtrAt f i) : ¬ isCvAt f i := by
  rintro ⟨c, hc⟩
  rcases h with ⟨n, hn⟩ | ⟨k, hk⟩
  · rw [hn] at hc; cases hc
  · rw [hk] at hc; cases hc

set_option hygiene false in
macro "enq_mv" t:term : tactic =>
  `(tactic| (cases h; simp only [setPc_pc, setPc_fr, setObj_fr, setRec_fr, if_true]; exact ⟨hw', $t⟩))

theorem tf_stepEnq {s s' : State} {t : Tid} {i : Nat} {st0 : EnqSt} {e : Ev} (c : Ctx s t)
    (hpc : s.pc t = .wEnq i st0) (h : stepEnq s t i st0 e = .ok s') : TF s' (s'.pc t) (s'.fr t) := by
  have hl : LInv (.wEnq i st0) (s.fr t) := hpc ▸ c.linv
  have htf : TF s (.wEnq i st0) (s.fr t) := hpc ▸ c.tf
  have hc : inCall (s.pc t) = true := by rw [hpc]; rfl
  have st := own_stable_nw c hc (Mono.of_acts (steps_stepEnq hpc h).acts)
  have hw' : Waited s' (s.fr t) (s.fr t).count := waited_stable st htf.1
  have hncv : ¬ isCvAt (s.fr t) i := not_cv_of hl.2.2.1
  have hsr : sReady s (s.fr t) i → sReady s' (s.fr t) i := sReady_stable st (.inr hncv)
  unfold stepEnq at h
  split at h
  · rename_i oid r hoi _
    dsimp only at h
    split at h
    · -- lockCall
      split at h
      · split at h
        · enq_mv trivial
        · simp at h
      · exact tf_dflt c h
    · -- lockWait
      split at h
      · split at h
        · enq_mv trivial
        · simp at h
      · exact tf_dflt c h
    · -- load
      split at h
      · rename_i n n' obs
        split at h
        · rename_i hg
          cases hb : noteTimePos (s.obj (.note n)) obs with
          | true => rw [hb] at h; enq_mv trivial
          | false =>
            rw [hb] at h
            have : sReady s (s.fr t) i := by
              unfold sReady; rw [hoi]
              apply noteReady_of_notif
              unfold noteTimePos at hb
              by_cases h0 : obs = 0
              · right; simpa [h0] using hb
              · left; exact flag_of_obs hg.2 h0
            enq_mv (hsr this)
        · simp at h
      · rename_i k k' obs
        split at h
        · rename_i hg
          by_cases h0 : obs = 0
          · have : sReady s (s.fr t) i := by
              unfold sReady; rw [hoi]
              exact ⟨by rw [← hg.2]; exact h0, htf.1 i k (lt_count_of_get hoi) hoi⟩
            have hd : decide (obs ≠ 0) = false := by simp [h0]
            rw [hd] at h
            enq_mv (hsr this)
          · have hd : decide (obs ≠ 0) = true := by simp [h0]
            rw [hd] at h
            enq_mv trivial
        · simp at h
      · exact tf_dflt c h
    · -- store
      rename_i enq
      cases enq with
      | true =>
        simp only [if_true] at h
        split_ok h
        all_goals first
          | exact tf_dflt c h
          | enq_mv trivial
      | false =>
        simp only [Bool.false_eq_true, if_false] at h
        split_ok h
        all_goals first
          | exact tf_dflt c h
          | enq_mv (hsr htf.2)
    · -- unlockCall
      rename_i enq
      split at h
      · split at h
        · cases enq with
          | true => enq_mv trivial
          | false => enq_mv (hsr htf.2)
        · simp at h
      · exact tf_dflt c h
    · -- unlockWait
      rename_i enq
      split at h
      · refine tf_afterEnq hl.1 hl.2.1 hl.2.2.2 htf.1 ?_ h
        intro he; subst he; exact htf.2
      · exact tf_dflt c h
  · simp at h

/-!
### `TF` across the caller's own steps: the statements of wait.c between the waitable calls (alloc,
init, unlock, cv_ready_time, the sleep, free, relock, return, call).
-/

theorem enqNext_zero {f : Frame} (h : 0 < f.count) : enqNext f 0 true = .wInit 0 := by
  unfold enqNext; rw [if_pos ⟨rfl, h⟩]

theorem inLoop_of_unlock {f : Frame} (hp : PreLoop f) (hlen : f.recs.length = f.count) (hm : f.mu.isSome = true) :
    InLoop { f with held := false, unlocked := true, who := none } :=
  { toAlloc := { hp.toAlloc with }, frees := hp.frees, unlocked := hm.symm, held := rfl, ready := hp.ready,
    deqRes := hp.deqRes, freed := hp.freed, full := hlen,
    whyMin := by intro hmin; simp only at hmin; rw [hp.min, hp.dl] at hmin; cases hmin }

theorem tf_stepCvRT {s s' : State} {t : Tid} {j : Nat} {e : Ev} (c : Ctx s t)
    (hpc : s.pc t = .wCvRT j) (h : stepCvRT s t j e = .ok s') : TF s' (s'.pc t) (s'.fr t) := by
  have hl : LInv (.wCvRT j) (s.fr t) := hpc ▸ c.linv
  have htf : TF s (.wCvRT j) (s.fr t) := hpc ▸ c.tf
  unfold stepCvRT at h
  split at h
  · rename_i r' obs r hr
    split at h
    · rename_i hg
      obtain ⟨cv, hcv⟩ := hl.2
      refine tf_rtDone_loop hl.1 htf.1 htf.2 ?_ ?_ h
      · intro hd
        have h0 : obs = 0 := by
          by_cases h0 : obs = 0
          · exact h0
          · simp [h0, dlePast] at hd
        unfold sReady; rw [hcv]
        exact ⟨r, hr, by rw [h0] at hg; simpa using hg.2.symm⟩
      · intro hd; left
        by_cases h0 : obs = 0
        · simp [h0, dlePast] at hd
        · simp [h0]
    · simp at h
  · exact tf_dflt c h

theorem tf_cvdeq_move {s s' : State} {j : Nat} {a b : CvDeqSt} {f : Frame} (st : Stable True s s' f)
    (htf : TF s (.wDeqCv j a) f) (hn : CvDeqF s' f j b) : TF s' (.wDeqCv j b) f := by
  have := tf_stable st (.inr trivial) htf
  exact ⟨this.1, this.2.1, hn⟩

theorem tf_deq_move {s s' : State} {j : Nat} {a b : DeqSt} {f : Frame} (st : Stable True s s' f)
    (htf : TF s (.wDeq j a) f) (hn : DeqStF s' f j b) : TF s' (.wDeq j b) f := by
  have := tf_stable st (.inr trivial) htf
  exact ⟨this.1, this.2.1, hn⟩

set_option hygiene false in
macro "cvdeq_mv" t:term : tactic =>
  `(tactic| (cases h; simp only [setPc_pc, setPc_fr, setObj_fr, setRec_fr, ownerRemove_fr, if_true];
             exact tf_cvdeq_move st htf $t))

set_option hygiene false in
macro "deq_mv" t:term : tactic =>
  `(tactic| (cases h; simp only [setPc_pc, setPc_fr, setObj_fr, setRec_fr, ownerRemove_fr, if_true];
             exact tf_deq_move st htf $t))

set_option hygiene false in
macro "deq_open" : tactic =>
  `(tactic| (cases h; simp only [setPc_pc, setPc_fr, setObj_fr, setRec_fr, ownerRemove_fr, if_true];
             refine tf_deq_move st htf ?_))

theorem tf_stepDeqCv {s s' : State} {t : Tid} {j : Nat} {st0 : CvDeqSt} {e : Ev} (c : Ctx s t)
    (hpc : s.pc t = .wDeqCv j st0) (h : stepDeqCv s t j st0 e = .ok s') : TF s' (s'.pc t) (s'.fr t) := by
  have hl : LInv (.wDeqCv j st0) (s.fr t) := hpc ▸ c.linv
  have htf : TF s (.wDeqCv j st0) (s.fr t) := hpc ▸ c.tf
  have hc : inCall (s.pc t) = true := by rw [hpc]; rfl
  have hne := ne_enq_of_pc hpc (fun _ => ⟨by simp, by simp⟩)
  have st := own_stable c hc (Mono.of_acts (steps_stepDeqCv hpc h).acts) hne
  unfold stepDeqCv at h
  split at h
  · rename_i cv r hoi hri
    dsimp only at h
    split at h
    · -- spin
      unfold spinAcq at h
      split_ok h
      all_goals first
        | exact tf_dflt c h
        | cvdeq_mv trivial
    · -- load
      split at h
      · rename_i r' obs
        split at h
        · rename_i hg
          by_cases h0 : obs ≠ 0
          · rw [if_pos h0] at h
            have hnr : (s.fr t).why ≠ .readyAt j := by
              intro hw
              rcases htf.2.1.why j hw with h1 | ⟨_, _, h3⟩
              · rw [List.getElem?_eq_none (by rw [hl.2.1]; exact Nat.le_refl _)] at h1; cases h1
              · unfold sReady at h3; rw [hoi] at h3
                obtain ⟨r2, hr2, hw2⟩ := h3
                rw [hri] at hr2; cases hr2
                rw [hw2] at hg; exact h0 hg.2
            cvdeq_mv hnr
          · rw [if_neg h0] at h
            cvdeq_mv (fun _ => rfl)
        · simp at h
      · exact tf_dflt c h
    · -- store
      split at h
      · split at h
        · have hnr : (s.fr t).why ≠ .readyAt j := htf.2.2
          cases h
          simp only [setPc_pc, setPc_fr, ownerRemove_fr, if_true]
          exact tf_cvdeq_move st htf (fun hw => absurd hw hnr)
        · simp at h
      · split at h
        · cvdeq_mv trivial
        · simp at h
      · exact tf_dflt c h
    · -- release
      rename_i res
      split at h
      · split at h
        · have hsh := shared_deqDone h
          have st' := st.congr_right hsh.1.symm hsh.2.1.symm hsh.2.2.symm
          have htf' := tf_stable st' (.inr trivial) htf
          exact tf_deqDone (s := (s.setObj _ _).setRec _ _) hl.1 htf'.1 htf'.2.1 hl.2.1 hl.2.2.1 (.inr ⟨hl.2.2.2.1, htf.2.2⟩) h
        · simp at h
      · exact tf_dflt c h
    · -- wspin
      split at h
      · split at h
        · split at h
          · have hsh := shared_deqDone h
            have st' := st.congr_right hsh.1.symm hsh.2.1.symm hsh.2.2.symm
            have htf' := tf_stable st' (.inr trivial) htf
            exact tf_deqDone (s := s.setRec _ _) hl.1 htf'.1 htf'.2.1 hl.2.1 hl.2.2.1 (.inr ⟨hl.2.2.2.1, fun _ => rfl⟩) h
          · cases h; rw [hpc]; exact htf
        · simp at h
      · exact tf_dflt c h
  · simp at h

theorem tf_stepDeq {s s' : State} {t : Tid} {j : Nat} {st0 : DeqSt} {e : Ev} (c : Ctx s t)
    (hpc : s.pc t = .wDeq j st0) (h : stepDeq s t j st0 e = .ok s') : TF s' (s'.pc t) (s'.fr t) := by
  have hl : LInv (.wDeq j st0) (s.fr t) := hpc ▸ c.linv
  have htf : TF s (.wDeq j st0) (s.fr t) := hpc ▸ c.tf
  have hc : inCall (s.pc t) = true := by rw [hpc]; rfl
  have hne := ne_enq_of_pc hpc (fun _ => ⟨by simp, by simp⟩)
  have st := own_stable c hc (Mono.of_acts (steps_stepDeq hpc h).acts) hne
  have htf' := tf_stable st (.inr trivial) htf
  have hdl : (s.fr t).deqRes[j]? = none := List.getElem?_eq_none (by rw [hl.2.1]; exact Nat.le_refl _)
  unfold stepDeq at h
  split at h
  · rename_i oid r hoi _
    dsimp only at h
    split at h
    · -- lockCall
      split at h
      · split at h
        · deq_mv htf'.2.2
        · simp at h
      · exact tf_dflt c h
    · -- lockWait
      split at h
      · split at h
        · deq_mv htf'.2.2
        · simp at h
      · exact tf_dflt c h
    · -- load
      split at h
      · rename_i n n' obs
        split at h
        · rename_i hg
          cases hb : noteTimePos (s.obj (.note n)) obs with
          | true =>
            rw [hb] at h; simp only [if_true] at h
            deq_open
            refine ⟨fun hw => ?_, fun hx => by cases hx⟩
            exfalso
            have hnn := htf.2.2 n hoi hw
            unfold noteTimePos at hb
            simp only [Bool.and_eq_true, decide_eq_true_eq, Bool.not_eq_true'] at hb
            rcases hnn with hf | hd
            · rw [hf] at hg; simp [hb.1] at hg
            · rw [hd] at hb; exact Bool.noConfusion hb.2
          | false =>
            rw [hb] at h; simp only [Bool.false_eq_true, if_false] at h
            have hnn : noteNotif s n := by
              unfold noteTimePos at hb
              by_cases h0 : obs = 0
              · right; simpa [h0] using hb
              · left; exact flag_of_obs hg.2 h0
            have hsr : sReady s (s.fr t) j := by unfold sReady; rw [hoi]; exact noteReady_of_notif hnn
            deq_open
            exact ⟨fun _ => rfl, fun _ => sReady_stable st (.inl trivial) hsr⟩
        · simp at h
      · rename_i k k' obs
        split at h
        · rename_i hg
          have hres : ResF s (s.fr t) j (decide (obs ≠ 0)) := by
            refine ⟨fun hw => ?_, fun hx => ?_⟩
            · rcases htf.2.1.why j hw with h1 | ⟨_, _, h3⟩
              · rw [hdl] at h1; cases h1
              · unfold sReady at h3; rw [hoi] at h3
                simp [hg.2, h3.1]
            · have h0 : obs = 0 := by simpa using hx
              unfold sReady; rw [hoi]
              exact ⟨by rw [← hg.2]; exact h0, htf.1 j k (lt_count_of_get hoi) hoi⟩
          deq_open
          exact ⟨hres.1, fun hx => sReady_stable st (.inl trivial) (hres.2 hx)⟩
        · simp at h
      · exact tf_dflt c h
    · -- loadW
      rename_i res
      split at h
      · rename_i r' obs
        split at h
        · by_cases h0 : obs ≠ 0
          · rw [if_pos h0] at h; deq_mv htf'.2.2
          · rw [if_neg h0] at h; deq_mv htf'.2.2
        · simp at h
      · exact tf_dflt c h
    · -- store
      rename_i res
      split_ok h
      all_goals first
        | exact tf_dflt c h
        | deq_mv htf'.2.2
    · -- unlockCall
      split at h
      · split at h
        · deq_mv htf'.2.2
        · simp at h
      · exact tf_dflt c h
    · -- unlockWait
      split at h
      · exact tf_deqDone hl.1 htf.1 htf.2.1 hl.2.1 hl.2.2.1 (.inl htf.2.2) h
      · exact tf_dflt c h
  · simp at h

theorem tf_of_not_inCall {s : State} {p : PC} {f : Frame} (h : inCall p = false) : TF s p f := by
  cases p <;> simp [inCall] at h <;> trivial

theorem PostF.frees {s : State} {f : Frame} (n : Nat) (h : PostF s f) : PostF s { f with frees := n } := { h with }
theorem PostF.held {s : State} {f : Frame} (b : Bool) (h : PostF s f) : PostF s { f with held := b } := { h with }

theorem stable_shared_obj {s s1 : State} {f : Frame} (ho : s1.obj = s.obj) (hn : s1.now = s.now) :
    Stable False s s1 f :=
  ⟨fun _ _ => by rw [ho], fun _ _ _ h => by rw [ho]; exact h, fun _ _ h _ => by rw [ho]; exact h,
   by rw [hn]; exact Nat.le_refl _, fun h => h.elim⟩

/-- `TF` across the statements of wait.c between the waitable calls, by the shape of the step's `Tail` -/
theorem tf_stmt {s s' : State} {t : Tid} {e : Ev} (c : Ctx s t) (hst : stmt (s.pc t) = true)
    (hcv : ∀ j, s.pc t ≠ .wCvRT j) (h : stepThr s t e = .ok s') : TF s' (s'.pc t) (s'.fr t) := by
  obtain ⟨k, s1, a, b⟩ := steps_stepThr h
  have hl := c.linv
  have htf := c.tf
  have no : ∀ {p : PC}, s.pc t = p → stmt p = false → False := fun h1 h2 => by rw [h1, h2] at hst; cases hst
  cases b
  case same ho => rw [not_stays_of_stmt hst] at ho; cases ho
  case nested ho m => have := stays_of_driven ho; rw [not_stays_of_stmt hst] at this; cases this
  case v ho _ _ _ _ _ _ => have := stays_of_driven ho; rw [not_stays_of_stmt hst] at this; cases this
  case goto p hf => exact (no rfl hf.not_stmt).elim
  case giveUp hpc _ _ _ _ => exact (no hpc rfl).elim
  case afterEnq hat _ => generalize hq : s.pc t = q at hat; cases hat <;> exact (no hq rfl).elim
  case deqDone hpc _ => rcases hpc with hp | ⟨hp, -, -⟩ | hp <;> exact (no hp rfl).elim
  case vgoto hpc _ => exact (no hpc rfl).elim
  case call hpc _ _ _ => exact (no hpc rfl).elim
  case rtDone hs u i time hat hd =>
    generalize hq : s.pc t = q at hat
    cases hat
    · exact (no hq rfl).elim
    · exact (no hq rfl).elim
    · exact (hcv _ hq).elim
  case dflt hs hd => subst s1; exact tf_dflt c hd
  case pdEnter hs j d s2 hpc he hb =>
    subst s1
    rw [hpc] at htf
    have g := agree_bindSem (t := t) hb
    simp only [setPc_pc, setPc_fr, if_true]
    exact TF.same (keeps_bindSem (t := t) hb).2 (tf_congr (s := s) g.obj g.rcd g.now htf)
  case pdWake hs j n hpc he hs' =>
    subst s1
    rw [hpc] at htf hl
    exact tf_startScan (s := s.setSem _ _) hl.1 htf.1
      (tf_congr (p := .wPdEnter) (s := s) (s' := s.setSem _ _) rfl rfl rfl htf).2
  case alloc hs arr hpc =>
    subst s1
    rw [hpc] at htf hl
    simp only [setPc_pc, setPc_fr, setFr_fr, if_true]
    rw [enqNext_zero (by simpa [Frame.count] using hl.1.pos)]
    exact tf_congr (s := s) rfl rfl rfl htf
  case init i r oid hpc hoid hdead hrid hi hs =>
    subst hs
    rw [hpc] at htf
    simp only [setPc_pc, setPc_fr, setFr_fr, setRec_fr, if_true]
    have hw : Waited s (s.fr t) (s.fr t).count := htf
    split
    · exact fun k c' hk hc' => hw k c' hk hc'
    · exact ⟨fun k c' hk hc' => hw k c' hk hc', trivial⟩
  case unlockMu hs hpc =>
    subst s1
    rw [hpc] at htf hl
    simp only [setPc_pc, setPc_fr, setFr_fr, if_true]
    obtain ⟨hp, hlen, hm⟩ := hl
    refine tf_congr (s := s) rfl rfl rfl ?_
    apply tf_loopNext (by exact htf.1) _ (inLoop_of_unlock hp hlen hm)
    exact ⟨fun _ => hp.min, fun k hk => (by cases hk), htf.2.1, htf.2.2⟩
  case timeout hs j w hex hw hpc =>
    subst s1; subst hw
    rw [hpc] at htf hl
    simp only [setPc_pc, setPc_fr, setFr_fr, if_true]
    refine tf_congr (s := s) rfl rfl rfl ?_
    have hlf := htf.2
    have hil := hl.1
    have hd : DeqF s { s.fr t with why := match (s.fr t).who with | none => Why.timeout | some k => Why.readyAt k } := by
      refine ⟨?_, ?_, ?_⟩
      · intro hw
        cases hwho : (s.fr t).who with
        | none => rw [← hlf.whoNone hwho]; exact hex
        | some k => simp only [hwho] at hw; cases hw
      · intro k hk
        cases hwho : (s.fr t).who with
        | none => simp only [hwho] at hk; cases hk
        | some k' =>
          simp only [hwho] at hk; cases hk
          obtain ⟨n, hn, hmin⟩ := hlf.whoSome k hwho hl.2
          have hsr : sReady s (s.fr t) k := by
            unfold sReady; rw [hn]; right; rw [← hmin]; exact hex
          exact .inr ⟨by simp [hil.deqRes], by rw [hil.full]; exact lt_count_of_get hn, hsr⟩
      · intro hlt; simp only [hil.ready] at hlt; exact absurd hlt (Nat.lt_irrefl _)
    exact tf_deqNext (by exact htf.1) hd hil.len (by rw [hil.full]; exact hil.pos)
  case free hpc hs =>
    subst hs
    rw [hpc] at htf
    simp only [setPc_pc, setPc_fr, setFr_fr, kill_fr, if_true]
    exact tf_relockNext (PostF.frees _ (postF_stable (s := s) (stable_shared_obj rfl rfl) htf))
  case relock hs hpc =>
    subst s1
    rw [hpc] at htf
    simp only [setPc_pc, setPc_fr, setFr_fr, if_true]
    exact tf_congr (s := s) (p := .wRet _) rfl rfl rfl (PostF.held _ htf)
  case ret r hpc hs => subst hs; simp only [setPc_pc, if_true]; trivial

theorem tf_stepIdle {s s' : State} {t : Tid} {e : Ev} (hpc : s.pc t = .idle) (h : stepIdle s t e = .ok s') :
    TF s' (s'.pc t) (s'.fr t) := by
  unfold stepIdle at h
  split_ok h
  all_goals first
    | (have k := keeps_stepOpen (t := t) h; rw [k.1, hpc]; trivial)
    | (cases h; simp only [setPc_pc, setObj_pc, if_true, hpc]; trivial)
    | (rename_i mu dl objs nested hc
       cases h
       simp only [setPc_pc, setPc_fr, setFr_fr, if_true]
       refine tf_congr (s := s) rfl rfl rfl ?_
       apply tf_pollNext
       · exact { recs := rfl, heap := rfl, mallocs := rfl, frees := rfl, unlocked := rfl, held := rfl, why := rfl,
                 deqRes := rfl, min := rfl, freed := rfl,
                 pos := by simp only [Frame.count, Frame.new]; exact List.length_pos_iff.2 hc.2.2.1 }
       · rfl
       · intro k _ hk; exact absurd hk (Nat.not_lt_zero _))

theorem tf_stepSg {s s' : State} {t : Tid} {c0 : Nat} {bc : Bool} {st0 : SgSt} {e : Ev}
    (hpc : s.pc t = .sg c0 bc st0) (h : stepSg s t c0 bc st0 e = .ok s') : TF s' (s'.pc t) (s'.fr t) := by
  apply tf_of_not_inCall
  rw [(quiet_stepSg hpc h).inCall t, hpc]; rfl

theorem tf_stepThr {s s' : State} {t : Tid} {e : Ev} (c : Ctx s t) (h : stepThr s t e = .ok s') :
    TF s' (s'.pc t) (s'.fr t) := by
  have h0 := h
  unfold stepThr at h
  split at h <;> rename_i hpc
  · exact tf_stepIdle hpc h
  · simp at h
  · exact tf_stepSg hpc h
  · exact tf_stepCtrRT c hpc h
  · exact tf_stepND c hpc h
  · exact tf_stepEnqCv c hpc h
  · exact tf_stepEnq c hpc h
  · exact tf_stepDeqCv c hpc h
  · exact tf_stepDeq c hpc h
  case h_13 => exact tf_stepCvRT c hpc h
  all_goals exact tf_stmt c (by rw [hpc]; rfl) (by rw [hpc]; nofun) h0

theorem tf_of_reachable {s : State} (h : Reachable s) : ∀ t, TF s (s.pc t) (s.fr t) := by
  refine reachable_inv (P := fun s => ∀ t, TF s (s.pc t) (s.fr t)) (fun _ => trivial) (fun s ns ih hle t => ?_) ?_ h
  · have st : Stable True s { s with now := ns } (s.fr t) :=
      ⟨fun _ _ => rfl, fun _ _ _ h => h, fun _ _ h _ => h, hle, fun _ _ _ h => h⟩
    exact tf_stable st (.inr trivial) (ih t)
  · intro s s' u ev hr ih hs t
    have hlinv := linv_of_reachable hr
    by_cases hu : t = u
    · subst hu
      exact tf_stepThr ⟨own_of_reachable hr, hlinv t, ih t⟩ hs
    · exact tf_other hu (own_of_reachable hr) hlinv (ih t) hs

end WaitN
