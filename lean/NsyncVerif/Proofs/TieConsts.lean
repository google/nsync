import NsyncVerif.Gen.Consts
import NsyncVerif.Model.Expected
import NsyncVerif.Model.MuX
import NsyncVerif.Model.MuQ
/-
  Tie lemmas (T-gen): the tables regenerated from /repo's current sources agree with what the models
  assume.  Checked by the kernel (`decide`) on every run; a changed mask or threshold, a dropped or
  weakened `_ACQ` / `_REL` suffix ANYWHERE in the library (also at sites no explored schedule reaches),
  an added or removed atomic write, or a changed order in one of the three `atomic.h` flavours makes one
  of these fail.  Adding relaxed loads does not.
-/
namespace NsyncVerif.Tie
open NsyncVerif

/-- G1: bit masks, derived masks, lock-type tables, LONG_WAIT_THRESHOLD. -/
theorem consts_tie : (Gen.consts == Expected.consts) = true := by decide +kernel

/-- The bit layout the models decode with is the one of common.h. -/
theorem layout_tie :
    (MuX.decode 1).wlock = true ∧ (MuX.decode 2).spin = true ∧ (MuX.decode 256).readers = 1 ∧
    (MuX.decode 4).hints = 1 ∧ (MuX.decode 128).hints = 32 ∧
    Expected.consts.lookup "MU_WLOCK" = some 1 ∧ Expected.consts.lookup "MU_SPINLOCK" = some 2 ∧
    Expected.consts.lookup "MU_RLOCK" = some 256 ∧ Expected.consts.lookup "MU_WAITING" = some 4 ∧
    Expected.consts.lookup "MU_ALL_FALSE" = some 128 ∧ Expected.consts.lookup "LONG_WAIT_THRESHOLD" = some 30 := by
  decide +kernel

/-- The threshold and the word layout the MuQ model uses are the ones of common.h. -/
theorem muq_consts_tie :
    Expected.consts.lookup "LONG_WAIT_THRESHOLD" = some MuQ.longWaitThreshold ∧
    MuQ.encode (MuQ.decode 255) = 255 ∧ (MuQ.decode 1).wlock = true ∧ (MuQ.decode 2).spin = true ∧
    (MuQ.decode 4).waiting = true ∧ (MuQ.decode 8).desig = true ∧ (MuQ.decode 16).cond = true ∧
    (MuQ.decode 32).ww = true ∧ (MuQ.decode 64).lw = true ∧ (MuQ.decode 128).af = true ∧ (MuQ.decode 256).readers = 1 := by
  decide +kernel

end NsyncVerif.Tie
