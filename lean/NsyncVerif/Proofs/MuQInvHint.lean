import NsyncVerif.Proofs.MuQInvQueue
/-
  MuQ: (I_hint), first part (MU_WAITING, MU_ALL_FALSE, scan locals), is preserved by every abstract step.
  `ahint_frame` covers the steps that touch nothing the invariant reads, `ahint_of_no_unlocker` those after
  which every owner of the spinlock is inside lock_slow, `ahint_advance` the scan; `ahint_step` dispatches
  over the step relation.
-/
namespace NsyncVerif.MuQ

/-- Steps that leave waiting/af bits, spinlock owner, queue, spin/scan/fin roles and lTypes alone. -/
theorem ahint_frame {a a' : AState} (h : AHint a)
    (hw : a'.word.waiting = a.word.waiting) (haf : a'.word.af = false) (hsp : a'.sp = a.sp)
    (hq : a'.queue = a.queue)
    (hspin : ∀ u, (a'.ro u).spin = true → (a.ro u).spin = true)
    (hscan : ∀ u sc, a'.ro u = .scan sc → a.ro u = .scan sc)
    (hfin : ∀ u f, a'.ro u = .fin f → a.ro u = .fin f)
    (hlt : ∀ k, (a'.wr k).lType = (a.wr k).lType) : AHint a' := by
  obtain ⟨h1, h2, h3, h4, h5⟩ := h
  refine ⟨by rw [hsp, hw, hq]; exact h1, fun u hu => by rw [hw]; exact h2 u (hspin u hu), haf, ?_, ?_⟩
  · intro u sc hr
    obtain ⟨e1, e2, pre, e3, e4, e5⟩ := h4 u sc (hscan u sc hr)
    refine ⟨e1, e2, pre, by rw [hq]; exact e3, e4, fun hs => ?_⟩
    obtain ⟨k, hk, hl⟩ := e5 hs
    exact ⟨k, hk, by rw [hlt k]; exact hl⟩
  · intro u f hr
    obtain ⟨e1, e2, e3, e4, e5⟩ := h5 u f (hfin u f hr)
    refine ⟨e1, e2, by rw [hq]; exact e3, e4, fun hs => ?_⟩
    obtain ⟨k, hk, hl⟩ := e5 hs
    exact ⟨k, by rw [hq]; exact hk, by rw [hlt k]; exact hl⟩

/-- Giving `t` a role that does not own the spinlock creates no spin owner, scanner or finisher
    (this lemma and the next two). -/
theorem frame_spin {a : AState} {t : Tid} {r : Role} (hr : r.spin = false) (u : Tid)
    (h : (setFn a.ro t r u).spin = true) : (a.ro u).spin = true := by
  simp only [setFn] at h; split at h
  · rw [hr] at h; cases h
  · exact h

theorem frame_scan {a : AState} {t : Tid} {r : Role} (hr : r.spin = false) (u : Tid) (sc : Scan)
    (h : setFn a.ro t r u = .scan sc) : a.ro u = .scan sc := by
  simp only [setFn] at h; split at h
  · rw [h] at hr; cases hr
  · exact h

theorem frame_fin {a : AState} {t : Tid} {r : Role} (hr : r.spin = false) (u : Tid) (f : Fin)
    (h : setFn a.ro t r u = .fin f) : a.ro u = .fin f := by
  simp only [setFn] at h; split at h
  · rw [h] at hr; cases hr
  · exact h

/-- `t` is the only thread whose role may own the spinlock; after it takes a role that does not,
    nobody's does. -/
theorem no_spin_setFn {a : AState} {t : Tid} {r : Role} (hone : ∀ u, u ≠ t → (a.ro u).spin = false)
    (hr : r.spin = false) (u : Tid) : (setFn a.ro t r u).spin = false :=
  ro_setFn_cases (P := fun r => r.spin = false) u (fun _ => hr) (hone u)

/-- …and after it takes a role inside lock_slow, every owner is inside lock_slow. -/
theorem spin_setFn_slow {a : AState} {t : Tid} {c : SL} {ph : Phase}
    (hone : ∀ u, u ≠ t → (a.ro u).spin = false) (u : Tid) (hu : (setFn a.ro t (.slow c ph) u).spin = true) :
    ∃ c' ph', setFn a.ro t (.slow c ph) u = .slow c' ph' := by
  by_cases e : u = t
  · exact ⟨c, ph, by rw [e, setFn_same]⟩
  · rw [setFn_other _ _ _ _ e, hone u e] at hu; cases hu

/-- (I_hint) when every owner of the spinlock is inside lock_slow: nobody scans, nobody is at the
    final CAS, and the three clauses about the word are left. -/
theorem ahint_of_no_unlocker {a : AState} (hwq : a.sp = none → (a.word.waiting = true ↔ a.queue ≠ []))
    (hwsp : ∀ t, (a.ro t).spin = true → a.word.waiting = true) (haf : a.word.af = false)
    (hno : ∀ u, (a.ro u).spin = true → ∃ c ph, a.ro u = .slow c ph) : AHint a := by
  refine ⟨hwq, hwsp, haf, fun u sc hr => ?_, fun u f hr => ?_⟩ <;>
    (obtain ⟨c, ph, e⟩ := hno u (by rw [hr]; rfl); rw [hr] at e; cases e)

/-- The scan continues from a state satisfying the scan invariant. -/
theorem ahint_advance {X : AState} {t : Tid} {sc : Scan} (hq : AQueue X) (h : AHint X)
    (hspt : X.sp = some t) (hwt : X.word.waiting = true)
    (hother : ∀ u, u ≠ t → (X.ro u).spin = false)
    (hwk : sc.wake ≠ [] ∨ (sc.wt = none ∧ sc.todo ≠ []))
    (hpre : ∃ pre, X.queue = pre ++ sc.todo ∧ (sc.saf = true → pre = []) ∧
      (sc.sww = true → ∃ k, k ∈ pre ∧ (X.wr k).lType = .W)) :
    AHint (X.advance t sc) := by
  obtain ⟨hrem, hdone⟩ := scanGo_spec (fun k => (X.wr k).lType) sc.todo sc
  obtain ⟨pre, hqe, hsaf, hsww⟩ := hpre
  have hnospin : ∀ u r, u ≠ t → X.ro u = r → r.spin = false := fun u r hu hr => by rw [← hr]; exact hother u hu
  simp only [AState.advance]
  split
  · rename_i k sc' hg
    obtain ⟨mid, e1, e2, e3, e4, e5, e6⟩ := hrem k sc' hg
    refine ⟨(fun hn => by rw [show ({ X with queue := X.queue.erase k, ro := setFn X.ro t (.scan sc') } : AState).sp = X.sp from rfl, hspt] at hn; cases hn),
      fun _ _ => hwt, h.af, ?_, ?_⟩
    · intro u sc2 hr
      by_cases hu : u = t
      · subst hu
        rw [show ({ X with queue := X.queue.erase k, ro := setFn X.ro u (.scan sc') } : AState).ro u = setFn X.ro u (.scan sc') u from rfl,
          setFn_same] at hr
        cases hr
        refine ⟨by rw [e2]; simp, by rw [e3]; simp, pre ++ mid, ?_, ?_, ?_⟩
        · show X.queue.erase k = _
          have hnd := hq.nodup; rw [hqe, e1] at hnd ⊢; exact erase_mid hnd
        · intro hs
          by_cases hm : mid = []
          · rw [(e5 hm).2] at hs; rw [hsaf hs, hm]; rfl
          · rw [(e6 hm).2.1] at hs; cases hs
        · intro hs
          by_cases hm : mid = []
          · rw [(e5 hm).1] at hs
            obtain ⟨x, hx, hl⟩ := hsww hs
            exact ⟨x, by simp [hx], hl⟩
          · obtain ⟨x, hx, hl⟩ := (e6 hm).2.2
            exact ⟨x, by simp [hx], hl⟩
      · have hr' : X.ro u = .scan sc2 := by
          rw [show ({ X with queue := X.queue.erase k, ro := setFn X.ro t (.scan sc') } : AState).ro u = setFn X.ro t (.scan sc') u from rfl,
            setFn_other _ _ _ _ hu] at hr
          exact hr
        have := hnospin u _ hu hr'; cases this
    · intro u f hr
      by_cases hu : u = t
      · subst hu
        rw [show ({ X with queue := X.queue.erase k, ro := setFn X.ro u (.scan sc') } : AState).ro u = setFn X.ro u (.scan sc') u from rfl,
          setFn_same] at hr
        cases hr
      · have hr' : X.ro u = .fin f := by
          rw [show ({ X with queue := X.queue.erase k, ro := setFn X.ro t (.scan sc') } : AState).ro u = setFn X.ro t (.scan sc') u from rfl,
            setFn_other _ _ _ _ hu] at hr
          exact hr
        have := hnospin u _ hu hr'; cases this
  · rename_i sc' hg
    obtain ⟨mid, e1, e2, e3, e4, e5, e6, e7⟩ := hdone sc' hg
    have hwake : sc.wake ≠ [] := by
      rcases hwk with h | ⟨h1, h2⟩
      · exact h
      · exact absurd (e4 h1) h2
    refine ⟨(fun hn => by rw [show ({ X with ro := setFn X.ro t (.fin (mkFin sc' X.queue.isEmpty)) } : AState).sp = X.sp from rfl, hspt] at hn; cases hn),
      fun _ _ => hwt, h.af, ?_, ?_⟩
    · intro u sc2 hr
      by_cases hu : u = t
      · subst hu
        rw [show ({ X with ro := setFn X.ro u (.fin (mkFin sc' X.queue.isEmpty)) } : AState).ro u = setFn X.ro u _ u from rfl, setFn_same] at hr
        cases hr
      · have hr' : X.ro u = .scan sc2 := by
          rw [show ({ X with ro := setFn X.ro t (.fin (mkFin sc' X.queue.isEmpty)) } : AState).ro u = setFn X.ro t _ u from rfl,
            setFn_other _ _ _ _ hu] at hr
          exact hr
        have := hnospin u _ hu hr'; cases this
    · intro u f hr
      by_cases hu : u = t
      · subst hu
        rw [show ({ X with ro := setFn X.ro u (.fin (mkFin sc' X.queue.isEmpty)) } : AState).ro u = setFn X.ro u _ u from rfl, setFn_same] at hr
        cases hr
        refine ⟨by simp only [mkFin]; rw [e2]; exact hwake, ?_, rfl, ?_, ?_⟩
        · simp only [mkFin, e2]; cases hx : sc.wake with
          | nil => exact absurd hx hwake
          | cons _ _ => rfl
        · intro hs
          simp only [mkFin] at hs ⊢
          show X.queue.isEmpty = true
          have hm : mid = [] := by
            cases hmid : mid with
            | nil => rfl
            | cons x xs => have := (e7 (by rw [hmid]; simp)).2.1; rw [this] at hs; cases hs
          have ht : sc'.todo = [] := by
            cases htd : sc'.todo with
            | nil => rfl
            | cons x xs => have := e6 (by rw [htd]; simp); rw [this] at hs; cases hs
          have : sc.saf = true := by rw [← (e5 hm).2 ht]; exact hs
          rw [hqe, hsaf this, e1, hm, ht]; rfl
        · intro hs
          simp only [mkFin] at hs
          by_cases hm : mid = []
          · rw [(e5 hm).1] at hs
            obtain ⟨x, hx, hl⟩ := hsww hs
            exact ⟨x, by rw [hqe]; simp [hx], hl⟩
          · obtain ⟨x, hx, hl⟩ := (e7 hm).2.2
            exact ⟨x, by rw [hqe, e1]; simp [hx], hl⟩
      · have hr' : X.ro u = .fin f := by
          rw [show ({ X with ro := setFn X.ro t (.fin (mkFin sc' X.queue.isEmpty)) } : AState).ro u = setFn X.ro t _ u from rfl,
            setFn_other _ _ _ _ hu] at hr
          exact hr
        have := hnospin u _ hu hr'; cases this

theorem uncontended_false_waiting {w : Word} (h : uncontended w = false) : w.waiting = true := by
  simp only [uncontended, Bool.or_eq_false_iff] at h
  have := h.1.1.1; cases hx : w.waiting <;> simp_all

theorem ahint_step {cfg : Cfg} {a a' : AState} (hs : ASpin a) (hq : AQueue a) (h : AHint a)
    (st : AStep cfg a a') : AHint a' := by
  cases st with
  | acqFresh t l hro hts hb =>
    refine ahint_frame h ?_ ?_ (by simp) (by simp) (fun u hu => by simpa using hu)
      (fun u sc hr => by simpa using hr) (fun u f hr => by simpa using hr) (fun k => by simp)
    · cases l <;> simp [acqWord]
    · cases l <;> simp [acqWord, h.af]
  | enterSlow t l hro hts =>
    exact ahint_frame h rfl h.af rfl rfl (frame_spin rfl) (frame_scan rfl) (frame_fin rfl) (fun _ => rfl)
  | acqSlow t c hro hts hb =>
    refine ahint_frame h ?_ ?_ (by simp) (by simp) (fun u hu => frame_spin (r := .quiet) rfl u (by simpa using hu))
      (fun u sc hr => frame_scan (r := .quiet) rfl u sc (by simpa using hr))
      (fun u f hr => frame_fin (r := .quiet) rfl u f (by simpa using hr)) ?_
    · cases c.l <;> simp [acqWord]
    · cases c.l <;> simp [acqWord, h.af]
    · intro k; simp only [AState.addShare_wr]; exact (AState.dropW_wr _ c.w k).2.1
  | enq t c hro hsp hb =>
    exact ahint_of_no_unlocker (fun hn => nomatch hn) (fun _ _ => rfl) rfl
      (spin_setFn_slow fun u _ => hs.no_spin_of_free hsp u)
  | adopt t c k hro hw hkq ho hwt =>
    have hsp : (a.ro t).spin = true := by rw [hro]; rfl
    exact ahint_of_no_unlocker (fun hn => nomatch ((hs.own t).2 hsp).symm.trans hn) (fun _ _ => h.wsp t hsp) h.af
      (spin_setFn_slow (hs.others hsp))
  | requeue t c k hro hw hkq =>
    have hsp : (a.ro t).spin = true := by rw [hro]; rfl
    exact ahint_of_no_unlocker (fun hn => nomatch ((hs.own t).2 hsp).symm.trans hn) (fun _ _ => h.wsp t hsp) h.af
      (spin_setFn_slow (hs.others hsp))
  | relSpin t c hro =>
    have hsp : (a.ro t).spin = true := by rw [hro]; rfl
    obtain ⟨k, _, hk⟩ := hq.relq t c hro
    exact ahint_of_no_unlocker (fun _ => ⟨fun _ => List.ne_nil_of_mem hk, fun _ => h.wsp t hsp⟩)
      (fun _ _ => h.wsp t hsp) h.af (spin_setFn_slow (hs.others hsp))
  | loopWait t c k hro hw hwt =>
    exact ahint_frame h rfl h.af rfl rfl (frame_spin rfl) (frame_scan rfl) (frame_fin rfl) (fun _ => rfl)
  | loopWoken t c k hro hw hwt =>
    exact ahint_frame h rfl h.af rfl rfl (frame_spin rfl) (frame_scan rfl) (frame_fin rfl) (fun _ => rfl)
  | pRet t c k hro hw hsem =>
    exact ahint_frame h rfl h.af rfl rfl (frame_spin rfl) (frame_scan rfl) (frame_fin rfl)
      (fun k' => setFn_field WRec.lType k')
  | release t l hro hts hsh hc =>
    refine ahint_frame h ?_ ?_ (by simp) (by simp) (fun u hu => by simpa using hu)
      (fun u sc hr => by simpa using hr) (fun u f hr => by simpa using hr) (fun k => by simp)
    · cases l <;> simp [relUncWord]
    · cases l <;> simp [relUncWord, h.af]
  | grab t l hro hts hsh hu hsp =>
    have hwt := uncontended_false_waiting hu
    have hspn : a.sp = none := by
      cases hx : a.sp with
      | none => rfl
      | some u => have := hs.bit; rw [hx, hsp] at this; cases this
    have hne : a.queue ≠ [] := (h.wq hspn).1 hwt
    have hX : AHint (({ a with word := grabWord l a.word, sp := some t } : AState).subShare t l) := by
      refine ahint_of_no_unlocker (fun hn => by simp at hn) (fun _ _ => ?_) ?_
        (fun u hu => by rw [AState.subShare_ro] at hu; exact nomatch (hs.no_spin_of_free hsp u).symm.trans hu)
      · simp [grabWord]; cases l <;> simpa [subWord] using hwt
      · simp [grabWord]; cases l <;> simpa [subWord] using h.af
    have hXq : AQueue (({ a with word := grabWord l a.word, sp := some t } : AState).subShare t l) :=
      hq.of_eq (by simp) (by simp) (by simp)
    refine ahint_advance hXq hX (by simp) ?_ (fun u _ => by simp only [AState.subShare_ro]; exact hs.no_spin_of_free hsp u)
      (Or.inr ⟨rfl, by simpa [scan0] using hne⟩) ⟨[], by simp [scan0], fun _ => rfl, fun hs => by cases hs⟩
    simp [grabWord]; cases l <;> simpa [subWord] using hwt
  | rcDone t sc hro =>
    have hsp : (a.ro t).spin = true := by rw [hro]; rfl
    obtain ⟨e1, -, pre, e3, e4, e5⟩ := h.scanq t sc hro
    refine ahint_advance hq h ((hs.own t).2 hsp) (h.wsp t hsp) ?_ (Or.inl e1) ⟨pre, e3, e4, e5⟩
    exact hs.others hsp
  | finish t f hro =>
    have hsp : (a.ro t).spin = true := by rw [hro]; rfl
    have hnone := no_spin_setFn (hs.others hsp) (roleAfter_spin f.wake)
    obtain ⟨e1, e2, e3, e4, e5⟩ := h.finq t f hro
    refine ahint_of_no_unlocker (fun _ => ?_) (fun u hu => nomatch (hnone u).symm.trans hu) ?_
      (fun u hu => nomatch (hnone u).symm.trans hu)
    · show (finWord f a.word).waiting = true ↔ a.queue ≠ []
      simp only [finWord, h.wsp t hsp, e3, Bool.true_and, Bool.not_eq_true', ne_eq]
      cases hx : a.queue <;> simp
    · show (finWord f a.word).af = false
      simp only [finWord, h.af, Bool.false_or]
      cases hsaf : f.saf with
      | false => simp
      | true => simp [e4 hsaf]
  | wakeStore t k r hro =>
    exact ahint_frame h rfl h.af rfl rfl (frame_spin rfl) (frame_scan rfl) (frame_fin rfl)
      (fun k' => setFn_field WRec.lType k')
  | post t k r hro =>
    exact ahint_frame h rfl h.af rfl rfl (frame_spin (roleAfter_spin r)) (frame_scan (roleAfter_spin r))
      (frame_fin (roleAfter_spin r)) (fun k' => (semPost_fields cfg _ k k').2.2)
  | envV k =>
    exact ahint_frame h rfl h.af rfl rfl (fun _ hu => hu) (fun _ _ hr => hr) (fun _ _ hr => hr)
      (fun k' => (semPost_fields cfg _ k k').2.2)
  | envSem k n ho =>
    exact ahint_frame h rfl h.af rfl rfl (fun _ hu => hu) (fun _ _ hr => hr) (fun _ _ hr => hr)
      (fun k' => setFn_field WRec.lType k')

theorem ahint_init : AHint (abs init) := by
  refine ⟨?_, ?_, ?_, ?_, ?_⟩ <;> simp [abs, init, role, Role.spin, Word.zero]

end NsyncVerif.MuQ
