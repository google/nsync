import NsyncVerif.Proofs.MuCFairExec
import NsyncVerif.Proofs.MuCFairOwn
/-
  MuC, fair termination: under weak fairness a thread that is awake in a class of times in which its own steps lower
  a rank reaches the goal its steps lead to (`fair_reach`: `Sched.leads`, with weak fairness for the moves).  The
  obligation is a fact about one step of the thread (Proofs/MuCFairOwn.lean).  The straight-line regions under weak
  fairness alone (nsync_mu_trylock, the return points, the wake-up loop of unlock_slow, nsync_mu_wait with a NULL
  condition); the spinlock regions against a word nobody else changes and without failing `remove_count` CAS.
-/
namespace NsyncVerif.MuC

variable {cfg : Cfg} {s0 : State}

/-- Thread `t` takes a step of the library at time `j`. -/
def RMoves (x : Exec cfg s0) (t : Tid) (j : Nat) : Prop := ∃ e, x.σ j = some e ∧ e.tid = some t ∧ e.isData = false

theorem not_rmoves_frame (x : Exec cfg s0) {t : Tid} {j : Nat} (h : ¬ RMoves x t j) :
    (x.ρ (j + 1)).pc t = (x.ρ j).pc t :=
  x.next_rel (r := fun a b => b.pc t = a.pc t) j rfl fun e he hs => by
    by_cases ht : e.tid = some t
    · cases hd : e.isData with
      | true => rw [(data_step_frame hs hd).1]
      | false => exact absurd ⟨e, he, ht, hd⟩ h
    · exact (step_other hs t ht).1

theorem rframe_between (x : Exec cfg s0) {t : Tid} {i j : Nat} (hij : i ≤ j)
    (h : ∀ j', i ≤ j' → j' < j → ¬ RMoves x t j') : (x.ρ j).pc t = (x.ρ i).pc t :=
  Sched.const_between (M := RMoves x t) (f := fun j => (x.ρ j).pc t) (fun _ hm => not_rmoves_frame x hm) hij h

/-- Weak fairness: a thread at a program point that is neither idle nor a sleep point takes a step of the library;
    until then it stays where it is. -/
theorem fair_rmove (x : Exec cfg s0) (hf : WeakFair x) {t : Tid} {i : Nat}
    (h1 : (x.ρ i).pc t ≠ .idle) (h2 : ∀ c, (x.ρ i).pc t ≠ .lsPRet c) (h3 : ∀ c dl, (x.ρ i).pc t ≠ .mwPdRet c dl) :
    ∃ j, i ≤ j ∧ RMoves x t j ∧ (x.ρ j).pc t = (x.ρ i).pc t := by
  have hex : ∃ j, i ≤ j ∧ RMoves x t j :=
    Sched.moves_of_fair (M := RMoves x t) (fun h => let ⟨j, e, hj, he, ht, hd⟩ := hf t i h; ⟨j, hj, e, he, ht, hd⟩)
      (fun j hj hnm => by
        have hpc := rframe_between x hj hnm
        rw [hpc]
        refine ⟨h1, ?_⟩
        rintro (⟨c, k, a, _⟩ | ⟨c, k, dl, a, _⟩)
        · rw [hpc] at a; exact h2 c a
        · rw [hpc] at a; exact h3 c dl a)
  obtain ⟨j, a, b, c⟩ := Sched.first_at hex
  exact ⟨j, a, b, rframe_between x a c⟩

/-- Neither idle nor a sleep point: there weak fairness makes the thread move. -/
def awake : PC → Bool
  | .idle | .lsPRet _ | .mwPdRet _ _ => false
  | _ => true

theorem awake_ne {p : PC} (h : awake p = true) : p ≠ .idle ∧ (∀ c, p ≠ .lsPRet c) ∧ (∀ c dl, p ≠ .mwPdRet c dl) := by
  cases p <;> first | (cases h; done) | simp

/-- Leads-to under weak fairness.  In the class `R` of times thread `t` is neither idle nor at a sleep point; steps of
    the others keep `R` and do not raise the rank; a step of `t` reaches the goal `G`, or keeps `R` and lowers the
    rank.  Then `G` is reached. -/
theorem fair_reach (x : Exec cfg s0) (hf : WeakFair x) (t : Tid) (R G : Nat → Prop) (rk : Nat → Nat)
    (hR : ∀ j, R j → (x.ρ j).pc t ≠ .idle ∧ (∀ c, (x.ρ j).pc t ≠ .lsPRet c) ∧ (∀ c dl, (x.ρ j).pc t ≠ .mwPdRet c dl))
    (hstay : ∀ j, R j → ¬ RMoves x t j → R (j + 1) ∧ rk (j + 1) ≤ rk j)
    (hmove : ∀ j e, R j → x.σ j = some e → e.tid = some t → e.isData = false →
      G (j + 1) ∨ (R (j + 1) ∧ rk (j + 1) < rk j)) :
    ∀ i, R i → ∃ j, i ≤ j ∧ G j :=
  Sched.leads (M := RMoves x t) R G rk (fun j hj hm => .inr (hstay j hj hm))
    (fun j hj ⟨e, he, ht, hd⟩ => hmove j e hj he ht hd)
    (fun j hj => by
      obtain ⟨a, b, c⟩ := hR j hj
      obtain ⟨j', h1, h2, _⟩ := fair_rmove x hf a b c
      exact ⟨j', h1, h2⟩)

/-- The same for a region `C` of program points with a rank on program points: the obligation speaks of one step. -/
theorem fair_reach_pc (x : Exec cfg s0) (hf : WeakFair x) (t : Tid) (C Q : PC → Prop) (rk : PC → Nat)
    (hC : ∀ p, C p → awake p = true)
    (hstep : ∀ {s e s'}, step cfg s e = .ok s' → e.tid = some t → e.isData = false → C (s.pc t) →
      Q (s'.pc t) ∨ (C (s'.pc t) ∧ rk (s'.pc t) < rk (s.pc t))) :
    ∀ i, C ((x.ρ i).pc t) → ∃ j, i ≤ j ∧ Q ((x.ρ j).pc t) :=
  fair_reach x hf t (fun j => C ((x.ρ j).pc t)) (fun j => Q ((x.ρ j).pc t)) (fun j => rk ((x.ρ j).pc t))
    (fun _ hj => awake_ne (hC _ hj)) (fun j hj hm => by rw [not_rmoves_frame x hm]; exact ⟨hj, Nat.le_refl _⟩)
    (fun j e hj he ht hd => hstep (x.next_some he) ht hd hj)

/-- A region `C` of program points without idle and sleep points, with a rank that every step of the thread that
    stays inside the region decreases: the thread leaves the region, by a step of its own. -/
theorem fair_exit (x : Exec cfg s0) (hf : WeakFair x) (t : Tid) (C : PC → Prop) (rk : PC → Nat)
    (hC : ∀ p, C p → p ≠ .idle ∧ (∀ c, p ≠ .lsPRet c) ∧ (∀ c dl, p ≠ .mwPdRet c dl))
    (hstep : ∀ j, RMoves x t j → C ((x.ρ j).pc t) → C ((x.ρ (j + 1)).pc t) →
      rk ((x.ρ (j + 1)).pc t) < rk ((x.ρ j).pc t)) :
    ∀ n i, rk ((x.ρ i).pc t) ≤ n → C ((x.ρ i).pc t) →
      ∃ j, i ≤ j ∧ C ((x.ρ j).pc t) ∧ RMoves x t j ∧ ¬ C ((x.ρ (j + 1)).pc t) := by
  intro _ i _ hc
  obtain ⟨_, _, j, rfl, h⟩ := fair_reach x hf t (fun j => i ≤ j ∧ C ((x.ρ j).pc t))
    (fun j' => ∃ j, j' = j + 1 ∧ i ≤ j ∧ C ((x.ρ j).pc t) ∧ RMoves x t j ∧ ¬ C ((x.ρ (j + 1)).pc t))
    (fun j => rk ((x.ρ j).pc t)) (fun _ hj => hC _ hj.2)
    (fun j hj hm => by rw [not_rmoves_frame x hm]; exact ⟨⟨by omega, hj.2⟩, Nat.le_refl _⟩)
    (fun j e hj he ht hd => (Classical.em (C ((x.ρ (j + 1)).pc t))).elim
      (fun h => .inr ⟨⟨by omega, h⟩, hstep j ⟨e, he, ht, hd⟩ hj.2 h⟩)
      (fun h => .inl ⟨j, rfl, hj.1, hj.2, ⟨e, he, ht, hd⟩, h⟩)) i ⟨Nat.le_refl _, hc⟩
  exact ⟨j, h⟩

/-! ### weak fairness alone -/

theorem retPc_awake {p : PC} (h : retPc p) : awake p = true := by cases p <;> first | (cases h; done) | rfl
theorem tryPc_awake {p : PC} (h : tryPc p) : awake p = true := by cases p <;> first | (cases h; done) | rfl
theorem wakePc_awake {r : Ret} {p : PC} (h : wakePc r p) : awake p = true := by cases p <;> first | (cases h; done) | rfl

theorem fair_ret (x : Exec cfg s0) (hf : WeakFair x) (t : Tid) (i : Nat) (h : retPc ((x.ρ i).pc t)) :
    ∃ j, i ≤ j ∧ (x.ρ j).pc t = .idle :=
  fair_reach_pc x hf t retPc (· = .idle) (fun _ => 0) (fun _ => retPc_awake)
    (fun hs ht hd hp => .inl (own_ret hs ht hd hp)) i h

/-- nsync_mu_trylock / nsync_mu_rtrylock are wait-free: under weak fairness alone the call returns. -/
theorem fair_trylock (x : Exec cfg s0) (hf : WeakFair x) (t : Tid) (i : Nat) (h : tryPc ((x.ρ i).pc t)) :
    ∃ j, i ≤ j ∧ (x.ρ j).pc t = .idle :=
  fair_reach_pc x hf t tryPc (· = .idle) tryRk (fun _ => tryPc_awake)
    (fun hs ht hd hc => own_try hs ht hd hc) i h

/-- After the final CAS of unlock_slow the thread clears `waiting` of and posts every waiter on its wake list, and
    comes back to its caller (the return point of nsync_mu_unlock / runlock / unlock_without_wakeup, or the wait loop
    of nsync_mu_wait_with_deadline): under weak fairness alone. -/
theorem fair_wakes (x : Exec cfg s0) (hf : WeakFair x) (t : Tid) (r : Ret) (i : Nat) (h : wakePc r ((x.ρ i).pc t)) :
    ∃ j, i ≤ j ∧ (x.ρ j).pc t = r.pc :=
  fair_reach_pc x hf t (wakePc r) (· = r.pc) wakeRk (fun _ => wakePc_awake)
    (fun hs ht hd hc => own_wake hs ht hd hc) i h

/-- … in particular a thread inside nsync_mu_unlock / nsync_mu_runlock / nsync_mu_unlock_without_wakeup that is past
    the final CAS of unlock_slow returns. -/
theorem fair_past_release (x : Exec cfg s0) (hf : WeakFair x) (t : Tid) (l : Mode) (nw : Bool) (i : Nat)
    (h : wakePc (.ul l nw) ((x.ρ i).pc t)) : ∃ j, i ≤ j ∧ (x.ρ j).pc t = .idle := by
  obtain ⟨j, hij, hp⟩ := fair_wakes x hf t (.ul l nw) i h
  obtain ⟨j2, h2, hp2⟩ := fair_ret x hf t j (by rw [hp]; simp [Ret.pc, retPc])
  exact ⟨j2, by omega, hp2⟩

/-- nsync_mu_wait_with_deadline with a NULL condition returns at once (mu_wait.c:182): under weak fairness alone. -/
theorem fair_wait_null (x : Exec cfg s0) (hf : WeakFair x) (t : Tid) (c : MW) (i : Nat)
    (h : (x.ρ i).pc t = .mwLd0 c) (hc : c.cond = none) : ∃ j, i ≤ j ∧ (x.ρ j).pc t = .idle := by
  obtain ⟨j, hij, ⟨e, he, ht, hd⟩, hp⟩ := fair_rmove x hf (t := t) (i := i) (by rw [h]; simp) (by rw [h]; simp) (by rw [h]; simp)
  obtain ⟨c', hc'⟩ := own_mwLd0 (x.next_some he) ht hd (hp.trans h) hc
  obtain ⟨j2, h2, hp2⟩ := fair_ret x hf t (j + 1) (by rw [hc']; simp [retPc])
  exact ⟨j2, by omega, hp2⟩

/-! ### the spinlock regions -/

/-- Step C.  Thread `u` is in a spinlock region outside the scan loop of unlock_slow (queue insertion and
    mu_release_spinlock of lock_slow; release loop of nsync_mu_wait; removal after a timeout; the release before
    conditions are tested and the final CAS of unlock_slow).  If from now on nobody else changes the word and no CAS on a
    `remove_count` fails, `u` leaves the region — in at most 6 own steps (one stale CAS, one re-load, one CAS; 7 for the
    removal after a timeout), which weak fairness gives it. -/
theorem spin_region_exit (x : Exec cfg s0) (hf : WeakFair x) (hr : Reachable cfg s0) (u : Tid) (i : Nat)
    (hin : ((x.ρ i).pc u).spinS = true)
    (hquiet : ∀ j, i ≤ j → ¬ RMoves x u j → (x.ρ (j + 1)).word = (x.ρ j).word)
    (hrc : ∀ j e, i ≤ j → x.σ j = some e → e.rcFail = false) :
    ∃ j, i ≤ j ∧ ((x.ρ j).pc u).spinS = true ∧ RMoves x u j ∧ ((x.ρ (j + 1)).pc u).spinS = false := by
  obtain ⟨_, _, j, rfl, h⟩ := fair_reach x hf u (fun j => i ≤ j ∧ ((x.ρ j).pc u).spinS = true)
    (fun j' => ∃ j, j' = j + 1 ∧ i ≤ j ∧ ((x.ρ j).pc u).spinS = true ∧ RMoves x u j ∧ ((x.ρ (j + 1)).pc u).spinS = false)
    (fun j => spinRk ((x.ρ j).pc u) (staleB (x.ρ j) ((x.ρ j).pc u)))
    (fun j hj => awake_ne (by cases hp : (x.ρ j).pc u <;> simp [PC.spinS, hp] at hj <;> rfl))
    (fun j hj hnm => by
      have hpc := not_rmoves_frame x hnm
      refine ⟨⟨by omega, by rw [hpc]; exact hj.2⟩, ?_⟩
      rw [hpc]; unfold staleB; rw [hquiet j hj.1 hnm]; exact Nat.le_refl _)
    (fun j e hj he ht hd => by
      rcases own_spinS (reachable_inv3 (x.reach hr j)) (x.next_some he) ht hd hj.2 with a | ⟨a, b | b⟩
      · exact .inl ⟨j, rfl, hj.1, hj.2, ⟨e, he, ht, hd⟩, not_spinS_of_not_spin a⟩
      · rw [hrc j e hj.1 he] at b; cases b
      · exact .inr ⟨⟨by omega, a⟩, b⟩) i ⟨Nat.le_refl _, hin⟩
  exact ⟨j, h⟩

/-- Step C, the scan loop.  A thread in the scan loop of unlock_slow with `testing_conditions` off reaches the final
    load of unlock_slow (`usFinLd`) — at most `2·(|mu->waiters| + |new_waiters|) + 1` own steps —, provided no CAS on a
    `remove_count` fails.  No hypothesis on the word: the loop does not touch it, and nobody else touches mu->waiters
    (`queue_frame`). -/
theorem scan_loop_exit (x : Exec cfg s0) (hf : WeakFair x) (hr : Reachable cfg s0) (u : Tid) (i : Nat)
    (hin : ((x.ρ i).pc u).scanLoop = true)
    (hrc : ∀ j e, i ≤ j → x.σ j = some e → e.rcFail = false) :
    ∃ j, i ≤ j ∧ ((x.ρ j).pc u).scanLoop = true ∧ RMoves x u j ∧ ∃ r f, (x.ρ (j + 1)).pc u = .usFinLd r f := by
  obtain ⟨_, _, j, rfl, h⟩ := fair_reach x hf u (fun j => i ≤ j ∧ ((x.ρ j).pc u).scanLoop = true)
    (fun j' => ∃ j, j' = j + 1 ∧ i ≤ j ∧ ((x.ρ j).pc u).scanLoop = true ∧ RMoves x u j ∧ ∃ r f, (x.ρ (j + 1)).pc u = .usFinLd r f)
    (fun j => loopRk (x.ρ j) ((x.ρ j).pc u))
    (fun j hj => awake_ne (by cases hp : (x.ρ j).pc u <;> simp [PC.scanLoop, hp] at hj <;> rfl))
    (fun j hj hnm => by
      have hpc := not_rmoves_frame x hnm
      have h3 := reachable_inv3 (x.reach hr j)
      have hq : (x.ρ (j + 1)).queue = (x.ρ j).queue := x.next_rel (r := fun a b => b.queue = a.queue) j rfl (fun e he hs => by
        by_cases ht : e.tid = some u
        · cases hd : e.isData with
          | true => rcases data_step_eff hs hd with ⟨_, _, _, _, h⟩ | h <;> rw [h]
          | false => exact absurd ⟨e, he, ht, hd⟩ hnm
        · exact queue_frame (reachable_inv1 (x.reach hr j)) h3 ((h3.own u).2 (scanLoop_spin hj.2)) hs ht)
      refine ⟨⟨by omega, by rw [hpc]; exact hj.2⟩, ?_⟩
      rw [hpc]
      cases hp : (x.ρ j).pc u <;> simp [loopRk, scanMu, hq])
    (fun j e hj he ht hd => by
      rcases own_scanLoop (x.next_some he) ht hd hj.2 with a | ⟨a, b | b⟩
      · exact .inl ⟨j, rfl, hj.1, hj.2, ⟨e, he, ht, hd⟩, a⟩
      · rw [hrc j e hj.1 he] at b; cases b
      · exact .inr ⟨⟨by omega, a⟩, b⟩) i ⟨Nat.le_refl _, hin⟩
  exact ⟨j, h⟩

/-- STEP C, all regions: the owner of MU_SPINLOCK, facing a word nobody else changes and no failing `remove_count` CAS,
    gives the spinlock up. -/
theorem spinlock_released (x : Exec cfg s0) (hf : WeakFair x) (hr : Reachable cfg s0) (u : Tid) (i : Nat)
    (hin : (x.ρ i).sp = some u)
    (hquiet : ∀ j, i ≤ j → ¬ RMoves x u j → (x.ρ (j + 1)).word = (x.ρ j).word)
    (hrc : ∀ j e, i ≤ j → x.σ j = some e → e.rcFail = false) :
    ∃ j, i ≤ j ∧ (x.ρ j).sp ≠ some u := by
  have own : ∀ j, (x.ρ j).sp = some u ↔ ((x.ρ j).pc u).spin = true := fun j => (reachable_inv3 (x.reach hr j)).own u
  have fromS : ∀ i', i ≤ i' → ((x.ρ i').pc u).spinS = true → ∃ j, i ≤ j ∧ (x.ρ j).sp ≠ some u := by
    intro i' hi' hS
    obtain ⟨j, hj, hinj, ⟨e, he, ht, hd⟩, hout⟩ := spin_region_exit x hf hr u i' hS (fun j hj => hquiet j (by omega))
      (fun j e hj => hrc j e (by omega))
    have hns := own_spinS_exit (reachable_inv3 (x.reach hr j)) (x.next_some he) ht hd hinj hout
    refine ⟨j + 1, by omega, fun hsp => ?_⟩
    rw [(own _).1 hsp] at hns; cases hns
  rcases spin_cases ((own i).1 hin) with a | a
  · exact fromS i (Nat.le_refl _) a
  · obtain ⟨j, hj, _, _, r, f, hp⟩ := scan_loop_exit x hf hr u i a hrc
    exact fromS (j + 1) (by omega) (by rw [hp]; rfl)

end NsyncVerif.MuC
