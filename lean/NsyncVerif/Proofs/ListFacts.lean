/-
  Facts about lists that several layers use.
-/

namespace NsyncVerif

theorem filter_not_contains_self {α : Type} [BEq α] [LawfulBEq α] (l : List α) :
    l.filter (fun r => !(l.contains r)) = [] := by
  rw [List.filter_eq_nil_iff]
  intro a ha
  simp [ha]

end NsyncVerif
