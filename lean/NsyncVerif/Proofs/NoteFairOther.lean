/-
  Layer `Note`, fair termination: what the steps of the OTHER threads leave alone: the number of waiters
  still to wake of a note whose mutex a thread holds (`held_waiters`), the `posted` counter of a record in use.
-/
import NsyncVerif.Proofs.NoteFairOwn


namespace Note

/-- A step of another thread leaves the number of waiters still to wake alone. -/
theorem other_step_mn {s s' : State} {e : Event} (hK : LockInv s) (hs : step s e = .ok s')
    {t : Tid} (ha : e.actor ≠ some t) : mn s' (s.pc t) = mn s (s.pc t) := by
  cases h : s.pc t with
  | chd pos stk top =>
    cases stk with
    | nil => cases pos <;> rfl
    | cons f rest =>
      have hh : f.note ∈ (s.pc t).held ∨ mn s' (.chd pos (f :: rest) top) = 0 ∧
          mn s (.chd pos (f :: rest) top) = 0 := by
        cases pos with
        | wake r => left; rw [h]; simp [PC.held]
        | semV r => left; rw [h]; simp [PC.held]
        | _ => right; exact ⟨rfl, rfl⟩
      rcases hh with hh | ⟨h1, h2⟩
      · have hw := held_waiters hK hs ha hh
        cases pos <;> simp [mn, hw]
      · rw [h1, h2]
  | _ => rfl

/-- The `posted` counter of a record in use never decreases. -/
theorem step_posted {s s' : State} {e : Event} (hs : step s e = .ok s') {r : Rid}
    (hu : (s.recs r).used = true) : (s.recs r).posted ≤ (s'.recs r).posted := by
  rcases step_recs hs r with ⟨h, _⟩ | ⟨_, _, _, _, _, _, h, _⟩ | ⟨_, _, _, _, _, _, _, h⟩ |
    ⟨_, _, _, _, _, h0, _⟩ | ⟨_, _, _, _, _, _, h, _⟩ | ⟨_, _, _, _, _, h, _⟩ |
    ⟨_, _, _, _, _, _, _, h, _⟩
  all_goals (first | (rw [h0] at hu; cases hu) | (rw [h]; simp))

/-- After a step of thread `u` a mutex that `u` held is still held by `u`, or free. -/
theorem step_lock_actor {s s' : State} {e : Event} (hK : LockInv s) (hs : step s e = .ok s')
    {u : Tid} {m : NoteId} (hh : (s.notes m).lockHolder = some u) :
    (s'.notes m).lockHolder = some u ∨ (s'.notes m).lockHolder = none := by
  cases h : (s'.notes m).lockHolder with
  | none => right; rfl
  | some v =>
    left
    by_cases hv : v = u
    · rw [hv]
    · exfalso
      by_cases ha : e.actor = some v
      · -- `v` acted: then `u` did not, and `u` still holds `m`
        have hu : e.actor ≠ some u := by rw [ha]; intro h'; exact hv (Option.some.inj h')
        have := (step_lock_other hK hs u hu m).mpr hh
        rw [h] at this
        exact hv (Option.some.inj this)
      · have := (step_lock_other hK hs v ha m).mp h
        rw [hh] at this
        exact hv (Option.some.inj this).symm

end Note
