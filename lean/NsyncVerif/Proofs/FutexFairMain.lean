/-
  Futex layer (C12), fair termination: a post arrives, and the four "eventually returns" facts.

  `waiter_returns_of_word`  a waiter with the word positive returns            (rank `rkW`)
  `post_arrives`            a V that has started makes the word positive         (rank `rk0`)
  `waiter_returns`          a waiter for which a matching post exists returns
  `poster_returns`          a V returns if only finitely many posts are made      (rank `rkV`)
  `timed_waiter_returns`    P_with_deadline returns once the deadline has passed, if spurious
                            wake-ups / EINTRs are finite                          (rank `rkT`)
-/
import NsyncVerif.Proofs.FutexFairLive

namespace NsyncVerif.Futex


variable {s0 : State}

theorem waiter_ne_idle {p : PC} (h : p.isWaiter = true) : p ≠ .idle := by
  intro h'; rw [h'] at h; cases h

theorem poster_ne_idle {p : PC} (h : p.isPoster = true) : p ≠ .idle := by
  intro h'; rw [h'] at h; cases h

/-- A waiter that is not queued in the kernel moves by weak fairness; for one that is, a move has to
    be shown from the kernel's record of it. -/
theorem waiter_moves (x : Exec s0) (hr : Reachable s0) (hf : WeakFair x) {o : Tid} {j : Nat}
    (hw : ((x.ρ j).pc o).isWaiter = true)
    (hq : ∀ k si, (x.ρ j).pc o = .wSleep k → (x.ρ j).sleeper = some si → ∃ j', j ≤ j' ∧ Moves x o j') :
    ∃ j', j ≤ j' ∧ Moves x o j' := by
  cases hk : inKernel (x.ρ j) o with
  | false => exact fair_move_awake x hr hf (waiter_ne_idle hw) hk
  | true =>
    unfold inKernel at hk
    split at hk
    · next k hpc =>
      obtain ⟨si, hsi⟩ := Option.isSome_iff_exists.1 hk
      exact hq k si hpc hsi
    · cases hk

theorem waiter_live (x : Exec s0) (hr : Reachable s0) (hf : WeakFair x) (kf : KernelFair x)
    {o : Tid} {j : Nat} (hg : GoodW (x.ρ j) o) : ∃ j', j ≤ j' ∧ Moves x o j' :=
  waiter_moves x hr hf hg.1 fun k si hpc hsi => by
    cases hwk : si.woken with
    | true => exact fair_move_due x hr kf (kernelDue_of hpc hsi (Or.inl hwk))
    | false =>
      have hasl : (x.ρ j).asleep := by simp [State.asleep, asleepInfo, hsi, hwk]
      have hpos : 0 < (x.ρ j).word := by
        rcases hg.2 with ⟨k', b, h⟩ | h
        · rw [hpc] at h; cases h
        · exact h
      rcases (x.reach hr j).inv.noLost hasl with h0 | ⟨p, hp⟩
      · omega
      · exact fair_move_posted x hr hf kf hpc (by rw [hsi]; rfl) hp

/-- A waiter that sees a positive word returns (P and P_with_deadline alike; for the latter possibly
    with ETIMEDOUT if it had already committed to it). -/
theorem waiter_returns_of_word (x : Exec s0) (hr : Reachable s0) (hf : WeakFair x) (kf : KernelFair x)
    {o : Tid} {j : Nat} (hw : ((x.ρ j).pc o).isWaiter = true) (hpos : 0 < (x.ρ j).word) :
    ∃ j', j ≤ j' ∧ (x.ρ j').pc o = .idle :=
  Sched.leads (M := Moves x o) (fun j => GoodW (x.ρ j) o) (fun j => (x.ρ j).pc o = .idle)
    (fun j => rkW (x.ρ j) o)
    (fun _ hg hm => .inr (not_moves_rel x hr
      (Q := fun s s' => GoodW s o → GoodW s' o ∧ rkW s' o ≤ rkW s o)
      (fun _ h => ⟨h, Nat.le_refl _⟩) rkW_other hm hg))
    (fun j hg ⟨_, he, hte⟩ => (Classical.em _).imp_right
      (rkW_own (x.reach hr j).inv (x.next_some he) hte hg))
    (fun _ hg => waiter_live x hr hf kf hg) j ⟨hw, .inr hpos⟩

def rk0 (s : State) (p : Tid) : Nat :=
  match s.pc p with
  | .vCas old => if old = 0 then 1 else 3
  | .vLoad => 2
  | _ => 0

theorem rk0_own (hs : step s e = .ok s') (he : e.tid = some p)
    (hv : (s.pc p).vPre = true) (hw : s.word = 0) (hw' : s'.word = 0) :
    (s'.pc p).vPre = true ∧ rk0 s' p < rk0 s p := by
  cases Step.of_step hs
  case tick => cases he
  case vLd hpc => cases he; simp [rk0, hpc, hw, PC.vPre]
  case post => cases hw'
  case postFail hpc _ hne => cases he; simp [rk0, hpc, PC.vPre, hw ▸ hne.symm]
  all_goals cases he; rw [‹s.pc p = _›] at hv; cases hv

theorem vPre_awake {s : State} {p : Tid} (h : (s.pc p).vPre = true) :
    s.pc p ≠ .idle ∧ inKernel s p = false :=
  poster_awake (by cases hp : s.pc p <;> simp_all [PC.vPre, PC.isPoster])

theorem post_arrives (x : Exec s0) (hr : Reachable s0) (hf : WeakFair x) {p : Tid} {j : Nat}
    (hv : ((x.ρ j).pc p).vPre = true) : ∃ j', j ≤ j' ∧ 0 < (x.ρ j').word := by
  rcases Nat.eq_zero_or_pos (x.ρ j).word with h0 | h0
  · refine Sched.leads (M := Moves x p) (fun j => ((x.ρ j).pc p).vPre = true ∧ (x.ρ j).word = 0)
      (fun j => 0 < (x.ρ j).word) (fun j => rk0 (x.ρ j) p) ?_ ?_
      (fun j hg => fair_move_awake x hr hf (vPre_awake hg.1).1 (vPre_awake hg.1).2) j ⟨hv, h0⟩
    · intro j hg hm
      refine (Nat.eq_zero_or_pos (x.ρ (j + 1)).word).symm.imp_right fun h0 => ?_
      have hpc := not_moves_pc x hm
      exact ⟨⟨by rw [hpc]; exact hg.1, h0⟩, by unfold rk0; rw [hpc]; exact Nat.le_refl _⟩
    · intro j hg ⟨e, he, hte⟩
      refine (Nat.eq_zero_or_pos (x.ρ (j + 1)).word).symm.imp_right fun h0 => ?_
      have := rk0_own (x.next_some he) hte hg.1 hg.2 h0
      exact ⟨⟨this.1, h0⟩, this.2⟩
  · exact ⟨j, Nat.le_refl _, h0⟩

/-- A property kept by every step that leaves `t` inside its call holds as long as `t` does not
    return. -/
theorem kept_until_idle (x : Exec s0) {t : Tid} {P : State → Prop} {i : Nat}
    (hst : ∀ {s s' e}, step s e = .ok s' → P s → s'.pc t ≠ .idle → P s') (hP : P (x.ρ i))
    (hni : ∀ j, i ≤ j → (x.ρ j).pc t ≠ .idle) : ∀ j, i ≤ j → P (x.ρ j) :=
  x.keeps hP fun j _ hj _ hs h => hst hs h (hni (j + 1) (by omega))

theorem waiter_always (x : Exec s0) {o : Tid} {i : Nat} (hw : ((x.ρ i).pc o).isWaiter = true)
    (hni : ∀ j, i ≤ j → (x.ρ j).pc o ≠ .idle) : ∀ j, i ≤ j → ((x.ρ j).pc o).isWaiter = true :=
  kept_until_idle x (P := fun s => (s.pc o).isWaiter = true)
    (fun hs h hn => (step_waiter_stays hs h).resolve_left hn) hw hni

theorem waiter_returns (x : Exec s0) (hr : Reachable s0) (hf : WeakFair x) (kf : KernelFair x)
    {o : Tid} {i : Nat} (hw : ((x.ρ i).pc o).isWaiter = true)
    (hp : ∃ j, i ≤ j ∧ PostPending (x.ρ j)) : ∃ j, i ≤ j ∧ (x.ρ j).pc o = .idle := by
  apply Classical.byContradiction
  intro hn
  have hni : ∀ j, i ≤ j → (x.ρ j).pc o ≠ .idle := fun j hj h => hn ⟨j, hj, h⟩
  have hwa := waiter_always x hw hni
  obtain ⟨j, hj, hpp⟩ := hp
  have hword : ∃ j', j ≤ j' ∧ 0 < (x.ρ j').word := by
    rcases hpp with h | ⟨p, hv⟩
    · have := (x.reach hr j).inv.cons
      exact ⟨j, Nat.le_refl _, by omega⟩
    · exact post_arrives x hr hf hv
  obtain ⟨j', hj', hpos⟩ := hword
  obtain ⟨j'', hj'', hidle⟩ := waiter_returns_of_word x hr hf kf (hwa j' (by omega)) hpos
  exact hni j'' (by omega) hidle

theorem poster_returns (x : Exec s0) (hr : Reachable s0) (hf : WeakFair x) (hb : BoundedPosts x)
    {p : Tid} {i : Nat} (hv : ((x.ρ i).pc p).isPoster = true) : ∃ j, i ≤ j ∧ (x.ρ j).pc p = .idle := by
  obtain ⟨B, hB⟩ := hb
  have hB2 : ∀ j, (x.ρ j).posts + (x.ρ j).takes ≤ 2 * B := by
    intro j
    have h1 := hB j
    have h2 := (x.reach hr j).inv.cons
    omega
  refine Sched.leads (M := Moves x p) (fun j => ((x.ρ j).pc p).isPoster = true)
    (fun j => (x.ρ j).pc p = .idle) (fun j => rkV B (x.ρ j) p) ?_ ?_
    (fun j hg => fair_move_awake x hr hf (poster_awake hg).1 (poster_awake hg).2) i hv
  · intro j hg hm
    exact .inr ⟨by rw [not_moves_pc x hm]; exact hg,
      not_moves_rel x hr (Q := fun s s' => s'.posts + s'.takes ≤ 2 * B → rkV B s' p ≤ rkV B s p)
        (fun _ _ => Nat.le_refl _) (fun _ hs hne => rkV_other hs hne) hm (hB2 (j + 1))⟩
  · intro j hg ⟨e, he, hte⟩
    refine (Classical.em _).imp_right fun hni => ?_
    exact ⟨(step_poster_stays (x.next_some he) hg).resolve_left hni,
      rkV_own (x.next_some he) hte hg (hB2 (j + 1)) hni⟩

theorem callDeadline_isWaiter {s : State} {t : Tid} {dl : Option Nat} (h : callDeadline s t = some dl) :
    (s.pc t).isWaiter = true :=
  PC.isWaiter_iff.2 ⟨_, callDeadline_eq_some.1 h⟩

/-- Every reachable state has finite support: all threads from some number on are idle. -/
theorem Reachable.support {s : State} (h : Reachable s) : ∃ B : Nat, ∀ t : Nat, B ≤ t → s.pc t = .idle := by
  obtain ⟨evs, hr⟩ := h
  refine isRun.induct (Q := fun s => ∃ B : Nat, ∀ t : Nat, B ≤ t → s.pc t = .idle) ⟨0, fun _ _ => rfl⟩ ?_ hr
  intro s e s' _ ⟨B, hB⟩ h1
  cases he : e.tid with
  | none => exact ⟨B, fun t ht => by rw [step_pc_other h1 (by rw [he]; simp)]; exact hB t ht⟩
  | some u =>
    refine ⟨B + (u + 1), fun t ht => ?_⟩
    rw [step_pc_other h1 (by rw [he]; intro h'; cases h'; omega)]
    exact hB t (by omega)

/-- While the word stays 0 nobody enters `vWake`; every thread there leaves (weak fairness); the
    support is finite: eventually nobody is between a post and its wake, for ever. -/
theorem no_vWake_eventually (x : Exec s0) (hr : Reachable s0) (hf : WeakFair x) {i : Nat}
    (hw0 : ∀ j, i ≤ j → (x.ρ j).word = 0) :
    ∃ N, i ≤ N ∧ ∀ j, N ≤ j → ∀ p : Nat, (x.ρ j).pc p ≠ .vWake := by
  have stay_out : ∀ (p : Nat) j, i ≤ j → (x.ρ j).pc p ≠ .vWake → ∀ j', j ≤ j' → (x.ρ j').pc p ≠ .vWake := by
    intro p j hj h0
    refine x.keeps (P := fun s => s.pc p ≠ .vWake) h0 fun j' _ hj' _ hs hP hQ => ?_
    have := step_enter_vWake hs hP hQ
    have := hw0 (j' + 1) (by omega)
    omega
  have leaves : ∀ p : Nat, ∃ n, i ≤ n ∧ ∀ j, n ≤ j → (x.ρ j).pc p ≠ .vWake := by
    intro p
    by_cases hp : (x.ρ i).pc p = .vWake
    · obtain ⟨j1, hj1, ⟨e, he, hte⟩, hfirst⟩ :=
        Sched.first_at (fair_move_awake x hr hf (vWake_awake hp).1 (vWake_awake hp).2)
      have hp1 : (x.ρ j1).pc p = .vWake :=
        (Sched.const_between (f := fun j => (x.ρ j).pc p) (fun _ => not_moves_pc x) hj1 hfirst).trans hp
      have := (step_vWake_own (x.next_some he) hte hp1).2
      exact ⟨j1 + 1, by omega, stay_out p (j1 + 1) (by omega) (by rw [this]; simp)⟩
    · exact ⟨i, Nat.le_refl _, stay_out p i (Nat.le_refl _) hp⟩
  obtain ⟨B, hB⟩ := (x.reach hr i).support
  obtain ⟨N, hN, hfin⟩ := Sched.eventually_list (P := fun p j => (x.ρ j).pc p ≠ .vWake) i
    (List.range B) fun p _ => leaves p
  refine ⟨N, hN, fun j hj p => ?_⟩
  by_cases hp : p < B
  · exact hfin p (List.mem_range.2 hp) j hj
  · exact stay_out p i (Nat.le_refl _) (by rw [hB p (by omega)]; simp) j (Nat.le_trans hN hj)

theorem timed_live (x : Exec s0) (hr : Reachable s0) (hf : WeakFair x) (kf : KernelFair x)
    {o : Tid} {d j : Nat} (hd : callDeadline (x.ρ j) o = some (some d)) (hnow : d ≤ (x.ρ j).now) :
    ∃ j', j ≤ j' ∧ Moves x o j' := by
  have hw := callDeadline_isWaiter hd
  refine waiter_moves x hr hf hw fun k si hpc hsi => ?_
  obtain ⟨o', k', ho', hpc', hdl⟩ := (x.reach hr j).inv.sleepPc si hsi
  obtain rfl : o' = o := (x.reach hr j).inv.waiter_unique (by rw [hpc']; rfl) hw
  rw [hpc] at hpc'; cases hpc'
  have hk : some (Call.wait k) = some (.wait (.pd (some d))) := by
    rw [← callDeadline_eq_some.1 hd, hpc]; rfl
  cases hk
  refine fair_move_due x hr kf (kernelDue_of hpc hsi (Or.inr ?_))
  rw [hdl]; simp [WKind.timeout, expired, hnow]

theorem timed_waiter_returns (x : Exec s0) (hr : Reachable s0) (hf : WeakFair x) (kf : KernelFair x)
    (hfs : FiniteSpurious x) {o : Tid} {d i : Nat} (hd : callDeadline (x.ρ i) o = some (some d))
    (hclk : ∃ j, i ≤ j ∧ d ≤ (x.ρ j).now) : ∃ j, i ≤ j ∧ (x.ρ j).pc o = .idle := by
  apply Classical.byContradiction
  intro hn
  have hni : ∀ j, i ≤ j → (x.ρ j).pc o ≠ .idle := fun j hj h => hn ⟨j, hj, h⟩
  have hwa := waiter_always x (callDeadline_isWaiter hd) hni
  have hda : ∀ j, i ≤ j → callDeadline (x.ρ j) o = some (some d) :=
    kept_until_idle x (P := fun s => callDeadline s o = some (some d)) C12_deadline_stable hd hni
  have hw0 : ∀ j, i ≤ j → (x.ρ j).word = 0 := by
    intro j hj
    apply Classical.byContradiction; intro hne
    obtain ⟨j', hj', hidle⟩ := waiter_returns_of_word x hr hf kf (hwa j hj) (by omega)
    exact hni j' (by omega) hidle
  obtain ⟨N, hN, hnv⟩ := no_vWake_eventually x hr hf hw0
  obtain ⟨ns, hns⟩ := hfs
  obtain ⟨jc, hjc, hclk⟩ := hclk
  have hM : i ≤ N + ns + jc := by omega
  refine (Sched.leads (M := Moves x o) (fun j => N + ns + jc ≤ j) (fun _ => False)
    (fun j => rkT (x.ρ j) o) ?_ ?_ ?_ _ (Nat.le_refl _)).elim fun _ h => h.2
  · intro j hj hm
    exact .inr ⟨by omega, Nat.le_of_eq (not_moves_rel x hr
      (Q := fun s s' => (s.pc o).isWaiter = true → (∀ p, s.pc p ≠ .vWake) → rkT s' o = rkT s o)
      (fun _ _ _ => rfl) rkT_other hm (hwa j (by omega)) (hnv j (by omega)))⟩
  · intro j hj ⟨e, he, hte⟩
    refine .inr ⟨by omega, rkT_own (x.reach hr j).inv (x.next_some he) hte (hda j (by omega)) ?_
      (hw0 j (by omega)) ?_ (hni (j + 1) (by omega))⟩
    · exact Nat.le_trans hclk (x.now_mono (by omega))
    · intro r her hr'
      exact hns j o r (by omega) (by rw [he, her]) hr'
  · intro j hj
    exact timed_live x hr hf kf (hda j (by omega)) (Nat.le_trans hclk (x.now_mono (by omega)))

end NsyncVerif.Futex
