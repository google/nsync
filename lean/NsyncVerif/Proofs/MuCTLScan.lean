import NsyncVerif.Proofs.MuCInv12
/-
  MuC, facts about one step (`StepTL0`, which is `StepTL` up to the invariants), and that a step which continues with the
  plain code of the scan of unlock_slow has them (`ScanKeep.tl`, from the description `ScanKeep` of such a step in
  Proofs/MuCEffScan.lean).
-/
namespace NsyncVerif.MuC

/-- `WordTL` as far as it holds of every step without the invariants of the two states: the fact `p3` about
    MU_WRITER_WAITING holds by the spinlock invariant and waits for `ok3` of the program point; `p10` speaks of the writer bit
    of `t` itself (whose bit another thread's is is decided by `Inv1` of the two states). -/
structure WordTL0 (s s' : State) (t : Tid) : Prop where
  p3 : (s.pc t).ok3 → s'.word.ww = true → s.word.ww = true ∨ ((s'.pc t).wwA = true ∧ s.word.spin = false) ∨
    ∃ f, (s.pc t).finOf = some f ∧ f.sww = true
  p4 : (s.pc t).wwA = true → (s'.pc t).wwA = true ∨ s'.word.ww = false
  p6 : s'.word.lw = true → s.word.lw = true ∨ (∃ c, (s'.pc t).sl? = some c ∧ c.lwl = true) ∨
    ∃ old, (s.pc t).mtOld = some old ∧ old.lw = true
  p7 : ∀ c, (s.pc t).sl? = some c → c.lwl = true → (∃ c', (s'.pc t).sl? = some c' ∧ c'.lwl = true) ∨ s'.word.lw = false
  p8 : ∀ old, (s'.pc t).mtOld = some old → (s.pc t).mtOld = some old ∨ s'.word.ww = false
  p10 : s'.wOwner = some t → (s'.pc t).unl = false → s'.word.ww = true → s.wOwner = some t ∧ (s.pc t).unl = false

/-- `StepTL` with `WordTL0` for its word part. -/
structure StepTL0 (s s' : State) (t : Tid) : Prop where
  oth : ∀ u, u ≠ t → s'.pc u = s.pc u ∧ s'.held u = s.held u
  data : s'.data = s.data
  nv : s'.nwViol = false → s.nwViol = false
  rc : RecTL s s' t
  wt : WaitTL s s' t
  wd : WordTL0 s s' t
  rk : RKeep s s' t
  lw : LwTL s s' t

/-- With the invariants at hand the step facts are `StepTL`: the writer bit of another thread is where it was, because
    `wOwner` is a function of the threads' shares. -/
theorem StepTL0.full {s s' : State} {t : Tid} (a : StepTL0 s s' t) (h1 : Inv1 s) (h1' : Inv1 s') (h3 : (s.pc t).ok3) :
    StepTL s s' t :=
  ⟨a.oth, a.data, a.nv, a.rc, a.wt,
    ⟨a.wd.p3 h3, a.wd.p4, a.wd.p6, a.wd.p7, a.wd.p8, fun _ => trivial, fun v hv hun hww => by
      by_cases e : v = t
      · subst e; exact (a.wd.p10 hv (hun rfl) hww).imp id fun h _ => h
      · refine ⟨(h1.lock.wown v).2 ?_, fun e' => absurd e' e⟩
        have := (h1'.lock.wown v).1 hv
        rwa [shareOf, (a.oth v e).1, (a.oth v e).2] at this⟩,
    a.rk, a.lw⟩

theorem scanPc_lsRec {r : Ret} {late : Bool} {p : PC} (h : ScanPc r late p) : p.lsRec = none := by
  cases p <;> simp [ScanPc] at h <;> rfl

theorem scanPc_wwA {r : Ret} {late : Bool} {p : PC} (h : ScanPc r late p) : p.wwA = false := by
  cases p <;> simp [ScanPc] at h <;> rfl

theorem scanPc_sl {r : Ret} {late : Bool} {p : PC} (h : ScanPc r late p) : p.sl? = none := by
  cases p <;> simp [ScanPc] at h <;> rfl

theorem usRet_facts {p : PC} {r : Ret} (h : p.scanSrc = some r) :
    p.waitRec = r.w? ∧ p.wwA = false ∧ p.sl? = none ∧ p.woken = false ∧ p.timedOut = false ∧ p.enqPend = false ∧
    p.lsRec = none ∧ p.limbo = none := by
  cases p <;> simp [PC.scanSrc] at h <;> subst h <;> simp [PC.waitRec, PC.wwA, PC.sl?, PC.woken, PC.timedOut, PC.enqPend, PC.lsRec, PC.limbo]

/-- The step facts of a scan step: the thread stays an unlocker at a point of the same caller `r`, the records keep
    what the facts read, the word its MU_WRITER_WAITING and MU_LONG_WAIT, the wake list grows. -/
theorem ScanKeep.tl {s s' : State} {t : Tid} {r : Ret} {late : Bool} (h : ScanKeep s t r late s') : StepTL0 s s' t := by
  have hdst := h.dst
  obtain ⟨f1, f2, f3, f4, f5, -⟩ := usRet_facts h.src
  obtain ⟨hww, hlw⟩ := h.waitBits
  have hunl := scanPc_unl hdst
  have hwt := fun k => (h.wr k).2.1
  refine ⟨fun u hu => ⟨h.oth u hu, by rw [h.held]⟩, h.data, by rw [h.nwViol]; exact id, ⟨?_, ?_, ?_, ?_⟩, ⟨?_, ?_, ?_, ?_, ?_⟩,
    ⟨?_, ?_, ?_, ?_, ?_, ?_⟩, ⟨?_, ?_, ?_, ?_, ?_⟩, ⟨?_, ?_⟩⟩
  · intro k a b; rw [hwt k, a] at b; cases b
  · intro k a b; rw [hwt k, a] at b; cases b
  · intro k; exact Or.inl ⟨(h.wr k).2.2.1, (h.wr k).2.2.2.2⟩
  · intro k a; rw [scanPc_lsRec hdst] at a; cases a
  · intro k a _; left; rw [scanPc_waitRec hdst, ← f1]; exact a
  · intro k a; left; rw [scanPc_waitRec hdst, ← f1] at a; exact a
  · intro k a; exact Or.inl (h.wake k a)
  · intro k a _ _; left; exact ⟨by rw [scanPc_waitRec hdst, ← f1]; exact a, scanPc_hlRec hdst⟩
  · intro a; rw [scanPc_enqPend hdst] at a; cases a
  · intro _ a; left; rw [← hww]; exact a
  · intro a; rw [f2] at a; cases a
  · intro a; left; rw [← hlw]; exact a
  · intro c a; rw [f3] at a; cases a
  · intro old a; rw [scanPc_mtOld hdst] at a; cases a
  · intro _ b _; rw [hunl] at b; cases b
  · intro _; right; left; exact hunl
  · intro _; left; exact hunl
  · intro a; rw [f4] at a; cases a
  · intro k a _; left; exact ⟨by rw [scanPc_waitRec hdst, ← f1]; exact a, scanPc_hlRec hdst⟩
  · intro a; rw [f5] at a; cases a
  · intro old a; rw [scanPc_mtOld hdst] at a; cases a
  · intro a; left; rw [hlw]; exact a

end NsyncVerif.MuC
