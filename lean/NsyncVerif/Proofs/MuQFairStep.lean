import NsyncVerif.Proofs.MuQLeadsMono
/-
  MuQ, fair termination (C02): the steps of one thread as the fairness argument sees them, and
  single-step facts by cases on the rule of the step.

  `Own cfg s t b s'`: thread `t` can take `s` to `s'` by one event of its own, by one of the rules
  of `TStep`; `b` = the event is a FAILED CAS on `remove_count`.  `step_own`: every accepted event
  of thread `t` is such a step.
  Then: who can change the word, the spinlock owner, a `waiting` flag, a semaphore count.
-/
namespace NsyncVerif.MuQ

def Own (cfg : Cfg) (s : State) (t : Tid) (b : Bool) (s' : State) : Prop :=
  ∃ e, e.rcFail = b ∧ TStep cfg s t (s.pc t) e s'

/-- Every accepted event of thread `t` is a step by one of the rules. -/
theorem step_own {cfg : Cfg} {s s' : State} {e : Event} {t : Tid}
    (h : step cfg s e = .ok s') (he : e.tid = some t) : Own cfg s t e.rcFail s' :=
  ⟨e, rfl, tstep_of_step h he⟩

@[simp] theorem setPc_pc_self (s : State) (t : Tid) (p : PC) : (setPc s t p).pc t = p := by simp [setPc]
@[simp] theorem setPc_word (s : State) (t : Tid) (p : PC) : (setPc s t p).word = s.word := rfl
@[simp] theorem setPc_sp (s : State) (t : Tid) (p : PC) : (setPc s t p).sp = s.sp := rfl
@[simp] theorem setPc_wr (s : State) (t : Tid) (p : PC) : (setPc s t p).wr = s.wr := rfl
@[simp] theorem setPc_held (s : State) (t : Tid) (p : PC) : (setPc s t p).held = s.held := rfl
@[simp] theorem setPc_queue (s : State) (t : Tid) (p : PC) : (setPc s t p).queue = s.queue := rfl

theorem stage_scanAdvance (s : State) (t : Tid) (l : Mode) (sc : Scan) : stage (scanAdvance s t l sc) t = 1 := by
  obtain ⟨a, b⟩ := scanAdvance_stage s t l sc
  rw [stage_eq b]; exact a

theorem stage_afterFin (s : State) (t : Tid) (l : Mode) (w : List Wid) : stage (afterFin s t l w) t = 1 := by
  obtain ⟨a, b⟩ := afterFin_stage s t l w
  rw [stage_eq b]; exact a

theorem enqWord_ne {l : Mode} {cl lwl : Bool} {old : Word} (h : old.spin = false) : enqWord l cl lwl old ≠ old := by
  intro e
  have : (enqWord l cl lwl old).spin = old.spin := by rw [e]
  simp [enqWord, h] at this

/-- A step that changes the word or the owner of the spinlock: the stepping thread acquires or
    releases a share (its stage drops), takes the spinlock with its enqueue CAS, or gives the
    spinlock up. -/
theorem step_word_sp_change {cfg : Cfg} {s s' : State} {e : Event} (h : step cfg s e = .ok s')
    (hne : s'.word ≠ s.word ∨ s'.sp ≠ s.sp) :
    ∃ t, e.tid = some t ∧
      (stage s' t < stage s t ∨ (∃ c, s'.pc t = .lsSt c) ∨ ((role (s.pc t)).spin = true ∧ s'.sp = none)) := by
  cases step_inv h with
  | envV k => exact (hne.elim (absurd rfl) (absurd rfl))
  | envSem k n => exact (hne.elim (absurd rfl) (absurd rfl))
  | thread t p hp h =>
    refine ⟨t, h.tid, ?_⟩
    cases h
    case lsCasEnq c old hw => exact Or.inr (Or.inl ⟨c, by simp⟩)
    case lsRelCas c old hw => exact Or.inr (Or.inr ⟨by simp [hp, role, Role.spin], rfl⟩)
    case usFinCas l f old hw => exact Or.inr (Or.inr ⟨by simp [hp, role, Role.spin], by simp⟩)
    case usCasGrab l old hw => left; rw [grabbed, stage_scanAdvance]; simp [stage, hp]
    all_goals first
      | (exfalso; rcases hne with hne | hne <;> apply hne <;> simp; done)
      | (left; simp [stage, hp]; done)

theorem step_word_change {cfg : Cfg} {s s' : State} {e : Event} (h : step cfg s e = .ok s')
    (hne : s'.word ≠ s.word) :
    ∃ t, e.tid = some t ∧
      (stage s' t < stage s t ∨ (∃ c, s'.pc t = .lsSt c) ∨ ((role (s.pc t)).spin = true ∧ s'.sp = none)) :=
  step_word_sp_change h (.inl hne)

theorem step_sp_change {cfg : Cfg} {s s' : State} {e : Event} (h : step cfg s e = .ok s')
    (hne : s'.sp ≠ s.sp) :
    s'.sp = none ∨ ∃ t, e.tid = some t ∧ (stage s' t < stage s t ∨ (∃ c, s'.pc t = .lsSt c)) := by
  obtain ⟨t, ht, h1 | h1 | h1⟩ := step_word_sp_change h (.inr hne)
  · exact .inr ⟨t, ht, .inl h1⟩
  · exact .inr ⟨t, ht, .inr h1⟩
  · exact .inl h1.2

theorem step_waiting_clear {cfg : Cfg} {s s' : State} {e : Event} {k : Wid} (h : step cfg s e = .ok s')
    (h1 : (s.wr k).waiting = true) (h2 : (s'.wr k).waiting = false) :
    ∃ t l r, s.pc t = .usWakeSt l k r := by
  rcases (step_wr_at h k).waiting with e | ⟨e, _⟩ | ⟨_, h⟩
  · rw [e, h1] at h2; cases h2
  · rw [e] at h2; cases h2
  · exact h

theorem step_sem_zero {cfg : Cfg} {s s' : State} {e : Event} {k : Wid} (h : step cfg s e = .ok s')
    (h1 : (s.wr k).sem ≠ 0) (h2 : (s'.wr k).sem = 0) :
    (∃ t c, e.tid = some t ∧ s.pc t = .lsPRet c ∧ c.w = some k) ∨ (s.wr k).owner = none := by
  rcases (step_wr_at h k).sem with e | e | h | h
  · exact absurd (e ▸ h2) h1
  · exact absurd h2 e
  · exact Or.inl h
  · exact Or.inr h

/-! ### chains: ranks that decrease with every own step -/

/-- Past the point of no return of a releasing call / of a failed try-lock. -/
def exitRank : PC → Nat
  | .tryRet _ false => 1
  | .ulRet _ => 1
  | .usWakeSt _ _ r => 2 * r.length + 3
  | .usWakeV _ _ r => 2 * r.length + 2
  | _ => 0

theorem exit_own {cfg : Cfg} {s s' : State} {t : Tid} {b : Bool} (h : Own cfg s t b s') (hh : HeldIdle s)
    (hx : 0 < exitRank (s.pc t)) :
    stage s' t = 0 ∨ (0 < exitRank (s'.pc t) ∧ exitRank (s'.pc t) < exitRank (s.pc t)) := by
  have hnone : s.pc t ≠ .idle → s.held t = none := fun hne => held_none_of_active hh hne
  obtain ⟨e, hb0, h⟩ := h
  obtain ⟨p, hp⟩ : ∃ p, s.pc t = p := ⟨_, rfl⟩
  rw [hp] at h
  cases h
  case retTry r => cases r <;> simp_all [stage, exitRank]
  case retRtry r => cases r <;> simp_all [stage, exitRank]
  case retUnlock => left; simp [stage, hnone (by rw [hp]; simp)]
  case retRunlock => left; simp [stage, hnone (by rw [hp]; simp)]
  case usWakeSt l k r => right; simp [hp, exitRank]
  case semV l k r =>
    right
    cases r with
    | nil => simp [hp, exitRank, afterFin]
    | cons k' r' => simp [hp, exitRank, afterFin]; omega
  all_goals (simp_all [exitRank]; done)

end NsyncVerif.MuQ
