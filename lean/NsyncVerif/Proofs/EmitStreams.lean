/-
Facts about the character streams of `nsync_mu_debug_state` / `nsync_cv_debug_state`:
they contain no NUL (so the C16 buffer theorem applies to them), and they are what the
`emit_print` / `emit_word` calls of debug.c produce.
-/
import NsyncVerif.Model.Emit

namespace NsyncVerif
namespace Emit

theorem hexDigit_ne_zero : ∀ d, d < 16 → hexDigit d ≠ 0 := by decide +kernel

theorem hexFrom_ne_zero (n k : Nat) : ∀ c ∈ hexFrom n k, c ≠ 0 := by
  induction k with
  | zero => intro c hc; simp [hexFrom] at hc
  | succ k ih =>
    intro c hc
    simp only [hexFrom, List.mem_cons] at hc
    rcases hc with hc | hc
    · subst hc
      apply hexDigit_ne_zero
      have : (n >>> (4 * k)) &&& 15 ≤ 15 := Nat.and_le_right
      omega
    · exact ih c hc

theorem hexChars_ne_zero (n : Nat) : ∀ c ∈ hexChars n, c ≠ 0 := hexFrom_ne_zero n _

theorem emitWord_ne_zero (names : List (Nat × String))
    (hn : ∀ p ∈ names, ∀ c ∈ asc " " ++ asc p.2, c ≠ 0) (word : Nat) :
    ∀ c ∈ emitWord names word, c ≠ 0 := by
  intro c hc
  unfold emitWord at hc
  rcases List.mem_flatMap.1 hc with ⟨p, hp, hcp⟩
  split at hcp
  · exact hn p hp c hcp
  · simp at hcp

theorem muBit_ne_zero : ∀ p ∈ muBit, ∀ c ∈ asc " " ++ asc p.2, c ≠ 0 := by decide +kernel
theorem cvBit_ne_zero : ∀ p ∈ cvBit, ∀ c ∈ asc " " ++ asc p.2, c ≠ 0 := by decide +kernel

theorem muDebugChars_ne_zero (addr word : Nat) : ∀ c ∈ muDebugChars addr word, c ≠ 0 := by
  simp only [muDebugChars, List.forall_mem_append]
  refine ⟨⟨⟨⟨⟨⟨⟨by decide +kernel, hexChars_ne_zero _⟩, by decide +kernel⟩, hexChars_ne_zero _⟩,
    by decide +kernel⟩, emitWord_ne_zero _ muBit_ne_zero _⟩, ?_⟩, by decide +kernel⟩
  split
  · exact List.forall_mem_append.mpr ⟨by decide +kernel, hexChars_ne_zero _⟩
  · simp

theorem cvDebugChars_ne_zero (addr word : Nat) : ∀ c ∈ cvDebugChars addr word, c ≠ 0 := by
  simp only [cvDebugChars, List.forall_mem_append]
  exact ⟨⟨⟨⟨⟨⟨by decide +kernel, hexChars_ne_zero _⟩, by decide +kernel⟩, hexChars_ne_zero _⟩,
    by decide +kernel⟩, emitWord_ne_zero _ cvBit_ne_zero _⟩, by decide +kernel⟩

/-! ### the streams are what the `emit_print` calls of debug.c produce -/

theorem print_mu_header (addr word : Nat) :
    emitPrint (asc "mu 0x%i -> 0x%i = {") [Arg.hex addr, Arg.hex word] =
      some (asc "mu 0x" ++ hexChars addr ++ asc " -> 0x" ++ hexChars word ++ asc " = {") := by
  have h : asc "mu 0x%i -> 0x%i = {" =
      [109, 117, 32, 48, 120, 37, 105, 32, 45, 62, 32, 48, 120, 37, 105, 32, 61, 32, 123] := by
    decide +kernel
  have h1 : asc "mu 0x" = [109, 117, 32, 48, 120] := by decide +kernel
  have h2 : asc " -> 0x" = [32, 45, 62, 32, 48, 120] := by decide +kernel
  have h3 : asc " = {" = [32, 61, 32, 123] := by decide +kernel
  rw [h, h1, h2, h3]
  simp [emitPrint]

theorem print_cv_header (addr word : Nat) :
    emitPrint (asc "cv 0x%i -> 0x%i = {") [Arg.hex addr, Arg.hex word] =
      some (asc "cv 0x" ++ hexChars addr ++ asc " -> 0x" ++ hexChars word ++ asc " = {") := by
  have h : asc "cv 0x%i -> 0x%i = {" =
      [99, 118, 32, 48, 120, 37, 105, 32, 45, 62, 32, 48, 120, 37, 105, 32, 61, 32, 123] := by
    decide +kernel
  have h1 : asc "cv 0x" = [99, 118, 32, 48, 120] := by decide +kernel
  have h2 : asc " -> 0x" = [32, 45, 62, 32, 48, 120] := by decide +kernel
  have h3 : asc " = {" = [32, 61, 32, 123] := by decide +kernel
  rw [h, h1, h2, h3]
  simp [emitPrint]

theorem print_readers (r : Nat) :
    emitPrint (asc " readers=0x%i") [Arg.hex r] = some (asc " readers=0x" ++ hexChars r) := by
  have h : asc " readers=0x%i" = [32, 114, 101, 97, 100, 101, 114, 115, 61, 48, 120, 37, 105] := by
    decide +kernel
  have h1 : asc " readers=0x" = [32, 114, 101, 97, 100, 101, 114, 115, 61, 48, 120] := by decide +kernel
  rw [h, h1]
  simp [emitPrint]

theorem print_close : emitPrint (asc " }") [] = some (asc " }") := by decide +kernel

/-- `emit_print (b, " %s", name)` as used by `emit_word`. -/
theorem print_word (name : List UInt8) :
    emitPrint (asc " %s") [Arg.str name] = some (asc " " ++ name) := by
  have h : asc " %s" = [32, 37, 115] := by decide +kernel
  have h1 : asc " " = [32] := by decide +kernel
  rw [h, h1]
  simp [emitPrint]

/-- `muDebugChars` is the concatenation of the outputs of the calls made by `emit_mu_state`
(debug.c:207-213) in order. -/
theorem muDebugChars_eq_prints (addr word : Nat) :
    (emitPrint (asc "mu 0x%i -> 0x%i = {") [Arg.hex addr, Arg.hex word]).bind (fun h =>
      (emitPrint (asc " readers=0x%i") [Arg.hex (word / 256)]).bind (fun r =>
        (emitPrint (asc " }") []).map (fun c =>
          h ++ emitWord muBit word ++ (if word / 256 ≠ 0 then r else []) ++ c)))
      = some (muDebugChars addr word) := by
  rw [print_mu_header, print_readers, print_close]
  simp [muDebugChars]

/-- Likewise `emit_cv_state` (debug.c:244-246). -/
theorem cvDebugChars_eq_prints (addr word : Nat) :
    (emitPrint (asc "cv 0x%i -> 0x%i = {") [Arg.hex addr, Arg.hex word]).bind (fun h =>
      (emitPrint (asc " }") []).map (fun c => h ++ emitWord cvBit word ++ c))
      = some (cvDebugChars addr word) := by
  rw [print_cv_header, print_close]
  simp [cvDebugChars]

/-- Hex printing is the usual positional notation: value of the digits is `n` (for n < 2^64). -/
theorem hexChars_examples :
    hexChars 0 = asc "0" ∧ hexChars 15 = asc "f" ∧ hexChars 16 = asc "10" ∧
    hexChars 0x7ffd1234 = asc "7ffd1234" ∧
    hexChars 0xffffffffffffffff = asc "ffffffffffffffff" := by decide +kernel

end Emit
end NsyncVerif
