/-
  Layer `CvFix` × vector clocks: the order table `siteOrd` agrees with the site tables of the
  replay driver (`Model/CvFixDriver.lean`: `wordSite`, `recSite`, `muSite`), i.e. with what decides
  which log line becomes which model event.  For every model site: the log line of its code site
  (file, ordinal, function, kind of operation) WITH the order `siteOrd` declares is mapped to that
  model site, and with any other order it is rejected.  So an accepted log contains, at every
  site, exactly the order that the clock machine of `Proofs/CvFixVC.lean` uses.  Kernel-checked.
-/
import NsyncVerif.Proofs.CvFixVC
import NsyncVerif.Model.CvFixDriver

namespace NsyncVerif.CvFix
open NsyncVerif

def allOrds : List VC.Ord := [.rlx, .acq, .rel, .ar]

def WSite.all : List WSite :=
  [.spin0, .spin2, .waitRel, .waitRel2, .sigLd, .sigRel, .bcLd, .bcRel, .enqRel, .deqRel, .dbgLd, .dbgRel]

def RSite.all : List RSite :=
  [.wSt1, .wRc, .wHead, .wChk, .wChk2, .wCmp, .wRmLd, .wRmCas, .wClr, .wTail,
   .sRcLd true, .sRcLd false, .sRcCas true, .sRcCas false, .bRcLd, .bRcCas,
   .wake, .ready, .enqSt, .deqLd, .deqSt, .deqSpin, .dbgW, .dbgRc]

def MSite.all : List MSite := [.wMode, .wwLd, .wwCas, .wwRelLd, .wwRelCas, .wwRelLd2]

theorem WSite.mem_all (s : WSite) : s ∈ WSite.all := by cases s <;> decide
theorem RSite.mem_all (s : RSite) : s ∈ RSite.all := by
  cases s <;> first | decide | (rename_i b; cases b <;> decide)
theorem MSite.mem_all (s : MSite) : s ∈ MSite.all := by cases s <;> decide

/-- The log line of code site `s` with order `o`. -/
def atmOf (s : Site) (o : VC.Ord) : Driver.Atm :=
  ⟨s.file, s.k, s.fn, s.op, ordStr o, "", none, none, none, none⟩

/-- cv word sites: accepted with the declared order and mapped to the model site; rejected with
    any other order. -/
theorem wordSite_tie :
    (WSite.all.all fun ws => allOrds.all fun o =>
      decide (Driver.wordSite (atmOf (wSite ws) o) =
        if o = siteOrd (wSite ws) then some (some ws) else none)) = true := by decide

/-- the spinlock CAS (common.c/1) -/
theorem wordCas_tie :
    (allOrds.all fun o =>
      decide (Driver.wordSite (atmOf .common1 o) = if o = siteOrd .common1 then some none else none)) = true := by
  decide

/-- record-field sites -/
theorem recSite_tie :
    (RSite.all.all fun rs => allOrds.all fun o =>
      decide (Driver.recSite (atmOf (rSite rs) o) =
        if o = siteOrd (rSite rs) then some rs else none)) = true := by decide

/-- mutex-word sites of cv.c -/
theorem muSite_tie :
    (MSite.all.all fun ms => allOrds.all fun o =>
      decide (Driver.muSite (atmOf (mSite ms) o) =
        if o = siteOrd (mSite ms) then some ms else none)) = true := by decide

/-- `Site.name` is `<file>/<k>/<function>`, the site token of the event log. -/
theorem site_names : Site.all.all (fun s => decide (s.name = s.file ++ "/" ++ toString s.k ++ "/" ++ s.fn)) = true := by
  decide

end NsyncVerif.CvFix
