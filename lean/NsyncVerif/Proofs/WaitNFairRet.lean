/-
  Proofs/WaitNFairRet.lean — WaitN layer, liveness: a call that reaches `idle` does so by its `ret nsync_wait_n`
  event (`returns_by_ret`), so that `C11_index_ready` / `C11_timeout` apply to the returned value
  (`index_of_return`).
-/
import NsyncVerif.Proofs.WaitNFairSig
import NsyncVerif.Proofs.Sched


namespace WaitN
open NsyncVerif

variable {s0 : State}

theorem ret_event {s s' : State} {t : Tid} {e : Ev} {r : Nat} (h : stepThr s t e = .ok s') (hpc : s.pc t = .wRet r)
    (hi : s'.pc t = .idle) : ∃ nested, e = .retWaitN r nested := by
  unfold stepThr at h
  rw [hpc] at h
  simp only [stepRet] at h
  split at h
  · rename_i r' nested
    split at h
    · rename_i hc; exact ⟨nested, by rw [hc.1]⟩
    · simp at h
  · rw [(dflt_frame h).1, hpc] at hi; cases hi

/-- A call that is idle again has returned by a `ret nsync_wait_n` event. -/
theorem returns_by_ret (x : Exec s0) (t : Tid) (i j : Nat) (hij : i ≤ j)
    (hin : inCall ((x.ρ i).pc t) = true) (hj : (x.ρ j).pc t = .idle) :
    ∃ k r nested, i ≤ k ∧ k < j ∧ (∀ k', i ≤ k' → k' ≤ k → inCall ((x.ρ k').pc t) = true)
      ∧ x.σ k = some (.thr t (.retWaitN r nested)) ∧ (x.ρ (k + 1)).pc t = .idle := by
  have hi : (x.ρ i).pc t ≠ .idle := fun h => by rw [h] at hin; cases hin
  have hlt : i < j := Nat.lt_of_le_of_ne hij fun e => hi (e ▸ hj)
  -- the step `k` after which the thread is idle for the first time
  obtain ⟨k, hk, hk1, hb⟩ := Sched.first_at (M := fun k => (x.ρ (k + 1)).pc t = .idle) (i := i)
    ⟨j - 1, by omega, by rw [show j - 1 + 1 = j by omega]; exact hj⟩
  have hall : ∀ k', i ≤ k' → k' ≤ k → (x.ρ k').pc t ≠ .idle := fun k' h1 h2 h3 => by
    rcases Nat.eq_or_lt_of_le h1 with rfl | h
    · exact hi h3
    · exact hb (k' - 1) (by omega) (by omega) (by rwa [Nat.sub_add_cancel (by omega)])
  have hinc : ∀ k', i ≤ k' → k' ≤ k → inCall ((x.ρ k').pc t) = true :=
    Sched.keeps_from (P := fun k' => k' ≤ k → inCall ((x.ρ k').pc t) = true) (fun _ => hin) fun k' h1 ih h2 => by
      rw [x.inCall_step t k' (hall _ h1 (by omega)) (hall _ (by omega) h2)]; exact ih (by omega)
  have hkin := hinc k hk (Nat.le_refl k)
  have hklt : k < j := Nat.lt_of_not_le fun h => hall j hij h hj
  rcases x.view t k with ⟨h, _⟩ | ⟨e, hs, hst⟩
  · rw [h] at hk1; rw [hk1] at hkin; cases hkin
  · rcases quiet_or_structural hst with q | st
    · have := q.inCall t; rw [hk1, hkin] at this; cases this
    · cases st with
      | call mu dl objs nested hpc _ _ _ => rw [hpc] at hkin; cases hkin
      | init i' r oid hpc _ _ _ hs' => rw [hs'] at hk1; simp at hk1; split at hk1 <;> cases hk1
      | free hpc hs' =>
        rw [hs'] at hk1; simp only [setPc_pc, if_pos] at hk1
        have := inCall_relockNext { (x.ρ k).fr t with frees := ((x.ρ k).fr t).frees + 1 }
        rw [hk1] at this; cases this
      | ret r hpc _ =>
        obtain ⟨nested, he⟩ := ret_event hst hpc hk1
        exact ⟨k, r, nested, hk, hklt, hinc, by rw [← he]; exact hs, hk1⟩
/-- … and without abs_deadline the value returned is the index of a ready object, not `count`. -/
theorem index_of_return (x : Exec s0) (hr : Reachable s0) (t : Tid) (i j : Nat) (hij : i ≤ j)
    (hin : inCall ((x.ρ i).pc t) = true) (hdl : ((x.ρ i).fr t).dl = none) (hj : (x.ρ j).pc t = .idle) :
    ∃ j r nested, i ≤ j ∧ x.σ j = some (.thr t (.retWaitN r nested)) ∧ (x.ρ (j + 1)).pc t = .idle
      ∧ r < ((x.ρ j).fr t).count ∧ readyFor (x.ρ j) t r := by
  obtain ⟨k, r, nested, hk, _, hall, hev, hk1⟩ := returns_by_ret x t i j hij hin hj
  have hstep := x.next_some hev
  have hdlk : ((x.ρ k).fr t).dl = none := by
    rw [dl_keep x hr t hk (fun m h1 h2 hm => by have := hall m h1 h2; rw [hm] at this; cases this)]; exact hdl
  have hrk := x.reach hr k
  obtain ⟨_, hl, _⟩ := ret_facts hrk hstep
  have hle : r ≤ ((x.ρ k).fr t).count := by
    rw [hl.1]
    rcases hl.2 with ⟨_, h, _⟩ | ⟨hpost, _⟩
    · exact h
    · exact hpost.rdy.le
  have hne : r ≠ ((x.ρ k).fr t).count := by
    intro heq
    rcases C11_timeout hrk hstep heq with ⟨h, _⟩ | ⟨h, _⟩
    · rw [hdlk] at h; cases h
    · rw [hdlk] at h; cases h
  have hlt : r < ((x.ρ k).fr t).count := Nat.lt_of_le_of_ne hle hne
  exact ⟨k, r, nested, hk, hev, hk1, hlt, C11_index_ready hrk hstep hlt⟩

end WaitN
