/-
  Proofs/WaitNFairMain.lean — WaitN layer, liveness: a thread that stays at one program point for ever without
  executing its next operation contradicts the fairness hypotheses (`stuck_false`): the sleeper's P times out once
  the clock has passed `min_ntime`; a mutex acquisition succeeds (`LockFair`, the lock is free again and again);
  the wait loop of cv_dequeue ends because the signaller that owns the record clears `waiting`.  From it, by
  induction on the rank after the last wake-up: a call with a finite abs_deadline returns (`wait_returns_timed`).
-/
import NsyncVerif.Proofs.WaitNFairExec
import NsyncVerif.Proofs.WaitNFairWspin


namespace WaitN
open NsyncVerif

section

variable {s0 : State}

/-- the hypotheses of the fair-termination theorems -/
structure FairHyps (x : Exec s0) : Prop where
  reach : Reachable s0
  weak : WeakFair x
  lock : LockFair x
  foreign : ForeignRelease x

/-- from time `j` on thread `t` does not execute any operation of its own code -/
def Still (x : Exec s0) (t : Tid) (j : Nat) : Prop :=
  ∀ j', j ≤ j' → (x.ρ (j' + 1)).pc t = (x.ρ j').pc t ∧ (x.ρ (j' + 1)).post t = (x.ρ j').post t
    ∧ frSame ((x.ρ j').fr t) ((x.ρ (j' + 1)).fr t)

theorem Still.no_move {x : Exec s0} {t : Tid} {j : Nat} (h : Still x t j) {j' : Nat} (hj : j ≤ j') : ¬ Moves x t j' :=
  fun hm => hm.elim (fun a => a (h j' hj).1) (fun a => a (h j' hj).2.1)

theorem lockWait_of_block {p : PC} {f : Frame} {o : ObjId} (h : lockBlockOf p f = some o) : lockWaitOf p f = some o := by
  unfold lockBlockOf at h
  split at h <;> first | exact h | cases h

theorem lockWaitOf_objs {p : PC} {f f' : Frame} (h : f'.objs = f.objs) : lockWaitOf p f' = lockWaitOf p f := by
  unfold lockWaitOf
  split <;> simp [h]

/-- the `waiting` field of the record of a thread in the wait loop of cv_dequeue is not set again -/
theorem wspin_wfalse_step (x : Exec s0) (hr : Reachable s0) {t : Tid} {k : Nat} {r : Rid} {j : Nat}
    (hpc : (x.ρ j).pc t = .wDeqCv k .wspin) (hrec : ((x.ρ j).fr t).recs[k]? = some r)
    (hw : ((x.ρ j).rcd r).waiting = false) : ((x.ρ (j + 1)).rcd r).waiting = false := by
  cases hw' : ((x.ρ (j + 1)).rcd r).waiting with
  | false => rfl
  | true =>
    have hlt := linv_of_reachable (x.reach hr j) t
    rw [hpc] at hlt
    obtain ⟨i, hi | hi⟩ := x.waiting_set hr (by rw [hpc]; rfl) hlt.1.frees (List.mem_of_getElem? hrec) hw hw' <;>
      (rw [hpc] at hi; cases hi)

/-- the signaller that owns the record keeps it in its wake list until it clears `waiting` -/
theorem pend_step (x : Exec s0) (hr : Reachable s0) {u : Tid} {c : Nat} {l : List Rid} {r : Rid} {j : Nat}
    (hwk : wk ((x.ρ j).pc u) = some (c, l)) (hp : r ∈ pend ((x.ρ j).post u) l) :
    (∃ c' l', wk ((x.ρ (j + 1)).pc u) = some (c', l') ∧ r ∈ pend ((x.ρ (j + 1)).post u) l')
    ∨ ((x.ρ (j + 1)).rcd r).waiting = false := by
  rcases x.view u j with ⟨h1, h2, _⟩ | ⟨e, _, h⟩
  · exact .inl ⟨c, l, by rw [h1]; exact hwk, by rw [h2]; exact hp⟩
  · exact pend_persist (x.reach hr j) hwk hp h

theorem straight_of_wk {p : PC} {c : Nat} {l : List Rid} (h : wk p = some (c, l)) : Straight p := by
  obtain ⟨bc, rfl⟩ := wk_some h
  exact ⟨by simp, rfl, rfl, rfl⟩

/-- a signaller that has unlinked a record clears its `waiting` -/
theorem pend_clears (x : Exec s0) (H : FairHyps x) (a : Nat) (u : Tid) (c : Nat) (l : List Rid) (r : Rid)
    (hwk : wk ((x.ρ a).pc u) = some (c, l)) (hp : r ∈ pend ((x.ρ a).post u) l) :
    ∃ a', a ≤ a' ∧ ((x.ρ a').rcd r).waiting = false :=
  x.straight_leads H.reach H.weak u
    (R := fun j => ∃ c l, wk ((x.ρ j).pc u) = some (c, l) ∧ r ∈ pend ((x.ρ j).post u) l)
    (fun _ ⟨_, _, h, _⟩ => straight_of_wk h) (fun _ ⟨_, _, h1, h2⟩ => pend_step x H.reach h1 h2) a ⟨c, l, hwk, hp⟩

theorem Still.pc_ge {x : Exec s0} {t : Tid} {j : Nat} (h : Still x t j) {j' : Nat} (hj : j ≤ j') :
    (x.ρ j').pc t = (x.ρ j).pc t :=
  Sched.keeps_from (P := fun j' => (x.ρ j').pc t = (x.ρ j).pc t) rfl (fun k hk e => (h k hk).1.trans e) j' hj

theorem Still.fr_ge {x : Exec s0} {t : Tid} {j : Nat} (h : Still x t j) {j' : Nat} (hj : j ≤ j') :
    frSame ((x.ρ j).fr t) ((x.ρ j').fr t) :=
  Sched.keeps_from (P := fun j' => frSame ((x.ρ j).fr t) ((x.ρ j').fr t)) (frSame_refl _)
    (fun k hk e => frSame_trans e (h k hk).2.2) j' hj

/-- asleep with a finite abs_deadline: once the clock has passed `min_ntime` the sleeper is not blocked any more -/
theorem sleep_timed_unblocks (x : Exec s0) (hr : Reachable s0) (hclk : ClockAdvances x) (t : Tid) (j k : Nat)
    (hst : Still x t j) (hpk : (x.ρ j).pc t = .wPdWait k) (d : Int) (hd : ((x.ρ j).fr t).dl = some d) :
    ∃ j1, j ≤ j1 ∧ ∀ j', j1 ≤ j' → ¬ Blocked (x.ρ j') t := by
  have hsd := (sleep_deadline_state (x.reach hr j) (.inr ⟨k, hpk⟩)).2.1
  cases hmin : ((x.ρ j).fr t).min with
  | none => rw [hmin, hd] at hsd; simp [dle, dlt] at hsd
  | some m =>
    obtain ⟨i', hi', hnow⟩ := hclk j t k m hpk hmin
    refine ⟨i', hi', fun j2 hj2 hbl2 => ?_⟩
    rcases hbl2 with ⟨k', hpk', _, hexp⟩ | ⟨o, ho, _⟩ | ⟨k', r, hpk', _, _⟩
    · rw [frSame_min (hst.fr_ge (by omega)), hmin] at hexp
      have := x.now_mono hj2
      simp [expiredB] at hexp
      omega
    · rw [hst.pc_ge (by omega), hpk] at ho; cases ho
    · rw [hst.pc_ge (by omega), hpk] at hpk'; cases hpk'

/-- A thread cannot stay at a program point for ever without executing its next operation (`hsl`: if it is asleep
    in the P of wait.c:78 it is eventually not blocked any more). -/
theorem stuck_false (x : Exec s0) (H : FairHyps x) (t : Tid) (j : Nat) (hst : Still x t j)
    (hni : (x.ρ j).pc t ≠ .idle)
    (hsl : ∀ k, (x.ρ j).pc t = .wPdWait k → ∃ j1, j ≤ j1 ∧ ∀ j', j1 ≤ j' → ¬ Blocked (x.ρ j') t) : False := by
  have hr := H.reach
  have hpcc : ∀ j', j ≤ j' → (x.ρ j').pc t = (x.ρ j).pc t := fun j' hj => hst.pc_ge hj
  have hfrc : ∀ j', j ≤ j' → frSame ((x.ρ j).fr t) ((x.ρ j').fr t) := fun j' hj => hst.fr_ge hj
  -- blocked again and again
  have hb : ∀ i, j ≤ i → ∃ j', i ≤ j' ∧ Blocked (x.ρ j') t := by
    intro i hi
    apply Classical.byContradiction
    intro hno
    obtain ⟨j2, h2, hm⟩ := H.weak t i (fun j' hj' =>
      ⟨.inl (by rw [hpcc j' (by omega)]; exact hni), fun hbl => hno ⟨j', hj', hbl⟩⟩)
    exact hst.no_move (by omega) hm
  obtain ⟨j1, hj1, hbl⟩ := hb j (Nat.le_refl _)
  rcases hbl with ⟨k, hpk, _, _⟩ | ⟨o, ho, _⟩ | ⟨k, r, hpk, hrec, hw⟩
  · -- asleep
    rw [hpcc j1 hj1] at hpk
    obtain ⟨j2, hj2, hnb⟩ := hsl k hpk
    obtain ⟨j3, hj3, hbl3⟩ := hb j2 hj2
    exact hnb j3 hj3 hbl3
  · -- acquiring a lock that is free again and again
    refine H.lock t o j1 (fun j' hj' => ?_) (fun j' _ => lock_free_again x hr H.weak H.foreign o j')
    have h1 := lockWait_of_block ho
    rw [hpcc j' (by omega), ← hpcc j1 hj1]
    rw [lockWaitOf_objs (f := (x.ρ j1).fr t) ?_]
    · exact h1
    · rw [frSame_objs (hfrc j' (by omega)), frSame_objs (hfrc j1 hj1)]
  · -- in the wait loop of cv_dequeue
    have hpcw : ∀ j', j1 ≤ j' → (x.ρ j').pc t = .wDeqCv k .wspin := fun j' hj' => by
      rw [hpcc j' (by omega), ← hpcc j1 hj1]; exact hpk
    have hrecw : ∀ j', j1 ≤ j' → ((x.ρ j').fr t).recs[k]? = some r := fun j' hj' => by
      rw [frSame_recs (hfrc j' (by omega)), ← frSame_recs (hfrc j1 hj1)]; exact hrec
    -- the signaller that owns the record clears `waiting`, and it is not set again
    obtain ⟨u, c, l, hwk, hp⟩ := wspin_owned (x.reach hr j1) hpk hrec hw
    obtain ⟨j2, hj2, hd⟩ := pend_clears x H j1 u c l r hwk hp
    have hfalse := Sched.keeps_from hd fun k hk ih =>
      wspin_wfalse_step x hr (hpcw k (Nat.le_trans hj2 hk)) (hrecw k (Nat.le_trans hj2 hk)) ih
    obtain ⟨j3, hj3, hbl3⟩ := hb j2 (Nat.le_trans hj1 hj2)
    rcases hbl3 with ⟨k', hpk', _, _⟩ | ⟨o, ho, _⟩ | ⟨k', r', hpk', hrec', hw'⟩
    · rw [hpcw j3 (by omega)] at hpk'; cases hpk'
    · rw [hpcw j3 (by omega)] at ho; cases ho
    · rw [hpcw j3 (by omega)] at hpk'; cases hpk'
      rw [hrecw j3 (by omega)] at hrec'; cases hrec'
      rw [hfalse j3 hj3] at hw'; cases hw'

end

/-!
### an nsync_wait_n call with a finite abs_deadline returns (`wait_returns_timed`), by
induction on the rank after the last wake-up.
-/

section

variable {s0 : State}

theorem inCall_of_isNfWake {p : PC} (h : isNfWake p = true) : inCall p = true := by
  unfold isNfWake at h
  split at h
  · rfl
  · cases h

theorem rank_nfWake {p : PC} (h : isNfWake p = true) (n : Nat) (po po' : Option Rid) : rank p n po = rank p n po' := by
  unfold isNfWake at h
  split at h
  · rfl
  · cases h

theorem lockWaitOf_some_of_spin {p : PC} {f : Frame} (hl : LInv p f) (hs : isSpin p = true) (hc : inCall p = true) :
    ∃ o, lockWaitOf p f = some o := by
  unfold isSpin at hs
  split at hs
  · cases hc
  · obtain ⟨c, h⟩ := hl.2.2.1; exact ⟨_, h⟩
  · obtain ⟨c, h⟩ := hl.2.2.2.1; exact ⟨_, h⟩
  · cases hs

theorem holdsAt_nfWake {p : PC} {f : Frame} (hl : LInv p f) (h : isNfWake p = true) :
    ∃ o, holdsAt p f = some o ∧ ¬ accounts p f o := by
  unfold isNfWake at h
  split at h
  · rename_i u i
    have hn : isNoteAt f i := by cases u <;> first | exact hl.2.2 | exact hl.2 | exact hl.2.2.2.1
    obtain ⟨n, hn⟩ := hn
    refine ⟨.note n, hn, ?_⟩
    rintro (⟨_, h2⟩ | h2)
    · cases h2
    · exact h2
  · cases h

theorem holdsAt_objs {p : PC} {f f' : Frame} (h : f'.objs = f.objs) : holdsAt p f' = holdsAt p f := by
  unfold holdsAt
  split <;> simp [h]

/-- An nsync_wait_n call returns, provided a sleeper that is never woken again is eventually not blocked (`hsl`). -/
theorem wait_returns_core (x : Exec s0) (H : FairHyps x) (t : Tid) (hfw : FiniteWakeups x t) (i : Nat)
    (hin : inCall ((x.ρ i).pc t) = true)
    (hsl : ∀ j, i ≤ j → (∀ m, i ≤ m → m ≤ j → (x.ρ m).pc t ≠ .idle) → Still x t j → ∀ k, (x.ρ j).pc t = .wPdWait k →
      ∃ j1, j ≤ j1 ∧ ∀ j', j1 ≤ j' → ¬ Blocked (x.ρ j') t) :
    ∃ j, i ≤ j ∧ (x.ρ j).pc t = .idle := by
  have hr := H.reach
  apply Classical.byContradiction
  intro hno
  have hni : ∀ j, i ≤ j → (x.ρ j).pc t ≠ .idle := fun j hj h => hno ⟨j, hj, h⟩
  -- the call stays the same call
  have hinc : ∀ j, i ≤ j → inCall ((x.ρ j).pc t) = true := Sched.keeps_from hin fun j hj h => by
    rw [x.inCall_step t j (hni _ hj) (hni _ (Nat.le_succ_of_le hj))]; exact h
  obtain ⟨n, hn⟩ := hfw
  -- classification of the steps after the last wake-up
  have cls : ∀ j, i ≤ j → n ≤ j →
      ((x.ρ (j + 1)).pc t = (x.ρ j).pc t ∧ (x.ρ (j + 1)).post t = (x.ρ j).post t ∧ frSame ((x.ρ j).fr t) ((x.ρ (j + 1)).fr t))
      ∨ rk (x.ρ (j + 1)) t < rk (x.ρ j) t
      ∨ (isSpin ((x.ρ j).pc t) = true ∧ isSpin ((x.ρ (j + 1)).pc t) = true ∧ rk (x.ρ (j + 1)) t = rk (x.ρ j) t
          ∧ lockWaitOf ((x.ρ (j + 1)).pc t) ((x.ρ (j + 1)).fr t) = lockWaitOf ((x.ρ j).pc t) ((x.ρ j).fr t))
      ∨ (isNfWake ((x.ρ j).pc t) = true ∧ (x.ρ (j + 1)).pc t = (x.ρ j).pc t ∧ rk (x.ρ (j + 1)) t = rk (x.ρ j) t
          ∧ ((x.ρ (j + 1)).fr t).objs = ((x.ρ j).fr t).objs) := by
    intro j hj hnj
    obtain ⟨e, hp, he⟩ := x.prog hr t j
    rcases hp with h | h | ⟨ho, _, h | h | h | h | h | h⟩
    · exact absurd h (hni _ hj)
    · exact absurd h (hni _ (by omega))
    · exact .inl h
    · exact .inr (.inl h)
    · exact .inr (.inr (.inl h))
    · obtain ⟨k, hk, hek⟩ := h
      exact absurd (he k hek.1) (hn j k hnj hk)
    · refine .inr (.inr (.inr ⟨h.1, h.2, ?_, ho⟩))
      simp only [rk, h.2, count_eq ho]
      exact rank_nfWake h.1 _ _ _
    · have := sgNext_early h
      have hc := hinc j hj
      revert this hc
      cases (x.ρ j).pc t <;> simp [sgEarly, inCall]
  -- `Sched.leads` with the steps on which the rank falls as moves: there is always another one
  have live : ∀ j, i ≤ j ∧ n ≤ j → ∃ j', j ≤ j' ∧ rk (x.ρ (j' + 1)) t < rk (x.ρ j') t := by
    intro j ⟨hj, hnj⟩
    apply Classical.byContradiction
    intro hno
    -- no step decreases the rank any more
    have cls' : ∀ k, j ≤ k →
        ((x.ρ (k + 1)).pc t = (x.ρ k).pc t ∧ (x.ρ (k + 1)).post t = (x.ρ k).post t
          ∧ frSame ((x.ρ k).fr t) ((x.ρ (k + 1)).fr t))
        ∨ (isSpin ((x.ρ k).pc t) = true ∧ isSpin ((x.ρ (k + 1)).pc t) = true
            ∧ lockWaitOf ((x.ρ (k + 1)).pc t) ((x.ρ (k + 1)).fr t) = lockWaitOf ((x.ρ k).pc t) ((x.ρ k).fr t))
        ∨ (isNfWake ((x.ρ k).pc t) = true ∧ (x.ρ (k + 1)).pc t = (x.ρ k).pc t
            ∧ ((x.ρ (k + 1)).fr t).objs = ((x.ρ k).fr t).objs) := by
      intro k hk
      rcases cls k (by omega) (by omega) with h | h | h | h
      · exact .inl h
      · exact absurd ⟨k, hk, h⟩ hno
      · exact .inr (.inl ⟨h.1, h.2.1, h.2.2.2⟩)
      · exact .inr (.inr ⟨h.1, h.2.1, h.2.2.2⟩)
    by_cases hsp : isSpin ((x.ρ j).pc t) = true
    · -- in a test-and-set loop for ever
      obtain ⟨o, ho⟩ := lockWaitOf_some_of_spin (linv_of_reachable (x.reach hr j) t) hsp (hinc j hj)
      have hspin : ∀ k, j ≤ k → isSpin ((x.ρ k).pc t) = true ∧ lockWaitOf ((x.ρ k).pc t) ((x.ρ k).fr t) = some o :=
        Sched.keeps_from ⟨hsp, ho⟩ fun k hk ihd => by
          rcases cls' k hk with h | h | h
          · rw [h.1, lockWaitOf_objs (frSame_objs h.2.2)]; exact ihd
          · exact ⟨h.2.1, h.2.2.trans ihd.2⟩
          · have := isNfWake_not_spin h.1; rw [ihd.1] at this; cases this
      exact H.lock t o j (fun j' hj' => (hspin j' hj').2) (fun j' _ => lock_free_again x hr H.weak H.foreign o j')
    · by_cases hnf : isNfWake ((x.ρ j).pc t) = true
      · -- in the protocol-driven wake loop for ever
        obtain ⟨o, ho, hna⟩ := holdsAt_nfWake (linv_of_reachable (x.reach hr j) t) hnf
        have hsame : ∀ k, j ≤ k → (x.ρ k).pc t = (x.ρ j).pc t ∧ holdsAt ((x.ρ k).pc t) ((x.ρ k).fr t) = some o :=
          Sched.keeps_from ⟨rfl, ho⟩ fun k hk ihd => by
            rcases cls' k hk with h | h | h
            · rw [h.1, holdsAt_objs (frSame_objs h.2.2)]; exact ihd
            · have := isNfWake_not_spin (ihd.1 ▸ hnf); rw [h.1] at this; cases this
            · rw [h.2.1, holdsAt_objs h.2.2]; exact ihd
        obtain ⟨j', hj', hne⟩ := H.foreign j o t (((qinv_of_reachable (x.reach hr j)).cf t).holds o ho).1 hna
        exact hne (((qinv_of_reachable (x.reach hr j')).cf t).holds o (hsame j' hj').2).1
      · -- at one program point for ever
        have stay : ∀ k, j ≤ k → (x.ρ k).pc t = (x.ρ j).pc t → _ := fun k hk e =>
          (cls' k hk).resolve_right fun h => h.elim (fun h => hsp (e ▸ h.1)) (fun h => hnf (e ▸ h.1))
        have hpcs : ∀ k, j ≤ k → (x.ρ k).pc t = (x.ρ j).pc t :=
          Sched.keeps_from rfl fun k hk e => (stay k hk e).1.trans e
        have hst : Still x t j := fun k hk => stay k hk (hpcs k hk)
        exact stuck_false x H t j hst (hni j hj) (hsl j hj (fun m h1 _ => hni m h1) hst)
  obtain ⟨_, _, hf⟩ := Sched.leads (M := fun j => rk (x.ρ (j + 1)) t < rk (x.ρ j) t) (fun j => i ≤ j ∧ n ≤ j)
    (fun _ => False) (fun j => rk (x.ρ j) t)
    (fun j ⟨hj, hnj⟩ hm => .inr ⟨⟨Nat.le_succ_of_le hj, Nat.le_succ_of_le hnj⟩, by
      rcases cls j hj hnj with h | h | h | h
      · exact Nat.le_of_eq (rk_eq_of_same h.1 h.2.1 (frSame_objs h.2.2))
      · exact Nat.le_of_lt h
      · exact Nat.le_of_eq h.2.2.1
      · exact Nat.le_of_eq h.2.2.1⟩)
    (fun j ⟨hj, hnj⟩ hm => .inr ⟨⟨Nat.le_succ_of_le hj, Nat.le_succ_of_le hnj⟩, hm⟩)
    live (max i n) ⟨Nat.le_max_left _ _, Nat.le_max_right _ _⟩
  exact hf

/-- the abs_deadline of a call in progress does not change -/
theorem dl_keep (x : Exec s0) (hr : Reachable s0) (t : Tid) {i j : Nat} (hij : i ≤ j)
    (hni : ∀ m, i ≤ m → m ≤ j → (x.ρ m).pc t ≠ .idle) : ((x.ρ j).fr t).dl = ((x.ρ i).fr t).dl :=
  Sched.keeps_from (P := fun j => (∀ m, i ≤ m → m ≤ j → (x.ρ m).pc t ≠ .idle) → ((x.ρ j).fr t).dl = ((x.ρ i).fr t).dl)
    (fun _ => rfl)
    (fun k hk ih hni => by
      obtain ⟨e, hp, _⟩ := x.prog hr t k
      rcases hp with h | h | ⟨_, h, _⟩
      · exact absurd h (hni k hk (Nat.le_succ k))
      · exact absurd h (hni (k + 1) (Nat.le_succ_of_le hk) (Nat.le_refl _))
      · rw [h]; exact ih fun m h1 h2 => hni m h1 (Nat.le_succ_of_le h2)) j hij hni

/-- An nsync_wait_n call with a finite abs_deadline returns. -/
theorem wait_returns_timed (x : Exec s0) (H : FairHyps x) (hclk : ClockAdvances x) (t : Tid) (hfw : FiniteWakeups x t) (i : Nat)
    (hin : inCall ((x.ρ i).pc t) = true) (d0 : Int) (hdl : ((x.ρ i).fr t).dl = some d0) :
    ∃ j, i ≤ j ∧ (x.ρ j).pc t = .idle := by
  refine wait_returns_core x H t hfw i hin (fun j hj hni hst k hpk => ?_)
  exact sleep_timed_unblocks x H.reach hclk t j k hst hpk d0 (by rw [dl_keep x H.reach t hj hni]; exact hdl)

end

end WaitN
