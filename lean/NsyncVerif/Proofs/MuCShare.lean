import NsyncVerif.Proofs.MuCStep
/-
  MuC: the share a program point owns, the facts about locals that hold at every program point
  (`PC.ok`), and the lock invariant (definitions and the lemmas that re-establish it).
-/
namespace NsyncVerif.MuC

/-- Facts about the locals of nsync_mu_wait_with_deadline that hold at every program point. -/
def MW.ok (c : MW) : Prop :=
  c.l = c.hm ∧ (c.so = .cancelled → c.saw = true) ∧ (c.outc = .cancelled → c.saw = true) ∧
  (c.hl = true → c.so ≠ .ok ∧ c.outc = c.so) ∧ (c.hl = false → c.outc = .ok)

/-- unlock_slow / lock_slow called from mu_wait: the locals they return to. -/
def MW.inner (c : MW) : Prop := c.ok ∧ c.hl = false ∧ c.so = .ok

def Ret.ok : Ret → Prop
  | .ul _ _ => True
  | .mw c => c.inner

def SL.okL (c : SL) : Prop :=
  match c.mw with
  | none => True
  | some m => m.ok ∧ m.hl = false ∧ c.l = m.l

def noLock (w : Word) : Prop := w.wlock = false ∧ w.readers = 0

def PC.ok : PC → Prop
  | .lkCas1 l old | .tryCas1 l old => blocked l false old = false
  | .lsLd c | .lsCasEnq c _ | .lsSt c | .lsRelLd c | .lsRelCas c _ | .lsWaitLd c | .lsPEnter c | .lsPRet c => c.okL
  | .lsCasAcq c old => c.okL ∧ blocked c.l c.ign old = false
  | .usLd r | .usCasUnc r _ => r.ok
  | .usCasGrab r old => r.ok ∧ hasShare r.mode old = true ∧ uncontended old = false
  | .usRelLd r sc | .usRelCas r sc _ | .usRcLd r sc _ | .usRcCas r sc _ _ | .usReLd r sc | .usReCas r sc _ => r.ok ∧ sc.ok
  | .usEval r sc => r.ok ∧ sc.ok ∧ sc.tc = true ∧ sc.todo ≠ []
  | .usFinLd r _ | .usFinCas r _ _ | .usWakeSt r _ _ | .usWakeV r _ _ => r.ok
  | .mwLd0 c => c.ok ∧ c.hl = false ∧ c.so = .ok
  | .mwEval c => c.ok
  | .mwStW c | .mwRcLd c | .mwEnqLd c | .mwEnqCas c _ | .mwRelLd c | .mwRelCas c _ _ => c.ok ∧ c.outc = .ok
  | .mwWaitLd c | .mwLd255 c => c.ok
  | .mwSem c | .mwPdRet c _ | .mwNotify c => c.inner
  | .mwLd244 c | .mtLd c | .mtCasWW c _ | .mtLdWk c _ => c.ok ∧ c.hl = false ∧ c.so ≠ .ok
  | .mtCasAcq c old | .mtLdW c old | .mtLdRc c old | .mtRmLd c old | .mtRmCas c old _ | .mtStW c old | .mtStRel c old _ =>
    c.ok ∧ c.hl = false ∧ c.so ≠ .ok ∧ noLock old
  | .mwRet c cit => c.ok ∧ (cit = false → c.outc ≠ .ok)
  | _ => True

def PcOk (s : State) : Prop := ∀ t, (s.pc t).ok

/-- The share a program point owns in the word (before the client sees it / after the client gave
    it up / the temporary writer lock of unlock_slow and of mu_try_acquire_after_timeout_or_cancel). -/
def pcShare : PC → Option Mode
  | .lkRet l => some l
  | .tryRet l true => some l
  | .ulCas0 l _ | .ulLd l _ | .ulCas1 l _ _ => some l
  | .usLd r | .usCasUnc r _ | .usCasGrab r _ => some r.mode
  | .usRelLd _ sc | .usRelCas _ sc _ | .usEval _ sc | .usRcLd _ sc _ | .usRcCas _ sc _ _ | .usReLd _ sc | .usReCas _ sc _ =>
    if sc.late then some .W else none
  | .usFinLd _ f | .usFinCas _ f _ => if f.late then some .W else none
  | .mwLd0 c | .mwEval c | .mwStW c | .mwRcLd c | .mwEnqLd c | .mwEnqCas c _ | .mwRelLd c | .mwRelCas c _ _ | .mwRet c _ => some c.l
  | .mwWaitLd c | .mwLd255 c => if c.hl then some c.l else none
  | .mtLdW _ _ | .mtLdRc _ _ | .mtRmLd _ _ | .mtRmCas _ _ _ | .mtStW _ _ | .mtStRel _ _ _ => some .W
  | _ => none

def tshare (held : Option Mode) (p : PC) : Option Mode :=
  match held with
  | some m => some m
  | none => pcShare p

/-- The share thread `t` owns in the word. -/
def shareOf (s : State) (t : Tid) : Option Mode := tshare (s.held t) (s.pc t)

/-- The client-visible ghost is only set between calls. -/
def HeldIdle (s : State) : Prop := ∀ t, s.held t ≠ none → s.pc t = .idle

/-- (I_lock) the lock bits of the word are exactly the shares the threads own. -/
structure LockInv (s : State) : Prop where
  wown : ∀ t, s.wOwner = some t ↔ shareOf s t = some .W
  rown : ∀ t, t ∈ s.rOwners ↔ shareOf s t = some .R
  nodup : s.rOwners.Nodup
  wl : s.word.wlock = s.wOwner.isSome
  rd : s.word.readers = s.rOwners.length
  excl : s.word.wlock = true → s.word.readers = 0

theorem LockInv.same {s s' : State} (h : LockInv s) (h1 : s'.word.wlock = s.word.wlock)
    (h2 : s'.word.readers = s.word.readers) (h3 : s'.wOwner = s.wOwner) (h4 : s'.rOwners = s.rOwners)
    (h5 : ∀ u, shareOf s' u = shareOf s u) : LockInv s' := by
  obtain ⟨a1, a2, a3, a4, a5, a6⟩ := h
  exact ⟨fun t => by rw [h3, h5]; exact a1 t, fun t => by rw [h4, h5]; exact a2 t, by rw [h4]; exact a3,
    by rw [h1, h3]; exact a4, by rw [h2, h4]; exact a5, by rw [h1, h2]; exact a6⟩

theorem LockInv.noOwner_of_free {s : State} (h : LockInv s) (hw : s.word.wlock = false) : s.wOwner = none := by
  have := h.wl; rw [hw] at this
  cases hs : s.wOwner with
  | none => rfl
  | some x => rw [hs] at this; cases this

theorem LockInv.noReaders {s : State} (h : LockInv s) (hr : s.word.readers = 0) : s.rOwners = [] := by
  have := h.rd; rw [hr] at this
  exact List.length_eq_zero_iff.mp this.symm

theorem LockInv.acquireW {s s' : State} {t : Tid} (h : LockInv s)
    (hw : s.word.wlock = false) (hr : s.word.readers = 0)
    (h1 : s'.word.wlock = true) (h2 : s'.word.readers = 0) (h3 : s'.wOwner = some t) (h4 : s'.rOwners = s.rOwners)
    (h5 : shareOf s' t = some .W) (h6 : ∀ u, u ≠ t → shareOf s' u = shareOf s u) : LockInv s' := by
  have hno := h.noOwner_of_free hw
  have hnr := h.noReaders hr
  refine ⟨fun u => ?_, fun u => ?_, by rw [h4]; exact h.nodup, by rw [h1, h3]; rfl, by rw [h2, h4, hnr]; rfl, fun _ => h2⟩
  · by_cases hu : u = t
    · subst hu; rw [h3, h5]; simp
    · rw [h3, h6 u hu]
      constructor
      · intro e; cases e; exact absurd rfl hu
      · intro e; have := (h.wown u).2 e; rw [hno] at this; cases this
  · by_cases hu : u = t
    · subst hu; rw [h4, hnr, h5]; simp
    · rw [h4, h6 u hu]; exact h.rown u

theorem LockInv.acquireR {s s' : State} {t : Tid} (h : LockInv s) (hn : shareOf s t = none)
    (hw : s.word.wlock = false)
    (h1 : s'.word.wlock = false) (h2 : s'.word.readers = s.word.readers + 1) (h3 : s'.wOwner = s.wOwner)
    (h4 : s'.rOwners = t :: s.rOwners)
    (h5 : shareOf s' t = some .R) (h6 : ∀ u, u ≠ t → shareOf s' u = shareOf s u) : LockInv s' := by
  have hnt : t ∉ s.rOwners := fun e => by have := (h.rown t).1 e; rw [hn] at this; cases this
  refine ⟨fun u => ?_, fun u => ?_, by rw [h4]; exact List.nodup_cons.mpr ⟨hnt, h.nodup⟩,
    by rw [h1, h3, ← h.wl, hw], by rw [h2, h4, h.rd]; rfl, fun e => by rw [h1] at e; cases e⟩
  · by_cases hu : u = t
    · subst hu; rw [h3, h5]
      constructor
      · intro e; have := (h.wown u).1 e; rw [hn] at this; cases this
      · intro e; cases e
    · rw [h3, h6 u hu]; exact h.wown u
  · by_cases hu : u = t
    · subst hu; rw [h4, h5]; simp
    · rw [h4, h6 u hu, List.mem_cons]
      constructor
      · rintro (e | e)
        · exact absurd e hu
        · exact (h.rown u).1 e
      · intro e; exact Or.inr ((h.rown u).2 e)

theorem LockInv.releaseW {s s' : State} {t : Tid} (h : LockInv s) (ht : shareOf s t = some .W)
    (h1 : s'.word.wlock = false) (h2 : s'.word.readers = s.word.readers) (h3 : s'.wOwner = none)
    (h4 : s'.rOwners = s.rOwners)
    (h5 : shareOf s' t = none) (h6 : ∀ u, u ≠ t → shareOf s' u = shareOf s u) : LockInv s' := by
  have hown := (h.wown t).2 ht
  refine ⟨fun u => ?_, fun u => ?_, by rw [h4]; exact h.nodup, by rw [h1, h3]; rfl, by rw [h2, h4]; exact h.rd,
    fun e => by rw [h1] at e; cases e⟩
  · by_cases hu : u = t
    · subst hu; rw [h3, h5]; simp
    · rw [h3, h6 u hu]
      constructor
      · intro e; cases e
      · intro e; have := (h.wown u).2 e; rw [hown] at this; cases this; exact absurd rfl hu
  · by_cases hu : u = t
    · subst hu; rw [h4, h5]
      constructor
      · intro e; have := (h.rown u).1 e; rw [ht] at this; cases this
      · intro e; cases e
    · rw [h4, h6 u hu]; exact h.rown u

theorem LockInv.releaseR {s s' : State} {t : Tid} (h : LockInv s) (ht : shareOf s t = some .R)
    (h1 : s'.word.wlock = s.word.wlock) (h2 : s'.word.readers = s.word.readers - 1) (h3 : s'.wOwner = s.wOwner)
    (h4 : s'.rOwners = s.rOwners.erase t)
    (h5 : shareOf s' t = none) (h6 : ∀ u, u ≠ t → shareOf s' u = shareOf s u) : LockInv s' := by
  have hmem := (h.rown t).2 ht
  refine ⟨fun u => ?_, fun u => ?_, by rw [h4]; exact h.nodup.erase t, by rw [h1, h3]; exact h.wl,
    by rw [h2, h4, List.length_erase_of_mem hmem, h.rd], fun e => by rw [h1] at e; rw [h2, h.excl e]⟩
  · by_cases hu : u = t
    · subst hu; rw [h3, h5]
      constructor
      · intro e; have := (h.wown u).1 e; rw [ht] at this; cases this
      · intro e; cases e
    · rw [h3, h6 u hu]; exact h.wown u
  · by_cases hu : u = t
    · subst hu; rw [h4, h5]
      constructor
      · intro e; exact absurd e (List.Nodup.not_mem_erase h.nodup)
      · intro e; cases e
    · rw [h4, h6 u hu, List.mem_erase_of_ne hu]; exact h.rown u

/-- Writer lock converted to a reader lock (mu_wait.c:120 in reader mode). -/
theorem LockInv.downgrade {s s' : State} {t : Tid} (h : LockInv s) (ht : shareOf s t = some .W)
    (h1 : s'.word.wlock = false) (h2 : s'.word.readers = 1) (h3 : s'.wOwner = none)
    (h4 : s'.rOwners = t :: s.rOwners)
    (h5 : shareOf s' t = some .R) (h6 : ∀ u, u ≠ t → shareOf s' u = shareOf s u) : LockInv s' := by
  have hown := (h.wown t).2 ht
  have hwl : s.word.wlock = true := by rw [h.wl, hown]; rfl
  have hnr := h.noReaders (h.excl hwl)
  refine ⟨fun u => ?_, fun u => ?_, by rw [h4, hnr]; simp, by rw [h1, h3]; rfl, by rw [h2, h4, hnr]; rfl,
    fun e => by rw [h1] at e; cases e⟩
  · by_cases hu : u = t
    · subst hu; rw [h3, h5]; simp
    · rw [h3, h6 u hu]
      constructor
      · intro e; cases e
      · intro e; have := (h.wown u).2 e; rw [hown] at this; cases this; exact absurd rfl hu
  · by_cases hu : u = t
    · subst hu; rw [h4, h5]; simp
    · rw [h4, hnr, h6 u hu]
      constructor
      · intro e; simp at e; exact absurd e hu
      · intro e; have := (h.rown u).2 e; rw [hnr] at this; cases this

/-- Reader lock of the last reader converted to a writer lock (mu.c:301 with testing_conditions). -/
theorem LockInv.upgrade {s s' : State} {t : Tid} (h : LockInv s) (ht : shareOf s t = some .R)
    (hr : s.word.readers = 1)
    (h1 : s'.word.wlock = true) (h2 : s'.word.readers = 0) (h3 : s'.wOwner = some t)
    (h4 : s'.rOwners = s.rOwners.erase t)
    (h5 : shareOf s' t = some .W) (h6 : ∀ u, u ≠ t → shareOf s' u = shareOf s u) : LockInv s' := by
  have hmem := (h.rown t).2 ht
  have hlen : s.rOwners.length = 1 := by rw [← h.rd, hr]
  have hro : s.rOwners = [t] := by
    match hq : s.rOwners, hlen with
    | [x], _ => rw [hq] at hmem; simp at hmem; rw [hmem]
  have hnw : s.wOwner = none := by
    cases hw : s.word.wlock with
    | false => exact h.noOwner_of_free hw
    | true => have := h.excl hw; rw [hr] at this; cases this
  refine ⟨fun u => ?_, fun u => ?_, by rw [h4]; exact h.nodup.erase t, by rw [h1, h3]; rfl,
    by rw [h2, h4, hro]; simp, fun _ => h2⟩
  · by_cases hu : u = t
    · subst hu; rw [h3, h5]; simp
    · rw [h3, h6 u hu]
      constructor
      · intro e; cases e; exact absurd rfl hu
      · intro e; have := (h.wown u).2 e; rw [hnw] at this; cases this
  · by_cases hu : u = t
    · subst hu; rw [h4, hro, h5]; simp
    · rw [h4, hro, h6 u hu]
      constructor
      · intro e; simp at e
      · intro e; have := (h.rown u).2 e; rw [hro] at this; simp at this; exact absurd this hu

/-- The holder of the write lock is alone. -/
theorem LockInv.writer_alone {s : State} (h : LockInv s) {t u : Tid} (ht : shareOf s t = some .W)
    (hu : shareOf s u ≠ none) : u = t := by
  have hown := (h.wown t).2 ht
  cases hm : shareOf s u with
  | none => exact absurd hm hu
  | some m =>
    cases m with
    | W => have := (h.wown u).2 hm; rw [hown] at this; cases this; rfl
    | R =>
      have hmem := (h.rown u).2 hm
      have hwl : s.word.wlock = true := by rw [h.wl, hown]; rfl
      have := h.noReaders (h.excl hwl)
      rw [this] at hmem; cases hmem

end NsyncVerif.MuC
