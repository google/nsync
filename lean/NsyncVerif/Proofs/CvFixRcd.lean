/-
  Layer `CvFix`: `Tr.rcd`, the one sweep over `Tr` that says what an accepted step does to each record (`RecTr`,
  Proofs/CvFixRecTr.lean), with what `InvA` and `InvB'` say of the record at the program point the rule leaves; and
  `invA_tr`, the first invariant to take its record clauses from it.
-/
import NsyncVerif.Proofs.CvFixInvBRec
import NsyncVerif.Proofs.CvFixRecTr

namespace NsyncVerif.CvFix

variable {f3 : Bool}

/-- A rule that writes the one record `r0`. -/
theorem RecTr.one {s s' s1 : State} {e : Event} {r r0 : Rid} {v : Rec} {t : Tid} {x : Thr} (h1 : s1.recs = s.recs)
    (h : r = r0 → RecTr f3 s s' r e (s.recs r) v) :
    RecTr f3 s s' r e (s.recs r) (((s1.setRec r0 v).setThr t x).recs r) := by
  simp only [setThr_recs, setRec_recs, h1]
  split
  · exact h ‹_›
  · exact .keep _ _

theorem Tr.rcd {cfg : Config} {s s' : State} {e : Event} (htr : Tr cfg s e s') (ha : InvA s) (hb : InvB' f3 s)
    (r : Rid) : RecTr f3 s s' r e (s.recs r) (s'.recs r) := by
  cases htr with
  | same | tick | semOther | loc | relWait2 | relSig | relDeqW | relDbg | semPdRetOkW | semPdRetOkC => exact .keep _ _
  | acq t exp new obs o n hl hexp hw he ho hn hnew =>
    unfold afterAcquire
    split
    · rename_i hc
      refine .one (s1 := { s with word := n, holder := some t, queue := s.queue ++ [(s.thr t).r] }) rfl ?_
      rintro rfl
      have hp := (ha.thr t).prep (by simp [waitPrep, hl, show (s.thr t).cont = .waitEnq from hc])
      exact .enq _ _ _ _ _ hp.1 hp.2.1 (by simp [waitLive])
    · exact .keep _ _
    · exact .keep _ _
    · exact .keep _ _
    · dsimp only
      by_cases hc : (if (s.thr t).bcast = true then s.queue else sigSelect s.recs s.queue).contains r = true
      · simp only [hc, if_true]
        refine .unlink _ _ _ _ _ ((ha.qMem _).mp ?_)
        by_cases hb : (s.thr t).bcast = true
        · simpa [hb] using hc
        · simp only [hb] at hc
          exact (sigSelect_sublist s.recs s.queue).subset (by simpa using hc)
      · simp only [hc]; exact .keep _ _
  | relWait t new obs n hl =>
    exact .one (s1 := { s with word := n, holder := none, seq := s.seq + 1 }) rfl
      (by rintro rfl; exact .pub _ _ _ _ _ ((ha.thr t).enq (.inr hl)) (.inl rfl))
  | relEnq t new obs n hl =>
    exact .one (s1 := { s with word := n, holder := none, seq := s.seq + 1 }) rfl
      (by rintro rfl; exact .pub _ _ _ _ _ ((ha.thr t).nEnq hl).1 (.inr rfl))
  | relDeq t new obs n hl =>
    exact .one (s1 := { s with word := n, holder := none }) rfl
      (by
        rintro rfl
        have hm := (ha.thr t).mine _ ((ha.thr t).nDeq (.inr hl)).1
        exact .deqRel _ _ _ _ hm.1 hm.2.1 hl rfl (by simp))
  | deqSpinExit t r0 hl hr =>
    exact .one (s1 := s) rfl
      (by
        rintro rfl
        have hm := (ha.thr t).mine _ ((ha.thr t).nSpin (.inr hl)).1
        exact .deqSpin _ _ (hr ▸ hm.1) (hr ▸ hm.2.1) (by simp))
  | wHeadExit t r0 y hy hl hr =>
    subst hy
    have hv := (ha.thr t).live (by simp [waitLive, hl])
    exact .one (s1 := { s with bad := s.bad || (s.recs r0).stat.registered }) rfl
      (by rintro rfl; exact .exit _ _ (hr ▸ hv.1) (hr ▸ hv.2.1) (by simp))
  | wCmpEq t r0 obs hl hr ho he =>
    exact .one (s1 := { s with queue := s.queue.erase r0, bad := s.bad || decide ((s.recs r0).stat ≠ RStat.queued) })
      rfl (by rintro rfl; subst hr; exact .selfOut _ _ _ _ (wCmp_queued hb ha t hl (by rw [← ho, he])))
  | deqLdQueued t r0 obs hl hr hw hq =>
    exact .one (s1 := { s with queue := s.queue.erase r0 }) rfl
      (by rintro rfl; exact .selfOut _ _ _ _ ((ha.qMem _).mp hq))
  | wSt1 t r0 obs hl hm hst => exact .one (s1 := s) rfl (by rintro rfl; exact .wSt1 _ _ _ hst hm)
  | wClr t r0 obs hl hr =>
    exact .one (s1 := s) rfl (by
      rintro rfl
      exact .clr _ _ _ (hr ▸ (ha.thr t).selfO (.inr (.inr hl))) (hr ▸ ((ha.thr t).live (by simp [waitLive, hl])).2.1))
  | deqSt t r0 obs hl hr =>
    exact .one (s1 := s) rfl (by
      rintro rfl
      have hd := (ha.thr t).nDeq (.inl hl)
      have hm := (ha.thr t).mine _ hd.1
      exact .deqSt _ _ _ (hr ▸ (hb.thr t).deqS hl) (hr ▸ hm.1) (hr ▸ ⟨hd.2, hm.2.2.2⟩))
  | wRmCasOk t r0 exp new obs hl =>
    exact .one (s1 := s) rfl (by rintro rfl; exact .rcInc _ _ _ _ _ _ (by rw [hl]; rfl))
  | sRcCasOk t site r0 exp new obs hl =>
    exact .one (s1 := s) rfl (by rintro rfl; exact .rcInc _ _ _ _ _ _ (by rw [hl]; rfl))
  | enqSt t r0 obs hl hm hst ho he =>
    exact .one (s1 := { s with queue := s.queue ++ [r0] }) rfl
      (by rintro rfl; exact .enqSt _ _ _ hst hm ho (by simpa using he))
  | muMode t obs lt hl =>
    exact .one (s1 := s) rfl (by rintro rfl; exact .muMode _ _ _ _ ((ha.thr t).prep (by simp [waitPrep, hl])).1)
  | wake t r0 obs hl hr =>
    exact .one (s1 := s) rfl (by rintro rfl; exact .wake _ _ _ ((ha.lMem t _).mp (List.mem_of_mem_head? hr)) (by simp))
  | wwCasOk t exp new obs f rest hl hlist =>
    dsimp only
    split
    · rename_i hc
      obtain ⟨f', rest', hl', hf'⟩ := (hb.thr t).wwHead (.inr hl)
      have hc := List.contains_iff_mem.mp hc
      exact .xfer _ _ _ _ _ ((ha.lMem t _).mp (transferSet_subset _ _ _ _ hc)) (by simp)
        (transferSet_mucv _ _ f' rest' hf' r (hl' ▸ hc))
    · exact .keep _ _
  | semVWake t k r0 q hl =>
    exact .one (s1 := { s with sem := updS s.sem k (vCount cfg (s.sem k)) }) rfl (by rintro rfl; exact .post _ _ _ _)
  | wInit t r0 hl hm hst =>
    simpa using RecTr.one (t := t) (x := s.thr t) (s1 := s) rfl (by rintro rfl; exact .wInit _ _ hst hm)
  | nwInit t r0 hl hm hst =>
    simpa using RecTr.one (t := t) (x := s.thr t) (s1 := s) rfl (by rintro rfl; exact .nwInit _ _ _ hst hm)
  | fStW t r0 new hl hf =>
    simpa using RecTr.one (t := t) (x := s.thr t) (s1 := s) rfl (by rintro rfl; exact .fStW _ _ _ (foreignOk_stat hf))
  | fCasOk t r0 exp new obs hl hf =>
    simpa using
      RecTr.one (t := t) (x := s.thr t) (s1 := s) rfl (by rintro rfl; exact .fCasOk _ _ _ _ _ (foreignOk_stat hf))

/-- The record clauses follow each record through `RecTr`; the rest is the rules' own lemmas (`frameA_tr`). -/
theorem invA_tr {cfg : Config} {s s' : State} {e : Event} (ha : InvA s) (hb : InvB' f3 s) (h : Tr cfg s e s')
    (hbad : s'.bad = false) : InvA s' :=
  .ofRec (fun q => (RecAB.of ha hb q).step (h.rcd ha hb q)) (frameA_tr ha h hbad)

end NsyncVerif.CvFix
