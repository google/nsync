/-
  Proofs/WaitNFairTrace.lean — WaitN layer, liveness form of C11: concrete executions.

  * `traceExec`  a finite accepted trace from `init`, then nothing for ever;
  * `lassoExec`  a finite accepted trace from `init`, then a list of events that takes the state reached
                 back to itself, repeated for ever (`Proofs/Lasso.lean` for this layer's `run`);
  * `checkAll`   one pass that tests a decidable state predicate at every time of a trace (`Run.scan`);
  * decidable criteria for the hypotheses of the fair-termination theorem (`WeakFair`, `LockFair`,
    `ForeignRelease`, `ClockAdvances`, `FiniteWakeups`, `FiniteStrayPosts`) for the two kinds of execution:
    `traceExec_hyps` (on the final state) and `lassoExec_hyps` (on the loop), so that a concrete execution is
    evaluations plus one application;
  * the executions themselves: `wokenExec`, `timeoutExec`, `cvWokenExec` (all hypotheses hold, the caller sleeps and
    returns), `foreverExec`, and one execution per hypothesis that cannot be dropped (`stallExec`, `noClockExec`,
    `strayExec`, `bargeExec`, `holdExec`).
-/
import NsyncVerif.Proofs.WaitNFairDefs
import NsyncVerif.Proofs.Lasso

namespace WaitN
open NsyncVerif

section

/-- The state after `evs` from `s` (`s` itself if the events are not accepted). -/
def stateFrom (s : State) (evs : List Event) : State :=
  match run s evs with
  | .ok s' => s'
  | .error _ => s

def okRun (s : State) (evs : List Event) : Bool :=
  match run s evs with
  | .ok _ => true
  | .error _ => false

theorem run_of_okRun {s : State} {evs : List Event} (h : okRun s evs = true) :
    run s evs = .ok (stateFrom s evs) := by
  unfold okRun at h
  unfold stateFrom
  split at h
  · rename_i s' hs; rw [hs]
  · cases h

theorem run_of_accepts {evs : List Event} (h : accepts evs = true) : run init evs = .ok (stateFrom init evs) := by
  apply run_of_okRun
  simp only [accepts, final] at h
  unfold okRun
  split
  · rfl
  · rename_i m hm; rw [hm] at h; cases h

theorem stateFrom_eq {s sf : State} {evs : List Event} (h : run s evs = .ok sf) : stateFrom s evs = sf := by
  simp only [stateFrom, h]

theorem stateFrom_nil (s : State) : stateFrom s [] = s := rfl

/-- `stateFrom` is `Lasso.after` for this layer's `run`; the next three lemmas are `Lasso.after_take`, `after_ge`,
    `after_step` read through it -/
theorem stateFrom_after (s : State) (evs : List Event) : stateFrom s evs = Lasso.after run s evs := by
  unfold stateFrom Lasso.after; cases run s evs <;> rfl

theorem stateFrom_ok {s sf : State} {evs : List Event} (h : run s evs = .ok sf) (i : Nat) :
    run s (evs.take i) = .ok (stateFrom s (evs.take i)) := by
  rw [stateFrom_after]; exact Lasso.after_take isRun h i

theorem stateFrom_all {s sf : State} {evs : List Event} (h : run s evs = .ok sf) {i : Nat}
    (hi : evs.length ≤ i) : stateFrom s (evs.take i) = sf := by
  rw [stateFrom_after]; exact Lasso.after_ge h hi

theorem stateFrom_step {s sf : State} {evs : List Event} (h : run s evs = .ok sf) {i : Nat}
    (hi : i < evs.length) :
    step (stateFrom s (evs.take i)) evs[i] = .ok (stateFrom s (evs.take (i + 1))) := by
  rw [stateFrom_after, stateFrom_after]; exact Lasso.after_step isRun h hi

/-! ### a finite accepted trace, then nothing for ever -/

/-- The state after the first `i` events of `evs` from `init`. -/
def stateAt (evs : List Event) (i : Nat) : State := stateFrom init (evs.take i)

/-- A finite accepted trace, then nothing for ever. -/
def traceExec (evs : List Event) (sf : State) (h : run init evs = .ok sf) : Exec init :=
  { ρ := stateAt evs
    σ := fun i => evs[i]?
    start := by simp [stateAt, stateFrom, run]
    next := by
      intro i
      cases he : evs[i]? with
      | none =>
        have hi : evs.length ≤ i := by simpa using he
        show stateAt evs (i + 1) = stateAt evs i
        exact (stateFrom_all h (Nat.le_succ_of_le hi)).trans (stateFrom_all h hi).symm
      | some e =>
        obtain ⟨hi, rfl⟩ := List.getElem?_eq_some_iff.1 he
        exact stateFrom_step h hi }

theorem traceExec_tail {evs : List Event} {sf : State} (h : run init evs = .ok sf) {j : Nat}
    (hj : evs.length ≤ j) : (traceExec evs sf h).ρ j = sf ∧ (traceExec evs sf h).σ j = none :=
  ⟨stateFrom_all h hj, by show evs[j]? = none; simpa using hj⟩

theorem traceExec_at {evs : List Event} {sf : State} (h : run init evs = .ok sf) (j : Nat) :
    (traceExec evs sf h).ρ j = stateAt evs j ∧ (traceExec evs sf h).σ j = evs[j]? := ⟨rfl, rfl⟩

/-! ### a lasso: a finite accepted trace, then a state-restoring loop for ever -/

/-- A lasso: `evs`, then `loop` repeated for ever, where `loop` takes the state `sf` reached by `evs`
    back to `sf`. -/
def lassoExec (evs loop : List Event) (sf : State)
    (h : run init evs = .ok sf) (hl : run sf loop = .ok sf) (hp : 0 < loop.length) : Exec init :=
  { ρ := Lasso.ρ run init sf evs loop
    σ := Lasso.σ evs loop
    start := Lasso.start isRun h
    next := fun i => by
      obtain ⟨e, he, hs⟩ := Lasso.next isRun h hl hp i
      rw [he]; exact hs }

/-- every time of a lasso is a time of the stem or a position of the loop -/
theorem lassoExec_cases {evs loop : List Event} {sf : State}
    (h : run init evs = .ok sf) (hl : run sf loop = .ok sf) (hp : 0 < loop.length) (j : Nat) :
    (j < evs.length ∧ (lassoExec evs loop sf h hl hp).ρ j = stateAt evs j ∧ (lassoExec evs loop sf h hl hp).σ j = evs[j]?)
    ∨ (evs.length ≤ j ∧ ∃ k, k < loop.length ∧ (lassoExec evs loop sf h hl hp).ρ j = stateFrom sf (loop.take k)
        ∧ (lassoExec evs loop sf h hl hp).σ j = loop[k]?) := by
  simp only [stateAt, stateFrom_after]
  exact Lasso.cases hp j

/-- stem, `m` rounds of the loop, `k` more events: the state before event `k` of the loop, that event, and the
    state after it -/
theorem lassoExec_pos {evs loop : List Event} {sf : State}
    (h : run init evs = .ok sf) (hl : run sf loop = .ok sf) (hp : 0 < loop.length) (m : Nat) {k : Nat}
    (hk : k < loop.length) :
    (lassoExec evs loop sf h hl hp).ρ (evs.length + loop.length * m + k) = stateFrom sf (loop.take k) ∧
    (lassoExec evs loop sf h hl hp).σ (evs.length + loop.length * m + k) = loop[k]? ∧
    (lassoExec evs loop sf h hl hp).ρ (evs.length + loop.length * m + k + 1)
      = stateFrom sf (loop.take ((k + 1) % loop.length)) := by
  rw [stateFrom_after, stateFrom_after]
  have := Lasso.pos (r := run) (s0 := init) (sf := sf) (pre := evs) m hk
  exact ⟨this.1, this.2, Lasso.pos_succ hp m hk⟩

/-! ### a decidable predicate at every time of a trace, in one pass -/

def checkAll (P : State → Bool) (s : State) (evs : List Event) : Bool := scan step (fun _ => P) 0 s evs

theorem checkAll_take {P : State → Bool} {evs : List Event} {s : State} (hc : checkAll P s evs = true) (i : Nat) :
    P (stateFrom s (evs.take i)) = true := by
  obtain ⟨s', h1, h2⟩ := isRun.scan_take hc (min i evs.length) (Nat.min_le_right _ _)
  rw [show evs.take i = evs.take (min i evs.length) by rw [List.take_eq_take_min], stateFrom_eq h1]
  exact h2

theorem traceExec_all {evs : List Event} {sf : State} (h : run init evs = .ok sf) {P : State → Bool}
    (hc : checkAll P init evs = true) (j : Nat) : P ((traceExec evs sf h).ρ j) = true :=
  checkAll_take hc j

theorem lassoExec_all {evs loop : List Event} {sf : State}
    (h : run init evs = .ok sf) (hl : run sf loop = .ok sf) (hp : 0 < loop.length) {P : State → Bool}
    (hc : checkAll P init evs = true) (hc2 : checkAll P sf loop = true) (j : Nat) :
    P ((lassoExec evs loop sf h hl hp).ρ j) = true := by
  rcases lassoExec_cases h hl hp j with ⟨_, e, _⟩ | ⟨_, k, _, e, _⟩ <;> rw [e]
  · exact checkAll_take hc j
  · exact checkAll_take hc2 k

/-! ### threads that do not occur in a trace -/

def evTid : Event → Option Tid
  | .thr t _ => some t
  | .tick _ => none

/-- All events of the list are events of threads `< n` (or ticks). -/
def tidsBelow (n : Nat) (evs : List Event) : Bool :=
  evs.all fun e => match evTid e with | some t => decide (t < n) | none => true

theorem tidsBelow_ne {n : Nat} {evs : List Event} (h : tidsBelow n evs = true) {t : Tid}
    (ht : n ≤ t) : ∀ e ∈ evs, evTid e ≠ some t := by
  intro e he hte
  have := List.all_eq_true.1 h e he
  have h2 : decide (t < n) = true := by simpa [hte] using this
  have h3 : t < n := of_decide_eq_true h2
  exact absurd h3 (Nat.not_lt.2 ht)

/-- Threads that do not occur in a trace are where they were. -/
theorem run_untouched {t : Tid} {evs : List Event} {s s' : State} (hne : ∀ e ∈ evs, evTid e ≠ some t)
    (h : run s evs = .ok s') : s'.pc t = s.pc t ∧ s'.post t = s.post t := by
  refine isRun.induct_mem (Q := fun s' => s'.pc t = s.pc t ∧ s'.post t = s.post t) ⟨rfl, rfl⟩ ?_ h
  intro s1 e s2 he _ ⟨a, b⟩ hs
  cases e with
  | tick ns => rw [(step_tick hs).1]; exact ⟨a, b⟩
  | thr u ev =>
    obtain ⟨o1, _, o3, _⟩ := others_stepThr (show stepThr s1 u ev = .ok s2 from hs) t
      (fun hh => hne _ he (by simp [evTid, hh]))
    exact ⟨o1.trans a, o3.trans b⟩

/-- the threads `≥ n` are idle and owe nothing after a trace of threads `< n` from `init`, and after a further one -/
theorem idle_untouched {evs : List Event} {sf : State} (h : run init evs = .ok sf) {n : Nat}
    (hb : tidsBelow n evs = true) {t : Tid} (ht : n ≤ t) : sf.pc t = .idle ∧ sf.post t = none :=
  run_untouched (tidsBelow_ne hb ht) h

theorem traceExec_untouched {evs : List Event} {sf : State} (h : run init evs = .ok sf) {n : Nat}
    (hb : tidsBelow n evs = true) {t : Tid} (ht : n ≤ t) (j : Nat) :
    ((traceExec evs sf h).ρ j).pc t = .idle ∧ ((traceExec evs sf h).ρ j).post t = none :=
  run_untouched (fun e he => tidsBelow_ne hb ht e (List.mem_of_mem_take he)) (stateFrom_ok h j)

theorem lassoExec_untouched {evs loop : List Event} {sf : State}
    (h : run init evs = .ok sf) (hl : run sf loop = .ok sf) (hp : 0 < loop.length) {n : Nat}
    (hb : tidsBelow n evs = true) (hb2 : tidsBelow n loop = true) {t : Tid} (ht : n ≤ t) (j : Nat) :
    ((lassoExec evs loop sf h hl hp).ρ j).pc t = .idle ∧ ((lassoExec evs loop sf h hl hp).ρ j).post t = none := by
  rcases lassoExec_cases h hl hp j with ⟨_, e, _⟩ | ⟨_, k, _, e, _⟩ <;> rw [e]
  · exact run_untouched (fun e he => tidsBelow_ne hb ht e (List.mem_of_mem_take he)) (stateFrom_ok h j)
  · have := run_untouched (fun e he => tidsBelow_ne hb2 ht e (List.mem_of_mem_take he)) (stateFrom_ok hl k)
    have hsf := idle_untouched h hb ht
    exact ⟨this.1.trans hsf.1, this.2.trans hsf.2⟩

/-! ### quantification over all objects / threads / records of a concrete state -/

theorem all_tid {P : Nat → Prop} (n : Nat) (h1 : ∀ k, k < n → P k) (h2 : ∀ k, P (k + n)) : ∀ t : Nat, P t := by
  intro t
  by_cases ht : t < n
  · exact h1 t ht
  · have := h2 (t - n); rwa [show t - n + n = t by omega] at this

theorem all_obj {P : ObjId → Prop} (n : Nat)
    (h1 : ∀ k, k < n → P (.cv k) ∧ P (.note k) ∧ P (.ctr k))
    (h2 : ∀ k, P (.cv (k + n)) ∧ P (.note (k + n)) ∧ P (.ctr (k + n))) : ∀ o, P o := by
  intro o
  cases o with
  | cv k => exact all_tid (P := fun k => P (.cv k)) n (fun k hk => (h1 k hk).1) (fun k => (h2 k).1) k
  | note k => exact all_tid (P := fun k => P (.note k)) n (fun k hk => (h1 k hk).2.1) (fun k => (h2 k).2.1) k
  | ctr k => exact all_tid (P := fun k => P (.ctr k)) n (fun k hk => (h1 k hk).2.2) (fun k => (h2 k).2.2) k

theorem State.ext' {a b : State} (h1 : a.obj = b.obj) (h2 : a.rcd = b.rcd) (h3 : a.sem = b.sem)
    (h4 : a.semUser = b.semUser) (h5 : a.pc = b.pc) (h6 : a.fr = b.fr) (h7 : a.mc = b.mc) (h8 : a.post = b.post)
    (h9 : a.now = b.now) : a = b := by
  cases a; cases b; simp_all

/-! ### criteria for the hypotheses -/

variable {s0 : State}

/-- an execution that ends with every thread idle (nothing owed) or blocked for ever is weakly fair -/
theorem weakFair_of_final (x : Exec s0) (N : Nat)
    (hN : ∀ j, N ≤ j → ∀ t, ((x.ρ j).pc t = .idle ∧ (x.ρ j).post t = none) ∨ Blocked (x.ρ j) t) : WeakFair x := by
  intro t i h
  rcases hN (max i N) (by omega) t with h1 | h1
  · rcases (h (max i N) (by omega)).1 with h2 | h2
    · exact absurd h1.1 h2
    · exact absurd h1.2 h2
  · exact absurd h1 (h (max i N) (by omega)).2

/-- an execution in which every thread that is not idle / blocked moves again and again is weakly fair -/
theorem weakFair_of_recurrent (x : Exec s0)
    (hN : ∀ t, (∀ i, ∃ j, i ≤ j ∧ Moves x t j) ∨ (∀ i, ∃ j, i ≤ j ∧ ¬ Ready (x.ρ j) t)) : WeakFair x := by
  intro t i h
  rcases hN t with h1 | h1
  · exact h1 i
  · obtain ⟨j, hj, hr⟩ := h1 i
    exact absurd (h j hj) hr

theorem finiteWakeups_of_tail (x : Exec s0) (N : Nat) (hN : ∀ j, N ≤ j → x.σ j = none) (t : Tid) :
    FiniteWakeups x t :=
  ⟨N, fun j k hj _ he => by rw [hN j hj] at he; cases he⟩

theorem finiteStrayPosts_of_tail (x : Exec s0) (N : Nat) (hN : ∀ j, N ≤ j → x.σ j = none) :
    FiniteStrayPosts x :=
  ⟨N, fun j u k hj he => by rw [hN j hj] at he; cases he⟩

/-- nobody is acquiring a lock again and again -/
theorem lockFair_of_recurrent (x : Exec s0)
    (hN : ∀ i t, ∃ j, i ≤ j ∧ lockWaitOf ((x.ρ j).pc t) ((x.ρ j).fr t) = none) : LockFair x := by
  intro t o i h _
  obtain ⟨j, hj, hn⟩ := hN i t
  rw [h j hj] at hn; cases hn

theorem lockFair_of_tail (x : Exec s0) (N : Nat)
    (hN : ∀ j, N ≤ j → ∀ t, lockWaitOf ((x.ρ j).pc t) ((x.ρ j).fr t) = none) : LockFair x :=
  lockFair_of_recurrent x (fun i t => ⟨max i N, by omega, hN _ (by omega) t⟩)

/-- every lock is free again and again -/
theorem foreignRelease_of_recurrent (x : Exec s0)
    (hN : ∀ i, ∃ j, i ≤ j ∧ ∀ o, ((x.ρ j).obj o).lock = none) : ForeignRelease x := by
  intro i o u _ _
  obtain ⟨j, hj, hn⟩ := hN i
  exact ⟨j, hj, by rw [hn o]; simp⟩

theorem foreignRelease_of_tail (x : Exec s0) (N : Nat)
    (hN : ∀ j, N ≤ j → ∀ o, ((x.ρ j).obj o).lock = none) : ForeignRelease x :=
  foreignRelease_of_recurrent x (fun i => ⟨max i N, by omega, hN _ (by omega)⟩)

/-- the clock ends at `T`, and every finite deadline a sleeper ever waits for is at most `T` -/
theorem clockAdvances_of_final (x : Exec s0) (N T : Nat) (hT : ∀ j, N ≤ j → (x.ρ j).now = T)
    (h : ∀ i t k d, (x.ρ i).pc t = .wPdWait k → ((x.ρ i).fr t).min = some d → d ≤ (T : Int)) :
    ClockAdvances x := by
  intro i t k d hp hd
  exact ⟨max i N, by omega, by rw [hT _ (by omega)]; exact h i t k d hp hd⟩

/-- the sleepers among the threads `< n` have no deadline or a deadline `≤ T` -/
def sleepOk (n T : Nat) (s : State) : Bool :=
  (List.range n).all fun t =>
    match s.pc t with
    | .wPdWait _ => match (s.fr t).min with
      | none => true
      | some d => decide (d ≤ (T : Int))
    | _ => true

theorem sleepOk_spec {n T : Nat} {s : State} (h : sleepOk n T s = true) {t : Tid} (ht : t < n) {k : SemId} {d : Int}
    (hp : s.pc t = .wPdWait k) (hd : (s.fr t).min = some d) : d ≤ (T : Int) := by
  have := List.all_eq_true.1 h t (List.mem_range.2 ht)
  simp only [hp, hd, decide_eq_true_eq] at this
  exact this

theorem traceExec_clock {evs : List Event} {sf : State} (h : run init evs = .ok sf) (n T : Nat)
    (hb : tidsBelow n evs = true) (hT : sf.now = T) (hc : checkAll (sleepOk n T) init evs = true) :
    ClockAdvances (traceExec evs sf h) := by
  refine clockAdvances_of_final _ evs.length T (fun j hj => by rw [(traceExec_tail h hj).1]; exact hT) ?_
  intro i t k d hp hd
  by_cases ht : t < n
  · exact sleepOk_spec (traceExec_all h hc i) ht hp hd
  · have := (traceExec_untouched h hb (Nat.le_of_not_lt ht) i).1
    rw [this] at hp; cases hp

theorem lassoExec_clock {evs loop : List Event} {sf : State}
    (h : run init evs = .ok sf) (hl : run sf loop = .ok sf) (hp : 0 < loop.length) (n T : Nat)
    (hb : tidsBelow n evs = true) (hb2 : tidsBelow n loop = true)
    (hT : checkAll (fun s => decide (s.now = T)) sf loop = true)
    (hc : checkAll (sleepOk n T) init evs = true) (hc2 : checkAll (sleepOk n T) sf loop = true) :
    ClockAdvances (lassoExec evs loop sf h hl hp) := by
  refine clockAdvances_of_final _ evs.length T (fun j hj => ?_) ?_
  · rcases lassoExec_cases h hl hp j with ⟨h1, _⟩ | ⟨_, k, _, e, _⟩
    · exact absurd h1 (Nat.not_lt.2 hj)
    · rw [e]; exact of_decide_eq_true (checkAll_take hT k)
  · intro i t k d hq hd
    by_cases ht : t < n
    · exact sleepOk_spec (lassoExec_all h hl hp hc hc2 i) ht hq hd
    · have := (lassoExec_untouched h hl hp hb hb2 (Nat.le_of_not_lt ht) i).1
      rw [this] at hq; cases hq

/-- the events of the periodic part are events of the loop -/
theorem lassoExec_sigma_mem {evs loop : List Event} {sf : State}
    (h : run init evs = .ok sf) (hl : run sf loop = .ok sf) (hp : 0 < loop.length) {j : Nat}
    (hj : evs.length ≤ j) {e : Event} (he : (lassoExec evs loop sf h hl hp).σ j = some e) : e ∈ loop := by
  rcases lassoExec_cases h hl hp j with ⟨h1, _⟩ | ⟨_, k, _, _, e'⟩
  · exact absurd h1 (Nat.not_lt.2 hj)
  · rw [e'] at he; exact List.mem_of_getElem? he

/-- the loop is entered again and again in the state `sf` -/
theorem lassoExec_recur {evs loop : List Event} {sf : State}
    (h : run init evs = .ok sf) (hl : run sf loop = .ok sf) (hp : 0 < loop.length) (i : Nat) :
    ∃ j, i ≤ j ∧ (lassoExec evs loop sf h hl hp).ρ j = sf :=
  ⟨_, Lasso.recurs (pre := evs) hp i 0, (lassoExec_pos h hl hp i hp).1⟩

/-! ### decidable forms of "not required to move" -/

/-- asleep in the P on a semaphore whose count is 0, before the deadline -/
def sleepB (s : State) (t : Tid) : Bool :=
  match s.pc t with
  | .wPdWait j => decide (s.sem j = 0) && !expiredB (s.fr t).min s.now
  | _ => false

theorem blocked_of_sleepB {s : State} {t : Tid} (h : sleepB s t = true) : Blocked s t := by
  unfold sleepB at h
  split at h
  · rename_i j hj
    simp only [Bool.and_eq_true, decide_eq_true_eq, Bool.not_eq_true'] at h
    exact .inl ⟨j, hj, h.1, h.2⟩
  · cases h

/-- waiting for a lock that is held -/
def lockB (s : State) (t : Tid) : Bool :=
  match lockBlockOf (s.pc t) (s.fr t) with
  | some o => ((s.obj o).lock).isSome
  | none => false

theorem blocked_of_lockB {s : State} {t : Tid} (h : lockB s t = true) : Blocked s t := by
  unfold lockB at h
  split at h
  · rename_i o ho
    refine .inr (.inl ⟨o, ho, ?_⟩)
    intro hn; rw [hn] at h; cases h
  · cases h

/-- idle with nothing owed, or asleep, or waiting for a held lock -/
def quietB (s : State) (t : Tid) : Bool :=
  (decide (s.pc t = .idle) && decide (s.post t = none)) || sleepB s t || lockB s t

theorem quietB_spec {s : State} {t : Tid} (h : quietB s t = true) :
    (s.pc t = .idle ∧ s.post t = none) ∨ Blocked s t := by
  simp only [quietB, Bool.or_eq_true, Bool.and_eq_true, decide_eq_true_eq] at h
  rcases h with (h | h) | h
  · exact .inl h
  · exact .inr (blocked_of_sleepB h)
  · exact .inr (blocked_of_lockB h)

theorem not_ready_of_quietB {s : State} {t : Tid} (h : quietB s t = true) : ¬ Ready s t := by
  rintro ⟨h1, h2⟩
  rcases quietB_spec h with h3 | h3
  · rcases h1 with h1 | h1
    · exact h1 h3.1
    · exact h1 h3.2
  · exact h2 h3

/-! ### the hypotheses of the fair-termination theorem for the two kinds of concrete execution -/

/-- A finite accepted trace of threads `< n`, then nothing for ever: each hypothesis under a criterion on the final
    state `sf` (and, for the clock, one pass over the trace). -/
theorem traceExec_hyps {evs : List Event} {sf : State} (h : run init evs = .ok sf) (n : Nat)
    (hb : tidsBelow n evs = true) :
    ((∀ t, t < n → quietB sf t = true) → WeakFair (traceExec evs sf h)) ∧
    ((∀ t, t < n → lockWaitOf (sf.pc t) (sf.fr t) = none) → LockFair (traceExec evs sf h)) ∧
    ((∀ o, (sf.obj o).lock = none) → ForeignRelease (traceExec evs sf h)) ∧
    (∀ T, sf.now = T → checkAll (sleepOk n T) init evs = true → ClockAdvances (traceExec evs sf h)) ∧
    (∀ t, FiniteWakeups (traceExec evs sf h) t) ∧ FiniteStrayPosts (traceExec evs sf h) := by
  have tail := fun j (hj : evs.length ≤ j) => traceExec_tail h hj
  have rest := fun t (ht : n ≤ t) => idle_untouched h hb ht
  refine ⟨fun hq => ?_, fun hl => ?_,
    fun ho => foreignRelease_of_tail _ evs.length (fun j hj => by rw [(tail j hj).1]; exact ho),
    fun T hT hc => traceExec_clock h n T hb hT hc,
    finiteWakeups_of_tail _ evs.length (fun j hj => (tail j hj).2),
    finiteStrayPosts_of_tail _ evs.length (fun j hj => (tail j hj).2)⟩
  · refine weakFair_of_final _ evs.length (fun j hj t => ?_)
    rw [(tail j hj).1]
    by_cases ht : t < n
    · exact quietB_spec (hq t ht)
    · exact .inl (rest t (Nat.le_of_not_lt ht))
  · refine lockFair_of_tail _ evs.length (fun j hj t => ?_)
    rw [(tail j hj).1]
    by_cases ht : t < n
    · exact hl t ht
    · rw [(rest t (Nat.le_of_not_lt ht)).1]; rfl

/-- … all of them at once. -/
theorem traceExec_all_hyps {evs : List Event} {sf : State} (h : run init evs = .ok sf) (n T : Nat)
    (hb : tidsBelow n evs = true)
    (hq : ∀ t, t < n → quietB sf t = true ∧ lockWaitOf (sf.pc t) (sf.fr t) = none)
    (ho : ∀ o, (sf.obj o).lock = none) (hT : sf.now = T) (hc : checkAll (sleepOk n T) init evs = true) :
    Reachable init ∧ WeakFair (traceExec evs sf h) ∧ LockFair (traceExec evs sf h) ∧
    ForeignRelease (traceExec evs sf h) ∧ ClockAdvances (traceExec evs sf h) ∧
    (∀ t, FiniteWakeups (traceExec evs sf h) t) ∧ FiniteStrayPosts (traceExec evs sf h) :=
  have ⟨a, b, c, d, e, f⟩ := traceExec_hyps h n hb
  ⟨reachable_init, a fun t ht => (hq t ht).1, b fun t ht => (hq t ht).2, c ho, d T hT hc, e, f⟩

/-- `t` moves at step `k` of the loop, or is not required to move before it -/
def fairAtB (sf : State) (loop : List Event) (t : Tid) (k : Nat) : Bool :=
  let a := stateFrom sf (loop.take k)
  let b := stateFrom sf (loop.take ((k + 1) % loop.length))
  decide (b.pc t ≠ a.pc t) || decide (b.post t ≠ a.post t) || quietB a t

/-- neither a wake-up of a sleeper nor a post -/
def calmEv : Event → Bool
  | .thr _ (.pdRet _ false) | .thr _ (.semV _) => false
  | _ => true

/-- A lasso of threads `< n`: each hypothesis under a criterion on the loop.  It is weakly fair if each thread, at
    some step of the loop, moves or is idle / blocked. -/
theorem lassoExec_hyps {evs loop : List Event} {sf : State}
    (h : run init evs = .ok sf) (hl : run sf loop = .ok sf) (hp : 0 < loop.length) (n : Nat)
    (hb : tidsBelow n evs = true) (hb2 : tidsBelow n loop = true) :
    ((∀ t, t < n → ∃ k, k < loop.length ∧ fairAtB sf loop t k = true) → WeakFair (lassoExec evs loop sf h hl hp)) ∧
    ((∀ t, t < n → lockWaitOf (sf.pc t) (sf.fr t) = none) → LockFair (lassoExec evs loop sf h hl hp)) ∧
    ((∀ o, (sf.obj o).lock = none) → ForeignRelease (lassoExec evs loop sf h hl hp)) ∧
    (loop.all calmEv = true →
      (∀ t, FiniteWakeups (lassoExec evs loop sf h hl hp) t) ∧ FiniteStrayPosts (lassoExec evs loop sf h hl hp)) := by
  have hrec := lassoExec_recur h hl hp
  have rest := fun t (ht : n ≤ t) j => lassoExec_untouched h hl hp hb hb2 ht j
  refine ⟨fun hf => weakFair_of_recurrent _ fun t => ?_, fun hw => lockFair_of_recurrent _ fun i t => ?_,
    fun ho => foreignRelease_of_recurrent _ fun i => ?_, fun hc => ?_⟩
  · by_cases ht : t < n
    · obtain ⟨k, hk, hf⟩ := hf t ht
      simp only [fairAtB, Bool.or_eq_true, decide_eq_true_eq] at hf
      have pos := fun i => lassoExec_pos h hl hp i hk
      rcases hf with hm | hq
      · refine .inl fun i => ⟨_, Lasso.recurs (pre := evs) hp i k, ?_⟩
        unfold Moves
        rw [(pos i).2.2, (pos i).1]
        exact hm
      · exact .inr fun i => ⟨_, Lasso.recurs (pre := evs) hp i k, by rw [(pos i).1]; exact not_ready_of_quietB hq⟩
    · refine .inr fun i => ⟨i, Nat.le_refl i, ?_⟩
      obtain ⟨a, b⟩ := rest t (Nat.le_of_not_lt ht) i
      rintro ⟨h | h, _⟩
      · exact h a
      · exact h b
  · obtain ⟨j, hj, hs⟩ := hrec i
    refine ⟨j, hj, ?_⟩
    by_cases ht : t < n
    · rw [hs]; exact hw t ht
    · rw [(rest t (Nat.le_of_not_lt ht) j).1]; rfl
  · obtain ⟨j, hj, hs⟩ := hrec i
    exact ⟨j, hj, fun o => by rw [hs]; exact ho o⟩
  · have hcalm : ∀ j, evs.length ≤ j → ∀ e, (lassoExec evs loop sf h hl hp).σ j = some e → calmEv e = true :=
      fun j hj e he => List.all_eq_true.1 hc e (lassoExec_sigma_mem h hl hp hj he)
    exact ⟨fun t => ⟨evs.length, fun j k hj _ he => by cases hcalm j hj _ he⟩,
      ⟨evs.length, fun j u k hj he => by cases hcalm j hj _ he⟩⟩

end

/-!
### concrete executions that end quiescent. * `wokenExec`, `timeoutExec`:
non-vacuity (all hypotheses hold, the caller really sleeps, returns); * `stallExec` (`WeakFair` is needed),
`foreverExec` (a wait without deadline on objects that never become ready sleeps for ever under all hypotheses),
`noClockExec` (`ClockAdvances` is needed); * `strayExec` (`FiniteWakeups` / `FiniteStrayPosts` are needed),
`bargeExec` (`LockFair` is needed): lassos.
-/

section

open Example

/-! ## non-vacuity: woken by the counter reaching zero -/

def wokenEvs : List Event := noteCtr ++ [.thr 0 (.retWaitN 1 false)]
def wokenFinal : State := stateFrom init wokenEvs

theorem woken_run : run init wokenEvs = .ok wokenFinal := run_of_accepts (by decide)

/-- `Example.noteCtr`, the return with index 1, then nothing for ever. -/
def wokenExec : Exec init := traceExec wokenEvs wokenFinal woken_run

theorem woken_tail {j : Nat} (hj : 92 ≤ j) : wokenExec.ρ j = wokenFinal ∧ wokenExec.σ j = none :=
  traceExec_tail woken_run (by show wokenEvs.length ≤ j; exact hj)

set_option maxRecDepth 4096 in
/-- `wokenExec` satisfies all hypotheses of the fair-termination theorem. -/
theorem woken_hyps : Reachable init ∧ WeakFair wokenExec ∧ LockFair wokenExec ∧ ForeignRelease wokenExec ∧
    ClockAdvances wokenExec ∧ (∀ t, FiniteWakeups wokenExec t) ∧ FiniteStrayPosts wokenExec := by
  exact traceExec_all_hyps woken_run 10 0 (by decide) (by decide) (all_obj 1 (by decide) (fun _ => ⟨rfl, rfl, rfl⟩)) (by decide) (by decide)

set_option maxRecDepth 4096 in
/-- … and in it the caller really sleeps before it is woken: at time 44 thread 0 is in the P on semaphore 3
    (count 0, no deadline: `Blocked`), the counter is 1; the zeroing CAS of thread 1 is event 48, its post of
    semaphore 3 event 50, the `pd_ret` of thread 0 event 54, the return with index 1 event 91. -/
theorem woken_sleeps :
    (wokenExec.ρ 44).pc 0 = .wPdWait 3 ∧ (wokenExec.ρ 44).sem 3 = 0 ∧ ((wokenExec.ρ 44).fr 0).min = none ∧
    Blocked (wokenExec.ρ 44) 0 ∧
    ((wokenExec.ρ 48).obj (.ctr 0)).value = 1 ∧ ((wokenExec.ρ 49).obj (.ctr 0)).value = 0 ∧
    (wokenExec.ρ 49).pc 0 = .wPdWait 3 ∧ (wokenExec.ρ 49).sem 3 = 0 ∧
    wokenExec.σ 48 = some (.thr 1 (.cas .ar (.value 0) .other 1 0 1 true)) ∧
    wokenExec.σ 50 = some (.thr 1 (.semV 3)) ∧ (wokenExec.ρ 51).sem 3 = 1 ∧
    wokenExec.σ 54 = some (.thr 0 (.pdRet 3 false)) ∧
    wokenExec.σ 91 = some (.thr 0 (.retWaitN 1 false)) ∧ (wokenExec.ρ 91).pc 0 = .wRet 1 ∧
    ∀ j, 92 ≤ j → (wokenExec.ρ j).pc 0 = .idle := by
  have hb : sleepB (wokenExec.ρ 44) 0 = true := by decide
  refine ⟨by decide, by decide, by decide, blocked_of_sleepB hb, by decide, by decide, by decide, by decide,
    rfl, rfl, by decide, rfl, rfl, by decide, ?_⟩
  intro j hj
  rw [(woken_tail hj).1]; decide

/-! ## non-vacuity: five condition variables, heap array, deadline 500, times out -/

def timeoutEvs : List Event := heapTimeout ++ [.thr 0 (.retWaitN 5 false)]
def timeoutFinal : State := stateFrom init timeoutEvs

theorem timeout_run : run init timeoutEvs = .ok timeoutFinal := run_of_accepts (by decide)

/-- `Example.heapTimeout`, the return with result 5 (= count: timeout), then nothing for ever. -/
def timeoutExec : Exec init := traceExec timeoutEvs timeoutFinal timeout_run

theorem timeout_tail {j : Nat} (hj : 64 ≤ j) : timeoutExec.ρ j = timeoutFinal ∧ timeoutExec.σ j = none :=
  traceExec_tail timeout_run (by show timeoutEvs.length ≤ j; exact hj)

set_option maxRecDepth 4096 in
theorem timeout_hyps : Reachable init ∧ WeakFair timeoutExec ∧ LockFair timeoutExec ∧ ForeignRelease timeoutExec ∧
    ClockAdvances timeoutExec ∧ (∀ t, FiniteWakeups timeoutExec t) ∧ FiniteStrayPosts timeoutExec := by
  exact traceExec_all_hyps timeout_run 1 500 (by decide) (by decide) (all_obj 5 (by decide) (fun _ => ⟨rfl, rfl, rfl⟩)) (by decide) (by decide)

set_option maxRecDepth 4096 in
/-- … the caller sleeps with deadline 500 at time 0 (time 34: in the P on semaphore 1, count 0, `Blocked`); the
    tick to 500 is event 34, the `pd_ret ETIMEDOUT` event 35, the return with 5 = count event 63. -/
theorem timeout_sleeps :
    ((timeoutExec.ρ 1).fr 0).dl = some 500 ∧
    (timeoutExec.ρ 34).pc 0 = .wPdWait 1 ∧ (timeoutExec.ρ 34).sem 1 = 0 ∧ ((timeoutExec.ρ 34).fr 0).min = some 500 ∧
    (timeoutExec.ρ 34).now = 0 ∧ Blocked (timeoutExec.ρ 34) 0 ∧
    timeoutExec.σ 34 = some (.tick 500) ∧ (timeoutExec.ρ 35).now = 500 ∧
    timeoutExec.σ 35 = some (.thr 0 (.pdRet 1 true)) ∧
    timeoutExec.σ 63 = some (.thr 0 (.retWaitN 5 false)) ∧ (timeoutExec.ρ 63).pc 0 = .wRet 5 ∧
    ((timeoutExec.ρ 63).fr 0).objs.length = 5 ∧
    ∀ j, 64 ≤ j → (timeoutExec.ρ j).pc 0 = .idle := by
  have hb : sleepB (timeoutExec.ρ 34) 0 = true := by decide
  refine ⟨by decide, by decide, by decide, by decide, by decide, blocked_of_sleepB hb, rfl, by decide, rfl, rfl,
    by decide, by decide, ?_⟩
  intro j hj
  rw [(timeout_tail hj).1]; decide

/-! ## non-vacuity: woken by nsync_cv_signal -/

def cvWokenEvs : List Event := cvWoken ++ [.thr 0 (.retWaitN 0 false)]
def cvWokenFinal : State := stateFrom init cvWokenEvs

theorem cvWoken_run : run init cvWokenEvs = .ok cvWokenFinal := run_of_accepts (by decide)

/-- `Example.cvWoken` (one condition variable with mutex 0, no deadline; a signaller wakes the caller), the return
    with index 0, then nothing for ever. -/
def cvWokenExec : Exec init := traceExec cvWokenEvs cvWokenFinal cvWoken_run

theorem cvWoken_tail {j : Nat} (hj : 25 ≤ j) : cvWokenExec.ρ j = cvWokenFinal ∧ cvWokenExec.σ j = none :=
  traceExec_tail cvWoken_run (by show cvWokenEvs.length ≤ j; exact hj)

theorem cvWoken_hyps : Reachable init ∧ WeakFair cvWokenExec ∧ LockFair cvWokenExec ∧ ForeignRelease cvWokenExec ∧
    ClockAdvances cvWokenExec ∧ (∀ t, FiniteWakeups cvWokenExec t) ∧ FiniteStrayPosts cvWokenExec := by
  exact traceExec_all_hyps cvWoken_run 2 0 (by decide) (by decide) (all_obj 1 (by decide) (fun _ => ⟨rfl, rfl, rfl⟩)) (by decide) (by decide)

/-- … the caller sleeps (time 9: in the P on semaphore 2, count 0, no deadline, `Blocked`); nsync_cv_signal is
    called at event 9, its post is event 15, the `pd_ret` event 17, the return with index 0 event 24. -/
theorem cvWoken_sleeps :
    (cvWokenExec.ρ 9).pc 0 = .wPdWait 2 ∧ (cvWokenExec.ρ 9).sem 2 = 0 ∧ ((cvWokenExec.ρ 9).fr 0).min = none ∧
    Blocked (cvWokenExec.ρ 9) 0 ∧
    cvWokenExec.σ 9 = some (.thr 1 (.callSig 0 false)) ∧ cvWokenExec.σ 15 = some (.thr 1 (.semV 2)) ∧
    (cvWokenExec.ρ 16).sem 2 = 1 ∧ cvWokenExec.σ 17 = some (.thr 0 (.pdRet 2 false)) ∧
    cvWokenExec.σ 24 = some (.thr 0 (.retWaitN 0 false)) ∧ (cvWokenExec.ρ 24).pc 0 = .wRet 0 ∧
    ∀ j, 25 ≤ j → (cvWokenExec.ρ j).pc 0 = .idle := by
  have hb : sleepB (cvWokenExec.ρ 9) 0 = true := by decide
  refine ⟨by decide, by decide, by decide, blocked_of_sleepB hb, rfl, rfl, by decide, rfl, rfl, by decide, ?_⟩
  intro j hj
  rw [(cvWoken_tail hj).1]; decide

/-! ## (b) a wait without deadline on a note that is never notified sleeps for ever, under all hypotheses -/

def foreverEvs : List Event := noteSleep none none
def foreverFinal : State := stateFrom init foreverEvs

theorem forever_run : run init foreverEvs = .ok foreverFinal := run_of_accepts (by decide)

/-- `Example.noteSleep none none` (nsync_wait_n on an un-notified note without expiry, no abs_deadline, asleep on
    semaphore 3), then nothing for ever. -/
def foreverExec : Exec init := traceExec foreverEvs foreverFinal forever_run

theorem forever_tail {j : Nat} (hj : 30 ≤ j) : foreverExec.ρ j = foreverFinal ∧ foreverExec.σ j = none :=
  traceExec_tail forever_run (by show foreverEvs.length ≤ j; exact hj)

set_option maxRecDepth 4096 in
/-- All hypotheses hold (thread 0 is `Blocked`: weak fairness asks nothing of it), the call has no deadline, the
    note is never notified and has no expiry time — and the call never returns: thread 0 is asleep in the P on
    semaphore 3 from time 30 on. -/
theorem forever_sleeps : Reachable init ∧ WeakFair foreverExec ∧ LockFair foreverExec ∧ ForeignRelease foreverExec ∧
    ClockAdvances foreverExec ∧ (∀ t, FiniteWakeups foreverExec t) ∧ FiniteStrayPosts foreverExec ∧
    ((foreverExec.ρ 2).fr 0).dl = none ∧ ((foreverExec.ρ 2).fr 0).objs = [.note 0] ∧
    (∀ j, ((foreverExec.ρ j).obj (.note 0)).flag = false ∧ ((foreverExec.ρ j).obj (.note 0)).expiry = none) ∧
    (∀ j, 30 ≤ j → (foreverExec.ρ j).pc 0 = .wPdWait 3 ∧ (foreverExec.ρ j).sem 3 = 0 ∧
      ((foreverExec.ρ j).fr 0).min = none ∧ Blocked (foreverExec.ρ j) 0) := by
  obtain ⟨rch, a, b, c, d, e, f⟩ :=
    traceExec_all_hyps forever_run 10 0 (by decide) (by decide) (all_obj 1 (by decide) (fun _ => ⟨rfl, rfl, rfl⟩)) (by decide) (by decide)
  refine ⟨rch, a, b, c, d, e, f, by decide, by decide, ?_, ?_⟩
  · intro j
    have := traceExec_all forever_run (P := fun s => decide (((s.obj (.note 0)).flag = false ∧ (s.obj (.note 0)).expiry = none)))
      (by decide) j
    exact of_decide_eq_true this
  · intro j hj
    rw [(forever_tail hj).1]
    have hb : sleepB foreverFinal 0 = true := by decide
    exact ⟨by decide, by decide, by decide, blocked_of_sleepB hb⟩

/-! ## (a) `WeakFair` is needed -/

def stallEvs : List Event := [.thr 0 (.callWaitN none (some 500) [.cv 0] false)]
def stallFinal : State := stateFrom init stallEvs

theorem stall_run : run init stallEvs = .ok stallFinal := run_of_accepts (by decide)

/-- The call of nsync_wait_n on cv 0 with deadline 500, then nothing for ever (the caller is never scheduled). -/
def stallExec : Exec init := traceExec stallEvs stallFinal stall_run

theorem stall_tail {j : Nat} (hj : 1 ≤ j) : stallExec.ρ j = stallFinal ∧ stallExec.σ j = none :=
  traceExec_tail stall_run (by show stallEvs.length ≤ j; exact hj)

/-- All hypotheses except `WeakFair` hold, the deadline is finite, and the call never returns. -/
theorem stall_needs_weakFair : Reachable init ∧ ¬ WeakFair stallExec ∧ LockFair stallExec ∧ ForeignRelease stallExec ∧
    ClockAdvances stallExec ∧ (∀ t, FiniteWakeups stallExec t) ∧ FiniteStrayPosts stallExec ∧
    ((stallExec.ρ 1).fr 0).dl = some 500 ∧ (∀ j, 1 ≤ j → (stallExec.ρ j).pc 0 ≠ .idle) := by
  obtain ⟨_, b, c, d, e, f⟩ := traceExec_hyps stall_run 1 (by decide)
  have hpc : stallFinal.pc 0 = .wInit 0 := by decide
  refine ⟨reachable_init, ?_, b (by decide), c (all_obj 1 (by decide) (fun _ => ⟨rfl, rfl, rfl⟩)), d 0 (by decide) (by decide), e, f, by decide, ?_⟩
  · intro hw
    obtain ⟨j, hj, hm⟩ := hw 0 1 (fun j hj => by
      rw [(stall_tail hj).1]
      refine ⟨.inl (by rw [hpc]; simp), ?_⟩
      rintro (⟨k, hk, _⟩ | ⟨o, ho, _⟩ | ⟨k, r, hk, _⟩)
      · rw [hpc] at hk; cases hk
      · rw [hpc] at ho; simp [lockBlockOf] at ho
      · rw [hpc] at hk; cases hk)
    unfold Moves at hm
    rw [(stall_tail hj).1, (stall_tail (show 1 ≤ j + 1 by omega)).1] at hm
    rcases hm with hm | hm <;> exact hm rfl
  · intro j hj; rw [(stall_tail hj).1, hpc]; simp

/-! ## (c) `ClockAdvances` is needed -/

def noClockEvs : List Event := cvSleep 0 (.stk 0) (some 500) 0 0
def noClockFinal : State := stateFrom init noClockEvs

theorem noClock_run : run init noClockEvs = .ok noClockFinal := run_of_accepts (by decide)

/-- `Example.cvSleep`: nsync_wait_n on cv 0 with deadline 500 up to the P (semaphore 0), then nothing for ever:
    nobody signals, and the clock stays at 0. -/
def noClockExec : Exec init := traceExec noClockEvs noClockFinal noClock_run

theorem noClock_tail {j : Nat} (hj : 8 ≤ j) : noClockExec.ρ j = noClockFinal ∧ noClockExec.σ j = none :=
  traceExec_tail noClock_run (by show noClockEvs.length ≤ j; exact hj)

/-- All hypotheses except `ClockAdvances` hold (thread 0 is `Blocked`: asleep before its deadline), the deadline
    is finite, and the call never returns. -/
theorem noClock_needs_clock : Reachable init ∧ WeakFair noClockExec ∧ LockFair noClockExec ∧ ForeignRelease noClockExec ∧
    ¬ ClockAdvances noClockExec ∧ (∀ t, FiniteWakeups noClockExec t) ∧ FiniteStrayPosts noClockExec ∧
    ((noClockExec.ρ 1).fr 0).dl = some 500 ∧
    (∀ j, (noClockExec.ρ j).now = 0) ∧
    (∀ j, 8 ≤ j → (noClockExec.ρ j).pc 0 = .wPdWait 0 ∧ ((noClockExec.ρ j).fr 0).min = some 500) ∧
    (∀ j, 1 ≤ j → (noClockExec.ρ j).pc 0 ≠ .idle) := by
  obtain ⟨a, b, c, _, e, f⟩ := traceExec_hyps noClock_run 1 (by decide)
  have hpc : noClockFinal.pc 0 = .wPdWait 0 ∧ (noClockFinal.fr 0).min = some 500 := by decide
  have hnow : ∀ j, (noClockExec.ρ j).now = 0 := fun j =>
    of_decide_eq_true (traceExec_all noClock_run (P := fun s => decide (s.now = 0)) (by decide) j)
  refine ⟨reachable_init, a (by decide), b (by decide), c (all_obj 1 (by decide) (fun _ => ⟨rfl, rfl, rfl⟩)), ?_, e, f, by decide, hnow, ?_, ?_⟩
  · intro hc
    obtain ⟨i', _, h2⟩ := hc 8 0 0 500 (by rw [(noClock_tail (Nat.le_refl 8)).1]; exact hpc.1)
      (by rw [(noClock_tail (Nat.le_refl 8)).1]; exact hpc.2)
    rw [hnow i'] at h2
    omega
  · intro j hj; rw [(noClock_tail hj).1]; exact hpc
  · intro j hj
    by_cases h8 : 8 ≤ j
    · rw [(noClock_tail h8).1, hpc.1]; simp
    · have hall : ∀ j, j < 8 → 1 ≤ j → (noClockExec.ρ j).pc 0 ≠ .idle := by decide
      exact hall j (by omega) hj

/-! ## lassos: state-restoring loops -/

theorem all_rid {P : Rid → Prop} (n : Nat) (h1 : ∀ k, k < n → P (.stk k)) (h2 : ∀ k, P (.stk (k + n)))
    (h3 : ∀ a i, P (.heap a i)) : ∀ r, P r := by
  intro r
  cases r with
  | stk k => exact all_tid (P := fun k => P (.stk k)) n h1 h2 k
  | heap a i => exact h3 a i

/-! ## (e) `FiniteWakeups` / `FiniteStrayPosts` are needed -/

def strayPre : List Event := cvSleep 0 (.stk 0) (some 500) 0 0 ++ [.tick 500]
def strayLoop : List Event :=
  [.thr 1 (.semV 0), .thr 0 (.pdRet 0 false), .thr 0 (.ld .acq (.waiting (.stk 0)) .cvRT 1), .thr 0 (.pdEnter 0 (some 500))]
def straySf : State := stateFrom init strayPre

theorem stray_run : run init strayPre = .ok straySf := run_of_accepts (by decide)

theorem stray_loop0 : run straySf strayLoop = .ok (stateFrom straySf strayLoop) := run_of_okRun (by decide)

theorem stray_back : stateFrom straySf strayLoop = straySf := by
  apply State.ext'
  · funext o; revert o; exact all_obj 1 (fun k hk => by
      have : k = 0 := by omega
      subst this; exact ⟨rfl, rfl, rfl⟩) (fun _ => ⟨rfl, rfl, rfl⟩)
  · funext r; revert r; exact all_rid 1 (fun k hk => by
      have : k = 0 := by omega
      subst this; rfl) (fun _ => rfl) (fun _ _ => rfl)
  · funext j; revert j; exact all_tid 1 (by decide) (fun _ => rfl)
  · funext j; revert j; exact all_tid 1 (by decide) (fun _ => rfl)
  · funext j; revert j; exact all_tid 2 (by decide) (fun _ => rfl)
  · funext t; revert t; exact all_tid 2 (fun k hk => by
      match k, hk with
      | 0, _ => rfl
      | 1, _ => rfl) (fun _ => rfl)
  · funext j; revert j; exact all_tid 2 (by decide) (fun _ => rfl)
  · funext j; revert j; exact all_tid 2 (by decide) (fun _ => rfl)
  · decide

theorem stray_loop : run straySf strayLoop = .ok straySf := by
  have := stray_loop0; rwa [stray_back] at this

/-- The sleeper's deadline 500 has passed (tick to 500); then for ever: idle thread 1 (another layer) posts semaphore
    0, thread 0 wakes up with `pd_ret 0`, rescans (cv not signalled) and goes back to sleep. -/
def strayExec : Exec init := lassoExec strayPre strayLoop straySf stray_run stray_loop (by decide)

theorem stray_nolock : ∀ o, (straySf.obj o).lock = none := all_obj 1 (by decide) (fun _ => ⟨rfl, rfl, rfl⟩)

theorem stray_needs_finite : Reachable init ∧ WeakFair strayExec ∧ LockFair strayExec ∧ ForeignRelease strayExec ∧
    ClockAdvances strayExec ∧ ¬ FiniteWakeups strayExec 0 ∧ ¬ FiniteStrayPosts strayExec ∧
    ((strayExec.ρ 1).fr 0).dl = some 500 ∧ (∀ j, 9 ≤ j → (strayExec.ρ j).now = 500) ∧
    (∀ j, 1 ≤ j → (strayExec.ρ j).pc 0 ≠ .idle) := by
  obtain ⟨a, b, c, _⟩ := lassoExec_hyps stray_run stray_loop (by decide) 2 (by decide) (by decide)
  have pos := fun m k (hk : k < 4) => lassoExec_pos stray_run stray_loop (by decide) m (k := k) hk
  have late := fun m k => Lasso.recurs (pre := strayPre) (loop := strayLoop) (by decide) m k
  have loopAll {P : State → Bool} (hP : checkAll P straySf strayLoop = true) : ∀ j, 9 ≤ j → P (strayExec.ρ j) = true :=
    fun j hj => by
      rcases lassoExec_cases stray_run stray_loop (by decide) j with ⟨h1, _⟩ | ⟨_, k, _, e, _⟩
      · exact absurd h1 (Nat.not_lt.2 hj)
      · rw [show strayExec.ρ j = _ from e]; exact checkAll_take hP k
  refine ⟨reachable_init, a (by decide), b (by decide), c stray_nolock,
    lassoExec_clock stray_run stray_loop (by decide) 2 500 (by decide) (by decide) (by decide) (by decide) (by decide),
    ?_, ?_, by decide, fun j hj => of_decide_eq_true (loopAll (P := fun s => decide (s.now = 500)) (by decide) j hj), ?_⟩
  · -- step 1 of every round of the loop is a wake-up of thread 0
    rintro ⟨n, h⟩
    obtain ⟨e1, e2, _⟩ := pos n 1 (by omega)
    exact h _ 0 (late n 1) (by rw [show strayExec.ρ _ = _ from e1]; decide) e2
  · -- step 0 of every round is a post by thread 1, which owes none
    rintro ⟨n, h⟩
    obtain ⟨e1, e2, _⟩ := pos n 0 (by omega)
    obtain ⟨r, hp, _⟩ := h _ 1 0 (late n 0) e2 0 (by rw [show strayExec.ρ _ = _ from e1]; decide)
    rw [show strayExec.ρ _ = _ from e1, show (stateFrom straySf (strayLoop.take 0)).post 1 = none by decide] at hp
    cases hp
  · intro j hj
    by_cases h9 : 9 ≤ j
    · exact of_decide_eq_true (loopAll (P := fun s => decide (s.pc 0 ≠ .idle)) (by decide) j h9)
    · rcases lassoExec_cases stray_run stray_loop (by decide) j with ⟨h1, e, _⟩ | ⟨h1, _⟩
      · rw [show strayExec.ρ j = _ from e]
        exact (by decide : ∀ j, j < 9 → 1 ≤ j → (stateAt strayPre j).pc 0 ≠ .idle) j (Nat.lt_of_not_le h9) hj
      · exact absurd h1 h9


/-! ## (d) `LockFair` is needed -/

def bargePre : List Event :=
  [.thr 9 (.newNote 0 none), .thr 0 (.callWaitN none (some 500) [.note 0] false),
   .thr 0 (.ld .acq (.notified 0) .noteND 0), .thr 0 (.lockCall (.note 0))]
def bargeLoop : List Event :=
  [.thr 1 (.lockCall (.note 0)), .thr 1 .lockRet, .thr 1 (.unlockCall (.note 0)), .thr 1 .unlockRet]
def bargeSf : State := stateFrom init bargePre

theorem barge_run : run init bargePre = .ok bargeSf := run_of_accepts (by decide)

theorem barge_loop0 : run bargeSf bargeLoop = .ok (stateFrom bargeSf bargeLoop) := run_of_okRun (by decide)

theorem barge_back : stateFrom bargeSf bargeLoop = bargeSf := by
  apply State.ext'
  · funext o; revert o; exact all_obj 1 (fun k hk => by
      have : k = 0 := by omega
      subst this; exact ⟨rfl, rfl, rfl⟩) (fun _ => ⟨rfl, rfl, rfl⟩)
  · funext r; revert r; exact all_rid 0 (fun k hk => absurd hk (Nat.not_lt_zero k)) (fun _ => rfl) (fun _ _ => rfl)
  · funext j; revert j; exact all_tid 0 (fun k hk => absurd hk (Nat.not_lt_zero k)) (fun _ => rfl)
  · funext j; revert j; exact all_tid 0 (fun k hk => absurd hk (Nat.not_lt_zero k)) (fun _ => rfl)
  · funext j; revert j; exact all_tid 2 (by decide) (fun _ => rfl)
  · funext t; revert t; exact all_tid 2 (fun k hk => by
      match k, hk with
      | 0, _ => rfl
      | 1, _ => rfl) (fun _ => rfl)
  · funext j; revert j; exact all_tid 2 (by decide) (fun _ => rfl)
  · funext j; revert j; exact all_tid 2 (by decide) (fun _ => rfl)
  · decide

theorem barge_loop : run bargeSf bargeLoop = .ok bargeSf := by
  have := barge_loop0; rwa [barge_back] at this

/-- Thread 0 calls nsync_wait_n on note 0 with deadline 500 and, in its first nsync_note_notified_deadline_, waits for
    note_mu; for ever after, thread 1 (foreign code) takes and releases note_mu: thread 0 never gets it. -/
def bargeExec : Exec init := lassoExec bargePre bargeLoop bargeSf barge_run barge_loop (by decide)

theorem barge_nolock : ∀ o, (bargeSf.obj o).lock = none := all_obj 1 (by decide) (fun _ => ⟨rfl, rfl, rfl⟩)

theorem barge_needs_lockFair : Reachable init ∧ WeakFair bargeExec ∧ ¬ LockFair bargeExec ∧ ForeignRelease bargeExec ∧
    ClockAdvances bargeExec ∧ (∀ t, FiniteWakeups bargeExec t) ∧ FiniteStrayPosts bargeExec ∧
    (∀ j, ∃ j', j ≤ j' ∧ ((bargeExec.ρ j').obj (.note 0)).lock = none) ∧
    ((bargeExec.ρ 2).fr 0).dl = some 500 ∧
    (∀ j, 4 ≤ j → (bargeExec.ρ j).pc 0 = .wND .poll 0 .lockWait) := by
  obtain ⟨a, _, c, d⟩ := lassoExec_hyps barge_run barge_loop (by decide) 10 (by decide) (by decide)
  have hfree : ∀ j, ∃ j', j ≤ j' ∧ ((bargeExec.ρ j').obj (.note 0)).lock = none := fun j => by
    obtain ⟨j', hj, hs⟩ := lassoExec_recur barge_run barge_loop (by decide) j
    exact ⟨j', hj, by rw [show bargeExec.ρ j' = _ from hs]; exact barge_nolock _⟩
  have hpc : ∀ j, 4 ≤ j → (bargeExec.ρ j).pc 0 = .wND .poll 0 .lockWait ∧ ((bargeExec.ρ j).fr 0).objs = [.note 0] := by
    intro j hj
    rcases lassoExec_cases barge_run barge_loop (by decide) j with ⟨h1, _⟩ | ⟨_, k, _, e, _⟩
    · exact absurd h1 (Nat.not_lt.2 hj)
    · rw [show bargeExec.ρ j = _ from e]
      exact of_decide_eq_true (checkAll_take
        (P := fun s => decide (s.pc 0 = .wND .poll 0 .lockWait ∧ (s.fr 0).objs = [.note 0])) (by decide) k)
  refine ⟨reachable_init, a (by decide), ?_, c barge_nolock,
    lassoExec_clock barge_run barge_loop (by decide) 10 0 (by decide) (by decide) (by decide) (by decide) (by decide),
    (d (by decide)).1, (d (by decide)).2, hfree, by decide, fun j hj => (hpc j hj).1⟩
  intro hl
  refine hl 0 (.note 0) 4 (fun j hj => ?_) (fun j _ => hfree j)
  obtain ⟨a, b⟩ := hpc j hj
  rw [a]
  show ((bargeExec.ρ j).fr 0).objs[0]? = some (.note 0)
  rw [b]; rfl

end

/-!
### `holdExec` (`ForeignRelease` is needed), and further facts about
`timeoutExec`, `wokenExec`, `cvWokenExec` (the caller is inside the call, the object that became ready, the
signaller).
-/

section

open Example

/-! ## `ForeignRelease` is needed -/

def holdEvs : List Event :=
  [.thr 9 (.newNote 0 none), .thr 1 (.lockCall (.note 0)), .thr 1 .lockRet,
   .thr 0 (.callWaitN none (some 500) [.note 0] false), .thr 0 (.ld .acq (.notified 0) .noteND 0),
   .thr 0 (.lockCall (.note 0))]
def holdFinal : State := stateFrom init holdEvs

theorem hold_run : run init holdEvs = .ok holdFinal := run_of_accepts (by decide)

/-- Thread 1 (foreign code) takes note_mu of note 0 and keeps it for ever; thread 0 calls nsync_wait_n on note 0 with
    deadline 500 and waits for note_mu in its first nsync_note_notified_deadline_; then nothing for ever. -/
def holdExec : Exec init := traceExec holdEvs holdFinal hold_run

theorem hold_tail {j : Nat} (hj : 6 ≤ j) : holdExec.ρ j = holdFinal ∧ holdExec.σ j = none :=
  traceExec_tail hold_run (by show holdEvs.length ≤ j; exact hj)

/-- whoever is acquiring a lock in the final state is acquiring a lock that is held -/
theorem hold_lockwait : ∀ t, (match lockWaitOf (holdFinal.pc t) (holdFinal.fr t) with
    | some o => ((holdFinal.obj o).lock).isSome
    | none => true) = true := all_tid 10 (by decide) (fun _ => rfl)

/-- All hypotheses except `ForeignRelease` hold (`LockFair`: the lock is never free again; `WeakFair`: thread 0 is
    `Blocked`, thread 1 is idle and owes nothing), the deadline is finite, and the call never returns. -/
theorem hold_needs_foreignRelease : Reachable init ∧ WeakFair holdExec ∧ LockFair holdExec ∧ ¬ ForeignRelease holdExec ∧
    ClockAdvances holdExec ∧ (∀ t, FiniteWakeups holdExec t) ∧ FiniteStrayPosts holdExec ∧
    ((holdExec.ρ 4).fr 0).dl = some 500 ∧
    (∀ j, 6 ≤ j → (holdExec.ρ j).pc 0 = .wND .poll 0 .lockWait ∧ ((holdExec.ρ j).obj (.note 0)).lock = some 1) := by
  obtain ⟨a, _, _, d, e, f⟩ := traceExec_hyps hold_run 10 (by decide)
  have hf : holdFinal.pc 0 = .wND .poll 0 .lockWait ∧ (holdFinal.obj (.note 0)).lock = some 1 ∧ holdFinal.pc 1 = .idle := by
    decide
  refine ⟨reachable_init, a (by decide), ?_, ?_, d 0 (by decide) (by decide), e, f, by decide, ?_⟩
  · intro t o i h hfree
    have h1 := h (max i 6) (by omega)
    obtain ⟨j', hj', hn⟩ := hfree (max i 6) (by omega)
    rw [(hold_tail (show 6 ≤ max i 6 by omega)).1] at h1
    rw [(hold_tail (show 6 ≤ j' by omega)).1] at hn
    have := hold_lockwait t
    rw [h1] at this
    simp only [hn] at this
    cases this
  · intro h
    obtain ⟨j, hj, hne⟩ := h 6 (.note 0) 1 (by rw [(hold_tail (Nat.le_refl 6)).1]; exact hf.2.1)
      (by rw [(hold_tail (Nat.le_refl 6)).1, hf.2.2]; simp [accounts, holdsAt])
    rw [(hold_tail hj).1] at hne
    exact hne hf.2.1
  · intro j hj
    rw [(hold_tail hj).1]; exact ⟨hf.1, hf.2.1⟩

/-! ## further facts about the non-vacuity executions -/

set_option maxRecDepth 4096 in
theorem timeout_call : inCall ((timeoutExec.ρ 1).pc 0) = true ∧ ((timeoutExec.ρ 1).fr 0).dl = some 500 ∧
    inCall ((timeoutExec.ρ 34).pc 0) = true ∧ ((timeoutExec.ρ 34).fr 0).dl = some 500 := by decide

set_option maxRecDepth 4096 in
/-- object 1 of the call is counter 0, whose value is 0 from time 49 on -/
theorem woken_call : inCall ((wokenExec.ρ 44).pc 0) = true ∧ ((wokenExec.ρ 44).fr 0).dl = none ∧
    ((wokenExec.ρ 49).fr 0).recs[1]? = some (.stk 1) ∧ becameReady (wokenExec.ρ 49) 0 1 (.stk 1) := by
  have h : ((wokenExec.ρ 49).fr 0).objs[1]? = some (.ctr 0) ∧ ((wokenExec.ρ 49).obj (.ctr 0)).value = 0 := by decide
  refine ⟨by decide, by decide, by decide, ?_⟩
  unfold becameReady
  rw [h.1]; exact h.2

/-- thread 1 has just called nsync_cv_signal (event 9) -/
theorem cvWoken_sig : (cvWokenExec.ρ 10).pc 1 = .sg 0 false .load := by decide

end

end WaitN
