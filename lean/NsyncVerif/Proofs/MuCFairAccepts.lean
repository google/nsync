import NsyncVerif.Proofs.MuCFairDefs
import NsyncVerif.Proofs.MuCEff
/-
  MuC: which events the acceptor accepts from a thread at a program point.  A client data access changes at most the
  protected data (`data_step_eff`); every other accepted event of a thread is of a kind its program point prescribes
  (`step_accepts`), so that a known program point gives the equation of one step function (`ld_of_accepts`, …) and with
  it the effect relations of Proofs/MuCStep.lean, MuCEff.lean (`own_ld`, `own_st`).  `rcGuards_ok`: the checks of a CAS
  on a `remove_count`, which the effect relations do not index by location.
-/
namespace NsyncVerif.MuC

variable {cfg : Cfg}

/-- A client data access: a `dataW` writes the protected data, a `dataR` changes nothing. -/
theorem data_step_eff {s s' : State} {e : Event} (h : step cfg s e = .ok s') (hd : e.isData = true) :
    (∃ t x v, e = .dataW t x v ∧ s' = { s with data := setFn s.data x v }) ∨ s' = s := by
  cases e <;> cases hd <;> simp only [step] at h <;> split at h <;> cases h
  · exact .inl ⟨_, _, _, rfl, rfl⟩
  · exact .inr rfl

theorem data_step_frame {s s' : State} {e : Event} (h : step cfg s e = .ok s') (hd : e.isData = true) :
    s'.pc = s.pc ∧ s'.held = s.held := by
  rcases data_step_eff h hd with ⟨_, _, _, _, rfl⟩ | rfl <;> exact ⟨rfl, rfl⟩

inductive EvKind
  | call | ret | ld | st | cas | cond | pEnter | pRet | pdEnter | pdRet | v | noteSeen | noteNotify
deriving DecidableEq

def Event.kind : Event → Option EvKind
  | .call _ _ => some .call
  | .ret _ _ _ => some .ret
  | .ld _ _ _ _ => some .ld
  | .st _ _ _ _ _ => some .st
  | .cas _ _ _ _ _ _ _ => some .cas
  | .cond _ _ _ _ => some .cond
  | .semPEnter _ _ => some .pEnter
  | .semPRet _ _ => some .pRet
  | .semPdEnter _ _ _ => some .pdEnter
  | .semPdRet _ _ _ => some .pdRet
  | .semV _ _ => some .v
  | .noteSeen _ => some .noteSeen
  | .noteNotify _ => some .noteNotify
  | _ => none

/-- The kinds of event the acceptor prescribes at a program point. -/
def PC.accepts : PC → List EvKind
  | .idle => [.call]
  | .lkRet _ | .tryRet _ _ | .ulRet _ _ | .mwRet _ _ => [.ret]
  | .lkLd _ | .tryLd _ | .lsLd _ | .lsRelLd _ | .lsWaitLd _ | .ulLd _ _ | .usLd _ | .usRelLd _ _ | .usReLd _ _ | .usRcLd _ _ _
  | .usFinLd _ _ | .mwLd0 _ | .mwRcLd _ | .mwEnqLd _ | .mwRelLd _ | .mwWaitLd _ | .mwLd255 _ | .mtLd _ | .mtLdWk _ _
  | .mtLdW _ _ | .mtLdRc _ _ | .mtRmLd _ _ => [.ld]
  | .mwSem _ => [.ld, .pdEnter, .noteSeen]
  | .mwLd244 _ => [.ld, .noteNotify]
  | .lsSt _ | .usWakeSt _ _ _ | .mwStW _ | .mtStW _ _ | .mtStRel _ _ _ => [.st]
  | .lkCas0 _ | .lkCas1 _ _ | .tryCas0 _ | .tryCas1 _ _ | .lsCasAcq _ _ | .lsCasEnq _ _ | .lsRelCas _ _ | .ulCas0 _ _
  | .ulCas1 _ _ _ | .usCasUnc _ _ | .usCasGrab _ _ | .usRelCas _ _ _ | .usReCas _ _ _ | .usRcCas _ _ _ _ | .usFinCas _ _ _
  | .mwEnqCas _ _ | .mwRelCas _ _ _ | .mtCasAcq _ _ | .mtCasWW _ _ | .mtRmCas _ _ _ => [.cas]
  | .mwEval _ | .usEval _ _ => [.cond]
  | .lsPEnter _ => [.pEnter]
  | .lsPRet _ => [.pRet]
  | .mwPdRet _ _ => [.pdRet]
  | .usWakeV _ _ _ => [.v]
  | .mwNotify _ => [.noteNotify]

/-- An accepted event of thread `t` is of a kind its program point prescribes. -/
theorem step_accepts {s s' : State} {e : Event} {t : Tid} (hs : step cfg s e = .ok s') (ht : e.tid = some t)
    (hd : e.isData = false) : ∃ k, e.kind = some k ∧ k ∈ (s.pc t).accepts := by
  cases e <;> simp only [Event.tid, Option.some.injEq, reduceCtorEq] at ht
  all_goals subst ht
  all_goals first | (cases hd; done) | refine ⟨_, rfl, ?_⟩
  all_goals simp only [step] at hs
  case call => unfold stepCall at hs; split at hs <;> first | (cases hs; done) | (rw [‹s.pc _ = _›]; simp [PC.accepts])
  case ret => unfold stepRet at hs; split at hs <;> first | (cases hs; done) | (rw [‹s.pc _ = _›]; simp [PC.accepts])
  case ld => unfold stepLd at hs; split at hs <;> first | (cases hs; done) | (rw [‹s.pc _ = _›]; simp [PC.accepts])
  case st => unfold stepSt at hs; split at hs <;> first | (cases hs; done) | (rw [‹s.pc _ = _›]; simp [PC.accepts])
  case cas => unfold stepCas at hs; split at hs <;> first | (cases hs; done) | (rw [‹s.pc _ = _›]; simp [PC.accepts])
  case cond => unfold stepCond at hs; dsimp only at hs; split at hs <;> first | (cases hs; done) | (rw [‹s.pc _ = _›]; simp [PC.accepts])
  all_goals split at hs <;> first | (cases hs; done) | (rw [‹s.pc _ = _›]; simp [PC.accepts])

variable {s s' : State} {e : Event} {t : Tid}

/-- Where the program point prescribes one kind of event, that is the kind of the event. -/
theorem kind_of_accepts {k : EvKind} (hs : step cfg s e = .ok s') (ht : e.tid = some t) (hd : e.isData = false)
    (hk : (s.pc t).accepts = [k]) : e.kind = some k := by
  obtain ⟨k', hk1, hk2⟩ := step_accepts hs ht hd
  rw [hk] at hk2
  exact List.mem_singleton.mp hk2 ▸ hk1

theorem ld_of_accepts (hs : step cfg s e = .ok s') (ht : e.tid = some t) (hd : e.isData = false)
    (hk : (s.pc t).accepts = [.ld]) : ∃ o loc obs, e = .ld t o loc obs ∧ stepLd s t o loc obs = .ok s' := by
  have hk1 := kind_of_accepts hs ht hd hk
  cases e <;> cases hk1
  cases ht
  exact ⟨_, _, _, rfl, hs⟩

theorem st_of_accepts (hs : step cfg s e = .ok s') (ht : e.tid = some t) (hd : e.isData = false)
    (hk : (s.pc t).accepts = [.st]) : ∃ o loc new obs, e = .st t o loc new obs ∧ stepSt s t o loc new obs = .ok s' := by
  have hk1 := kind_of_accepts hs ht hd hk
  cases e <;> cases hk1
  cases ht
  exact ⟨_, _, _, _, rfl, hs⟩

theorem cas_of_accepts (hs : step cfg s e = .ok s') (ht : e.tid = some t) (hd : e.isData = false)
    (hk : (s.pc t).accepts = [.cas]) :
    ∃ o loc exp new obs ok, e = .cas t o loc exp new obs ok ∧ stepCas s t o loc exp new obs ok = .ok s' := by
  have hk1 := kind_of_accepts hs ht hd hk
  cases e <;> cases hk1
  cases ht
  exact ⟨_, _, _, _, _, _, rfl, hs⟩

theorem ret_of_accepts (hs : step cfg s e = .ok s') (ht : e.tid = some t) (hd : e.isData = false)
    (hk : (s.pc t).accepts = [.ret]) : ∃ a res, e = .ret t a res ∧ stepRet s t a res = .ok s' := by
  have hk1 := kind_of_accepts hs ht hd hk
  cases e <;> cases hk1
  cases ht
  exact ⟨_, _, rfl, hs⟩
/-- The two loads that also write a waiter record (mu_wait.c:211) or take it off mu->waiters (mu_wait.c:108-112). -/
def PC.ldRec : PC → Bool
  | .mwRcLd _ | .mtLdRc _ _ => true
  | _ => false

/-- At every other program point that prescribes a load, the load only moves the program point, as `LdPc` says. -/
theorem own_ld {p : PC} (hs : step cfg s e = .ok s') (ht : e.tid = some t) (hd : e.isData = false) (hp : s.pc t = p)
    (hk : p.accepts = [.ld]) (hn : p.ldRec = false) : ∃ p', LdPc s p p' ∧ s' = setPc s t p' := by
  obtain ⟨o, loc, obs, rfl, hst⟩ := ld_of_accepts hs ht hd (hp ▸ hk)
  rcases stepLd_effect hst with h | ⟨c, _, h, _⟩ | ⟨c, old, _, h, _⟩
  · exact hp ▸ h
  · rw [hp] at h; subst h; cases hn
  · rw [hp] at h; subst h; cases hn

theorem own_st {p : PC} (hs : step cfg s e = .ok s') (ht : e.tid = some t) (hd : e.isData = false) (hp : s.pc t = p)
    (hk : p.accepts = [.st]) : StEff s t s' := by
  obtain ⟨o, loc, new, obs, rfl, hst⟩ := st_of_accepts hs ht hd (hp ▸ hk)
  exact stepSt_effect hst

/-- The five checks of a CAS on a `remove_count` (mu.c:243, mu_wait.c:112), as the acceptor makes them at both
    sites: the location is `rc k`, and the event's result decides between the two continuations. -/
theorem rcGuards_ok {o : Ord} {loc : Loc} {k : Wid} {exp new obs rc : Nat} {ok : Bool} {a b : Except String State}
    {s' : State}
    (h : (if o ≠ Ord.rlx then Except.error "CAS with the wrong memory order"
         else if loc ≠ Loc.rc k then .error "CAS on the wrong location"
         else if exp ≠ rc then .error "CAS expected value differs from the value loaded"
         else if new ≠ (rc + 1) % 4294967296 then .error "CAS new value is not remove_count+1"
         else if ok ≠ decide (obs = exp) then .error "CAS result inconsistent with observed/expected"
         else if ok then a else b) = .ok s') :
    loc = .rc k ∧ ((ok = true ∧ a = .ok s') ∨ (ok = false ∧ b = .ok s')) := by
  obtain ⟨-, h⟩ := guard_ok h
  obtain ⟨h2, h⟩ := guard_ok h
  obtain ⟨-, h⟩ := guard_ok h
  obtain ⟨-, h⟩ := guard_ok h
  obtain ⟨-, h⟩ := guard_ok h
  refine ⟨Decidable.of_not_not h2, ?_⟩
  cases ok
  · exact .inr ⟨rfl, h⟩
  · exact .inl ⟨rfl, h⟩

end NsyncVerif.MuC
