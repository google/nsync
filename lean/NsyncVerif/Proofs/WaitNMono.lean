/-
  Proofs/WaitNMono.lean — what no accepted step undoes: objects stay known with the same expiry,
  a note stays notified, a counter on which a wait has been called stays at zero, the clock does not
  go back, and `waiting` is set only by the owner's enqueue store.
-/
import NsyncVerif.Proofs.WaitNQuiet

namespace WaitN

structure Mono (s s' : State) (t : Tid) : Prop where
  known : ∀ o, (s.obj o).known = true → (s'.obj o).known = true
  expiry : ∀ o, (s.obj o).known = true → (s'.obj o).expiry = (s.obj o).expiry
  flag : ∀ o, o.isCv = false → (s.obj o).known = true → (s.obj o).flag = true → (s'.obj o).flag = true
  zero : ∀ k, (s.obj (.ctr k)).known = true → (s.obj (.ctr k)).value = 0 → (s.obj (.ctr k)).flag = true →
          (s'.obj (.ctr k)).value = 0
  now : s.now ≤ s'.now
  wtrue : ∀ r, (s.rcd r).waiting = false → (s'.rcd r).waiting = true →
          ∃ i, (s.pc t = .wEnq i (.store true) ∨ s.pc t = .wEnqCv i .store) ∧ (s.fr t).recs[i]? = some r

/-- a step that does not touch objects, records or the clock -/
theorem Mono.of_eq {s s' : State} {t : Tid} (ho : s'.obj = s.obj) (hr : s'.rcd = s.rcd) (hn : s'.now = s.now) :
    Mono s s' t := by
  refine ⟨?_, ?_, ?_, ?_, Nat.le_of_eq hn.symm, fun r h1 h2 => by rw [hr, h1] at h2; cases h2⟩
  all_goals rw [ho]; intros; first | assumption | rfl

theorem Mono.of_agree {s s' : State} {t u : Tid} (g : Agree s s' u) : Mono s s' t := .of_eq g.obj g.rcd g.now

theorem Mono.trans_eq {s s1 s2 : State} {t : Tid} (a : Mono s s1 t) (ho : s2.obj = s1.obj) (hr : s2.rcd = s1.rcd)
    (hn : s2.now = s1.now) : Mono s s2 t := by
  constructor
  · intro o h; rw [ho]; exact a.known o h
  · intro o h; rw [ho]; exact a.expiry o h
  · intro o h1 h2 h3; rw [ho]; exact a.flag o h1 h2 h3
  · intro k h1 h2 h3; rw [ho]; exact a.zero k h1 h2 h3
  · rw [hn]; exact a.now
  · intro r h1 h2; rw [hr] at h2; exact a.wtrue r h1 h2

theorem mono_unbindSem (s : State) (t u : Tid) : Mono s (unbindSem s u) t := .of_agree (agree_unbindSem s u)

theorem mono_startScan (s : State) (t : Tid) : Mono s (startScan s t) t := .of_agree (agree_startScan s t)

theorem shared_unbindSem (s : State) (t : Tid) :
    (unbindSem s t).obj = s.obj ∧ (unbindSem s t).rcd = s.rcd ∧ (unbindSem s t).now = s.now :=
  have g := agree_unbindSem s t; ⟨g.obj, g.rcd, g.now⟩

theorem shared_deqDone {s s' : State} {t : Tid} {j : Nat} {res : Bool} (h : deqDone s t j res = .ok s') :
    s'.obj = s.obj ∧ s'.rcd = s.rcd ∧ s'.now = s.now :=
  have g := agree_deqDone h; ⟨g.obj, g.rcd, g.now⟩

theorem shared_afterEnq {s s' : State} {t : Tid} {i : Nat} {res : Bool} (h : afterEnq s t i res = .ok s') :
    s'.obj = s.obj ∧ s'.rcd = s.rcd ∧ s'.now = s.now :=
  have g := agree_afterEnq h; ⟨g.obj, g.rcd, g.now⟩

theorem shared_rtDone {s s' : State} {t : Tid} {u : Use} {i : Nat} {time : Deadline} (h : rtDone s t u i time = .ok s') :
    s'.obj = s.obj ∧ s'.rcd = s.rcd ∧ s'.now = s.now :=
  have g := agree_rtDone h; ⟨g.obj, g.rcd, g.now⟩

/-- the step changes object `o` only, to `v` -/
theorem Mono.of_setObj {s s1 : State} {t : Tid} {o : ObjId} {v : Obj}
    (ho : s1.obj = fun i => if i = o then v else s.obj i) (hn : s1.now = s.now)
    (hv : (s.obj o).known = true → v.known = true ∧ v.expiry = (s.obj o).expiry
          ∧ (o.isCv = false → (s.obj o).flag = true → v.flag = true)
          ∧ (∀ k, o = .ctr k → (s.obj o).value = 0 → (s.obj o).flag = true → v.value = 0))
    (hw : ∀ r, (s.rcd r).waiting = false → (s1.rcd r).waiting = true →
          ∃ i, (s.pc t = .wEnq i (.store true) ∨ s.pc t = .wEnqCv i .store) ∧ (s.fr t).recs[i]? = some r) :
    Mono s s1 t := by
  have hx : ∀ x, x ≠ o → s1.obj x = s.obj x := fun x h => by rw [ho]; exact if_neg h
  have ho' : s1.obj o = v := by rw [ho]; exact if_pos rfl
  refine ⟨fun x hk => ?_, fun x hk => ?_, fun x hc hk hf => ?_, fun k hk hz hf => ?_, Nat.le_of_eq hn.symm, hw⟩
  · by_cases h : x = o
    · subst h; rw [ho']; exact (hv hk).1
    · rw [hx x h]; exact hk
  · by_cases h : x = o
    · subst h; rw [ho']; exact (hv hk).2.1
    · rw [hx x h]
  · by_cases h : x = o
    · subst h; rw [ho']; exact (hv hk).2.2.1 hc hf
    · rw [hx x h]; exact hf
  · by_cases h : .ctr k = o
    · subst h; rw [ho']; exact (hv hk).2.2.2 k rfl hz hf
    · rw [hx _ h]; exact hz

/-- objects and clock are untouched -/
theorem Mono.of_rcd {s s1 : State} {t : Tid} (ho : s1.obj = s.obj) (hn : s1.now = s.now)
    (hw : ∀ r, (s.rcd r).waiting = false → (s1.rcd r).waiting = true →
          ∃ i, (s.pc t = .wEnq i (.store true) ∨ s.pc t = .wEnqCv i .store) ∧ (s.fr t).recs[i]? = some r) :
    Mono s s1 t := by
  refine ⟨?_, ?_, ?_, ?_, Nat.le_of_eq hn.symm, hw⟩ <;> rw [ho] <;> intros <;> first | assumption | rfl

theorem Mono.of_act {s s1 : State} {t : Tid} {k : Kind} (a : Act s t k s1) : Mono s s1 t := by
  have keep : ∀ {o : ObjId} {x : Obj} (k : Nat), o = .ctr k → x.value = 0 → x.flag = true → x.value = 0 :=
    fun _ _ h _ => h
  have w := fun r => (a.rcd r).wtrue
  cases a
  case skip | posted => exact .of_eq rfl rfl rfl
  case sgWake | init | refused | wspinDone | kill => exact .of_rcd rfl rfl w
  -- lock and queue of a note / counter / cv
  case acquire | unlock | pop | enqueue | remove | unlockDeq =>
    exact .of_setObj rfl rfl (fun hk => ⟨hk, rfl, fun _ h => h, keep⟩) w
  -- the word of a cv
  case cvRelease | sgUnlink | cvReleaseDeq =>
    exact .of_setObj rfl rfl (fun hk => ⟨hk, rfl, (fun h => nomatch h), keep⟩) w
  case notify | waited => exact .of_setObj rfl rfl (fun hk => ⟨hk, rfl, fun _ _ => rfl, keep⟩) w
  case value k new hl hz =>
    refine .of_setObj rfl rfl (fun hk => ⟨hk, rfl, fun _ h => h, fun _ _ h0 hf => ?_⟩) w
    exact Decidable.by_contra fun hn => hz ⟨h0, hf, hn⟩
  case newNote k ex hk | newCtr k v hk =>
    exact .of_setObj rfl rfl (fun h => absurd (hk.symm.trans h) Bool.false_ne_true) w

theorem Mono.of_acts {s s' : State} {t : Tid} (h : Acts s t s') : Mono s s' t := by
  obtain ⟨_, s1, a, g⟩ := h
  exact (Mono.of_act a).trans_eq g.obj g.rcd g.now

theorem mono_stepThr {s s' : State} {t : Tid} {e : Ev} (h : stepThr s t e = .ok s') : Mono s s' t :=
  .of_acts (act_stepThr h)

end WaitN
