/-
  Proofs/WaitNLocal.lean — the thread-local invariant `LInv (pc t) (fr t)`: what the program counter of
  an nsync_wait_n caller says about its own locals (allocation path, mutex marks, ready index,
  dequeue results), and the "landing" lemmas for the program-counter arithmetic of wait.c.
  Nothing here depends on the shared state.
-/
import NsyncVerif.Proofs.WaitNRecTr

namespace WaitN

def isCvAt (f : Frame) (i : Nat) : Prop := ∃ c, f.objs[i]? = some (.cv c)
def isNoteAt (f : Frame) (i : Nat) : Prop := ∃ n, f.objs[i]? = some (.note n)
def isCtrAt (f : Frame) (i : Nat) : Prop := ∃ k, f.objs[i]? = some (.ctr k)

/-- record `r` is an element of the array the frame uses -/
def recKind (h : Option Nat) (r : Rid) : Prop :=
  match r, h with
  | .stk _, none => True
  | .heap a _, some a' => a = a'
  | _, _ => False

/-- the frame has passed the poll loop and allocated its bookkeeping -/
structure Alloc (f : Frame) : Prop where
  heap : f.heap.isSome = decide (4 < f.count)
  mallocs : f.mallocs = if 4 < f.count then 1 else 0
  kinds : ∀ r ∈ f.recs, recKind f.heap r
  pos : 0 < f.count
  dl : dlePast f.dl = false
  len : f.recs.length ≤ f.count

/-- nothing allocated, nothing enqueued, mutex untouched -/
structure Fresh (f : Frame) : Prop where
  recs : f.recs = []
  heap : f.heap = none
  mallocs : f.mallocs = 0
  frees : f.frees = 0
  unlocked : f.unlocked = false
  held : f.held = f.mu.isSome
  why : f.why = .none
  deqRes : f.deqRes = []
  min : f.min = f.dl
  freed : f.freed = false
  pos : 0 < f.count

structure PreLoop (f : Frame) : Prop extends Alloc f where
  frees : f.frees = 0
  unlocked : f.unlocked = false
  held : f.held = f.mu.isSome
  ready : f.ready = f.count
  deqRes : f.deqRes = []
  min : f.min = f.dl
  freed : f.freed = false

structure InLoop (f : Frame) : Prop extends Alloc f where
  frees : f.frees = 0
  unlocked : f.unlocked = f.mu.isSome
  held : f.held = false
  ready : f.ready = f.count
  deqRes : f.deqRes = []
  freed : f.freed = false
  full : f.recs.length = f.count
  whyMin : dlePast f.min = true → f.why ≠ .none

/-- `ready` is the index of the first dequeue that returned 0, or count -/
structure ReadyOK (f : Frame) : Prop where
  le : f.ready ≤ f.count
  all : f.ready = f.count → ∀ b ∈ f.deqRes, b = true
  first : f.ready < f.count → f.deqRes[f.ready]? = some false ∧ ∀ k, k < f.ready → f.deqRes[k]? = some true

structure InDeq (f : Frame) : Prop extends Alloc f where
  frees : f.frees = 0
  unl : f.unlocked = true → f.mu.isSome = true ∧ f.recs.length = f.count
  held : f.held = (f.mu.isSome && !f.unlocked)
  rdy : ReadyOK f
  why : f.why ≠ .none
  dlen : f.deqRes.length ≤ f.recs.length
  npos : 0 < f.recs.length

structure Post (f : Frame) : Prop extends Alloc f where
  frees : f.frees = f.mallocs
  unl : f.unlocked = true → f.mu.isSome = true ∧ f.recs.length = f.count
  rdy : ReadyOK f
  why : f.why ≠ .none
  dlen : f.deqRes.length = f.recs.length
  freed : f.freed = true
  npos : 0 < f.recs.length

/-- facts at each program point about the thread's own frame -/
def LInv (p : PC) (f : Frame) : Prop :=
  match p with
  | .idle | .sg _ _ _ => True
  | .stuck => False
  | .wCtrRT .poll i _ => Fresh f ∧ f.ready = f.count ∧ isCtrAt f i
  | .wND .poll i _ => Fresh f ∧ f.ready = f.count ∧ isNoteAt f i
  | .wAlloc => Fresh f ∧ f.ready = f.count ∧ 4 < f.count ∧ dlePast f.dl = false
  | .wInit i => PreLoop f ∧ f.recs.length = i ∧ i < f.count ∧ f.why = .none
  | .wEnqCv i _ => PreLoop f ∧ f.recs.length = i + 1 ∧ isCvAt f i ∧ f.why = .none
  | .wEnq i _ => PreLoop f ∧ f.recs.length = i + 1 ∧ (isNoteAt f i ∨ isCtrAt f i) ∧ f.why = .none
  | .wUnlock => PreLoop f ∧ f.recs.length = f.count ∧ f.mu.isSome = true
  | .wCvRT j => InLoop f ∧ isCvAt f j
  | .wCtrRT .loop j _ => InLoop f ∧ isCtrAt f j
  | .wND .loop j _ => InLoop f ∧ isNoteAt f j
  | .wPdEnter | .wPdWait _ => InLoop f ∧ dlePast f.min = false
  | .wDeqCv j _ => InDeq f ∧ f.deqRes.length = j ∧ j < f.recs.length ∧ isCvAt f j ∧ f.freed = false
  | .wND .deq j _ => InDeq f ∧ f.deqRes.length = j ∧ j < f.recs.length ∧ isNoteAt f j ∧ f.freed = false
  | .wDeq j _ => InDeq f ∧ f.deqRes.length = j ∧ j < f.recs.length ∧ (isNoteAt f j ∨ isCtrAt f j) ∧ f.freed = false
  | .wCtrRT .deq _ _ => False
  | .wFree => InDeq f ∧ f.deqRes.length = f.recs.length ∧ f.heap.isSome = true ∧ f.freed = true
  | .wRelock => Post f ∧ f.unlocked = true ∧ f.held = false
  | .wRet r => r = f.ready ∧
      ((Fresh f ∧ f.ready ≤ f.count ∧ (f.ready = f.count → dlePast f.dl = true)) ∨ (Post f ∧ f.held = f.mu.isSome))

/-! LInv does not read the lazily bound semaphore -/

@[simp] theorem Alloc.sem (f : Frame) (v) : Alloc { f with sem := v } ↔ Alloc f := ⟨fun a => { a with }, fun a => { a with }⟩
@[simp] theorem Fresh.sem (f : Frame) (v) : Fresh { f with sem := v } ↔ Fresh f := ⟨fun a => { a with }, fun a => { a with }⟩
@[simp] theorem PreLoop.sem (f : Frame) (v) : PreLoop { f with sem := v } ↔ PreLoop f := ⟨fun a => { a with }, fun a => { a with }⟩
@[simp] theorem InLoop.sem (f : Frame) (v) : InLoop { f with sem := v } ↔ InLoop f := ⟨fun a => { a with }, fun a => { a with }⟩
@[simp] theorem ReadyOK.sem (f : Frame) (v) : ReadyOK { f with sem := v } ↔ ReadyOK f := ⟨fun a => { a with }, fun a => { a with }⟩
@[simp] theorem InDeq.sem (f : Frame) (v) : InDeq { f with sem := v } ↔ InDeq f :=
  ⟨fun a => { a with rdy := (ReadyOK.sem f v).1 a.rdy }, fun a => { a with rdy := (ReadyOK.sem f v).2 a.rdy }⟩
@[simp] theorem Post.sem (f : Frame) (v) : Post { f with sem := v } ↔ Post f :=
  ⟨fun a => { a with rdy := (ReadyOK.sem f v).1 a.rdy }, fun a => { a with rdy := (ReadyOK.sem f v).2 a.rdy }⟩
@[simp] theorem isCvAt.sem (f : Frame) (v) (i) : isCvAt { f with sem := v } i ↔ isCvAt f i := Iff.rfl
@[simp] theorem isNoteAt.sem (f : Frame) (v) (i) : isNoteAt { f with sem := v } i ↔ isNoteAt f i := Iff.rfl
@[simp] theorem isCtrAt.sem (f : Frame) (v) (i) : isCtrAt { f with sem := v } i ↔ isCtrAt f i := Iff.rfl

theorem LInv.sem (p : PC) (f : Frame) (v) : LInv p { f with sem := v } ↔ LInv p f := by
  cases p with
  | wCtrRT u i l => cases u <;> simp [LInv, Frame.count]
  | wND u i st => cases u <;> simp [LInv, Frame.count]
  | _ => simp [LInv, Frame.count]

theorem LInv.same {p : PC} {f g : Frame} (h : frSame f g) (a : LInv p f) : LInv p g := by
  rw [h]; exact (LInv.sem p f _).2 a

theorem objs_get_of_lt {f : Frame} {i : Nat} (h : i < f.count) : ∃ o, f.objs[i]? = some o := by
  unfold Frame.count at h
  exact ⟨f.objs[i], by simp [h]⟩

theorem kind_cases {f : Frame} {i : Nat} (h : i < f.count) : isCvAt f i ∨ isNoteAt f i ∨ isCtrAt f i := by
  obtain ⟨o, ho⟩ := objs_get_of_lt h
  cases o with
  | cv c => exact .inl ⟨c, ho⟩
  | note n => exact .inr (.inl ⟨n, ho⟩)
  | ctr k => exact .inr (.inr ⟨k, ho⟩)

theorem readyOK_init {f : Frame} (hr : f.ready = f.count) (hd : f.deqRes = []) : ReadyOK f := by
  refine ⟨by rw [hr]; exact Nat.le_refl _, ?_, ?_⟩
  · intro _ b hb; rw [hd] at hb; cases hb
  · intro hlt; rw [hr] at hlt; exact absurd hlt (Nat.lt_irrefl _)

theorem linv_relockNext {f : Frame} (h : Post f) (hh : f.held = (f.mu.isSome && !f.unlocked)) :
    LInv (relockNext f) f := by
  unfold relockNext
  split
  · rename_i hu
    exact ⟨h, hu, by simp [hh, hu]⟩
  · rename_i hu
    refine ⟨rfl, .inr ⟨h, ?_⟩⟩
    simp [hh, hu]

theorem linv_finNext {f : Frame} (h : InDeq f) (hl : f.deqRes.length = f.recs.length) (hf : f.freed = true) :
    LInv (finNext f) f := by
  unfold finNext
  split
  · rename_i hh; exact ⟨h, hl, hh, hf⟩
  · rename_i hh
    apply linv_relockNext _ h.held
    have h4 : ¬ 4 < f.count := by
      intro h4; have := h.heap; simp [h4] at this; exact hh this
    exact { toAlloc := h.toAlloc, frees := by rw [h.frees, h.mallocs]; simp [h4], unl := h.unl, rdy := h.rdy,
            why := h.why, dlen := hl, freed := hf, npos := h.npos }

theorem linv_deqNext {f : Frame} {j : Nat} (h : InDeq f) (hl : f.deqRes.length = j) (hj : j < f.recs.length)
    (hf : f.freed = false) : LInv (deqNext f j) f := by
  unfold deqNext
  rw [if_pos hj]
  have hc : j < f.count := Nat.lt_of_lt_of_le hj h.len
  rcases kind_cases hc with ⟨c, ho⟩ | ⟨n, ho⟩ | ⟨k, ho⟩ <;> rw [ho] <;> simp only [LInv]
  · exact ⟨h, hl, hj, ⟨c, ho⟩, hf⟩
  · exact ⟨h, hl, hj, ⟨n, ho⟩, hf⟩
  · exact ⟨h, hl, hj, .inr ⟨k, ho⟩, hf⟩

theorem inDeq_of_inLoop {f : Frame} (h : InLoop f) (hw : f.why ≠ .none) : InDeq f :=
  { toAlloc := h.toAlloc, frees := h.frees,
    unl := fun hu => ⟨by rw [← h.unlocked]; exact hu, h.full⟩,
    held := by rw [h.held, h.unlocked]; cases f.mu.isSome <;> rfl,
    rdy := readyOK_init h.ready h.deqRes,
    why := hw, dlen := by rw [h.deqRes]; exact Nat.zero_le _,
    npos := by rw [h.full]; exact h.pos }

theorem linv_scanEnd {f : Frame} (h : InLoop f) : LInv (scanEnd f) f := by
  unfold scanEnd
  split
  · rename_i hm
    have hd := inDeq_of_inLoop h (h.whyMin hm)
    exact linv_deqNext hd (by rw [h.deqRes]; rfl) hd.npos h.freed
  · rename_i hm
    exact ⟨h, by simpa using hm⟩

theorem linv_loopNext {f : Frame} (h : InLoop f) (j : Nat) : LInv (loopNext f j) f := by
  unfold loopNext
  split
  · rename_i hj
    rcases kind_cases hj with ⟨c, ho⟩ | ⟨n, ho⟩ | ⟨k, ho⟩ <;> rw [ho] <;> simp only [LInv]
    · exact ⟨h, ⟨c, ho⟩⟩
    · exact ⟨h, ⟨n, ho⟩⟩
    · exact ⟨h, ⟨k, ho⟩⟩
  · exact linv_scanEnd h

theorem inLoop_of_preLoop {f : Frame} (h : PreLoop f) (hm : f.mu.isSome = false) (hl : f.recs.length = f.count) :
    InLoop f :=
  { toAlloc := h.toAlloc, frees := h.frees, unlocked := by rw [h.unlocked, hm], held := by rw [h.held, hm],
    ready := h.ready, deqRes := h.deqRes, freed := h.freed, full := hl,
    whyMin := by intro hp; rw [h.min, h.dl] at hp; cases hp }

theorem linv_enqNext {f : Frame} {i : Nat} {res : Bool} (h : PreLoop f) (hl : f.recs.length = i)
    (hw : if res then f.why = .none else f.why ≠ .none) (hi : res = false → 0 < i) : LInv (enqNext f i res) f := by
  unfold enqNext
  split
  · rename_i hc
    have : res = true := hc.1
    subst this
    exact ⟨h, hl, hc.2, hw⟩
  · rename_i hc
    split
    · rename_i hic
      split
      · rename_i hm; exact ⟨h, by rw [hl, hic], hm⟩
      · rename_i hm
        exact linv_loopNext (inLoop_of_preLoop h (by simpa using hm) (by rw [hl, hic])) 0
    · rename_i hic
      have hlen := h.len
      have hres : res = false := by
        cases res with
        | false => rfl
        | true => exact absurd ⟨rfl, by omega⟩ hc
      subst hres
      have hd : InDeq f :=
        { toAlloc := h.toAlloc, frees := h.frees, unl := (by intro hu; rw [h.unlocked] at hu; cases hu),
          held := (by rw [h.held, h.unlocked]; simp),
          rdy := readyOK_init h.ready h.deqRes,
          why := hw, dlen := by rw [h.deqRes]; exact Nat.zero_le _, npos := by rw [hl]; exact hi rfl }
      exact linv_deqNext hd (by rw [h.deqRes]; rfl) hd.npos h.freed

theorem preLoop_of_fresh {f : Frame} (h : Fresh f) (hr : f.ready = f.count) (hd : dlePast f.dl = false)
    (h4 : ¬ 4 < f.count) : PreLoop f :=
  { heap := by rw [h.heap]; simp [h4], mallocs := by rw [h.mallocs]; simp [h4],
    kinds := (by intro r hr; rw [h.recs] at hr; cases hr),
    pos := h.pos, dl := hd, len := by rw [h.recs]; exact Nat.zero_le _,
    frees := h.frees, unlocked := h.unlocked, held := h.held, ready := hr, deqRes := h.deqRes, min := h.min,
    freed := h.freed }

theorem linv_pollFrom {f : Frame} (h : Fresh f) (hr : f.ready = f.count) :
    ∀ (l : List ObjId) (i : Nat), f.objs.drop i = l → LInv (pollFrom f l i) f := by
  intro l
  induction l with
  | nil =>
    intro i _
    unfold pollFrom
    split
    · rename_i hd; exact ⟨hr.symm, .inl ⟨h, by rw [hr]; exact Nat.le_refl _, fun _ => hd⟩⟩
    · rename_i hd
      have hd : dlePast f.dl = false := by simpa using hd
      split
      · rename_i h4; exact ⟨h, hr, h4, hd⟩
      · rename_i h4
        exact linv_enqNext (res := true) (preLoop_of_fresh h hr hd h4) (by rw [h.recs]; rfl) (by simp [h.why]) (by simp)
  | cons o rest ih =>
    intro i hdrop
    have hget : f.objs[i]? = some o := by
      have := congrArg List.head? hdrop
      simpa [List.head?_drop] using this
    have hrest : f.objs.drop (i + 1) = rest := by
      have := congrArg List.tail hdrop
      simpa [List.tail_drop] using this
    cases o with
    | cv c => simp only [pollFrom]; exact ih (i + 1) hrest
    | note n => simp only [pollFrom, LInv]; exact ⟨h, hr, ⟨n, hget⟩⟩
    | ctr k => simp only [pollFrom, LInv]; exact ⟨h, hr, ⟨k, hget⟩⟩

theorem linv_pollNext {f : Frame} (h : Fresh f) (hr : f.ready = f.count) (i : Nat) : LInv (pollNext f i) f :=
  linv_pollFrom h hr _ i rfl

end WaitN
