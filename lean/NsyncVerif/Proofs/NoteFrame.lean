/-
  Layer `Note`: what one accepted step can change ("frame" facts used by all invariants).
-/
import NsyncVerif.Proofs.NoteOwn


namespace Note

theorem Own.pc_other {s s' : State} {e : Event} {t : Tid} {pc pc' : PC} (h : Own s t pc e pc' s')
    {u : Tid} (hu : u ≠ t) : s'.pc u = s.pc u := by
  cases h
  all_goals (try rfl)
  all_goals (try (simp [upd_apply, hu]; done))
  all_goals (repeat' split)

theorem step_pc_other {s s' : State} {e : Event} (hs : step s e = .ok s') (u : Tid)
    (hu : e.actor ≠ some u) : s'.pc u = s.pc u := by
  rcases step_own hs with ⟨t, _, _, ha, _, _, h⟩ | ⟨_, rfl, _, rfl⟩ | ⟨rfl, rfl⟩
  · exact h.pc_other fun hut => hu (hut ▸ ha)
  · rfl
  · rfl

/-- Preservation of a claim attached to every program counter: the acting thread by the rules, the
    other threads by a frame argument. -/
theorem claims_step {C : State → Tid → PC → Prop} {s s' : State} {e : Event}
    (hs : step s e = .ok s')
    (own : ∀ t pc pc', Own s t pc e pc' s' → s.pc t = pc → C s t pc → C s' t pc')
    (other : ∀ t, e.actor ≠ some t → C s t (s.pc t) → C s' t (s.pc t))
    (h : ∀ t, C s t (s.pc t)) (t : Tid) : C s' t (s'.pc t) := by
  by_cases ha : e.actor = some t
  · exact own t _ _ (step_actor hs ha) rfl (h t)
  · rw [step_pc_other hs t ha]; exact other t ha (h t)

theorem run_pc_other {evs : List Event} {s0 s : State} (hr : run s0 evs = .ok s) (t : Tid)
    (ht : ∀ e ∈ evs, e.actor ≠ some t) : s.pc t = s0.pc t :=
  isRun.induct_mem (Q := fun s1 => s1.pc t = s0.pc t) rfl
    (fun _ e _ he _ hq hs => (step_pc_other hs t (ht e he)).trans hq) hr

/-- Facts about a state that survive every step ("monotone" facts). -/
structure Stable (s s' : State) : Prop where
  alloc : ∀ k, (s.notes k).allocated = true → (s'.notes k).allocated = true
  flag : ∀ k, (s.notes k).allocated = true → (s.notes k).notified = true →
    (s'.notes k).notified = true
  freed : ∀ k, (s.notes k).allocated = true → (s.notes k).freed = true → (s'.notes k).freed = true
  now : s.now ≤ s'.now
  called : ∀ k, s.notifyCalled k = true → s'.notifyCalled k = true
  published : ∀ k, s.published k = true → s'.published k = true
  freeing : ∀ k, s.freeing k = true → s'.freeing k = true
  born : ∀ k, s.bornNotified k = true → s'.bornNotified k = true
  ghost : ∀ k, (s.notes k).allocated = true →
    s'.ownDl k = s.ownDl k ∧ s'.ancEver k = s.ancEver k ∧ s'.pathMin k = s.pathMin k
  observed : ∃ l, s'.observed = l ++ s.observed

theorem Stable.refl (s : State) : Stable s s :=
  ⟨fun _ h => h, fun _ _ h => h, fun _ _ h => h, Nat.le_refl _, fun _ h => h, fun _ h => h,
   fun _ h => h, fun _ h => h, fun _ _ => ⟨rfl, rfl, rfl⟩, ⟨[], rfl⟩⟩

theorem Stable.trans {a b c : State} (h1 : Stable a b) (h2 : Stable b c) : Stable a c where
  alloc k h := h2.alloc k (h1.alloc k h)
  flag k h hf := h2.flag k (h1.alloc k h) (h1.flag k h hf)
  freed k h hf := h2.freed k (h1.alloc k h) (h1.freed k h hf)
  now := Nat.le_trans h1.now h2.now
  called k h := h2.called k (h1.called k h)
  published k h := h2.published k (h1.published k h)
  freeing k h := h2.freeing k (h1.freeing k h)
  born k h := h2.born k (h1.born k h)
  ghost k h := by
    have a1 := h1.ghost k h
    have a2 := h2.ghost k (h1.alloc k h)
    exact ⟨a2.1.trans a1.1, a2.2.1.trans a1.2.1, a2.2.2.trans a1.2.2⟩
  observed := by
    obtain ⟨l1, e1⟩ := h1.observed
    obtain ⟨l2, e2⟩ := h2.observed
    exact ⟨l2 ++ l1, by rw [e2, e1, List.append_assoc]⟩

/-- A modification of one note record that keeps `allocated`, and keeps `notified` / `freed` set. -/
structure RecOk (f : NoteRec → NoteRec) : Prop where
  alloc : ∀ r, r.allocated = true → (f r).allocated = true
  flag : ∀ r, r.notified = true → (f r).notified = true
  freed : ∀ r, r.freed = true → (f r).freed = true

theorem Stable.modNote (s : State) (k : NoteId) {f : NoteRec → NoteRec} (hf : RecOk f) :
    Stable s (s.modNote k f) := by
  refine ⟨?_, ?_, ?_, Nat.le_refl _, fun _ h => h, fun _ h => h, fun _ h => h, fun _ h => h,
    fun _ _ => ⟨rfl, rfl, rfl⟩, ⟨[], rfl⟩⟩
  · intro j h; simp only [modNote_notes, upd_apply]; split
    · next e => subst e; exact hf.alloc _ h
    · exact h
  · intro j _ h; simp only [modNote_notes, upd_apply]; split
    · next e => subst e; exact hf.flag _ h
    · exact h
  · intro j _ h; simp only [modNote_notes, upd_apply]; split
    · next e => subst e; exact hf.freed _ h
    · exact h

theorem Stable.setPc (s : State) (t : Tid) (p : PC) : Stable s (s.setPc t p) :=
  { Stable.refl s with }
theorem Stable.modRec (s : State) (r : Rid) (f : WRec → WRec) : Stable s (s.modRec r f) :=
  { Stable.refl s with }
theorem Stable.addUser (s : State) (n : NoteId) (t : Tid) : Stable s (s.addUser n t) :=
  { Stable.refl s with }
theorem Stable.delUser (s : State) (n : NoteId) (t : Tid) : Stable s (s.delUser n t) :=
  { Stable.refl s with }
theorem Stable.setAfter (s : State) (t : Tid) (b : Bool) : Stable s (s.setAfter t b) :=
  { Stable.refl s with }
theorem Stable.leave (s : State) (t : Tid) (n : NoteId) : Stable s (s.leave t n) :=
  { Stable.refl s with }

theorem Stable.markFreeing (s : State) (n : NoteId) : Stable s (s.markFreeing n) :=
  { Stable.refl s with freeing := by intro k h; simp [upd_apply, h] }
theorem Stable.markCalled (s : State) (n : NoteId) : Stable s (s.markCalled n) :=
  { Stable.refl s with called := by intro k h; simp [upd_apply, h] }
theorem Stable.markBorn (s : State) (n : NoteId) : Stable s (s.markBorn n) :=
  { Stable.refl s with born := by intro k h; simp [upd_apply, h] }
theorem Stable.publish (s : State) (n : NoteId) : Stable s (s.publish n) :=
  { Stable.refl s with published := by intro k h; simp [upd_apply, h] }
theorem Stable.pushObs (s : State) (o : Obs) : Stable s (s.pushObs o) :=
  { Stable.refl s with observed := ⟨[o], rfl⟩ }
theorem Stable.setNow (s : State) {v : Nat} (h : s.now ≤ v) : Stable s (s.setNow v) :=
  { Stable.refl s with now := h }

theorem Stable.acquire (s : State) (k : NoteId) (t : Tid) : Stable s (s.acquire k t) :=
  Stable.modNote s k ⟨fun _ h => h, fun _ h => h, fun _ h => h⟩
theorem Stable.release (s : State) (k : NoteId) : Stable s (s.release k) :=
  Stable.modNote s k ⟨fun _ h => h, fun _ h => h, fun _ h => h⟩
theorem Stable.incDisc (s : State) (k : NoteId) : Stable s (s.incDisc k) :=
  Stable.modNote s k ⟨fun _ h => h, fun _ h => h, fun _ h => h⟩
theorem Stable.decDisc (s : State) (k : NoteId) : Stable s (s.decDisc k) :=
  Stable.modNote s k ⟨fun _ h => h, fun _ h => h, fun _ h => h⟩
theorem Stable.setWaiters (s : State) (k : NoteId) (ws : List Rid) : Stable s (s.setWaiters k ws) :=
  Stable.modNote s k ⟨fun _ h => h, fun _ h => h, fun _ h => h⟩
theorem Stable.setAdopted (s : State) (k : NoteId) (b : Bool) : Stable s (s.setAdopted k b) :=
  Stable.modNote s k ⟨fun _ h => h, fun _ h => h, fun _ h => h⟩
theorem Stable.setExpiry (s : State) (k : NoteId) (d : Dl) : Stable s (s.setExpiry k d) :=
  Stable.modNote s k ⟨fun _ h => h, fun _ h => h, fun _ h => h⟩
theorem Stable.setNotified (s : State) (k : NoteId) : Stable s (s.setNotified k) :=
  Stable.modNote s k ⟨fun _ h => h, fun _ _ => rfl, fun _ h => h⟩
theorem Stable.markFreed (s : State) (k : NoteId) : Stable s (s.markFreed k) :=
  Stable.modNote s k ⟨fun _ h => h, fun _ h => h, fun _ _ => rfl⟩
theorem Stable.eraseChild (s : State) (n c : NoteId) : Stable s (s.eraseChild n c) :=
  Stable.modNote s n ⟨fun _ h => h, fun _ h => h, fun _ h => h⟩
theorem Stable.clearParent (s : State) (c : NoteId) : Stable s (s.clearParent c) :=
  Stable.modNote s c ⟨fun _ h => h, fun _ h => h, fun _ h => h⟩
theorem Stable.link (s : State) (c p : NoteId) : Stable s (s.link c p) := by
  unfold State.link
  refine Stable.trans ?_ (Stable.modNote _ _ ⟨fun _ h => h, fun _ h => h, fun _ h => h⟩)
  exact Stable.modNote _ _ ⟨fun _ h => h, fun _ h => h, fun _ h => h⟩
theorem Stable.unlink (s : State) (c p : NoteId) : Stable s (s.unlink c p) := by
  unfold State.unlink
  exact (Stable.eraseChild s p c).trans (Stable.clearParent _ c)

theorem Stable.allocNote (s : State) {k : NoteId} (par : Option NoteId) (dl : Dl)
    (hk : (s.notes k).allocated = false) : Stable s (s.allocNote k par dl) := by
  have hne : ∀ j, (s.notes j).allocated = true → j ≠ k := by
    intro j h e; subst e; simp [hk] at h
  refine ⟨?_, ?_, ?_, Nat.le_refl _, fun _ h => h, fun _ h => h, fun _ h => h, fun _ h => h, ?_,
    ⟨[], rfl⟩⟩
  · intro j h; simp [hne j h, h]
  · intro j h hf; simp [hne j h, hf]
  · intro j h hf; simp [hne j h, hf]
  · intro j h; simp [upd_apply, hne j h]

theorem Stable.newExpiry (s : State) (n : NoteId) (k : DK) : Stable s (newExpiry s n k) := by
  unfold Note.newExpiry; split
  · exact Stable.setExpiry _ _ _
  · exact Stable.refl _

theorem Stable.afterDeadline (s : State) (t : Tid) (n : NoteId) (nt : Dl) (k : DK) :
    Stable s (afterDeadline s t n nt k) := by
  unfold Note.afterDeadline; split
  · exact ((Stable.newExpiry s n k).trans (Stable.markBorn _ n)).trans (Stable.setPc _ _ _)
  · exact (Stable.newExpiry s n k).trans (Stable.setPc _ _ _)

theorem Stable.afterNotify (s : State) (t : Tid) (n : NoteId) (k : NK) :
    Stable s (afterNotify s t n k) := by
  cases k
  · exact Stable.setPc _ _ _
  · exact Stable.afterDeadline _ _ _ _ _

theorem Stable.childUnlink (s : State) (f : Frame) (rest : List Frame) (top : Top) :
    Stable s (childUnlink s f rest top) := by
  unfold Note.childUnlink; split
  · exact Stable.unlink _ _ _
  · exact Stable.refl _

theorem Stable.childReturn (s : State) (t : Tid) (f : Frame) (rest : List Frame) (top : Top) :
    Stable s (childReturn s t f rest top) := by
  unfold Note.childReturn; split
  · exact ((Stable.childUnlink s _ _ _).trans (Stable.decDisc _ _)).trans (Stable.setPc _ _ _)
  · exact (Stable.childUnlink s _ _ _).trans (Stable.setPc _ _ _)

theorem Stable.childScanStart (s : State) (t : Tid) (f : Frame) (rest : List Frame) (top : Top) :
    Stable s (childScanStart s t f rest top) :=
  (Stable.setAdopted s _ _).trans (Stable.setPc _ _ _)

theorem Stable.childWakeNext (s : State) (t : Tid) (f : Frame) (rest : List Frame) (top : Top) :
    Stable s (childWakeNext s t f rest top) := by
  unfold Note.childWakeNext; split
  · exact (Stable.setWaiters s _ _).trans (Stable.setPc _ _ _)
  · exact Stable.childScanStart _ _ _ _ _

theorem Stable.freeLoopStart (s : State) (t : Tid) (n : NoteId) (par : Option NoteId) :
    Stable s (freeLoopStart s t n par) := (Stable.setAdopted s _ _).trans (Stable.setPc _ _ _)

theorem Stable.enterChild (s : State) (t : Tid) (n : NoteId) (par : Option NoteId) (k : NK) :
    Stable s (enterChild s t n par k) := Stable.setPc _ _ _

attribute [local irreducible] afterNotify childReturn childWakeNext childScanStart State.setAdopted freeLoopStart enterChild
  afterDeadline State.setPc State.modNote State.modRec State.acquire State.release State.incDisc
  State.decDisc State.link State.unlink State.addUser State.delUser State.markFreeing
  State.markCalled State.markBorn State.publish State.setAfter State.pushObs State.setNow
  State.allocNote State.leave State.setWaiters State.setExpiry State.setNotified State.markFreed
  State.eraseChild State.clearParent in
theorem Own.stable {s s' : State} {e : Event} {t : Tid} {pc pc' : PC} (h : Own s t pc e pc' s') :
    Stable s s' := by
  cases h
  all_goals (repeat' split)
  case malloc_newMalloc_2 =>
    exact (Stable.allocNote s _ _ (by assumption)).trans (Stable.setPc _ _ _)
  -- peel the updates off the successor state, the commonest first
  all_goals repeat (first
    | exact Stable.refl _
    | exact Stable.afterDeadline _ _ _ _ _
    | refine Stable.trans ?_ (Stable.setPc _ _ _)
    | refine Stable.trans ?_ (Stable.acquire _ _ _)
    | refine Stable.trans ?_ (Stable.release _ _)
    | refine Stable.trans ?_ (Stable.incDisc _ _)
    | refine Stable.trans ?_ (Stable.decDisc _ _)
    | refine Stable.trans ?_ (Stable.leave _ _ _)
    | refine Stable.trans ?_ (Stable.addUser _ _ _)
    | refine Stable.trans ?_ (Stable.modRec _ _ _)
    | refine Stable.trans ?_ (Stable.setAdopted _ _ _)
    | refine Stable.trans ?_ (Stable.unlink _ _ _)
    | refine Stable.trans ?_ (Stable.link _ _ _)
    | refine Stable.trans ?_ (Stable.afterNotify _ _ _ _)
    | refine Stable.trans ?_ (Stable.childReturn _ _ _ _ _)
    | refine Stable.trans ?_ (Stable.childWakeNext _ _ _ _ _)
    | refine Stable.trans ?_ (Stable.childScanStart _ _ _ _ _)
    | refine Stable.trans ?_ (Stable.freeLoopStart _ _ _ _)
    | refine Stable.trans ?_ (Stable.enterChild _ _ _ _ _)
    | refine Stable.trans ?_ (Stable.afterDeadline _ _ _ _ _)
    | refine Stable.trans ?_ (Stable.delUser _ _ _)
    | refine Stable.trans ?_ (Stable.setAfter _ _ _)
    | refine Stable.trans ?_ (Stable.markFreeing _ _)
    | refine Stable.trans ?_ (Stable.markCalled _ _)
    | refine Stable.trans ?_ (Stable.markBorn _ _)
    | refine Stable.trans ?_ (Stable.publish _ _)
    | refine Stable.trans ?_ (Stable.pushObs _ _)
    | refine Stable.trans ?_ (Stable.setWaiters _ _ _)
    | refine Stable.trans ?_ (Stable.setExpiry _ _ _)
    | refine Stable.trans ?_ (Stable.setNotified _ _)
    | refine Stable.trans ?_ (Stable.markFreed _ _)
    | refine Stable.trans ?_ (Stable.eraseChild _ _ _)
    | refine Stable.trans ?_ (Stable.clearParent _ _))

theorem step_stable {s s' : State} {e : Event} (hs : step s e = .ok s') : Stable s s' := by
  rcases step_own hs with ⟨_, _, _, _, _, _, h⟩ | ⟨_, rfl, hv, rfl⟩ | ⟨rfl, rfl⟩
  · exact h.stable
  · exact Stable.setNow s hv
  · exact Stable.refl _

end Note
