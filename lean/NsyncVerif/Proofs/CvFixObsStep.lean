/-
  Layer `CvFix`, observers (property C16, cv half): what an accepted event of a thread that is inside
  a debug call can be — a stutter, a local transition (frame of the thread only), the successful
  test-and-set, or the release store.
-/
import NsyncVerif.Proofs.CvFixObsOwner

namespace NsyncVerif.CvFix

theorem inDebug_not_open {x : Thr} (h : inDebug x = true) : x.loc.isOpen = false := by
  unfold inDebug at h
  cases hl : x.loc <;> simp_all [Loc.isOpen]

/-- What an accepted release store of emit_cv_state says. -/
theorem dbgRel_accepted {cfg : Config} {s s' : State} {t : Tid} {new obs : Nat}
    (hs : step cfg s (.wordSt t .dbgRel new obs) = .ok s') :
    (s.thr t).loc = .dWalk ∧ new = (s.thr t).old.enc ∧ s.holder = some t ∧ obs = s.word.enc ∧
    ∃ n, Word.dec? new = some n ∧ n.spin = false ∧
      s' = ({ s with word := n, holder := none }).setThr t { s.thr t with loc := .dRet } := by
  simp only [step, stepWordSt] at hs
  split at hs
  all_goals try (rename_i h1 h2; cases h1)
  · have hl := h2
    simp only [need_ok] at hs
    obtain ⟨hnew, hs⟩ := hs
    have hobs : obs = s.word.enc := by
      unfold release at hs; simp only [need_ok] at hs; exact hs.2.1
    obtain ⟨hh, n, hn, hsp, hs⟩ := release_ok hs
    cases hs
    exact ⟨hl, hnew, hh, hobs, n, hn, hsp, rfl⟩
  · cases hs

/-- The four shapes of a step of an observer. -/
theorem obs_step {cfg : Config} {s s' : State} {e : Event} {t : Tid} (hs : step cfg s e = .ok s')
    (ht : e.tid = some t) (hd : inDebug (s.thr t) = true) :
    (s' = s ∧ e.isAtomic = false) ∨
    (∃ x', LTr s t e x' ∧ s' = s.setThr t x') ∨
    (∃ exp new obs n, e = .wordCas t exp new obs true ∧ (s.thr t).loc = .spCas ∧ (s.thr t).cont = .dbg ∧
      exp = (s.thr t).casExp ∧ exp = s.word.enc ∧ obs = exp ∧ Word.dec? new = some n ∧
      new = exp + 1 + (if (s.thr t).setNE ∧ exp / 2 % 2 = 0 then 2 else 0) ∧
      s' = ({ s with word := n, holder := some t }).setThr t { s.thr t with old := s.word, loc := .dWalk }) ∨
    (∃ new obs n, e = .wordSt t .dbgRel new obs ∧ (s.thr t).loc = .dWalk ∧ s.holder = some t ∧
      new = (s.thr t).old.enc ∧ obs = s.word.enc ∧ Word.dec? new = some n ∧ n.spin = false ∧
      s' = ({ s with word := n, holder := none }).setThr t { s.thr t with loc := .dRet }) := by
  have hno := inDebug_not_open hd
  have htr := step_tr hs
  cases htr with
  | same e h hna => exact .inl ⟨rfl, hna⟩
  | tick ns h => simp [Event.tid] at ht
  | semOther e sem' h hopen => rw [hopen t ht] at hno; cases hno
  | loc h =>
    rename_i t0 x'
    have := ltr_tid h
    rw [ht] at this; cases this
    exact .inr (.inl ⟨x', h, rfl⟩)
  | acq t0 exp new obs o n hl hexp hw he ho hn hnew =>
    simp only [Event.tid, Option.some.injEq] at ht; subst ht
    have hc : (s.thr t0).cont = .dbg := by simpa [inDebug, hl] using hd
    have e1 : exp = s.word.enc := by rw [← he, hw]
    have ho' : o = s.word := by rw [e1, enc_dec] at ho; cases ho; rfl
    subst ho'
    refine .inr (.inr (.inl ⟨exp, new, obs, n, rfl, hl, hc, hexp, e1, he, hn, hnew, ?_⟩))
    rw [afterAcquire_dbg _ _ _ (by simpa using hc)]
  | relDbg t0 new obs n hl hh hnew hn hsp =>
    simp only [Event.tid, Option.some.injEq] at ht; subst ht
    exact .inr (.inr (.inr ⟨new, obs, n, rfl, hl, hh, hnew, (dbgRel_accepted hs).2.2.2.1, hn, hsp, rfl⟩))
  | wHeadExit t0 r y hy hl hr hw => subst hy; cases ht; simp [inDebug, hl] at hd
  | relWait t0 new obs n hl | relWait2 t0 new obs n hl | relSig t0 site new obs n hl
  | relEnq t0 new obs n hl | relDeq t0 new obs n hl | relDeqW t0 new obs n hl
  | wCmpEq t0 r obs hl | deqLdQueued t0 r obs hl | deqSpinExit t0 r hl | wSt1 t0 r obs hl
  | wClr t0 r obs hl | wake t0 r obs hl | enqSt t0 r obs hl | deqSt t0 r obs hl
  | wRmCasOk t0 r exp new obs hl | sRcCasOk t0 site r exp new obs hl | muMode t0 obs lt hl
  | wwCasOk t0 exp new obs f rest hl | semVWake t0 k r q hl | semPdRetOkW t0 k hl
  | semPdRetOkC t0 k hl | nwInit t0 r hl =>
    cases ht; simp [inDebug, hl] at hd
  | wInit t0 r hl | fStW t0 r new hl | fCasOk t0 r exp new obs hl =>
    cases ht; rw [hl] at hno; cases hno

/-- The local transitions of an observer: the loads of the test-and-set loop, the failed CAS, the
    first load, the two loads of the walk, `ret`. -/
theorem obs_ltr {s : State} {t : Tid} {e : Event} {x' : Thr} (h : LTr s t e x')
    (hd : inDebug (s.thr t) = true) :
    (inDebug x' = true ∨ (x'.loc = .idle ∧ (s.thr t).loc = .dRet)) ∧
    (x'.loc.dbgHolds = true → (s.thr t).loc.dbgHolds = true) ∧
    (∀ q, q ∈ touches s e → (s.thr t).loc.dbgHolds = true ∧ q ∈ s.queue) ∧
    ((s.thr t).loc.dbgHolds = true → x'.old = (s.thr t).old ∧ (
      (∃ r obs, e = .recLd t .dbgW r obs ∧ (s.thr t).loc = .dWalk ∧ s.queue[(s.thr t).dIdx]? = some r ∧
        r.isMucv = true ∧ x'.loc = .dRc ∧ x'.dIdx = (s.thr t).dIdx) ∨
      (∃ r obs, e = .recLd t .dbgRc r obs ∧ (s.thr t).loc = .dRc ∧ s.queue[(s.thr t).dIdx]? = some r ∧
        x'.loc = .dWalk ∧ x'.dIdx = (s.thr t).dIdx + 1))) := by
  cases h with
  | spinLd site obs hl ho =>
    rcases hl with ⟨_, hl⟩ | ⟨_, hl⟩ <;> split <;> simp_all [inDebug, Loc.dbgHolds, touches]
  | casFail exp new obs hl ho hne => simp_all [inDebug, Loc.dbgHolds, touches]
  | dbgLd obs hl ho => split <;> simp_all [inDebug, Loc.dbgHolds, touches]
  | dbgW r obs hl hq hm ho =>
    refine ⟨.inl (by simp [inDebug]), by simp [hl, Loc.dbgHolds], ?_, fun _ => ⟨rfl, .inl ⟨r, obs, rfl, hl, hq, hm, rfl, rfl⟩⟩⟩
    intro q hq'
    simp [touches] at hq'; subst hq'
    exact ⟨by simp [hl, Loc.dbgHolds], List.mem_of_getElem? hq⟩
  | dbgRc r obs hl hq ho =>
    refine ⟨.inl (by simp [inDebug]), by simp [hl, Loc.dbgHolds], ?_, fun _ => ⟨rfl, .inr ⟨r, obs, rfl, hl, hq, rfl, rfl⟩⟩⟩
    intro q hq'
    simp [touches] at hq'; subst hq'
    exact ⟨by simp [hl, Loc.dbgHolds], List.mem_of_getElem? hq⟩
  | retDebug k hl hk => simp_all [inDebug, Loc.dbgHolds, Thr.fresh, touches]
  | noteSeen hl => rcases hl with hl | hl | hl <;> simp [inDebug, hl] at hd
  | wChk y r obs hy hl hr ho hso => exfalso; cases hy <;> simp_all [inDebug]
  | wTail y r obs hy hl hr ho => exfalso; cases hy <;> simp_all [inDebug]
  | wwRelLd site obs hl => rcases hl with ⟨_, hl⟩ | ⟨_, hl⟩ <;> simp [inDebug, hl] at hd
  | retWait res hl hr => rcases hl with hl | hl <;> simp [inDebug, hl] at hd
  | rcLd site r obs hl hs hr ho => simp [inDebug, hl] at hd
  | _ => exfalso; simp_all [inDebug]

end NsyncVerif.CvFix
