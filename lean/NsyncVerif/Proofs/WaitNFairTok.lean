/-
  Proofs/WaitNFairTok.lean — WaitN layer, liveness, case (b): the token flow behind `C11_no_oversleep` as leads-to
  facts.  For a caller that sleeps in the P of wait.c:78 and is never woken again: a token on its semaphore stays
  (`token_stays`); a waker that owes a post on one of its records posts (`ower_posts`), and the post is on its
  semaphore (`inflight_posts`).
-/
import NsyncVerif.Proofs.WaitNFairReady


namespace WaitN
open NsyncVerif

variable {s0 : State}

theorem sb_of_reachable {s : State} (h : Reachable s) : SB s := by
  obtain ⟨evs, hrun⟩ := h
  exact (inv_of_run evs s hrun).1

theorem keeps_of_dflt {s s' : State} {t : Tid} {e : Ev} (h : dflt s t e = .ok s') :
    s'.pc = s.pc ∧ ∀ u, (s'.fr u).objs = (s.fr u).objs ∧ (s'.fr u).dl = (s.fr u).dl := by
  obtain ⟨h1, h2, _⟩ := dflt_frame h; exact ⟨h1, fun u => by rw [h2]; exact ⟨rfl, rfl⟩⟩

theorem keeps_of_postSem {s s1 : State} {r : Rid} {j : SemId} {t : Tid} {n : Nat} (hp : postSem s r j = some s1) :
    ((s1.setSem j n).setPost t none).pc = s.pc ∧
      ∀ u, ((((s1.setSem j n).setPost t none).fr u).objs = (s.fr u).objs ∧ (((s1.setSem j n).setPost t none).fr u).dl = (s.fr u).dl) := by
  obtain ⟨h1, _, h3⟩ := postSem_keeps hp; exact ⟨by simpa using h1, fun u => by simpa using h3 u⟩

theorem proto_keeps2 {s s' : State} {t : Tid} {e : Ev} (h : proto s t e = .ok s') :
    s'.pc = s.pc ∧ ∀ u, (s'.fr u).objs = (s.fr u).objs ∧ (s'.fr u).dl = (s.fr u).dl := by
  unfold proto at h
  split_ok h
  all_goals first
    | exact keeps_of_dflt h
    | (cases h; exact ⟨rfl, fun _ => ⟨rfl, rfl⟩⟩)
    | (cases h; exact keeps_of_postSem ‹postSem _ _ _ = some _›)

theorem stepOpen_keeps2 {s s' : State} {t : Tid} {e : Ev} (h : stepOpen s t e = .ok s') :
    s'.pc = s.pc ∧ ∀ u, (s'.fr u).objs = (s.fr u).objs ∧ (s'.fr u).dl = (s.fr u).dl := by
  unfold stepOpen at h
  split_ok h
  all_goals first
    | exact proto_keeps2 h
    | exact keeps_of_dflt h
    | (cases h; exact ⟨rfl, fun _ => ⟨rfl, rfl⟩⟩)

/-- a thread that owes a post stays at its program point until it posts -/
theorem post_keeps_pc {s s' : State} {u : Tid} {e : Ev} {r : Rid} (hr : Reachable s) (h : stepThr s u e = .ok s')
    (hp : s.post u = some r) (hp' : s'.post u = some r) : s'.pc u = s.pc u := by
  have hopn := ((qinv_of_reachable hr).qi.q6 u (by rw [hp]; simp)).2
  unfold stepThr at h
  split at h <;> rename_i hpc <;> (try (rw [hpc] at hopn; cases hopn; done))
  · -- idle
    unfold stepIdle at h
    split_ok h
    all_goals first
      | exact congrFun (stepOpen_keeps2 h).1 u
      | (cases h; rfl)
      | (exfalso; simp_all; done)
  · -- signaller in its wake loop
    rename_i c bc st
    cases st <;> (try (rw [hpc] at hopn; cases hopn; done))
    simp only [stepSg] at h
    split_ok h
    all_goals first
      | exact congrFun (dflt_frame h).1 u
      | (exfalso; simp_all; done)
      | (cases h; simp at hp'; done)
      | (cases h; simp; done)
  · -- lazy notification of a note
    rename_i uu i st
    cases st <;> (try (rw [hpc] at hopn; cases hopn; done))
    unfold stepND at h
    split_ok h
    all_goals first
      | exact congrFun (stepOpen_keeps2 h).1 u
      | exact congrFun (dflt_frame h).1 u
      | (exfalso; simp_all; done)
      | (cases h; simp at hp'; done)

/-- a token on the semaphore of a sleeper that is never woken stays -/
theorem token_step (x : Exec s0) (hr : Reachable s0) (t : Tid) (k : SemId) (a : Nat)
    (hp : (x.ρ a).pc t = .wPdWait k) (hp' : (x.ρ (a + 1)).pc t = .wPdWait k) :
    (x.ρ a).sem k ≤ (x.ρ (a + 1)).sem k := by
  rcases x.step_cases a with ⟨ns, h, _⟩ | ⟨v, e, _, h⟩
  · rw [h]; exact Nat.le_refl _
  · apply Classical.byContradiction
    intro hlt
    have sa := sema_stepThr h
    have sb := sb_of_reachable (x.reach hr a)
    have hu := sb.b1 t k (sb.b3 t k hp)
    rcases sa.pret k (sa.dec k (by omega)) with h | ⟨h1, h2⟩
    · rw [hu] at h; cases h
    · have hv := sb.b1 v k (sb.b3 v k h1)
      rw [hu] at hv; cases hv
      exact h2 k hp'

theorem token_stays (x : Exec s0) (hr : Reachable s0) (t : Tid) (k : SemId) (a : Nat)
    (hp : ∀ a', a ≤ a' → (x.ρ a').pc t = .wPdWait k) (h : 0 < (x.ρ a).sem k) :
    ∀ a', a ≤ a' → 0 < (x.ρ a').sem k :=
  Sched.keeps_from h fun j hj ih =>
    Nat.lt_of_lt_of_le ih (token_step x hr t k j (hp j hj) (hp _ (Nat.le_succ_of_le hj)))

theorem blocking_of_opn {p : PC} (h : opn p = true) : blockingPc p = false := by
  unfold opn at h
  split at h <;> first | rfl | cases h

/-- a waker that owes a post makes it -/
theorem ower_posts (x : Exec s0) (H : FairHyps x) (a : Nat) (u : Tid) (r : Rid) :
    ∃ j, a ≤ j ∧ (x.ρ j).post u ≠ some r := by
  have hr := H.reach
  apply Classical.byContradiction
  intro hno
  have hall : ∀ j, a ≤ j → (x.ρ j).post u = some r := fun j hj =>
    Classical.byContradiction (fun h => hno ⟨j, hj, h⟩)
  -- it is ready for ever: it moves, though it cannot without posting
  obtain ⟨j, hj, hm⟩ := H.weak u a fun j hj =>
    ⟨.inr (by rw [hall j hj]; simp), not_blocked_of_pc (blocking_of_opn
      ((qinv_of_reachable (x.reach hr j)).qi.q6 u (by rw [hall j hj]; simp)).2)⟩
  have hj1 := hall (j + 1) (Nat.le_succ_of_le hj)
  rcases hm with h | h
  · rcases x.view u j with ⟨h1, _⟩ | ⟨e, _, hs⟩
    · exact h h1
    · exact h (post_keeps_pc (x.reach hr j) hs (hall j hj) hj1)
  · exact h (by rw [hall j hj]; exact hj1)

/-- a waker that owes a post on a record of the sleeper posts, and the post lands on the sleeper's semaphore -/
theorem inflight_posts (x : Exec s0) (H : FairHyps x) (t : Tid) (k : SemId) (a : Nat) (u : Tid) (r : Rid)
    (hp : ∀ a', a ≤ a' → (x.ρ a').pc t = .wPdWait k) (hrecs : ∀ a', a ≤ a' → r ∈ ((x.ρ a').fr t).recs)
    (hpost : (x.ρ a).post u = some r) : ∃ a', a ≤ a' ∧ 0 < (x.ρ a').sem k := by
  have hr := H.reach
  -- the step `j` by which the post is made
  obtain ⟨j1, hj1, hd, hb⟩ := Sched.first_at (M := fun j => (x.ρ j).post u ≠ some r) (ower_posts x H a u r)
  have hlt : a < j1 := Nat.lt_of_le_of_ne hj1 fun e => hd (e ▸ hpost)
  obtain ⟨j, rfl⟩ : ∃ j, j1 = j + 1 := ⟨j1 - 1, by omega⟩
  have hd' := Classical.not_not.1 (hb j (by omega) (by omega))
  refine ⟨j + 1, hj1, ?_⟩
  rcases x.view u j with ⟨_, h, _⟩ | ⟨e, _, hs⟩
  · exact absurd (h ▸ hd') hd
  · have hra := x.reach hr j
    obtain ⟨j0, _, hpos, hbind⟩ := (sema_stepThr hs).vpost r hd' hd
    have hsl : inSleep ((x.ρ j).pc t) = true := by rw [hp j (by omega)]; rfl
    have hil := inLoop_of_inSleep hsl (linv_of_reachable hra t)
    have hown := (own_of_reachable hra).own t r (inCall_of_inSleep hsl) hil.frees (hrecs _ (by omega))
    have hb := hbind hown.1 (by rw [hown.2]; exact hil.freed)
    rw [hown.2] at hb
    have hb3 := (sb_of_reachable (x.reach hr (j + 1))).b3 t k (hp _ hj1)
    rw [hb3] at hb; cases hb
    exact hpos

end WaitN
