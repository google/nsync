/-
  Proofs/WaitNQ.lean — the queue invariant `QI` (where every waiter record is: in its object's queue,
  in the private wake list of a cv signaller, popped by a note / counter waker that still has to post,
  or out), the per-program-point facts `CF` of a caller about the locks it holds and the progress of its
  dequeue loop, and `qi_transfer`: `QI` reads the program counters only through `wk` and `opn`.
  (On the code before the repair of defect F3 these statements only held on runs on which no cv_dequeue had
  "removed" a record that a signaller had already unlinked; cv_dequeue now looks for the record in
  pcv->waiters and, if a waker owns it, waits for `waiting == 0`.)
-/
import NsyncVerif.Proofs.WaitNRet


namespace WaitN

/-- the records a cv signaller has unlinked and not yet cleared -/
def pend (p : Option Rid) (l : List Rid) : List Rid :=
  match p with
  | some _ => l.tail
  | none => l

/-- the wake list of a cv signaller inside wake_waiters -/
def wk (p : PC) : Option (Nat × List Rid) :=
  match p with
  | .sg c _ (.wake l) => some (c, l)
  | _ => none

/-- program points at which a thread may have popped a record and still has to post its semaphore -/
def opn (p : PC) : Bool :=
  match p with
  | .idle | .wND _ _ .nfWake | .sg _ _ (.wake _) => true
  | _ => false

structure QI (s : State) : Prop where
  /-- a queued record is alive, belongs to that object, is marked waiting, and its dequeue has not finished -/
  q1 : ∀ o r, r ∈ (s.obj o).queue →
        (s.rcd r).live = true ∧ (s.rcd r).obj = o ∧ (s.rcd r).waiting = true ∧ (s.rcd r).deqd = false
  q2 : ∀ o, (s.obj o).queue.Nodup
  /-- a live record marked waiting is queued on its object or in a signaller's wake list -/
  q3 : ∀ r, (s.rcd r).live = true → (s.rcd r).waiting = true →
        r ∈ (s.obj (s.rcd r).obj).queue ∨ ∃ u c l, wk (s.pc u) = some (c, l) ∧ r ∈ pend (s.post u) l
  /-- wake lists of cv signallers -/
  q4 : ∀ u c l, wk (s.pc u) = some (c, l) →
        l.Nodup ∧ (∀ r0, s.post u = some r0 → l.head? = some r0) ∧
        ∀ r ∈ pend (s.post u) l, (s.rcd r).live = true ∧ (s.rcd r).obj = .cv c ∧ (s.rcd r).waiting = true
          ∧ (s.rcd r).deqd = false ∧ ∀ o, r ∉ (s.obj o).queue
  q4d : ∀ u u' c l c' l', u ≠ u' → wk (s.pc u) = some (c, l) → wk (s.pc u') = some (c', l') →
        ∀ r, r ∈ pend (s.post u) l → r ∉ pend (s.post u') l'
  /-- a record popped by a note / counter waker that still has to post -/
  q5 : ∀ u r, s.post u = some r → (wk (s.pc u)).isSome = true ∨
        ((s.rcd r).live = true ∧ (s.rcd r).deqd = false ∧ (s.rcd r).obj.isCv = false
          ∧ (s.obj (s.rcd r).obj).lock = some u ∧ (s.rcd r).waiting = false)
  q6 : ∀ u, s.post u ≠ none → s.mc u = .none ∧ opn (s.pc u) = true
  /-- waiters of a ready note / counter are only left queued while somebody holds its mutex -/
  q7 : ∀ o, o.isCv = false → wakeable o (s.obj o) = true → (s.obj o).queue ≠ [] → (s.obj o).lock ≠ none
  q8 : ∀ n, dlePast (s.obj (.note n)).expiry = true → (s.obj (.note n)).queue = []
  q9 : ∀ o, (s.obj o).known = false → (s.obj o).queue = [] ∧ (s.obj o).lock = none
  q10 : ∀ c, (s.obj (.cv c)).known = true
  /-- nested mutex calls are only tracked for protocol-driven threads -/
  q11 : ∀ u, s.mc u ≠ .none → opn (s.pc u) = true ∧ wk (s.pc u) = none

/-- number of dequeue calls the caller has completed (their lock released) -/
def dqIdx (p : PC) (f : Frame) : Nat :=
  match p with
  | .wDeqCv j _ => j
  | .wND .deq j _ => j
  | .wDeq j (.unlockWait _) => j + 1
  | .wDeq j _ => j
  | .wFree | .wRelock | .wRet _ => f.recs.length
  | _ => 0

/-- the object whose mutex the caller holds at this program point (notes and counters) -/
def holdsAt (p : PC) (f : Frame) : Option ObjId :=
  match p with
  | .wEnq i .load | .wEnq i (.store _) | .wEnq i (.unlockCall _) => f.objs[i]?
  | .wDeq j .load | .wDeq j (.loadW _) | .wDeq j (.store _) | .wDeq j (.unlockCall _) => f.objs[j]?
  | .wND _ i .ld1 | .wND _ i (.unlockCall _) | .wND _ i .nfLd0 | .wND _ i .nfLd1 | .wND _ i .nfStore
  | .wND _ i .nfWake | .wND _ i .nfUnlockCall => f.objs[i]?
  | _ => none

def isNfWake (p : PC) : Bool :=
  match p with
  | .wND _ _ .nfWake => true
  | _ => false

/-- the record the caller is about to enqueue and has not touched since its initialisation -/
def freshAt (p : PC) (f : Frame) : Option Rid :=
  match p with
  | .wEnqCv i (.spin _) | .wEnqCv i .store => f.recs[i]?
  | .wEnq i .lockCall | .wEnq i .lockWait | .wEnq i .load | .wEnq i (.store _) => f.recs[i]?
  | _ => none

/-- the record whose dequeue call has decided and cleared `waiting` -/
def clearedAt (p : PC) (f : Frame) : Option Rid :=
  match p with
  | .wDeq j (.unlockCall _) | .wDeq j (.unlockWait _) | .wDeqCv j (.release _) => f.recs[j]?
  | _ => none

/-- the enqueue that has decided to queue the record -/
def enqTrueAt (p : PC) (f : Frame) : Option ObjId :=
  match p with
  | .wEnq i (.store true) | .wEnq i (.unlockCall true) => f.objs[i]?
  | _ => none

/-- facts of a caller about the shared state (locks held, own records) -/
structure CF (s : State) (t : Tid) : Prop where
  holds : ∀ o, holdsAt (s.pc t) (s.fr t) = some o →
            (s.obj o).lock = some t ∧ (isNfWake (s.pc t) = false → wakeable o (s.obj o) = true → (s.obj o).queue = [])
  fresh : ∀ r, freshAt (s.pc t) (s.fr t) = some r → (s.rcd r).waiting = false
  cleared : ∀ r, clearedAt (s.pc t) (s.fr t) = some r → (s.rcd r).waiting = false
  enqT : ∀ o, enqTrueAt (s.pc t) (s.fr t) = some o → wakeable o (s.obj o) = false ∧
            (∀ n, o = .note n → dlePast (s.obj o).expiry = false)
  dq : inCall (s.pc t) = true → (s.fr t).frees = 0 → ∀ k r, (s.fr t).recs[k]? = some r →
            ((s.rcd r).deqd = true ↔ k < dqIdx (s.pc t) (s.fr t))

theorem CF.holds_at {s : State} {t : Tid} {p : PC} {o : ObjId} (c : CF s t) (hpc : s.pc t = p)
    (h : holdsAt p (s.fr t) = some o) :
    (s.obj o).lock = some t ∧ (isNfWake p = false → wakeable o (s.obj o) = true → (s.obj o).queue = []) := by
  subst hpc
  exact c.holds o h

structure QInv (s : State) : Prop where
  qi : QI s
  cf : ∀ t, CF s t

theorem pend_sub (p : Option Rid) (l : List Rid) : ∀ r, r ∈ pend p l → r ∈ l := by
  intro r hr
  unfold pend at hr
  split at hr
  · exact List.mem_of_mem_tail hr
  · exact hr

/-- `QI` reads the program counters only through `wk` and `opn` -/
theorem qi_transfer {s s' : State} (h : QI s) (ho : s'.obj = s.obj) (hr : s'.rcd = s.rcd) (hp : s'.post = s.post)
    (hwk : ∀ u, wk (s'.pc u) = wk (s.pc u))
    (h6 : ∀ u, s'.post u ≠ none → s'.mc u = .none ∧ opn (s'.pc u) = true)
    (h11 : ∀ u, s'.mc u ≠ .none → opn (s'.pc u) = true ∧ wk (s'.pc u) = none) : QI s' := by
  constructor
  · intro o r; rw [ho, hr]; exact h.q1 o r
  · intro o; rw [ho]; exact h.q2 o
  · intro r; rw [hr, ho, hp]; intro h1 h2
    rcases h.q3 r h1 h2 with h3 | ⟨u, c, l, h3, h4⟩
    · exact .inl h3
    · exact .inr ⟨u, c, l, by rw [hwk]; exact h3, h4⟩
  · intro u c l hw; rw [hwk] at hw; rw [hp, hr, ho]; exact h.q4 u c l hw
  · intro u u' c l c' l' hne h1 h2; rw [hwk] at h1 h2; rw [hp]; exact h.q4d u u' c l c' l' hne h1 h2
  · intro u r hpo; rw [hp] at hpo; rw [hwk, hr, ho]; exact h.q5 u r hpo
  · exact h6
  · intro o; rw [ho]; exact h.q7 o
  · intro n; rw [ho]; exact h.q8 n
  · intro o; rw [ho]; exact h.q9 o
  · intro c; rw [ho]; exact h.q10 c
  · exact h11

end WaitN
