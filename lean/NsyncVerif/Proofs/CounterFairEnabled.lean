/-
  Proofs/CounterFairEnabled.lean — Counter layer: the acceptor blocks a thread only on a semaphore
  whose count is 0 (before the deadline), on counter_mu while it is held, or at a failed ASSERT of
  counter.c: every other thread inside a call has an accepted next operation (`thread_enabled`).
  This is what makes `WeakFair` (Proofs/CounterFairDefs.lean) a fairness condition on ENABLED threads.
-/
import NsyncVerif.Proofs.CounterFairDefs

namespace Counter

/-- counter_mu's log name is bound while somebody is between `call nsync_mu_lock` and
    `call nsync_mu_unlock` -/
def MuInv (s : State) : Prop := ∀ u, pastLock (s.pc u) = true → s.sh.mu ≠ none

/-- the phase is `creating` while a thread is at the initialising store, and there is one such thread -/
def NewInv (s : State) : Prop :=
  (∀ u v, s.pc u = .newStore v → s.sh.phase = .creating) ∧
  (∀ u u' v v', s.pc u = .newStore v → s.pc u' = .newStore v' → u = u')

/-- only finitely many record ids are live / semaphore ids are bound -/
def FreeIds (s : State) : Prop :=
  (∃ B : Nat, ∀ k : Nat, B ≤ k → (s.sh.nw k).live = false) ∧
  (∃ B : Nat, ∀ j : Nat, B ≤ j → s.sh.semUser j = none)

/-- a bound above the semaphore a step can newly bind: the one the new program point sleeps on or the one posted -/
def newSem : PC → Ev → Nat
  | .wPdWait _ _ j, _ => j + 1
  | _, .semV j => j + 1
  | _, _ => 0

theorem muInv_of_reachable {s : State} (h : Reachable s) : MuInv s := by
  refine Reachable.induct (P := MuInv) ?_ ?_ h
  · intro u hp; simp [init, pastLock, lockWaitPc, holds] at hp
  · intro s e s' hr hp hs
    cases e with
    | tick ns => obtain ⟨_, rfl⟩ := step_tick hs; exact hp
    | thr t ev =>
      have f := facts_stepThr (inv_of_reachable hr) hs
      have g := prog4_stepThr hs
      intro u hu
      rcases f.lift (pastLock · = true) g.mub hu with a | ⟨_, a⟩
      · exact g.muk (hp u a)
      · exact a

theorem newInv_of_reachable {s : State} (h : Reachable s) : NewInv s := by
  refine Reachable.induct (P := NewInv) ?_ ?_ h
  · exact ⟨fun u v hp => by simp [init] at hp, fun u u' v v' hp => by simp [init] at hp⟩
  · intro s e s' hr hp hs
    cases e with
    | tick ns => obtain ⟨_, rfl⟩ := step_tick hs; exact hp
    | thr t ev =>
      have f := facts_stepThr (inv_of_reachable hr) hs
      have g := prog4_stepThr hs
      obtain ⟨p1, p2⟩ := hp
      have key : ∀ u v, s'.pc u = .newStore v → u ≠ t → s.pc u = .newStore v := by
        intro u v hu hut; rw [f.others u hut] at hu; exact hu
      refine ⟨fun u v hu => ?_, fun u u' v v' hu hu' => ?_⟩
      · by_cases hut : u = t
        · subst hut
          rcases g.ph2 v hu with ⟨a, b⟩ | ⟨_, b⟩
          · rw [b]; exact p1 _ v a
          · exact b
        · have a := key u v hu hut
          rcases g.ph3 (p1 u v a) with b | ⟨w, b⟩
          · exact b
          · exact absurd (p2 u t v w a b) hut
      · by_cases hab : s.sh.phase = .absent
        · -- nobody was at the initialising store: only the acting thread can be there now
          have ht : ∀ w z, s'.pc w = .newStore z → w = t := fun w z h => Classical.byContradiction fun hw => by
            have := p1 w z (key w z h hw); rw [hab] at this; cases this
          exact (ht u v hu).trans (ht u' v' hu').symm
        · -- whoever is there now was there before
          have hold : ∀ w z, s'.pc w = .newStore z → s.pc w = .newStore z := fun w z h => by
            by_cases hw : w = t
            · subst hw; exact (g.ph2 z h).elim And.left fun a => absurd a.1 hab
            · exact key w z h hw
          exact p2 u u' v v' (hold u v hu) (hold u' v' hu')

theorem freeIds_of_reachable {s : State} (h : Reachable s) : FreeIds s := by
  refine Reachable.induct (P := FreeIds) ?_ ?_ h
  · exact ⟨⟨0, fun k _ => rfl⟩, ⟨0, fun j _ => rfl⟩⟩
  · intro s e s' hr hp hs
    cases e with
    | tick ns => obtain ⟨_, rfl⟩ := step_tick hs; exact hp
    | thr t ev =>
      have f := facts_stepThr (inv_of_reachable hr) hs
      have g := prog4_stepThr hs
      obtain ⟨⟨B1, h1⟩, ⟨B2, h2⟩⟩ := hp
      constructor
      · -- a record that becomes live is the one the acting thread's program point names
        refine ⟨max B1 ((pcNw (s'.pc t)).elim 0 (· + 1)), fun (k : Nat) hk => ?_⟩
        cases hl : (s'.sh.nw k).live with
        | false => rfl
        | true =>
          rcases f.recs k hl with ⟨a, _⟩ | ⟨_, a⟩
          · rw [h1 k (Nat.le_trans (Nat.le_max_left _ _) hk)] at a; cases a
          · rw [a] at hk
            exact absurd (Nat.le_trans (Nat.le_max_right _ _) hk) (Nat.not_succ_le_self k)
      · -- a semaphore that becomes bound is named by the new program point or by the event
        refine ⟨max B2 (newSem (s'.pc t) ev), fun (j : Nat) hj => ?_⟩
        cases hu : s'.sh.semUser j with
        | none => rfl
        | some k =>
          rcases g.su j (by rw [hu]; nofun) with a | ⟨dl', k', a⟩ | ⟨a, d, r, idx, b⟩
          · exact absurd (h2 j (Nat.le_trans (Nat.le_max_left _ _) hj)) a
          · have := Nat.le_trans (Nat.le_max_right _ _) hj
            rw [a] at this
            exact absurd this (Nat.not_succ_le_self j)
          · have := Nat.le_trans (Nat.le_max_right _ _) hj
            rw [a, b] at this
            exact absurd this (Nat.not_succ_le_self j)

/-- the thread sits at a failed ASSERT of counter.c (a contract violation by the callers) -/
def AtAssert (s : State) (t : Tid) : Prop :=
  (s.pc t = .fHeld ∧ s.sh.waiters ≠ [])
  ∨ (s.pc t = .fFree ∧ s.sh.phase ≠ .live)
  ∨ (∃ d v, s.pc t = .aCas d v ∧ v = s.sh.value ∧
      ((v : Int) + d < 0 ∨ (two32 : Int) ≤ (v : Int) + d ∨ (v = 0 ∧ 0 < d ∧ s.sh.waited = true)))
  ∨ (∃ d r idx, s.pc t = .aLoadWaited d r idx ∧ s.sh.waited = true)

/-- what `thread_enabled` asserts for one thread -/
def CanMove (s : State) (t : Tid) : Prop := ∃ e s', stepThr s t e = .ok s' ∧ s'.pc t ≠ s.pc t

variable {s : State} {t : Tid} {e : Ev} {sh' : Shared} {p p' : PC}

theorem Tr.canMove (hpc : s.pc t = p) (h : Tr s.sh t p e sh' p') (hne : p' ≠ p) : CanMove s t := by
  subst hpc
  exact ⟨e, _, h.step, by simpa [State.mk'] using hne⟩

theorem useMu_ex (sh : Shared) : ∃ m, sh.useMu m = some { sh with mu := some m } := by
  cases hmu : sh.mu with
  | none => exact ⟨0, by simp [Shared.useMu, hmu]⟩
  | some m =>
    have h : sh.useMu m = some sh := by simp [Shared.useMu, hmu]
    exact ⟨m, useMu_eq h ▸ h⟩

theorem bind_ex (sh : Shared) (k : NwId) (hfree : ∃ j, sh.semUser j = none) : ∃ j sh', sh.bind k j = some sh' := by
  cases hs : (sh.nw k).sem with
  | some j => exact ⟨j, sh, by simp [Shared.bind, hs]⟩
  | none => obtain ⟨j, hj⟩ := hfree; exact ⟨j, _, by simp only [Shared.bind, hs, hj]; rfl⟩

/-- The acceptor blocks a thread only in P on a semaphore whose count is 0 (before its deadline), on
    counter_mu while it is held, or at a failed ASSERT: every other thread inside a call has an
    accepted next operation (an event that changes its program point). -/
theorem thread_enabled {s : State} (hr : Reachable s) {t : Tid} (hne : s.pc t ≠ .idle)
    (hnb : ¬ Blocked s t) (hna : ¬ AtAssert s t) :
    ∃ e s', step s (.thr t e) = .ok s' ∧ s'.pc t ≠ s.pc t := by
  show CanMove s t
  have hmu : pastLock (s.pc t) = true → ∃ m, s.sh.mu = some m := by
    intro h
    cases hm : s.sh.mu with
    | none => exact absurd hm (muInv_of_reachable hr t h)
    | some m => exact ⟨m, rfl⟩
  have hlk : lockWaitPc (s.pc t) = true → s.sh.lockHolder = none := by
    intro h
    cases hl : s.sh.lockHolder with
    | none => rfl
    | some u => exact absurd (Or.inr ⟨h, by rw [hl]; simp⟩) hnb
  obtain ⟨⟨B1, hB1⟩, ⟨B2, hB2⟩⟩ := freeIds_of_reachable hr
  have hj : ∃ j, s.sh.semUser j = none := ⟨B2, hB2 B2 (Nat.le_refl _)⟩
  obtain ⟨m0, hm0⟩ := useMu_ex s.sh
  cases hpc : s.pc t with
  | idle => exact absurd hpc hne
  | newMalloc v => exact Tr.canMove hpc .mallocFail nofun
  | newStore v => exact Tr.canMove hpc (.newStore ⟨rfl, rfl, (newInv_of_reachable hr).1 t v hpc⟩) nofun
  | newRet ok => exact Tr.canMove hpc (.newRet rfl) nofun
  | fLockCall => exact Tr.canMove hpc (.fLockCall hm0) nofun
  | fLockWait => exact Tr.canMove hpc (.fLockWait (hlk (by rw [hpc]; rfl))) nofun
  | fHeld =>
    obtain ⟨m, hm⟩ := hmu (by rw [hpc]; rfl)
    refine Tr.canMove hpc (.fHeld ⟨hm, ?_⟩) nofun
    cases hw : s.sh.waiters with
    | nil => rfl
    | cons a l => exact absurd (Or.inl ⟨hpc, by rw [hw]; simp⟩) hna
  | fUnlockWait => exact Tr.canMove hpc .fUnlockWait nofun
  | fFree =>
    refine Tr.canMove hpc (.fFree ?_) nofun
    exact Classical.byContradiction fun h => hna (Or.inr (Or.inl ⟨hpc, h⟩))
  | fRet => exact Tr.canMove hpc .fRet nofun
  | valLoad => exact Tr.canMove hpc (.valLoad rfl) nofun
  | valRet v => exact Tr.canMove hpc (.valRet rfl) nofun
  | azLoad => exact Tr.canMove hpc (.azLoad rfl) nofun
  | azRet v => exact Tr.canMove hpc (.azRet rfl) nofun
  | aLockCall d => exact Tr.canMove hpc (.aLockCall hm0) nofun
  | aLockWait d => exact Tr.canMove hpc (.aLockWait (hlk (by rw [hpc]; rfl))) nofun
  | aLoad d => exact Tr.canMove hpc (.aLoad rfl) nofun
  | aCas d v =>
    -- the CAS fails on a stale value; on the current one it succeeds unless an ASSERT would fire
    have hg : v = v ∧ wrapAdd v d = wrapAdd v d ∧ s.sh.value = s.sh.value
        ∧ decide (s.sh.value = v) = decide (s.sh.value = v) := ⟨rfl, rfl, rfl, rfl⟩
    by_cases hv : s.sh.value = v
    · have ha := fun h => hna (Or.inr (Or.inr (Or.inl ⟨d, v, hpc, hv.symm, h⟩)))
      by_cases hc : 0 < d ∧ wrapAdd v d = u32 d
      · exact Tr.canMove hpc (.casWaited hg (decide_eq_true hv) (fun h => ha (.inl h))
          (fun h => ha (.inr (.inl h))) (fun h => ha (.inr (.inr h))) hc) nofun
      · exact Tr.canMove hpc (.casHeld hg (decide_eq_true hv) (fun h => ha (.inl h))
          (fun h => ha (.inr (.inl h))) (fun h => ha (.inr (.inr h))) hc) nofun
    · exact Tr.canMove hpc (.casFail hg (by simpa using hv)) nofun
  | aLoadWaited d r idx =>
    refine Tr.canMove hpc (.aLoadWaited (obs := 0) ?_ rfl) nofun
    cases hw : s.sh.waited with
    | false => rfl
    | true => exact absurd (Or.inr (Or.inr (Or.inr ⟨d, r, idx, hpc, hw⟩))) hna
  | aHeld d r idx wake =>
    obtain ⟨m, hm⟩ := hmu (by rw [hpc]; rfl)
    by_cases hw : wake = true → s.sh.waiters = []
    · exact Tr.canMove hpc (.aUnlock ⟨hm, hw⟩) nofun
    · cases hq : s.sh.waiters with
      | nil => exact absurd (fun _ => hq) hw
      | cons k tl =>
        exact Tr.canMove hpc (.wake hq ⟨Classical.byContradiction fun h => hw fun h' => absurd h' h, rfl, rfl, rfl⟩)
          nofun
  | aPost d r idx k =>
    obtain ⟨j, sh', hb⟩ := bind_ex s.sh k hj
    exact Tr.canMove hpc (.aPost hb) nofun
  | aUnlockWait d r idx => exact Tr.canMove hpc .aUnlockWait nofun
  | aRet d r idx => exact Tr.canMove hpc (.aRet rfl) nofun
  | w0Store dl => exact Tr.canMove hpc (.w0Store ⟨rfl, rfl⟩) nofun
  | w0Load dl =>
    by_cases hv : s.sh.value = 0
    · exact Tr.canMove hpc (.w0Zero rfl hv) nofun
    · by_cases hd : dlePast dl = true
      · exact Tr.canMove hpc (.w0Past rfl hv hd) nofun
      · exact Tr.canMove hpc (.w0Sleep rfl hv hd) nofun
  | wInit dl => exact Tr.canMove hpc (.wInit (obs := 0) ⟨rfl, hB1 B1 (Nat.le_refl _)⟩) nofun
  | wEnqLockCall dl k => exact Tr.canMove hpc (.wEnqLockCall hm0) nofun
  | wEnqLockWait dl k => exact Tr.canMove hpc (.wEnqLockWait (hlk (by rw [hpc]; rfl))) nofun
  | wEnqLoad dl k => exact Tr.canMove hpc (.wEnqLoad rfl) nofun
  | wEnqStore dl k v =>
    by_cases hv : v ≠ 0
    · exact Tr.canMove hpc (.enqueue ⟨rfl, rfl, rfl⟩ hv) nofun
    · exact Tr.canMove hpc (.noEnqueue ⟨rfl, rfl, rfl⟩ hv) nofun
  | wEnqUnlockCall dl k enq =>
    obtain ⟨m, hm⟩ := hmu (by rw [hpc]; rfl)
    exact Tr.canMove hpc (.wEnqUnlockCall hm) nofun
  | wEnqUnlockWait dl k enq => exact Tr.canMove hpc .wEnqUnlockWait nofun
  | wLoopStore dl k => exact Tr.canMove hpc (.wLoopStore ⟨rfl, rfl⟩) nofun
  | wLoopLoad dl k =>
    by_cases hv : s.sh.value = 0
    · exact Tr.canMove hpc (.loopZero rfl hv) nofun
    · exact Tr.canMove hpc (.loopSleep rfl hv) nofun
  | wPdEnter dl k =>
    obtain ⟨j, sh', hb⟩ := bind_ex s.sh k hj
    exact Tr.canMove hpc (.wPdEnter rfl hb) nofun
  | wPdWait dl k j =>
    by_cases he : expired dl s.sh.now
    · exact Tr.canMove hpc (.pdTimeout rfl rfl he) nofun
    · cases hn : s.sh.sem j with
      | zero => exact absurd (Or.inl ⟨dl, k, j, hpc, hn, he⟩) hnb
      | succ n => exact Tr.canMove hpc (.pdWoken (tmo := false) rfl nofun hn) nofun
  | wDeqLockCall dl k tmo => exact Tr.canMove hpc (.wDeqLockCall hm0) nofun
  | wDeqLockWait dl k tmo => exact Tr.canMove hpc (.wDeqLockWait (hlk (by rw [hpc]; rfl))) nofun
  | wDeqLoadV dl k tmo => exact Tr.canMove hpc (.wDeqLoadV rfl) nofun
  | wDeqLoadW dl k tmo v =>
    by_cases hw : b2n (s.sh.nw k).waiting ≠ 0
    · exact Tr.canMove hpc (.deqQueued ⟨rfl, rfl⟩ hw) nofun
    · exact Tr.canMove hpc (.deqGone ⟨rfl, rfl⟩ hw) nofun
  | wDeqStore dl k tmo v => exact Tr.canMove hpc (.dequeue ⟨rfl, rfl, rfl⟩) nofun
  | wDeqUnlockCall dl k tmo v =>
    obtain ⟨m, hm⟩ := hmu (by rw [hpc]; rfl)
    exact Tr.canMove hpc (.wDeqUnlockCall hm) nofun
  | wDeqUnlockWait dl k tmo v =>
    by_cases hv : v = 0
    · exact Tr.canMove hpc (.deqZero hv) nofun
    · exact Tr.canMove hpc (.deqNonzero hv) nofun
  | wFinalLoad dl => exact Tr.canMove hpc (.wFinalLoad rfl) nofun
  | wRet dl r => exact Tr.canMove hpc (.wRet rfl) nofun

/-- conversely, a blocked thread cannot execute its next operation -/
theorem blocked_cannot_move {s s' : State} {t : Tid} {e : Ev} (hb : Blocked s t)
    (h : step s (.thr t e) = .ok s') : s'.pc t = s.pc t := by
  rcases stepThr_ok h with ⟨⟨_, hd⟩, _⟩ | ⟨sh', p', htr, rfl⟩
  · rw [(dflt_pc_phase hd).1]
  · rcases hb with ⟨dl, k, j, hp, hs, he⟩ | ⟨hp, hl⟩
    · -- asleep, count 0, not expired: neither `pd_ret 0` nor `pd_ret ETIMEDOUT` is accepted
      rw [hp] at htr
      cases htr with
      | pdTimeout _ _ hx => exact absurd hx he
      | pdWoken _ _ hn => rw [hs] at hn; cases hn
    · -- waiting for counter_mu: `ret nsync_mu_lock` is accepted only when it is free
      generalize s.pc t = p at hp htr
      cases htr <;> first | exact absurd ‹s.sh.lockHolder = none› hl | cases hp

end Counter
