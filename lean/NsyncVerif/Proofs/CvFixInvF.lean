/-
  Layer `CvFix`: the invariant behind `C04_unlink_once` / `C04_outcome` for EVERY kind of record
  (pooled waiters and the `nsync_waiter_s` of nsync_wait_n): who unlinked the current instance,
  and what the repaired `cv_dequeue` is going to return (`was_queued`).
  Definitions and the generic part of the preservation: the clauses about a record alone follow it through
  `RecTr`; a thread that does not act keeps its facts because nobody else changes the unlinkers or the
  status of the record it is dequeuing (`invF_of`).
-/
import NsyncVerif.Proofs.CvFixInvEAll
import NsyncVerif.Proofs.CvFixRcd
import NsyncVerif.Proofs.CvFixThr

namespace NsyncVerif.CvFix

/-- Program points inside `cv_dequeue` after its load of `nw->waiting`. -/
def Loc.deqPhase : Loc → Bool
  | .nDeqSt | .nDeqRel | .nDeqRelW | .nDeqSpin => true
  | _ => false

structure TInvF (s : State) (t : Tid) : Prop where
  /-- found in the queue and removed: `was_queued` will be 1, the instance unlinked itself -/
  wqSt : (s.thr t).loc = .nDeqSt → (s.thr t).wasQ = true ∧ (s.recs (s.thr t).r).unl = [Unl.self]
  /-- about to return -/
  wqRel : (s.thr t).loc = .nDeqRel →
    ((s.thr t).wasQ = true ∧ (s.recs (s.thr t).r).unl = [Unl.self] ∧ (s.recs (s.thr t).r).stat = .selfOut) ∨
    ((s.thr t).wasQ = false ∧ (∃ u, (s.recs (s.thr t).r).unl = [Unl.waker u]) ∧
      (s.recs (s.thr t).r).stat = .woken)
  /-- not found in the queue: a waker unlinked it; `was_queued` stays 0 -/
  wqW : (s.thr t).loc = .nDeqRelW ∨ (s.thr t).loc = .nDeqSpin →
    (s.thr t).wasQ = false ∧ ∃ u, (s.recs (s.thr t).r).unl = [Unl.waker u]

structure InvF (s : State) : Prop where
  unlS : ∀ r, (s.recs r).stat = .selfOut → (s.recs r).unl = [Unl.self]
  unlL : ∀ r u, (s.recs r).stat = .listed u → (s.recs r).unl = [Unl.waker u]
  unlW : ∀ r, (s.recs r).stat = .woken ∨ (s.recs r).stat = .xfer → ∃ u, (s.recs r).unl = [Unl.waker u]
  unl1 : ∀ r, (s.recs r).unl.length ≤ 1
  thr : ∀ t, TInvF s t

theorem invF_init : InvF init := by
  constructor <;> simp [init]
  intro t
  constructor <;> simp

/-- A thread outside the dequeue phase has nothing to show. -/
theorem tinvF_out {s : State} {t : Tid} (h : (s.thr t).loc.deqPhase = false) : TInvF s t := by
  constructor
  · intro e; rw [e] at h; simp [Loc.deqPhase] at h
  · intro e; rw [e] at h; simp [Loc.deqPhase] at h
  · intro e; rcases e with e | e <;> rw [e] at h <;> simp [Loc.deqPhase] at h

/-- A thread whose frame is unchanged keeps its facts if the unlinkers of its record are unchanged
    (and, just before the return, its status). -/
theorem tinvF_keep {s s' : State} {u : Tid} (h : TInvF s u) (ht : s'.thr u = s.thr u)
    (hu : (s.thr u).loc.deqPhase = true → (s'.recs (s.thr u).r).unl = (s.recs (s.thr u).r).unl)
    (hs : (s.thr u).loc = .nDeqRel → (s'.recs (s.thr u).r).stat = (s.recs (s.thr u).r).stat) :
    TInvF s' u := by
  obtain ⟨f1, f2, f3⟩ := h
  constructor <;> rw [ht]
  · intro e; rw [hu (by simp [e, Loc.deqPhase])]; exact f1 e
  · intro e; rw [hu (by simp [e, Loc.deqPhase]), hs e]; exact f2 e
  · intro e; rw [hu (by rcases e with e | e <;> simp [e, Loc.deqPhase])]; exact f3 e

/-- The record a thread is dequeuing is neither idle, nor being prepared, nor in the queue: no
    other thread's step changes its list of unlinkers. -/
theorem deq_rec_stat {s : State} (ha : InvA s) (u : Tid) (hd : (s.thr u).loc.deqPhase = true) :
    (s.recs (s.thr u).r).stat ≠ .idle ∧ (s.recs (s.thr u).r).stat ≠ .prep ∧ (s.recs (s.thr u).r).stat ≠ .queued := by
  have hm : (s.thr u).r ∈ (s.thr u).mine ∧ (s.recs (s.thr u).r).stat ≠ .queued := by
    cases hl : (s.thr u).loc <;> rw [hl] at hd <;> simp [Loc.deqPhase] at hd
    · exact (ha.thr u).nDeq (.inl hl)
    · exact (ha.thr u).nDeq (.inr hl)
    · exact (ha.thr u).nSpin (.inl hl)
    · exact (ha.thr u).nSpin (.inr hl)
  obtain ⟨_, _, h1, h2⟩ := (ha.thr u).mine _ hm.1
  exact ⟨h1, h2, hm.2⟩

/-- The unlinkers of a record are a function of its status. -/
structure RecF (a : Rec) : Prop where
  unlQ : a.stat = .queued ∨ a.stat = .prep → a.unl = []
  unlS : a.stat = .selfOut → a.unl = [Unl.self]
  unlL : ∀ u, a.stat = .listed u → a.unl = [Unl.waker u]
  unlW : a.stat = .woken ∨ a.stat = .xfer → ∃ u, a.unl = [Unl.waker u]
  unl1 : a.unl.length ≤ 1

theorem InvF.recF {f3 : Bool} {s : State} (hf : InvF s) (hb : InvB' f3 s) (r : Rid) : RecF (s.recs r) :=
  ⟨hb.unlQ r, hf.unlS r, hf.unlL r, hf.unlW r, hf.unl1 r⟩

theorem RecF.step {f3 : Bool} {s s' : State} {r : Rid} {e : Event} {a b : Rec} (hf : RecF a)
    (h : RecTr f3 s s' r e a b) : RecF b := by
  obtain ⟨f0, f1, f2, f3, f4⟩ := hf
  cases h with
  | enq _ _ _ _ _ h => constructor <;> simp [f0 (.inr h)]
  | unlink _ _ _ _ _ h | selfOut _ _ _ _ h => constructor <;> simp [f0 (.inl h)]
  | wake t _ _ h | xfer t _ _ _ _ h => constructor <;> simp [h, f2 t h]
  | deqRel | deqSpin =>
    cases hst : a.stat with
    | listed u => rw [hst] at f0 f1 f2 f3; exact ⟨f0, f1, f2, f3, f4⟩
    | _ => constructor <;> simp [f4]
  | wSt1 | enqSt => constructor <;> simp
  | exit => constructor <;> simp [f4]
  | _ => exact ⟨f0, f1, f2, f3, f4⟩

/-- The assembly: the record clauses follow every record through `RecTr`; a thread that does not act keeps its
    frame, and the record it is dequeuing (a bare record, neither idle nor queued, owned by it) keeps unlinkers and
    status; the acting thread is the caller's. -/
theorem invF_of {cfg : Config} {s s' : State} {e : Event} (ha : InvA s) (hb : InvB s) (hf : InvF s)
    (h : Tr cfg s e s') (hact : ∀ t, e.tid = some t → TInvF s' t) : InvF s' := by
  have hg := fun q => (hf.recF hb.weak q).step (h.rcd ha hb.weak q)
  refine ⟨fun q => (hg q).unlS, fun q => (hg q).unlL, fun q => (hg q).unlW, fun q => (hg q).unl1, fun u => ?_⟩
  by_cases hu : e.tid = some u
  · exact hact u hu
  · have hr := h.rcd ha hb.weak (s.thr u).r
    refine tinvF_keep (hf.thr u) (tr_other h hu) (fun hd => ?_) (fun hl => ?_)
    · obtain ⟨h1, _, h3⟩ := deq_rec_stat ha u hd
      exact hr.unl h1 h3
    · obtain ⟨hm, ho, _⟩ := (ha.thr u).mine _ ((ha.thr u).nDeq (.inr hl)).1
      have hs : (s.recs (s.thr u).r).stat = .selfOut ∨ (s.recs (s.thr u).r).stat = .woken :=
        ((hf.thr u).wqRel hl).imp (·.2.2) (·.2.2)
      refine (hr.stat_deq hm hs).resolve_right fun hx => ?_
      rw [ho, tr_other h hu, hl] at hx; cases hx

/-- The status of a wait_n record whose owner finds `waiting ≠ 0` … or `waiting = 0` at the load of
    cv_dequeue: never `selfOut`, never transferred, never idle. -/
theorem deq_entry_stat {s : State} (ha : InvA s) (hb : InvB s) (t : Tid) (r : Rid)
    (hl : (s.thr t).loc = .nLocked) (hr : r ∈ (s.thr t).mine) :
    (s.recs r).stat = .queued ∨ (∃ u, (s.recs r).stat = .listed u) ∨ (s.recs r).stat = .woken := by
  obtain ⟨hm, _, hni, hnp⟩ := (ha.thr t).mine r hr
  cases h : (s.recs r).stat with
  | idle => exact absurd h hni
  | prep => exact absurd h hnp
  | queued => exact .inl rfl
  | listed u => exact .inr (.inl ⟨u, rfl⟩)
  | xfer => have := hb.xferM r h; rw [hm] at this; cases this
  | woken => exact .inr (.inr rfl)
  | selfOut => have := ((hb.thr t).mineS r hr h).1; rw [hl] at this; simp at this

end NsyncVerif.CvFix
