/-
  Layer `Note`, fair termination: BOUNDED WORK in general (`finiteWork_settled`).  The potential
  that bounds the number of adoptions: every adoption by `nsync_note_free` moves a note strictly up
  in the creation order (its new parent is the parent of its old parent), so `Phi` — the sum over
  the notes of the number of notes above their parent — decreases; it increases only when
  `nsync_note_new` links a note, which every call in progress does at most once (`PLc`: the calls
  of `nsync_note_new` that are before the link).  The total potential `TG` (`Pot` and `PG`) never
  increases once the set of notes is settled and decreases with every adoption; with the inner
  part `restR` of the rank of a thread (`rank2`) every step a thread takes inside its call, other
  than round the wait loop of an un-notified wait, takes the rank down (`rank_step2`).
-/
import NsyncVerif.Proofs.NoteFairWorkG


namespace Note

variable {s0 : State}

theorem sum_map_le {l : List Nat} {f f' : Nat → Nat} (h : ∀ x ∈ l, f' x ≤ f x) :
    (l.map f').sum ≤ (l.map f).sum := by
  induction l with
  | nil => exact Nat.le_refl _
  | cons y ys ih =>
    simp only [List.map_cons, List.sum_cons]
    have := h y List.mem_cons_self
    have := ih (fun x hx => h x (List.mem_cons_of_mem _ hx))
    omega

theorem sum_map_lt {l : List Nat} {f f' : Nat → Nat} (h : ∀ x ∈ l, f' x ≤ f x) {c : Nat}
    (hc : c ∈ l) (hlt : f' c < f c) : (l.map f').sum < (l.map f).sum := by
  induction l with
  | nil => cases hc
  | cons y ys ih =>
    simp only [List.map_cons, List.sum_cons]
    have hy := h y List.mem_cons_self
    have hys := sum_map_le (fun x hx => h x (List.mem_cons_of_mem _ hx))
    rcases List.mem_cons.mp hc with rfl | hc'
    · omega
    · have := ih (fun x hx => h x (List.mem_cons_of_mem _ hx)) hc'
      omega

theorem sum_map_le_add {l : List Nat} (hn : l.Nodup) {f f' : Nat → Nat} {c K : Nat}
    (h : ∀ x ∈ l, x ≠ c → f' x ≤ f x) (hc : f' c ≤ K) :
    (l.map f').sum ≤ (l.map f).sum + K := by
  induction l with
  | nil => exact Nat.zero_le _
  | cons y ys ih =>
    simp only [List.map_cons, List.sum_cons]
    have hy : y ∉ ys := (List.nodup_cons.mp hn).1
    have hn' := (List.nodup_cons.mp hn).2
    by_cases hyc : y = c
    · subst hyc
      have := sum_map_le (l := ys) (f := f) (f' := f')
        (fun x hx => h x (List.mem_cons_of_mem _ hx) (fun e => hy (e ▸ hx)))
      omega
    · have := h y List.mem_cons_self hyc
      have := ih hn' (fun x hx => h x (List.mem_cons_of_mem _ hx))
      omega

theorem length_filter_le_succ {l : List Nat} (hn : l.Nodup) {p q : Nat → Bool} {m : Nat}
    (h : ∀ x, q x = true → p x = true ∨ x = m) : (l.filter q).length ≤ (l.filter p).length + 1 := by
  induction l with
  | nil => simp
  | cons y ys ih =>
    have hy : y ∉ ys := (List.nodup_cons.mp hn).1
    have hn' := (List.nodup_cons.mp hn).2
    simp only [List.filter_cons]
    by_cases hym : y = m
    · subst hym
      have : (ys.filter q).length ≤ (ys.filter p).length := by
        apply length_filter_le_mem
        intro x hx hq
        rcases h x hq with h' | h'
        · exact h'
        · exact absurd (h' ▸ hx) hy
      cases q y <;> cases p y <;> simp <;> omega
    · have := ih hn'
      cases hq : q y with
      | false => cases p y <;> simp <;> omega
      | true =>
        rcases h y hq with h' | h'
        · simp [h']; omega
        · exact absurd h' hym
where
  length_filter_le_mem {l : List Nat} {p q : Nat → Bool}
      (h : ∀ x ∈ l, q x = true → p x = true) : (l.filter q).length ≤ (l.filter p).length := by
    induction l with
    | nil => simp
    | cons y ys ih =>
      have := ih (fun x hx => h x (List.mem_cons_of_mem _ hx))
      simp only [List.filter_cons]
      cases hq : q y with
      | false => cases p y <;> simp <;> omega
      | true => simp [h y List.mem_cons_self hq]; omega

/-! ### the potential -/

/-- The number of notes strictly above `p` in the creation order of `sN`. -/
noncomputable def anc (sN : State) (B : Nat) (p : NoteId) : Nat :=
  open Classical in ((List.range B).filter (fun k => decide (Lt sN k p))).length

theorem anc_le (sN : State) (B : Nat) (p : NoteId) : anc sN B p ≤ B := by
  unfold anc
  exact Nat.le_trans (List.length_filter_le _ _) (by simp)

theorem anc_lt {sN : State} (hr : Reachable sN) {B : Nat}
    (hB : ∀ k, (sN.notes k).allocated = true → k < B) {p n : NoteId} (h : Lt sN p n) :
    anc sN B p < anc sN B n := by
  obtain ⟨_, _, hS, _, hL, _⟩ := hr.inv6
  unfold anc
  refine length_filter_lt (a := p) ?_ ?_ ?_ ?_
  · intro k hk
    simp only [decide_eq_true_eq] at hk ⊢
    exact Lt.trans hL hk h
  · exact List.mem_range.mpr (hB p (h.alloc_left hS))
  · simpa using h
  · simp only [decide_eq_false_iff_not]; exact fun h' => h'.irrefl

noncomputable def hP (sN : State) (B : Nat) (s : State) (c : NoteId) : Nat :=
  match (s.notes c).parent with
  | some p => 1 + anc sN B p
  | none => 0

noncomputable def Phi (sN : State) (B : Nat) (s : State) : Nat :=
  ((List.range B).map (hP sN B s)).sum

/-- The calls of `nsync_note_new (parent, …)` (of the threads in `L`) that are before the link. -/
def PLc (L : List Tid) (s : State) : Nat := (L.filter (fun t => (s.pc t).isNewPre)).length

noncomputable def Pot (sN : State) (B : Nat) (L : List Tid) (s : State) : Nat :=
  Phi sN B s + (B + 1) * PLc L s

/-- `nsync_note_new` is at the load that decides whether the new note `c` is linked. -/
def LinkAt (s : State) (e : Event) (c : NoteId) : Prop :=
  ∃ a p dl, e.actor = some a ∧ s.pc a = .newP .ld c p dl

theorem old_parent_of_adopt {s : State} (hr : Reachable s) {a : Tid} {n p c : NoteId}
    {nx : Option NoteId} (hpc : s.pc a = .fr .lockChildRet n (some p) c nx) :
    (s.notes c).parent = some n ∧ Lt s p n := by
  have hF := hr.invForest
  have hmem := hF.frc a .lockChildRet n (some p) c nx hpc rfl
  have hcl := hr.inv6.2.2.2.2.1.claim a
  rw [hpc] at hcl
  exact ⟨hF.c2p n c hmem, hcl.2.1 p rfl⟩

theorem hP_le {sN s s' : State} {e : Event} {B : Nat} (hrN : Reachable sN)
    (hB : ∀ k, (sN.notes k).allocated = true → k < B) (hr : Reachable s)
    (hlt : ∀ a b, Lt s a b → Lt sN a b) (hs : step s e = .ok s') (c : NoteId)
    (hnl : ¬ LinkAt s e c) : hP sN B s' c ≤ hP sN B s c := by
  unfold hP
  cases hpar' : (s'.notes c).parent with
  | none => exact Nat.zero_le _
  | some p =>
    rcases step_parent hs p c hpar' with h | ⟨a, dl, ha, hpc⟩ | ⟨a, n, nx, ha, hpc⟩
    · rw [h]; exact Nat.le_refl _
    · exact absurd ⟨a, p, dl, ha, hpc⟩ hnl
    · obtain ⟨hold, hl⟩ := old_parent_of_adopt hr hpc
      rw [hold]
      have := anc_lt hrN hB (hlt _ _ hl)
      simp only; omega

theorem hP_lt_adopt {sN s s' : State} {B : Nat} (hrN : Reachable sN)
    (hB : ∀ k, (sN.notes k).allocated = true → k < B) (hr : Reachable s)
    (hlt : ∀ a b, Lt s a b → Lt sN a b) {a : Tid} {n m c : NoteId} {nx : Option NoteId}
    (hpc : s.pc a = .fr .lockChildRet n (some m) c nx) (hd : (s.notes c).disconnecting = 0)
    (hs : step s (.lockRet a) = .ok s') : hP sN B s' c < hP sN B s c := by
  obtain ⟨hold, hl⟩ := old_parent_of_adopt hr hpc
  have hnew := (C09_adoption hr hpc hd hs).1
  unfold hP
  rw [hold, hnew]
  have := anc_lt hrN hB (hlt _ _ hl)
  simp only; omega

theorem PLc_le {s s' : State} {e : Event} (L : List Tid) (hs : step s e = .ok s')
    (hc : ∀ t a, e ≠ .call t a) : PLc L s' ≤ PLc L s :=
  length_filter_le (fun t h => step_keepPre hs (hc t) h)

theorem link_leaves_pre {s s' : State} {e : Event} {a : Tid} {c p : NoteId} {dl : Dl}
    (hs : step s e = .ok s') (ha : e.actor = some a) (hpc : s.pc a = .newP .ld c p dl) :
    (s'.pc a).isNewPre = false := by
  have h := step_actor hs ha
  rw [hpc] at h
  generalize s'.pc a = q at h ⊢
  cases h <;> rfl

theorem PLc_lt_link {s s' : State} {e : Event} (L : List Tid) (hs : step s e = .ok s')
    (hc : ∀ t a, e ≠ .call t a) {a : Tid} {c p : NoteId} {dl : Dl} (ha : e.actor = some a)
    (hpc : s.pc a = .newP .ld c p dl) (haL : a ∈ L) : PLc L s' < PLc L s :=
  length_filter_lt (a := a) (fun t h => step_keepPre hs (hc t) h) haL (by rw [hpc]; rfl)
    (link_leaves_pre hs ha hpc)

theorem linkAt_unique {s : State} {e : Event} {c c' : NoteId} (h : LinkAt s e c)
    (h' : LinkAt s e c') : c' = c := by
  obtain ⟨a, p, dl, ha, hpc⟩ := h
  obtain ⟨a', p', dl', ha', hpc'⟩ := h'
  rw [ha] at ha'; cases ha'
  rw [hpc] at hpc'; cases hpc'; rfl

theorem Pot_le {sN s s' : State} {e : Event} {B : Nat} (L : List Tid) (hrN : Reachable sN)
    (hB : ∀ k, (sN.notes k).allocated = true → k < B) (hr : Reachable s)
    (hlt : ∀ a b, Lt s a b → Lt sN a b) (hs : step s e = .ok s') (hc : ∀ t a, e ≠ .call t a)
    (hL : ∀ a, s.pc a ≠ .idle → a ∈ L) : Pot sN B L s' ≤ Pot sN B L s := by
  unfold Pot
  by_cases hl : ∃ c, LinkAt s e c
  · obtain ⟨c, hlc⟩ := hl
    obtain ⟨a, p, dl, ha, hpc⟩ := hlc
    have h1 : Phi sN B s' ≤ Phi sN B s + (B + 1) := by
      unfold Phi
      refine sum_map_le_add (c := c) List.nodup_range ?_ ?_
      · intro x _ hxc
        exact hP_le hrN hB hr hlt hs x (fun h => hxc (linkAt_unique ⟨a, p, dl, ha, hpc⟩ h))
      · unfold hP
        split
        · have := anc_le sN B ‹NoteId›; omega
        · omega
    have h2 := PLc_lt_link L hs hc ha hpc (hL a (by rw [hpc]; simp))
    have h3 : (B + 1) * (PLc L s' + 1) ≤ (B + 1) * PLc L s := Nat.mul_le_mul_left _ h2
    rw [Nat.mul_succ] at h3
    omega
  · have h1 : Phi sN B s' ≤ Phi sN B s := by
      unfold Phi
      exact sum_map_le (fun x _ => hP_le hrN hB hr hlt hs x (fun h => hl ⟨x, h⟩))
    have h3 : (B + 1) * PLc L s' ≤ (B + 1) * PLc L s := Nat.mul_le_mul_left _ (PLc_le L hs hc)
    omega

theorem Pot_lt_adopt {sN s s' : State} {e : Event} {B : Nat} (L : List Tid)
    (hrN : Reachable sN) (hB : ∀ k, (sN.notes k).allocated = true → k < B) (hr : Reachable s)
    (hBs : ∀ k, (s.notes k).allocated = true → k < B)
    (hlt : ∀ a b, Lt s a b → Lt sN a b) (hs : step s e = .ok s') (hc : ∀ t a, e ≠ .call t a)
    (had : Adopts s e) : Pot sN B L s' < Pot sN B L s := by
  obtain ⟨a, n, m, c, nx, rfl, hpc, hd⟩ := had
  unfold Pot
  have hnl : ∀ x, ¬ LinkAt s (.lockRet a) x := by
    rintro x ⟨a', p, dl, ha', hpc'⟩
    simp only [Event.actor, Option.some.injEq] at ha'
    subst ha'
    rw [hpc] at hpc'; cases hpc'
  have hcB : c < B := by
    have hcl := hr.inv6.2.2.2.2.1.claim a
    rw [hpc] at hcl
    exact hBs c ((hcl.2.2 rfl).alloc_right hr.inv6.2.2.1)
  have h1 : Phi sN B s' < Phi sN B s := by
    unfold Phi
    exact sum_map_lt (fun x _ => hP_le hrN hB hr hlt hs x (hnl x)) (List.mem_range.mpr hcB)
      (hP_lt_adopt hrN hB hr hlt hpc hd hs)
  have h3 : (B + 1) * PLc L s' ≤ (B + 1) * PLc L s := Nat.mul_le_mul_left _ (PLc_le L hs hc)
  omega

theorem PG_le_adopt {s s' : State} {e : Event} (B : Nat) (hs : step s e = .ok s')
    (hm : NoMalloc s) : PG B s' ≤ PG B s + 1 := by
  unfold PG
  have h1 := length_filter_le (l := List.range B) fun k hk => unnotified_back hs hm (k := k) hk
  have h2 : ((List.range B).filter (fun k => (s'.notes k).adopted)).length ≤
      ((List.range B).filter (fun k => (s.notes k).adopted)).length + 1 := by
    by_cases hex : ∃ m, (s.notes m).adopted = false ∧ (s'.notes m).adopted = true
    · obtain ⟨m, hm0, hm1⟩ := hex
      obtain ⟨a, n, c, nx, he, hpc, _⟩ := step_adopted_set hs hm0 hm1
      refine length_filter_le_succ (m := m) List.nodup_range ?_
      intro x hx
      cases h0 : (s.notes x).adopted with
      | true => exact Or.inl rfl
      | false =>
        right
        obtain ⟨a', n', c', nx', he', hpc', _⟩ := step_adopted_set hs h0 hx
        rw [he] at he'; cases he'
        rw [hpc] at hpc'; cases hpc'; rfl
    · refine Nat.le_trans (length_filter_le ?_) (Nat.le_succ _)
      intro x hx
      cases h0 : (s.notes x).adopted with
      | true => rfl
      | false => exact absurd ⟨x, h0, hx⟩ hex
  omega

/-- The total potential. -/
noncomputable def TG (sN : State) (B : Nat) (L : List Tid) (s : State) : Nat :=
  2 * Pot sN B L s + PG B s

noncomputable def rank2 (sN : State) (B : Nat) (L : List Tid) (s : State) (t : Tid) :
    Nat × (Nat × (Nat × Nat)) := (TG sN B L s, restR s t)

/-- What one step of the execution does to the rank of `t`, once settled (adoptions allowed). -/
theorem rank_step2 (x : Exec s0) (hr : Reachable s0) {N : Nat} (hS : Settled x N) {B : Nat}
    (hB : ∀ k, ((x.ρ N).notes k).allocated = true → k < B) {L : List Tid}
    (hL : ∀ a, (x.ρ N).pc a ≠ .idle → a ∈ L) (t : Tid) {j : Nat} (hj : N ≤ j)
    (hnl : ¬ LoopStep x t j) :
    (x.ρ (j + 1)).pc t = .idle ∨
    (Acts x t j ∧ LtG (rank2 (x.ρ N) B L (x.ρ (j + 1)) t) (rank2 (x.ρ N) B L (x.ρ j) t)) ∨
    (¬ Acts x t j ∧ (rank2 (x.ρ N) B L (x.ρ (j + 1)) t = rank2 (x.ρ N) B L (x.ρ j) t ∨
      LtG (rank2 (x.ρ N) B L (x.ρ (j + 1)) t) (rank2 (x.ρ N) B L (x.ρ j) t))) := by
  have hrN := x.reach hr N
  have hrj := x.reach hr j
  have hBj : ∀ k, ((x.ρ j).notes k).allocated = true → k < B := by
    intro k hk
    exact hB k (alloc_back x hS k hj hk)
  have hmj : NoMalloc (x.ρ j) := fun a => hS.2 j a hj
  have hLj : ∀ a, (x.ρ j).pc a ≠ .idle → a ∈ L := by
    intro a ha
    apply hL a
    intro hid
    exact ha (idle_stays x hS.1 (Nat.le_refl _) hid hj)
  have hlt : ∀ a b, Lt (x.ρ j) a b → Lt (x.ρ N) a b := fun a b h => lt_back x hr hS hj h
  cases hs : x.σ j with
  | none =>
    right; right
    refine ⟨fun h => ?_, Or.inl (by rw [x.next_none hs])⟩
    obtain ⟨⟨e, he, _⟩, _⟩ := h
    rw [hs] at he; cases he
  | some e =>
    have hst := x.next_some hs
    have hc : ∀ t a, e ≠ .call t a := fun t a h => hS.1 j t a hj (by rw [hs, h])
    have hpot := Pot_le L hrN hB hrj hlt hst hc hLj
    by_cases had : Adopts (x.ρ j) e
    · -- an adoption: the potential decreases, whoever moves
      have h1 := Pot_lt_adopt L hrN hB hrj hBj hlt hst hc had
      have h2 := PG_le_adopt B hst hmj
      have hT : TG (x.ρ N) B L (x.ρ (j + 1)) < TG (x.ρ N) B L (x.ρ j) := by
        unfold TG; omega
      by_cases hact : Acts x t j
      · exact Or.inr (Or.inl ⟨hact, Or.inl hT⟩)
      · exact Or.inr (Or.inr ⟨hact, Or.inr (Or.inl hT)⟩)
    · have hle := PG_le B hst hmj had
      have hTle : TG (x.ρ N) B L (x.ρ (j + 1)) ≤ TG (x.ρ N) B L (x.ρ j) := by
        unfold TG; omega
      by_cases hact : e.actor = some t ∧ (x.ρ j).pc t ≠ .idle
      · rcases own_step_gen B hst hact.1 hact.2 hrj hBj hmj had with h | h | h | ⟨n, nt, r, wdl, hpc, hf⟩
        · exact Or.inl h
        · refine Or.inr (Or.inl ⟨⟨⟨e, hs, hact.1⟩, hact.2⟩, Or.inl ?_⟩)
          show TG _ _ _ _ < TG _ _ _ _
          unfold TG; omega
        · exact Or.inr (Or.inl ⟨⟨⟨e, hs, hact.1⟩, hact.2⟩, ltG_of hTle (Or.inr h)⟩)
        · exact absurd ⟨⟨e, hs, hact.1⟩, n, nt, r, wdl, hpc, hf⟩ hnl
      · right; right
        have hnacts : ¬ Acts x t j := by
          rintro ⟨⟨e', he', ha'⟩, hp'⟩
          rw [hs] at he'; cases he'
          exact hact ⟨ha', hp'⟩
        refine ⟨hnacts, ?_⟩
        have hrest : restR (x.ρ (j + 1)) t = restR (x.ρ j) t := by
          by_cases ha : e.actor = some t
          · have hid : (x.ρ j).pc t = .idle := by
              apply Classical.byContradiction; intro h; exact hact ⟨ha, h⟩
            rw [step_idle_state hst ha hid (hc t)]
          · exact other_step_gen hrj hst ha
        show (TG _ _ _ _, restR _ t) = (TG _ _ _ _, restR _ t) ∨ _
        rcases Nat.lt_or_ge (TG (x.ρ N) B L (x.ρ (j + 1))) (TG (x.ρ N) B L (x.ρ j)) with h | h
        · exact Or.inr (Or.inl h)
        · left; rw [hrest, Nat.le_antisymm hTle h]

/-- BOUNDED WORK, in general: once the set of notes is settled every thread takes finitely many
    steps inside its call, unless it goes round the wait loop of an un-notified wait for ever. -/
theorem finiteWork_settled (x : Exec s0) (hr : Reachable s0) {N : Nat} (hS : Settled x N) :
    FiniteWork x := by
  obtain ⟨B, hB⟩ := (x.reach hr N).alloc_bound
  obtain ⟨L, _, hL, _⟩ := C09_disconnecting_count (x.reach hr N)
  intro t
  by_cases hl : Looper x t
  · exact Or.inr hl
  left
  obtain ⟨i1, _, hi1⟩ := NsyncVerif.Sched.not_recurs (T := 0) fun h => hl fun i => h i (Nat.zero_le _)
  have step := fun j (hj : max i1 N ≤ j) =>
    rank_step2 x hr hS hB hL t (j := j) (by omega) (hi1 j (by omega))
  rcases NsyncVerif.Sched.finite_wf (M := Acts x t) ltG_wf (fun j => (x.ρ j).pc t = .idle)
      (fun j => rank2 (x.ρ N) B L (x.ρ j) t) (i := max i1 N)
      (fun j hj hm => (step j hj).imp id fun h => h.elim (fun h => absurd h.1 hm) (·.2))
      (fun j hj hm => (step j hj).imp id fun h => h.elim (·.2) (fun h => absurd hm h.1)) with
    ⟨j, hj, hid⟩ | h
  · exact ⟨j, fun j' hj' h => h.2 (idle_stays x hS.1 (by omega) hid hj')⟩
  · exact h

set_option linter.unusedVariables false in
/-- BOUNDED WORK for executions without adoptions (`finiteWork_settled`: `hna` is not needed). -/
theorem finiteWork_of_noAdoptions (x : Exec s0) (hr : Reachable s0) {N : Nat} (hS : Settled x N)
    (hna : NoAdoptions x) : FiniteWork x :=
  finiteWork_settled x hr hS

end Note
