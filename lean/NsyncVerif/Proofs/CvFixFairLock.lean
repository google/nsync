/-
  Layer `CvFix`, liveness: the cv spinlock.  One-step facts: the rank `rkS` of a critical section
  (every step of the holder decreases it or releases the spinlock, `hold_own`; a step of anybody
  else leaves it alone, `tr_outside`, `hold_other`).  Then: every critical section ends
  (`lock_released`), so the spinlock is free again and again (`lock_free_again`, the premise of
  `SpinFair`), so every thread leaves the test-and-set loop (`spin_exits`).  Also: a thread's frame
  is frozen until its next step (`frozen`, `next_move`).
-/
import NsyncVerif.Proofs.CvFixFairDefs
import NsyncVerif.Proofs.CvFixRcd
import NsyncVerif.Proofs.CvFixSrc

namespace NsyncVerif.CvFix

/-- Number of steps the holder `t` of the spinlock still has to take, at most, before it releases. -/
def rkH (s : State) (t : Tid) : Nat :=
  match (s.thr t).loc with
  | .wEnq => 2 | .wRel => 1
  | .wChk2 => 7 | .wCmp => 6 | .wRmLd => 5 | .wRmCas => 4 | .wClr => 3 | .wRel2 => 1
  | .sRcLd => 2 * (s.thr t).todo.length + 2 | .sRcCas => 2 * (s.thr t).todo.length + 1 | .sRel => 1
  | .nLocked => 4 | .nEnqRel => 1 | .nDeqSt => 2 | .nDeqRel => 1 | .nDeqRelW => 1
  | .dWalk => 2 * (s.queue.length - (s.thr t).dIdx) + 2
  | .dRc => 2 * (s.queue.length - (s.thr t).dIdx) + 1
  | _ => 0

/-- The pending `remove_count` CAS of `t` is going to fail: the value it loaded is no longer there.
    (This never happens in a reachable state; rather than proving that, the rank `rkS` below pays for
    the one extra round.) -/
def casBad (s : State) (t : Tid) : Bool :=
  match (s.thr t).loc with
  | .wRmCas => (s.thr t).casExp != (s.recs (s.thr t).r).rc
  | .sRcCas =>
    match (s.thr t).todo.head? with
    | some r => (s.thr t).casExp != (s.recs r).rc
    | none => false
  | _ => false

def rkS (s : State) (t : Tid) : Nat := rkH s t + (if casBad s t then 3 else 0)

theorem hold_ltr {s : State} {t : Tid} {e : Event} {x' : Thr} (h : LTr s t e x')
    (hh : (s.thr t).loc.holds = true)
    (hnf : ∀ site r exp new obs, e = .recCas t site r exp new obs false → casBad s t = true) :
    x'.loc.holds = true ∧ rkS (s.setThr t x') t < rkS s t := by
  cases h with
  | retWait res hl hr => rcases hl with hl | hl <;> simp [hl, Loc.holds] at hh
  | spinLd site obs hl ho => rcases hl with ⟨_, hl⟩ | ⟨_, hl⟩ <;> simp [hl, Loc.holds] at hh
  | wwRelLd site obs hl => rcases hl with ⟨_, hl⟩ | ⟨_, hl⟩ <;> simp [hl, Loc.holds] at hh
  | noteSeen hl => rcases hl with hl | hl | hl <;> simp [hl, Loc.holds] at hh
  | wChk y r obs hy hl hr ho hso => cases hy <;> simp_all [Loc.holds]
  | wTail y r obs hy hl hr ho => cases hy <;> simp_all [Loc.holds]
  | wChk2 r obs hl hr ho =>
    by_cases hz : obs = 0 <;> simp [hl, hz, Loc.holds, rkH, rkS, casBad]
  | wRmCasFail r exp new obs hl hr =>
    have := hnf _ _ _ _ _ rfl
    simp [hl, Loc.holds, rkH, rkS, casBad]
    simp [casBad, hl] at this
    simp [this]
  | sRcCasFail site r exp new obs hl hr =>
    have := hnf _ _ _ _ _ rfl
    simp [hl, Loc.holds, rkH, rkS, casBad]
    simp [casBad, hl, hr] at this
    simp [this, hr]
  | dbgRc r obs hl hq ho =>
    have hlt : (s.thr t).dIdx < s.queue.length := by
      apply Classical.byContradiction; intro hn
      rw [List.getElem?_eq_none (by omega)] at hq; cases hq
    simp [hl, Loc.holds, rkH, rkS, casBad]; omega
  | wRmLd r obs hl hr ho => simp [hl, Loc.holds, rkH, rkS, casBad, ho, hr]
  | rcLd site r obs hl hs hr ho => simp [hl, Loc.holds, rkH, rkS, casBad, ho, hr]
  | _ => simp_all [Loc.holds, rkH, rkS, casBad]

/-- A failing `remove_count` CAS: what the acceptor checked. -/
theorem recCas_fail {cfg : Config} {s s' : State} {t : Tid} {site : RSite} {r : Rid} {exp new obs : Nat}
    (h : step cfg s (.recCas t site r exp new obs false) = .ok s') :
    exp = (s.thr t).casExp ∧ obs = (s.recs r).rc ∧ obs ≠ exp ∧
    (((s.thr t).loc = .wRmCas ∧ r = (s.thr t).r) ∨
     ((s.thr t).loc = .sRcCas ∧ (s.thr t).todo.head? = some r)) := by
  simp only [step, stepRecCas, need_ok] at h
  obtain ⟨h1, _, h3, h4, h5⟩ := h
  have hne : obs ≠ exp := by simpa using h4
  refine ⟨h1, h3, hne, ?_⟩
  split at h5
  · rename_i hl; simp only [need_ok] at h5; exact .inl ⟨hl, h5.1⟩
  · rename_i hl; simp only [need_ok] at h5; exact .inr ⟨hl, h5.2.1⟩
  · rename_i hl; simp only [need_ok] at h5; exact .inr ⟨hl, h5.2.1⟩
  · cases h5

/-- … so it was going to fail. -/
theorem recCas_fail_bad {cfg : Config} {s s' : State} {t : Tid} {site : RSite} {r : Rid} {exp new obs : Nat}
    (h : step cfg s (.recCas t site r exp new obs false) = .ok s') : casBad s t = true := by
  obtain ⟨h1, h2, h3, h4⟩ := recCas_fail h
  rcases h4 with ⟨h5, h6⟩ | ⟨h5, h6⟩
  · subst h6; simp [casBad, h5, ← h1, ← h2]; omega
  · simp [casBad, h5, h6, ← h1, ← h2]; omega

theorem fresh_loc (x : Thr) (l : Loc) : (x.fresh l).loc = l := rfl

theorem holds_not_open {l : Loc} (h : l.holds = true) : l.isOpen = false := by
  cases l <;> simp_all [Loc.holds, Loc.isOpen]

/-- Every step of the holder of the spinlock releases it or decreases the rank. -/
theorem hold_own {cfg : Config} {s s' : State} {e : Event} {t : Tid}
    (hs : step cfg s e = .ok s') (ht : e.tid = some t) (hne : e ≠ .noteSeen t) (hi : Inv s)
    (hh : s.holder = some t) :
    s'.holder = none ∨ (s'.holder = some t ∧ rkS s' t < rkS s t) := by
  have hl := (hi.a.hold t).mp hh
  have hop := holds_not_open hl
  have htr := step_tr hs
  have hsrc := src_class (tr_src htr ht hne hop) hl
  cases htr with
  | same e h hna hopen => exact (hopen t ht).elim (fun a => by rw [hop] at a; cases a) (absurd · hne)
  | semOther e sem' h hopen => have := hopen t ht; rw [hop] at this; cases this
  | loc h =>
    cases (ltr_tid h).symm.trans ht
    exact .inr ⟨hh, (hold_ltr h hl fun _ _ _ _ _ he => recCas_fail_bad (he ▸ hs)).2⟩
  | sRcCasOk t0 site r exp new obs h hr hn ho he =>
    cases ht
    right
    cases htd : (s.thr t).todo with
    | nil => rw [htd] at hr; cases hr
    | cons a l =>
      refine ⟨hh, ?_⟩
      by_cases hz : l.isEmpty = true <;> simp [rkS, rkH, casBad, h, htd, hz] <;> omega
  | relWait | relWait2 | relSig | relEnq | relDeq | relDeqW | relDbg => exact .inl rfl
  | wCmpEq t0 r obs h | wClr t0 r obs h | enqSt t0 r obs h | deqSt t0 r obs h =>
    cases ht; exact .inr ⟨hh, by simp [rkS, rkH, casBad, h]⟩
  | wRmCasOk t0 r exp new obs h =>
    cases ht; exact .inr ⟨hh, by simp [rkS, rkH, casBad, h]; omega⟩
  | deqLdQueued t0 r obs h hr hw hq =>
    cases ht; exact .inr ⟨hh, by simp [rkS, rkH, casBad, h]⟩
  -- every other rule starts at a program point without the spinlock
  | _ => cases hsrc

/-- While the spinlock is held, a step of a thread that is not inside a critical section leaves the
    holder, the queue and the `remove_count` of every record that is registered and not
    transferred alone. -/
theorem tr_outside {cfg : Config} {s s' : State} {e : Event} (htr : Tr cfg s e s') (hi : Inv s)
    (hnh : ∀ t0, e.tid = some t0 → (s.thr t0).loc.holds = false) (hb : s.word.spin = true) :
    s'.holder = s.holder ∧ s'.queue = s.queue ∧
    ∀ r, (s.recs r).stat ≠ .idle → (s.recs r).stat ≠ .xfer → (s'.recs r).rc = (s.recs r).rc := by
  have hq : s'.holder = s.holder ∧ s'.queue = s.queue := by
    cases htr with
    | acq t0 exp new obs o n hl hexp hw he =>
      have hev := (hi.a.thr t0).casEven hl
      have hsp := enc_even_spin (w := s.word) (by rw [← hw, he, hexp]; exact hev)
      rw [hsp] at hb; cases hb
    -- a transition of the critical section is excluded by its program point
    | relWait t0 new obs n hl | relWait2 t0 new obs n hl | relSig t0 site new obs n hl
    | relEnq t0 new obs n hl | relDeq t0 new obs n hl | relDeqW t0 new obs n hl | relDbg t0 new obs n hl
    | wCmpEq t0 r obs hl | deqLdQueued t0 r obs hl | enqSt t0 r obs hl =>
      have := hnh t0 rfl; rw [hl] at this; cases this
    | _ => exact ⟨rfl, rfl⟩
  refine ⟨hq.1, hq.2, fun r h1 h2 => ?_⟩
  have h := htr.rcd hi.a hi.b.weak r
  generalize s'.recs r = b at h ⊢
  generalize s.recs r = a at h h1 h2
  cases h with
  | rcInc t _ _ _ _ _ hl => have := hnh t rfl; rw [hl] at this; cases this
  | wInit _ _ h => exact absurd h h1
  | fCasOk _ _ _ _ _ h => exact h.elim (absurd · h1) (absurd · h2)
  | _ => rfl

/-- … and so the rank of the critical section. -/
theorem hold_other {cfg : Config} {s s' : State} {e : Event} {t : Tid} (hs : step cfg s e = .ok s')
    (hne : e.tid ≠ some t) (hi : Inv s) (hh : s.holder = some t) :
    s'.holder = some t ∧ rkS s' t = rkS s t := by
  have htr := step_tr hs
  obtain ⟨h1, h2, h3⟩ := tr_outside htr hi (fun t0 h0 => by
    cases hq : (s.thr t0).loc.holds
    · rfl
    · have := (hi.a.hold t0).mpr hq; rw [hh] at this; cases this; exact absurd h0 hne)
    (by have := hi.a.spin; rw [hh] at this; simpa using this)
  rw [hh] at h1
  have h4 := tr_other htr hne
  refine ⟨h1, ?_⟩
  have hk : rkH s' t = rkH s t := by simp only [rkH, h4, h2]
  have hb : casBad s' t = casBad s t := by
    simp only [casBad, h4]
    split
    · rename_i hl
      have hst := (hi.a.thr t).selfO (.inr (.inl hl))
      rw [h3 _ (by rw [hst]; simp) (by rw [hst]; simp)]
    · rename_i hl
      split
      · rename_i r hr
        have hm := ((hi.b.thr t).todoL r (List.mem_of_mem_head? hr)).1
        have hst := (hi.a.lMem t r).mp hm
        rw [h3 _ (by rw [hst]; simp) (by rw [hst]; simp)]
      · rfl
    · rfl
  simp only [rkS, hk, hb]

/-- `noteSeen` outside sem_wait.c is a no-op. -/
theorem noteSeen_same {cfg : Config} {s s' : State} {t : Tid} (hs : step cfg s (.noteSeen t) = .ok s')
    (h1 : (s.thr t).loc.inCancel = false) (h2 : (s.thr t).loc ≠ .cWait) : s' = s := by
  simp only [step] at hs
  split at hs
  · rename_i hl; simp [hl, Loc.inCancel] at h1
  · rename_i hl; exact absurd hl h2
  · rename_i hl; simp [hl, Loc.inCancel] at h1
  · cases hs; rfl

/-- `noteSeen` changes nothing but the flag `sawNote` of its thread. -/
theorem noteSeen_thr {cfg : Config} {s s' : State} {t : Tid} (hs : step cfg s (.noteSeen t) = .ok s') :
    s' = s ∨ s' = s.setThr t { s.thr t with sawNote := true } := by
  simp only [step] at hs
  split at hs <;> cases hs <;> simp

variable {cfg : Config} {s0 : State}

theorem Exec.inv (x : Exec cfg s0) (hr : Reachable cfg s0) (i : Nat) : Inv (x.ρ i) :=
  inv_reachable (x.reach hr i)

theorem not_moves (x : Exec cfg s0) {t : Tid} {j : Nat} (h : ¬ Moves x t j) :
    x.σ j = none ∨ (∃ e, x.σ j = some e ∧ e.tid ≠ some t) ∨ x.σ j = some (.noteSeen t) := by
  cases hs : x.σ j with
  | none => exact .inl rfl
  | some e =>
    by_cases ht : e.tid = some t
    · by_cases hn : e = .noteSeen t
      · subst hn; exact .inr (.inr rfl)
      · exact absurd ⟨e, hs, ht, hn⟩ h
    · exact .inr (.inl ⟨e, rfl, ht⟩)

theorem ready_not_cancel {s : State} {t : Tid} (h : Ready s t) :
    (s.thr t).loc.inCancel = false ∧ (s.thr t).loc ≠ .cWait := by
  obtain ⟨_, h2, h3⟩ := h
  constructor
  · cases hl : (s.thr t).loc <;> simp_all [Loc.inCancel, Loc.foreign]
  · intro hl; simp [hl, Loc.asleep] at h3

/-- The frame of a `Ready` thread does not change while it does not move. -/
theorem frozen (x : Exec cfg s0) {t : Tid} {j : Nat} (h : ¬ Moves x t j) (hr : Ready (x.ρ j) t) :
    (x.ρ (j + 1)).thr t = (x.ρ j).thr t := by
  rcases not_moves x h with hn | ⟨e, he, hne⟩ | hn
  · rw [x.next_none hn]
  · exact tr_other (step_tr (x.next_some he)) hne
  · obtain ⟨a, b⟩ := ready_not_cancel hr
    rw [noteSeen_same (x.next_some hn) a b]

theorem ready_congr {s s' : State} {t : Tid} (h : s'.thr t = s.thr t) (hr : Ready s t) : Ready s' t := by
  unfold Ready at *; rw [h]; exact hr

theorem frozen_until (x : Exec cfg s0) {t : Tid} {i : Nat} (hr : Ready (x.ρ i) t) : ∀ d,
    (∀ j, i ≤ j → j < i + d → ¬ Moves x t j) → (x.ρ (i + d)).thr t = (x.ρ i).thr t := fun d h =>
  Sched.inv_between (M := Moves x t) (P := fun k => (x.ρ k).thr t = (x.ρ i).thr t)
    (fun _ _ hk hm => (frozen x hm (ready_congr hk hr)).trans hk) rfl (Nat.le_add_right i d) h

/-- A `Ready` thread takes its next step, and its frame is unchanged until then. -/
theorem next_move (x : Exec cfg s0) (hw : WeakFair x) {t : Tid} {i : Nat} (hr : Ready (x.ρ i) t) :
    ∃ j, i ≤ j ∧ Moves x t j ∧ (x.ρ j).thr t = (x.ρ i).thr t := by
  have hm : ∃ j, i ≤ j ∧ Moves x t j := by
    apply fair_move x hw
    intro j hj hn
    obtain ⟨d, rfl⟩ := Nat.exists_eq_add_of_le hj
    exact ready_congr (frozen_until x hr d hn) hr
  obtain ⟨j, h1, h2, h3⟩ := Sched.first_at hm
  obtain ⟨d, rfl⟩ := Nat.exists_eq_add_of_le h1
  exact ⟨i + d, h1, h2, frozen_until x hr d h3⟩

theorem holds_ready {s : State} {t : Tid} (h : (s.thr t).loc.holds = true) : Ready s t :=
  ready_iff.mpr ⟨holds_not_open h, fun h' => by rw [h'] at h; cases h⟩

theorem hold_stay (x : Exec cfg s0) (hr : Reachable cfg s0) {t : Tid} {j : Nat}
    (hh : (x.ρ j).holder = some t) (hn : ¬ Moves x t j) :
    (x.ρ (j + 1)).holder = some t ∧ rkS (x.ρ (j + 1)) t = rkS (x.ρ j) t := by
  have hi := x.inv hr j
  rcases not_moves x hn with h0 | ⟨e, he, hne⟩ | h0
  · rw [x.next_none h0]; exact ⟨hh, rfl⟩
  · exact hold_other (x.next_some he) hne hi hh
  · obtain ⟨a, b⟩ := ready_not_cancel (holds_ready ((hi.a.hold t).mp hh))
    rw [noteSeen_same (x.next_some h0) a b]; exact ⟨hh, rfl⟩

/-- Every critical section of the cv spinlock ends. -/
theorem lock_released (x : Exec cfg s0) (hr : Reachable cfg s0) (hw : WeakFair x) {t : Tid} {i : Nat}
    (hh : (x.ρ i).holder = some t) : ∃ j, i ≤ j ∧ (x.ρ j).holder = none := by
  refine Sched.leads (M := Moves x t) (fun j => (x.ρ j).holder = some t) (fun j => (x.ρ j).holder = none)
    (fun j => rkS (x.ρ j) t) ?_ ?_ ?_ i hh
  · intro j hR hn
    obtain ⟨a, b⟩ := hold_stay x hr hR hn
    exact .inr ⟨a, Nat.le_of_eq b⟩
  · intro j hR ⟨e, he, ht, hne⟩
    exact hold_own (x.next_some he) ht hne (x.inv hr j) hR
  · intro j hR
    obtain ⟨j', h1, h2, _⟩ := next_move x hw (holds_ready (((x.inv hr j).a.hold t).mp hR))
    exact ⟨j', h1, h2⟩

/-- The spinlock is free again and again. -/
theorem lock_free_again (x : Exec cfg s0) (hr : Reachable cfg s0) (hw : WeakFair x) (i : Nat) :
    ∃ j, i ≤ j ∧ (x.ρ j).holder = none := by
  cases hh : (x.ρ i).holder with
  | none => exact ⟨i, Nat.le_refl _, hh⟩
  | some t => exact lock_released x hr hw hh

/-- Every thread leaves the test-and-set loop. -/
theorem spin_exits (x : Exec cfg s0) (hr : Reachable cfg s0) (hw : WeakFair x) (hs : SpinFair x)
    (t : Tid) (i : Nat) : ∃ j, i ≤ j ∧ ((x.ρ j).thr t).loc.spinLoop = false := by
  apply Classical.byContradiction
  intro hn
  apply hs t i
  · intro j hj
    cases hl : ((x.ρ j).thr t).loc.spinLoop
    · exact absurd ⟨j, hj, hl⟩ hn
    · rfl
  · intro j _
    exact lock_free_again x hr hw j

/-- … and what its steps in the loop keep (`P`) holds until what follows the loop (`G`). -/
theorem spin_leads (x : Exec cfg s0) (hy : Hyps x) {t : Tid} {P : Thr → Prop} {G : Nat → Prop}
    (hstep : ∀ j, ((x.ρ j).thr t).loc.spinLoop = true → P ((x.ρ j).thr t) →
      (((x.ρ (j + 1)).thr t).loc.spinLoop = true ∧ P ((x.ρ (j + 1)).thr t)) ∨ G (j + 1))
    {i : Nat} (hl : ((x.ρ i).thr t).loc.spinLoop = true) (hP : P ((x.ρ i).thr t)) :
    ∃ j, i ≤ j ∧ G j := by
  obtain ⟨j, hj, hns⟩ := spin_exits x hy.reach hy.weak hy.spin t i
  obtain ⟨d, rfl⟩ := Nat.exists_eq_add_of_le hj
  rcases inv_until (R := fun j => ((x.ρ j).thr t).loc.spinLoop = true ∧ P ((x.ρ j).thr t)) (G := G)
      (fun j hj => (hstep j hj.1 hj.2).symm) ⟨hl, hP⟩ d with h | ⟨h, _⟩
  · exact h
  · rw [h] at hns; cases hns

theorem first_not {P : Nat → Prop} {i : Nat} (h : ∃ j, i ≤ j ∧ ¬ P j) :
    ∃ j, i ≤ j ∧ ¬ P j ∧ ∀ j', i ≤ j' → j' < j → P j' := by
  obtain ⟨j, h1, h2, h3⟩ := Sched.first_at (M := fun j => ¬ P j) h
  exact ⟨j, h1, h2, fun j' a b => Classical.not_not.mp (h3 j' a b)⟩

end NsyncVerif.CvFix
