import NsyncVerif.Proofs.MuQReach
/-
  MuQ: facts about single steps, each by cases on the rule of the step (`TStep`): try-locks and
  queue ownership (C02), the release point (C13), starvation avoidance (C14), which waiter record
  a step writes (`step_wr`).
-/
namespace NsyncVerif.MuQ

/-- Number of steps a try-lock still has to take (including its `ret`). -/
def tryRank : PC → Nat
  | .tryCas0 _ => 4
  | .tryLd _ => 3
  | .tryCas1 _ _ => 2
  | .tryRet _ _ => 1
  | _ => 0

def inTry (s : State) (t : Tid) : Prop := 0 < tryRank (s.pc t)

theorem tryRank_le (p : PC) : tryRank p ≤ 4 := by cases p <;> simp [tryRank]

theorem try_wait_free {cfg : Cfg} {s s' : State} {e : Event} {t : Tid}
    (hin : inTry s t) (h : step cfg s e = .ok s') (he : e.tid = some t) :
    e.isSem = false ∧ tryRank (s'.pc t) < tryRank (s.pc t) ∧ s'.queue = s.queue ∧ s'.wr = s.wr := by
  have ht := tstep_of_step h he
  unfold inTry at hin
  generalize s.pc t = p at ht hin ⊢
  cases ht <;> first
    | exact absurd hin (Nat.lt_irrefl 0)
    | simp [setPc, tryRank, Event.isSem]

theorem scanAdvance_spin (s : State) (t : Tid) (l : Mode) (sc : Scan) :
    (role ((scanAdvance s t l sc).pc t)).spin = true := by
  simp only [scanAdvance]; split <;> simp [setPc, role, Role.spin]

/-- The queue changes only in steps of the thread that owns the spinlock (before or after). -/
theorem queue_changed_by_spin_holder {cfg : Cfg} {s s' : State} {e : Event}
    (h : step cfg s e = .ok s') (hq : s'.queue ≠ s.queue) :
    ∃ t, e.tid = some t ∧ ((role (s.pc t)).spin = true ∨ (role (s'.pc t)).spin = true) := by
  cases step_inv h with
  | envV k => exact absurd rfl hq
  | envSem k n => exact absurd rfl hq
  | thread t p hp ht =>
    refine ⟨t, ht.tid, ?_⟩
    rw [hp]
    cases ht
    case lsStAdopt => exact Or.inl rfl
    case lsStRequeue => exact Or.inl rfl
    case usRcCas => exact Or.inl rfl
    case usCasGrab => exact Or.inr (scanAdvance_spin _ t _ _)
    all_goals exact absurd (by simp only [setPc, addShare_queue, subShare_queue, dropW_queue, semPost_queue,
      afterFin_queue]) hq

/-! ### C14: starvation avoidance -/

/-- The thread has not slept in this call: fast paths, try-locks, lock_slow with `clear = 0`. -/
def freshPc : PC → Prop
  | .lkCas0 _ | .lkLd _ | .lkCas1 _ _ | .tryCas0 _ | .tryLd _ | .tryCas1 _ _ => True
  | .lsLd c | .lsCasAcq c _ | .lsCasEnq c _ => c.clear = false
  | _ => False

/-- The lock mode of an acquiring operation in progress. -/
def acqMode : PC → Option Mode
  | .lkCas0 l | .lkLd l | .lkCas1 l _ | .tryCas0 l | .tryLd l | .tryCas1 l _ => some l
  | .lsLd c | .lsCasAcq c _ | .lsCasEnq c _ => some c.l
  | _ => none

theorem blocked_of_hint {l : Mode} {w : Word} (h : w.lw = true ∨ (l = .R ∧ w.ww = true)) :
    blocked l false w = true := by
  rcases h with h | ⟨rfl, h⟩
  · cases l <;> simp [blocked, h]
  · simp [blocked, h]

/-- While MU_LONG_WAIT is set (or MU_WRITER_WAITING, for a reader) a fresh contender acquires
    nothing: each of its steps leaves the lock part of the word and the owners alone, and takes it
    to another fresh point, to a failed try-lock or to the enqueue store. -/
theorem fresh_blocked {cfg : Cfg} {s s' : State} {e : Event} {t : Tid} (hk : PcOk s)
    (hf : freshPc (s.pc t)) (hh : s.word.lw = true ∨ (acqMode (s.pc t) = some .R ∧ s.word.ww = true))
    (h : step cfg s e = .ok s') (he : e.tid = some t) :
    pcShare (s'.pc t) = none ∧ s'.wOwner = s.wOwner ∧ s'.rOwners = s.rOwners ∧ s'.word.wlock = s.word.wlock ∧
      s'.word.readers = s.word.readers ∧ (freshPc (s'.pc t) ∨ s'.pc t = .tryRet .W false ∨ s'.pc t = .tryRet .R false ∨
        ∃ c, s'.pc t = .lsSt c) := by
  have hkt := hk t
  have ht := tstep_of_step h he
  have hb : ∀ l, acqMode (s.pc t) = some l → blocked l false s.word = true := fun l hl =>
    blocked_of_hint (hh.imp id fun ⟨h1, h2⟩ => ⟨Option.some.inj (hl.symm.trans h1), h2⟩)
  have hz : s.word ≠ Word.zero := fun hz => by
    rw [hz] at hh; rcases hh with hh | ⟨_, hh⟩ <;> cases hh
  generalize s.pc t = p at ht hf hb hkt
  cases ht <;> try (exact hf.elim)
  -- a fresh thread in lock_slow has not yet masked MU_WRITER_WAITING | MU_LONG_WAIT
  all_goals try (have hbl := hb _ (by rfl))
  case lkLdFast hb' => rw [hb'] at hbl; cases hbl
  case tryLdFast hb' => rw [hb'] at hbl; cases hbl
  case lsLdAcq c hb' => rw [← hkt.1.1.trans hf, hb'] at hbl; cases hbl
  case lkCas0 hw => exact absurd hw hz
  case tryCas0 hw => exact absurd hw hz
  case lkCas1 hw => rw [hw, hkt] at hbl; cases hbl
  case tryCas1 hw => rw [hw, hkt] at hbl; cases hbl
  case lsCasAcq c _ hw => rw [hw, ← hkt.1.1.trans hf, hkt.2.2] at hbl; cases hbl
  case lsCasEnq hw => simp [setPc, pcShare, enqWord, hw]
  case tryLdFail l _ => cases l <;> simp [setPc, pcShare, freshPc]
  case tryCas1F l _ _ => cases l <;> simp [setPc, pcShare, freshPc]
  all_goals simp [setPc, pcShare, freshPc, SL.entry] <;> exact hf

/-- MU_LONG_WAIT is cleared only by the acquiring CAS of lock_slow of a thread whose `long_wait`
    local is set (clear_on_release of unlock_slow never contains MU_LONG_WAIT). -/
theorem lw_cleared_only_by {cfg : Cfg} {s s' : State} {e : Event}
    (h : step cfg s e = .ok s') (h1 : s.word.lw = true) (h2 : s'.word.lw = false) :
    ∃ t c old o exp new obs, e = .cas t o .word exp new obs true ∧ s.pc t = .lsCasAcq c old ∧ c.lwl = true ∧
      s'.pc t = .lkRet c.l := by
  cases step_inv h with
  | envV k => exact nomatch h1.symm.trans h2
  | envSem k n => exact nomatch h1.symm.trans h2
  | thread t p hp ht =>
    cases ht
    case lsCasAcq c old hw =>
      subst hw
      have hl : c.lwl = true := by
        cases hx : c.lwl with
        | true => rfl
        | false => cases hcl : c.l <;> simp [setPc, acqWord, hx, hcl, h1] at h2
      exact ⟨t, c, s.word, _, _, _, _, rfl, hp, hl, by simp [setPc]⟩
    -- every other successful CAS keeps the bit, or expects a word without it
    case lkCas0 hw => rw [hw] at h1; cases h1
    case tryCas0 hw => rw [hw] at h1; cases h1
    case ulCas0 l hw => rw [hw] at h1; cases l <;> cases h1
    case lkCas1 l _ hw => subst hw; cases l <;> simp [setPc, acqWord, h1] at h2
    case tryCas1 l _ hw => subst hw; cases l <;> simp [setPc, acqWord, h1] at h2
    case lsCasEnq hw => subst hw; simp [enqWord, h1] at h2
    case lsRelCas hw => subst hw; simp [h1] at h2
    case ulCas1 l _ hw => subst hw; cases l <;> simp [setPc, relUncWord, h1] at h2
    case usCasUnc l _ hw => subst hw; cases l <;> simp [setPc, relUncWord, h1] at h2
    case usCasGrab l _ hw => subst hw; cases l <;> simp [grabbed, grabWord, subWord, h1] at h2
    case usFinCas hw => subst hw; simp [finWord, h1] at h2
    case usRcCas => simp [h1] at h2
    case semV => simp [h1] at h2
    all_goals exact nomatch h1.symm.trans h2

/-! ### C13: the release point -/

/-- Inside nsync_mu_unlock / nsync_mu_runlock / nsync_mu_unlock_slow_. -/
def inRelease : PC → Prop
  | .ulCas0 _ | .ulLd _ | .ulCas1 _ _ | .ulRet _ => True
  | .usLd _ | .usCasUnc _ _ | .usCasGrab _ _ | .usRcLd _ _ _ | .usRcCas _ _ _ _ => True
  | .usFinLd _ _ | .usFinCas _ _ _ | .usWakeSt _ _ _ | .usWakeV _ _ _ => True
  | _ => False

/-- After the release point: only waiter records and semaphores are touched, then `ret`. -/
def relDone : PC → Prop
  | .ulRet _ | .usWakeSt _ _ _ | .usWakeV _ _ _ => True
  | _ => False

theorem relDone_step {cfg : Cfg} {s s' : State} {e : Event} {t : Tid}
    (hd : relDone (s.pc t)) (h : step cfg s e = .ok s') (he : e.tid = some t) :
    stepTouchesMu s e = false ∧ (relDone (s'.pc t) ∨ s'.pc t = .idle) ∧ s'.word = s.word ∧
      s'.queue = s.queue ∧ s'.sp = s.sp ∧ s'.wOwner = s.wOwner ∧ s'.rOwners = s.rOwners := by
  have ht := tstep_of_step h he
  simp only [stepTouchesMu, he]
  generalize s.pc t = p at ht hd ⊢
  cases ht <;> try (exact hd.elim)
  case semV l k r => cases r <;> simp [PC.touchesMu, semPost, afterFin, setPc, relDone]
  all_goals simp [PC.touchesMu, setPc, relDone]

theorem scanAdvance_not_done (s : State) (t : Tid) (l : Mode) (sc : Scan) :
    ¬ relDone ((scanAdvance s t l sc).pc t) := by
  simp only [scanAdvance]; split <;> simp [setPc, relDone]

/-- The step that takes a releasing call across its release point is a successful CAS on the word:
    either the CAS that gives up the caller's share (fast paths, uncontended CAS of unlock_slow)
    or the final CAS of unlock_slow that drops the spinlock. -/
theorem release_point_step {cfg : Cfg} {s s' : State} {e : Event} {t : Tid}
    (hin : inRelease (s.pc t)) (hnd : ¬ relDone (s.pc t)) (h : step cfg s e = .ok s')
    (he : e.tid = some t) (hd : relDone (s'.pc t)) :
    (∃ o exp new obs, e = .cas t o .word exp new obs true) ∧ stepTouchesMu s e = true ∧
      ((∃ l, pcShare (s.pc t) = some l ∧ s' = subShare { setPc s t (.ulRet l) with word := s'.word } t l) ∨
       (∃ l f old, s.pc t = .usFinCas l f old ∧ s.word = old ∧ s'.word = finWord f old ∧ s'.sp = none)) := by
  have ht := tstep_of_step h he
  simp only [stepTouchesMu, he]
  generalize s.pc t = p at ht hin hnd ⊢
  cases ht <;> try (exact hin.elim)
  case ulCas0 l _ =>
    exact ⟨⟨_, _, _, _, rfl⟩, rfl, Or.inl ⟨l, rfl, by cases l <;> rfl⟩⟩
  case ulCas1 l _ _ =>
    exact ⟨⟨_, _, _, _, rfl⟩, rfl, Or.inl ⟨l, rfl, by cases l <;> rfl⟩⟩
  case usCasUnc l _ _ =>
    exact ⟨⟨_, _, _, _, rfl⟩, rfl, Or.inl ⟨l, rfl, by cases l <;> rfl⟩⟩
  case usFinCas l f old hw =>
    exact ⟨⟨_, _, _, _, rfl⟩, rfl, Or.inr ⟨l, f, old, rfl, hw, by simp, by simp⟩⟩
  case usCasGrab => exact absurd hd (scanAdvance_not_done _ t _ _)
  case usRcCas => exact absurd hd (scanAdvance_not_done _ t _ _)
  all_goals first
    | exact absurd trivial hnd
    | exact absurd hd (by simp [setPc, relDone])

/-- In a reachable state, a thread inside a releasing call that owns neither a share nor the
    spinlock has passed its release point. -/
theorem relDone_of_owns_nothing {cfg : Cfg} {s : State} (hr : Reachable cfg s) {t : Tid}
    (hin : inRelease (s.pc t)) (hw : s.wOwner ≠ some t) (hrd : t ∉ s.rOwners) (hsp : s.sp ≠ some t) :
    relDone (s.pc t) := by
  have inv := reachable_inv hr
  have hside := reachable_side hr
  have noShare : ∀ l, pcShare (s.pc t) = some l → False := by
    intro l hl
    have hnone : s.held t = none := held_none_of_active hside.2 (by
      intro hi; rw [hi] at hl; cases hl)
    have hts : (abs s).ts t = some l := by simp [abs, tshare, hnone, hl]
    cases l
    · exact hw ((inv.lock.wown t).2 hts)
    · exact hrd ((inv.lock.rown t).2 hts)
  have noSpin : (role (s.pc t)).spin = true → False := fun hx => hsp ((inv.spin.own t).2 hx)
  cases hp : s.pc t <;> simp only [hp, inRelease, relDone] at hin ⊢ <;> try (exact absurd hin id)
  all_goals first
    | trivial
    | (exact (noShare _ (by rw [hp]; rfl)).elim)
    | (exact (noSpin (by rw [hp]; rfl)).elim)

/-- How the step `e` from `s` to `s'` treats waiter record `k`: only the enqueue store of lock_slow
    sets its `waiting` flag, only the `waiting := 0` store of an unlocker clears it; a count that is
    not 0 becomes 0 only by its owner's P, or in the hands of the environment while the record is free. -/
structure WrAt (s : State) (e : Event) (s' : State) (k : Wid) : Prop where
  waiting : (s'.wr k).waiting = (s.wr k).waiting ∨ ((s'.wr k).waiting = true ∧ ∃ t c, s.pc t = .lsSt c) ∨
    ((s'.wr k).waiting = false ∧ ∃ t l r, s.pc t = .usWakeSt l k r)
  sem : (s'.wr k).sem = (s.wr k).sem ∨ (s'.wr k).sem ≠ 0 ∨
    (∃ t c, e.tid = some t ∧ s.pc t = .lsPRet c ∧ c.w = some k) ∨ (s.wr k).owner = none

theorem WrAt.of_eq {s s' : State} {e : Event} {k : Wid} (h : s'.wr k = s.wr k) : WrAt s e s' k :=
  ⟨.inl (by rw [h]), .inl (by rw [h])⟩

/-- A step writes at most one waiter record. -/
theorem step_wr {cfg : Cfg} {s s' : State} {e : Event} (h : step cfg s e = .ok s') :
    ∃ k, (∀ k', k' ≠ k → s'.wr k' = s.wr k') ∧ WrAt s e s' k := by
  have post : ∀ k, (if cfg.binary = true then 1 else (s.wr k).sem + 1) ≠ 0 := fun k => by split <;> omega
  have same : ∀ {s' : State}, s'.wr = s.wr → ∃ k, (∀ k', k' ≠ k → s'.wr k' = s.wr k') ∧ WrAt s e s' k :=
    fun h => ⟨0, fun _ _ => by rw [h], .of_eq (by rw [h])⟩
  cases step_inv h with
  | envV k => exact ⟨k, fun _ hk => setFn_other _ _ _ _ hk, .inl (by simp [semPost]), .inr (.inl (by simpa [semPost] using post k))⟩
  | envSem k n ho => exact ⟨k, fun _ hk => setFn_other _ _ _ _ hk, .inl (by simp), .inr (.inr (.inr ho))⟩
  | thread t p hp h =>
    have ht := h.tid
    cases h
    case lsStAdopt c k hw _ _ _ =>
      exact ⟨k, fun _ hk => setFn_other _ _ _ _ hk, .inr (.inl ⟨by simp, t, c, hp⟩), .inl (by simp)⟩
    case lsStRequeue c k hw _ =>
      exact ⟨k, fun _ hk => setFn_other _ _ _ _ hk, .inr (.inl ⟨by simp, t, c, hp⟩), .inl (by simp)⟩
    case usWakeSt l k r =>
      exact ⟨k, fun _ hk => setFn_other _ _ _ _ hk, .inr (.inr ⟨by simp, t, l, r, hp⟩), .inl (by simp)⟩
    case pRet c k hw hs =>
      exact ⟨k, fun _ hk => setFn_other _ _ _ _ hk, .inl (by simp), .inr (.inr (.inl ⟨t, c, ht, hp, hw⟩))⟩
    case semV l k r =>
      exact ⟨k, fun _ hk => by simp [semPost, setFn_other _ _ _ _ hk], .inl (by simp [semPost]),
        .inr (.inl (by simpa [semPost] using post k))⟩
    case lsCasAcq c old hw =>
      cases hc : c.w with
      | none => exact same (by simp [dropW, setPc])
      | some k =>
        exact ⟨k, fun _ hk => by simp [dropW, setPc, setFn_other _ _ _ _ hk], .inl (by simp [dropW_waiting, setPc]),
          .inl (by simp [dropW_sem, setPc])⟩
    all_goals exact same (by simp [grabbed, setPc])

theorem step_wr_at {cfg : Cfg} {s s' : State} {e : Event} (h : step cfg s e = .ok s') (k : Wid) : WrAt s e s' k := by
  obtain ⟨k0, ho, hk⟩ := step_wr h
  by_cases e : k = k0
  · exact e ▸ hk
  · exact .of_eq (ho k e)

/-- In every continuation, each step of `t` up to and including its `ret` has `touchesMu = false`. -/
def QuietUntilRet (cfg : Cfg) (t : Tid) : State → List Event → Prop
  | _, [] => True
  | s, e :: es => ∀ s1, step cfg s e = .ok s1 →
      (e.tid = some t → stepTouchesMu s e = false ∧ s1.word = s.word ∧ s1.queue = s.queue ∧
        (s1.pc t = .idle ∨ QuietUntilRet cfg t s1 es)) ∧
      (e.tid ≠ some t → QuietUntilRet cfg t s1 es)

theorem quiet_of_relDone {cfg : Cfg} {t : Tid} : ∀ (evs : List Event) (s : State),
    relDone (s.pc t) → QuietUntilRet cfg t s evs := by
  intro evs
  induction evs with
  | nil => intro s _; trivial
  | cons e es ih =>
    intro s hd s1 hs
    constructor
    · intro he
      obtain ⟨h1, h2, h3, h4, _⟩ := relDone_step hd hs he
      refine ⟨h1, h3, h4, ?_⟩
      rcases h2 with h2 | h2
      · exact Or.inr (ih s1 h2)
      · exact Or.inl h2
    · intro hne
      apply ih s1
      rw [step_pc_other hs hne]; exact hd

end NsyncVerif.MuQ
