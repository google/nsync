/-
  Layer `Note`, invariant family L (locking discipline): which note mutexes a program counter
  holds (`PC.held`) and wants (`PC.wants`), the "parent before child" order in which they are taken
  (`Lt`), the claim each program counter carries about them (`LClaim`), and its preservation
  (`step_invL`).  That the abstract mutexes agree with `PC.held` (`LockInv`) is in NoteLock.lean.

  The order is the static one: `a` is strictly above `b` iff `a ≠ b` was on the path from `b` to the
  root when `b` was created (`ancEver`).  It is fixed at creation, so it is insensitive to
  re-parenting by `nsync_note_free` and to stale `parent` locals.
-/
import NsyncVerif.Proofs.NoteInvX


namespace Note

/-- Strictly above in the creation order. -/
def Lt (s : State) (a b : NoteId) : Prop := Above s a b ∧ a ≠ b

/-- The activations of `note_notify_child`, innermost first: every note is strictly below the
    note of the enclosing activation. -/
def ChainStk (s : State) : List Frame → Prop
  | [] => True
  | [_] => True
  | f :: g :: rest => Lt s g.note f.note ∧ ChainStk s (g :: rest)

/-- The child a loop position is working on. -/
@[simp] def CPos.cur : CPos → Option NoteId
  | .lockChild c | .lockChildRet c | .unlockChild c | .unlockChildRet c => some c
  | _ => none

@[simp] def FPos.hasChild : FPos → Bool
  | .lockChild | .lockChildRet | .unlockChild | .unlockChildRet => true
  | _ => false

/-- What a program counter knows (family L). -/
def LClaim (s : State) : PC → Prop
  | .nfy _ n par _ => ∀ p, par = some p → Lt s p n
  | .chd pos stk top =>
    (∀ p, top.par = some p → Lt s p top.n) ∧ ChainStk s stk ∧
    stk.getLast?.map Frame.note = some top.n ∧
    (∀ c f, pos.cur = some c → stk.head? = some f → Lt s f.note c)
  | .fr pos n par c _ =>
    (s.notes n).allocated = true ∧ (∀ p, par = some p → Lt s p n) ∧
    (pos.hasChild = true → Lt s n c)
  | _ => True

/-- Locks held according to the program counter. -/
def PC.held : PC → List NoteId
  | .dl pos n _ _ =>
    match pos with
    | .ld2 | .unlockCall => [n]
    | _ => []
  | .nfy pos n par _ =>
    match pos with
    | .ld | .tryCall | .tryRet | .sUnlockCall | .unlockPRet | .unlockCall => [n]
    | .sLockNCall | .sLockNRet => par.toList
    | .unlockPCall => n :: par.toList
    | _ => []
  | .chd pos stk top =>
    match pos with
    | .waitRet false => (stk.tail.map Frame.note) ++ top.par.toList
    | .unlockChild c => c :: (stk.map Frame.note ++ top.par.toList)
    | _ => stk.map Frame.note ++ top.par.toList
  | .newP pos _ p _ =>
    match pos with
    | .ld | .st | .unlockCall => [p]
    | _ => []
  | .fr pos n par c _ =>
    match pos with
    | .tryCall | .tryRet | .sUnlockCall | .unlockPRet | .unlockCall => [n]
    | .sLockNCall | .sLockNRet => par.toList
    | .lockChild | .lockChildRet | .unlockChildRet | .waitCall | .unlockPCall | .waitRet true =>
      n :: par.toList
    | .unlockChild => c :: n :: par.toList
    | .waitRet false => par.toList
    | _ => []
  | .wt pos n _ _ =>
    match pos with
    | .eLd | .eSt _ | .eUnlockCall | .qLd | .qSt | .qUnlockCall _ => [n]
    | _ => []
  | _ => []

/-- The lock a thread is waiting for (inside `nsync_mu_lock`, or re-acquiring in
    WAIT_FOR_NO_CHILDREN). -/
def PC.wants : PC → Option NoteId
  | .dl .lockRet n _ _ => some n
  | .nfy .lockRet n _ _ | .nfy .sLockNRet n _ _ => some n
  | .nfy .sLockPRet _ par _ => par
  | .chd (.lockChildRet c) _ _ => some c
  | .chd (.waitRet false) stk _ => stk.head?.map Frame.note
  | .newP .lockRet _ p _ => some p
  | .fr .lockRet n _ _ _ | .fr .sLockNRet n _ _ _ | .fr (.waitRet false) n _ _ _ => some n
  | .fr .sLockPRet _ par _ _ => par
  | .fr .lockChildRet _ _ c _ => some c
  | .wt .eLockRet n _ _ | .wt .qLockRet n _ _ => some n
  | _ => none

structure InvL (s : State) : Prop where
  claim : ∀ t, LClaim s (s.pc t)
  /-- the creation order is antisymmetric -/
  anti : ∀ a b, a ∈ s.ancEver b → b ∈ s.ancEver a → a = b
  children : ∀ p c, c ∈ (s.notes p).children → p ≠ c
  parent : ∀ p c, (s.notes c).parent = some p → p ≠ c

theorem InvL.init : InvL Note.init := by
  refine ⟨?_, ?_, ?_, ?_⟩ <;> simp [Note.init, LClaim, NoteRec.blank]

theorem Lt.trans {s : State} (hL : InvL s) {a b c : NoteId} (h1 : Lt s a b) (h2 : Lt s b c) :
    Lt s a c := by
  refine ⟨Above.trans h1.1 h2.1, ?_⟩
  intro hac
  subst hac
  exact h2.2 (hL.anti b a h2.1.1 h1.1.1)

theorem Lt.irrefl {s : State} {a : NoteId} (h : Lt s a a) : False := h.2 rfl

theorem Lt.asymm {s : State} (hL : InvL s) {a b : NoteId} (h1 : Lt s a b) (h2 : Lt s b a) :
    False := h1.2 (hL.anti a b h1.1.1 h2.1.1)

theorem Lt.stable {s s' : State} {e : Event} (hS : InvS s) (hs : step s e = .ok s')
    {a b : NoteId} (h : Lt s a b) : Lt s' a b := ⟨Above.stable hS hs h.1, h.2⟩

theorem ChainStk.stable {s s' : State} {e : Event} (hS : InvS s) (hs : step s e = .ok s')
    {stk : List Frame} (h : ChainStk s stk) : ChainStk s' stk := by
  induction stk with
  | nil => trivial
  | cons f rest ih =>
    cases rest with
    | nil => trivial
    | cons g gs => exact ⟨Lt.stable hS hs h.1, ih h.2⟩

theorem LClaim.stable {s s' : State} {e : Event} (hS : InvS s) (hs : step s e = .ok s') {pc : PC}
    (hc : LClaim s pc) : LClaim s' pc := by
  cases pc with
  | nfy pos n par nk => exact fun p hp => Lt.stable hS hs (hc p hp)
  | chd pos stk top =>
    obtain ⟨h1, h2, h3, h4⟩ := hc
    exact ⟨fun p hp => Lt.stable hS hs (h1 p hp), ChainStk.stable hS hs h2, h3,
      fun c f hc' hf => Lt.stable hS hs (h4 c f hc' hf)⟩
  | fr pos n par c nx =>
    exact ⟨(step_stable hs).alloc n hc.1, fun p hp => Lt.stable hS hs (hc.2.1 p hp),
      fun hh => Lt.stable hS hs (hc.2.2 hh)⟩
  | _ => trivial

/-! ### Claims of the control transfers -/

/-- The innermost activation moves on with the same stack, possibly selecting the child `c`. -/
theorem LClaim.chdMove {s : State} (hS : InvS s) (hL : InvL s) {pos pos' : CPos} {f f' : Frame}
    {rest : List Frame} {top : Top} (hc : LClaim s (.chd pos (f :: rest) top))
    (hf : f'.note = f.note) (hch : ∀ c, pos'.cur = some c → c ∈ (s.notes f.note).children) :
    LClaim s (.chd pos' (f' :: rest) top) := by
  obtain ⟨h1, h2, h3, _⟩ := hc
  refine ⟨h1, ?_, ?_, ?_⟩
  · cases rest with
    | nil => trivial
    | cons g gs => exact ⟨hf ▸ h2.1, h2.2⟩
  · cases rest with
    | nil => simpa [hf] using h3
    | cons g gs => simpa [List.getLast?_cons_cons] using h3
  · intro c f'' hc' hf''
    simp only [List.head?_cons, Option.some.injEq] at hf''
    subst hf''
    rw [hf]
    exact ⟨hS.children _ _ (hch c hc'), hL.children _ _ (hch c hc')⟩

theorem LClaim.afterDeadlinePc (s : State) (n : NoteId) (nt : Dl) (dk : DK) :
    LClaim s (Note.afterDeadlinePc n nt dk) := by
  cases dk <;> simp only [Note.afterDeadlinePc] <;> (try split) <;> (try split) <;>
    first | trivial | (intro p hp; cases hp)

/-- Entering `note_notify_child (n, par)`. -/
theorem LClaim.enter {s : State} {n : NoteId} {par : Option NoteId} {nk : NK}
    (h : ∀ p, par = some p → Lt s p n) :
    LClaim s (.chd .ld [⟨n, none⟩] ⟨n, par, nk⟩) :=
  ⟨h, trivial, rfl, fun c f hc _ => by simp at hc⟩

/-- A child has been locked and is not disconnecting: a new activation. -/
theorem LClaim.push {s : State} {c : NoteId} {stk : List Frame} {top : Top}
    (hc : LClaim s (.chd (.lockChildRet c) stk top)) :
    LClaim s (.chd .ld (⟨c, none⟩ :: stk) top) := by
  obtain ⟨h1, h2, h3, h4⟩ := hc
  cases stk with
  | nil => simp at h3
  | cons f rest =>
    refine ⟨h1, ⟨h4 c f rfl rfl, h2⟩, by simpa [List.getLast?_cons_cons] using h3, ?_⟩
    intro c' f' hc' _
    simp at hc'

/-! ### Distinctness of the locks held -/

theorem ChainStk.above_head {s : State} (hL : InvL s) {f : Frame} {rest : List Frame}
    (h : ChainStk s (f :: rest)) : ∀ g ∈ rest, Lt s g.note f.note := by
  induction rest generalizing f with
  | nil => intro g hg; cases hg
  | cons g gs ih =>
    intro x hx
    rcases List.mem_cons.mp hx with hx | hx
    · subst hx; exact h.1
    · exact Lt.trans hL (ih h.2 x hx) h.1

/-- The note at the bottom of an activation stack is the note of one of its frames. -/
theorem Frame.mem_of_getLast {stk : List Frame} {n : NoteId} (h : stk.getLast?.map Frame.note = some n) :
    ∃ l, l ∈ stk ∧ l.note = n := by
  cases hl : stk.getLast? with
  | none => rw [hl] at h; cases h
  | some l => rw [hl] at h; exact ⟨l, List.mem_of_getLast? hl, by simpa using h⟩

/-- The outermost activation is the one for the note `notify` was called on. -/
theorem LClaim.single {s : State} {pos : CPos} {f : Frame} {top : Top}
    (hc : LClaim s (.chd pos [f] top)) : f.note = top.n := by
  simpa using hc.2.2.1

/-- Every lock held by a thread inside `note_notify_child` besides the innermost note is strictly
    above the innermost note. -/
theorem LClaim.above_head {s : State} (hL : InvL s) {pos : CPos} {f : Frame} {rest : List Frame}
    {top : Top} (hc : LClaim s (.chd pos (f :: rest) top)) :
    ∀ x, x ∈ rest.map Frame.note ++ top.par.toList → Lt s x f.note := by
  obtain ⟨h1, h2, h3, _⟩ := hc
  intro x hx
  rcases List.mem_append.mp hx with hx | hx
  · obtain ⟨g, hg, rfl⟩ := List.mem_map.mp hx
    exact ChainStk.above_head hL h2 g hg
  · cases hp : top.par with
    | none => rw [hp] at hx; cases hx
    | some p =>
      rw [hp] at hx
      simp only [Option.toList, List.mem_singleton] at hx
      subst hx
      have hpn := h1 x hp
      cases rest with
      | nil =>
        have : f.note = top.n := by simpa using h3
        rw [this]; exact hpn
      | cons g gs =>
        rw [List.getLast?_cons_cons] at h3
        obtain ⟨l, hl, hln⟩ := Frame.mem_of_getLast h3
        exact Lt.trans hL (hln ▸ hpn) (ChainStk.above_head hL h2 l hl)

/-- With more than one activation, the note `notify` was called on is strictly above the innermost
    one. -/
theorem LClaim.top_above {s : State} (hL : InvL s) {pos : CPos} {f g : Frame} {gs : List Frame}
    {top : Top} (hc : LClaim s (.chd pos (f :: g :: gs) top)) : Lt s top.n f.note := by
  obtain ⟨l, hl, hln⟩ := Frame.mem_of_getLast (List.getLast?_cons_cons ▸ hc.2.2.1)
  exact hln ▸ ChainStk.above_head hL hc.2.1 l hl

/-- … and strictly above the child the loop is working on. -/
theorem LClaim.above_cur {s : State} (hL : InvL s) {pos : CPos} {stk : List Frame}
    {top : Top} (hc : LClaim s (.chd pos stk top)) {c : NoteId} (hcur : pos.cur = some c) :
    ∀ x, x ∈ stk.map Frame.note ++ top.par.toList → Lt s x c := by
  cases stk with
  | nil => have := hc.2.2.1; simp at this
  | cons f rest =>
    have hfc := hc.2.2.2 c f hcur rfl
    intro x hx
    simp only [List.map_cons, List.cons_append, List.mem_cons] at hx
    rcases hx with hx | hx
    · subst hx; exact hfc
    · exact Lt.trans hL (LClaim.above_head hL hc x hx) hfc

/-! ### Locks held where `nsync_note_notified_deadline_` returns -/

@[simp] theorem held_afterDeadlinePc (n : NoteId) (nt : Dl) (dk : DK) :
    (Note.afterDeadlinePc n nt dk).held = [] := by
  cases dk <;> simp only [Note.afterDeadlinePc] <;> (try split) <;> (try split) <;> rfl

/-! ## The claim of the acting thread after its step -/

/-- The outermost activation returns to `notify`. -/
theorem LClaim.retTop {s : State} {pos : CPos} {f : Frame} {top : Top} {pos' : NPos}
    (hc : LClaim s (.chd pos [f] top)) : LClaim s (.nfy pos' top.n top.par top.k) := hc.1

/-- An inner activation returns to the loop of the enclosing one. -/
theorem LClaim.retIn {s : State} {pos : CPos} {f g : Frame} {gs : List Frame} {top : Top}
    (hc : LClaim s (.chd pos (f :: g :: gs) top)) :
    LClaim s (.chd (.unlockChild f.note) (g :: gs) top) := by
  obtain ⟨h1, h2, h3, _⟩ := hc
  refine ⟨h1, h2.2, by simpa [List.getLast?_cons_cons] using h3, ?_⟩
  intro c f' hc' hf'
  simp only [CPos.cur, Option.some.injEq] at hc'
  simp only [List.head?_cons, Option.some.injEq] at hf'
  subst hc' hf'
  exact h2.1

/-- The new program counter's claim holds already in the old state. -/
theorem LClaim.own {s s' : State} {e : Event} {a : Tid} {pc pc' : PC} (hS : InvS s) (hL : InvL s)
    (h : Own s a pc e pc' s') (hc : LClaim s pc) : LClaim s pc' := by
  cases h
  all_goals (try simp only [acquire_f_children])
  case ld_dl_ld1_1 | unlockRet_dl_unlockRet_2 | now_dl_now_2 | unlockRet_nfy_unlockRet_dl =>
    exact LClaim.afterDeadlinePc _ _ _ _
  case ld_chd_ld_2_in | waitRet_chd_waitRet_1_in => exact LClaim.retIn hc
  case ld_chd_ld_2_par | ld_chd_ld_2_top | waitRet_chd_waitRet_1_par | waitRet_chd_waitRet_1_top =>
    exact LClaim.retTop hc
  -- the loops select the first child
  case stNote_chd_st_child | semV_chd_semV_child | waitRet_chd_waitRet_2 =>
    refine LClaim.chdMove hS hL hc rfl fun c' hc' => ?_
    simp only [CPos.cur, Option.some.injEq] at hc'
    subst hc'; simp [*]
  case stNote_chd_st_wake | stNote_chd_st_none | semV_chd_semV_wake | semV_chd_semV_none =>
    exact LClaim.chdMove hS hL hc rfl (by simp)
  case lockRet_fr_sLockNRet_child | tryRet_fr_tryRet_1_child | waitRet_fr_waitRet_3
      | lockRet_fr_lockRet_2_child =>
    have hm := mem_of_eq_cons ‹(s.notes _).children = _ :: _›
    first
      | exact ⟨hc.1, hc.2.1, fun _ => ⟨hS.children _ _ hm, hL.children _ _ hm⟩⟩
      | exact ⟨hc.1, (fun _ h => by cases h), fun _ => ⟨hS.children _ _ hm, hL.children _ _ hm⟩⟩
  case lockRet_fr_lockRet_2_none => exact ⟨hc.1, (fun _ h => by cases h), by simp⟩
  case call_free => exact ⟨(by assumption : s.Live _).1, by simp, by simp⟩
  case lockRet_chd_lockChildRet_1 => exact LClaim.push hc
  case lockRet_nfy_sLockNRet | tryRet_nfy_tryRet_1 => exact LClaim.enter hc
  case ld_nfy_ld_2 => exact LClaim.enter (fun _ h => by cases h)
  case ld_nfy_ld_1 =>
    intro p hp; cases hp
    exact ⟨hS.parent _ _ (by assumption), hL.parent _ _ (by assumption)⟩
  case lockRet_fr_lockRet_1 =>
    refine ⟨hc.1, fun p hp => ?_, by simp⟩
    cases hp
    exact ⟨hS.parent _ _ (by assumption), hL.parent _ _ (by assumption)⟩
  case unlockRet_chd_unlockChildRet_1 =>
    refine LClaim.chdMove hS hL hc rfl ?_
    intro c hc'
    simp only [CPos.cur, Option.some.injEq] at hc'
    subst hc'; assumption
  case unlockRet_fr_unlockChildRet_1 =>
    exact ⟨hc.1, hc.2.1,
      fun _ => ⟨hS.children _ _ (by assumption), hL.children _ _ (by assumption)⟩⟩
  all_goals (try (simp [LClaim]; done))
  all_goals (try (simp_all [LClaim]; done))

theorem step_invL {s s' : State} {e : Event} (hS : InvS s) (hL : InvL s)
    (hs : Note.step s e = .ok s') : InvL s' := by
  have hst := step_stable hs
  refine ⟨?_, ?_, ?_, ?_⟩
  · exact claims_step (C := fun s _ pc => LClaim s pc) hs
      (fun _ _ _ h _ hc => LClaim.stable hS hs (LClaim.own hS hL h hc))
      (fun _ _ hc => LClaim.stable hS hs hc) hL.claim
  · -- antisymmetry
    intro a b hab hba
    rcases step_ghost hs b with ⟨hb, _, _⟩ | ⟨hb0, hb1⟩
    · rcases step_ghost hs a with ⟨ha, _, _⟩ | ⟨ha0, ha1⟩
      · rw [hb] at hab; rw [ha] at hba; exact hL.anti a b hab hba
      · -- a is fresh
        rw [hb] at hab
        have := hS.anc b a hab
        rw [ha0] at this; cases this
    · -- b is fresh
      rcases step_ghost hs a with ⟨ha, _, _⟩ | ⟨ha0, ha1⟩
      · rw [ha] at hba
        have := hS.anc a b hba
        rw [hb0] at this; cases this
      · -- both fresh: the same note
        rcases step_alloc hs a ha1 with h | ⟨t, par, dl, he, _⟩
        · rw [ha0] at h; cases h
        · rcases step_alloc hs b hb1 with h | ⟨t', par', dl', he', _⟩
          · rw [hb0] at h; cases h
          · rw [he] at he'; cases he'; rfl
  · -- children
    intro p c hc
    rcases step_children' hs p c hc with h | ⟨a, dl, _, hpc, _⟩ | ⟨a, n, nx, _, hpc, _⟩
    · exact hL.children p c h
    · have hcl := hS.claim a
      rw [hpc] at hcl
      intro hpc'
      subst hpc'
      have := congrArg List.length hcl.2.2.1
      simp at this
    · have hcl := hL.claim a
      rw [hpc] at hcl
      exact (Lt.trans hL (hcl.2.1 p rfl) (hcl.2.2 rfl)).2
  · -- parent
    intro p c hc
    rcases step_parent hs p c hc with h | ⟨a, dl, _, hpc⟩ | ⟨a, n, nx, _, hpc⟩
    · exact hL.parent p c h
    · have hcl := hS.claim a
      rw [hpc] at hcl
      intro hpc'
      subst hpc'
      have := congrArg List.length hcl.2.2.1
      simp at this
    · have hcl := hL.claim a
      rw [hpc] at hcl
      exact (Lt.trans hL (hcl.2.1 p rfl) (hcl.2.2 rfl)).2

theorem Reachable.inv5 {s : State} (h : Reachable s) :
    InvA s ∧ InvN s ∧ InvS s ∧ InvX s ∧ InvL s := by
  refine ⟨h.invN.1, h.invN.2, h.invS, h.invX, ?_⟩
  exact Reachable.induction InvL.init
    (fun _ _ _ hr hL hs => step_invL hr.invS hL hs) s h

end Note
