/-
  Futex layer (C12), fair termination: where the two fairness hypotheses enter.

  `fair_move_awake`   (WeakFair)   a thread inside a call and not queued in the kernel moves;
  `fair_move_due`     (KernelFair) a sleeper that has been woken or has timed out moves;
  `fair_move_posted`  (both)       a sleeper moves if some poster is between its CAS and its wake.
  Nothing else in the development uses `WeakFair` / `KernelFair`.
-/
import NsyncVerif.Proofs.FutexFairRank

namespace NsyncVerif.Futex


variable {s0 : State}

theorem isSome_markWoken (sl : Option SleepInfo) : (markWoken sl).isSome = sl.isSome := by
  cases sl <;> rfl

theorem inKernel_other (hi : Inv s) (hs : step s e = .ok s')
    (hne : e.tid ≠ some t) (h : inKernel s t = false) : inKernel s' t = false := by
  have hpc := step_pc_other hs hne
  unfold inKernel at *
  rw [hpc]
  split
  · next k hk =>
    have hw : (s.pc t).isWaiter = true := by rw [hk]; rfl
    rw [hk] at h
    simp only at h
    rcases step_sleeper_other hi hs hw hne with h' | ⟨h', _⟩
    · rw [h']; exact h
    · rw [h', isSome_markWoken]; exact h
  · rfl

theorem kernelDue_pc {s : State} {t : Tid} (h : kernelDue s t = true) :
    ∃ k si, s.pc t = .wSleep k ∧ s.sleeper = some si ∧ (si.woken = true ∨ expired si.deadline s.now = true) := by
  unfold kernelDue at h
  split at h
  · next k si hk hsl => exact ⟨k, si, hk, hsl, by simpa using h⟩
  · cases h

theorem kernelDue_of {s : State} {t : Tid} {k : WKind} {si : SleepInfo} (hk : s.pc t = .wSleep k)
    (hsl : s.sleeper = some si) (h : si.woken = true ∨ expired si.deadline s.now = true) :
    kernelDue s t = true := by
  unfold kernelDue; rw [hk, hsl]; simpa using h

theorem expired_mono {dl : Option Nat} {a b : Nat} (hab : a ≤ b) (h : expired dl a = true) :
    expired dl b = true := by
  cases dl <;> simp [expired] at * ; omega

theorem kernelDue_other (hi : Inv s) (hs : step s e = .ok s')
    (hne : e.tid ≠ some t) (h : kernelDue s t = true) : kernelDue s' t = true := by
  obtain ⟨k, si, hk, hsl, hd⟩ := kernelDue_pc h
  have hpc := step_pc_other hs hne
  have hw : (s.pc t).isWaiter = true := by rw [hk]; rfl
  have hnow := step_now_mono hs
  rcases step_sleeper_other hi hs hw hne with h' | ⟨h', _⟩
  · refine kernelDue_of (by rw [hpc]; exact hk) (by rw [h']; exact hsl) ?_
    rcases hd with hd | hd
    · exact Or.inl hd
    · exact Or.inr (expired_mono hnow hd)
  · exact kernelDue_of (si := { si with woken := true }) (by rw [hpc]; exact hk)
      (by rw [h', hsl]; rfl) (Or.inl rfl)

theorem not_moves_pc (x : Exec s0) {t : Tid} {j : Nat} (h : ¬ Moves x t j) :
    (x.ρ (j + 1)).pc t = (x.ρ j).pc t :=
  x.across (Q := fun s s' => s'.pc t = s.pc t) (fun _ => rfl) j fun e he hs =>
    step_pc_other hs fun ht => h ⟨e, he, ht⟩

theorem Exec.now_mono (x : Exec s0) {i j : Nat} (hij : i ≤ j) : (x.ρ i).now ≤ (x.ρ j).now :=
  x.mono State.now step_now_mono hij

/-- A fairness hypothesis of the form "if `P` holds of `t` for ever then `t` moves", for a `P` that
    steps of other threads preserve: `t` moves whenever `P` holds. -/
theorem moves_of_fair (x : Exec s0) (hr : Reachable s0) {t : Tid} {P : State → Prop} {j : Nat}
    (hP : ∀ {s s' e}, Inv s → step s e = .ok s' → e.tid ≠ some t → P s → P s')
    (hfair : (∀ j', j ≤ j' → P (x.ρ j')) → ∃ j' e, j ≤ j' ∧ x.σ j' = some e ∧ e.tid = some t)
    (h : P (x.ρ j)) : ∃ j', j ≤ j' ∧ Moves x t j' :=
  Sched.moves_of_fair (fun hp => let ⟨j', e, hj', he, ht⟩ := hfair hp; ⟨j', hj', e, he, ht⟩)
    fun _ hj' hnm => Sched.inv_between (P := fun k => P (x.ρ k))
      (fun _ _ hp hn => not_moves_rel x hr (Q := fun s s' => P s → P s') (fun _ => id) hP hn hp) h hj' hnm

/-- WEAK FAIRNESS: a thread inside a call and not queued in the kernel moves. -/
theorem fair_move_awake (x : Exec s0) (hr : Reachable s0) (hf : WeakFair x) {t : Tid} {j : Nat}
    (h1 : (x.ρ j).pc t ≠ .idle) (h2 : inKernel (x.ρ j) t = false) : ∃ j', j ≤ j' ∧ Moves x t j' :=
  moves_of_fair x hr (P := fun s => s.pc t ≠ .idle ∧ inKernel s t = false)
    (fun hi hs hne hP => ⟨by rw [step_pc_other hs hne]; exact hP.1, inKernel_other hi hs hne hP.2⟩)
    (hf t j) ⟨h1, h2⟩

/-- KERNEL FAIRNESS: a sleeper that has been woken, or whose timeout has passed, moves. -/
theorem fair_move_due (x : Exec s0) (hr : Reachable s0) (kf : KernelFair x) {t : Tid} {j : Nat}
    (h : kernelDue (x.ρ j) t = true) : ∃ j', j ≤ j' ∧ Moves x t j' :=
  moves_of_fair x hr (P := fun s => kernelDue s t = true)
    kernelDue_other (kf t j) h

theorem poster_awake {s : State} {p : Tid} (h : (s.pc p).isPoster = true) :
    s.pc p ≠ .idle ∧ inKernel s p = false := by
  unfold inKernel
  cases hp : s.pc p <;> simp [hp, PC.isPoster] at h ⊢

theorem vWake_awake {s : State} {p : Tid} (h : s.pc p = .vWake) :
    s.pc p ≠ .idle ∧ inKernel s p = false :=
  poster_awake (by rw [h]; rfl)

/-- A sleeper moves if some poster is between its CAS and its futex wake: the poster moves (weak
    fairness), its only step marks the sleeper woken, the kernel then owes the return. -/
theorem fair_move_posted (x : Exec s0) (hr : Reachable s0) (hf : WeakFair x) (kf : KernelFair x)
    {t p : Tid} {k : WKind} {j : Nat} (hpc : (x.ρ j).pc t = .wSleep k)
    (hsl : (x.ρ j).sleeper.isSome = true) (hp : (x.ρ j).pc p = .vWake) :
    ∃ j', j ≤ j' ∧ Moves x t j' := by
  apply Classical.byContradiction
  intro hn
  have hnm : ∀ j', j ≤ j' → ¬ Moves x t j' := fun j' hj hm => hn ⟨j', hj, hm⟩
  obtain ⟨j1, hj1, ⟨e, he, hte⟩, hfirst⟩ :=
    Sched.first_at (fair_move_awake x hr hf (vWake_awake hp).1 (vWake_awake hp).2)
  -- the poster is still at its wake at time j1
  have hp1 : (x.ρ j1).pc p = .vWake :=
    (Sched.const_between (f := fun j => (x.ρ j).pc p) (fun _ => not_moves_pc x) hj1 hfirst).trans hp
  -- the sleeper is still queued at time j1
  let P : State → Prop := fun s => s.pc t = .wSleep k ∧ s.sleeper.isSome = true
  have ht1 : P (x.ρ j1) := by
    refine Sched.keeps_from (P := fun j => P (x.ρ j)) ⟨hpc, hsl⟩ (fun j' hj' => not_moves_rel x hr
      (Q := fun s s' => P s → P s') (fun _ => id) ?_ (hnm j' hj')) j1 hj1
    intro s s' e hi hs hne hP
    have hw : (s.pc t).isWaiter = true := by rw [hP.1]; rfl
    refine ⟨by rw [step_pc_other hs hne]; exact hP.1, ?_⟩
    rcases step_sleeper_other hi hs hw hne with h' | ⟨h', _⟩
    · rw [h']; exact hP.2
    · rw [h', isSome_markWoken]; exact hP.2
  have hs := x.next_some he
  have hsl1 := (step_vWake_own hs hte hp1).1
  have hne : e.tid ≠ some t := fun h => hnm j1 hj1 ⟨e, he, h⟩
  obtain ⟨si, hsi⟩ := Option.isSome_iff_exists.1 ht1.2
  have hdue : kernelDue (x.ρ (j1 + 1)) t = true :=
    kernelDue_of (si := { si with woken := true }) (by rw [step_pc_other hs hne]; exact ht1.1)
      (by rw [hsl1, hsi]; rfl) (Or.inl rfl)
  obtain ⟨j', hj', hm⟩ := fair_move_due x hr kf hdue
  exact hnm j' (by omega) hm

end NsyncVerif.Futex
