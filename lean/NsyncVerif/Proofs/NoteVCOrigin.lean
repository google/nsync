/-
  Layer `Note` × vector clocks: where a store `notified := 1` comes from (invariant `OInv`).

  Every recorded store of the flag of note `k` was performed
    * at note.c/1 inside an activation `notify (a)` with `a = k` or `a` strictly above `k` in the
      creation order (`Lt`: `a` was on the path from `k` to the root when `k` was created), during
      the API call that activation belongs to — `nsync_note_notify (a)`, or the call
      (`nsync_note_is_notified (a)`, `nsync_note_wait (a, …)`, `nsync_note_notify (a)`, or the
      `nsync_note_new` creating `a`) whose poll of `a` found `a`'s deadline passed; or
    * at note.c/7 by the `nsync_note_new (par, …)` call that is creating `k`, whose intended
      parent `par` is notified (born notified, the F5 repair).
-/
import NsyncVerif.Proofs.NoteVCThr


namespace Note
open NsyncVerif

def SetterOk (s : State) (k : NoteId) (g : Setter) : Prop :=
  match g.top with
  | some top => (k = top.n ∨ Lt s top.n k) ∧ g.api = some (top.k.api top.n)
  | none => s.bornNotified k = true ∧ ∃ par dl, g.api = some (.new (some par) dl) ∧ NA s par

def OInv (p : PState) : Prop := ∀ k g, g ∈ p.sets k → SetterOk p.s k g

theorem SetterOk.step {s s' : State} {e : Event} (hr : Reachable s) (hs : step s e = .ok s')
    {k : NoteId} {g : Setter} (h : SetterOk s k g) : SetterOk s' k g := by
  obtain ⟨hA, hN, hS, _, _, _⟩ := hr.inv6
  unfold SetterOk at h ⊢
  cases hg : g.top with
  | some top =>
    rw [hg] at h
    refine ⟨?_, h.2⟩
    rcases h.1 with h1 | h1
    · exact Or.inl h1
    · exact Or.inr (Lt.stable hS hs h1)
  | none =>
    rw [hg] at h
    obtain ⟨h1, par, dl, h2, h3⟩ := h
    exact ⟨(step_stable hs).born k h1, par, dl, h2, NA.step hN hs h3⟩

/-- the store of nsync_note_new marks the note born notified -/
theorem newSt_born {s s' : State} {t : Tid} {site : Site} {o : Ord} {k : NoteId} {n ob : Nat}
    {p : NoteId} {dl : Dl} (hs : step s (.stNote t site o k n ob) = .ok s')
    (hpc : s.pc t = .newP .st k p dl) : s'.bornNotified k = true := by
  have h := step_actor hs rfl
  rw [hpc] at h
  generalize s'.pc t = q at h
  cases h
  simp

theorem oinv_step {p p' : PState} {e : Event} (hr : Reachable p.s) (hc : ∀ t, TClaim p t)
    (ho : OInv p) (hp : pstep p e = .ok p') : OInv p' := by
  obtain ⟨hs, _, _, _, hsets, _, _⟩ := pstep_ok hp
  obtain ⟨hA, hN, hS, _, hL, _⟩ := hr.inv6
  intro k g hg
  rw [hsets] at hg
  cases e with
  | stNote t site o k0 n ob =>
    simp only [gSets] at hg
    by_cases hk : k = k0
    · rw [if_pos hk, List.mem_append] at hg
      rcases hg with hg | hg
      · exact SetterOk.step hr hs (ho k g hg)
      · simp only [List.mem_singleton] at hg
        subst hg
        have hcl := hc t
        unfold TClaim at hcl
        obtain ⟨_, _, _, _, hsite⟩ := stNote_ok hs
        rcases hsite with ⟨_, f, rest, top, hpc, hf, _⟩ | ⟨_, par, dl, hpc, _⟩
        · -- note.c/1
          rw [hpc] at hcl
          have hLc := hL.claim t
          rw [hpc] at hLc
          refine SetterOk.step hr hs ?_
          unfold SetterOk
          simp only [newSetter, hpc, topOf]
          refine ⟨?_, hcl.1⟩
          rw [hk, ← hf]
          cases rest with
          | nil =>
            left
            exact hLc.single
          | cons g gs =>
            right
            exact LClaim.top_above hL hLc
        · -- note.c/7
          rw [hpc] at hcl
          have hNc := hN.claim t
          rw [hpc] at hNc
          unfold SetterOk
          simp only [newSetter, hpc, topOf]
          refine ⟨?_, par, dl, hcl, NA.step hN hs (hNc.2 rfl)⟩
          rw [hk]; exact newSt_born hs hpc
    · rw [if_neg hk] at hg
      exact SetterOk.step hr hs (ho k g hg)
  | _ => exact SetterOk.step hr hs (ho k g hg)

theorem PReachable.inv3 {p : PState} (h : PReachable p) : VInv p ∧ (∀ t, TClaim p t) ∧ OInv p := by
  refine PReachable.induction (P := fun p => VInv p ∧ (∀ t, TClaim p t) ∧ OInv p)
    ⟨VInv.init, tclaim_init, fun k g hg => by simp [pinit] at hg⟩ ?_ p h
  intro p e p' hr hi hs
  exact ⟨vinv_step hr.s hi.1 hs, tclaim_step hr.s hi.1 hi.2.1 hs, oinv_step hr.s hi.2.1 hi.2.2 hs⟩

end Note
