/-
  Layer `Once`: facts about single steps used by the C07 theorems — the once word only moves
  0→1→2, a step touches only the pc of the thread that performs it.
-/
import NsyncVerif.Proofs.OnceStep

namespace Once

/-- The once word changes only by 0→1 (the CAS) and 1→2 (the store). -/
theorem word_step {cfg s s' e} (hi : Inv cfg s) (h : step cfg s e = .ok s') (o : OnceId) :
    s'.word o = s.word o ∨ (s.word o = 0 ∧ s'.word o = 1) ∨ (s.word o = 1 ∧ s'.word o = 2) := by
  cases step_ok h with
  | @casOk t f hp hw =>
    by_cases ho : o = f.o
    · subst ho; exact .inr (.inl ⟨hw, upd_same ..⟩)
    · exact .inl (upd_ne _ ho)
  | @store t f hp =>
    by_cases ho : o = f.o
    · subst ho; exact .inr (.inr ⟨(hi.inW t _ (by rw [hp]; rfl)).1, upd_same ..⟩)
    · exact .inl (upd_ne _ ho)
  | _ => exact .inl rfl

/-- "Done" is stable. -/
theorem word2_step {cfg s s' e} {o : OnceId} (hi : Inv cfg s) (h : step cfg s e = .ok s')
    (hw : s.word o = 2) : s'.word o = 2 := by
  have := word_step hi h o
  omega

/-- Frame lemma: an event changes only the pc of the thread that performs it. -/
theorem pc_step_other {cfg s s' e} (h : step cfg s e = .ok s') (t : Tid) (ht : e.tid ≠ some t) :
    s'.pc t = s.pc t := by
  cases step_ok h with
  | skip _ => rfl
  | _ => exact upd_ne _ fun h => ht (h ▸ rfl)

/-- An accepted event list yields a reachable state (used by the non-vacuity examples). -/
theorem ok_of_isSome (r : Except String State) (h : r.toOption.isSome) :
    r = .ok (r.toOption.get h) := by
  cases r with
  | error m => simp [Except.toOption] at h
  | ok s => simp [Except.toOption]

theorem run_ok_of_isSome {cfg : Config} {evs : List Event}
    (h : (run cfg init evs).toOption.isSome) :
    Reachable cfg ((run cfg init evs).toOption.get h) :=
  ⟨evs, ok_of_isSome _ h⟩

end Once
