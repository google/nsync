/-
  Proofs/WaitNLocalInv.lean — the thread-local invariant `LInv` is preserved by every accepted step: by the
  helper functions (dflt, semaphore binding, rtDone, deqDone, afterEnq, startScan, proto, stepOpen) and, by the shape
  of the step's `Tail`, by the moves inside a waitable call (`LInv` does not read the sub-state: `LInv.flow`) and by the
  statements of wait.c between the calls; it holds in every reachable state.
-/
import NsyncVerif.Proofs.WaitNLocal


namespace WaitN

/-- the step changes neither the program counter of `t` nor (up to the semaphore) its frame -/
def Keeps (s s' : State) (t : Tid) : Prop := s'.pc t = s.pc t ∧ frSame (s.fr t) (s'.fr t)

theorem Keeps.refl (s : State) (t : Tid) : Keeps s s t := ⟨rfl, frSame_refl _⟩

theorem Keeps.trans {s s1 s2 : State} {t : Tid} (a : Keeps s s1 t) (b : Keeps s1 s2 t) : Keeps s s2 t :=
  ⟨b.1.trans a.1, frSame_trans a.2 b.2⟩

theorem Keeps.of_eq {s s' : State} {t : Tid} (h1 : s'.pc t = s.pc t) (h2 : s'.fr t = s.fr t) : Keeps s s' t :=
  ⟨h1, by rw [h2]; exact frSame_refl _⟩

theorem Keeps.linv {s s' : State} {t : Tid} (k : Keeps s s' t) (h : LInv (s.pc t) (s.fr t)) :
    LInv (s'.pc t) (s'.fr t) := by
  rw [k.1]; exact LInv.same k.2 h

macro "keeps_simp" : tactic => `(tactic| (apply Keeps.of_eq <;> (simp; done)))

theorem keeps_bindSem {s s' : State} {t owner : Tid} {j : SemId} (h : bindSem s owner j = some s') :
    Keeps s s' t := by
  unfold bindSem at h
  split at h
  · split at h
    · cases h; exact Keeps.refl _ _
    · cases h
  · split at h
    · cases h
    · cases h
      refine ⟨rfl, ?_⟩
      simp only [setSemUser_fr, setFr_fr]
      split
      · rename_i h; subst h; rfl
      · rfl

theorem keeps_postSem {s s' : State} {t : Tid} {r : Rid} {j : SemId} (h : postSem s r j = some s') :
    Keeps s s' t := by
  unfold postSem at h
  split at h
  · exact keeps_bindSem h
  · cases h; exact Keeps.refl _ _

theorem keeps_dflt {s s' : State} {t : Tid} {e : Ev} (h : dflt s t e = .ok s') : Keeps s s' t := by
  obtain ⟨f, rfl⟩ := dflt_sem h; exact ⟨rfl, frSame_refl _⟩

macro "keeps_leaf" h:ident : tactic =>
  `(tactic| first
    | exact keeps_dflt $h
    | (cases $h:ident; first
        | exact Keeps.refl _ _
        | keeps_simp
        | exact Keeps.trans (keeps_postSem ‹postSem _ _ _ = some _›) (by keeps_simp)
        | exact Keeps.trans (keeps_bindSem ‹bindSem _ _ _ = some _›) (by keeps_simp)))

theorem keeps_proto {s s' : State} {t : Tid} {e : Ev} (h : proto s t e = .ok s') : Keeps s s' t := by
  unfold proto at h
  split_ok h <;> keeps_leaf h

theorem keeps_stepOpen {s s' : State} {t : Tid} {e : Ev} (h : stepOpen s t e = .ok s') : Keeps s s' t := by
  unfold stepOpen at h
  split_ok h <;> first | exact keeps_proto h | keeps_leaf h

theorem linv_pd {j : SemId} {f : Frame} : LInv .wPdEnter f ↔ LInv (.wPdWait j) f := Iff.rfl

theorem linv_rtDone_poll {s s' : State} {t : Tid} {i : Nat} {time : Deadline}
    (hf : Fresh (s.fr t)) (hr : (s.fr t).ready = (s.fr t).count) (hi : i < (s.fr t).count)
    (h : rtDone s t .poll i time = .ok s') : LInv (s'.pc t) (s'.fr t) := by
  unfold rtDone at h
  simp only at h
  split at h
  · cases h
    simp only [setPc_pc, setPc_fr, setFr_fr, if_true, LInv]
    refine ⟨trivial, .inl ⟨{ hf with }, Nat.le_of_lt hi, ?_⟩⟩
    intro h; exact absurd h (Nat.ne_of_lt hi)
  · cases h
    simp only [setPc_pc, setPc_fr, if_true]
    exact linv_pollNext hf hr _

theorem linv_rtDone_loop {s s' : State} {t : Tid} {i : Nat} {time : Deadline}
    (hf : InLoop (s.fr t)) (h : rtDone s t .loop i time = .ok s') : LInv (s'.pc t) (s'.fr t) := by
  unfold rtDone at h
  simp only at h
  cases h
  simp only [setPc_pc, setPc_fr, setFr_fr, if_true]
  apply linv_loopNext
  split
  · exact { hf with whyMin := fun _ => by simp }
  · split
    · rename_i hp hlt
      refine { hf with whyMin := ?_ }
      intro hm; simp only at hm; rw [hm] at hp; exact absurd rfl hp
    · exact hf

theorem linv_rtDone_deq {s s' : State} {t : Tid} {i : Nat} {time : Deadline}
    (hf : LInv (.wND .deq i .ld0) (s.fr t)) (h : rtDone s t .deq i time = .ok s') : LInv (s'.pc t) (s'.fr t) := by
  unfold rtDone at h
  simp only at h
  cases h
  simp only [setPc_pc, setPc_fr, if_true, LInv] at hf ⊢
  exact ⟨hf.1, hf.2.1, hf.2.2.1, .inl hf.2.2.2.1, hf.2.2.2.2⟩

theorem readyOK_push {f : Frame} {j : Nat} {res : Bool} (h : ReadyOK f) (hl : f.deqRes.length = j) (hj : j < f.count) :
    ReadyOK { f with ready := if !res ∧ f.ready = f.count then j else f.ready, deqRes := f.deqRes ++ [res] } := by
  constructor
  · show (if !res ∧ f.ready = f.count then j else f.ready) ≤ f.count
    split
    · exact Nat.le_of_lt hj
    · exact h.le
  · show (if !res ∧ f.ready = f.count then j else f.ready) = f.count → ∀ b ∈ f.deqRes ++ [res], b = true
    split
    · intro h'; omega
    · rename_i hc
      intro hr b hb
      rcases List.mem_append.1 hb with hb | hb
      · exact h.all hr b hb
      · simp only [List.mem_singleton] at hb
        subst hb
        cases b with
        | true => rfl
        | false => exact absurd ⟨rfl, hr⟩ hc
  · show (if !res ∧ f.ready = f.count then j else f.ready) < f.count →
      (f.deqRes ++ [res])[if !res ∧ f.ready = f.count then j else f.ready]? = some false ∧
        ∀ k, k < (if !res ∧ f.ready = f.count then j else f.ready) → (f.deqRes ++ [res])[k]? = some true
    split
    · rename_i hc
      intro _
      have hres : res = false := by cases res <;> simp_all
      refine ⟨?_, ?_⟩
      · rw [List.getElem?_append_right (by omega)]; simp [hl, hres]
      · intro k hk
        rw [List.getElem?_append_left (by omega)]
        have hk' : k < f.deqRes.length := by omega
        rw [List.getElem?_eq_getElem hk']
        congr 1
        exact h.all hc.2 _ (List.getElem_mem hk')
    · intro hr
      obtain ⟨h1, h2⟩ := h.first hr
      have hlen : f.ready < f.deqRes.length := by
        rcases Nat.lt_or_ge f.ready f.deqRes.length with h' | h'
        · exact h'
        · rw [List.getElem?_eq_none h'] at h1; cases h1
      refine ⟨by rw [List.getElem?_append_left hlen]; exact h1, ?_⟩
      intro k hk
      rw [List.getElem?_append_left (by omega)]; exact h2 k hk

@[simp] theorem InDeq.semFreed (f : Frame) (v b) : InDeq { f with sem := v, freed := b } ↔ InDeq f :=
  ⟨fun a => { a with rdy := { a.rdy with } }, fun a => { a with rdy := { a.rdy with } }⟩
@[simp] theorem InDeq.freedOnly (f : Frame) (b) : InDeq { f with freed := b } ↔ InDeq f :=
  ⟨fun a => { a with rdy := { a.rdy with } }, fun a => { a with rdy := { a.rdy with } }⟩

theorem linv_unbind_fin {s : State} {t : Tid} (h : InDeq (s.fr t)) (hl : (s.fr t).deqRes.length = (s.fr t).recs.length) :
    LInv (finNext ((unbindSem s t).fr t)) ((unbindSem s t).fr t) := by
  unfold unbindSem
  split
  · simp only [setSemUser_fr, setFr_fr, if_true]
    exact linv_finNext ((InDeq.semFreed _ _ _).2 h) hl rfl
  · simp only [setFr_fr, if_true]
    exact linv_finNext ((InDeq.freedOnly _ _).2 h) hl rfl

theorem linv_deqDone {s s' : State} {t : Tid} {j : Nat} {res : Bool}
    (hd : InDeq (s.fr t)) (hl : (s.fr t).deqRes.length = j) (hj : j < (s.fr t).recs.length)
    (hf : (s.fr t).freed = false) (h : deqDone s t j res = .ok s') : LInv (s'.pc t) (s'.fr t) := by
  unfold deqDone at h
  dsimp only at h
  have hjc : j < (s.fr t).count := Nat.lt_of_lt_of_le hj hd.len
  have hd' : ∀ u : List Unl, InDeq ({ s.fr t with
      ready := (if !res ∧ (s.fr t).ready = (s.fr t).count then j else (s.fr t).ready),
      deqRes := (s.fr t).deqRes ++ [res], deqUnl := u } : Frame) :=
    fun u => { hd with rdy := { (readyOK_push hd.rdy hl hjc) with }, dlen := by simp; omega }
  split at h
  · rename_i hlt
    cases h
    simp only [setPc_pc, setPc_fr, setFr_fr, if_true]
    exact linv_deqNext (hd' _) (by simp; omega) hlt hf
  · rename_i hlt
    cases h
    simp only [setPc_pc, setPc_fr, if_true]
    apply linv_unbind_fin
    · simpa using hd' _
    · simp at hlt ⊢; omega

theorem linv_afterEnq {s s' : State} {t : Tid} {i : Nat} {res : Bool}
    (hp : PreLoop (s.fr t)) (hl : (s.fr t).recs.length = i + 1) (hw : (s.fr t).why = .none)
    (h : afterEnq s t (i + 1) res = .ok s') : LInv (s'.pc t) (s'.fr t) := by
  unfold afterEnq at h
  dsimp only at h
  cases h
  simp only [setPc_pc, setPc_fr, setFr_fr, if_true]
  cases res with
  | true => simp only [if_true]; exact linv_enqNext (res := true) { hp with } hl (by simpa using hw) (by simp)
  | false =>
    simp only [Bool.false_eq_true, if_false]
    exact linv_enqNext (res := false) { hp with } hl (by simp) (by simp)

theorem linv_startScan {s : State} {t : Tid} (h : InLoop (s.fr t)) :
    LInv ((startScan s t).pc t) ((startScan s t).fr t) := by
  unfold startScan
  simp only [setPc_pc, setPc_fr, setFr_fr, if_true]
  apply linv_loopNext
  exact { h with whyMin := by intro hm; simp only at hm; rw [h.dl] at hm; cases hm }

theorem lt_count_of_get {f : Frame} {i : Nat} {o : ObjId} (h : f.objs[i]? = some o) : i < f.count := by
  rcases Nat.lt_or_ge i f.count with h' | h'
  · exact h'
  · unfold Frame.count at h'; rw [List.getElem?_eq_none h'] at h; cases h

theorem linv_rtDone_nd {s s' : State} {t : Tid} {u : Use} {i : Nat} {st : NDst} {time : Deadline}
    (hinv : LInv (.wND u i st) (s.fr t)) (h : rtDone s t u i time = .ok s') : LInv (s'.pc t) (s'.fr t) := by
  cases u
  · simp only [LInv] at hinv
    obtain ⟨n, hn⟩ := hinv.2.2
    exact linv_rtDone_poll hinv.1 hinv.2.1 (lt_count_of_get hn) h
  · exact linv_rtDone_loop hinv.1 h
  · exact linv_rtDone_deq hinv h

theorem linv_rtDone_ctr {s s' : State} {t : Tid} {u : Use} {i : Nat} {l : Bool} {time : Deadline}
    (hinv : LInv (.wCtrRT u i l) (s.fr t)) (h : rtDone s t u i time = .ok s') : LInv (s'.pc t) (s'.fr t) := by
  cases u
  · simp only [LInv] at hinv
    obtain ⟨n, hn⟩ := hinv.2.2
    exact linv_rtDone_poll hinv.1 hinv.2.1 (lt_count_of_get hn) h
  · exact linv_rtDone_loop hinv.1 h
  · exact absurd hinv (by simp [LInv])

theorem recKind_append {h : Option Nat} {l : List Rid} {r : Rid} (hl : ∀ x ∈ l, recKind h x) (hr : recKind h r) :
    ∀ x ∈ l ++ [r], recKind h x := by
  intro x hx
  rcases List.mem_append.1 hx with hx | hx
  · exact hl x hx
  · simp only [List.mem_singleton] at hx; subst hx; exact hr

theorem recKind_of_ridOk {r : Rid} {h : Option Nat} {i : Nat} (hk : ridOk r h i = true) : recKind h r := by
  unfold ridOk at hk
  unfold recKind
  split at hk <;> simp_all

theorem linv_pdTimeout {f : Frame} (w : Why) (hw : w ≠ .none) (hinv : InLoop f) :
    LInv (deqNext { f with why := w } 0) { f with why := w } := by
  have hl : InLoop { f with why := w } := { hinv with whyMin := fun _ => hw }
  have hd := inDeq_of_inLoop hl hw
  exact linv_deqNext hd (by simp [hinv.deqRes]) hd.npos hinv.freed

/-- `LInv` does not read the sub-state of a waitable call -/
theorem LInv.flow {p p' : PC} {f : Frame} (h : Flow p p') (a : LInv p f) : LInv p' f := by
  cases h
  case ctrRT u _ => cases u <;> exact a
  case nd u _ _ _ _ => cases u <;> exact a
  all_goals first | exact a | trivial

/-- the caller's own steps, by the shape of the `Tail` (an `Act` does not touch the frame) -/
theorem linv_stepThr {s s' : State} {t : Tid} {e : Ev} (hinv : LInv (s.pc t) (s.fr t))
    (h : stepThr s t e = .ok s') : LInv (s'.pc t) (s'.fr t) := by
  obtain ⟨k, s1, a, b⟩ := steps_stepThr h
  have hfr : s1.fr t = s.fr t := by rw [a.fr]
  have hpc1 : s1.pc t = s.pc t := by rw [a.pc]
  rw [← hfr] at hinv
  cases b
  case same => rw [hpc1]; exact hinv
  case goto p hf => simp only [setPc_pc, setPc_fr, if_true]; exact hinv.flow hf
  case giveUp j c r fl hpc ho hr hn hs => rw [hpc] at hinv; simp only [setPc_pc, setPc_fr, if_true]; exact hinv
  case nested m => simp only [setMc_pc, setMc_fr]; rw [hpc1]; exact hinv
  case dflt hd => exact (keeps_dflt hd).linv (hpc1 ▸ hinv)
  case rtDone u i time hat hd =>
    generalize s.pc t = q at hat hinv
    cases hat
    · exact linv_rtDone_nd hinv hd
    · exact linv_rtDone_ctr hinv hd
    · exact linv_rtDone_loop hinv.1 hd
  case afterEnq i res hat hd =>
    generalize s.pc t = q at hat hinv
    cases hat <;> exact linv_afterEnq hinv.1 hinv.2.1 hinv.2.2.2 hd
  case deqDone j res r hr hu hpc hd =>
    rcases hpc with h | ⟨h, -, -⟩ | h <;> rw [h] at hinv <;> exact linv_deqDone hinv.1 hinv.2.1 hinv.2.2.1 hinv.2.2.2.2 hd
  case v r j s2 hp he hps =>
    have k := keeps_postSem (t := t) hps
    simp only [setSem_pc, setSem_fr]; rw [k.1, hpc1]; exact LInv.same k.2 hinv
  case vgoto r j s2 hp he hps c bc st0 st hpc hf0 => simp only [setPc_pc, if_true]; trivial
  case pdEnter j d s2 hpc he hb =>
    rw [hpc] at hinv; simp only [setPc_pc, setPc_fr, if_true]; exact LInv.same (keeps_bindSem (t := t) hb).2 hinv
  case pdWake j n hpc he hs => rw [hpc] at hinv; exact linv_startScan (s := s1.setSem _ _) hinv.1
  case call mu dl objs nested hpc hne hk hs =>
    simp only [setPc_pc, setPc_fr, setFr_fr, if_true]
    apply linv_pollNext
    · exact { recs := rfl, heap := rfl, mallocs := rfl, frees := rfl, unlocked := rfl, held := rfl, why := rfl,
              deqRes := rfl, min := rfl, freed := rfl,
              pos := by simp only [Frame.count, Frame.new]; exact List.length_pos_iff.2 hne }
    · rfl
  case alloc arr hpc =>
    rw [hpc] at hinv
    simp only [setPc_pc, setPc_fr, setFr_fr, if_true]
    obtain ⟨hf, hr, h4, hd⟩ := hinv
    apply linv_enqNext (res := true) _ _ (by simpa using hf.why) (by simp)
    · exact { heap := (by simp only [Frame.count] at h4 ⊢; exact (decide_eq_true h4).symm ▸ rfl),
              mallocs := (by simp only [Frame.count] at h4 ⊢; simp [hf.mallocs, h4]),
              kinds := (by intro r hr; simp only [hf.recs] at hr; cases hr), pos := hf.pos, dl := hd,
              len := (by simp [hf.recs]), frees := hf.frees, unlocked := hf.unlocked, held := hf.held, ready := hr,
              deqRes := hf.deqRes, min := hf.min, freed := hf.freed }
    · simp [hf.recs]
  case init i r oid hpc hoid hdead hrid hi hs =>
    rw [hpc] at hinv
    simp only [setPc_pc, setPc_fr, setFr_fr, if_true]
    obtain ⟨hp, hl, hi', hw⟩ := hinv
    rw [hfr] at hp hl hi' hw ⊢
    have hp' : PreLoop { s.fr t with recs := (s.fr t).recs ++ [r] } :=
      { hp with kinds := recKind_append hp.kinds (recKind_of_ridOk hrid),
                len := by simp [Frame.count] at hi' ⊢; omega }
    split
    · rename_i hcv
      refine ⟨hp', by simp [hl], ?_, hw⟩
      cases oid <;> simp [ObjId.isCv] at hcv; exact ⟨_, hoid⟩
    · rename_i hcv
      refine ⟨hp', by simp [hl], ?_, hw⟩
      cases oid <;> simp [ObjId.isCv] at hcv <;> first | exact .inl ⟨_, hoid⟩ | exact .inr ⟨_, hoid⟩
  case unlockMu hpc =>
    rw [hpc] at hinv
    simp only [setPc_pc, setPc_fr, setFr_fr, if_true]
    obtain ⟨hp, hl, hm⟩ := hinv
    apply linv_loopNext
    exact { toAlloc := { hp.toAlloc with }, frees := hp.frees, unlocked := hm.symm, held := rfl, ready := hp.ready,
            deqRes := hp.deqRes, freed := hp.freed, full := hl,
            whyMin := by intro hmin; simp only at hmin; rw [hp.min, hp.dl] at hmin; cases hmin }
  case timeout j w hex hw hpc =>
    rw [hpc] at hinv; simp only [setPc_pc, setPc_fr, setFr_fr, if_true]
    exact linv_pdTimeout _ (by rw [hw]; split <;> nofun) hinv.1
  case free hpc hs =>
    rw [hpc] at hinv
    simp only [setPc_pc, setPc_fr, setFr_fr, if_true]
    obtain ⟨hd, hl, hh, hf⟩ := hinv
    have h4 : 4 < (s1.fr t).count := by have := hd.heap; simpa [hh] using this
    have hpost : Post { s1.fr t with frees := (s1.fr t).frees + 1 } :=
      { toAlloc := { hd.toAlloc with }, frees := (by simp [hd.frees, hd.mallocs, h4]), unl := hd.unl,
        rdy := { hd.rdy with }, why := hd.why, dlen := hl, freed := hf, npos := hd.npos }
    exact linv_relockNext hpost hd.held
  case relock hpc =>
    rw [hpc] at hinv
    simp only [setPc_pc, setPc_fr, setFr_fr, if_true]
    obtain ⟨hp, hu, hh⟩ := hinv
    refine ⟨rfl, .inr ⟨{ hp with rdy := { hp.rdy with } }, ?_⟩⟩
    simp [(hp.unl hu).1]
  case ret r hpc hs => simp [LInv]

theorem linv_of_reachable {s : State} (h : Reachable s) : ∀ t, LInv (s.pc t) (s.fr t) := by
  refine reachable_inv (P := fun s => ∀ t, LInv (s.pc t) (s.fr t)) (fun t => trivial) (fun _ _ ih _ => ih) ?_ h
  intro s s' u ev _ ih hs t
  by_cases hu : t = u
  · subst hu; exact linv_stepThr (ih t) hs
  · obtain ⟨h1, _, _, h4⟩ := others_stepThr hs t hu
    rw [h1]; exact LInv.same h4 (ih t)

end WaitN
