import NsyncVerif.Proofs.MuQRefine
import NsyncVerif.Proofs.MuQInvLive
/-
  MuQ: the invariants in every reachable state, and their consequences at the level of program
  points (used by Props/C02, C13Mu, C14).
-/
namespace NsyncVerif.MuQ

theorem reachable_inv {cfg : Cfg} {s : State} (h : Reachable cfg s) : AInv (abs s) :=
  reachable_ainv (P := AInv) ainv_init (fun _ _ hp st => ainv_step hp st) s h

/-- The share thread `t` owns in the word: what the client holds, or what a call in progress has
    acquired and not yet returned / not yet released. -/
def shareOf (s : State) (t : Tid) : Option Mode := tshare (s.held t) (s.pc t)

/-- Woken (or being woken) inside lock_slow, not yet acquired or re-queued. -/
def InFlightC (s : State) (t : Tid) : Prop :=
  ∃ c ph, role (s.pc t) = .slow c ph ∧
    ((ph = .pre ∧ c.clear = true) ∨ (ph.inLoop = true ∧ ∃ k, c.w = some k ∧ k ∉ s.queue))

/-- Inside unlock_slow between grab CAS and final CAS. -/
def UnlockingC (s : State) (u : Tid) : Prop :=
  (∃ sc, role (s.pc u) = .scan sc) ∨ (∃ f, role (s.pc u) = .fin f)

theorem inflight_abs (s : State) (t : Tid) : InFlight (abs s) t ↔ InFlightC s t := Iff.rfl
theorem unlocking_abs (s : State) (u : Tid) : Unlocking (abs s) u ↔ UnlockingC s u := Iff.rfl

def IdleHoldingNothing (s : State) (t : Tid) : Prop := s.pc t = .idle ∧ s.held t = none

/-- Blocked in `nsync_mu_semaphore_p` on a semaphore whose count is 0. -/
def AsleepOnSem (s : State) (t : Tid) : Prop :=
  ∃ c k, s.pc t = .lsPRet c ∧ c.w = some k ∧ (s.wr k).sem = 0

theorem woken_not_lost {cfg : Cfg} {s : State} (h : Reachable cfg s) {t : Tid} {c : SL} {ph : Phase} {k : Wid}
    (hr : role (s.pc t) = .slow c ph) (hph : ph.inLoop = true) (hw : c.w = some k) (hk : k ∉ s.queue) :
    ((s.wr k).waiting = false ∧
      (ph = .loopLd ∨ (s.wr k).sem ≠ 0 ∨ ∃ u l r, s.pc u = .usWakeV l k r)) ∨
    ((s.wr k).waiting = true ∧ ∃ u, k ∈ (role (s.pc u)).wake) := by
  have inv := reachable_inv h
  cases hwt : (s.wr k).waiting with
  | true =>
    right; refine ⟨rfl, ?_⟩
    rcases inv.queue.wt k hwt with h1 | ⟨u, hu⟩
    · exact absurd h1 hk
    · exact ⟨u, hu⟩
  | false =>
    left; refine ⟨rfl, ?_⟩
    cases ph with
    | loopLd => exact Or.inl rfl
    | loopP =>
      right
      rcases inv.live.post t c k hr hw hwt with h1 | ⟨u, r, hu⟩
      · exact Or.inl h1
      · right
        have hu' : role (s.pc u) = .wakeV k r := hu
        cases hp : s.pc u <;> simp [hp, role] at hu'
        obtain ⟨rfl, rfl⟩ := hu'
        exact ⟨u, _, _, hp⟩
    | pre => cases hph
    | st => cases hph
    | rel => cases hph

theorem responsible {cfg : Cfg} {s : State} (h : Reachable cfg s) {k : Wid} (hk : k ∈ s.queue) :
    (∃ t, shareOf s t ≠ none) ∨ (∃ t, InFlightC s t) ∨ (∃ u, UnlockingC s u) :=
  (reachable_inv h).live.resp (Or.inl (List.ne_nil_of_mem hk))

theorem unlocking_holds_spin {cfg : Cfg} {s : State} (h : Reachable cfg s) {u : Tid} (hu : UnlockingC s u) :
    s.sp = some u := by
  have inv := reachable_inv h
  refine (inv.spin.own u).2 ?_
  rcases hu with ⟨sc, hr⟩ | ⟨f, hr⟩ <;> (show (role (s.pc u)).spin = true) <;> rw [hr] <;> rfl

theorem pcShare_of_slow {p : PC} {c : SL} {ph : Phase} (h : role p = .slow c ph) : pcShare p = none := by
  cases p <;> first | rfl | cases h

/-- In the wait loop of lock_slow with nothing in sight to let the thread out: its `waiting` flag
    is set, or it is in P on a count of 0. -/
def Parked (s : State) (t : Tid) : Prop :=
  ∃ c ph k, role (s.pc t) = .slow c ph ∧ ph.inLoop = true ∧ c.w = some k ∧
    ((s.wr k).waiting = true ∨ (ph = .loopP ∧ (s.wr k).sem = 0))

/-- If every thread is idle holding nothing or parked, nobody is parked.  A parked thread's record
    is queued, since nobody is there to have it on a wake list or to owe it a V; a queued record
    has somebody responsible (`responsible`), who is neither idle holding nothing nor parked. -/
theorem no_parked {cfg : Cfg} {s : State} (h : Reachable cfg s)
    (hall : ∀ t, IdleHoldingNothing s t ∨ Parked s t) : ∀ t, IdleHoldingNothing s t := by
  have inv := reachable_inv h
  have hside := reachable_side h
  have rol : ∀ u, role (s.pc u) = .quiet ∨ ∃ c ph, role (s.pc u) = .slow c ph ∧ ph.inLoop = true := by
    intro u
    rcases hall u with ⟨h1, _⟩ | ⟨c, ph, _, h1, h2, _⟩
    · left; rw [h1]; rfl
    · exact .inr ⟨c, ph, h1, h2⟩
  have noWake : ∀ u k, k ∉ (role (s.pc u)).wake := by
    intro u k hk
    rcases rol u with h1 | ⟨c, ph, h1, _⟩ <;> rw [h1] at hk <;> cases hk
  have queued : ∀ u c ph k, role (s.pc u) = .slow c ph → ph.inLoop = true → c.w = some k →
      ((s.wr k).waiting = true ∨ (ph = .loopP ∧ (s.wr k).sem = 0)) → k ∈ s.queue := by
    intro u c ph k hr hph hw hx
    apply Classical.byContradiction; intro hk
    rcases woken_not_lost h hr hph hw hk with ⟨hf, h2⟩ | ⟨_, v, hv⟩
    · rcases hx with hx | ⟨rfl, hsem⟩
      · rw [hf] at hx; cases hx
      · rcases h2 with h2 | h2 | ⟨v, l, r, hv⟩
        · cases h2
        · exact h2 hsem
        · rcases rol v with h1 | ⟨_, _, h1, _⟩ <;> rw [hv] at h1 <;> cases h1
    · exact noWake v k hv
  intro t
  rcases hall t with h1 | ⟨c, ph, k, hr, hph, hw, hx⟩
  · exact h1
  · exfalso
    rcases responsible h (queued t c ph k hr hph hw hx) with ⟨u, hu⟩ | ⟨u, hu⟩ | ⟨u, hu⟩
    · apply hu
      rcases hall u with ⟨h1, h2⟩ | ⟨c1, ph1, _, h1, _⟩
      · simp [shareOf, tshare, h1, h2, pcShare]
      · have hne : s.pc u ≠ .idle := fun e => by rw [e] at h1; cases h1
        rw [shareOf, held_none_of_active hside.2 hne]; exact pcShare_of_slow h1
    · obtain ⟨c1, ph1, hr1, hy⟩ := hu
      rcases hall u with ⟨h1, _⟩ | ⟨c2, ph2, k2, h1, h2, hw2, hx2⟩
      · rw [h1] at hr1; cases hr1
      · have hr1' : role (s.pc u) = .slow c1 ph1 := hr1
        rw [h1] at hr1'; cases hr1'
        rcases hy with ⟨rfl, _⟩ | ⟨_, k3, hw3, hk3⟩
        · cases h2
        · rw [hw2] at hw3; cases hw3
          exact hk3 (queued u _ _ k2 h1 h2 hw2 hx2)
    · rcases hu with ⟨sc, hr1⟩ | ⟨f, hr1⟩ <;> rcases rol u with h1 | ⟨_, _, h1, _⟩ <;>
        (have hr1' : role (s.pc u) = _ := hr1) <;> rw [h1] at hr1' <;> cases hr1'

theorem no_stuck_state {cfg : Cfg} {s : State} (h : Reachable cfg s)
    (hall : ∀ t, IdleHoldingNothing s t ∨ AsleepOnSem s t) : ∀ t, IdleHoldingNothing s t :=
  no_parked h fun t => (hall t).imp_right fun ⟨c, k, hp, hw, hs⟩ =>
    ⟨c, .loopP, k, by rw [hp]; rfl, rfl, hw, .inr ⟨rfl, hs⟩⟩

end NsyncVerif.MuQ
