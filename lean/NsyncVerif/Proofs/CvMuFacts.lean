/-
  Composition CvFix × MuX (`Model/CvMu.lean`): the facts about the two ACCEPTORS (no clocks yet)
  that the composed clock invariant needs.
    CvFix   `xfer_frame`     while a record is in status `xfer`, its `waiting` flag is changed only by
                             a foreign store `fSt _ r .waiting _`;
            `xfer_no_store`  … and no other accepted event is a plain store to that flag;
            `muCas_accepted` a successful CAS of cv.c on a mutex word is cv.c/1 at `wwMuCas` or
                             cv.c/3 at `wwRelCas`;
            `fSt_waiting`    effect of a foreign store to `waiting`;
    MuX     `mux_sp`         how an accepted event changes the holder `sp` of the queue spinlock:
                             not at all, or it is a successful ACQUIRE CAS that takes the free
                             spinlock, or a write of the holder that gives it up;
            `mux_st`         a plain store to the word is a RELEASE store by the holder.
-/
import NsyncVerif.Model.CvMu
import NsyncVerif.Proofs.CvFixVCInv
import NsyncVerif.Proofs.MuX

namespace NsyncVerif.CvMu
open NsyncVerif NsyncVerif.CvFix

theorem inTransfer_muHeld (l : Loc) : inTransfer l = l.muHeld := by cases l <;> rfl

theorem mOrd_siteOrd (site : MSite) : mOrd site = siteOrd (mSite site) := by cases site <;> rfl

/-- A record that is `xfer` after a transition has the `waiting` flag it had before, unless the
    transition is a foreign store to that flag. -/
theorem xfer_frame {cfg : Config} {s s' : State} {e : Event} (hi : Inv s) (h : Tr cfg s e s')
    (r : Rid) (hw : (s'.recs r).stat = .xfer) (hne : ∀ v new, e ≠ .fSt v r .waiting new) :
    (s'.recs r).waiting = (s.recs r).waiting := by
  have h := h.rcd hi.a hi.b.weak r
  generalize s'.recs r = b at h hw ⊢
  generalize s.recs r = a at h ⊢
  cases h with
  | fStW v new => exact absurd rfl (hne v new)
  | clr _ _ _ h | wInit _ _ h | nwInit _ _ _ h => rw [h] at hw; cases hw
  | deqSt _ _ _ h => exact h.elim (fun h => by rw [h] at hw; cases hw) (fun h => nomatch h)
  | wake _ _ _ h => simp [h] at hw
  | wSt1 | enqSt => cases hw
  | _ => rfl

/-- While a record is `xfer`, the only accepted plain stores to its `waiting` flag are foreign. -/
theorem xfer_no_store {cfg : Config} {s s' : State} {e : Event} (hi : Inv s)
    (hs : step cfg s e = .ok s') (r : Rid) (hw : (s.recs r).stat = .xfer)
    (hst : stOn e = some (.fld r .waiting)) : ∃ v new, e = .fSt v r .waiting new := by
  rcases waiting_store hi hs r hst with h | h | h | ⟨t, h⟩
  · exact h
  all_goals rw [hw] at h; cases h

/-- Effect of an accepted foreign store to a `waiting` flag. -/
theorem fSt_waiting {cfg : Config} {s s' : State} {v : Tid} {r : Rid} {new : Nat}
    (hs : step cfg s (.fSt v r .waiting new) = .ok s') :
    new ≤ 1 ∧ (s'.recs r).waiting = decide (new = 1) := by
  simp only [step, need_ok] at hs
  obtain ⟨_, _, h1, hs⟩ := hs
  cases hs
  exact ⟨h1, by simp⟩

/-- A successful CAS of cv.c on a mutex word: cv.c/1 at `wwMuCas`, or cv.c/3 at `wwRelCas`. -/
theorem muCas_accepted {cfg : Config} {s s' : State} {t : Tid} {site : MSite} {exp new obs : Nat}
    (hs : step cfg s (.muCas t site exp new obs true) = .ok s') :
    (site = .wwCas ∧ (s.thr t).loc = .wwMuCas) ∨ (site = .wwRelCas ∧ (s.thr t).loc = .wwRelCas) := by
  simp only [step] at hs
  unfold stepMuCas at hs
  dsimp only at hs
  simp only [need_ok] at hs
  obtain ⟨_, _, hs⟩ := hs
  split at hs
  · rename_i hl; exact .inl ⟨rfl, hl⟩
  · rename_i hl; exact .inr ⟨rfl, hl⟩
  · cases hs

theorem aw_sp {s s' : MuX.State} {t : MuX.Tid} {new : Nat} {ord : MuX.Ord} {rmw : Bool}
    (h : MuX.applyWrite s t new ord rmw = .ok s') :
    s'.sp = s.sp ∨ (s.sp = none ∧ s'.sp = some t ∧ ord.isAcq = true) ∨ (s.sp = some t ∧ s'.sp = none) := by
  obtain ⟨d, _, _, _, _, hacq, _, sp', hsp, rfl⟩ := MuX.applyWrite_ok h
  cases hsd : MuX.spinDelta (MuX.decode s.word) (MuX.decode new) <;> rw [hsd] at hsp hacq
  · exact .inl hsp
  · exact .inr (.inl ⟨hsp.1, hsp.2, hacq (by simp [MuX.needsAcq])⟩)
  · exact .inr (.inr hsp)

/-- How an accepted event of the mutex protocol changes the holder of the queue spinlock. -/
theorem mux_sp {s s' : MuX.State} {x : MuX.Ev} (h : MuX.step s x = .ok s') :
    s'.sp = s.sp ∨
    (∃ t exp new ord, x = .cas t exp new ord ∧ ord.isAcq = true ∧ s.sp = none ∧ s'.sp = some t) ∨
    (s.sp = some x.tid ∧ s'.sp = none ∧
      ((∃ t exp new ord, x = .cas t exp new ord) ∨ ∃ t new ord, x = .st t new ord)) := by
  rcases MuX.step_ok h with ⟨new, ord, rmw, hw, _, he⟩ | ⟨_, _, _, _, _, rfl⟩
  · rcases aw_sp hw with h1 | ⟨h1, h2, h3⟩ | ⟨h1, h2⟩
    · exact .inl h1
    · rcases he with ⟨⟨exp, he⟩, _⟩ | ⟨he, _⟩
      · exact .inr (.inl ⟨_, exp, new, ord, he, h3, h1, h2⟩)
      · rw [he] at h; rw [(MuX.step_st h).1] at h1; cases h1
    · exact .inr (.inr ⟨h1, h2, he.elim (fun ⟨⟨exp, he⟩, _⟩ => .inl ⟨_, exp, new, ord, he⟩)
        fun ⟨he, _⟩ => .inr ⟨_, new, ord, he⟩⟩)
  · exact .inl rfl

/-- A plain store to a mutex word is accepted only from the holder of the spinlock and only as a
    release store. -/
theorem mux_st {s s' : MuX.State} {t : MuX.Tid} {new : Nat} {ord : MuX.Ord}
    (h : MuX.step s (.st t new ord) = .ok s') : s.sp = some t ∧ ord.isRel = true :=
  ⟨(MuX.step_st h).1, (MuX.step_st h).2.2.2.1⟩

end NsyncVerif.CvMu
