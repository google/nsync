/-
  Layer `Note`, invariant family S (soundness of notification): every notification has a cause —
  `nsync_note_notify` was called on the note or on a note that was on its path to the root, or
  the deadline of such a note has passed.  The definitions (`InvS`; `SClaim`: what a program counter
  knows), that every claim survives any step (`SClaim.stable`) and the control transfers; the claim
  of the acting thread after its step (`SClaim.own`); preservation (`step_invS`, `Reachable.invS`).
-/
import NsyncVerif.Proofs.NoteInvN
import NsyncVerif.Proofs.NoteForestStep


namespace Note

/-- `p` was on the path from `c` to the root when `c` was created, together with its own path. -/
def Above (s : State) (p c : NoteId) : Prop :=
  p ∈ s.ancEver c ∧ ∀ a, a ∈ s.ancEver p → a ∈ s.ancEver c

theorem Caused.up {s : State} {p c : NoteId} (h : Above s p c) (hc : Caused s p) : Caused s c := by
  obtain ⟨a, ha, hh⟩ := hc
  exact ⟨a, h.2 a ha, hh⟩

theorem Above.trans {s : State} {a b c : NoteId} (h1 : Above s a b) (h2 : Above s b c) :
    Above s a c :=
  ⟨h2.2 a h1.1, fun x hx => h2.2 x (h1.2 x hx)⟩

/-- The deadline `e` read from a note is the own deadline of a note on its path. -/
def DlFrom (s : State) (n : NoteId) (e : Nat) : Prop :=
  ∃ a, a ∈ s.ancEver n ∧ s.ownDl a = some e

def DKS (s : State) (n : NoteId) : DK → Prop
  | .notifyApi => s.notifyCalled n = true ∧ (s.notes n).allocated = true
  | .newSelf par dl =>
    ∀ p, par = some p → (s.notes n).allocated = true ∧ (s.notes p).allocated = true ∧
      s.ancEver n = n :: s.ancEver p ∧ s.ownDl n = dl
  | _ => True

def NKS (s : State) (n : NoteId) : NK → Prop
  | .ofApi => True
  | .ofDeadline dk => DKS s n dk

/-- The child of the head note that the loop has selected. -/
@[simp] def CPos.child : CPos → Option NoteId
  | .lockChild c | .lockChildRet c => some c
  | _ => none

@[simp] def FPos.inLoop : FPos → Bool
  | .lockChild | .lockChildRet => true
  | _ => false

/-- What a program counter knows (family S). -/
def SClaim (s : State) : PC → Prop
  | .newMalloc par _ => ∀ p, par = some p → (s.notes p).allocated = true
  | .dl pos n nt dk =>
    DKS s n dk ∧ (pos.late = true → ∀ e, nt = some e → e ≠ 0 → DlFrom s n e) ∧
    (pos = .now → nt.pos)
  | .nfy _ n _ nk => NKS s n nk ∧ Caused s n
  | .chd pos stk top =>
    NKS s top.n top.k ∧ Caused s top.n ∧ (∀ g ∈ stk, Caused s g.note) ∧
    (∀ c, pos.child = some c → Caused s c)
  | .newP pos n p _ =>
    (s.notes n).allocated = true ∧ (s.notes p).allocated = true ∧
    s.ancEver n = n :: s.ancEver p ∧ (pos = .st → Caused s p)
  | .fr pos n par c _ =>
    (∀ p, par = some p → Above s p n) ∧ (pos.inLoop = true → Above s n c)
  | _ => True

structure InvS (s : State) : Prop where
  claim : ∀ t, SClaim s (s.pc t)
  flag : ∀ n, (s.notes n).notified = true → Caused s n
  expiry : ∀ n e, (s.notes n).allocated = true → (s.notes n).expiry = some e →
    DlFrom s n e ∨ (e = 0 ∧ Caused s n)
  children : ∀ p c, c ∈ (s.notes p).children → Above s p c
  parent : ∀ p c, (s.notes c).parent = some p → Above s p c
  self : ∀ n, (s.notes n).allocated = true → n ∈ s.ancEver n
  unalloc : ∀ n, (s.notes n).allocated = false → s.ancEver n = []
  anc : ∀ n a, a ∈ s.ancEver n → (s.notes a).allocated = true

theorem InvS.init : InvS Note.init := by
  refine ⟨?_, ?_, ?_, ?_, ?_, ?_, ?_, ?_⟩ <;> simp [Note.init, SClaim, NoteRec.blank]

/-- A notified note has a cause. -/
theorem InvS.caused_of_notified {s : State} (hS : InvS s) {n : NoteId}
    (ha : (s.notes n).allocated = true) (hn : s.Notified n) : Caused s n := by
  rcases hn with hf | he
  · exact hS.flag n hf
  · rcases hS.expiry n 0 ha he with ⟨a, h1, h2⟩ | ⟨_, h⟩
    · exact ⟨a, h1, Or.inr ⟨0, h2, Nat.zero_le _⟩⟩
    · exact h

theorem InvS.alloc_of_anc {s : State} (h : InvS s) {n a : NoteId} (ha : a ∈ s.ancEver n) :
    (s.notes n).allocated = true := by
  cases hn : (s.notes n).allocated with
  | true => rfl
  | false => rw [h.unalloc n hn] at ha; simp at ha

theorem ancEver_step {s s' : State} {e : Event} (hS : InvS s) (hs : step s e = .ok s')
    {n a : NoteId} (ha : a ∈ s.ancEver n) : s'.ancEver n = s.ancEver n :=
  ((step_stable hs).ghost n (hS.alloc_of_anc ha)).2.1

theorem Caused.stable {s s' : State} {e : Event} (hS : InvS s) (hs : step s e = .ok s')
    {n : NoteId} (h : Caused s n) : Caused s' n := by
  have hst := step_stable hs
  obtain ⟨a, ha, hh⟩ := h
  refine ⟨a, by rw [ancEver_step hS hs ha]; exact ha, ?_⟩
  rcases hh with hh | ⟨e, he, hle⟩
  · left; exact hst.called a hh
  · right
    refine ⟨e, ?_, Nat.le_trans hle hst.now⟩
    rw [(hst.ghost a (hS.anc n a ha)).1]; exact he

theorem Above.stable {s s' : State} {e : Event} (hS : InvS s) (hs : step s e = .ok s')
    {p c : NoteId} (h : Above s p c) : Above s' p c := by
  have hc := ancEver_step hS hs h.1
  have hp := ancEver_step hS hs (hS.self p (hS.anc c p h.1))
  unfold Above
  rw [hc, hp]
  exact h

theorem DlFrom.stable {s s' : State} {e : Event} (hS : InvS s) (hs : step s e = .ok s')
    {n : NoteId} {v : Nat} (h : DlFrom s n v) : DlFrom s' n v := by
  obtain ⟨a, ha, hd⟩ := h
  refine ⟨a, by rw [ancEver_step hS hs ha]; exact ha, ?_⟩
  rw [((step_stable hs).ghost a (hS.anc n a ha)).1]; exact hd

theorem DKS.stable {s s' : State} {e : Event} (hs : step s e = .ok s')
    {n : NoteId} {dk : DK} (h : DKS s n dk) : DKS s' n dk := by
  have hst := step_stable hs
  cases dk with
  | notifyApi => exact ⟨hst.called n h.1, hst.alloc n h.2⟩
  | newSelf par dl =>
    intro p hp
    obtain ⟨h0, h1, h2, h3⟩ := h p hp
    exact ⟨hst.alloc n h0, hst.alloc p h1,
      by rw [(hst.ghost n h0).2.1, (hst.ghost p h1).2.1]; exact h2,
      by rw [(hst.ghost n h0).1]; exact h3⟩
  | _ => trivial

theorem NKS.stable {s s' : State} {e : Event} (hs : step s e = .ok s')
    {n : NoteId} {nk : NK} (h : NKS s n nk) : NKS s' n nk := by
  cases nk with
  | ofApi => trivial
  | ofDeadline dk => exact DKS.stable hs h

/-- The claims of every thread survive any step (they only mention monotone facts). -/
theorem SClaim.stable {s s' : State} {e : Event} (hS : InvS s) (hs : step s e = .ok s') {pc : PC}
    (hc : SClaim s pc) : SClaim s' pc := by
  have hst := step_stable hs
  cases pc with
  | newMalloc par dl => exact fun p hp => hst.alloc p (hc p hp)
  | dl pos n nt dk =>
    obtain ⟨h2, h3, h4⟩ := hc
    exact ⟨DKS.stable hs h2, fun hl e he h0 => DlFrom.stable hS hs (h3 hl e he h0), h4⟩
  | nfy pos n par nk =>
    exact ⟨NKS.stable hs hc.1, Caused.stable hS hs hc.2⟩
  | chd pos stk top =>
    obtain ⟨h2, h3, h4, h5⟩ := hc
    exact ⟨NKS.stable hs h2, Caused.stable hS hs h3,
      fun g hg => Caused.stable hS hs (h4 g hg), fun c hc' => Caused.stable hS hs (h5 c hc')⟩
  | newP pos n p dl =>
    obtain ⟨h1, h2, h3, h4⟩ := hc
    exact ⟨hst.alloc n h1, hst.alloc p h2,
      by rw [(hst.ghost n h1).2.1, (hst.ghost p h2).2.1]; exact h3,
      fun hp => Caused.stable hS hs (h4 hp)⟩
  | fr pos n par c nx =>
    exact ⟨fun p hp => Above.stable hS hs (hc.1 p hp), fun hl => Above.stable hS hs (hc.2 hl)⟩
  | _ => trivial

/-! ### Claims of the control transfers -/

theorem SClaim.afterDeadlinePc {s : State} (hS : InvS s) {n : NoteId} {nt : Dl} {dk : DK}
    (h : DKS s n dk) : SClaim s (Note.afterDeadlinePc n nt dk) := by
  cases dk with
  | isNotified => trivial
  | notifyApi =>
    simp only [Note.afterDeadlinePc]
    split
    · exact ⟨trivial, n, hS.self n h.2, Or.inl h.1⟩
    · trivial
  | newSelf par dl =>
    simp only [Note.afterDeadlinePc]
    split
    · cases par with
      | none => trivial
      | some p =>
        obtain ⟨h0, h1, h2, _⟩ := h p rfl
        exact ⟨h0, h1, h2, fun hp => by cases hp⟩
    · trivial
  | ready1 wdl => simp only [Note.afterDeadlinePc]; split <;> trivial
  | ready2 r wdl =>
    simp only [Note.afterDeadlinePc]
    split
    · trivial
    · exact ⟨trivial, by simp, by simp⟩
  | dequeue r wdl => trivial

/-- The innermost activation moves on with the same stack, possibly selecting the child `c`. -/
theorem SClaim.chdMove {s : State} (hS : InvS s) {pos pos' : CPos} {f f' : Frame}
    {rest : List Frame} {top : Top} (hc : SClaim s (.chd pos (f :: rest) top))
    (hf : f'.note = f.note) (hch : ∀ c, pos'.child = some c → c ∈ (s.notes f.note).children) :
    SClaim s (.chd pos' (f' :: rest) top) := by
  obtain ⟨h1, h2, h3, _⟩ := hc
  refine ⟨h1, h2, ?_, ?_⟩
  · intro g hg
    rcases List.mem_cons.mp hg with hg | hg
    · subst hg; rw [hf]; exact h3 f (by simp)
    · exact h3 g (List.mem_cons_of_mem _ hg)
  · intro c hc'
    exact Caused.up (hS.children _ _ (hch c hc')) (h3 f (by simp))

theorem dlFrom_of_ntime {s : State} (hS : InvS s) {n : NoteId}
    (hn : (s.notes n).allocated = true) {e : Nat} (he : (s.notes n).ntime = some e) (h0 : e ≠ 0) :
    DlFrom s n e := by
  unfold NoteRec.ntime at he
  split at he
  · simp at he; exact absurd he.symm h0
  · rcases hS.expiry n e hn he with h | ⟨h, _⟩
    · exact h
    · exact absurd h h0

theorem caused_of_deadline {s : State} {n : NoteId} {nt : Dl} {v : Nat}
    (h1 : ∀ e, nt = some e → e ≠ 0 → DlFrom s n e) (h2 : nt.pos) (h3 : nt.leNow v = true)
    (hv : v = s.now) : Caused s n := by
  cases nt with
  | none => simp [Dl.leNow] at h3
  | some e =>
    have h0 : e ≠ 0 := fun h => h2 (by rw [h])
    obtain ⟨a, ha, hd⟩ := h1 e rfl h0
    simp only [Dl.leNow, decide_eq_true_eq] at h3
    exact ⟨a, ha, Or.inr ⟨e, hd, hv ▸ h3⟩⟩

/-- The new program counter's claim holds already in the old state (so that it holds in the new
    one by stability), except where the step itself creates the fact (malloc, call of notify). -/
theorem SClaim.own {s s' : State} {e : Event} {a : Tid} {pc pc' : PC} (hS : InvS s)
    (h : Own s a pc e pc' s') (hc : SClaim s pc) : SClaim s pc' ∨ SClaim s' pc' := by
  cases h
  all_goals (try simp only [acquire_f_children])
  case ld_dl_ld1_1 | unlockRet_dl_unlockRet_2 | now_dl_now_2 | unlockRet_nfy_unlockRet_dl =>
    left; exact SClaim.afterDeadlinePc hS hc.1
  -- an activation of note_notify_child returns
  case ld_chd_ld_2_in | waitRet_chd_waitRet_1_in =>
    left; exact ⟨hc.1, hc.2.1, fun x hx => hc.2.2.1 x (List.mem_cons_of_mem _ hx), by simp⟩
  case ld_chd_ld_2_par | ld_chd_ld_2_top | waitRet_chd_waitRet_1_par | waitRet_chd_waitRet_1_top =>
    left; exact ⟨hc.1, hc.2.1⟩
  -- the loops over the children start with the first child
  case stNote_chd_st_wake | stNote_chd_st_none | semV_chd_semV_wake | semV_chd_semV_none =>
    left; exact SClaim.chdMove hS hc rfl (by simp)
  case stNote_chd_st_child | semV_chd_semV_child | waitRet_chd_waitRet_2 =>
    left
    refine SClaim.chdMove hS hc rfl fun c' hc' => ?_
    simp only [CPos.child, Option.some.injEq] at hc'
    subst hc'; simp [*]
  case lockRet_fr_sLockNRet_child | tryRet_fr_tryRet_1_child | waitRet_fr_waitRet_3 =>
    left; exact ⟨hc.1, fun _ => hS.children _ _ (mem_of_eq_cons ‹_›)⟩
  case lockRet_fr_lockRet_2_child =>
    left; exact ⟨(fun _ h => by cases h), fun _ => hS.children _ _ (mem_of_eq_cons ‹_›)⟩
  case lockRet_fr_sLockNRet_none | tryRet_fr_tryRet_1_none => left; exact ⟨hc.1, by simp⟩
  -- call nsync_note_new with a parent
  case call_new_2 => left; intro p hp; cases hp; exact (by assumption : s.Live _).1
  -- call nsync_note_notify
  case call_notify =>
    right
    exact ⟨⟨by simp, by simpa using (by assumption : s.Live _).1⟩, by simp, by simp⟩
  -- the load under the lock in nsync_note_notified_deadline_
  case ld_dl_ld2 =>
    left
    obtain ⟨_, hkn⟩ := (by assumption : _ = Site.dlLd2 ∧ _)
    subst hkn
    exact ⟨hc.1, fun _ e he h0 => dlFrom_of_ntime hS (by assumption) he h0, by simp⟩
  -- free: the parent is read
  case lockRet_fr_lockRet_1 =>
    left
    refine ⟨fun p hp => ?_, by simp⟩
    cases hp
    exact hS.parent _ _ (by assumption)
  -- the loops move to the next child
  case unlockRet_chd_unlockChildRet_1 =>
    left
    refine SClaim.chdMove hS hc rfl ?_
    intro c hc'
    simp only [CPos.child, Option.some.injEq] at hc'
    subst hc'; assumption
  case unlockRet_fr_unlockChildRet_1 =>
    left
    exact ⟨hc.1, fun _ => hS.children _ _ (by assumption)⟩
  -- the deadline has passed: notify
  case now_dl_now_1 =>
    left
    exact ⟨hc.1, caused_of_deadline (hc.2.1 rfl) (hc.2.2 rfl) (by assumption) (by assumption)⟩
  -- nsync_note_new finds the parent notified
  case ld_newP_ld_2 =>
    left
    obtain ⟨h1, h2, h3, _⟩ := hc
    refine ⟨h1, h2, h3, fun _ => hS.caused_of_notified h2 (notified_of_ntime (by assumption))⟩
  -- nsync_note_new: positions after the load / the store
  -- malloc
  case malloc_newMalloc_2 =>
    rename_i k _ _ hfresh
    right
    refine ⟨?_, by simp, by simp⟩
    intro p hp
    subst hp
    have hp := hc p rfl
    have hne : p ≠ k := fun e => by subst e; simp [hp] at hfresh
    refine ⟨by simp, by simp [hne, hp], ?_, by simp⟩
    simp [State.ancOf, upd_apply, hne]
  all_goals (try (left; simp [SClaim, DKS]; done))
  all_goals (try (left; simp_all [SClaim, NKS]; done))

theorem above_of_cons {s : State} (hS : InvS s) {c p : NoteId} (hp : (s.notes p).allocated = true)
    (h : s.ancEver c = c :: s.ancEver p) : Above s p c :=
  ⟨by rw [h]; exact List.mem_cons_of_mem _ (hS.self p hp),
   fun a ha => by rw [h]; exact List.mem_cons_of_mem _ ha⟩

theorem step_invS {s s' : State} {e : Event} (hS : InvS s) (hs : step s e = .ok s') : InvS s' := by
  have hst := step_stable hs
  have hcl : ∀ t, SClaim s' (s'.pc t) :=
    claims_step (C := fun s _ pc => SClaim s pc) hs
      (fun _ _ _ h _ hc => (SClaim.own hS h hc).elim (SClaim.stable hS hs) id)
      (fun _ _ hc => SClaim.stable hS hs hc) hS.claim
  -- the ghost history of a freshly allocated note
  have hnew : ∀ n, (s.notes n).allocated = false → (s'.notes n).allocated = true →
      ∃ a par dl, s.pc a = .newMalloc par dl ∧
        s'.notes n = { NoteRec.blank with expiry := dl, allocated := true } ∧ s'.ownDl n = dl ∧
        s'.ancEver n = n :: s.ancOf par := by
    intro n h0 h1
    rcases step_alloc hs n h1 with h | ⟨a, par, dl, _, hpc, hrec, _, hod, han, _⟩
    · simp [h0] at h
    · exact ⟨a, par, dl, hpc, hrec, hod, han⟩
  have hanc : ∀ n, (s.notes n).allocated = true → s'.ancEver n = s.ancEver n :=
    fun n hn => (hst.ghost n hn).2.1
  refine ⟨hcl, ?_, ?_, ?_, ?_, ?_, ?_, ?_⟩
  · -- flag
    intro n hn
    rcases step_flag_new hs n hn with h | ⟨a, f, rest, top, _, hpc, hf⟩ | ⟨a, p, dl, _, hpc⟩
    · exact Caused.stable hS hs (hS.flag n h)
    · have hc := hS.claim a
      rw [hpc] at hc
      exact Caused.stable hS hs (hf ▸ hc.2.2.1 f (by simp))
    · have hc := hS.claim a
      rw [hpc] at hc
      obtain ⟨_, hp, hae, hcp⟩ := hc
      exact Caused.stable hS hs (Caused.up (above_of_cons hS hp hae) (hcp rfl))
  · -- expiry
    intro n e hn he
    cases h0 : (s.notes n).allocated with
    | false =>
      obtain ⟨a, par, dl, _, hrec, hod, han⟩ := hnew n h0 hn
      left
      rw [hrec] at he
      exact ⟨n, by rw [han]; simp, by rw [hod]; exact he⟩
    | true =>
      rcases step_expiry hs n h0 with h | ⟨a, p, dl, _, _, hpc, hexp⟩
      · rw [h] at he
        rcases hS.expiry n e h0 he with h | ⟨h1, h2⟩
        · left; exact DlFrom.stable hS hs h
        · right; exact ⟨h1, Caused.stable hS hs h2⟩
      · have hc := hS.claim a
        have hd : DKS s n (.newSelf (some p) dl) := by
          rcases hpc with ⟨pos, nt, hpc⟩ | ⟨pos, par, hpc⟩
          · rw [hpc] at hc; exact hc.1
          · rw [hpc] at hc; exact hc.1
        obtain ⟨_, hp, hae, hown⟩ := hd p rfl
        have hab : Above s p n := above_of_cons hS hp hae
        rw [hexp] at he
        unfold Dl.min at he
        split at he
        · rcases hS.expiry p e hp he with ⟨x, hx, hd⟩ | ⟨h1, h2⟩
          · left; exact DlFrom.stable hS hs ⟨x, hab.2 x hx, hd⟩
          · right; exact ⟨h1, Caused.stable hS hs (Caused.up hab h2)⟩
        · left
          exact DlFrom.stable hS hs ⟨n, hS.self n h0, by rw [hown]; exact he⟩
  · -- children
    intro p c hc
    rcases step_children' hs p c hc with h | ⟨a, dl, _, hpc, _⟩ | ⟨a, n, nx, _, hpc, _⟩
    · exact Above.stable hS hs (hS.children p c h)
    · have hcl := hS.claim a
      rw [hpc] at hcl
      exact Above.stable hS hs (above_of_cons hS hcl.2.1 hcl.2.2.1)
    · have hcl := hS.claim a
      rw [hpc] at hcl
      exact Above.stable hS hs (Above.trans (hcl.1 p rfl) (hcl.2 rfl))
  · -- parent
    intro p c hc
    rcases step_parent hs p c hc with h | ⟨a, dl, _, hpc⟩ | ⟨a, n, nx, _, hpc⟩
    · exact Above.stable hS hs (hS.parent p c h)
    · have hcl := hS.claim a
      rw [hpc] at hcl
      exact Above.stable hS hs (above_of_cons hS hcl.2.1 hcl.2.2.1)
    · have hcl := hS.claim a
      rw [hpc] at hcl
      exact Above.stable hS hs (Above.trans (hcl.1 p rfl) (hcl.2 rfl))
  · -- self
    intro n hn
    cases h0 : (s.notes n).allocated with
    | false =>
      obtain ⟨_, _, _, _, _, _, han⟩ := hnew n h0 hn
      rw [han]; simp
    | true => rw [hanc n h0]; exact hS.self n h0
  · -- unalloc
    intro n hn
    have h0 : (s.notes n).allocated = false := by
      cases h : (s.notes n).allocated with
      | false => rfl
      | true => rw [hst.alloc n h] at hn; cases hn
    rcases step_ghost hs n with ⟨h, _, _⟩ | ⟨_, h⟩
    · rw [h]; exact hS.unalloc n h0
    · rw [h] at hn; cases hn
  · -- anc
    intro n a ha
    rcases step_ghost hs n with ⟨h, _, _⟩ | ⟨h0, h1⟩
    · rw [h] at ha; exact hst.alloc a (hS.anc n a ha)
    · obtain ⟨t, par, dl, hpc, _, _, han⟩ := hnew n h0 h1
      rw [han] at ha
      rcases List.mem_cons.mp ha with ha | ha
      · subst ha; exact h1
      · cases par with
        | none => simp [State.ancOf] at ha
        | some p => exact hst.alloc a (hS.anc p a ha)

theorem Reachable.invS {s : State} (h : Reachable s) : InvS s :=
  Reachable.induction InvS.init (fun _ _ _ _ hi hs => step_invS hi hs) s h

end Note
