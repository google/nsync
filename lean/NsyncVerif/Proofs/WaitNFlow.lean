/-
  Proofs/WaitNFlow.lean — the control flow of nsync_wait_n, nsync_cv_signal / nsync_cv_broadcast and the waitable
  functions as relations on program points, without the state.
  * `Flow p p'`: the moves inside one call, one edge relation per sub-state machine of the model (`SpinE`, `SgE`, `NdE`,
    `CvEnqE`, `EnqE`, `CvDeqE`, `DeqE`); the guards that pick an edge and are visible in the event stay as fields.
  * `Entry p`: where the program-counter arithmetic of wait.c (`relockNext` … `pollNext`) lands.
  * `RtAt`, `EnqAt`: the program points a `ready_time` / `enqueue` call returns from.
  * `driven`, `stays`, `stmt`: protocol-driven code, program points a step may stay at, the statements of wait.c.
  The step layer (Proofs/WaitNAct.lean) attaches one of these to every shape of a step.
-/
import NsyncVerif.Proofs.WaitNBase

namespace WaitN

/-! ### the control flow inside the waitable calls and nsync_cv_signal / nsync_cv_broadcast

One relation per sub-state machine of the model: its edges are the moves a step makes without leaving the call
(`Tail.goto`); the returns (`rtDone`, `afterEnq`, `deqDone`), the entry of cv_dequeue's wait loop (`giveUp`) and the
statements of wait.c are shapes of `Tail` of their own. -/

/-- nsync_spin_test_and_set_: load until the lock bit is clear, then try the CAS -/
inductive SpinE : SpinSt → SpinSt → Prop
  | again : SpinE .ld .ld
  | try_ (v : Nat) : SpinE .ld (.cas v)
  | fail (v : Nat) : SpinE (.cas v) .ld

inductive SgE : SgSt → SgSt → Prop
  | loadSpin : SgE .load (.spin .ld)
  | loadRet : SgE .load .ret
  | spin {a b : SpinSt} (h : SpinE a b) : SgE (.spin a) (.spin b)
  | got (v : Nat) : SgE (.spin (.cas v)) .held
  | heldRet : SgE .held .ret
  | heldWake (l : List Rid) (hl : ¬ l = []) : SgE .held (.wake l)
  /-- the V of wake_waiters (`Tail.vgoto`) -/
  | postLast (x : Rid) (rest : List Rid) (h : rest = []) : SgE (.wake (x :: rest)) .ret
  | postMore (x : Rid) (rest : List Rid) (h : ¬ rest = []) : SgE (.wake (x :: rest)) (.wake rest)

inductive NdE : NDst → NDst → Prop
  | ld0 : NdE .ld0 .lockCall
  | lockCall : NdE .lockCall .lockWait
  | lockWait : NdE .lockWait .ld1
  | ld1 (b : Bool) : NdE .ld1 (.unlockCall b)
  | unlockCall (b : Bool) : NdE (.unlockCall b) (.unlockWait b)
  | unlockWait (b : Bool) (hb : ¬ b = true) : NdE (.unlockWait b) .now
  | now : NdE .now .nfLockCall
  | nfLockCall : NdE .nfLockCall .nfLockWait
  | nfLockWait : NdE .nfLockWait .nfLd0
  | nfLd0Done : NdE .nfLd0 .nfUnlockCall
  | nfLd0 : NdE .nfLd0 .nfLd1
  | nfLd1 : NdE .nfLd1 .nfStore
  | nfStore : NdE .nfStore .nfWake
  | nfWake : NdE .nfWake .nfUnlockWait
  | nfUnlockCall : NdE .nfUnlockCall .nfUnlockWait

inductive CvEnqE : CvEnqSt → CvEnqSt → Prop
  | spin {a b : SpinSt} (h : SpinE a b) : CvEnqE (.spin a) (.spin b)
  | got (v : Nat) : CvEnqE (.spin (.cas v)) .store
  | store : CvEnqE .store .release

inductive EnqE : EnqSt → EnqSt → Prop
  | lockCall : EnqE .lockCall .lockWait
  | lockWait : EnqE .lockWait .load
  | load (b : Bool) : EnqE .load (.store b)
  | store (b : Bool) : EnqE (.store b) (.unlockCall b)
  | unlockCall (b : Bool) : EnqE (.unlockCall b) (.unlockWait b)

inductive CvDeqE : CvDeqSt → CvDeqSt → Prop
  | spin {a b : SpinSt} (h : SpinE a b) : CvDeqE (.spin a) (.spin b)
  | got (v : Nat) : CvDeqE (.spin (.cas v)) .load
  | loadSet : CvDeqE .load .store
  | loadClear : CvDeqE .load (.release false)
  | store : CvDeqE .store (.release true)

inductive DeqE : DeqSt → DeqSt → Prop
  | lockCall : DeqE .lockCall .lockWait
  | lockWait : DeqE .lockWait .load
  | loadNote : DeqE .load (.store true)
  | loadGone : DeqE .load (.unlockCall false)
  | loadCtr (b : Bool) : DeqE .load (.loadW b)
  | loadW (b : Bool) : DeqE (.loadW b) (.store b)
  | loadWGone (b : Bool) : DeqE (.loadW b) (.unlockCall b)
  | store (b : Bool) : DeqE (.store b) (.unlockCall b)
  | unlockCall (b : Bool) : DeqE (.unlockCall b) (.unlockWait b)

/-- the moves of the program counter inside one waitable call or signal call, and into / out of a signal call -/
inductive Flow : PC → PC → Prop
  | sg (c : Nat) (bc : Bool) {st st' : SgSt} (h : SgE st st') : Flow (.sg c bc st) (.sg c bc st')
  | callSig (c : Nat) (bc : Bool) : Flow .idle (.sg c bc .load)
  | retSig (c : Nat) (bc : Bool) : Flow (.sg c bc .ret) .idle
  | ctrRT (u : Use) (i : Nat) : Flow (.wCtrRT u i false) (.wCtrRT u i true)
  | nd (u : Use) (i : Nat) {st st' : NDst} (h : NdE st st') : Flow (.wND u i st) (.wND u i st')
  | enqCv (i : Nat) {st st' : CvEnqSt} (h : CvEnqE st st') : Flow (.wEnqCv i st) (.wEnqCv i st')
  | enq (i : Nat) {st st' : EnqSt} (h : EnqE st st') : Flow (.wEnq i st) (.wEnq i st')
  | deqCv (j : Nat) {st st' : CvDeqSt} (h : CvDeqE st st') : Flow (.wDeqCv j st) (.wDeqCv j st')
  | deq (j : Nat) {st st' : DeqSt} (h : DeqE st st') : Flow (.wDeq j st) (.wDeq j st')

theorem Flow.inCall {p p' : PC} (h : Flow p p') : inCall p' = inCall p := by cases h <;> rfl
theorem Flow.ne_pd {p p' : PC} (h : Flow p p') (j : SemId) : p' ≠ .wPdWait j := by cases h <;> nofun
/-- no move enters the wait loop of cv_dequeue: that is `Tail.giveUp` -/
theorem Flow.ne_wspin {p p' : PC} (h : Flow p p') (j : Nat) : p' ≠ .wDeqCv j .wspin := by
  cases h
  case deqCv h => cases h <;> nofun
  all_goals nofun

/-! ### where the program-counter arithmetic of wait.c lands -/

/-- where the program-counter arithmetic of wait.c lands: the first program point of a statement or of a waitable call -/
inductive Entry : PC → Prop
  | stuck : Entry .stuck
  | ret (r : Nat) : Entry (.wRet r)
  | alloc : Entry .wAlloc
  | init (i : Nat) : Entry (.wInit i)
  | unlock : Entry .wUnlock
  | cvRT (j : Nat) : Entry (.wCvRT j)
  | nd (u : Use) (j : Nat) : Entry (.wND u j .ld0)
  | ctrRT (u : Use) (j : Nat) : Entry (.wCtrRT u j false)
  | pdEnter : Entry .wPdEnter
  | deqCv (j : Nat) : Entry (.wDeqCv j (.spin .ld))
  | deq (j : Nat) : Entry (.wDeq j .lockCall)
  | free : Entry .wFree
  | relock : Entry .wRelock

@[simp] theorem entry_relockNext (f : Frame) : Entry (relockNext f) := by unfold relockNext; split <;> constructor
@[simp] theorem entry_finNext (f : Frame) : Entry (finNext f) := by
  unfold finNext; split
  · constructor
  · exact entry_relockNext f
@[simp] theorem entry_deqNext (f : Frame) (j : Nat) : Entry (deqNext f j) := by
  unfold deqNext; split
  · split <;> constructor
  · exact entry_finNext f
@[simp] theorem entry_scanEnd (f : Frame) : Entry (scanEnd f) := by
  unfold scanEnd; split
  · exact entry_deqNext f 0
  · constructor
@[simp] theorem entry_loopNext (f : Frame) (j : Nat) : Entry (loopNext f j) := by
  unfold loopNext; split
  · split <;> constructor
  · exact entry_scanEnd f
@[simp] theorem entry_enqNext (f : Frame) (i : Nat) (res : Bool) : Entry (enqNext f i res) := by
  unfold enqNext; split
  · constructor
  · split
    · split
      · constructor
      · exact entry_loopNext f 0
    · exact entry_deqNext f 0
@[simp] theorem entry_pollFrom (f : Frame) (l : List ObjId) (i : Nat) : Entry (pollFrom f l i) := by
  induction l generalizing i with
  | nil =>
    unfold pollFrom; split
    · constructor
    · split
      · constructor
      · exact entry_enqNext f 0 true
  | cons o rest ih =>
    cases o with
    | cv c => simp only [pollFrom]; exact ih _
    | note n => constructor
    | ctr k => constructor
@[simp] theorem entry_pollNext (f : Frame) (i : Nat) : Entry (pollNext f i) := entry_pollFrom f _ i

@[simp] theorem Entry.inCall {p : PC} (h : Entry p) : inCall p = true := by cases h <;> rfl
@[simp] theorem Entry.ne_pd {p : PC} (h : Entry p) (j : SemId) : (p = .wPdWait j) = False := by cases h <;> simp

/-- the program points from which a `ready_time` call of use `u` on object `i` returns -/
inductive RtAt : PC → Use → Nat → Prop
  | nd (u : Use) (i : Nat) (st : NDst) : RtAt (.wND u i st) u i
  | ctr (u : Use) (i : Nat) (l : Bool) : RtAt (.wCtrRT u i l) u i
  | cv (j : Nat) : RtAt (.wCvRT j) .loop j

/-- the program points from which enqueue call number `i - 1` returns `res` -/
inductive EnqAt : PC → Nat → Bool → Prop
  | cv (i : Nat) : EnqAt (.wEnqCv i .release) (i + 1) true
  | oth (i : Nat) (res : Bool) : EnqAt (.wEnq i (.unlockWait res)) (i + 1) res

theorem RtAt.inCall {p : PC} {u : Use} {i : Nat} (h : RtAt p u i) : inCall p = true := by cases h <;> rfl
theorem EnqAt.inCall {p : PC} {i : Nat} {res : Bool} (h : EnqAt p i res) : inCall p = true := by cases h <;> rfl

/-- protocol-driven code: unknown API code of an idle thread, and the lazy notification inside
    nsync_note_notified_deadline_ (wake loop of notify ()) -/
def driven : PC → Bool
  | .idle | .wND _ _ .nfWake => true
  | _ => false

/-- program points at which an accepted step may leave the program counter where it is without being an event of
    another layer: protocol-driven code, a signaller clearing `waiting`, the wait loop of cv_dequeue -/
def stays : PC → Bool
  | .idle | .wND _ _ .nfWake | .sg _ _ (.wake _) | .wDeqCv _ .wspin => true
  | _ => false

theorem stays_of_driven {p : PC} (h : driven p = true) : stays p = true := by
  cases p <;> first | rfl | cases h | skip
  rename_i st; cases st <;> first | rfl | cases h

/-- the statements of wait.c between the waitable calls, and cv_ready_time (one load) -/
def stmt : PC → Bool
  | .wAlloc | .wInit _ | .wUnlock | .wCvRT _ | .wPdEnter | .wPdWait _ | .wFree | .wRelock | .wRet _ => true
  | _ => false

theorem inCall_of_stmt {p : PC} (h : stmt p = true) : inCall p = true := by cases p <;> first | rfl | cases h
theorem not_stays_of_stmt {p : PC} (h : stmt p = true) : stays p = false := by
  cases p <;> first | rfl | cases h
theorem Flow.not_stmt {p p' : PC} (h : Flow p p') : stmt p = false := by cases h <;> rfl

end WaitN
