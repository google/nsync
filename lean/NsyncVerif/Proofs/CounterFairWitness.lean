/-
  Proofs/CounterFairWitness.lean — Counter layer: the loops of the two witnesses, "stray posts wake a
  timed-out sleeper for ever" (`strayExec`) and "timed-out waits of another thread take counter_mu for
  ever" (`arriveExec`).
-/
import NsyncVerif.Proofs.CounterFairLasso

namespace Counter

/-- thread 0 (idle, another layer) posts semaphore 1; thread 1 wakes (`pd_ret 0`), runs ready_time
    (value 1: not ready) and goes back to sleep -/
def strayLoop : List Event :=
  [.thr 0 (.semV 1), .thr 1 (.pdRet 1 false), .thr 1 (.st .rlx .waited 1 1), .thr 1 (.ld .acq .value 1),
   .thr 1 (.pdEnter 1 (some 500))]

theorem stray_loop (s : State) (h1 : s.pc 1 = .wPdWait (some 500) 3 1) (h0 : s.pc 0 = .idle)
    (hsem : s.sh.sem 1 = 0) (hnw : (s.sh.nw 3).sem = some 1) (hw : s.sh.waited = true)
    (hv : s.sh.value = 1) : run s strayLoop = .ok s := by
  obtain ⟨sh, pc⟩ := s
  simp only at h1 h0 hsem hnw hw hv
  simp [strayLoop, run, step, stepThr, dflt, h0, h1, State.mk', State.setPc, Shared.setSem, Shared.bind,
    hsem, hnw, hw, hv, b2n]
  refine ⟨?_, ?_⟩
  · have hs : (fun i => if i = 1 then 0 else if i = 1 then 1 else sh.sem i) = sh.sem := by
      funext i; by_cases hi : i = 1 <;> simp [hi, hsem]
    rw [hs]; cases sh; simp_all
  · funext u; by_cases hu : u = 1 <;> simp [hu, h1]

/-- counter at 1; thread 1 waits with deadline 500, queues, sleeps; the clock reaches 500 -/
def strayPre : List Event := Example.timesOut.take 19 ++ [.tick 500]

def strayA : State := stateAt strayPre strayPre.length

theorem stray_run : run init strayPre = .ok strayA := run_stateAt (by decide)

theorem strayA_facts : strayA.pc 1 = .wPdWait (some 500) 3 1 ∧ strayA.pc 0 = .idle ∧ strayA.sh.sem 1 = 0 ∧
    (strayA.sh.nw 3).sem = some 1 ∧ strayA.sh.waited = true ∧ strayA.sh.value = 1 ∧ strayA.sh.now = 500 := by decide

theorem stray_cycle : run strayA strayLoop = .ok strayA := by
  obtain ⟨a, b, c, d, e, f, _⟩ := strayA_facts
  exact stray_loop strayA a b c d e f

/-- the stem, then stray post / wake-up / back to sleep for ever -/
def strayExec : Exec init := lassoExec strayPre strayLoop strayA stray_run stray_cycle (by decide)

theorem stray_at (m : Nat) {r : Nat} (hr : r < 5) :
    strayExec.ρ (20 + 5 * m + r) = stateFrom strayA (strayLoop.take r) ∧
    strayExec.σ (20 + 5 * m + r) = strayLoop[r]? :=
  lasso_pos stray_run stray_cycle (by decide) m (r := r) hr

theorem stray_loop_pcs : ∀ r, r < 5 → (stateFrom strayA (strayLoop.take r)).pc 1 ≠ .idle ∧
    (stateFrom strayA (strayLoop.take r)).pc 0 = .idle := by decide

theorem stray_weakFair : WeakFair strayExec := by
  apply lasso_weakFair
  intro t
  by_cases h3 : t < 2
  · match t, h3 with
    | 0, _ => exact ⟨0, by decide, Or.inl (stray_loop_pcs 0 (by decide)).2⟩
    | 1, _ => exact ⟨1, by decide, Or.inr (Or.inr (by decide))⟩
  · exact ⟨0, by decide, Or.inl (lasso_idle stray_run stray_cycle 2 (by decide) (by decide) h3 0)⟩

theorem stray_never (j : Nat) (hj : 20 ≤ j) : (strayExec.ρ j).pc 1 ≠ .idle := by
  obtain ⟨m, r, hr, rfl⟩ : ∃ m r, r < 5 ∧ j = 20 + 5 * m + r :=
    ⟨(j - 20) / 5, (j - 20) % 5, Nat.mod_lt _ (by decide), by omega⟩
  rw [(stray_at m hr).1]
  exact (stray_loop_pcs r hr).1

/-- thread 2: one complete nsync_counter_wait with the (already passed) deadline 100 on a counter
    whose value is 1: ready_time, enqueue under counter_mu, ready_time, P-with-deadline times out,
    dequeue under counter_mu, final load, return 1 -/
def arriveLoop : List Event :=
  [.thr 2 (.callWait (some 100)), .thr 2 (.st .rlx .waited 1 1), .thr 2 (.ld .acq .value 1),
   .thr 2 (.st .rlx (.nwWaiting 5) 0 0),
   .thr 2 (.callLock 0), .thr 2 .other, .thr 2 .retLock,
   .thr 2 (.ld .acq .value 1), .thr 2 (.st .rlx (.nwWaiting 5) 1 0),
   .thr 2 (.callUnlock 0), .thr 2 .other, .thr 2 .retUnlock,
   .thr 2 (.st .rlx .waited 1 1), .thr 2 (.ld .acq .value 1),
   .thr 2 (.pdEnter 2 (some 100)), .thr 2 (.pdRet 2 true),
   .thr 2 (.callLock 0), .thr 2 .other, .thr 2 .retLock,
   .thr 2 (.ld .acq .value 1), .thr 2 (.ld .acq (.nwWaiting 5) 1), .thr 2 (.st .rlx (.nwWaiting 5) 0 1),
   .thr 2 (.callUnlock 0), .thr 2 .other, .thr 2 .retUnlock,
   .thr 2 (.ld .acq .value 1), .thr 2 (.retWait 1)]

theorem arrive_loop (s : State) (h2 : s.pc 2 = .idle) (hph : s.sh.phase = .live) (hv : s.sh.value = 1)
    (hw : s.sh.waited = true) (hl : s.sh.lockHolder = none) (hmu : s.sh.mu = some 0)
    (hq : s.sh.waiters = [3]) (hnw : s.sh.nw 5 = { live := false, waiting := false, sem := some 2, owner := 2 })
    (hsu : s.sh.semUser 2 = none) (hnow : s.sh.now = 500) : run s arriveLoop = .ok s := by
  obtain ⟨sh, pc⟩ := s
  simp only at h2 hph hv hw hl hmu hq hnw hsu hnow
  simp [arriveLoop, run, step, stepThr, dflt, h2, State.mk', State.setPc, Shared.setRec,
    Shared.setSemUser, Shared.bind, Shared.useMu, Shared.release, hph, hv, hw, hl, hmu, hq, hnw, hsu, hnow, b2n,
    dlePast, expired]
  refine ⟨?_, ?_⟩
  · have h1 : (fun i =>
          if i = 5 then ({ live := false, waiting := false, sem := some 2, owner := 2 } : Rec)
          else
            if i = 5 then { live := true, waiting := false, sem := some 2, owner := 2 }
            else
              if i = 5 then { live := true, waiting := true, sem := some 2, owner := 2 }
              else
                if i = 5 then { live := true, waiting := true, sem := none, owner := 2 }
                else if i = 5 then { live := true, waiting := false, sem := none, owner := 2 } else sh.nw i)
        = sh.nw := by
      funext i; by_cases hi : i = 5
      · subst hi; simp [hnw]
      · simp [hi]
    have h2' : (fun i => if i = 2 then none else if i = 2 then some 5 else sh.semUser i) = sh.semUser := by
      funext i; by_cases hi : i = 2
      · subst hi; simp [hsu]
      · simp [hi]
    rw [h1, h2']; cases sh; simp_all
  · funext u; by_cases hu : u = 2
    · subst hu; simp [h2]
    · simp [hu]

/-- counter at 1; thread 1 waits with deadline 500, queues, sleeps; the clock reaches 500; thread 1
    times out and asks for counter_mu (dequeue); thread 2 has done one complete timed-out wait -/
def arrivePre : List Event :=
  Example.timesOut.take 19 ++ [.tick 500, .thr 1 (.pdRet 1 true), .thr 1 (.callLock 0)] ++ arriveLoop

def arriveA : State := stateAt arrivePre arrivePre.length

theorem arrive_run : run init arrivePre = .ok arriveA := run_stateAt (by decide)

theorem arriveA_facts : arriveA.pc 2 = .idle ∧ arriveA.sh.phase = .live ∧ arriveA.sh.value = 1 ∧
    arriveA.sh.waited = true ∧ arriveA.sh.lockHolder = none ∧ arriveA.sh.mu = some 0 ∧ arriveA.sh.waiters = [3] ∧
    arriveA.sh.semUser 2 = none ∧ arriveA.sh.now = 500 ∧ arriveA.pc 1 = .wDeqLockWait (some 500) 3 true ∧
    arriveA.pc 0 = .idle := by decide

theorem arriveA_nw : arriveA.sh.nw 5 = { live := false, waiting := false, sem := some 2, owner := 2 } := by
  have h' : (arriveA.sh.nw 5).live = false ∧ (arriveA.sh.nw 5).waiting = false ∧
      (arriveA.sh.nw 5).sem = some 2 ∧ (arriveA.sh.nw 5).owner = 2 := by decide
  cases hr : arriveA.sh.nw 5
  rw [hr] at h'
  simp_all

theorem arrive_cycle : run arriveA arriveLoop = .ok arriveA := by
  obtain ⟨a, b, c, d, e, f, g, h, i, _⟩ := arriveA_facts
  exact arrive_loop arriveA a b c d e f g arriveA_nw h i

/-- the stem, then thread 2's timed-out waits for ever -/
def arriveExec : Exec init := lassoExec arrivePre arriveLoop arriveA arrive_run arrive_cycle (by decide)

theorem arrive_at (m : Nat) {r : Nat} (hr : r < 27) :
    arriveExec.ρ (49 + 27 * m + r) = stateFrom arriveA (arriveLoop.take r) ∧
    arriveExec.σ (49 + 27 * m + r) = arriveLoop[r]? :=
  lasso_pos arrive_run arrive_cycle (by decide) m (r := r) hr

/-- thread 1 does not occur in the loop -/
theorem arrive_pc1 (r : Nat) : (stateFrom arriveA (arriveLoop.take r)).pc 1 = .wDeqLockWait (some 500) 3 true := by
  have h := run_untouched (t := 1) _ arriveA _ ⟨arrivePre, arrive_run⟩ (by
    intro e he
    have h : arriveLoop.all (fun e => decide (e.tidOf ≠ some 1)) = true := by decide
    simp only [List.all_eq_true, decide_eq_true_eq] at h
    exact h e (List.mem_of_mem_take he)) (stateFrom_ok arrive_cycle r)
  rw [h]; exact arriveA_facts.2.2.2.2.2.2.2.2.2.1

set_option maxRecDepth 4096 in
theorem arrive_held : (stateFrom arriveA (arriveLoop.take 7)).sh.lockHolder = some 2 := by decide

set_option maxRecDepth 4096 in
theorem arrive_moves2 : (stateFrom arriveA (arriveLoop.take 1)).pc 2 ≠ (stateFrom arriveA (arriveLoop.take 0)).pc 2 := by
  decide

theorem arrive_weakFair : WeakFair arriveExec := by
  apply lasso_weakFair
  intro t
  by_cases h3 : t < 3
  · match t, h3 with
    | 0, _ =>
      refine ⟨0, by decide, Or.inl ?_⟩
      rw [show arriveLoop.take 0 = [] from rfl, stateFrom_nil]; exact arriveA_facts.2.2.2.2.2.2.2.2.2.2
    | 1, _ =>
      refine ⟨7, by decide, Or.inr (Or.inl (Or.inr ⟨?_, ?_⟩))⟩
      · rw [arrive_pc1]; rfl
      · rw [arrive_held]; simp
    | 2, _ => exact ⟨0, by decide, Or.inr (Or.inr arrive_moves2)⟩
  · exact ⟨0, by decide, Or.inl (lasso_idle arrive_run arrive_cycle 3 (by decide) (by decide) h3 0)⟩

theorem arrive_never (j : Nat) (hj : 49 ≤ j) : (arriveExec.ρ j).pc 1 ≠ .idle := by
  obtain ⟨m, r, hr, rfl⟩ : ∃ m r, r < 27 ∧ j = 49 + 27 * m + r :=
    ⟨(j - 49) / 27, (j - 49) % 27, Nat.mod_lt _ (by decide), by omega⟩
  rw [(arrive_at m hr).1, arrive_pc1]; simp

end Counter
