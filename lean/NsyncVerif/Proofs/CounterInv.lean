/-
  Proofs/CounterInv.lean — the inductive invariant of the Counter layer and the rely lemma
  ("what other threads may do to the shared state keeps my program-point facts true").
-/
import NsyncVerif.Model.Counter

namespace Counter

/-- program points at which the thread holds counter_mu -/
def holds : PC → Bool
  | .fHeld | .aLoad _ | .aCas _ _ | .aLoadWaited _ _ _ | .aHeld _ _ _ _ | .aPost _ _ _ _
  | .wEnqLoad _ _ | .wEnqStore _ _ _ | .wEnqUnlockCall _ _ _
  | .wDeqLoadV _ _ _ | .wDeqLoadW _ _ _ _ | .wDeqStore _ _ _ _ | .wDeqUnlockCall _ _ _ _ => true
  | _ => false

/-- prefix sums: `sums a [d1,d2,…] = [a, a+d1, a+d1+d2, …]` -/
def sums (a : Int) : List Int → List Int
  | [] => [a]
  | d :: ds => a :: sums (a + d) ds

def own (sh : Shared) (t : Tid) (k : NwId) : Prop := (sh.nw k).live = true ∧ (sh.nw k).owner = t

/-- record k has been removed from the queue by a waker and its semaphore has been posted -/
def woken (sh : Shared) (k : NwId) : Prop := (sh.nw k).waiting = false ∧ sh.posting ≠ some k

def semPos (sh : Shared) (k : NwId) : Prop := ∃ j, (sh.nw k).sem = some j ∧ 0 < sh.sem j

/-- ghost link between an add's result and the history -/
def addGhost (hist : List Nat) (d : Int) (r idx : Nat) : Prop :=
  hist[idx]? = some r ∧ ∃ i old, idx = i + 1 ∧ hist[i]? = some old ∧ (r : Int) = (old : Int) + d

structure ShInv (sh : Shared) : Prop where
  queue : ∀ k, k ∈ sh.waiters ↔ (sh.nw k).waiting = true
  wlive : ∀ k, (sh.nw k).waiting = true → (sh.nw k).live = true
  nodup : sh.waiters.Nodup
  zero : sh.waiters ≠ [] → sh.value ≠ 0 ∨ sh.waking = true
  free : sh.lockHolder = none → sh.waking = false ∧ sh.posting = none
  post : ∀ k, sh.posting = some k → sh.waking = true ∧ (sh.nw k).live = true ∧ (sh.nw k).waiting = false
  wk0 : sh.waking = true → sh.value = 0
  last : sh.created = true → sh.hist.getLast? = some sh.value
  hsum : sh.created = true → sh.hist.map (fun (n : Nat) => (n : Int)) = sums sh.initial sh.deltas
  hnil : sh.created = false → sh.hist = [] ∧ sh.deltas = [] ∧ sh.lockHolder = none ∧ sh.waited = false
      ∧ sh.waiters = [] ∧ sh.waking = false
  creating : (sh.phase = .creating ∨ sh.phase = .absent) → sh.created = false
  semu : ∀ k j, (sh.nw k).live = true → (sh.nw k).sem = some j → sh.semUser j = some k
  phase : sh.phase = .live → sh.created = true

/-- `t` is inside a wait that has announced itself, with record `k` -/
structure Mine (sh : Shared) (t : Tid) (k : NwId) : Prop where
  own : own sh t k
  created : sh.created = true
  waited : sh.waited = true

theorem mine_iff {sh : Shared} {t : Tid} {k : NwId} :
    Mine sh t k ↔ Counter.own sh t k ∧ sh.created = true ∧ sh.waited = true :=
  ⟨fun h => ⟨h.1, h.2, h.3⟩, fun h => ⟨h.1, h.2.1, h.2.2⟩⟩

/-- no wake loop is in progress -/
structure Quiet (sh : Shared) : Prop where
  waking : sh.waking = false
  posting : sh.posting = none

theorem quiet_iff {sh : Shared} : Quiet sh ↔ sh.waking = false ∧ sh.posting = none :=
  ⟨fun h => ⟨h.1, h.2⟩, fun h => ⟨h.1, h.2⟩⟩

/-- facts at each program point (about the shared state only) -/
def pcFacts (sh : Shared) (t : Tid) : PC → Prop
  | .idle | .newMalloc _ | .newStore _ | .fRet => True
  | .newRet ok => ok = true → sh.created = true
  | .fLockCall | .fLockWait | .fUnlockWait | .fFree => sh.created = true
  | .fHeld => sh.created = true ∧ Quiet sh
  | .valLoad | .azLoad | .w0Store _ => sh.created = true
  | .aLockCall d | .aLockWait d => sh.created = true ∧ d ≠ 0
  | .valRet v | .azRet v => v ∈ sh.hist
  | .aLoad d => sh.created = true ∧ Quiet sh ∧ d ≠ 0
  | .aCas d v => sh.created = true ∧ Quiet sh ∧ v = sh.value ∧ d ≠ 0
  | .aLoadWaited d r idx =>
      addGhost sh.hist d r idx ∧ sh.value = r ∧ sh.waking = decide (r = 0) ∧ sh.posting = none
  | .aHeld d r idx wake =>
      addGhost sh.hist d r idx ∧ sh.value = r ∧ wake = decide (r = 0) ∧ sh.waking = wake ∧ sh.posting = none
  | .aPost d r idx k =>
      addGhost sh.hist d r idx ∧ sh.value = r ∧ r = 0 ∧ sh.waking = true ∧ sh.posting = some k
  | .aUnlockWait d r idx | .aRet d r idx => addGhost sh.hist d r idx
  | .w0Load _ | .wInit _ => sh.created = true ∧ sh.waited = true
  | .wEnqLockCall _ k | .wEnqLockWait _ k => Mine sh t k ∧ (sh.nw k).waiting = false ∧ sh.posting ≠ some k
  | .wEnqLoad _ k => Mine sh t k ∧ (sh.nw k).waiting = false ∧ Quiet sh
  | .wEnqStore _ k v => Mine sh t k ∧ (sh.nw k).waiting = false ∧ Quiet sh ∧ v = sh.value
  | .wEnqUnlockCall _ k enq =>
      Mine sh t k ∧ Quiet sh
      ∧ (if enq then (woken sh k → sh.value = 0) else (sh.value = 0 ∧ (sh.nw k).waiting = false))
  | .wEnqUnlockWait _ k enq =>
      Mine sh t k ∧ (if enq then (woken sh k → sh.value = 0) else (sh.value = 0 ∧ woken sh k))
  | .wLoopStore _ k | .wLoopLoad _ k => Mine sh t k ∧ (woken sh k → sh.value = 0)
  | .wPdEnter _ k => Mine sh t k ∧ (woken sh k → sh.value = 0 ∧ semPos sh k)
  | .wPdWait _ k j => Mine sh t k ∧ (sh.nw k).sem = some j ∧ (woken sh k → sh.value = 0 ∧ semPos sh k)
  | .wDeqLockCall dl k tmo | .wDeqLockWait dl k tmo =>
      Mine sh t k ∧ (tmo = false → sh.value = 0) ∧ (tmo = true → expired dl sh.now)
  | .wDeqLoadV dl k tmo =>
      Mine sh t k ∧ Quiet sh ∧ (tmo = false → sh.value = 0) ∧ (tmo = true → expired dl sh.now)
  | .wDeqLoadW dl k tmo v =>
      Mine sh t k ∧ Quiet sh ∧ (tmo = false → v = 0) ∧ (tmo = true → expired dl sh.now) ∧ v ∈ sh.hist
  | .wDeqStore dl k tmo v =>
      Mine sh t k ∧ Quiet sh ∧ (tmo = false → v = 0) ∧ (tmo = true → expired dl sh.now)
      ∧ (sh.nw k).waiting = true ∧ v ∈ sh.hist
  | .wDeqUnlockCall dl k tmo v =>
      Mine sh t k ∧ Quiet sh ∧ (tmo = false → v = 0) ∧ (tmo = true → expired dl sh.now)
      ∧ (sh.nw k).waiting = false ∧ v ∈ sh.hist
  | .wDeqUnlockWait dl k tmo v =>
      Mine sh t k ∧ (tmo = false → v = 0) ∧ (tmo = true → expired dl sh.now) ∧ woken sh k ∧ v ∈ sh.hist
  | .wFinalLoad dl => sh.created = true ∧ expired dl sh.now
  | .wRet dl r => r ∈ sh.hist ∧ (r ≠ 0 → expired dl sh.now)

def pcInv (sh : Shared) (t : Tid) (p : PC) : Prop :=
  (sh.lockHolder = some t ↔ holds p = true) ∧ pcFacts sh t p

structure Inv (s : State) : Prop where
  sh : ShInv s.sh
  pcs : ∀ t, pcInv s.sh t (s.pc t)

/-- What thread `u` may assume about a step of another thread. -/
structure Rely (sh sh' : Shared) (u : Tid) : Prop where
  lock : sh'.lockHolder = some u ↔ sh.lockHolder = some u
  held : sh.lockHolder = some u →
      sh'.value = sh.value ∧ sh'.waking = sh.waking ∧ sh'.posting = sh.posting
  heldw : sh.lockHolder = some u → ∀ k, Counter.own sh u k → (sh'.nw k).waiting = (sh.nw k).waiting
  created : sh.created = true → sh'.created = true
  hist : ∃ l, sh'.hist = sh.hist ++ l
  waited : sh.waited = true → sh'.waited = true
  now : sh.now ≤ sh'.now
  ownP : ∀ k, Counter.own sh u k → Counter.own sh' u k
  sem : ∀ k j, Counter.own sh u k → (sh.nw k).sem = some j → (sh'.nw k).sem = some j
  zstable : sh.waited = true → sh.value = 0 → sh'.value = 0
  wfalse : ∀ k, Counter.own sh u k → (sh.nw k).waiting = false → (sh'.nw k).waiting = false
  wk : ∀ k, Counter.own sh u k → woken sh k → woken sh' k
  wk' : ∀ k, Counter.own sh u k → sh.waited = true → woken sh' k → woken sh k ∨ (sh'.value = 0 ∧ semPos sh' k)
  spos : ∀ k, Counter.own sh u k → woken sh k → semPos sh k → semPos sh' k

theorem lt_of_getElem? {α} {l : List α} {i : Nat} {a : α} (h : l[i]? = some a) : i < l.length :=
  (List.getElem?_eq_some_iff.1 h).1

theorem getElem?_append_some {α} {l m : List α} {i : Nat} {a : α} (h : l[i]? = some a) :
    (l ++ m)[i]? = some a := by
  rw [List.getElem?_append_left (lt_of_getElem? h)]; exact h

theorem addGhost_mono {sh sh' : Shared} {d r idx} (h : ∃ l, sh'.hist = sh.hist ++ l)
    (g : addGhost sh.hist d r idx) : addGhost sh'.hist d r idx := by
  obtain ⟨l, hl⟩ := h
  obtain ⟨g1, i, old, g2, g3, g4⟩ := g
  refine ⟨?_, i, old, g2, ?_, g4⟩
  · rw [hl]; exact getElem?_append_some g1
  · rw [hl]; exact getElem?_append_some g3

theorem expired_mono {d : Deadline} {a b : Nat} (h : a ≤ b) (e : expired d a) : expired d b := by
  cases d with
  | none => exact e
  | some x => simp only [expired] at *; omega

theorem expired_of_dlePast {d : Deadline} {now : Nat} (h : dlePast d = true) : expired d now := by
  cases d with
  | none => simp [dlePast] at h
  | some x => simp [dlePast] at h; simp only [expired]; omega

theorem mem_hist_mono {sh sh' : Shared} {v} (h : ∃ l, sh'.hist = sh.hist ++ l) (m : v ∈ sh.hist) :
    v ∈ sh'.hist := by
  obtain ⟨l, hl⟩ := h; rw [hl]; exact List.mem_append_left _ m

@[simp, grind =] theorem b2n_eq_zero (b : Bool) : (b2n b = 0) = (b = false) := by cases b <;> simp [b2n]
@[simp, grind =] theorem b2n_true : b2n true = 1 := rfl
@[simp, grind =] theorem b2n_false : b2n false = 0 := rfl

@[simp] theorem ite_live {c : Prop} [Decidable c] (a b : Rec) :
    (if c then a else b).live = if c then a.live else b.live := by split <;> rfl
@[simp] theorem ite_waiting {c : Prop} [Decidable c] (a b : Rec) :
    (if c then a else b).waiting = if c then a.waiting else b.waiting := by split <;> rfl
@[simp] theorem ite_sem {c : Prop} [Decidable c] (a b : Rec) :
    (if c then a else b).sem = if c then a.sem else b.sem := by split <;> rfl
@[simp] theorem ite_owner {c : Prop} [Decidable c] (a b : Rec) :
    (if c then a else b).owner = if c then a.owner else b.owner := by split <;> rfl

theorem pcInv_rely {sh sh' : Shared} {u : Tid} {p : PC} (r : Rely sh sh' u)
    (h : pcInv sh u p) : pcInv sh' u p := by
  obtain ⟨hl, hf⟩ := h
  refine ⟨by rw [r.lock]; exact hl, ?_⟩
  have hg := fun d r' idx => @addGhost_mono sh sh' d r' idx r.hist
  have hm := fun v => @mem_hist_mono sh sh' v r.hist
  have he := fun d => @expired_mono d _ _ r.now
  obtain ⟨_, hh, hw, hc, _, hwt, _, hown, hsem, hz, hwf, hwk, hwk', hsp⟩ := r
  cases p <;> simp only [pcFacts, mine_iff, quiet_iff, holds, Bool.false_eq_true, iff_false, iff_true] at hf hl ⊢
  all_goals first | trivial | skip
  all_goals grind [woken]

end Counter
