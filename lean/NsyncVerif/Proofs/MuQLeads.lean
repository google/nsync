import NsyncVerif.Proofs.MuQLeadsRun
/-
  MuQ, leads-to (C02): the measure, one round, the descent.

  `stage s t`   3 acquiring · 2 owns a share (return point of lock, client holds, releasing call
                before its release point) · 1 past the release point (wake-ups pending, return
                points of unlock / of a failed try-lock) · 0 idle holding nothing.
                NO step other than the `call` of an acquiring operation increases it
                (`stage_step_le`, MuQLeadsMono).
  `awake3 s t`  1 iff `t` is acquiring and not asleep.
  The measure of a state is the lexicographic pair (Σ stage, Σ awake3) over a finite list of
  threads covering every thread that is not idle-holding-nothing (`Cover`).

  `exists_mover`   while somebody is asleep on the mutex, there is an AWAKE thread, not a fresh
                   contender, that owns a share / is past its release point / is a non-fresh
                   acquirer, and the spinlock is free or its own: the responsible party of
                   `responsible` (MuQReach), made concrete with `woken_not_lost`.
  `round`          running that thread alone (MuQLeadsRun) decreases the measure.
  `leads_to_wake`  rounds by descent on the measure (`runP_wf`) until the chosen sleeper is no longer asleep.
-/
namespace NsyncVerif.MuQ

def stage (s : State) (t : Tid) : Nat :=
  match s.pc t with
  | .idle => if s.held t = none then 0 else 2
  | .lkRet _ => 2
  | .tryRet _ true => 2
  | .tryRet _ false => 1
  | .ulCas0 _ | .ulLd _ | .ulCas1 _ _ | .usLd _ | .usCasUnc _ _ | .usCasGrab _ _ => 2
  | .ulRet _ | .usRcLd _ _ _ | .usRcCas _ _ _ _ | .usFinLd _ _ | .usFinCas _ _ _ => 1
  | .usWakeSt _ _ _ | .usWakeV _ _ _ => 1
  | _ => 3

def awake3 (s : State) (t : Tid) : Nat :=
  if stage s t = 3 ∧ asleepB s t = false then 1 else 0

theorem stage_congr {s s' : State} {t : Tid} (h1 : s'.pc t = s.pc t) (h2 : s'.held t = s.held t) :
    stage s' t = stage s t := by
  simp only [stage, h1, h2]

theorem stage_le (s : State) (t : Tid) : stage s t ≤ 3 := by
  simp only [stage]; repeat' split
  all_goals omega

theorem stage_of_slow {s : State} {t : Tid} {c : SL} {ph : Phase} (h : role (s.pc t) = .slow c ph) :
    stage s t = 3 := by
  cases hp : s.pc t <;> simp [hp, role] at h <;> simp [stage, hp]

theorem stage_of_holderLike {s : State} {t : Tid} (h : HolderLike s t) : 1 ≤ stage s t := by
  rcases h with ⟨h1, h2⟩ | h | h
  · simp [stage, h1, h2]
  · cases hp : s.pc t <;> simp [hp, retPc] at h
    · simp [stage, hp]
    · rename_i l r; cases r <;> simp [stage, hp]
  · cases hp : s.pc t <;> simp [hp, relPc] at h <;> simp [stage, hp]

theorem stage_idle_le {s : State} {t : Tid} (h : s.pc t = .idle) : stage s t ≤ 2 := by
  simp only [stage, h]; split <;> omega

theorem stage_done {s : State} {t : Tid} (h1 : s.pc t = .idle) (h2 : s.held t = none) : stage s t = 0 := by
  simp [stage, h1, h2]

/-! ### sums over a list of threads -/

def sumOver (f : Tid → Nat) (L : List Tid) : Nat := (L.map f).sum

theorem sumOver_le {f g : Tid → Nat} : ∀ (L : List Tid), (∀ t ∈ L, g t ≤ f t) → sumOver g L ≤ sumOver f L := by
  intro L
  induction L with
  | nil => intro _; simp [sumOver]
  | cons x xs ih =>
    intro h
    have h1 := h x (by simp)
    have h2 := ih (fun t ht => h t (by simp [ht]))
    simp only [sumOver, List.map_cons, List.sum_cons] at h2 ⊢
    omega

theorem sumOver_lt {f g : Tid → Nat} : ∀ (L : List Tid), (∀ t ∈ L, g t ≤ f t) → ∀ u, u ∈ L → g u < f u →
    sumOver g L < sumOver f L := by
  intro L
  induction L with
  | nil => intro _ u hu; cases hu
  | cons x xs ih =>
    intro h u hu hlt
    have h1 := h x (by simp)
    have hrest : ∀ t ∈ xs, g t ≤ f t := fun t ht => h t (by simp [ht])
    simp only [sumOver, List.map_cons, List.sum_cons]
    rcases List.mem_cons.1 hu with rfl | hu'
    · have := sumOver_le xs hrest
      simp only [sumOver] at this
      omega
    · have := ih hrest u hu' hlt
      simp only [sumOver] at this
      omega

theorem sumOver_bound {f : Tid → Nat} {b : Nat} (hb : ∀ t, f t ≤ b) : ∀ (L : List Tid), sumOver f L ≤ b * L.length := by
  intro L
  induction L with
  | nil => simp [sumOver]
  | cons x xs ih =>
    have := hb x
    simp only [sumOver, List.map_cons, List.sum_cons, List.length_cons, Nat.mul_succ] at ih ⊢
    omega

/-- Every thread outside `L` is idle holding nothing. -/
def Cover (L : List Tid) (s : State) : Prop := ∀ t, t ∉ L → IdleHoldingNothing s t

theorem reachable_cover {cfg : Cfg} {s : State} (h : Reachable cfg s) : ∃ L, Cover L s := by
  refine reachable_induction (P := fun s => ∃ L, Cover L s) ⟨[], fun _ _ => ⟨rfl, rfl⟩⟩ ?_ s h
  intro s e s' _ ⟨L, hL⟩ hs
  cases he : e.tid with
  | none =>
    refine ⟨L, fun t ht => ?_⟩
    have hne : e.tid ≠ some t := by rw [he]; intro h; cases h
    obtain ⟨h1, h2⟩ := hL t ht
    exact ⟨by rw [step_pc_other hs hne]; exact h1, by rw [step_held_other hs hne]; exact h2⟩
  | some u =>
    refine ⟨u :: L, fun t ht => ?_⟩
    have htu : t ≠ u := fun e => ht (by simp [e])
    have htL : t ∉ L := fun hm => ht (by simp [hm])
    obtain ⟨h1, h2⟩ := hL t htL
    obtain ⟨f1, f2⟩ := step_frame hs he t htu
    exact ⟨by rw [f1]; exact h1, by rw [f2]; exact h2⟩

theorem cover_frame {L : List Tid} {s s' : State} {u : Tid} (hc : Cover L s) (hf : Frame u s s')
    (hu : u ∈ L) : Cover L s' := by
  intro t ht
  have htu : t ≠ u := fun e => ht (by rw [e]; exact hu)
  obtain ⟨h1, h2⟩ := hc t ht
  obtain ⟨f1, f2⟩ := hf t htu
  exact ⟨by rw [f1]; exact h1, by rw [f2]; exact h2⟩

/-! ### the mover -/

/-- A thread the schedule can run next: awake, spinlock free or its own, and either a non-fresh
    acquirer inside lock_slow or a thread that owns a share / is past its release point. -/
def Mover (s : State) (u : Tid) : Prop :=
  ¬ AsleepOnSem s u ∧ (s.sp = none ∨ s.sp = some u) ∧
    ((wokenPc (s.pc u) = true ∧ ∃ c ph, role (s.pc u) = .slow c ph) ∨ HolderLike s u)

theorem wake_relPc {p : PC} {k : Wid} (h : k ∈ (role p).wake) : relPc p = true := by
  cases p <;> simp [role, Role.wake] at h <;> rfl

theorem not_asleep_of_relPc {s : State} {u : Tid} (h : relPc (s.pc u) = true) : ¬ AsleepOnSem s u := by
  rintro ⟨c, k, hp, _⟩; rw [hp] at h; cases h

/-- A thread in its wait loop whose record is not queued, with the spinlock free: it, or the
    unlocker that has its record on its wake list, can move. -/
theorem loop_unqueued_mover {cfg : Cfg} {s : State} (hr : Reachable cfg s) (hsp : s.sp = none)
    {f : Tid} {c : SL} {ph : Phase} {k : Wid} (hro : role (s.pc f) = .slow c ph) (hph : ph.inLoop = true)
    (hw : c.w = some k) (hk : k ∉ s.queue) : ∃ u, Mover s u := by
  have hwoken : wokenPc (s.pc f) = true := by
    cases hp : s.pc f <;> simp [hp, role] at hro <;> simp [wokenPc]
    all_goals (obtain ⟨_, rfl⟩ := hro; cases hph)
  rcases woken_not_lost hr hro hph hw hk with ⟨_, h2⟩ | ⟨_, v, hv⟩
  · rcases h2 with h2 | h2 | ⟨v, l, r, hv⟩
    · refine ⟨f, ?_, Or.inl hsp, Or.inl ⟨hwoken, c, ph, hro⟩⟩
      rintro ⟨c', k', hp, _⟩
      rw [hp] at hro; simp [role] at hro; rw [h2] at hro; cases hro.2
    · refine ⟨f, ?_, Or.inl hsp, Or.inl ⟨hwoken, c, ph, hro⟩⟩
      rintro ⟨c', k', hp, hw', hs'⟩
      rw [hp] at hro; simp [role] at hro
      obtain ⟨rfl, _⟩ := hro
      rw [hw] at hw'; cases hw'
      exact h2 hs'
    · have hrel : relPc (s.pc v) = true := by rw [hv]; rfl
      exact ⟨v, not_asleep_of_relPc hrel, Or.inl hsp, Or.inr (Or.inr (Or.inr hrel))⟩
  · have hrel := wake_relPc hv
    exact ⟨v, not_asleep_of_relPc hrel, Or.inl hsp, Or.inr (Or.inr (Or.inr hrel))⟩

theorem share_holderLike {s : State} (hh : HeldIdle s) {t : Tid} (h : shareOf s t ≠ none) : HolderLike s t := by
  cases hx : s.held t with
  | some m => exact Or.inl ⟨hh t (by simp [hx]), by simp [hx]⟩
  | none =>
    right
    simp only [shareOf, tshare, hx] at h
    cases hp : s.pc t <;> simp [hp, pcShare] at h <;> simp [retPc, relPc]

theorem holderLike_not_asleep {s : State} {t : Tid} (h : HolderLike s t) : ¬ AsleepOnSem s t := by
  rintro ⟨c, k, hp, _⟩
  rcases h with ⟨h1, _⟩ | h | h
  · rw [hp] at h1; cases h1
  · rw [hp] at h; cases h
  · rw [hp] at h; cases h

/-- While somebody is asleep on the mutex, somebody responsible for waking it can move. -/
theorem exists_mover {cfg : Cfg} {s : State} {t0 : Tid} (hr : Reachable cfg s) (ha : AsleepOnSem s t0) :
    ∃ u, Mover s u := by
  have inv := reachable_inv hr
  have hside := reachable_side hr
  cases hsp : s.sp with
  | some v =>
    -- the owner of the spinlock moves
    have hv : (role (s.pc v)).spin = true := (inv.spin.own v).1 hsp
    cases hp : s.pc v <;> simp [hp, role, Role.spin] at hv
    case lsSt c =>
      refine ⟨v, ?_, Or.inr hsp, Or.inl ⟨by simp [hp, wokenPc], c, .st, by simp [hp, role]⟩⟩
      rintro ⟨c', k', hp', _⟩; rw [hp] at hp'; cases hp'
    case lsRelLd c =>
      refine ⟨v, ?_, Or.inr hsp, Or.inl ⟨by simp [hp, wokenPc], c, .rel, by simp [hp, role]⟩⟩
      rintro ⟨c', k', hp', _⟩; rw [hp] at hp'; cases hp'
    case lsRelCas c old =>
      refine ⟨v, ?_, Or.inr hsp, Or.inl ⟨by simp [hp, wokenPc], c, .rel, by simp [hp, role]⟩⟩
      rintro ⟨c', k', hp', _⟩; rw [hp] at hp'; cases hp'
    all_goals
      have hrel : relPc (s.pc v) = true := by rw [hp]; rfl
      exact ⟨v, not_asleep_of_relPc hrel, Or.inr hsp, Or.inr (Or.inr (Or.inr hrel))⟩
  | none =>
    obtain ⟨c, k, hp0, hw0, _⟩ := ha
    have hro0 : role (s.pc t0) = .slow c .loopP := by rw [hp0]; rfl
    by_cases hk : k ∈ s.queue
    · rcases responsible hr hk with ⟨t, ht⟩ | ⟨t, ht⟩ | ⟨u, hu⟩
      · have hl := share_holderLike hside.2 ht
        exact ⟨t, holderLike_not_asleep hl, Or.inl hsp, Or.inr hl⟩
      · obtain ⟨c1, ph, hro, hx⟩ := ht
        rcases hx with ⟨rfl, hcl⟩ | ⟨hph, k1, hw1, hk1⟩
        · have hwoken : wokenPc (s.pc t) = true := by
            cases hp : s.pc t <;> simp [hp, role] at hro <;> simp [wokenPc]
            all_goals (obtain ⟨rfl, _⟩ := hro; exact hcl)
          refine ⟨t, ?_, Or.inl hsp, Or.inl ⟨hwoken, c1, .pre, hro⟩⟩
          rintro ⟨c', k', hp', _⟩; rw [hp'] at hro; simp [role] at hro
        · exact loop_unqueued_mover hr hsp hro hph hw1 hk1
      · have := unlocking_holds_spin hr hu
        rw [hsp] at this; cases this
    · exact loop_unqueued_mover hr hsp hro0 rfl hw0 hk

/-! ### one round -/

theorem awake3_congr {s s' : State} {t : Tid} (h1 : s'.pc t = s.pc t) (h2 : s'.held t = s.held t)
    (h3 : asleepB s' t = asleepB s t) : awake3 s' t = awake3 s t := by
  simp only [awake3, stage_congr h1 h2, h3]

theorem awake3_le (s : State) (t : Tid) : awake3 s t ≤ 1 := by
  simp only [awake3]; split <;> omega

/-- An acquiring thread run alone until it has returned or sleeps: the measure goes down. -/
theorem measure_acq {s s' : State} {L : List Tid} {u : Tid} (hst : stage s u = 3) (hna : ¬ AsleepOnSem s u)
    (huL : u ∈ L) (hf : FrameA u s s') (htgt : s'.pc u = .idle ∨ AsleepOnSem s' u) :
    sumOver (stage s') L < sumOver (stage s) L ∨
      (sumOver (stage s') L ≤ sumOver (stage s) L ∧ sumOver (awake3 s') L < sumOver (awake3 s) L) := by
  obtain ⟨hf, hfa⟩ := hf
  have hothers : ∀ t ∈ L, stage s' t ≤ stage s t := by
    intro t _
    by_cases htu : t = u
    · subst htu; rw [hst]; exact stage_le _ _
    · rw [stage_congr (hf t htu).1 (hf t htu).2]; exact Nat.le_refl _
  rcases htgt with hid | hasl
  · left
    exact sumOver_lt L hothers u huL (by rw [hst]; have := stage_idle_le hid; omega)
  · right
    refine ⟨sumOver_le L hothers, ?_⟩
    have h1 : awake3 s' u = 0 := by simp [awake3, (asleepB_iff s' u).2 hasl]
    have hothersB : ∀ t ∈ L, awake3 s' t ≤ awake3 s t := by
      intro t _
      by_cases htu : t = u
      · subst htu; rw [h1]; exact Nat.zero_le _
      · rw [awake3_congr (hf t htu).1 (hf t htu).2 (hfa t htu)]; exact Nat.le_refl _
    refine sumOver_lt L hothersB u huL ?_
    have h2 : awake3 s u = 1 := by
      have : asleepB s u = false := by
        cases hx : asleepB s u with
        | false => rfl
        | true => exact absurd ((asleepB_iff s u).1 hx) hna
      simp [awake3, hst, this]
    omega

/-- A thread that owns a share or is past its release point, run alone until it is idle holding
    nothing: the first component of the measure goes down. -/
theorem measure_rel {s s' : State} {L : List Tid} {u : Tid} (hst : 1 ≤ stage s u) (huL : u ∈ L)
    (hf : Frame u s s') (hid : s'.pc u = .idle) (hh : s'.held u = none) :
    sumOver (stage s') L < sumOver (stage s) L := by
  have hothers : ∀ t ∈ L, stage s' t ≤ stage s t := by
    intro t _
    by_cases htu : t = u
    · subst htu; rw [stage_done hid hh]; exact Nat.zero_le _
    · rw [stage_congr (hf t htu).1 (hf t htu).2]; exact Nat.le_refl _
  exact sumOver_lt L hothers u huL (by rw [stage_done hid hh]; omega)

theorem holderLike_mem {s : State} {L : List Tid} {u : Tid} (hc : Cover L s) (hl : HolderLike s u) : u ∈ L := by
  apply Classical.byContradiction; intro hn
  obtain ⟨h1, h2⟩ := hc u hn
  have := stage_done h1 h2; have := stage_of_holderLike hl; omega

/-- The lexicographic pair as one number. -/
theorem measure_lt {s s' : State} {L : List Tid}
    (hdec : sumOver (stage s') L < sumOver (stage s) L ∨
      (sumOver (stage s') L ≤ sumOver (stage s) L ∧ sumOver (awake3 s') L < sumOver (awake3 s) L)) :
    sumOver (stage s') L * (L.length + 1) + sumOver (awake3 s') L <
      sumOver (stage s) L * (L.length + 1) + sumOver (awake3 s) L := by
  have hb' : sumOver (awake3 s') L ≤ 1 * L.length := sumOver_bound (awake3_le s') L
  rcases hdec with h | ⟨h1, h2⟩
  · have h3 : (sumOver (stage s') L + 1) * (L.length + 1) ≤ sumOver (stage s) L * (L.length + 1) :=
      Nat.mul_le_mul_right _ h
    rw [Nat.succ_mul] at h3
    omega
  · have h3 : sumOver (stage s') L * (L.length + 1) ≤ sumOver (stage s) L * (L.length + 1) :=
      Nat.mul_le_mul_right _ h1
    omega

/-- Running the mover alone decreases the lexicographic measure. -/
theorem round {cfg : Cfg} {s : State} {L : List Tid} {u : Tid} (hr : Reachable cfg s) (hc : Cover L s)
    (hm : Mover s u) :
    ∃ evs s', RunP cfg QuietStep s evs s' ∧ Frame u s s' ∧ Cover L s' ∧
      (sumOver (stage s') L < sumOver (stage s) L ∨
        (sumOver (stage s') L ≤ sumOver (stage s) L ∧ sumOver (awake3 s') L < sumOver (awake3 s) L)) := by
  obtain ⟨hna, hsp, hcls⟩ := hm
  rcases hcls with ⟨hwoken, c, ph, hro⟩ | hl
  · have huL : u ∈ L := by
      apply Classical.byContradiction; intro hn
      have := (hc u hn).1; rw [this] at hro; cases hro
    obtain ⟨evs, s', hrun, htgt, hf⟩ := solo_acq_exists hr hwoken hsp
    exact ⟨evs, s', hrun, hf.1, cover_frame hc hf.1 huL, measure_acq (stage_of_slow hro) hna huL hf htgt⟩
  · have huL := holderLike_mem hc hl
    obtain ⟨evs, s', hrun, hid, hh, hf⟩ := holder_release_exists hr hl hsp
    exact ⟨evs, s', hrun, hf, cover_frame hc hf huL, .inl (measure_rel (stage_of_holderLike hl) huL hf hid hh)⟩

/-- LEADS-TO, existential schedule: from every reachable state in which `t0` is asleep on the
    mutex there is a finite schedule, made of `QuietStep`s only (nobody barges, nobody calls a new
    acquisition, the environment posts nothing), in which `t0` itself does not move and after which
    its semaphore has been posted. -/
theorem leads_to_wake {cfg : Cfg} {s : State} {t0 : Tid} (hr : Reachable cfg s) (_ : AsleepOnSem s t0) :
    ∃ evs s', RunP cfg QuietStep s evs s' ∧ ¬ AsleepOnSem s' t0 ∧ s'.pc t0 = s.pc t0 := by
  obtain ⟨L, hL⟩ := reachable_cover hr
  refine runP_wf (cfg := cfg) (P := QuietStep) (fun s => Reachable cfg s ∧ Cover L s) (fun s => ¬ AsleepOnSem s t0)
    (fun s s' => s'.pc t0 = s.pc t0) (fun s => sumOver (stage s) L * (L.length + 1) + sumOver (awake3 s) L)
    (fun _ => rfl) (fun _ _ _ h1 h2 => h2.trans h1) ?_ _ s (Nat.lt_succ_self _) ⟨hr, hL⟩
  intro s ⟨hr, hc⟩ hna
  have ha := Classical.not_not.1 hna
  obtain ⟨u, hm⟩ := exists_mover hr ha
  obtain ⟨evs, s', hrun, hf, hc', hdec⟩ := round hr hc hm
  exact ⟨evs, s', hrun, (hf t0 (by rintro rfl; exact hm.1 ha)).1,
    .inr ⟨⟨hrun.reachable hr, hc'⟩, measure_lt hdec⟩⟩

end NsyncVerif.MuQ
