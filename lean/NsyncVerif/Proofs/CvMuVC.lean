/-
  Composition CvFix × MuX × vector clocks (property C03, cv-signal edge for TRANSFERRED waiters):
  definitions and the one-step facts.

  The joint acceptor is `Model/CvMu.lean`.  Here every joint event is projected to an operation of
  the generic vector-clock machine `NsyncVerif.VC` (`toX`):
    * an event of the CvFix layer exactly as in `Proofs/CvFixVC.lean` (`toVCx` with the declared
      order `siteOrd` of its site; a failed CAS is a relaxed load), except that
        – the location of cv.c's accesses to a mutex word is the word of THAT mutex (`.mu m`), and
        – a foreign access `fLd`/`fSt`/`fCas` takes the order LOGGED with it (no oracle);
    * an event of other code on the word of mutex `m`: load / failed CAS ↦ relaxed load (an
      acquire load would only add edges), successful CAS ↦ read-modify-write with its logged
      order, plain store ↦ plain store with its logged order.
  Only program order and these orders count: no edge from semaphores, marks or the interleaving.

  `JP` = joint acceptor state × clock state × ghosts:
    `cc u`  clock of `u` at its latest `call nsync_cv_signal|broadcast`;
    `xf r`  the latest TRANSFER of record `r` by wake_waiters: who, the waker's clock just before
            its `ATM_CAS_ACQ (&pmu->word, …)` [cv.c/1], its clock at its call;
    `xt t`  `some` transfer iff `t`'s record was in status `xfer` when `t` left its wait loop.
-/
import NsyncVerif.Proofs.CvMuFacts

namespace NsyncVerif.CvMu
open NsyncVerif NsyncVerif.CvFix

inductive XLoc where
  /-- the cv word -/
  | word
  /-- the word of mutex `m` -/
  | mu (m : MuId)
  /-- `nw.waiting` / `remove_count` of a record -/
  | fld (r : Rid) (f : Fld)
  deriving DecidableEq, Repr

def reloc (m : MuId) : VLoc → XLoc
  | .word => .word
  | .mu => .mu m
  | .fld r f => .fld r f

def relocEv (m : MuId) (a : VC.AEv VLoc) : VC.AEv XLoc := ⟨a.t, a.op, a.ord, reloc m a.loc⟩

def ordV : MuX.Ord → VC.Ord
  | .rlx => .rlx | .acq => .acq | .rel => .rel | .ar => .ar

theorem ordV_isAcq (o : MuX.Ord) : (ordV o).isAcq = o.isAcq := by cases o <;> rfl
theorem ordV_isRel (o : MuX.Ord) : (ordV o).isRel = o.isRel := by cases o <;> rfl
theorem ordX_isAcq (o : VC.Ord) : (ordX o).isAcq = o.isAcq := by cases o <;> rfl
theorem ordV_ordX (o : VC.Ord) : ordV (ordX o) = o := by cases o <;> rfl

/-- Operation of the clock machine of an event of other code on the word of mutex `m`. -/
def muVC (m : MuId) : MuX.Ev → Option (VC.AEv XLoc)
  | .ld t _ => some ⟨t, .ld, .rlx, .mu m⟩
  | .casFail t _ _ => some ⟨t, .ld, .rlx, .mu m⟩
  | .cas t _ _ ord => some ⟨t, .rmw, ordV ord, .mu m⟩
  | .st t _ ord => some ⟨t, .st, ordV ord, .mu m⟩
  | _ => none

/-- Operation of the clock machine of a joint event; `so` = order table of the cv.c sites. -/
def toX (so : Site → VC.Ord) : XEv → Option (VC.AEv XLoc)
  | .cv e m o => (toVCx so o e).map (relocEv m)
  | .mu m x => muVC m x

def xcstepx (so : Site → VC.Ord) (c : VC.St XLoc) (ev : XEv) : VC.St XLoc :=
  match toX so ev with
  | some a => VC.step c a
  | none => c

/-- One joint event on the clock state, with the declared orders. -/
def xcstep (c : VC.St XLoc) (ev : XEv) : VC.St XLoc := xcstepx siteOrd c ev

def xcrunx (so : Site → VC.Ord) : VC.St XLoc → List XEv → VC.St XLoc
  | c, [] => c
  | c, ev :: evs => xcrunx so (xcstepx so c ev) evs

/-- The clocks of a joint event list: only program order and the declared / logged orders count. -/
def xclocks (evs : List XEv) : VC.St XLoc := xcrunx siteOrd VC.St.init evs

structure JP where
  j : JState
  c : VC.St XLoc
  cc : Tid → VC.Clock
  xf : Rid → Option Wake
  xt : Tid → Option Wake

def jpinit : JP := ⟨jinit, VC.St.init, fun _ => VC.Clock.bot, fun _ => none, fun _ => none⟩

def ccE (cc : Tid → VC.Clock) (c : VC.St XLoc) : Event → Tid → VC.Clock
  | .callSignal t | .callBroadcast t => VC.upd cc t (c.vc t)
  | _ => cc

/-- The records that enter status `xfer` in this step (`s'` = CvFix's successor state). -/
def xfE (p : JP) (s' : State) : Event → Rid → Option Wake
  | .muCas u .wwCas _ _ _ true => fun r =>
    if newly p.j.s s' r = true then some ⟨u, p.c.vc u, p.cc u⟩ else p.xf r
  | _ => p.xf

def xtE (p : JP) : Event → Tid → Option Wake
  | .recLd t .wHead r 0 => VC.upd p.xt t (if (p.j.s.recs r).stat = .xfer then p.xf r else none)
  | .callWait t .. => VC.upd p.xt t none
  | _ => p.xt

/-- The successor product state, given the joint acceptor's successor. -/
def jpnext (p : JP) (ev : XEv) (j' : JState) : JP :=
  match ev with
  | .cv e _ _ => { j := j', c := xcstep p.c ev, cc := ccE p.cc p.c e, xf := xfE p j'.s e, xt := xtE p e }
  | .mu _ _ => { p with j := j', c := xcstep p.c ev }

def jpstep (cfg : Config) (p : JP) (ev : XEv) : Except String JP :=
  match jstep cfg p.j ev with
  | .ok j' => .ok (jpnext p ev j')
  | .error m => .error m

def jprun (cfg : Config) (p : JP) : List XEv → Except String JP
  | [] => .ok p
  | ev :: evs =>
    match jpstep cfg p ev with
    | .ok p' => jprun cfg p' evs
    | .error m => .error m

def JPReachable (cfg : Config) (p : JP) : Prop := ∃ evs, jprun cfg jpinit evs = .ok p

theorem jpstep_ok {cfg : Config} {p p' : JP} {ev : XEv} (h : jpstep cfg p ev = .ok p') :
    ∃ j', jstep cfg p.j ev = .ok j' ∧ p' = jpnext p ev j' := by
  unfold jpstep at h
  split at h
  · rename_i j' hj; cases h; exact ⟨j', hj, rfl⟩
  · cases h

theorem isJRun (cfg : Config) : IsRun (jstep cfg) (jrun cfg) :=
  ⟨fun _ => rfl, fun j e _ => by rw [jrun]; cases jstep cfg j e <;> rfl⟩

theorem isJPRun (cfg : Config) : IsRun (jpstep cfg) (jprun cfg) :=
  ⟨fun _ => rfl, fun p e _ => by rw [jprun]; cases jpstep cfg p e <;> rfl⟩

theorem chk_ok {α : Type} {c : Prop} [Decidable c] {msg : String} {k : Except String α} {a : α} :
    chk c msg k = .ok a ↔ c ∧ k = .ok a := by
  unfold chk; split <;> simp_all

theorem jstep_cv {cfg : Config} {j j' : JState} {e : Event} {m : MuId} {o : VC.Ord}
    (h : jstep cfg j (.cv e m o) = .ok j') :
    CvFix.step cfg j.s e = .ok j'.s ∧ muxStep j.mx m (muxOf e) = .ok j'.mx ∧
    ghostStep j.s j'.s (fun k => (j'.mx k).sp) (kindCv e m o) j.g = .ok j'.g := by
  simp only [jstep] at h
  split at h
  · cases h
  · rename_i s' hs
    split at h
    · cases h
    · rename_i mx' hm
      split at h
      · cases h
      · rename_i g' hg
        cases h
        exact ⟨hs, hm, hg⟩

theorem jstep_mu {cfg : Config} {j j' : JState} {m : MuId} {x : MuX.Ev}
    (h : jstep cfg j (.mu m x) = .ok j') :
    j'.s = j.s ∧ muxStep j.mx m (some x) = .ok j'.mx ∧
    ghostStep j.s j.s (fun k => (j'.mx k).sp) (kindMu m x) j.g = .ok j'.g := by
  simp only [jstep] at h
  split at h
  · cases h
  · rename_i mx' hm
    split at h
    · cases h
    · rename_i g' hg
      cases h
      exact ⟨rfl, hm, hg⟩

theorem muxStep_none {mx mx' : MuId → MuX.State} {m : MuId} (h : muxStep mx m none = .ok mx') :
    mx' = mx := by
  simp only [muxStep, Except.ok.injEq] at h; exact h.symm

theorem muxStep_some {mx mx' : MuId → MuX.State} {m : MuId} {x : MuX.Ev}
    (h : muxStep mx m (some x) = .ok mx') :
    ∃ mm, MuX.step (mx m) x = .ok mm ∧ mx' = updM mx m mm := by
  simp only [muxStep] at h
  split at h
  · rename_i mm hm; cases h; exact ⟨mm, hm, rfl⟩
  · cases h

theorem updM_same (f : MuId → MuX.State) (m : MuId) (v : MuX.State) : updM f m v m = v := by
  simp [updM]

theorem updM_other (f : MuId → MuX.State) {m k : MuId} (v : MuX.State) (h : k ≠ m) :
    updM f m v k = f k := by
  simp [updM, h]

/-- How the holder of the spinlock of mutex `k` changes in one joint step on mutex `m` with the
    protocol event `x?`. -/
theorem muxStep_sp {mx mx' : MuId → MuX.State} {m : MuId} {x? : Option MuX.Ev}
    (h : muxStep mx m x? = .ok mx') (k : MuId) :
    (mx' k).sp = (mx k).sp ∨
    (k = m ∧ ∃ t exp new ord, x? = some (.cas t exp new ord) ∧ ord.isAcq = true ∧ (mx k).sp = none ∧
      (mx' k).sp = some t) ∨
    (k = m ∧ ∃ x, x? = some x ∧ (mx k).sp = some x.tid ∧ (mx' k).sp = none ∧
      ((∃ t exp new ord, x = .cas t exp new ord) ∨ ∃ t new ord, x = .st t new ord)) := by
  cases x? with
  | none => rw [muxStep_none h]; exact .inl rfl
  | some x =>
    obtain ⟨mm, hm, rfl⟩ := muxStep_some h
    by_cases hk : k = m
    · subst hk
      rw [updM_same]
      rcases mux_sp hm with h1 | ⟨t, exp, new, ord, rfl, h2, h3, h4⟩ | ⟨h1, h2, h3⟩
      · exact .inl h1
      · exact .inr (.inl ⟨rfl, t, exp, new, ord, rfl, h2, h3, h4⟩)
      · exact .inr (.inr ⟨rfl, x, rfl, h1, h2, h3⟩)
    · rw [updM_other _ _ hk]; exact .inl rfl

theorem newly_false_of_xfer {s s' : State} {r : Rid} (h : (s.recs r).stat = .xfer) :
    newly s s' r = false := by
  simp [newly, h]

theorem newly_true {s s' : State} {r : Rid} (h' : (s'.recs r).stat = .xfer)
    (h : (s.recs r).stat ≠ .xfer) : newly s s' r = true := by
  simp [newly, h, h']

/-- Events of other code on a mutex. -/
theorem ghost_mu {s : State} {sp' : MuId → Option Tid} {m : MuId} {x : MuX.Ev} {g g' : Ghost}
    (h : ghostStep s s sp' (kindMu m x) g = .ok g') :
    inTransfer (s.thr x.tid).loc = false ∧ g'.tm = g.tm ∧ g'.xm = g.xm ∧ g'.pub = g.pub ∧
    (∀ v r, g'.got v r = true → g.got v r = true ∨
      (∃ exp new ord, x = .cas v exp new ord ∧ ord.isAcq = true ∧ g.pub r = true ∧ g.xm r = m)) := by
  have other : ∀ v, kindMu m x = .muOther v → v = x.tid →
      inTransfer (s.thr x.tid).loc = false ∧ g'.tm = g.tm ∧ g'.xm = g.xm ∧ g'.pub = g.pub ∧
      (∀ v r, g'.got v r = true → g.got v r = true ∨
        (∃ exp new ord, x = .cas v exp new ord ∧ ord.isAcq = true ∧ g.pub r = true ∧ g.xm r = m)) := by
    intro v hk hv
    rw [hk] at h
    simp only [ghostStep, chk_ok, Except.ok.injEq] at h
    obtain ⟨h1, rfl⟩ := h
    subst hv
    exact ⟨h1, rfl, rfl, rfl, fun v r hg => .inl hg⟩
  cases x with
  | cas t exp new ord =>
    cases ho : ord.isAcq with
    | false => exact other t (by simp [kindMu, ho]) rfl
    | true =>
      have hk : kindMu m (.cas t exp new ord) = .muAcq t m := by simp [kindMu, ho]
      rw [hk] at h
      simp only [ghostStep, chk_ok, Except.ok.injEq] at h
      obtain ⟨h1, rfl⟩ := h
      refine ⟨h1, rfl, rfl, rfl, ?_⟩
      intro v r hg
      simp only [Bool.or_eq_true, Bool.and_eq_true, decide_eq_true_eq] at hg
      rcases hg with hg | ⟨⟨rfl, hp⟩, hx⟩
      · exact .inl hg
      · exact .inr ⟨exp, new, ord, rfl, ho, hp, hx⟩
  | ld t v => exact other t rfl rfl
  | casFail t exp obs => exact other t rfl rfl
  | st t new ord => exact other t rfl rfl
  | call t c => exact other t rfl rfl
  | ret t ok => exact other t rfl rfl
  | annAcq t l => exact other t rfl rfl
  | annRel t l => exact other t rfl rfl

/-- What the checks and ghost updates of an event of the CvFix layer amount to. -/
structure GhostCv (s s' : State) (sp' : MuId → Option Tid) (e : Event) (m : MuId) (o : VC.Ord)
    (g g' : Ghost) : Prop where
  tm : ∀ t, g'.tm t = g.tm t ∨ ∃ exp new obs, e = .muCas t .wwCas exp new obs true
  old : ∀ r, newly s s' r = false → g'.xm r = g.xm r ∧ (∀ v, g'.got v r = g.got v r) ∧
    (g'.pub r = g.pub r ∨ (∃ u exp new obs, e = .muCas u .wwRelCas exp new obs true ∧ m = g.tm u ∧
      (s.recs r).stat = .xfer ∧ (s.recs r).unl = [Unl.waker u] ∧ g'.pub r = true))
  enter : ∀ u exp new obs, e = .muCas u .wwCas exp new obs true →
    sp' m = some u ∧ g'.tm u = m ∧
    ∀ r, newly s s' r = true → g'.xm r = m ∧ g'.pub r = false ∧ ∀ v, g'.got v r = false
  publ : ∀ u exp new obs, e = .muCas u .wwRelCas exp new obs true →
    ∀ r, (s.recs r).stat = .xfer → (s.recs r).unl = [Unl.waker u] → g'.pub r = true
  wake : ∀ v r, e = .fSt v r .waiting 0 → (s.recs r).stat = .xfer → o.isRel = true ∧ g.got v r = true

theorem ghostCv_other {s s' : State} {sp' : MuId → Option Tid} {e : Event} {m : MuId} {o : VC.Ord}
    {g g' : Ghost} (h : ghostStep s s' sp' .other g = .ok g')
    (h1 : ∀ t exp new obs, e ≠ .muCas t .wwCas exp new obs true)
    (h2 : ∀ t exp new obs, e ≠ .muCas t .wwRelCas exp new obs true)
    (h3 : ∀ v r, e ≠ .fSt v r .waiting 0) : GhostCv s s' sp' e m o g g' := by
  simp only [ghostStep, Except.ok.injEq] at h
  subst h
  exact ⟨fun t => .inl rfl, fun r _ => ⟨rfl, fun _ => rfl, .inl rfl⟩,
    fun u exp new obs he => absurd he (h1 u exp new obs),
    fun u exp new obs he => absurd he (h2 u exp new obs),
    fun v r he => absurd he (h3 v r)⟩

theorem ghost_cv {s s' : State} {sp' : MuId → Option Tid} {e : Event} {m : MuId} {o : VC.Ord}
    {g g' : Ghost} (h : ghostStep s s' sp' (kindCv e m o) g = .ok g') :
    GhostCv s s' sp' e m o g g' := by
  cases e
  case muCas t site exp new obs ok =>
    cases ok
    · exact ghostCv_other (by cases site <;> exact h) (by simp) (by simp) (by simp)
    · cases site
      case wwCas =>
        simp only [kindCv, ghostStep, chk_ok, Except.ok.injEq] at h
        obtain ⟨h1, rfl⟩ := h
        refine ⟨?_, ?_, ?_, by simp, by simp⟩
        · intro t'
          by_cases ht : t' = t
          · subst ht; exact .inr ⟨exp, new, obs, rfl⟩
          · left; simp [ht]
        · intro r hn; simp [hn]
        · intro u exp' new' obs' he
          cases he
          exact ⟨h1, by simp, fun r hn => by simp [hn]⟩
      case wwRelCas =>
        simp only [kindCv, ghostStep, chk_ok, Except.ok.injEq] at h
        obtain ⟨h1, rfl⟩ := h
        refine ⟨fun t => .inl rfl, ?_, by simp, ?_, by simp⟩
        · intro r _
          refine ⟨rfl, fun _ => rfl, ?_⟩
          by_cases hc : (s.recs r).stat = .xfer ∧ (s.recs r).unl = [Unl.waker t]
          · exact .inr ⟨t, exp, new, obs, rfl, h1, hc.1, hc.2, by simp [hc.1, hc.2]⟩
          · left
            have : (decide ((s.recs r).stat = RStat.xfer) && decide ((s.recs r).unl = [Unl.waker t])) = false := by
              simpa using hc
            simp [this]
        · intro u exp' new' obs' he r hx hu
          cases he
          simp [hx, hu]
      all_goals exact ghostCv_other h (by simp) (by simp) (by simp)
  case fSt v r f new =>
    cases f
    case rc => exact ghostCv_other h (by simp) (by simp) (by simp)
    case waiting =>
      cases new
      case succ n => exact ghostCv_other h (by simp) (by simp) (by simp)
      case zero =>
        simp only [kindCv, ghostStep] at h
        refine ⟨fun t => ?_, fun r' _ => ?_, by simp, by simp, ?_⟩
        · split at h
          · simp only [chk_ok, Except.ok.injEq] at h; rw [← h.2.2]; exact .inl rfl
          · cases h; exact .inl rfl
        · split at h
          · simp only [chk_ok, Except.ok.injEq] at h; rw [← h.2.2]; exact ⟨rfl, fun _ => rfl, .inl rfl⟩
          · cases h; exact ⟨rfl, fun _ => rfl, .inl rfl⟩
        · intro v' r' he hx
          cases he
          rw [if_pos hx] at h
          simp only [chk_ok] at h
          exact ⟨h.1, h.2.1⟩
  all_goals exact ghostCv_other h (by simp) (by simp) (by simp)

theorem xcstepx_eq (so : Site → VC.Ord) (c : VC.St XLoc) (ev : XEv) :
    xcstepx so c ev = VC.stepO c (toX so ev) := by
  unfold xcstepx; cases toX so ev <;> rfl

theorem xc_mono (c : VC.St XLoc) (ev : XEv) (u : Tid) :
    VC.Clock.le (c.vc u) ((xcstep c ev).vc u) := by
  rw [xcstep, xcstepx_eq]; exact VC.stepO_mono _ _ u

theorem toX_cv_st {so : Site → VC.Ord} {e : Event} {m : MuId} {o : VC.Ord} {a : VC.AEv XLoc}
    (h : toX so (.cv e m o) = some a) (hop : a.op = .st) : ∃ l, stOn e = some l ∧ a.loc = reloc m l := by
  simp only [toX, Option.map_eq_some_iff] at h
  obtain ⟨b, hb, rfl⟩ := h
  exact ⟨b.loc, toVCx_st hb hop, rfl⟩

/-- A clock carried by the release clock of `x` stays carried by every event of the CvFix layer that
    is not a plain store to `x`. -/
theorem xc_keep_cv (c : VC.St XLoc) (e : Event) (m : MuId) (o : VC.Ord) (x : XLoc) (k : VC.Clock)
    (hs : ∀ l, stOn e = some l → reloc m l ≠ x) (hk : VC.Clock.le k (c.relc x)) :
    VC.Clock.le k ((xcstep c (.cv e m o)).relc x) := by
  rw [xcstep, xcstepx_eq]
  refine VC.stepO_keep x k c _ hk fun a ha hl hop => ?_
  obtain ⟨l, h1, h2⟩ := toX_cv_st ha hop
  exact absurd (by rw [← h2]; exact hl) (hs l h1)

theorem reloc_ne_mu (m k : MuId) (e : Event) (l : VLoc) (h : stOn e = some l) : reloc m l ≠ .mu k := by
  cases l with
  | word => simp [reloc]
  | mu => exact absurd h (stOn_ne_mu e)
  | fld r f => simp [reloc]

/-- … and by every event of other code on a mutex word, provided a plain store to `x` is a release
    store of a thread whose clock covers the carried clock. -/
theorem xc_keep_mu (c : VC.St XLoc) (m : MuId) (x' : MuX.Ev) (x : XLoc) (k : VC.Clock)
    (hs : ∀ t new ord, x' = .st t new ord → x = .mu m → ord.isRel = true ∧ VC.Clock.le k (c.vc t))
    (hk : VC.Clock.le k (c.relc x)) : VC.Clock.le k ((xcstep c (.mu m x')).relc x) := by
  rw [xcstep, xcstepx_eq]
  refine VC.stepO_keep x k c _ hk fun a ha hl hop => ?_
  cases x' <;> simp only [toX, muVC, Option.some.injEq, reduceCtorEq] at ha
  all_goals (subst ha; first | cases hop | skip)
  rename_i t new ord
  obtain ⟨h1, h2⟩ := hs t new ord rfl hl.symm
  exact ⟨by simp only [ordV_isRel]; exact h1, h2⟩

/-- The acquire load of the wait loop [cv.c/10] imports the release clock of `waiting`. -/
theorem xc_wHead (c : VC.St XLoc) (t : Tid) (r : Rid) (obs : Nat) (m : MuId) (o : VC.Ord) :
    VC.Clock.le (c.relc (.fld r .waiting)) ((xcstep c (.cv (.recLd t .wHead r obs) m o)).vc t) :=
  VC.acq_sees_relc c ⟨t, .ld, .acq, .fld r .waiting⟩ rfl (.inl rfl)

/-- A foreign release store exports the writer's clock. -/
theorem xc_fSt (c : VC.St XLoc) (v : Tid) (r : Rid) (new : Nat) (m : MuId) (o : VC.Ord)
    (ho : o.isRel = true) :
    VC.Clock.le (c.vc v) ((xcstep c (.cv (.fSt v r .waiting new) m o)).relc (.fld r .waiting)) :=
  VC.rel_records c ⟨v, .st, o, .fld r .waiting⟩ ho (.inl rfl)

/-- The release CAS of wake_waiters [cv.c/3] exports the waker's clock into the release clock of
    the mutex word. -/
theorem xc_pub (c : VC.St XLoc) (u : Tid) (exp new obs : Nat) (m : MuId) (o : VC.Ord) :
    VC.Clock.le (c.vc u) ((xcstep c (.cv (.muCas u .wwRelCas exp new obs true) m o)).relc (.mu m)) :=
  VC.rel_records c ⟨u, .rmw, .rel, .mu m⟩ rfl (.inr rfl)

/-- A successful acquire CAS of cv.c on a mutex word imports its release clock. -/
theorem xc_cvAcq (c : VC.St XLoc) (u : Tid) (site : MSite) (exp new obs : Nat) (m : MuId) (o : VC.Ord)
    (ha : (siteOrd (mSite site)).isAcq = true) :
    VC.Clock.le (c.relc (.mu m)) ((xcstep c (.cv (.muCas u site exp new obs true) m o)).vc u) :=
  VC.acq_sees_relc c ⟨u, .rmw, siteOrd (mSite site), .mu m⟩ ha (.inr rfl)

/-- A successful acquire CAS of other code on a mutex word imports its release clock. -/
theorem xc_muAcq (c : VC.St XLoc) (t : Tid) (exp new : Nat) (ord : MuX.Ord) (m : MuId)
    (ha : ord.isAcq = true) :
    VC.Clock.le (c.relc (.mu m)) ((xcstep c (.mu m (.cas t exp new ord))).vc t) :=
  VC.acq_sees_relc c ⟨t, .rmw, ordV ord, .mu m⟩ (by rw [ordV_isAcq]; exact ha) (.inr rfl)

/-- The sites of other code whose declared orders the chain uses, for the tie with the regenerated
    site table (`Proofs/TieTransfer.lean`): (file, ordinal, function, macro). -/
def transferSiteRows : List (String × Nat × String × String) :=
  [("cv.c", 1, "wake_waiters", "ATM_CAS_ACQ"),                    -- takes the mutex' queue spinlock
   ("cv.c", 3, "wake_waiters", "ATM_CAS_REL"),                    -- publishes the transfer       (release)
   ("mu.c", 24, "nsync_mu_unlock_slow_", "ATM_CAS_RELACQ"),       -- unlocker takes the spinlock  (acquire)
   ("common.c", 1, "nsync_spin_test_and_set_", "ATM_CAS_ACQ"),    -- … re-takes it after evaluating conditions
   ("mu.c", 28, "nsync_mu_unlock_slow_", "ATM_STORE_REL"),        -- `waiting := 0`               (release)
   ("cv.c", 10, "nsync_cv_wait_with_deadline_generic", "ATM_LOAD_ACQ"),  -- the waiter's loop      (acquire)
   ("mu_wait.c", 1, "mu_try_acquire_after_timeout_or_cancel", "ATM_CAS_ACQ"),   -- takes lock + spinlock
   ("mu_wait.c", 8, "mu_try_acquire_after_timeout_or_cancel", "ATM_STORE_REL"), -- plain stores to the word (ordinals after the repair of F9: one more load at 2)
   ("mu_wait.c", 9, "mu_try_acquire_after_timeout_or_cancel", "ATM_STORE_REL")]

/-- Does a site table ((file, function, macro, location) in source order, as regenerated in
    `NsyncVerif.Gen.sites`) have these macros at these sites? -/
def transferSitesAgree (gen : List (String × String × String × String)) : Bool :=
  transferSiteRows.all (fun row =>
    match (gen.filter (fun g => g.1 == row.1))[row.2.1]? with
    | some g => g.2.1 == row.2.2.1 && g.2.2.1 == row.2.2.2
    | none => false)

/-- The locations (as spelled in the source) into which the library performs a RELAXED plain store
    `ATM_STORE`: record fields and counter fields, never a mutex word. -/
def relaxedStoreLocs : List String :=
  ["&w->remove_count", "&c->value", "&c->waited", "&nw->waiting", "&w->nw.waiting", "&nw.waiting",
   "&nw[i].waiting"]

/-- Is every relaxed plain store of the library a store to one of `relaxedStoreLocs` — so that
    every plain store to a mutex word, anywhere, is an `ATM_STORE_REL`? -/
def muWordStoresRel (gen : List (String × String × String × String)) : Bool :=
  gen.all (fun g => !(g.2.2.1 == "ATM_STORE") || relaxedStoreLocs.contains g.2.2.2)

end NsyncVerif.CvMu
