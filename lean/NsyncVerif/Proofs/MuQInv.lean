import NsyncVerif.Proofs.MuQAbs
/-
  MuQ: the abstract invariants (definitions) and simple projection lemmas of the abstract updates.
-/
namespace NsyncVerif.MuQ

/-- (I_lock) the lock bits of the word are exactly the shares the threads own. -/
structure ALock (a : AState) : Prop where
  wown : ∀ t, a.wOwner = some t ↔ a.ts t = some .W
  rown : ∀ t, t ∈ a.rOwners ↔ a.ts t = some .R
  nodup : a.rOwners.Nodup
  wl : a.word.wlock = a.wOwner.isSome
  rd : a.word.readers = a.rOwners.length
  excl : a.word.wlock = true → a.word.readers = 0
  cond : a.word.cond = false

/-- (I_spin) the spinlock bit is owned by exactly the thread whose role needs it. -/
structure ASpin (a : AState) : Prop where
  own : ∀ t, a.sp = some t ↔ (a.ro t).spin = true
  bit : a.word.spin = a.sp.isSome

def Phase.queued : Phase → Bool
  | .rel | .loopLd | .loopP => true
  | _ => false

def Phase.inLoop : Phase → Bool
  | .loopLd | .loopP => true
  | _ => false

/-- (I_queue) -/
structure AQueue (a : AState) : Prop where
  nodup : a.queue.Nodup
  inq : ∀ k, k ∈ a.queue → (a.wr k).waiting = true ∧
          ∃ t c ph, a.ro t = .slow c ph ∧ c.w = some k ∧ ph.queued = true
  own : ∀ k t, (a.wr k).owner = some t ↔ ∃ c ph, a.ro t = .slow c ph ∧ c.w = some k
  lty : ∀ t c ph k, a.ro t = .slow c ph → c.w = some k → (a.wr k).lType = c.l
  wk : ∀ u k, k ∈ (a.ro u).wake → k ∉ a.queue ∧ (a.wr k).waiting = true ∧
          ∃ t c ph, a.ro t = .slow c ph ∧ c.w = some k ∧ ph.inLoop = true
  wkNodup : ∀ u, (a.ro u).wake.Nodup
  wkUniq : ∀ u u' k, k ∈ (a.ro u).wake → k ∈ (a.ro u').wake → u = u'
  wt : ∀ k, (a.wr k).waiting = true → k ∈ a.queue ∨ ∃ u, k ∈ (a.ro u).wake
  slok : ∀ t c ph, a.ro t = .slow c ph →
          c.ok ∧ ((ph = .pre ∨ ph = .st) → c.w.isSome = c.clear) ∧ (ph.queued = true → c.w.isSome = true)
  relq : ∀ t c, a.ro t = .slow c .rel → ∃ k, c.w = some k ∧ k ∈ a.queue
  scant : ∀ u sc, a.ro u = .scan sc → ∃ pre, a.queue = pre ++ sc.todo

/-- (I_hint), first part: MU_WAITING, MU_ALL_FALSE and the locals of the scan. -/
structure AHint (a : AState) : Prop where
  wq : a.sp = none → (a.word.waiting = true ↔ a.queue ≠ [])
  wsp : ∀ t, (a.ro t).spin = true → a.word.waiting = true
  af : a.word.af = false
  scanq : ∀ u sc, a.ro u = .scan sc → sc.wake ≠ [] ∧ sc.wt ≠ none ∧
            ∃ pre, a.queue = pre ++ sc.todo ∧ (sc.saf = true → pre = []) ∧
              (sc.sww = true → ∃ k, k ∈ pre ∧ (a.wr k).lType = .W)
  finq : ∀ u f, a.ro u = .fin f → f.wake ≠ [] ∧ f.cDesig = false ∧ f.cEmpty = a.queue.isEmpty ∧
            (f.saf = true → f.cEmpty = true) ∧ (f.sww = true → ∃ k, k ∈ a.queue ∧ (a.wr k).lType = .W)

/-- A thread inside lock_slow that has been woken (or is being woken) and has neither acquired nor
    re-queued yet: awake with `clear = MU_DESIG_WAKER`, or still in the wait loop with its record
    already removed from the queue. -/
def InFlight (a : AState) (t : Tid) : Prop :=
  ∃ c ph, a.ro t = .slow c ph ∧
    ((ph = .pre ∧ c.clear = true) ∨ (ph.inLoop = true ∧ ∃ k, c.w = some k ∧ k ∉ a.queue))

/-- A thread inside unlock_slow between its grab CAS and its final CAS. -/
def Unlocking (a : AState) (u : Tid) : Prop := (∃ sc, a.ro u = .scan sc) ∨ (∃ f, a.ro u = .fin f)

/-- Somebody is queued or about to queue itself. -/
def Need (a : AState) : Prop := a.queue ≠ [] ∨ ∃ t c, a.ro t = .slow c .st

/-- Somebody is responsible for the next wake-up: a thread owning a share (it will release), a woken
    thread in flight, or an unlocker between its grab CAS and its final CAS. -/
def Resp (a : AState) : Prop := (∃ t, a.ts t ≠ none) ∨ (∃ t, InFlight a t) ∨ (∃ u, Unlocking a u)

/-- (I_hint) second part, and the responsibility invariants. -/
structure ALive (a : AState) : Prop where
  desig : a.word.desig = true → (∃ t, InFlight a t) ∨ (∃ u, Unlocking a u)
  lw : a.word.lw = true → ∃ t c ph, a.ro t = .slow c ph ∧ c.lwl = true
  ww : a.word.ww = true → ∃ t c ph, a.ro t = .slow c ph ∧ c.l = .W ∧ (ph = .st ∨ c.w.isSome = true)
  resp : Need a → Resp a
  post : ∀ t c k, a.ro t = .slow c .loopP → c.w = some k → (a.wr k).waiting = false →
          (a.wr k).sem ≠ 0 ∨ ∃ u r, a.ro u = .wakeV k r

/-! ### projections of the abstract updates -/

@[simp] theorem AState.addShare_word (a : AState) (t : Tid) (l : Mode) : (a.addShare t l).word = a.word := by cases l <;> rfl
@[simp] theorem AState.addShare_queue (a : AState) (t : Tid) (l : Mode) : (a.addShare t l).queue = a.queue := by cases l <;> rfl
@[simp] theorem AState.addShare_wr (a : AState) (t : Tid) (l : Mode) : (a.addShare t l).wr = a.wr := by cases l <;> rfl
@[simp] theorem AState.addShare_sp (a : AState) (t : Tid) (l : Mode) : (a.addShare t l).sp = a.sp := by cases l <;> rfl
@[simp] theorem AState.addShare_ro (a : AState) (t : Tid) (l : Mode) : (a.addShare t l).ro = a.ro := by cases l <;> rfl
@[simp] theorem AState.addShare_ts (a : AState) (t : Tid) (l : Mode) : (a.addShare t l).ts = setFn a.ts t (some l) := by cases l <;> rfl

@[simp] theorem AState.subShare_word (a : AState) (t : Tid) (l : Mode) : (a.subShare t l).word = a.word := by cases l <;> rfl
@[simp] theorem AState.subShare_queue (a : AState) (t : Tid) (l : Mode) : (a.subShare t l).queue = a.queue := by cases l <;> rfl
@[simp] theorem AState.subShare_wr (a : AState) (t : Tid) (l : Mode) : (a.subShare t l).wr = a.wr := by cases l <;> rfl
@[simp] theorem AState.subShare_sp (a : AState) (t : Tid) (l : Mode) : (a.subShare t l).sp = a.sp := by cases l <;> rfl
@[simp] theorem AState.subShare_ro (a : AState) (t : Tid) (l : Mode) : (a.subShare t l).ro = a.ro := by cases l <;> rfl
@[simp] theorem AState.subShare_ts (a : AState) (t : Tid) (l : Mode) : (a.subShare t l).ts = setFn a.ts t none := by cases l <;> rfl

@[simp] theorem AState.dropW_word (a : AState) (w : Option Wid) : (a.dropW w).word = a.word := by cases w <;> rfl
@[simp] theorem AState.dropW_queue (a : AState) (w : Option Wid) : (a.dropW w).queue = a.queue := by cases w <;> rfl
@[simp] theorem AState.dropW_sp (a : AState) (w : Option Wid) : (a.dropW w).sp = a.sp := by cases w <;> rfl
@[simp] theorem AState.dropW_ro (a : AState) (w : Option Wid) : (a.dropW w).ro = a.ro := by cases w <;> rfl
@[simp] theorem AState.dropW_ts (a : AState) (w : Option Wid) : (a.dropW w).ts = a.ts := by cases w <;> rfl
@[simp] theorem AState.dropW_wOwner (a : AState) (w : Option Wid) : (a.dropW w).wOwner = a.wOwner := by cases w <;> rfl
@[simp] theorem AState.dropW_rOwners (a : AState) (w : Option Wid) : (a.dropW w).rOwners = a.rOwners := by cases w <;> rfl

/-- `dropW` writes only the `owner` of the record given back. -/
theorem AState.dropW_wr (a : AState) (w : Option Wid) (k : Wid) :
    ((a.dropW w).wr k).waiting = (a.wr k).waiting ∧ ((a.dropW w).wr k).lType = (a.wr k).lType ∧
      ((a.dropW w).wr k).sem = (a.wr k).sem ∧
      ((a.dropW w).wr k).owner = if w = some k then none else (a.wr k).owner := by
  cases w with
  | none => exact ⟨rfl, rfl, rfl, rfl⟩
  | some k0 =>
    refine ⟨setFn_field WRec.waiting k, setFn_field WRec.lType k, setFn_field WRec.sem k, ?_⟩
    by_cases e : k = k0
    · rw [e, if_pos rfl]; exact congrArg WRec.owner (setFn_same _ _ _)
    · rw [if_neg fun h => e (Option.some.inj h).symm]; exact congrArg WRec.owner (setFn_other _ _ _ _ e)

@[simp] theorem AState.semPost_word (cfg : Cfg) (a : AState) (k : Wid) : (a.semPost cfg k).word = a.word := rfl
@[simp] theorem AState.semPost_queue (cfg : Cfg) (a : AState) (k : Wid) : (a.semPost cfg k).queue = a.queue := rfl
@[simp] theorem AState.semPost_sp (cfg : Cfg) (a : AState) (k : Wid) : (a.semPost cfg k).sp = a.sp := rfl
@[simp] theorem AState.semPost_ro (cfg : Cfg) (a : AState) (k : Wid) : (a.semPost cfg k).ro = a.ro := rfl
@[simp] theorem AState.semPost_ts (cfg : Cfg) (a : AState) (k : Wid) : (a.semPost cfg k).ts = a.ts := rfl
@[simp] theorem AState.semPost_wOwner (cfg : Cfg) (a : AState) (k : Wid) : (a.semPost cfg k).wOwner = a.wOwner := rfl
@[simp] theorem AState.semPost_rOwners (cfg : Cfg) (a : AState) (k : Wid) : (a.semPost cfg k).rOwners = a.rOwners := rfl

@[simp] theorem AState.advance_word (a : AState) (t : Tid) (sc : Scan) : (a.advance t sc).word = a.word := by
  simp only [AState.advance]; split <;> rfl
@[simp] theorem AState.advance_wr (a : AState) (t : Tid) (sc : Scan) : (a.advance t sc).wr = a.wr := by
  simp only [AState.advance]; split <;> rfl
@[simp] theorem AState.advance_sp (a : AState) (t : Tid) (sc : Scan) : (a.advance t sc).sp = a.sp := by
  simp only [AState.advance]; split <;> rfl
@[simp] theorem AState.advance_ts (a : AState) (t : Tid) (sc : Scan) : (a.advance t sc).ts = a.ts := by
  simp only [AState.advance]; split <;> rfl
@[simp] theorem AState.advance_wOwner (a : AState) (t : Tid) (sc : Scan) : (a.advance t sc).wOwner = a.wOwner := by
  simp only [AState.advance]; split <;> rfl
@[simp] theorem AState.advance_rOwners (a : AState) (t : Tid) (sc : Scan) : (a.advance t sc).rOwners = a.rOwners := by
  simp only [AState.advance]; split <;> rfl

theorem AState.advance_ro_other (a : AState) (t u : Tid) (sc : Scan) (h : u ≠ t) : (a.advance t sc).ro u = a.ro u := by
  simp only [AState.advance]; split <;> simp [setFn, h]

theorem AState.advance_ro_self (a : AState) (t : Tid) (sc : Scan) :
    (∃ sc', (a.advance t sc).ro t = .scan sc') ∨ (∃ f, (a.advance t sc).ro t = .fin f) := by
  simp only [AState.advance]; split
  · left; exact ⟨_, setFn_same _ _ _⟩
  · right; exact ⟨_, setFn_same _ _ _⟩

theorem ALock.congr {a a' : AState} (h : ALock a) (h1 : a'.word.wlock = a.word.wlock)
    (h2 : a'.word.readers = a.word.readers) (h3 : a'.word.cond = a.word.cond)
    (h4 : a'.wOwner = a.wOwner) (h5 : a'.rOwners = a.rOwners) (h6 : a'.ts = a.ts) : ALock a' := by
  obtain ⟨a1, a2, a3, a4, a5, a6, a7⟩ := h
  exact ⟨by rw [h4, h6]; exact a1, by rw [h5, h6]; exact a2, by rw [h5]; exact a3, by rw [h1, h4]; exact a4,
    by rw [h2, h5]; exact a5, by rw [h1, h2]; exact a6, by rw [h3]; exact a7⟩

end NsyncVerif.MuQ
