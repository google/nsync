import NsyncVerif.Proofs.MuCFairDefs
import NsyncVerif.Proofs.MuCOther
import NsyncVerif.Proofs.Sched
/-
  MuC, fair termination (C06): infinite executions (the constructions of Proofs/MuQFairExec.lean, for the model MuC).

  Every state of an `Exec` is reachable; a thread's program point and `held` change only when it moves
  (`Moves`: any event of the thread); weak fairness gives a move (`fair_move`).  The regions of
  Proofs/MuCFairRegions.lean go through the finer `RMoves` (an event that is not a client data access).
-/
namespace NsyncVerif.MuC

variable {cfg : Cfg} {s0 : State}

theorem Exec.next_none (x : Exec cfg s0) {i : Nat} (h : x.σ i = none) : x.ρ (i + 1) = x.ρ i := by
  have := x.next i; rw [h] at this; exact this

theorem Exec.next_some (x : Exec cfg s0) {i : Nat} {e : Event} (h : x.σ i = some e) :
    step cfg (x.ρ i) e = .ok (x.ρ (i + 1)) := by
  have := x.next i; rw [h] at this; exact this

theorem Exec.reach (x : Exec cfg s0) (hr : Reachable cfg s0) : ∀ i, Reachable cfg (x.ρ i) := by
  intro i
  induction i with
  | zero => rw [x.start]; exact hr
  | succ i ih =>
    cases h : x.σ i with
    | none => rw [x.next_none h]; exact ih
    | some e => exact reachable_step ih (x.next_some h)

/-- What holds across a time at which nobody moves and across every accepted step holds across every time step. -/
theorem Exec.next_rel (x : Exec cfg s0) {r : State → State → Prop} (j : Nat) (hrefl : r (x.ρ j) (x.ρ j))
    (hstep : ∀ e, x.σ j = some e → step cfg (x.ρ j) e = .ok (x.ρ (j + 1)) → r (x.ρ j) (x.ρ (j + 1))) :
    r (x.ρ j) (x.ρ (j + 1)) := by
  cases h : x.σ j with
  | none => rw [x.next_none h]; exact hrefl
  | some e => exact hstep e h (x.next_some h)

def Moves (x : Exec cfg s0) (t : Tid) (j : Nat) : Prop := ∃ e, x.σ j = some e ∧ e.tid = some t

theorem not_moves_frame (x : Exec cfg s0) {t : Tid} {j : Nat} (h : ¬ Moves x t j) :
    (x.ρ (j + 1)).pc t = (x.ρ j).pc t ∧ (x.ρ (j + 1)).held t = (x.ρ j).held t := by
  cases hs : x.σ j with
  | none => rw [x.next_none hs]; exact ⟨rfl, rfl⟩
  | some e =>
    have hne : e.tid ≠ some t := fun ht => h ⟨e, hs, ht⟩
    exact step_other (x.next_some hs) t hne

theorem frame_between (x : Exec cfg s0) {t : Tid} {i j : Nat} (hij : i ≤ j)
    (h : ∀ j', i ≤ j' → j' < j → ¬ Moves x t j') :
    (x.ρ j).pc t = (x.ρ i).pc t ∧ (x.ρ j).held t = (x.ρ i).held t :=
  Prod.mk.inj (Sched.const_between (M := Moves x t) (f := fun j => ((x.ρ j).pc t, (x.ρ j).held t))
    (fun _ hm => Prod.ext (not_moves_frame x hm).1 (not_moves_frame x hm).2) hij h)

/-- Weak fairness: a thread that stays inside a call and awake as long as it does not move, moves. -/
theorem fair_move (x : Exec cfg s0) (hf : WeakFair x) {t : Tid} {i : Nat}
    (h : ∀ j, i ≤ j → (∀ j', i ≤ j' → j' < j → ¬ Moves x t j') →
      (x.ρ j).pc t ≠ .idle ∧ ¬ AsleepOnSem (x.ρ j) t) :
    ∃ j, i ≤ j ∧ Moves x t j :=
  Sched.moves_of_fair (M := Moves x t) (fun h' => let ⟨j, e, hj, he, ht, _⟩ := hf t i h'; ⟨j, hj, e, he, ht⟩) h

/-- A class of states `R` (indexed by time) with a rank that steps of the others do not increase
    and every step of `t` decreases, and in which `t` always moves again, is empty. -/
theorem chain (x : Exec cfg s0) (t : Tid) (n : Nat) (R : Nat → Prop) (rk : Nat → Nat)
    (hstay : ∀ j, n ≤ j → R j → ¬ Moves x t j → R (j + 1) ∧ rk (j + 1) ≤ rk j)
    (hmove : ∀ j, n ≤ j → R j → Moves x t j → R (j + 1) ∧ rk (j + 1) < rk j)
    (hlive : ∀ j, n ≤ j → R j → ∃ j', j ≤ j' ∧ Moves x t j') :
    ∀ j, n ≤ j → ¬ R j :=
  Sched.chain R rk hstay hmove hlive

end NsyncVerif.MuC
