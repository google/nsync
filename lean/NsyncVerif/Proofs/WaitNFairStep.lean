/-
  Proofs/WaitNFairStep.lean — WaitN layer, liveness: the classification `Prog` of a thread's own step, read off the two
  halves of the step (`Act`, `Tail` of Proofs/WaitNAct.lean): the returns of the waitable functions and the statements of
  wait.c by the program-counter arithmetic of Proofs/WaitNFairRank.lean, the moves inside a call by the edges of the
  control flow (`Flow`), each of which lowers the rank or is a round of a test-and-set loop.
-/
import NsyncVerif.Proofs.WaitNFairRank


namespace WaitN

theorem Prog.stutter {s s' : State} {t : Tid} {e : Ev} (hpc : s'.pc t = s.pc t) (hpo : s'.post t = s.post t)
    (hfr : frSame (s.fr t) (s'.fr t)) : Prog s s' t e :=
  .inr (.inr ⟨by rw [hfr], by rw [hfr], .inl ⟨hpc, hpo, hfr⟩⟩)

theorem Prog.dec {s s' : State} {t : Tid} {e : Ev} (ho : (s'.fr t).objs = (s.fr t).objs)
    (hd : (s'.fr t).dl = (s.fr t).dl) (h : rk s' t < rk s t) : Prog s s' t e :=
  .inr (.inr ⟨ho, hd, .inr (.inl h)⟩)

theorem prog_dflt {s s' : State} {t : Tid} {e : Ev} (h : dflt s t e = .ok s') : Prog s s' t e := by
  obtain ⟨h1, h2, h3, _⟩ := dflt_frame h
  exact Prog.stutter (by rw [h1]) (by rw [h3]) (by rw [h2]; exact frSame_refl _)

theorem Prog.decle {s s' : State} {t : Tid} {e : Ev} {X : Nat} (hb : X ≤ rk s t) (ho : (s'.fr t).objs = (s.fr t).objs)
    (hd : (s'.fr t).dl = (s.fr t).dl) (h : rk s' t < X) : Prog s s' t e :=
  Prog.dec ho hd (Nat.lt_of_lt_of_le h hb)

theorem count_eq {f f' : Frame} (h : f'.objs = f.objs) : f'.count = f.count := by simp [Frame.count, h]

/-- a `ready_time` call returns -/
theorem prog_rtDone {s s' : State} {t : Tid} {u : Use} {i : Nat} {time : Deadline} {e : Ev} (hi : i < (s.fr t).count)
    (hb : base u (s.fr t).count i + 1 ≤ rk s t)
    (h : rtDone s t u i time = .ok s') : Prog s s' t e := by
  unfold rtDone at h
  split at h
  · split at h <;> cases h
    · refine Prog.decle hb (by simp) (by simp) ?_
      simp [rk, rank, base, offA]; omega
    · refine Prog.decle hb (by simp) (by simp) ?_
      have := rank_pollNext (s.fr t) (i + 1) (s.post t)
      simp only [rk, base, setPc_pc, if_pos, setPc_fr, setPc_post] at this ⊢
      omega
  · cases h
    generalize hf : (if dlePast time = true then _ else _ : Frame) = f'
    have hobjs : f'.objs = (s.fr t).objs := by rw [← hf]; split <;> (try split) <;> rfl
    have hdl : f'.dl = (s.fr t).dl := by rw [← hf]; split <;> (try split) <;> rfl
    refine Prog.decle hb (by simpa using hobjs) (by simpa using hdl) ?_
    have hcount := count_eq hobjs
    have := rank_loopNext f' (i + 1) f'.count (s.post t)
    simp only [rk, setPc_pc, if_pos, setPc_fr, setPc_post, setFr_fr, setFr_post, base]
    rw [hcount] at this ⊢
    omega
  · cases h
    refine Prog.decle hb (by simp) (by simp) ?_
    simp only [rk, base, setPc_pc, if_pos, setPc_fr, rank, deqR]
    omega

/-- `Prog` reads the pre-state only through the thread's own program counter, frame and pending post -/
theorem Prog.congr {s0 s s' : State} {t : Tid} {e : Ev} (hpc : s0.pc t = s.pc t) (hfr : s0.fr t = s.fr t)
    (hpo : s0.post t = s.post t) (h : Prog s0 s' t e) : Prog s s' t e := by
  unfold Prog rk at *
  rw [hpc, hfr, hpo] at h
  exact h

theorem unbindSem_pc (s : State) (t : Tid) : (unbindSem s t).pc = s.pc := by unfold unbindSem; split <;> rfl
theorem unbindSem_post (s : State) (t : Tid) : (unbindSem s t).post = s.post := by unfold unbindSem; split <;> rfl
theorem unbindSem_objs (s : State) (t u : Tid) : ((unbindSem s t).fr u).objs = (s.fr u).objs := by
  unfold unbindSem; split <;> (simp; split <;> simp_all)
theorem unbindSem_dl (s : State) (t u : Tid) : ((unbindSem s t).fr u).dl = (s.fr u).dl := by
  unfold unbindSem; split <;> (simp; split <;> simp_all)

/-- a `dequeue` call returns -/
theorem prog_deqDone {s s' : State} {t : Tid} {j : Nat} {res : Bool} {e : Ev} (hj : j < (s.fr t).count)
    (hb : 3 + ((s.fr t).count - j) * 32 + 1 ≤ rk s t)
    (h : deqDone s t j res = .ok s') : Prog s s' t e := by
  unfold deqDone at h
  dsimp only at h
  split at h <;> cases h
  · refine Prog.decle hb (by simp) (by simp) ?_
    simp only [rk, setPc_pc, if_pos, setPc_fr, setPc_post, setFr_fr, setFr_post]
    generalize hf : ({ s.fr t with ready := _, deqRes := _, deqUnl := _ } : Frame) = f'
    have hobjs : f'.objs = (s.fr t).objs := by rw [← hf]
    have := rank_deqNext f' (j + 1) f'.count (s.post t)
    rw [count_eq hobjs] at this ⊢
    omega
  · refine Prog.decle hb ?_ ?_ ?_
    · simp [unbindSem_objs]
    · simp [unbindSem_dl]
    · simp only [rk, setPc_pc, if_pos, setPc_fr, setPc_post, unbindSem_post, setFr_post]
      have := fun f n => rank_finNext f n (s.post t)
      exact Nat.lt_of_le_of_lt (this _ _) (by omega)

/-- an `enqueue` call returns -/
theorem prog_afterEnq {s s' : State} {t : Tid} {i : Nat} {res : Bool} {e : Ev}
    (hb : offU (s.fr t).count + ((s.fr t).count - i) * 32 + 1 ≤ rk s t)
    (h : afterEnq s t (i + 1) res = .ok s') : Prog s s' t e := by
  unfold afterEnq at h
  cases h
  generalize hf : (if res = true then _ else _ : Frame) = f'
  have hobjs : f'.objs = (s.fr t).objs := by rw [← hf]; split <;> rfl
  have hdl : f'.dl = (s.fr t).dl := by rw [← hf]; split <;> rfl
  refine Prog.decle hb (by simpa using hobjs) (by simpa using hdl) ?_
  simp only [rk, setPc_pc, if_pos, setPc_fr, setPc_post, setFr_fr, setFr_post]
  have := rank_enqNext f' i res (s.post t)
  rw [count_eq hobjs] at this ⊢
  exact this

theorem bindSem_keeps {s s' : State} {owner : Tid} {j : SemId} (h : bindSem s owner j = some s') :
    s'.pc = s.pc ∧ s'.post = s.post ∧ ∀ u, (s'.fr u).objs = (s.fr u).objs ∧ (s'.fr u).dl = (s.fr u).dl := by
  unfold bindSem at h
  split at h
  · split at h <;> cases h
    exact ⟨rfl, rfl, fun _ => ⟨rfl, rfl⟩⟩
  · split at h <;> cases h
    refine ⟨rfl, rfl, fun u => ?_⟩
    simp; split <;> simp_all

theorem postSem_keeps {s s' : State} {r : Rid} {j : SemId} (h : postSem s r j = some s') :
    s'.pc = s.pc ∧ s'.post = s.post ∧ ∀ u, (s'.fr u).objs = (s.fr u).objs ∧ (s'.fr u).dl = (s.fr u).dl := by
  unfold postSem at h
  split at h
  · exact bindSem_keeps h
  · cases h; exact ⟨rfl, rfl, fun _ => ⟨rfl, rfl⟩⟩

/-! ### the edges of the control flow lower the rank -/

theorem NdE.rank {a b : NDst} (h : NdE a b) : ndR b < ndR a := by cases h <;> simp [ndR]
theorem EnqE.rank {a b : EnqSt} (h : EnqE a b) : enqR b < enqR a := by cases h <;> simp [enqR]
theorem DeqE.rank {a b : DeqSt} (h : DeqE a b) : deqR b < deqR a := by cases h <;> simp [deqR]
theorem CvEnqE.rank {a b : CvEnqSt} (h : CvEnqE a b) : (∃ x y, a = .spin x ∧ b = .spin y) ∨ cvEnqR b < cvEnqR a := by
  cases h <;> first | exact .inl ⟨_, _, rfl, rfl⟩ | (right; simp [cvEnqR])
theorem CvDeqE.rank {a b : CvDeqSt} (h : CvDeqE a b) : (∃ x y, a = .spin x ∧ b = .spin y) ∨ cvDeqR b < cvDeqR a := by
  cases h <;> first | exact .inl ⟨_, _, rfl, rfl⟩ | (right; simp [cvDeqR])

/-- an edge of nsync_cv_signal / broadcast is a step before the wake loop, or lowers the rank whatever happens to the
    pending post (the V of the wake loop) -/
theorem SgE.prog {a b : SgSt} (h : SgE a b) (c : Nat) (bc : Bool) :
    sgNext (.sg c bc a) (.sg c bc b) ∨ ∀ n po po', rank (.sg c bc b) n po' < rank (.sg c bc a) n po := by
  cases h with
  | loadSpin => exact .inl (.inl rfl)
  | loadRet => exact .inl (.inr rfl)
  | spin h => exact .inl (.inl ⟨_, rfl⟩)
  | got v => exact .inl (.inr rfl)
  | heldRet => exact .inl (.inl rfl)
  | heldWake l hl => exact .inl (.inr ⟨l, rfl⟩)
  | postLast x rest h => exact .inr fun n po po' => by simp only [rank, List.length_cons]; split <;> omega
  | postMore x rest h => exact .inr fun n po po' => by simp only [rank, List.length_cons]; split <;> split <;> omega

/-- progress read off the program points before and after -/
theorem Prog.move {s s' : State} {t : Tid} {e : Ev} {p p' : PC} (h0 : s.pc t = p) (h1 : s'.pc t = p')
    (hfr : s'.fr t = s.fr t) (hr : rank p' (s.fr t).count (s'.post t) < rank p (s.fr t).count (s.post t)) :
    Prog s s' t e :=
  Prog.dec (by rw [hfr]) (by rw [hfr]) (by simp only [rk, h0, h1, hfr]; exact hr)

theorem Prog.spin {s s' : State} {t : Tid} {e : Ev} {p p' : PC} (h0 : s.pc t = p) (h1 : s'.pc t = p')
    (hfr : s'.fr t = s.fr t) (hs : isSpin p = true) (hs' : isSpin p' = true)
    (hr : ∀ n po po', rank p' n po' = rank p n po) (hl : ∀ f, lockWaitOf p' f = lockWaitOf p f) : Prog s s' t e :=
  .inr (.inr ⟨by rw [hfr], by rw [hfr], .inr (.inr (.inl ⟨by rw [h0]; exact hs, by rw [h1]; exact hs',
    by simp only [rk, h0, h1, hfr]; exact hr _ _ _, by rw [h0, h1, hfr]; exact hl _⟩))⟩)

/-- a move along an edge of the control flow -/
theorem prog_goto {s s' : State} {t : Tid} {e : Ev} {p0 p : PC} (hf : Flow p0 p) (h0 : s.pc t = p0)
    (h1 : s'.pc t = p) (hfr : s'.fr t = s.fr t) : Prog s s' t e := by
  cases hf with
  | sg c bc h =>
    rcases h.prog c bc with hn | hr
    · exact .inr (.inr ⟨by rw [hfr], by rw [hfr], .inr (.inr (.inr (.inr (.inr (by rw [h0, h1]; exact hn)))))⟩)
    · exact Prog.move h0 h1 hfr (hr _ _ _)
  | callSig c bc => exact .inl h0
  | retSig c bc => exact .inr (.inl h1)
  | ctrRT u i => exact Prog.move h0 h1 hfr (by simp [rank])
  | nd u i h => exact Prog.move h0 h1 hfr (by have := h.rank; simp only [rank]; omega)
  | enq i h => exact Prog.move h0 h1 hfr (by have := h.rank; simp only [rank]; omega)
  | deq j h => exact Prog.move h0 h1 hfr (by have := h.rank; simp only [rank]; omega)
  | enqCv i h =>
    rcases h.rank with ⟨x, y, rfl, rfl⟩ | hr
    · exact Prog.spin h0 h1 hfr rfl rfl (fun _ _ _ => rfl) (fun _ => rfl)
    · exact Prog.move h0 h1 hfr (by simp only [rank]; omega)
  | deqCv j h =>
    rcases h.rank with ⟨x, y, rfl, rfl⟩ | hr
    · exact Prog.spin h0 h1 hfr rfl rfl (fun _ _ _ => rfl) (fun _ => rfl)
    · exact Prog.move h0 h1 hfr (by simp only [rank]; omega)

/-- what a step does to the stepping thread's pending post: nothing, a pop, or the V -/
theorem Act.post_cases {s s1 : State} {t : Tid} {k : Kind} (a : Act s t k s1) :
    (k ≠ .post ∧ s1.post t = s.post t) ∨ (k ≠ .post ∧ s.post t = none ∧ ∃ r, s1.post t = some r)
    ∨ (k = .post ∧ (∃ r, s.post t = some r) ∧ s1.post t = none) := by
  cases a
  case pop r tl hq hcv hl hw hp => exact .inr (.inl ⟨nofun, hp, r, by simp⟩)
  case sgWake c bc r rest hpc hp => exact .inr (.inl ⟨nofun, hp, r, by simp⟩)
  case posted r hp => exact .inr (.inr ⟨rfl, ⟨r, hp⟩, by simp⟩)
  all_goals exact .inl ⟨nofun, rfl⟩

theorem isNfWake_not_spin {p : PC} (h : isNfWake p = true) : isSpin p = false := by
  unfold isNfWake at h
  split at h
  · rfl
  · cases h

theorem driven_cases {p : PC} (h : driven p = true) : p = .idle ∨ isNfWake p = true := by
  unfold driven at h
  split at h <;> first | exact .inl rfl | exact .inr rfl | cases h

theorem opn_cases {p : PC} (h : opn p = true) : p = .idle ∨ isNfWake p = true ∨ ∃ c bc l, p = .sg c bc (.wake l) := by
  unfold opn at h
  split at h
  · exact .inl rfl
  · exact .inr (.inl rfl)
  · exact .inr (.inr ⟨_, _, _, rfl⟩)
  · cases h

theorem rank_some_le (p : PC) (n : Nat) (r : Rid) : rank p n (some r) ≤ rank p n none := by
  unfold rank; split <;> simp

theorem RtAt.lt_count {p : PC} {u : Use} {i : Nat} {f : Frame} (h : RtAt p u i) (hl : LInv p f) : i < f.count := by
  cases h with
  | nd u i st =>
    have : isNoteAt f i := by cases u <;> first | exact hl.2.2 | exact hl.2 | exact hl.2.2.2.1
    exact lt_count_of_get this.choose_spec
  | ctr u i l =>
    have : isCtrAt f i := by cases u <;> first | exact hl.2.2 | exact hl.2 | exact hl.elim
    exact lt_count_of_get this.choose_spec
  | cv j => exact lt_count_of_get hl.2.choose_spec

/-- the step began by popping a record (`post t` from `none` to `some r`); afterwards the thread is where a popped
    record may be owed -/
theorem Prog.of_pop {s s1 s' : State} {t : Tid} {e : Ev} {r : Rid} (h : Prog s1 s' t e) (hpc : s1.pc t = s.pc t)
    (hfr : s1.fr t = s.fr t) (hp : s.post t = none) (hp1 : s1.post t = some r) (hp' : s'.post t = some r)
    (ho : opn (s'.pc t) = true) : Prog s s' t e := by
  have hrk : rk s1 t ≤ rk s t := by simp only [rk, hpc, hfr, hp, hp1]; exact rank_some_le ..
  rcases h with h | h | ⟨ho', hd, h | h | h | h | h | h⟩
  · exact .inl (hpc ▸ h)
  · exact .inr (.inl h)
  · rw [hfr] at ho' hd
    have e1 : s'.pc t = s.pc t := h.1.trans hpc
    rcases opn_cases ho with hi | hn | ⟨c, bc, l, hw⟩
    · exact .inr (.inl hi)
    · exact .inr (.inr ⟨ho', hd, .inr (.inr (.inr (.inr (.inl ⟨e1 ▸ hn, e1⟩))))⟩)
    · refine Prog.dec ho' hd ?_
      simp only [rk, ← e1, hw, hp, hp', rank]
      simp
  · rw [hfr] at ho' hd; exact Prog.dec ho' hd (Nat.lt_of_lt_of_le h hrk)
  · rcases opn_cases ho with hi | hn | ⟨c, bc, l, hw⟩
    · rw [hi] at h; cases h.2.1
    · have := isNfWake_not_spin hn; rw [h.2.1] at this; cases this
    · rw [hw] at h; cases h.2.1
  · rw [hfr] at ho' hd; rw [hpc, hfr] at h
    exact .inr (.inr ⟨ho', hd, .inr (.inr (.inr (.inl h)))⟩)
  · rw [hfr] at ho' hd; rw [hpc] at h
    exact .inr (.inr ⟨ho', hd, .inr (.inr (.inr (.inr (.inl h))))⟩)
  · rw [hfr] at ho' hd; rw [hpc] at h
    exact .inr (.inr ⟨ho', hd, .inr (.inr (.inr (.inr (.inr h))))⟩)

theorem prog_tail {s0 s s' : State} {t : Tid} {e : Ev} {k : Kind} (b : Tail s0 s t e k s') (hpc0 : s.pc t = s0.pc t)
    (hfr0 : s.fr t = s0.fr t) (hl : LInv (s0.pc t) (s0.fr t)) (hk : k ≠ .post) : Prog s s' t e := by
  cases b with
  | same ho => exact Prog.stutter rfl rfl (frSame_refl _)
  | nested ho m => exact Prog.stutter rfl rfl (frSame_refl _)
  | dflt hs h => exact prog_dflt h
  | goto p hf => exact prog_goto hf hpc0 (by simp) (by simp)
  | giveUp j c r fl hpc ho hr hn hs =>
    exact Prog.move (p' := .wDeqCv j .wspin) (hpc0.trans hpc) (by simp) (by simp) (by simp [rank, cvDeqR])
  | rtDone hs u i time hat h =>
    have hi : i < (s.fr t).count := by rw [hfr0]; exact hat.lt_count hl
    refine prog_rtDone hi ?_ h
    generalize hp : s0.pc t = p at hat
    have hp := hpc0.trans hp
    cases hat with
    | nd u i st => cases st <;> simp [rk, hp, rank, ndR]
    | ctr u i l => cases l <;> simp [rk, hp, rank]
    | cv j => simp [rk, hp, rank, base]
  | afterEnq i res hat h =>
    generalize hp : s0.pc t = p at hat
    have hp := hpc0.trans hp
    cases hat with
    | cv i => exact prog_afterEnq (by simp [rk, hp, rank, cvEnqR]) h
    | oth i res => exact prog_afterEnq (by simp [rk, hp, rank, enqR]) h
  | deqDone j res r hr hu hpc h =>
    rw [← hpc0, ← hfr0] at hl
    rcases hpc with hpc | ⟨hpc, _⟩ | hpc <;> have hp := hpc0.trans hpc <;> rw [hp] at hl
    · exact prog_deqDone (lt_count_of_get hl.2.2.2.1.choose_spec) (by simp [rk, hp, rank, cvDeqR]) h
    · exact prog_deqDone (lt_count_of_get hl.2.2.2.1.choose_spec) (by simp [rk, hp, rank, cvDeqR]) h
    · exact prog_deqDone (Nat.lt_of_lt_of_le hl.2.2.1 hl.1.toAlloc.len) (by simp [rk, hp, rank, deqR]) h
  | v => exact absurd rfl hk
  | vgoto => exact absurd rfl hk
  | pdEnter hs j d s2 hpc he h =>
    obtain ⟨h1, h2, h3⟩ := bindSem_keeps h
    refine Prog.dec (by simpa using (h3 t).1) (by simpa using (h3 t).2) ?_
    simp only [rk, hpc0.trans hpc, setPc_pc, if_pos, setPc_fr, rank, count_eq (h3 t).1]
    omega
  | pdWake hs j n hpc he hsem =>
    have hp := hpc0.trans hpc
    refine .inr (.inr ⟨by simp [startScan], by simp [startScan], .inr (.inr (.inr (.inl ⟨j, hp, he, ?_⟩)))⟩)
    simp only [rk, startScan, setPc_pc, if_pos, setPc_fr, setPc_post, setFr_fr, setFr_post, setSem_fr, setSem_post]
    have := fun f => rank_loopNext f 0 (s.fr t).count (s.post t)
    simp only [offU, offS, Frame.count] at this ⊢
    exact Nat.lt_of_le_of_lt (this _) (by omega)
  | call mu dl objs nested hpc hne hk' hs => exact .inl (hpc0.trans hpc)
  | alloc hs arr hpc =>
    refine Prog.dec (by simp) (by simp) ?_
    simp only [rk, hpc0.trans hpc, setPc_pc, if_pos, setPc_fr, setPc_post, setFr_fr, setFr_post, rank]
    exact rank_enqNext0 { s.fr t with heap := _, mallocs := _ } true (s.post t)
  | init i r oid hpc hoid hdead hrid hi hs =>
    refine Prog.dec (by simp) (by simp) ?_
    simp only [rk, hpc0.trans hpc, setPc_pc, if_pos, setPc_fr, setPc_post, setFr_fr, setFr_post]
    split <;> simp [rank, cvEnqR, enqR, Frame.count]
  | unlockMu hs hpc =>
    refine Prog.decle (X := offU (s.fr t).count) (by simp [rk, hpc0.trans hpc, rank]) (by simp) (by simp) ?_
    simp only [rk, setPc_pc, if_pos, setPc_fr, setPc_post, setFr_fr, setFr_post]
    have := rank_loopNext { s.fr t with held := false, unlocked := true, who := none } 0 (s.fr t).count (s.post t)
    simp only [offU, offS, Frame.count] at this ⊢
    omega
  | timeout hs j w _ _ hpc =>
    refine Prog.decle (X := offS (s.fr t).count + 1) (by simp [rk, hpc0.trans hpc, rank]) (by simp) (by simp) ?_
    simp only [rk, setPc_pc, if_pos, setPc_fr, setPc_post, setFr_fr, setFr_post]
    have := fun f => rank_deqNext f 0 (s.fr t).count (s.post t)
    simp only [offS, Frame.count] at this ⊢
    exact Nat.lt_of_le_of_lt (this _) (by omega)
  | free hpc hs =>
    refine Prog.decle (X := 3) (by simp [rk, hpc0.trans hpc, rank]) (by simp) (by simp) ?_
    simp only [rk, setPc_pc, if_pos, setPc_fr, setPc_post, setFr_fr, setFr_post]
    have := fun f n => rank_relockNext f n (s.post t)
    exact Nat.lt_of_le_of_lt (this _ _) (by omega)
  | relock hs hpc => exact Prog.dec (by simp) (by simp) (by simp [rk, hpc0.trans hpc, rank])
  | ret r hpc hs => exact .inr (.inl (by simp))

/-- What an accepted event of thread `t` does to `t`: read off the two halves of the step.  The pending post is the
    only thing the first half (`Act`) changes that the rank reads. -/
theorem prog_stepThr {s s' : State} {t : Tid} {e : Ev} (hr : Reachable s) (h : stepThr s t e = .ok s') :
    Prog s s' t e := by
  obtain ⟨k, s1, a, b⟩ := steps_stepThr h
  have hl := linv_of_reachable hr t
  have hpc : s1.pc t = s.pc t := congrFun a.pc t
  have hfr : s1.fr t = s.fr t := congrFun a.fr t
  have hpo' : s'.post t = s1.post t := congrFun b.agree.post t
  rcases a.post_cases with ⟨hk, hp⟩ | ⟨hk, hp, r, hp1⟩ | ⟨rfl, ⟨r, hp⟩, hp1⟩
  · exact Prog.congr hpc hfr hp (prog_tail b hpc hfr hl hk)
  · exact (prog_tail b hpc hfr hl hk).of_pop hpc hfr hp hp1 (hpo'.trans hp1)
      (((qinv_of_reachable (reachable_step (e := .thr t e) hr h)).qi.q6 t (by rw [hpo', hp1]; nofun)).2)
  · -- the V of a protocol-driven waker, or of a signaller on its way through its wake list
    cases b with
    | v hdr r' j s2 hp0 he hps =>
      obtain ⟨h1, _, h3⟩ := postSem_keeps hps
      have e1 : (s2.setSem j (s2.sem j + 1)).pc t = s.pc t := by simpa [h1] using hpc
      rcases driven_cases hdr with hi | hn
      · exact .inl hi
      · exact .inr (.inr ⟨by simpa [hfr] using (h3 t).1, by simpa [hfr] using (h3 t).2,
          .inr (.inr (.inr (.inr (.inl ⟨hn, e1⟩))))⟩)
    | vgoto r' j s2 hp0 he hps c bc st0 st hpc0 hf =>
      obtain ⟨h1, h2, h3⟩ := postSem_keeps hps
      rcases hf.prog c bc with hn | hrk
      · exact .inr (.inr ⟨by simpa [hfr] using (h3 t).1, by simpa [hfr] using (h3 t).2,
          .inr (.inr (.inr (.inr (.inr (by rw [hpc0]; simpa using hn)))))⟩)
      · refine Prog.dec (by simpa [hfr] using (h3 t).1) (by simpa [hfr] using (h3 t).2) ?_
        rw [rk, rk, hpc0, setPc_pc, if_pos rfl, count_eq (by simpa [hfr] using (h3 t).1)]
        exact hrk _ _ _

/-- closes `Prog s s' t e` at an accepting leaf `h` of a step function (`hpc`: the program point before) -/
macro "prog_leaf" hpc:ident h:ident : tactic => `(tactic| first
  | exact prog_dflt $h
  | (cases $h:ident; exact Prog.stutter rfl rfl (frSame_refl _))
  | (cases $h:ident
     refine Prog.dec ?_ ?_ ?_ <;> first
       | (simp; done)
       | (simp [rk, $hpc:ident, rank, base, ndR, enqR, cvEnqR, cvDeqR, deqR, Frame.count]; done)
       | (simp [rk, $hpc:ident, rank, base, ndR, enqR, cvEnqR, cvDeqR, deqR, Frame.count]; omega)))

end WaitN
