/-
Layer `Dll` (C17): effect of `remove` and `spliceAfter` on rings, then the specification lemmas of
the list operations in terms of `Repr`.
-/
import NsyncVerif.Proofs.DllRing

namespace Dll

/-! ### Pointwise description of the heaps produced by the operations -/

theorem remove_next (H : Heap) (l e x : Addr) :
    (remove H l e).1.next x =
      if x = e then e else if x = H.prev e then H.next e else H.next x := by
  simp [remove, Heap.setNext, Heap.setPrev]

theorem remove_prev (H : Heap) (l e x : Addr) :
    (remove H l e).1.prev x =
      if x = e then e else if x = H.next e then H.prev e else H.prev x := by
  simp [remove, Heap.setNext, Heap.setPrev]

theorem remove_handle (H : Heap) (l e : Addr) :
    (remove H l e).2 = if l = e then (if H.prev l = l then 0 else H.prev l) else l := by
  simp [remove]

theorem splice_next (H : Heap) (p n x : Addr) :
    (spliceAfter H p n).next x =
      if x = H.prev n then H.next p else if x = p then n else H.next x := by
  simp [spliceAfter, Heap.setNext, Heap.setPrev]

theorem splice_prev (H : Heap) (p n x : Addr) :
    (spliceAfter H p n).prev x =
      if x = H.next p then H.prev n else if x = n then p else H.prev x := by
  simp [spliceAfter, Heap.setNext, Heap.setPrev]

/-! ### `remove` on a ring, element at the head of the ring's list -/

/-- Removing the head `e` of a ring `e :: t` (`t ≠ []`) leaves the ring `t`: the chain `t` keeps
its interior links, and its last element is linked back to its first. -/
theorem ring_remove_head {H : Heap} {e l : Addr} {t : List Addr}
    (h : Ring H (e :: t)) (ht : t ≠ []) : Ring (remove H l e).1 t := by
  obtain ⟨he2, _, hlt⟩ := h.next_head
  obtain ⟨hz, _, _⟩ := h.prev_last
  have hnd := List.nodup_cons.mp h.nodup
  cases t with
  | nil => exact absurd rfl ht
  | cons a t' =>
    rw [List.getLast?_cons_cons] at hz
    have ha : H.next e = a := by simpa using he2.symm
    have hat : ∀ x ∈ a :: t', x ≠ e := fun x hx h => hnd.1 (h ▸ hx)
    have hze := hat _ (List.mem_of_getLast? hz)
    have h0 : 0 ∉ a :: t' := fun h0 => h.zero_not_mem (List.mem_cons_of_mem _ h0)
    refine ⟨hnd.2, h0, ?_⟩
    rw [← List.cons_append, linked_append (T := [a]) (y := a) hz rfl]
    refine ⟨((linked_append (T := [e]) (y := e) hz rfl).mp hlt).1.frame (fun x hx => ?_)
      (fun x hx => ?_), ⟨?_, ?_⟩, by simp⟩
    · rw [remove_next, if_neg (hat x (List.dropLast_subset _ hx)),
        if_neg (ne_getLast_of_mem_dropLast hnd.2 hz hx)]
    · rw [remove_prev, if_neg (hat x (List.mem_cons_of_mem _ hx)), ha,
        if_neg (fun h : x = a => (List.nodup_cons.mp hnd.2).1 (h ▸ hx))]
    · rw [remove_next, if_neg hze, if_pos rfl, ha]
    · rw [remove_prev, if_neg (hat a List.mem_cons_self), if_pos ha.symm]

/-- After `remove`, `e` is a self-linked singleton. -/
theorem remove_self (H : Heap) (l e : Addr) :
    (remove H l e).1.next e = e ∧ (remove H l e).1.prev e = e := by
  simp [remove_next, remove_prev]

/-- … hence a singleton ring, which can be inserted again. -/
theorem ring_remove_self {H : Heap} {e : Addr} (l : Addr) (he : e ≠ 0) :
    Ring (remove H l e).1 [e] :=
  (ring_singleton _ e).mpr ⟨he, remove_self H l e⟩

/-- `remove` only writes links of the ring that contains `e`. -/
theorem remove_eff {H : Heap} {e l : Addr} {xs : List Addr} (h : Ring H xs) (he : e ∈ xs) :
    Eff H (remove H l e).1 xs := by
  have h1 := h.next_mem he
  have h2 := h.prev_mem he
  refine ⟨fun x hx => ?_, by simp [remove, Heap.setNext, Heap.setPrev]⟩
  rw [remove_next, remove_prev]
  grind

/-! ### `spliceAfter` on two disjoint rings -/

/-- `p :: ps` and `n :: ns` disjoint rings; afterwards `p :: n :: ns ++ ps` is a ring: the closed
walk is `p → n … n_last → p_2nd … → p`, where the chains `n … n_last` and `p_2nd … p` keep their
interior links. -/
theorem ring_splice {H : Heap} {p n : Addr} {ps ns : List Addr}
    (hp : Ring H (p :: ps)) (hn : Ring H (n :: ns))
    (hd : ∀ x ∈ p :: ps, x ∉ n :: ns) :
    Ring (spliceAfter H p n) (p :: ((n :: ns) ++ ps)) := by
  obtain ⟨hp2, _, hlp⟩ := hp.next_head
  obtain ⟨hnl, _, hln⟩ := hn.prev_last
  have hndp := hp.nodup
  have hndn := hn.nodup
  have hndp' : (ps ++ [p]).Nodup := (List.perm_append_comm (l₁ := [p])).nodup_iff.mp hndp
  have mp : ∀ x ∈ ps ++ [p], x ∈ p :: ps := fun x hx =>
    (List.perm_append_comm (l₁ := [p])).mem_iff.mpr hx
  have mnl : H.prev n ∈ n :: ns := List.mem_of_getLast? hnl
  have mp2 : H.next p ∈ p :: ps := mp _ (List.mem_of_head? hp2)
  have d1 : ∀ x ∈ p :: ps, x ≠ n ∧ x ≠ H.prev n := fun x hx =>
    ⟨fun h => hd x hx (h ▸ List.mem_cons_self), fun h => hd x hx (h ▸ mnl)⟩
  have d2 : ∀ x ∈ n :: ns, x ≠ p ∧ x ≠ H.next p := fun x hx =>
    ⟨fun h => hd p List.mem_cons_self (h ▸ hx), fun h => hd _ mp2 (h ▸ hx)⟩
  rw [ring_cons]
  refine ⟨?_, ?_, ?_⟩
  · have h0 := List.nodup_cons.mp hndp
    refine List.nodup_cons.mpr ⟨?_, List.nodup_append.mpr ⟨hndn, h0.2, ?_⟩⟩
    · rw [List.mem_append]; exact fun h => h.elim (hd p List.mem_cons_self) h0.1
    · intro a ha b hb hab; exact hd b (List.mem_cons_of_mem _ hb) (hab ▸ ha)
  · intro h
    rcases List.mem_cons.mp h with h | h
    · exact hp.zero_not_mem (h ▸ List.mem_cons_self)
    · exact (List.mem_append.mp h).elim hn.zero_not_mem
        (fun h => hp.zero_not_mem (List.mem_cons_of_mem _ h))
  · have e : p :: ((n :: ns) ++ ps ++ [p]) = [p] ++ ((n :: ns) ++ (ps ++ [p])) := by simp
    rw [e, linked_append (x := p) (y := n) rfl rfl, linked_append hnl hp2]
    -- the links `p → n` and `n_last → p_2nd` are the ones the splice writes; it writes `next` of
    -- `n_last`, `p` and `prev` of `p_2nd`, `n`, none of which a chain reads in its interior
    refine ⟨by simp, ⟨?_, ?_⟩, ?_, ⟨?_, ?_⟩, ?_⟩
    · rw [splice_next, if_neg (d1 p List.mem_cons_self).2, if_pos rfl]
    · rw [splice_prev, if_neg (d2 n List.mem_cons_self).2, if_pos rfl]
    · refine hln.frame (fun x hx => ?_) (fun x hx => ?_)
      · rw [splice_next, if_neg (ne_getLast_of_mem_dropLast hndn hnl hx),
          if_neg (d2 x (List.dropLast_subset _ hx)).1]
      · rw [splice_prev, if_neg (d2 x (List.mem_cons_of_mem _ hx)).2,
          if_neg (fun h : x = n => (List.nodup_cons.mp hndn).1 (h ▸ hx))]
    · rw [splice_next, if_pos rfl]
    · rw [splice_prev, if_pos rfl]
    · refine hlp.frame (fun x hx => ?_) (fun x hx => ?_)
      · rw [List.dropLast_concat] at hx
        rw [splice_next, if_neg (d1 x (List.mem_cons_of_mem _ hx)).2,
          if_neg (fun h : x = p => (List.nodup_cons.mp hndp).1 (h ▸ hx))]
      · rw [splice_prev, if_neg (ne_head_of_mem_tail hndp' hp2 hx),
          if_neg (d1 x (mp x (List.mem_of_mem_tail hx))).1]

/-- The same with `p` and `n` anywhere in their rings (rings are rotation invariant). -/
theorem ring_splice_rot {H : Heap} {p n : Addr} {ps ns : List Addr}
    (hp : Ring H ps) (hn : Ring H ns) (hpm : p ∈ ps) (hnm : n ∈ ns) (hd : ∀ x ∈ ps, x ∉ ns) :
    Ring (spliceAfter H p n) (p :: (rotateTo n ns ++ (rotateTo p ps).tail)) := by
  obtain ⟨t, ht, h1, m1⟩ := hp.at hpm
  obtain ⟨t', ht', h2, m2⟩ := hn.at hnm
  rw [ht, ht']
  exact ring_splice h1 h2 fun x hx hx' => hd x ((m1 x).mp hx) ((m2 x).mp hx')

/-- `spliceAfter` only writes links of the two rings. -/
theorem splice_eff {H : Heap} {p n : Addr} {ps ns : List Addr}
    (hp : Ring H ps) (hn : Ring H ns) (hpm : p ∈ ps) (hnm : n ∈ ns) :
    Eff H (spliceAfter H p n) (ps ++ ns) := by
  have h1 := hp.next_mem hpm
  have h2 := hn.prev_mem hnm
  refine ⟨fun x hx => ?_, by simp [spliceAfter, Heap.setNext, Heap.setPrev]⟩
  rw [splice_next, splice_prev]
  grind

theorem remove_spec {H : Heap} {l e : Addr} {xs : List Addr}
    (hr : Repr H l xs) (he : e ∈ xs) :
    Repr (remove H l e).1 (remove H l e).2 (xs.erase e) := by
  obtain ⟨hring, hlast⟩ := hr.ring (List.ne_nil_of_mem he)
  obtain ⟨as, bs, rfl, heas⟩ := List.eq_append_cons_of_mem he
  rw [List.erase_append_right _ heas, List.erase_cons_head, remove_handle]
  have hrot : Ring H (e :: (bs ++ as)) := by simpa using hring.rotate
  rcases last_cases hring.nodup hlast with ⟨rfl, rfl⟩ | ⟨bs', rfl, hne⟩
  · rcases list_nil_or_snoc as with rfl | ⟨as', z, rfl⟩
    · simp [(ring_singleton H l).mp hring, repr_nil]
    · -- `e` is the handle and not alone: the new handle is `e->prev`
      have hl := Ring.link (as := as') (bs := []) (by simpa using hring)
      simp only [List.mem_append, List.mem_singleton, not_or] at heas
      rw [if_pos rfl, hl.2, if_neg (Ne.symm heas.2)]
      rw [List.nil_append] at hrot
      simpa using Repr.of_ring (ring_remove_head (l := l) hrot (by simp)) List.getLast?_concat
  · rw [if_neg hne]
    exact Repr.of_ring (ring_remove_head (l := l) hrot (by simp)).rotate
      (by simp)

/-! ### `spliceAfter` on a represented list -/

/-- `ys` inserted right after the first occurrence of `p` in `xs`. -/
def insertAfter (p : Addr) (ys : List Addr) : List Addr → List Addr
  | [] => []
  | x :: xs => if x = p then x :: (ys ++ xs) else x :: insertAfter p ys xs

theorem insertAfter_split {p : Addr} {as : List Addr} (ys bs : List Addr) (h : p ∉ as) :
    insertAfter p ys (as ++ p :: bs) = as ++ p :: (ys ++ bs) := by
  induction as with
  | nil => simp [insertAfter]
  | cons a as ih =>
    simp only [List.mem_cons, not_or] at h
    simp [insertAfter, Ne.symm h.1, ih h.2]

theorem mem_insertAfter {p x : Addr} {ys xs : List Addr} (hp : p ∈ xs) :
    x ∈ insertAfter p ys xs ↔ x ∈ xs ∨ x ∈ ys := by
  obtain ⟨as, bs, rfl, hpas⟩ := List.eq_append_cons_of_mem hp
  rw [insertAfter_split _ _ hpas]
  simp only [List.mem_append, List.mem_cons]
  grind

/-- Splicing the ring `ys` at its element `n` after element `p` of the list `xs`: the ring, rotated to
start at `n`, appears right after `p`; if `p` is the last element "after `p`" is the front of the list
(this is how `make_first` uses it). The handle does not change. -/
theorem splice_list {H : Heap} {l p n : Addr} {xs ys : List Addr}
    (hr : Repr H l xs) (hr2 : Ring H ys) (hp : p ∈ xs) (hn : n ∈ ys) (hd : ∀ x ∈ ys, x ∉ xs) :
    Repr (spliceAfter H p n) l
      (if xs.getLast? = some p then rotateTo n ys ++ xs else insertAfter p (rotateTo n ys) xs) := by
  obtain ⟨hring, hlast⟩ := hr.ring (List.ne_nil_of_mem hp)
  have hs := ring_splice_rot hring hr2 hp hn (fun x hx hx' => hd x hx' hx)
  obtain ⟨as, bs, rfl, hpas⟩ := List.eq_append_cons_of_mem hp
  rw [rotateTo_split bs hpas, List.tail_cons] at hs
  rw [insertAfter_split _ _ hpas, hlast]
  rcases last_cases hring.nodup hlast with ⟨rfl, rfl⟩ | ⟨bs', rfl, hne⟩
  · rw [if_pos rfl]
    exact Repr.of_ring (by simpa using Ring.rotate (u := [l]) hs) (by simp)
  · rw [if_neg (fun h => hne (Option.some.inj h))]
    have := Ring.rotate (u := p :: (rotateTo n ys ++ (bs' ++ [l]))) (v := as) (by simpa using hs)
    exact Repr.of_ring (by simpa using this) (by simp [List.getLast?_cons])

/-- On a represented list `makeFirst` of a non-null element is one splice after the handle; on the
empty list it only reads `e->prev`. -/
theorem makeFirst_eq {H : Heap} {l e : Addr} {xs : List Addr} (hr : Repr H l xs) (he : e ≠ 0) :
    makeFirst H l e = if xs = [] then (H, H.prev e) else (spliceAfter H l e, l) := by
  simp [makeFirst, he, hr.handle_eq_zero_iff]

theorem makeFirst_null (H : Heap) (l : Addr) : makeFirst H l 0 = (H, l) := by
  simp [makeFirst]

/-- `e` anywhere in its ring: the splice after the last element of the list. -/
theorem makeFirst_spec_rot {H : Heap} {l e : Addr} {xs es : List Addr}
    (hr : Repr H l xs) (he : Ring H es) (hem : e ∈ es) (hd : ∀ x ∈ es, x ∉ xs) :
    Repr (makeFirst H l e).1 (makeFirst H l e).2 (rotateTo e es ++ xs) := by
  rw [makeFirst_eq hr (he.ne_zero hem)]
  split
  · next hxs =>
    obtain ⟨t, ht, hring, _⟩ := he.at hem
    rw [hxs, ht, List.append_nil]
    exact Repr.of_ring hring hring.prev_last.1
  · next hxs =>
    have := splice_list hr he (hr.handle_mem hxs) hem hd
    rwa [if_pos (hr.ring hxs).2] at this

theorem makeFirst_spec {H : Heap} {l e : Addr} {xs t : List Addr}
    (hr : Repr H l xs) (he : Ring H (e :: t)) (hd : ∀ x ∈ e :: t, x ∉ xs) :
    Repr (makeFirst H l e).1 (makeFirst H l e).2 ((e :: t) ++ xs) :=
  rotateTo_head e t ▸ makeFirst_spec_rot hr he List.mem_cons_self hd

theorem makeFirst_eff {H : Heap} {l e : Addr} {xs es : List Addr}
    (hr : Repr H l xs) (he : Ring H es) (hem : e ∈ es) : Eff H (makeFirst H l e).1 (xs ++ es) := by
  rw [makeFirst_eq hr (he.ne_zero hem)]
  split
  · exact Eff.refl ..
  · next hxs => exact splice_eff (hr.ring hxs).1 he (hr.handle_mem hxs) hem

/-- `makeLast` is `makeFirst` of `e->next` with `e` as the new handle. -/
theorem makeLast_eq {H : Heap} {e : Addr} (l : Addr) (he : e ≠ 0) :
    makeLast H l e = ((makeFirst H l (H.next e)).1, e) := by
  simp [makeLast, he]

theorem makeLast_null (H : Heap) (l : Addr) : makeLast H l 0 = (H, l) := by
  simp [makeLast]

theorem makeLast_spec {H : Heap} {l e : Addr} {xs t : List Addr}
    (hr : Repr H l xs) (he : Ring H (t ++ [e])) (hd : ∀ x ∈ t ++ [e], x ∉ xs) :
    Repr (makeLast H l e).1 (makeLast H l e).2 (xs ++ (t ++ [e])) := by
  -- `e->next` is the first element of `e`'s ring
  obtain ⟨f, t', hft⟩ := List.exists_cons_of_ne_nil (l := t ++ [e]) (by simp)
  have hw := he.wrap (a := f) (z := e) (by rw [hft]; simp) (by simp)
  rw [makeLast_eq l (he.ne_zero (by simp)), hw.1]
  rw [hft] at he hd ⊢
  exact Repr.of_ring ((makeFirst_spec hr he hd).ring (by simp)).1.rotate
    (hft ▸ by simp)

theorem makeLast_spec_rot {H : Heap} {l e : Addr} {xs es : List Addr}
    (hr : Repr H l xs) (he : Ring H es) (hem : e ∈ es) (hd : ∀ x ∈ es, x ∉ xs) :
    Repr (makeLast H l e).1 (makeLast H l e).2 (xs ++ rotateEnd e es) :=
  makeLast_spec hr (he.rotateEnd hem) (fun x hx => hd x ((mem_rotateEnd hem).mp hx))

theorem makeLast_eff {H : Heap} {l e : Addr} {xs es : List Addr}
    (hr : Repr H l xs) (he : Ring H es) (hem : e ∈ es) : Eff H (makeLast H l e).1 (xs ++ es) := by
  rw [makeLast_eq l (he.ne_zero hem)]
  exact makeFirst_eff hr he (he.next_mem hem)

end Dll
