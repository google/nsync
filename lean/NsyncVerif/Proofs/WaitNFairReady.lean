/-
  Proofs/WaitNFairReady.lean — WaitN layer, liveness, case (b): the sleep loop as a rank interval; `becameReady` is
  stable while the caller stays in its sleep loop (`ready_step`).
-/
import NsyncVerif.Proofs.WaitNFairRet


namespace WaitN
open NsyncVerif

variable {s0 : State}

theorem ndR_le (st : NDst) : 1 ≤ ndR st ∧ ndR st ≤ 15 := by cases st <;> simp [ndR]
theorem cvDeqR_le (st : CvDeqSt) : cvDeqR st ≤ 5 := by cases st <;> simp [cvDeqR]
theorem deqR_le (st : DeqSt) : deqR st ≤ 7 := by cases st <;> simp [deqR]

/-- the sleep loop of wait.c is a rank interval -/
theorem inSleep_iff_rank {p : PC} (n : Nat) (po : Option Rid) (hc : inCall p = true) :
    inSleep p = true ↔ (offS n + 1 ≤ rank p n po ∧ rank p n po < offU n) := by
  cases p with
  | idle => cases hc
  | sg c bc st => cases hc
  | stuck => simp [inSleep, rank, offS]
  | wCtrRT u i l => cases u <;> cases l <;> simp [inSleep, rank, base, offS, offU, offA] <;> omega
  | wND u i st => have := ndR_le st; cases u <;> simp [inSleep, rank, base, offS, offU, offA] <;> omega
  | wAlloc => simp [inSleep, rank, offS, offU, offA]; omega
  | wInit i => simp [inSleep, rank, offS, offU]; omega
  | wEnqCv i st => simp [inSleep, rank, offS, offU]; omega
  | wEnq i st => simp [inSleep, rank, offS, offU]; omega
  | wUnlock => simp [inSleep, rank, offS, offU]
  | wCvRT j => simp [inSleep, rank, offS, offU]; omega
  | wPdEnter => simp [inSleep, rank, offS, offU]; omega
  | wPdWait j => simp [inSleep, rank, offS, offU]; omega
  | wDeqCv j st => have := cvDeqR_le st; simp [inSleep, rank, offS, offU]; omega
  | wDeq j st => have := deqR_le st; simp [inSleep, rank, offS, offU]; omega
  | wFree => simp [inSleep, rank, offS, offU]
  | wRelock => simp [inSleep, rank, offS, offU]
  | wRet r => simp [inSleep, rank, offS, offU]

/-- one step of a call in progress: the rank does not increase, except at a wake-up, which starts a new scan -/
theorem rank_step (x : Exec s0) (hr : Reachable s0) (t : Tid) (m : Nat) (h1 : (x.ρ m).pc t ≠ .idle)
    (h2 : (x.ρ (m + 1)).pc t ≠ .idle) (hc : inCall ((x.ρ m).pc t) = true) :
    ((x.ρ (m + 1)).fr t).objs = ((x.ρ m).fr t).objs ∧
    (rk (x.ρ (m + 1)) t ≤ rk (x.ρ m) t
     ∨ ((∃ k, (x.ρ m).pc t = .wPdWait k) ∧ rk (x.ρ (m + 1)) t < offU ((x.ρ m).fr t).count)) := by
  obtain ⟨e, hp, _⟩ := x.prog hr t m
  rcases hp with h | h | ⟨ho, _, h | h | h | h | h | h⟩
  · exact absurd h h1
  · exact absurd h h2
  · exact ⟨ho, .inl (Nat.le_of_eq (rk_eq_of_same h.1 h.2.1 ho))⟩
  · exact ⟨ho, .inl (Nat.le_of_lt h)⟩
  · exact ⟨ho, .inl (Nat.le_of_eq h.2.2.1)⟩
  · obtain ⟨k, hk, _, hlt⟩ := h; exact ⟨ho, .inr ⟨⟨k, hk⟩, hlt⟩⟩
  · refine ⟨ho, .inl (Nat.le_of_eq ?_)⟩
    simp only [rk, h.2, count_eq ho]
    exact rank_nfWake h.1 _ _ _
  · have := sgNext_early h
    revert this hc
    cases (x.ρ m).pc t <;> simp [sgEarly, inCall]

/-- between two times at which the caller is in its sleep loop it is in its sleep loop -/
theorem inSleep_between (x : Exec s0) (hr : Reachable s0) (t : Tid) {a b : Nat}
    (hni : ∀ m, a ≤ m → m ≤ b → (x.ρ m).pc t ≠ .idle) (ha : inSleep ((x.ρ a).pc t) = true)
    (hb : inSleep ((x.ρ b).pc t) = true) : ∀ m, a ≤ m → m ≤ b → inSleep ((x.ρ m).pc t) = true := by
  have hca := inCall_of_inSleep ha
  have step := fun m (h1 : a ≤ m) (h2 : m + 1 ≤ b) => rank_step x hr t m (hni m h1 (by omega)) (hni (m + 1) (by omega) h2)
  -- the call goes on
  have hcall : ∀ m, a ≤ m → m ≤ b → inCall ((x.ρ m).pc t) = true ∧ ((x.ρ m).fr t).count = ((x.ρ a).fr t).count :=
    Sched.keeps_from (P := fun m => m ≤ b → inCall ((x.ρ m).pc t) = true ∧ ((x.ρ m).fr t).count = ((x.ρ a).fr t).count)
      (fun _ => ⟨hca, rfl⟩) fun m h1 ih h2 => by
        have ih := ih (by omega)
        exact ⟨by rw [x.inCall_step t m (hni m h1 (by omega)) (hni _ (by omega) h2)]; exact ih.1,
          by rw [count_eq (step m h1 h2 ih.1).1]; exact ih.2⟩
  -- upper bound from `a` on
  have hup : ∀ m, a ≤ m → m ≤ b → rk (x.ρ m) t < offU ((x.ρ a).fr t).count :=
    Sched.keeps_from (P := fun m => m ≤ b → rk (x.ρ m) t < offU ((x.ρ a).fr t).count)
      (fun _ => ((inSleep_iff_rank _ _ hca).1 ha).2) fun m h1 ih h2 => by
        have ih := ih (by omega)
        rcases (step m h1 h2 (hcall m h1 (by omega)).1).2 with h | h
        · omega
        · rw [← (hcall m h1 (by omega)).2]; exact h.2
  -- once below the sleep loop, below for ever
  have hdown : ∀ e, a ≤ e → rk (x.ρ e) t < offS ((x.ρ a).fr t).count + 1 →
      ∀ m, e ≤ m → m ≤ b → rk (x.ρ m) t < offS ((x.ρ a).fr t).count + 1 := fun e he h =>
    Sched.keeps_from (P := fun m => m ≤ b → rk (x.ρ m) t < offS ((x.ρ a).fr t).count + 1) (fun _ => h)
      fun m h1 ih h2 => by
        have ih := ih (by omega)
        have hc' := hcall m (by omega) (by omega)
        rcases (step m (by omega) h2 hc'.1).2 with h' | ⟨⟨k, hk⟩, _⟩
        · omega
        · exfalso
          simp only [rk, hk, rank, hc'.2] at ih
          omega
  intro m hm1 hm2
  have hc' := hcall m hm1 hm2
  have hlow : offS ((x.ρ a).fr t).count + 1 ≤ rk (x.ρ m) t := by
    apply Classical.byContradiction
    intro hlt
    have := hdown m hm1 (by omega) b hm2 (Nat.le_refl b)
    have hb' := ((inSleep_iff_rank ((x.ρ b).fr t).count ((x.ρ b).post t) (inCall_of_inSleep hb)).1 hb).1
    rw [(hcall b (by omega) (Nat.le_refl _)).2] at hb'
    simp only [rk] at this
    rw [(hcall b (by omega) (Nat.le_refl _)).2] at this
    omega
  refine (inSleep_iff_rank ((x.ρ m).fr t).count ((x.ρ m).post t) hc'.1).2 ?_
  have hu := hup m hm1 hm2
  simp only [rk, hc'.2] at hlow hu
  rw [hc'.2]
  exact ⟨hlow, hu⟩

theorem waited_of_inSleep {s : State} {p : PC} {f : Frame} (h : inSleep p = true) (htf : TF s p f) :
    Waited s f f.count := by
  cases p <;> simp [inSleep] at h
  · rename_i u i l; cases u <;> simp at h; exact htf.1
  · rename_i u i st; cases u <;> simp at h; exact htf.1
  · exact htf.1
  · exact htf.1
  · exact htf.1

/-- `becameReady` (and the record) is stable over a step that finds the caller in its sleep loop. -/
theorem ready_stepThr {s s' : State} {v t : Tid} {e : Ev} {k : Nat} {r : Rid} (hr : Reachable s)
    (hs : stepThr s v e = .ok s') (h1 : inSleep (s.pc t) = true) (hrec : (s.fr t).recs[k]? = some r)
    (hb : becameReady s t k r) :
    (s'.fr t).recs[k]? = some r ∧ becameReady s' t k r := by
  have hr' : Reachable s' := reachable_step (e := .thr v e) hr hs
  have hc := inCall_of_inSleep h1
  have hl := linv_of_reachable hr t
  have hil := inLoop_of_inSleep h1 hl
  have own := own_of_reachable hr
  have hmem : r ∈ (s.fr t).recs := List.mem_of_getElem? hrec
  have hlive := (own.own t r hc hil.frees hmem).1
  have hidx := own.idx t k r hc hil.frees hrec
  have hmono := mono_stepThr (t := v) hs
  -- the frame
  have hfr : (s'.fr t).recs = (s.fr t).recs ∧ (s'.fr t).objs = (s.fr t).objs := by
    by_cases hv : v = t
    · subst hv
      exact ⟨(quiet_of_inSleep hs h1).recs v, (quiet_of_inSleep hs h1).objs v⟩
    · have := (others_stepThr hs t (fun h => hv h.symm)).2.2.2
      exact ⟨frSame_recs this, frSame_objs this⟩
  refine ⟨by rw [hfr.1]; exact hrec, ?_⟩
  unfold becameReady at hb ⊢
  rw [hfr.2]
  cases ho : (s.fr t).objs[k]? with
  | none => rw [ho] at hb; exact hb.elim
  | some o =>
    rw [ho] at hb
    have hknown : (s.obj o).known = true := known_of_reachable hr t hc o (List.mem_of_getElem? ho)
    cases o with
    | note n =>
      exact noteReady_stable (W := False) (.of_mono hmono (known_of_reachable hr t hc) fun h => h.elim) ho hb
    | ctr c =>
      simp only at hb ⊢
      have hw := waited_of_inSleep h1 (tf_of_reachable hr t) k c (lt_count_of_get ho) ho
      exact hmono.zero c hknown hb hw
    | cv c =>
      simp only at hb ⊢
      intro hq'
      have q' := (qinv_of_reachable hr').qi
      have q := (qinv_of_reachable hr).qi
      have hw' := (q'.q1 _ r hq').2.2.1
      rw [ho] at hidx
      have hobj : (s.rcd r).obj = .cv c := (Option.some.inj hidx).symm
      cases hw : (s.rcd r).waiting with
      | false =>
        obtain ⟨_, i2, hi | hi⟩ := own.waiting_set (linv_of_reachable hr v) hmono hc hil.frees hmem hw hw' <;>
          (rw [hi] at h1; cases h1)
      | true =>
        rcases q.q3 r hlive hw with h | ⟨u, c1, l, hwk, hp⟩
        · rw [hobj] at h; exact hb h
        · have hp' : ∃ c' l', wk (s'.pc u) = some (c', l') ∧ r ∈ pend (s'.post u) l' := by
            by_cases huv : u = v
            · subst huv
              rcases pend_persist hr hwk hp hs with h | h
              · exact h
              · rw [h] at hw'; cases hw'
            · obtain ⟨h1', _, h3', _⟩ := others_stepThr hs u huv
              exact ⟨c1, l, by rw [h1']; exact hwk, by rw [h3']; exact hp⟩
          obtain ⟨c', l', hwk', hp'⟩ := hp'
          exact (q'.q4 u c' l' hwk').2.2 r hp' |>.2.2.2.2 _ hq'

/-- execution form -/
theorem ready_step (x : Exec s0) (hr : Reachable s0) (t : Tid) (m : Nat) {k : Nat} {r : Rid}
    (h1 : inSleep ((x.ρ m).pc t) = true) (hrec : ((x.ρ m).fr t).recs[k]? = some r)
    (hb : becameReady (x.ρ m) t k r) :
    ((x.ρ (m + 1)).fr t).recs[k]? = some r ∧ becameReady (x.ρ (m + 1)) t k r := by
  rcases x.step_cases m with ⟨ns, h, hle⟩ | ⟨v, e, _, hstep⟩
  · -- the clock only makes notes expire
    rw [h]
    refine ⟨hrec, ?_⟩
    unfold becameReady at hb ⊢
    show match ((x.ρ m).fr t).objs[k]? with
      | some (.note n) => ((x.ρ m).obj (.note n)).flag = true ∨ expiredB ((x.ρ m).obj (.note n)).expiry ns = true
      | some (.ctr c) => ((x.ρ m).obj (.ctr c)).value = 0
      | some (.cv c) => r ∉ ((x.ρ m).obj (.cv c)).queue
      | none => False
    cases ho : ((x.ρ m).fr t).objs[k]? with
    | none => rw [ho] at hb; exact hb.elim
    | some o =>
      rw [ho] at hb
      cases o with
      | note n => exact hb.elim .inl (fun h => .inr (expiredB_mono hle h))
      | ctr c => exact hb
      | cv c => exact hb
  · exact ready_stepThr (x.reach hr m) hstep h1 hrec hb

end WaitN
