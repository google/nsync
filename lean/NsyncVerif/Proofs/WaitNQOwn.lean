/-
  Proofs/WaitNQOwn.lean — infrastructure for the caller's own steps: what `QI` says about a thread that
  is not at a waker program point, moves of the program counter, landing lemmas for `CF`.
-/
import NsyncVerif.Proofs.WaitNQOther


namespace WaitN

structure QCtx (s : State) (t : Tid) : Prop where
  own : Own s
  linv : ∀ x, LInv (s.pc x) (s.fr x)
  qi : QI s
  cf : CF s t

theorem post_none_of_pc {s : State} {t : Tid} (h : QI s) (hp : opn (s.pc t) = false) : s.post t = none := by
  cases hpo : s.post t with
  | none => rfl
  | some r => have := (h.q6 t (by rw [hpo]; simp)).2; rw [hp] at this; cases this

theorem mc_none_of_pc {s : State} {t : Tid} (h : QI s) (hp : opn (s.pc t) = false) : s.mc t = .none := by
  cases hm : s.mc t with
  | none => rfl
  | locking o => have := (h.q11 t (by rw [hm]; simp)).1; rw [hp] at this; cases this
  | unlocking => have := (h.q11 t (by rw [hm]; simp)).1; rw [hp] at this; cases this

theorem wk_none_of_opn {p : PC} (h : opn p = false) : wk p = none := by
  cases p with
  | sg c bc st => cases st <;> simp [opn] at h <;> rfl
  | _ => rfl

/-- `QI` does not read frames or semaphores -/
theorem qi_setFr {s : State} {t : Tid} {f : Frame} (h : QI s) : QI (s.setFr t f) :=
  qi_transfer h rfl rfl rfl (fun _ => rfl) h.q6 h.q11
theorem qi_setSem {s : State} {j n : Nat} (h : QI s) : QI (s.setSem j n) :=
  qi_transfer h rfl rfl rfl (fun _ => rfl) h.q6 h.q11
theorem qi_setSemUser {s : State} {j : Nat} {u : Option Tid} (h : QI s) : QI (s.setSemUser j u) :=
  qi_transfer h rfl rfl rfl (fun _ => rfl) h.q6 h.q11

/-- the program counter of a thread with no pending post and no nested call moves between
    program points that are not inside wake_waiters -/
theorem qi_setPc {s : State} {t : Tid} {p : PC} (h : QI s) (hw0 : wk (s.pc t) = none) (hw1 : wk p = none)
    (hpost : s.post t = none) (hmc : s.mc t = .none) : QI (s.setPc t p) := by
  refine qi_transfer h rfl rfl rfl ?_ ?_ ?_
  · intro u; simp only [setPc_pc]; split
    · rename_i hu; subst hu; rw [hw0, hw1]
    · rfl
  · intro u hpo
    simp only [setPc_post, setPc_mc, setPc_pc] at hpo ⊢
    by_cases hu : u = t
    · subst hu; exact absurd hpost hpo
    · simp only [hu, if_false]; exact h.q6 u hpo
  · intro u hm
    simp only [setPc_mc, setPc_pc] at hm ⊢
    by_cases hu : u = t
    · subst hu; exact absurd hmc hm
    · simp only [hu, if_false]; exact h.q11 u hm

/-- … by a thread at a program point that owes no post and is in no nested mutex call -/
theorem qi_goto {s : State} {t : Tid} {p : PC} (h : QI s) (hnop : opn (s.pc t) = false) (hw1 : wk p = none) :
    QI (s.setPc t p) :=
  qi_setPc h (wk_none_of_opn hnop) hw1 (post_none_of_pc h hnop) (mc_none_of_pc h hnop)

theorem qi_bindSem {s s' : State} {owner : Tid} {j : SemId} (h : QI s) (hb : bindSem s owner j = some s') : QI s' := by
  unfold bindSem at hb
  split_ok hb
  all_goals (cases hb; try first | exact h | exact qi_setSemUser (qi_setFr h))

theorem qi_postSem {s s' : State} {r : Rid} {j : SemId} (h : QI s) (hb : postSem s r j = some s') : QI s' := by
  unfold postSem at hb
  split at hb
  · exact qi_bindSem h hb
  · cases hb; exact h

theorem qi_unbindSem {s : State} {t : Tid} (h : QI s) : QI (unbindSem s t) := by
  unfold unbindSem
  split
  · exact qi_setSemUser (qi_setFr h)
  · exact qi_setFr h

theorem qi_dflt {s s' : State} {t : Tid} {e : Ev} (h : QI s) (hd : dflt s t e = .ok s') : QI s' := by
  obtain ⟨f, rfl⟩ := dflt_sem hd; exact qi_transfer h rfl rfl rfl (fun _ => rfl) h.q6 h.q11

/-- `CF` of thread t reads: pc t, the objects / records / frees of its frame, and the shared objects and
    records -/
theorem cf_congr {s s' : State} {t : Tid} (h : CF s t) (hpc : s'.pc t = s.pc t)
    (hf : frSame (s.fr t) (s'.fr t)) (ho : s'.obj = s.obj) (hr : s'.rcd = s.rcd) : CF s' t := by
  have hfr : s'.fr t = { s.fr t with sem := (s'.fr t).sem } := hf
  constructor
  · intro o hh; rw [hpc, hfr, holdsAt_sem] at hh; rw [ho, hpc]; exact h.holds o hh
  · intro r hh; rw [hpc, hfr, freshAt_sem] at hh; rw [hr]; exact h.fresh r hh
  · intro r hh; rw [hpc, hfr, clearedAt_sem] at hh; rw [hr]; exact h.cleared r hh
  · intro o hh; rw [hpc, hfr, enqTrueAt_sem] at hh; rw [ho]; exact h.enqT o hh
  · intro hc hf0 k r hk
    rw [hpc] at hc ⊢
    rw [hfr] at hf0 hk ⊢
    rw [dqIdx_sem, hr]
    exact h.dq hc hf0 k r hk

theorem cf_dflt {s s' : State} {t : Tid} {e : Ev} (h : CF s t) (hd : dflt s t e = .ok s') : CF s' t := by
  have k := keeps_dflt (t := t) hd
  have sh := shared_dflt hd
  exact cf_congr h k.1 k.2 sh.1 sh.2.1

/-- program points at which the caller holds no lock and is not in the middle of an enqueue / dequeue -/
def Plain (p : PC) (f : Frame) : Prop :=
  holdsAt p f = none ∧ freshAt p f = none ∧ clearedAt p f = none ∧ enqTrueAt p f = none

theorem Entry.plain {p : PC} (h : Entry p) (f : Frame) : Plain p f := by cases h <;> exact ⟨rfl, rfl, rfl, rfl⟩
theorem Entry.wk {p : PC} (h : Entry p) : wk p = none := by cases h <;> rfl

theorem dqIdx_relockNext (f : Frame) : dqIdx (relockNext f) f = f.recs.length := by
  unfold relockNext; split <;> rfl
theorem dqIdx_finNext (f : Frame) : dqIdx (finNext f) f = f.recs.length := by
  unfold finNext; split
  · rfl
  · exact dqIdx_relockNext f
theorem dqIdx_deqNext {f : Frame} {j : Nat} (h : j ≤ f.recs.length) (hc : f.recs.length ≤ f.count) :
    dqIdx (deqNext f j) f = j := by
  unfold deqNext; split
  · rename_i hj
    split
    · rfl
    · rfl
    · rfl
    · rename_i hn
      have : j < f.count := Nat.lt_of_lt_of_le hj hc
      obtain ⟨o, ho⟩ := objs_get_of_lt this
      rw [ho] at hn; cases hn
  · rw [dqIdx_finNext]; omega
theorem dqIdx_scanEnd (f : Frame) (hc : f.recs.length ≤ f.count) : dqIdx (scanEnd f) f = 0 := by
  unfold scanEnd; split
  · exact dqIdx_deqNext (Nat.zero_le _) hc
  · rfl
theorem dqIdx_loopNext (f : Frame) (j : Nat) (hc : f.recs.length ≤ f.count) : dqIdx (loopNext f j) f = 0 := by
  unfold loopNext; split
  · split <;> rfl
  · exact dqIdx_scanEnd f hc
theorem dqIdx_enqNext (f : Frame) (i : Nat) (res : Bool) (hc : f.recs.length ≤ f.count) : dqIdx (enqNext f i res) f = 0 := by
  unfold enqNext; split
  · rfl
  · split
    · split
      · rfl
      · exact dqIdx_loopNext f 0 hc
    · exact dqIdx_deqNext (Nat.zero_le _) hc
theorem dqIdx_pollFrom (f : Frame) (hr : f.recs = []) (l : List ObjId) (i : Nat) : dqIdx (pollFrom f l i) f = 0 := by
  induction l generalizing i with
  | nil =>
    unfold pollFrom; split
    · simp [dqIdx, hr]
    · split
      · rfl
      · exact dqIdx_enqNext f 0 true (by rw [hr]; exact Nat.zero_le _)
  | cons o rest ih =>
    cases o with
    | cv c => simp only [pollFrom]; exact ih _
    | note n => rfl
    | ctr k => rfl

/-- the caller lands at a plain program point; its records keep their dequeue marks -/
theorem cf_plain {s' : State} {t : Tid} (hp : Plain (s'.pc t) (s'.fr t))
    (hdq : inCall (s'.pc t) = true → (s'.fr t).frees = 0 → ∀ k r, (s'.fr t).recs[k]? = some r →
            ((s'.rcd r).deqd = true ↔ k < dqIdx (s'.pc t) (s'.fr t))) : CF s' t := by
  obtain ⟨h1, h2, h3, h4⟩ := hp
  exact ⟨fun o hh => (by rw [h1] at hh; cases hh), fun r hh => (by rw [h2] at hh; cases hh),
         fun r hh => (by rw [h3] at hh; cases hh), fun o hh => (by rw [h4] at hh; cases hh), hdq⟩

end WaitN
