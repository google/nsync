/-
  Proofs/SemWaitInvA.lean — preservation of the frame / record / semaphore invariant `InvA` by the effects of a
  thread step.  Effects that write none of the fields a clause reads keep it as it stands; a control step is
  settled by what it does to the class of program points the clause speaks of.
-/
import NsyncVerif.Proofs.SemWaitTac

namespace SemWait

theorem InvA.eff {cfg : Config} {s s' : State} {t : Tid} (hi : InvA s) (he : Eff cfg s t s') : InvA s' where
  i1 := by
    have h1 := hi.i1
    cases he with
    | nop | semV | semP | lock | unlock | setFlag | newNote | inherit | born => exact h1
    | ctl op p' h =>
      intro u r hu
      obtain ⟨a, b, c, d⟩ := h1 u r hu
      refine ⟨a, b, c, ?_⟩
      rw [setPc_pc]
      split
      · exact (ctl_inCall h).2
      · exact d
    | m_ld49_enq | m_pdEnterBind | m_tmoNear | m_tmoFar | m_p0 | m_ld68_rm =>
      simp only [enqd_eq, bindPc_eq, tmo_eq, p0_eq, removed_eq]
      intro u r hu
      obtain ⟨a, b, c, d⟩ := h1 u r hu
      refine ⟨a, b, c, ?_⟩
      split
      · rfl
      · exact d
    | pop | post | postBind => simp only [popped_eq, posted_eq, bind_eq]; exact h1
    | call =>
      simp only [call_eq]
      intro u r hu
      by_cases hut : u = t
      · rw [if_pos hut] at hu; cases hu
      · simp only [if_neg hut] at hu ⊢; exact h1 u r hu
    | m_init r hpc hlive =>
      simp only [inited_eq]
      intro u r' hu
      by_cases hut : u = t
      · simp only [if_pos hut] at hu ⊢
        cases hu
        simp only [eq_self, reduceIte]
        exact ⟨trivial, hut.symm, hut ▸ rfl, rfl⟩
      · simp only [if_neg hut] at hu ⊢
        obtain ⟨a, b, c, d⟩ := h1 u r' hu
        have hr : r' ≠ r := fun e => by rw [e, hlive] at a; cases a
        simp only [if_neg hr]
        exact ⟨a, b, c, d⟩
    | m_ret =>
      simp only [returned_eq]
      intro u r hu
      by_cases hut : u = t
      · rw [if_pos hut] at hu; cases hu
      · simp only [if_neg hut] at hu ⊢
        obtain ⟨a, b, c, d⟩ := h1 u r hu
        have hn : (s.fr t).nw ≠ some r := fun e => hut (b.symm.trans (h1 t r e).2.1)
        rw [if_neg hn]
        exact ⟨a, b, c, d⟩
  i3 := by
    have h3 := hi.i3
    cases he with
    | nop | semV | semP | lock | unlock | setFlag | newNote | inherit | born | pop | post => exact h3
    | ctl op p' h => exact forall_setPc (fun u _ => h3 u) fun h' => h3 t (ctl_preNw h h')
    | m_init | m_ld49_enq | m_pdEnterBind | m_tmoNear | m_tmoFar | m_p0 | m_ld68_rm =>
      simp only [inited_eq, enqd_eq, bindPc_eq, tmo_eq, p0_eq, removed_eq]
      exact forall_setPc (fun u hu => by simpa only [if_neg hu] using h3 u) fun h' => by cases h'
    | _ => proj_simp; grind [preNw]
  i4 := by
    have h4 := hi.i4
    cases he with
    | nop | semV | semP | lock | unlock | setFlag | newNote | inherit | born | ctl => exact h4
    | pop | post | m_ld49_enq | m_pdEnterBind | m_tmoNear | m_tmoFar | m_p0 | m_ld68_rm =>
      simp only [popped_rcd, posted_rcd, enqd_eq, bindPc_eq, tmo_eq, p0_eq, removed_eq]; exact h4
    | postBind => proj_simp; grind
    | call n dl hpc =>
      simp only [call_eq]
      intro r hl
      have h := h4 r hl
      have ho : (s.rcd r).owner ≠ t := fun e => by rw [e, hi.i3 t (by rw [hpc]; rfl)] at h; cases h
      rw [if_neg ho]; exact h
    | m_init r hpc hlive =>
      simp only [inited_eq]
      intro r' hl
      by_cases hr : r' = r
      · simp only [if_true, hr]
      · simp only [if_neg hr] at hl ⊢
        have h := h4 r' hl
        have ho : (s.rcd r').owner ≠ t := fun e => by rw [e, hi.i3 t (by rw [hpc]; rfl)] at h; cases h
        rw [if_neg ho]; exact h
    | m_ret hpc =>
      simp only [returned_eq]
      intro r hl
      split at hl
      · cases hl
      · rename_i hn
        have h := h4 r hl
        have ho : (s.rcd r).owner ≠ t := fun e => hn (e ▸ h)
        rw [if_neg ho]; exact h
  i5 := by
    have h5 := hi.i5
    cases he with
    | nop | semV | semP | post => exact h5
    | lock | unlock | setFlag | born | inherit | pop | postBind =>
      simp only [setNote_lock, setNote_flag, setNote_expiry, popped_eq, posted_eq, bind_eq]; exact h5
    | ctl op p' h =>
      simp only [setPc_note, setPc_fr, lockOp_note, lockOp_fr]
      exact forall_setPc (fun u _ => h5 u) fun _ => h5 t (ctl_inCall h).1
    | m_init _ hpc | m_ld49_enq _ hpc | m_pdEnterBind _ hpc | m_tmoNear _ hpc | m_tmoFar _ hpc | m_p0 _ _ hpc
    | m_ld68_rm _ hpc =>
      simp only [inited_eq, enqd_eq, bindPc_eq, tmo_eq, p0_eq, removed_eq]
      exact forall_setPc (fun u _ => h5 u) fun _ => h5 t (by rw [hpc]; rfl)
    | _ => proj_simp; grind [inCall, protoMode]
  i6 := by
    have h6 := hi.i6
    cases he with
    | nop | semV | semP | lock | unlock | setFlag | newNote | inherit | born | pop | post | ctl => exact h6
    | m_init | m_ld49_enq | m_tmoNear | m_tmoFar | m_p0 | m_ld68_rm =>
      simp only [inited_eq, enqd_eq, tmo_eq, p0_eq, removed_eq]; exact h6
    | call n dl hpc | m_ret hpc => have h7 := hi.i7; proj_simp; grind
    | _ => proj_simp; grind
  i7 := by
    have h7 := hi.i7
    cases he with
    | nop | semV | semP | lock | unlock | setFlag | newNote | inherit | born | pop | post => exact h7
    | ctl op p' h =>
      intro u
      rw [setPc_pc]
      split
      · intro h'; have := (ctl_inCall h).2; rw [h'] at this; cases this
      · exact h7 u
    | m_init | m_ld49_enq | m_tmoNear | m_tmoFar | m_p0 | m_ld68_rm =>
      simp only [inited_eq, enqd_eq, tmo_eq, p0_eq, removed_eq]
      intro u
      split
      · intro h'; cases h'
      · exact h7 u
    | postBind r j hp hpost hlive hsem huser => have h1 := hi.i1; have h4 := hi.i4; proj_simp; grind [inCall]
    | _ => proj_simp; grind
  i8 := by
    have h8 := hi.i8
    cases he with
    | nop | semV | semP | lock | unlock | setFlag | newNote | inherit | born | pop | post => exact h8
    | ctl op p' h =>
      intro u j
      rw [setPc_pc]
      split
      · rename_i hu; subst hu; exact fun h' => ctl_pdWait (s := s) h h'
      · exact h8 u j
    | m_init | m_ld49_enq | m_tmoNear | m_tmoFar | m_p0 | m_ld68_rm =>
      simp only [inited_eq, enqd_eq, tmo_eq, p0_eq, removed_eq]
      intro u j
      split
      · intro h'; cases h'
      · exact h8 u j
    | postBind r j hp hpost hlive hsem huser => have h6 := hi.i6; proj_simp; grind
    | _ => proj_simp; grind
  h1 := by
    have hh := hi.h1
    cases he with
    | nop | semV | semP | post => exact hh
    | setFlag | born | inherit | pop | postBind =>
      simp only [setNote_flag, setNote_expiry, popped_eq, posted_eq, bind_eq]; exact hh
    | ctl op p' h =>
      simp only [setPc_note, setPc_fr, lockOp_note, lockOp_fr]
      refine forall_setPc (fun u hut hu => ?_) fun h' => ?_
      · show (if _ then _ else _) = _
        split
        · rename_i hn
          have hl := hh u hu
          rw [hn] at hl ⊢
          exact ctl_lock_other h hl hut
        · exact hh u hu
      · show (if _ then _ else _) = _
        rw [if_pos rfl]; exact ctl_holds h (hh t) h'
    | m_init _ hpc | m_ld49_enq _ hpc | m_pdEnterBind _ hpc | m_tmoNear _ hpc | m_tmoFar _ hpc | m_p0 _ _ hpc
    | m_ld68_rm _ hpc =>
      simp only [inited_eq, enqd_eq, bindPc_eq, tmo_eq, p0_eq, removed_eq]
      exact forall_setPc (fun u _ => hh u) fun h' => hh t (by rw [hpc]; first | exact h' | cases h')
    | call | m_ret =>
      simp only [call_eq, returned_eq]
      exact forall_setPc (fun u hu => by simpa only [if_neg hu] using hh u) nofun
    | lock k hp hl =>
      simp only [setNote_lock, setNote_pc, setNote_fr]
      intro u hu
      have h := hh u hu
      have hk : (s.fr u).note ≠ k := fun e => by rw [e, hl] at h; cases h
      rw [if_neg hk]; exact h
    | unlock k hp hl =>
      simp only [setNote_lock, setNote_pc, setNote_fr]
      intro u hu
      have h := hh u hu
      have hk : (s.fr u).note ≠ k := fun e => by
        rw [e, hl] at h; cases h; rw [proto_not_holds hp] at hu; cases hu
      rw [if_neg hk]; exact h
    | newNote => have h5 := hi.i5; proj_simp; grind [inCall, holdsPc]

end SemWait
