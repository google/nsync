import NsyncVerif.Proofs.MuCTraceDead
import NsyncVerif.Proofs.MuCFairLasso
/-
  MuC, DEFECT F9 of the code before its repair (mu_try_acquire_after_timeout_or_cancel waited for MU_LONG_WAIT even when
  the thread had been woken).  `stepOldF9` / `runOldF9` are the acceptor for mu_wait.c as it was: they differ from `step` /
  `run` at the program points `mtLd` (the loop test, which goes straight on to the MU_WRITER_WAITING attempt / the
  re-load) and `mtCasAcq` (a failed CAS) only — the load of `waiting` at the top of the loop body (`mtLdWk`) did not exist.
  `traceDead` (Proofs/MuCTraceDead.lean: an execution of the OLD library, reproduced on the harness) is accepted by the old
  acceptor and ends in the dead state; the current acceptor rejects it at the first loop iteration of the timed-out waiter.
  Used by `C06_fair_termination_old_code_witness` (Props/C06FairFull.lean).
-/
namespace NsyncVerif.MuC

def stepOldF9 (cfg : Cfg) (s : State) : Event → Except String State
  | .ld t o loc obs =>
    match s.pc t with
    | .mtLd c =>
      let old := s.word
      ldWord s o loc obs
        (if !(old.wlock || old.readers != 0 || old.lw || old.spin) then setPc s t (.mtCasAcq c old)
         else if !(old.ww || old.spin) then setPc s t (.mtCasWW c old)
         else setPc s t (.mtLd c))
    | _ => step cfg s (.ld t o loc obs)
  | .cas t o loc exp new obs ok =>
    match s.pc t with
    | .mtCasAcq c old =>
      let nw := mtAcqWord old
      casWord s o .acq loc exp new obs ok old nw
        { setPc s t (.mtLdW c old) with word := nw, sp := some t, wOwner := some t }
        (if !old.ww then setPc s t (.mtCasWW c old) else setPc s t (.mtLd c))
    | _ => step cfg s (.cas t o loc exp new obs ok)
  | e => step cfg s e

def runOldF9 (cfg : Cfg) (s : State) : List Event → Except String State
  | [] => .ok s
  | e :: es =>
    match stepOldF9 cfg s e with
    | .ok s' => runOldF9 cfg s' es
    | .error m => .error m

def afterOldF9 (cfg : Cfg) (evs : List Event) (f : State → Bool) : Bool :=
  match runOldF9 cfg init evs with
  | .ok s => f s
  | .error _ => false

set_option maxRecDepth 4096 in
/-- DEFECT F9 (old code).  `traceDead` is accepted and ends in the dead state: word 116 = MU_WAITING | MU_CONDITION |
    MU_WRITER_WAITING | MU_LONG_WAIT (no lock bit, spinlock free, no designated waker); mu->waiters = [w0], thread 0 asleep
    (count 0) inside nsync_mu_lock; thread 4, inside nsync_mu_wait_with_deadline with the finite deadline 5, timed out,
    woken (`waiting` of its record w3 is clear), at the re-load of its spin loop; nobody holds the mutex. -/
theorem dead_old_accepts : afterOldF9 ⟨false⟩ traceDead (fun s =>
    encode s.word == 116 && s.word.lw && !s.word.wlock && s.word.readers == 0 && !s.word.spin && !s.word.desig &&
    s.queue == [0] && (s.wr 0).sem == 0 && !(s.wr 3).waiting &&
    (match s.pc 0 with | .lsPRet c => c.lwl && decide (c.mw = none) | _ => false) &&
    (match s.pc 4 with | .mtLd c => decide (c.dl = some 5) && decide (c.so = .timedout) | _ => false) &&
    decide (s.pc 1 = .idle) && decide (s.pc 3 = .idle) && decide (s.held 1 = none) && decide (s.held 3 = none)) = true := by
  decide

theorem runOldF9_append {cfg : Cfg} : ∀ (a b : List Event) (s : State),
    runOldF9 cfg s (a ++ b) = (match runOldF9 cfg s a with | .ok s1 => runOldF9 cfg s1 b | .error m => .error m) := by
  intro a
  induction a with
  | nil => intro b s; rfl
  | cons e es ih =>
    intro b s
    simp only [List.cons_append, runOldF9]
    cases stepOldF9 cfg s e with
    | ok s1 => exact ih b s1
    | error m => rfl

/-- The old loop test: against the word 116 (MU_LONG_WAIT and MU_WRITER_WAITING set, no lock bit) the spinner's re-load
    leads back to `mtLd` and changes nothing. -/
theorem oldF9_spins {s : State} {c : MW} (hpc : s.pc 4 = .mtLd c) (hw : encode s.word = 116) :
    stepOldF9 ⟨false⟩ s (.ld 4 .rlx .word 116) = .ok s := by
  have e : s.word = decode 116 := by rw [← decode_encode s.word, hw]
  have hs : setPc s 4 (.mtLd c) = s := by cases s; simp only [setPc, ← hpc, setFn_self]
  simp only [stepOldF9, hpc, ldWord, hw]
  simp [e, decode, hs]

/-- … and there the spinning thread's re-load leads back to the same program point, for ever (old rule): the word has
    MU_LONG_WAIT and MU_WRITER_WAITING. -/
theorem dead_old_spins : afterOldF9 ⟨false⟩ (traceDead ++ [.ld 4 .rlx .word 116, .ld 4 .rlx .word 116, .ld 4 .rlx .word 116])
    (fun s => match s.pc 4 with | .mtLd _ => encode s.word == 116 | _ => false) = true := by
  have h := dead_old_accepts
  unfold afterOldF9 at h ⊢
  rw [runOldF9_append]
  split at h
  · rename_i s hs
    simp only [Bool.and_eq_true, beq_iff_eq] at h
    obtain ⟨⟨⟨⟨⟨⟨⟨⟨⟨⟨⟨⟨⟨⟨hw, _⟩, _⟩, _⟩, _⟩, _⟩, _⟩, _⟩, _⟩, _⟩, hp⟩, _⟩, _⟩, _⟩, _⟩ := h
    cases hpc : s.pc 4 <;> rw [hpc] at hp <;> first | (cases hp; done) | skip
    simp [runOldF9, oldF9_spins hpc hw, hpc, hw]
  · cases h

/-- A trace with a rejected prefix is rejected. -/
theorem acceptsF_take {cfg : Cfg} {evs : List Event} (n : Nat) (h : acceptsF cfg (evs.take n) = false) :
    acceptsF cfg evs = false := by
  unfold acceptsF at h ⊢
  split
  · rename_i s hs
    rw [← List.take_append_drop n evs] at hs
    obtain ⟨s1, h1, _⟩ := (isRun cfg).append.mp hs
    rw [h1] at h; cases h
  · rfl

set_option maxRecDepth 4096 in
/-- The repaired acceptor rejects the trace (at event 867, the first loop iteration of the timed-out waiter: the load of
    `waiting` is missing). -/
theorem dead_new_rejects : acceptsF ⟨false⟩ traceDead = false ∧ acceptsF ⟨false⟩ (traceDead.take 867) = true ∧
    acceptsF ⟨false⟩ (traceDead.take 868) = false :=
  have h : acceptsF ⟨false⟩ (traceDead.take 868) = false := by decide
  ⟨acceptsF_take 868 h, by decide, h⟩

end NsyncVerif.MuC
