/-
  Layer `CvFix`: a registered `nsync_waiter_s` of nsync_wait_n belongs to a call in progress — it
  is on the list `mine` of its owner, which is inside nsync_wait_n, in the very call that
  initialised the record (`epoch`).  This is what makes "registered" mean "the memory is valid"
  (C13) for records that live in the caller's stack frame.
-/
import NsyncVerif.Proofs.CvFixInvFAll
import NsyncVerif.Proofs.CvFixTouch

namespace NsyncVerif.CvFix

structure InvG (s : State) : Prop where
  reg : ∀ r, r.isMucv = false → (s.recs r).stat ≠ .idle →
    r ∈ (s.thr (s.recs r).owner).mine ∧ (s.recs r).epoch = (s.thr (s.recs r).owner).epoch

theorem invG_init : InvG init := by
  constructor; simp [init]

/-- General assembly.  A bare record that is registered afterwards was registered before with the
    same owner and epoch — or it is the record just enqueued by its owner; a thread keeps its
    epoch and its list (up to records that became idle) — or its list was empty. -/
theorem invG_gen {s s' : State} (hg : InvG s)
    (hrec : ∀ r, r.isMucv = false → (s'.recs r).stat ≠ .idle →
      ((s.recs r).stat ≠ .idle ∧ (s'.recs r).owner = (s.recs r).owner ∧ (s'.recs r).epoch = (s.recs r).epoch) ∨
      (r ∈ (s'.thr (s'.recs r).owner).mine ∧ (s'.recs r).epoch = (s'.thr (s'.recs r).owner).epoch))
    (hthr : ∀ u, ((s'.thr u).epoch = (s.thr u).epoch ∧
        ∀ q, q ∈ (s.thr u).mine → q ∈ (s'.thr u).mine ∨ (s'.recs q).stat = .idle) ∨ (s.thr u).mine = []) :
    InvG s' := by
  constructor
  intro r hm hni
  rcases hrec r hm hni with ⟨h1, h2, h3⟩ | h
  · obtain ⟨m, e⟩ := hg.reg r hm h1
    rcases hthr (s.recs r).owner with ⟨he, hq⟩ | h0
    · rw [h2, h3]
      exact ⟨(hq r m).resolve_right hni, e.trans he.symm⟩
    · rw [h0] at m; cases m
  · exact h

/-- Local transitions keep `epoch` and `mine`, or start from an empty list. -/
theorem ltr_mine {s : State} {t : Tid} {e : Event} {x' : Thr} (ha : InvA s) (h : LTr s t e x') :
    (x'.epoch = (s.thr t).epoch ∧ x'.mine = (s.thr t).mine) ∨ (s.thr t).mine = [] :=
  match h.eff with
  | .move m _ _ => .inl ⟨m.epoch, m.mine⟩
  | .fresh _ _ _ hf => .inr (hf.2.1.elim (ha.thr t).mine0 id)

theorem invG_tr {cfg : Config} {s s' : State} {e : Event} (ha : InvA s) (hb : InvB s) (hf : InvF s) (hg : InvG s)
    (h : Tr cfg s e s') : InvG s' := by
  refine invG_gen hg (fun r hm hni => (h.rcd ha hb.weak r).reg hm hni) fun u => ?_
  by_cases hu : e.tid = some u
  case neg => rw [tr_other h hu]; exact .inl ⟨rfl, fun q hq => .inl hq⟩
  -- the acting thread
  cases h with
  | tick => cases hu
  | same | semOther | wInit | nwInit | fStW | fCasOk => exact .inl ⟨rfl, fun q hq => .inl hq⟩
  | loc h =>
    cases (ltr_tid h).symm.trans hu
    exact (ltr_mine ha h).imp (fun ⟨h1, h2⟩ => ⟨by simp [h1], fun q hq => .inl (by simp [h2]; exact hq)⟩) id
  | acq t exp new obs o n hl =>
    cases hu; left
    unfold afterAcquire
    split <;> simp <;> exact fun q hq => .inl hq
  | relDeq t new obs n hl =>
    cases hu; left
    have hidle : (match (s.recs (s.thr u).r).stat with | .listed u => RStat.listed u | _ => RStat.idle) = .idle := by
      rcases (hf.thr u).wqRel hl with ⟨_, _, c⟩ | ⟨_, _, c⟩ <;> simp [c]
    simp
    intro q hq
    by_cases hqr : q = (s.thr u).r
    · right; simp [hqr]; exact hidle
    · left; exact (List.mem_erase_of_ne hqr).mpr hq
  | deqSpinExit t r hl hr hw =>
    cases hu; left
    have hidle : (match (s.recs r).stat with | .listed u => RStat.listed u | _ => RStat.idle) = .idle := by
      cases hst : (s.recs r).stat <;> simp
      rename_i v
      have := hb.lWait r v hst; rw [hw] at this; cases this
    simp
    intro q hq
    by_cases hqr : q = r
    · right; simp [hqr]; exact hidle
    · left; exact (List.mem_erase_of_ne hqr).mpr hq
  | enqSt t r obs hl => cases hu; left; simp; exact fun q hq => .inl (.inr hq)
  | wSt1 t r obs hl => cases hu; left; simp; split <;> simp <;> exact fun q hq => .inl hq
  | wHeadExit t r y hy => cases hu; subst hy; left; simp; exact fun q hq => .inl hq
  | _ => cases hu; left; simp; exact fun q hq => .inl hq

/-- A registered bare record is alive: its owner is inside the nsync_wait_n call that created it. -/
theorem registered_alive {s : State} (ha : InvA s) (hg : InvG s) (r : Rid) (hm : r.isMucv = false)
    (hni : (s.recs r).stat ≠ .idle) : alive s r = true := by
  obtain ⟨m, e⟩ := hg.reg r hm hni
  unfold alive
  simp only [Bool.and_eq_true, decide_eq_true_eq]
  refine ⟨e, ?_⟩
  cases hw : inWaitN (s.thr (s.recs r).owner)
  · have := (ha.thr _).mine0 hw; rw [this] at m; cases m
  · rfl

end NsyncVerif.CvFix
