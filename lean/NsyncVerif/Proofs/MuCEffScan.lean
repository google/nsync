import NsyncVerif.Proofs.MuCEff
import NsyncVerif.Proofs.MuCQScan
import NsyncVerif.Proofs.MuCInv4Scan
/-
  MuC: a step that runs the plain code of the scan of unlock_slow (`ScanStart`), said once for everything that reads it.
  `ScanKeep` adds to `ScanBase` what the plain code does to queue and records: that the thread's lists are permuted and its
  wake list grows, which record fields are kept, that mu->waiters is changed only under the spinlock.  It holds at a
  program point with its local facts, so the step-to-step facts (`ScanKeep.tl`, Proofs/MuCTLScan.lean) need no invariant of the
  state.  `ScanEff`, which the invariant groups read, adds that no other thread is scanning (by `Inv3`, `Inv4`).
-/
namespace NsyncVerif.MuC

/-- The wake list grows along the plain code. -/
theorem scanInv_wake (t : Tid) (r : Ret) (x : Wid) : ScanInv t r (fun _ sc => x ∈ sc.wake) (fun s' => x ∈ (s'.pc t).wakeL) where
  eval := fun hx hgo => by simp [PC.wakeL, (scanGo_goodL hgo).2.1, hx]
  remove := fun hx hgo => by simp [PC.wakeL, (scanGo_goodL hgo).2.2, hx]
  iterEnd := fun hx hgo => by rw [(scanGo_goodL hgo).2.1]; exact hx
  reLd := fun hx _ => by simp [PC.wakeL, hx]
  fin := fun hx _ => by simp [toFin, PC.wakeL, mkFin, hx]
  pick := fun hx e2 => by rw [(pickup_some' e2).2.2.2.2.1]; exact hx
  relLd := fun hx _ => by simp [PC.wakeL, hx]

theorem scanRun_wake (n : Nat) (s : State) (t : Tid) (r : Ret) (sc : Scan) (s' : State) (h : scanRun n s t r sc = .ok s') :
    ∀ x, x ∈ sc.wake → x ∈ (s'.pc t).wakeL :=
  fun x hx => (scanInv_wake t r x).run n s sc h hx

theorem afterPickup_wake {s : State} {sc0 : Scan} {t : Tid} {r : Ret} {s' : State}
    (h : afterPickup (pickup s sc0) t r sc0 = .ok s') : ∀ x, x ∈ sc0.wake → x ∈ (s'.pc t).wakeL :=
  fun x hx => (scanInv_wake t r x).afterPickup h hx

theorem afterEval_wake {s : State} {sc : Scan} {t : Tid} {r : Ret} {res : Bool} {s' : State}
    (h : afterEval s t r sc res = .ok s') : ∀ x, x ∈ sc.wake → x ∈ (s'.pc t).wakeL :=
  fun x hx => (scanInv_wake t r x).afterEval h (fun _ _ _ _ => hx) (fun _ _ _ _ _ => by simp [PC.wakeL, hx]) (fun _ _ _ _ _ => hx)

/-- What the plain code of the scan (`scanRun`, `afterPickup`, `afterEval`) does from `s0` with locals `sc`. -/
structure ScanOut (s0 : State) (t : Tid) (r : Ret) (sc : Scan) (s' : State) : Prop where
  frame : Frame s0 s'
  pc : ∃ p, s'.pc = setFn s0.pc t p ∧ ScanPc r sc.late p
  lnk : LnkOnly s0 s'
  perm : (allOf s' t).Perm (s0.queue ++ sc.lists ++ sc.wake)
  wake : ∀ x, x ∈ sc.wake → x ∈ (s'.pc t).wakeL
  finq : ∀ f, (s'.pc t).finOf = some f → f.cEmpty = s'.queue.isEmpty

theorem scanRun_out {s0 s' : State} {t : Tid} {r : Ret} {sc : Scan} (h : scanRun 3 s0 t r sc = .ok s') (hok : sc.ok) :
    ScanOut s0 t r sc s' :=
  have a := scanRun_frame _ _ t r sc s' h
  have b := scanRun_lists _ _ t r sc s' h
  ⟨a.1, a.2.imp fun _ hp => ⟨hp.1, hp.2 hok⟩, b.1, b.2, scanRun_wake _ _ t r sc s' h, (scanInv_finq t r).run _ _ _ h trivial⟩

theorem afterPickup_out {s0 s' : State} {t : Tid} {r : Ret} {sc : Scan} (h : afterPickup (pickup s0 sc) t r sc = .ok s')
    (hok : sc.ok) : ScanOut s0 t r sc s' :=
  have a := afterPickup_frame h
  have b := afterPickup_lists h
  ⟨a.1, a.2.imp fun _ hp => ⟨hp.1, hp.2 hok⟩, b.1, b.2, afterPickup_wake h, (scanInv_finq t r).afterPickup h trivial⟩

theorem afterEval_out {s0 s' : State} {t : Tid} {r : Ret} {sc : Scan} {res : Bool} (h : afterEval s0 t r sc res = .ok s')
    (hok : sc.ok) : ScanOut s0 t r sc s' :=
  have a := afterEval_frame h
  have b := afterEval_lists h
  ⟨a.1, a.2.imp fun _ hp => ⟨hp.1, hp.2 hok⟩, b.1, b.2, afterEval_wake h, afterEval_finq h⟩

/-- While conditions are being tested the plain code of the scan does not touch mu->waiters. -/
theorem scanRun_queue_tc : ∀ (n : Nat) (s : State) (t : Tid) (r : Ret) (sc : Scan) (s' : State),
    scanRun n s t r sc = .ok s' → sc.tc = true → s'.queue = s.queue := by
  intro n
  cases n with
  | zero => intro s t r sc s' h; simp [scanRun] at h
  | succ n =>
    intro s t r sc s' h htc
    unfold scanRun at h
    have hsp := scanGo_spec s.wr sc.todo sc
    split at h
    · cases h
    · simp only [Except.ok.injEq] at h; subst h; simp
    · simp only [Except.ok.injEq] at h; subst h; simp
    · rename_i sc' heq
      rw [heq] at hsp
      split at h
      · simp only [Except.ok.injEq] at h; subst h; simp
      · rename_i hn; exact absurd (hsp.2 ▸ htc) hn

theorem afterEval_queue {s : State} {sc : Scan} {t : Tid} {r : Ret} {res : Bool} {s' : State}
    (h : afterEval s t r sc res = .ok s') (htc : sc.tc = true) : s'.queue = s.queue := by
  unfold afterEval at h
  split at h
  · cases h
  · rename_i k rest hk
    split at h
    · exact scanRun_queue_tc _ _ _ _ _ _ h htc
    · split at h
      · simp only [Except.ok.injEq] at h; subst h; simp
      · cases h
      · rename_i sc' hw
        obtain ⟨_, h2, _⟩ := wakeOrPass_inr hw
        exact scanRun_queue_tc _ _ _ _ _ _ h (h2 ▸ htc)

/-- A step of `t` that runs the scan, as far as the local facts of `t`'s program point give it. -/
structure ScanKeep (s : State) (t : Tid) (r : Ret) (late : Bool) (s' : State) : Prop extends ScanBase s t r late s' where
  wr : ∀ x, (s'.wr x).owner = (s.wr x).owner ∧ (s'.wr x).waiting = (s.wr x).waiting ∧ (s'.wr x).lType = (s.wr x).lType ∧
    (s'.wr x).sem = (s.wr x).sem ∧ (s'.wr x).cond = (s.wr x).cond
  perm : (allOf s' t).Perm (allOf s t)
  wake : ∀ x, x ∈ (s.pc t).wakeL → x ∈ (s'.pc t).wakeL
  finq : ∀ f, (s'.pc t).finOf = some f → f.cEmpty = s'.queue.isEmpty
  late_src : ∀ sc, (s.pc t).scan? = some sc → sc.late = late
  /-- mu->waiters is changed only under the spinlock; the CASes that take it expect a word without it (`ok3`). -/
  queue : (s.pc t).ok3 → s'.queue = s.queue ∨ (s.pc t).spin = true ∨ s.word.spin = false

/-- The program point at which the plain code stops tells whether the scan runs late. -/
theorem ScanPc.late_eq {r : Ret} {l l' : Bool} {p : PC} (h : ScanPc r l p) (h' : ScanPc r l' p) : l = l' := by
  cases p <;> simp only [ScanPc] at h h' <;> first | exact h.2.1.symm.trans h'.2.1 | exact h.2.symm.trans h'.2

/-- From the outcome of the plain code started in `s0`, which differs from `s` in word, ghosts and a `rc` at most. -/
theorem ScanKeep.of_out {s s0 s' : State} {t : Tid} {r : Ret} {sc : Scan} {late : Bool} (ho : ScanOut s0 t r sc s')
    (hb : ScanBase s t r late s') (hq : s0.queue = s.queue)
    (hwr : ∀ x, (s0.wr x).owner = (s.wr x).owner ∧ (s0.wr x).waiting = (s.wr x).waiting ∧ (s0.wr x).lType = (s.wr x).lType ∧
      (s0.wr x).sem = (s.wr x).sem ∧ (s0.wr x).cond = (s.wr x).cond)
    (hl : sc.lists = (s.pc t).priv) (hk : sc.wake = (s.pc t).wakeL)
    (hls : ∀ sc', (s.pc t).scan? = some sc' → sc' = sc)
    (hqu : (s.pc t).ok3 → s'.queue = s.queue ∨ (s.pc t).spin = true ∨ s.word.spin = false) : ScanKeep s t r late s' := by
  have hlate : sc.late = late := by
    obtain ⟨p, e, hp⟩ := ho.pc
    exact (e ▸ setFn_same _ _ _ ▸ hp : ScanPc r sc.late (s'.pc t)).late_eq hb.dst
  refine ⟨hb, ?_, by have := ho.perm; rw [hq, hl, hk] at this; exact this, fun x hx => ho.wake x (hk ▸ hx), ho.finq,
    fun _ e => hls _ e ▸ hlate, hqu⟩
  intro x
  obtain ⟨a1, a2, a3, a4, a5, -⟩ := ho.lnk x
  obtain ⟨b1, b2, b3, b4, b5⟩ := hwr x
  exact ⟨a1.trans b1, a2.trans b2, a3.trans b3, a4.trans b4, a5.trans b5⟩

/-- A scan step from a program point at which the local facts hold. -/
theorem ScanStart.keep {s s' : State} {t : Tid} {r : Ret} (hok1 : (s.pc t).ok) (h : ScanStart s t r s') :
    ∃ late, ScanKeep s t r late s' := by
  obtain ⟨late, hb⟩ := h.base hok1
  refine ⟨late, ?_⟩
  cases h with
  | grab old heq hw hs =>
    refine .of_out (afterPickup_out hs (fun h => h)) hb ?_ ?_ (by rw [heq]; rfl) (by rw [heq]; rfl)
      (by rw [heq]; intro _ e; cases e) (fun h3 => Or.inr (Or.inr (by rw [heq] at h3; exact hw ▸ h3)))
    all_goals cases r.mode <;> simp
  | rel sc old heq hw hs =>
    rw [heq] at hok1
    exact .of_out (scanRun_out hs hok1.2) hb rfl (fun _ => ⟨rfl, rfl, rfl, rfl, rfl⟩) (by rw [heq]; rfl) (by rw [heq]; rfl)
      (by rw [heq]; intro _ e; cases e; rfl) (fun _ => Or.inr (Or.inl (by rw [heq]; rfl)))
  | re sc old heq hw hs =>
    rw [heq] at hok1
    exact .of_out (afterPickup_out hs hok1.2) hb rfl (fun _ => ⟨rfl, rfl, rfl, rfl, rfl⟩) (by rw [heq]; rfl) (by rw [heq]; rfl)
      (by rw [heq]; intro _ e; cases e; rfl) (fun h3 => Or.inr (Or.inr (by rw [heq] at h3; exact hw ▸ h3.1)))
  | rc sc k old heq hs =>
    rw [heq] at hok1
    refine .of_out (scanRun_out hs hok1.2) hb rfl ?_ (by rw [heq]; rfl) (by rw [heq]; rfl)
      (by rw [heq]; intro _ e; cases e; rfl) fun _ => ?_
    · intro x
      by_cases hx : x = k
      · subst hx; simp [setFn]
      · simp [setFn, hx]
    · cases htc : sc.tc
      · exact Or.inr (Or.inl (by rw [heq]; simp [PC.spin, htc]))
      · have hq := scanRun_queue_tc _ _ _ _ _ _ hs htc
        exact Or.inl hq
  | eval sc k rest cd heq hk hcd hs =>
    rw [heq] at hok1
    exact .of_out (afterEval_out hs hok1.2.1) hb rfl (fun _ => ⟨rfl, rfl, rfl, rfl, rfl⟩) (by rw [heq]; rfl) (by rw [heq]; rfl)
      (by rw [heq]; intro _ e; cases e; rfl) (fun _ => Or.inl (afterEval_queue hs hok1.2.2.1))

/-- A step of `t` that runs the scan: what every invariant needs to know about it. -/
structure ScanEff (s : State) (t : Tid) (r : Ret) (late : Bool) (s' : State) : Prop extends ScanKeep s t r late s' where
  alone : ∀ u, u ≠ t → (s.pc u).unl = false

theorem alone_of_unl {s : State} (h4 : Inv4 s) {t : Tid} (ht : (s.pc t).unl = true) (u : Tid) (hu : u ≠ t) :
    (s.pc u).unl = false := by
  cases e : (s.pc u).unl with
  | false => rfl
  | true => exact absurd (h4.uniq u t e ht) hu

/-- A scan step from a state in which the earlier invariants hold: no other thread is between grab and final CAS. -/
theorem ScanStart.eff {s s' : State} {t : Tid} {r : Ret} (h1 : Inv1 s) (h3 : Inv3 s) (h4 : Inv4 s)
    (h : ScanStart s t r s') : ∃ late, ScanEff s t r late s' := by
  obtain ⟨late, k⟩ := h.keep (h1.pcok t)
  refine ⟨late, k, ?_⟩
  cases h with
  | grab old heq hw hs =>
    have hok3 := h3.ok3 t; rw [heq] at hok3
    exact no_unl_at_grab h1 h3 (by rw [h1.share_eq (by rw [heq]; simp), heq]; simp [pcShare]) (hw ▸ hok3)
  | rel _ _ heq | re _ _ heq | rc _ _ _ heq | eval _ _ _ _ heq => exact alone_of_unl h4 (by rw [heq]; rfl)

theorem RetPc.scan {hd : Option Mode} {p : PC} {m : Option Mode} {w : Option Wid} {b : Bool} (h : RetPc hd p m w b) :
    p.scan? = none := by
  cases h <;> rfl

end NsyncVerif.MuC
