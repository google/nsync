import NsyncVerif.Proofs.MuCInv2Step
import NsyncVerif.Proofs.MuCQueueDefs
/-
  MuC, fair termination (C06 / C02 on a mutex with conditional critical sections): infinite executions, weak fairness,
  the hypotheses, and the statements (`def … : Prop`).  Pattern: Props/C02Progress.lean (model MuQ).
-/
namespace NsyncVerif.MuC

/-- An infinite execution from `s0`; `σ i = none` means that nobody moves at time `i`. -/
structure Exec (cfg : Cfg) (s0 : State) where
  ρ : Nat → State
  σ : Nat → Option Event
  start : ρ 0 = s0
  next : ∀ i, match σ i with
    | none => ρ (i + 1) = ρ i
    | some e => step cfg (ρ i) e = .ok (ρ (i + 1))

/-- Thread `t` is blocked in a semaphore P that can neither succeed (count 0) nor time out (no deadline, or the
    clock has not reached it).  (Intended: the only program points at which the acceptor accepts no event of the
    thread; the analogue of `C02_thread_enabled` is not proved for MuC.) -/
def AsleepOnSem (s : State) (t : Tid) : Prop :=
  (∃ c k, s.pc t = .lsPRet c ∧ c.w = some k ∧ (s.wr k).sem = 0) ∨
  (∃ c k dl, s.pc t = .mwPdRet c dl ∧ c.w = some k ∧ (s.wr k).sem = 0 ∧ ∀ d, dl = some d → s.now < d)

/-- The sleepers of `Quiescent` (Proofs/MuCQueueDefs.lean) are asleep in this sense. -/
theorem asleepOnSem_of_asleep {s : State} {t : Tid} (h : Asleep s t) : AsleepOnSem s t := by
  rcases h with ⟨c, k, a, b, d⟩ | ⟨c, k, a, b, d⟩
  · exact Or.inl ⟨c, k, a, b, d⟩
  · exact Or.inr ⟨c, k, none, a, b, d, fun _ h => by cases h⟩

/-- Accesses to the client's data.  The acceptor accepts a `dataR` of any thread at any time (it checks the value
    only); such an event is not a step of the library. -/
def Event.isData : Event → Bool
  | .dataW _ _ _ | .dataR _ _ _ => true
  | _ => false

/-- Weak fairness on each thread's next step: a thread that from time `i` on is inside a call and not asleep takes a
    step of the library (an event that is not a client data access) at some time `j ≥ i`. -/
def WeakFair {cfg : Cfg} {s0 : State} (x : Exec cfg s0) : Prop :=
  ∀ t i, (∀ j, i ≤ j → (x.ρ j).pc t ≠ .idle ∧ ¬ AsleepOnSem (x.ρ j) t) →
    ∃ j e, i ≤ j ∧ x.σ j = some e ∧ e.tid = some t ∧ e.isData = false

/-- Every thread that holds the mutex eventually makes a call (after the last arrival: unlock / runlock /
    unlock_without_wakeup — a holder can call nothing else but nsync_mu_wait, which is an arrival). -/
def HoldersRelease {cfg : Cfg} {s0 : State} (x : Exec cfg s0) : Prop :=
  ∀ t i, (x.ρ i).held t ≠ none → ∃ j a, i ≤ j ∧ x.σ j = some (.call t a)

/-- The calls that acquire (or re-acquire) the mutex. -/
def Event.isArrival : Event → Bool
  | .call _ .lock | .call _ .rlock | .call _ .trylock | .call _ .rtrylock | .call _ (.wait _ _ _) => true
  | _ => false

/-- Only finitely many lock / rlock / trylock / rtrylock / nsync_mu_wait calls arrive. -/
def FiniteArrivals {cfg : Cfg} {s0 : State} (x : Exec cfg s0) : Prop :=
  ∃ n, ∀ j e, n ≤ j → x.σ j = some e → e.isArrival = false

/-- A failed CAS on a `remove_count` (mu.c:243-245 in unlock_slow, mu_wait.c:112-121 after a timeout). -/
def Event.rcFail : Event → Bool
  | .cas _ _ (.rc _) _ _ _ false => true
  | _ => false

/-- Only finitely many CASes on `remove_count` fail (memory the mutex does not own; see Props/C02Progress.lean). -/
def FiniteRcFails {cfg : Cfg} {s0 : State} (x : Exec cfg s0) : Prop :=
  ∃ n, ∀ j e, n ≤ j → x.σ j = some e → e.rcFail = false

/-- A V on a semaphore from outside this mutex. -/
def Event.isEnvV : Event → Bool
  | .envV _ => true
  | _ => false

/-- Only finitely many semaphore posts come from outside the mutex.  (NEEDED in this model: a timed P whose
    deadline has passed may still return 0 when the count is non-zero, so a waiter that is posted spuriously again
    and again goes round mu_wait.c:256-271 for ever without ever taking the timeout.) -/
def FiniteEnvPosts {cfg : Cfg} {s0 : State} (x : Exec cfg s0) : Prop :=
  ∃ n, ∀ j e, n ≤ j → x.σ j = some e → e.isEnvV = false

def Event.isNoteSeen : Event → Bool
  | .noteSeen _ => true
  | _ => false

/-- nsync_sem_wait_with_cancel_ looks at its note once per call and is not inside a P once it has seen the note
    notified (sem_wait.c: it returns ECANCELED at once; notes are never un-notified; `MW.saw` is only set outside the
    P).  The acceptor does not enforce this (the traffic on the note is abstract: after a `noteSeen` it accepts a
    `semPdEnter`, and further `noteSeen`s), so it is a hypothesis on the execution. -/
def NoteHonoured {cfg : Cfg} {s0 : State} (x : Exec cfg s0) : Prop :=
  (∀ j t c dl, (x.ρ j).pc t = .mwPdRet c dl → c.saw = false) ∧
  (∀ j t c, (x.ρ j).pc t = .mwSem c → c.saw = true → x.σ j ≠ some (.noteSeen t))

/-- The contract of nsync_mu_unlock_without_wakeup is kept in every state. -/
def ContractKept {cfg : Cfg} {s0 : State} (x : Exec cfg s0) : Prop :=
  ∀ j, WithoutWakeupContract (x.ρ j)

/-- The clock passes every finite deadline a sleeper waits for. -/
def ClockAdvances {cfg : Cfg} {s0 : State} (x : Exec cfg s0) : Prop :=
  ∀ t i c d, (x.ρ i).pc t = .mwPdRet c (some d) →
    ∃ j, i ≤ j ∧ (d ≤ (x.ρ j).now ∨ (x.ρ j).pc t ≠ .mwPdRet c (some d))

/-- The proviso under which the call thread `t` is inside at time `i` has to return: every call but
    nsync_mu_wait_with_deadline unconditionally (`PC.mw = none`); nsync_mu_wait_with_deadline (locals `c`) if its
    deadline is finite, or at some time the call has seen its cancel note notified (`MW.saw`: `noteSeen` /
    `noteNotify`), or its condition — if any — is true on the protected data from some time on. -/
def MustReturn {cfg : Cfg} {s0 : State} (x : Exec cfg s0) (t : Tid) (i : Nat) : Prop :=
  ∀ c, ((x.ρ i).pc t).mw = some c →
    c.dl ≠ none ∨
    (∃ j c', i ≤ j ∧ ((x.ρ j).pc t).mw = some c' ∧ c'.saw = true) ∨
    (∀ cd, c.cond = some cd → ∃ n, ∀ j, n ≤ j → evalCond (x.ρ j).data cd = true)

structure FairHyps {cfg : Cfg} {s0 : State} (x : Exec cfg s0) : Prop where
  reach : Reachable cfg s0
  fair : WeakFair x
  release : HoldersRelease x
  arrivals : FiniteArrivals x
  rcFails : FiniteRcFails x
  envPosts : FiniteEnvPosts x
  note : NoteHonoured x
  contract : ContractKept x
  clock : ClockAdvances x

/-- THE STATEMENT (with the two hypotheses `FiniteEnvPosts`, `NoteHonoured` the model needs on top of those asked for):
    every call returns, nsync_mu_wait_with_deadline under the proviso `MustReturn`.  NOT PROVED; see Props/C06Fair.lean. -/
def C06_fair_termination_full : Prop :=
  ∀ (cfg : Cfg) (s0 : State) (x : Exec cfg s0), FairHyps x →
    ∀ t i, MustReturn x t i → ∃ j, i ≤ j ∧ (x.ρ j).pc t = .idle

/-- From time `n` on every thread is idle holding nothing, or asleep (in the sense of `Quiescent`: in the P of
    lock_slow, or in a P without deadline of nsync_mu_wait, count 0). -/
def SettledFrom {cfg : Cfg} {s0 : State} (x : Exec cfg s0) (n : Nat) : Prop :=
  ∀ j, n ≤ j → Quiescent (x.ρ j)

/-- Stage (2): such an execution settles.  NOT PROVED (it is what is missing for `C06_fair_termination_full`:
    `C06_fair_termination_of_settled` derives the latter from it). -/
def C06_fair_quiescence_or_sleepers_full : Prop :=
  ∀ (cfg : Cfg) (s0 : State) (x : Exec cfg s0), FairHyps x → ∃ n, SettledFrom x n

end NsyncVerif.MuC
