import NsyncVerif.Proofs.MuQInvHint
/-
  MuQ: the responsibility invariant (ALive) is preserved by every abstract step.  First the frame: the
  clauses are monotone (`InFlight.mono`, `Unlocking.mono`, `Resp.mono`), who blocks a blocked thread
  (`slow_inflight_or_queued`), and a role change of one thread (`alive_role`).  Then one lemma per shape of
  step: the steps of lock/rlock/lock_slow (`alive_simple`, `alive_acquire`, `alive_enq`), queue insertion,
  semaphore changes and the unlocking side (`alive_enqueue`, `alive_sem`, `alive_release`, `alive_unlocking`),
  the final CAS, `waiting := 0` and the post (`alive_finish`, `alive_wakeStore`, `alive_post`).  `alive_step`
  dispatches over the step relation; `AInv` collects the five invariants of the abstract state.
-/
namespace NsyncVerif.MuQ

theorem InFlight.mono {a a' : AState} {t : Tid} (h : InFlight a t) (hro : a'.ro t = a.ro t)
    (hq : ∀ k, k ∈ a'.queue → k ∈ a.queue) : InFlight a' t := by
  obtain ⟨c, ph, hr, h⟩ := h
  refine ⟨c, ph, by rw [hro]; exact hr, ?_⟩
  rcases h with h | ⟨h1, k, h2, h3⟩
  · exact Or.inl h
  · exact Or.inr ⟨h1, k, h2, fun hm => h3 (hq k hm)⟩

theorem Unlocking.mono {a a' : AState} {u : Tid} (h : Unlocking a u) (hro : a'.ro u = a.ro u) :
    Unlocking a' u := by
  rcases h with ⟨sc, h⟩ | ⟨f, h⟩
  · exact Or.inl ⟨sc, by rw [hro]; exact h⟩
  · exact Or.inr ⟨f, by rw [hro]; exact h⟩

theorem Resp.mono {a a' : AState} (h : Resp a) (h1 : ∀ t, a.ts t ≠ none → a'.ts t ≠ none)
    (h2 : ∀ t, InFlight a t → InFlight a' t) (h3 : ∀ u, Unlocking a u → Unlocking a' u) : Resp a' := by
  rcases h with ⟨t, h⟩ | ⟨t, h⟩ | ⟨u, h⟩
  · exact Or.inl ⟨t, h1 t h⟩
  · exact Or.inr (Or.inl ⟨t, h2 t h⟩)
  · exact Or.inr (Or.inr ⟨u, h3 u h⟩)

/-- A lock bit in the word has an owner. -/
theorem ALock.holder_of_conflict {a : AState} (h : ALock a)
    (hc : a.word.wlock = true ∨ a.word.readers ≠ 0) : ∃ t, a.ts t ≠ none := by
  rcases hc with hc | hc
  · have := h.wl; rw [hc] at this
    cases hx : a.wOwner with
    | none => rw [hx] at this; cases this
    | some t => exact ⟨t, by rw [(h.wown t).1 hx]; simp⟩
  · have := h.rd
    cases hx : a.rOwners with
    | nil => rw [hx] at this; exact absurd this hc
    | cons t r => exact ⟨t, by rw [(h.rown t).1 (by rw [hx]; simp)]; simp⟩

theorem blocked_cases {l : Mode} {ign : Bool} {w : Word} (h : blocked l ign w = true) :
    (w.wlock = true ∨ w.readers ≠ 0) ∨ (ign = false ∧ (w.lw = true ∨ (l = .R ∧ w.ww = true))) := by
  cases l <;> simp [blocked] at h
  · rcases h with (h | h) | h
    · exact Or.inl (Or.inl h)
    · exact Or.inl (Or.inr h)
    · exact Or.inr ⟨h.1, Or.inl h.2⟩
  · rcases h with h | h
    · exact Or.inl (Or.inl h)
    · rcases h.2 with h2 | h2
      · exact Or.inr ⟨h.1, Or.inr ⟨rfl, h2⟩⟩
      · exact Or.inr ⟨h.1, Or.inl h2⟩

/-- A thread inside lock_slow that has waited at least once and is not holding the spinlock is in
    flight, unless its record is queued. -/
theorem slow_inflight_or_queued {a : AState} (hs : ASpin a) (hq : AQueue a) (hfree : a.word.spin = false)
    {t : Tid} {c : SL} {ph : Phase} (hr : a.ro t = .slow c ph) (hw : c.w.isSome = true) :
    InFlight a t ∨ a.queue ≠ [] := by
  obtain ⟨e1, e2, e3⟩ := hq.slok t c ph hr
  have hns := hs.no_spin_of_free hfree t
  cases ph with
  | pre => exact Or.inl ⟨c, .pre, hr, Or.inl ⟨rfl, by rw [← e2 (Or.inl rfl)]; exact hw⟩⟩
  | st => rw [hr] at hns; cases hns
  | rel => rw [hr] at hns; cases hns
  | loopLd =>
    cases hcw : c.w with
    | none => rw [hcw] at hw; cases hw
    | some k =>
      by_cases hk : k ∈ a.queue
      · exact Or.inr (List.ne_nil_of_mem hk)
      · exact Or.inl ⟨c, .loopLd, hr, Or.inr ⟨rfl, k, hcw, hk⟩⟩
  | loopP =>
    cases hcw : c.w with
    | none => rw [hcw] at hw; cases hw
    | some k =>
      by_cases hk : k ∈ a.queue
      · exact Or.inr (List.ne_nil_of_mem hk)
      · exact Or.inl ⟨c, .loopP, hr, Or.inr ⟨rfl, k, hcw, hk⟩⟩


/-- Generic step: thread `t` changes its role to `r1`; queue, shares and records are unchanged
    (the word may change in bits that ALive does not mention, or clear hint bits). -/
theorem alive_role {a X : AState} {t : Tid} {r1 : Role} (h : ALive a)
    (hro : X.ro = setFn a.ro t r1) (hq : X.queue = a.queue) (hts : X.ts = a.ts) (hwr : X.wr = a.wr)
    (hd : X.word.desig = true → a.word.desig = true)
    (hl : X.word.lw = true → a.word.lw = true)
    (hw : X.word.ww = true → a.word.ww = true)
    (hIF : InFlight a t → InFlight X t)
    (hUn : Unlocking a t → Unlocking X t)
    (hlw : ∀ c ph, a.ro t = .slow c ph → c.lwl = true → ∃ c' ph', r1 = .slow c' ph' ∧ c'.lwl = true)
    (hww : ∀ c ph, a.ro t = .slow c ph → c.l = .W → (ph = .st ∨ c.w.isSome = true) →
      ∃ c' ph', r1 = .slow c' ph' ∧ c'.l = .W ∧ (ph' = .st ∨ c'.w.isSome = true))
    (hst : ∀ c, r1 = .slow c .st → ∃ c0, a.ro t = .slow c0 .st)
    (hpost : ∀ c k, r1 = .slow c .loopP → c.w = some k → (a.wr k).waiting = false →
      (a.wr k).sem ≠ 0 ∨ ∃ u r, u ≠ t ∧ a.ro u = .wakeV k r)
    (hwv : ∀ k r, a.ro t = .wakeV k r → r1 = .wakeV k r) : ALive X := by
  have other : ∀ u, u ≠ t → X.ro u = a.ro u := setFn_others hro
  have self : X.ro t = r1 := by rw [hro]; simp [setFn]
  have hqs : ∀ k, k ∈ X.queue → k ∈ a.queue := fun k hk => by rw [hq] at hk; exact hk
  have tIF : ∀ u, InFlight a u → InFlight X u := by
    intro u hu
    by_cases e : u = t
    · subst e; exact hIF hu
    · exact hu.mono (other u e) hqs
  have tUn : ∀ u, Unlocking a u → Unlocking X u := by
    intro u hu
    by_cases e : u = t
    · subst e; exact hUn hu
    · exact hu.mono (other u e)
  refine ⟨?_, ?_, ?_, ?_, ?_⟩
  · intro hx
    rcases h.desig (hd hx) with ⟨u, hu⟩ | ⟨u, hu⟩
    · exact Or.inl ⟨u, tIF u hu⟩
    · exact Or.inr ⟨u, tUn u hu⟩
  · intro hx
    obtain ⟨u, c, ph, hr, hc⟩ := h.lw (hl hx)
    by_cases e : u = t
    · subst e; obtain ⟨c', ph', e1, e2⟩ := hlw c ph hr hc
      exact ⟨u, c', ph', by rw [self, e1], e2⟩
    · exact ⟨u, c, ph, by rw [other u e]; exact hr, hc⟩
  · intro hx
    obtain ⟨u, c, ph, hr, hc, hp⟩ := h.ww (hw hx)
    by_cases e : u = t
    · subst e; obtain ⟨c', ph', e1, e2, e3⟩ := hww c ph hr hc hp
      exact ⟨u, c', ph', by rw [self, e1], e2, e3⟩
    · exact ⟨u, c, ph, by rw [other u e]; exact hr, hc, hp⟩
  · intro hn
    have : Need a := by
      rcases hn with hn | ⟨u, c, hr⟩
      · exact Or.inl (by rw [hq] at hn; exact hn)
      · by_cases e : u = t
        · subst e; rw [self] at hr
          obtain ⟨c0, h0⟩ := hst c hr; exact Or.inr ⟨u, c0, h0⟩
        · exact Or.inr ⟨u, c, by rw [← other u e]; exact hr⟩
    exact (h.resp this).mono (fun u hu => by rw [hts]; exact hu) tIF tUn
  · intro u c k hr hcw hwt
    rw [hwr] at hwt ⊢
    have fix : ((a.wr k).sem ≠ 0 ∨ ∃ v r, v ≠ t ∧ a.ro v = .wakeV k r) ∨
        ((a.wr k).sem ≠ 0 ∨ ∃ v r, a.ro v = .wakeV k r) := by
      by_cases e : u = t
      · subst e; rw [self] at hr; exact Or.inl (hpost c k hr hcw hwt)
      · rw [other u e] at hr; exact Or.inr (h.post u c k hr hcw hwt)
    rcases fix with (h1 | ⟨v, r, hv, hr2⟩) | (h1 | ⟨v, r, hr2⟩)
    · exact Or.inl h1
    · exact Or.inr ⟨v, r, by rw [other v hv]; exact hr2⟩
    · exact Or.inl h1
    · right
      by_cases e : v = t
      · subst e; exact ⟨v, r, by rw [self]; exact hwv k r hr2⟩
      · exact ⟨v, r, by rw [other v e]; exact hr2⟩

theorem alive_simple {a a' : AState} (hq : AQueue a) (h : ALive a)
    (hk : (∃ t l, a' = { a with ro := setFn a.ro t (.slow (SL.entry l) .pre) } ∧ a.ro t = .quiet) ∨
          (∃ t c, a' = { a with word := { a.word with spin := false }, sp := none, ro := setFn a.ro t (.slow c .loopLd) } ∧ a.ro t = .slow c .rel) ∨
          (∃ t c k, a' = { a with ro := setFn a.ro t (.slow c .loopP) } ∧ a.ro t = .slow c .loopLd ∧ c.w = some k ∧ (a.wr k).waiting = true) ∨
          (∃ t c k, a' = { a with ro := setFn a.ro t (.slow c.woken .pre) } ∧ a.ro t = .slow c .loopLd ∧ c.w = some k ∧ (a.wr k).waiting = false)) :
    ALive a' := by
  rcases hk with ⟨t, l, rfl, hro⟩ | ⟨t, c, rfl, hro⟩ | ⟨t, c, k, rfl, hro, hw, hwt⟩ | ⟨t, c, k, rfl, hro, hw, hwt⟩
  · refine alive_role (t := t) h rfl rfl rfl rfl id id id ?_ ?_ ?_ ?_ ?_ ?_ ?_
    · rintro ⟨c, ph, hr, _⟩; rw [hro] at hr; cases hr
    · rintro (⟨sc, hr⟩ | ⟨f, hr⟩) <;> rw [hro] at hr <;> cases hr
    · intro c ph hr; rw [hro] at hr; cases hr
    · intro c ph hr; rw [hro] at hr; cases hr
    · intro c hr; cases hr
    · intro c k hr; cases hr
    · intro k r hr; rw [hro] at hr; cases hr
  · obtain ⟨k, hk1, hk2⟩ := hq.relq t c hro
    refine alive_role (t := t) h rfl rfl rfl rfl id id id ?_ ?_ ?_ ?_ ?_ ?_ ?_
    · rintro ⟨c1, ph, hr, h1⟩; rw [hro] at hr; cases hr
      rcases h1 with ⟨h1, _⟩ | ⟨h1, _⟩ <;> cases h1
    · rintro (⟨sc, hr⟩ | ⟨f, hr⟩) <;> rw [hro] at hr <;> cases hr
    · intro c1 ph hr hl; rw [hro] at hr; cases hr; exact ⟨_, _, rfl, hl⟩
    · intro c1 ph hr hl hp; rw [hro] at hr; cases hr
      exact ⟨_, _, rfl, hl, Or.inr (by rw [hk1]; rfl)⟩
    · intro c1 hr; cases hr
    · intro c1 k1 hr; cases hr
    · intro k1 r hr; rw [hro] at hr; cases hr
  · refine alive_role (t := t) h rfl rfl rfl rfl id id id ?_ ?_ ?_ ?_ ?_ ?_ ?_
    · rintro ⟨c1, ph, hr, h1⟩; rw [hro] at hr; cases hr
      rcases h1 with ⟨h1, _⟩ | ⟨_, k1, h2, h3⟩
      · cases h1
      · exact ⟨c, .loopP, by simp [setFn], Or.inr ⟨rfl, k1, h2, h3⟩⟩
    · rintro (⟨sc, hr⟩ | ⟨f, hr⟩) <;> rw [hro] at hr <;> cases hr
    · intro c1 ph hr hl; rw [hro] at hr; cases hr; exact ⟨_, _, rfl, hl⟩
    · intro c1 ph hr hl hp; rw [hro] at hr; cases hr
      exact ⟨_, _, rfl, hl, Or.inr (by rw [hw]; rfl)⟩
    · intro c1 hr; cases hr
    · intro c1 k1 hr hcw hwf; cases hr; rw [hw] at hcw; cases hcw; rw [hwt] at hwf; cases hwf
    · intro k1 r hr; rw [hro] at hr; cases hr
  · have hknq : k ∉ a.queue := fun hm => by have := (hq.inq k hm).1; rw [hwt] at this; cases this
    refine alive_role (t := t) h rfl rfl rfl rfl id id id ?_ ?_ ?_ ?_ ?_ ?_ ?_
    · intro _; exact ⟨c.woken, .pre, by simp [setFn], Or.inl ⟨rfl, rfl⟩⟩
    · rintro (⟨sc, hr⟩ | ⟨f, hr⟩) <;> rw [hro] at hr <;> cases hr
    · intro c1 ph hr hl; rw [hro] at hr; cases hr
      refine ⟨_, _, rfl, ?_⟩
      simp only [SL.woken]; split <;> simp [hl]
    · intro c1 ph hr hl hp; rw [hro] at hr; cases hr
      exact ⟨_, _, rfl, hl, Or.inr (by show c.w.isSome = true; rw [hw]; rfl)⟩
    · intro c1 hr; cases hr
    · intro c1 k1 hr; cases hr
    · intro k1 r hr; rw [hro] at hr; cases hr


/-- A thread acquires (fast path from a quiet role, or lock_slow from the `pre` phase). -/
theorem alive_acquire {a X : AState} {t : Tid} (h : ALive a)
    (hrt : a.ro t = .quiet ∨ ∃ c, a.ro t = .slow c .pre)
    (hro : X.ro = setFn a.ro t .quiet) (hq : X.queue = a.queue) (hts : X.ts t ≠ none)
    (hwr : ∀ k, (X.wr k).waiting = (a.wr k).waiting ∧ (X.wr k).sem = (a.wr k).sem)
    (hd : X.word.desig = true → a.word.desig = true ∧ ∀ c ph, a.ro t = .slow c ph → c.clear = false)
    (hl : X.word.lw = true → a.word.lw = true ∧ ∀ c ph, a.ro t = .slow c ph → c.lwl = false)
    (hw : X.word.ww = true → a.word.ww = true ∧ ∀ c ph, a.ro t = .slow c ph → c.l = .R) : ALive X := by
  have other : ∀ u, u ≠ t → X.ro u = a.ro u := setFn_others hro
  have self : X.ro t = .quiet := by rw [hro]; simp [setFn]
  have hqs : ∀ k, k ∈ X.queue → k ∈ a.queue := fun k hk => by rw [hq] at hk; exact hk
  have notUn : ∀ u, Unlocking a u → u ≠ t := by
    rintro u (⟨sc, hr⟩ | ⟨f, hr⟩) e <;> subst e <;> rcases hrt with h0 | ⟨c, h0⟩ <;> rw [h0] at hr <;> cases hr
  refine ⟨?_, ?_, ?_, fun _ => Or.inl ⟨t, hts⟩, ?_⟩
  · intro hx
    obtain ⟨h1, h2⟩ := hd hx
    rcases h.desig h1 with ⟨u, hu⟩ | ⟨u, hu⟩
    · left; refine ⟨u, hu.mono (other u ?_) hqs⟩
      intro e; subst e
      obtain ⟨c, ph, hr, hc⟩ := hu
      rcases hrt with h0 | ⟨c0, h0⟩
      · rw [h0] at hr; cases hr
      · rw [h0] at hr; cases hr
        rcases hc with ⟨_, hc⟩ | ⟨hc, _⟩
        · rw [h2 c .pre h0] at hc; cases hc
        · cases hc
    · right; exact ⟨u, hu.mono (other u (notUn u hu))⟩
  · intro hx
    obtain ⟨h1, h2⟩ := hl hx
    obtain ⟨u, c, ph, hr, hc⟩ := h.lw h1
    refine ⟨u, c, ph, ?_, hc⟩
    rw [other u ?_]; exact hr
    intro e; subst e; rw [h2 c ph hr] at hc; cases hc
  · intro hx
    obtain ⟨h1, h2⟩ := hw hx
    obtain ⟨u, c, ph, hr, hc, hp⟩ := h.ww h1
    refine ⟨u, c, ph, ?_, hc, hp⟩
    rw [other u ?_]; exact hr
    intro e; subst e; rw [h2 c ph hr] at hc; cases hc
  · intro u c k hr hcw hwt
    have hu : u ≠ t := fun e => by subst e; rw [self] at hr; cases hr
    rw [other u hu] at hr; rw [(hwr k).1] at hwt; rw [(hwr k).2]
    rcases h.post u c k hr hcw hwt with h1 | ⟨v, r, hv⟩
    · exact Or.inl h1
    · right; refine ⟨v, r, ?_⟩
      rw [other v ?_]; exact hv
      intro e; subst e; rcases hrt with h0 | ⟨c0, h0⟩ <;> rw [h0] at hv <;> cases hv

/-- The enqueue CAS of lock_slow. -/
theorem alive_enq {a : AState} {t : Tid} {c : SL} (hl : ALock a) (hs : ASpin a) (hq : AQueue a) (h : ALive a)
    (hro : a.ro t = .slow c .pre) (hsp : a.word.spin = false) (hb : blocked c.l c.ign a.word = true) :
    ALive { a with word := enqWord c.l c.clear c.lwl a.word, sp := some t, ro := setFn a.ro t (.slow c .st) } := by
  have other : ∀ u, u ≠ t → setFn a.ro t (.slow c .st) u = a.ro u := setFn_others rfl
  have self : setFn a.ro t (.slow c .st) t = .slow c .st := by simp [setFn]
  obtain ⟨⟨ok1, ok2, ok3⟩, ok4, _⟩ := hq.slok t c .pre hro
  have tIF : ∀ u, u ≠ t → InFlight a u →
      InFlight { a with word := enqWord c.l c.clear c.lwl a.word, sp := some t, ro := setFn a.ro t (.slow c .st) } u :=
    fun u hu hi => hi.mono (other u hu) (fun _ hk => hk)
  have tUn : ∀ u, Unlocking a u →
      Unlocking { a with word := enqWord c.l c.clear c.lwl a.word, sp := some t, ro := setFn a.ro t (.slow c .st) } u := by
    intro u hi
    refine hi.mono (other u ?_)
    intro e; subst e; rcases hi with ⟨sc, hr⟩ | ⟨f, hr⟩ <;> rw [hro] at hr <;> cases hr
  have tNotIF : c.clear = false → ∀ u, InFlight a u → u ≠ t := by
    intro hc u hi e; subst e
    obtain ⟨c1, ph, hr, hx⟩ := hi
    rw [hro] at hr; cases hr
    rcases hx with ⟨_, hx⟩ | ⟨hx, _⟩
    · rw [hc] at hx; cases hx
    · cases hx
  refine ⟨?_, ?_, ?_, ?_, ?_⟩
  · intro hx
    simp only [enqWord, Bool.and_eq_true, Bool.not_eq_true'] at hx
    rcases h.desig hx.1 with ⟨u, hu⟩ | ⟨u, hu⟩
    · exact Or.inl ⟨u, tIF u (tNotIF hx.2 u hu) hu⟩
    · exact Or.inr ⟨u, tUn u hu⟩
  · intro hx
    simp only [enqWord, Bool.or_eq_true] at hx
    rcases hx with hx | hx
    · obtain ⟨u, c1, ph, hr, hc⟩ := h.lw hx
      by_cases e : u = t
      · subst e; rw [hro] at hr; cases hr; exact ⟨u, c, .st, self, hc⟩
      · exact ⟨u, c1, ph, by show setFn a.ro t _ u = _; rw [other u e]; exact hr, hc⟩
    · exact ⟨t, c, .st, self, hx⟩
  · intro hx
    simp only [enqWord, Bool.or_eq_true, beq_iff_eq] at hx
    rcases hx with hx | hx
    · obtain ⟨u, c1, ph, hr, hc, hp⟩ := h.ww hx
      by_cases e : u = t
      · subst e; rw [hro] at hr; cases hr; exact ⟨u, c, .st, self, hc, Or.inl rfl⟩
      · exact ⟨u, c1, ph, by show setFn a.ro t _ u = _; rw [other u e]; exact hr, hc, hp⟩
    · exact ⟨t, c, .st, self, hx, Or.inl rfl⟩
  · intro _
    rcases blocked_cases hb with hconf | ⟨hign, hhint⟩
    · exact Or.inl (hl.holder_of_conflict hconf)
    · have hclear : c.clear = false := by rw [← ok1]; exact hign
      -- a supporting thread of the hint bit
      have key : ∃ u c1 ph1, u ≠ t ∧ a.ro u = .slow c1 ph1 ∧ c1.w.isSome = true := by
        rcases hhint with hlw | ⟨hlr, hww⟩
        · obtain ⟨u, c1, ph1, hr, hc⟩ := h.lw hlw
          obtain ⟨⟨o1, o2, o3⟩, o4, o5⟩ := hq.slok u c1 ph1 hr
          have hwc : 1 ≤ c1.wc := by have := o3.1 hc; simp only [longWaitThreshold] at this; omega
          have hcl : c1.clear = true := o2.2 hwc
          refine ⟨u, c1, ph1, ?_, hr, ?_⟩
          · intro e; subst e; rw [hro] at hr; cases hr; rw [hclear] at hcl; cases hcl
          · cases ph1 with
            | pre => rw [o4 (Or.inl rfl)]; exact hcl
            | st => rw [o4 (Or.inr rfl)]; exact hcl
            | rel => exact o5 rfl
            | loopLd => exact o5 rfl
            | loopP => exact o5 rfl
        · obtain ⟨u, c1, ph1, hr, hc, hp⟩ := h.ww hww
          have hne : u ≠ t := by
            intro e; subst e; rw [hro] at hr; cases hr; rw [hlr] at hc; cases hc
          refine ⟨u, c1, ph1, hne, hr, ?_⟩
          rcases hp with hp | hp
          · subst hp
            have := hs.no_spin_of_free hsp u; rw [hr] at this; cases this
          · exact hp
      obtain ⟨u, c1, ph1, hne, hr, hw⟩ := key
      rcases slow_inflight_or_queued hs hq hsp hr hw with hi | hne2
      · exact Or.inr (Or.inl ⟨u, tIF u hne hi⟩)
      · exact (h.resp (Or.inl hne2)).mono (fun _ hx => hx) (fun v hv => tIF v (tNotIF hclear v hv) hv) tUn
  · intro u c1 k hr hcw hwt
    have hu : u ≠ t := fun e => by
      subst e
      rw [show ({ a with word := enqWord c.l c.clear c.lwl a.word, sp := some u, ro := setFn a.ro u (.slow c .st) } : AState).ro u = setFn a.ro u (.slow c .st) u from rfl, self] at hr
      cases hr
    have hr' : a.ro u = .slow c1 .loopP := by rw [← other u hu]; exact hr
    rcases h.post u c1 k hr' hcw hwt with h1 | ⟨v, r, hv⟩
    · exact Or.inl h1
    · right; refine ⟨v, r, ?_⟩
      show setFn a.ro t _ v = _
      rw [other v ?_]; exact hv
      intro e; subst e; rw [hro] at hv; cases hv

/-- `waiting := 1` + queue insertion (first wait or re-queue). -/
theorem alive_enqueue {a X : AState} {t : Tid} {c c' : SL} {k : Wid} (h : ALive a)
    (hro : a.ro t = .slow c .st) (hc1 : c'.l = c.l) (hc2 : c'.lwl = c.lwl) (hc3 : c'.w = some k)
    (hk_own : ∀ t' c1 ph1, a.ro t' = .slow c1 ph1 → c1.w = some k → t' = t)
    (hword : X.word = a.word) (hts : X.ts = a.ts)
    (hq : ∀ x, x ∈ X.queue ↔ x = k ∨ x ∈ a.queue)
    (hr' : X.ro = setFn a.ro t (.slow c' .rel))
    (hwk : (X.wr k).waiting = true) (hwo : ∀ k', k' ≠ k → X.wr k' = a.wr k') : ALive X := by
  have other : ∀ u, u ≠ t → X.ro u = a.ro u := setFn_others hr'
  have self : X.ro t = .slow c' .rel := by rw [hr']; simp [setFn]
  have tIF : ∀ u, InFlight a u → InFlight X u := by
    intro u hi
    have hu : u ≠ t := by
      intro e; subst e; obtain ⟨c1, ph, hr, hx⟩ := hi; rw [hro] at hr; cases hr
      rcases hx with ⟨hx, _⟩ | ⟨hx, _⟩ <;> cases hx
    obtain ⟨c1, ph, hr, hx⟩ := hi
    refine ⟨c1, ph, by rw [other u hu]; exact hr, ?_⟩
    rcases hx with hx | ⟨h1, k1, h2, h3⟩
    · exact Or.inl hx
    · refine Or.inr ⟨h1, k1, h2, fun hm => ?_⟩
      rcases (hq k1).1 hm with e | e
      · subst e; exact hu (hk_own u c1 ph hr h2)
      · exact h3 e
  have tUn : ∀ u, Unlocking a u → Unlocking X u := by
    intro u hi
    refine hi.mono (other u ?_)
    intro e; subst e; rcases hi with ⟨sc, hr⟩ | ⟨f, hr⟩ <;> rw [hro] at hr <;> cases hr
  refine ⟨?_, ?_, ?_, ?_, ?_⟩
  · intro hx; rw [hword] at hx
    rcases h.desig hx with ⟨u, hu⟩ | ⟨u, hu⟩
    · exact Or.inl ⟨u, tIF u hu⟩
    · exact Or.inr ⟨u, tUn u hu⟩
  · intro hx; rw [hword] at hx
    obtain ⟨u, c1, ph, hr, hc⟩ := h.lw hx
    by_cases e : u = t
    · subst e; rw [hro] at hr; cases hr; exact ⟨u, c', .rel, self, by rw [hc2]; exact hc⟩
    · exact ⟨u, c1, ph, by rw [other u e]; exact hr, hc⟩
  · intro hx; rw [hword] at hx
    obtain ⟨u, c1, ph, hr, hc, hp⟩ := h.ww hx
    by_cases e : u = t
    · subst e; rw [hro] at hr; cases hr
      exact ⟨u, c', .rel, self, by rw [hc1]; exact hc, Or.inr (by rw [hc3]; rfl)⟩
    · exact ⟨u, c1, ph, by rw [other u e]; exact hr, hc, hp⟩
  · intro _
    exact (h.resp (Or.inr ⟨t, c, hro⟩)).mono (fun u hu => by rw [hts]; exact hu) tIF tUn
  · intro u c1 k1 hr hcw hwt
    have hu : u ≠ t := fun e => by subst e; rw [self] at hr; cases hr
    rw [other u hu] at hr
    have hk1 : k1 ≠ k := fun e => by subst e; rw [hwk] at hwt; cases hwt
    rw [hwo k1 hk1] at hwt ⊢
    rcases h.post u c1 k1 hr hcw hwt with h1 | ⟨v, r, hv⟩
    · exact Or.inl h1
    · right; refine ⟨v, r, ?_⟩
      rw [other v ?_]; exact hv
      intro e; subst e; rw [hro] at hv; cases hv

/-- Only semaphore counts change, and no sleeper loses a count it relies on. -/
theorem alive_sem {a X : AState} (h : ALive a) (hword : X.word = a.word) (hq : X.queue = a.queue)
    (hts : X.ts = a.ts) (hro : X.ro = a.ro)
    (hwt : ∀ k, (X.wr k).waiting = (a.wr k).waiting)
    (hsem : ∀ u c k, a.ro u = .slow c .loopP → c.w = some k → (a.wr k).sem ≠ 0 → (X.wr k).sem ≠ 0) :
    ALive X := by
  have tIF : ∀ u, InFlight a u → InFlight X u :=
    fun u hi => hi.mono (by rw [hro]) (fun k hk => by rw [hq] at hk; exact hk)
  have tUn : ∀ u, Unlocking a u → Unlocking X u := fun u hi => hi.mono (by rw [hro])
  refine ⟨?_, by rw [hword, hro]; exact h.lw, by rw [hword, hro]; exact h.ww, ?_, ?_⟩
  · intro hx; rw [hword] at hx
    rcases h.desig hx with ⟨u, hu⟩ | ⟨u, hu⟩
    · exact Or.inl ⟨u, tIF u hu⟩
    · exact Or.inr ⟨u, tUn u hu⟩
  · intro hn
    have : Need a := by
      rcases hn with hn | ⟨u, c, hr⟩
      · exact Or.inl (by rw [hq] at hn; exact hn)
      · exact Or.inr ⟨u, c, by rw [hro] at hr; exact hr⟩
    exact (h.resp this).mono (fun u hu => by rw [hts]; exact hu) tIF tUn
  · intro u c k hr hcw hw
    rw [hro] at hr ⊢; rw [hwt k] at hw
    rcases h.post u c k hr hcw hw with h1 | h1
    · exact Or.inl (hsem u c k hr hcw h1)
    · exact Or.inr h1

/-- A release that does not take the spinlock. -/
theorem alive_release {a X : AState} {t : Tid} (hl : ALock a) (hs : ASpin a) (hh : AHint a) (h : ALive a)
    (hrc : relCond a.word) (hsh : a.ts t = some .R → a.word.readers > 1 → ∃ u, u ≠ t ∧ a.ts u ≠ none)
    (hd : X.word.desig = a.word.desig) (hlw : X.word.lw = a.word.lw) (hww : X.word.ww = a.word.ww)
    (hq : X.queue = a.queue) (hro : X.ro = a.ro) (hwr : X.wr = a.wr)
    (hts : ∀ u, u ≠ t → X.ts u = a.ts u) : ALive X := by
  have tIF : ∀ u, InFlight a u → InFlight X u :=
    fun u hi => hi.mono (by rw [hro]) (fun k hk => by rw [hq] at hk; exact hk)
  have tUn : ∀ u, Unlocking a u → Unlocking X u := fun u hi => hi.mono (by rw [hro])
  have hdes : a.word.desig = true → (∃ u, InFlight X u) ∨ (∃ u, Unlocking X u) := by
    intro hx
    rcases h.desig hx with ⟨u, hu⟩ | ⟨u, hu⟩
    · exact Or.inl ⟨u, tIF u hu⟩
    · exact Or.inr ⟨u, tUn u hu⟩
  refine ⟨by rw [hd]; exact hdes, by rw [hlw, hro]; exact h.lw, by rw [hww, hro]; exact h.ww, ?_,
    by rw [hro, hwr]; exact h.post⟩
  intro hn
  have hna : Need a := by
    rcases hn with hn | ⟨u, c, hr⟩
    · exact Or.inl (by rw [hq] at hn; exact hn)
    · exact Or.inr ⟨u, c, by rw [hro] at hr; exact hr⟩
  rcases h.resp hna with ⟨u, hu⟩ | ⟨u, hu⟩ | ⟨u, hu⟩
  · by_cases e : u = t
    · subst e
      -- the releasing thread was the witness: find another responsible party
      have hwaiting : a.word.waiting = true ∨ ∃ v, Unlocking a v := by
        cases hsp : a.sp with
        | none =>
          left
          rcases hna with hne | ⟨v, c, hr⟩
          · exact (hh.wq hsp).2 hne
          · have : (a.ro v).spin = true := by rw [hr]; rfl
            have := (hs.own v).2 this; rw [hsp] at this; cases this
        | some v =>
          have hv : (a.ro v).spin = true := (hs.own v).1 hsp
          left; exact hh.wsp v hv
      rcases hwaiting with hw | ⟨v, hv⟩
      · rcases hrc hw with hdsg | hrd | haf
        · rcases hdes hdsg with h1 | h1
          · exact Or.inr (Or.inl h1)
          · exact Or.inr (Or.inr h1)
        · -- another reader remains
          have hR : a.ts u = some .R := by
            cases hx : a.ts u with
            | none => exact absurd hx hu
            | some m =>
              cases m with
              | R => rfl
              | W =>
                have hwo := (hl.wown u).2 hx
                have := hl.wl; rw [hwo] at this
                have := hl.excl this; omega
          obtain ⟨v, hv1, hv2⟩ := hsh hR hrd
          exact Or.inl ⟨v, by rw [hts v hv1]; exact hv2⟩
        · rw [hh.af] at haf; cases haf
      · exact Or.inr (Or.inr ⟨v, tUn v hv⟩)
    · exact Or.inl ⟨u, by rw [hts u e]; exact hu⟩
  · exact Or.inr (Or.inl ⟨u, tIF u hu⟩)
  · exact Or.inr (Or.inr ⟨u, tUn u hu⟩)

/-- Thread `t` is (still) between grab CAS and final CAS after the step. -/
theorem alive_unlocking {a X : AState} {t : Tid} (h : ALive a) (hU : Unlocking X t)
    (hro : ∀ u, u ≠ t → X.ro u = a.ro u) (hwr : X.wr = a.wr)
    (hlw : X.word.lw = a.word.lw) (hww : X.word.ww = a.word.ww)
    (hns : ∀ c ph, a.ro t ≠ .slow c ph) (hnv : ∀ k r, a.ro t ≠ .wakeV k r) : ALive X := by
  refine ⟨fun _ => Or.inr ⟨t, hU⟩, ?_, ?_, fun _ => Or.inr (Or.inr ⟨t, hU⟩), ?_⟩
  · intro hx; rw [hlw] at hx
    obtain ⟨u, c, ph, hr, hc⟩ := h.lw hx
    exact ⟨u, c, ph, by rw [hro u (fun e => hns c ph (e ▸ hr))]; exact hr, hc⟩
  · intro hx; rw [hww] at hx
    obtain ⟨u, c, ph, hr, hc, hp⟩ := h.ww hx
    exact ⟨u, c, ph, by rw [hro u (fun e => hns c ph (e ▸ hr))]; exact hr, hc, hp⟩
  · intro u c k hr hcw hwt
    have hu : u ≠ t := by
      intro e; subst e
      rcases hU with ⟨sc, h1⟩ | ⟨f, h1⟩ <;> rw [h1] at hr <;> cases hr
    rw [hro u hu] at hr; rw [hwr] at hwt ⊢
    rcases h.post u c k hr hcw hwt with h1 | ⟨v, r, hv⟩
    · exact Or.inl h1
    · exact Or.inr ⟨v, r, by rw [hro v (fun e => hnv k r (e ▸ hv))]; exact hv⟩

theorem alive_finish {a : AState} {t : Tid} {f : Fin} (hq : AQueue a) (hh : AHint a) (h : ALive a)
    (hro : a.ro t = .fin f) :
    ALive { a with word := finWord f a.word, sp := none, ro := setFn a.ro t (roleAfter f.wake) } := by
  have other : ∀ u, u ≠ t → setFn a.ro t (roleAfter f.wake) u = a.ro u := setFn_others rfl
  obtain ⟨e1, e2, e3, e4, e5⟩ := hh.finq t f hro
  obtain ⟨k, hk⟩ := List.exists_mem_of_ne_nil _ e1
  obtain ⟨hknq, _, t', c', ph', hr', hcw', hph'⟩ := hq.wk t k (by rw [hro]; exact hk)
  have ht' : t' ≠ t := fun e => by subst e; rw [hro] at hr'; cases hr'
  have hIF : InFlight { a with word := finWord f a.word, sp := none, ro := setFn a.ro t (roleAfter f.wake) } t' :=
    ⟨c', ph', by show setFn a.ro t _ t' = _; rw [other t' ht']; exact hr', Or.inr ⟨hph', k, hcw', hknq⟩⟩
  have slow_keep : ∀ u c ph, a.ro u = .slow c ph → setFn a.ro t (roleAfter f.wake) u = .slow c ph := by
    intro u c ph hr
    rw [other u (fun e => by subst e; rw [hro] at hr; cases hr)]; exact hr
  refine ⟨fun _ => Or.inl ⟨t', hIF⟩, ?_, ?_, fun _ => Or.inr (Or.inl ⟨t', hIF⟩), ?_⟩
  · intro hx
    obtain ⟨u, c, ph, hr, hc⟩ := h.lw (by simpa [finWord] using hx)
    exact ⟨u, c, ph, slow_keep u c ph hr, hc⟩
  · intro hx
    simp only [finWord, Bool.and_eq_true, Bool.or_eq_true, Bool.not_eq_true'] at hx
    rcases hx.1 with hx1 | hx1
    · obtain ⟨u, c, ph, hr, hc, hp⟩ := h.ww hx1
      exact ⟨u, c, ph, slow_keep u c ph hr, hc, hp⟩
    · obtain ⟨k1, hk1, hl1⟩ := e5 hx1
      obtain ⟨_, u, c, ph, hr, hcw, hph⟩ := hq.inq k1 hk1
      refine ⟨u, c, ph, slow_keep u c ph hr, ?_, Or.inr (by rw [hcw]; rfl)⟩
      rw [← hq.lty u c ph k1 hr hcw]; exact hl1
  · intro u c k1 hr hcw hwt
    have hu : u ≠ t := fun e => by
      subst e
      have : setFn a.ro u (roleAfter f.wake) u = .slow c .loopP := hr
      rw [setFn_same] at this; exact roleAfter_not_slow _ _ _ this
    have hr0 : a.ro u = .slow c .loopP := by rw [← other u hu]; exact hr
    rcases h.post u c k1 hr0 hcw hwt with h1 | ⟨v, r, hv⟩
    · exact Or.inl h1
    · right; refine ⟨v, r, ?_⟩
      show setFn a.ro t _ v = _
      rw [other v (fun e => by subst e; rw [hro] at hv; cases hv)]; exact hv

theorem alive_wakeStore {a : AState} {t : Tid} {k : Wid} {r : List Wid} (h : ALive a)
    (hro : a.ro t = .wakeSt k r) :
    ALive { a with wr := setFn a.wr k { a.wr k with waiting := false }, ro := setFn a.ro t (.wakeV k r) } := by
  have other : ∀ u, u ≠ t → setFn a.ro t (.wakeV k r) u = a.ro u := setFn_others rfl
  have self : setFn a.ro t (.wakeV k r) t = .wakeV k r := by simp [setFn]
  have tIF : ∀ u, InFlight a u →
      InFlight { a with wr := setFn a.wr k { a.wr k with waiting := false }, ro := setFn a.ro t (.wakeV k r) } u := by
    intro u hi
    refine hi.mono (other u ?_) (fun _ hk => hk)
    intro e; subst e; obtain ⟨c, ph, hr, _⟩ := hi; rw [hro] at hr; cases hr
  have tUn : ∀ u, Unlocking a u →
      Unlocking { a with wr := setFn a.wr k { a.wr k with waiting := false }, ro := setFn a.ro t (.wakeV k r) } u := by
    intro u hi
    refine hi.mono (other u ?_)
    intro e; subst e; rcases hi with ⟨sc, hr⟩ | ⟨f, hr⟩ <;> rw [hro] at hr <;> cases hr
  have slow_keep : ∀ u c ph, a.ro u = .slow c ph → setFn a.ro t (.wakeV k r) u = .slow c ph := by
    intro u c ph hr
    rw [other u (fun e => by subst e; rw [hro] at hr; cases hr)]; exact hr
  refine ⟨?_, ?_, ?_, ?_, ?_⟩
  · intro hx
    rcases h.desig hx with ⟨u, hu⟩ | ⟨u, hu⟩
    · exact Or.inl ⟨u, tIF u hu⟩
    · exact Or.inr ⟨u, tUn u hu⟩
  · intro hx
    obtain ⟨u, c, ph, hr, hc⟩ := h.lw hx
    exact ⟨u, c, ph, slow_keep u c ph hr, hc⟩
  · intro hx
    obtain ⟨u, c, ph, hr, hc, hp⟩ := h.ww hx
    exact ⟨u, c, ph, slow_keep u c ph hr, hc, hp⟩
  · intro hn
    have : Need a := by
      rcases hn with hn | ⟨u, c, hr⟩
      · exact Or.inl hn
      · refine Or.inr ⟨u, c, ?_⟩
        have hu : u ≠ t := fun e => by
          subst e
          have : setFn a.ro u (.wakeV k r) u = .slow c .st := hr
          rw [self] at this; cases this
        rw [← other u hu]; exact hr
    exact (h.resp this).mono (fun _ hu => hu) tIF tUn
  · intro u c k1 hr hcw hwt
    by_cases hk : k1 = k
    · subst hk; exact Or.inr ⟨t, r, self⟩
    · have hu : u ≠ t := fun e => by
        subst e
        have : setFn a.ro u (.wakeV k r) u = .slow c .loopP := hr
        rw [self] at this; cases this
      have hr0 : a.ro u = .slow c .loopP := by rw [← other u hu]; exact hr
      have hw0 : (a.wr k1).waiting = false := by
        have : (setFn a.wr k { a.wr k with waiting := false } k1).waiting = false := hwt
        rw [setFn_other _ _ _ _ hk] at this; exact this
      show (setFn a.wr k _ k1).sem ≠ 0 ∨ _
      rw [setFn_other _ _ _ _ hk]
      rcases h.post u c k1 hr0 hcw hw0 with h1 | ⟨v, r1, hv⟩
      · exact Or.inl h1
      · right; refine ⟨v, r1, ?_⟩
        show setFn a.ro t _ v = _
        rw [other v (fun e => by subst e; rw [hro] at hv; cases hv)]; exact hv


theorem alive_post {cfg : Cfg} {a : AState} {t : Tid} {k : Wid} {r : List Wid} (h : ALive a)
    (hro : a.ro t = .wakeV k r) :
    ALive (({ a with ro := setFn a.ro t (roleAfter r) } : AState).semPost cfg k) := by
  have other : ∀ u, u ≠ t → setFn a.ro t (roleAfter r) u = a.ro u := setFn_others rfl
  have tIF : ∀ u, InFlight a u → InFlight (({ a with ro := setFn a.ro t (roleAfter r) } : AState).semPost cfg k) u := by
    intro u hi
    refine hi.mono (other u ?_) (fun _ hk => hk)
    intro e; subst e; obtain ⟨c, ph, hr, _⟩ := hi; rw [hro] at hr; cases hr
  have tUn : ∀ u, Unlocking a u → Unlocking (({ a with ro := setFn a.ro t (roleAfter r) } : AState).semPost cfg k) u := by
    intro u hi
    refine hi.mono (other u ?_)
    intro e; subst e; rcases hi with ⟨sc, hr⟩ | ⟨f, hr⟩ <;> rw [hro] at hr <;> cases hr
  have slow_keep : ∀ u c ph, a.ro u = .slow c ph → setFn a.ro t (roleAfter r) u = .slow c ph := by
    intro u c ph hr
    rw [other u (fun e => by subst e; rw [hro] at hr; cases hr)]; exact hr
  have slow_back : ∀ u c ph, setFn a.ro t (roleAfter r) u = .slow c ph → a.ro u = .slow c ph := by
    intro u c ph hr
    by_cases e : u = t
    · subst e; rw [setFn_same] at hr; exact absurd hr (roleAfter_not_slow _ _ _)
    · rw [other u e] at hr; exact hr
  refine ⟨?_, ?_, ?_, ?_, ?_⟩
  · intro hx
    rcases h.desig hx with ⟨u, hu⟩ | ⟨u, hu⟩
    · exact Or.inl ⟨u, tIF u hu⟩
    · exact Or.inr ⟨u, tUn u hu⟩
  · intro hx
    obtain ⟨u, c, ph, hr, hc⟩ := h.lw hx
    exact ⟨u, c, ph, slow_keep u c ph hr, hc⟩
  · intro hx
    obtain ⟨u, c, ph, hr, hc, hp⟩ := h.ww hx
    exact ⟨u, c, ph, slow_keep u c ph hr, hc, hp⟩
  · intro hn
    have : Need a := by
      rcases hn with hn | ⟨u, c, hr⟩
      · exact Or.inl hn
      · exact Or.inr ⟨u, c, slow_back u c .st hr⟩
    exact (h.resp this).mono (fun _ hu => hu) tIF tUn
  · intro u c k1 hr hcw hwt
    have hr0 := slow_back u c .loopP hr
    by_cases hk : k1 = k
    · subst hk; left
      show (setFn a.wr k1 _ k1).sem ≠ 0
      rw [setFn_same]; show (if cfg.binary = true then 1 else (a.wr k1).sem + 1) ≠ 0
      split <;> omega
    · have hw0 : (a.wr k1).waiting = false := by
        have : (setFn a.wr k _ k1).waiting = false := hwt
        rw [setFn_other _ _ _ _ hk] at this; exact this
      show (setFn a.wr k _ k1).sem ≠ 0 ∨ _
      rw [setFn_other _ _ _ _ hk]
      rcases h.post u c k1 hr0 hcw hw0 with h1 | ⟨v, r1, hv⟩
      · exact Or.inl h1
      · right; refine ⟨v, r1, ?_⟩
        show setFn a.ro t _ v = _
        rw [other v ?_]; exact hv
        intro e; subst e; rw [hro] at hv; cases hv; exact hk rfl

theorem exists_other_reader {l : List Tid} {t : Tid} (hnd : l.Nodup) (hlen : l.length > 1) :
    ∃ u, u ∈ l ∧ u ≠ t := by
  match l, hnd, hlen with
  | x :: y :: r, hnd, _ =>
    by_cases e : x = t
    · refine ⟨y, by simp, ?_⟩
      intro e2; rw [List.nodup_cons] at hnd; apply hnd.1; rw [e, ← e2]; simp
    · exact ⟨x, by simp, e⟩

theorem alive_step {cfg : Cfg} {a a' : AState} (hl : ALock a) (hs : ASpin a) (hq : AQueue a) (hh : AHint a)
    (h : ALive a) (st : AStep cfg a a') : ALive a' := by
  cases st with
  | acqFresh t l hro hts hb =>
    refine alive_acquire (t := t) h (Or.inl hro) (by simp; rw [← hro, setFn_self]) (by simp) (by simp [setFn])
      (fun k => by simp) ?_ ?_ ?_
    · intro hx; refine ⟨?_, fun c ph hr => by rw [hro] at hr; cases hr⟩
      cases l <;> simpa [acqWord] using hx
    · intro hx; refine ⟨?_, fun c ph hr => by rw [hro] at hr; cases hr⟩
      cases l <;> simpa [acqWord] using hx
    · intro hx; refine ⟨?_, fun c ph hr => by rw [hro] at hr; cases hr⟩
      cases l <;> simp [acqWord] at hx; exact hx
  | enterSlow t l hro hts => exact alive_simple hq h (Or.inl ⟨t, l, rfl, hro⟩)
  | acqSlow t c hro hts hb =>
    refine alive_acquire (t := t) h (Or.inr ⟨c, hro⟩) (by simp) (by simp) (by simp [setFn]) ?_ ?_ ?_ ?_
    · intro k; simp only [AState.addShare_wr]; exact ⟨(AState.dropW_wr _ c.w k).1, (AState.dropW_wr _ c.w k).2.2.1⟩
    · intro hx
      have hx' : (acqWord c.l c.clear c.lwl a.word).desig = true := by simpa using hx
      have : a.word.desig = true ∧ c.clear = false := by
        cases hcl : c.l <;> simp [acqWord, hcl] at hx' <;> exact hx'
      exact ⟨this.1, fun c1 ph hr => by rw [hro] at hr; cases hr; exact this.2⟩
    · intro hx
      have hx' : (acqWord c.l c.clear c.lwl a.word).lw = true := by simpa using hx
      have : a.word.lw = true ∧ c.lwl = false := by
        cases hcl : c.l <;> simp [acqWord, hcl] at hx' <;> exact hx'
      exact ⟨this.1, fun c1 ph hr => by rw [hro] at hr; cases hr; exact this.2⟩
    · intro hx
      have hx' : (acqWord c.l c.clear c.lwl a.word).ww = true := by simpa using hx
      cases hcl : c.l with
      | W => simp [acqWord, hcl] at hx'
      | R =>
        simp [acqWord, hcl] at hx'
        exact ⟨hx', fun c1 ph hr => by rw [hro] at hr; cases hr; exact hcl⟩
  | enq t c hro hsp hb => exact alive_enq hl hs hq h hro hsp hb
  | adopt t c k hro hw hkq ho hwt =>
    refine alive_enqueue (c' := { c with w := some k }) (k := k) h hro rfl rfl rfl ?_ rfl rfl (fun _ => mem_enqueue ..) rfl
      (by simp [setFn])
      (setFn_others rfl)
    · intro t' c1 ph1 hr hcw
      have := (hq.own k t').2 ⟨c1, ph1, hr, hcw⟩; rw [ho] at this; cases this
  | requeue t c k hro hw hkq =>
    refine alive_enqueue (c' := c) (k := k) h hro rfl rfl hw ?_ rfl rfl (fun _ => mem_enqueue ..) rfl (by simp [setFn])
      (setFn_others rfl)
    · intro t' c1 ph1 hr hcw; exact hq.owner_unique hr hcw hro hw
  | relSpin t c hro => exact alive_simple hq h (Or.inr (Or.inl ⟨t, c, rfl, hro⟩))
  | loopWait t c k hro hw hwt =>
    exact alive_simple hq h (Or.inr (Or.inr (Or.inl ⟨t, c, k, rfl, hro, hw, hwt⟩)))
  | loopWoken t c k hro hw hwt =>
    exact alive_simple hq h (Or.inr (Or.inr (Or.inr ⟨t, c, k, rfl, hro, hw, hwt⟩)))
  | pRet t c k hro hw hsem =>
    have hY : ALive { a with ro := setFn a.ro t (.slow c .loopLd) } := by
      refine alive_role (t := t) h rfl rfl rfl rfl id id id ?_ ?_ ?_ ?_ ?_ ?_ ?_
      · rintro ⟨c1, ph, hr, h1⟩; rw [hro] at hr; cases hr
        rcases h1 with ⟨h1, _⟩ | ⟨_, k1, h2, h3⟩
        · cases h1
        · exact ⟨c, .loopLd, by simp [setFn], Or.inr ⟨rfl, k1, h2, h3⟩⟩
      · rintro (⟨sc, hr⟩ | ⟨f, hr⟩) <;> rw [hro] at hr <;> cases hr
      · intro c1 ph hr hlw; rw [hro] at hr; cases hr; exact ⟨_, _, rfl, hlw⟩
      · intro c1 ph hr hlw hp; rw [hro] at hr; cases hr
        exact ⟨_, _, rfl, hlw, Or.inr (by rw [hw]; rfl)⟩
      · intro c1 hr; cases hr
      · intro c1 k1 hr; cases hr
      · intro k1 r hr; rw [hro] at hr; cases hr
    refine alive_sem hY rfl rfl rfl rfl (fun k1 => setFn_field WRec.waiting k1) ?_
    intro u c1 k1 hr hcw hne
    have hu : u ≠ t := fun e => by
      subst e
      have : setFn a.ro u (.slow c .loopLd) u = .slow c1 .loopP := hr
      rw [setFn_same] at this; cases this
    have hr0 : a.ro u = .slow c1 .loopP := by
      have : setFn a.ro t (.slow c .loopLd) u = .slow c1 .loopP := hr
      rw [setFn_other _ _ _ _ hu] at this; exact this
    have hk : k1 ≠ k := fun e => by subst e; exact hu (hq.owner_unique hr0 hcw hro hw)
    show (setFn a.wr k _ k1).sem ≠ 0
    rw [setFn_other _ _ _ _ hk]; exact hne
  | release t l _ hts hsh hc =>
    refine alive_release (t := t) hl hs hh h hc ?_ ?_ ?_ ?_ (by simp) (by simp) (by simp)
      (fun u hu => by simp [setFn, hu])
    · intro _ hrd
      have hlen : a.rOwners.length > 1 := by rw [← hl.rd]; exact hrd
      obtain ⟨u, hu1, hu2⟩ := exists_other_reader (t := t) hl.nodup hlen
      exact ⟨u, hu2, by rw [(hl.rown u).1 hu1]; simp⟩
    · cases l <;> simp [relUncWord]
    · cases l <;> simp [relUncWord]
    · cases l <;> simp [relUncWord]
  | grab t l hro hts hsh hu hsp =>
    refine alive_unlocking (t := t) h (AState.advance_ro_self _ t _) ?_ (by simp) ?_ ?_
      (fun c ph hr => by rw [hro] at hr; cases hr) (fun k r hr => by rw [hro] at hr; cases hr)
    · intro u hu; rw [AState.advance_ro_other _ _ _ _ hu]; simp
    · simp [grabWord]; cases l <;> rfl
    · simp [grabWord]; cases l <;> rfl
  | rcDone t sc hro =>
    refine alive_unlocking (t := t) h (AState.advance_ro_self _ t _) ?_ (by simp) (by simp) (by simp)
      (fun c ph hr => by rw [hro] at hr; cases hr) (fun k r hr => by rw [hro] at hr; cases hr)
    intro u hu; rw [AState.advance_ro_other _ _ _ _ hu]
  | finish t f hro => exact alive_finish hq hh h hro
  | wakeStore t k r hro => exact alive_wakeStore h hro
  | post t k r hro => exact alive_post h hro
  | envV k =>
    refine alive_sem h rfl rfl rfl rfl (fun k1 => (semPost_fields cfg a k k1).2.1) ?_
    intro u c k1 hr hcw hne
    show (setFn a.wr k _ k1).sem ≠ 0
    simp only [setFn]; split
    · rename_i e; subst e; show (if cfg.binary = true then 1 else (a.wr k1).sem + 1) ≠ 0; split <;> omega
    · exact hne
  | envSem k n ho =>
    refine alive_sem h rfl rfl rfl rfl (fun k1 => setFn_field WRec.waiting k1) ?_
    intro u c k1 hr hcw hne
    have hk : k1 ≠ k := fun e => by
      subst e; have := (hq.own k1 u).2 ⟨c, .loopP, hr, hcw⟩; rw [ho] at this; cases this
    show (setFn a.wr k _ k1).sem ≠ 0
    rw [setFn_other _ _ _ _ hk]; exact hne

theorem alive_init : ALive (abs init) := by
  refine ⟨?_, ?_, ?_, ?_, ?_⟩
  · simp [abs, init, Word.zero]
  · simp [abs, init, Word.zero]
  · simp [abs, init, Word.zero]
  · rintro (h | ⟨t, c, h⟩)
    · simp [abs, init] at h
    · simp [abs, init, role] at h
  · intro t c k h; simp [abs, init, role] at h

/-- All invariants of the layer. -/
structure AInv (a : AState) : Prop where
  lock : ALock a
  spin : ASpin a
  queue : AQueue a
  hint : AHint a
  live : ALive a

theorem ainv_step {cfg : Cfg} {a a' : AState} (h : AInv a) (st : AStep cfg a a') : AInv a' :=
  ⟨alock_step h.lock st, aspin_step h.spin st, aqueue_step h.spin h.queue st,
   ahint_step h.spin h.queue h.hint st, alive_step h.lock h.spin h.queue h.hint h.live st⟩

theorem ainv_init : AInv (abs init) := ⟨alock_init, aspin_init, aqueue_init, ahint_init, alive_init⟩

end NsyncVerif.MuQ
