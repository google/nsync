import NsyncVerif.Model.MuX
import NsyncVerif.Proofs.Run
/-
  Inductive invariant of the exclusion protocol MuX and its preservation by every accepted step.

  The acceptor is analysed once: `applyWrite_ok` says what an accepted write is (a classified lock
  delta, the new owners `lockPart` computes, the order checks, the spinlock hand-over, the new clocks),
  `lockPart_ok` lists per delta what the writer must own and what the new owners are, `step_cas` /
  `step_st` / `step_ok` say what an accepted event does.  Everything else is derived from these.
-/
namespace NsyncVerif.MuX

structure Inv (s : State) : Prop where
  wl : (decode s.word).wlock = s.w.isSome
  rd : (decode s.word).readers = s.rs.length
  nd : s.rs.Nodup
  wx : s.w.isSome = true → s.rs = []
  spn : (decode s.word).spin = s.sp.isSome
  heldW : ∀ t, s.held t = .W → s.w = some t
  heldR : ∀ t, s.held t = .R → t ∈ s.rs
  annW : ∀ t, s.ann t = .W → s.w = some t
  annR : ∀ t, s.ann t = .R → t ∈ s.rs

theorem inv_init : Inv init := by
  constructor <;> simp [init, decode]

/-- One level of a decision list.  (`split at h` would do, but it simplifies the whole remaining list
    at every level.) -/
theorem of_ite_eq {α : Type} {c : Prop} [Decidable c] {a b x : α} (h : (if c then a else b) = x) :
    c ∧ a = x ∨ ¬c ∧ b = x := by
  by_cases hc : c
  · exact .inl ⟨hc, (if_pos hc).symm.trans h⟩
  · exact .inr ⟨hc, (if_neg hc).symm.trans h⟩

/-- A check of the acceptor that passed. -/
theorem of_guard {α : Type} {c : Prop} [Decidable c] {a x : α} {m : String}
    (h : (if c then .ok a else .error m) = Except.ok x) : c ∧ a = x := by
  rcases of_ite_eq h with ⟨hc, h⟩ | ⟨_, h⟩ <;> cases h
  exact ⟨hc, rfl⟩

theorem imp_of_not_and_not {a b : Bool} (h : ¬(a && !b) = true) : a = true → b = true := by
  revert h; cases a <;> cases b <;> decide

/-! ### The pieces of a write -/

/-- What a classified lock delta says about the two decoded words. -/
theorem lockDelta_spec {o n : Word} {d : LockDelta} (h : lockDelta o n = some d) :
    match d with
    | .same => o.wlock = n.wlock ∧ o.readers = n.readers
    | .addW => o.wlock = false ∧ n.wlock = true ∧ o.readers = 0 ∧ n.readers = 0
    | .addR => o.wlock = false ∧ n.wlock = false ∧ n.readers = o.readers + 1
    | .subW => o.wlock = true ∧ n.wlock = false ∧ o.readers = 0 ∧ n.readers = 0
    | .subR => o.wlock = false ∧ n.wlock = false ∧ o.readers = n.readers + 1
    | .r2w => o.wlock = false ∧ n.wlock = true ∧ o.readers = 1 ∧ n.readers = 0
    | .w2r => o.wlock = true ∧ n.wlock = false ∧ o.readers = 0 ∧ n.readers = 1 := by
  unfold lockDelta at h
  -- walk down the decision list: the branch taken is the clause claimed
  rcases of_ite_eq h with ⟨c, h⟩ | ⟨-, h⟩
  · cases h; exact c
  rcases of_ite_eq h with ⟨c, h⟩ | ⟨-, h⟩
  · cases h; exact c
  rcases of_ite_eq h with ⟨c, h⟩ | ⟨-, h⟩
  · cases h; exact c
  rcases of_ite_eq h with ⟨c, h⟩ | ⟨-, h⟩
  · cases h; exact c
  rcases of_ite_eq h with ⟨c, h⟩ | ⟨-, h⟩
  · cases h; exact c
  rcases of_ite_eq h with ⟨c, h⟩ | ⟨-, h⟩
  · cases h; exact c
  rcases of_ite_eq h with ⟨c, h⟩ | ⟨-, h⟩
  · cases h; exact c
  cases h

theorem spinDelta_spec (o n : Word) :
    match spinDelta o n with
    | .same => o.spin = n.spin
    | .set => o.spin = false ∧ n.spin = true
    | .clear => o.spin = true ∧ n.spin = false := by
  unfold spinDelta
  cases ho : o.spin <;> cases hn : n.spin <;> simp

theorem shareOf_none {s : State} {t : Tid} (h : shareOf s t = .none) : s.w ≠ some t ∧ t ∉ s.rs := by
  rcases of_ite_eq h with ⟨_, h⟩ | ⟨hw, h⟩
  · cases h
  rcases of_ite_eq h with ⟨_, h⟩ | ⟨hr, _⟩
  · cases h
  exact ⟨hw, hr⟩

theorem shareOf_W {s : State} {t : Tid} (h : shareOf s t = .W) : s.w = some t := by
  rcases of_ite_eq h with ⟨hw, _⟩ | ⟨_, h⟩
  · exact hw
  rcases of_ite_eq h with ⟨_, h⟩ | ⟨_, h⟩ <;> cases h

theorem shareOf_R {s : State} {t : Tid} (h : shareOf s t = .R) : t ∈ s.rs := by
  rcases of_ite_eq h with ⟨_, h⟩ | ⟨_, h⟩
  · cases h
  rcases of_ite_eq h with ⟨hr, _⟩ | ⟨_, h⟩
  · exact hr
  cases h

theorem mayChange_spec {s : State} {t : Tid} (h : mayChangeShare s t = true) :
    s.held t = .none ∧ s.ann t = .none := by
  simpa [mayChangeShare] using h

theorem Inv.w_none {s : State} (hi : Inv s) (h : (decode s.word).wlock = false) : s.w = none := by
  cases hw : s.w with
  | none => rfl
  | some x => have := hi.wl; rw [h, hw] at this; cases this

/-- The lock-bit part of a write, delta by delta: the new owners, and what the classification of the
    delta and the acceptance of the write say about the old ones and about the writer. -/
theorem lockPart_ok {s : State} (hi : Inv s) {t : Tid} {new : Nat} {d : LockDelta}
    (hd : lockDelta (decode s.word) (decode new) = some d) {w' : Option Tid} {rs' : List Tid}
    (hr : lockPart s t d = .ok (w', rs')) :
    match d with
    | .same => w' = s.w ∧ rs' = s.rs
    | .addW => w' = some t ∧ rs' = s.rs ∧ s.w = none ∧ s.rs = []
    | .addR => w' = s.w ∧ rs' = t :: s.rs ∧ s.w = none ∧ t ∉ s.rs
    | .subW => w' = none ∧ rs' = s.rs ∧ s.w = some t ∧ s.rs = [] ∧ mayChangeShare s t = true
    | .subR => w' = s.w ∧ rs' = s.rs.erase t ∧ s.w = none ∧ t ∈ s.rs ∧ mayChangeShare s t = true
    | .r2w => w' = some t ∧ rs' = s.rs.erase t ∧ s.w = none ∧ s.rs = [t] ∧ mayChangeShare s t = true
    | .w2r => w' = none ∧ rs' = t :: s.rs ∧ s.w = some t ∧ s.rs = [] ∧ mayChangeShare s t = true := by
  have hs := lockDelta_spec hd
  cases d <;> simp only at hs
  case same => cases hr; exact ⟨rfl, rfl⟩
  case addW =>
    obtain ⟨_, h⟩ := of_guard hr; cases h
    exact ⟨rfl, rfl, hi.w_none hs.1, List.eq_nil_of_length_eq_zero (hi.rd ▸ hs.2.2.1)⟩
  case addR =>
    obtain ⟨hsh, h⟩ := of_guard hr; cases h
    exact ⟨rfl, rfl, hi.w_none hs.1, (shareOf_none hsh).2⟩
  case subW =>
    obtain ⟨hc, h⟩ := of_guard hr; cases h
    exact ⟨rfl, rfl, hc.1, hi.wx (hc.1 ▸ rfl), hc.2⟩
  case subR =>
    obtain ⟨hc, h⟩ := of_guard hr; cases h
    exact ⟨rfl, rfl, hi.w_none hs.1, hc.1, hc.2⟩
  case r2w =>
    obtain ⟨hc, h⟩ := of_guard hr; cases h
    have hlen : s.rs.length = 1 := hi.rd ▸ hs.2.2.1
    have hrs : s.rs = [t] := by
      match hrs : s.rs, hlen, hc.1 with
      | [x], _, hm => rw [List.mem_singleton.mp hm]
    exact ⟨rfl, rfl, hi.w_none hs.1, hrs, hc.2⟩
  case w2r =>
    obtain ⟨hc, h⟩ := of_guard hr; cases h
    exact ⟨rfl, rfl, hc.1, hi.wx (hc.1 ▸ rfl), hc.2⟩

/-! ### An accepted write -/

/-- What an accepted write is: its lock delta is classified, `lockPart` yields the new owners, the
    declared order covers what the deltas need, the spinlock changes hands as the spin delta says, and
    the state after it is the old one with the new word, owners and clocks. -/
theorem applyWrite_ok {s s' : State} {t : Tid} {new : Nat} {ord : Ord} {rmw : Bool}
    (h : applyWrite s t new ord rmw = .ok s') :
    ∃ d w' rs', lockDelta (decode s.word) (decode new) = some d ∧ lockPart s t d = .ok (w', rs') ∧
      (needsAcq d (spinDelta (decode s.word) (decode new)) = true → ord.isAcq = true) ∧
      (needsRel d (spinDelta (decode s.word) (decode new)) = true → ord.isRel = true) ∧
      ∃ sp', (match spinDelta (decode s.word) (decode new) with
        | .same => sp' = s.sp
        | .set => s.sp = none ∧ sp' = some t
        | .clear => s.sp = some t ∧ sp' = none) ∧
      s' = { s with word := new, w := w', rs := rs', sp := sp',
                    vc := (clocks s t ord rmw (isReleasePoint d)).1,
                    relc := (clocks s t ord rmw (isReleasePoint d)).2.1,
                    released := (clocks s t ord rmw (isReleasePoint d)).2.2 } := by
  unfold applyWrite at h
  cases hd : lockDelta (decode s.word) (decode new) with
  | none => simp only [hd] at h; cases h
  | some d =>
    cases hp : lockPart s t d with
    | error e => simp only [hd, hp] at h; cases h
    | ok p =>
      obtain ⟨w', rs'⟩ := p
      simp only [hd, hp] at h
      rcases of_ite_eq h with ⟨_, h⟩ | ⟨ha, h⟩
      · cases h
      rcases of_ite_eq h with ⟨_, h⟩ | ⟨hr, h⟩
      · cases h
      refine ⟨d, w', rs', rfl, hp, imp_of_not_and_not ha, imp_of_not_and_not hr, ?_⟩
      cases hsd : spinDelta (decode s.word) (decode new) <;> simp only [hsd] at h
      · cases h; exact ⟨s.sp, rfl, rfl⟩
      · obtain ⟨hsp, rfl⟩ := of_guard h
        exact ⟨some t, ⟨hsp, rfl⟩, rfl⟩
      · obtain ⟨hsp, rfl⟩ := of_guard h
        exact ⟨none, ⟨hsp, rfl⟩, rfl⟩

/-- An accepted write preserves the invariant: the new owners fit the new word, and they back every
    claim (the clients', the annotations') the old owners backed, because a writer that gives up or
    converts its share claims nothing. -/
theorem applyWrite_inv {s s' : State} {t : Tid} {new : Nat} {ord : Ord} {rmw : Bool} (hi : Inv s)
    (h : applyWrite s t new ord rmw = .ok s') : Inv s' := by
  obtain ⟨d, w', rs', hd, hr, -, -, sp', hsp, rfl⟩ := applyWrite_ok h
  have hsd := spinDelta_spec (decode s.word) (decode new)
  have p5 : (decode new).spin = sp'.isSome := by
    cases e : spinDelta (decode s.word) (decode new) <;> simp only [e] at hsd hsp
    · exact hsd ▸ hsp ▸ hi.spn
    · exact hsd.2.trans (hsp.2 ▸ rfl)
    · exact hsd.2.trans (hsp.2 ▸ rfl)
  have hs := lockDelta_spec hd
  have hp := lockPart_ok hi hd hr
  -- the writer bit is kept, taken while free, or dropped by its owner, who claims nothing;
  -- the reader list is kept, gains the writer, or loses the writer, who claims nothing
  have take : ∀ {g : Tid → Share}, (∀ u, g u = .W → s.w = some u) → s.w = none →
      ∀ u, g u = .W → some t = some u := fun hW hw u hu => nomatch hw ▸ hW u hu
  have drop : ∀ {g : Tid → Share}, (∀ u, g u = .W → s.w = some u) → s.w = some t → g t = .none →
      ∀ u, g u = .W → none = some u :=
    fun hW hw hg u hu => nomatch hg ▸ Option.some.inj (hw ▸ hW u hu) ▸ hu
  have cons : ∀ {g : Tid → Share}, (∀ u, g u = .R → u ∈ s.rs) → ∀ u, g u = .R → u ∈ t :: s.rs :=
    fun hR u hu => List.mem_cons_of_mem _ (hR u hu)
  have erase : ∀ {g : Tid → Share}, (∀ u, g u = .R → u ∈ s.rs) → g t = .none →
      ∀ u, g u = .R → u ∈ s.rs.erase t :=
    fun hR hg u hu => (List.mem_erase_of_ne fun h => nomatch hg ▸ h ▸ hu).mpr (hR u hu)
  cases d <;> simp only at hs hp
  case same =>
    obtain ⟨rfl, rfl⟩ := hp
    exact ⟨hs.1 ▸ hi.wl, hs.2 ▸ hi.rd, hi.nd, hi.wx, p5, hi.heldW, hi.heldR, hi.annW, hi.annR⟩
  case addW =>
    obtain ⟨rfl, rfl, hw, hrs⟩ := hp
    exact ⟨hs.2.1, hs.2.2.2.trans (hrs ▸ rfl), hi.nd, fun _ => hrs, p5,
      take hi.heldW hw, hi.heldR, take hi.annW hw, hi.annR⟩
  case addR =>
    obtain ⟨rfl, rfl, hw, hnm⟩ := hp
    exact ⟨hs.2.1.trans (hw ▸ rfl), hs.2.2.trans (hi.rd ▸ rfl), List.nodup_cons.mpr ⟨hnm, hi.nd⟩,
      (fun h => nomatch hw ▸ h), p5, hi.heldW, cons hi.heldR, hi.annW, cons hi.annR⟩
  case subW =>
    obtain ⟨rfl, rfl, hw, hrs, hq⟩ := hp
    have hq := mayChange_spec hq
    exact ⟨hs.2.1, hs.2.2.2.trans (hrs ▸ rfl), hi.nd, (fun h => nomatch h), p5,
      drop hi.heldW hw hq.1, hi.heldR, drop hi.annW hw hq.2, hi.annR⟩
  case subR =>
    obtain ⟨rfl, rfl, hw, hm, hq⟩ := hp
    have hq := mayChange_spec hq
    have hrd : (decode new).readers = (s.rs.erase t).length := by
      have := hi.rd; have := List.length_erase_of_mem hm; have := List.length_pos_of_mem hm; omega
    exact ⟨hs.2.1.trans (hw ▸ rfl), hrd, hi.nd.erase t, (fun h => nomatch hw ▸ h), p5,
      hi.heldW, erase hi.heldR hq.1, hi.annW, erase hi.annR hq.2⟩
  case r2w =>
    obtain ⟨rfl, rfl, hw, hrs, hq⟩ := hp
    have hq := mayChange_spec hq
    have her : s.rs.erase t = [] := by rw [hrs]; exact List.erase_cons_head ..
    exact ⟨hs.2.1, hs.2.2.2.trans (her ▸ rfl), hi.nd.erase t, fun _ => her, p5,
      take hi.heldW hw, erase hi.heldR hq.1, take hi.annW hw, erase hi.annR hq.2⟩
  case w2r =>
    obtain ⟨rfl, rfl, hw, hrs, hq⟩ := hp
    have hq := mayChange_spec hq
    exact ⟨hs.2.1, hs.2.2.2.trans (hrs ▸ rfl), List.nodup_cons.mpr ⟨hrs ▸ List.not_mem_nil, hi.nd⟩,
      (fun h => nomatch h), p5, drop hi.heldW hw hq.1, cons hi.heldR, drop hi.annW hw hq.2, cons hi.annR⟩

/-! ### An accepted event -/

theorem setFn_same {α : Type} (f : Tid → α) (t : Tid) (v : α) : setFn f t v t = v := by simp [setFn]
theorem setFn_other {α : Type} (f : Tid → α) {t u : Tid} (v : α) (h : u ≠ t) : setFn f t v u = f u := by
  simp [setFn, h]

/-- `g'` claims for every thread what `g` claimed, or nothing, or exactly the share the thread owns:
    how the API boundaries and the annotations update `held` and `ann`. -/
def Backed (s : State) (g g' : Tid → Share) : Prop :=
  ∀ u, g' u = g u ∨ g' u = .none ∨ g' u = shareOf s u

theorem Backed.refl {s : State} {g : Tid → Share} : Backed s g g := fun _ => .inl rfl

theorem Backed.setFn {s : State} {g : Tid → Share} (t : Tid) {x : Share}
    (hx : x = .none ∨ x = shareOf s t) : Backed s g (setFn g t x) := by
  intro u
  by_cases h : u = t
  · subst h; rw [setFn_same]; exact .inr hx
  · rw [setFn_other _ _ h]; exact .inl rfl

theorem Backed.W {s : State} {g g' : Tid → Share} (hb : Backed s g g')
    (hW : ∀ u, g u = .W → s.w = some u) (u : Tid) (hu : g' u = .W) : s.w = some u := by
  rcases hb u with h | h | h
  · exact hW u (h ▸ hu)
  · exact nomatch h ▸ hu
  · exact shareOf_W (h ▸ hu)

theorem Backed.R {s : State} {g g' : Tid → Share} (hb : Backed s g g')
    (hR : ∀ u, g u = .R → u ∈ s.rs) (u : Tid) (hu : g' u = .R) : u ∈ s.rs := by
  rcases hb u with h | h | h
  · exact hR u (h ▸ hu)
  · exact nomatch h ▸ hu
  · exact shareOf_R (h ▸ hu)

/-- A successful CAS is a write by a read-modify-write; inside a debug-state call it may only toggle
    the spinlock bit. -/
theorem step_cas {s s' : State} {t : Tid} {exp new : Nat} {ord : Ord}
    (h : step s (.cas t exp new ord) = .ok s') :
    exp = s.word ∧ (inObserve s t = true → spinOnly s.word new = true) ∧
      applyWrite s t new ord true = .ok s' := by
  rcases of_ite_eq h with ⟨he, h⟩ | ⟨_, h⟩
  · rcases of_ite_eq h with ⟨_, h⟩ | ⟨hn, h⟩
    · cases h
    · exact ⟨he, imp_of_not_and_not hn, h⟩
  · cases h

/-- A plain store is a write by the owner of spinlock and writer bit, outside debug-state calls, with
    release order. -/
theorem step_st {s s' : State} {t : Tid} {new : Nat} {ord : Ord} (h : step s (.st t new ord) = .ok s') :
    s.sp = some t ∧ s.w = some t ∧ inObserve s t = false ∧ ord.isRel = true ∧
      applyWrite s t new ord false = .ok s' := by
  rcases of_ite_eq h with ⟨ho, h⟩ | ⟨_, h⟩
  · rcases of_ite_eq h with ⟨_, h⟩ | ⟨hn, h⟩
    · cases h
    · rcases of_ite_eq h with ⟨hr, h⟩ | ⟨_, h⟩
      · exact ⟨ho.1, ho.2, Bool.eq_false_iff.mpr hn, hr, h⟩
      · cases h
  · cases h

/-- The effect of an accepted event that is not a write: word, owners and clocks stay, and the
    API-level ghosts move to claims the owners back. -/
def Quiet (s s' : State) : Prop :=
  ∃ call' held' ann', Backed s s.held held' ∧ Backed s s.ann ann' ∧
    s' = { s with call := call', held := held', ann := ann' }

theorem Quiet.call {s : State} (call' : Tid → Option (Call × Share)) : Quiet s { s with call := call' } :=
  ⟨_, _, _, .refl, .refl, rfl⟩

theorem Quiet.held {s : State} (call' : Tid → Option (Call × Share)) (t : Tid) {x : Share}
    (hx : x = .none ∨ x = shareOf s t) : Quiet s { s with call := call', held := setFn s.held t x } :=
  ⟨_, _, _, .setFn t hx, .refl, rfl⟩

theorem Quiet.ann {s : State} (t : Tid) {x : Share} (hx : x = .none ∨ x = shareOf s t) :
    Quiet s { s with ann := setFn s.ann t x } :=
  ⟨_, _, _, .refl, .setFn t hx, rfl⟩

/-- Every accepted event is either a write to the word — a successful CAS, or a store, and that only
    by the owner of the writer bit and with release order — or quiet. -/
theorem step_ok {s s' : State} {e : Ev} (h : step s e = .ok s') :
    (∃ new ord rmw, applyWrite s e.tid new ord rmw = .ok s' ∧
      (rmw = false → s.w = some e.tid ∧ ord.isRel = true) ∧
      ((∃ exp, e = .cas e.tid exp new ord) ∧ rmw = true ∨ e = .st e.tid new ord ∧ rmw = false)) ∨ Quiet s s' := by
  cases e with
  | ld t v => obtain ⟨_, rfl⟩ := of_guard h; exact .inr (.call _)
  | casFail t exp obs => obtain ⟨_, rfl⟩ := of_guard h; exact .inr (.call _)
  | cas t exp new ord => exact .inl ⟨new, ord, true, (step_cas h).2.2, nofun, .inl ⟨⟨exp, rfl⟩, rfl⟩⟩
  | st t new ord =>
    have hs := step_st h
    exact .inl ⟨new, ord, false, hs.2.2.2.2, fun _ => ⟨hs.2.1, hs.2.2.2.1⟩, .inr ⟨rfl, rfl⟩⟩
  | call t c =>
    cases hc : s.call t with
    | some _ => simp only [step, hc] at h; cases h
    | none =>
      cases c <;> simp only [step, hc] at h
      case acq => obtain ⟨_, rfl⟩ := of_guard h; exact .inr (.call _)
      case rel => obtain ⟨_, rfl⟩ := of_guard h; exact .inr (.held _ t (.inl rfl))
      case wait => obtain ⟨_, rfl⟩ := of_guard h; exact .inr (.held _ t (.inl rfl))
      case observe => cases h; exact .inr (.call _)
  | ret t ok =>
    cases hc : s.call t with
    | none => simp only [step, hc] at h; cases h
    | some p =>
      obtain ⟨c, m⟩ := p
      cases c <;> simp only [step, hc] at h
      case acq l _ =>
        rcases of_ite_eq h with ⟨_, h⟩ | ⟨_, h⟩ <;> obtain ⟨hsh, rfl⟩ := of_guard h
        · exact .inr (.held _ t (.inr hsh.1.symm))
        · exact .inr (.call _)
      case rel => obtain ⟨_, rfl⟩ := of_guard h; exact .inr (.call _)
      case wait =>
        obtain ⟨hsh, rfl⟩ := of_guard h
        exact .inr (.held _ t (.inr hsh.1.symm))
      case observe => obtain ⟨_, rfl⟩ := of_guard h; exact .inr (.call _)
  | annAcq t l =>
    rcases of_ite_eq h with ⟨_, h⟩ | ⟨_, h⟩
    · cases h
    obtain ⟨hsh, rfl⟩ := of_guard h
    exact .inr (.ann t (.inr hsh.1.symm))
  | annRel t l =>
    rcases of_ite_eq h with ⟨_, h⟩ | ⟨_, h⟩
    · cases h
    obtain ⟨_, rfl⟩ := of_guard h
    exact .inr (.ann t (.inl rfl))

theorem step_inv {s s' : State} {e : Ev} (hi : Inv s) (h : step s e = .ok s') : Inv s' := by
  rcases step_ok h with ⟨_, _, _, hw, _⟩ | ⟨_, _, _, hh, ha, rfl⟩
  · exact applyWrite_inv hi hw
  · exact ⟨hi.wl, hi.rd, hi.nd, hi.wx, hi.spn, hh.W hi.heldW, hh.R hi.heldR, ha.W hi.annW, ha.R hi.annR⟩

/-! ### Runs -/

theorem isRun : IsRun step run := ⟨fun _ => rfl, fun s e _ => by rw [run]; cases step s e <;> rfl⟩

theorem Reachable.run {s s' : State} {evs : List Ev} (h : Reachable s) (hr : run s evs = .ok s') :
    Reachable s' :=
  h.elim fun e0 he0 => ⟨e0 ++ evs, by rw [isRun.append_of_ok he0]; exact hr⟩

theorem Reachable.step {s s' : State} {e : Ev} (h : Reachable s) (hs : step s e = .ok s') :
    Reachable s' :=
  h.elim fun e0 he0 => ⟨e0 ++ [e], isRun.snoc he0 hs⟩

theorem reachable_inv {s : State} (h : Reachable s) : Inv s :=
  h.elim fun _ he => isRun.induct inv_init (fun _ _ _ _ hi hs => step_inv hi hs) he

/-- Exclusion for any claims `g` the owners back: a claimed write share is the only claim there is. -/
theorem Inv.excl {s : State} (hi : Inv s) {g : Tid → Share} (hW : ∀ u, g u = .W → s.w = some u)
    (hR : ∀ u, g u = .R → u ∈ s.rs) {t u : Tid} (ht : g t = .W) (hu : g u ≠ .none) : t = u := by
  have hw := hW t ht
  cases hus : g u with
  | none => exact absurd hus hu
  | W => exact Option.some.inj (hw.symm.trans (hW u hus))
  | R => exact nomatch hi.wx (hw ▸ rfl) ▸ hR u hus

end NsyncVerif.MuX
