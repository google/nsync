/-
  Layer `CvFix` (repaired cv.c): protocol invariant — `remove_count++` by signal/broadcast and the transfer step.
-/
import NsyncVerif.Proofs.CvFixInvBForeign

namespace NsyncVerif.CvFix

variable {f3 : Bool}

theorem invB_sRcCasOk {s : State} (hi : InvB' f3 s) (ha : InvA s) (t : Tid) (r : Rid) (lnew : Loc)
    (hl : (s.thr t).loc = .sRcCas) (hr : (s.thr t).todo.head? = some r)
    (hln : ((s.thr t).todo.tail = [] ∧ lnew = .sRel) ∨ ((s.thr t).todo.tail ≠ [] ∧ lnew = .sRcLd)) :
    FrameB f3 (s.setRec r { s.recs r with rc := (s.recs r).rc + 1 }
          |>.setThr t { s.thr t with todo := (s.thr t).todo.tail, firstRc := false, loc := lnew }) := by
  obtain ⟨rest, htd⟩ := List.head?_eq_some_iff.mp hr
  have hbt := hi.thr t
  have hnd := hbt.todoNd
  rw [htd] at hnd
  have hrl := hbt.todoL r (by rw [htd]; simp)
  have hst : (s.recs r).stat = .listed t := (ha.lMem t r).mp hrl.1
  have hmine : (s.thr t).mine = [] := (ha.thr t).mine0 (by simp [inWaitN, hl])
  rw [htd] at hln
  simp only [List.tail_cons] at hln
  simp only [htd, List.tail_cons]
  have b7 := hi.thr
  refine ⟨fun u => ?_, hi.nobad⟩
  by_cases hu : u = t
  · subst hu
    obtain ⟨c1, c2, c3, c4, c5, c6, c7, c8, c9, c10, c11, c12, c13, c14⟩ := hbt
    simp only [savedLoc, waitLive, waitPrep, Loc.afterLoop, hl] at c1 c2 c3 c4 c5 c6 c7 c8 c13 c14
    rcases hln with ⟨h1, rfl⟩ | ⟨h1, rfl⟩ <;>
      constructor <;> simp [savedLoc, waitLive, waitPrep, Loc.afterLoop, hmine, h1]
    all_goals first
      | exact (List.nodup_cons.mp hnd).2
      | (intro q hq; exact c10 q (by rw [htd]; simp [hq]))
  · refine tinvB_other3 (b7 u) (ha.thr u) (by simp [hu]) ?_ ?_ ?_
    · intro _ w hw
      by_cases hq : (s.thr u).r = r
      · rw [hq] at hw ⊢; simpa using hw
      · simpa [hq] using hw
    · intro q _ _
      by_cases hq : q = r
      · subst hq; simp
      · simp [hq]
    · intro hs
      unfold SvOK
      have hsv := b7 u
      by_cases hq : (s.thr u).r = r
      · simp only [setThr_recs, setRec_recs, hq, if_true]
        refine ⟨by simp [hst], by simp [hst], ?_⟩
        intro w hw
        simp [hst] at hw
        subst hw
        have := (hsv.svL hs t (by rw [hq]; exact hst)).1 (by rw [hq, htd]; simp)
        rw [hq] at this
        simp
        refine ⟨fun hm => absurd hm (List.nodup_cons.mp hnd).1, fun _ => by omega⟩
      · simp only [setThr_recs, setRec_recs, hq, if_false]
        refine ⟨hsv.svQ hs, hsv.svX hs, ?_⟩
        intro w hw
        by_cases hwt : w = t
        · subst hwt
          have := hsv.svL hs w hw
          rw [htd] at this
          simp [hq] at this
          simpa using this
        · simpa [hwt] using hsv.svL hs w hw

theorem invB_transfer {s : State} (hi : InvB' f3 s) (ha : InvA s) (t : Tid) (xs : List Rid) (sor : Nat)
    (hl : (s.thr t).loc = .wwMuCas) (hxs : ∀ r, r ∈ xs → r ∈ (s.thr t).list) :
    FrameB f3 { s with recs := fun r => if xs.contains r then { s.recs r with stat := .xfer } else s.recs r, thr := updT s.thr t { s.thr t with list := (s.thr t).list.filter (fun r => !(xs.contains r)), setOnRel := sor, loc := .wwRelLd } } := by
  have hxst : ∀ r, r ∈ xs → (s.recs r).stat = .listed t := fun r h => (ha.lMem t r).mp (hxs r h)
  have htd := (hi.thr t).todo_nil (by simp [hl])
  have hmine : (s.thr t).mine = [] := (ha.thr t).mine0 (by simp [inWaitN, hl])
  have b7 := hi.thr
  refine ⟨fun u => ?_, hi.nobad⟩
  by_cases hu : u = t
  · subst hu
    constructor <;> simp [savedLoc, waitLive, waitPrep, Loc.afterLoop, hmine, htd]
  · refine tinvB_other3 (b7 u) (ha.thr u) (by simp [hu]) ?_ ?_ ?_
    · intro _ w hw
      by_cases hq : (s.thr u).r ∈ xs
      · simp [hq] at hw
      · simpa [hq] using hw
    · intro q _ _
      by_cases hq : q ∈ xs
      · simp [hq, hxst q hq]
      · simp [hq]
    · intro hs
      unfold SvOK
      have hsv := b7 u
      by_cases hq : (s.thr u).r ∈ xs
      · simp only [List.contains_iff_mem, hq, if_true]
        have := (hsv.svL hs t (hxst _ hq)).2 (by rw [htd]; simp)
        simp
        exact this
      · simp only [List.contains_iff_mem, hq, if_false]
        refine ⟨hsv.svQ hs, hsv.svX hs, ?_⟩
        intro w hw
        by_cases hwt : w = t
        · subst hwt; simp only [updT_apply, if_true]; exact hsv.svL hs w hw
        · simp only [updT_apply, hwt, if_false]; exact hsv.svL hs w hw

end NsyncVerif.CvFix
