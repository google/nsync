/-
  Layers `Cv` and `CvFix`: every step of the pinned cv.c is, on the embedded states, a step of the
  repaired cv.c or a step of `CvFix.Old` (`Tr.up`).  Before it, how the embedding commutes with the
  updates of the state and with the model's functions over lists of records.
-/
import NsyncVerif.Proofs.CvUp
import NsyncVerif.Proofs.CvFixOld

namespace NsyncVerif.Cv

def Config.up (c : Config) : CvFix.Config := ⟨c.binary⟩

theorem State.up_setThr (s : State) (t : Tid) (x : Thr) : (s.setThr t x).up = s.up.setThr t x.up := by
  simp only [State.up, State.setThr, CvFix.State.setThr, CvFix.State.mk.injEq, true_and, and_true]
  funext u; by_cases hu : u = t <;> simp [updT, CvFix.updT, hu]

theorem State.up_setRec (s : State) (r : Rid) (v : Rec) : (s.setRec r v).up = s.up.setRec r.up v.up := by
  simp only [State.up, State.setRec, CvFix.State.setRec, CvFix.State.mk.injEq, true_and, and_true]
  funext q
  by_cases hq : q = r.up
  · subst hq; simp [updR, CvFix.updR]
  · have : q.down ≠ r := fun e => hq (by rw [← e]; simp)
    simp [updR, CvFix.updR, hq, this]

/-- The successor states of `CvFix.Tr` are written with `s.up.recs r.up`, `s.up.thr t`; those of `Tr`
    arrive as `(…).up`: the two are compared part by part. -/
theorem tr_cast {cfg : CvFix.Config} {s s1 s2 : CvFix.State} {e : CvFix.Event} (h : CvFix.Tr cfg s e s1)
    (hs : s1 = s2) : CvFix.Tr cfg s e s2 := hs ▸ h

theorem old_cast {s s1 s2 : CvFix.State} {e : CvFix.Event} {g : Bool} (h : CvFix.Old s e s1 g) (hs : s1 = s2) :
    CvFix.Old s e s2 g := hs ▸ h

theorem setRT_congr {S S' : CvFix.State} {r : CvFix.Rid} {V V' : CvFix.Rec} {t : Tid} {X X' : CvFix.Thr}
    (h1 : S = S') (h2 : V = V') (h3 : X = X') : (S.setRec r V).setThr t X = (S'.setRec r V').setThr t X' := by
  rw [h1, h2, h3]

theorem Word.up_dec {n : Nat} {w : Word} (h : Word.dec? n = some w) : CvFix.Word.dec? n = some w.up := by
  match n with
  | 0 | 1 | 2 | 3 => simp [Word.dec?] at h; subst h; rfl
  | n + 4 => simp [Word.dec?] at h

theorem Rid.up_isMucv (r : Rid) : r.up.isMucv = r.isMucv := by cases r <;> rfl
theorem Loc.up_isOpen (l : Loc) : l.up.isOpen = l.isOpen := by cases l <;> rfl
theorem RStat.up_inj {a b : RStat} : a.up = b.up ↔ a = b := by
  constructor
  · cases a <;> cases b <;> simp [RStat.up]
  · exact congrArg _
theorem RStat.up_registered (a : RStat) : a.up.registered = a.registered := by cases a <;> rfl

theorem up_open {s : State} {t : Tid} (h : (s.thr t).loc.isOpen = true) : (s.up.thr t).loc.isOpen = true := by
  rw [State.up_thr, Thr.up_loc, Loc.up_isOpen]; exact h
theorem up_stat {s : State} {r : Rid} {a : RStat} (h : (s.recs r).stat = a) : (s.up.recs r.up).stat = a.up := by
  rw [State.up_recs]; exact congrArg RStat.up h
theorem up_waitingB {s : State} {r : Rid} {b : Bool} (h : (s.recs r).waiting = b) : (s.up.recs r.up).waiting = b := by
  rw [State.up_recs]; exact h
theorem up_foreignOk {s : State} {r : Rid} (h : foreignOk (s.recs r) = true) : CvFix.foreignOk (s.up.recs r.up) = true := by
  rw [State.up_recs]; simp only [foreignOk, CvFix.foreignOk, Rec.up] at h ⊢; cases hs : (s.recs r).stat <;> simp_all [RStat.up]
theorem up_list {s : State} {t : Tid} {f : Rid} {rest : List Rid} (h : (s.thr t).list = f :: rest) :
    (s.up.thr t).list = f.up :: rest.map Rid.up := by simp [Thr.up, h]
theorem up_listHead {s : State} {t : Tid} {r : Rid} (h : (s.thr t).list.head? = some r) :
    (s.up.thr t).list.head? = some r.up := by simp [Thr.up, h]

theorem isEmpty_map_up (l : List Rid) : (l.map Rid.up).isEmpty = l.isEmpty := by cases l <;> rfl

theorem tail_map_up (l : List Rid) : (l.map Rid.up).tail = l.tail.map Rid.up := by cases l <;> rfl

theorem map_erase_up (l : List Rid) (r : Rid) : (l.map Rid.up).erase r.up = (l.erase r).map Rid.up := by
  induction l with
  | nil => rfl
  | cons a l ih =>
    by_cases ha : a = r
    · subst ha; simp
    · have : a.up ≠ r.up := fun e => ha (Rid.up_inj e)
      simp [ha, this, ih]

theorem contains_up (l : List Rid) (r : Rid) : (l.map Rid.up).contains r.up = l.contains r := by
  induction l with
  | nil => rfl
  | cons a l _ => simp

theorem filter_not_contains_up (l sel : List Rid) :
    (l.map Rid.up).filter (fun r => !((sel.map Rid.up).contains r)) = (l.filter (fun r => !(sel.contains r))).map Rid.up := by
  induction l with
  | nil => rfl
  | cons a l ih =>
    simp only [List.map_cons, List.filter_cons, contains_up, ih]
    split <;> simp

theorem filter_isMucv_up (l : List Rid) : (l.map Rid.up).filter CvFix.Rid.isMucv = (l.filter Rid.isMucv).map Rid.up := by
  induction l with
  | nil => rfl
  | cons a l ih => simp only [List.map_cons, List.filter_cons, Rid.up_isMucv, ih]; split <;> simp

theorem isReader_up (s : State) (r : Rid) : CvFix.isReader s.up.recs r.up = isReader s.recs r := by
  simp only [CvFix.isReader, isReader, State.up_recs, Rid.up_isMucv, Rec.up]
  cases (s.recs r).lt <;> simp [LType.up]

theorem pickReaders_up (s : State) (l : List Rid) (w : Bool) :
    CvFix.pickReaders s.up.recs (l.map Rid.up) w = (pickReaders s.recs l w).map Rid.up := by
  induction l generalizing w with
  | nil => rfl
  | cons p ps ih =>
    simp only [List.map_cons, CvFix.pickReaders, pickReaders, isReader_up]
    split
    · simp [ih]
    · split <;> simp [ih]

theorem sigSelect_up (s : State) (l : List Rid) :
    CvFix.sigSelect s.up.recs (l.map Rid.up) = (sigSelect s.recs l).map Rid.up := by
  cases l with
  | nil => rfl
  | cons f rest =>
    simp only [List.map_cons, CvFix.sigSelect, sigSelect, isReader_up, pickReaders_up]
    split <;> simp

theorem all_isReader_up (s : State) (l : List Rid) :
    (l.map Rid.up).all (CvFix.isReader s.up.recs) = l.all (isReader s.recs) := by
  induction l with
  | nil => rfl
  | cons a l ih => simp [isReader_up, ih]

theorem afterAcquire_f3 (s : State) (t : Tid) (x : Thr) : (afterAcquire s t x).f3 = s.f3 := by
  unfold afterAcquire; cases x.cont <;> rfl

theorem afterAcquire_up (s : State) (t : Tid) (x : Thr) :
    (afterAcquire s t x).up = CvFix.afterAcquire s.up t x.up := by
  unfold afterAcquire CvFix.afterAcquire
  cases hc : x.cont
  · simp only [Thr.up, Cont.up, hc, State.up_setThr, State.up_setRec]
    simp only [State.up_recs]
    simp only [State.up, List.map_append, List.map_cons, List.map_nil]
    rfl
  · simp only [Thr.up, Cont.up, hc, State.up_setThr]; rfl
  · -- signal / broadcast: the selection, the new queue, the selected records, the new frame
    simp only [Thr.up, Cont.up, hc]
    have hsel : (if x.bcast = true then s.up.queue else CvFix.sigSelect s.up.recs s.up.queue) =
        (if x.bcast = true then s.queue else sigSelect s.recs s.queue).map Rid.up := by
      split
      · rfl
      · exact sigSelect_up s s.queue
    simp only [hsel]
    generalize (if x.bcast = true then s.queue else sigSelect s.recs s.queue) = sel
    simp only [State.up, CvFix.State.mk.injEq, true_and, and_true]
    refine ⟨(filter_not_contains_up _ _).symm, ?_, ?_⟩
    · funext r
      have : (sel.map Rid.up).contains r = sel.contains r.down := by
        rw [← contains_up sel r.down, Rid.up_down]
      simp only [this]
      split <;> simp [Rec.up, RStat.up, Unl.up]
    · funext u
      by_cases hu : u = t
      · subst hu
        simp only [updT, CvFix.updT, if_true, Thr.up, filter_isMucv_up, List.isEmpty_map, filter_not_contains_up]
        congr 1
        case e_allReaders => exact (all_isReader_up s sel).symm
        case e_loc => split <;> rfl
        case e_old =>
          split
          · rfl
          · split <;> rfl
      · simp [updT, CvFix.updT, hu]
  · simp only [Thr.up, Cont.up, hc, State.up_setThr]; rfl

theorem wakeEntry_up (s : State) (l : List Rid) : CvFix.wakeEntry s.up (l.map Rid.up) = (wakeEntry s l).up := by
  cases l with
  | nil => rfl
  | cons f rest =>
    simp only [List.map_cons, CvFix.wakeEntry, wakeEntry, State.up_recs, Rid.up_isMucv, Rec.up]
    cases (s.recs f).lt <;> cases f.isMucv <;> rfl

theorem firstCantAcquire_up (lt : LType) (w : Nat) : CvFix.firstCantAcquire lt.up w = firstCantAcquire lt w := by
  cases lt <;> rfl

theorem LType.up_eq_W (a : LType) : decide (a.up = CvFix.LType.W) = decide (a = LType.W) := by cases a <;> rfl

theorem ltW_up (s : State) (p : Rid) :
    decide ((s.up.recs p.up).lt = CvFix.LType.W) = decide ((s.recs p).lt = LType.W) := by
  rw [State.up_recs]; exact LType.up_eq_W _

theorem transferred_up (s : State) (a b c : Bool) (p : Rid) :
    CvFix.transferred s.up.recs a b c p.up = transferred s.recs a b c p := by
  simp only [CvFix.transferred, transferred, Rid.up_isMucv, ltW_up]

theorem filter_transferred_up (s : State) (a b c : Bool) (l : List Rid) :
    (l.map Rid.up).filter (CvFix.transferred s.up.recs a b c) = (l.filter (transferred s.recs a b c)).map Rid.up := by
  induction l with
  | nil => rfl
  | cons p l ih => simp only [List.map_cons, List.filter_cons, transferred_up, ih]; split <;> simp

theorem transferSet_up (s : State) (fca : Bool) (l : List Rid) :
    CvFix.transferSet s.up.recs fca (l.map Rid.up) = (transferSet s.recs fca l).map Rid.up := by
  cases l with
  | nil => rfl
  | cons f rest =>
    simp only [List.map_cons, CvFix.transferSet, transferSet, ltW_up, filter_transferred_up, List.map_append]
    cases fca <;> rfl

theorem setOnRelease_up (s : State) (fca : Bool) (l : List Rid) :
    CvFix.setOnRelease s.up.recs fca (l.map Rid.up) = setOnRelease s.recs fca l := by
  cases l with
  | nil => rfl
  | cons f rest =>
    have h := transferSet_up s fca (f :: rest)
    simp only [List.map_cons] at h
    simp only [List.map_cons, CvFix.setOnRelease, setOnRelease, h, ltW_up, List.any_map]
    have e1 : ((fun p => decide ((s.up.recs p).lt = CvFix.LType.W)) ∘ Rid.up) = fun p => decide ((s.recs p).lt = LType.W) :=
      funext fun p => ltW_up s p
    have e2 : ((fun p => CvFix.Rid.isMucv p && !CvFix.transferred s.up.recs fca (decide ((s.recs f).lt = LType.W)) false p) ∘ Rid.up) =
        fun p => p.isMucv && !transferred s.recs fca (decide ((s.recs f).lt = LType.W)) false p :=
      funext fun p => by simp only [Function.comp, Rid.up_isMucv, transferred_up]
    rw [e1, e2]; rfl

theorem Rec.up_posted (x : Rec) (q : Nat) (k : Option SemId) :
    { x.up with posted := x.up.posted || (decide (x.up.enqSeq = q) && decide (x.up.stat = CvFix.RStat.woken)) } =
    ({ x with sem := k, posted := x.posted || (decide (x.enqSeq = q) && decide (x.stat = RStat.woken)) } : Rec).up := by
  cases x with
  | mk w rc o sm lt st pub es unl po ep => cases st <;> rfl

theorem Tr.up {cfg : Config} {s s' : State} {e : Event} (h : Tr cfg s e s') :
    (CvFix.Tr cfg.up s.up e.up s'.up ∧ s'.f3 = s.f3) ∨
    ∃ g, CvFix.Old s.up e.up s'.up g ∧ s'.f3 = (s.f3 || g) := by
  cases h with
  | same e h => exact .inr ⟨false, .same _, (Bool.or_false _).symm⟩
  | tick ns h => exact .inl ⟨.tick ns h, rfl⟩
  | loc h => rw [State.up_setThr]; exact .inl ⟨.loc h.up, rfl⟩
  | acq t exp new obs o n hl hexp hw he ho hn hnew =>
    rw [afterAcquire_up]
    exact .inl ⟨.acq t exp new obs o.up n.up (up_loc hl) hexp hw he (Word.up_dec ho) (Word.up_dec hn) hnew, afterAcquire_f3 _ _ _⟩
  | relWait t new obs n hl hh hnew hn hsp =>
    rw [State.up_setThr, State.up_setRec]
    have := CvFix.Tr.relWait (cfg := cfg.up) (s := s.up) t new obs n.up (up_loc hl) hh hnew (Word.up_dec hn) hsp
    simp only [State.up_thr, Thr.up_r, State.up_recs] at this
    exact .inl ⟨this, rfl⟩
  | relEnq t new obs n hl hh hnew hn hsp =>
    rw [State.up_setThr, State.up_setRec]
    have := CvFix.Tr.relEnq (cfg := cfg.up) (s := s.up) t new obs n.up (up_loc hl) hh hnew (Word.up_dec hn) hsp
    simp only [State.up_thr, Thr.up_r, State.up_recs] at this
    exact .inl ⟨this, rfl⟩
  | relWait2 t new obs n hl hh hnew hn hsp =>
    rw [State.up_setThr]; exact .inl ⟨.relWait2 t new obs n.up (up_loc hl) hh hnew (Word.up_dec hn) hsp, rfl⟩
  | relSig t site new obs n hl hs hh hnew hn hsp =>
    rw [State.up_setThr]
    have := CvFix.Tr.relSig (cfg := cfg.up) (s := s.up) t site.up new obs n.up (up_loc hl)
      (hs.imp (fun a => ⟨congrArg WSite.up a.1, a.2⟩) (fun a => ⟨congrArg WSite.up a.1, a.2⟩)) hh hnew (Word.up_dec hn) hsp
    simp only [State.up_thr, Thr.up_list, wakeEntry_up] at this
    exact .inl ⟨this, rfl⟩
  | relDeq t new obs n hl hh hnew hn hsp =>
    rw [State.up_setThr, State.up_setRec]
    have := CvFix.Tr.relDeq (cfg := cfg.up) (s := s.up) t new obs n.up (up_loc hl) hh hnew (Word.up_dec hn) hsp
    simp only [State.up_thr, Thr.up_r, State.up_recs] at this
    refine .inl ⟨tr_cast this (setRT_congr rfl ?_ ?_), rfl⟩
    · simp only [Rec.up]; cases (s.recs (s.thr t).r).stat <;> rfl
    · simp only [Thr.up, map_erase_up]; rfl
  | wHeadExit t r y hy hl hr hw =>
    subst hy
    rw [State.up_setThr, State.up_setRec]
    have := CvFix.Tr.wHeadExit (cfg := cfg.up) (s := s.up) t r.up (s.thr t).up rfl (up_loc hl) (up_r hr) (up_waitingB hw)
    simp only [State.up_recs] at this
    refine .inl ⟨tr_cast this (setRT_congr ?_ rfl ?_), rfl⟩
    · simp only [State.up, Rec.up, RStat.up_registered]
    · simp only [Thr.up, Rec.up]
      congr 1
      exact decide_eq_decide.mpr (RStat.up_inj (b := .xfer))
  | wCmpEq t r obs hl hr ho he =>
    rw [State.up_setThr, State.up_setRec]
    have := CvFix.Tr.wCmpEq (cfg := cfg.up) (s := s.up) t r.up obs (up_loc hl) (up_r hr) (up_rc ho) he
    simp only [State.up_recs] at this
    have e1 : (decide ((s.recs r).up.stat ≠ CvFix.RStat.queued)) = decide ((s.recs r).stat ≠ RStat.queued) :=
      decide_eq_decide.mpr (not_congr (RStat.up_inj (b := .queued)))
    have e2 : s.up.queue.erase r.up = (s.queue.erase r).map Rid.up := map_erase_up _ _
    rw [e1, e2, isEmpty_map_up] at this
    refine .inl ⟨tr_cast this (setRT_congr rfl ?_ ?_), rfl⟩
    · simp only [Rec.up, List.map_append]; rfl
    · by_cases hc : (s.queue.erase r).isEmpty = true <;> simp only [hc] <;> rfl
  | deqLdQueued t r obs hl hr hw hst =>
    rw [State.up_setThr, State.up_setRec]
    have := CvFix.Old.deqLdQueued (s := s.up) t r.up obs (up_loc hl) (up_mine hr) (up_waitingB hw) (up_stat hst)
    simp only [State.up_recs] at this
    have e2 : s.up.queue.erase r.up = (s.queue.erase r).map Rid.up := map_erase_up _ _
    rw [e2, isEmpty_map_up] at this
    refine .inr ⟨false, old_cast this (setRT_congr rfl ?_ ?_), (Bool.or_false _).symm⟩
    · simp only [Rec.up, List.map_append]; rfl
    · by_cases hc : (s.queue.erase r).isEmpty = true <;> simp only [hc] <;> rfl
  | deqLdF3 t r obs u hl hr hw hst hlist =>
    rw [State.up_setThr, State.up_setRec]
    have := CvFix.Old.deqLdF3 (s := s.up) t r.up obs u (up_loc hl) (up_mine hr) (up_waitingB hw) (up_stat hst)
      (by simp [Thr.up, hlist])
    simp only [State.up_recs] at this
    have e2 : s.up.queue.isEmpty = s.queue.isEmpty := isEmpty_map_up _
    rw [e2] at this
    refine .inr ⟨true, old_cast this (setRT_congr rfl ?_ ?_), (Bool.or_true _).symm⟩
    · simp only [Rec.up, List.map_append]; rfl
    · by_cases hc : s.queue.isEmpty = true <;> simp only [hc] <;> rfl
  | deqLdBad t r obs hl hr hw hst hst2 =>
    rw [State.up_setThr, State.up_setRec]
    have := CvFix.Old.deqLdBad (s := s.up) t r.up obs (up_loc hl) (up_mine hr) (up_waitingB hw)
      (by rw [State.up_recs]; exact fun e => hst (RStat.up_inj.mp e))
      (by rw [State.up_recs]; exact fun u e => hst2 u (RStat.up_inj.mp e))
    simp only [State.up_recs] at this
    have e2 : s.up.queue.isEmpty = s.queue.isEmpty := isEmpty_map_up _
    rw [e2] at this
    refine .inr ⟨false, old_cast this (setRT_congr rfl ?_ ?_), (Bool.or_false _).symm⟩
    · simp only [Rec.up, List.map_append]; rfl
    · by_cases hc : s.queue.isEmpty = true <;> simp only [hc] <;> rfl
  | wSt1 t r obs hl hm hst =>
    rw [State.up_setThr, State.up_setRec, apply_ite Thr.up]
    have := CvFix.Tr.wSt1 (cfg := cfg.up) (s := s.up) t r.up obs (up_loc hl) (by rw [Rid.up_isMucv]; exact hm) (up_stat hst)
    simp only [State.up_recs] at this
    exact .inl ⟨this, rfl⟩
  | wClr t r obs hl hr =>
    rw [State.up_setThr, State.up_setRec]
    have := CvFix.Tr.wClr (cfg := cfg.up) (s := s.up) t r.up obs (up_loc hl) (up_r hr)
    simp only [State.up_recs] at this
    exact .inl ⟨this, rfl⟩
  | wake t r obs hl hr =>
    rw [State.up_setThr, State.up_setRec]
    have := CvFix.Tr.wake (cfg := cfg.up) (s := s.up) t r.up obs (up_loc hl) (up_listHead hr)
    simp only [State.up_recs] at this
    refine .inl ⟨tr_cast this (setRT_congr rfl ?_ ?_), rfl⟩
    · simp only [Rec.up]; cases (s.recs r).stat <;> rfl
    · simp only [State.up_thr, Thr.up, tail_map_up]; rfl
  | enqSt t r obs hl hm hst ho he =>
    rw [State.up_setThr, State.up_setRec]
    have := CvFix.Tr.enqSt (cfg := cfg.up) (s := s.up) t r.up obs (up_loc hl) (by rw [Rid.up_isMucv]; exact hm) (up_stat hst)
      (by rw [State.up_recs]; exact ho) (by rw [State.up_recs]; exact he)
    simp only [State.up_recs] at this
    refine .inl ⟨tr_cast this (setRT_congr ?_ rfl rfl), rfl⟩
    simp only [State.up, List.map_append, List.map_cons, List.map_nil]
  | deqSt t r obs hl hr =>
    rw [State.up_setThr, State.up_setRec]
    have := CvFix.Tr.deqSt (cfg := cfg.up) (s := s.up) t r.up obs (up_loc hl) (up_r hr)
    simp only [State.up_recs] at this
    exact .inl ⟨this, rfl⟩
  | wRmCasOk t r exp new obs hl hr hn ho he =>
    rw [State.up_setThr, State.up_setRec]
    have := CvFix.Tr.wRmCasOk (cfg := cfg.up) (s := s.up) t r.up exp new obs (up_loc hl) (up_r hr) hn (up_rc ho) he
    simp only [State.up_recs] at this
    exact .inl ⟨this, rfl⟩
  | sRcCasOk t site r exp new obs hl hr hn ho he hs =>
    rw [State.up_setThr, State.up_setRec]
    have := CvFix.Tr.sRcCasOk (cfg := cfg.up) (s := s.up) t site.up r.up exp new obs (up_loc hl) (up_todo hr) hn (up_rc ho) he
      (hs.imp (fun a => ⟨congrArg RSite.up a.1, a.2⟩) (fun a => ⟨congrArg RSite.up a.1, a.2⟩))
    simp only [State.up_recs] at this
    refine .inl ⟨tr_cast this (setRT_congr rfl rfl ?_), rfl⟩
    simp only [State.up_thr, Thr.up, tail_map_up, isEmpty_map_up]
    by_cases hc : (s.thr t).todo.tail.isEmpty = true <;> simp only [hc] <;> rfl
  | muMode t obs lt hl hlt =>
    rw [State.up_setThr, State.up_setRec]
    have := CvFix.Tr.muMode (cfg := cfg.up) (s := s.up) t obs lt.up (up_loc hl) (by cases lt <;> simp_all [LType.up])
    simp only [State.up_thr, Thr.up_r, State.up_recs] at this
    exact .inl ⟨this, rfl⟩
  | wwCasOk t exp new obs f rest hl hlist =>
    have := CvFix.Tr.wwCasOk (cfg := cfg.up) (s := s.up) t exp new obs f.up (rest.map Rid.up) (up_loc hl) (up_list hlist)
    simp only [State.up_recs, State.up_thr, Thr.up_list, Rec.up, firstCantAcquire_up, transferSet_up, setOnRelease_up,
      filter_not_contains_up] at this
    refine .inl ⟨tr_cast this ?_, rfl⟩
    generalize transferSet s.recs (firstCantAcquire (s.recs f).lt exp) (s.thr t).list = xs
    simp only [State.up, CvFix.State.mk.injEq, true_and, and_true]
    constructor
    · funext r
      have : (xs.map Rid.up).contains r = xs.contains r.down := by rw [← contains_up xs r.down, Rid.up_down]
      simp only [this]
      split <;> simp [Rec.up, RStat.up]
    · funext u
      by_cases hu : u = t
      · subst hu; simp only [updT, CvFix.updT, if_true, Thr.up]; rfl
      · simp [updT, CvFix.updT, hu]
  | semVWake t k r q hl hc =>
    rw [State.up_setThr, State.up_setRec]
    have := CvFix.Tr.semVWake (cfg := cfg.up) (s := s.up) t k r.up q (up_loc hl) (by simp [Thr.up, hc])
    simp only [State.up_recs] at this
    refine .inl ⟨tr_cast this (setRT_congr rfl ?_ ?_), rfl⟩
    · exact Rec.up_posted _ _ _
    · simp only [State.up_thr, Thr.up, isEmpty_map_up]
      by_cases hc : (s.thr t).list.isEmpty = true <;> simp only [hc] <;> rfl
  | semOther e sem' h => exact .inr ⟨false, .sem _ sem', (Bool.or_false _).symm⟩
  | semPdRetOkW t k hl => rw [State.up_setThr]; exact .inl ⟨.semPdRetOkW t k (up_loc hl), rfl⟩
  | semPdRetOkC t k hl => rw [State.up_setThr]; exact .inl ⟨.semPdRetOkC t k (up_loc hl), rfl⟩
  | wInit t r hl hm hst =>
    rw [State.up_setRec]
    have := CvFix.Tr.wInit (cfg := cfg.up) (s := s.up) t r.up (up_open hl) (by rw [Rid.up_isMucv]; exact hm) (up_stat hst)
    simp only [State.up_recs] at this
    exact .inl ⟨this, rfl⟩
  | nwInit t r hl hm hst =>
    rw [State.up_setRec]
    have := CvFix.Tr.nwInit (cfg := cfg.up) (s := s.up) t r.up (up_loc hl) (by rw [Rid.up_isMucv]; exact hm) (up_stat hst)
    simp only [State.up_recs] at this
    exact .inl ⟨this, rfl⟩
  | fStW t r new hl hf =>
    rw [State.up_setRec]
    have := CvFix.Tr.fStW (cfg := cfg.up) (s := s.up) t r.up new (up_open hl) (up_foreignOk hf)
    simp only [State.up_recs] at this
    exact .inl ⟨this, rfl⟩
  | fCasOk t r exp new obs hl hf hn ho he =>
    rw [State.up_setRec]
    have := CvFix.Tr.fCasOk (cfg := cfg.up) (s := s.up) t r.up exp new obs (up_open hl) (up_foreignOk hf) hn (up_rc ho) he
    simp only [State.up_recs] at this
    exact .inl ⟨this, rfl⟩

end NsyncVerif.Cv
