/-
  Layer `CvFix` (repaired cv.c): structural invariant — releases of the spinlock.
-/
import NsyncVerif.Proofs.CvFixInvAOther

namespace NsyncVerif.CvFix

theorem InvA.others_free {s : State} (hi : InvA s) {t : Tid} (ht : (s.thr t).loc.holds = true) :
    ∀ u, u ≠ t → (s.thr u).loc.holds = false := by
  intro u hu
  cases hb : (s.thr u).loc.holds
  · rfl
  · exact absurd (hi.holder_unique ht hb) hu

/-- Generic release: the holder `t` stores its `old` word; record statuses and owners, the
    queue and all lists are unchanged; the new frame of `t` is outside the critical section. -/
theorem invA_release {s s' : State} {t : Tid} (hi : InvA s) (hh : s.holder = some t)
    (hsp : s'.word.spin = false) (hne : s'.word.ne = (s.thr t).old.ne) (hhold : s'.holder = none)
    (hq : s'.queue = s.queue) (hthr : ∀ u, u ≠ t → s'.thr u = s.thr u)
    (hx1 : (s'.thr t).loc.holds = false) (hx2 : (s'.thr t).list = (s.thr t).list)
    (hrec : ∀ q, (s'.recs q).stat = (s.recs q).stat ∧ (s'.recs q).owner = (s.recs q).owner)
    (ht : TInvA s' t)
    (hb : ¬ ((s'.thr t).loc = .sRcLd ∨ (s'.thr t).loc = .sRcCas ∨ (s'.thr t).loc = .sRel)) : FrameA s' := by
  have hth := (hi.hold t).mp hh
  have hnot := hi.others_free hth
  obtain ⟨a1, a2, a3, a4, a5, a6, a8, a9, a10, a11⟩ := hi.frame
  constructor
  · rw [hsp, hhold]; rfl
  · intro u
    rw [hhold]
    by_cases hu : u = t
    · subst hu; simp [hx1]
    · rw [hthr u hu]; simp [hnot u hu]
  · intro u e; rw [hhold] at e; cases e
  · intro _; rw [hne, hq]; exact (a3 t hh).2
  · rw [hq]; exact a5
  · intro r; rw [hq, (hrec r).1]; exact a6 r
  · intro u
    by_cases hu : u = t
    · subst hu; rw [hx2]; exact a8 u
    · rw [hthr u hu]; exact a8 u
  · intro u r
    rw [(hrec r).1]
    by_cases hu : u = t
    · subst hu; rw [hx2]; exact a9 u r
    · rw [hthr u hu]; exact a9 u r
  · intro u
    by_cases hu : u = t
    · subst hu; exact ht
    · refine tinvA_other (a10 u) (hthr u hu) ?_ ?_
      · intro q _ hq'
        exact RecOK.of_stat (hrec q).2 (hrec q).1 hq'
      · intro _ q e; rw [(hrec q).1]; exact e
  · intro u hb1 hb2
    by_cases hu : u = t
    · subst hu; exact absurd hb2 hb
    · rw [hthr u hu] at hb1 hb2
      have := hnot u hu
      rcases hb2 with hb2 | hb2 | hb2 <;> simp [hb2, Loc.holds] at this

theorem word_of_dec {new : Nat} {n old : Word} (hnew : new = old.enc) (hn : Word.dec? new = some n) : n = old := by
  have := dec_enc hn
  rw [hnew] at this
  exact enc_inj this

set_option hygiene false in
macro "tinv_t" hl:ident : tactic =>
  `(tactic| (
     have ht := hi.thr t
     obtain ⟨t1, t2, t3, t4, t5, t6, t7, t8, t9, t10, t11, t12⟩ := ht
     simp only [waitLive, waitPrep, inWaitN, Loc.wakePhase, Loc.holds, $hl:ident] at t1 t2 t3 t4 t5 t8 t9 t10 t11 t12
     constructor <;> simp [waitLive, waitPrep, inWaitN, Loc.wakePhase, Loc.holds] <;> simp_all))

open Regions

/-- A release of the spinlock in which the releasing thread moves and stores its `old_word`. -/
theorem invA_rel_move {s s' : State} {t : Tid} {x' : Thr} (hi : InvA s) (hh : s.holder = some t)
    (e : s'.word = (s.thr t).old) (hsp : s'.word.spin = false) (hhold : s'.holder = none)
    (hq : s'.queue = s.queue) (hthr : s'.thr = updT s.thr t x')
    (hrec : ∀ q, (s'.recs q).stat = (s.recs q).stat ∧ (s'.recs q).owner = (s.recs q).owner)
    (m : Move s (s.thr t) x') (hx : x'.loc.holds = false) : FrameA s' := by
  have hx' : s'.thr t = x' := by rw [hthr]; simp
  rw [← hx'] at m hx
  refine invA_release hi hh hsp (by rw [e]) hhold hq (fun u hu => by rw [hthr]; simp [hu]) hx m.list hrec
    (tinvA_move hi m hrec) ?_
  intro h
  rcases h with h | h | h <;> rw [h] at hx <;> cases hx

theorem wakeEntry_cases (s : State) (l : List Rid) :
    (l = [] ∧ wakeEntry s l = .kRet) ∨ (l ≠ [] ∧ (wakeEntry s l = .wwMuLd ∨ wakeEntry s l = .wwStore)) := by
  unfold wakeEntry
  cases l with
  | nil => simp
  | cons f rest => simp; intro _; exact (Classical.em _).symm

theorem wakeEntry_mu {s : State} {l : List Rid} (h : wakeEntry s l = .wwMuLd) :
    ∃ f rest, l = f :: rest ∧ f.isMucv = true := by
  unfold wakeEntry at h
  cases l with
  | nil => cases h
  | cons f rest =>
    by_cases hc : (f.isMucv && (s.recs f).lt != .gen) = true
    · exact ⟨f, rest, rfl, by simp at hc; exact hc.1⟩
    · simp [hc] at h

/-- Entering wake_waiters from the release store of signal/broadcast is a move. -/
theorem move_relSig {s : State} {t : Tid} (hl : (s.thr t).loc = .sRel) :
    Move s (s.thr t) { s.thr t with loc := wakeEntry s (s.thr t).list } := by
  rcases wakeEntry_cases s (s.thr t).list with ⟨hl0, hw⟩ | ⟨hl0, hw | hw⟩
  · rw [hw]; exact .at hl
  · obtain ⟨f, rest, h1, h2⟩ := wakeEntry_mu hw
    rw [hw]; exact .at hl { mu := fun _ => .inr ⟨f, rest, h1, h2⟩ }
  · rw [hw]; exact .at hl

theorem invA_relSig {s : State} (hi : InvA s) (t : Tid) (new : Nat) (n : Word) (hl : (s.thr t).loc = .sRel)
    (hh : s.holder = some t) (hnew : new = if (s.thr t).bcast then 0 else (s.thr t).old.enc)
    (hn : Word.dec? new = some n) (hsp : n.spin = false) :
    FrameA ({ s with word := n, holder := none }.setThr t { s.thr t with loc := wakeEntry s (s.thr t).list }) := by
  have e : n = (s.thr t).old := by
    by_cases hb : (s.thr t).bcast = true
    · have hq := hi.bq t hb (.inr (.inr hl))
      obtain ⟨o1, o2⟩ := hi.old t hh
      have : (s.thr t).old = ⟨false, false⟩ := by
        cases ho : (s.thr t).old with
        | mk sp ne =>
          rw [ho] at o1 o2
          simp at o1
          cases ne
          · simp [o1]
          · simp [hq] at o2
      rw [if_pos hb] at hnew
      subst hnew
      simp [Word.dec?] at hn
      rw [this, ← hn]
    · rw [if_neg hb] at hnew
      exact word_of_dec hnew hn
  refine invA_rel_move hi hh e hsp rfl rfl rfl (fun q => ⟨rfl, rfl⟩) (move_relSig hl) ?_
  rcases wakeEntry_cases s (s.thr t).list with ⟨_, hw⟩ | ⟨_, hw | hw⟩ <;> rw [hw] <;> rfl

/-- cv_dequeue is done with its record (release store at `nDeqRel`, or the wait-for-waker loop at
    `nDeqSpin` sees `waiting == 0`): the record leaves the cv unless it is on a waker's list.  The new
    cv word `w` and holder `h'` are the caller's, with the four clauses of `FrameA` that speak of them. -/
theorem invA_deqDone {s : State} (hi : InvA s) (t : Tid) (w : Word) (h' : Option Tid)
    (hl : (s.thr t).loc = .nDeqRel ∨ (s.thr t).loc = .nDeqSpin)
    (c1 : w.spin = h'.isSome) (c2 : ∀ u, h' = some u ↔ (u ≠ t ∧ (s.thr u).loc.holds = true))
    (c3 : ∀ u, h' = some u → (s.thr u).old.spin = false ∧ ((s.thr u).old.ne = true ↔ s.queue ≠ []))
    (c4 : h' = none → (w.ne = true ↔ s.queue ≠ [])) :
    FrameA ({ s with word := w, holder := h' }.setRec (s.thr t).r
            { s.recs (s.thr t).r with
                stat := match (s.recs (s.thr t).r).stat with | .listed u => RStat.listed u | _ => RStat.idle }
          |>.setThr t { s.thr t with loc := .nOut, mine := (s.thr t).mine.erase (s.thr t).r }) := by
  have ht := hi.thr t
  obtain ⟨t1, t2, t3, t4, t5, t6, t7, t8, t9, t10, t11, t12⟩ := ht
  have hin : inWaitN (s.thr t) = true := by rcases hl with hl | hl <;> simp [inWaitN, hl]
  have hwk : (s.thr t).loc.wakePhase = false := by rcases hl with hl | hl <;> simp [Loc.wakePhase, hl]
  obtain ⟨hrm, hrq⟩ : (s.thr t).r ∈ (s.thr t).mine ∧ (s.recs (s.thr t).r).stat ≠ .queued :=
    hl.elim (fun h => t10 (.inr h)) (fun h => t12 (.inr h))
  obtain ⟨rnm, rown, rni, rnp⟩ := t6 _ hrm
  -- the new status of the record
  have hst : ∀ q, ((if q = (s.thr t).r then
        { s.recs (s.thr t).r with
            stat := match (s.recs (s.thr t).r).stat with | .listed u => RStat.listed u | _ => RStat.idle }
      else s.recs q).stat = (s.recs q).stat) ∨
      (q = (s.thr t).r ∧ (∀ u, (s.recs q).stat ≠ .listed u) ∧
        (if q = (s.thr t).r then
          { s.recs (s.thr t).r with
              stat := match (s.recs (s.thr t).r).stat with | .listed u => RStat.listed u | _ => RStat.idle }
         else s.recs q).stat = .idle) := by
    intro q
    by_cases hq : q = (s.thr t).r
    · subst hq
      simp only [if_true]
      cases hs : (s.recs (s.thr t).r).stat <;> simp
    · simp [hq]
  obtain ⟨a1, a2, a3, a4, a5, a6, a8, a9, a10, a11⟩ := hi.frame
  constructor
  · simpa using c1
  · intro u
    by_cases hu : u = t
    · subst hu; simpa [Loc.holds] using fun e => ((c2 u).mp e).1 rfl
    · simpa [hu] using c2 u
  · intro u e
    have hu : u ≠ t := ((c2 u).mp (by simpa using e)).1
    simpa [hu] using c3 u (by simpa using e)
  · simpa using c4
  · exact a5
  · intro q
    simp only [setThr_queue, setRec_queue, setThr_recs, setRec_recs]
    rcases hst q with h | ⟨h1, h2, h3⟩
    · rw [h]; exact a6 q
    · rw [h3]; subst h1
      simp; intro hm; exact hrq ((a6 _).mp hm)
  · intro u
    by_cases hu : u = t
    · subst hu; simp; exact a8 u
    · simp [hu]; exact a8 u
  · intro u q
    have key : q ∈ (s.thr u).list ↔
        (if q = (s.thr t).r then
          { s.recs (s.thr t).r with
              stat := match (s.recs (s.thr t).r).stat with | .listed u => RStat.listed u | _ => RStat.idle }
         else s.recs q).stat = .listed u := by
      rcases hst q with h | ⟨h1, h2, h3⟩
      · rw [h]; exact a9 u q
      · rw [h3]; simp; intro hm; exact h2 u ((a9 u q).mp hm)
    by_cases hu : u = t
    · subst hu; simpa using key
    · simpa [hu] using key
  · intro u
    by_cases hu : u = t
    · subst hu
      constructor <;> simp [waitLive, waitPrep, inWaitN, Loc.wakePhase]
      · exact t1 hwk
      · intro q hq
        have hne : q ≠ (s.thr u).r := fun e => by
          subst e; exact (List.Nodup.mem_erase_iff t7).mp hq |>.1 rfl
        have := t6 q (List.mem_of_mem_erase hq)
        simpa [hne] using this
      · exact t7.erase _
    · refine tinvA_other (a10 u) (by simp [hu]) ?_ ?_
      · intro q ho hq'
        have hne : q ≠ (s.thr t).r := fun e => by subst e; rw [rown] at ho; exact hu ho.symm
        simp only [setThr_recs, setRec_recs, hne, if_false]
        exact RecOK.rfl' hq'
      · intro _ q e
        have hne : q ≠ (s.thr t).r := fun e' => by subst e'; exact hrq e
        simpa [hne] using e
  · intro u hb1 hb2
    by_cases hu : u = t
    · subst hu; simp at hb2
    · simp [hu] at hb1 hb2
      simpa using a11 u hb1 hb2

end NsyncVerif.CvFix
