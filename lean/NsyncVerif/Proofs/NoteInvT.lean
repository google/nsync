/-
  Layer `Note`, invariant family T: parent pointers are backed by the children lists
  (`c->parent == p` implies `c` is in `p->children`).  Its preservation uses the claims of the
  locking discipline (`InvL`) only to tell the notes of one program counter apart; the converse
  (`InvForest.c2p`, Proofs/NoteRelF.lean) needs the mutexes themselves (`LockInv`).
-/
import NsyncVerif.Proofs.NoteInvU


namespace Note

theorem eq_of_mem_of_not_mem_erase {l : List NoteId} {c x : NoteId} (h1 : c ∈ l)
    (h2 : c ∉ l.erase x) : c = x := by
  by_cases h : c = x
  · exact h
  · exact absurd ((List.mem_erase_of_ne h).mpr h1) h2

/-- If `c` leaves the children list of `p`, its parent pointer does not point to `p` afterwards. -/
theorem step_child_lost {s s' : State} {e : Event} (hS : InvS s) (hL : InvL s)
    (hs : step s e = .ok s')
    (p c : NoteId) (hc : c ∈ (s.notes p).children) (hc' : c ∉ (s'.notes p).children) :
    (s'.notes c).parent ≠ some p := by
  -- `c` leaves the list of `p` only as the `x` of `p->children -= x`
  have hlost : ∀ {x : NoteId}, c ∉ (if p = p then (s.notes p).children.erase x
      else (s.notes p).children) → c = x := fun h => by
    rw [if_pos rfl] at h; exact eq_of_mem_of_not_mem_erase hc h
  rcases step_forest_raw hs with h | ⟨_, c0, p0, _, _, _, _, _, h⟩ |
    ⟨a, n, p0, c0, _, _, hpc, _, h⟩ | ⟨_, n, c0, _, _, _, _, h⟩ | ⟨_, c0, n, _, _, _, h⟩ | ⟨k, hk, h⟩
  all_goals rw [(h p).1] at hc'
  all_goals rw [(h c).2]
  · exact absurd hc hc'
  · exfalso; apply hc'; split
    · exact List.mem_append_left _ hc
    · exact hc
  · -- adoption: the child leaves `n`'s list and points to `n`'s parent
    have hcl := hL.claim a
    rw [hpc] at hcl
    have hne : p0 ≠ n := (hcl.2.1 p0 rfl).2
    by_cases hpp : p = p0
    · subst hpp
      rw [if_pos rfl, if_neg hne] at hc'
      exact absurd (List.mem_append_left _ hc) hc'
    · rw [if_neg hpp] at hc'
      by_cases hpn : p = n
      · subst hpn
        cases hlost hc'
        rw [if_pos rfl]
        exact fun h => hne (Option.some.inj h)
      · rw [if_neg hpn] at hc'; exact absurd hc hc'
  all_goals try (
    by_cases hpn : p = n
    · subst hpn; cases hlost hc'; simp
    · rw [if_neg hpn] at hc'; exact absurd hc hc')
  · -- malloc: an unallocated note has no children
    split at hc'
    · next hpk =>
      subst hpk
      have := hS.anc _ _ (hS.children p c hc).1
      rw [hk] at this; cases this
    · exact absurd hc hc'

/-- A parent pointer is set together with the insertion into the parent's children list. -/
theorem step_parent_linked {s s' : State} {e : Event} (hs : step s e = .ok s') (p c : NoteId)
    (hc : (s'.notes c).parent = some p) :
    (s.notes c).parent = some p ∨ c ∈ (s'.notes p).children := by
  rcases step_forest_raw hs with h | ⟨_, c0, p0, _, _, _, _, _, h⟩ |
    ⟨_, n, p0, c0, _, _, _, _, h⟩ | ⟨_, n, c0, _, _, _, _, h⟩ | ⟨_, c0, p0, _, _, _, h⟩ | ⟨k, _, h⟩
  all_goals rw [(h c).2] at hc
  · exact Or.inl hc
  · split at hc
    · next hcc => subst hcc; cases hc; right; rw [(h p).1]; simp
    · exact Or.inl hc
  · split at hc
    · next hcc => subst hcc; cases hc; right; rw [(h p).1]; simp
    · exact Or.inl hc
  all_goals (split at hc; (· cases hc); exact Or.inl hc)

/-- `c->parent == p` implies that `c` is in `p->children`. -/
structure InvT (s : State) : Prop where
  p2c : ∀ p c, (s.notes c).parent = some p → c ∈ (s.notes p).children

theorem InvT.init : InvT Note.init := ⟨by simp [Note.init, NoteRec.blank]⟩

theorem step_invT {s s' : State} {e : Event} (hS : InvS s) (hL : InvL s) (hT : InvT s)
    (hs : step s e = .ok s') : InvT s' := by
  refine ⟨fun p c hpc => ?_⟩
  rcases step_parent_linked hs p c hpc with h | h
  · have hmem := hT.p2c p c h
    cases hd : decide (c ∈ (s'.notes p).children) with
    | true => exact of_decide_eq_true hd
    | false =>
      exact absurd hpc (step_child_lost hS hL hs p c hmem (of_decide_eq_false hd))
  · exact h

end Note
