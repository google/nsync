/-
  Layer `CvFix` (repaired cv.c): protocol invariant — foreign accesses and initialisations (idle or transferred
  records).
-/
import NsyncVerif.Proofs.CvFixInvBRec

namespace NsyncVerif.CvFix

/-- A record that is idle or transferred changes `waiting` / `remove_count` (never downwards while
    transferred) / owner-while-idle / fields the invariant ignores. -/
theorem invB_foreign {f3 : Bool} {s : State} (hi : InvB' f3 s) (ha : InvA s) (r : Rid) (v : Rec)
    (hf : foreignOk (s.recs r) = true) (hst : v.stat = (s.recs r).stat)
    (hrc : (s.recs r).stat = .xfer → (s.recs r).rc ≤ v.rc) : FrameB f3 (s.setRec r v) := by
  have hcases : (s.recs r).stat = .idle ∨ (s.recs r).stat = .xfer := by
    unfold foreignOk at hf; split at hf <;> simp_all
  have b7 := hi.thr
  refine ⟨fun u => ?_, hi.nobad⟩
  refine tinvB_other3 (b7 u) (ha.thr u) rfl ?_ ?_ ?_
  · intro _ w hw
    by_cases hq : (s.thr u).r = r
    · rw [hq] at hw ⊢; simpa [hst] using hw
    · simpa [hq] using hw
  · intro q _ _
    by_cases hq : q = r
    · subst hq
      simp [hst]
      intro h; rcases hcases with c | c <;> rw [c] at h <;> cases h
    · simp [hq]
  · intro hs
    unfold SvOK
    by_cases hq : (s.thr u).r = r
    · simp only [setRec_recs, hq, if_true, setRec_thr, hst]
      rcases hcases with c | c
      · obtain ⟨_, _, lv⟩ := (ha.thr u).live (savedLoc_live hs)
        rw [hq, c] at lv; simp [RStat.live] at lv
      · rw [c]
        simp
        have := (b7 u).svX hs (.inl (by rw [hq]; exact c))
        rw [hq] at this
        have := hrc c
        omega
    · simp only [setRec_recs, hq, if_false, setRec_thr]
      exact ⟨(b7 u).svQ hs, (b7 u).svX hs, (b7 u).svL hs⟩

end NsyncVerif.CvFix
