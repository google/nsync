/-
  Layer `CvFix` (repaired cv.c): protocol invariant — the unlinking step of signal/broadcast, and the assembly:
  `frameB_tr` (the frames, rule by rule) and `invB_tr` (with the record clauses, which follow each record through
  `RecTr`); `invB_old` for the steps only the pinned code has.
-/
import NsyncVerif.Proofs.CvFixInvBSig
import NsyncVerif.Proofs.CvFixRcd

namespace NsyncVerif.CvFix

variable {f3 : Bool}

theorem invB_acq_sig {s : State} (hi : InvB' f3 s) (ha : InvA s) (t : Tid) (n : Word) (sel : List Rid) (ar : Bool)
    (o' : Word) (lnew : Loc)
    (hlocs : ((sel.filter Rid.isMucv) = [] ∧ lnew = .sRel) ∨ ((sel.filter Rid.isMucv) ≠ [] ∧ lnew = .sRcLd))
    (hl : (s.thr t).loc = .spCas) (hc : (s.thr t).cont = .sig) (hsub : sel.Sublist s.queue)
    (hfree : ∀ u, (s.thr u).loc.holds = false) :
    FrameB f3 { s with word := n, holder := some t, queue := s.queue.filter (fun r => !(sel.contains r)), recs := fun r => if sel.contains r then { s.recs r with stat := .listed t, unl := (s.recs r).unl ++ [Unl.waker t] } else s.recs r, thr := updT s.thr t { s.thr t with list := sel, todo := sel.filter Rid.isMucv, firstRc := true, old := o', allReaders := ar, loc := lnew } } := by
  have hselst : ∀ r, r ∈ sel → (s.recs r).stat = .queued := fun r h => (ha.qMem r).mp (hsub.subset h)
  have hlist : (s.thr t).list = [] := (ha.thr t).list0 (by simp [hl, Loc.wakePhase])
  have hmine : (s.thr t).mine = [] := (ha.thr t).mine0 (by simp [inWaitN, hl, hc])
  have hnl : ∀ q, (s.recs q).stat ≠ .listed t := by
    intro q e; have := (ha.lMem t q).mpr e; rw [hlist] at this; simp at this
  have b7 := hi.thr
  refine ⟨fun u => ?_, hi.nobad⟩
  by_cases hu : u = t
  · subst hu
    rcases hlocs with ⟨h1, rfl⟩ | ⟨h1, rfl⟩ <;>
      constructor <;> simp [savedLoc, waitLive, waitPrep, Loc.afterLoop, hmine, h1]
    all_goals first
      | exact (hsub.nodup ha.qNd).filter _
      | (intro q hq; simp [List.mem_filter] at hq; exact hq)
      | (intro q hq hm; exact ⟨hq, hm⟩)
  · refine tinvB_other3 (b7 u) (ha.thr u) (by simp [hu]) ?_ ?_ ?_
    · intro h1 w hw
      have hholds : (s.thr u).loc.holds = true := by rcases h1 with h | h <;> simp [h, Loc.holds]
      rw [hfree u] at hholds; cases hholds
    · intro q _ _
      by_cases hq : q ∈ sel
      · simp [hq, hselst q hq]
      · simp [hq]
    · intro hs
      unfold SvOK
      have hsv := b7 u
      obtain ⟨_, hmu, _⟩ := (ha.thr u).live (savedLoc_live hs)
      by_cases hq : (s.thr u).r ∈ sel
      · simp only [List.contains_iff_mem, hq, if_true]
        have hrc := hsv.svQ hs (hselst _ hq)
        refine ⟨by simp, by simp, ?_⟩
        intro w hw
        simp at hw
        subst hw
        simp only [updT_apply, if_true]
        refine ⟨fun _ => hrc, fun hn => absurd ?_ hn⟩
        simp [List.mem_filter, hq, hmu]
      · simp only [List.contains_iff_mem, hq, if_false]
        refine ⟨hsv.svQ hs, hsv.svX hs, ?_⟩
        intro w hw
        by_cases hwt : w = t
        · subst hwt; exact absurd hw (hnl _)
        · simp only [updT_apply, hwt, if_false]; exact hsv.svL hs w hw

open Regions in
theorem frameB_tr {cfg : Config} {s s' : State} {e : Event} (ha : InvA s) (hi : InvB' f3 s) (h : Tr cfg s e s') :
    FrameB f3 s' := by
  cases h with
  | same e h => exact hi.frame
  | tick ns h | semOther e sem' h => exact invB_congr hi ha rfl rfl rfl
  | loc h => exact (invB_loc hi ha h).frame
  | acq t exp new obs o n hl hexp hw he ho hn hnew =>
    obtain ⟨f1, f2, f3, f4, f5, f6⟩ := acq_facts ha hl hexp hw he ho hn hnew
    subst f1
    unfold afterAcquire
    split
    · rename_i hc; simp only at hc
      exact invB_acq_waitEnq hi ha t n hl hc
    · rename_i hc; simp only at hc
      exact invB_move hi ha rfl (fun q => ⟨rfl, rfl, rfl, rfl⟩) rfl (by exact .at hl)
    · rename_i hc; simp only at hc
      exact invB_move hi ha rfl (fun q => ⟨rfl, rfl, rfl, rfl⟩) rfl (by exact .at hl)
    · rename_i hc; simp only at hc
      exact invB_move hi ha rfl (fun q => ⟨rfl, rfl, rfl, rfl⟩) rfl (by exact .at hl)
    · rename_i hc; simp only at hc
      refine invB_acq_sig hi ha t n _ _ _ _ ?_ hl hc ?_ f6
      · dsimp only
        cases hz : (List.filter Rid.isMucv (if (s.thr t).bcast = true then s.queue else sigSelect s.recs s.queue)) with
        | nil => left; simp
        | cons a l => right; simp
      · dsimp only; split
        · exact List.Sublist.refl _
        · exact sigSelect_sublist _ _
  | relWait t new obs n hl hh hnew hn hsp | relEnq t new obs n hl hh hnew hn hsp => exact invB_move hi ha rfl (fun q => by by_cases hq : q = (s.thr t).r <;> simp [hq]) rfl (by exact .at hl)
  | relWait2 t new obs n hl hh hnew hn hsp | relDeqW t new obs n hl hh hnew hn hsp | relDbg t new obs n hl hh hnew hn hsp => exact invB_move hi ha rfl (fun q => ⟨rfl, rfl, rfl, rfl⟩) rfl (by exact .at hl)
  | relSig t site new obs n hl hs hh hnew hn hsp => exact invB_move hi ha rfl (fun q => ⟨rfl, rfl, rfl, rfl⟩) rfl (move_relSig hl)
  | relDeq t new obs n hl hh hnew hn hsp => exact invB_deqDone hi ha t n none (.inl hl)
  | wHeadExit t r y hy hl hr hw => subst hy; exact (invB_wHeadExit hi ha t r hl hr hw).2
  | wCmpEq t r obs hl hr ho he => exact invB_wCmpEq' hi ha t r obs hl hr ho he
  | deqLdQueued t r obs hl hr hw hq => exact invB_deqLdQueued hi ha t r true hl hr
  | deqSpinExit t r hl hr hw => subst hr; exact invB_deqDone hi ha t _ _ (.inr hl)
  | wSt1 t r obs hl hm hst => exact invB_wSt1 hi ha t r hl hst
  | wClr t r obs hl hr => exact invB_wClr hi ha t r hl hr
  | wake t r obs hl hr => exact invB_wake hi ha t r hl hr
  | enqSt t r obs hl hm hst ho he => exact invB_enqSt hi ha t r hl hst
  | deqSt t r obs hl hr => exact invB_deqSt hi ha t r hl hr
  | wRmCasOk t r exp new obs hl hr hn ho he => exact invB_wRmCasOk hi ha t r new hl hr
  | sRcCasOk t site r exp new obs hl hr hn ho he =>
    have hnew : new = (s.recs r).rc + 1 := by rw [hn, ← he, ho]
    subst hnew
    refine invB_sRcCasOk hi ha t r _ hl hr ?_
    cases hz : (s.thr t).todo.tail with
    | nil => left; simp
    | cons a l => right; simp
  | muMode t obs lt hl hlt => exact invB_move hi ha rfl (fun q => by by_cases hq : q = (s.thr t).r <;> simp [hq]) rfl (by exact .at hl)
  | wwCasOk t exp new obs f rest hl hlist =>
    exact invB_transfer hi ha t _ _ hl (transferSet_subset _ _ _)
  | semVWake t k r q hl hc => 
    refine invB_move hi ha rfl (fun q => by by_cases hq : q = r <;> simp [hq]) rfl ?_
    by_cases hz : (s.thr t).list.isEmpty = true <;> exact .at hl { wake := by simp_all }
  | semPdRetOkW t k hl | semPdRetOkC t k hl => exact invB_move hi ha rfl (fun q => ⟨rfl, rfl, rfl, rfl⟩) rfl (by exact .at hl)
  | wInit t r hl hm hst =>
    exact invB_foreign hi ha r _ (by simp [foreignOk, hst]) rfl (fun e => by rw [hst] at e; cases e)
  | nwInit t r hl hm hst =>
    exact invB_foreign hi ha r _ (by simp [foreignOk, hst]) rfl (fun e => by rw [hst] at e; cases e)
  | fStW t r new hl hf => exact invB_foreign hi ha r _ hf rfl (fun _ => Nat.le_refl _)
  | fCasOk t r exp new obs hl hf hn ho he =>
    exact invB_foreign hi ha r _ hf rfl (fun _ => by simp; omega)

/-- The record clauses follow each record through `RecTr`; the frames and `bad` are the rules' own lemmas. -/
theorem invB_tr {cfg : Config} {s s' : State} {e : Event} (ha : InvA s) (hi : InvB' f3 s) (h : Tr cfg s e s') :
    InvB' f3 s' :=
  .ofRec (fun q => (RecAB.of ha hi q).step (h.rcd ha hi q)) (frameB_tr ha hi h)

/-- The steps of the pinned cv.c that the repaired one does not have (`Proofs/CvFixOld.lean`). -/
theorem invB_old {f3 g : Bool} {s s' : State} {e : Event} (hi : InvB' f3 s) (ha : InvA s) (h : Old s e s' g) :
    InvB' (f3 || g) s' := by
  cases h with
  | same e => simpa using hi
  | sem e sem' => rw [Bool.or_false]; exact .ofRec (fun q => RecAB.of ha hi q) (invB_congr hi ha rfl rfl rfl)
  | deqLdQueued t r obs hl hr hw hst =>
    rw [Bool.or_false]
    refine .ofRec (fun q => ?_) (invB_deqLdQueued hi ha t r (s.thr t).wasQ hl hr)
    refine .one (s1 := { s with queue := s.queue.erase r }) rfl (RecAB.of ha hi q) fun e => ?_
    subst e
    exact (RecAB.of ha hi q).step (RecTr.selfOut (s := s) (s' := s) t .deqLd obs _ hst)
  | deqLdF3 t r obs u hl hr hw hst hlist =>
    rw [Bool.or_true]
    have hm := ((ha.thr t).mine r hr).1
    refine .ofRec (fun q => ?_) (invB_deqLdF3 hi.mono ha t r hl hr)
    refine .one (s1 := s) rfl (RecAB.of ha hi.mono q) fun e => ?_
    subst e
    constructor <;> simp [hst, hm]
  | deqLdBad t r obs hl hr hw hst hst2 => exact (deqLdBad_impossible hi ha t r hl hr hw hst hst2).elim

structure Inv (s : State) : Prop where
  a : InvA s
  b : InvB s

end NsyncVerif.CvFix
