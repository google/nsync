import NsyncVerif.Proofs.MuCTL
import NsyncVerif.Proofs.MuCFairAccepts
/-
  MuC, fair termination: what every accepted step keeps: the call in progress (`keep_step`), the invariant `InvRC`
  (the record a nsync_mu_wait caller sleeps on carries the condition of the call), mu->waiters while somebody else
  owns MU_SPINLOCK (`queue_frame`), the protected data (`data_step`).  An accepted event is a step of the library by a
  thread (`step_all`, Proofs/MuCTL.lean), a client data access (`data_step_eff`) or an event of no thread (`step_env`).
-/
namespace NsyncVerif.MuC

/-- Every accepted step keeps the call of every thread. -/
theorem keep_step {cfg : Cfg} {s s' : State} {e : Event} (h1 : Inv1 s) (hs : step cfg s e = .ok s') (u : Tid) :
    CallKeep (s.pc u) (s'.pc u) := by
  by_cases hu : e.tid = some u
  · cases hd : e.isData
    · exact (step_all h1 hs hu hd).keep
    · rcases data_step_eff hs hd with ⟨_, _, _, _, rfl⟩ | rfl <;> exact CallKeep.refl _
  · exact CallKeep.of_eq (step_other hs u hu).1

theorem InvRC.of_all {s s' : State} {t : Tid} {A : Prop} (h4 : Inv4 s) (h : InvRC s) (a : StepAll s s' t A) : InvRC s' := by
  intro u k c hl
  by_cases hu : u = t
  · subst hu
    rcases a.rc k c hl with e | ⟨e1, e2⟩
    · exact e
    · rw [e2]; exact h u k c e1
  · rw [(a.tl.oth u hu).1] at hl
    rcases a.tl.rc.r3 k with ⟨_, e⟩ | ⟨e1, e2⟩
    · rw [e]; exact h u k c hl
    · have hown := h4.own u k (condRec_mem_ws hl)
      rcases (a.tl.rc.r2 k e1 e2).2.1 with hk | hk
      · have := h4.own t k hk
        rw [hown] at this
        exact absurd (Option.some.inj this) hu
      · rw [hown] at hk; cases hk

theorem invRC_step {cfg : Cfg} {s s' : State} {e : Event} (h1 : Inv1 s) (h4 : Inv4 s) (h : InvRC s)
    (hs : step cfg s e = .ok s') : InvRC s' := by
  cases ht : e.tid with
  | none =>
    cases step_env hs ht
    · exact h.env (by intro x; simp [semPost, setFn]; split <;> simp_all) (by simp)
    · exact h.env (by intro x; simp [setFn]; split <;> simp_all) rfl
    · exact h.env (fun _ => rfl) rfl
  | some t =>
    cases hd : e.isData
    · exact InvRC.of_all h4 h (step_all h1 hs ht hd)
    · rcases data_step_eff hs hd with ⟨_, _, _, _, rfl⟩ | rfl <;> exact h.env (fun _ => rfl) rfl


theorem invRC_init : InvRC init := by
  intro t k c h; simp [init, PC.condRec] at h

theorem reachable_invRC {cfg : Cfg} {s : State} (h : Reachable cfg s) : InvRC s :=
  reachable_induction (P := InvRC) invRC_init
    (fun _ _ _ hr hp hs => invRC_step (reachable_inv1 hr) (reachable_inv4 hr) hp hs) s h

/-- The record a nsync_mu_wait waiter sleeps on carries the condition of the call. -/
theorem reachable_pd_cond {cfg : Cfg} {s : State} (h : Reachable cfg s) {t : Tid} {c : MW} {dl : Option Int} {k : Wid}
    (hp : s.pc t = .mwPdRet c dl) (hw : c.w = some k) : (s.wr k).cond = c.cond :=
  reachable_invRC h t k c.cond (by rw [hp]; simp [PC.condRec, hw])
variable {s s' : State} {t u : Tid}

/-- While thread `u` owns MU_SPINLOCK no step of anybody else (environment included) changes mu->waiters. -/
theorem queue_frame {cfg : Cfg} {e : Event} (h1 : Inv1 s) (h3 : Inv3 s) (hsp : s.sp = some u) (hs : step cfg s e = .ok s')
    (hne : e.tid ≠ some u) : s'.queue = s.queue := by
  cases ht : e.tid with
  | none => cases step_env hs ht <;> simp [semPost]
  | some t =>
    cases hd : e.isData
    · -- a step of another thread: it does not hold the spinlock, and the spinlock is taken
      rcases (step_all h1 hs ht hd).queue (h3.ok3 t) with q | q | q
      · exact q
      · have := (h3.own t).2 q
        rw [hsp] at this
        exact absurd (ht ▸ congrArg some (Option.some.inj this).symm) hne
      · have := h3.bit
        rw [hsp, q] at this
        cases this
    · rcases data_step_eff hs hd with ⟨_, _, _, _, rfl⟩ | rfl <;> rfl

/-- The protected data change only by a `dataW`. -/
theorem data_step {cfg : Cfg} {s s' : State} {e : Event} (h1 : Inv1 s) (hs : step cfg s e = .ok s')
    (hw : ∀ t x v, e ≠ .dataW t x v) : s'.data = s.data := by
  cases ht : e.tid with
  | none => cases step_env hs ht <;> simp [semPost]
  | some t =>
    cases hd : e.isData
    · exact (step_all h1 hs ht hd).tl.data
    · rcases data_step_eff hs hd with ⟨t, x, v, rfl, -⟩ | rfl
      · exact absurd rfl (hw t x v)
      · rfl

end NsyncVerif.MuC
