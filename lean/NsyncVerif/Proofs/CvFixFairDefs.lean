/-
  Layer `CvFix`, liveness (C04 / C05 fair wake-up and return): infinite executions of the CvFix
  acceptor, the enabledness / fairness notions, the hypotheses about the neighbouring layers, the
  FULL statements `C04_fair_wakeup_full` / `C05_fair_return_full`, and generic facts about `Exec`
  (the use of weak fairness `fair_move`, `inv_until`; the rules about time are in Proofs/Sched.lean).

  The choice of the notions is justified in the header of `Props/C04Fair.lean`.
-/
import NsyncVerif.Props.C04Fix
import NsyncVerif.Props.C05CvFix
import NsyncVerif.Props.C16CvObserver
import NsyncVerif.Proofs.Sched

namespace NsyncVerif.CvFix

/-- An infinite execution from `s0`; `σ i = none` means that nobody moves at time `i`. -/
structure Exec (cfg : Config) (s0 : State) where
  ρ : Nat → State
  σ : Nat → Option Event
  start : ρ 0 = s0
  next : ∀ i, match σ i with
    | none => ρ (i + 1) = ρ i
    | some e => step cfg (ρ i) e = .ok (ρ (i + 1))

/-- Thread `t` takes a step at time `j`: any accepted event of `t` (a failed CAS and a load of a spin
    loop count as steps) except `noteSeen t`, the mark "the thread has observed its cancel note
    notified", which the acceptor accepts at every program point (outside sem_wait.c as a no-op):
    it is an observation about the note layer, not a step of cv.c. -/
def Moves {cfg : Config} {s0 : State} (x : Exec cfg s0) (t : Tid) (j : Nat) : Prop :=
  ∃ e, x.σ j = some e ∧ e.tid = some t ∧ e ≠ .noteSeen t

/-- The thread is blocked in the semaphore wait of a cv wait. -/
def Loc.asleep : Loc → Bool
  | .wSemRet | .cWait => true
  | _ => false

/-- The semaphore wait of `t` can return: the count of its semaphore is positive, or the deadline
    handed to the semaphore wait has been reached. -/
def CanWake (s : State) (t : Tid) : Prop :=
  (∃ k, (s.thr t).r = .w k ∧ 0 < s.sem k) ∨ (∃ d, (s.thr t).semDl = some d ∧ d ≤ s.now)

/-- Program points at which the thread executes code of ANOTHER layer, or of the client: the waiter
    pool (`wNew`: nsync_waiter_new_; `wExit`: nsync_waiter_free_ and the call of the lock function),
    the caller's mutex (`wUnlocking`, `wLocking`, `wRelocking`), the note code called by
    sem_wait.c (`cPre`, `cPost`), nsync_wait_n outside cv_enqueue / cv_dequeue (`nOut`).  At all of
    them the acceptor accepts any number of foreign accesses (`Loc.isOpen`), so "the thread moves"
    says nothing about its progress: whether it comes back is a hypothesis about that layer. -/
def Loc.foreign : Loc → Bool
  | .wNew | .wUnlocking | .wExit | .wLocking | .wRelocking | .cPre | .cPost | .nOut => true
  | _ => false

/-- Inside the mutex-word release loop of wake_waiters (cv.c:130-134). -/
def Loc.muRel : Loc → Bool
  | .wwRelLd | .wwRelCas | .wwRelLd2 => true
  | _ => false

/-- Inside the caller's mutex code, or about to call it after the wait loop. -/
def Loc.inMutex : Loc → Bool
  | .wUnlocking | .wExit | .wLocking | .wRelocking => true
  | _ => false

/-- Inside nsync_sem_wait_with_cancel_, outside the semaphore wait. -/
def Loc.inCancel : Loc → Bool
  | .cPre | .cPost => true
  | _ => false

/-- Inside nsync_cv_signal / nsync_cv_broadcast. -/
def inWake (x : Thr) : Bool :=
  match x.loc with
  | .sLd | .sRcLd | .sRcCas | .sRel | .wwMuLd | .wwMuCas | .wwRelLd | .wwRelCas | .wwRelLd2
  | .wwStore | .wwV | .kRet => true
  | .spLd0 | .spLd2 | .spCas => x.cont == .sig
  | _ => false

/-- Inside nsync_cv_wait_with_deadline[_generic]. -/
def inWait (x : Thr) : Bool :=
  waitLive x || waitPrep x ||
    (match x.loc with
     | .wNew | .wExit | .wLocking | .wRelocking | .wRet => true
     | _ => false)

theorem Loc.spinLoop_cases {l : Loc} (h : l.spinLoop = true) : l = .spLd0 ∨ l = .spLd2 ∨ l = .spCas := by
  cases l <;> first | (simp; done) | cases h

/-- The layers a `foreign` program point belongs to. -/
theorem Loc.foreign_cases {l : Loc} (h : l.foreign = true) :
    l.inMutex = true ∨ l.inCancel = true ∨ l = .wNew ∨ l = .nOut := by
  cases l <;> first | (simp [Loc.inMutex, Loc.inCancel]; done) | cases h

theorem afterLoop_inWait {x : Thr} (h : x.loc.afterLoop = true) : inWait x = true := by
  rcases Loc.afterLoop_cases h with h | h | h | h <;> simp [inWait, h]

theorem waitLive_inWait {x : Thr} (h : waitLive x = true) : inWait x = true := by
  simp [inWait, h]

/-- Inside the test-and-set loop the continuation says which call the thread is in. -/
theorem inWait_spin_iff {x : Thr} (h : x.loc.spinLoop = true) :
    inWait x = true ↔ x.cont = .waitChk ∨ x.cont = .waitEnq := by
  rcases Loc.spinLoop_cases h with h | h | h <;> simp [inWait, waitLive, waitPrep, h]

theorem waitLive_spin_iff {x : Thr} (h : x.loc.spinLoop = true) : waitLive x = true ↔ x.cont = .waitChk := by
  rcases Loc.spinLoop_cases h with h | h | h <;> simp [waitLive, h]

/-- `t` is inside a call, executes code of THIS layer (cv.c, the spin loop of common.c, debug.c), and
    is not inside the semaphore wait.  At such a program point the only accepted events of `t` are
    the next operation of that code (and the no-op `noteSeen t`). -/
def Ready (s : State) (t : Tid) : Prop :=
  (s.thr t).loc ≠ .idle ∧ (s.thr t).loc.foreign = false ∧ (s.thr t).loc.asleep = false

/-- `Ready`: inside cv.c / the spin loop / debug.c (`isOpen = false`) and not asleep. -/
theorem ready_iff {s : State} {t : Tid} :
    Ready s t ↔ (s.thr t).loc.isOpen = false ∧ (s.thr t).loc ≠ .wSemRet := by
  unfold Ready
  cases (s.thr t).loc <;> simp [Loc.isOpen, Loc.foreign, Loc.asleep]

theorem ready_not_open {s : State} {t : Tid} (h : Ready s t) : (s.thr t).loc.isOpen = false :=
  (ready_iff.mp h).1

theorem spinLoop_not_open {l : Loc} (h : l.spinLoop = true) : l.isOpen = false := by
  rcases Loc.spinLoop_cases h with h | h | h <;> rw [h] <;> rfl

theorem spin_ready {s : State} {t : Tid} (h : (s.thr t).loc.spinLoop = true) : Ready s t :=
  ready_iff.mpr ⟨spinLoop_not_open h, fun h' => by rw [h'] at h; cases h⟩

/-- Weak fairness on each thread's next step: a thread that from time `i` on is continuously
    `Ready` moves at some time `j ≥ i`. -/
def WeakFair {cfg : Config} {s0 : State} (x : Exec cfg s0) : Prop :=
  ∀ t i, (∀ j, i ≤ j → Ready (x.ρ j) t) → ∃ j, i ≤ j ∧ Moves x t j

/-- The semaphore layer (C12's guarantee "a post is never lost: a P whose post has been made
    eventually returns", and its timeout): no thread stays inside its semaphore wait for ever if from
    some time on the wait can return (`CanWake`: count positive, or deadline reached). -/
def SemFair {cfg : Config} {s0 : State} (x : Exec cfg s0) : Prop :=
  ∀ t i, (∀ j, i ≤ j → ((x.ρ j).thr t).loc.asleep = true ∧ CanWake (x.ρ j) t) → False

/-- Strong fairness of the acquisition of the cv spinlock (a test-and-set lock): no thread stays in
    `nsync_spin_test_and_set_` for ever while the spinlock is free again and again. -/
def SpinFair {cfg : Config} {s0 : State} (x : Exec cfg s0) : Prop :=
  ∀ t i, (∀ j, i ≤ j → ((x.ρ j).thr t).loc.spinLoop = true) →
    (∀ j, i ≤ j → ∃ j', j ≤ j' ∧ (x.ρ j').holder = none) → False

/-- wake_waiters releases the MUTEX's spinlock (which it took at cv.c:67) by a CAS loop on the mutex
    word (cv.c:130-134).  The mutex word is abstract in this layer (every observed value is
    accepted), so that the loop ends is a hypothesis: no thread stays in it for ever. -/
def MuRelFair {cfg : Config} {s0 : State} (x : Exec cfg s0) : Prop :=
  ∀ t i, (∀ j, i ≤ j → ((x.ρ j).thr t).loc.muRel = true) → False

/-- The caller's mutex (C02's guarantee, imported): a thread that is releasing it (`wUnlocking`),
    has left the wait loop (`wExit`) or is re-acquiring it (`wLocking`, `wRelocking`) eventually
    gets to its next program point. -/
def MutexFair {cfg : Config} {s0 : State} (x : Exec cfg s0) : Prop :=
  ∀ t i, ((x.ρ i).thr t).loc.inMutex = true → ∃ j, i ≤ j ∧ ((x.ρ j).thr t).loc ≠ ((x.ρ i).thr t).loc

/-- The waiter pool: nsync_waiter_new_ returns (the thread performs cv.c:201). -/
def AllocFair {cfg : Config} {s0 : State} (x : Exec cfg s0) : Prop :=
  ∀ t i, ((x.ρ i).thr t).loc = .wNew → ∃ j, i ≤ j ∧ ((x.ρ j).thr t).loc ≠ .wNew

/-- The note code called by nsync_sem_wait_with_cancel_ returns. -/
def CancelFair {cfg : Config} {s0 : State} (x : Exec cfg s0) : Prop :=
  ∀ t i, ((x.ρ i).thr t).loc.inCancel = true → ∃ j, i ≤ j ∧ ((x.ρ j).thr t).loc ≠ ((x.ρ i).thr t).loc

/-- sem_wait.c:40-50: a thread that has observed its cancel note notified does not start a
    semaphore wait (the acceptor, for which the note is flat, does not enforce this). -/
def NoSleepAfterNotify {cfg : Config} {s0 : State} (x : Exec cfg s0) : Prop :=
  ∀ j t k dl, x.σ j = some (.semPdEnter t k dl) → ((x.ρ j).thr t).loc = .cPre →
    ((x.ρ j).thr t).sawNote = false

/-- The note layer: a thread asleep in the semaphore wait of a cancellable wait whose note it has
    observed notified is woken (nsync_note_notify posts `nw.sem = &w->sem`). -/
def NoteWakes {cfg : Config} {s0 : State} (x : Exec cfg s0) : Prop :=
  ∀ t i, ((x.ρ i).thr t).loc = .cWait → ((x.ρ i).thr t).sawNote = true →
    ∃ j, i ≤ j ∧ ((x.ρ j).thr t).loc ≠ .cWait

/-- The clock passes every finite deadline a sleeper waits for. -/
def ClockAdvances {cfg : Config} {s0 : State} (x : Exec cfg s0) : Prop :=
  ∀ t i d, ((x.ρ i).thr t).loc.asleep = true → ((x.ρ i).thr t).semDl = some d →
    ∃ j, i ≤ j ∧ d ≤ (x.ρ j).now

/-- The mutex layer wakes a transferred waiter: a record with status `xfer` gets the foreign store
    `waiting := 0` and its V.  State form: from some time on, as long as the record is `xfer`, its
    `waiting` flag is 0 and, while its owner is asleep on the semaphore, the count is positive. -/
def TransferFair {cfg : Config} {s0 : State} (x : Exec cfg s0) : Prop :=
  ∀ k i, ((x.ρ i).recs (.w k)).stat = .xfer → ∃ j, i ≤ j ∧ ∀ j', j ≤ j' →
    ((x.ρ j').recs (.w k)).stat = .xfer →
      ((x.ρ j').recs (.w k)).waiting = false ∧
      (((x.ρ j').thr ((x.ρ j').recs (.w k)).owner).loc.asleep = true → 0 < (x.ρ j').sem k)

/-- A semaphore is private to its waiter: the V of a waker of this cv is not consumed by anybody
    but the owner of the record (the acceptor accepts `sem p_ret` on any semaphore from any thread
    outside cv.c).  State form: a woken and posted record whose owner is (still) asleep on the
    semaphore has a positive count. -/
def PostKept {cfg : Config} {s0 : State} (x : Exec cfg s0) : Prop :=
  ∀ j k, ((x.ρ j).recs (.w k)).stat = .woken → ((x.ρ j).recs (.w k)).posted = true →
    ((x.ρ j).thr ((x.ρ j).recs (.w k)).owner).loc.asleep = true →
    ((x.ρ j).thr ((x.ρ j).recs (.w k)).owner).r = .w k → 0 < (x.ρ j).sem k

/-- Every thread suffers only finitely many spurious returns of its semaphore wait (a return with 0
    while `waiting` is still 1: a stray V on its semaphore by another layer, or by a late waker of
    an earlier instance of the pooled waiter). -/
def FiniteSpurious {cfg : Config} {s0 : State} (x : Exec cfg s0) : Prop :=
  ∀ t, ∃ n, ∀ j k, n ≤ j → x.σ j = some (.semPdRet t k false) → ((x.ρ j).thr t).loc.asleep = true →
    ((x.ρ j).recs ((x.ρ j).thr t).r).waiting = false

/-- All hypotheses about the schedule and the neighbouring layers. -/
structure Hyps {cfg : Config} {s0 : State} (x : Exec cfg s0) : Prop where
  reach : Reachable cfg s0
  weak : WeakFair x
  spin : SpinFair x
  muRel : MuRelFair x

/-- … and those needed by a waiter. -/
structure WaitHyps {cfg : Config} {s0 : State} (x : Exec cfg s0) : Prop extends Hyps x where
  sem : SemFair x
  mutex : MutexFair x
  alloc : AllocFair x
  cancel : CancelFair x
  transfer : TransferFair x
  kept : PostKept x
  finSp : FiniteSpurious x

/-- The acquisition of the cv spinlock by signal (`b = false`) / broadcast (`b = true`) at time `i`. -/
def WakerAcquires {cfg : Config} {s0 : State} (x : Exec cfg s0) (t : Tid) (b : Bool) (i : Nat) : Prop :=
  (∃ exp new obs, x.σ i = some (.wordCas t exp new obs true)) ∧
    ((x.ρ i).thr t).cont = .sig ∧ ((x.ρ i).thr t).bcast = b

/-- `r` is eventually transferred to the mutex queue, or woken: some waker of this cv performs the V
    for it (`cur = some (r, _)` holds exactly between that waker's store `waiting := 0` into `r` and
    its V: invariant `InvE.curLoc`).  (Not "status `woken` and posted": the owner may see
    `waiting = 0` and leave before the V.) -/
def EventuallyWoken {cfg : Config} {s0 : State} (x : Exec cfg s0) (r : Rid) (i : Nat) : Prop :=
  ∃ j, i ≤ j ∧ (((x.ρ j).recs r).stat = .xfer ∨
    ∃ u q k, ((x.ρ j).thr u).cur = some (r, q) ∧ x.σ j = some (.semV u k))

/-- FULL statement of C04, liveness form.
    (1) every nsync_cv_signal / nsync_cv_broadcast call returns;
    (2) broadcast: every record on `pcv->waiters` when the broadcast takes the spinlock is
        eventually woken or transferred, and if it is the record of a cv wait (pooled waiter) its
        owner's call returns, with result 0 (`C04_outcome_partial`: it was unlinked by a waker);
    (3) signal: the same for every record of `sigSelect` (the first waiter; all readers if the
        first is a reader) — in particular for the first one: at least one. -/
def C04_fair_wakeup_full : Prop :=
  ∀ (cfg : Config) (s0 : State) (x : Exec cfg s0), WaitHyps x →
    (∀ t i, inWake ((x.ρ i).thr t) = true →
      ∃ j, i ≤ j ∧ (x.σ j = some (.retSignal t) ∨ x.σ j = some (.retBroadcast t))) ∧
    (∀ t i, WakerAcquires x t true i → ∀ r, r ∈ (x.ρ i).queue →
      EventuallyWoken x r i ∧
      (r.isMucv = true → ∃ j, i ≤ j ∧ x.σ j = some (.retWait ((x.ρ i).recs r).owner .ok))) ∧
    (∀ t i, WakerAcquires x t false i →
      (∀ f rest, (x.ρ i).queue = f :: rest → f ∈ sigSelect (x.ρ i).recs (x.ρ i).queue) ∧
      ∀ r, r ∈ sigSelect (x.ρ i).recs (x.ρ i).queue →
        EventuallyWoken x r i ∧
        (r.isMucv = true → ∃ j, i ≤ j ∧ x.σ j = some (.retWait ((x.ρ i).recs r).owner .ok)))

/-- The record of `t`'s wait has been unlinked by a waker ("covered by a wake-up"). -/
def Covered (s : State) (t : Tid) : Prop :=
  waitLive (s.thr t) = true ∧
    ((∃ u, (s.recs (s.thr t).r).stat = .listed u) ∨ (s.recs (s.thr t).r).stat = .woken ∨
     (s.recs (s.thr t).r).stat = .xfer)

/-- FULL statement of C05, liveness form: a cv wait returns
    (a) once the clock has passed its deadline, even if never signalled (finitely many spurious
        wake-ups), with result 0 or ETIMEDOUT;
    (b) once its thread has observed the cancel note notified (`noteSeen`, the model's cancel event),
        with result 0 or ECANCELED or ETIMEDOUT;
    (c) with neither: if it is ever covered by a wake-up, with result 0. -/
def C05_fair_return_full : Prop :=
  ∀ (cfg : Config) (s0 : State) (x : Exec cfg s0), WaitHyps x →
    (∀ t i d, inWait ((x.ρ i).thr t) = true → ((x.ρ i).thr t).dl = some d → d ≤ (x.ρ i).now →
      ∃ j res, i ≤ j ∧ x.σ j = some (.retWait t res) ∧ (res = .ok ∨ res = .timedOut ∨ res = .cancelled)) ∧
    (NoSleepAfterNotify x → NoteWakes x →
      ∀ t i, inWait ((x.ρ i).thr t) = true → ((x.ρ i).thr t).note = true →
        ((x.ρ i).thr t).sawNote = true → ∃ j res, i ≤ j ∧ x.σ j = some (.retWait t res)) ∧
    (∀ t i, Covered (x.ρ i) t → ∃ j, i ≤ j ∧ x.σ j = some (.retWait t .ok))

variable {cfg : Config} {s0 : State}

theorem Exec.next_none (x : Exec cfg s0) {i : Nat} (h : x.σ i = none) : x.ρ (i + 1) = x.ρ i := by
  have := x.next i; rw [h] at this; exact this

theorem Exec.next_some (x : Exec cfg s0) {i : Nat} {e : Event} (h : x.σ i = some e) :
    step cfg (x.ρ i) e = .ok (x.ρ (i + 1)) := by
  have := x.next i; rw [h] at this; exact this

theorem Exec.reach (x : Exec cfg s0) (hr : Reachable cfg s0) : ∀ i, Reachable cfg (x.ρ i) := fun i =>
  Sched.along x.next_none x.next_some (fun _ _ _ h hs => reachable_step h hs) (i := 0)
    (by rw [x.start]; exact hr) i (Nat.zero_le i)

/-- Weak fairness enters the proofs only here: a thread that stays `Ready` as long as it does not
    move, moves. -/
theorem fair_move (x : Exec cfg s0) (hf : WeakFair x) {t : Tid} {i : Nat}
    (h : ∀ j, i ≤ j → (∀ j', i ≤ j' → j' < j → ¬ Moves x t j') → Ready (x.ρ j) t) :
    ∃ j, i ≤ j ∧ Moves x t j :=
  Sched.moves_of_fair (hf t i) h

theorem inv_until {R G : Nat → Prop} (hstep : ∀ j, R j → G (j + 1) ∨ R (j + 1)) {i : Nat} (h : R i) :
    ∀ d, (∃ j, i ≤ j ∧ G j) ∨ R (i + d) := by
  intro d
  induction d with
  | zero => exact .inr h
  | succ d ih =>
    rcases ih with h' | h'
    · exact .inl h'
    · rcases hstep (i + d) h' with h'' | h''
      · exact .inl ⟨i + d + 1, by omega, h''⟩
      · exact .inr h''

end NsyncVerif.CvFix
