/-
  Proofs/WaitNQOther.lean — the facts `CF` of a caller survive the steps of other threads.
-/
import NsyncVerif.Proofs.WaitNQUpd


namespace WaitN

theorem holdsAt_sem (p : PC) (f : Frame) (v) : holdsAt p { f with sem := v } = holdsAt p f := by
  cases p with
  | wEnq i st => cases st <;> rfl
  | wDeq j st => cases st <;> rfl
  | wND u i st => cases st <;> rfl
  | _ => rfl
theorem freshAt_sem (p : PC) (f : Frame) (v) : freshAt p { f with sem := v } = freshAt p f := by
  cases p with
  | wEnqCv i st => cases st <;> rfl
  | wEnq i st => cases st <;> rfl
  | _ => rfl
theorem clearedAt_sem (p : PC) (f : Frame) (v) : clearedAt p { f with sem := v } = clearedAt p f := by
  cases p with
  | wDeq j st => cases st <;> rfl
  | wDeqCv j st => cases st <;> rfl
  | _ => rfl
theorem enqTrueAt_sem (p : PC) (f : Frame) (v) : enqTrueAt p { f with sem := v } = enqTrueAt p f := by
  cases p with
  | wEnq i st => cases st with
    | store b => cases b <;> rfl
    | unlockCall b => cases b <;> rfl
    | _ => rfl
  | _ => rfl
theorem dqIdx_sem (p : PC) (f : Frame) (v) : dqIdx p { f with sem := v } = dqIdx p f := by
  cases p with
  | wND u i st => cases u <;> rfl
  | wDeq j st => cases st <;> rfl
  | _ => rfl

/-- membership of the held object in the call's object list -/
theorem holdsAt_mem {p : PC} {f : Frame} {o : ObjId} (h : holdsAt p f = some o) : o ∈ f.objs := by
  cases p with
  | wEnq i st => cases st <;> simp [holdsAt] at h <;> exact List.mem_of_getElem? h
  | wDeq j st => cases st <;> simp [holdsAt] at h <;> exact List.mem_of_getElem? h
  | wND u i st => cases st <;> simp [holdsAt] at h <;> exact List.mem_of_getElem? h
  | _ => simp [holdsAt] at h

theorem holdsAt_inCall {p : PC} {f : Frame} {o : ObjId} (h : holdsAt p f = some o) : inCall p = true := by
  cases p <;> simp [holdsAt] at h <;> rfl

theorem freshAt_mem {p : PC} {f : Frame} {r : Rid} (h : freshAt p f = some r) : r ∈ f.recs ∧ inCall p = true := by
  cases p with
  | wEnqCv i st => cases st <;> simp [freshAt] at h <;> exact ⟨List.mem_of_getElem? h, rfl⟩
  | wEnq i st => cases st <;> simp [freshAt] at h <;> exact ⟨List.mem_of_getElem? h, rfl⟩
  | _ => simp [freshAt] at h

theorem clearedAt_mem {p : PC} {f : Frame} {r : Rid} (h : clearedAt p f = some r) : r ∈ f.recs ∧ inCall p = true := by
  cases p with
  | wDeq j st => cases st <;> simp [clearedAt] at h <;> exact ⟨List.mem_of_getElem? h, rfl⟩
  | wDeqCv j st => cases st <;> simp [clearedAt] at h <;> exact ⟨List.mem_of_getElem? h, rfl⟩
  | _ => simp [clearedAt] at h

theorem enqTrueAt_holds {p : PC} {f : Frame} {o : ObjId} (h : enqTrueAt p f = some o) : holdsAt p f = some o := by
  cases p with
  | wEnq i st => cases st with
    | store b => cases b <;> simp [enqTrueAt] at h <;> simpa [holdsAt] using h
    | unlockCall b => cases b <;> simp [enqTrueAt] at h <;> simpa [holdsAt] using h
    | _ => simp [enqTrueAt] at h
  | _ => simp [enqTrueAt] at h

/-- frees = 0 at the program points where the caller still works on its records -/
theorem frees_of_freshOrCleared {p : PC} {f : Frame} (hl : LInv p f) (h : (freshAt p f).isSome ∨ (clearedAt p f).isSome) :
    f.frees = 0 := by
  rcases frees_of_linv hl with h1 | h1
  · cases p <;> simp [PostPc, freshAt, clearedAt] at h1 h
  · exact h1

theorem cf_other {s s' : State} {t u : Tid} {e : Ev} (hne : u ≠ t) (ho : Own s)
    (hl : ∀ x, LInv (s.pc x) (s.fr x)) (hcf : CF s u) (hs : stepThr s t e = .ok s') : CF s' u := by
  obtain ⟨h1, _, _, h4⟩ := others_stepThr hs u hne
  have f2 := frame2_stepThr (hl t) hs
  have m := mono_stepThr hs
  -- a record of u's frame is not one t may enqueue
  have notEnq : ∀ r, r ∈ (s.fr u).recs → inCall (s.pc u) = true → (s.fr u).frees = 0 →
      (s.rcd r).waiting = false → (s'.rcd r).waiting = false := by
    intro r hr hc hf hw
    cases hw' : (s'.rcd r).waiting with
    | false => rfl
    | true =>
      exact absurd (ho.waiting_set (hl t) m hc hf hr hw hw').1.symm hne
  have hfr : s'.fr u = { s.fr u with sem := (s'.fr u).sem } := h4
  constructor
  · intro o hh
    rw [h1, hfr, holdsAt_sem] at hh
    obtain ⟨a1, a2⟩ := hcf.holds o hh
    have hk := ho.known u (holdsAt_inCall hh) o (holdsAt_mem hh)
    have hlk : (s.obj o).lock ≠ some t := by rw [a1]; intro h; cases h; exact hne rfl
    obtain ⟨b1, b2⟩ := f2.obj o hk hlk
    refine ⟨?_, ?_⟩
    · rcases f2.lock o with h | ⟨h, _⟩ | ⟨h, _⟩
      · rw [h]; exact a1
      · rw [a1] at h; cases h
      · rw [a1] at h; cases h; exact absurd rfl hne
    · rw [h1]; intro hn hw; rw [b1]; exact a2 hn (b2 ▸ hw)
  · intro r hh
    rw [h1, hfr, freshAt_sem] at hh
    have hm := freshAt_mem hh
    exact notEnq r hm.1 hm.2 (frees_of_freshOrCleared (hl u) (.inl (by rw [hh]; rfl))) (hcf.fresh r hh)
  · intro r hh
    rw [h1, hfr, clearedAt_sem] at hh
    have hm := clearedAt_mem hh
    exact notEnq r hm.1 hm.2 (frees_of_freshOrCleared (hl u) (.inr (by rw [hh]; rfl))) (hcf.cleared r hh)
  · intro o hh
    rw [h1, hfr, enqTrueAt_sem] at hh
    obtain ⟨a1, a2⟩ := hcf.enqT o hh
    have hh' := enqTrueAt_holds hh
    have hlo := (hcf.holds o hh').1
    have hk := ho.known u (holdsAt_inCall hh') o (holdsAt_mem hh')
    have hlk : (s.obj o).lock ≠ some t := by rw [hlo]; intro h; cases h; exact hne rfl
    obtain ⟨b1, b2⟩ := f2.obj o hk hlk
    exact ⟨by rw [b2]; exact a1, fun n hn => by rw [m.expiry o hk]; exact a2 n hn⟩
  · intro hc hf k r hr
    rw [h1] at hc ⊢
    rw [hfr] at hf hr ⊢
    simp only at hf hr
    rw [dqIdx_sem]
    have hmem := List.mem_of_getElem? hr
    have hlo := ho.own u r hc hf hmem
    rcases f2.rcd r hlo.1 with ⟨_, _, _, hd⟩ | ⟨hrt, hct, hft⟩
    · rw [hd]; exact hcf.dq hc hf k r hr
    · exact absurd (hlo.2.symm.trans (ho.own t r hct hft hrt).2) hne

end WaitN
