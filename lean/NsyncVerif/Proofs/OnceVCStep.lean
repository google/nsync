/-
  Layer `Once` × vector clocks: the edge invariant `VInv` is preserved by every accepted event.
-/
import NsyncVerif.Proofs.OnceVC

namespace Once
open NsyncVerif

theorem cstep_mono (c : VC.St OnceId) (e : Event) (u : Tid) :
    VC.Clock.le (c.vc u) ((cstep c e).vc u) := by
  rw [cstep_eq]; exact VC.stepO_mono _ _ u

variable {s s' : State} {c : VC.St OnceId} {ec : OnceId → VC.Clock} {e : Event} {t : Tid}
  {p p' : PC}

/-- Thread `t` moves from `p` to `p'` while `ec` stays: a claim of `p'` is a claim of `p` (by
    evaluation, the default; clocks only grow) or is covered by `t`'s new clock; where the word is
    2 it was 2 with the same release clock (by evaluation, unless the event writes the word), or
    the new one covers `ec`. -/
theorem VInv.move (hv : VInv ⟨s, c, ec⟩) (hp : s.pc t = p) (hpc : s'.pc = upd s.pc t p')
    (hL : ∀ o, p'.Leaving o → p.Leaving o ∨ VC.Clock.le (ec o) ((cstep c e).vc t) := by
      exact fun _ => .inl)
    (hA : ∀ o, p'.AfterCb o → p.AfterCb o ∨ VC.Clock.le (ec o) ((cstep c e).vc t) := by
      exact fun _ => .inl)
    (hR : ∀ o, s'.word o = 2 → s.word o = 2 ∧ (cstep c e).relc o = c.relc o ∨
      VC.Clock.le (ec o) ((cstep c e).relc o) := by exact fun _ h => .inl ⟨h, rfl⟩) :
    VInv ⟨s', cstep c e, ec⟩ := by
  subst hp
  refine ⟨fun o h => ?_, fun u o h => ?_, fun u o h => ?_⟩ <;> dsimp only at h ⊢
  · rcases hR o h with ⟨h2, hr⟩ | h'
    · rw [hr]; exact hv.relc o h2
    · exact h'
  · rw [hpc] at h
    by_cases hu : u = t
    · subst hu; rw [upd_same] at h
      exact (hL o h).elim (fun h' => VC.Clock.le_trans (hv.leaving u o h') (cstep_mono _ _ _)) id
    · rw [upd_ne _ hu] at h; exact VC.Clock.le_trans (hv.leaving u o h) (cstep_mono _ _ _)
  · rw [hpc] at h
    by_cases hu : u = t
    · subst hu; rw [upd_same] at h
      exact (hA o h).elim (fun h' => VC.Clock.le_trans (hv.afterCb u o h') (cstep_mono _ _ _)) id
    · rw [upd_ne _ hu] at h; exact VC.Clock.le_trans (hv.afterCb u o h) (cstep_mono _ _ _)

/-- An acquire load of `o` that observes 2 imports the end of the once-function of `o`. -/
theorem VInv.ld_acq {fn : Fn} {o : OnceId} {obs : Nat} (hv : VInv ⟨s, c, ec⟩) (hw : s.word o = 2) :
    VC.Clock.le (ec o) ((cstep c (.ld t fn .acq o obs)).vc t) := by
  rw [cstep_ld_acq]; dsimp only; rw [VC.upd_same]
  exact VC.Clock.le_join_of_le_right (hv.relc o hw)

theorem afterCb_inW {p : PC} {o : OnceId} (h : p.AfterCb o) : p.InW o := by
  cases p <;> first | exact h | cases h

theorem vinv_step {cfg : Config} {p p' : PState} {e : Event} (hi : Inv cfg p.s) (hv : VInv p)
    (h : pstep cfg p e = .ok p') : VInv p' := by
  obtain ⟨s, c, ec⟩ := p
  obtain ⟨s', hs, rfl⟩ := pstep_ok h
  dsimp only at hi hs ⊢
  cases step_ok hs with
  | skip hn =>
    -- a skipped event is neither an atomic event nor a `cb … end`
    cases e <;> first | exact hv | cases hn
  | outerLd hp =>
    split
    · next hw => exact hv.move hp rfl (hL := fun _ h => .inr (h ▸ hv.ld_acq hw))
    · exact hv.move hp rfl
  | implLd hp =>
    unfold afterLoc
    split
    · next hw => exact hv.move hp rfl (hL := fun _ h => .inr (h ▸ hv.ld_acq hw))
    split
    · exact hv.move hp rfl
    split <;> exact hv.move hp rfl
  | casReload hp => unfold afterLoc; split <;> exact hv.move hp rfl
  | waitLd hp =>
    split <;> split
    · next hw _ => exact hv.move hp rfl (hL := fun _ h => .inr (h ▸ hv.ld_acq hw))
    · next hw _ => exact hv.move hp rfl (hL := fun _ h => .inr (h ▸ hv.ld_acq hw))
    · exact hv.move hp rfl
    · exact hv.move hp rfl
  | @casOk t f hp hw =>
    -- the word becomes 1; the read-modify-write keeps the release clocks
    have hR : ∀ o, upd s.word f.o 1 o = 2 → s.word o = 2 ∧
        (cstep c (.cas t .impl .acq f.o 0 1 0 true)).relc o = c.relc o := fun o h => by
      have ho : o ≠ f.o := by rintro rfl; rw [upd_same] at h; cases h
      rw [upd_ne _ ho] at h
      exact ⟨h, by rw [cstep_cas_acq_ok]; exact VC.upd_other _ _ ho⟩
    split <;> exact hv.move hp rfl (hR := fun o h => .inl (hR o h))
  | @store t f hp =>
    -- the release store publishes the winner's clock, which covers the end of the function
    refine hv.move hp rfl (hA := nofun) (hR := fun o h => ?_)
    rw [cstep_st_rel]
    by_cases ho : o = f.o
    · subst ho; exact .inr (by dsimp only; rw [VC.upd_same]; exact hv.afterCb t _ (by rw [hp]; rfl))
    · exact .inl ⟨(upd_ne _ ho).symm.trans h, VC.upd_other _ _ ho⟩
  | @cbEnd t f hp =>
    -- `ec f.o` becomes `t`'s clock; `t` is the winner of `f.o` and the word of `f.o` is 1, so no
    -- other claim is about `f.o`
    have hw := hi.inW t f.o (by rw [hp]; rfl)
    have hec : endUpd s c ec (.cbEnd t f.arg) = upd ec f.o (c.vc t) := by simp only [endUpd, hp]
    rw [hec]
    refine ⟨fun o h => ?_, fun u o h => ?_, fun u o h => ?_⟩ <;> dsimp only [State.setPc] at h ⊢
    · have ho : o ≠ f.o := by rintro rfl; omega
      rw [upd_ne _ ho]; exact hv.relc o h
    · by_cases hu : u = t
      · subst hu; rw [upd_same] at h; split at h <;> cases h
      · rw [upd_ne _ hu] at h
        have ho : o ≠ f.o := by rintro rfl; have := hi.leaving u _ h; omega
        rw [upd_ne _ ho]; exact hv.leaving u o h
    · by_cases hu : u = t
      · subst hu; rw [upd_same] at h
        have ho : f.o = o := by split at h <;> exact h
        subst ho; rw [upd_same]; exact VC.Clock.le_refl _
      · rw [upd_ne _ hu] at h
        have ho : o ≠ f.o := by
          rintro rfl
          exact hu (Option.some.inj ((hi.inW u _ (afterCb_inW h)).2.symm.trans hw.2))
        rw [upd_ne _ ho]; exact hv.afterCb u o h
  | lock1Ret hp _ => unfold afterLoc; split <;> exact hv.move hp rfl
  -- the other events leave the clocks alone; the new pc claims what the old one claimed
  | ret hp => exact hv.move hp rfl (hL := nofun)
  | call hp | cbStart hp | lock1Call hp | wUnlockRet hp | wLockCall hp | wBcastCall hp
  | wBcastRet hp | fUnlockRet hp | casFail hp _ | wUnlockCall hp _ | cvWaitCall hp _
  | cvWaitRet hp _ | wLockRet hp _ | fUnlockCall hp _ => exact hv.move hp rfl

end Once
