/-
  Layer `Note`, invariant P (creation-time paths): the ghost list `ancEver n` is exactly the chain
  of creation-time parents of `n` (`cparent`), and the ghost `pathMin n` — what `nsync_note_new`
  is meant to store in `expiry_time` — is the minimum, over that chain, of the deadlines passed to
  `nsync_note_new` (`ownDl`).
-/
import NsyncVerif.Proofs.NoteInvX


namespace Note

/-- Minimum of a list of deadlines (`none` = `nsync_time_no_deadline`, the top element). -/
def Dl.minList : List Dl → Dl
  | [] => none
  | d :: ds => Dl.min d (Dl.minList ds)

/-- The deadlines passed to `nsync_note_new` for `n` and for the notes on its creation-time path
    to the root. -/
def State.pathDeadlines (s : State) (n : NoteId) : List Dl := (s.ancEver n).map s.ownDl

theorem Dl.min_none_right (a : Dl) : Dl.min a none = a := by
  cases a <;> simp [Dl.min, Dl.lt]

theorem Dl.min_cases (a b : Dl) : Dl.min a b = a ∨ Dl.min a b = b := by
  unfold Dl.min; split
  · right; rfl
  · left; rfl

/-- `Dl.min a b` is below both arguments. -/
theorem Dl.min_le_left (a b : Dl) : Dl.lt a (Dl.min a b) = false := by
  unfold Dl.min; split
  · next h =>
    cases a <;> cases b <;> simp_all [Dl.lt]
    omega
  · cases a <;> simp [Dl.lt]

theorem Dl.min_le_right (a b : Dl) : Dl.lt b (Dl.min a b) = false := by
  unfold Dl.min; split
  · cases b <;> simp [Dl.lt]
  · next h => simpa using h

theorem Dl.lt_trans_false {a b c : Dl} (h1 : Dl.lt b a = false) (h2 : Dl.lt c b = false) :
    Dl.lt c a = false := by
  cases a <;> cases b <;> cases c <;> simp_all [Dl.lt]
  omega

/-- The minimum of a non-empty list is one of its elements … -/
theorem Dl.minList_mem {l : List Dl} (h : l ≠ []) : Dl.minList l ∈ l := by
  induction l with
  | nil => exact absurd rfl h
  | cons d ds ih =>
    simp only [Dl.minList]
    cases ds with
    | nil => simp [Dl.minList, Dl.min_none_right]
    | cons d' ds' =>
      rcases Dl.min_cases d (Dl.minList (d' :: ds')) with h1 | h1
      · rw [h1]; exact List.mem_cons_self
      · rw [h1]; exact List.mem_cons_of_mem _ (ih (by simp))

/-- … and no element is smaller. -/
theorem Dl.minList_le {l : List Dl} {d : Dl} (h : d ∈ l) : Dl.lt d (Dl.minList l) = false := by
  induction l with
  | nil => cases h
  | cons x xs ih =>
    simp only [Dl.minList]
    rcases List.mem_cons.mp h with h | h
    · subst h; exact Dl.min_le_left _ _
    · exact Dl.lt_trans_false (Dl.min_le_right _ _) (ih h)

/-- `cparent` is written once, by the `malloc` that creates the note. -/
theorem step_cparent {s s' : State} {e : Event} (hs : step s e = .ok s') (n : NoteId)
    (hn : (s.notes n).allocated = true) : s'.cparent n = s.cparent n := by
  rcases step_ghost hs n with h | h
  · exact h.2.2.2
  · rw [hn] at h; cases h.1

structure InvP (s : State) : Prop where
  /-- the creation-time parent is an allocated note -/
  par : ∀ n p, (s.notes n).allocated = true → s.cparent n = some p → (s.notes p).allocated = true
  /-- the creation-time path of a note: the note, then the path of its creation-time parent -/
  path : ∀ n, (s.notes n).allocated = true → s.ancEver n = n :: s.ancOf (s.cparent n)
  /-- the ghost minimum is the minimum of the creation deadlines over that path -/
  min : ∀ n, (s.notes n).allocated = true → s.pathMin n = Dl.minList (s.pathDeadlines n)

theorem InvP.init : InvP Note.init := by
  refine ⟨?_, ?_, ?_⟩ <;> simp [Note.init, NoteRec.blank]

theorem step_invP {s s' : State} {e : Event} (hS : InvS s) (hP : InvP s)
    (hs : step s e = .ok s') : InvP s' := by
  have hst := step_stable hs
  -- the deadlines along the path of an old note are unchanged
  have hmap : ∀ n, (s.notes n).allocated = true →
      (s.ancEver n).map s'.ownDl = (s.ancEver n).map s.ownDl := by
    intro n _
    apply List.map_congr_left
    intro a ha
    exact (hst.ghost a (hS.anc n a ha)).1
  refine ⟨?_, ?_, ?_⟩
  · intro n p hn hc
    cases h0 : (s.notes n).allocated with
    | true =>
      rw [step_cparent hs n h0] at hc
      exact hst.alloc p (hP.par n p h0 hc)
    | false =>
      rcases step_alloc hs n hn with h | ⟨a, par, dl, _, hpc, _, _, _, _, _, _, _, hcp⟩
      · rw [h0] at h; cases h
      · rw [hcp] at hc
        have hcl := hS.claim a
        rw [hpc] at hcl
        exact hst.alloc p (hcl p hc)
  · intro n hn
    cases h0 : (s.notes n).allocated with
    | true =>
      rw [(hst.ghost n h0).2.1, step_cparent hs n h0, hP.path n h0]
      cases hc : s.cparent n with
      | none => rfl
      | some p =>
        simp only [State.ancOf]
        rw [(hst.ghost p (hP.par n p h0 hc)).2.1]
    | false =>
      rcases step_alloc hs n hn with h | ⟨a, par, dl, _, hpc, _, _, _, han, _, _, _, hcp⟩
      · rw [h0] at h; cases h
      · rw [han, hcp]
        cases par with
        | none => rfl
        | some p =>
          have hc := hS.claim a
          rw [hpc] at hc
          simp only [State.ancOf]
          rw [(hst.ghost p (hc p rfl)).2.1]
  · intro n hn
    unfold State.pathDeadlines
    cases h0 : (s.notes n).allocated with
    | true =>
      rw [(hst.ghost n h0).2.2, (hst.ghost n h0).2.1, hmap n h0]
      exact hP.min n h0
    | false =>
      rcases step_alloc hs n hn with h | ⟨a, par, dl, _, hpc, _, _, hod, han, hpm, _⟩
      · rw [h0] at h; cases h
      · rw [hpm, han]
        simp only [List.map_cons, Dl.minList, hod]
        cases par with
        | none => simp [State.ancOf, State.minOf, Dl.minList, Dl.min_none_right]
        | some p =>
          have hc := hS.claim a
          rw [hpc] at hc
          have hp := hc p rfl
          simp only [State.ancOf, State.minOf]
          rw [hmap p hp, hP.min p hp]
          rfl

theorem Reachable.invP {s : State} (h : Reachable s) : InvP s := by
  refine Reachable.induction (P := InvP) InvP.init ?_ s h
  intro s e s' hr hP hs
  exact step_invP hr.inv.2.2.1 hP hs

end Note
