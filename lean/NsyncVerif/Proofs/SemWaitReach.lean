/-
  Proofs/SemWaitReach.lean — the invariant holds in every reachable state of the SemWait acceptor
  (the code, i.e. `noReread = false`).
-/
import NsyncVerif.Proofs.SemWaitInvA
import NsyncVerif.Proofs.SemWaitInvQ
import NsyncVerif.Proofs.SemWaitInvO

namespace SemWait

structure Inv (s : State) : Prop where
  a : InvA s
  q : InvQ s
  o : InvO s

theorem inv_init : Inv init := by
  refine ⟨⟨?_, ?_, ?_, ?_, ?_, ?_, ?_, ?_⟩, ⟨?_, ?_, ?_, ?_, ?_, ?_, ?_, ?_⟩, ⟨?_, ?_, ?_, ?_, ?_, ?_⟩⟩ <;>
    simp [init, Frame.empty, Note.init, Rec.init, preNw, inCall, holdsPc, enq, asleep, undecided, endNotify, early, late, inL65]

theorem inv_eff {cfg : Config} {s s' : State} {t : Tid} (hc : cfg.noReread = false) (hi : Inv s)
    (he : Eff cfg s t s') : Inv s' :=
  ⟨hi.a.eff he, hi.q.eff hc hi.a he, hi.o.eff hi.a he⟩

theorem inv_tick {s : State} {ns : Nat} (hle : s.now ≤ ns) (hi : Inv s) : Inv { s with now := ns } := by
  obtain ⟨ha, hq, ho⟩ := hi
  refine ⟨⟨ha.i1, ha.i3, ha.i4, ha.i5, ha.i6, ha.i7, ha.i8, ha.h1⟩,
    ⟨hq.q1, hq.q2, hq.q3, hq.q4, hq.q5, hq.l3, hq.k1, hq.e1⟩,
    ⟨ho.p1, ho.o0, ho.o1, ho.o2, ?_, ho.o4⟩⟩
  intro t h1 h2
  exact expiredB_mono (ho.o3 t h1 h2) hle

theorem inv_step {cfg : Config} {s s' : State} {e : Event} (hc : cfg.noReread = false) (hi : Inv s)
    (hs : step cfg s e = .ok s') : Inv s' := by
  rcases step_cases hs with ⟨t, he⟩ | ⟨ns, hle, rfl⟩
  · exact inv_eff hc hi he
  · exact inv_tick hle hi

theorem inv_of_reachable {cfg : Config} {s : State} (hc : cfg.noReread = false) (hr : Reachable cfg s) : Inv s :=
  reachable_induction inv_init (fun _ _ _ _ hi hs => inv_step hc hi hs) hr

end SemWait
