import NsyncVerif.Model.MuC
import NsyncVerif.Proofs.Run
/-
  MuC: basic facts — encode/decode, inversion of the CAS/load helpers, function updates.
-/
namespace NsyncVerif.MuC

theorem b2n_le (b : Bool) : b2n b ≤ 1 := by cases b <;> simp [b2n]

theorem b2n_eq_one (b : Bool) : (b2n b == 1) = b := by cases b <;> simp [b2n]

theorem bit_of (n : Nat) (b : Bool) (h : n = b2n b) : (n == 1) = b := by
  subst h; exact b2n_eq_one b

theorem decode_encode (w : Word) : decode (encode w) = w := by
  obtain ⟨a, b, c, d, e, f, g, h, r⟩ := w
  have ha := b2n_le a; have hb := b2n_le b; have hc := b2n_le c; have hd := b2n_le d
  have he := b2n_le e; have hf := b2n_le f; have hg := b2n_le g; have hh := b2n_le h
  simp only [encode, decode, Word.mk.injEq]
  refine ⟨?_, ?_, ?_, ?_, ?_, ?_, ?_, ?_, ?_⟩
  · exact bit_of _ a (by omega)
  · exact bit_of _ b (by omega)
  · exact bit_of _ c (by omega)
  · exact bit_of _ d (by omega)
  · exact bit_of _ e (by omega)
  · exact bit_of _ f (by omega)
  · exact bit_of _ g (by omega)
  · exact bit_of _ h (by omega)
  · omega

theorem encode_inj {a b : Word} (h : encode a = encode b) : a = b := by
  rw [← decode_encode a, ← decode_encode b, h]

theorem encode_zero : encode Word.zero = 0 := by decide

end NsyncVerif.MuC

namespace NsyncVerif.MuC

@[simp] theorem setFn_same {α : Type} (f : Nat → α) (t : Nat) (v : α) : setFn f t v t = v := by simp [setFn]

theorem setFn_other {α : Type} (f : Nat → α) (t u : Nat) (v : α) (h : u ≠ t) : setFn f t v u = f u := by
  simp [setFn, h]

theorem setFn_at {α : Type} {f g : Nat → α} {t : Nat} {v : α} (h : g = setFn f t v) : g t = v :=
  h ▸ setFn_same f t v

theorem setFn_others {α : Type} {f g : Nat → α} {t : Nat} {v : α} (h : g = setFn f t v) : ∀ u, u ≠ t → g u = f u :=
  fun u hu => h ▸ setFn_other f t u v hu

theorem eq_of_others {α β : Type} {f g : Nat → α} {t : Nat} {π : α → β} (hoth : ∀ u, u ≠ t → g u = f u) (ht : π (g t) = π (f t)) :
    ∀ u, π (g u) = π (f u) := fun u =>
  if hu : u = t then hu ▸ ht else congrArg π (hoth u hu)

theorem forall_of_others {α : Type} {f g : Nat → α} {t : Nat} {P : α → Prop} (hoth : ∀ u, u ≠ t → g u = f u) (ht : P (g t))
    (h : ∀ u, P (f u)) : ∀ u, P (g u) := fun u =>
  if hu : u = t then hu ▸ ht else hoth u hu ▸ h u

theorem setFn_apply {α : Type} (f : Nat → α) (t u : Nat) (v : α) : setFn f t v u = if u = t then v else f u := rfl

theorem setFn_self {α : Type} (f : Nat → α) (t : Nat) : setFn f t (f t) = f := by
  funext u; simp [setFn]; intro h; rw [h]

/-- One guard of an acceptor: if the chain accepted, the guard did not fire. -/
theorem guard_ok {α : Type} {g : Prop} [Decidable g] {m : String} {x : Except String α} {a : α}
    (h : (if g then .error m else x) = .ok a) : ¬ g ∧ x = .ok a := by
  by_cases hg : g
  · rw [if_pos hg] at h; cases h
  · rw [if_neg hg] at h; exact ⟨hg, h⟩

theorem casWord_ok {s : State} {o want : Ord} {loc : Loc} {exp new obs : Nat} {ok : Bool}
    {old nw : Word} {succ fail s' : State}
    (h : casWord s o want loc exp new obs ok old nw succ fail = .ok s') :
    (s.word = old ∧ ok = true ∧ s' = succ) ∨ (s.word ≠ old ∧ ok = false ∧ s' = fail) := by
  unfold casWord at h
  obtain ⟨-, g1⟩ := guard_ok h
  obtain ⟨-, g2⟩ := guard_ok g1
  obtain ⟨h3, g3⟩ := guard_ok g2
  obtain ⟨-, g4⟩ := guard_ok g3
  obtain ⟨h5, g5⟩ := guard_ok g4
  obtain ⟨h6, g6⟩ := guard_ok g5
  clear h g1 g2 g3 g4 g5
  obtain rfl := Decidable.of_not_not h3
  obtain rfl := Decidable.of_not_not h5
  obtain rfl := Decidable.of_not_not h6
  have h := Except.ok.inj g6
  subst h
  by_cases hw : s.word = old
  · subst hw; exact Or.inl ⟨rfl, by simp, by simp⟩
  · have : encode s.word ≠ encode old := fun e => hw (encode_inj e)
    exact Or.inr ⟨hw, by simp [this], by simp [this]⟩

theorem casWord_loc {s : State} {o want : Ord} {loc : Loc} {exp new obs : Nat} {ok : Bool}
    {old nw : Word} {succ fail s' : State}
    (h : casWord s o want loc exp new obs ok old nw succ fail = .ok s') : loc = .word ∧ o = want := by
  unfold casWord at h
  obtain ⟨h1, h⟩ := guard_ok h
  obtain ⟨h2, h⟩ := guard_ok h
  exact ⟨Decidable.of_not_not h2, Decidable.of_not_not h1⟩

theorem ldWord_ok {s : State} {o : Ord} {loc : Loc} {obs : Nat} {next s' : State}
    (h : ldWord s o loc obs next = .ok s') : s' = next := by
  unfold ldWord at h
  split at h; · cases h
  split at h; · cases h
  split at h; · cases h
  simp_all

theorem isRun (cfg : Cfg) : IsRun (step cfg) (run cfg) :=
  ⟨fun _ => rfl, fun s e _ => by rw [run]; cases step cfg s e <;> rfl⟩

theorem reachable_init (cfg : Cfg) : Reachable cfg init := ⟨[], rfl⟩

theorem reachable_step {cfg : Cfg} {s s' : State} {e : Event} (h : Reachable cfg s)
    (hs : step cfg s e = .ok s') : Reachable cfg s' := by
  obtain ⟨evs, h⟩ := h
  exact ⟨evs ++ [e], (isRun cfg).snoc h hs⟩

theorem reachable_induction {cfg : Cfg} {P : State → Prop} (h0 : P init)
    (hstep : ∀ s e s', Reachable cfg s → P s → step cfg s e = .ok s' → P s') :
    ∀ s, Reachable cfg s → P s :=
  fun _ ⟨_, h⟩ => (isRun cfg).induct h0 hstep h

end NsyncVerif.MuC

namespace NsyncVerif.MuC

theorem casWordE_ok {s : State} {o want : Ord} {loc : Loc} {exp new obs : Nat} {ok : Bool}
    {old nw : Word} {succ : Except String State} {fail s' : State}
    (h : casWordE s o want loc exp new obs ok old nw succ fail = .ok s') :
    (s.word = old ∧ ok = true ∧ succ = .ok s') ∨ (s.word ≠ old ∧ ok = false ∧ s' = fail) := by
  unfold casWordE at h
  obtain ⟨-, g1⟩ := guard_ok h
  obtain ⟨-, g2⟩ := guard_ok g1
  obtain ⟨h3, g3⟩ := guard_ok g2
  obtain ⟨-, g4⟩ := guard_ok g3
  obtain ⟨h5, g5⟩ := guard_ok g4
  obtain ⟨h6, g6⟩ := guard_ok g5
  clear h g1 g2 g3 g4 g5
  obtain rfl := Decidable.of_not_not h3
  obtain rfl := Decidable.of_not_not h5
  obtain rfl := Decidable.of_not_not h6
  by_cases hw : s.word = old
  · subst hw; exact Or.inl ⟨rfl, by simp, by simpa using g6⟩
  · have : encode s.word ≠ encode old := fun e => hw (encode_inj e)
    refine Or.inr ⟨hw, by simp [this], ?_⟩
    simp only [this, decide_false, Bool.false_eq_true, if_false] at g6
    cases g6; rfl

theorem ldWaiting_ok {s : State} {want : Ord} {k : Wid} {o : Ord} {loc : Loc} {obs : Nat} {next s' : State}
    (h : ldWaiting s want k o loc obs next = .ok s') : s' = next ∧ loc = .waiting k ∧ o = want := by
  unfold ldWaiting at h
  split at h; · cases h
  split at h; · cases h
  split at h; · cases h
  rename_i h1 h2 h3
  simp only [Decidable.not_not] at h1 h2
  simp_all

end NsyncVerif.MuC
