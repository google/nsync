/-
  Layer `CvFix` (repaired cv.c): structural invariant — acquisition of the spinlock by signal / broadcast (all the
  unlinking happens here) and the transfer step of wake_waiters.
-/
import NsyncVerif.Proofs.CvFixInvAAcq

namespace NsyncVerif.CvFix

theorem invA_acq_sig {s : State} (hi : InvA s) (t : Tid) (n : Word) (sel td : List Rid) (ar : Bool) (lnew : Loc)
    (hlocs : lnew = .sRel ∨ lnew = .sRcLd) (hl : (s.thr t).loc = .spCas) (hc : (s.thr t).cont = .sig)
    (hnone : s.holder = none) (hn1 : n.spin = true) (hsp : s.word.spin = false)
    (hfree : ∀ u, (s.thr u).loc.holds = false)
    (hsub : sel.Sublist s.queue) (hbc : (s.thr t).bcast = true → sel = s.queue) :
    FrameA { s with word := n, holder := some t, queue := s.queue.filter (fun r => !(sel.contains r)), recs := fun r => if sel.contains r then { s.recs r with stat := .listed t, unl := (s.recs r).unl ++ [Unl.waker t] } else s.recs r, thr := updT s.thr t { s.thr t with list := sel, todo := td, firstRc := true, old := if (s.thr t).bcast then { spin := false, ne := false } else if !s.queue.isEmpty && (s.queue.filter (fun r => !(sel.contains r))).isEmpty then { s.word with ne := false } else s.word, allReaders := ar, loc := lnew } } := by
  tfacts hl
  simp only [hc] at t2 t3 t8
  have hlist : (s.thr t).list = [] := t1 trivial
  have hmine : (s.thr t).mine = [] := t8 (by simp)
  have hselq : ∀ r, r ∈ sel → r ∈ s.queue := fun r h => hsub.subset h
  have hselst : ∀ r, r ∈ sel → (s.recs r).stat = .queued := fun r h => (hi.qMem r).mp (hselq r h)
  have hword := hi.free hnone
  constructor
  · simp [hn1]
  · intro u
    by_cases hu : u = t
    · subst hu
      simp only [updT_apply, if_true]
      rcases hlocs with h | h <;> subst h <;> simp [Loc.holds]
    · simp only [updT_apply, hu, if_false, hfree u]
      simp; exact fun e => hu e.symm
  · intro u e
    have e' : u = t := by simp at e; exact e.symm
    subst e'
    simp only [updT_apply, if_true]
    by_cases hb : (s.thr u).bcast = true
    · simp only [hb, if_true]
      rw [hbc hb, filter_not_contains_self]; simp
    · simp only [hb]
      generalize hq2 : s.queue.filter (fun r => !(sel.contains r)) = q2
      cases hq : s.queue with
      | nil =>
        rw [hq] at hq2; simp at hq2; subst hq2
        have : s.word.ne = false := by have := hword; rw [hq] at this; simpa using this
        simp [hsp, this]
      | cons a l =>
        have hne : s.word.ne = true := hword.mpr (by rw [hq]; simp)
        cases q2 with
        | nil => simp [hsp]
        | cons b l2 => simp [hsp, hne]
  · intro e; simp at e
  · exact hi.qNd.filter _
  · intro r
    simp only [List.mem_filter]
    by_cases hr : r ∈ sel
    · simp [hr]
    · simp [hr]; exact hi.qMem r
  · intro u
    by_cases hu : u = t
    · subst hu; simp only [updT_apply, if_true]; exact hsub.nodup hi.qNd
    · simp only [updT_apply, hu, if_false]; exact hi.lNd u
  · intro u r
    by_cases hu : u = t
    · subst hu
      simp only [updT_apply, if_true]
      by_cases hr : r ∈ sel
      · simp [hr]
      · simp [hr]
        have := hi.lMem u r; rw [hlist] at this; simpa using this
    · simp only [updT_apply, hu, if_false]
      by_cases hr : r ∈ sel
      · simp [hr]
        constructor
        · intro hm; have := (hi.lMem u r).mp hm; rw [hselst r hr] at this; cases this
        · intro e; exact absurd e.symm hu
      · simp [hr]; exact hi.lMem u r
  · intro u
    by_cases hu : u = t
    · subst hu
      rcases hlocs with h | h <;> subst h <;>
        constructor <;> simp [waitLive, waitPrep, inWaitN, Loc.wakePhase, hmine]
    · refine tinvA_other (hi.thr u) (by simp [hu]) ?_ ?_
      · intro q ho hq'
        by_cases hr : q ∈ sel
        · simp only [List.contains_iff_mem, hr, if_true]
          have := hselst q hr
          constructor <;> simp [this, RStat.live, ho]
        · simp only [List.contains_iff_mem, hr, if_false]
          exact RecOK.rfl' hq'
      · intro hb; rw [hfree u] at hb; cases hb
  · intro u hb1 hb2
    by_cases hu : u = t
    · subst hu
      simp only [updT_apply, if_true] at hb1
      simp only
      rw [hbc hb1, filter_not_contains_self]
    · simp only [updT_apply, hu, if_false] at hb2
      have := hfree u
      rcases hb2 with hb2 | hb2 | hb2 <;> simp [hb2, Loc.holds] at this

/-- wake_waiters moves the records `xs` of its private list to the mutex queue (cv.c:78-121). -/
theorem invA_transfer {s : State} (hi : InvA s) (t : Tid) (xs : List Rid) (sor : Nat) (hl : (s.thr t).loc = .wwMuCas)
    (hxs : ∀ r, r ∈ xs → r ∈ (s.thr t).list) :
    FrameA { s with recs := fun r => if xs.contains r then { s.recs r with stat := .xfer } else s.recs r, thr := updT s.thr t { s.thr t with list := (s.thr t).list.filter (fun r => !(xs.contains r)), setOnRel := sor, loc := .wwRelLd } } := by
  tfacts hl
  have hmine : (s.thr t).mine = [] := t8 trivial
  have hxst : ∀ r, r ∈ xs → (s.recs r).stat = .listed t := fun r h => (hi.lMem t r).mp (hxs r h)
  have hnh : (s.thr t).loc.holds = false := by simp [hl, Loc.holds]
  have hnt : s.holder ≠ some t := fun e => by have := (hi.hold t).mp e; rw [hnh] at this; cases this
  constructor
  · exact hi.spin
  · intro u
    by_cases hu : u = t
    · subst hu; simp [Loc.holds, hnt]
    · simp only [updT_apply, hu, if_false]; exact hi.hold u
  · intro u e
    have hu : u ≠ t := fun h => by subst h; exact hnt e
    simp only [updT_apply, hu, if_false]; exact hi.old u e
  · exact hi.free
  · exact hi.qNd
  · intro r
    by_cases hr : r ∈ xs
    · simp [hr]
      intro hm; have := (hi.qMem r).mp hm; rw [hxst r hr] at this; cases this
    · simp [hr]; exact hi.qMem r
  · intro u
    by_cases hu : u = t
    · subst hu; simp only [updT_apply, if_true]; exact (hi.lNd u).filter _
    · simp only [updT_apply, hu, if_false]; exact hi.lNd u
  · intro u r
    by_cases hu : u = t
    · subst hu
      simp only [updT_apply, if_true, List.mem_filter]
      by_cases hr : r ∈ xs
      · simp [hr]
      · simp [hr]; exact hi.lMem u r
    · simp only [updT_apply, hu, if_false]
      by_cases hr : r ∈ xs
      · simp [hr]
        intro hm; have := (hi.lMem u r).mp hm; rw [hxst r hr] at this
        simp at this; exact hu this.symm
      · simp [hr]; exact hi.lMem u r
  · intro u
    by_cases hu : u = t
    · subst hu
      constructor <;> simp [waitLive, waitPrep, inWaitN, Loc.wakePhase, hmine]
    · refine tinvA_other (hi.thr u) (by simp [hu]) ?_ ?_
      · intro q ho hq'
        by_cases hr : q ∈ xs
        · simp only [List.contains_iff_mem, hr, if_true]
          have := hxst q hr
          constructor <;> simp [this, RStat.live, ho]
        · simp only [List.contains_iff_mem, hr, if_false]
          exact RecOK.rfl' hq'
      · intro _ q e
        by_cases hr : q ∈ xs
        · rw [hxst q hr] at e; cases e
        · simp [hr]; exact e
  · intro u hb1 hb2
    by_cases hu : u = t
    · subst hu; simp at hb2
    · simp only [updT_apply, hu, if_false] at hb1 hb2; exact hi.bq u hb1 hb2

end NsyncVerif.CvFix
