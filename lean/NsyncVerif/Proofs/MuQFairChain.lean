import NsyncVerif.Proofs.MuQFairStep
/-
  MuQ, fair termination (C02): the ranks of the forced chains.

  Each lemma says: an own step of a thread in a certain class of program points either leaves the
  class in a way the caller can exclude (its stage drops, the word changes, the spinlock is given
  up), or stays in the class and decreases a rank that depends on the thread's program point and on
  the (by then constant) word only.
-/
namespace NsyncVerif.MuQ

/-! ### queued for good: mu_release_spinlock and the wait loop with `waiting` still set -/

theorem post2_own {cfg : Cfg} {s s' : State} {t : Tid} {b : Bool} (h : Own cfg s t b s')
    (hp2 : Post2 s t) : Post2 s' t := by
  obtain ⟨c, k, hc, hw, hwt⟩ := hp2
  obtain ⟨e, hb0, h⟩ := h
  obtain ⟨p, hp⟩ : ∃ p, s.pc t = p := ⟨_, rfl⟩
  rw [hp] at h
  cases h
  case lsRelLd c' =>
    simp [hp, postSL] at hc; subst hc
    exact ⟨c', k, by simp [postSL], hw, hwt⟩
  case lsRelCas c' old hwd =>
    simp [hp, postSL] at hc; subst hc
    exact ⟨c', k, by simp [postSL], hw, hwt⟩
  case lsRelCasF c' old hwd =>
    simp [hp, postSL] at hc; subst hc
    exact ⟨c', k, by simp [postSL], hw, hwt⟩
  case lsWaitLdSleep c' k' hw' hwt' =>
    simp [hp, postSL] at hc; subst hc
    exact ⟨c', k, by simp [postSL], hw, hwt⟩
  case lsWaitLdWoken c' k' hw' hwt' =>
    simp [hp, postSL] at hc; subst hc
    rw [hw] at hw'; cases hw'
    rw [hwt] at hwt'; cases hwt'
  case pEnter c' _ _ =>
    simp [hp, postSL] at hc; subst hc
    exact ⟨c', k, by simp [postSL], hw, hwt⟩
  case pRet c' k' hw' hs =>
    simp [hp, postSL] at hc; subst hc
    rw [hw] at hw'; cases hw'
    exact ⟨c', k, by simp [postSL], hw, by simp [hwt]⟩
  all_goals (simp_all [postSL]; done)

theorem lsSt_own {cfg : Cfg} {s s' : State} {t : Tid} {b : Bool} {c : SL} (h : Own cfg s t b s')
    (hp : s.pc t = .lsSt c) : Post2 s' t := by
  obtain ⟨e, hb0, h⟩ := h
  obtain ⟨p, hp⟩ : ∃ p, s.pc t = p := ⟨_, rfl⟩
  rw [hp] at h
  cases h
  case lsStAdopt c' k hw _ _ _ => exact ⟨{ c' with w := some k }, k, by simp [postSL], rfl, by simp⟩
  case lsStRequeue c' k hw _ => exact ⟨c', k, by simp [postSL], hw, by simp⟩
  all_goals (simp_all; done)

/-! ### the owner of the spinlock, with a word that no longer changes -/

def spinRank (W : Word) : PC → Nat
  | .lsRelLd _ => 2
  | .lsRelCas _ old => if W = old then 1 else 3
  | .usRcLd _ sc _ => scanRank sc + 6
  | .usRcCas _ sc _ _ => scanRank sc + 5
  | .usFinLd _ f => 2 * f.wake.length + 3
  | .usFinCas _ f old => 2 * f.wake.length + (if W = old then 2 else 4)
  | _ => 0

theorem spinRank_scanAdvance (W : Word) (s : State) (t : Tid) (l : Mode) (sc : Scan) :
    spinRank W ((scanAdvance s t l sc).pc t) + 1 ≤ scanRank sc + 5 := by
  have e : spinRank W ((scanAdvance s t l sc).pc t) = relRank W 0 ((scanAdvance s t l sc).pc t) := by
    simp only [scanAdvance]; split <;> simp only [setPc, setFn_same, spinRank, relRank]
  rw [e]; exact (scanAdvance_rank s t l sc W 0).2

theorem spin_own {cfg : Cfg} {s s' : State} {t : Tid} {b : Bool} (h : Own cfg s t b s')
    (hb : b = false) (hsp : (role (s.pc t)).spin = true) (hst : ∀ c, s.pc t ≠ .lsSt c) (hs : s'.sp ≠ none) :
    spinRank s.word (s'.pc t) < spinRank s.word (s.pc t) := by
  obtain ⟨e, hb0, h⟩ := h
  obtain ⟨p, hp⟩ : ∃ p, s.pc t = p := ⟨_, rfl⟩
  rw [hp] at h
  cases h
  case lsRelLd c => simp [hp, spinRank]
  case lsRelCas c old hwd => exact absurd rfl hs
  case lsRelCasF c old hwd => simp [hp, spinRank, hwd]
  case usRcLd l sc k obs => simp [hp, spinRank]
  case usRcCas l sc k old _ _ =>
    have := spinRank_scanAdvance s.word s t l sc
    have e : spinRank s.word (.usRcCas l sc k old) = scanRank sc + 5 := rfl
    rw [hp, e]; omega
  case usRcCasF l sc k old _ _ => rw [hb] at hb0; cases hb0
  case usFinLd l f => simp [hp, spinRank]
  case usFinCas l f old hwd => exact absurd (by simp) hs
  case usFinCasF l f old hwd => simp [hp, spinRank, hwd]
  case lsStAdopt c k hwn _ _ _ => exact absurd hp (hst c)
  case lsStRequeue c k hwn _ => exact absurd hp (hst c)
  all_goals (simp_all [role, Role.spin]; done)

/-! ### a thread that owns a share, spinlock free, word constant -/

def rank2 (W : Word) : PC → Nat
  | .lkRet _ | .tryRet _ _ => 7
  | .idle => 6
  | .ulCas0 _ => 5
  | .ulLd _ => 4
  | .ulCas1 _ old | .usCasUnc _ old | .usCasGrab _ old => if W = old then 1 else 3
  | .usLd _ => 2
  | _ => 0

theorem stage2_own {cfg : Cfg} {s s' : State} {t : Tid} {b : Bool} (h : Own cfg s t b s')
    (h2 : stage s t = 2) (h2' : stage s' t = 2) (hspin : s.word.spin = false) :
    rank2 s.word (s'.pc t) < rank2 s.word (s.pc t) := by
  obtain ⟨e, hb0, h⟩ := h
  obtain ⟨p, hp⟩ : ∃ p, s.pc t = p := ⟨_, rfl⟩
  rw [hp] at h
  cases h
  case callLock hh => simp [stage, hp, hh] at h2
  case callRlock hh => simp [stage, hp, hh] at h2
  case callTry hh => simp [stage, hp, hh] at h2
  case callRtry hh => simp [stage, hp, hh] at h2
  case callUnlock hh => simp [hp, rank2]
  case callRunlock hh => simp [hp, rank2]
  case retLock => simp [hp, rank2]
  case retRlock => simp [hp, rank2]
  case retTry r => cases r <;> first | (simp [stage, hp] at h2; done) | simp [hp, rank2]
  case retRtry r => cases r <;> first | (simp [stage, hp] at h2; done) | simp [hp, rank2]
  case ulLdSlowW => simp [hp, rank2]
  case ulLdSlowR => simp [hp, rank2]
  case ulLdFastW => simp [hp, rank2]
  case ulLdFastR => simp [hp, rank2]
  case usLdUnc l _ hu => simp [hp, rank2]
  case usLdGrab l _ hu hs => simp [hp, rank2]
  case usLdSpin l _ hu hs => rw [hspin] at hs; cases hs
  case ulCas0 l hwd => simp [stage] at h2'
  case ulCas0F l hwd => simp [hp, rank2]
  case ulCas1 l old hwd => simp [stage] at h2'
  case ulCas1F l old hwd => simp [hp, rank2, hwd]
  case usCasUnc l old hwd => simp [stage] at h2'
  case usCasUncF l old hwd => simp [hp, rank2, hwd]
  case usCasGrab l old hwd => rw [grabbed, stage_scanAdvance] at h2'; cases h2'
  case usCasGrabF l old hwd => simp [hp, rank2, hwd]
  all_goals (simp_all [stage]; done)

end NsyncVerif.MuQ
