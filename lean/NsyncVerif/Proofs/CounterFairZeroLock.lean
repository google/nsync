/-
  Proofs/CounterFairZeroLock.lean — Counter layer, fair release WITHOUT `FiniteArrivals`:
  once the counter is zero and a wait has been called, counter_mu is eventually free for ever
  (`lock_eventually_free_zero`) in every weakly fair execution, however many calls arrive:
  * an add with a non-zero delta that took counter_mu would sit at its CAS for ever (`add_acq_absurd`);
  * a free that took counter_mu frees the object (`free_acq_frees`), after which no call is accepted
    (`finiteArrivals_of_freed`);
  * a wait that is not already past its first ready_time never locks (`lrank0` never grows).
-/
import NsyncVerif.Proofs.CounterFairLock

namespace Counter

variable {s0 : State}

theorem step_prog3 (x : Exec s0) {j : Nat} {u : Tid} {e : Ev}
    (h : x.σ j = some (.thr u e)) : Prog3 (x.ρ j).sh ((x.ρ j).pc u) e (x.ρ (j + 1)).sh ((x.ρ (j + 1)).pc u) :=
  prog3_stepThr (x.next_some h)

/-! ### freed is for ever, and nothing is called on a freed counter -/

theorem freed_step (x : Exec s0) (hr : Reachable s0) {j : Nat} (h : (x.ρ j).sh.phase = .freed) :
    (x.ρ (j + 1)).sh.phase = .freed := by
  rcases x.step_cases hr j with h1 | ⟨_, _, h1⟩ | ⟨u, e, h1, _, _⟩
  · rw [h1]; exact h
  · rw [h1]; exact h
  · exact (step_prog3 x h1).freedabs h

theorem finiteArrivals_of_freed (x : Exec s0) (hr : Reachable s0) {j0 : Nat}
    (h : (x.ρ j0).sh.phase = .freed) : FiniteArrivals x := by
  have hall := NsyncVerif.Sched.keeps_from (P := fun j => (x.ρ j).sh.phase = .freed) h fun j _ => freed_step x hr
  refine ⟨j0, fun j t e hj he => ?_⟩
  cases hc : e.isCall with
  | false => rfl
  | true => exact absurd (hall j hj) ((step_prog3 x he).callfreed hc)

/-- The next operation of a thread that cannot be blocked where it is: from such a program point it takes
    one of its own steps to another program point. -/
theorem next_own (x : Exec s0) (hf : WeakFair x) {u : Tid} {j : Nat} {p : PC} (hp : (x.ρ j).pc u = p)
    (hne : p ≠ .idle) (hlw : lockWaitPc p = false) (hpd : ∀ dl k jj, p ≠ .wPdWait dl k jj) :
    ∃ j1 e sh' p', j ≤ j1 ∧ (x.ρ j1).pc u = p ∧ p' ≠ p ∧ Own (x.ρ j1).sh u p e sh' p'
      ∧ (x.ρ (j1 + 1)).sh = sh' ∧ (x.ρ (j1 + 1)).pc u = p' := by
  subst hp
  have hmv := fair_move x hf (t := u) (i := j) hne (by
    intro j' _ hp
    rintro (⟨dl, k, jj, a, _⟩ | ⟨a, _⟩)
    · rw [hp] at a; exact hpd _ _ _ a
    · rw [hp, hlw] at a; cases a)
  obtain ⟨j1, a1, a2, hnm⟩ := NsyncVerif.Sched.first_at (M := Moves x _) hmv
  have a3 := frame_between x a1 hnm
  cases hs : x.σ j1 with
  | none => exact absurd (by rw [x.next_none hs]) a2
  | some ev =>
    cases ev with
    | tick ns => obtain ⟨_, h⟩ := step_tick (x.next_some hs); exact absurd (by rw [h]) a2
    | thr t e =>
      obtain ⟨ho, hoth⟩ := own_step (x.next_some hs)
      by_cases hu : u = t
      · subst hu; exact ⟨j1, e, _, _, a1, a3, a3 ▸ a2, a3 ▸ ho, rfl, rfl⟩
      · exact absurd (hoth u hu) a2

/-- a free that has taken counter_mu frees the object -/
theorem free_acq_frees (x : Exec s0) (hf : WeakFair x) {u : Tid} {j : Nat}
    (h : (x.ρ j).pc u = .fHeld) : ∃ j', j ≤ j' ∧ (x.ρ j').sh.phase = .freed := by
  obtain ⟨j1, _, _, _, a1, _, n1, o1, _, b1⟩ := next_own x hf h nofun rfl nofun
  cases o1 with | skip => exact absurd rfl n1 | tr o1 => ?_
  cases o1
  obtain ⟨j2, _, _, _, a2, _, n2, o2, _, b2⟩ := next_own x hf b1 nofun rfl nofun
  cases o2 with | skip => exact absurd rfl n2 | tr o2 => ?_
  cases o2
  obtain ⟨j3, _, _, _, a3, _, n3, o3, c3, _⟩ := next_own x hf b2 nofun rfl nofun
  cases o3 with | skip => exact absurd rfl n3 | tr o3 => ?_
  cases o3
  exact ⟨j3 + 1, by omega, by rw [c3]⟩

/-- at zero (after a wait) no add can be between taking counter_mu and its CAS -/
theorem add_acq_absurd (x : Exec s0) (hr : Reachable s0) (hf : WeakFair x) {i : Nat}
    (hz : ∀ j, i ≤ j → (x.ρ j).sh.value = 0 ∧ (x.ρ j).sh.waited = true) {u : Tid} {d : Int} {j : Nat}
    (hj : i ≤ j) (h : (x.ρ j).pc u = .aLoad d) : False := by
  obtain ⟨j1, _, _, _, a1, _, n1, o1, _, b1⟩ := next_own x hf h nofun rfl nofun
  cases o1 with | skip => exact absurd rfl n1 | tr o1 => ?_
  cases o1 with | aLoad ho => ?_
  obtain ⟨j2, _, _, _, a2, c2, n2, o2, _, _⟩ := next_own x hf b1 nofun rfl nofun
  -- the CAS cannot fail (it expects the current value, 0) and the contract forbids its success
  have hd := ((inv_of_reachable (x.reach hr j2)).pcs u).2
  rw [c2] at hd
  obtain ⟨hz1, hw1⟩ := hz j1 (by omega)
  obtain ⟨hz2, hw2⟩ := hz j2 (by omega)
  cases o2 with | skip => exact absurd rfl n2 | tr o2 => ?_
  cases o2 <;> simp_all [pcFacts] <;> omega

/-- Once the counter is zero and a wait has been called, counter_mu is eventually free for ever. -/
theorem lock_eventually_free_zero (x : Exec s0) (hr : Reachable s0) (hf : WeakFair x) {i : Nat}
    (hz : ∀ j, i ≤ j → (x.ρ j).sh.value = 0 ∧ (x.ρ j).sh.waited = true) :
    ∃ n2, ∀ j, n2 ≤ j → (x.ρ j).sh.lockHolder = none := by
  by_cases hfr : ∃ j, (x.ρ j).sh.phase = .freed
  · obtain ⟨j, hj⟩ := hfr
    exact lock_eventually_free x hr hf (finiteArrivals_of_freed x hr hj)
  · apply lock_free_of_no_acq x hr hf
    -- lrank0 never grows, and an acquisition decreases it
    refine no_acq_of_rank x hr lrank0 rfl (n := i) fun j hj t hm => ?_
    obtain ⟨e, he, _, _⟩ := moves_prog x hr hm
    have g := step_prog3 x he
    refine ⟨g.lrk0 (hz j hj).1, fun a b => ?_⟩
    rcases g.acqkind a b with c | ⟨d, c⟩ | c
    · obtain ⟨j', _, h2⟩ := free_acq_frees x hf c
      exact absurd ⟨j', h2⟩ hfr
    · exact absurd c (fun c => add_acq_absurd x hr hf hz (by omega) c)
    · exact c

end Counter
