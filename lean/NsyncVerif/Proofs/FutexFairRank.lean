/-
  Futex layer (C12), fair termination: three of the four local ranks (the fourth, `rk0`, is next to
  its one use in FutexFairMain.lean).

  `rkW`  the waiter while a post is available (word > 0): position in the loop, weighted by
         2^32 − word (a failed CAS of the waiter means the word GREW, and it is bounded by 2^32);
  `rkV`  a poster: position in the loop, weighted by the number of posts and takes still to come
         (a failed CAS of the poster means that a post or a take happened; `BoundedPosts`);
  `rkT`  the waiter of P_with_deadline once the deadline has passed, the word stays 0, no thread is
         between its post and its wake, and no spurious wake-up / EINTR happens any more.
  Each: not increased by a step of another thread, decreased by every own step.
-/
import NsyncVerif.Proofs.FutexFairStep

namespace NsyncVerif.Futex

def rkW (s : State) (o : Tid) : Nat :=
  match s.pc o with
  | .wWait _ => 8 * (limit - s.word) + 5
  | .wSleep _ => 8 * (limit - s.word) + 4
  | .wNow _ => 8 * (limit - s.word) + 3
  | .wLoad _ => 8 * (limit - s.word) + 2
  | .wCas _ i => 8 * (limit - i) + 1
  | _ => 0

/-- Inside P / P_with_deadline, and the take has been made or a post is available. -/
def GoodW (s : State) (o : Tid) : Prop :=
  (s.pc o).isWaiter = true ∧ ((∃ k b, s.pc o = .wRet k b) ∨ 0 < s.word)

theorem rkW_other (hi : Inv s) (hs : step s e = .ok s')
    (hne : e.tid ≠ some o) (hg : GoodW s o) : GoodW s' o ∧ rkW s' o ≤ rkW s o := by
  have hpc := step_pc_other hs hne
  have hw := step_word_other hi hs hg.1 hne
  refine ⟨⟨by rw [hpc]; exact hg.1, ?_⟩, ?_⟩
  · rcases hg.2 with h | h
    · exact Or.inl (by rw [hpc]; exact h)
    · exact Or.inr (by omega)
  · unfold rkW; rw [hpc]; split <;> omega

theorem rkW_own (hi : Inv s) (hs : step s e = .ok s')
    (he : e.tid = some o) (hg : GoodW s o) (hni : s'.pc o ≠ .idle) :
    GoodW s' o ∧ rkW s' o < rkW s o := by
  have hfit := hi.fits
  obtain ⟨hw, hg2⟩ := hg
  cases Step.of_step hs
  case tick => cases he
  case retP | retPD => cases he; exact absurd (setPc_same ..) hni
  case wLd hpc =>
    cases he
    have hpos : 0 < s.word := by simpa [hpc] using hg2
    simp [GoodW, rkW, hpc, Nat.ne_of_gt hpos, PC.isWaiter]; omega
  case takeFail hpc hne =>
    -- the CAS failed because the word has grown since the load
    cases he
    have := hi.casLe _ _ _ hpc
    simp [GoodW, rkW, hpc, PC.isWaiter]; omega
  case now hpc =>
    cases he
    have hpos : 0 < s.word := by simpa [hpc] using hg2
    cases hx : expired _ s.now <;> simp [GoodW, rkW, hpc, hpos, PC.isWaiter]
  case take hpc => cases he; simp [GoodW, rkW, hpc, PC.isWaiter]
  case fwait hpc | timedOut hpc _ | fwaitRet hpc _ _ =>
    cases he
    have hpos : 0 < s.word := by simpa [hpc] using hg2
    simp [GoodW, rkW, hpc, hpos, PC.isWaiter]
  all_goals cases he; rw [‹s.pc o = _›] at hw; cases hw

def rkV (B : Nat) (s : State) (p : Tid) : Nat :=
  8 * (2 * B - (s.posts + s.takes)) +
  match s.pc p with
  | .vCas old => if old = s.word then 3 else 5
  | .vLoad => 4
  | .vWake => 2
  | .vRet => 1
  | _ => 0

theorem rkV_le (B : Nat) (s : State) (p : Tid) :
    rkV B s p ≤ 8 * (2 * B - (s.posts + s.takes)) + 5 := by
  unfold rkV; split <;> (try split) <;> omega

/-- A step of another thread changes the rank of `p` only through the word, and the word changes
    only together with a counter, which outweighs the position in the loop. -/
theorem rkV_other (hs : step s e = .ok s')
    (hne : e.tid ≠ some p) (hB : s'.posts + s'.takes ≤ 2 * B) : rkV B s' p ≤ rkV B s p := by
  obtain ⟨h1, h2, h3⟩ := step_counters hs
  by_cases hw : s'.word = s.word
  · unfold rkV; rw [step_pc_other hs hne, hw]; omega
  · have := h3 hw
    have := rkV_le B s' p
    have : 8 * (2 * B - (s.posts + s.takes)) ≤ rkV B s p := Nat.le_add_right _ _
    omega

theorem rkV_own (hs : step s e = .ok s')
    (he : e.tid = some p) (hv : (s.pc p).isPoster = true) (hB : s'.posts + s'.takes ≤ 2 * B)
    (hni : s'.pc p ≠ .idle) : rkV B s' p < rkV B s p := by
  cases Step.of_step hs
  case tick => cases he
  case retV => cases he; exact absurd (setPc_same ..) hni
  case vLd hpc | fwake hpc => cases he; simp [rkV, hpc]
  case post hpc _ => cases he; simp [rkV, hpc] at hB ⊢; omega
  case postFail hpc _ hne => cases he; simp [rkV, hpc, Ne.symm hne]
  all_goals cases he; rw [‹s.pc p = _›] at hv; cases hv

def rkT (s : State) (o : Tid) : Nat :=
  match s.pc o with
  | .wCas _ _ => 7
  | .wSleep _ => (match s.sleeper with
      | none => 7
      | some si => if si.woken then 7 else 3)
  | .wLoad _ => 5
  | .wWait _ => 4
  | .wNow _ => 2
  | .wRet _ _ => 1
  | _ => 0

theorem rkT_other (hi : Inv s) (hs : step s e = .ok s')
    (hne : e.tid ≠ some o) (hw : (s.pc o).isWaiter = true) (hnw : ∀ p, s.pc p ≠ .vWake) :
    rkT s' o = rkT s o := by
  have hpc := step_pc_other hs hne
  have hsl : s'.sleeper = s.sleeper := by
    rcases step_sleeper_other hi hs hw hne with h | ⟨_, p, hp⟩
    · exact h
    · exact absurd hp (hnw p)
  unfold rkT; rw [hpc, hsl]

theorem rkT_own (hi : Inv s) (hs : step s e = .ok s')
    (he : e.tid = some o) (hd : callDeadline s o = some (some d)) (hnow : d ≤ s.now)
    (hw : s.word = 0) (hns : ∀ r, e = .fwaitRet o r → (r = .ok ∨ r = .eintr) → ¬ s.asleep)
    (hni : s'.pc o ≠ .idle) : rkT s' o < rkT s o := by
  cases Step.of_step hs
  case tick => cases he
  case retP | retPD => cases he; exact absurd (setPc_same ..) hni
  case wLd hpc | fwait hpc => cases he; simp [rkT, hpc, hw]
  case take hpc | takeFail hpc _ =>
    cases he; have := hi.casPos _ _ _ hpc; have := hi.casLe _ _ _ hpc; omega
  case timedOut hpc hr =>
    cases he
    cases hsl : s.sleeper <;> simp [hsl, waitRetAllowed] at hr
    simp [rkT, hpc, hsl, hr.1]
  case fwaitRet k r hpc hr hne =>
    -- the kernel's record says `woken`, or the thread never slept: otherwise the return is a
    -- spurious wake-up / EINTR of a thread that is asleep, which `hns` excludes
    cases he
    have hna := hns r rfl
    cases hsl : s.sleeper with
    | none => simp [rkT, hpc, hsl]
    | some si =>
      cases r <;> simp [hsl, waitRetAllowed, State.asleep, asleepInfo] at hr hna hne <;>
        simp [rkT, hpc, hsl, hna]
  case now dl hpc =>
    cases he
    have hdl : dl = some d := by simpa [callDeadline, hpc] using hd
    have hx : expired dl s.now = true := by rw [hdl]; simpa [expired] using hnow
    simp [rkT, hpc, hx]
  all_goals cases he; simp [callDeadline, ‹s.pc o = _›] at hd

end NsyncVerif.Futex
