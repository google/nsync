/-
  Proofs/WaitNFairDefs.lean — WaitN layer, liveness form of C11: infinite executions, `Moves`, `Blocked`,
  `Ready`, weak fairness, and the explicit hypotheses (`LockFair`, `ForeignRelease`, `ClockAdvances`,
  `FiniteWakeups`, `FiniteStrayPosts`); generic facts about executions, among them what one step of an execution
  is (`Exec.step_cases`) and what it is for one thread (`Exec.view`).
-/
import NsyncVerif.Props.C11
import NsyncVerif.Proofs.Sched

namespace WaitN

/-- An infinite execution from `s0`; `σ i = none` means that nobody moves at time `i`. -/
structure Exec (s0 : State) where
  ρ : Nat → State
  σ : Nat → Option Event
  start : ρ 0 = s0
  next : ∀ i, match σ i with
    | none => ρ (i + 1) = ρ i
    | some e => step (ρ i) e = .ok (ρ (i + 1))

/-- Thread `t` executes the next operation of its own code at time `j`: its program point changes, or
    (wake_waiters of a cv signaller, protocol-driven note / counter wakers) it pops a record
    (`post` becomes `some r`) or posts the record's semaphore (`post` becomes `none`).  Events of other
    layers that `t` emits and the acceptor skips (`Ev.other`, stray semaphore traffic, unsuccessful
    iterations of a spin loop, …) leave both where they are and do not count. -/
def Moves {s0 : State} (x : Exec s0) (t : Tid) (j : Nat) : Prop :=
  (x.ρ (j + 1)).pc t ≠ (x.ρ j).pc t ∨ (x.ρ (j + 1)).post t ≠ (x.ρ j).post t

/-- the spin loop that acquires the spinlock of a condition variable -/
def isSpin : PC → Bool
  | .sg _ _ (.spin _) | .wEnqCv _ (.spin _) | .wDeqCv _ (.spin _) => true
  | _ => false

/-- The lock the thread is acquiring: the abstract mutex of a note / counter (`ret nsync_mu_lock` is its
    next operation), or the spinlock of a condition variable (the thread is in the test-and-set loop). -/
def lockWaitOf (p : PC) (f : Frame) : Option ObjId :=
  match p with
  | .wND _ i .lockWait | .wND _ i .nfLockWait | .wEnq i .lockWait | .wDeq i .lockWait => f.objs[i]?
  | .wEnqCv i (.spin _) | .wDeqCv i (.spin _) => f.objs[i]?
  | .sg c _ (.spin _) => some (.cv c)
  | _ => none

/-- the program points of `lockWaitOf` at which the thread cannot take a step while the lock is held:
    the mutex acquisitions, and the load of the test-and-set loop (a CAS that fails is a step) -/
def lockBlockOf (p : PC) (f : Frame) : Option ObjId :=
  match p with
  | .wND _ i .lockWait | .wND _ i .nfLockWait | .wEnq i .lockWait | .wDeq i .lockWait => f.objs[i]?
  | .wEnqCv i (.spin .ld) | .wDeqCv i (.spin .ld) => f.objs[i]?
  | .sg c _ (.spin .ld) => some (.cv c)
  | _ => none

/-- A thread that is not required to move:
    * asleep in the P of wait.c:78 on a semaphore whose count is 0, before the deadline `min_ntime`;
    * waiting for an object's mutex / spinning on a cv's spinlock while somebody holds it;
    * in the wait loop of cv_dequeue while `waiting` is still set (a signaller owns the record). -/
def Blocked (s : State) (t : Tid) : Prop :=
  (∃ j, s.pc t = .wPdWait j ∧ s.sem j = 0 ∧ expiredB (s.fr t).min s.now = false)
  ∨ (∃ o, lockBlockOf (s.pc t) (s.fr t) = some o ∧ (s.obj o).lock ≠ none)
  ∨ (∃ j r, s.pc t = .wDeqCv j .wspin ∧ (s.fr t).recs[j]? = some r ∧ (s.rcd r).waiting = true)

/-- `t` has something to do: it is inside nsync_wait_n / nsync_cv_signal / nsync_cv_broadcast, or it is
    a (protocol-driven) waker that has popped a record and owes the post; and it is not blocked. -/
def Ready (s : State) (t : Tid) : Prop := (s.pc t ≠ .idle ∨ s.post t ≠ none) ∧ ¬ Blocked s t

/-- Weak fairness on each thread's next operation. -/
def WeakFair {s0 : State} (x : Exec s0) : Prop :=
  ∀ t i, (∀ j, i ≤ j → Ready (x.ρ j) t) → ∃ j, i ≤ j ∧ Moves x t j

/-- Starvation freedom of the object locks (strong fairness of the acquisition; an ASSUMPTION about the
    abstract mutexes note_mu / counter_mu — the liveness half of "they are locks", C02 — and about the
    test-and-set loop on a cv's spinlock): a thread cannot be acquiring lock `o` for ever while `o` is free
    again and again. -/
def LockFair {s0 : State} (x : Exec s0) : Prop :=
  ∀ t o i, (∀ j, i ≤ j → lockWaitOf ((x.ρ j).pc t) ((x.ρ j).fr t) = some o) →
    (∀ j, i ≤ j → ∃ j', j ≤ j' ∧ ((x.ρ j').obj o).lock = none) → False

/-- the program points of nsync_wait_n / nsync_cv_signal at which the code itself holds lock `o` and releases
    it after a bounded number of its own steps (everything except the protocol-driven wake loop `nfWake`) -/
def accounts (p : PC) (f : Frame) (o : ObjId) : Prop :=
  (holdsAt p f = some o ∧ isNfWake p = false)
  ∨ (match p with
     | .wEnqCv i .store | .wEnqCv i .release | .wDeqCv i .load | .wDeqCv i .store | .wDeqCv i (.release _) =>
         f.objs[i]? = some o ∧ o.isCv = true
     | .sg c _ .held => o = .cv c
     | _ => False)

/-- Lock holders whose release is NOT programmed by this layer release the lock: threads in foreign API code
    (nsync_note_notify, nsync_counter_add, … are protocol driven: `pc = idle`), the protocol-driven wake loop
    inside the lazy expiry of a note (`nfWake`: wake loop, children, WAIT_FOR_NO_CHILDREN), and a caller that
    took an object's mutex BEFORE calling nsync_wait_n (the acceptor cannot exclude it, see Props/C11.lean). -/
def ForeignRelease {s0 : State} (x : Exec s0) : Prop :=
  ∀ i o u, ((x.ρ i).obj o).lock = some u → ¬ accounts ((x.ρ i).pc u) ((x.ρ i).fr u) o →
    ∃ j, i ≤ j ∧ ((x.ρ j).obj o).lock ≠ some u

/-- The clock eventually passes every finite deadline a sleeper is waiting for. -/
def ClockAdvances {s0 : State} (x : Exec s0) : Prop :=
  ∀ i t j (d : Int), (x.ρ i).pc t = .wPdWait j → ((x.ρ i).fr t).min = some d →
    ∃ i', i ≤ i' ∧ d ≤ ((x.ρ i').now : Int)

/-- From some time on, the P of wait.c:78 of thread `t` does not return 0 any more (each such return consumes a
    token of the call's semaphore). -/
def FiniteWakeups {s0 : State} (x : Exec s0) (t : Tid) : Prop :=
  ∃ n, ∀ j k, n ≤ j → (x.ρ j).pc t = .wPdWait k → x.σ j ≠ some (.thr t (.pdRet k false))

/-- From some time on, a semaphore that belongs to an in-flight nsync_wait_n call is only posted by a waker that has
    popped a (live) record of THAT call and owes the post.  (The acceptor accepts `sem v` on any semaphore from any
    thread — traffic of other layers —, and it accepts the late V of a waker whose record has died on ANY semaphore,
    also one that has been handed to another call in the meantime; nsync itself posts `p_nw->sem` only.) -/
def FiniteStrayPosts {s0 : State} (x : Exec s0) : Prop :=
  ∃ n, ∀ j u k, n ≤ j → x.σ j = some (.thr u (.semV k)) → ∀ t, (x.ρ j).semUser k = some t →
    ∃ r, (x.ρ j).post u = some r ∧ ((x.ρ j).rcd r).live = true ∧ ((x.ρ j).rcd r).owner = t

variable {s0 : State}

theorem Exec.next_none (x : Exec s0) {i : Nat} (h : x.σ i = none) : x.ρ (i + 1) = x.ρ i := by
  have := x.next i; rw [h] at this; exact this

theorem Exec.next_some (x : Exec s0) {i : Nat} {e : Event} (h : x.σ i = some e) :
    step (x.ρ i) e = .ok (x.ρ (i + 1)) := by
  have := x.next i; rw [h] at this; exact this

theorem Exec.reach (x : Exec s0) (hr : Reachable s0) (i : Nat) : Reachable (x.ρ i) :=
  NsyncVerif.Sched.along (step := step) x.next_none x.next_some (fun _ _ _ h hs => reachable_step h hs)
    (i := 0) (by rw [x.start]; exact hr) i (Nat.zero_le i)

/-- One step of an execution: only the clock changes (if anything), or some thread takes a step. -/
theorem Exec.step_cases (x : Exec s0) (j : Nat) :
    (∃ ns, x.ρ (j + 1) = { x.ρ j with now := ns } ∧ (x.ρ j).now ≤ ns) ∨
    (∃ v e, x.σ j = some (.thr v e) ∧ stepThr (x.ρ j) v e = .ok (x.ρ (j + 1))) := by
  cases hs : x.σ j with
  | none => exact .inl ⟨_, by rw [x.next_none hs], Nat.le_refl _⟩
  | some ev =>
    cases ev with
    | tick ns => exact .inl ⟨ns, step_tick (x.next_some hs)⟩
    | thr v e => exact .inr ⟨v, e, rfl, x.next_some hs⟩

/-- … seen from thread `t`: its program point, pending post and frame stay, or it takes a step. -/
theorem Exec.view (x : Exec s0) (t : Tid) (j : Nat) :
    ((x.ρ (j + 1)).pc t = (x.ρ j).pc t ∧ (x.ρ (j + 1)).post t = (x.ρ j).post t
      ∧ frSame ((x.ρ j).fr t) ((x.ρ (j + 1)).fr t)) ∨
    (∃ e, x.σ j = some (.thr t e) ∧ stepThr (x.ρ j) t e = .ok (x.ρ (j + 1))) := by
  rcases x.step_cases j with ⟨ns, h, _⟩ | ⟨v, e, hs, h⟩
  · rw [h]; exact .inl ⟨rfl, rfl, frSame_refl _⟩
  · by_cases hv : v = t
    · exact .inr ⟨e, hv ▸ hs, hv ▸ h⟩
    · obtain ⟨h1, _, h3, h4⟩ := others_stepThr h t (fun h => hv h.symm)
      exact .inl ⟨h1, h3, h4⟩

end WaitN
