import NsyncVerif.Proofs.MuCInv4St
import NsyncVerif.Proofs.MuCEffScan
/-
  MuC (I_queue, `Inv4`) through every step: one lemma per kind of step (`Eff`), `inv4_step`, `inv4_init`.
-/
namespace NsyncVerif.MuC

theorem setFn_wr_ow {wr : Wid → WRec} {k : Wid} {r : WRec} (ho : r.owner = (wr k).owner) (hw : r.waiting = (wr k).waiting)
    (x : Wid) : (setFn wr k r x).owner = (wr x).owner ∧ (setFn wr k r x).waiting = (wr x).waiting :=
  ⟨setFn_proj WRec.owner ho x, setFn_proj WRec.waiting hw x⟩

theorem RetPc.keep4 {hd : Option Mode} {p : PC} {m : Option Mode} {w : Option Wid} {b : Bool} (h : RetPc hd p m w b) :
    Keep4 .idle p := by
  cases h <;> exact .of_nil rfl rfl rfl rfl rfl rfl

theorem RetPc.mem_ws {hd : Option Mode} {p : PC} {m : Option Mode} {w : Option Wid} {b : Bool} (h : RetPc hd p m w b) {k : Wid}
    (hk : w = some k) : k ∈ p.ws := by
  cases h <;> first | cases hk | (simp only [PC.ws, hk]; exact List.mem_singleton.2 rfl)

theorem CallPc.keep4 {s : State} {t : Tid} {p : PC} {nw : Bool} {ca : Option Cond} (h : CallPc s t p nw ca) : Keep4 p .idle := by
  cases h <;> exact .of_nil rfl rfl rfl rfl rfl rfl

theorem finPc_keep4 {r : Ret} {l : List Wid} {p : PC} (hws : p.ws = r.ws) (hsc : p.scan? = none) (hwk : p.wakeL = l)
    (hlb : p.limbo = none) : Keep4 (finPc r l) p := by
  cases l <;> cases r <;> exact .of_sub (fun _ hk => hws ▸ hk) rfl hsc.symm hwk.symm hlb.symm rfl

theorem SemPc.keep4 {cfg : Cfg} {s : State} {p p' : PC} {k : Wid} {n : Nat} (h : SemPc cfg s p p' k n) : Keep4 p' p := by
  cases h
  · exact .of_sub (fun _ hk => hk) rfl rfl rfl rfl rfl
  · exact .of_sub (fun _ hk => hk) rfl rfl rfl rfl rfl
  · exact finPc_keep4 rfl rfl rfl rfl

theorem loopPc_keep4 {c : MW} {b : Bool} {p : PC} (hws : ∀ k, k ∈ c.w.toList → k ∈ p.ws) (hsc : p.scan? = none) (hwk : p.wakeL = [])
    (hlb : p.limbo = none) : Keep4 (loopPc c b) p := by
  unfold loopPc; split <;> exact .of_sub hws rfl hsc.symm hwk.symm hlb.symm rfl

theorem Inv4.ret {s s' : State} {t : Tid} {m : Option Mode} {w : Option Wid} {b : Bool} (h : Inv4 s)
    (hp : RetPc (s.held t) (s.pc t) m w b) (e : RetEff s t m w b s') : Inv4 s' :=
  h.frame e.pc e.queue
    (fun x => by
      rw [e.wr]
      exact h.drop w _ (fun k hk => hp.mem_ws hk) (fun _ _ hk => by cases hk) x)
    hp.keep4

theorem Inv4.call {s s' : State} {t : Tid} {p' : PC} {nw : Bool} {ca : Option Cond} (h : Inv4 s) (h0 : s.pc t = .idle)
    (hp : CallPc s t p' nw ca) (e : CallEff s t p' nw ca s') : Inv4 s' :=
  h.frame e.pc e.queue (fun x => by rw [e.wr]; exact ⟨Or.inl rfl, rfl⟩) (h0 ▸ hp.keep4)

theorem Inv4.sem {cfg : Cfg} {s s' : State} {t : Tid} {p' : PC} {k : Wid} {n : Nat} (h : Inv4 s)
    (hp : SemPc cfg s (s.pc t) p' k n) (e : SemEff s t p' k n s') : Inv4 s' :=
  h.frame e.pc e.queue (fun x => by rw [e.wr]; exact ⟨Or.inl (setFn_wr_ow (by rfl) (by rfl) x).1, (setFn_wr_ow (by rfl) (by rfl) x).2⟩)
    hp.keep4

theorem Inv4.eval {s : State} {t : Tid} {c : MW} (h : Inv4 s) (heq : s.pc t = .mwEval c) (b : Bool) :
    Inv4 (setPc s t (loopPc c b)) :=
  h.frame rfl rfl (fun _ => ⟨Or.inl rfl, rfl⟩) (heq ▸ loopPc_keep4 (fun _ hk => hk) rfl rfl rfl)

theorem Inv4.ldRc {s : State} {t : Tid} {c : MW} {k : Wid} (h : Inv4 s) (heq : s.pc t = .mwRcLd c) (obs : Nat) :
    Inv4 { setPc s t (.mwEnqLd { c with rcl := obs }) with wr := setFn s.wr k { s.wr k with rc := obs } } :=
  h.frame rfl rfl (fun x => ⟨Or.inl (setFn_wr_ow (by rfl) (by rfl) x).1, (setFn_wr_ow (by rfl) (by rfl) x).2⟩)
    (heq ▸ .of_sub (fun _ hk => hk) rfl rfl rfl rfl rfl)

theorem Inv4.mtRm {s : State} {t : Tid} {c : MW} {old : Word} {rc : Nat} {k : Wid} (h : Inv4 s)
    (heq : s.pc t = .mtRmCas c old rc) (n : Nat) :
    Inv4 { setPc s t (.mtStW c old) with wr := setFn s.wr k { s.wr k with rc := n } } :=
  h.frame rfl rfl (fun x => ⟨Or.inl (setFn_wr_ow (by rfl) (by rfl) x).1, (setFn_wr_ow (by rfl) (by rfl) x).2⟩)
    (heq ▸ .of_sub (fun _ hk => hk) rfl rfl rfl rfl rfl)

/-- The final CAS of unlock_slow. -/
theorem Inv4.fin {s s' : State} {t : Tid} {r : Ret} {f : Fin} {old : Word} (h : Inv4 s)
    (heq : s.pc t = .usFinCas r f old) (e : CasOk s t (finPc r f.wake) (finWord f old) none s') : Inv4 s' :=
  h.frame e.pc e.queue (fun x => by rw [e.wr_none]; exact ⟨Or.inl rfl, rfl⟩) (heq ▸ finPc_keep4 rfl rfl rfl rfl)

theorem Inv4.scan {s s' : State} {t : Tid} {r : Ret} {late : Bool} (h : Inv4 s) (e : ScanEff s t r late s') : Inv4 s' := by
  refine Inv4.scan_step t h (fun x => ⟨(e.wr x).1, (e.wr x).2.1⟩) e.oth e.perm e.alone ?_ (scanPc_limbo' e.dst) e.finq
  intro k hk
  rw [scanPc_ws e.dst] at hk
  have := e.src
  cases hp : s.pc t <;> rw [hp] at this <;> cases this <;> exact hk

theorem Inv4.envEff {cfg : Cfg} {s s' : State} (h : Inv4 s) (e : EnvEff cfg s s') : Inv4 s' := by
  cases e with
  | post k => exact h.env (by simp) (fun x => by simp only [semPost]; exact setFn_wr_ow (by rfl) (by rfl) x) (by simp)
  | sem k n _ => exact h.env rfl (setFn_wr_ow (by rfl) (by rfl)) rfl
  | tick n _ => exact h.env rfl (fun _ => ⟨rfl, rfl⟩) rfl

/-- nsync_remove_from_mu_queue_ (mu->waiters, w) by the timed-out waiter itself. -/
theorem Inv4.ldDeq {s : State} {t : Tid} {c : MW} {old : Word} {k : Wid} (h3 : Inv3 s) (h : Inv4 s) (heq : s.pc t = .mtLdRc c old)
    (hk : c.w = some k) (hmem : k ∈ s.queue) : Inv4 (setPc (dequeue s k) t (.mtRmLd c old)) := by
  have hlo : LnkOnly s (setPc (dequeue s k) t (PC.mtRmLd c old)) := (deq_shrink s k).2.2.2
  have hqsub : ∀ x, x ∈ (setPc (dequeue s k) t (PC.mtRmLd c old)).queue → x ∈ s.queue := (deq_shrink s k).1
  have hpj : ∀ {α : Type} (f : PC → α), f (PC.mtRmLd c old) = f (s.pc t) → ∀ u, f ((setPc (dequeue s k) t (PC.mtRmLd c old)).pc u) = f (s.pc u) :=
    fun f hf u => by rw [setPc_pc, dequeue_pc]; exact setFn_proj f hf u
  have hsc := hpj PC.scan? (by rw [heq]; rfl)
  have hwkL := hpj PC.wakeL (by rw [heq]; rfl)
  have hqnd : s.queue.Nodup := by
    have := h.nd t; simp only [allOf, List.append_assoc] at this; exact (List.nodup_append.mp this).1
  refine ⟨?_, ?_, ?_, ?_, ?_, ?_, ?_, fun u v x hu hv => by rw [hwkL] at hu hv; exact h.wkd u v x hu hv⟩
  · intro u x hx
    rw [(hlo x).1]
    by_cases hu : u = t
    · subst hu; refine h.own u x ?_; rw [heq]; simpa [PC.ws] using hx
    · simp [setFn, hu, dequeue] at hx; exact h.own u x hx
  · intro u v hu hv
    rw [hpj PC.unl (by rw [heq]; rfl)] at hu hv; exact h.uniq u v hu hv
  · intro u
    have := h.nd u
    simp only [allOf, PC.priv, hsc, hwkL] at this ⊢
    simp only [setPc_queue, dequeue, List.append_assoc] at this ⊢
    exact List.Nodup.sublist (List.Sublist.append_right (List.erase_sublist) _) this
  · intro x hx
    rw [(hlo x).2.1]; exact h.wait x (queued_mono hqsub hsc hx)
  · intro u x hx
    rw [hwkL] at hx
    obtain ⟨a, b⟩ := h.wk u x hx
    exact ⟨by rw [(hlo x).2.1]; exact a, fun hq => b (queued_mono hqsub hsc hq)⟩
  · intro u x hx
    by_cases hu : u = t
    · subst hu
      simp only [setPc_pc, setFn_same, PC.limbo] at hx
      rw [hk] at hx; cases hx
      have hQ : Queued s k := Or.inl hmem
      refine ⟨by rw [(hlo k).2.1]; exact h.wait k hQ, ?_, ?_⟩
      · rintro (hq | ⟨v, sc, h1, h2⟩)
        · simp [dequeue] at hq
          exact absurd hq (List.Nodup.not_mem_erase hqnd)
        · rw [hsc] at h1
          exact h.not_in_priv hmem v (mem_priv_iff.2 ⟨sc, h1, h2⟩)
      · intro v hv; rw [hwkL] at hv; exact (h.wk v k hv).2 hQ
    · have hx' : (s.pc u).limbo = some x := by simpa [setFn, hu, dequeue] using hx
      obtain ⟨a, b, c'⟩ := h.limbo u x hx'
      exact ⟨by rw [(hlo x).2.1]; exact a, fun hq => b (queued_mono hqsub hsc hq), fun v => by rw [hwkL]; exact c' v⟩
  · intro u f hf
    by_cases hu : u = t
    · subst hu; simp [PC.finOf] at hf
    · have hf' : (s.pc u).finOf = some f := by simpa [setFn, hu, dequeue] using hf
      exact absurd (h3.fin_owner (t := t) (by rw [heq]; rfl) hf') hu


/-- The enqueue CAS of nsync_mu_wait (mu_wait.c:214-231): the spinlock was free, so nobody is at the final CAS of
    unlock_slow. -/
theorem Inv4.mwEnq {s : State} {t : Tid} {c : MW} {old : Word} {k : Wid} (h3 : Inv3 s) (h : Inv4 s)
    (heq : s.pc t = .mwEnqCas c old) (hcw : c.w = some k) (hw : s.word = old) :
    Inv4 (setPc (if c.first then enqLast { s with word := mwEnqWord c.cond.isSome old, sp := some t } k
                 else enqFirst { s with word := mwEnqWord c.cond.isSome old, sp := some t } k) t
           (.mwRelLd { c with hadW := old.waiting, first := false })) := by
  have hok3 := h3.ok3 t; rw [heq] at hok3
  have hlb : (s.pc t).limbo = some k := by rw [heq]; simp [PC.limbo, hcw]
  obtain ⟨hwait, hnq, hnw⟩ := h.limbo t k hlb
  have hown := h.own t k (limbo_mem_ws hlb)
  split <;>
    exact h.enq_step (k := k) rfl (by simp [enqLast, enqFirst]) (by simp) (by simp [enqLast, enqFirst, wr_of_merge, hwait, hown])
      (fun x _ => by simp [enqLast, enqFirst, wr_of_merge]) hnq hnw
      (fun u hu e => hu (h.ws_owner hown e))
      (fun u _ => h3.no_fin_of_free (by rw [hw]; exact hok3) u) (fun x hx => Or.inr (by rw [heq]; exact hx))
      rfl (by rw [heq]; rfl) rfl (by rw [heq]; rfl) rfl rfl

theorem inv4_step {cfg : Cfg} {s s' : State} {e : Event} (h1 : Inv1 s) (h3 : Inv3 s) (h : Inv4 s)
    (hs : step cfg s e = .ok s') : Inv4 s' := by
  cases ht : e.tid with
  | none => exact h.envEff (step_env hs ht)
  | some t =>
    cases step_eff hs ht with
    | move hm => exact h.move hm
    | callQ h0 hh hm => exact h.move (h0 ▸ hm)
    | cas hc =>
      cases hc with
      | fail hm => exact h.move hm
      | plain hp ok => exact h.cas hp ok
      | scan hsc => obtain ⟨late, e⟩ := hsc.eff h1 h3 h; exact h.scan e
      | fin heq hw e => exact h.fin heq e
      | mwEnq c old k heq hk hw => exact h.mwEnq h3 heq hk hw
      | mtRm c old rc k heq hk => exact h.mtRm heq _
    | st e => exact h.st h3 e
    | ldRc c k obs heq hk => exact h.ldRc heq obs
    | ldDeq c old k heq hk hmem hrc => exact h.ldDeq h3 heq hk hmem
    | ret hp e => exact h.ret hp e
    | call h0 hp e => exact h.call h0 hp e
    | scan hsc => obtain ⟨late, e⟩ := hsc.eff h1 h3 h; exact h.scan e
    | eval c cd heq hcd => exact h.eval heq _
    | sem hp e => exact h.sem hp e
    | dataW x v hh => exact h.env rfl (fun _ => ⟨rfl, rfl⟩) rfl
    | dataR => exact h

theorem inv4_init : Inv4 init := by
  refine ⟨?_, ?_, ?_, ?_, ?_, ?_, ?_, ?_⟩
  · intro t k hk; simp [init, PC.ws] at hk
  · intro t u ht; simp [init, PC.unl] at ht
  · intro t; simp [allOf, init, PC.priv, PC.scan?, PC.wakeL]
  · intro k hk; simp [Queued, init, PC.scan?] at hk
  · intro t k hk; simp [init, PC.wakeL] at hk
  · intro t k hk; simp [init, PC.limbo] at hk
  · intro t f hf; simp [init, PC.finOf] at hf
  · intro t u k hk; simp [init, PC.wakeL] at hk

end NsyncVerif.MuC
