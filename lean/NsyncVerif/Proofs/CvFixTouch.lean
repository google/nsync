/-
  Layer `CvFix` (repaired cv.c): every record a step of cv.c touches is registered with the acting thread (C13).
-/
import NsyncVerif.Proofs.CvFixFacts

namespace NsyncVerif.CvFix

theorem settle_r {x y : Thr} (h : Settle x y) : y.r = x.r := by cases h <;> rfl

theorem settle_live {x y : Thr} (h : Settle x y) (hl : y.loc = .wChk ∨ y.loc = .wTail) : waitLive x = true := by
  cases h with
  | id h1 h2 => rcases hl with hl | hl <;> simp [waitLive, hl]
  | pre h _ => simp [waitLive, h]
  | postOk h _ => simp [waitLive, h]
  | postCancel h _ _ _ => simp [waitLive, h]
  | postTimed h _ _ _ => simp [waitLive, h]

/-- A record (of any kind) touched by cv.c code of a thread that is not its owner is in the queue
    or on the acting thread's private list.  (The V of the repaired wake_waiters does not touch the
    record: the third case of layer `Cv`, the record being posted, does not arise.) -/
def TouchOK (s : State) (u : Tid) (r : Rid) : Prop :=
  r ∈ s.queue ∨ r ∈ (s.thr u).list

theorem touch_ltr {s : State} {t : Tid} {e : Event} {x' : Thr} (hi : Inv s) (h : LTr s t e x') (r : Rid)
    (hr : r ∈ touches s e) (ho : (s.recs r).owner ≠ t) : TouchOK s t r := by
  have ha := hi.a.thr t
  have hb := hi.b.thr t
  cases h with
  | wRc r' obs hl hr' ho' =>
    simp [touches] at hr; subst hr; subst hr'
    exact absurd (ha.live (by simp [waitLive, hl])).1 ho
  | wHeadStay r' obs hl hr' ho' hz =>
    simp [touches] at hr; subst hr; subst hr'
    exact absurd (ha.live (by simp [waitLive, hl])).1 ho
  | wChk y r' obs hy hl hr' ho' hso =>
    have : touches s (.recLd t .wChk r' obs) = [r'] := by simp [touches]
    rw [this] at hr; simp at hr; subst hr; subst hr'
    rw [settle_r hy] at ho
    exact absurd (ha.live (settle_live hy (.inl hl))).1 ho
  | wChk2 r' obs hl hr' ho' =>
    simp [touches] at hr; subst hr; subst hr'
    exact absurd (ha.live (by simp [waitLive, hl])).1 ho
  | wCmpNe r' obs hl hr' ho' hne =>
    simp [touches, hl] at hr
    rcases hr with hr | hr
    · subst hr; subst hr'
      exact absurd (ha.live (by simp [waitLive, hl])).1 ho
    · exact .inl hr
  | wRmLd r' obs hl hr' ho' =>
    simp [touches] at hr; subst hr; subst hr'
    exact absurd (ha.live (by simp [waitLive, hl])).1 ho
  | wTail y r' obs hy hl hr' ho' =>
    have : touches s (.recLd t .wTail r' obs) = [r'] := by simp [touches]
    rw [this] at hr; simp at hr; subst hr; subst hr'
    rw [settle_r hy] at ho
    exact absurd (ha.live (settle_live hy (.inr hl))).1 ho
  | rcLd site r' obs hl hs hr' ho' =>
    have : touches s (.recLd t site r' obs) = [r'] := by
      rcases hs with ⟨rfl, _⟩ | ⟨rfl, _⟩ <;> simp [touches]
    rw [this] at hr; simp at hr; subst hr
    exact .inr (hb.todoL r (List.mem_of_mem_head? hr')).1
  | ready r' obs hl hr' ho' =>
    simp [touches] at hr; subst hr
    exact absurd (ha.mine r hr').2.1 ho
  | deqLd0 r' hl hr' ho' =>
    simp [touches, hl] at hr; subst hr
    exact absurd (ha.mine r hr').2.1 ho
  | deqLdGone r' obs hl hr' hw hq =>
    simp only [touches, hl] at hr
    split at hr
    · simp at hr; subst hr; exact absurd (ha.mine r hr').2.1 ho
    · simp at hr
      rcases hr with hr | hr
      · subst hr; exact absurd (ha.mine r hr').2.1 ho
      · exact .inl hr
  | deqSpinStay r' obs hl hr' hw =>
    simp [touches] at hr; subst hr; subst hr'
    exact absurd (ha.mine _ (ha.nSpin (.inr hl)).1).2.1 ho
  | wRmCasFail r' exp new obs hl hr' =>
    simp [touches] at hr; subst hr; subst hr'
    exact absurd (ha.live (by simp [waitLive, hl])).1 ho
  | sRcCasFail site r' exp new obs hl hr' =>
    simp [touches] at hr; subst hr
    exact .inr (hb.todoL r (List.mem_of_mem_head? hr')).1
  | wwLd obs f rest hl hlist =>
    simp [touches, hlist] at hr; subst hr
    exact .inr (by rw [hlist]; simp)
  | wwRelLd site obs hl => rcases hl with ⟨rfl, _⟩ | ⟨rfl, _⟩ <;> simp [touches] at hr
  | dbgW r' obs hl hq hm ho' =>
    simp [touches] at hr; subst hr
    exact .inl (List.mem_of_getElem? hq)
  | dbgRc r' obs hl hq ho' =>
    simp [touches] at hr; subst hr
    exact .inl (List.mem_of_getElem? hq)
  | _ => simp [touches] at hr


/-- Every record touched by a step of cv.c whose actor is not the record's owner (owner taken
    AFTER the step: the first store of a wait makes the actor the owner) is registered. -/
theorem touch_registered {cfg : Config} {s s' : State} {e : Event} (hi : Inv s) (h : Tr cfg s e s')
    (r : Rid) (hr : r ∈ touches s e) (u : Tid) (hu : e.tid = some u)
    (ho : (s'.recs r).owner ≠ u) : TouchOK s u r := by
  have hno : (s.recs r).owner ≠ u := fun e' =>
    (h.rcd hi.a hi.b.weak r).owner.elim (fun k => ho (k.trans e')) (fun k => ho (Option.some.inj (k.symm.trans hu)))
  cases h with
  | same e h => rw [h] at hr; cases hr
  | semOther e sem' h => rw [h] at hr; cases hr
  | tick ns h => simp [touches] at hr
  | loc h =>
    rename_i t x'
    have : u = t := by cases h <;> simp [Event.tid] at hu <;> exact hu.symm
    subst this
    exact touch_ltr hi h r hr hno
  | acq t exp new obs o n hl hexp hw he ho' hn hnew =>
    simp [Event.tid] at hu; subst hu
    simp only [touches, if_true] at hr
    split at hr
    · rename_i hc
      simp at hr
      rcases hr with hr | hr
      · subst hr
        exact absurd ((hi.a.thr t).prep (by simp [waitPrep, hl, hc])).2.1 hno
      · exact .inl hr
    · rename_i hc
      split at hr
      · exact .inl hr
      · split at hr
        · cases hr
        · rename_i f rest hq
          split at hr
          · exact .inl hr
          · simp at hr; subst hr; exact .inl (by rw [hq]; simp)
    · cases hr
  | relWait t new obs n hl hh hnew hn hsp => simp [touches] at hr
  | relWait2 t new obs n hl hh hnew hn hsp => simp [touches] at hr
  | relSig t site new obs n hl hs hh hnew hn hsp =>
    simp [Event.tid] at hu; subst hu
    have : touches s (.wordSt t site new obs) = ((s.thr t).list.head?).toList := by
      rcases hs with ⟨rfl, _⟩ | ⟨rfl, _⟩ <;> simp [touches]
    rw [this] at hr
    simp at hr
    exact .inr (List.mem_of_mem_head? hr)
  | relEnq t new obs n hl hh hnew hn hsp => simp [touches] at hr
  | relDeq t new obs n hl hh hnew hn hsp => simp [touches] at hr
  | wHeadExit t r' y hy hl hr' hw =>
    subst hy
    simp [Event.tid] at hu; subst hu
    simp [touches] at hr; subst hr; subst hr'
    exact absurd ((hi.a.thr t).live (by simp [waitLive, hl])).1 hno
  | wCmpEq t r' obs hl hr' ho' he =>
    simp [Event.tid] at hu; subst hu
    simp [touches, hl] at hr
    rcases hr with hr | hr
    · subst hr; subst hr'
      exact absurd ((hi.a.thr t).live (by simp [waitLive, hl])).1 hno
    · exact .inl hr
  | deqLdQueued t r' obs hl hr' hw hst =>
    simp [Event.tid] at hu; subst hu
    have hown := ((hi.a.thr t).mine r' hr').2.1
    simp only [touches, hl] at hr
    split at hr
    · simp at hr; subst hr
      exact absurd hown hno
    · simp at hr
      rcases hr with hr | hr
      · subst hr
        exact absurd hown hno
      · exact .inl hr
  | relDeqW t new obs n hl hh hnew hn hsp => simp [touches] at hr
  | relDbg t new obs n hl hh hnew hn hsp => simp [touches] at hr; exact .inl hr
  | deqSpinExit t r' hl hr' hw =>
    simp [Event.tid] at hu; subst hu
    simp [touches] at hr; subst hr; subst hr'
    exact absurd ((hi.a.thr t).mine _ ((hi.a.thr t).nSpin (.inr hl)).1).2.1 hno
  | wSt1 t r' obs hl hm hst =>
    simp [Event.tid] at hu; subst hu
    simp [touches] at hr; subst hr
    simp at ho
  | wClr t r' obs hl hr' =>
    simp [Event.tid] at hu; subst hu
    simp [touches] at hr; subst hr; subst hr'
    exact absurd ((hi.a.thr t).live (by simp [waitLive, hl])).1 hno
  | wake t r' obs hl hr' =>
    simp [Event.tid] at hu; subst hu
    simp [touches] at hr
    rcases hr with hr | hr
    · subst hr; exact .inr (List.mem_of_mem_head? hr')
    · exact .inr hr
  | enqSt t r' obs hl hm hst ho' he =>
    simp [Event.tid] at hu; subst hu
    simp [touches] at hr
    rcases hr with hr | hr
    · subst hr
      exact absurd ho' hno
    · exact .inl hr
  | deqSt t r' obs hl hr' =>
    simp [Event.tid] at hu; subst hu
    simp [touches] at hr; subst hr; subst hr'
    exact absurd ((hi.a.thr t).mine _ ((hi.a.thr t).nDeq (.inl hl)).1).2.1 hno
  | wRmCasOk t r' exp new obs hl hr' hn ho' he =>
    simp [Event.tid] at hu; subst hu
    simp [touches] at hr; subst hr; subst hr'
    exact absurd ((hi.a.thr t).live (by simp [waitLive, hl])).1 hno
  | sRcCasOk t site r' exp new obs hl hr' hn ho' he =>
    simp [Event.tid] at hu; subst hu
    simp [touches] at hr; subst hr
    exact .inr ((hi.b.thr t).todoL r (List.mem_of_mem_head? hr')).1
  | muMode t obs lt hl hlt => simp [touches] at hr
  | wwCasOk t exp new obs f rest hl hlist =>
    simp [Event.tid] at hu; subst hu
    simp [touches] at hr
    exact .inr hr
  | semVWake t k r' q hl hc => simp [touches] at hr
  | semPdRetOkW t k hl => simp [touches] at hr
  | semPdRetOkC t k hl => simp [touches] at hr
  | wInit t r' hl hm hst => simp [touches] at hr
  | nwInit t r' hl hm hst => simp [touches] at hr
  | fStW t r' new hl hf => simp [touches] at hr
  | fCasOk t r' exp new obs hl hf hn ho' he => simp [touches] at hr


/-- The memory of a stack / heap `nsync_waiter_s` of nsync_wait_n is valid: the call of its owner
    that created it has not returned. -/
def alive (s : State) (r : Rid) : Bool :=
  decide ((s.recs r).epoch = (s.thr (s.recs r).owner).epoch) && inWaitN (s.thr (s.recs r).owner)

end NsyncVerif.CvFix
