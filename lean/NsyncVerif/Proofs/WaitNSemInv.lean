/-
  Proofs/WaitNSemInv.lean — the invariants behind C11_no_oversleep / C11_sleep_deadline, and their preservation.
  * `SB`  the lazy binding call ↔ semaphore is consistent (`Frame.sem = some j → semUser j = the caller`; the
          caller inside the P has its semaphore bound).
  * `TI s b t` for a caller t (b = the binary-flavour semaphores):
      wr  a record whose enqueue has been decided and whose `waiting` is 0 belongs to a ready object
          (`sReady`: note notified / expired, counter at zero after a wait; for a cv this is the definition);
      os  inside the do-while of wait.c, for every record with `waiting = 0`: a token is available (in both
          semaphore flavours), or a V for the call's semaphore is pending in the hands of a waker, or the
          current scan will still see it (`Seen`) and leave with `min_ntime <= 0`;
      sd  `min_ntime <= abs_deadline` and `min_ntime <=` the expiry of every note already scanned.
-/
import NsyncVerif.Proofs.WaitNSemBind


namespace WaitN

structure SB (s : State) : Prop where
  b1 : ∀ t j, (s.fr t).sem = some j → s.semUser j = some t
  b3 : ∀ t j, s.pc t = .wPdWait j → (s.fr t).sem = some j

theorem sb_init : SB init := ⟨fun t j h => by simp [init, Frame.empty] at h, fun t j h => by simp [init] at h⟩

theorem sb_step {s s' : State} {u : Tid} {e : Ev} (sb : SB s) (h : stepThr s u e = .ok s') : SB s' := by
  obtain ⟨keep, bnew, user, pdw⟩ := bind_stepThr h
  have oth := others_stepThr h
  constructor
  · intro t j hj
    rcases bnew t j hj with h0 | ⟨_, h1⟩
    · have hu := sb.b1 t j h0
      rcases user j with h1 | ⟨h1, _⟩ | ⟨_, h2, h3⟩
      · rw [h1]; exact hu
      · rw [hu] at h1; cases h1
      · have := sb.b1 u j h2
        rw [hu] at this; cases this
        rw [h3] at hj; cases hj
    · exact h1
  · intro t j hj
    by_cases htu : t = u
    · subst htu
      rcases pdw j hj with h0 | h0
      · rcases keep t j (sb.b3 t j h0) with h1 | ⟨_, h1⟩
        · exact h1
        · rw [hj] at h1; cases h1
      · exact h0
    · rw [(oth t htu).1] at hj
      rcases keep t j (sb.b3 t j hj) with h1 | ⟨h1, _⟩
      · exact h1
      · exact absurd h1 htu

/-- `a <= b` for deadlines (`none` = no deadline = +∞) -/
def dle (a b : Deadline) : Prop := dlt b a = false

/-- enqueue loop and do-while of wait.c -/
def inPhase : PC → Bool
  | .wInit _ | .wEnqCv _ _ | .wEnq _ _ | .wUnlock => true
  | p => inSleep p

/-- the `enqueue` call for object i has stored its decision -/
def wrAt : PC → Nat → Prop
  | .wInit _, _ => True
  | .wEnqCv k st, i => i < k ∨ (i = k ∧ st = .release)
  | .wEnq k st, i => i < k ∨ (i = k ∧ ∃ b, st = .unlockCall b ∨ st = .unlockWait b)
  | .wUnlock, _ => True
  | p, _ => inSleep p = true

theorem inPhase_of_wrAt {p : PC} {i : Nat} (h : wrAt p i) : inPhase p = true := by
  cases p <;> simp [wrAt, inPhase] at h ⊢ <;> first | exact h | skip

theorem inPhase_of_inSleep {p : PC} (h : inSleep p = true) : inPhase p = true := by
  cases p <;> simp [inSleep, inPhase] at h ⊢ <;> first | exact h | skip

theorem wrAt_of_inSleep {p : PC} (h : inSleep p = true) (i : Nat) : wrAt p i := by
  cases p <;> simp [inSleep, wrAt] at h ⊢ <;> first | exact h | skip

/-- the rest of nsync_note_notified_deadline_ (note n) will report the note as ready -/
def ndSees (s : State) (n : Nat) : NDst → Prop
  | .unlockCall obs | .unlockWait obs => obs = true ∨ expiredB (s.obj (.note n)).expiry s.now = true
  | .now => expiredB (s.obj (.note n)).expiry s.now = true
  | _ => True

/-- the current scan ends with `min_ntime <= 0`, or has yet to evaluate `ready_time (v, &nw[i])` -/
def Seen (s : State) (p : PC) (f : Frame) (i : Nat) : Prop :=
  dlePast f.min = true ∨
  match p with
  | .wCvRT k => k ≤ i
  | .wCtrRT .loop k _ => k ≤ i
  | .wND .loop k st => k < i ∨ (k = i ∧ ∀ n, f.objs[k]? = some (.note n) → ndSees s n st)
  | _ => False

/-- number of objects whose ready time the current scan has folded into `min_ntime` -/
def scanned (p : PC) (f : Frame) : Option Nat :=
  match p with
  | .wCvRT k | .wCtrRT .loop k _ | .wND .loop k _ => some k
  | .wPdEnter | .wPdWait _ => some f.count
  | _ => none

def SDat (s : State) (p : PC) (f : Frame) : Prop :=
  ∀ k, scanned p f = some k → dlePast f.min = false →
    dle f.min f.dl ∧ ∀ i n, i < k → f.objs[i]? = some (.note n) → dle f.min (s.obj (.note n)).expiry

/-- a token is available to t's P, under the counting and under the binary flavour -/
def Tok (s : State) (b : SemId → Bool) (t : Tid) : Prop :=
  ∃ j, (s.fr t).sem = some j ∧ 0 < s.sem j ∧ b j = true

/-- a waker has cleared one of t's records and its next semaphore operation is the V on t's semaphore -/
def InFlight (s : State) (t : Tid) : Prop := ∃ u r, s.post u = some r ∧ r ∈ (s.fr t).recs

structure TI (s : State) (b : SemId → Bool) (t : Tid) : Prop where
  wr : ∀ i r, (s.fr t).recs[i]? = some r → wrAt (s.pc t) i → (s.rcd r).waiting = false → sReady s (s.fr t) i
  os : inSleep (s.pc t) = true → ∀ i r, (s.fr t).recs[i]? = some r → (s.rcd r).waiting = false →
        Tok s b t ∨ InFlight s t ∨ Seen s (s.pc t) (s.fr t) i
  sd : SDat s (s.pc t) (s.fr t)

theorem scanned_none_of_notSleep {p : PC} {f : Frame} (h : inSleep p = false) : scanned p f = none := by
  cases p <;> simp [inSleep, scanned] at h ⊢
  all_goals (rename_i u _ _; cases u <;> simp at h ⊢)

theorem ti_of_notPhase {s : State} {b : SemId → Bool} {t : Tid} (h : inPhase (s.pc t) = false) : TI s b t := by
  have hs : inSleep (s.pc t) = false := by
    cases hp : s.pc t <;> simp [hp, inPhase] at h ⊢ <;> first | exact h | rfl
  refine ⟨fun i r _ hw _ => ?_, fun hsl => ?_, fun k hk => ?_⟩
  · rw [inPhase_of_wrAt hw] at h; cases h
  · rw [hs] at hsl; cases hsl
  · rw [scanned_none_of_notSleep hs] at hk; cases hk

/-- no record yet, and not in the do-while -/
theorem ti_of_nil {s : State} {b : SemId → Bool} {t : Tid} (h : (s.fr t).recs = []) (hs : inSleep (s.pc t) = false) :
    TI s b t := by
  refine ⟨fun i r hr _ _ => ?_, fun hsl => ?_, fun k hk => ?_⟩
  · rw [h] at hr; simp at hr
  · rw [hs] at hsl; cases hsl
  · rw [scanned_none_of_notSleep hs] at hk; cases hk

/-! ### what `LInv`, `TF` and `QI ∧ CF` say at the program points of the two loops -/

theorem frSame_all {f g : Frame} (h : frSame f g) :
    g.recs = f.recs ∧ g.objs = f.objs ∧ g.min = f.min ∧ g.dl = f.dl ∧ g.freed = f.freed ∧ g.frees = f.frees := by
  unfold frSame at h
  rw [h]
  exact ⟨rfl, rfl, rfl, rfl, rfl, rfl⟩

theorem inLoop_of_inSleep {p : PC} {f : Frame} (h : inSleep p = true) (hl : LInv p f) : InLoop f := by
  cases p <;> simp [inSleep] at h
  · rename_i u i l; cases u <;> simp at h; exact hl.1
  · rename_i u i st; cases u <;> simp at h; exact hl.1
  · exact hl.1
  · exact hl.1
  · exact hl.1

theorem phase_facts {p : PC} {f : Frame} (h : inPhase p = true) (hl : LInv p f) :
    f.frees = 0 ∧ f.freed = false := by
  cases p <;> simp [inPhase, inSleep] at h
  · rename_i u i l; cases u <;> simp at h; exact ⟨hl.1.frees, hl.1.freed⟩
  · rename_i u i st; cases u <;> simp at h; exact ⟨hl.1.frees, hl.1.freed⟩
  all_goals exact ⟨hl.1.frees, hl.1.freed⟩

theorem waited_of_phase {s : State} {p : PC} {f : Frame} (h : inPhase p = true) (htf : TF s p f) :
    Waited s f f.count := by
  cases p <;> simp [inPhase, inSleep] at h
  · rename_i u i l; cases u <;> simp at h; exact htf.1
  · rename_i u i st; cases u <;> simp at h; exact htf.1
  · exact htf
  · exact htf
  · exact htf.1
  · exact htf.1
  · exact htf.1
  · exact htf.1
  · exact htf.1

/-- a ready non-cv object stays ready; for a cv `sReady` is `waiting = 0` of its record -/
theorem sReady_keep {s s' : State} {u : Tid} {f f' : Frame} (hobjs : f'.objs = f.objs)
    (hk : ∀ o ∈ f.objs, (s.obj o).known = true) (m : Mono s s' u) {i : Nat} {r : Rid}
    (hr : f'.recs[i]? = some r) (hw' : (s'.rcd r).waiting = false) (h : sReady s f i) : sReady s' f' i := by
  have st : Stable False s s' f := .of_mono m hk fun h => h.elim
  unfold sReady at h ⊢
  rw [hobjs]
  cases ho : f.objs[i]? with
  | none => rw [ho] at h; exact h
  | some o =>
    rw [ho] at h
    cases o with
    | cv c => exact ⟨r, hr, hw'⟩
    | note n => exact noteReady_stable st ho h
    | ctr c => exact ctrZero_stable st ho h

/-!
### `TI s b t` is preserved by every step that leaves t's program counter and frame (up to the lazily bound
semaphore) alone: all steps of other threads, and t's own steps in foreign code (`dflt`) or as a note waker
(`stepOpen` inside the lazy notification). This is where the accounting happens: a waker's store that clears one
of t's records leaves the pending post (`InFlight`); its V turns the pending post into a token (`Tok`, both
flavours) and binds the semaphore; nobody but t's own P consumes a token of t's semaphore.
-/

theorem inCall_of_inPhase {p : PC} (h : inPhase p = true) : inCall p = true := by
  cases p <;> simp [inPhase, inSleep, inCall] at h ⊢

theorem ndSees_mono {s s' : State} {n : Nat} {st : NDst} (he : (s'.obj (.note n)).expiry = (s.obj (.note n)).expiry)
    (hn : s.now ≤ s'.now) (h : ndSees s n st) : ndSees s' n st := by
  cases st <;> simp only [ndSees] at h ⊢
  · rcases h with h | h
    · exact .inl h
    · right; rw [he]; exact expiredB_mono hn h
  · rcases h with h | h
    · exact .inl h
    · right; rw [he]; exact expiredB_mono hn h
  · rw [he]; exact expiredB_mono hn h

theorem seen_keep {s s' : State} {p : PC} {f f' : Frame} {i : Nat} (hmin : f'.min = f.min) (hobjs : f'.objs = f.objs)
    (he : ∀ n, .note n ∈ f.objs → (s'.obj (.note n)).expiry = (s.obj (.note n)).expiry) (hn : s.now ≤ s'.now)
    (h : Seen s p f i) : Seen s' p f' i := by
  unfold Seen at h ⊢
  rw [hmin]
  rcases h with h | h
  · exact .inl h
  · right
    cases p with
    | wND u k st =>
      cases u with
      | loop =>
        show k < i ∨ (k = i ∧ ∀ n, f'.objs[k]? = some (.note n) → ndSees s' n st)
        rcases (show k < i ∨ (k = i ∧ ∀ n, f.objs[k]? = some (.note n) → ndSees s n st) from h) with h | ⟨h1, h2⟩
        · exact .inl h
        · refine .inr ⟨h1, fun n hn' => ?_⟩
          rw [hobjs] at hn'
          exact ndSees_mono (he n (List.mem_of_getElem? hn')) hn (h2 n hn')
      | _ => exact h
    | wCtrRT u k l => cases u <;> exact h
    | _ => exact h

theorem sdat_keep {s s' : State} {p : PC} {f f' : Frame} (hmin : f'.min = f.min) (hobjs : f'.objs = f.objs)
    (hdl : f'.dl = f.dl)
    (he : ∀ n, .note n ∈ f.objs → (s'.obj (.note n)).expiry = (s.obj (.note n)).expiry)
    (h : SDat s p f) : SDat s' p f' := by
  intro k hk hm
  have hk' : scanned p f = some k := by
    have : scanned p f' = scanned p f := by unfold scanned Frame.count; rw [hobjs]
    rw [← this]; exact hk
  rw [hmin] at hm ⊢
  obtain ⟨h1, h2⟩ := h k hk' hm
  refine ⟨by rw [hdl]; exact h1, fun i n hi hn => ?_⟩
  rw [hobjs] at hn
  rw [he n (List.mem_of_getElem? hn)]
  exact h2 i n hi hn

/-- The workhorse.  A step of thread u (u = t allowed) that keeps the records and objects of t's frame; the
    caller says how the program point of t moved:
    `hwr`  every index whose enqueue counts as decided afterwards did so before, or its object is ready;
    `hsl`  if t is in the do-while afterwards, the enqueue of each of its records was decided before;
    `hos`  for a cleared record of a ready object: the scan position after the step still "sees" it, or t was in
           the do-while before and `Seen` carries over;
    `hpd`  the step is not t's own P returning;
    `hsd`  the deadline bookkeeping afterwards. -/
theorem ti_move {s s' : State} {b : SemId → Bool} {u t : Tid} {e : Ev} (hr : Reachable s) (sb : SB s)
    (hs : stepThr s u e = .ok s') (ti : TI s b t) (hph : inPhase (s.pc t) = true)
    (frecs : (s'.fr t).recs = (s.fr t).recs) (fobjs : (s'.fr t).objs = (s.fr t).objs)
    (hpd : ∀ j, s.pc t = .wPdWait j → s'.pc t = .wPdWait j)
    (hwr : ∀ i r, (s.fr t).recs[i]? = some r → wrAt (s'.pc t) i → (s'.rcd r).waiting = false →
            wrAt (s.pc t) i ∨ sReady s' (s'.fr t) i)
    (hsl : inSleep (s'.pc t) = true → ∀ i r, (s.fr t).recs[i]? = some r → wrAt (s.pc t) i)
    (hos : inSleep (s'.pc t) = true → ∀ i r, (s.fr t).recs[i]? = some r → (s'.rcd r).waiting = false →
            sReady s' (s'.fr t) i →
            Seen s' (s'.pc t) (s'.fr t) i
            ∨ (inSleep (s.pc t) = true ∧ (Seen s (s.pc t) (s.fr t) i → Seen s' (s'.pc t) (s'.fr t) i)))
    (hsd : SDat s' (s'.pc t) (s'.fr t)) : TI s' (binStep b (.thr u e)) t := by
  have A := sema_stepThr hs
  have C := clr_stepThr hs
  obtain ⟨keep, _, _, _⟩ := bind_stepThr hs
  have M := mono_stepThr hs
  have O := others_stepThr hs
  have own := own_of_reachable hr
  have kn := known_of_reachable hr
  have hl := linv_of_reachable hr
  have htf := tf_of_reachable hr t
  have q := (qinv_of_reachable hr).qi
  have nd := recsNodup_of_reachable hr t
  have hc : inCall (s.pc t) = true := inCall_of_inPhase hph
  obtain ⟨hfrees, hfreed⟩ := phase_facts hph (hl t)
  have hkn := kn t hc
  -- a record of t cleared in this step: by a waker, who now owes the V; and its object is ready
  have clear : ∀ i r, (s.fr t).recs[i]? = some r → (s.rcd r).waiting = true → (s'.rcd r).waiting = false →
      wrAt (s.pc t) i → s'.post u = some r ∧ sReady s' (s'.fr t) i := by
    intro i r hri hw hw' hwr
    have hmem : r ∈ (s.fr t).recs := List.mem_of_getElem? hri
    have hidx := own.idx t i r hc hfrees hri
    rcases C r hw hw' with ⟨hp, hsg | hwk⟩ | ⟨j, hpcu, hrj⟩ | hdead
    · obtain ⟨c, bc, l, hpu, hpn, hhd⟩ := hsg
      refine ⟨hp, ?_⟩
      have hwk : wk (s.pc u) = some (c, l) := by rw [hpu]; rfl
      have hm : r ∈ pend (s.post u) l := by
        rw [hpn]
        cases l with
        | nil => simp at hhd
        | cons a tl => simp at hhd; subst hhd; simp [pend]
      have hobj := ((q.q4 u c l hwk).2.2 r hm).2.1
      unfold sReady; rw [fobjs, hidx, hobj]
      exact ⟨r, by rw [frecs]; exact hri, hw'⟩
    · refine ⟨hp, ?_⟩
      unfold sReady; rw [fobjs, hidx]
      cases ho : (s.rcd r).obj with
      | cv c => rw [ho] at hwk; simp [wakeable] at hwk
      | note n => rw [ho] at hwk; simp only [wakeable] at hwk; exact .inl hwk
      | ctr c =>
        rw [ho] at hwk hidx; simp only [wakeable, decide_eq_true_eq] at hwk
        refine ⟨hwk, ?_⟩
        have hfl := waited_of_phase hph htf i c (lt_count_of_get hidx) hidx
        exact M.flag _ rfl (hkn _ (List.mem_of_getElem? hidx)) hfl
    · exfalso
      have hcu : inCall (s.pc u) = true := by
        rcases hpcu with h | ⟨b', h⟩ | ⟨b', h⟩ <;> rw [h] <;> rfl
      have hfu : (s.fr u).frees = 0 := by
        have := hl u
        rcases hpcu with h | ⟨b', h⟩ | ⟨b', h⟩ <;> rw [h] at this <;> exact this.1.frees
      have hut : u = t := owner_unique own hcu hfu (List.mem_of_getElem? hrj) hc hfrees hmem
      subst hut
      have hij : i = j := idx_unique nd hri hrj
      subst hij
      rcases hpcu with h | ⟨b', h⟩ | ⟨b', h⟩ <;> rw [h] at hwr <;> simp [wrAt, inSleep] at hwr
    · rw [(own.own t r hc hfrees hmem).1] at hdead; cases hdead
  have wr' : ∀ i r, (s.fr t).recs[i]? = some r → wrAt (s'.pc t) i → (s'.rcd r).waiting = false →
      sReady s' (s'.fr t) i := by
    intro i r hri hwr' hw'
    rcases hwr i r hri hwr' hw' with hwr0 | hdone
    · cases hws : (s.rcd r).waiting with
      | false => exact sReady_keep fobjs hkn M (by rw [frecs]; exact hri) hw' (ti.wr i r hri hwr0 hws)
      | true => exact (clear i r hri hws hw' hwr0).2
    · exact hdone
  refine ⟨?_, ?_, hsd⟩
  · intro i r hri' hwr' hw'
    exact wr' i r (by rw [← frecs]; exact hri') hwr' hw'
  · intro hsl' i r hri' hw'
    have hri : (s.fr t).recs[i]? = some r := by rw [← frecs]; exact hri'
    have hmem : r ∈ (s.fr t).recs := List.mem_of_getElem? hri
    have hwr0 := hsl hsl' i r hri
    cases hws : (s.rcd r).waiting with
    | true =>
      exact .inr (.inl ⟨u, r, (clear i r hri hws hw' hwr0).1, by rw [frecs]; exact hmem⟩)
    | false =>
      rcases hos hsl' i r hri hw' (wr' i r hri (wrAt_of_inSleep hsl' i) hw') with hseen | ⟨hsl0, htr⟩
      · exact .inr (.inr hseen)
      rcases ti.os hsl0 i r hri hws with ⟨j, hj, hpos, hb⟩ | ⟨v, r', hpv, hr'⟩ | hseen
      · -- the token stays: only t's own P consumes it
        left
        have hj' : (s'.fr t).sem = some j := by
          rcases keep t j hj with h1 | ⟨h1, h2⟩
          · exact h1
          · subst h1; rw [hsl'] at h2; cases h2
        have hnp : isPret e j = false := by
          cases hp : isPret e j with
          | false => rfl
          | true =>
            exfalso
            rcases A.pret j hp with h1 | ⟨h1, h2⟩
            · rw [sb.b1 t j hj] at h1; cases h1
            · have hut : u = t := by
                have := sb.b1 u j (sb.b3 u j h1)
                rw [sb.b1 t j hj] at this; cases this; rfl
              subst hut
              exact h2 j (hpd j h1)
        refine ⟨j, hj', ?_, ?_⟩
        · have : ¬ s'.sem j < s.sem j := fun hlt => by rw [A.dec j hlt] at hnp; cases hnp
          omega
        · simp only [binStep, hnp, hb]; simp
      · -- the pending post stays, or it is the V: token
        by_cases hpv' : s'.post v = some r'
        · exact .inr (.inl ⟨v, r', hpv', by rw [frecs]; exact hr'⟩)
        · have hvu : v = u := by
            by_cases hvu : v = u
            · exact hvu
            · rw [(O v hvu).2.2.1] at hpv'; exact absurd hpv hpv'
          subst hvu
          obtain ⟨j, hv, hpos, hbind⟩ := A.vpost r' hpv hpv'
          have ho := own.own t r' hc hfrees hr'
          left
          refine ⟨j, ?_, hpos, ?_⟩
          · have := hbind ho.1 (by rw [ho.2]; exact hfreed)
            rw [ho.2] at this; exact this
          · simp [binStep, hv]
      · exact .inr (.inr (htr hseen))

theorem ti_keeps {s s' : State} {b : SemId → Bool} {u t : Tid} {e : Ev} (hr : Reachable s) (sb : SB s)
    (hs : stepThr s u e = .ok s') (hk : Keeps s s' t) (ti : TI s b t) : TI s' (binStep b (.thr u e)) t := by
  obtain ⟨hpc, hfs⟩ := hk
  obtain ⟨frecs, fobjs, fmin, fdl, -⟩ := frSame_all hfs
  by_cases hph : inPhase (s.pc t) = true
  rotate_left
  · exact ti_of_notPhase (by rw [hpc]; simpa using hph)
  have M := mono_stepThr hs
  have hkn := known_of_reachable hr t (inCall_of_inPhase hph)
  have hexp : ∀ n, .note n ∈ (s.fr t).objs → (s'.obj (.note n)).expiry = (s.obj (.note n)).expiry :=
    fun n hn => M.expiry _ (hkn _ hn)
  refine ti_move hr sb hs ti hph frecs fobjs (fun j hj => by rw [hpc]; exact hj) ?_ ?_ ?_ ?_
  · intro i r _ hwr _; rw [hpc] at hwr; exact .inl hwr
  · intro hsl i r _; rw [hpc] at hsl; exact wrAt_of_inSleep hsl i
  · intro hsl i r _ _ _
    rw [hpc] at hsl ⊢
    exact .inr ⟨hsl, fun h => seen_keep fmin fobjs hexp M.now h⟩
  · rw [hpc]; exact sdat_keep fmin fobjs fdl hexp ti.sd

theorem ti_dflt {s s' : State} {b : SemId → Bool} {t : Tid} {e : Ev} (hr : Reachable s) (sb : SB s)
    (hs : stepThr s t e = .ok s') (ti : TI s b t) (h : dflt s t e = .ok s') : TI s' (binStep b (.thr t e)) t :=
  ti_keeps hr sb hs (keeps_dflt h) ti

/-- steps of other threads -/
theorem ti_other {s s' : State} {b : SemId → Bool} {u t : Tid} {e : Ev} (hr : Reachable s) (sb : SB s)
    (hs : stepThr s u e = .ok s') (hne : t ≠ u) (ti : TI s b t) : TI s' (binStep b (.thr u e)) t := by
  obtain ⟨h1, _, _, h4⟩ := others_stepThr hs t hne
  exact ti_keeps hr sb hs ⟨h1, h4⟩ ti

/-- the clock -/
theorem ti_tick {s : State} {b : SemId → Bool} {t : Tid} {ns : Nat} (hr : Reachable s) (hle : s.now ≤ ns) (ti : TI s b t) :
    TI { s with now := ns } b t := by
  have kn := known_of_reachable hr
  refine ⟨fun i r hri hwr hw => ?_, fun hsl i r hri hw => ?_, ?_⟩
  · have hc := inCall_of_inPhase (inPhase_of_wrAt hwr)
    have m : Mono s { s with now := ns } t :=
      ⟨fun _ h => h, fun _ _ => rfl, fun _ _ _ h => h, fun _ _ h _ => h, hle, fun _ h1 h2 => by rw [h1] at h2; cases h2⟩
    exact sReady_keep rfl (kn t hc) m hri hw (ti.wr i r hri hwr hw)
  · rcases ti.os hsl i r hri hw with h | h | h
    · exact .inl h
    · exact .inr (.inl h)
    · exact .inr (.inr (seen_keep (s := s) rfl rfl (fun _ _ => rfl) hle h))
  · exact sdat_keep (s := s) rfl rfl rfl (fun _ _ => rfl) ti.sd

/-!
### the scan of the do-while of wait.c: `TI` across the end of a `ready_time (v, &nw[k])` call (`rtDone … .loop`),
the start of a new scan after a successful P, and the landing lemmas for `loopNext`. The scan invariant of
C11_no_oversleep is here: if the call reported "not ready" (`time > 0`) although the record's `waiting` is 0 and
its object is ready, the object became ready after the decisive load — and then the token / pending post is
already accounted for (`hk`); otherwise `min_ntime` becomes 0 and the loop is left.
-/

/-! ### order on deadlines -/

theorem dle_refl (a : Deadline) : dle a a := by
  cases a <;> simp [dle, dlt]

theorem dle_of_dlt_dle {t m d : Deadline} (h1 : dlt t m = true) (h2 : dle m d) : dle t d := by
  cases t <;> cases m <;> cases d <;> simp [dle, dlt] at h1 h2 ⊢
  omega

theorem dle_trans {a b c : Deadline} (h1 : dle a b) (h2 : dle b c) : dle a c := by
  cases a <;> cases b <;> cases c <;> simp [dle, dlt] at h1 h2 ⊢
  omega

theorem dle_of_dlt {a b : Deadline} (h : dlt a b = true) : dle a b := by
  cases a <;> cases b <;> simp [dle, dlt] at h ⊢
  omega

theorem not_dlt_of_dlePast {time m : Deadline} (ht : dlePast time = false) (hm : dlePast m = true) : dlt time m = false := by
  cases time <;> cases m <;> simp [dlePast, dlt] at ht hm ⊢
  omega

/-- a deadline that has passed is below every later-or-equal one -/
theorem expiredB_of_dle {a b : Deadline} {now : Nat} (h : dle a b) (hb : expiredB b now = true) : expiredB a now = true := by
  cases a <;> cases b <;> simp [dle, dlt, expiredB] at h hb ⊢
  omega

/-! ### where `loopNext` lands -/

theorem seen_loopNext (s : State) {f : Frame} {k i : Nat} (hk : k ≤ i) (hi : i < f.count) : Seen s (loopNext f k) f i := by
  right
  have hkc : k < f.count := Nat.lt_of_le_of_lt hk hi
  unfold loopNext
  rw [if_pos hkc]
  obtain ⟨o, ho⟩ := objs_get_of_lt hkc
  rw [ho]
  cases o with
  | cv c => exact hk
  | ctr c => exact hk
  | note n =>
    show k < i ∨ (k = i ∧ ∀ n, f.objs[k]? = some (.note n) → ndSees s n .ld0)
    rcases Nat.lt_or_ge k i with h | h
    · exact .inl h
    · exact .inr ⟨by omega, fun _ _ => trivial⟩

theorem scanned_loopNext {f : Frame} {k k' : Nat} (hk : k ≤ f.count) (h : scanned (loopNext f k) f = some k') : k' = k := by
  unfold loopNext at h
  split at h
  · rename_i hkc
    obtain ⟨o, ho⟩ := objs_get_of_lt hkc
    rw [ho] at h
    cases o <;> simp [scanned] at h <;> exact h.symm
  · rename_i hkc
    have : k = f.count := by omega
    unfold scanEnd at h
    split at h
    · rw [scanned_none_of_notSleep (inSleep_deqNext f 0)] at h; cases h
    · simp [scanned] at h; omega

theorem loopNext_ne_pdEnter_of_past {f : Frame} {k : Nat} (h : dlePast f.min = true) : loopNext f k ≠ .wPdEnter := by
  unfold loopNext
  split
  · split <;> simp
  · unfold scanEnd; rw [if_pos h]
    unfold deqNext; split
    · split <;> simp
    · unfold finNext; split
      · simp
      · unfold relockNext; split <;> simp

/-- below the scan position only `min_ntime <= 0` counts as "seen" -/
theorem seen_below {s : State} {p : PC} {f : Frame} {k i : Nat} (hsc : scanned p f = some k) (hi : i < k)
    (h : Seen s p f i) : dlePast f.min = true := by
  rcases h with h | h
  · exact h
  · exfalso
    cases p with
    | wCvRT k0 => simp [scanned] at hsc; subst hsc; exact absurd h (by omega)
    | wCtrRT u k0 l =>
      cases u with
      | loop => simp [scanned] at hsc; subst hsc; exact absurd h (by omega)
      | _ => exact h
    | wND u k0 st =>
      cases u with
      | loop =>
        simp [scanned] at hsc; subst hsc
        rcases (show k0 < i ∨ (k0 = i ∧ ∀ n, f.objs[k0]? = some (.note n) → ndSees s n st) from h) with h | ⟨h, _⟩ <;> omega
      | _ => exact h
    | _ => exact h

theorem sReady_congr {s s' : State} {f f' : Frame} (hobj : s'.obj = s.obj) (hrcd : s'.rcd = s.rcd) (hnow : s'.now = s.now)
    (hobjs : f'.objs = f.objs) (hrecs : f'.recs = f.recs) (i : Nat) : sReady s' f' i ↔ sReady s f i := by
  unfold sReady noteReady ctrZero
  rw [hobj, hrcd, hnow, hobjs, hrecs]

theorem binStep_other {b : SemId → Bool} {t : Tid} {e : Ev} (hv : ∀ j, isV e j = false) (hp : ∀ j, isPret e j = false) :
    binStep b (.thr t e) = b := by
  funext j; simp [binStep, hv, hp]

/-! ### the end of a `ready_time (v, &nw[k])` call inside the do-while -/

theorem ti_rtDone_loop {s s' : State} {b : SemId → Bool} {t : Tid} {e : Ev} {p : PC} {k : Nat} {time : Deadline}
    (hr : Reachable s) (sb : SB s) (hs : stepThr s t e = .ok s') (ti : TI s b t) (hpc : s.pc t = p)
    (hsl : inSleep p = true) (hsc : scanned p (s.fr t) = some k) (hlt : k < (s.fr t).count)
    (hnp : ∀ j, p ≠ .wPdWait j)
    (hk : dlePast time = false → ∀ r, (s.fr t).recs[k]? = some r → (s.rcd r).waiting = false → sReady s (s.fr t) k →
            Seen s p (s.fr t) k → dlePast (s.fr t).min = true)
    (htime : dlePast time = false → ∀ n, (s.fr t).objs[k]? = some (.note n) → time = (s.obj (.note n)).expiry)
    (h : rtDone s t .loop k time = .ok s') : TI s' (binStep b (.thr t e)) t := by
  subst hpc
  have hil := inLoop_of_inSleep hsl (linv_of_reachable hr t)
  have hph := inPhase_of_inSleep hsl
  simp only [rtDone] at h
  -- the new frame
  generalize hf' : (if dlePast time = true then { s.fr t with min := some 0, who := some k, why := Why.readyAt k }
      else if dlt time (s.fr t).min = true then { s.fr t with min := time, who := some k } else s.fr t) = f' at h
  cases h
  have frecs : f'.recs = (s.fr t).recs := by subst hf'; split <;> (try split) <;> rfl
  have fobjs : f'.objs = (s.fr t).objs := by subst hf'; split <;> (try split) <;> rfl
  have fdl : f'.dl = (s.fr t).dl := by subst hf'; split <;> (try split) <;> rfl
  have fcount : f'.count = (s.fr t).count := by unfold Frame.count; rw [fobjs]
  have fmin1 : dlePast time = true → dlePast f'.min = true := by
    intro ht; subst hf'; rw [if_pos ht]; rfl
  have fmin2 : dlePast time = false → dlePast (s.fr t).min = true → f'.min = (s.fr t).min := by
    intro ht hm; subst hf'
    rw [if_neg (by rw [ht]; simp), if_neg (by rw [not_dlt_of_dlePast ht hm]; simp)]
  have fmin3 : dlePast time = false → dle f'.min (s.fr t).min ∧ dle f'.min time := by
    intro ht; subst hf'
    rw [if_neg (by rw [ht]; simp)]
    split
    · rename_i hd; exact ⟨dle_of_dlt hd, dle_refl _⟩
    · rename_i hd; exact ⟨dle_refl _, by simpa [dle] using hd⟩
  refine ti_move hr sb hs ti hph (by simpa using frecs) (by simpa using fobjs) (fun j hj => absurd hj (hnp j)) ?_ ?_ ?_ ?_
  · intro i r _ _ _; exact .inl (wrAt_of_inSleep hsl i)
  · intro _ i r _; exact wrAt_of_inSleep hsl i
  · intro hsl' i r hri hw' hrd
    simp only [setPc_pc, setPc_fr, setFr_fr, if_true, setPc_rcd, setFr_rcd] at hw' hrd ⊢
    have hi : i < (s.fr t).count := by
      have := (List.getElem?_eq_some_iff.1 hri).1
      rw [hil.full] at this; exact this
    by_cases ht : dlePast time = true
    · exact .inl (.inl (fmin1 ht))
    · have ht' : dlePast time = false := by simpa using ht
      rcases Nat.lt_or_ge k i with hki | hki
      · left
        have := seen_loopNext ((s.setFr t f').setPc t (loopNext f' (k + 1))) (f := f') (k := k + 1) (i := i) (by omega)
          (by rw [fcount]; exact hi)
        exact this
      · right
        refine ⟨hsl, fun hseen => ?_⟩
        have hm : dlePast (s.fr t).min = true := by
          rcases Nat.lt_or_ge i k with hik | hik
          · exact seen_below hsc hik hseen
          · have : i = k := by omega
            subst this
            have hrd0 : sReady s (s.fr t) i :=
              (sReady_congr (s' := (s.setFr t f').setPc t (loopNext f' (i + 1))) (s := s) rfl rfl rfl fobjs frecs i).1 hrd
            exact hk ht' r hri hw' hrd0 hseen
        left; rw [fmin2 ht' hm]; exact hm
  · intro k' hk' hm'
    simp only [setPc_pc, setPc_fr, setFr_fr, if_true, setPc_obj, setFr_obj] at hk' hm' ⊢
    have hk1 : k' = k + 1 := scanned_loopNext (by rw [fcount]; omega) hk'
    subst hk1
    have ht' : dlePast time = false := by
      cases ht : dlePast time with
      | false => rfl
      | true => rw [fmin1 ht] at hm'; cases hm'
    have hm0 : dlePast (s.fr t).min = false := by
      cases hm : dlePast (s.fr t).min with
      | false => rfl
      | true => rw [fmin2 ht' hm, hm] at hm'; cases hm'
    obtain ⟨h1, h2⟩ := ti.sd k hsc hm0
    obtain ⟨m1, m2⟩ := fmin3 ht'
    refine ⟨by rw [fdl]; exact dle_trans m1 h1, fun i n hi hn => ?_⟩
    rw [fobjs] at hn
    rcases Nat.lt_or_ge i k with hik | hik
    · exact dle_trans m1 (h2 i n hik hn)
    · have : i = k := by omega
      subst this
      rw [← htime ht' n hn]; exact m2

/-! ### a new scan after the P has consumed a token -/

theorem ti_startScan {s : State} {b' : SemId → Bool} {t : Tid} {b : SemId → Bool} {j n : Nat} (hr : Reachable s)
    (ti : TI s b t) (hpc : s.pc t = .wPdWait j) : TI (startScan (s.setSem j n) t) b' t := by
  have hl := linv_of_reachable hr t
  rw [hpc] at hl
  have hil : InLoop (s.fr t) := hl.1
  have hfull := hil.full
  refine ⟨fun i r hri _ hw => ?_, fun _ i r hri _ => ?_, fun k hk hm => ?_⟩
  · simp only [startScan, setPc_fr, setFr_fr, if_true, setPc_rcd, setFr_rcd, setSem_rcd, setSem_fr] at hri hw
    have := ti.wr i r hri (by rw [hpc]; simp [wrAt, inSleep]) hw
    exact (sReady_congr (s := s) (by simp [startScan]) (by simp [startScan]) (by simp [startScan])
      (by simp [startScan]) (by simp [startScan]) i).2 this
  · right; right
    simp only [startScan, setPc_fr, setFr_fr, if_true, setPc_pc, setSem_fr] at hri ⊢
    apply seen_loopNext _ (Nat.zero_le _)
    have := (List.getElem?_eq_some_iff.1 hri).1
    simp only [Frame.count]; rw [hfull] at this; exact this
  · simp only [startScan, setPc_fr, setFr_fr, if_true, setPc_pc, setSem_fr] at hk hm ⊢
    have hk0 : k = 0 := scanned_loopNext (Nat.zero_le _) hk
    subst hk0
    exact ⟨dle_refl _, fun i n hi _ => absurd hi (Nat.not_lt_zero _)⟩

/-!
### `TI` across the caller's own steps inside the do-while: cv_ready_time, counter_ready_time, and
nsync_note_notified_deadline_ as note_ready_time.
-/

theorem sdat_of_scanned {s s' : State} {p p' : PC} {f : Frame} (hsc : scanned p' f = scanned p f)
    (he : ∀ n, .note n ∈ f.objs → (s'.obj (.note n)).expiry = (s.obj (.note n)).expiry)
    (h : SDat s p f) : SDat s' p' f := by
  intro k hk hm
  rw [hsc] at hk
  obtain ⟨h1, h2⟩ := h k hk hm
  refine ⟨h1, fun i n hi hn => ?_⟩
  rw [he n (List.mem_of_getElem? hn)]
  exact h2 i n hi hn

/-- a move between two program points of the same `ready_time (v, &nw[i])` call that keeps the frame -/
theorem ti_scan_go {s s' : State} {b : SemId → Bool} {t : Tid} {e : Ev} {p : PC}
    (hr : Reachable s) (sb : SB s) (hs : stepThr s t e = .ok s') (ti : TI s b t) (hpc : s.pc t = p)
    (hsl : inSleep p = true) (hnp : ∀ j, p ≠ .wPdWait j)
    (hfr : s'.fr t = s.fr t) (hsc : scanned (s'.pc t) (s.fr t) = scanned p (s.fr t))
    (hsee : ∀ i r, (s.fr t).recs[i]? = some r → (s'.rcd r).waiting = false → sReady s' (s.fr t) i →
              Seen s p (s.fr t) i → Seen s' (s'.pc t) (s.fr t) i) :
    TI s' (binStep b (.thr t e)) t := by
  subst hpc
  have hph := inPhase_of_inSleep hsl
  have M := mono_stepThr hs
  have hkn := known_of_reachable hr t (inCall_of_inPhase hph)
  have hexp : ∀ n, .note n ∈ (s.fr t).objs → (s'.obj (.note n)).expiry = (s.obj (.note n)).expiry :=
    fun n hn => M.expiry _ (hkn _ hn)
  refine ti_move hr sb hs ti hph (by rw [hfr]) (by rw [hfr]) (fun j hj => absurd hj (hnp j)) ?_ ?_ ?_ ?_
  · intro i r _ _ _; exact .inl (wrAt_of_inSleep hsl i)
  · intro _ i r _; exact wrAt_of_inSleep hsl i
  · intro _ i r hri hw' hrd
    rw [hfr] at hrd ⊢
    exact .inr ⟨hsl, hsee i r hri hw' hrd⟩
  · rw [hfr]; exact sdat_of_scanned hsc hexp ti.sd

/-! ### cv_ready_time (v, &nw[j]) -/

theorem ti_stepCvRT {s s' : State} {b : SemId → Bool} {t : Tid} {e : Ev} {j : Nat}
    (hr : Reachable s) (sb : SB s) (hs : stepThr s t e = .ok s') (ti : TI s b t)
    (hpc : s.pc t = .wCvRT j) (h : stepCvRT s t j e = .ok s') : TI s' (binStep b (.thr t e)) t := by
  have hl : LInv (.wCvRT j) (s.fr t) := hpc ▸ linv_of_reachable hr t
  obtain ⟨c, hcv⟩ := hl.2
  unfold stepCvRT at h
  split at h
  · rename_i r' obs r hrj
    split at h
    · rename_i hg
      refine ti_rtDone_loop hr sb hs ti hpc rfl rfl (lt_count_of_get hcv) nofun ?_ ?_ h
      · intro ht r0 hr0 hw0 _ _
        exfalso
        rw [hrj] at hr0; cases hr0
        have h0 : obs ≠ 0 := by
          intro h0; simp [h0, dlePast] at ht
        rw [hg.2, hw0] at h0; exact h0 rfl
      · intro _ n hn; rw [hcv] at hn; cases hn
    · simp at h
  · exact ti_dflt hr sb hs ti h

/-! ### counter_ready_time (v, &nw[i]) -/

theorem ti_stepCtrRT_loop {s s' : State} {b : SemId → Bool} {t : Tid} {e : Ev} {i : Nat} {l : Bool}
    (hr : Reachable s) (sb : SB s) (hs : stepThr s t e = .ok s') (ti : TI s b t)
    (hpc : s.pc t = .wCtrRT .loop i l) (h : stepCtrRT s t .loop i l e = .ok s') : TI s' (binStep b (.thr t e)) t := by
  have hl : LInv (.wCtrRT .loop i l) (s.fr t) := hpc ▸ linv_of_reachable hr t
  obtain ⟨c, hctr⟩ := hl.2
  have Kd := ti_dflt hr sb hs ti
  unfold stepCtrRT at h
  rw [hctr] at h
  dsimp only at h
  split_ok h
  all_goals first
    | exact Kd h
    | skip
  · -- ATM_STORE (&c->waited, 1)
    cases h
    refine ti_scan_go hr sb hs ti hpc rfl nofun rfl (by simp [scanned]) ?_
    intro i' r _ _ _ hseen
    simp only [setPc_pc, if_true]
    rcases hseen with h1 | h1
    · exact .inl h1
    · exact .inr h1
  · -- ATM_LOAD_ACQ (&c->value) observed 0
    exact ti_rtDone_loop hr sb hs ti hpc rfl rfl (lt_count_of_get hctr) nofun
      (fun ht => by simp [dlePast] at ht) (fun ht => by simp [dlePast] at ht) h
  · -- … observed a non-zero value
    rename_i k' obs hg h0
    refine ti_rtDone_loop hr sb hs ti hpc rfl rfl (lt_count_of_get hctr) nofun ?_ ?_ h
    · intro _ r0 _ _ hrd _
      exfalso
      unfold sReady at hrd
      rw [hctr] at hrd
      exact h0 (by rw [hg.2]; exact hrd.1)
    · intro _ n hn; rw [hctr] at hn; cases hn

/-!
### `TI` across the caller's own steps inside the do-while: nsync_note_notified_deadline_ as
note_ready_time (v, &nw[i]). The decisive points: the load of `notified` under note_mu (`ld1`: a cleared record
belongs to a notified or expired note, so the observed value / the clock will say "ready"), and the clock read
(`now`).
-/

theorem ti_stepND_loop {s s' : State} {b : SemId → Bool} {t : Tid} {e : Ev} {i : Nat} {st : NDst}
    (hr : Reachable s) (sb : SB s) (hs : stepThr s t e = .ok s') (ti : TI s b t)
    (hpc : s.pc t = .wND .loop i st) (h : stepND s t .loop i st e = .ok s') : TI s' (binStep b (.thr t e)) t := by
  have hl : LInv (.wND .loop i st) (s.fr t) := hpc ▸ linv_of_reachable hr t
  obtain ⟨n, hn⟩ := hl.2
  have Kd := ti_dflt hr sb hs ti
  have Ko : stepOpen s t e = .ok s' → TI s' (binStep b (.thr t e)) t := fun h => ti_keeps hr sb hs (keeps_stepOpen h) ti
  have hlt := lt_count_of_get hn
  -- a move to another program point of the same call
  have go : ∀ st', s'.fr t = s.fr t → s'.pc t = .wND .loop i st' →
      (∀ r, (s.fr t).recs[i]? = some r → (s'.rcd r).waiting = false → sReady s' (s.fr t) i → ndSees s n st →
        ndSees s' n st') → TI s' (binStep b (.thr t e)) t := by
    intro st' hfr hpc' hsee
    refine ti_scan_go hr sb hs ti hpc rfl nofun hfr (by rw [hpc']; rfl) ?_
    intro i' r hri hw' hrd hseen
    rw [hpc']
    rcases hseen with h1 | h1
    · exact .inl h1
    · right
      rcases (show i < i' ∨ (i = i' ∧ ∀ n, (s.fr t).objs[i]? = some (.note n) → ndSees s n st) from h1) with h2 | ⟨h2, h3⟩
      · exact .inl h2
      · subst h2
        exact .inr ⟨rfl, fun n' hn' => by rw [hn] at hn'; cases hn'; exact hsee r hri hw' hrd (h3 n hn)⟩
  -- the call returns "ready"
  have rdy : ∀ time, dlePast time = true → rtDone s t .loop i time = .ok s' → TI s' (binStep b (.thr t e)) t :=
    fun time ht h => ti_rtDone_loop hr sb hs ti hpc rfl rfl hlt nofun
      (fun ht' => by rw [ht] at ht'; cases ht') (fun ht' => by rw [ht] at ht'; cases ht') h
  unfold stepND at h
  rw [hn] at h
  dsimp only at h
  cases st <;> dsimp only at h <;> split_ok h
  all_goals first
    | exact Kd h
    | exact Ko h
    | exact rdy _ rfl h
    | exact rdy _ ‹_› h
    | (cases h; exact go _ rfl (if_pos rfl) (fun _ _ _ _ _ => trivial))
    | skip
  · -- ld1: ATM_LOAD_ACQ (&n->notified) under note_mu
    rename_i n' obs hg
    cases h
    refine go _ rfl (if_pos rfl) ?_
    intro r _ _ hrd _
    unfold sReady at hrd
    rw [hn] at hrd
    rcases hrd with hfl | hex
    · left
      simp only [setPc_obj] at hfl
      rw [hg.2, hfl]; simp
    · exact .inr hex
  · -- unlock of note_mu
    cases h
    refine go _ rfl (if_pos rfl) ?_
    intro r _ _ _ hsee
    rcases hsee with h1 | h1
    · exact .inl h1
    · right; simpa using h1
  · -- not notified, deadline after time zero: read the clock next
    rename_i obs hpc0 hno hnd
    cases h
    refine go _ rfl (if_pos rfl) ?_
    intro r _ _ _ hsee
    rcases hsee with h1 | h1
    · exact absurd h1 hno
    · exact h1
  · -- `now`: the deadline has not passed; ready time = expiry
    rename_i ns hns hne
    subst hns
    refine ti_rtDone_loop hr sb hs ti hpc rfl rfl hlt nofun ?_ ?_ h
    · intro _ r _ _ _ hseen
      rcases hseen with h1 | h1
      · exact h1
      · exfalso
        rcases (show i < i ∨ (i = i ∧ ∀ n, (s.fr t).objs[i]? = some (.note n) → ndSees s n .now) from h1) with h2 | ⟨_, h3⟩
        · exact absurd h2 (Nat.lt_irrefl _)
        · exact hne (h3 n hn)
    · intro _ n' hn'; rw [hn] at hn'; cases hn'; rfl

/-!
### `TI` across the caller's own steps: the P of the do-while (pd_enter / pd_ret), `(*unlock)
(mu)`, the initialising store, and the end of an enqueue call (entry of the do-while).
-/

@[simp] theorem inPhase_relockNext (f : Frame) : inPhase (relockNext f) = false := by
  unfold relockNext; split <;> rfl
@[simp] theorem inPhase_finNext (f : Frame) : inPhase (finNext f) = false := by
  unfold finNext; split
  · rfl
  · exact inPhase_relockNext f
@[simp] theorem inPhase_deqNext (f : Frame) (k : Nat) : inPhase (deqNext f k) = false := by
  unfold deqNext; split
  · split <;> rfl
  · simp

/-- a move to a program point outside the do-while -/
theorem ti_enq_go {s s' : State} {b : SemId → Bool} {t : Tid} {e : Ev}
    (hr : Reachable s) (sb : SB s) (hs : stepThr s t e = .ok s') (ti : TI s b t)
    (hph : inPhase (s.pc t) = true) (hnp : ∀ j, s.pc t ≠ .wPdWait j)
    (frecs : (s'.fr t).recs = (s.fr t).recs) (fobjs : (s'.fr t).objs = (s.fr t).objs)
    (hns : inSleep (s'.pc t) = false)
    (hwr : ∀ i r, (s.fr t).recs[i]? = some r → wrAt (s'.pc t) i → (s'.rcd r).waiting = false →
            wrAt (s.pc t) i ∨ sReady s' (s'.fr t) i) : TI s' (binStep b (.thr t e)) t :=
  ti_move hr sb hs ti hph frecs fobjs (fun j hj => absurd hj (hnp j)) hwr
    (fun h => by rw [hns] at h; cases h) (fun h => by rw [hns] at h; cases h)
    (fun k hk => by rw [scanned_none_of_notSleep hns] at hk; cases hk)

/-! ### the P -/

theorem ti_stepPdEnter {s s' : State} {b : SemId → Bool} {t : Tid} {e : Ev}
    (hr : Reachable s) (sb : SB s) (hs : stepThr s t e = .ok s') (ti : TI s b t)
    (hpc : s.pc t = .wPdEnter) (h : stepPdEnter s t e = .ok s') : TI s' (binStep b (.thr t e)) t := by
  have Kd := ti_dflt hr sb hs ti
  have hsl : inSleep (s.pc t) = true := by rw [hpc]; rfl
  unfold stepPdEnter at h
  split_ok h
  all_goals first
    | exact Kd h
    | skip
  rename_i j d hd _ s1 hb
  cases h
  have k := keeps_bindSem (t := t) hb
  obtain ⟨frecs, fobjs, fmin, fdl, _, _⟩ := frSame_all k.2
  have hobj := (bindSem_sem hb).2.2.2.2.2
  refine ti_move hr sb hs ti (inPhase_of_inSleep hsl) (by simpa using frecs) (by simpa using fobjs)
    (fun j hj => by rw [hpc] at hj; cases hj) ?_ ?_ ?_ ?_
  · intro i r _ _ _; exact .inl (wrAt_of_inSleep hsl i)
  · intro _ i r _; exact wrAt_of_inSleep hsl i
  · intro _ i r _ _ _
    right
    refine ⟨hsl, fun hseen => ?_⟩
    rw [hpc] at hseen
    simp only [setPc_pc, setPc_fr, if_true]
    rcases hseen with h1 | h1
    · left; rw [fmin]; exact h1
    · exact h1.elim
  · intro k' hk' hm'
    simp only [setPc_pc, setPc_fr, if_true, setPc_obj, scanned] at hk' hm' ⊢
    rw [fmin] at hm' ⊢
    have hc : (s1.fr t).count = (s.fr t).count := by unfold Frame.count; rw [fobjs]
    rw [hc] at hk'
    obtain ⟨h1, h2⟩ := ti.sd k' (by rw [hpc]; exact hk') hm'
    rw [fdl, fobjs, hobj]
    exact ⟨h1, h2⟩

theorem ti_stepPdWait {s s' : State} {b : SemId → Bool} {t : Tid} {e : Ev} {j : SemId}
    (hr : Reachable s) (sb : SB s) (hs : stepThr s t e = .ok s') (ti : TI s b t)
    (hpc : s.pc t = .wPdWait j) (h : stepPdWait s t j e = .ok s') : TI s' (binStep b (.thr t e)) t := by
  have Kd := ti_dflt hr sb hs ti
  unfold stepPdWait at h
  split_ok h
  all_goals first
    | exact Kd h
    | (cases h; exact ti_of_notPhase (by simp))
    | (cases h; exact ti_startScan hr ti hpc)

/-! ### `(*unlock) (mu)`: entry of the do-while -/

theorem ti_stepUnlockMu {s s' : State} {b : SemId → Bool} {t : Tid} {e : Ev}
    (hr : Reachable s) (sb : SB s) (hs : stepThr s t e = .ok s') (ti : TI s b t)
    (hpc : s.pc t = .wUnlock) (h : stepUnlockMu s t e = .ok s') : TI s' (binStep b (.thr t e)) t := by
  have hl : LInv .wUnlock (s.fr t) := hpc ▸ linv_of_reachable hr t
  have Kd := ti_dflt hr sb hs ti
  unfold stepUnlockMu at h
  split_ok h
  all_goals first
    | exact Kd h
    | skip
  cases h
  refine ti_move hr sb hs ti (by rw [hpc]; rfl) (by simp) (by simp) (fun j hj => by rw [hpc] at hj; cases hj) ?_ ?_ ?_ ?_
  · intro i r _ _ _; left; rw [hpc]; trivial
  · intro _ i r _; rw [hpc]; trivial
  · intro _ i r hri _ _
    left
    simp only [setPc_pc, setPc_fr, setFr_fr, if_true]
    apply seen_loopNext _ (Nat.zero_le _)
    have := (List.getElem?_eq_some_iff.1 hri).1
    simp only [Frame.count]; rw [hl.2.1] at this; exact this
  · intro k hk hm
    simp only [setPc_pc, setPc_fr, setFr_fr, if_true] at hk hm ⊢
    have hk0 : k = 0 := scanned_loopNext (Nat.zero_le _) hk
    subst hk0
    rw [hl.1.min]
    exact ⟨dle_refl _, fun i n hi _ => absurd hi (Nat.not_lt_zero _)⟩

/-! ### the end of an enqueue call -/

theorem seen_enqNext (s : State) {f : Frame} {i' i : Nat} {res : Bool} (hsl : inSleep (enqNext f i' res) = true)
    (hi : i < f.count) : Seen s (enqNext f i' res) f i := by
  unfold enqNext at hsl ⊢
  split
  · rename_i h; rw [if_pos h] at hsl; cases hsl
  · rename_i h; rw [if_neg h] at hsl
    split
    · rename_i h2; rw [if_pos h2] at hsl
      split
      · rename_i h3; rw [if_pos h3] at hsl; cases hsl
      · exact seen_loopNext s (Nat.zero_le _) hi
    · rename_i h2; rw [if_neg h2] at hsl; rw [inSleep_deqNext] at hsl; cases hsl

theorem scanned_enqNext {f : Frame} {i' k : Nat} {res : Bool} (h : scanned (enqNext f i' res) f = some k) : k = 0 := by
  unfold enqNext at h
  split at h
  · simp [scanned] at h
  · split at h
    · split at h
      · simp [scanned] at h
      · exact scanned_loopNext (Nat.zero_le _) h
    · rw [scanned_none_of_notSleep (inSleep_deqNext f 0)] at h; cases h

theorem ti_afterEnq {s s1 s' : State} {b : SemId → Bool} {t : Tid} {e : Ev} {i' : Nat} {res : Bool}
    (hr : Reachable s) (sb : SB s) (hs : stepThr s t e = .ok s') (ti : TI s b t)
    (hph : inPhase (s.pc t) = true) (hnp : ∀ j, s.pc t ≠ .wPdWait j) (hpl : PreLoop (s.fr t))
    (hall : ∀ i r, (s.fr t).recs[i]? = some r → wrAt (s.pc t) i)
    (hfr : s1.fr t = s.fr t) (h : afterEnq s1 t i' res = .ok s') : TI s' (binStep b (.thr t e)) t := by
  unfold afterEnq at h
  cases h
  generalize hf : (if res = true then { s1.fr t with who := none }
      else { s1.fr t with who := none, why := Why.readyAt (i' - 1) }) = f at hs ⊢
  have frecs : f.recs = (s.fr t).recs := by subst hf; rw [← hfr]; split <;> rfl
  have fobjs : f.objs = (s.fr t).objs := by subst hf; rw [← hfr]; split <;> rfl
  have fmin : f.min = (s.fr t).min := by subst hf; rw [← hfr]; split <;> rfl
  have fdl : f.dl = (s.fr t).dl := by subst hf; rw [← hfr]; split <;> rfl
  refine ti_move hr sb hs ti hph (by simpa using frecs) (by simpa using fobjs) (fun j hj => absurd hj (hnp j)) ?_ ?_ ?_ ?_
  · intro i r hri _ _; exact .inl (hall i r hri)
  · intro _ i r hri; exact hall i r hri
  · intro hsl i r hri _ _
    left
    simp only [setPc_pc, setPc_fr, setFr_fr, if_true] at hsl ⊢
    apply seen_enqNext _ hsl
    have := (List.getElem?_eq_some_iff.1 hri).1
    have hlen := hpl.len
    simp only [Frame.count] at hlen ⊢; rw [fobjs]; omega
  · intro k hk hm
    simp only [setPc_pc, setPc_fr, setFr_fr, if_true] at hk hm ⊢
    have hk0 : k = 0 := scanned_enqNext hk
    subst hk0
    rw [fmin, fdl, hpl.min]
    exact ⟨dle_refl _, fun i n hi _ => absurd hi (Nat.not_lt_zero _)⟩

/-! ### ATM_STORE (&nw[i].waiting, 0) -/

theorem ti_stepInit {s s' : State} {b : SemId → Bool} {t : Tid} {e : Ev} {k : Nat}
    (hr : Reachable s) (sb : SB s) (hs : stepThr s t e = .ok s') (ti : TI s b t)
    (hpc : s.pc t = .wInit k) (h : stepInit s t k e = .ok s') : TI s' (binStep b (.thr t e)) t := by
  have hl : LInv (.wInit k) (s.fr t) := hpc ▸ linv_of_reachable hr t
  have Kd := ti_dflt hr sb hs ti
  have M := mono_stepThr hs
  have own := own_of_reachable hr
  have hc : inCall (s.pc t) = true := by rw [hpc]; rfl
  have hkn := known_of_reachable hr t hc
  unfold stepInit at h
  dsimp only at h
  split at h
  rotate_left
  · exact Kd h
  split at h
  rotate_left
  · simp at h
  rename_i r new obs oid _ hg
  cases h
  have hns : inSleep (if oid.isCv = true then PC.wEnqCv k (.spin .ld) else PC.wEnq k .lockCall) = false := by
    split <;> rfl
  refine ⟨fun i r0 hri hwr hw => ?_, fun hsl => ?_, fun k' hk' => ?_⟩
  · simp only [setPc_pc, setPc_fr, setFr_fr, if_true] at hri hwr
    have hik : i < k := by
      split at hwr
      · rcases hwr with h1 | ⟨_, h2⟩
        · exact h1
        · cases h2
      · rcases hwr with h1 | ⟨_, b', h2⟩
        · exact h1
        · rcases h2 with h2 | h2 <;> cases h2
    have hri0 : (s.fr t).recs[i]? = some r0 := by
      rw [List.getElem?_append_left (by rw [hl.2.1]; exact hik)] at hri; exact hri
    have hlive := (own.own t r0 hc hl.1.frees (List.mem_of_getElem? hri0)).1
    have hne : r0 ≠ r := by
      intro he; subst he; rw [hg.2.1] at hlive; cases hlive
    have hw0 : (s.rcd r0).waiting = false := by simpa [hne] using hw
    have := ti.wr i r0 hri0 (by rw [hpc]; trivial) hw0
    simp only [setPc_fr, setFr_fr, if_true]
    refine sReady_keep (f := s.fr t) (f' := { s.fr t with recs := (s.fr t).recs ++ [r] }) rfl hkn M ?_ hw this
    rw [List.getElem?_append_left (by rw [hl.2.1]; exact hik)]; exact hri0
  · simp only [setPc_pc, if_true] at hsl; rw [hns] at hsl; cases hsl
  · simp only [setPc_pc, if_true] at hk'
    rw [scanned_none_of_notSleep hns] at hk'; cases hk'

/-!
### `TI` across the caller's own steps: cv_enqueue, note_enqueue, counter_enqueue. (`wr`: an
enqueue that decides "not enqueued" does so on a ready object; one that enqueues sets `waiting`.)
-/

theorem get_last_of_len {l : List Rid} {k : Nat} (h : l.length = k + 1) : ∃ r, l[k]? = some r := by
  have : k < l.length := by omega
  exact ⟨l[k], List.getElem?_eq_getElem this⟩

theorem ti_stepEnqCv {s s' : State} {b : SemId → Bool} {t : Tid} {e : Ev} {k : Nat} {st : CvEnqSt}
    (hr : Reachable s) (sb : SB s) (hs : stepThr s t e = .ok s') (ti : TI s b t)
    (hpc : s.pc t = .wEnqCv k st) (h : stepEnqCv s t k st e = .ok s') : TI s' (binStep b (.thr t e)) t := by
  have hl : LInv (.wEnqCv k st) (s.fr t) := hpc ▸ linv_of_reachable hr t
  obtain ⟨c, hcv⟩ := hl.2.2.1
  obtain ⟨r, hrk⟩ := get_last_of_len hl.2.1
  have Kd := ti_dflt hr sb hs ti
  have hph : inPhase (s.pc t) = true := by rw [hpc]; rfl
  have hnp : ∀ j, s.pc t ≠ .wPdWait j := by rw [hpc]; simp
  have hlen : ∀ i r0, (s.fr t).recs[i]? = some r0 → i < k + 1 := by
    intro i r0 hri; have := (List.getElem?_eq_some_iff.1 hri).1; rw [hl.2.1] at this; exact this
  unfold stepEnqCv at h
  rw [hcv, hrk] at h
  dsimp only at h
  cases st with
  | spin sp =>
    dsimp only at h
    unfold spinAcq at h
    split_ok h
    all_goals first
      | exact Kd h
      | skip
    all_goals
      cases h
      refine ti_enq_go hr sb hs ti hph hnp (by simp) (by simp) (by simp [inSleep]) ?_
      intro i r0 _ hwr' _
      left; rw [hpc]
      simp [wrAt] at hwr' ⊢
      exact hwr'
  | store =>
    dsimp only at h
    split_ok h
    all_goals first
      | exact Kd h
      | skip
    cases h
    refine ti_enq_go hr sb hs ti hph hnp (by simp) (by simp) (by simp [inSleep]) ?_
    intro i r0 hri hwr' hw'
    left; rw [hpc]
    simp [wrAt] at hwr' ⊢
    rcases hwr' with h1 | h1
    · exact h1
    · subst h1
      rw [hrk] at hri; cases hri
      simp at hw'
  | release =>
    dsimp only at h
    split_ok h
    all_goals first
      | exact Kd h
      | skip
    refine ti_afterEnq hr sb hs ti hph hnp hl.1 ?_ (by simp) h
    intro i r0 hri
    rw [hpc]
    have := hlen i r0 hri
    simp [wrAt]; omega

theorem ti_stepEnq {s s' : State} {b : SemId → Bool} {t : Tid} {e : Ev} {k : Nat} {st : EnqSt}
    (hr : Reachable s) (sb : SB s) (hs : stepThr s t e = .ok s') (ti : TI s b t)
    (hpc : s.pc t = .wEnq k st) (h : stepEnq s t k st e = .ok s') : TI s' (binStep b (.thr t e)) t := by
  have hl : LInv (.wEnq k st) (s.fr t) := hpc ▸ linv_of_reachable hr t
  have htf : TF s (.wEnq k st) (s.fr t) := hpc ▸ tf_of_reachable hr t
  obtain ⟨oid, hoid⟩ : ∃ oid, (s.fr t).objs[k]? = some oid := by
    rcases hl.2.2.1 with ⟨n, h⟩ | ⟨c, h⟩ <;> exact ⟨_, h⟩
  obtain ⟨r, hrk⟩ := get_last_of_len hl.2.1
  have Kd := ti_dflt hr sb hs ti
  have hph : inPhase (s.pc t) = true := by rw [hpc]; rfl
  have hnp : ∀ j, s.pc t ≠ .wPdWait j := by rw [hpc]; simp
  have M := mono_stepThr hs
  have hkn := known_of_reachable hr t (inCall_of_inPhase hph)
  have hlen : ∀ i r0, (s.fr t).recs[i]? = some r0 → i < k + 1 := by
    intro i r0 hri; have := (List.getElem?_eq_some_iff.1 hri).1; rw [hl.2.1] at this; exact this
  unfold stepEnq at h
  rw [hoid, hrk] at h
  dsimp only at h
  cases st with
  | unlockWait enq =>
    dsimp only at h
    split_ok h
    all_goals first
      | exact Kd h
      | skip
    refine ti_afterEnq hr sb hs ti hph hnp hl.1 ?_ rfl h
    intro i r0 hri
    rw [hpc]
    have := hlen i r0 hri
    simp [wrAt]; omega
  | store enq =>
    cases enq with
    | true =>
      -- enqueued: `waiting` is set
      dsimp only at h
      split_ok h
      all_goals first
        | exact Kd h
        | contradiction
        | skip
      all_goals
        cases h
        refine ti_enq_go hr sb hs ti hph hnp (by simp) (by simp) (by simp [inSleep]) ?_
        intro i r0 hri hwr' hw'
        left; rw [hpc]
        simp [wrAt] at hwr' ⊢
        rcases hwr' with h1 | h1
        · exact h1
        · subst h1
          rw [hrk] at hri; cases hri
          simp at hw'
    | false =>
      -- not enqueued: the object is ready
      dsimp only at h
      split_ok h
      all_goals first
        | exact Kd h
        | contradiction
        | skip
      all_goals
        cases h
        refine ti_enq_go hr sb hs ti hph hnp (by simp) (by simp) (by simp [inSleep]) ?_
        intro i r0 hri hwr' hw'
        simp [wrAt] at hwr'
        rcases hwr' with h1 | h1
        · left; rw [hpc]; simp [wrAt]; exact h1
        · subst h1
          right
          have hrd : sReady s (s.fr t) i := htf.2
          exact sReady_keep rfl hkn M (by simpa using hri) hw' hrd
  | _ =>
    dsimp only at h
    split_ok h
    all_goals first
      | exact Kd h
      | skip
    all_goals
      cases h
      refine ti_enq_go hr sb hs ti hph hnp (by simp) (by simp) (by simp [inSleep]) ?_
      intro i r0 _ hwr' _
      left; rw [hpc]
      simp [wrAt] at hwr' ⊢
      exact hwr'

/-!
### `TI` across the caller's own steps outside the two loops (first poll, dequeue loop, free / relock / return, and
threads that are not inside nsync_wait_n), the dispatch over the program counter, and the induction:
`inv_of_run`.
-/

section

/-- after the step the thread is outside the two loops, or has no record yet -/
theorem ti_out {s' : State} {b : SemId → Bool} {t : Tid}
    (h : inPhase (s'.pc t) = false ∨ ((s'.fr t).recs = [] ∧ inSleep (s'.pc t) = false)) : TI s' b t := by
  rcases h with h | ⟨h1, h2⟩
  · exact ti_of_notPhase h
  · exact ti_of_nil h1 h2

theorem rtDone_poll_out {s s' : State} {t : Tid} {i : Nat} {time : Deadline} (hrecs : (s.fr t).recs = [])
    (hpos : 0 < (s.fr t).count) (h : rtDone s t .poll i time = .ok s') :
    inPhase (s'.pc t) = false ∨ ((s'.fr t).recs = [] ∧ inSleep (s'.pc t) = false) := by
  simp only [rtDone] at h
  split at h
  · cases h; left; simp [inPhase, inSleep]
  · cases h; right
    refine ⟨by simpa using hrecs, ?_⟩
    simp only [setPc_pc, if_true, pollNext]
    exact inSleep_pollFrom _ hpos _ _

theorem rtDone_deq_out {s s' : State} {t : Tid} {i : Nat} {time : Deadline} (h : rtDone s t .deq i time = .ok s') :
    inPhase (s'.pc t) = false := by
  simp only [rtDone] at h
  cases h; simp [inPhase, inSleep]

theorem deqDone_out {s s' : State} {t : Tid} {j : Nat} {res : Bool} (h : deqDone s t j res = .ok s') :
    inPhase (s'.pc t) = false := by
  unfold deqDone at h
  dsimp only at h
  split at h <;> (cases h; simp)

theorem Flow.inPhase {p p' : PC} (h : Flow p p') : inPhase p' = inPhase p := by
  cases h
  case ctrRT u _ => cases u <;> rfl
  case nd u _ _ _ _ => cases u <;> rfl
  all_goals rfl

section own
variable {s s' : State} {b : SemId → Bool} {t : Tid} {e : Ev}
  (hr : Reachable s) (sb : SB s) (hs : stepThr s t e = .ok s') (ti : TI s b t)
include hr sb hs ti

omit sb ti in
/-- a step that begins outside the phase (first poll loop, dequeue loop and after, signal calls, unknown code) ends
    outside it, or before the first record exists: read off the shape of its `Tail` -/
theorem ti_from_out (hout : inPhase (s.pc t) = false) : TI s' (binStep b (.thr t e)) t := by
  obtain ⟨k, s1, a, bt⟩ := steps_stepThr hs
  have hl := linv_of_reachable hr t
  have hpc1 : s1.pc t = s.pc t := by rw [a.pc]
  have out : ∀ {p : PC}, s.pc t = p → inPhase p = true → False := fun h1 h2 => by rw [h1, h2] at hout; cases hout
  cases bt
  case same => exact ti_of_notPhase (by rw [hpc1]; exact hout)
  case nested m => exact ti_of_notPhase (by rw [setMc_pc, hpc1]; exact hout)
  case dflt hd => exact ti_of_notPhase (by rw [(keeps_dflt (t := t) hd).1, hpc1]; exact hout)
  case v hps => exact ti_of_notPhase (by rw [setSem_pc, (keeps_postSem (t := t) hps).1, hpc1]; exact hout)
  case vgoto => exact ti_of_notPhase (by simp [inPhase, inSleep])
  case goto p hf => exact ti_of_notPhase (by rw [setPc_pc, if_pos rfl, hf.inPhase]; exact hout)
  case giveUp => exact ti_of_notPhase (by simp [inPhase, inSleep])
  case rtDone hs' u i time hat hd =>
    subst s1
    generalize hq : s.pc t = q at hat hl
    cases hat
    · cases u
      · exact ti_out (rtDone_poll_out hl.1.recs hl.1.pos hd)
      · exact (out hq rfl).elim
      · exact ti_of_notPhase (rtDone_deq_out hd)
    · cases u
      · exact ti_out (rtDone_poll_out hl.1.recs hl.1.pos hd)
      · exact (out hq rfl).elim
      · exact hl.elim
    · exact (out hq rfl).elim
  case afterEnq hat _ => generalize hq : s.pc t = q at hat; cases hat <;> exact (out hq rfl).elim
  case deqDone hd => exact ti_of_notPhase (deqDone_out hd)
  case pdEnter hpc _ _ => exact (out hpc rfl).elim
  case pdWake hpc _ _ => exact (out hpc rfl).elim
  case init hpc _ _ _ _ _ => exact (out hpc rfl).elim
  case unlockMu hpc => exact (out hpc rfl).elim
  case timeout hpc => exact (out hpc rfl).elim
  case call mu dl objs nested hpc hne hk hs' =>
    refine ti_of_nil (by simp [Frame.new, Frame.empty]) ?_
    simp only [setPc_pc, if_true, pollNext]
    apply inSleep_pollFrom
    simp only [Frame.new, Frame.count]
    exact List.length_pos_iff.2 hne
  case alloc hs' arr hpc =>
    subst s1
    rw [hpc] at hl
    refine ti_of_nil (by simpa using hl.1.recs) ?_
    simp only [setPc_pc, if_true]
    rw [enqNext_zero (by simpa [Frame.count] using hl.1.pos)]
    rfl
  case free => exact ti_of_notPhase (by simp)
  case relock => exact ti_of_notPhase (by simp [inPhase, inSleep])
  case ret => exact ti_of_notPhase (by simp [inPhase, inSleep])

/-- the caller's own step -/
theorem ti_own : TI s' (binStep b (.thr t e)) t := by
  by_cases hout : inPhase (s.pc t) = false
  · exact ti_from_out hr hs hout
  have h := hs
  unfold stepThr at h
  split at h <;> rename_i hpc
  case h_4 u i l =>
    cases u
    case loop => exact ti_stepCtrRT_loop hr sb hs ti hpc h
    all_goals exact (hout (by rw [hpc]; rfl)).elim
  case h_5 u i st =>
    cases u
    case loop => exact ti_stepND_loop hr sb hs ti hpc h
    all_goals exact (hout (by rw [hpc]; rfl)).elim
  case h_6 => exact ti_stepEnqCv hr sb hs ti hpc h
  case h_7 => exact ti_stepEnq hr sb hs ti hpc h
  case h_11 => exact ti_stepInit hr sb hs ti hpc h
  case h_12 => exact ti_stepUnlockMu hr sb hs ti hpc h
  case h_13 => exact ti_stepCvRT hr sb hs ti hpc h
  case h_14 => exact ti_stepPdEnter hr sb hs ti hpc h
  case h_15 => exact ti_stepPdWait hr sb hs ti hpc h
  all_goals exact (hout (by rw [hpc]; rfl)).elim

end own

/-- the invariants hold after every accepted event sequence -/
theorem inv_of_run (evs : List Event) (s : State) (h : run init evs = .ok s) :
    SB s ∧ ∀ t, TI s (binSem evs) t := by
  refine reachB_induction (P := fun s b => SB s ∧ ∀ t, TI s b t) ?_ ?_ evs s h
  · exact ⟨sb_init, fun t => ti_of_notPhase (by simp [init, inPhase, inSleep])⟩
  · intro s b ev s' hr ⟨sb, ti⟩ hs
    cases ev with
    | thr u e =>
      simp only [step] at hs
      refine ⟨sb_step sb hs, fun t => ?_⟩
      by_cases htu : t = u
      · subst htu; exact ti_own hr sb hs (ti t)
      · exact ti_other hr sb hs htu (ti t)
    | tick ns =>
      simp only [step] at hs
      split at hs
      · rename_i hle
        cases hs
        exact ⟨⟨sb.b1, sb.b3⟩, fun t => ti_tick hr hle (ti t)⟩
      · simp at hs

end

end WaitN
