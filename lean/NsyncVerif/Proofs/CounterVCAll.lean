/-
  Proofs/CounterVCAll.lean — the invariant of the Counter × vector-clock product; it is preserved by
  the step of an add's successful CAS and by every other step; PReachable → VInv; the product run
  projects onto the acceptor run and onto `VC.run` of the mapped atomics.
-/
import NsyncVerif.Proofs.CounterVC

namespace Counter

open NsyncVerif

/-- thread t's clock dominates the pre-CAS clocks of the first n successful adds -/
def sawUpTo (p : PState) (t : Tid) (n : Nat) : Prop :=
  ∀ j c, j < n → p.adds[j]? = some c → VC.Clock.le c (p.m.vc t)

structure VInv (p : PState) : Prop where
  len : p.s.sh.created = true → p.s.sh.hist.length = p.adds.length + 1
  nil : p.s.sh.created = false → p.adds = [] ∧ p.zeroClock = VC.Clock.bot
  chain : ∀ c, c ∈ p.adds → VC.Clock.le c (p.m.relc .value)
  zc : VC.Clock.le p.zeroClock (p.m.relc .value)
  zi : (p.zeroIdx = 0 ∧ p.zeroClock = VC.Clock.bot)
      ∨ ∃ i, p.zeroIdx = i + 1 ∧ p.adds[i]? = some p.zeroClock
  seen : ∀ t, seenZero (p.s.pc t) = true →
      VC.Clock.le p.zeroClock (p.m.vc t) ∧ p.s.sh.value = 0 ∧ p.s.sh.waited = true
      ∧ sawUpTo p t p.zeroIdx
  past : ∀ t, pastStore (p.s.pc t) = true → p.s.sh.waited = true
  idx : ∀ t i, pcIdx (p.s.pc t) = some i → sawUpTo p t i
  val : ∀ t v, pcVal (p.s.pc t) = some v → ∃ n, p.s.sh.hist[n]? = some v ∧ sawUpTo p t n

theorem ShInv.created_of_lt {sh : Shared} (hs : ShInv sh) {k : Nat} (h : k < sh.hist.length) :
    sh.created = true := by
  cases hc : sh.created with
  | true => rfl
  | false => rw [(hs.hnil hc).1] at h; cases h

theorem VInv.zeroIdx_le {p : PState} (hv : VInv p) : p.zeroIdx ≤ p.adds.length := by
  rcases hv.zi with ⟨h1, _⟩ | ⟨i, h1, h2⟩
  · omega
  · have := lt_of_getElem? h2; omega

theorem toVC_some {t : Tid} {ev : Ev} {a : VC.AEv Loc} (h : toVC t ev = some a) :
    a.t = t ∧
    ((∃ o obs, ev = .ld o a.loc obs ∧ a.op = .ld ∧ a.ord = toOrd o)
     ∨ (∃ o n obs, ev = .st o a.loc n obs ∧ a.op = .st ∧ a.ord = toOrd o)
     ∨ (∃ o x n obs, ev = .cas o a.loc x n obs true ∧ a.op = .rmw ∧ a.ord = toOrd o)
     ∨ (∃ o x n obs, ev = .cas o a.loc x n obs false ∧ a.op = .ld ∧ a.ord = .rlx)) := by
  cases ev with
  | ld o l obs => cases l <;> simp [toVC] at h <;> subst h <;> simp
  | st o l n obs => cases l <;> simp [toVC] at h <;> subst h <;> simp
  | cas o l x n obs ok => cases l <;> cases ok <;> simp [toVC] at h <;> subst h <;> simp
  | _ => simp [toVC] at h

theorem vstep_eq (m : VC.St Loc) (e : Event) : vstep m e = VC.stepO m (evVC e) := by
  unfold vstep; cases evVC e <;> rfl

theorem vstep_mono (m : VC.St Loc) (e : Event) (u : Tid) : VC.Clock.le (m.vc u) ((vstep m e).vc u) := by
  rw [vstep_eq]; exact VC.stepO_mono _ _ u

/-- when the object exists no plain store to `value` is accepted, so the release sequence on
    `value` is never broken: whatever its release clock carries stays carried -/
theorem vstep_chain {s s' : State} {t : Tid} {ev : Ev} (m : VC.St Loc)
    (g : VCFacts s.sh (s.pc t) ev s'.sh (s'.pc t))
    (hc : s.sh.created = true) (c : VC.Clock) (h : VC.Clock.le c (m.relc .value)) :
    VC.Clock.le c ((vstep m (.thr t ev)).relc .value) := by
  rw [vstep_eq]
  refine VC.stepO_keep _ c m _ h fun a ha hl hop => ?_
  obtain ⟨_, h1 | h1 | h1 | h1⟩ := toVC_some (t := t) (ev := ev) ha
  · obtain ⟨_, _, _, h2, _⟩ := h1; rw [h2] at hop; cases hop
  · obtain ⟨o, n, ob, h2, _, _⟩ := h1
    rw [hl] at h2
    have := g.stv o n ob h2
    rw [hc] at this; cases this
  · obtain ⟨_, _, _, _, _, h2, _⟩ := h1; rw [h2] at hop; cases hop
  · obtain ⟨_, _, _, _, _, h2, _⟩ := h1; rw [h2] at hop; cases hop

theorem casOf_some {s : State} {t t' : Tid} {ev : Ev} (h : casOf s (.thr t ev) = some t') :
    t' = t ∧ ∃ d v x n ob, s.pc t = .aCas d v ∧ ev = .cas .ar .value x n ob true := by
  unfold casOf at h
  split at h
  · rename_i t0 x n ob heq
    cases heq
    split at h
    · rename_i d v hpc; cases h; exact ⟨rfl, d, v, _, _, _, hpc, rfl⟩
    · cases h
  · cases h

theorem casOf_of {s : State} {t : Tid} {d : Int} {v x n ob : Nat} (hpc : s.pc t = .aCas d v) :
    casOf s (.thr t (.cas .ar .value x n ob true)) = some t := by
  simp [casOf, hpc]

theorem pcIdx_lt {s : State} (hi : Inv s) {u : Tid} {i : Nat} (h : pcIdx (s.pc u) = some i) :
    i < s.sh.hist.length := by
  have hp := hi.pcs u
  have key : ∀ d r, addGhost s.sh.hist d r i → i < s.sh.hist.length := by
    intro d r hg
    exact lt_of_getElem? hg.1
  cases hpu : s.pc u <;> rw [hpu] at h hp <;> simp only [pcIdx] at h <;>
    first
      | (cases h; done)
      | (cases h; simp only [pcInv, pcFacts] at hp
         first | exact key _ _ hp.2.1 | exact key _ _ hp.2)

theorem sawUpTo_mono {p p' : PState} {u : Tid} {n : Nat}
    (hm : VC.Clock.le (p.m.vc u) (p'.m.vc u)) (ha : ∃ l, p'.adds = p.adds ++ l) (hn : n ≤ p.adds.length)
    (h : sawUpTo p u n) : sawUpTo p' u n := by
  intro j c hj hc
  obtain ⟨l, hl⟩ := ha
  rw [hl, List.getElem?_append_left (by omega)] at hc
  exact VC.Clock.le_trans (h j c hj hc) hm

theorem sawAll {p : PState} {vc' : VC.Clock} (hv : VInv p)
    (h : VC.Clock.le (p.m.relc .value) vc') (j : Nat) (c : VC.Clock) (hc : p.adds[j]? = some c) :
    VC.Clock.le c vc' :=
  VC.Clock.le_trans (hv.chain c (List.mem_of_getElem? hc)) h

/-- A step of the product only adds: clocks grow, `adds` and (once created) the history are extended. -/
structure Grows (p p' : PState) : Prop where
  mono : ∀ u, VC.Clock.le (p.m.vc u) (p'.m.vc u)
  adds : ∃ l, p'.adds = p.adds ++ l
  hist : p.s.sh.created = true → ∃ l, p'.s.sh.hist = p.s.sh.hist ++ l

variable {p p' : PState}

theorem Grows.saw (G : Grows p p') {u : Tid} {n : Nat} (hn : n ≤ p.adds.length) (h : sawUpTo p u n) :
    sawUpTo p' u n := sawUpTo_mono (G.mono u) G.adds hn h

/-- what a program point records about an add (`idx`) or a value read (`val`) survives -/
theorem Grows.idx (G : Grows p p') (hi : Inv p.s) (hv : VInv p) {u : Tid} {i : Nat}
    (hu : pcIdx (p.s.pc u) = some i) : sawUpTo p' u i := by
  have hlt := pcIdx_lt hi hu
  have := hv.len (hi.sh.created_of_lt hlt)
  exact G.saw (by omega) (hv.idx u i hu)

theorem Grows.val (G : Grows p p') (hi : Inv p.s) (hv : VInv p) {u : Tid} {w : Nat}
    (hu : pcVal (p.s.pc u) = some w) : ∃ k, p'.s.sh.hist[k]? = some w ∧ sawUpTo p' u k := by
  obtain ⟨k, hk1, hk2⟩ := hv.val u w hu
  have hlt := lt_of_getElem? hk1
  have hcr := hi.sh.created_of_lt hlt
  have := hv.len hcr
  obtain ⟨l, hl⟩ := G.hist hcr
  exact ⟨k, by rw [hl]; exact getElem?_append_some hk1, G.saw (by omega) hk2⟩

theorem Grows.seen (G : Grows p p') (hv : VInv p) {t : Tid} {e : Ev} (f : StepFacts p.s t e p'.s)
    (hz : p.s.sh.value = 0 → p'.zeroClock = p.zeroClock ∧ p'.zeroIdx = p.zeroIdx) {u : Tid}
    (hu : seenZero (p.s.pc u) = true) :
    VC.Clock.le p'.zeroClock (p'.m.vc u) ∧ p'.s.sh.value = 0 ∧ p'.s.sh.waited = true ∧ sawUpTo p' u p'.zeroIdx := by
  obtain ⟨h1, h2, h3, h4⟩ := hv.seen u hu
  rw [(hz h2).1, (hz h2).2]
  exact ⟨VC.Clock.le_trans h1 (G.mono u), f.zst h3 h2, f.wtd h3, G.saw hv.zeroIdx_le h4⟩
theorem vinv_cas {p : PState} {s' : State} {t : Tid} {d : Int} {v x n ob : Nat}
    (hr : Reachable p.s) (hv : VInv p)
    (hs : step p.s (.thr t (.cas .ar .value x n ob true)) = .ok s') (hpc : p.s.pc t = .aCas d v) :
    VInv { s := s', m := vstep p.m (.thr t (.cas .ar .value x n ob true)),
           zeroClock := if p.s.sh.value ≠ 0 ∧ s'.sh.value = 0 then p.m.vc t else p.zeroClock,
           zeroIdx := if p.s.sh.value ≠ 0 ∧ s'.sh.value = 0 then p.adds.length + 1 else p.zeroIdx,
           adds := p.adds ++ [p.m.vc t] } := by
  have hi := inv_of_reachable hr
  have hs' : stepThr p.s t (.cas .ar .value x n ob true) = .ok s' := hs
  have f := facts_stepThr hi hs'
  have g := vcfacts_stepThr hi hs'
  obtain ⟨hcr, hhist, hval, hx⟩ := g.cas d v hpc x n ob rfl
  have hcr' := g.crt' hcr
  let a : VC.AEv Loc := ⟨t, .rmw, .ar, .value⟩
  have hm : vstep p.m (.thr t (.cas .ar .value x n ob true)) = VC.step p.m a := rfl
  have h_rel : VC.Clock.le (p.m.vc t) ((VC.step p.m a).relc .value) :=
    VC.rel_records p.m a rfl (Or.inr rfl)
  have h_acq : VC.Clock.le (p.m.relc .value) ((VC.step p.m a).vc t) :=
    VC.acq_sees_relc p.m a rfl (Or.inr rfl)
  have h_chain : ∀ c, VC.Clock.le c (p.m.relc .value) → VC.Clock.le c ((VC.step p.m a).relc .value) := by
    intro c hc
    exact VC.release_chain_step .value c p.m a hc (by intro _ hop; cases hop)
  have mono : ∀ u, VC.Clock.le (p.m.vc u) ((VC.step p.m a).vc u) := fun u => VC.vc_mono p.m a u
  have hlen := hv.len hcr
  rw [hm]
  have G : Grows p ⟨s', VC.step p.m a, if p.s.sh.value ≠ 0 ∧ s'.sh.value = 0 then p.m.vc t else p.zeroClock,
      if p.s.sh.value ≠ 0 ∧ s'.sh.value = 0 then p.adds.length + 1 else p.zeroIdx, p.adds ++ [p.m.vc t]⟩ :=
    ⟨mono, ⟨_, rfl⟩, fun _ => ⟨_, hhist⟩⟩
  refine ⟨?_, ?_, ?_, ?_, ?_, ?_, ?_, ?_, ?_⟩
  · intro _; show s'.sh.hist.length = (p.adds ++ [p.m.vc t]).length + 1
    rw [hhist]; simp [hlen]
  · intro hc; show _ ∧ _; rw [hcr'] at hc; cases hc
  · intro c hc
    rcases List.mem_append.1 hc with h1 | h1
    · exact h_chain c (hv.chain c h1)
    · simp at h1; subst h1; exact h_rel
  · show VC.Clock.le (if _ then _ else _) _
    split
    · exact h_rel
    · exact h_chain _ hv.zc
  · show (_ ∧ _) ∨ ∃ i, _ ∧ (p.adds ++ [p.m.vc t])[i]? = some _
    split
    · right; exact ⟨p.adds.length, rfl, by simp⟩
    · rcases hv.zi with h1 | ⟨i, h1, h2⟩
      · left; exact h1
      · right; exact ⟨i, h1, getElem?_append_some h2⟩
  · intro u hu
    rcases f.lift (seenZero · = true) g.seen hu with h1 | ⟨_, _, h1, _⟩
    · exact G.seen hv f (fun h2 => by simp [h2]) h1
    · cases h1
  · intro u hu
    exact (f.lift (pastStore · = true) g.past hu).elim (fun h1 => f.wtd (hv.past u h1)) (·.2)
  · intro u i hu
    rcases f.lift (pcIdx · = some i) (g.idx i) hu with h1 | ⟨rfl, h1, _⟩
    · exact G.idx hi hv h1
    · -- the add's own acquire-release CAS: it has seen every earlier add, and itself
      subst h1
      intro j c hj hc
      show VC.Clock.le c ((VC.step p.m a).vc u)
      have hc' : (p.adds ++ [p.m.vc u])[j]? = some c := hc
      by_cases hjl : j < p.adds.length
      · rw [List.getElem?_append_left hjl] at hc'
        exact sawAll hv h_acq j c hc'
      · have : j = p.adds.length := by omega
        subst this
        simp at hc'; subst hc'
        exact mono u
  · intro u w hu
    rcases f.lift (pcVal · = some w) (g.val w) hu with h1 | ⟨_, h1, _⟩
    · exact G.val hi hv h1
    · cases h1

theorem vinv_nocas {p : PState} {s' : State} {t : Tid} {ev : Ev}
    (hr : Reachable p.s) (hv : VInv p) (hs : step p.s (.thr t ev) = .ok s')
    (hno : casOf p.s (.thr t ev) = none) :
    VInv { s := s', m := vstep p.m (.thr t ev), zeroClock := p.zeroClock, zeroIdx := p.zeroIdx,
           adds := p.adds } := by
  have hi := inv_of_reachable hr
  have hs' : stepThr p.s t ev = .ok s' := hs
  have f := facts_stepThr hi hs'
  have g := vcfacts_stepThr hi hs'
  have mono : ∀ u, VC.Clock.le (p.m.vc u) ((vstep p.m (.thr t ev)).vc u) := fun u => vstep_mono _ _ u
  -- the history is unchanged, or this is the initialising store
  have hh : (s'.sh.hist = p.s.sh.hist ∧ s'.sh.value = p.s.sh.value)
      ∨ (p.s.sh.created = false ∧ ∃ v, s'.sh.hist = [v]) := by
    rcases f.hist with h1 | ⟨d, v, new, h1, h2, _⟩ | ⟨v, _, h1, h2, _⟩
    · exact Or.inl ⟨h1.1, h1.2.2.1⟩
    · subst h2; rw [casOf_of h1] at hno; cases hno
    · exact Or.inr ⟨h1, v, h2⟩
  have hchain : p.s.sh.created = true → ∀ c, VC.Clock.le c (p.m.relc .value) →
      VC.Clock.le c ((vstep p.m (.thr t ev)).relc .value) := fun hc c h => vstep_chain p.m g hc c h
  have hnocas : ∀ d v x n ob, p.s.pc t = .aCas d v → ev ≠ .cas .ar .value x n ob true := by
    intro d v x n ob h1 h2; subst h2; rw [casOf_of h1] at hno; cases hno
  -- an acquire load of `value` by t imports the release clock of `value`
  have hacq : ∀ obs, ev = .ld .acq .value obs →
      VC.Clock.le (p.m.relc .value) ((vstep p.m (.thr t ev)).vc t) := by
    intro obs he; subst he
    exact VC.acq_sees_relc p.m ⟨t, .ld, .acq, .value⟩ rfl (Or.inl rfl)
  have G : Grows p ⟨s', vstep p.m (.thr t ev), p.zeroClock, p.zeroIdx, p.adds⟩ :=
    ⟨mono, ⟨[], by simp⟩, fun hc => by
      rcases hh with ⟨h1, _⟩ | ⟨h1, _⟩
      · exact ⟨[], by simp [h1]⟩
      · rw [hc] at h1; cases h1⟩
  refine ⟨?_, ?_, ?_, ?_, hv.zi, ?_, ?_, ?_, ?_⟩
  · intro hc'
    show s'.sh.hist.length = p.adds.length + 1
    cases hc : p.s.sh.created with
    | true =>
      rcases hh with ⟨h1, _⟩ | ⟨h1, _⟩
      · rw [h1]; exact hv.len hc
      · rw [hc] at h1; cases h1
    | false =>
      rcases g.crt hc' with h1 | ⟨h1, _⟩
      · rw [hc] at h1; cases h1
      · rw [h1, (hv.nil hc).1]; rfl
  · intro hc'
    apply hv.nil
    cases hc : p.s.sh.created with
    | false => rfl
    | true => rw [g.crt' hc] at hc'; cases hc'
  · intro c hc
    have hcr : p.s.sh.created = true := by
      cases hcc : p.s.sh.created with
      | true => rfl
      | false => rw [(hv.nil hcc).1] at hc; cases hc
    exact hchain hcr c (hv.chain c hc)
  · show VC.Clock.le p.zeroClock _
    cases hcc : p.s.sh.created with
    | true => exact hchain hcc _ hv.zc
    | false => rw [(hv.nil hcc).2]; exact VC.Clock.bot_le _
  · intro u hu
    rcases f.lift (seenZero · = true) g.seen hu with h1 | ⟨rfl, obs, h1, h2, h3, h4⟩
    · exact G.seen hv f (fun _ => ⟨rfl, rfl⟩) h1
    · -- the edge: u's own acquire load of `value`, which observed 0
      have hw := hv.past u h4
      exact ⟨VC.Clock.le_trans hv.zc (hacq obs h1), f.zst hw h3, f.wtd hw,
        fun j c _ hc => sawAll hv (hacq obs h1) j c hc⟩
  · intro u hu
    exact (f.lift (pastStore · = true) g.past hu).elim (fun h1 => f.wtd (hv.past u h1)) (·.2)
  · intro u i hu
    rcases f.lift (pcIdx · = some i) (g.idx i) hu with h1 | ⟨_, _, d, v, new, h1, h2⟩
    · exact G.idx hi hv h1
    · exact absurd h2 (hnocas d v v new v h1)
  · intro u w hu
    rcases f.lift (pcVal · = some w) (g.val w) hu with h1 | ⟨rfl, h1, h2, h3⟩
    · exact G.val hi hv h1
    · -- acquire load of the current value: it is the last element of the history, and the
      -- reader now dominates every add so far
      have hl := hv.len h3
      have hlast := hi.sh.last h3
      rw [List.getLast?_eq_getElem?, hl, Nat.add_sub_cancel, ← h2] at hlast
      refine ⟨p.adds.length, ?_, ?_⟩
      · rcases hh with ⟨h4, _⟩ | ⟨h4, _⟩
        · rw [h4]; exact hlast
        · rw [h3] at h4; cases h4
      · intro j c _ hc
        exact sawAll hv (hacq w h1) j c hc

theorem vinv_tick {p : PState} {s' : State} {ns : Nat} (hv : VInv p) (hs : step p.s (.tick ns) = .ok s') :
    VInv { s := s', m := p.m, zeroClock := p.zeroClock, zeroIdx := p.zeroIdx, adds := p.adds } := by
  obtain ⟨_, rfl⟩ := step_tick hs
  exact ⟨hv.len, hv.nil, hv.chain, hv.zc, hv.zi, hv.seen, hv.past, hv.idx, hv.val⟩

theorem pstep_s {p p' : PState} {e : Event} (h : pstep p e = .ok p') : step p.s e = .ok p'.s := by
  unfold pstep at h
  split at h
  · cases h
  · rename_i s' hs; cases h; exact hs

theorem vinv_step {p p' : PState} {e : Event} (hr : Reachable p.s) (hv : VInv p)
    (h : pstep p e = .ok p') : VInv p' := by
  unfold pstep at h
  split at h
  · cases h
  · rename_i s' hs
    cases h
    cases e with
    | tick ns => exact vinv_tick hv hs
    | thr t ev =>
      cases hc : casOf p.s (.thr t ev) with
      | none => simp only []; exact vinv_nocas hr hv hs hc
      | some t' =>
        obtain ⟨h1, d, v, x, n, ob, hpc, hev⟩ := casOf_some hc
        subst h1 hev
        simp only []
        exact vinv_cas hr hv hs hpc

theorem vinv_init : VInv pinit := by
  refine ⟨?_, ?_, ?_, ?_, Or.inl ⟨rfl, rfl⟩, ?_, ?_, ?_, ?_⟩
  · intro h; cases h
  · intro _; exact ⟨rfl, rfl⟩
  · intro c hc; cases hc
  · exact VC.Clock.bot_le _
  · intro t h; cases h
  · intro t h; cases h
  · intro t i h; cases h
  · intro t v h; cases h

theorem isPRun : IsRun pstep prun := ⟨fun _ => rfl, fun p e _ => by rw [prun]; cases pstep p e <;> rfl⟩

theorem prun_s {p p' : PState} {evs : List Event} (h : prun p evs = .ok p') : run p.s evs = .ok p'.s :=
  isRun.proj isPRun (fun _ _ _ => pstep_s) h

/-- the machine component of the product is `VC.run` over the mapped atomics of the trace -/
theorem prun_m {p p' : PState} {evs : List Event} (h : prun p evs = .ok p') :
    p'.m = VC.run p.m (evs.filterMap evVC) := by
  rw [VC.run_filterMap]
  refine isPRun.fold (κ := PState.m) (fun p e p' hs => ?_) h
  unfold pstep at hs
  split at hs
  · cases hs
  · cases hs; exact vstep_eq _ _

/-- every accepted trace of the acceptor is a run of the product (the ghosts never block) -/
theorem prun_total {p : PState} {s' : State} {evs : List Event} (h : run p.s evs = .ok s') :
    ∃ p', prun p evs = .ok p' ∧ p'.s = s' :=
  isRun.lift isPRun (π := PState.s) (fun p e s' hs => ⟨_, by unfold pstep; rw [hs], rfl⟩) h

theorem preachable_s {p : PState} (h : PReachable p) : Reachable p.s := by
  obtain ⟨evs, he⟩ := h
  exact ⟨evs, prun_s he⟩

theorem vinv_of_preachable {p : PState} (h : PReachable p) : VInv p := by
  obtain ⟨evs, he⟩ := h
  exact isPRun.induct vinv_init (fun _ _ _ hr hv hs => vinv_step (preachable_s hr) hv hs) he

end Counter
