/-
  Layer `Note`, fair termination, ALL calls (no `LeafCalls`), modulo bounded work: if every thread
  takes only finitely many steps inside its call unless it goes round the wait loop of an
  un-notified `nsync_note_wait` for ever (`FiniteWork`: the sequential termination of the
  traversal of `note_notify_child` / `nsync_note_free`; it is proved in Proofs/NoteFairFiniteWork.lean,
  `finiteWork_settled`), then every call returns (`gen_returns`).  The common part of all the
  termination theorems is `never_returns`: a call that never returns goes round the wait loop for
  ever or sleeps for ever in its P; each theorem refutes the two under its own hypothesis.

  All the concurrency is here: a thread that has stopped for ever inside a call is waiting for a
  mutex or for the children of a note (weak fairness); the mutex is then held for ever by one
  thread, which has stopped too, below (`LockFair`, `C09_lock_order`); the children of the note
  are `disconnecting` and a counted thread has stopped at or below them, or at the mutex of the
  note itself (`WaitFair`, `C09_wait_has_disconnectors`, `counted_target`): induction on the
  number of notes below in the creation order.  A sleeper whose note has its flag set is posted
  once no activation on the note is left (`C08_waiters_released`).
-/
import NsyncVerif.Proofs.NoteFairSettled


namespace Note

variable {s0 : State}

/-- Thread `t` takes a step of its call at time `j`. -/
def Acts (x : Exec s0) (t : Tid) (j : Nat) : Prop := Moves x t j ∧ (x.ρ j).pc t ≠ .idle

/-- Thread `t` executes the `ready_time` load of the wait loop of `nsync_wait_n` and finds the flag
    unset (it goes round the loop once more). -/
def LoopStep (x : Exec s0) (t : Tid) (j : Nat) : Prop :=
  Moves x t j ∧ ∃ n nt r wdl, (x.ρ j).pc t = .dl .ld1 n nt (.ready2 r wdl) ∧
    ((x.ρ j).notes n).notified = false

/-- … again and again. -/
def Looper (x : Exec s0) (t : Tid) : Prop := ∀ i, ∃ j, i ≤ j ∧ LoopStep x t j

/-- BOUNDED WORK: every thread takes finitely many steps inside calls, unless it goes round the
    wait loop of an un-notified `nsync_note_wait` for ever. -/
def FiniteWork (x : Exec s0) : Prop :=
  ∀ t, (∃ i, ∀ j, i ≤ j → ¬ Acts x t j) ∨ Looper x t

/-- The FULL statement with the additional hypothesis `FiniteWork`
    (proved: `C09_fair_termination_modulo_work`, Props/C09Fair.lean). -/
def C09_fair_termination_modulo_work_full : Prop :=
  ∀ (s0 : State) (x : Exec s0), Reachable s0 →
    WeakFair x → LockFair x → WaitFair x → FiniteArrivals x → FiniteWork x →
    ∀ t i, (x.ρ i).pc t ≠ .idle → WaitEndsFlag x t i → ∃ j, i ≤ j ∧ (x.ρ j).pc t = .idle

structure GenHyps (x : Exec s0) : Prop where
  reach : Reachable s0
  weak : WeakFair x
  lock : LockFair x
  wait : WaitFair x
  fin : FiniteArrivals x
  work : FiniteWork x

/-! ### the shape of waiting program counters -/

/-- The mutex a program counter wants is the one it is acquiring with a plain `nsync_mu_lock`, or
    the one of the WAIT_FOR_NO_CHILDREN it is in. -/
theorem wants_split (p : PC) :
    (p.condWait = none ∧ p.lockWait = p.wants) ∨ (p.lockWait = none ∧ p.condWait = p.wants) := by
  cases p with
  | chd pos stk top =>
    cases pos with
    | waitRet b => cases b <;> first | exact .inl ⟨rfl, rfl⟩ | (cases stk <;> exact .inr ⟨rfl, rfl⟩)
    | _ => exact .inl ⟨rfl, rfl⟩
  | fr pos n par c nx =>
    cases pos with
    | waitRet b => cases b <;> first | exact .inl ⟨rfl, rfl⟩ | exact .inr ⟨rfl, rfl⟩
    | _ => exact .inl ⟨rfl, rfl⟩
  | _ => exact .inl ⟨rfl, rfl⟩

theorem wants_of_lockWait {p : PC} {m : NoteId} (h : p.lockWait = some m) : p.wants = some m := by
  rcases wants_split p with ⟨_, e⟩ | ⟨e, _⟩
  · exact e ▸ h
  · rw [e] at h; cases h

theorem wants_of_condWait {p : PC} {m : NoteId} (h : p.condWait = some m) : p.wants = some m := by
  rcases wants_split p with ⟨e, _⟩ | ⟨_, e⟩
  · rw [e] at h; cases h
  · exact e ▸ h

theorem wants_none {p : PC} (h1 : p.lockWait = none) (h2 : p.condWait = none) : p.wants = none := by
  rcases wants_split p with ⟨_, e⟩ | ⟨_, e⟩
  · exact e ▸ h1
  · exact e ▸ h2

theorem condWait_shape {s : State} {t : Tid} {m : NoteId} (h : (s.pc t).condWait = some m) :
    (∃ k f rest top, s.pc t = .chd (.waitRet k) (f :: rest) top ∧ f.note = m) ∨
    (∃ k par c nx, s.pc t = .fr (.waitRet k) m par c nx) := by
  cases hp : s.pc t with
  | chd pos stk top =>
    rw [hp] at h
    cases pos with
    | waitRet b =>
      cases b with
      | true => cases h
      | false =>
        cases stk with
        | nil => cases h
        | cons f rest =>
          simp only [PC.condWait, Option.some.injEq] at h
          exact Or.inl ⟨false, f, rest, top, rfl, h⟩
    | _ => cases h
  | fr pos n par c nx =>
    rw [hp] at h
    cases pos with
    | waitRet b =>
      cases b with
      | true => cases h
      | false =>
        simp only [PC.condWait, Option.some.injEq] at h
        subst h
        exact Or.inr ⟨false, par, c, nx, rfl⟩
    | _ => cases h
  | _ => rw [hp] at h; cases h

/-- A thread whose wanted mutex (if any) is free, that is in no WAIT_FOR_NO_CHILDREN that released
    the mutex, and whose semaphore (if it sleeps) is ready, is `Ready`. -/
theorem ready_gen {s : State} (hr : Reachable s) {t : Tid} (hp : s.pc t ≠ .idle)
    (hw : ∀ m, (s.pc t).wants = some m → (s.notes m).lockHolder = none)
    (hc : (s.pc t).condWait = none) (hs : SemReady s t) : Ready s t := by
  refine ⟨hp, hw, ?_, hs⟩
  have hP := hr.invScan
  unfold WaitBlocked
  split
  · next k f rest top hpc =>
    cases k with
    | true => rw [hP.keptC t f rest top hpc]; simp
    | false => rw [hpc] at hc; simp [PC.condWait] at hc
  · next k n par c nx hpc =>
    cases k with
    | true => rw [hP.keptF t n par c nx hpc]; simp
    | false => rw [hpc] at hc; simp [PC.condWait] at hc
  · exact fun h => h

/-! ### settling, classification -/

theorem malloc_passes_gen (x : Exec s0) (hr : Reachable s0) (hw : WeakFair x) {t : Tid} {i : Nat}
    (hp : ((x.ρ i).pc t).isMalloc = true) : ∃ j, i ≤ j ∧ ((x.ρ j).pc t).isMalloc = false := by
  have hmv : ∃ j, i ≤ j ∧ Moves x t j := by
    refine fair_move x hw (fun j hj hnm => ?_)
    have hpc := pc_between x hj hnm
    cases hq : (x.ρ i).pc t with
    | newMalloc par dl =>
      rw [hq] at hpc
      refine ready_gen (x.reach hr j) (by rw [hpc]; simp) ?_ (by rw [hpc]; rfl) ?_
      · intro m hm; rw [hpc] at hm; cases hm
      · exact semReady_of_not_asleep (fun d n wdl r h => by rw [hpc] at h; cases h)
    | _ => rw [hq] at hp; cases hp
  obtain ⟨j, hij, ⟨e, he, ha⟩, hfirst⟩ := NsyncVerif.Sched.first_at hmv
  have hpc := pc_between x hij hfirst
  have hne : (x.ρ j).pc t ≠ .idle := by
    rw [hpc]; intro h; rw [h] at hp; cases hp
  refine ⟨j + 1, by omega, ?_⟩
  rcases (own_pc (x.next_some he) ha hne).keep with h | ⟨_, h⟩
  · rw [h]; rfl
  · exact h

theorem settled_gen (x : Exec s0) (hr : Reachable s0) (hw : WeakFair x) (hf : FiniteArrivals x) :
    ∃ N, Settled x N := by
  obtain ⟨N, hN⟩ := hf
  have hN' : NoCalls x N := fun j t a hj => hN j t a hj
  obtain ⟨L, _, hL, _⟩ := C09_disconnecting_count (x.reach hr N)
  have hall : ∀ t, ∃ j, N ≤ j ∧ ∀ j', j ≤ j' → ((x.ρ j').pc t).isMalloc = false := by
    intro t
    cases hm : ((x.ρ N).pc t).isMalloc with
    | false =>
      refine ⟨N, Nat.le_refl _, fun j' hj' => ?_⟩
      exact malloc_stays x hN' (Nat.le_refl _) hm hj'
    | true =>
      obtain ⟨j, hj, hf⟩ := malloc_passes_gen x hr hw hm
      refine ⟨j, hj, fun j' hj' => ?_⟩
      exact malloc_stays x hN' hj hf hj'
  obtain ⟨J, hJ, hJL⟩ := list_bound (P := fun t j => ((x.ρ j).pc t).isMalloc = false) N L
    (fun t _ => hall t)
  refine ⟨J, fun j t a hj => hN' j t a (by omega), fun j t hj => ?_⟩
  by_cases ht : t ∈ L
  · exact hJL t ht j hj
  · have hid : (x.ρ N).pc t = .idle := by
      apply Classical.byContradiction; intro h; exact ht (hL t h)
    rw [idle_stays x hN' (Nat.le_refl _) hid (by omega : N ≤ j)]; rfl

theorem settled_mono (x : Exec s0) {N N' : Nat} (h : Settled x N) (hle : N ≤ N') : Settled x N' :=
  ⟨fun j t a hj => h.1 j t a (by omega), fun j t hj => h.2 j t (by omega)⟩

/-- From time `T` on every thread is outside any call for ever, or has stopped for ever inside a
    call, or goes round a wait loop for ever. -/
structure Classified (x : Exec s0) (T : Nat) : Prop where
  settled : Settled x T
  cls : ∀ u, (∀ j, T ≤ j → (x.ρ j).pc u = .idle) ∨
    ((∀ j, T ≤ j → ¬ Moves x u j) ∧ (x.ρ T).pc u ≠ .idle) ∨ Looper x u

theorem stuck_pc (x : Exec s0) {u : Tid} {T : Nat} (h : ∀ j, T ≤ j → ¬ Moves x u j) {j : Nat}
    (hj : T ≤ j) : (x.ρ j).pc u = (x.ρ T).pc u :=
  pc_between x hj (fun j' h1 _ => h j' h1)

theorem Classified.mono (x : Exec s0) {T T' : Nat} (h : Classified x T) (hle : T ≤ T') :
    Classified x T' := by
  refine ⟨settled_mono x h.settled hle, fun u => ?_⟩
  rcases h.cls u with h1 | ⟨h1, h2⟩ | h1
  · exact Or.inl (fun j hj => h1 j (by omega))
  · exact Or.inr (Or.inl ⟨fun j hj => h1 j (by omega), by rw [stuck_pc x h1 hle]; exact h2⟩)
  · exact Or.inr (Or.inr h1)

theorem classified (x : Exec s0) (hy : GenHyps x) (T0 : Nat) : ∃ T, T0 ≤ T ∧ Classified x T := by
  obtain ⟨N0, hS0⟩ := settled_gen x hy.reach hy.weak hy.fin
  let N := max N0 T0
  have hS : Settled x N := settled_mono x hS0 (by omega)
  obtain ⟨L, _, hL, _⟩ := C09_disconnecting_count (x.reach hy.reach N)
  let P : Tid → Nat → Prop := fun u j => (x.ρ j).pc u = .idle ∨
    (¬ Moves x u j ∧ (x.ρ j).pc u ≠ .idle) ∨ Looper x u
  have hall : ∀ u, ∃ j, N ≤ j ∧ ∀ j', j ≤ j' → P u j' := by
    intro u
    rcases hy.work u with ⟨i0, h0⟩ | hl
    · refine ⟨max i0 N, by omega, fun j' hj' => ?_⟩
      by_cases hid : (x.ρ j').pc u = .idle
      · exact Or.inl hid
      · exact Or.inr (Or.inl ⟨fun hm => h0 j' (by omega) ⟨hm, hid⟩, hid⟩)
    · exact ⟨N, Nat.le_refl _, fun j' _ => Or.inr (Or.inr hl)⟩
  obtain ⟨T, hT, hTL⟩ := list_bound (P := P) N L (fun u _ => hall u)
  have hST : Settled x T := settled_mono x hS hT
  refine ⟨T, by omega, hST, fun u => ?_⟩
  by_cases hloop : Looper x u
  · exact Or.inr (Or.inr hloop)
  have hP : ∀ j, T ≤ j → P u j := by
    intro j hj
    by_cases hu : u ∈ L
    · exact hTL u hu j hj
    · have hid : (x.ρ N).pc u = .idle := by
        apply Classical.byContradiction; intro h; exact hu (hL u h)
      exact Or.inl (idle_stays x hS.1 (Nat.le_refl _) hid (by omega : N ≤ j))
  by_cases hid : (x.ρ T).pc u = .idle
  · left
    intro j hj
    exact idle_stays x hST.1 (Nat.le_refl _) hid hj
  · right; left
    have nm : ∀ j, T ≤ j → (x.ρ j).pc u ≠ .idle → ¬ Moves x u j := fun j hj hne =>
      (hP j hj).elim (absurd · hne) (·.elim (·.1) (absurd · hloop))
    have key := NsyncVerif.Sched.keeps_from (P := fun j => (x.ρ j).pc u ≠ .idle ∧ ¬ Moves x u j)
      ⟨hid, nm T (Nat.le_refl _) hid⟩ (fun j hj ih =>
        have h : (x.ρ (j + 1)).pc u ≠ .idle := by rw [not_moves_pc x ih.2]; exact ih.1
        ⟨h, nm (j + 1) (by omega) h⟩)
    exact ⟨fun j hj => (key j hj).2, hid⟩

/-! ### loopers -/

theorem looper_not_idle (x : Exec s0) {N : Nat} (hS : Settled x N) {u : Tid} (hl : Looper x u)
    {j : Nat} (hj : N ≤ j) : (x.ρ j).pc u ≠ .idle := by
  intro hid
  obtain ⟨j', hj', _, n, nt, r, wdl, hpc, _⟩ := hl j
  rw [idle_stays x hS.1 hj hid hj'] at hpc
  cases hpc

theorem noLoop_stays (x : Exec s0) {N : Nat} (hS : Settled x N) {u : Tid} {j : Nat} (hj : N ≤ j)
    (h : ((x.ρ j).pc u).noLoop = true) {j' : Nat} (hjj : j ≤ j') :
    (x.ρ j').pc u = .idle ∨ ((x.ρ j').pc u).noLoop = true :=
  x.keeps (P := fun s => s.pc u = .idle ∨ (s.pc u).noLoop = true)
    (fun k e hk he ih => by
      by_cases ha : e.actor = some u
      · rcases ih with hid | hn
        · exact .inl (step_idle (x.next_some he) hid
            (fun a hc => hS.1 k u a (by omega) (by rw [he, hc])))
        · exact (own_pc (x.next_some he) ha (fun h => by rw [h] at hn; cases hn)).noLoop hn
      · rw [step_pc_other (x.next_some he) u ha]; exact ih) (.inr h) hjj

theorem looper_not_noLoop (x : Exec s0) {N : Nat} (hS : Settled x N) {u : Tid} (hl : Looper x u)
    {j : Nat} (hj : N ≤ j) : ((x.ρ j).pc u).noLoop = false := by
  cases h : ((x.ρ j).pc u).noLoop with
  | false => rfl
  | true =>
    exfalso
    obtain ⟨j', hj', _, n, nt, r, wdl, hpc, _⟩ := hl j
    rcases noLoop_stays x hS hj h hj' with h' | h'
    · rw [hpc] at h'; cases h'
    · rw [hpc] at h'; cases h'

theorem looper_waitOn (x : Exec s0) {N : Nat} (hS : Settled x N) {u : Tid} (hl : Looper x u)
    {j : Nat} (hj : N ≤ j) : ((x.ρ j).pc u).waitOn ≠ none := by
  obtain ⟨j', hj', _, n, nt, r, wdl, hpc, _⟩ := hl j
  have := waitOn_const x (t := u) hj'
    (fun j'' h1 _ => looper_not_idle x hS hl (by omega))
  rw [← this, hpc]
  simp [PC.waitOn, DK.waitDl]

theorem looper_not_inNotify (x : Exec s0) {N : Nat} (hS : Settled x N) {u : Tid} (hl : Looper x u)
    {j : Nat} (hj : N ≤ j) : InNotify ((x.ρ j).pc u) = false := by
  cases h : InNotify ((x.ρ j).pc u) with
  | false => rfl
  | true =>
    have := noLoop_of_inNotify h (looper_waitOn x hS hl hj)
    rw [looper_not_noLoop x hS hl hj] at this
    cases this

/-! ### a thread that has stopped for ever inside a call is waiting for something -/

theorem stuck_target (x : Exec s0) (hy : GenHyps x) {t : Tid} {T : Nat}
    (hst : ∀ j, T ≤ j → ¬ Moves x t j) (hp : (x.ρ T).pc t ≠ .idle)
    (hns : ∀ d n wdl r, (x.ρ T).pc t ≠ .wt (.pdRet d) n wdl r) :
    ∃ m, ((x.ρ T).pc t).wants = some m ∧
      (((x.ρ T).pc t).lockWait = some m ∨ ((x.ρ T).pc t).condWait = some m) := by
  cases h1 : ((x.ρ T).pc t).lockWait with
  | some m => exact ⟨m, wants_of_lockWait h1, Or.inl rfl⟩
  | none =>
    cases h2 : ((x.ρ T).pc t).condWait with
    | some m => exact ⟨m, wants_of_condWait h2, Or.inr rfl⟩
    | none =>
      exfalso
      obtain ⟨j, hj, hm⟩ := hy.weak t T (fun j hj => by
        have hpc := stuck_pc x hst hj
        refine ready_gen (x.reach hy.reach j) (by rw [hpc]; exact hp) ?_ (by rw [hpc]; exact h2)
          (semReady_of_not_asleep (fun d n wdl r h => hns d n wdl r (by rw [← hpc]; exact h)))
        intro m hm; rw [hpc, wants_none h1 h2] at hm; cases hm)
      exact hst j hj hm

theorem holder_const (x : Exec s0) (hr : Reachable s0) {m : NoteId} {v : Tid} {i : Nat}
    (hne : ∀ j, i ≤ j → ((x.ρ j).notes m).lockHolder ≠ none)
    (hv : ((x.ρ i).notes m).lockHolder = some v) {j : Nat} (hij : i ≤ j) :
    ((x.ρ j).notes m).lockHolder = some v :=
  NsyncVerif.Sched.keeps_from (P := fun j => ((x.ρ j).notes m).lockHolder = some v) hv (fun j hj ih => by
    cases hs : x.σ j with
    | none => rw [x.next_none hs]; exact ih
    | some e =>
      rcases step_lock_actor (x.reach hr j).inv6.2.2.2.2.2 (x.next_some hs) ih with h | h
      · exact h
      · exact absurd h (hne (j + 1) (by omega))) j hij

/-- A mutex held for ever from some time on: its holder has stopped for ever inside a call (a looper
    holds nothing at the load of its wait loop), waiting for a mutex or for the children of a note
    strictly below. -/
theorem held_forever (x : Exec s0) (hy : GenHyps x) {T : Nat} (hC : Classified x T) {m : NoteId}
    {i : Nat} (hi : T ≤ i) (hne : ∀ j, i ≤ j → ((x.ρ j).notes m).lockHolder ≠ none) :
    ∃ v m', (∀ j, T ≤ j → ¬ Moves x v j) ∧ ((x.ρ T).pc v).wants = some m' ∧ Lt (x.ρ T) m m' := by
  have hK : ∀ j, LockInv (x.ρ j) := fun j => (x.reach hy.reach j).inv6.2.2.2.2.2
  cases hv : ((x.ρ i).notes m).lockHolder with
  | none => exact absurd hv (hne i (Nat.le_refl _))
  | some v =>
    rcases hC.cls v with h | ⟨h1, h2⟩ | h
    · exact absurd (h i hi) (held_not_idle (x.reach hy.reach i) hv)
    · have hpc := stuck_pc x h1 hi
      have hmem := ((hK i).iff m v).mp hv
      obtain ⟨m', hw, _⟩ := stuck_target x hy h1 h2 (fun d n wdl r h => by
        rw [hpc, h] at hmem; simp [PC.held] at hmem)
      exact ⟨v, m', h1, hw, lt_back x hy.reach hC.settled hi
        (lock_order (x.reach hy.reach i) (by rw [hpc]; exact hw) hv)⟩
    · obtain ⟨j, hj, _, n, nt, r, wdl, hpc, _⟩ := h i
      have := ((hK j).iff m v).mp (holder_const x hy.reach hne hv hj)
      rw [hpc] at this; simp [PC.held] at this

/-! ### the descent -/

/-- No thread that has stopped for ever is waiting for a mutex or for the children of a note. -/
theorem no_stuck_target (x : Exec s0) (hy : GenHyps x) {T : Nat} (hC : Classified x T) :
    ∀ m t, (∀ j, T ≤ j → ¬ Moves x t j) → ((x.ρ T).pc t).wants = some m → False := by
  have hS := hC.settled
  have hK : ∀ j, LockInv (x.ρ j) := fun j => (x.reach hy.reach j).inv6.2.2.2.2.2
  intro m
  induction m using (x.reach hy.reach T).lt_induction with
  | h m IH =>
    -- a mutex held for ever
    have held_absurd : (∃ i6, T ≤ i6 ∧ ∀ j, i6 ≤ j → ((x.ρ j).notes m).lockHolder ≠ none) →
        False := by
      rintro ⟨i6, hi6, hne⟩
      obtain ⟨v, m', h1, hw, hlt⟩ := held_forever x hy hC hi6 hne
      exact IH m' hlt v h1 hw
    -- waiting inside `nsync_mu_lock`
    have lock_case : ∀ t, (∀ j, T ≤ j → ¬ Moves x t j) →
        ((x.ρ T).pc t).lockWait = some m → False := by
      intro t hst hlw
      by_cases hfree : ∀ j, T ≤ j → ∃ j', j ≤ j' ∧ ((x.ρ j').notes m).lockHolder = none
      · obtain ⟨j, hj, hm⟩ := hy.lock t m T (fun j hj => by rw [stuck_pc x hst hj]; exact hlw) hfree
        exact hst j hj hm
      · exact held_absurd (NsyncVerif.Sched.not_recurs hfree)
    intro t hst hw
    obtain ⟨m', hw', hkind⟩ := stuck_target x hy hst
      (by intro h; rw [h] at hw; cases hw)
      (fun d n wdl r h => by rw [h] at hw; cases hw)
    rw [hw] at hw'; cases hw'
    rcases hkind with hlw | hcw
    · exact lock_case t hst hlw
    · -- inside WAIT_FOR_NO_CHILDREN (`m`), the mutex released
      by_cases hgood : ∀ j, T ≤ j → ∃ j', j ≤ j' ∧ ((x.ρ j').notes m).lockHolder = none ∧
          ((x.ρ j').notes m).waitDone = true
      · obtain ⟨j, hj, hm⟩ := hy.wait t m T (fun j hj => by rw [stuck_pc x hst hj]; exact hcw) hgood
        exact hst j hj hm
      · obtain ⟨i6, hi6, hbad⟩ := NsyncVerif.Sched.not_recurs hgood
        by_cases hd : ∃ j, i6 ≤ j ∧ ((x.ρ j).notes m).waitDone = false
        · obtain ⟨j, hj, hwd⟩ := hd
          have hTj : T ≤ j := by omega
          have hrj := x.reach hy.reach j
          obtain ⟨_, _, hSj, _, hLj, _⟩ := hrj.inv6
          have hwb : WaitBlockedOn (x.ρ j) t m := by
            refine ⟨?_, hwd⟩
            have : ((x.ρ j).pc t).condWait = some m := by rw [stuck_pc x hst hTj]; exact hcw
            exact condWait_shape this
          obtain ⟨hne, hch⟩ := C09_wait_has_disconnectors hrj hwb
          obtain ⟨c, hc⟩ := List.exists_mem_of_ne_nil _ hne
          obtain ⟨_, u, hu⟩ := hch c hc
          have hmc : Lt (x.ρ j) m c := ⟨hSj.children m c hc, hLj.children m c hc⟩
          have hpar : ((x.ρ j).notes c).parent = some m := hrj.invForest.c2p m c hc
          rcases hC.cls u with h | ⟨h1, h2⟩ | h
          · rw [h j hTj] at hu; simp [cntOf, inSecB] at hu
          · have hpcu := stuck_pc x h1 hTj
            obtain ⟨w, hww, hkw⟩ := stuck_target x hy h1 h2 (fun d n wdl r h => by
              rw [hpcu, h] at hu; simp [cntOf, inSecB] at hu)
            have hwwj : ((x.ρ j).pc u).wants = some w := by rw [hpcu]; exact hww
            rcases counted_target hrj hu (Or.inl hwwj) with rfl | hlt | ⟨hp, hnwb⟩
            · exact IH w (lt_back x hy.reach hS hTj hmc) u h1 hww
            · exact IH w (lt_back x hy.reach hS hTj (Lt.trans hLj hmc hlt)) u h1 hww
            · rw [hpar] at hp
              obtain rfl := Option.some.inj hp
              rcases hkw with hlw | hcwu
              · exact lock_case u h1 hlw
              · apply hnwb
                refine ⟨?_, hwd⟩
                have : ((x.ρ j).pc u).condWait = some m := by rw [hpcu]; exact hcwu
                exact condWait_shape this
          · have := looper_not_inNotify x hS h hTj
            rw [inNotify_of_cntOf hu] at this; cases this
        · apply held_absurd
          refine ⟨i6, hi6, fun j hj hfree => ?_⟩
          apply hbad j hj
          refine ⟨hfree, ?_⟩
          cases hwd : ((x.ρ j).notes m).waitDone with
          | true => rfl
          | false => exact absurd ⟨j, hj, hwd⟩ hd

/-- No mutex is held for ever. -/
theorem lock_free_again (x : Exec s0) (hy : GenHyps x) {T : Nat} (hC : Classified x T) (m : NoteId)
    {i : Nat} (hi : T ≤ i) : ∃ j, i ≤ j ∧ ((x.ρ j).notes m).lockHolder = none := by
  apply Classical.byContradiction
  intro hno
  obtain ⟨v, m', h1, hw, _⟩ := held_forever x hy hC hi (fun j hj h => hno ⟨j, hj, h⟩)
  exact no_stuck_target x hy hC m' v h1 hw

/-- In an execution with leaf calls only nobody is ever inside a WAIT_FOR_NO_CHILDREN that released
    the mutex: `WaitFair` asks for nothing. -/
theorem waitFair_of_leaf (x : Exec s0) (hl : LeafCalls x) : WaitFair x := by
  intro t m i h _
  have h1 := h i (Nat.le_refl _)
  have h2 := hl i t
  rcases condWait_shape h1 with ⟨k, f, rest, top, hpc, _⟩ | ⟨k, par, c, nx, hpc⟩ <;>
    rw [hpc] at h1 h2 <;> cases k <;> first | exact Bool.noConfusion h2 | cases h1

/-! ### every call returns -/

/-- A call that never returns goes round the wait loop of `nsync_wait_n` for ever, or has stopped
    for ever asleep in the P of that loop. -/
theorem never_returns (x : Exec s0) (hy : GenHyps x) {t : Tid} {i : Nat}
    (hne : ∀ j, i ≤ j → (x.ρ j).pc t ≠ .idle) :
    Looper x t ∨ ∃ T, i ≤ T ∧ Classified x T ∧ (∀ j, T ≤ j → ¬ Moves x t j) ∧
      ∃ d n wdl r, (x.ρ T).pc t = .wt (.pdRet d) n wdl r := by
  rcases hy.work t with ⟨i0, hi0⟩ | h
  · right
    obtain ⟨T, hT, hC⟩ := classified x hy (max i i0)
    have hst : ∀ j, T ≤ j → ¬ Moves x t j :=
      fun j hj hm => hi0 j (by omega) ⟨hm, hne j (by omega)⟩
    refine ⟨T, by omega, hC, hst, Classical.byContradiction fun hsl => ?_⟩
    obtain ⟨m, hw, _⟩ := stuck_target x hy hst (hne T (by omega))
      (fun d n wdl r h => hsl ⟨d, n, wdl, r, h⟩)
    exact no_stuck_target x hy hC m t hst hw
  · exact .inl h

theorem gen_returns (x : Exec s0) (hy : GenHyps x) {t : Tid} {i : Nat} (hwe : WaitEndsFlag x t i) :
    ∃ j, i ≤ j ∧ (x.ρ j).pc t = .idle := by
  apply Classical.byContradiction
  intro hnever
  have hne : ∀ j, i ≤ j → (x.ρ j).pc t ≠ .idle := fun j hj h => hnever ⟨j, hj, h⟩
  have hwc : ∀ j, i ≤ j → ((x.ρ j).pc t).waitOn = ((x.ρ i).pc t).waitOn := by
    intro j hj
    exact waitOn_const x hj (fun j' h1 _ => hne j' h1)
  -- a time after which the flag is set
  have hj0 : ∃ j0, ∀ n wdl, ((x.ρ i).pc t).waitOn = some (n, wdl) →
      ((x.ρ j0).notes n).notified = true := by
    cases hw : ((x.ρ i).pc t).waitOn with
    | none => exact ⟨0, fun n wdl h => by cases h⟩
    | some p =>
      obtain ⟨j0, h0⟩ := hwe p.1 p.2 hw
      exact ⟨j0, fun n wdl h => by cases h; exact h0⟩
  obtain ⟨j0, h0⟩ := hj0
  have hflag : ∀ j, max i j0 ≤ j → ∀ n wdl, ((x.ρ j).pc t).waitOn = some (n, wdl) →
      ((x.ρ j).notes n).notified = true := by
    intro j hj n wdl h
    rw [hwc j (by omega)] at h
    exact flag_stays x hy.reach (by omega : j0 ≤ j) (h0 n wdl h)
  rcases never_returns x hy (i := max i j0) (fun j hj => hne j (by omega)) with
    hl | ⟨T, hT, hC, hst, d, n, wdl, r, hpc⟩
  · obtain ⟨j, hj, _, n, nt, r, wdl, hpc, hf⟩ := hl (max i j0)
    have := hflag j hj n wdl (by rw [hpc]; rfl)
    rw [hf] at this; cases this
  · -- a sleeper: it has been posted
    have hrT := x.reach hy.reach T
    have hf := hflag T hT n wdl (by rw [hpc]; rfl)
    have hq : ∀ u, ¬ Active ((x.ρ T).pc u) n := by
      intro u ha
      have hin : InNotify ((x.ρ T).pc u) = true := by
        cases hpu : (x.ρ T).pc u with
        | chd pos stk top => rfl
        | _ => rw [hpu] at ha; exact ha.elim
      rcases hC.cls u with h | ⟨h1, h2⟩ | h
      · rw [h T (Nat.le_refl _)] at hin; cases hin
      · obtain ⟨m, hw, _⟩ := stuck_target x hy h1 h2 (fun d n wdl r h => by
          rw [h] at hin; cases hin)
        exact no_stuck_target x hy hC m u h1 hw
      · have := looper_not_inNotify x hC.settled h (Nat.le_refl T)
        rw [hin] at this; cases this
    obtain ⟨hu, ho, hnn⟩ := hrT.invR.own t r n (by rw [hpc]; rfl)
    have hpost := ((C08_waiters_released hrT n hf hq).2 r hu hnn).2
      ⟨d, wdl, Or.inr (by rw [ho, hnn]; exact hpc)⟩
    obtain ⟨j, hj, hm⟩ := hy.weak t T (fun j hj => by
      have hpcj : (x.ρ j).pc t = .wt (.pdRet d) n wdl r := by rw [stuck_pc x hst hj]; exact hpc
      refine ready_gen (x.reach hy.reach _) (by rw [hpcj]; simp) ?_ (by rw [hpcj]; rfl) ?_
      · intro m hm; rw [hpcj] at hm; cases hm
      · have := (posted_stays x hu hj).2
        unfold SemReady
        rw [hpcj]
        left
        show ((x.ρ j).recs r).posted ≠ 0
        omega)
    exact hst j hj hm

/-- A `nsync_note_wait` that never returns: the flag of its note is never set, and it stays that
    wait. -/
theorem wait_never_returns (x : Exec s0) (hy : GenHyps x) {t : Tid} {i : Nat} {n : NoteId} {wdl : Dl}
    (hwo : ((x.ρ i).pc t).waitOn = some (n, wdl))
    (hnever : ¬ ∃ j, i ≤ j ∧ (x.ρ j).pc t = .idle) :
    (∀ j, ((x.ρ j).notes n).notified = false) ∧ (∀ j, i ≤ j → (x.ρ j).pc t ≠ .idle) ∧
      ∀ j, i ≤ j → ((x.ρ j).pc t).waitOn = some (n, wdl) := by
  have hne : ∀ j, i ≤ j → (x.ρ j).pc t ≠ .idle := fun j hj h => hnever ⟨j, hj, h⟩
  refine ⟨fun j => ?_, hne, fun j hj => ?_⟩
  · cases h : ((x.ρ j).notes n).notified with
    | false => rfl
    | true =>
      exact absurd (gen_returns x hy (fun n' wdl' h' => by rw [hwo] at h'; cases h'; exact ⟨j, h⟩))
        hnever
  · rw [waitOn_const x hj (fun j' h1 _ => hne j' h1)]; exact hwo

end Note
