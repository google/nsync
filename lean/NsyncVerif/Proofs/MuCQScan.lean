import NsyncVerif.Proofs.MuCQ
/-
  MuC: the plain code of the scan permutes queue ++ private lists ++ wake list.
-/
namespace NsyncVerif.MuC

theorem groupTail_append (wr : Wid → WRec) (k : Wid) (rest : List Wid) :
    (groupTail wr k rest).1 ++ (groupTail wr k rest).2 = rest := by
  induction rest generalizing k with
  | nil => simp [groupTail]
  | cons n rest ih =>
    simp only [groupTail]
    split
    · simp [ih n]
    · simp

theorem skipPast_append (wr : Wid → WRec) (passed : List Wid) (k : Wid) (rest : List Wid) :
    (skipPast wr passed k rest).1 ++ (skipPast wr passed k rest).2 = passed ++ k :: rest := by
  have hg := groupTail_append wr k rest
  simp only [skipPast]
  split <;> split <;> simp [List.append_assoc, hg]

/-- What `scanGo` started with locals `sc` on the remaining list `l` returns, in terms of the lists. -/
def ScanRes.goodL (wr : Wid → WRec) (sc : Scan) (l : List Wid) : ScanRes → Prop
  | .eval k sc' => sc'.done = sc.done ∧ sc'.wake = sc.wake ∧ sc'.passed ++ sc'.todo = sc.passed ++ l ∧
      (∃ rest, sc'.todo = k :: rest) ∧ (wr k).cond.isSome = true
  | .remove k sc' => sc'.done = sc.done ∧ sc'.passed ++ k :: sc'.todo = sc.passed ++ l ∧ sc'.wake = sc.wake ++ [k]
  | .iterEnd sc' => sc'.done = sc.done ∧ sc'.wake = sc.wake ∧ sc'.passed ++ sc'.todo = sc.passed ++ l
  | .panic => True

theorem scanGo_lists (wr : Wid → WRec) (l : List Wid) (sc : Scan) : (scanGo wr l sc).goodL wr sc l := by
  induction l generalizing sc with
  | nil => simp [scanGo, ScanRes.goodL]
  | cons k rest ih =>
    unfold scanGo
    split
    · simp [ScanRes.goodL]
    · split
      · split
        · rename_i h _; simp [ScanRes.goodL, h]
        · trivial
      · by_cases hw : sc.wt = none ∨ (wr k).lType = .R
        · simp [wakeOrPass, hw, ScanRes.goodL]
        · simp only [wakeOrPass, hw, if_false]
          have := ih { sc with todo := rest, passed := sc.passed ++ [k], sww := true, saf := false }
          revert this
          cases scanGo wr rest { sc with todo := rest, passed := sc.passed ++ [k], sww := true, saf := false } with
          | eval k' sc' => simp [ScanRes.goodL]
          | remove k' sc' => simp [ScanRes.goodL]
          | iterEnd sc' => simp [ScanRes.goodL]
          | panic => simp [ScanRes.goodL]

theorem scanGo_goodL {wr : Wid → WRec} {l : List Wid} {sc : Scan} {res : ScanRes} (e : scanGo wr l sc = res) : res.goodL wr sc l :=
  e ▸ scanGo_lists wr l sc

theorem pickup_none' {s : State} {sc : Scan} (h : (pickup s sc).2 = none) :
    s.queue = [] ∧ (pickup s sc).1.queue = sc.done ++ (sc.passed ++ sc.todo) := by
  unfold pickup at h ⊢
  dsimp only at h ⊢
  split
  · rename_i hq; exact ⟨hq, rfl⟩
  · rename_i hq; rw [hq] at h; cases h

theorem pickup_some' {s : State} {sc sc2 : Scan} (h : (pickup s sc).2 = some sc2) :
    (pickup s sc).1.queue = [] ∧ sc2.done = sc.done ++ (sc.passed ++ sc.todo) ∧ sc2.passed = [] ∧ sc2.todo = s.queue ∧
      sc2.wake = sc.wake ∧ s.queue ≠ [] := by
  unfold pickup at h ⊢
  dsimp only at h ⊢
  split
  · rename_i hq; rw [hq] at h; cases h
  · rename_i p q hq
    rw [hq] at h
    simp only [Option.some.injEq] at h
    subst h
    simp [hq]

theorem perm_lemA (q d p t w : List Wid) (k : Wid) :
    (q ++ (d ++ (p ++ (t ++ (w ++ [k]))))).Perm (q ++ (d ++ (p ++ (k :: (t ++ w))))) := by
  refine List.Perm.append_left _ (List.Perm.append_left _ (List.Perm.append_left _ ?_))
  rw [← List.append_assoc]
  exact List.perm_append_singleton _ _

theorem perm_lemD (d c e qs w : List Wid) : (d ++ (c ++ (e ++ (qs ++ w)))).Perm (qs ++ (d ++ (c ++ (e ++ w)))) := by
  have : (d ++ c ++ e ++ qs ++ w).Perm (qs ++ (d ++ c ++ e) ++ w) := List.Perm.append_right _ List.perm_append_comm
  simpa [List.append_assoc] using this

theorem allOf_stop {s : State} {t : Tid} {p : PC} {sc : Scan} (hp : p.scan? = some sc) (hw : p.wakeL = sc.wake) :
    allOf (setPc s t p) t = s.queue ++ sc.lists ++ sc.wake := by
  simp [allOf, PC.priv, hp, hw]

/-- Along the plain code records change in `lnk` only, and queue ++ private lists ++ wake list is permuted. -/
theorem scanInv_lists (t : Tid) (r : Ret) (s0 : State) (L : List Wid) :
    ScanInv t r (fun s sc => LnkOnly s0 s ∧ (s.queue ++ sc.lists ++ sc.wake).Perm L)
      (fun s' => LnkOnly s0 s' ∧ (allOf s' t).Perm L) where
  eval := by
    intro s sc k sc' ⟨hlo, hp⟩ hgo
    have hsp := scanGo_goodL hgo
    refine ⟨hlo, ?_⟩
    rw [allOf_stop rfl rfl, hsp.2.1]; simp only [Scan.lists, List.append_assoc, hsp.1, hsp.2.2.1]
    simpa only [Scan.lists, List.append_assoc] using hp
  remove := by
    intro s sc k sc' ⟨hlo, hp⟩ hgo
    have hsp := scanGo_goodL hgo
    obtain ⟨h1, h2, h3⟩ := hsp
    refine ⟨hlo.trans (lnkOnly_setPc (lnkOnly_removeLinks _ _ _ _) _ _), List.Perm.trans ?_ hp⟩
    have h2' : ∀ z, sc.passed ++ (sc.todo ++ z) = sc'.passed ++ (k :: (sc'.todo ++ z)) := by
      intro z; rw [← List.append_assoc, ← h2]; simp
    simp only [allOf, setPc_queue, removeLinks_queue, setPc_pc, setFn_same, PC.priv, PC.scan?, PC.wakeL, Scan.lists, h1, h3,
      List.append_assoc, h2']
    exact perm_lemA _ _ _ _ _ _
  iterEnd := by
    intro s sc sc' ⟨hlo, hp⟩ hgo
    have hsp := scanGo_goodL hgo
    refine ⟨hlo, ?_⟩
    rw [hsp.2.1]; simp only [Scan.lists, List.append_assoc, hsp.1, hsp.2.2]
    simpa only [Scan.lists, List.append_assoc] using hp
  reLd := fun ⟨hlo, hp⟩ _ => ⟨hlo, by rw [allOf_stop rfl rfl]; exact hp⟩
  fin := by
    intro s sc ⟨hlo, hp⟩ e2
    obtain ⟨hq, hq1⟩ := pickup_none' e2
    refine ⟨hlo.trans (lnkOnly_pickup s sc), List.Perm.trans ?_ hp⟩
    simp only [allOf, toFin, setPc_queue, setPc_pc, setFn_same, PC.priv, PC.scan?, PC.wakeL, Scan.lists, mkFin, hq1, hq,
      List.append_assoc, List.append_nil, List.nil_append]
    exact List.Perm.refl _
  pick := by
    intro s sc sc2 ⟨hlo, hp⟩ e2
    obtain ⟨hq1, hd, hpa, htd, hwk, hne⟩ := pickup_some' e2
    refine ⟨hlo.trans (lnkOnly_pickup s sc), List.Perm.trans ?_ hp⟩
    simp only [hq1, Scan.lists, hd, hpa, htd, hwk, List.nil_append, List.append_nil, List.append_assoc]
    exact perm_lemD _ _ _ _ _
  relLd := fun ⟨hlo, hp⟩ _ => ⟨hlo, by rw [allOf_stop rfl rfl]; exact hp⟩

theorem scanRun_lists (n : Nat) (s : State) (t : Tid) (r : Ret) (sc : Scan) (s' : State) (h : scanRun n s t r sc = .ok s') :
    LnkOnly s s' ∧ (allOf s' t).Perm (s.queue ++ sc.lists ++ sc.wake) :=
  (scanInv_lists t r s _).run n s sc h ⟨.refl s, .refl _⟩

theorem afterPickup_lists {s : State} {sc0 : Scan} {t : Tid} {r : Ret} {s' : State}
    (h : afterPickup (pickup s sc0) t r sc0 = .ok s') :
    LnkOnly s s' ∧ (allOf s' t).Perm (s.queue ++ sc0.lists ++ sc0.wake) :=
  (scanInv_lists t r s _).afterPickup h ⟨.refl s, .refl _⟩

theorem afterEval_lists {s : State} {sc : Scan} {t : Tid} {r : Ret} {res : Bool} {s' : State}
    (h : afterEval s t r sc res = .ok s') :
    LnkOnly s s' ∧ (allOf s' t).Perm (s.queue ++ sc.lists ++ sc.wake) := by
  refine (scanInv_lists t r s _).afterEval h ?_ ?_ ?_
  · intro k rest hk _
    refine ⟨.refl s, ?_⟩
    have hsk := skipPast_append s.wr sc.passed k rest
    simp only [Scan.lists, List.append_assoc]
    rw [← List.append_assoc (skipPast s.wr sc.passed k rest).1, hsk, hk]
    simp
  · intro k rest hk _ _
    refine ⟨lnkOnly_setPc (lnkOnly_removeLinks _ _ _ _) _ _, ?_⟩
    simp only [allOf, setPc_queue, removeLinks_queue, setPc_pc, setFn_same, PC.priv, PC.scan?, PC.wakeL, Scan.lists, hk,
      List.append_assoc, List.cons_append]
    exact perm_lemA _ _ _ _ _ _
  · intro k rest hk _ _
    exact ⟨.refl s, by simp [Scan.lists, hk]⟩

end NsyncVerif.MuC
