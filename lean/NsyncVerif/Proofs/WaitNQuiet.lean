/-
  Proofs/WaitNQuiet.lean — classification of the steps by what they do to the call structure:
  every accepted step is either `Quiet` (no call begins or ends, no record is born or dies) or one
  of the four structural steps (call, record initialisation, free, return).
-/
import NsyncVerif.Proofs.WaitNLocalInv


namespace WaitN

/-- no call begins or ends, no record is born or dies, no frame gains or loses records -/
structure Quiet (s s' : State) : Prop where
  inCall : ∀ u, inCall (s'.pc u) = inCall (s.pc u)
  recs : ∀ u, (s'.fr u).recs = (s.fr u).recs
  frees : ∀ u, (s'.fr u).frees = (s.fr u).frees
  objs : ∀ u, (s'.fr u).objs = (s.fr u).objs
  live : ∀ r, (s'.rcd r).live = (s.rcd r).live
  owner : ∀ r, (s'.rcd r).owner = (s.rcd r).owner
  robj : ∀ r, (s'.rcd r).obj = (s.rcd r).obj

theorem Quiet.refl (s : State) : Quiet s s := ⟨fun _ => rfl, fun _ => rfl, fun _ => rfl, fun _ => rfl, fun _ => rfl, fun _ => rfl, fun _ => rfl⟩

theorem Quiet.trans {s s1 s2 : State} (a : Quiet s s1) (b : Quiet s1 s2) : Quiet s s2 :=
  ⟨fun u => (b.inCall u).trans (a.inCall u), fun u => (b.recs u).trans (a.recs u), fun u => (b.frees u).trans (a.frees u),
   fun u => (b.objs u).trans (a.objs u), fun r => (b.live r).trans (a.live r), fun r => (b.owner r).trans (a.owner r),
   fun r => (b.robj r).trans (a.robj r)⟩

theorem inCall_relockNext (f : Frame) : inCall (relockNext f) = true := (entry_relockNext f).inCall

/-- closes the seven goals of `Quiet s s'` for an explicit `s'` -/
macro "quiet_tac" : tactic =>
  `(tactic| (constructor <;> intro x <;> (try simp) <;> (try split) <;> (try simp_all) <;> (try simp_all [inCall])))

theorem quiet_bindSem {s s' : State} {owner : Tid} {j : SemId} (h : bindSem s owner j = some s') : Quiet s s' := by
  unfold bindSem at h
  split at h
  · split at h
    · cases h; exact Quiet.refl _
    · cases h
  · split at h
    · cases h
    · cases h; quiet_tac

theorem quiet_postSem {s s' : State} {r : Rid} {j : SemId} (h : postSem s r j = some s') : Quiet s s' := by
  unfold postSem at h
  split at h
  · exact quiet_bindSem h
  · cases h; exact Quiet.refl _

theorem quiet_unbindSem (s : State) (t : Tid) : Quiet s (unbindSem s t) := by
  unfold unbindSem
  split <;> quiet_tac

theorem quiet_dflt {s s' : State} {t : Tid} {e : Ev} (h : dflt s t e = .ok s') : Quiet s s' := by
  obtain ⟨f, rfl⟩ := dflt_sem h
  exact ⟨fun _ => rfl, fun _ => rfl, fun _ => rfl, fun _ => rfl, fun _ => rfl, fun _ => rfl, fun _ => rfl⟩

theorem quiet_rtDone {s s' : State} {t : Tid} {u : Use} {i : Nat} {time : Deadline}
    (hc : inCall (s.pc t) = true) (h : rtDone s t u i time = .ok s') : Quiet s s' := by
  unfold rtDone at h
  split_ok h <;> (cases h; quiet_tac)

theorem quiet_setPc {s : State} {t : Tid} {p : PC} (hc : inCall (s.pc t) = inCall p) : Quiet s (s.setPc t p) := by
  quiet_tac
theorem quiet_setFr {s : State} {t : Tid} {f : Frame} (h1 : f.recs = (s.fr t).recs) (h2 : f.frees = (s.fr t).frees)
    (h3 : f.objs = (s.fr t).objs) : Quiet s (s.setFr t f) := by
  quiet_tac

theorem quiet_deqDone {s s' : State} {t : Tid} {j : Nat} {res : Bool}
    (hc : inCall (s.pc t) = true) (h : deqDone s t j res = .ok s') : Quiet s s' := by
  unfold deqDone at h
  dsimp only at h
  split at h
  · cases h; quiet_tac
  · cases h
    refine Quiet.trans ?_ (Quiet.trans (quiet_unbindSem _ _) (quiet_setPc ?_))
    · exact quiet_setFr rfl rfl rfl
    · rw [(quiet_unbindSem (s.setFr t _) t).inCall t]; simpa using hc

theorem quiet_afterEnq {s s' : State} {t : Tid} {i : Nat} {res : Bool}
    (hc : inCall (s.pc t) = true) (h : afterEnq s t i res = .ok s') : Quiet s s' := by
  unfold afterEnq at h
  cases h
  split <;> quiet_tac

theorem quiet_startScan {s : State} {t : Tid} (hc : inCall (s.pc t) = true) : Quiet s (startScan s t) := by
  unfold startScan; quiet_tac

macro "quiet_leaf" h:ident : tactic =>
  `(tactic| first
    | exact quiet_dflt $h
    | (cases $h:ident; first
        | exact Quiet.refl _
        | (quiet_tac; done)
        | (refine Quiet.trans (quiet_postSem ‹postSem _ _ _ = some _›) ?_; quiet_tac; done)
        | (refine Quiet.trans (quiet_bindSem ‹bindSem _ _ _ = some _›) ?_; quiet_tac; done)))

/-- the four steps that change the call structure -/
inductive Structural (s s' : State) (t : Tid) : Prop
  | call (mu : Option MuId) (dl : Deadline) (objs : List ObjId) (nested : Bool)
      (hpc : s.pc t = .idle) (hne : objs ≠ []) (hk : objs.all (fun o => (s.obj o).known) = true)
      (hs : s' = (s.setFr t (Frame.new mu dl objs nested)).setPc t (pollNext (Frame.new mu dl objs nested) 0))
  | init (i : Nat) (r : Rid) (oid : ObjId)
      (hpc : s.pc t = .wInit i) (hoid : (s.fr t).objs[i]? = some oid) (hdead : (s.rcd r).live = false)
      (hi : i = (s.fr t).recs.length)
      (hs : s' = ((s.setRec r { live := true, waiting := false, owner := t, obj := oid, unl := .none, deqd := false }).setFr t
                    { s.fr t with recs := (s.fr t).recs ++ [r] }).setPc t
                    (if oid.isCv then .wEnqCv i (.spin .ld) else .wEnq i .lockCall))
  | free (hpc : s.pc t = .wFree)
      (hs : s' = ((s.kill (s.fr t).recs).setFr t { s.fr t with frees := (s.fr t).frees + 1 }).setPc t
                    (relockNext { s.fr t with frees := (s.fr t).frees + 1 }))
  | ret (r : Nat) (hpc : s.pc t = .wRet r)
      (hs : s' = ((s.kill (if (s.fr t).heap.isSome then [] else (s.fr t).recs)).setFr t Frame.empty).setPc t .idle)

/-- an `Act` that keeps the set of live records is quiet -/
theorem quiet_act {s s1 : State} {t : Tid} {k : Kind} (a : Act s t k s1) (hk : k ≠ .life) : Quiet s s1 :=
  ⟨fun _ => by rw [a.pc], fun _ => by rw [a.fr], fun _ => by rw [a.fr], fun _ => by rw [a.fr],
   fun r => ((a.rcd r).ident hk).1, fun r => ((a.rcd r).ident hk).2.1, fun r => ((a.rcd r).ident hk).2.2⟩

/-- a change of the nested-call state, of a semaphore count or of a pending post is quiet -/
theorem quiet_of_eq {s s' : State} (hpc : s'.pc = s.pc) (hfr : s'.fr = s.fr) (hr : s'.rcd = s.rcd) : Quiet s s' :=
  ⟨fun _ => by rw [hpc], fun _ => by rw [hfr], fun _ => by rw [hfr], fun _ => by rw [hfr], fun _ => by rw [hr],
   fun _ => by rw [hr], fun _ => by rw [hr]⟩

/-- apart from the four structural steps, a `Tail` is quiet -/
theorem quiet_tail {s s1 s' : State} {t : Tid} {e : Ev} {k : Kind} (hpc1 : s1.pc = s.pc) (b : Tail s s1 t e k s') :
    (k ≠ .life ∧ Quiet s1 s') ∨ Structural s s' t := by
  have mv : ∀ {s2 : State} {f : Frame} {p : PC}, s2.pc = s.pc → inCall (s.pc t) = true → inCall p = true →
      f.recs = (s2.fr t).recs → f.frees = (s2.fr t).frees → f.objs = (s2.fr t).objs →
      Quiet s2 ((s2.setFr t f).setPc t p) := fun h2 hc hp h3 h4 h5 =>
    (quiet_setFr h3 h4 h5).trans (quiet_setPc (by rw [setFr_pc, h2, hc, hp]))
  cases b
  case same => exact .inl ⟨nofun, .refl _⟩
  case goto p hf => exact .inl ⟨nofun, quiet_setPc (by rw [hpc1, hf.inCall])⟩
  case giveUp j c r fl hpc ho hr hn hs => exact .inl ⟨nofun, quiet_setPc (by rw [hpc1, hpc]; rfl)⟩
  case nested m => exact .inl ⟨nofun, quiet_of_eq rfl rfl rfl⟩
  case dflt h => exact .inl ⟨nofun, quiet_dflt h⟩
  case rtDone u i time hc h => exact .inl ⟨nofun, quiet_rtDone (by rw [hpc1]; exact hc.inCall) h⟩
  case afterEnq i res hc h => exact .inl ⟨nofun, quiet_afterEnq (by rw [hpc1]; exact hc.inCall) h⟩
  case deqDone j res r hr hu hpc h =>
    refine .inl ⟨nofun, quiet_deqDone ?_ h⟩
    rw [hpc1]
    rcases hpc with h | ⟨h, -, -⟩ | h <;> rw [h] <;> rfl
  case v r j s2 hp0 he h => exact .inl ⟨nofun, (quiet_postSem h).trans (quiet_of_eq rfl rfl rfl)⟩
  case vgoto r j s2 hp0 he h c bc st0 st hpc hf0 =>
    refine .inl ⟨nofun, (quiet_postSem h).trans
      ((quiet_of_eq (s := s2) (s' := s2.setSem j (s2.sem j + 1)) rfl rfl rfl).trans (quiet_setPc ?_))⟩
    rw [setSem_pc, (quiet_postSem h).inCall t, hpc1, hpc]; rfl
  case pdEnter j d s2 hpc he h =>
    refine .inl ⟨nofun, (quiet_bindSem h).trans (quiet_setPc ?_)⟩
    rw [(quiet_bindSem h).inCall t, hpc1, hpc]; rfl
  case pdWake j n hpc he hs =>
    exact .inl ⟨nofun, (quiet_of_eq (s := s1) (s' := s1.setSem j n) rfl rfl rfl).trans
      (quiet_startScan (by rw [setSem_pc, hpc1, hpc]; rfl))⟩
  case alloc arr hpc => exact .inl ⟨nofun, mv hpc1 (by rw [hpc]; rfl) (entry_enqNext _ _ _).inCall rfl rfl rfl⟩
  case unlockMu hpc => exact .inl ⟨nofun, mv hpc1 (by rw [hpc]; rfl) (entry_loopNext _ _).inCall rfl rfl rfl⟩
  case timeout j w hpc => exact .inl ⟨nofun, mv hpc1 (by rw [hpc]; rfl) (entry_deqNext _ _).inCall rfl rfl rfl⟩
  case relock hpc => exact .inl ⟨nofun, mv hpc1 (by rw [hpc]; rfl) rfl rfl rfl rfl⟩
  case call mu dl objs nested hpc hne hk hs => subst hs; exact .inr (.call mu dl objs nested hpc hne hk rfl)
  case init i r oid hpc hoid hdead hrid hi hs => subst hs; exact .inr (.init i r oid hpc hoid hdead hi rfl)
  case free hpc hs => subst hs; exact .inr (.free hpc rfl)
  case ret r hpc hs => subst hs; exact .inr (.ret r hpc rfl)

theorem Quiet.of_steps {s s' : State} {t : Tid} {e : Ev} (h : Steps s t e s') : Quiet s s' ∨ Structural s s' t := by
  obtain ⟨k, s1, a, b⟩ := h
  rcases quiet_tail a.pc b with ⟨hk, q⟩ | st
  · exact .inl ((quiet_act a hk).trans q)
  · exact .inr st

theorem quiet_or_structural {s s' : State} {t : Tid} {e : Ev} (h : stepThr s t e = .ok s') :
    Quiet s s' ∨ Structural s s' t := Quiet.of_steps (steps_stepThr h)

theorem quiet_stepSg {s s' : State} {t : Tid} {c : Nat} {bc : Bool} {st : SgSt} {e : Ev}
    (hpc : s.pc t = .sg c bc st) (h : stepSg s t c bc st e = .ok s') : Quiet s s' := by
  rcases Quiet.of_steps (steps_stepSg hpc h) with q | st
  · exact q
  · have hne : ∀ {p : PC}, s.pc t = p → inCall p = true ∨ p = .idle → False := fun h1 h2 => by
      rw [hpc] at h1; subst h1; rcases h2 with h2 | h2 <;> cases h2
    cases st with
    | call _ _ _ _ h1 => exact (hne h1 (.inr rfl)).elim
    | init _ _ _ h1 => exact (hne h1 (.inl rfl)).elim
    | free h1 => exact (hne h1 (.inl rfl)).elim
    | ret _ h1 => exact (hne h1 (.inl rfl)).elim

end WaitN
