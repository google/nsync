/-
  Proofs/SemWaitEff.lean — the accepting branches of `SemWait.stepThr` as a relation `Eff cfg s t s'`
  (one constructor per kind of update, with the guards the invariants need), and `stepThr … = .ok s' → Eff …`.

  Most statements of the waiter only move its program counter, and at most take or release the mutex of its
  cancel note on the way: `Ctl` lists these program points, and `Eff` has one constructor for all of them.
-/
import NsyncVerif.Proofs.SemWaitBasic

namespace SemWait

/-- note_mu of note `k` changes hands -/
def State.setLock (s : State) (k : NoteId) (l : Option Tid) : State :=
  s.setNote k { s.note k with lock := l }

theorem setLock_note (s : State) (k : NoteId) (l : Option Tid) (i : NoteId) :
    (s.setLock k l).note i = { s.note i with lock := if i = k then l else (s.note i).lock } := by
  by_cases h : i = k
  · subst h; simp [State.setLock]
  · simp [State.setLock, h]


/-- `s.bind t j`: the state after binding thread t's call to semaphore j -/
def State.bind (s : State) (t : Tid) (j : SemId) : State :=
  (s.setFr t { s.fr t with sem := some j }).setSemUser j (some t)

/-- the state after the V of the notifier t that unlinked r -/
def State.posted (cfg : Config) (s : State) (t : Tid) (r : Rid) (j : SemId) : State :=
  ((s.setSem j (vCount cfg (s.sem j))).setRec r { s.rcd r with posted := true }).setPost t none

/-- the state after the notifier t has unlinked r, the head of its note's list -/
def State.popped (s : State) (t : Tid) (r : Rid) (tl : List Rid) : State :=
  ((s.setNote (s.rcd r).note { s.note (s.rcd r).note with queue := tl }).setRec r
    { s.rcd r with waiting := false, unl := .waker, popper := t, posted := false }).setPost t (some r)

/-- the state after sem_wait.c:46 -/
def State.inited (s : State) (t : Tid) (r : Rid) : State :=
  ((s.setRec r { live := true, waiting := true, owner := t, note := (s.fr t).note, unl := .none, popper := 0,
                 posted := false }).setFr t { s.fr t with nw := some r }).setPc t .lk1

/-- the state after the enqueue of sem_wait.c:53 -/
def State.enqd (s : State) (t : Tid) (r : Rid) : State :=
  ((s.setNote (s.fr t).note { s.note (s.fr t).note with queue := (s.note (s.fr t).note).queue ++ [r] }).setFr t
      { s.fr t with locald := dmin (s.fr t).dl (s.note (s.fr t).note).expiry,
                    nearer := dlt (s.fr t).dl (s.note (s.fr t).note).expiry }).setPc t (.ulk1 true)

/-- the state after the dequeue of sem_wait.c:71 -/
def State.removed (s : State) (t : Tid) (r : Rid) : State :=
  ((s.setNote (s.fr t).note { s.note (s.fr t).note with queue := (s.note (s.fr t).note).queue.erase r }).setRec r
      { s.rcd r with unl := .owner }).setPc t .ulk2

/-- the state after the return of nsync_sem_wait_with_cancel_ -/
def State.returned (s : State) (t : Tid) : State :=
  (((s.kill (s.fr t).nw).unbind (s.fr t).sem).setFr t Frame.empty).setPc t .idle

/-! What the updates change, field by field: an update of one field of a note, record or frame leaves the
    other fields of every note, record or frame as they are. -/

theorem setNote_lock (s : State) (k : NoteId) (l : Option Tid) (i : NoteId) :
    (s.setNote k { s.note k with lock := l }).note i = { s.note i with lock := if i = k then l else (s.note i).lock } :=
  setLock_note s k l i

theorem setNote_flag (s : State) (k : NoteId) (b : Bool) (i : NoteId) :
    (s.setNote k { s.note k with flag := b }).note i = { s.note i with flag := if i = k then b else (s.note i).flag } := by
  rw [setNote_note]; split <;> (try subst_vars) <;> rfl

theorem setNote_expiry (s : State) (k : NoteId) (d : Deadline) (i : NoteId) :
    (s.setNote k { s.note k with expiry := d }).note i =
      { s.note i with expiry := if i = k then d else (s.note i).expiry } := by
  rw [setNote_note]; split <;> (try subst_vars) <;> rfl

theorem popped_rcd (s : State) (t : Tid) (r : Rid) (tl : List Rid) (i : Rid) : (s.popped t r tl).rcd i =
    { s.rcd i with waiting := if i = r then false else (s.rcd i).waiting, unl := if i = r then .waker else (s.rcd i).unl,
                   popper := if i = r then t else (s.rcd i).popper, posted := if i = r then false else (s.rcd i).posted } := by
  simp only [State.popped, setPost_rcd, setRec_rcd]; split <;> (try subst_vars) <;> rfl

theorem posted_rcd (cfg : Config) (s : State) (t : Tid) (r : Rid) (j : SemId) (i : Rid) :
    (s.posted cfg t r j).rcd i = { s.rcd i with posted := if i = r then true else (s.rcd i).posted } := by
  simp only [State.posted, setPost_rcd, setRec_rcd]; split <;> (try subst_vars) <;> rfl

theorem bind_fr (s : State) (t : Tid) (j : SemId) (u : Tid) :
    (s.bind t j).fr u = { s.fr u with sem := if u = t then some j else (s.fr u).sem } := by
  simp only [State.bind, setSemUser_fr, setFr_fr]; split <;> (try subst_vars) <;> rfl

/-! The states after the waiter's own statements, field by field. -/

theorem State.ext' {a b : State} (h1 : a.note = b.note) (h2 : a.rcd = b.rcd) (h3 : a.sem = b.sem) (h4 : a.semUser = b.semUser)
    (h5 : a.pc = b.pc) (h6 : a.fr = b.fr) (h7 : a.post = b.post) (h8 : a.now = b.now) : a = b := by
  cases a; cases b; simp_all

theorem call_eq (s : State) (t : Tid) (n : NoteId) (f : Frame) (p' : PC) :
    ((s.setNote n { s.note n with fresh := false }).setFr t f).setPc t p' =
      { s with note := fun i => { s.note i with fresh := if i = n then false else (s.note i).fresh },
               fr := fun u => if u = t then f else s.fr u, pc := fun u => if u = t then p' else s.pc u } := by
  refine State.ext' (funext fun i => ?_) rfl rfl rfl rfl rfl rfl rfl
  by_cases h : i = n <;> simp [State.setNote, State.setFr, State.setPc, h]

theorem inited_eq (s : State) (t : Tid) (r : Rid) : s.inited t r =
    { s with rcd := fun i => if i = r then { live := true, waiting := true, owner := t, note := (s.fr t).note, unl := .none,
                                              popper := 0, posted := false } else s.rcd i,
             fr := fun u => { s.fr u with nw := if u = t then some r else (s.fr u).nw },
             pc := fun u => if u = t then .lk1 else s.pc u } := by
  refine State.ext' rfl rfl rfl rfl rfl (funext fun u => ?_) rfl rfl
  by_cases h : u = t <;> simp [State.inited, State.setRec, State.setFr, State.setPc, h]

theorem enqd_eq (s : State) (t : Tid) (r : Rid) : s.enqd t r =
    { s with note := fun i => { s.note i with queue := if i = (s.fr t).note then (s.note i).queue ++ [r] else (s.note i).queue },
             fr := fun u => { s.fr u with
               locald := if u = t then dmin (s.fr t).dl (s.note (s.fr t).note).expiry else (s.fr u).locald,
               nearer := if u = t then dlt (s.fr t).dl (s.note (s.fr t).note).expiry else (s.fr u).nearer },
             pc := fun u => if u = t then .ulk1 true else s.pc u } := by
  refine State.ext' (funext fun i => ?_) rfl rfl rfl rfl (funext fun u => ?_) rfl rfl
  · by_cases h : i = (s.fr t).note <;> simp [State.enqd, State.setNote, State.setFr, State.setPc, h]
  · by_cases h : u = t <;> simp [State.enqd, State.setNote, State.setFr, State.setPc, h]

theorem bindPc_eq (s : State) (t : Tid) (j : SemId) (p' : PC) : (s.bind t j).setPc t p' =
    { s with fr := fun u => { s.fr u with sem := if u = t then some j else (s.fr u).sem },
             semUser := fun i => if i = j then some t else s.semUser i,
             pc := fun u => if u = t then p' else s.pc u } := by
  refine State.ext' rfl rfl rfl rfl rfl (funext fun u => ?_) rfl rfl
  by_cases h : u = t <;> simp [State.bind, State.setSemUser, State.setFr, State.setPc, h]

theorem tmo_eq (s : State) (t : Tid) (o : Outcome) (p' : PC) :
    (s.setFr t { s.fr t with out := o }).setPc t p' =
      { s with fr := fun u => { s.fr u with out := if u = t then o else (s.fr u).out },
               pc := fun u => if u = t then p' else s.pc u } := by
  refine State.ext' rfl rfl rfl rfl rfl (funext fun u => ?_) rfl rfl
  by_cases h : u = t <;> simp [State.setFr, State.setPc, h]

theorem p0_eq (s : State) (t : Tid) (j : SemId) (c : Nat) (p' : PC) :
    ((s.setSem j c).setFr t { s.fr t with out := .ok, consumed := true }).setPc t p' =
      { s with sem := fun i => if i = j then c else s.sem i,
               fr := fun u => { s.fr u with out := if u = t then .ok else (s.fr u).out,
                                            consumed := if u = t then true else (s.fr u).consumed },
               pc := fun u => if u = t then p' else s.pc u } := by
  refine State.ext' rfl rfl rfl rfl rfl (funext fun u => ?_) rfl rfl
  by_cases h : u = t <;> simp [State.setSem, State.setFr, State.setPc, h]

theorem removed_eq (s : State) (t : Tid) (r : Rid) : s.removed t r =
    { s with note := fun i => { s.note i with queue := if i = (s.fr t).note then (s.note i).queue.erase r else (s.note i).queue },
             rcd := fun i => { s.rcd i with unl := if i = r then .owner else (s.rcd i).unl },
             pc := fun u => if u = t then .ulk2 else s.pc u } := by
  refine State.ext' (funext fun i => ?_) (funext fun i => ?_) rfl rfl rfl rfl rfl rfl
  · by_cases h : i = (s.fr t).note <;> simp [State.removed, State.setNote, State.setRec, State.setPc, h]
  · by_cases h : i = r <;> simp [State.removed, State.setNote, State.setRec, State.setPc, h]

theorem returned_eq (s : State) (t : Tid) : s.returned t =
    { s with rcd := fun i => { s.rcd i with live := if (s.fr t).nw = some i then false else (s.rcd i).live },
             semUser := fun i => if (s.fr t).sem = some i then none else s.semUser i,
             fr := fun u => if u = t then Frame.empty else s.fr u,
             pc := fun u => if u = t then .idle else s.pc u } := by
  refine State.ext' rfl (funext fun i => ?_) rfl rfl rfl rfl rfl rfl
  by_cases h : (s.fr t).nw = some i <;> simp [State.returned, State.kill, State.unbind, State.setFr, State.setPc, h]

theorem popped_eq (s : State) (t : Tid) (r : Rid) (tl : List Rid) : s.popped t r tl =
    { s with note := fun i => { s.note i with queue := if i = (s.rcd r).note then tl else (s.note i).queue },
             rcd := fun i => { s.rcd i with waiting := if i = r then false else (s.rcd i).waiting,
                                            unl := if i = r then .waker else (s.rcd i).unl,
                                            popper := if i = r then t else (s.rcd i).popper,
                                            posted := if i = r then false else (s.rcd i).posted },
             post := fun u => if u = t then some r else s.post u } := by
  refine State.ext' (funext fun i => ?_) (funext fun _ => popped_rcd ..) rfl rfl rfl rfl rfl rfl
  by_cases h : i = (s.rcd r).note <;> simp [State.popped, State.setNote, State.setRec, State.setPost, h]

theorem posted_eq (cfg : Config) (s : State) (t : Tid) (r : Rid) (j : SemId) : s.posted cfg t r j =
    { s with sem := fun i => if i = j then vCount cfg (s.sem j) else s.sem i,
             rcd := fun i => { s.rcd i with posted := if i = r then true else (s.rcd i).posted },
             post := fun u => if u = t then none else s.post u } :=
  State.ext' rfl (funext fun _ => posted_rcd ..) rfl rfl rfl rfl rfl rfl

theorem bind_eq (s : State) (t : Tid) (j : SemId) : s.bind t j =
    { s with fr := fun u => { s.fr u with sem := if u = t then some j else (s.fr u).sem },
             semUser := fun i => if i = j then some t else s.semUser i } :=
  State.ext' rfl rfl rfl rfl rfl (funext fun _ => bind_fr ..) rfl rfl

/-- what a statement of the waiter does to the mutex of its cancel note -/
inductive LockOp | keep | take | drop

/-- the holder of a mutex after `op` by thread `t` -/
def LockOp.app (t : Tid) (l : Option Tid) : LockOp → Option Tid
  | .keep => l
  | .take => some t
  | .drop => none

def State.lockOp (s : State) (t : Tid) (op : LockOp) : State :=
  s.setLock (s.fr t).note (op.app t (s.note (s.fr t).note).lock)

theorem lockOp_note (s : State) (t : Tid) (op : LockOp) (i : NoteId) :
    (s.lockOp t op).note i =
      { s.note i with lock := if i = (s.fr t).note then op.app t (s.note i).lock else (s.note i).lock } := by
  rw [State.lockOp, setLock_note]
  split
  · subst_vars; rfl
  · rfl

@[simp] theorem lockOp_rcd (s : State) (t : Tid) (op : LockOp) : (s.lockOp t op).rcd = s.rcd := rfl
@[simp] theorem lockOp_pc (s : State) (t : Tid) (op : LockOp) : (s.lockOp t op).pc = s.pc := rfl
@[simp] theorem lockOp_fr (s : State) (t : Tid) (op : LockOp) : (s.lockOp t op).fr = s.fr := rfl
@[simp] theorem lockOp_post (s : State) (t : Tid) (op : LockOp) : (s.lockOp t op).post = s.post := rfl
@[simp] theorem lockOp_now (s : State) (t : Tid) (op : LockOp) : (s.lockOp t op).now = s.now := rfl

theorem lockOp_keep (s : State) (t : Tid) : s.lockOp t .keep = s := by
  have : (s.lockOp t .keep).note = s.note := funext fun i => by rw [lockOp_note]; simp [LockOp.app]
  exact congrArg (fun f => { s with note := f }) this

/-- `Ctl cfg s t op p'`: a statement of the waiter `t` that only moves its program counter, to `p'`, and
    takes or releases the mutex of its cancel note on the way (`op`) -/
inductive Ctl (cfg : Config) (s : State) (t : Tid) : LockOp → PC → Prop
  | nd_ld0_set (u : Use) : s.pc t = .nd u .ld0 → (s.note (s.fr t).note).flag = true → Ctl cfg s t .keep (ndNext u false)
  | nd_ld0_clr (u : Use) : s.pc t = .nd u .ld0 → (s.note (s.fr t).note).flag = false → Ctl cfg s t .keep (.nd u .lk)
  | nd_lk (u : Use) : s.pc t = .nd u .lk → (s.note (s.fr t).note).lock = none → Ctl cfg s t .take (.nd u .ld1)
  | nd_ld1 (u : Use) : s.pc t = .nd u .ld1 → Ctl cfg s t .keep (.nd u (.ulk (s.note (s.fr t).note).flag))
  | nd_ulk_done (u : Use) (obs : Bool) : s.pc t = .nd u (.ulk obs) → (s.note (s.fr t).note).lock = some t →
      (obs || dlePast (s.note (s.fr t).note).expiry) = true → Ctl cfg s t .drop (ndNext u false)
  | nd_ulk_now (u : Use) (obs : Bool) : s.pc t = .nd u (.ulk obs) → (s.note (s.fr t).note).lock = some t →
      (obs || dlePast (s.note (s.fr t).note).expiry) = false → Ctl cfg s t .drop (.nd u .now)
  | nd_now_exp (u : Use) : s.pc t = .nd u .now → expiredB (s.note (s.fr t).note).expiry s.now = true →
      Ctl cfg s t .keep (.nf u .lk)
  | nd_now_ok (u : Use) : s.pc t = .nd u .now → expiredB (s.note (s.fr t).note).expiry s.now = false →
      Ctl cfg s t .keep (ndNext u true)
  | nf_lk (u : Use) : s.pc t = .nf u .lk → (s.note (s.fr t).note).lock = none → Ctl cfg s t .take (.nf u .ld)
  | nf_ld_ulk (u : Use) : s.pc t = .nf u .ld →
      ((s.note (s.fr t).note).flag || dlePast (s.note (s.fr t).note).expiry) = true → Ctl cfg s t .keep (.nf u .ulk)
  | nf_ld_open (u : Use) : s.pc t = .nf u .ld →
      ((s.note (s.fr t).note).flag || dlePast (s.note (s.fr t).note).expiry) = false → Ctl cfg s t .keep (.nf u .open)
  | nf_ulk (u : Use) : s.pc t = .nf u .ulk → (s.note (s.fr t).note).lock = some t → Ctl cfg s t .drop (nfNext u)
  | nf_open (u : Use) : s.pc t = .nf u .open → (s.note (s.fr t).note).lock = some t →
      (s.note (s.fr t).note).flag = true → s.post t = none → (s.note (s.fr t).note).queue = [] →
      Ctl cfg s t .drop (nfNext u)
  | lk1 : s.pc t = .lk1 → (s.note (s.fr t).note).lock = none → Ctl cfg s t .take .ld49
  | ld49_no : s.pc t = .ld49 → (cfg.noReread || timePos (s.note (s.fr t).note)) = false → Ctl cfg s t .keep (.ulk1 false)
  | ulk1 (b : Bool) : s.pc t = .ulk1 b → (s.note (s.fr t).note).lock = some t →
      Ctl cfg s t .drop (if b then .pdEnter else .ret)
  | pdEnter (j : SemId) : s.pc t = .pdEnter → (s.fr t).sem = some j → Ctl cfg s t .keep (.pdWait j)
  | lk2 : s.pc t = .lk2 → (s.note (s.fr t).note).lock = none → Ctl cfg s t .take .ld68
  | ld68_no : s.pc t = .ld68 → timePos (s.note (s.fr t).note) = false → Ctl cfg s t .keep .ulk2
  | ulk2 : s.pc t = .ulk2 → (s.note (s.fr t).note).lock = some t → Ctl cfg s t .drop .ret

inductive Eff (cfg : Config) (s : State) (t : Tid) : State → Prop
  | nop : Eff cfg s t s
  | semV (j : SemId) : Eff cfg s t (s.setSem j (vCount cfg (s.sem j)))
  | semP (j : SemId) (c : Nat) : s.semUser j = none → s.sem j = c + 1 → Eff cfg s t (s.setSem j c)
  | lock (k : NoteId) : protoMode (s.pc t) = true → (s.note k).lock = none →
      Eff cfg s t (s.setNote k { s.note k with lock := some t })
  | unlock (k : NoteId) : protoMode (s.pc t) = true → (s.note k).lock = some t → s.post t = none →
      ((s.note k).flag = true → (s.note k).queue = []) → Eff cfg s t (s.setNote k { s.note k with lock := none })
  | setFlag (k : NoteId) : protoMode (s.pc t) = true → (s.note k).lock = some t → (s.note k).known = true →
      (s.note k).flag = false → dlePast (s.note k).expiry = false → Eff cfg s t (s.setNote k { s.note k with flag := true })
  | pop (r : Rid) (tl : List Rid) : protoMode (s.pc t) = true → (s.note (s.rcd r).note).queue = r :: tl →
      (s.note (s.rcd r).note).lock = some t → (s.note (s.rcd r).note).flag = true → s.post t = none →
      Eff cfg s t (s.popped t r tl)
  | post (r : Rid) (j : SemId) : protoMode (s.pc t) = true → s.post t = some r →
      ((s.rcd r).live = true → (s.fr (s.rcd r).owner).sem = some j) → Eff cfg s t (s.posted cfg t r j)
  | postBind (r : Rid) (j : SemId) : protoMode (s.pc t) = true → s.post t = some r → (s.rcd r).live = true →
      (s.fr (s.rcd r).owner).sem = none → s.semUser j = none → Eff cfg s t ((s.bind (s.rcd r).owner j).posted cfg t r j)
  | newNote (k : NoteId) (ex : Deadline) : protoMode (s.pc t) = true → (s.note k).known = false →
      Eff cfg s t (s.setNote k { known := true, lock := none, flag := false, expiry := ex, queue := [], fresh := true })
  | inherit (k p : NoteId) : protoMode (s.pc t) = true → (s.note k).known = true → (s.note k).fresh = true → k ≠ p →
      Eff cfg s t (s.setNote k { s.note k with expiry := dmin (s.note p).expiry (s.note k).expiry })
  | born (k p : NoteId) : protoMode (s.pc t) = true → (s.note k).known = true → (s.note k).fresh = true → k ≠ p →
      (s.note p).lock = some t → (s.note k).flag = false → timePos (s.note p) = false →
      Eff cfg s t (s.setNote k { s.note k with flag := true })
  | call (n : NoteId) (dl : Deadline) : s.pc t = .idle → (s.note n).known = true → s.post t = none →
      (s.note n).lock ≠ some t →
      Eff cfg s t (((s.setNote n { s.note n with fresh := false }).setFr t { Frame.empty with note := n, dl := dl }).setPc t
            (.nd .first .ld0))
  | ctl (op : LockOp) (p' : PC) : Ctl cfg s t op p' → Eff cfg s t ((s.lockOp t op).setPc t p')
  | m_init (r : Rid) : s.pc t = .init → (s.rcd r).live = false →
      Eff cfg s t (s.inited t r)
  | m_ld49_enq (r : Rid) : s.pc t = .ld49 → (cfg.noReread || timePos (s.note (s.fr t).note)) = true →
      (s.fr t).nw = some r →
      Eff cfg s t (s.enqd t r)
  | m_pdEnterBind (j : SemId) : s.pc t = .pdEnter → (s.fr t).sem = none → s.semUser j = none →
      Eff cfg s t ((s.bind t j).setPc t (.pdWait j))
  | m_tmoNear (j : SemId) : s.pc t = .pdWait j → expiredB (s.fr t).locald s.now = true → (s.fr t).nearer = true →
      Eff cfg s t ((s.setFr t { s.fr t with out := .timedOut }).setPc t .lk2)
  | m_tmoFar (j : SemId) : s.pc t = .pdWait j → expiredB (s.fr t).locald s.now = true → (s.fr t).nearer = false →
      Eff cfg s t ((s.setFr t { s.fr t with out := .cancelled }).setPc t (.nd .l65 .ld0))
  | m_p0 (j : SemId) (c : Nat) : s.pc t = .pdWait j → s.sem j = c + 1 →
      Eff cfg s t (((s.setSem j c).setFr t { s.fr t with out := .ok, consumed := true }).setPc t .lk2)
  | m_ld68_rm (r : Rid) : s.pc t = .ld68 → timePos (s.note (s.fr t).note) = true → (s.fr t).nw = some r →
      r ∈ (s.note (s.fr t).note).queue →
      Eff cfg s t (s.removed t r)
  | m_ret : s.pc t = .ret →
      Eff cfg s t (s.returned t)

theorem Eff.goto {cfg : Config} {s : State} {t : Tid} {p' : PC} (h : Ctl cfg s t .keep p') :
    Eff cfg s t (s.setPc t p') := by
  have := Eff.ctl _ _ h
  rwa [lockOp_keep] at this

theorem dflt_eff {cfg : Config} {s s' : State} {t : Tid} {e : Ev} (hs : dflt cfg s e = .ok s') : Eff cfg s t s' := by
  -- Here and below the step functions are opened by `simp only [f]`, not `unfold f`: the unfolding lemma that `simp`
  -- generates for `f` (slow for the big ones) then exists from this file on, and the lemmas of SemWaitSteps, which
  -- open the same functions by `simp`, do not generate it again, each for itself.
  simp only [dflt] at hs
  split_ok hs <;> cases hs
  all_goals first
    | exact .nop
    | exact .semV _
    | (apply Eff.semP <;> assumption)

theorem bindSem_cases {s s1 : State} {t : Tid} {j : SemId} (h : bindSem s t j = some s1) :
    ((s.fr t).sem = some j ∧ s1 = s) ∨ ((s.fr t).sem = none ∧ s.semUser j = none ∧ s1 = s.bind t j) := by
  unfold bindSem at h
  split at h
  · rename_i j' hj
    split at h
    · cases h; subst_vars; exact .inl ⟨hj, rfl⟩
    · cases h
  · rename_i hj
    split at h
    · cases h
    · rename_i hu; cases h; exact .inr ⟨hj, hu, rfl⟩

theorem proto_eff {cfg : Config} {s s' : State} {t : Tid} {e : Ev} (hp : protoMode (s.pc t) = true)
    (hs : proto cfg s t e = .ok s') : Eff cfg s t s' := by
  simp only [proto] at hs
  split at hs
  · -- lock
    split_ok hs; cases hs; exact .lock _ hp (by assumption)
  · -- unlock / muWait
    split_ok hs; cases hs; rename_i h; exact .unlock _ hp h.1 h.2.1 h.2.2
  · split_ok hs; cases hs; rename_i h; exact .unlock _ hp h.1 h.2.1 h.2.2
  · -- ld notified
    split_ok hs; cases hs; exact .nop
  · -- st notified
    split_ok hs; cases hs; rename_i h; exact .setFlag _ hp h.1 h.2.1 h.2.2.2.2.1 h.2.2.2.2.2
  · -- pop
    split_ok hs
    rename_i r new obs h tl hq hc
    cases hs
    obtain ⟨rfl, h2, h3, h4, -, -⟩ := hc
    exact .pop _ tl hp hq h2 h3 h4
  · -- semV
    split at hs
    · exact dflt_eff hs
    · rename_i r hpost
      split at hs
      · rename_i s1 hps
        cases hs
        unfold postSem at hps
        split at hps
        · rename_i hl
          rcases bindSem_cases hps with ⟨h1, rfl⟩ | ⟨h1, h2, rfl⟩
          · exact .post _ _ hp hpost (fun _ => h1)
          · exact .postBind _ _ hp hpost hl h1 h2
        · rename_i hl
          cases hps
          exact .post _ _ hp hpost (fun h => absurd h hl)
      · cases hs
  · -- newNote
    split_ok hs; cases hs; exact .newNote _ _ hp (by assumption)
  · -- inherit
    split_ok hs; cases hs; rename_i h; exact .inherit _ _ hp h.1 h.2.1 h.2.2.1
  · -- bornNotified
    split_ok hs; cases hs; rename_i h; exact .born _ _ hp h.1 h.2.1 h.2.2.1 h.2.2.2.1 h.2.2.2.2.2.2.2 h.2.2.2.2.1
  · exact dflt_eff hs

theorem stepND_eff {cfg : Config} {s s' : State} {t : Tid} {u : Use} {st : NDst} {e : Ev} (hpc : s.pc t = .nd u st)
    (hs : stepND cfg s t u st e = .ok s') : Eff cfg s t s' := by
  simp only [stepND] at hs
  split at hs
  · split at hs
    · split at hs
      · rename_i hf; cases hs; exact .goto (.nd_ld0_set _ hpc hf)
      · rename_i hf; cases hs; exact .goto (.nd_ld0_clr _ hpc (Bool.not_eq_true _ ▸ hf))
    · cases hs
  · split_ok hs; cases hs; rename_i h; exact .ctl _ _ (.nd_lk _ hpc h.2)
  · split_ok hs; cases hs; exact .goto (.nd_ld1 _ hpc)
  · split at hs
    · rename_i h
      split at hs
      · rename_i hf; cases hs; exact .ctl _ _ (.nd_ulk_done _ _ hpc h.2 hf)
      · rename_i hf; cases hs; exact .ctl _ _ (.nd_ulk_now _ _ hpc h.2 (by simpa using hf))
    · cases hs
  · split at hs
    · rename_i hn
      subst hn
      split at hs
      · rename_i hf; cases hs; exact .goto (.nd_now_exp _ hpc hf)
      · rename_i hf; cases hs; exact .goto (.nd_now_ok _ hpc (Bool.not_eq_true _ ▸ hf))
    · cases hs
  · exact dflt_eff hs

theorem stepNF_eff {cfg : Config} {s s' : State} {t : Tid} {u : Use} {st : NfSt} {e : Ev} (hpc : s.pc t = .nf u st)
    (hs : stepNF cfg s t u st e = .ok s') : Eff cfg s t s' := by
  simp only [stepNF] at hs
  split at hs
  · split_ok hs; cases hs; rename_i h; exact .ctl _ _ (.nf_lk _ hpc h.2)
  · split at hs
    · cases hs
      by_cases hf : ((s.note (s.fr t).note).flag || dlePast (s.note (s.fr t).note).expiry) = true
      · rw [if_pos hf]; exact .goto (.nf_ld_ulk _ hpc hf)
      · rw [if_neg hf]; exact .goto (.nf_ld_open _ hpc (Bool.not_eq_true _ ▸ hf))
    · cases hs
  · split_ok hs; cases hs; rename_i h; exact .ctl _ _ (.nf_ulk _ hpc h.2)
  · -- open, unlock
    have hp : protoMode (s.pc t) = true := by rw [hpc]; rfl
    split at hs
    · rename_i h
      split at hs
      · rename_i s1 hs1
        cases hs
        obtain ⟨rfl, hfl⟩ := h
        simp only [proto] at hs1
        split_ok hs1
        cases hs1
        rename_i h2
        exact .ctl _ _ (.nf_open _ hpc h2.1 hfl h2.2.1 (h2.2.2 hfl))
      · cases hs
    · exact proto_eff hp hs
  · have hp : protoMode (s.pc t) = true := by rw [hpc]; rfl
    exact proto_eff hp hs
  · exact dflt_eff hs

theorem stepMain_eff {cfg : Config} {s s' : State} {t : Tid} {e : Ev}
    (hs : stepMain cfg s t e = .ok s') : Eff cfg s t s' := by
  simp only [stepMain] at hs
  split at hs
  · -- init
    rename_i hpc
    split_ok hs; cases hs; rename_i h; exact .m_init _ hpc h.2
  · rename_i hpc
    split_ok hs; cases hs; rename_i h; exact .ctl _ _ (.lk1 hpc h.2)
  · -- ld49
    rename_i hpc
    split at hs
    · split at hs
      · rename_i hc
        split at hs
        · rename_i r hr; cases hs; exact .m_ld49_enq _ hpc hc hr
        · cases hs
      · rename_i hc; cases hs; exact .goto (.ld49_no hpc (by simpa using hc))
    · cases hs
  · rename_i hpc
    split at hs
    · rename_i h; cases hs; exact .ctl _ _ (.ulk1 _ hpc h.2)
    · cases hs
  · -- pdEnter
    rename_i hpc
    split at hs
    · split at hs
      · rename_i s1 hb
        cases hs
        rcases bindSem_cases hb with ⟨h1, rfl⟩ | ⟨h1, h2, rfl⟩
        · exact .goto (.pdEnter _ hpc h1)
        · exact .m_pdEnterBind _ hpc h1 h2
      · cases hs
    · cases hs
  · -- pdWait
    rename_i hpc
    split at hs
    · rename_i hj
      subst hj
      split at hs
      · split at hs
        · rename_i hx
          split at hs
          · rename_i hn; cases hs; exact .m_tmoNear _ hpc hx hn
          · rename_i hn; cases hs; exact .m_tmoFar _ hpc hx (by simpa using hn)
        · cases hs
      · split at hs
        · cases hs
        · rename_i c hc; cases hs; exact .m_p0 _ c hpc hc
    · cases hs
  · rename_i hpc
    split_ok hs; cases hs; rename_i h; exact .ctl _ _ (.lk2 hpc h.2)
  · -- ld68
    rename_i hpc
    split at hs
    · split at hs
      · rename_i hc
        split at hs
        · rename_i r hr
          split at hs
          · rename_i hm; cases hs; exact .m_ld68_rm _ hpc hc hr hm
          · cases hs
        · cases hs
      · rename_i hc; cases hs; exact .goto (.ld68_no hpc (by simpa using hc))
    · cases hs
  · rename_i hpc
    split_ok hs; cases hs; rename_i h; exact .ctl _ _ (.ulk2 hpc h.2)
  · -- ret
    rename_i hpc
    split at hs
    · cases hs; exact .m_ret hpc
    · cases hs
  · exact dflt_eff hs

theorem stepIdle_eff {cfg : Config} {s s' : State} {t : Tid} {e : Ev} (hpc : s.pc t = .idle)
    (hs : stepIdle cfg s t e = .ok s') : Eff cfg s t s' := by
  simp only [stepIdle] at hs
  split at hs
  · split at hs
    · rename_i h; cases hs; exact .call _ _ hpc h.1 h.2.1 h.2.2
    · cases hs
  · exact proto_eff (by rw [hpc]; rfl) hs

theorem stepThr_eff {cfg : Config} {s s' : State} {t : Tid} {e : Ev}
    (hs : stepThr cfg s t e = .ok s') : Eff cfg s t s' := by
  simp only [stepThr] at hs
  split at hs
  · rename_i h; exact stepIdle_eff h hs
  · rename_i u st h; exact stepND_eff h hs
  · rename_i u st h; exact stepNF_eff h hs
  · exact stepMain_eff hs

/-- a step of the acceptor is an effect of some thread, or a tick -/
theorem step_cases {cfg : Config} {s s' : State} {e : Event} (hs : step cfg s e = .ok s') :
    (∃ t, Eff cfg s t s') ∨ (∃ ns, s.now ≤ ns ∧ s' = { s with now := ns }) := by
  cases e with
  | thr t e => exact .inl ⟨t, stepThr_eff hs⟩
  | tick ns =>
    simp only [step] at hs
    split at hs
    · rename_i h; cases hs; exact .inr ⟨ns, h, rfl⟩
    · cases hs

end SemWait
