/-
  Layer `CvFix` (repaired cv.c): structural invariant — generic lemma for a transition that changes one record and
  the frame of the acting thread, while no other thread holds the spinlock.
-/
import NsyncVerif.Proofs.CvFixInvASimple

namespace NsyncVerif.CvFix

/-- A thread whose list is empty has no listed record, also after one record has taken another status. -/
theorem lMem_nil {s s' : State} {t : Tid} (hi : InvA s) (r : Rid) (hl : (s.thr t).list = []) (hl' : (s'.thr t).list = [])
    (hrecs : ∀ q, q ≠ r → s'.recs q = s.recs q) (hr : (s'.recs r).stat ≠ .listed t) (q : Rid) :
    q ∈ (s'.thr t).list ↔ (s'.recs q).stat = .listed t := by
  rw [hl']
  by_cases hq : q = r
  · subst hq; simp [hr]
  · rw [hrecs q hq, ← hi.lMem t q, hl]

theorem invA_one {s s' : State} {t : Tid} {r : Rid} (hi : InvA s)
    (hthr : ∀ u, u ≠ t → s'.thr u = s.thr u)
    (hrecs : ∀ q, q ≠ r → s'.recs q = s.recs q)
    (hnot : ∀ u, u ≠ t → (s.thr u).loc.holds = false)
    -- the cv word and the spinlock
    (hspin : s'.word.spin = s'.holder.isSome)
    (hhold : (s'.holder = some t ∧ (s'.thr t).loc.holds = true) ∨ (s'.holder = none ∧ (s'.thr t).loc.holds = false))
    (hold : s'.holder = some t → (s'.thr t).old.spin = false ∧ ((s'.thr t).old.ne = true ↔ s'.queue ≠ []))
    (hfree : s'.holder = none → (s'.word.ne = true ↔ s'.queue ≠ []))
    -- the queue
    (hqNd : s'.queue.Nodup)
    (hqMem : ∀ q, q ∈ s'.queue ↔ (s'.recs q).stat = .queued)
    -- the lists
    (hlNd : (s'.thr t).list.Nodup)
    (hlt : ∀ q, q ∈ (s'.thr t).list ↔ (s'.recs q).stat = .listed t)
    (hlu : ∀ u, u ≠ t → ((s.recs r).stat = .listed u ↔ (s'.recs r).stat = .listed u))
    -- the owner of the record, if it is another thread, keeps its facts
    (hro : (s.recs r).stat ≠ .idle → (s.recs r).owner = t ∨ RecOK (s.recs r) (s'.recs r))
    (ht : TInvA s' t)
    (hb : (s'.thr t).bcast = true →
      ((s'.thr t).loc = .sRcLd ∨ (s'.thr t).loc = .sRcCas ∨ (s'.thr t).loc = .sRel) → s'.queue = []) :
    FrameA s' := by
  obtain ⟨a1, a2, a3, a4, a5, a6, a8, a9, a10, a11⟩ := hi.frame
  constructor
  · exact hspin
  · intro u
    by_cases hu : u = t
    · subst hu
      rcases hhold with ⟨h1, h2⟩ | ⟨h1, h2⟩ <;> simp [h1, h2]
    · rw [hthr u hu, hnot u hu]
      rcases hhold with ⟨h1, h2⟩ | ⟨h1, h2⟩ <;> simp [h1]
      exact fun e => hu e.symm
  · intro u e
    have : u = t := by
      rcases hhold with ⟨h1, h2⟩ | ⟨h1, h2⟩
      · rw [h1] at e; cases e; rfl
      · rw [h1] at e; cases e
    subst this
    exact hold e
  · exact hfree
  · exact hqNd
  · exact hqMem
  · intro u
    by_cases hu : u = t
    · subst hu; exact hlNd
    · rw [hthr u hu]; exact a8 u
  · intro u q
    by_cases hu : u = t
    · subst hu; exact hlt q
    · rw [hthr u hu]
      by_cases hq : q = r
      · subst hq; rw [← hlu u hu]; exact a9 u q
      · rw [hrecs q hq]; exact a9 u q
  · intro u
    by_cases hu : u = t
    · subst hu; exact ht
    · refine tinvA_other (a10 u) (hthr u hu) ?_ ?_
      · intro q ho hq'
        by_cases hq : q = r
        · subst hq
          rcases hro hq' with h | h
          · rw [h] at ho; exact absurd ho.symm hu
          · exact h
        · rw [hrecs q hq]; exact RecOK.rfl' hq'
      · intro hb'; rw [hnot u hu] at hb'; cases hb'
  · intro u hb1 hb2
    by_cases hu : u = t
    · subst hu; exact hb hb1 hb2
    · rw [hthr u hu] at hb2
      have := hnot u hu
      rcases hb2 with hb2 | hb2 | hb2 <;> simp [hb2, Loc.holds] at this

/-- One record changes (neither its old nor its new status is `queued`), the acting thread is
    outside the critical section before and after; cv word, spinlock and queue are untouched. -/
theorem invA_one_nolock {s s' : State} {t : Tid} {r : Rid} (hi : InvA s)
    (hword : s'.word = s.word) (hholder : s'.holder = s.holder) (hqueue : s'.queue = s.queue)
    (hthr : ∀ u, u ≠ t → s'.thr u = s.thr u)
    (hrecs : ∀ q, q ≠ r → s'.recs q = s.recs q)
    (hh1 : (s.thr t).loc.holds = false) (hh2 : (s'.thr t).loc.holds = false)
    (hnq1 : (s.recs r).stat ≠ .queued) (hnq2 : (s'.recs r).stat ≠ .queued)
    (hlNd : (s'.thr t).list.Nodup)
    (hlt : ∀ q, q ∈ (s'.thr t).list ↔ (s'.recs q).stat = .listed t)
    (hlu : ∀ u, u ≠ t → ((s.recs r).stat = .listed u ↔ (s'.recs r).stat = .listed u))
    (hro : (s.recs r).stat ≠ .idle → (s.recs r).owner = t ∨ RecOK (s.recs r) (s'.recs r))
    (ht : TInvA s' t) : FrameA s' := by
  obtain ⟨a1, a2, a3, a4, a5, a6, a8, a9, a10, a11⟩ := hi.frame
  have hnt : s.holder ≠ some t := fun e => by have := (a2 t).mp e; rw [hh1] at this; cases this
  constructor
  · rw [hword, hholder]; exact a1
  · intro u
    rw [hholder]
    by_cases hu : u = t
    · subst hu; rw [hh2]; simp [hnt]
    · rw [hthr u hu]; exact a2 u
  · intro u e
    rw [hholder] at e
    have hu : u ≠ t := fun h => by subst h; exact hnt e
    rw [hthr u hu, hqueue]; exact a3 u e
  · rw [hholder, hword, hqueue]; exact a4
  · rw [hqueue]; exact a5
  · intro q
    rw [hqueue]
    by_cases hq : q = r
    · subst hq
      constructor
      · intro h; exact absurd ((a6 q).mp h) hnq1
      · intro h; exact absurd h hnq2
    · rw [hrecs q hq]; exact a6 q
  · intro u
    by_cases hu : u = t
    · subst hu; exact hlNd
    · rw [hthr u hu]; exact a8 u
  · intro u q
    by_cases hu : u = t
    · subst hu; exact hlt q
    · rw [hthr u hu]
      by_cases hq : q = r
      · subst hq; rw [← hlu u hu]; exact a9 u q
      · rw [hrecs q hq]; exact a9 u q
  · intro u
    by_cases hu : u = t
    · subst hu; exact ht
    · refine tinvA_other (a10 u) (hthr u hu) ?_ ?_
      · intro q ho hq'
        by_cases hq : q = r
        · subst hq
          rcases hro hq' with h | h
          · rw [h] at ho; exact absurd ho.symm hu
          · exact h
        · rw [hrecs q hq]; exact RecOK.rfl' hq'
      · intro _ q e
        by_cases hq : q = r
        · subst hq; exact absurd e hnq1
        · rw [hrecs q hq]; exact e
  · intro u hb1 hb2
    rw [hqueue]
    by_cases hu : u = t
    · subst hu
      rcases hb2 with hb2 | hb2 | hb2 <;> simp [hb2, Loc.holds] at hh2
    · rw [hthr u hu] at hb1 hb2; exact a11 u hb1 hb2

end NsyncVerif.CvFix
