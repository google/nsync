import NsyncVerif.Proofs.MuCFairAccepts
import NsyncVerif.Proofs.MuCFairStep
import NsyncVerif.Proofs.MuCInv3Step
/-
  MuC, fair termination: what one step of a thread does.  `call` and `ret`; per region of program points the liveness
  theorems speak of — return points, nsync_mu_trylock, the wake-up loop of unlock_slow, the spinlock regions, the
  scan loop — its rank and ONE lemma about an own step inside it: the goal of the region is reached, or the thread is
  still inside with a lower rank (`own_ret`, `own_try`, `own_wake`, `own_spinS`, `own_scanLoop`).  Loads and stores are
  read off `LdPc` / `StEff` (`own_ld`, `own_st`); a CAS after a re-read succeeds if the word has not changed in between.
-/
namespace NsyncVerif.MuC

variable {cfg : Cfg} {s s' : State} {e : Event} {t : Tid}

macro "own_tac" hs:ident hp:ident : tactic => `(tactic|
  (simp only [step, stepCall, stepRet, stepLd, stepSt, stepCas, stepCond, $hp:ident] at $hs:ident
   try (simp only [casWord, ldWord, ldWaiting] at $hs:ident)
   repeat' split at $hs:ident
   all_goals first
     | (cases $hs:ident; done)
     | (cases $hs:ident; simp [setFn, loopPc, finPc, Ret.pc, afterFin_eq, afterWakes_eq, mwLoop_eq]; done)
     | (cases $hs:ident; simp [setFn, loopPc, finPc, Ret.pc, afterFin_eq, afterWakes_eq, mwLoop_eq] <;> grind)))

macro "own_cases" e:ident ht:ident hd:ident hs:ident hp:ident : tactic => `(tactic|
  (cases $e:ident <;> simp only [Event.tid, Option.some.injEq, reduceCtorEq] at $ht:ident
   all_goals subst $ht:ident
   all_goals first
     | (simp [Event.isData] at $hd:ident; done)
     | own_tac $hs $hp))

/-! ### `call` and `ret` -/

/-- A `call`: the thread was idle and is inside the call; a call that is not an arrival is a release by a holder. -/
theorem stepCall_stage {a : Api} (h : stepCall s t a = .ok s') :
    s.pc t = .idle ∧ s'.pc t ≠ .idle ∧
    ((Event.call t a).isArrival = false → s.held t ≠ none ∧ (s'.pc t).rel = true) := by
  unfold stepCall at h
  split at h
  · rename_i heq
    refine ⟨heq, ?_⟩
    cases a <;> dsimp only at h <;> (repeat' split at h)
    all_goals first
      | (cases h; done)
      | (cases h; simp_all [Event.isArrival, setFn, PC.rel])
  · cases h

/-- A `ret`: the thread is idle afterwards, and a release returns holding what it held (nothing). -/
theorem stepRet_stage {a : Api} {res : Res} (h : stepRet s t a res = .ok s') :
    s.pc t ≠ .idle ∧ s'.pc t = .idle ∧ ((s.pc t).rel = true → s'.held t = s.held t) := by
  obtain ⟨m, w, snap, hp, he⟩ := stepRet_eff h
  rw [he.pc, he.held, setFn_same, setFn_same]
  generalize s.pc t = p at hp ⊢
  cases hp <;> exact ⟨by simp, rfl, fun hrel => by first | rfl | cases hrel⟩

/-! ### the return points, nsync_mu_trylock, the wake-up loop of unlock_slow, nsync_mu_wait before it waits -/

def retPc : PC → Prop
  | .lkRet _ | .tryRet _ _ | .ulRet _ _ | .mwRet _ _ => True
  | _ => False

theorem own_ret (hs : step cfg s e = .ok s') (ht : e.tid = some t) (hd : e.isData = false)
    (hp : retPc (s.pc t)) : s'.pc t = .idle := by
  obtain ⟨a, res, rfl, hst⟩ := ret_of_accepts hs ht hd
    (by cases hpc : s.pc t <;> rw [hpc] at hp <;> first | (cases hp; done) | rfl)
  exact (stepRet_stage hst).2.1

/-- Inside nsync_mu_trylock / nsync_mu_rtrylock. -/
def tryPc : PC → Prop
  | .tryCas0 _ | .tryLd _ | .tryCas1 _ _ | .tryRet _ _ => True
  | _ => False

def tryRk : PC → Nat
  | .tryCas0 _ => 3
  | .tryLd _ => 2
  | .tryCas1 _ _ => 1
  | _ => 0

/-- One own step inside nsync_mu_trylock / nsync_mu_rtrylock: the call has returned, or the rank is lower. -/
theorem own_try (hs : step cfg s e = .ok s') (ht : e.tid = some t) (hd : e.isData = false) (hin : tryPc (s.pc t)) :
    s'.pc t = .idle ∨ (tryPc (s'.pc t) ∧ tryRk (s'.pc t) < tryRk (s.pc t)) := by
  cases hp : s.pc t <;> simp only [tryPc, hp] at hin
  case tryLd l => obtain ⟨p', hm, rfl⟩ := own_ld hs ht hd hp rfl rfl; cases hm <;> simp [tryPc, tryRk]
  case tryRet l b => exact .inl (own_ret hs ht hd (by rw [hp]; trivial))
  all_goals
    obtain ⟨o, loc, exp, new, obs, ok, rfl, hst⟩ := cas_of_accepts hs ht hd (by rw [hp]; rfl)
    simp only [stepCas, hp] at hst
    rcases casWord_ok hst with ⟨_, _, rfl⟩ | ⟨_, _, rfl⟩ <;> simp [tryPc, tryRk]

/-- In the wake-up loop of unlock_slow (mu.c:446-454) for the caller `r`. -/
def wakePc (r : Ret) : PC → Prop
  | .usWakeSt r' _ _ | .usWakeV r' _ _ => r' = r
  | _ => False

def wakeRk : PC → Nat
  | .usWakeSt _ _ rest => 2 * rest.length + 3
  | .usWakeV _ _ rest => 2 * rest.length + 2
  | _ => 0

/-- One own step in the wake-up loop of unlock_slow: the thread is back at its caller, or the rank is lower. -/
theorem own_wake {r : Ret} (hs : step cfg s e = .ok s') (ht : e.tid = some t) (hd : e.isData = false)
    (hin : wakePc r (s.pc t)) : s'.pc t = r.pc ∨ (wakePc r (s'.pc t) ∧ wakeRk (s'.pc t) < wakeRk (s.pc t)) := by
  cases hp : s.pc t <;> simp only [wakePc, hp] at hin <;> subst hin
  case usWakeSt r k rest =>
    cases own_st hs ht hd hp rfl
    all_goals (have h := ‹s.pc t = _›; rw [hp] at h; cases h)
    simp [wakePc, wakeRk]
  case usWakeV r k rest =>
    have hk := kind_of_accepts hs ht hd (by rw [hp]; rfl)
    cases e <;> cases hk
    cases ht
    obtain ⟨p', n, hm, he⟩ := step_semV hs
    rw [hp] at hm; cases hm
    rw [he.pc, setFn_same]
    cases rest with
    | nil => exact .inl rfl
    | cons k' rest' => simp [finPc, wakeRk, wakePc]; omega

theorem own_mwLd0 {c : MW} (hs : step cfg s e = .ok s') (ht : e.tid = some t) (hd : e.isData = false)
    (hp : s.pc t = .mwLd0 c) (hc : c.cond = none) : ∃ c', s'.pc t = .mwRet c' true := by
  obtain ⟨o, loc, obs, rfl, hst⟩ := ld_of_accepts hs ht hd (by rw [hp]; rfl)
  clear hs ht hd
  rcases stepLd_effect hst with ⟨p', hm, rfl⟩ | ⟨_, _, h, _⟩ | ⟨_, _, _, h, _⟩
  · rw [hp] at hm
    cases hm
    · rename_i h; rw [hc] at h; cases h
    · exact ⟨_, setFn_same _ _ _⟩
  · rw [hp] at h; cases h
  · rw [hp] at h; cases h

theorem own_mwEval {s s' : State} {e : Event} {t : Tid} {c : MW} (hs : step cfg s e = .ok s') (ht : e.tid = some t)
    (hd : e.isData = false) (hp : s.pc t = .mwEval c) :
    ∃ fn k res, e = .cond t fn k res ∧ s'.pc t = loopPc c res := by
  cases e <;> simp only [Event.tid, Option.some.injEq, reduceCtorEq] at ht
  all_goals subst ht
  case cond t fn k res =>
    refine ⟨fn, k, res, rfl, ?_⟩
    simp only [step, stepCond, hp] at hs
    repeat' split at hs
    all_goals first
      | (cases hs; done)
      | (cases hs; simp [mwLoop_eq])
  all_goals first
    | (simp [Event.isData] at hd; done)
    | (simp [step, stepCall, stepRet, stepLd, stepSt, stepCas, hp] at hs)

/-! ### the spinlock regions outside the scan loop of unlock_slow -/

/-- The `old_word` a program point is about to compare-and-swap against. -/
def PC.casOld : PC → Option Word
  | .lsRelCas _ old | .usRelCas _ _ old | .usFinCas _ _ old | .mwRelCas _ old _ => some old
  | _ => none

/-- The spinlock regions outside the scan loop: every program point with `PC.spin` except `usRcLd` / `usRcCas`. -/
def PC.spinS : PC → Bool
  | .lsSt _ | .lsRelLd _ | .lsRelCas _ _ => true
  | .usRelLd _ _ | .usRelCas _ _ _ => true
  | .usFinLd _ _ | .usFinCas _ _ _ => true
  | .mwRelLd _ | .mwRelCas _ _ _ => true
  | .mtLdW _ _ | .mtLdRc _ _ | .mtRmLd _ _ | .mtRmCas _ _ _ | .mtStW _ _ | .mtStRel _ _ _ => true
  | _ => false

theorem spinS_spin {p : PC} (h : p.spinS = true) : p.spin = true := by
  cases p <;> simp [PC.spinS] at h <;> simp [PC.spin]

theorem own_lsRelCas {c : SL} {old : Word} (hs : step cfg s e = .ok s') (ht : e.tid = some t) (hd : e.isData = false)
    (hp : s.pc t = .lsRelCas c old) :
    (s.word = old ∧ s'.pc t = .lsWaitLd c) ∨ (s.word ≠ old ∧ s'.pc t = .lsRelLd c ∧ s'.word = s.word) := by
  obtain ⟨o, loc, exp, new, obs, ok, rfl, hst⟩ := cas_of_accepts hs ht hd (by rw [hp]; rfl)
  clear hs ht hd
  have hs := hst
  · simp only [stepCas, hp] at hs
    rcases casWord_ok hs with ⟨a, _, rfl⟩ | ⟨a, _, rfl⟩
    · left; exact ⟨a, by simp⟩
    · right; exact ⟨a, by simp, by simp⟩

theorem ScanPc.spinS_tc {r : Ret} {late : Bool} {p : PC} (h : ScanPc r late p) :
    p.spinS = true → (∃ f, p = .usFinLd r f) ∨ (∃ sc, p = .usRelLd r sc) := by
  cases p <;> simp [ScanPc] at h <;> simp [PC.spinS]
  · exact h.1
  · exact h.1

theorem own_mtRmCas {c : MW} {old : Word} {rc : Nat} (hs : step cfg s e = .ok s') (ht : e.tid = some t)
    (hd : e.isData = false) (hp : s.pc t = .mtRmCas c old rc) :
    s'.pc t = .mtStW c old ∨ (s'.pc t = .mtRmLd c old ∧ e.rcFail = true) := by
  obtain ⟨o, loc, exp, new, obs, ok, rfl, hst⟩ := cas_of_accepts hs ht hd (by rw [hp]; rfl)
  simp only [stepCas, hp] at hst
  split at hst; · cases hst
  obtain ⟨rfl, ⟨rfl, h⟩ | ⟨rfl, h⟩⟩ := rcGuards_ok hst <;> cases h
  · exact .inl (setFn_same _ _ _)
  · exact .inr ⟨setFn_same _ _ _, rfl⟩

/-- The rank of a program point of a spinlock region; `stale`: its `old_word` differs from the word. -/
def spinRk (p : PC) (stale : Bool) : Nat :=
  match p with
  | .lsSt _ => 6
  | .lsRelLd _ | .usRelLd _ _ | .usFinLd _ _ | .mwRelLd _ => 4
  | .lsRelCas _ _ | .usRelCas _ _ _ | .usFinCas _ _ _ | .mwRelCas _ _ _ => if stale then 5 else 3
  | .mtLdW _ _ => 9
  | .mtLdRc _ _ => 8
  | .mtRmLd _ _ => 6
  | .mtRmCas _ _ _ => 5
  | .mtStW _ _ => 4
  | .mtStRel _ _ _ => 3
  | _ => 0

def staleB (s : State) (p : PC) : Bool :=
  match p.casOld with
  | some old => decide (old ≠ s.word)
  | none => false

theorem not_spinS_of_not_spin {p : PC} (h : p.spin = false) : p.spinS = false := by
  cases hs : p.spinS with
  | false => rfl
  | true => rw [spinS_spin hs] at h; cases h

/-- One own step in a spinlock region outside the scan loop: the thread gives the spinlock up, or it stays in the
    region, and then its CAS on a `remove_count` has failed or its rank is lower.  A load records the word (`LdPc`), so
    the CAS after it is not stale; a CAS that fails was stale, and the re-load is next. -/
theorem own_spinS (h3 : Inv3 s) (hs : step cfg s e = .ok s') (ht : e.tid = some t) (hd : e.isData = false)
    (hin : (s.pc t).spinS = true) :
    (s'.pc t).spin = false ∨ ((s'.pc t).spinS = true ∧
      (e.rcFail = true ∨ spinRk (s'.pc t) (staleB s' (s'.pc t)) < spinRk (s.pc t) (staleB s (s.pc t)))) := by
  cases hp : s.pc t <;> simp [PC.spinS, hp] at hin
  -- the loads
  case lsRelLd | usRelLd | usFinLd | mwRelLd | mtLdW | mtRmLd =>
    obtain ⟨p', hm, rfl⟩ := own_ld hs ht hd hp rfl rfl
    cases hm <;> simp [spinRk, staleB, PC.casOld, PC.spinS]
  case mtLdRc c old =>
    obtain ⟨o, loc, obs, rfl, hst⟩ := ld_of_accepts hs ht hd (by rw [hp]; rfl)
    rcases stepLd_effect hst with ⟨p', hm, rfl⟩ | ⟨_, _, h, _⟩ | ⟨_, _, _, h, _, _, _, rfl⟩ <;> rw [hp] at *
    · cases hm; simp [spinRk, PC.spinS]
    · cases h
    · cases h; simp [spinRk, PC.spinS]
  -- the stores
  case lsSt | mtStW | mtStRel =>
    cases own_st hs ht hd hp rfl
    all_goals (have h := ‹s.pc t = _›; rw [hp] at h; cases h)
    all_goals simp [spinRk, PC.spinS, PC.spin]
  -- the CASes on the word: a failed one was stale (the rule of `PcMove` says so) and the re-load is next; a
  -- successful one gives the spinlock up
  case lsRelCas | usRelCas | usFinCas | mwRelCas =>
    obtain ⟨o, loc, exp, new, obs, ok, rfl, hst⟩ := cas_of_accepts hs ht hd (by rw [hp]; rfl)
    cases stepCas_eff hst
    case fail hm _ =>
      rw [hp] at hm
      cases hm with
      | ld h => cases h
      | _ => simp [spinRk, staleB, PC.casOld, Ne.symm ‹s.word ≠ _›, PC.spinS]
    case plain hm hok => rw [hp] at hm; cases hm <;> exact .inl (by simp [hok.pc, setFn_same, PC.spin])
    case fin h _ hok =>
      rw [hp] at h
      cases h <;> (left; rw [hok.pc, setFn_same]; cases ‹Fin›.wake <;> cases ‹Ret› <;> rfl)
    case scan h =>
      have htc := h3.ok3 t; rw [hp] at htc
      cases h <;> (have h := ‹s.pc t = _›; rw [hp] at h; cases h) <;>
        exact .inl (by rw [(scanRun_spin _ _ t _ _ s' ‹_›).1, htc]; rfl)
    all_goals (have h := ‹s.pc t = _›; rw [hp] at h; cases h)
  case mtRmCas c old rc =>
    rcases own_mtRmCas hs ht hd hp with a | ⟨a, b⟩
    · simp [a, spinRk, PC.spinS]
    · simp [a, b, PC.spinS]

/-- A step of the thread that leaves the simple regions gives the spinlock up (it does not enter the scan loop). -/
theorem own_spinS_exit (h3 : Inv3 s) (hs : step cfg s e = .ok s') (ht : e.tid = some t)
    (hd : e.isData = false) (hin : (s.pc t).spinS = true) (hout : (s'.pc t).spinS = false) : (s'.pc t).spin = false :=
  (own_spinS h3 hs ht hd hin).resolve_right (fun h => by rw [h.1] at hout; cases hout)

/-! ### the scan loop of unlock_slow with `testing_conditions` off -/

/-- What the scan has still to look at. -/
def scanMu (s : State) (sc : Scan) : Nat := s.queue.length + sc.passed.length + sc.todo.length

/-- With `testing_conditions` off the plain code of the scan stops at the final load, or at the next removal — and
    then there is less to look at. -/
theorem scanRun_mu : ∀ (n : Nat) (s : State) (t : Tid) (r : Ret) (sc : Scan) (s' : State),
    scanRun n s t r sc = .ok s' → sc.tc = false →
    (∃ f, s'.pc t = .usFinLd r f) ∨
    (∃ sc' k, s'.pc t = .usRcLd r sc' k ∧ sc'.tc = false ∧ scanMu s' sc' + 1 ≤ scanMu s sc) := by
  intro n
  induction n with
  | zero => intro s t r sc s' h; simp [scanRun] at h
  | succ n ih =>
    intro s t r sc s' h htc
    unfold scanRun at h
    have hl := scanGo_lists s.wr sc.todo sc
    have hsp := scanGo_spec s.wr sc.todo sc
    split at h
    · cases h
    · rename_i k sc' heq
      rw [heq] at hsp
      exact absurd hsp.2.2.1 (by simp [htc])
    · rename_i k sc' heq
      rw [heq] at hsp hl
      simp only [Except.ok.injEq] at h; subst h
      right
      refine ⟨sc', k, by simp, by rw [hsp.2]; exact htc, ?_⟩
      have := congrArg List.length hl.2.1
      simp only [List.length_append, List.length_cons] at this
      simp only [scanMu, setPc_queue, removeLinks_queue]
      omega
    · rename_i sc' heq
      rw [heq] at hsp hl
      have htc' : sc'.tc = false := by rw [hsp.2]; exact htc
      have hlen := congrArg List.length hl.2.2
      simp only [List.length_append] at hlen
      split at h
      · rename_i h'; rw [htc'] at h'; cases h'
      · split at h
        · rename_i s1 _
          simp only [Except.ok.injEq] at h; subst h
          left; exact ⟨mkFin sc' s1.queue.isEmpty, by simp only [toFin, setPc_pc, setFn_same]⟩
        · rename_i s1 sc2 hp
          have e1 : s1 = (pickup s sc').1 := by rw [hp]
          have e2 : (pickup s sc').2 = some sc2 := by rw [hp]
          obtain ⟨hq1, _, hpa, htd, _, _⟩ := pickup_some' e2
          obtain ⟨_, htc2⟩ := pickup_some e2
          have htc2' : sc2.tc = false := by
            cases h2 : sc2.tc with
            | false => rfl
            | true => rw [htc2 h2] at htc'; cases htc'
          subst e1
          split at h
          · rename_i h'; rw [htc2'] at h'; cases h'
          · rcases ih _ t r sc2 s' h htc2' with a | ⟨sc3, k, a, b, c⟩
            · exact Or.inl a
            · right
              refine ⟨sc3, k, a, b, ?_⟩
              have : scanMu (pickup s sc').1 sc2 ≤ scanMu s sc := by
                simp only [scanMu, hq1, hpa, htd, List.length_nil]; omega
              omega

theorem own_usRcCas_off {r : Ret} {sc : Scan} {k : Wid} {old : Nat} (hs : step cfg s e = .ok s') (ht : e.tid = some t)
    (hd : e.isData = false) (hp : s.pc t = .usRcCas r sc k old) (htc : sc.tc = false) :
    (∃ f, s'.pc t = .usFinLd r f) ∨
    (∃ sc' k', s'.pc t = .usRcLd r sc' k' ∧ sc'.tc = false ∧ scanMu s' sc' + 1 ≤ scanMu s sc) ∨
    (s'.pc t = .usRcLd r sc k ∧ e.rcFail = true) := by
  obtain ⟨o, loc, exp, new, obs, ok, rfl, hst⟩ := cas_of_accepts hs ht hd (by rw [hp]; rfl)
  simp only [stepCas, hp] at hst
  obtain ⟨rfl, ⟨rfl, h⟩ | ⟨rfl, h⟩⟩ := rcGuards_ok hst
  · rcases scanRun_mu _ _ t r sc s' h htc with a | ⟨sc', k', a, b, c⟩
    · exact .inl a
    · exact .inr (.inl ⟨sc', k', a, b, by simpa [scanMu] using c⟩)
  · cases h; exact .inr (.inr ⟨setFn_same _ _ _, rfl⟩)

/-- The scan loop of unlock_slow with `testing_conditions` off (the spinlock is kept). -/
def PC.scanLoop : PC → Bool
  | .usRcLd _ sc _ | .usRcCas _ sc _ _ => !sc.tc
  | _ => false

theorem scanLoop_spin {p : PC} (h : p.scanLoop = true) : p.spin = true := by
  cases p <;> simp [PC.scanLoop] at h <;> simp [PC.spin, h]

theorem spin_cases {p : PC} (h : p.spin = true) : p.spinS = true ∨ p.scanLoop = true := by
  cases p <;> simp [PC.spin] at h <;> simp [PC.spinS, PC.scanLoop, h]

def loopRk (s : State) : PC → Nat
  | .usRcLd _ sc _ => 2 * scanMu s sc + 1
  | .usRcCas _ sc _ _ => 2 * scanMu s sc
  | _ => 0

/-- One own step in the scan loop with `testing_conditions` off: the final load of unlock_slow is reached, or the
    thread stays in the loop, and then its CAS on a `remove_count` has failed or there is less to look at. -/
theorem own_scanLoop (hs : step cfg s e = .ok s') (ht : e.tid = some t) (hd : e.isData = false)
    (hin : (s.pc t).scanLoop = true) :
    (∃ r f, s'.pc t = .usFinLd r f) ∨ ((s'.pc t).scanLoop = true ∧
      (e.rcFail = true ∨ loopRk s' (s'.pc t) < loopRk s (s.pc t))) := by
  cases hp : s.pc t <;> simp [PC.scanLoop, hp] at hin
  case usRcLd r sc k =>
    obtain ⟨p', hm, rfl⟩ := own_ld hs ht hd hp rfl rfl
    cases hm; simp [loopRk, scanMu, PC.scanLoop, hin]
  case usRcCas r sc k old =>
    rcases own_usRcCas_off hs ht hd hp hin with ⟨f, a⟩ | ⟨sc', k', a, b, c⟩ | ⟨a, b⟩
    · exact .inl ⟨r, f, a⟩
    · right; simp only [a, loopRk, PC.scanLoop, b]; exact ⟨rfl, .inr (by omega)⟩
    · right; simp [a, b, PC.scanLoop, hin]

end NsyncVerif.MuC
