/-
  Layer `Note`, "no such call deadlocks" in liveness form, for ALL calls (no restriction to leaf
  calls, any forest, notify / free / new on related notes): a weakly fair execution cannot come to
  a standstill with a call blocked on a note mutex or inside a WAIT_FOR_NO_CHILDREN.  If from time
  `T` on no thread moves, every thread is outside any call, or asleep in `nsync_note_wait` on a
  semaphore that is not posted and before the deadline of the sleep.

  Proof: in a standstill the state is constant (except for the clock); weak fairness makes every
  thread not `Ready` at some time, i.e. idle, waiting for a mutex that is held, inside a wait whose
  condition is false, or asleep; `C09_no_stuck_state` (Proofs/NoteFixP.lean) excludes the second
  and the third for every thread.
-/
import NsyncVerif.Proofs.NoteFairDefs
import NsyncVerif.Proofs.NoteOwn


namespace Note

variable {s0 : State}

/-- No thread moves from time `T` on (the clock may tick). -/
def Frozen (x : Exec s0) (T : Nat) : Prop := ∀ j t, T ≤ j → ¬ Moves x t j

/-- FULL statement (proved: `C09_fair_no_deadlock`, Props/C09Fair.lean). -/
def C09_fair_no_deadlock_full : Prop :=
  ∀ (s0 : State) (x : Exec s0), Reachable s0 → WeakFair x → ∀ T, Frozen x T →
    ∀ t, (x.ρ T).pc t = .idle ∨
      (Asleep (x.ρ T) t ∧ ¬ LockBlocked (x.ρ T) t ∧ ¬ WaitBlocked (x.ρ T) t ∧
        ∃ j, T ≤ j ∧ ¬ SemReady (x.ρ j) t)

theorem step_no_actor {s s' : State} {e : Event} (hs : step s e = .ok s') (ha : e.actor = none) :
    s'.pc = s.pc ∧ s'.notes = s.notes ∧ s'.recs = s.recs := by
  rcases step_own hs with ⟨t, _, _, h, _⟩ | ⟨v, rfl, _, rfl⟩ | ⟨rfl, rfl⟩
  · rw [ha] at h; cases h
  · exact ⟨rfl, rfl, rfl⟩
  · exact ⟨rfl, rfl, rfl⟩

theorem frozen_same (x : Exec s0) {T : Nat} (hf : Frozen x T) {j : Nat} (hj : T ≤ j) :
    (x.ρ j).pc = (x.ρ T).pc ∧ (x.ρ j).notes = (x.ρ T).notes ∧ (x.ρ j).recs = (x.ρ T).recs :=
  x.keeps (P := fun s => s.pc = (x.ρ T).pc ∧ s.notes = (x.ρ T).notes ∧ s.recs = (x.ρ T).recs)
    (fun k e hk he ih => by
      have ha : e.actor = none := by
        cases h : e.actor with
        | none => rfl
        | some t => exact absurd ⟨e, he, h⟩ (hf k t hk)
      obtain ⟨h1, h2, h3⟩ := step_no_actor (x.next_some he) ha
      exact ⟨h1.trans ih.1, h2.trans ih.2.1, h3.trans ih.2.2⟩) ⟨rfl, rfl, rfl⟩ hj

/-- In a standstill every thread is idle, blocked on a mutex, blocked in a child wait, or asleep
    and not ready. -/
theorem frozen_cases (x : Exec s0) (hr : Reachable s0) (hw : WeakFair x) {T : Nat}
    (hf : Frozen x T) (t : Tid) :
    (x.ρ T).pc t = .idle ∨ LockBlocked (x.ρ T) t ∨ WaitBlocked (x.ρ T) t ∨
      (Asleep (x.ρ T) t ∧ ∃ j, T ≤ j ∧ ¬ SemReady (x.ρ j) t) := by
  by_cases hid : (x.ρ T).pc t = .idle
  · exact Or.inl hid
  · right
    have hnr : ∃ j, T ≤ j ∧ ¬ Ready (x.ρ j) t := by
      apply Classical.byContradiction
      intro hn
      obtain ⟨j, hj, hm⟩ := hw t T (fun j hj => Classical.byContradiction (fun h => hn ⟨j, hj, h⟩))
      exact hf j t hj hm
    obtain ⟨j, hj, hnr⟩ := hnr
    obtain ⟨hpc, hnotes, _⟩ := frozen_same x hf hj
    by_cases hB : ∀ m, ((x.ρ T).pc t).wants = some m → ((x.ρ T).notes m).lockHolder = none
    · by_cases hC : WaitBlocked (x.ρ T) t
      · exact Or.inr (Or.inl hC)
      · right; right
        have hD : ¬ SemReady (x.ρ j) t := by
          intro hD
          apply hnr
          refine ⟨by rw [hpc]; exact hid, by rw [hpc, hnotes]; exact hB, ?_, hD⟩
          unfold WaitBlocked at hC ⊢
          rw [hpc, hnotes]; exact hC
        refine ⟨?_, j, hj, hD⟩
        unfold SemReady at hD
        split at hD
        · next dd n wdl r h => rw [hpc] at h; exact ⟨dd, n, wdl, r, h⟩
        · exact absurd trivial hD
    · left
      have : ∃ m, ((x.ρ T).pc t).wants = some m ∧ ((x.ρ T).notes m).lockHolder ≠ none := by
        apply Classical.byContradiction
        intro hn
        exact hB (fun m hm => Classical.byContradiction (fun h => hn ⟨m, hm, h⟩))
      obtain ⟨m, hm, hh⟩ := this
      cases hu : ((x.ρ T).notes m).lockHolder with
      | none => exact absurd hu hh
      | some u =>
        refine ⟨m, u, hm, hu, ?_⟩
        rintro rfl
        exact (lock_order (x.reach hr T) hm hu).irrefl

/-- NO DEADLOCK, liveness form, all calls. -/
theorem fair_no_deadlock (x : Exec s0) (hr : Reachable s0) (hw : WeakFair x) {T : Nat}
    (hf : Frozen x T) (t : Tid) :
    (x.ρ T).pc t = .idle ∨
      (Asleep (x.ρ T) t ∧ ¬ LockBlocked (x.ρ T) t ∧ ¬ WaitBlocked (x.ρ T) t ∧
        ∃ j, T ≤ j ∧ ¬ SemReady (x.ρ j) t) := by
  have hall : AllBlocked (x.ρ T) := by
    intro u
    rcases frozen_cases x hr hw hf u with h | h | h | ⟨h, _⟩
    · exact Or.inl h
    · exact Or.inr (Or.inl h)
    · exact Or.inr (Or.inr (Or.inl h))
    · exact Or.inr (Or.inr (Or.inr h))
  have hns := no_stuck_state (x.reach hr T) hall t
  rcases frozen_cases x hr hw hf t with h | h | h | ⟨h, h'⟩
  · exact Or.inl h
  · exact absurd h hns.1
  · exact absurd h hns.2
  · exact Or.inr ⟨h, hns.1, hns.2, h'⟩

end Note
