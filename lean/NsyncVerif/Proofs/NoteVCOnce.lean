/-
  Layer `Note`: "each `notified` flag is stored at most once" (facts about the acceptor alone), by
  three invariants, each resting on the one before.

  `InvUP`: users of a note are users of a published note.  With it the EARLY creation phase of a
  note (`PC.early`) — from its `malloc` until its creator has either linked it under its parent, or
  stored its flag (note.c/7), or is about to return it — and the notes that are past it for good
  (`NE`).

  `InvE`: every note in a children list, every child a loop of `note_notify_child` /
  `nsync_note_free` is working on, and every note of an inner activation of `note_notify_child` is
  past its early creation phase (`NE`).  No appeal to the locks: `NE` is stable, and a note enters a
  children list only when its creator links it (end of the early phase) or by adoption of a note
  that was a child already.

  `InvF`: a thread that is about to store the flag of a note — at note.c/1 after
  NOTIFIED_TIME (n) > 0 under `n`'s lock, or at note.c/7 for the note it is creating — still finds
  that flag 0.  Against a concurrent store by another thread: two threads at note.c/1 on the same
  note both hold that note's mutex (`LockInv`: impossible); a thread at note.c/7 is in the early
  creation phase of the note, which no other thread can have in an activation of
  `note_notify_child` (`InvE` for the inner activations; the outermost one is on the argument of an
  API call, a published note, or on the note the thread itself is creating); two threads cannot be
  creating the same note.
-/
import NsyncVerif.Proofs.NoteVCStep
import NsyncVerif.Proofs.NoteInvU
import NsyncVerif.Proofs.NoteOwn
import NsyncVerif.Proofs.NoteInvJ


namespace Note

/-- The note this thread is creating and has neither linked nor finished with yet. -/
def PC.early : PC → Option NoteId
  | .dl _ n _ k => bif k.isNew then some n else none
  | .nfy _ n _ k => bif k.isNew then some n else none
  | .chd _ _ top => bif top.k.isNew then some top.n else none
  | .newP pos n _ _ =>
    match pos with
    | .lockCall | .lockRet | .ld | .st => some n
    | _ => none
  | _ => none

theorem early_creating {pc : PC} {k : NoteId} (h : pc.early = some k) : pc.creating = some k := by
  cases pc <;> simp [PC.early] at h ⊢
  all_goals (try exact h)
  rename_i pos n p dl
  cases pos <;> simp at h <;> exact h

@[simp] theorem early_afterDeadlinePc (n : NoteId) (nt : Dl) (k : DK) :
    (afterDeadlinePc n nt k).early =
      match k with
      | .newSelf (some _) _ => if nt.pos then some n else none
      | _ => none := by
  cases k with
  | isNotified => simp [afterDeadlinePc, PC.early]
  | notifyApi => by_cases h : nt.pos <;> simp [afterDeadlinePc, h, PC.early]
  | newSelf par dl => by_cases h : nt.pos <;> cases par <;> simp [afterDeadlinePc, h, PC.early]
  | ready1 wdl => by_cases h : nt.pos ∧ wdl.pos <;> simp [afterDeadlinePc, h, PC.early]
  | ready2 r wdl => by_cases h : (Dl.min wdl nt).pos <;> simp [afterDeadlinePc, h, PC.early]
  | dequeue r wdl => simp [afterDeadlinePc, PC.early]

theorem early_of_after {pos : DPos} {n : NoteId} {nt nt' : Dl} {dk : DK} {k : NoteId}
    (h : (afterDeadlinePc n nt dk).early = some k) : (PC.dl pos n nt' dk).early = some k := by
  rw [early_afterDeadlinePc] at h
  cases dk with
  | newSelf par dl =>
    cases par with
    | none => simp at h
    | some p =>
      simp only at h
      split at h
      · simpa [PC.early] using h
      · cases h
  | _ => simp at h

/-- NE: the note is allocated and no thread is in the early phase of creating it. -/
def NE (s : State) (k : NoteId) : Prop :=
  (s.notes k).allocated = true ∧ ∀ a, (s.pc a).early ≠ some k

/-- A thread enters the early phase of a note only by the `malloc` that allocates it. -/
theorem Own.early {s s' : State} {e : Event} {a : Tid} {pc pc' : PC} (h' : Own s a pc e pc' s')
    (k : NoteId) (h : pc'.early = some k) :
    pc.early = some k ∨ (s.notes k).allocated = false := by
  cases h'
  -- `early` of a continuation does not depend on the position: at `notify` as at `.dl`
  case ld_dl_ld1_1 | unlockRet_dl_unlockRet_2 | now_dl_now_2 | unlockRet_nfy_unlockRet_dl =>
    exact Or.inl (early_of_after (pos := .ld1) (nt' := none) h)
  case now_idle | semV_idle | pdEnter_idle | pdRet_idle | malloc_idle | free_idle => exact Or.inl h
  case malloc_newMalloc_2 =>
    right
    simp [PC.early] at h
    rw [← h]; exact ‹_ = false›
  all_goals (try (cases h; done))
  all_goals (try (left; simpa [PC.early] using h))

/-- NE is stable: allocation is for ever, and the early phase of `k` can only be entered by the
    `malloc` of `k`. -/
theorem NE.step {s s' : State} {e : Event} (hs : step s e = .ok s') {k : NoteId} (h : NE s k) :
    NE s' k := by
  refine ⟨(step_stable hs).alloc k h.1, ?_⟩
  intro a he
  by_cases ha : e.actor = some a
  · rcases (step_actor hs ha).early k he with h1 | h1
    · exact h.2 a h1
    · rw [h.1] at h1; cases h1
  · rw [step_pc_other hs a ha] at he
    exact h.2 a he

/-- A thread becomes a user of a note only by an API call on a live (hence published) note. -/
theorem step_users_pub {s s' : State} {e : Event} (hs : step s e = .ok s') (t : Tid) (n : NoteId)
    (h : t ∈ s'.users n) : t ∈ s.users n ∨ s.published n = true := by
  rcases step_own hs with ⟨a, pc, pc', -, -, -, h'⟩ | ⟨v, rfl, _, rfl⟩ | ⟨rfl, rfl⟩
  case inr.inl | inr.inr => exact .inl h
  clear hs
  cases h'
  all_goals (try (left; exact h))
  all_goals (try (left; simpa using h))
  all_goals (repeat' split at h)
  all_goals (try (
    simp only [setPc_users, addUser_users, markCalled_users, markFreeing_users, setAfter_users,
      pushObs_users, publish_users, leave_users, upd_apply] at h
    split at h
    · next hn =>
      subst hn
      first
        | (right; exact (by assumption : s.Live _).2.1)
        | (left; exact List.mem_of_mem_erase h)
    · left; exact h))

/-- Users of a note are users of a note that `nsync_note_new` has returned. -/
def InvUP (s : State) : Prop := ∀ t n, t ∈ s.users n → s.published n = true

theorem InvUP.init : InvUP Note.init := by
  intro t n h; simp [Note.init] at h

theorem step_invUP {s s' : State} {e : Event} (h : InvUP s) (hs : step s e = .ok s') : InvUP s' := by
  intro t n ht
  rcases step_users_pub hs t n ht with h1 | h1
  · exact (step_stable hs).published n (h t n h1)
  · exact (step_stable hs).published n h1

theorem Reachable.invUP {s : State} (h : Reachable s) : InvUP s := by
  refine Reachable.induction (P := InvUP) InvUP.init ?_ s h
  intro s e s' _ hi hs
  exact step_invUP hi hs

/-- The note an API call was made on (not the note being created) is published. -/
theorem Reachable.arg_published {s : State} (hr : Reachable s) {t : Tid} {n : NoteId}
    (h : (s.pc t).arg = some n) : s.published n = true :=
  hr.invUP t n ((hr.invU.users t n).mpr h)

def EClaim (s : State) : PC → Prop
  | .chd pos stk _ => (∀ c, pos.cur = some c → NE s c) ∧ (∀ f ∈ stk.dropLast, NE s f.note)
  | .fr pos _ _ c _ => pos.hasChild = true → NE s c
  | _ => True

structure InvE (s : State) : Prop where
  children : ∀ q c, c ∈ (s.notes q).children → NE s c
  claim : ∀ t, EClaim s (s.pc t)

theorem InvE.init : InvE Note.init := by
  refine ⟨?_, ?_⟩ <;> simp [Note.init, NoteRec.blank, EClaim]

theorem EClaim.stable {s s' : State} {e : Event} (hs : step s e = .ok s') {pc : PC}
    (h : EClaim s pc) : EClaim s' pc := by
  cases pc with
  | chd pos stk top =>
    exact ⟨fun c hc => NE.step hs (h.1 c hc), fun f hf => NE.step hs (h.2 f hf)⟩
  | fr pos n par c nx => exact fun hp => NE.step hs (h hp)
  | _ => trivial

theorem dropLast_head_note {f f' : Frame} {rest : List Frame} (hn : f'.note = f.note) {x : Frame}
    (hx : x ∈ (f' :: rest).dropLast) : ∃ y ∈ (f :: rest).dropLast, y.note = x.note := by
  cases rest with
  | nil => simp [List.dropLast] at hx
  | cons g gs =>
    simp only [List.dropLast_cons_cons, List.mem_cons] at hx ⊢
    rcases hx with hx | hx
    · subst hx; exact ⟨f, Or.inl rfl, hn.symm⟩
    · exact ⟨x, Or.inr hx, rfl⟩

/-- An inner activation returns to the loop of the enclosing one. -/
theorem EClaim.retIn {s : State} {pos : CPos} {f g : Frame} {gs : List Frame} {top : Top}
    (h : EClaim s (.chd pos (f :: g :: gs) top)) :
    EClaim s (.chd (.unlockChild f.note) (g :: gs) top) := by
  refine ⟨fun c hc => ?_, fun x hx => ?_⟩
  · simp only [CPos.cur, Option.some.injEq] at hc
    subst hc
    exact h.2 f (by simp [List.dropLast])
  · exact h.2 x (by simp only [List.dropLast_cons_cons]; exact List.mem_cons_of_mem _ hx)

/-- The innermost activation moves on with the same stack, possibly selecting a child. -/
theorem EClaim.chdMove {s : State} {pos pos' : CPos} {f f' : Frame} {rest : List Frame} {top : Top}
    (h : EClaim s (.chd pos (f :: rest) top)) (hf : f'.note = f.note)
    (hcur : ∀ c, pos'.cur = some c → NE s c) : EClaim s (.chd pos' (f' :: rest) top) := by
  refine ⟨hcur, fun x hx => ?_⟩
  obtain ⟨y, hy, hyn⟩ := dropLast_head_note hf hx
  rw [← hyn]; exact h.2 y hy

theorem EClaim.afterDeadlinePc (s : State) (n : NoteId) (nt : Dl) (dk : DK) :
    EClaim s (Note.afterDeadlinePc n nt dk) := by
  cases dk with
  | newSelf par dl =>
    simp only [Note.afterDeadlinePc]
    split
    · cases par <;> trivial
    · trivial
  | _ => simp only [Note.afterDeadlinePc] <;> (try split) <;> trivial

/-- The claim of the acting thread's new program counter, stated in the OLD state. -/
theorem EClaim.own {s s' : State} {e : Event} {a : Tid} {pc pc' : PC} (h : Own s a pc e pc' s')
    (hE : InvE s) (hL : LClaim s pc) (hc : EClaim s pc) : EClaim s pc' := by
  cases h
  case ld_chd_ld_2_in | waitRet_chd_waitRet_1_in => exact EClaim.retIn hc
  case call_free | ld_nfy_ld_2 | lockRet_nfy_sLockNRet | lockRet_fr_lockRet_1
      | unlockRet_fr_unlockChildRet_2 | tryRet_nfy_tryRet_1 | lockRet_fr_lockRet_2_none
      | lockRet_fr_sLockNRet_none | tryRet_fr_tryRet_1_none =>
    simp [EClaim]
  case ld_dl_ld1_1 | unlockRet_dl_unlockRet_2 | now_dl_now_2 | unlockRet_nfy_unlockRet_dl =>
    exact EClaim.afterDeadlinePc _ _ _ _
  case now_idle | semV_idle | pdEnter_idle | pdRet_idle | malloc_idle | free_idle => exact hc
  -- the loops over the children start with the first child
  case stNote_chd_st_wake | stNote_chd_st_none | semV_chd_semV_wake | semV_chd_semV_none =>
    exact EClaim.chdMove hc rfl (by simp)
  case stNote_chd_st_child | semV_chd_semV_child | waitRet_chd_waitRet_2 =>
    refine EClaim.chdMove hc rfl fun c' hc' => ?_
    simp only [CPos.cur, Option.some.injEq] at hc'
    subst hc'
    exact hE.children _ _ (mem_of_eq_cons ‹_›)
  case lockRet_fr_lockRet_2_child | lockRet_fr_sLockNRet_child | tryRet_fr_tryRet_1_child
      | waitRet_fr_waitRet_3 =>
    intro _
    exact hE.children _ _ (mem_of_eq_cons ‹_›)
  case lockRet_chd_lockChildRet_1 =>
    -- a new activation for the child `c`
    refine ⟨fun c' hc' => by simp at hc', ?_⟩
    cases ‹List Frame› with
    | nil => have := hL.2.2.1; simp at this
    | cons g gs =>
      intro x hx
      simp only [List.dropLast_cons_cons, List.mem_cons] at hx
      rcases hx with hx | hx
      · subst hx; exact hc.1 _ rfl
      · exact hc.2 x hx
  case unlockRet_chd_unlockChildRet_1 =>
    -- next child of the loop of note_notify_child
    refine EClaim.chdMove hc rfl fun c' hc' => ?_
    simp only [CPos.cur, Option.some.injEq] at hc'
    subst hc'
    exact hE.children _ _ ‹_ ∈ _›
  case unlockRet_chd_unlockChildRet_2 => exact EClaim.chdMove hc rfl (by simp)
  case unlockRet_fr_unlockChildRet_1 =>
    -- next child of the loop of nsync_note_free
    intro _
    exact hE.children _ _ ‹_ ∈ _›
  all_goals (try trivial)

/-- The step by which `nsync_note_new` links the new note ends its early phase. -/
theorem step_newP_ld {s s' : State} {e : Event} {a : Tid} {c q : NoteId} {dl : Dl}
    (hs : step s e = .ok s') (ha : e.actor = some a) (hpc : PC.newP .ld c q dl = s.pc a)
    (hpos : (s.notes q).ntime.pos) : s'.pc a = .newP .unlockCall c q dl := by
  have h := step_actor hs ha
  rw [← hpc] at h
  generalize s'.pc a = q' at h ⊢
  cases h
  · rfl
  · exact absurd hpos ‹_›

theorem step_invE {s s' : State} {e : Event} (hr : Reachable s) (hE : InvE s)
    (hs : step s e = .ok s') : InvE s' := by
  have hA := hr.inv6.1
  refine ⟨?_, ?_⟩
  · intro q c hc
    rcases step_children' hs q c hc with h | ⟨a, dl, ha, hpc, hpos⟩ | ⟨a, n, nx, he, hpc, _⟩
    · exact NE.step hs (hE.children q c h)
    · -- nsync_note_new links `c`: the end of its early phase
      have hcr : (s.pc a).creating = some c := by rw [hpc]; rfl
      refine ⟨(step_stable hs).alloc c (hA.creating a c hcr).1, ?_⟩
      intro b hb
      by_cases hba : b = a
      · subst hba
        rw [step_newP_ld hs ha hpc.symm hpos] at hb
        simp [PC.early] at hb
      · have hne : e.actor ≠ some b := by rw [ha]; intro h; exact hba (Option.some.inj h).symm
        rw [step_pc_other hs b hne] at hb
        exact hba (hA.unique b a c (early_creating hb) hcr)
    · -- nsync_note_free adopts `c`, the child its loop is working on
      have hcl := hE.claim a
      rw [hpc] at hcl
      exact NE.step hs (hcl rfl)
  · intro t
    by_cases ha : e.actor = some t
    · exact EClaim.stable hs (EClaim.own (step_actor hs ha) hE (hr.inv6.2.2.2.2.1.claim t) (hE.claim t))
    · rw [step_pc_other hs t ha]; exact EClaim.stable hs (hE.claim t)

theorem Reachable.invE {s : State} (h : Reachable s) : InvE s := by
  refine Reachable.induction (P := InvE) InvE.init ?_ s h
  intro s e s' hr hi hs
  exact step_invE hr hi hs

def NewPos.pre : NewPos → Bool
  | .lockCall | .lockRet | .ld | .st => true
  | _ => false

/-- The note whose flag the program counter has a claim about. -/
def PC.fnote : PC → Option NoteId
  | .chd .st (f :: _) _ => some f.note
  | .dl _ n _ (.newSelf _ _) => some n
  | .newP pos n _ _ => bif pos.pre then some n else none
  | _ => none

def FClaim (s : State) : PC → Prop
  | .chd .st (f :: _) _ => (s.notes f.note).notified = false
  | .dl pos n nt (.newSelf _ _) => pos.late = true → nt.pos → (s.notes n).notified = false
  | .newP pos n _ _ => pos.pre = true → (s.notes n).notified = false
  | _ => True

def InvF (s : State) : Prop := ∀ t, FClaim s (s.pc t)

theorem InvF.init : InvF Note.init := by intro t; simp [Note.init, FClaim]

theorem FClaim.of_flags {s s' : State} {pc : PC}
    (h : ∀ x, pc.fnote = some x → (s'.notes x).notified = (s.notes x).notified)
    (hc : FClaim s pc) : FClaim s' pc := by
  unfold FClaim at hc ⊢
  split
  · next f _ _ => rw [h f.note (by simp [PC.fnote])]; simpa [FClaim] using hc
  · next pos n nt _ _ =>
    intro h1 h2
    rw [h n (by simp [PC.fnote])]
    simp only at hc
    exact hc h1 h2
  · next pos n _ _ =>
    intro h1
    rw [h n (by simp only [PC.fnote, h1]; rfl)]
    simp only at hc
    exact hc h1
  · trivial

theorem NK.arg_of_not_new {nk : NK} {n : NoteId} (h : nk.isNew = false) : nk.arg n = some n := by
  cases nk with
  | ofApi => rfl
  | ofDeadline dk => cases dk <;> simp [NK.arg, DK.arg] at h ⊢

/-- The note of the innermost activation of `note_notify_child`: past its early creation phase, or
    the note of the outermost activation, which the thread is creating itself or which has been
    published. -/
theorem chd_head {s : State} (hr : Reachable s) {u : Tid} {pos : CPos} {f : Frame}
    {rest : List Frame} {top : Top} (hpc : s.pc u = .chd pos (f :: rest) top) :
    NE s f.note ∨ (s.pc u).creating = some f.note ∨ s.published f.note = true := by
  cases rest with
  | cons g gs =>
    left
    have := hr.invE.claim u
    rw [hpc] at this
    exact this.2 f (by simp [List.dropLast])
  | nil =>
    right
    have hL := hr.inv6.2.2.2.2.1.claim u
    rw [hpc] at hL
    have hf := hL.single
    cases hn : top.k.isNew with
    | true => left; rw [hpc, hf]; simp [hn]
    | false =>
      right
      rw [hf]
      exact hr.arg_published (t := u) (by rw [hpc]; exact NK.arg_of_not_new hn)

/-- … hence not a note that ANOTHER thread is in the early phase of creating. -/
theorem chd_head_not_early {s : State} (hr : Reachable s) {u v : Tid} (huv : u ≠ v) {pos : CPos}
    {f : Frame} {rest : List Frame} {top : Top} (hpc : s.pc u = .chd pos (f :: rest) top)
    (hv : (s.pc v).early = some f.note) : False := by
  have hA := hr.inv6.1
  have hcv := early_creating hv
  rcases chd_head hr hpc with h | h | h
  · exact h.2 v hv
  · exact huv (hA.unique u v _ h hcv)
  · rw [(hA.creating v _ hcv).2] at h; cases h

/-- Thread `a` is at a store of the flag of `k`. -/
def Stores (s : State) (a : Tid) (k : NoteId) : Prop :=
  (∃ f rest top, s.pc a = .chd .st (f :: rest) top ∧ f.note = k) ∨
  (∃ p dl, s.pc a = .newP .st k p dl)

/-- No two threads are about to store the same flag. -/
theorem no_conflict {s : State} (hr : Reachable s) {a t : Tid} {k : NoteId} (hne : t ≠ a)
    (ha : Stores s a k) (ht : (s.pc t).fnote = some k) : False := by
  have hA := hr.inv6.1
  have hK := hr.inv6.2.2.2.2.2
  -- what `t` is doing
  have htc : (∃ f rest top, s.pc t = .chd .st (f :: rest) top ∧ f.note = k) ∨
      (s.pc t).early = some k := by
    cases hpc : s.pc t with
    | chd pos stk top =>
      rw [hpc] at ht
      cases pos <;> cases stk <;> simp [PC.fnote] at ht
      exact Or.inl ⟨_, _, _, rfl, ht⟩
    | dl pos n nt dk =>
      rw [hpc] at ht
      cases dk <;> simp [PC.fnote] at ht
      subst ht; right; rfl
    | newP pos n p dl =>
      rw [hpc] at ht
      simp only [PC.fnote] at ht
      cases hp : pos.pre with
      | false => rw [hp] at ht; cases ht
      | true =>
        rw [hp] at ht
        simp at ht; subst ht
        right
        cases pos <;> simp [NewPos.pre] at hp <;> rfl
    | _ => rw [hpc] at ht; simp [PC.fnote] at ht
  rcases ha with ⟨f', rest', top', hpa, hfa⟩ | ⟨p, dl, hpa⟩
  · rcases htc with ⟨f, rest, top, hpt, hft⟩ | hte
    · -- both hold the mutex of `k`
      have h1 : (s.notes k).lockHolder = some t :=
        (hK.iff k t).mpr (by rw [hpt, ← hft]; simp [PC.held])
      have h2 : (s.notes k).lockHolder = some a :=
        (hK.iff k a).mpr (by rw [hpa, ← hfa]; simp [PC.held])
      rw [h1] at h2
      exact hne (Option.some.inj h2)
    · exact chd_head_not_early hr (Ne.symm hne) hpa (hfa ▸ hte)
  · have hae : (s.pc a).early = some k := by rw [hpa]; rfl
    rcases htc with ⟨f, rest, top, hpt, hft⟩ | hte
    · exact chd_head_not_early hr hne hpt (hft ▸ hae)
    · exact hne (hA.unique t a k (early_creating hte) (early_creating hae))

theorem FClaim.afterDeadlinePc {s : State} {n : NoteId} {nt : Dl} {dk : DK}
    (h : nt.pos → dk.isNew = true → (s.notes n).notified = false) :
    FClaim s (Note.afterDeadlinePc n nt dk) := by
  cases dk with
  | newSelf par dl =>
    simp only [Note.afterDeadlinePc]
    split
    · next hp =>
      cases par with
      | none => trivial
      | some p => intro _; exact h hp rfl
    · trivial
  | _ => simp only [Note.afterDeadlinePc] <;> (try split) <;> trivial

theorem ntime_pos_flag {s : State} {n : NoteId} (h : (s.notes n).ntime.pos) :
    (s.notes n).notified = false := by
  cases hf : (s.notes n).notified with
  | false => rfl
  | true => simp [NoteRec.ntime, hf, Dl.pos] at h

theorem FClaim.dl_of {s : State} {pos : DPos} {n : NoteId} {nt : Dl} {dk : DK}
    (h : pos.late = true → nt.pos → (s.notes n).notified = false) : FClaim s (.dl pos n nt dk) := by
  cases dk <;> first | trivial | exact h

theorem FClaim.dl_get {s : State} {pos : DPos} {n : NoteId} {nt : Dl} {dk : DK}
    (hc : FClaim s (.dl pos n nt dk)) (hl : pos.late = true) (hp : nt.pos) (hn : dk.isNew = true) :
    (s.notes n).notified = false := by
  cases dk <;> simp at hn
  exact hc hl hp

theorem FClaim.dl_early {s : State} {pos : DPos} {n : NoteId} {nt : Dl} {dk : DK}
    (h : pos.late = false) : FClaim s (.dl pos n nt dk) :=
  FClaim.dl_of (fun hl => by rw [h] at hl; cases hl)

theorem FClaim.dl_carry {s : State} {pos pos' : DPos} {n : NoteId} {nt : Dl} {dk : DK}
    (hl : pos.late = true) (hc : FClaim s (.dl pos n nt dk)) : FClaim s (.dl pos' n nt dk) := by
  cases dk <;> first | trivial | exact fun _ hp => hc hl hp

theorem FClaim.afterDeadlinePc_zero (s : State) (n : NoteId) (dk : DK) :
    FClaim s (Note.afterDeadlinePc n (some 0) dk) :=
  FClaim.afterDeadlinePc (fun h => absurd h (fun h' => h' rfl))

theorem FClaim.afterDeadlinePc_of {s : State} {pos : DPos} {n : NoteId} {nt : Dl} {dk : DK}
    (hl : pos.late = true) (hc : FClaim s (.dl pos n nt dk)) :
    FClaim s (Note.afterDeadlinePc n nt dk) :=
  FClaim.afterDeadlinePc (fun hp hn => FClaim.dl_get hc hl hp hn)

/-- The claim of the acting thread's new program counter, in the OLD state (the flags change only
    at a store event, whose new program counter has no claim). -/
theorem FClaim.own {s s' : State} {e : Event} {a : Tid} {pc pc' : PC} (h : Own s a pc e pc' s')
    (hc : FClaim s pc) : FClaim s pc' := by
  cases h
  case ld_dl_ld1_2 | lockCall_dl_lockCall | lockRet_dl_lockRet | malloc_newMalloc_2 =>
    exact FClaim.dl_early rfl
  case ld_dl_ld2 => exact FClaim.dl_of (fun _ hp => ntime_pos_flag hp)
  case unlockCall_dl_unlockCall | unlockRet_dl_unlockRet_1 => exact FClaim.dl_carry rfl hc
  case ld_dl_ld1_1 | unlockRet_nfy_unlockRet_dl => exact FClaim.afterDeadlinePc_zero _ _ _
  case unlockRet_dl_unlockRet_2 | now_dl_now_2 => exact FClaim.afterDeadlinePc_of rfl hc
  case ld_chd_ld_1 => exact ntime_pos_flag (by assumption)
  case ld_newP_ld_1 | stNote_newP_st => intro h; cases h
  all_goals (try trivial)

theorem step_invF {s s' : State} {e : Event} (hr : Reachable s) (hF : InvF s)
    (hs : step s e = .ok s') : InvF s' := by
  intro t
  by_cases hst : ∃ a site o k n ob, e = .stNote a site o k n ob
  · -- a store: the storer's new program counter has no claim; nobody else's claim is about `k`
    obtain ⟨a, site, o, k, n, ob, he⟩ := hst
    subst he
    obtain ⟨_, _, _, _, hsite⟩ := stNote_ok hs
    have hsto : Stores s a k := by
      rcases hsite with ⟨_, f, rest, top, h1, h2, _⟩ | ⟨_, p, dl, h1, _⟩
      · exact Or.inl ⟨f, rest, top, h1, h2⟩
      · exact Or.inr ⟨p, dl, h1⟩
    by_cases hta : t = a
    · subst hta
      rcases hsite with ⟨_, f, rest, top, _, _, pos', f', h3, hst⟩ | ⟨_, p, dl, _, h3⟩
      · rw [h3]; cases pos' <;> first | trivial | cases hst
      · rw [h3]; intro h; cases h
    · rw [step_pc_other hs t (by simp [Event.actor]; exact fun h => hta h.symm)]
      refine FClaim.of_flags ?_ (hF t)
      intro x hx
      by_cases hxk : x = k
      · subst hxk; exact absurd hx (fun hx => no_conflict hr hta hsto hx)
      · exact flag_frame hr hs x (fun _ _ _ _ _ h => by cases h; exact hxk rfl)
  · have hfl : ∀ x, (s'.notes x).notified = (s.notes x).notified :=
      fun x => flag_frame hr hs x (fun a site o n ob h => hst ⟨a, site, o, x, n, ob, h⟩)
    refine FClaim.of_flags (fun x _ => hfl x) ?_
    by_cases ha : e.actor = some t
    · exact FClaim.own (step_actor hs ha) (hF t)
    · rw [step_pc_other hs t ha]; exact hF t

theorem Reachable.invF {s : State} (h : Reachable s) : InvF s := by
  refine Reachable.induction (P := InvF) InvF.init ?_ s h
  intro s e s' hr hi hs
  exact step_invF hr hi hs

/-- AT MOST ONE STORE: an accepted store to `note<k>.notified` finds the flag 0. -/
theorem stNote_flag_false {s s' : State} {t : Tid} {site : Site} {o : Ord} {k : NoteId} {n ob : Nat}
    (hr : Reachable s) (hs : step s (.stNote t site o k n ob) = .ok s') :
    (s.notes k).notified = false ∧ ob = 0 := by
  obtain ⟨_, _, _, hob, hsite⟩ := stNote_ok hs
  have hF := hr.invF t
  have : (s.notes k).notified = false := by
    rcases hsite with ⟨_, f, rest, top, h1, h2, _⟩ | ⟨_, p, dl, h1, _⟩
    · rw [h1] at hF; rw [← h2]; exact hF
    · rw [h1] at hF; exact hF rfl
  exact ⟨this, by rw [hob, this]; rfl⟩

end Note
