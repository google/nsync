/-
  Proofs/WaitNAct.lean — the effect of one accepted step of a thread, in two halves.

  `Act s t k s1`: the handful of things a step of `t` can do to objects, records and its own pending post, each
  with the guard under which the model accepts it and, where it matters, the program point at which it happens.
  `Tail s s1 t e k s'`: what the step then does to what is `t`'s own — program counter, frame, nested-call state —
  and to the semaphore counts and the lazy binding of semaphores.  `k : Kind` is what the two halves agree on.
  A `Tail` names its edge of the control flow (Proofs/WaitNFlow.lean): `Flow` for a move inside a call, `RtAt` / `EnqAt`
  for a return, the program point for a statement of wait.c.
  `steps_stepThr`: every accepted step is an `Act` followed by a `Tail` (one walk through the step functions; a
  leaf names its two shapes).  `Agree s1 s' t` is what no `Tail` touches; `act_stepThr` is the view from outside
  the stepping thread.  What a step leaves alone and what it never undoes is read off the shapes; first of all that
  program counter, nested-call state and pending post of every other thread are unchanged, and their frames up to
  the lazily bound semaphore (`Others`).
-/
import NsyncVerif.Proofs.WaitNFlow

namespace WaitN

/-- the record `r` as its owner initialises it for object `oid` -/
def Rec.fresh (t : Tid) (oid : ObjId) : Rec :=
  { live := true, waiting := false, owner := t, obj := oid, unl := .none, deqd := false }

/-- cv_signal / cv_broadcast unlink `l` from the queue of cv `c`, leave `q`, and release the spinlock -/
def sgUnlink (s : State) (c : Nat) (l q : List Rid) (fl : Bool) : State :=
  { s.setObj (.cv c) { s.obj (.cv c) with lock := none, queue := q, flag := fl } with
    rcd := fun r => if r ∈ l then { s.rcd r with unl := .waker } else s.rcd r }

@[simp] theorem sgUnlink_rcd (s : State) (c : Nat) (l q : List Rid) (fl : Bool) (r : Rid) :
    (sgUnlink s c l q fl).rcd r = if r ∈ l then { s.rcd r with unl := .waker } else s.rcd r := rfl
/-- readiness of an object depends on its flag and value only -/
theorem wakeable_congr {o : ObjId} {a b : Obj} (hf : b.flag = a.flag) (hv : b.value = a.value) :
    wakeable o b = wakeable o a := by
  cases o <;> simp only [wakeable, hf, hv]

/-- what the two halves of a step have to agree on: nothing, that the step changes which records are alive
    (initialisation of a record, end of the call's records), or that it is the V discharging the pending post -/
inductive Kind | plain | life | post

/-- What a step of `t` does to objects, records and `t`'s pending post. -/
inductive Act (s : State) (t : Tid) : Kind → State → Prop
  | skip : Act s t .plain s
  /-- an object's mutex / a cv's spinlock is taken when free … -/
  | acquire (o : ObjId) (hl : (s.obj o).lock = none) : Act s t .plain (s.setObj o { s.obj o with lock := some t })
  /-- … and released by its holder; the release store of a cv also writes CV_NON_EMPTY -/
  | unlock (o : ObjId) (hl : (s.obj o).lock = some t) : Act s t .plain (s.setObj o { s.obj o with lock := none })
  | cvRelease (c : Nat) (fl : Bool) (hl : (s.obj (.cv c)).lock = some t) :
      Act s t .plain (s.setObj (.cv c) { s.obj (.cv c) with lock := none, flag := fl })
  | notify (n : Nat) (hl : (s.obj (.note n)).lock = some t) :
      Act s t .plain (s.setObj (.note n) { s.obj (.note n) with flag := true })
  | waited (k : Nat) : Act s t .plain (s.setObj (.ctr k) { s.obj (.ctr k) with flag := true })
  | value (k new : Nat) (hl : (s.obj (.ctr k)).lock = some t)
      (hz : ¬ ((s.obj (.ctr k)).value = 0 ∧ (s.obj (.ctr k)).flag = true ∧ new ≠ 0)) :
      Act s t .plain (s.setObj (.ctr k) { s.obj (.ctr k) with value := new })
  | newNote (k : Nat) (ex : Deadline) (hk : (s.obj (.note k)).known = false) :
      Act s t .plain (s.setObj (.note k) { s.obj (.note k) with known := true, expiry := ex })
  | newCtr (k v : Nat) (hk : (s.obj (.ctr k)).known = false) :
      Act s t .plain (s.setObj (.ctr k) { s.obj (.ctr k) with known := true, value := v })
  /-- a note / counter waker pops the head of the queue of a ready object whose mutex it holds -/
  | pop (r : Rid) (tl : List Rid) (hq : (s.obj (s.rcd r).obj).queue = r :: tl) (hcv : (s.rcd r).obj.isCv = false)
      (hl : (s.obj (s.rcd r).obj).lock = some t) (hw : wakeable (s.rcd r).obj (s.obj (s.rcd r).obj) = true)
      (hp : s.post t = none) :
      Act s t .plain (((s.setObj (s.rcd r).obj { s.obj (s.rcd r).obj with queue := tl }).setRec r
                { s.rcd r with waiting := false, unl := .waker }).setPost t (some r))
  /-- the V that discharges the pending post -/
  | posted (r : Rid) (hp : s.post t = some r) : Act s t .post (s.setPost t none)
  /-- cv_signal / cv_broadcast unlink a prefix `l` of the queue under the spinlock and release it -/
  | sgUnlink (c : Nat) (bc : Bool) (l q : List Rid) (fl : Bool) (hpc : s.pc t = .sg c bc .held)
      (hl : (s.obj (.cv c)).lock = some t) (hq : l ++ q = (s.obj (.cv c)).queue) : Act s t .plain (WaitN.sgUnlink s c l q fl)
  | sgWake (c : Nat) (bc : Bool) (r : Rid) (rest : List Rid) (hpc : s.pc t = .sg c bc (.wake (r :: rest)))
      (hp : s.post t = none) : Act s t .plain ((s.setRec r { s.rcd r with waiting := false }).setPost t (some r))
  /-- the owner's accesses to its own records, by program point -/
  | init (i : Nat) (r : Rid) (oid : ObjId) (hpc : s.pc t = .wInit i) (hoid : (s.fr t).objs[i]? = some oid)
      (hdead : (s.rcd r).live = false) (hi : i = (s.fr t).recs.length) : Act s t .life (s.setRec r (Rec.fresh t oid))
  | enqueue (i : Nat) (r : Rid) (oid : ObjId) (hpc : s.pc t = .wEnqCv i .store ∨ s.pc t = .wEnq i (.store true))
      (hr : (s.fr t).recs[i]? = some r) (ho : (s.fr t).objs[i]? = some oid) (hl : (s.obj oid).lock = some t) :
      Act s t .plain ((s.setObj oid { s.obj oid with queue := (s.obj oid).queue ++ [r] }).setRec r { s.rcd r with waiting := true })
  | refused (i : Nat) (r : Rid) (hpc : s.pc t = .wEnq i (.store false)) (hr : (s.fr t).recs[i]? = some r) :
      Act s t .plain (s.setRec r { s.rcd r with waiting := false })
  | remove (j : Nat) (r : Rid) (oid : ObjId)
      (hpc : (s.pc t = .wDeqCv j .store ∧ r ∈ (s.obj oid).queue) ∨ ∃ res, s.pc t = .wDeq j (.store res))
      (hr : (s.fr t).recs[j]? = some r) (ho : (s.fr t).objs[j]? = some oid) (hl : (s.obj oid).lock = some t) :
      Act s t .plain (ownerRemove s oid r)
  | unlockDeq (j : Nat) (r : Rid) (oid : ObjId) (res : Bool) (hpc : s.pc t = .wDeq j (.unlockCall res))
      (hr : (s.fr t).recs[j]? = some r) (hl : (s.obj oid).lock = some t) :
      Act s t .plain ((s.setObj oid { s.obj oid with lock := none }).setRec r { s.rcd r with deqd := true })
  | cvReleaseDeq (j : Nat) (r : Rid) (c : Nat) (fl res : Bool) (hpc : s.pc t = .wDeqCv j (.release res))
      (hr : (s.fr t).recs[j]? = some r) (hl : (s.obj (.cv c)).lock = some t) :
      Act s t .plain ((s.setObj (.cv c) { s.obj (.cv c) with lock := none, flag := fl }).setRec r { s.rcd r with deqd := true })
  | wspinDone (j : Nat) (r : Rid) (hpc : s.pc t = .wDeqCv j .wspin) (hr : (s.fr t).recs[j]? = some r)
      (hw : (s.rcd r).waiting = false) : Act s t .plain (s.setRec r { s.rcd r with deqd := true })
  /-- the records of the call die at `free` (heap array) or at the return (stack array) -/
  | kill (l : List Rid)
      (hpc : (s.pc t = .wFree ∧ l = (s.fr t).recs)
           ∨ ∃ r, s.pc t = .wRet r ∧ l = if (s.fr t).heap.isSome then [] else (s.fr t).recs) :
      Act s t .life (s.kill l)

theorem Act.pc {s s1 : State} {t : Tid} {k : Kind} (a : Act s t k s1) : s1.pc = s.pc := by cases a <;> rfl
theorem Act.fr {s s1 : State} {t : Tid} {k : Kind} (a : Act s t k s1) : s1.fr = s.fr := by cases a <;> rfl
theorem Act.mc {s s1 : State} {t : Tid} {k : Kind} (a : Act s t k s1) : s1.mc = s.mc := by cases a <;> rfl
theorem Act.now {s s1 : State} {t : Tid} {k : Kind} (a : Act s t k s1) : s1.now = s.now := by cases a <;> rfl
theorem Act.sem {s s1 : State} {t : Tid} {k : Kind} (a : Act s t k s1) : s1.sem = s.sem := by cases a <;> rfl
theorem Act.semUser {s s1 : State} {t : Tid} {k : Kind} (a : Act s t k s1) : s1.semUser = s.semUser := by cases a <;> rfl
theorem Act.post_ne {s s1 : State} {t u : Tid} {k : Kind} (a : Act s t k s1) (hu : u ≠ t) : s1.post u = s.post u := by
  cases a <;> first | rfl | simp [hu]

/-- `s'` is `s1` up to `t`'s own program counter, frame and nested-call state, the semaphore counts and the
    lazily bound semaphores -/
structure Agree (s1 s' : State) (t : Tid) : Prop where
  obj : s'.obj = s1.obj
  rcd : s'.rcd = s1.rcd
  post : s'.post = s1.post
  now : s'.now = s1.now
  pc : ∀ u, u ≠ t → s'.pc u = s1.pc u
  mc : ∀ u, u ≠ t → s'.mc u = s1.mc u
  fr : ∀ u, u ≠ t → frSame (s1.fr u) (s'.fr u)

namespace Agree
variable {s1 s2 s' : State} {t : Tid}

theorem refl (s : State) (t : Tid) : Agree s s t := ⟨rfl, rfl, rfl, rfl, fun _ _ => rfl, fun _ _ => rfl, fun _ _ => rfl⟩

theorem trans (a : Agree s1 s2 t) (b : Agree s2 s' t) : Agree s1 s' t :=
  ⟨b.obj.trans a.obj, b.rcd.trans a.rcd, b.post.trans a.post, b.now.trans a.now,
   fun u hu => (b.pc u hu).trans (a.pc u hu), fun u hu => (b.mc u hu).trans (a.mc u hu),
   fun u hu => frSame_trans (a.fr u hu) (b.fr u hu)⟩

theorem setPc (a : Agree s1 s' t) (p : PC) : Agree s1 (s'.setPc t p) t :=
  { a with pc := fun u hu => by rw [setPc_pc, if_neg hu]; exact a.pc u hu }

theorem setFr (a : Agree s1 s' t) (f : Frame) : Agree s1 (s'.setFr t f) t :=
  { a with fr := fun u hu => by rw [setFr_fr, if_neg hu]; exact a.fr u hu }

theorem setMc (a : Agree s1 s' t) (m : MC) : Agree s1 (s'.setMc t m) t :=
  { a with mc := fun u hu => by rw [setMc_mc, if_neg hu]; exact a.mc u hu }

theorem setSem (a : Agree s1 s' t) (j n : Nat) : Agree s1 (s'.setSem j n) t := { a with }

theorem setSemUser (a : Agree s1 s' t) (j : Nat) (x : Option Tid) : Agree s1 (s'.setSemUser j x) t := { a with }

end Agree

theorem agree_bindSem {s s' : State} {t owner : Tid} {j : SemId} (h : bindSem s owner j = some s') : Agree s s' t := by
  unfold bindSem at h
  split at h
  · split at h <;> cases h; exact .refl _ _
  · split at h <;> cases h
    refine ⟨rfl, rfl, rfl, rfl, fun _ _ => rfl, fun _ _ => rfl, fun u _ => ?_⟩
    rw [setSemUser_fr, setFr_fr]
    split
    · rename_i hu; subst hu; rfl
    · rfl

theorem agree_postSem {s s' : State} {t : Tid} {r : Rid} {j : SemId} (h : postSem s r j = some s') : Agree s s' t := by
  unfold postSem at h
  split at h
  · exact agree_bindSem h
  · cases h; exact .refl _ _

theorem agree_unbindSem (s : State) (t : Tid) : Agree s (unbindSem s t) t := by
  unfold unbindSem
  split
  · exact ((Agree.refl s t).setFr _).setSemUser _ _
  · exact (Agree.refl s t).setFr _

/-- an event of another layer changes at most the semaphore counts -/
theorem dflt_sem {s s' : State} {t : Tid} {e : Ev} (h : dflt s t e = .ok s') : ∃ f, s' = { s with sem := f } := by
  unfold dflt at h
  split_ok h <;> (cases h; exact ⟨_, rfl⟩)

theorem agree_dflt {s s' : State} {t : Tid} {e : Ev} (h : dflt s t e = .ok s') : Agree s s' t := by
  obtain ⟨f, rfl⟩ := dflt_sem h
  exact ⟨rfl, rfl, rfl, rfl, fun _ _ => rfl, fun _ _ => rfl, fun _ _ => rfl⟩

theorem agree_rtDone {s s' : State} {t : Tid} {u : Use} {i : Nat} {time : Deadline}
    (h : rtDone s t u i time = .ok s') : Agree s s' t := by
  unfold rtDone at h
  split_ok h <;> cases h <;> first | exact (Agree.refl _ _).setPc _ | exact ((Agree.refl _ _).setFr _).setPc _

theorem agree_deqDone {s s' : State} {t : Tid} {j : Nat} {res : Bool}
    (h : deqDone s t j res = .ok s') : Agree s s' t := by
  unfold deqDone at h
  dsimp only at h
  split at h <;> cases h
  · exact ((Agree.refl _ _).setFr _).setPc _
  · exact (((Agree.refl _ _).setFr _).trans (agree_unbindSem _ _)).setPc _

theorem agree_afterEnq {s s' : State} {t : Tid} {i : Nat} {res : Bool}
    (h : afterEnq s t i res = .ok s') : Agree s s' t := by
  unfold afterEnq at h
  cases h; exact ((Agree.refl _ _).setFr _).setPc _

theorem agree_startScan (s : State) (t : Tid) : Agree s (startScan s t) t :=
  ((Agree.refl _ _).setFr _).setPc _

/-- the returns of the waitable functions land on the first program point of a statement or call -/
theorem entry_rtDone {s s' : State} {t : Tid} {u : Use} {i : Nat} {time : Deadline}
    (h : rtDone s t u i time = .ok s') : Entry (s'.pc t) := by
  unfold rtDone at h
  split_ok h <;> (cases h; first | (simp; done) | (simp; constructor))

theorem entry_deqDone {s s' : State} {t : Tid} {j : Nat} {res : Bool}
    (h : deqDone s t j res = .ok s') : Entry (s'.pc t) := by
  unfold deqDone at h
  dsimp only at h
  split at h <;> (cases h; simp)

theorem entry_afterEnq {s s' : State} {t : Tid} {i : Nat} {res : Bool}
    (h : afterEnq s t i res = .ok s') : Entry (s'.pc t) := by
  unfold afterEnq at h
  cases h; simp

/-- What a step of `t` does, after its `Act` has taken `s0` to `s`, to its own program counter, frame and
    nested-call state, to the semaphore counts and to the lazy binding of semaphores (`Kind` as in `Act`). -/
inductive Tail (s0 s : State) (t : Tid) (e : Ev) : Kind → State → Prop
  | same (ho : stays (s0.pc t) = true) : Tail s0 s t e .plain s
  /-- a move inside the current function, or between `idle` and a signal call -/
  | goto (p : PC) (hf : Flow (s0.pc t) p) :
      Tail s0 s t e .plain (s.setPc t p)
  /-- cv_dequeue: the walk over pcv->waiters did not find the record; the spinlock is released, the wait loop entered -/
  | giveUp (j c : Nat) (r : Rid) (fl : Bool) (hpc : s0.pc t = .wDeqCv j .store) (ho : (s0.fr t).objs[j]? = some (.cv c))
      (hr : (s0.fr t).recs[j]? = some r) (hn : r ∉ (s0.obj (.cv c)).queue)
      (hs : s = s0.setObj (.cv c) { s0.obj (.cv c) with lock := none, flag := fl }) :
      Tail s0 s t e .plain (s.setPc t (.wDeqCv j .wspin))
  | nested (ho : driven (s0.pc t) = true) (m : MC) : Tail s0 s t e .plain (s.setMc t m)
  /-- an event of another layer; nothing shared changes -/
  | dflt {s' : State} (hs : s = s0) (h : dflt s t e = .ok s') : Tail s0 s t e .plain s'
  /-- the returns of the waitable functions -/
  | rtDone {s' : State} (hs : s = s0) (u : Use) (i : Nat) (time : Deadline) (hat : RtAt (s0.pc t) u i)
      (h : rtDone s t u i time = .ok s') : Tail s0 s t e .plain s'
  | afterEnq {s' : State} (i : Nat) (res : Bool) (hat : EnqAt (s0.pc t) i res) (h : afterEnq s t i res = .ok s') :
      Tail s0 s t e .plain s'
  | deqDone {s' : State} (j : Nat) (res : Bool) (r : Rid) (hr : (s0.fr t).recs[j]? = some r)
      (hu : (s.rcd r).unl = (s0.rcd r).unl)
      (hpc : s0.pc t = .wDeqCv j (.release res) ∨ (s0.pc t = .wDeqCv j .wspin ∧ res = false ∧ (s0.rcd r).waiting = false)
            ∨ s0.pc t = .wDeq j (.unlockWait res))
      (h : deqDone s t j res = .ok s') : Tail s0 s t e .plain s'
  /-- the V that discharges a pending post: binds the semaphore of the record's call -/
  | v (ho : driven (s0.pc t) = true) (r : Rid) (j : SemId) (s2 : State) (hp : s0.post t = some r) (he : e = .semV j) (h : postSem s r j = some s2) :
      Tail s0 s t e .post (s2.setSem j (s2.sem j + 1))
  | vgoto (r : Rid) (j : SemId) (s2 : State) (hp : s0.post t = some r) (he : e = .semV j) (h : postSem s r j = some s2) (c : Nat) (bc : Bool)
      (st0 st : SgSt) (hpc : s0.pc t = .sg c bc st0) (hf : SgE st0 st) :
      Tail s0 s t e .post ((s2.setSem j (s2.sem j + 1)).setPc t (.sg c bc st))
  /-- the P of the sleep loop: enter (binds the semaphore of the call), return with a token -/
  | pdEnter (hs : s = s0) (j : SemId) (d : Deadline) (s2 : State) (hpc : s0.pc t = .wPdEnter) (he : e = .pdEnter j d)
      (h : bindSem s t j = some s2) : Tail s0 s t e .plain (s2.setPc t (.wPdWait j))
  | pdWake (hs : s = s0) (j : SemId) (n : Nat) (hpc : s0.pc t = .wPdWait j) (he : e = .pdRet j false) (hs : s.sem j = n + 1) :
      Tail s0 s t e .plain (startScan (s.setSem j n) t)
  /-- the statements of wait.c between the waitable calls -/
  | call (mu : Option MuId) (dl : Deadline) (objs : List ObjId) (nested : Bool) (hpc : s0.pc t = .idle)
      (hne : objs ≠ []) (hk : objs.all (fun o => (s.obj o).known) = true) (hs : s = s0) :
      Tail s0 s t e .plain ((s.setFr t (Frame.new mu dl objs nested)).setPc t (pollNext (Frame.new mu dl objs nested) 0))
  | alloc (hs : s = s0) (arr : Nat) (hpc : s0.pc t = .wAlloc) :
      Tail s0 s t e .plain ((s.setFr t { s.fr t with heap := some arr, mallocs := (s.fr t).mallocs + 1 }).setPc t
        (enqNext { s.fr t with heap := some arr, mallocs := (s.fr t).mallocs + 1 } 0 true))
  | init (i : Nat) (r : Rid) (oid : ObjId) (hpc : s0.pc t = .wInit i) (hoid : (s0.fr t).objs[i]? = some oid)
      (hdead : (s0.rcd r).live = false) (hrid : ridOk r (s0.fr t).heap i = true) (hi : i = (s0.fr t).recs.length)
      (hs : s = s0.setRec r (Rec.fresh t oid)) :
      Tail s0 s t e .life ((s.setFr t { s.fr t with recs := (s.fr t).recs ++ [r] }).setPc t
        (if oid.isCv then .wEnqCv i (.spin .ld) else .wEnq i .lockCall))
  | unlockMu (hs : s = s0) (hpc : s0.pc t = .wUnlock) :
      Tail s0 s t e .plain ((s.setFr t { s.fr t with held := false, unlocked := true, who := none }).setPc t
        (loopNext { s.fr t with held := false, unlocked := true, who := none } 0))
  | timeout (hs : s = s0) (j : SemId) (w : Why) (hex : expiredB (s0.fr t).min s0.now = true)
      (hw : w = match (s0.fr t).who with | none => Why.timeout | some k => Why.readyAt k) (hpc : s0.pc t = .wPdWait j) :
      Tail s0 s t e .plain ((s.setFr t { s.fr t with why := w }).setPc t (deqNext { s.fr t with why := w } 0))
  | free (hpc : s0.pc t = .wFree) (hs : s = s0.kill (s0.fr t).recs) :
      Tail s0 s t e .life ((s.setFr t { s.fr t with frees := (s.fr t).frees + 1 }).setPc t
        (relockNext { s.fr t with frees := (s.fr t).frees + 1 }))
  | relock (hs : s = s0) (hpc : s0.pc t = .wRelock) :
      Tail s0 s t e .plain ((s.setFr t { s.fr t with held := true }).setPc t (.wRet (s.fr t).ready))
  | ret (r : Nat) (hpc : s0.pc t = .wRet r)
      (hs : s = s0.kill (if (s0.fr t).heap.isSome then [] else (s0.fr t).recs)) : Tail s0 s t e .life ((s.setFr t Frame.empty).setPc t .idle)

theorem Tail.agree {s0 s s' : State} {t : Tid} {e : Ev} {k : Kind} (a : Tail s0 s t e k s') : Agree s s' t := by
  cases a
  case same => exact .refl _ _
  case goto => exact (Agree.refl _ _).setPc _
  case giveUp => exact (Agree.refl _ _).setPc _
  case nested => exact (Agree.refl _ _).setMc _
  case dflt h => exact agree_dflt h
  case rtDone h => exact agree_rtDone h
  case afterEnq h => exact agree_afterEnq h
  case deqDone h => exact agree_deqDone h
  case v h => exact (agree_postSem h).setSem _ _
  case vgoto h _ _ _ _ _ _ => exact ((agree_postSem h).setSem _ _).setPc _
  case pdEnter h => exact (agree_bindSem h).setPc _
  case pdWake => exact ((Agree.refl _ _).setSem _ _).trans (agree_startScan _ _)
  all_goals exact ((Agree.refl _ _).setFr _).setPc _

/-- an accepted step: an `Act` on what the threads share, then a `Tail` on what is the stepping thread's own -/
def Steps (s : State) (t : Tid) (e : Ev) (s' : State) : Prop := ∃ k s1, Act s t k s1 ∧ Tail s s1 t e k s'

/-- … seen from outside the stepping thread -/
def Acts (s : State) (t : Tid) (s' : State) : Prop := ∃ k s1, Act s t k s1 ∧ Agree s1 s' t

theorem Steps.acts {s s' : State} {t : Tid} {e : Ev} (h : Steps s t e s') : Acts s t s' :=
  let ⟨k, s1, a, b⟩ := h; ⟨k, s1, a, b.agree⟩

theorem Steps.skip {s s' : State} {t : Tid} {e : Ev} (a : Tail s s t e .plain s') : Steps s t e s' := ⟨_, s, .skip, a⟩

theorem lock_none_of_even {o : Obj} (h : cvWord o % 2 = 0) : o.lock = none := by
  unfold cvWord at h
  cases hl : o.lock with
  | none => rfl
  | some t => rw [hl] at h; cases o.flag <;> simp [b2n] at h

theorem bindSem_setPost {s s2 : State} {o : Tid} {j : SemId} (t : Tid) (x : Option Rid) (h : bindSem s o j = some s2) :
    bindSem (s.setPost t x) o j = some (s2.setPost t x) := by
  unfold bindSem at *
  simp only [setPost_fr, setPost_semUser]
  split at h
  · split at h <;> cases h
    rw [if_pos ‹_›]
  · split at h <;> cases h
    rfl

theorem postSem_setPost {s s2 : State} {r : Rid} {j : SemId} (t : Tid) (x : Option Rid) (h : postSem s r j = some s2) :
    postSem (s.setPost t x) r j = some (s2.setPost t x) := by
  unfold postSem at *
  split at h <;> rename_i hc <;> split <;> rename_i hc'
  · exact bindSem_setPost t x h
  · exact absurd hc hc'
  · exact absurd hc' hc
  · cases h; rfl

theorem dflt_frame {s s' : State} {t : Tid} {e : Ev} (h : dflt s t e = .ok s') :
    s'.pc = s.pc ∧ s'.fr = s.fr ∧ s'.post = s.post ∧ s'.rcd = s.rcd := by
  obtain ⟨f, rfl⟩ := dflt_sem h; exact ⟨rfl, rfl, rfl, rfl⟩

theorem spinAcq_pc {s s' : State} {t : Tid} {c : Nat} {st : SpinSt} {mk : SpinSt → PC} {done : PC} {e : Ev}
    (h : spinAcq s t c st mk done e = .ok s') :
    s'.fr = s.fr ∧ s'.rcd = s.rcd ∧ s'.post = s.post ∧ ((∃ x, s'.pc t = mk x) ∨ s'.pc t = done ∨ s'.pc t = s.pc t) := by
  unfold spinAcq at h
  split_ok h
  all_goals first
    | (cases h; exact ⟨rfl, rfl, rfl, .inl ⟨_, if_pos rfl⟩⟩)
    | (cases h; exact ⟨rfl, rfl, rfl, .inr (.inl (if_pos rfl))⟩)
    | (obtain ⟨h1, h2, h3, h4⟩ := dflt_frame h; exact ⟨h2, h4, h3, .inr (.inr (by rw [h1]))⟩)

/-- a move along an edge from program point `q` -/
theorem Tail.goto_of {s s1 : State} {t : Tid} {e : Ev} {p q : PC} (hpc : s.pc t = q) (hf : Flow q p) :
    Tail s s1 t e .plain (s1.setPc t p) :=
  .goto _ (by rw [hpc]; exact hf)

/-- closes the leaves of the step function at program point `hpc` that change nothing shared -/
macro "steps_skip" hpc:ident h:ident : tactic =>
  `(tactic| first
    | exact .skip (.dflt rfl $h)
    | exact .skip (.rtDone rfl _ _ _ (by rw [$hpc:ident]; constructor) $h)
    | exact .skip (.afterEnq _ _ (by rw [$hpc:ident]; constructor) $h)
    | (cases $h:ident; first
        | exact .skip (.same (by rw [$hpc:ident]; rfl))
        | exact .skip (.goto_of $hpc (by repeat (first | constructor | assumption)))))

theorem steps_spinAcq {s s' : State} {t : Tid} {c : Nat} {st : SpinSt} {mk : SpinSt → PC} {done : PC} {e : Ev}
    (hmk : ∀ b, SpinE st b → Flow (s.pc t) (mk b)) (hdone : ∀ v, st = .cas v → Flow (s.pc t) done)
    (h : spinAcq s t c st mk done e = .ok s') : Steps s t e s' := by
  unfold spinAcq at h
  split_ok h
  · cases h; exact .skip (.goto _ (hmk _ .again))
  · cases h; exact .skip (.goto _ (hmk _ (.try_ _)))
  · rename_i hok hg
    cases h
    refine ⟨_, _, .acquire (.cv c) (lock_none_of_even ?_), .goto _ (hdone _ rfl)⟩
    obtain ⟨_, h2, h3, _, h5, h6⟩ := hg
    rw [hok] at h6
    rw [← h5, of_decide_eq_true h6.symm, h2]; exact h3
  · cases h; exact .skip (.goto _ (hmk _ (.fail _)))
  · exact .skip (.dflt rfl h)

theorem steps_proto {s s' : State} {t : Tid} {e : Ev} (ho : driven (s.pc t) = true) (h : proto s t e = .ok s') :
    Steps s t e s' := by
  unfold proto at h
  split_ok h
  all_goals try first | exact .skip (.dflt rfl h) | (cases h; exact .skip (.same (stays_of_driven ho)))
  · cases h; exact .skip (.nested ho _)
  · cases h
    have hg := ‹_ ∧ _›
    exact ⟨_, _, .unlock _ hg.1, .nested ho _⟩
  · cases h
    have hg := ‹_ ∧ _›
    exact ⟨_, _, .notify _ hg.1, .same (stays_of_driven ho)⟩
  · cases h
    have hg := ‹_ ∧ _›
    exact ⟨_, _, .value _ _ hg.1 ‹¬ _›, .same (stays_of_driven ho)⟩
  · cases h
    obtain ⟨rfl, hcv, hl, hw, hp, -⟩ := ‹_ ∧ _›
    exact ⟨_, _, .pop _ _ ‹_ = _ :: _› (by simpa using hcv) hl hw hp, .same (stays_of_driven ho)⟩
  · cases h
    exact ⟨_, _, .posted _ ‹s.post t = some _›, .v ho _ _ _ ‹s.post t = some _› rfl (postSem_setPost t none ‹postSem _ _ _ = some _›)⟩

theorem steps_stepOpen {s s' : State} {t : Tid} {e : Ev} (ho : driven (s.pc t) = true) (h : stepOpen s t e = .ok s') :
    Steps s t e s' := by
  unfold stepOpen at h
  split_ok h
  all_goals try exact .skip (.dflt rfl h)
  · cases h
    have hg := ‹_ ∧ _›
    exact ⟨_, _, .acquire _ hg.1, .nested ho _⟩
  · cases h; exact .skip (.nested ho _)
  · exact steps_proto ho h

theorem steps_stepSg {s s' : State} {t : Tid} {e : Ev} {c : Nat} {bc : Bool} {st : SgSt} (hpc : s.pc t = .sg c bc st)
    (h : stepSg s t c bc st e = .ok s') : Steps s t e s' := by
  unfold stepSg at h
  split_ok h
  all_goals try steps_skip hpc h
  · exact steps_spinAcq (fun _ hb => by rw [hpc]; exact .sg c bc (.spin hb))
      (fun v hv => by rw [hpc, hv]; exact .sg c bc (.got v)) h
  iterate 2
    · cases h
      have hg := ‹_ ∧ _›
      exact ⟨_, _, .sgUnlink c bc _ [] false hpc hg.2.1 (List.append_nil _),
        .goto_of hpc (by repeat (first | constructor | assumption))⟩
  iterate 2
    · cases h
      have hg := ‹_ ∧ _›
      exact ⟨_, _, .sgUnlink c bc _ _ _ hpc hg.2.1 (List.take_append_drop 1 _),
        .goto_of hpc (by repeat (first | constructor | assumption))⟩
  · cases h; exact ⟨_, _, .sgWake c bc _ _ hpc ‹s.post t = none›, .same (by rw [hpc]; rfl)⟩
  iterate 2
    · cases h
      exact ⟨_, _, .posted _ ‹s.post t = some _›,
        .vgoto _ _ _ ‹s.post t = some _› rfl (postSem_setPost t none ‹postSem _ _ _ = some _›) _ _ _ _ hpc (by repeat (first | constructor | assumption))⟩

theorem steps_stepCtrRT {s s' : State} {t : Tid} {e : Ev} {u : Use} {i : Nat} {l : Bool} (hpc : s.pc t = .wCtrRT u i l)
    (h : stepCtrRT s t u i l e = .ok s') : Steps s t e s' := by
  unfold stepCtrRT at h
  split_ok h
  all_goals try steps_skip hpc h
  cases h; exact ⟨_, _, .waited _, .goto_of hpc (by repeat (first | constructor | assumption))⟩

theorem steps_stepND {s s' : State} {t : Tid} {e : Ev} {u : Use} {i : Nat} {st : NDst} (hpc : s.pc t = .wND u i st)
    (h : stepND s t u i st e = .ok s') : Steps s t e s' := by
  have go : ∀ {s1 : State} {st' : NDst}, NdE st st' → Tail s s1 t e .plain (s1.setPc t (.wND u i st')) :=
    fun h => .goto_of hpc (.nd u i h)
  unfold stepND at h
  split_ok h
  all_goals try steps_skip hpc h
  · cases h; exact ⟨_, _, .acquire _ ‹_ = none›, go (by constructor)⟩
  · cases h
    have hg := ‹_ ∧ _›
    exact ⟨_, _, .unlock _ hg.2, go (by constructor)⟩
  · cases h; exact ⟨_, _, .acquire _ ‹_ = none›, go (by constructor)⟩
  · cases h
    have hg := ‹_ ∧ _›
    exact ⟨_, _, .notify _ hg.2.2.2.2, go (by constructor)⟩
  · cases h
    have hg := ‹_ ∧ _›
    exact ⟨_, _, .unlock _ hg.1, go (by constructor)⟩
  · exact steps_stepOpen (by rw [hpc]; rfl) h
  · exact steps_stepOpen (by rw [hpc]; rfl) h
  · cases h
    have hg := ‹_ ∧ _›
    exact ⟨_, _, .unlock _ hg.2, go (by constructor)⟩

theorem steps_stepEnqCv {s s' : State} {t : Tid} {e : Ev} {i : Nat} {st : CvEnqSt} (hpc : s.pc t = .wEnqCv i st)
    (h : stepEnqCv s t i st e = .ok s') : Steps s t e s' := by
  unfold stepEnqCv at h
  split_ok h
  all_goals try steps_skip hpc h
  · exact steps_spinAcq (fun _ hb => by rw [hpc]; exact .enqCv i (.spin hb))
      (fun v hv => by rw [hpc, hv]; exact .enqCv i (.got v)) h
  · cases h
    have hg := ‹_ ∧ _›
    exact ⟨_, _, .enqueue i _ _ (.inl hpc) ‹_[i]? = some (_ : Rid)› ‹_[i]? = some (_ : ObjId)› hg.2.2.2,
      .goto_of hpc (by repeat (first | constructor | assumption))⟩
  · have hg := ‹_ ∧ _›
    exact ⟨_, _, .cvRelease _ true hg.2.1, .afterEnq _ _ (by rw [hpc]; constructor) h⟩

theorem steps_stepEnq {s s' : State} {t : Tid} {e : Ev} {i : Nat} {st : EnqSt} (hpc : s.pc t = .wEnq i st)
    (h : stepEnq s t i st e = .ok s') : Steps s t e s' := by
  have go : ∀ {s1 : State} {st' : EnqSt}, EnqE st st' → Tail s s1 t e .plain (s1.setPc t (.wEnq i st')) :=
    fun h => .goto_of hpc (.enq i h)
  unfold stepEnq at h
  split_ok h
  all_goals try steps_skip hpc h
  · cases h; exact ⟨_, _, .acquire _ ‹_ = none›, go (by constructor)⟩
  · subst ‹_ = true›; cases h
    have hg := ‹_ ∧ _›
    exact ⟨_, _, .enqueue i _ _ (.inr hpc) ‹_[i]? = some (_ : Rid)› ‹_[i]? = some (_ : ObjId)› hg.2.2.2.1, go (by constructor)⟩
  · cases h
    have hf := (Bool.not_eq_true _).mp ‹¬ _ = true›
    subst hf
    exact ⟨_, _, .refused i _ hpc ‹_[i]? = some (_ : Rid)›, go (by constructor)⟩
  · subst ‹_ = true›; cases h
    have hg := ‹_ ∧ _›
    exact ⟨_, _, .enqueue i _ _ (.inr hpc) ‹_[i]? = some (_ : Rid)› ‹_[i]? = some (_ : ObjId)› hg.2.2.2.1, go (by constructor)⟩
  · cases h
    have hf := (Bool.not_eq_true _).mp ‹¬ _ = true›
    subst hf
    exact ⟨_, _, .refused i _ hpc ‹_[i]? = some (_ : Rid)›, go (by constructor)⟩
  · cases h
    have hg := ‹_ ∧ _›
    exact ⟨_, _, .unlock _ hg.2, go (by constructor)⟩

theorem steps_stepDeqCv {s s' : State} {t : Tid} {e : Ev} {j : Nat} {st : CvDeqSt} (hpc : s.pc t = .wDeqCv j st)
    (h : stepDeqCv s t j st e = .ok s') : Steps s t e s' := by
  have go : ∀ {s1 : State} {st' : CvDeqSt}, CvDeqE st st' → Tail s s1 t e .plain (s1.setPc t (.wDeqCv j st')) :=
    fun h => .goto_of hpc (.deqCv j h)
  unfold stepDeqCv at h
  split_ok h
  all_goals try steps_skip hpc h
  · exact steps_spinAcq (fun _ hb => by rw [hpc]; exact .deqCv j (.spin hb))
      (fun v hv => by rw [hpc, hv]; exact .deqCv j (.got v)) h
  · cases h
    have hg := ‹_ ∧ _›
    exact ⟨_, _, .remove j _ _ (.inl ⟨hpc, List.contains_iff_mem.mp hg.2.2.2.2⟩) ‹_[j]? = some (_ : Rid)›
      ‹_[j]? = some (_ : ObjId)› hg.2.2.2.1, go (by constructor)⟩
  · cases h
    have hg := ‹_ ∧ _›
    have hn : ¬ _ ∈ _ := fun hm => by
      have := hg.2.2.2.2; rw [List.contains_iff_mem.mpr hm] at this; cases this
    exact ⟨_, _, .cvRelease _ _ hg.2.1,
      .giveUp j _ _ _ hpc ‹_[j]? = some (_ : ObjId)› ‹_[j]? = some (_ : Rid)› hn rfl⟩
  · have hg := ‹_ ∧ _›
    exact ⟨_, _, .cvReleaseDeq j _ _ _ _ hpc ‹_[j]? = some (_ : Rid)› hg.2.1, .deqDone _ _ _ ‹_[j]? = some (_ : Rid)› (by rw [setRec_rcd, if_pos rfl]) (.inl hpc) h⟩
  · have hg := ‹_ ∧ _›
    have h0 := ‹_ = 0›
    rw [hg.2, b2n_eq_zero] at h0
    exact ⟨_, _, .wspinDone j _ hpc ‹_[j]? = some (_ : Rid)› h0,
      .deqDone _ _ _ ‹_[j]? = some (_ : Rid)› (by rw [setRec_rcd, if_pos rfl]) (.inr (.inl ⟨hpc, rfl, h0⟩)) h⟩

theorem steps_stepDeq {s s' : State} {t : Tid} {e : Ev} {j : Nat} {st : DeqSt} (hpc : s.pc t = .wDeq j st)
    (h : stepDeq s t j st e = .ok s') : Steps s t e s' := by
  have go : ∀ {s1 : State} {st' : DeqSt}, DeqE st st' → Tail s s1 t e .plain (s1.setPc t (.wDeq j st')) :=
    fun h => .goto_of hpc (.deq j h)
  unfold stepDeq at h
  split_ok h
  all_goals try steps_skip hpc h
  · cases h; exact ⟨_, _, .acquire _ ‹_ = none›, go (by constructor)⟩
  iterate 2
    · cases h
      have hg := ‹_ ∧ _›
      exact ⟨_, _, .remove j _ _ (.inr ⟨_, hpc⟩) ‹_[j]? = some (_ : Rid)› ‹_[j]? = some (_ : ObjId)› hg.2.2.2.1, go (by constructor)⟩
  · cases h
    have hg := ‹_ ∧ _›
    exact ⟨_, _, .unlockDeq j _ _ _ hpc ‹_[j]? = some (_ : Rid)› hg.2, go (by constructor)⟩
  · exact .skip (.deqDone _ _ _ ‹_[j]? = some (_ : Rid)› rfl (.inr (.inr hpc)) h)

theorem steps_stepInit {s s' : State} {t : Tid} {e : Ev} {i : Nat} (hpc : s.pc t = .wInit i)
    (h : stepInit s t i e = .ok s') : Steps s t e s' := by
  unfold stepInit at h
  dsimp only at h
  split at h
  · split at h
    · cases h
      have hg := ‹_ ∧ _›
      exact ⟨_, _, .init i _ _ hpc ‹_[i]? = some (_ : ObjId)› hg.2.1 hg.2.2.2,
        .init i _ _ hpc ‹_[i]? = some (_ : ObjId)› hg.2.1 hg.2.2.1 hg.2.2.2 rfl⟩
    · cases h
  · exact .skip (.dflt rfl h)

theorem steps_stepPdEnter {s s' : State} {t : Tid} {e : Ev} (hpc : s.pc t = .wPdEnter)
    (h : stepPdEnter s t e = .ok s') : Steps s t e s' := by
  unfold stepPdEnter at h
  split_ok h
  all_goals try exact .skip (.dflt rfl h)
  cases h; exact .skip (.pdEnter rfl _ _ _ hpc rfl ‹bindSem _ _ _ = some _›)

theorem steps_stepPdWait {s s' : State} {t : Tid} {e : Ev} {j : SemId} (hpc : s.pc t = .wPdWait j)
    (h : stepPdWait s t j e = .ok s') : Steps s t e s' := by
  unfold stepPdWait at h
  split_ok h
  all_goals try exact .skip (.dflt rfl h)
  · cases h; exact .skip (.timeout rfl j _ ‹_› (by simp only [*]) hpc)
  · cases h; exact .skip (.timeout rfl j _ ‹_› (by simp only [*]) hpc)
  · subst ‹_ = j›
    have hf := (Bool.not_eq_true _).mp ‹¬ _ = true›
    subst hf
    cases h; exact .skip (.pdWake rfl _ _ hpc rfl ‹_ = _ + 1›)

theorem steps_stepFree {s s' : State} {t : Tid} {e : Ev} (hpc : s.pc t = .wFree) (h : stepFree s t e = .ok s') :
    Steps s t e s' := by
  unfold stepFree at h
  split_ok h
  all_goals try exact .skip (.dflt rfl h)
  cases h; exact ⟨_, _, .kill _ (.inl ⟨hpc, rfl⟩), .free hpc rfl⟩

theorem steps_stepRet {s s' : State} {t : Tid} {e : Ev} {r : Nat} (hpc : s.pc t = .wRet r)
    (h : stepRet s t r e = .ok s') : Steps s t e s' := by
  unfold stepRet at h
  dsimp only at h
  split at h
  · split at h
    · cases h; exact ⟨_, _, .kill _ (.inr ⟨r, hpc, rfl⟩), .ret r hpc rfl⟩
    · cases h
  · exact .skip (.dflt rfl h)

theorem steps_stepIdle {s s' : State} {t : Tid} {e : Ev} (hpc : s.pc t = .idle) (h : stepIdle s t e = .ok s') :
    Steps s t e s' := by
  unfold stepIdle at h
  split_ok h
  · cases h
    have hg := ‹_ ∧ _›
    exact .skip (.call _ _ _ _ hpc hg.2.2.1 hg.2.2.2 rfl)
  · cases h; exact .skip (.goto_of hpc (by repeat (first | constructor | assumption)))
  · cases h; exact ⟨_, _, .newNote _ _ ‹_ = false›, .same (by rw [hpc]; rfl)⟩
  · cases h; exact ⟨_, _, .newCtr _ _ ‹_ = false›, .same (by rw [hpc]; rfl)⟩
  · exact steps_stepOpen (by rw [hpc]; rfl) h

/-- the statements of wait.c that only assign locals of the caller -/
theorem steps_local {s s' : State} {t : Tid} {e : Ev}
    (h : (s.pc t = .wAlloc ∧ stepAlloc s t e = .ok s') ∨ (s.pc t = .wUnlock ∧ stepUnlockMu s t e = .ok s')
        ∨ (s.pc t = .wRelock ∧ stepRelock s t e = .ok s') ∨ ∃ j, s.pc t = .wCvRT j ∧ stepCvRT s t j e = .ok s') :
    Steps s t e s' := by
  rcases h with ⟨hpc, h⟩ | ⟨hpc, h⟩ | ⟨hpc, h⟩ | ⟨j, hpc, h⟩
  · unfold stepAlloc at h; split_ok h
    all_goals try exact .skip (.dflt rfl h)
    cases h; exact .skip (.alloc rfl _ hpc)
  · unfold stepUnlockMu at h; split_ok h
    all_goals try exact .skip (.dflt rfl h)
    cases h; exact .skip (.unlockMu rfl hpc)
  · unfold stepRelock at h; split_ok h
    all_goals try exact .skip (.dflt rfl h)
    cases h; exact .skip (.relock rfl hpc)
  · unfold stepCvRT at h; split_ok h <;> steps_skip hpc h

/-- every accepted step of a thread is an `Act` followed by a `Tail` -/
theorem steps_stepThr {s s' : State} {t : Tid} {e : Ev} (h : stepThr s t e = .ok s') : Steps s t e s' := by
  unfold stepThr at h
  split at h <;> rename_i hpc
  · exact steps_stepIdle hpc h
  · cases h
  · exact steps_stepSg hpc h
  · exact steps_stepCtrRT hpc h
  · exact steps_stepND hpc h
  · exact steps_stepEnqCv hpc h
  · exact steps_stepEnq hpc h
  · exact steps_stepDeqCv hpc h
  · exact steps_stepDeq hpc h
  · exact steps_local (.inl ⟨hpc, h⟩)
  · exact steps_stepInit hpc h
  · exact steps_local (.inr (.inl ⟨hpc, h⟩))
  · exact steps_local (.inr (.inr (.inr ⟨_, hpc, h⟩)))
  · exact steps_stepPdEnter hpc h
  · exact steps_stepPdWait hpc h
  · exact steps_stepFree hpc h
  · exact steps_local (.inr (.inr (.inl ⟨hpc, h⟩)))
  · exact steps_stepRet hpc h

theorem act_stepThr {s s' : State} {t : Tid} {e : Ev} (h : stepThr s t e = .ok s') : Acts s t s' :=
  (steps_stepThr h).acts

/-- what a step of `t` may do to the thread-indexed components of other threads -/
def Others (s s' : State) (t : Tid) : Prop :=
  ∀ u, u ≠ t → s'.pc u = s.pc u ∧ s'.mc u = s.mc u ∧ s'.post u = s.post u ∧ frSame (s.fr u) (s'.fr u)

theorem Others.of_acts {s s' : State} {t : Tid} (h : Acts s t s') : Others s s' t := by
  obtain ⟨_, s1, a, g⟩ := h
  intro u hu
  refine ⟨?_, ?_, ?_, ?_⟩
  · rw [g.pc u hu, a.pc]
  · rw [g.mc u hu, a.mc]
  · rw [g.post, a.post_ne hu]
  · have := g.fr u hu; rwa [a.fr] at this

theorem others_stepThr {s s' : State} {t : Tid} {e : Ev} (h : stepThr s t e = .ok s') : Others s s' t :=
  .of_acts (act_stepThr h)

end WaitN
