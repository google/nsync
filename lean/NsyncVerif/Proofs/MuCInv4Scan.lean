import NsyncVerif.Proofs.MuCInv1
import NsyncVerif.Proofs.MuCInv4
/-
  MuC (I_queue): steps that end in the plain code of the scan of unlock_slow.
-/
namespace NsyncVerif.MuC

/-- The plain code computes `cEmpty` of the final CAS from the queue it leaves. -/
theorem scanInv_finq (t : Tid) (r : Ret) :
    ScanInv t r (fun _ _ => True) (fun s' => ∀ f, (s'.pc t).finOf = some f → f.cEmpty = s'.queue.isEmpty) where
  eval := fun _ _ f hf => by simp [PC.finOf] at hf
  remove := fun _ _ f hf => by simp [PC.finOf] at hf
  iterEnd := fun _ _ => trivial
  reLd := fun _ _ f hf => by simp [PC.finOf] at hf
  fin := fun _ _ f hf => by simp [toFin, PC.finOf] at hf; subst hf; simp [mkFin, toFin]
  pick := fun _ _ => trivial
  relLd := fun _ _ f hf => by simp [PC.finOf] at hf

theorem afterEval_finq {s : State} {sc : Scan} {t : Tid} {r : Ret} {res : Bool} {s' : State}
    (h : afterEval s t r sc res = .ok s') : ∀ f, (s'.pc t).finOf = some f → f.cEmpty = s'.queue.isEmpty :=
  (scanInv_finq t r).afterEval h (fun _ _ _ _ => trivial) (fun _ _ _ _ _ f hf => by simp [PC.finOf] at hf) (fun _ _ _ _ _ => trivial)

theorem scanPc_ws {r : Ret} {late : Bool} {p : PC} (h : ScanPc r late p) : p.ws = r.ws := by
  cases p <;> simp [ScanPc] at h <;> simp [PC.ws, h]

theorem scanPc_limbo' {r : Ret} {late : Bool} {p : PC} (h : ScanPc r late p) : p.limbo = none := by
  cases p <;> simp [ScanPc] at h <;> rfl

/-- Thread `t`, the only unlocker, permutes queue, private lists and wake list. -/
theorem Inv4.scan_step {s s' : State} (t : Tid) (h : Inv4 s)
    (hwr : ∀ x, (s'.wr x).owner = (s.wr x).owner ∧ (s'.wr x).waiting = (s.wr x).waiting)
    (hpc : ∀ u, u ≠ t → s'.pc u = s.pc u)
    (hperm : (allOf s' t).Perm (allOf s t))
    (hoth : ∀ u, u ≠ t → (s.pc u).unl = false)
    (hws : ∀ k, k ∈ (s'.pc t).ws → k ∈ (s.pc t).ws)
    (hlb : (s'.pc t).limbo = none)
    (hfin : ∀ f, (s'.pc t).finOf = some f → f.cEmpty = s'.queue.isEmpty) : Inv4 s' := by
  have hmem : ∀ x, x ∈ allOf s' t ↔ x ∈ allOf s t := fun x => hperm.mem_iff
  have hold : ∀ x, x ∈ allOf s t → (s.wr x).waiting = true := by
    intro x hx
    simp only [allOf, List.mem_append] at hx
    rcases hx with (hx | hx) | hx
    · exact h.wait x (Or.inl hx)
    · obtain ⟨sc, h1, h2⟩ := mem_priv_iff.1 hx
      exact h.wait x (Or.inr ⟨t, sc, h1, h2⟩)
    · exact (h.wk t x hx).1
  have hprivu : ∀ u, u ≠ t → (s'.pc u).priv = [] := fun u hu => by rw [hpc u hu]; exact priv_nil_of_not_unl (hoth u hu)
  have hQ' : ∀ x, Queued s' x → x ∈ allOf s' t := by
    intro x hx
    rcases hx with hx | ⟨u, sc, h1, h2⟩
    · simp [allOf, hx]
    · by_cases hu : u = t
      · subst hu; simp only [allOf, List.mem_append]; exact Or.inl (Or.inr (mem_priv_iff.2 ⟨sc, h1, h2⟩))
      · have := hprivu u hu
        have h3 := mem_priv_iff.2 ⟨sc, h1, h2⟩
        rw [this] at h3; cases h3
  have hQs : ∀ x, x ∈ allOf s t → Queued s x ∨ x ∈ (s.pc t).wakeL := by
    intro x hx
    simp only [allOf, List.mem_append] at hx
    rcases hx with (hx | hx) | hx
    · exact Or.inl (Or.inl hx)
    · obtain ⟨sc, h1, h2⟩ := mem_priv_iff.1 hx
      exact Or.inl (Or.inr ⟨t, sc, h1, h2⟩)
    · exact Or.inr hx
  have hndt : (allOf s' t).Nodup := (List.Perm.nodup_iff hperm).2 (h.nd t)
  -- members of other threads' wake lists and limbo records are not on `t`'s lists
  have hout : ∀ u x, u ≠ t → x ∈ (s.pc u).wakeL → x ∉ allOf s t := by
    intro u x hu hx hin
    rcases hQs x hin with e | e
    · exact (h.wk u x hx).2 e
    · exact hu (h.wkd u t x hx e)
  refine ⟨?_, ?_, ?_, ?_, ?_, ?_, ?_, ?_⟩
  · intro u x hx
    rw [(hwr x).1]
    by_cases hu : u = t
    · subst hu; exact h.own u x (hws x hx)
    · rw [hpc u hu] at hx; exact h.own u x hx
  · intro u v hu hv
    have : ∀ w, (s'.pc w).unl = true → w = t := by
      intro w hw
      by_cases e : w = t
      · exact e
      · rw [hpc w e, hoth w e] at hw; cases hw
    rw [this u hu, this v hv]
  · intro u
    by_cases hu : u = t
    · subst hu; exact hndt
    · simp only [allOf, hprivu u hu, List.append_nil]
      rw [hpc u hu]
      have hq : s'.queue.Nodup := by
        simp only [allOf, List.append_assoc] at hndt; exact (List.nodup_append.mp hndt).1
      have hw : (s.pc u).wakeL.Nodup := by
        have := h.nd u; simp only [allOf] at this; exact (List.nodup_append.mp this).2.1
      refine List.nodup_append.mpr ⟨hq, hw, ?_⟩
      intro a ha b hb hab
      subst hab
      have : a ∈ allOf s' t := by simp [allOf, ha]
      exact hout u a hu hb ((hmem a).1 this)
  · intro x hx
    rw [(hwr x).2]; exact hold x ((hmem x).1 (hQ' x hx))
  · intro u x hx
    by_cases hu : u = t
    · subst hu
      have hin : x ∈ allOf s' u := by simp [allOf, hx]
      refine ⟨by rw [(hwr x).2]; exact hold x ((hmem x).1 hin), fun hq => ?_⟩
      -- x would occur twice in allOf s' u
      have hqx : x ∈ s'.queue ++ (s'.pc u).priv := by
        rcases hq with hq | ⟨v, sc, h1, h2⟩
        · simp [hq]
        · by_cases hv : v = u
          · subst hv; exact List.mem_append_right _ (mem_priv_iff.2 ⟨sc, h1, h2⟩)
          · have h3 := mem_priv_iff.2 ⟨sc, h1, h2⟩; rw [hprivu v hv] at h3; cases h3
      simp only [allOf] at hndt
      exact (List.nodup_append.mp hndt).2.2 x hqx x hx rfl
    · rw [hpc u hu] at hx
      obtain ⟨a, _⟩ := h.wk u x hx
      exact ⟨by rw [(hwr x).2]; exact a, fun hq => hout u x hu hx ((hmem x).1 (hQ' x hq))⟩
  · intro u x hx
    by_cases hu : u = t
    · subst hu; rw [hlb] at hx; cases hx
    · rw [hpc u hu] at hx
      obtain ⟨a, b, c⟩ := h.limbo u x hx
      have hnot : x ∉ allOf s t := by
        intro hin
        rcases hQs x hin with e | e
        · exact b e
        · exact c t e
      refine ⟨by rw [(hwr x).2]; exact a, fun hq => hnot ((hmem x).1 (hQ' x hq)), fun v => ?_⟩
      by_cases hv : v = t
      · subst hv; intro e; exact hnot ((hmem x).1 (by simp [allOf, e]))
      · rw [hpc v hv]; exact c v
  · intro u f hf
    by_cases hu : u = t
    · subst hu; exact hfin f hf
    · rw [hpc u hu] at hf
      have := unl_of_fin hf; rw [hoth u hu] at this; cases this
  · intro u v x hu hv
    by_cases eu : u = t
    · by_cases ev : v = t
      · rw [eu, ev]
      · exfalso
        rw [hpc v ev] at hv
        subst eu
        exact hout v x ev hv ((hmem x).1 (by simp [allOf, hu]))
    · by_cases ev : v = t
      · exfalso
        rw [hpc u eu] at hu
        subst ev
        exact hout u x eu hu ((hmem x).1 (by simp [allOf, hv]))
      · rw [hpc u eu] at hu; rw [hpc v ev] at hv; exact h.wkd u v x hu hv

/-- An unlocker between grab and final CAS owns the writer bit or the spinlock. -/
theorem unl_cases {s : State} (h1 : Inv1 s) (h3 : Inv3 s) {u : Tid} (hu : (s.pc u).unl = true) :
    shareOf s u = some .W ∨ s.word.spin = true := by
  have hok := h1.pcok u
  have hok3 := h3.ok3 u
  have hse := h1.share_eq (t := u)
  have hspin : (s.pc u).spin = true → s.word.spin = true := fun e => by
    rw [h3.bit, (h3.own u).2 e]; rfl
  have key : ∀ sc' : Scan, pcShare (s.pc u) = (if sc'.late then some .W else none) → sc'.ok →
      ((s.pc u).spin = !sc'.tc ∨ (s.pc u).spin = true ∨ sc'.tc = true) → s.pc u ≠ .idle →
      shareOf s u = some .W ∨ s.word.spin = true := by
    intro sc' h1' h2 h3' h4
    have hs := hse h4
    rw [h1'] at hs
    cases hl : sc'.late with
    | true => rw [hl] at hs; exact Or.inl (by simpa using hs)
    | false =>
      have htc : sc'.tc = false := by
        cases ht : sc'.tc with
        | false => rfl
        | true => have := h2 ht; rw [hl] at this; cases this
      rcases h3' with h3' | h3' | h3'
      · rw [htc] at h3'; exact Or.inr (hspin h3')
      · exact Or.inr (hspin h3')
      · rw [htc] at h3'; cases h3'
  cases hpc : s.pc u <;> rw [hpc] at hu <;> simp [PC.unl] at hu <;> rw [hpc] at hok hok3 key hspin
  case usRelLd r sc0 => exact key sc0 rfl hok.2 (Or.inr (Or.inl rfl)) (by simp)
  case usRelCas r sc0 old => exact key sc0 rfl hok.2 (Or.inr (Or.inl rfl)) (by simp)
  case usEval r sc0 => exact key sc0 rfl hok.2.1 (Or.inr (Or.inr hok.2.2.1)) (by simp)
  case usRcLd r sc0 k => exact key sc0 rfl hok.2 (Or.inl rfl) (by simp)
  case usRcCas r sc0 k old => exact key sc0 rfl hok.2 (Or.inl rfl) (by simp)
  case usReLd r sc0 => exact key sc0 rfl hok.2 (Or.inr (Or.inr hok3)) (by simp)
  case usReCas r sc0 old => exact key sc0 rfl hok.2 (Or.inr (Or.inr hok3.2)) (by simp)
  case usFinLd r f => exact Or.inr (hspin rfl)
  case usFinCas r f old => exact Or.inr (hspin rfl)

/-- When a thread that owns a share finds the spinlock free, nobody is between grab and final CAS. -/
theorem no_unl_at_grab {s : State} (h1 : Inv1 s) (h3 : Inv3 s) {t : Tid} (ht : shareOf s t ≠ none)
    (hsp : s.word.spin = false) (u : Tid) (hu : u ≠ t) : (s.pc u).unl = false := by
  cases hunl : (s.pc u).unl with
  | false => rfl
  | true =>
    rcases unl_cases h1 h3 hunl with e | e
    · exact absurd (h1.lock.writer_alone e ht).symm hu
    · rw [hsp] at e; cases e

end NsyncVerif.MuC
