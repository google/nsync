/-
Layer `Dll` (C17): arbitrary operation sequences on arbitrarily many disjoint lists.

Abstract state `Spec`: a sequence `List Addr` for every list id (`LId = Nat`, unboundedly many
lists) plus the set of free (self-linked, in no list) elements.
Concrete state `Conc`: the model heap plus one handle per list id.
`Inv C A` says that every handle represents its abstract sequence simultaneously, that the
sequences are pairwise disjoint, and that every free element is a singleton ring in no list.
`Inv.step` shows that every contract-abiding operation preserves `Inv`.
-/
import NsyncVerif.Proofs.DllSpec
import NsyncVerif.Proofs.DllTraverse

namespace Dll

abbrev LId := Nat

structure Spec where
  lists : LId → List Addr
  free : Addr → Prop

structure Conc where
  heap : Heap
  handle : LId → Addr

/-- Operations a client performs (as `mu.c`, `cv.c`, … do): initialise an element, insert a free
element first/last, remove an element, move a whole list to the front/back of another one
(the multi-element use of `make_first`/`make_last`, i.e. a genuine splice of two rings). -/
inductive Op where
  | init (e : Addr) (container : Nat)
  | makeFirst (lid : LId) (e : Addr)
  | makeLast (lid : LId) (e : Addr)
  | remove (lid : LId) (e : Addr)
  | makeFirstAll (lid lid' : LId)
  | makeLastAll (lid lid' : LId)
  | splice (lid : LId) (p : Addr) (lid' : LId) (n : Addr)

def upd {α : Type} (f : LId → α) (i : LId) (v : α) : LId → α := fun j => if j = i then v else f j

@[simp] theorem upd_same {α : Type} (f : LId → α) (i : LId) (v : α) : upd f i v i = v := by
  simp [upd]

theorem upd_other {α : Type} (f : LId → α) {i j : LId} (v : α) (h : j ≠ i) : upd f i v j = f j := by
  simp [upd, h]

theorem upd_self {α : Type} (f : LId → α) (i : LId) : upd f i (f i) = f :=
  funext fun j => by by_cases h : j = i <;> simp [upd, h]

/-- The documented contract of each operation, on the abstract state. -/
def Op.Ok (A : Spec) : Op → Prop
  | .init e _ => e ≠ 0 ∧ ∀ i, e ∉ A.lists i
  | .makeFirst _ e => A.free e
  | .makeLast _ e => A.free e
  | .remove lid e => e ∈ A.lists lid
  | .makeFirstAll lid lid' => lid ≠ lid'
  | .makeLastAll lid lid' => lid ≠ lid'
  | .splice lid p lid' n => lid ≠ lid' ∧ p ∈ A.lists lid ∧ n ∈ A.lists lid'

/-- Abstract semantics: plain list operations. -/
def Spec.apply (A : Spec) : Op → Spec
  | .init e _ => { A with free := fun a => a = e ∨ A.free a }
  | .makeFirst lid e =>
    { lists := upd A.lists lid (e :: A.lists lid), free := fun a => a ≠ e ∧ A.free a }
  | .makeLast lid e =>
    { lists := upd A.lists lid (A.lists lid ++ [e]), free := fun a => a ≠ e ∧ A.free a }
  | .remove lid e =>
    { lists := upd A.lists lid ((A.lists lid).erase e), free := fun a => a = e ∨ A.free a }
  | .makeFirstAll lid lid' =>
    { A with lists := upd (upd A.lists lid (A.lists lid' ++ A.lists lid)) lid' [] }
  | .makeLastAll lid lid' =>
    { A with lists := upd (upd A.lists lid (A.lists lid ++ A.lists lid')) lid' [] }
  | .splice lid p lid' n =>
    -- all of list `lid'`, starting at `n` and wrapping around, goes right after `p`
    -- ("after" the last element is the front: the lists are circular)
    let xs := A.lists lid
    let ys := rotateTo n (A.lists lid')
    let new := if xs.getLast? = some p then ys ++ xs else insertAfter p ys xs
    { A with lists := upd (upd A.lists lid new) lid' [] }

/-- Concrete semantics: the calls into the model of `dll.c`. -/
def Conc.apply (C : Conc) : Op → Conc
  | .init e c => { C with heap := Dll.init C.heap e c }
  | .makeFirst lid e =>
    let r := Dll.makeFirst C.heap (C.handle lid) e
    { heap := r.1, handle := upd C.handle lid r.2 }
  | .makeLast lid e =>
    let r := Dll.makeLast C.heap (C.handle lid) e
    { heap := r.1, handle := upd C.handle lid r.2 }
  | .remove lid e =>
    let r := Dll.remove C.heap (C.handle lid) e
    { heap := r.1, handle := upd C.handle lid r.2 }
  | .makeFirstAll lid lid' =>
    let r := Dll.makeFirst C.heap (C.handle lid) (Dll.first C.heap (C.handle lid'))
    { heap := r.1, handle := upd (upd C.handle lid r.2) lid' 0 }
  | .makeLastAll lid lid' =>
    let r := Dll.makeLast C.heap (C.handle lid) (Dll.last C.heap (C.handle lid'))
    { heap := r.1, handle := upd (upd C.handle lid r.2) lid' 0 }
  | .splice _ p lid' n =>
    { heap := Dll.spliceAfter C.heap p n, handle := upd C.handle lid' 0 }

/-- The representation relation, for all lists simultaneously. -/
structure Inv (C : Conc) (A : Spec) : Prop where
  repr : ∀ i, Repr C.heap (C.handle i) (A.lists i)
  disj : ∀ i j, i ≠ j → ∀ a ∈ A.lists i, a ∉ A.lists j
  free : ∀ a, A.free a → Ring C.heap [a] ∧ ∀ i, a ∉ A.lists i

theorem init_next (H : Heap) (e c x : Addr) :
    (init H e c).next x = if x = e then e else H.next x := by
  simp [init, Heap.setNext, Heap.setPrev, Heap.setContainer]

theorem init_prev (H : Heap) (e c x : Addr) :
    (init H e c).prev x = if x = e then e else H.prev x := by
  simp [init, Heap.setNext, Heap.setPrev, Heap.setContainer]

theorem init_container (H : Heap) (e c x : Addr) :
    (init H e c).container x = if x = e then c else H.container x := by
  simp [init, Heap.setNext, Heap.setPrev, Heap.setContainer]

theorem Inv.step_init {C : Conc} {A : Spec} (hinv : Inv C A) {e : Addr} {c : Nat}
    (hok : (Op.init e c).Ok A) : Inv (C.apply (.init e c)) (A.apply (.init e c)) := by
  obtain ⟨he0, hnot⟩ := hok
  have hag : ∀ xs : List Addr, e ∉ xs → ∀ x ∈ xs,
      (init C.heap e c).next x = C.heap.next x ∧ (init C.heap e c).prev x = C.heap.prev x := by
    intro xs he x hx
    have hxe : x ≠ e := fun h => he (h ▸ hx)
    simp only [init_next, init_prev, hxe, if_false, and_self]
  refine ⟨fun i => (hinv.repr i).frame (hag _ (hnot i)), hinv.disj, ?_⟩
  intro a ha
  by_cases hae : a = e
  · subst hae
    exact ⟨(ring_singleton _ _).mpr ⟨he0, by simp [Conc.apply, init_next],
      by simp [Conc.apply, init_prev]⟩, hnot⟩
  · have := hinv.free a (ha.resolve_left hae)
    exact ⟨this.1.frame (hag _ (by simpa using Ne.symm hae)), this.2⟩

/-- Generic step for the operations on a list: list `lid` becomes `new`, made of its old elements
and those of the absorbed ring `es` (a free singleton, the whole list `lid'`, or nothing); any other
list is unchanged or emptied; a free element was free and stays out of `es`, or was in list `lid`,
is not in `new`, and is now a singleton ring. -/
theorem Inv.step_list {C : Conc} {A : Spec} (hinv : Inv C A)
    {lid : LId} {es new : List Addr} {H' : Heap} {l' : Addr}
    {lists' : LId → List Addr} {handle' : LId → Addr} {free' : Addr → Prop}
    (hrepr : Repr H' l' new)
    (hmem : ∀ x ∈ new, x ∈ A.lists lid ∨ x ∈ es)
    (hag : Eff C.heap H' (A.lists lid ++ es))
    (hlid : lists' lid = new ∧ handle' lid = l')
    (hother : ∀ j, j ≠ lid →
      (lists' j = A.lists j ∧ handle' j = C.handle j ∧ ∀ x ∈ es, x ∉ A.lists j) ∨
      (lists' j = [] ∧ handle' j = 0))
    (hfree : ∀ a, free' a →
      (A.free a ∧ a ∉ es) ∨ (Ring H' [a] ∧ a ∈ A.lists lid ∧ a ∉ new)) :
    Inv { heap := H', handle := handle' } { lists := lists', free := free' } := by
  -- membership in a new list, in terms of the old ones
  have hsub : ∀ j x, x ∈ lists' j → x ∈ A.lists j ∨ (j = lid ∧ x ∈ es) := by
    intro j x hx
    by_cases hj : j = lid
    · subst hj; rw [hlid.1] at hx
      exact (hmem x hx).imp_right (fun h => ⟨rfl, h⟩)
    · rcases hother j hj with ⟨h1, _⟩ | ⟨h1, _⟩
      · exact .inl (h1 ▸ hx)
      · rw [h1] at hx; simp at hx
  have hes : ∀ j, j ≠ lid → ∀ x ∈ es, x ∉ lists' j := by
    intro j hj x hx
    rcases hother j hj with ⟨h1, _, h3⟩ | ⟨h1, _⟩
    · rw [h1]; exact h3 x hx
    · rw [h1]; simp
  refine ⟨?_, ?_, ?_⟩
  · intro i
    by_cases hi : i = lid
    · subst hi; simp only [hlid.1, hlid.2]; exact hrepr
    · rcases hother i hi with ⟨h1, h2, h3⟩ | ⟨h1, h2⟩
      · simp only [h1, h2]
        refine (hinv.repr i).eff hag ?_
        intro x hx hw
        rcases List.mem_append.mp hw with hw | hw
        · exact hinv.disj i lid hi x hx hw
        · exact h3 x hw hx
      · simp only [h1, h2]; exact (repr_nil _ _).mpr rfl
  · intro i j hij a ha haj
    rcases hsub i a ha with ha' | ⟨rfl, ha'⟩
    · rcases hsub j a haj with haj' | ⟨rfl, haj'⟩
      · exact hinv.disj i j hij a ha' haj'
      · exact hes i hij a haj' ha
    · exact hes j (Ne.symm hij) a ha' haj
  · intro a ha
    rcases hfree a ha with ⟨hfa, hnes⟩ | ⟨hr, hal, hnew⟩
    · obtain ⟨hr, hnot⟩ := hinv.free a hfa
      refine ⟨hr.eff hag ?_, fun i h => ?_⟩
      · intro x hx hw
        rw [List.mem_singleton.mp hx] at hw
        exact (List.mem_append.mp hw).elim (hnot lid) hnes
      · exact (hsub i a h).elim (hnot i) (fun h => hnes h.2)
    · refine ⟨hr, fun i h => ?_⟩
      by_cases hi : i = lid
      · subst hi; exact hnew (hlid.1 ▸ h)
      · exact (hsub i a h).elim (hinv.disj i lid hi a · hal) (fun h => hi h.1)

/-! ### Moving a whole list (`make_first (l, first (l2))`, `make_last (l, last (l2))`) -/

theorem makeFirstAll_spec {H : Heap} {l l2 : Addr} {xs ys : List Addr}
    (hr : Repr H l xs) (hr2 : Repr H l2 ys) (hd : ∀ x ∈ ys, x ∉ xs) :
    Repr (makeFirst H l (first H l2)).1 (makeFirst H l (first H l2)).2 (ys ++ xs) ∧
    Eff H (makeFirst H l (first H l2)).1 (xs ++ ys) := by
  cases ys with
  | nil => rw [first_nil hr2, makeFirst_null]; exact ⟨by simpa using hr, .refl ..⟩
  | cons f t =>
    have h2 := (hr2.ring (by simp)).1
    rw [first_cons hr2]
    exact ⟨makeFirst_spec hr h2 hd, makeFirst_eff hr h2 (by simp)⟩

theorem makeLastAll_spec {H : Heap} {l l2 : Addr} {xs ys : List Addr}
    (hr : Repr H l xs) (hr2 : Repr H l2 ys) (hd : ∀ x ∈ ys, x ∉ xs) :
    Repr (makeLast H l (last H l2)).1 (makeLast H l (last H l2)).2 (xs ++ ys) ∧
    Eff H (makeLast H l (last H l2)).1 (xs ++ ys) := by
  rcases list_nil_or_snoc ys with rfl | ⟨t, z, rfl⟩
  · rw [last, (repr_nil H l2).mp hr2, makeLast_null]; exact ⟨by simpa using hr, .refl ..⟩
  · have h2 := (hr2.ring (by simp)).1
    rw [last, hr2.handle_eq_last rfl]
    exact ⟨makeLast_spec hr h2 hd, makeLast_eff hr h2 (by simp)⟩

/-- `step_list` when list `lid` absorbs the whole list `lid'`, which becomes empty. -/
theorem Inv.step_absorb {C : Conc} {A : Spec} (hinv : Inv C A) {lid lid' : LId}
    (hne : lid ≠ lid') {new : List Addr} {H' : Heap} {l' : Addr}
    (hrepr : Repr H' l' new)
    (hmem : ∀ x ∈ new, x ∈ A.lists lid ∨ x ∈ A.lists lid')
    (hag : Eff C.heap H' (A.lists lid ++ A.lists lid')) :
    Inv { heap := H', handle := upd (upd C.handle lid l') lid' 0 }
      { A with lists := upd (upd A.lists lid new) lid' [] } := by
  refine hinv.step_list hrepr hmem hag
    ⟨by rw [upd_other _ _ hne, upd_same], by rw [upd_other _ _ hne, upd_same]⟩ (fun j hj => ?_)
    (fun a ha => .inl ⟨ha, (hinv.free a ha).2 lid'⟩)
  by_cases hj' : j = lid'
  · subst hj'; exact .inr ⟨upd_same .., upd_same ..⟩
  · exact .inl ⟨by rw [upd_other _ _ hj', upd_other _ _ hj],
      by rw [upd_other _ _ hj', upd_other _ _ hj], hinv.disj lid' j (Ne.symm hj')⟩

/-- `step_list` when list `lid` absorbs the free singleton `e`. -/
theorem Inv.step_free {C : Conc} {A : Spec} (hinv : Inv C A) {lid : LId} {e : Addr}
    (hfe : A.free e) {new : List Addr} {H' : Heap} {l' : Addr} (hrepr : Repr H' l' new)
    (hmem : ∀ x ∈ new, x ∈ A.lists lid ∨ x ∈ [e])
    (hag : Eff C.heap H' (A.lists lid ++ [e])) :
    Inv { heap := H', handle := upd C.handle lid l' }
      { lists := upd A.lists lid new, free := fun a => a ≠ e ∧ A.free a } :=
  hinv.step_list hrepr hmem hag ⟨upd_same .., upd_same ..⟩
    (fun j hj => .inl ⟨upd_other _ _ hj, upd_other _ _ hj, by simpa using (hinv.free e hfe).2 j⟩)
    (fun a ha => .inl ⟨ha.2, by simpa using ha.1⟩)

/-- Every contract-abiding operation preserves the representation invariant. -/
theorem Inv.step {C : Conc} {A : Spec} (hinv : Inv C A) (op : Op) (hok : op.Ok A) :
    Inv (C.apply op) (A.apply op) := by
  cases op with
  | init e c => exact hinv.step_init hok
  | remove lid e =>
    have he : e ∈ A.lists lid := hok
    have hr := hinv.repr lid
    refine hinv.step_list (es := []) (remove_spec hr he)
      (fun x hx => .inl (List.mem_of_mem_erase hx))
      (by simpa using remove_eff (hr.ring_of_mem he) he) ⟨upd_same .., upd_same ..⟩ ?_ ?_
    · intro j hj
      exact .inl ⟨upd_other _ _ hj, upd_other _ _ hj, by simp⟩
    · rintro a (rfl | ha)
      · exact .inr ⟨ring_remove_self _ (hr.ne_zero he), he, hr.nodup.not_mem_erase⟩
      · exact .inl ⟨ha, by simp⟩
  | makeFirst lid e =>
    obtain ⟨hring, hnot⟩ := hinv.free e hok
    exact hinv.step_free hok (makeFirst_spec (hinv.repr lid) hring (by simpa using hnot lid))
      (fun x hx => by simpa [or_comm] using hx) (makeFirst_eff (hinv.repr lid) hring (by simp))
  | makeLast lid e =>
    obtain ⟨hring, hnot⟩ := hinv.free e hok
    exact hinv.step_free hok
      (makeLast_spec (t := []) (hinv.repr lid) hring (by simpa using hnot lid))
      (fun x hx => by simpa using hx) (makeLast_eff (hinv.repr lid) hring (by simp))
  | makeFirstAll lid lid' =>
    have hne : lid ≠ lid' := hok
    have h := makeFirstAll_spec (hinv.repr lid) (hinv.repr lid') (hinv.disj lid' lid (Ne.symm hne))
    exact hinv.step_absorb hne h.1 (fun x hx => (List.mem_append.mp hx).symm) h.2
  | makeLastAll lid lid' =>
    have hne : lid ≠ lid' := hok
    have h := makeLastAll_spec (hinv.repr lid) (hinv.repr lid') (hinv.disj lid' lid (Ne.symm hne))
    exact hinv.step_absorb hne h.1 (fun x hx => List.mem_append.mp hx) h.2
  | splice lid p lid' n =>
    obtain ⟨hne, hp, hn⟩ : lid ≠ lid' ∧ p ∈ A.lists lid ∧ n ∈ A.lists lid' := hok
    have hr2 := (hinv.repr lid').ring_of_mem hn
    have := hinv.step_absorb hne
      (splice_list (hinv.repr lid) hr2 hp hn (hinv.disj lid' lid (Ne.symm hne))) (fun x hx => ?_)
      (splice_eff ((hinv.repr lid).ring_of_mem hp) hr2 hp hn)
    · -- the handle of list `lid` stays
      rwa [upd_self] at this
    · split at hx
      · rw [List.mem_append, mem_rotateTo hn] at hx; exact hx.symm
      · rwa [mem_insertAfter hp, mem_rotateTo hn] at hx

def Spec.run (A : Spec) (ops : List Op) : Spec := ops.foldl Spec.apply A
def Conc.run (C : Conc) (ops : List Op) : Conc := ops.foldl Conc.apply C

/-- Every operation of the sequence respects its contract in the state it is applied to. -/
def OkSeq (A : Spec) : List Op → Prop
  | [] => True
  | op :: ops => op.Ok A ∧ OkSeq (A.apply op) ops

theorem OkSeq.take {A : Spec} {ops : List Op} (h : OkSeq A ops) (k : Nat) : OkSeq A (ops.take k) := by
  induction ops generalizing A k with
  | nil => simpa using h
  | cons op ops ih =>
    cases k with
    | zero => simp [OkSeq]
    | succ k => exact ⟨h.1, ih h.2 k⟩

/-- Unbounded induction over the operation list. -/
theorem Inv.run {C : Conc} {A : Spec} (hinv : Inv C A) (ops : List Op) (hok : OkSeq A ops) :
    Inv (C.run ops) (A.run ops) := by
  induction ops generalizing C A with
  | nil => exact hinv
  | cons op ops ih => exact ih (hinv.step op hok.1) hok.2

/-- The state before anything happened: arbitrary (uninitialised) memory, all lists empty,
no element initialised. -/
def Spec.empty : Spec := { lists := fun _ => [], free := fun _ => False }
def Conc.empty (H : Heap) : Conc := { heap := H, handle := fun _ => 0 }

theorem Inv.empty (H : Heap) : Inv (Conc.empty H) Spec.empty :=
  ⟨fun _ => (repr_nil _ _).mpr rfl, fun _ _ _ _ h => by simp [Spec.empty] at h, fun _ h => h.elim⟩

end Dll
