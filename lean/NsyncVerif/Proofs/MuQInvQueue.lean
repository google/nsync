import NsyncVerif.Proofs.MuQInvLock
import NsyncVerif.Proofs.MuQScan
/-
  MuQ: (I_queue) is preserved by every abstract step.  `AQueue.shrink` says what the invariant reads of a state
  and that it survives a change in which things only go away; the role-only steps are instances.  Then one
  lemma per step that adds or moves something: the scan of unlock_slow (`aqueue_advance`), leaving lock_slow,
  enqueueing, clearing `waiting`.  `aqueue_step` dispatches over the step relation.
-/
namespace NsyncVerif.MuQ

theorem roleAfter_wake (l : List Wid) : (roleAfter l).wake = l := by cases l <;> rfl

theorem roleAfter_not_slow (l : List Wid) (c : SL) (ph : Phase) : roleAfter l ≠ .slow c ph := by
  cases l <;> simp [roleAfter]

theorem roleAfter_not_scan (l : List Wid) (sc : Scan) : roleAfter l ≠ .scan sc := by
  cases l <;> simp [roleAfter]

/-- The owner of a waiter record is unique. -/
theorem AQueue.owner_unique {a : AState} (h : AQueue a) {t t' : Tid} {c c' : SL} {ph ph' : Phase} {k : Wid}
    (h1 : a.ro t = .slow c ph) (hw1 : c.w = some k) (h2 : a.ro t' = .slow c' ph') (hw2 : c'.w = some k) :
    t = t' := by
  have e1 := (h.own k t).2 ⟨c, ph, h1, hw1⟩
  have e2 := (h.own k t').2 ⟨c', ph', h2, hw2⟩
  rw [e1] at e2; exact Option.some.inj e2

/-- Thread `t` is inside lock_slow with locals `c`, in phase `ph`, using waiter record `k`. -/
def Uses (a : AState) (t : Tid) (c : SL) (ph : Phase) (k : Wid) : Prop :=
  a.ro t = .slow c ph ∧ c.w = some k

/-- What a role update does to the users of records: the others keep theirs. -/
theorem uses_setFn {a : AState} {t u : Tid} {r : Role} {c : SL} {ph : Phase} {k : Wid} (hu : u ≠ t) :
    Uses { a with ro := setFn a.ro t r } u c ph k ↔ Uses a u c ph k := by
  simp only [Uses, setFn_other _ _ _ _ hu]

theorem ro_setFn_cases {a : AState} {t : Tid} {r : Role} (u : Tid) {P : Role → Prop}
    (hs : u = t → P r) (ho : u ≠ t → P (a.ro u)) : P (setFn a.ro t r u) := by
  by_cases hu : u = t
  · rw [hu, setFn_same]; exact hs hu
  · rw [setFn_other _ _ _ _ hu]; exact ho hu

/-- (I_queue) survives a change in which things only go away: wake lists shrink, `waiting` is
    cleared only for a record that is neither queued nor on a wake list afterwards, a user keeps
    its record or drops it (then the record is free, not queued, on no wake list). -/
theorem AQueue.shrink {a a' : AState} (h : AQueue a) (hq : a'.queue = a.queue)
    (hlt : ∀ k, (a'.wr k).lType = (a.wr k).lType)
    (hown : ∀ k, (a'.wr k).owner = (a.wr k).owner ∨ (a'.wr k).owner = none)
    (hwake : ∀ u, (a'.ro u).wake.Sublist (a.ro u).wake)
    (hwait : ∀ k, (a'.wr k).waiting = (a.wr k).waiting ∨
      ((a'.wr k).waiting = false ∧ k ∉ a.queue ∧ ∀ u, k ∉ (a'.ro u).wake))
    (hkeep : ∀ u k, k ∈ (a.ro u).wake → (a'.wr k).waiting = true → k ∈ (a'.ro u).wake)
    (fwd : ∀ t c ph k, Uses a t c ph k →
      (∃ c' ph', Uses a' t c' ph' k ∧ (ph.queued = true → k ∈ a.queue → ph'.queued = true) ∧
        (ph.inLoop = true → (∃ u, k ∈ (a.ro u).wake) → ph'.inLoop = true)) ∨
      (k ∉ a.queue ∧ (∀ u, k ∉ (a.ro u).wake) ∧ (a'.wr k).owner = none))
    (bwd : ∀ t c' ph' k, Uses a' t c' ph' k → ∃ c ph, Uses a t c ph k ∧ c'.l = c.l ∧
      (a'.wr k).owner = (a.wr k).owner)
    (hloc : ∀ t c ph, a'.ro t = .slow c ph → a.ro t = .slow c ph ∨
      (c.ok ∧ ((ph = .pre ∨ ph = .st) → c.w.isSome = c.clear) ∧ (ph.queued = true → c.w.isSome = true) ∧
        (ph = .rel → ∃ k, c.w = some k ∧ k ∈ a.queue)))
    (hscan : ∀ u sc, a'.ro u = .scan sc → a.ro u = .scan sc) : AQueue a' := by
  obtain ⟨q1, q2, q3, q4, q5, q6, q7, q8, q9, q10, q11⟩ := h
  have wait_eq : ∀ k, (k ∈ a.queue ∨ ∃ u, k ∈ (a'.ro u).wake) → (a'.wr k).waiting = (a.wr k).waiting := by
    intro k hk
    rcases hwait k with e | ⟨_, n1, n2⟩
    · exact e
    · rcases hk with hk | ⟨u, hk⟩
      · exact absurd hk n1
      · exact absurd hk (n2 u)
  refine ⟨hq ▸ q1, ?_, ?_, ?_, ?_, ?_, ?_, ?_, ?_, ?_, ?_⟩
  · intro k hk
    rw [hq] at hk
    obtain ⟨hw, t, c, ph, hr, hcw, hph⟩ := q2 k hk
    rcases fwd t c ph k ⟨hr, hcw⟩ with ⟨c', ph', ⟨x, y⟩, f1, _⟩ | ⟨n, _⟩
    · exact ⟨(wait_eq k (.inl hk)).trans hw, t, c', ph', x, y, f1 hph hk⟩
    · exact absurd hk n
  · intro k t
    constructor
    · intro ho
      have ho' : (a.wr k).owner = some t := by
        rcases hown k with e | e
        · exact e ▸ ho
        · rw [e] at ho; cases ho
      obtain ⟨c, ph, hr, hw⟩ := (q3 k t).1 ho'
      rcases fwd t c ph k ⟨hr, hw⟩ with ⟨c', ph', ⟨x, y⟩, _⟩ | ⟨_, _, n⟩
      · exact ⟨c', ph', x, y⟩
      · rw [n] at ho; cases ho
    · rintro ⟨c', ph', hr, hw⟩
      obtain ⟨c, ph, ⟨x, y⟩, _, e⟩ := bwd t c' ph' k ⟨hr, hw⟩
      rw [e]; exact (q3 k t).2 ⟨c, ph, x, y⟩
  · intro t c' ph' k hr hw
    obtain ⟨c, ph, ⟨x, y⟩, hl, _⟩ := bwd t c' ph' k ⟨hr, hw⟩
    rw [hlt k, hl]; exact q4 t c ph k x y
  · intro u k hk
    have hk0 := (hwake u).subset hk
    obtain ⟨hnq, hw, t, c, ph, hr, hcw, hph⟩ := q5 u k hk0
    rcases fwd t c ph k ⟨hr, hcw⟩ with ⟨c', ph', ⟨x, y⟩, _, f2⟩ | ⟨_, n, _⟩
    · exact ⟨hq ▸ hnq, (wait_eq k (.inr ⟨u, hk⟩)).trans hw, t, c', ph', x, y, f2 hph ⟨u, hk0⟩⟩
    · exact absurd hk0 (n u)
  · intro u; exact (q6 u).sublist (hwake u)
  · intro u u' k hk hk'
    exact q7 u u' k ((hwake u).subset hk) ((hwake u').subset hk')
  · intro k hk
    have hk0 : (a.wr k).waiting = true := by
      rcases hwait k with e | ⟨e, _⟩
      · exact e ▸ hk
      · rw [e] at hk; cases hk
    rcases q8 k hk0 with h | ⟨u, hu⟩
    · exact .inl (hq ▸ h)
    · exact .inr ⟨u, hkeep u k hu hk⟩
  · intro t c ph hr
    rcases hloc t c ph hr with h | h
    · exact q9 t c ph h
    · exact ⟨h.1, h.2.1, h.2.2.1⟩
  · intro t c hr
    rw [hq]
    rcases hloc t c .rel hr with h | h
    · exact q10 t c h
    · exact h.2.2.2 rfl
  · intro u sc hr; rw [hq]; exact q11 u sc (hscan u sc hr)

/-- Changes that touch neither queue, roles nor the fields `owner`/`waiting`/`lType` of records. -/
theorem aqueue_congr {a a' : AState} (h : AQueue a) (hq : a'.queue = a.queue) (hro : a'.ro = a.ro)
    (hwr : ∀ k, (a'.wr k).owner = (a.wr k).owner ∧ (a'.wr k).waiting = (a.wr k).waiting ∧
      (a'.wr k).lType = (a.wr k).lType) : AQueue a' :=
  h.shrink hq (fun k => (hwr k).2.2) (fun k => .inl (hwr k).1) (fun _ => by rw [hro]; exact .refl _)
    (fun k => .inl (hwr k).2.1) (fun _ _ hk _ => by rw [hro]; exact hk)
    (fun _ c ph _ hu => .inl ⟨c, ph, by rw [Uses, hro]; exact hu, fun h _ => h, fun h _ => h⟩)
    (fun _ c ph k hu => ⟨c, ph, by rw [Uses, hro] at hu; exact hu, rfl, (hwr k).1⟩)
    (fun _ _ _ hr => .inl (hro ▸ hr)) (fun _ _ hr => hro ▸ hr)

/-- Thread `t` changes its role to `r1` where neither the old nor the new role is a lock_slow role with a record
    and the private wake list is unchanged. -/
theorem aqueue_role_plain {a : AState} {t : Tid} {r1 : Role} (h : AQueue a)
    (h0 : ∀ c ph, a.ro t = .slow c ph → c.w = none)
    (h1 : ∀ c ph, r1 = .slow c ph → c.w = none ∧ c.ok ∧ c.clear = false ∧ (ph = .pre ∨ ph = .st))
    (hwk : r1.wake = (a.ro t).wake)
    (hsc : ∀ sc, r1 = .scan sc → a.ro t = .scan sc) :
    AQueue { a with ro := setFn a.ro t r1 } := by
  have ne0 : ∀ u c ph k, Uses a u c ph k → u ≠ t := fun u c ph k hu e =>
    nomatch (h0 c ph (e ▸ hu.1)).symm.trans hu.2
  have ne1 : ∀ u c ph k, Uses { a with ro := setFn a.ro t r1 } u c ph k → u ≠ t := fun u c ph k hu e => by
    subst e; exact nomatch (h1 c ph ((setFn_same _ _ _).symm.trans hu.1)).1.symm.trans hu.2
  have wake_eq : ∀ u, (setFn a.ro t r1 u).wake = (a.ro u).wake := fun u =>
    ro_setFn_cases (P := fun r => r.wake = _) u (fun e => e ▸ hwk) (fun _ => rfl)
  refine h.shrink rfl (fun _ => rfl) (fun _ => .inl rfl) (fun u => by rw [wake_eq u]; exact .refl _)
    (fun _ => .inl rfl) (fun u k hk _ => by rw [wake_eq u]; exact hk)
    (fun u c ph k hu => .inl ⟨c, ph, (uses_setFn (ne0 u c ph k hu)).2 hu, fun h _ => h, fun h _ => h⟩)
    (fun u c ph k hu => ⟨c, ph, (uses_setFn (ne1 u c ph k hu)).1 hu, rfl, rfl⟩)
    (fun u c ph => ro_setFn_cases (P := fun r => r = _ → _) u
      (fun _ hr => by
        obtain ⟨e1, e2, e3, e4⟩ := h1 c ph hr
        refine .inr ⟨e2, fun _ => by rw [e1, e3]; rfl, fun hq => ?_, fun e => ?_⟩ <;>
          rcases e4 with e' | e' <;> subst e' <;> first | cases hq | cases e)
      (fun _ hr => .inl hr))
    (fun u sc => ro_setFn_cases (P := fun r => r = _ → _) u (fun e hr => e ▸ hsc sc hr) (fun _ hr => hr))

/-- Thread `t` stays inside lock_slow with the same record and changes phase (and possibly the
    other locals). -/
theorem aqueue_phase {a : AState} {t : Tid} {c c' : SL} {ph ph' : Phase} (h : AQueue a)
    (hro : a.ro t = .slow c ph) (hw : c'.w = c.w) (hl : c'.l = c.l)
    (hq : ph.queued = true → ph'.queued = true ∨ ∀ k, c.w = some k → k ∉ a.queue)
    (hlp : ph.inLoop = true → ph'.inLoop = true ∨ ∀ k, c.w = some k → ∀ u, k ∉ (a.ro u).wake)
    (hok : c'.ok ∧ ((ph' = .pre ∨ ph' = .st) → c'.w.isSome = c'.clear) ∧ (ph'.queued = true → c'.w.isSome = true))
    (hrel : ph' = .rel → ∃ k, c'.w = some k ∧ k ∈ a.queue) :
    AQueue { a with ro := setFn a.ro t (.slow c' ph') } := by
  have wake_eq : ∀ u, (setFn a.ro t (.slow c' ph') u).wake = (a.ro u).wake := fun u =>
    ro_setFn_cases (P := fun r => r.wake = _) u (fun e => by rw [e, hro]; rfl) (fun _ => rfl)
  refine h.shrink rfl (fun _ => rfl) (fun _ => .inl rfl) (fun u => by rw [wake_eq u]; exact .refl _)
    (fun _ => .inl rfl) (fun u k hk _ => by rw [wake_eq u]; exact hk)
    (fun u c1 ph1 k hu => .inl ?_) (fun u c1 ph1 k hu => ?_)
    (fun u c1 ph1 => ro_setFn_cases (P := fun r => r = _ → _) u
      (fun _ hr => by cases hr; exact .inr ⟨hok.1, hok.2.1, hok.2.2, hrel⟩) (fun _ hr => .inl hr))
    (fun u sc => ro_setFn_cases (P := fun r => r = _ → _) u (fun _ hr => nomatch hr) (fun _ hr => hr))
  · by_cases e : u = t
    · subst e
      obtain ⟨rfl, rfl⟩ : c1 = c ∧ ph1 = ph := by have := hu.1.symm.trans hro; cases this; exact ⟨rfl, rfl⟩
      exact ⟨c', ph', ⟨setFn_same _ _ _, hw.trans hu.2⟩,
        fun hp hk => (hq hp).resolve_right fun f => f k hu.2 hk,
        fun hp ⟨v, hv⟩ => (hlp hp).resolve_right fun f => f k hu.2 v hv⟩
    · exact ⟨c1, ph1, (uses_setFn e).2 hu, fun h _ => h, fun h _ => h⟩
  · by_cases e : u = t
    · subst e
      obtain ⟨rfl, rfl⟩ : c1 = c' ∧ ph1 = ph' := by
        have := hu.1.symm.trans (setFn_same _ _ _); cases this; exact ⟨rfl, rfl⟩
      exact ⟨c, ph, ⟨hro, hw.symm.trans hu.2⟩, hl, rfl⟩
    · exact ⟨c1, ph1, (uses_setFn e).1 hu, rfl, rfl⟩

theorem aqueue_advance {X : AState} {t : Tid} {sc : Scan} (h : AQueue X)
    (hwk : (X.ro t).wake = sc.wake) (hns : ∀ c ph, X.ro t ≠ .slow c ph)
    (hpre : ∃ pre, X.queue = pre ++ sc.todo) (hspin : ∀ u, u ≠ t → (X.ro u).spin = false) :
    AQueue (X.advance t sc) := by
  have hnorel : ∀ t' c, X.ro t' ≠ .slow c .rel := by
    intro t' c hr
    by_cases hu : t' = t
    · subst hu; exact hns c .rel hr
    · have := hspin t' hu; rw [hr] at this; cases this
  obtain ⟨hrem, hdone⟩ := scanGo_spec (fun k => (X.wr k).lType) sc.todo sc
  simp only [AState.advance]
  split
  · rename_i k sc' hg
    obtain ⟨mid, e1, e2, _⟩ := hrem k sc' hg
    obtain ⟨pre, hq⟩ := hpre
    obtain ⟨q1, q2, q3, q4, q5, q6, q7, q8, q9, q10, q11⟩ := h
    have hkq : k ∈ X.queue := by rw [hq, e1]; simp
    have other : ∀ u, u ≠ t → setFn X.ro t (.scan sc') u = X.ro u := setFn_others rfl
    have self : setFn X.ro t (.scan sc') t = .scan sc' := by simp [setFn]
    have keep : ∀ t' c ph, X.ro t' = .slow c ph → setFn X.ro t (.scan sc') t' = .slow c ph := by
      intro t' c ph hr
      by_cases hu : t' = t
      · subst hu; exact absurd hr (hns c ph)
      · rw [other t' hu]; exact hr
    have back : ∀ t' c ph, setFn X.ro t (.scan sc') t' = .slow c ph → X.ro t' = .slow c ph := by
      intro t' c ph hr
      by_cases hu : t' = t
      · subst hu; rw [self] at hr; cases hr
      · rw [other t' hu] at hr; exact hr
    have wake_t : (setFn X.ro t (.scan sc') t).wake = (X.ro t).wake ++ [k] := by rw [self, hwk]; exact e2
    have kwit : ∃ t' c ph, X.ro t' = .slow c ph ∧ c.w = some k ∧ ph.inLoop = true := by
      obtain ⟨_, t', c, ph, hr, hcw, hph⟩ := q2 k hkq
      refine ⟨t', c, ph, hr, hcw, ?_⟩
      cases ph <;> simp [Phase.queued] at hph <;> simp [Phase.inLoop]
      exact absurd hr (hnorel t' c)
    have knw : ∀ u, k ∉ (X.ro u).wake := fun u hu => (q5 u k hu).1 hkq
    refine ⟨q1.erase k, ?_, ?_, ?_, ?_, ?_, ?_, ?_, ?_, ?_, ?_⟩
    · intro k' hk'
      have hk'' : k' ∈ X.queue := (q1.mem_erase_iff.1 hk').2
      obtain ⟨hwt, t', c, ph, hr, hcw, hph⟩ := q2 k' hk''
      exact ⟨hwt, t', c, ph, keep t' c ph hr, hcw, hph⟩
    · intro k' t'
      show (X.wr k').owner = some t' ↔ _
      rw [q3 k' t']
      constructor
      · rintro ⟨c, ph, hr, hw⟩; exact ⟨c, ph, keep t' c ph hr, hw⟩
      · rintro ⟨c, ph, hr, hw⟩; exact ⟨c, ph, back t' c ph hr, hw⟩
    · intro t' c ph k' hr hw; exact q4 t' c ph k' (back t' c ph hr) hw
    · intro u k' hk'
      show k' ∉ X.queue.erase k ∧ (X.wr k').waiting = true ∧ _
      by_cases hu : u = t
      · subst hu
        rw [show ({ X with queue := X.queue.erase k, ro := setFn X.ro u (.scan sc') } : AState).ro u = setFn X.ro u (.scan sc') u from rfl,
          wake_t, List.mem_append, List.mem_singleton] at hk'
        rcases hk' with hk' | hk'
        · obtain ⟨hnq, hwt, t', c, ph, hr, hcw, hph⟩ := q5 u k' hk'
          exact ⟨fun hm => hnq (q1.mem_erase_iff.1 hm).2, hwt, t', c, ph, keep t' c ph hr, hcw, hph⟩
        · subst hk'
          obtain ⟨t', c, ph, hr, hcw, hph⟩ := kwit
          exact ⟨fun hm => (q1.mem_erase_iff.1 hm).1 rfl, (q2 k' hkq).1, t', c, ph, keep t' c ph hr, hcw, hph⟩
      · rw [show ({ X with queue := X.queue.erase k, ro := setFn X.ro t (.scan sc') } : AState).ro u = setFn X.ro t (.scan sc') u from rfl,
          other u hu] at hk'
        obtain ⟨hnq, hwt, t', c, ph, hr, hcw, hph⟩ := q5 u k' hk'
        exact ⟨fun hm => hnq (q1.mem_erase_iff.1 hm).2, hwt, t', c, ph, keep t' c ph hr, hcw, hph⟩
    · intro u
      by_cases hu : u = t
      · subst hu
        show (setFn X.ro u (.scan sc') u).wake.Nodup
        rw [wake_t, List.nodup_append]
        refine ⟨q6 u, by simp, ?_⟩
        intro x hx y hy; simp at hy; subst hy
        intro hxy; subst hxy; exact knw u hx
      · show (setFn X.ro t (.scan sc') u).wake.Nodup; rw [other u hu]; exact q6 u
    · intro u u' k' hk hk'
      have conv : ∀ v, k' ∈ (setFn X.ro t (.scan sc') v).wake → k' ≠ k → k' ∈ (X.ro v).wake := by
        intro v hv hne
        by_cases hvt : v = t
        · subst hvt; rw [wake_t, List.mem_append, List.mem_singleton] at hv
          rcases hv with hv | hv
          · exact hv
          · exact absurd hv hne
        · rw [other v hvt] at hv; exact hv
      have onlyt : ∀ v, k ∈ (setFn X.ro t (.scan sc') v).wake → v = t := by
        intro v hv
        by_cases hvt : v = t
        · exact hvt
        · rw [other v hvt] at hv; exact absurd hv (knw v)
      by_cases hkk : k' = k
      · subst hkk; rw [onlyt u hk, onlyt u' hk']
      · exact q7 u u' k' (conv u hk hkk) (conv u' hk' hkk)
    · intro k' hk'
      by_cases hkk : k' = k
      · subst hkk; right; refine ⟨t, ?_⟩
        show k' ∈ (setFn X.ro t (.scan sc') t).wake
        rw [wake_t]; simp
      · rcases q8 k' hk' with h | ⟨u, hu⟩
        · left; exact (q1.mem_erase_iff).2 ⟨hkk, h⟩
        · right; refine ⟨u, ?_⟩
          show k' ∈ (setFn X.ro t (.scan sc') u).wake
          by_cases hut : u = t
          · subst hut; rw [wake_t]; simp [hu]
          · rw [other u hut]; exact hu
    · intro t' c ph hr; exact q9 t' c ph (back t' c ph hr)
    · intro t' c hr; exact absurd (back t' c .rel hr) (hnorel t' c)
    · intro u sc2 hr
      by_cases hu : u = t
      · subst hu
        rw [show ({ X with queue := X.queue.erase k, ro := setFn X.ro u (.scan sc') } : AState).ro u = setFn X.ro u (.scan sc') u from rfl, self] at hr
        cases hr
        refine ⟨pre ++ mid, ?_⟩
        show X.queue.erase k = _
        have hnd := q1
        rw [hq, e1] at hnd ⊢
        exact erase_mid hnd
      · rw [show ({ X with queue := X.queue.erase k, ro := setFn X.ro t (.scan sc') } : AState).ro u = setFn X.ro t (.scan sc') u from rfl, other u hu] at hr
        have := hspin u hu; rw [hr] at this; cases this
  · rename_i sc' hg
    obtain ⟨mid, e1, e2, _⟩ := hdone sc' hg
    exact aqueue_role_plain h (fun c ph hr => absurd hr (hns c ph)) (fun c ph hr => by cases hr)
      (by rw [hwk]; exact e2) (fun sc2 hr => by cases hr)

theorem AQueue.of_eq {a a' : AState} (h : AQueue a) (hq : a'.queue = a.queue) (hro : a'.ro = a.ro)
    (hwr : a'.wr = a.wr) : AQueue a' :=
  aqueue_congr h hq hro (fun k => by rw [hwr]; exact ⟨rfl, rfl, rfl⟩)

/-- lock_slow returns: the thread gives its record back. -/
theorem aqueue_leave {a a' : AState} {t : Tid} {c : SL} (h : AQueue a) (hro : a.ro t = .slow c .pre)
    (hq : a'.queue = a.queue) (hr' : a'.ro = setFn a.ro t .quiet)
    (hwr : ∀ k, (a'.wr k).waiting = (a.wr k).waiting ∧ (a'.wr k).lType = (a.wr k).lType ∧
      (a'.wr k).owner = if c.w = some k then none else (a.wr k).owner) : AQueue a' := by
  have self : a'.ro t = .quiet := by rw [hr', setFn_same]
  have back : ∀ u, a'.ro u ≠ .quiet → u ≠ t ∧ a'.ro u = a.ro u := fun u hn =>
    have e : u ≠ t := fun e => hn (e ▸ self)
    ⟨e, by rw [hr', setFn_other _ _ _ _ e]⟩
  -- whoever uses the record of `t` is `t`, in phase `pre`: the record is neither queued nor on a wake list
  have lone : ∀ k u c1 ph1, c.w = some k → Uses a u c1 ph1 k → u = t ∧ ph1 = .pre := fun k u c1 ph1 hk hu => by
    have e := h.owner_unique hu.1 hu.2 hro hk; subst e
    have := hu.1.symm.trans hro; cases this; exact ⟨rfl, rfl⟩
  refine h.shrink hq (fun k => (hwr k).2.1) (fun k => ?_) (fun u => ?_) (fun k => .inl (hwr k).1)
    (fun u k hk _ => ?_) (fun u c1 ph1 k hu => ?_) (fun u c1 ph1 k hu => ?_)
    (fun u c1 ph1 hr => .inl ?_) (fun u sc hr => ?_)
  · rw [(hwr k).2.2]; split
    · exact .inr rfl
    · exact .inl rfl
  · by_cases e : u = t
    · rw [e, self, hro]; exact .refl _
    · rw [hr', setFn_other _ _ _ _ e]; exact .refl _
  · by_cases e : u = t
    · rw [e, hro] at hk; cases hk
    · rw [hr', setFn_other _ _ _ _ e]; exact hk
  · by_cases e : u = t
    · subst e
      have := hu.1.symm.trans hro; cases this
      refine .inr ⟨fun hk => ?_, fun v hv => ?_, by rw [(hwr k).2.2, if_pos hu.2]⟩
      · obtain ⟨_, t', c2, ph2, hr2, hw2, hph⟩ := h.inq k hk
        cases (lone k t' c2 ph2 hu.2 ⟨hr2, hw2⟩).2; cases hph
      · obtain ⟨_, _, t', c2, ph2, hr2, hw2, hph⟩ := h.wk v k hv
        cases (lone k t' c2 ph2 hu.2 ⟨hr2, hw2⟩).2; cases hph
    · exact .inl ⟨c1, ph1, ⟨by rw [hr', setFn_other _ _ _ _ e]; exact hu.1, hu.2⟩, fun h _ => h, fun h _ => h⟩
  · obtain ⟨e, e'⟩ := back u (by rw [hu.1]; exact nofun)
    have hu0 : Uses a u c1 ph1 k := ⟨e' ▸ hu.1, hu.2⟩
    refine ⟨c1, ph1, hu0, rfl, ?_⟩
    rw [(hwr k).2.2, if_neg fun hk => e (lone k u c1 ph1 hk hu0).1]
  · exact (back u (by rw [hr]; exact nofun)).2 ▸ hr
  · exact (back u (by rw [hr]; exact nofun)).2 ▸ hr

theorem mem_enqueue {α : Type} (b : Prop) [Decidable b] (q : List α) (k x : α) :
    x ∈ (if b then q ++ [k] else k :: q) ↔ x = k ∨ x ∈ q := by
  split <;> simp <;> exact Or.comm

theorem nodup_enqueue {α : Type} (b : Prop) [Decidable b] {q : List α} {k : α} (hk : k ∉ q) (hn : q.Nodup) :
    (if b then q ++ [k] else k :: q).Nodup := by
  split
  · rw [List.nodup_append]; refine ⟨hn, by simp, ?_⟩
    intro x hx y hy; simp at hy; subst hy; intro e; subst e; exact hk hx
  · rw [List.nodup_cons]; exact ⟨hk, hn⟩

/-- The store `waiting := 1` with the queue insertion (first wait or re-queue). -/
theorem aqueue_enqueue {a a' : AState} {t : Tid} {c : SL} {k : Wid} (h : AQueue a)
    (hro : a.ro t = .slow c .st) (hkq : k ∉ a.queue)
    (hcw : c.w = none ∨ c.w = some k)
    (hk_nw : ∀ u, k ∉ (a.ro u).wake)
    (hk_own : ∀ t' c1 ph1, a.ro t' = .slow c1 ph1 → c1.w = some k → t' = t)
    (hnoscan : ∀ u sc, a.ro u ≠ .scan sc)
    (hq : ∀ x, x ∈ a'.queue ↔ x = k ∨ x ∈ a.queue) (hnd : a'.queue.Nodup)
    (hr' : a'.ro = setFn a.ro t (.slow { c with w := some k } .rel))
    (hwk : (a'.wr k).owner = some t ∧ (a'.wr k).waiting = true ∧ (a'.wr k).lType = c.l)
    (hwo : ∀ k', k' ≠ k → a'.wr k' = a.wr k') : AQueue a' := by
  obtain ⟨q1, q2, q3, q4, q5, q6, q7, q8, q9, q10, q11⟩ := h
  have other : ∀ u, u ≠ t → a'.ro u = a.ro u := setFn_others hr'
  have self : a'.ro t = .slow { c with w := some k } .rel := by rw [hr']; simp [setFn]
  have wake_eq : ∀ u, (a'.ro u).wake = (a.ro u).wake := by
    intro u; by_cases hu : u = t
    · subst hu; rw [self, hro]; rfl
    · rw [other u hu]
  have keep : ∀ t' c1 ph1, a.ro t' = .slow c1 ph1 → ph1 ≠ .st → a'.ro t' = .slow c1 ph1 := by
    intro t' c1 ph1 hr hph
    by_cases hu : t' = t
    · subst hu; rw [hro] at hr; cases hr; exact absurd rfl hph
    · rw [other t' hu]; exact hr
  refine ⟨hnd, ?_, ?_, ?_, ?_, ?_, ?_, ?_, ?_, ?_, ?_⟩
  · intro k' hk'
    rcases (hq k').1 hk' with h | h
    · subst h; exact ⟨hwk.2.1, t, _, _, self, rfl, rfl⟩
    · have hne : k' ≠ k := fun e => hkq (e ▸ h)
      obtain ⟨hwt, t', c1, ph1, hr, hcw1, hph⟩ := q2 k' h
      refine ⟨by rw [hwo k' hne]; exact hwt, t', c1, ph1, keep t' c1 ph1 hr ?_, hcw1, hph⟩
      intro e; subst e; simp [Phase.queued] at hph
  · intro k' t'
    by_cases hkk : k' = k
    · subst hkk; rw [hwk.1]
      constructor
      · intro e; cases e; exact ⟨_, _, self, rfl⟩
      · rintro ⟨c1, ph1, hr, hcw1⟩
        by_cases hu : t' = t
        · rw [hu]
        · rw [other t' hu] at hr; exact absurd (hk_own t' c1 ph1 hr hcw1) hu
    · rw [hwo k' hkk, q3 k' t']
      by_cases hu : t' = t
      · subst hu
        constructor
        · rintro ⟨c1, ph1, hr, hcw1⟩; rw [hro] at hr; cases hr
          rcases hcw with e | e <;> rw [e] at hcw1 <;> cases hcw1
          exact absurd rfl hkk
        · rintro ⟨c1, ph1, hr, hcw1⟩; rw [self] at hr; cases hr
          simp at hcw1; exact absurd hcw1.symm hkk
      · rw [other t' hu]
  · intro t' c1 ph1 k' hr hcw1
    by_cases hu : t' = t
    · subst hu; rw [self] at hr; cases hr; simp at hcw1; subst hcw1; exact hwk.2.2
    · rw [other t' hu] at hr
      have hne : k' ≠ k := fun e => hu (hk_own t' c1 ph1 hr (e ▸ hcw1))
      rw [hwo k' hne]; exact q4 t' c1 ph1 k' hr hcw1
  · intro u k' hk'; rw [wake_eq u] at hk'
    have hne : k' ≠ k := fun e => hk_nw u (e ▸ hk')
    obtain ⟨hnq, hwt, t', c1, ph1, hr, hcw1, hph⟩ := q5 u k' hk'
    refine ⟨fun hm => ?_, by rw [hwo k' hne]; exact hwt, t', c1, ph1, keep t' c1 ph1 hr ?_, hcw1, hph⟩
    · rcases (hq k').1 hm with e | e
      · exact hne e
      · exact hnq e
    · intro e; subst e; simp [Phase.inLoop] at hph
  · intro u; rw [wake_eq u]; exact q6 u
  · intro u u' k' hk hk'; rw [wake_eq u] at hk; rw [wake_eq u'] at hk'; exact q7 u u' k' hk hk'
  · intro k' hk'
    by_cases hkk : k' = k
    · left; exact (hq k').2 (Or.inl hkk)
    · rw [hwo k' hkk] at hk'
      rcases q8 k' hk' with h | ⟨u, hu⟩
      · left; exact (hq k').2 (Or.inr h)
      · right; exact ⟨u, by rw [wake_eq u]; exact hu⟩
  · intro t' c1 ph1 hr
    by_cases hu : t' = t
    · subst hu; rw [self] at hr; cases hr
      obtain ⟨e1, _, _⟩ := q9 t' c .st hro
      exact ⟨e1, (fun h => by rcases h with h | h <;> cases h), fun _ => rfl⟩
    · rw [other t' hu] at hr; exact q9 t' c1 ph1 hr
  · intro t' c1 hr
    by_cases hu : t' = t
    · subst hu; rw [self] at hr; cases hr; exact ⟨k, rfl, (hq k).2 (Or.inl rfl)⟩
    · rw [other t' hu] at hr
      obtain ⟨k1, e1, e2⟩ := q10 t' c1 hr
      exact ⟨k1, e1, (hq k1).2 (Or.inr e2)⟩
  · intro u sc hr
    by_cases hu : u = t
    · subst hu; rw [self] at hr; cases hr
    · rw [other u hu] at hr; exact absurd hr (hnoscan u sc)

/-- unlock_slow clears `waiting` of the first waiter on its private list. -/
theorem aqueue_wakeStore {a a' : AState} {t : Tid} {k : Wid} {r : List Wid} (h : AQueue a)
    (hro : a.ro t = .wakeSt k r) (hq : a'.queue = a.queue)
    (hr' : a'.ro = setFn a.ro t (.wakeV k r))
    (hwk : (a'.wr k).owner = (a.wr k).owner ∧ (a'.wr k).waiting = false ∧ (a'.wr k).lType = (a.wr k).lType)
    (hwo : ∀ k', k' ≠ k → a'.wr k' = a.wr k') : AQueue a' := by
  have hkt : k ∈ (a.ro t).wake := by rw [hro]; exact List.mem_cons_self
  have hnd : (k :: r).Nodup := by have := h.wkNodup t; rwa [hro] at this
  have other : ∀ u, u ≠ t → a'.ro u = a.ro u := setFn_others hr'
  have self : a'.ro t = .wakeV k r := by rw [hr', setFn_same]
  have fld : ∀ k', a'.wr k' = a.wr k' ∨ k' = k := fun k' => by
    by_cases e : k' = k
    · exact .inr e
    · exact .inl (hwo k' e)
  have gone : ∀ u, k ∉ (a'.ro u).wake := fun u hk => by
    by_cases e : u = t
    · rw [e, self] at hk; exact (List.nodup_cons.1 hnd).1 hk
    · rw [other u e] at hk; exact e (h.wkUniq u t k hk hkt)
  have uses : ∀ u c ph k', Uses a' u c ph k' ↔ Uses a u c ph k' := fun u c ph k' => by
    by_cases e : u = t
    · subst e; simp only [Uses, self, hro]; constructor <;> exact fun h => nomatch h.1
    · simp only [Uses, other u e]
  refine h.shrink hq (fun k' => ?_) (fun k' => ?_) (fun u => ?_) (fun k' => ?_) (fun u k' hk hw => ?_)
    (fun u c ph k' hu => .inl ⟨c, ph, (uses u c ph k').2 hu, fun h _ => h, fun h _ => h⟩)
    (fun u c ph k' hu => ⟨c, ph, (uses u c ph k').1 hu, rfl, ?_⟩)
    (fun u c ph hr => .inl ?_) (fun u sc hr => ?_)
  · rcases fld k' with e | e
    · rw [e]
    · rw [e]; exact hwk.2.2
  · rcases fld k' with e | e
    · rw [e]; exact .inl rfl
    · rw [e]; exact .inl hwk.1
  · by_cases e : u = t
    · rw [e, self, hro]; exact List.sublist_cons_self k r
    · rw [other u e]; exact List.Sublist.refl _
  · rcases fld k' with e | e
    · rw [e]; exact .inl rfl
    · rw [e]; exact .inr ⟨hwk.2.1, (h.wk t k hkt).1, gone⟩
  · have hne : k' ≠ k := fun e => by rw [e, hwk.2.1] at hw; cases hw
    by_cases e : u = t
    · rw [e, self]; rw [e, hro] at hk
      exact (List.mem_cons.1 hk).resolve_left hne
    · rw [other u e]; exact hk
  · rcases fld k' with e | e
    · rw [e]
    · rw [e]; exact hwk.1
  · by_cases e : u = t
    · rw [e, self] at hr; cases hr
    · rw [← other u e]; exact hr
  · by_cases e : u = t
    · rw [e, self] at hr; cases hr
    · rw [← other u e]; exact hr

theorem ASpin.no_spin_of_free {a : AState} (h : ASpin a) (hf : a.word.spin = false) (u : Tid) :
    (a.ro u).spin = false := by
  cases hx : (a.ro u).spin with
  | false => rfl
  | true =>
    have := (h.own u).2 hx
    have hb := h.bit; rw [this, hf] at hb; cases hb

theorem ASpin.unique {a : AState} (h : ASpin a) {t u : Tid} (ht : (a.ro t).spin = true)
    (hu : (a.ro u).spin = true) : u = t := by
  have e1 := (h.own t).2 ht
  have e2 := (h.own u).2 hu
  rw [e1] at e2; exact (Option.some.inj e2).symm

theorem ASpin.others {a : AState} (h : ASpin a) {t : Tid} (ht : (a.ro t).spin = true) (u : Tid) (hu : u ≠ t) :
    (a.ro u).spin = false :=
  Bool.eq_false_iff.2 fun hx => hu (h.unique ht hx)

theorem SL.with_w_self {c : SL} {k : Wid} (h : c.w = some k) : ({ c with w := some k } : SL) = c := by
  cases c; simp_all

/-- Writing only the semaphore count of a record keeps the other fields of every record. -/
theorem sem_fields (wr : Wid → WRec) (k : Wid) (n : Nat) (k' : Wid) :
    (setFn wr k { wr k with sem := n } k').owner = (wr k').owner ∧
      (setFn wr k { wr k with sem := n } k').waiting = (wr k').waiting ∧
      (setFn wr k { wr k with sem := n } k').lType = (wr k').lType :=
  ⟨setFn_field WRec.owner k', setFn_field WRec.waiting k', setFn_field WRec.lType k'⟩

theorem semPost_fields (cfg : Cfg) (a : AState) (k k' : Wid) :
    ((a.semPost cfg k).wr k').owner = (a.wr k').owner ∧ ((a.semPost cfg k).wr k').waiting = (a.wr k').waiting ∧
      ((a.semPost cfg k).wr k').lType = (a.wr k').lType :=
  sem_fields a.wr k _ k'

theorem aqueue_step {cfg : Cfg} {a a' : AState} (hs : ASpin a) (h : AQueue a) (st : AStep cfg a a') :
    AQueue a' := by
  cases st with
  | acqFresh t l hro hts hb => exact h.of_eq (by simp) (by simp) (by simp)
  | enterSlow t l hro hts =>
    refine aqueue_role_plain h (fun c ph hr => by rw [hro] at hr; cases hr) ?_ (by rw [hro]; rfl)
      (fun sc hr => by cases hr)
    intro c ph hr; cases hr
    exact ⟨rfl, by simp [SL.ok, SL.entry, longWaitThreshold], rfl, Or.inl rfl⟩
  | acqSlow t c hro hts hb =>
    exact aqueue_leave h hro (by simp) (by simp) fun k => by
      simp only [AState.addShare_wr]
      exact ⟨(AState.dropW_wr _ c.w k).1, (AState.dropW_wr _ c.w k).2.1, (AState.dropW_wr _ c.w k).2.2.2⟩
  | enq t c hro hsp hb =>
    obtain ⟨e1, e2, e3⟩ := h.slok t c .pre hro
    have := aqueue_phase (ph' := .st) h hro rfl rfl (fun hq => by simp [Phase.queued] at hq)
      (fun hq => by simp [Phase.inLoop] at hq) ⟨e1, fun _ => e2 (Or.inl rfl), fun hq => by simp [Phase.queued] at hq⟩
      (fun e => by cases e)
    exact this.of_eq rfl rfl rfl
  | adopt t c k hro hw hq ho hwt =>
    have hsp : (a.ro t).spin = true := by rw [hro]; rfl
    refine aqueue_enqueue (k := k) h hro hq (Or.inl hw) ?_ ?_ ?_ (fun _ => mem_enqueue ..) (nodup_enqueue _ hq h.nodup) rfl
      ⟨by simp [setFn], by simp [setFn], by simp [setFn]⟩
      (setFn_others rfl)
    · intro u hu; have := (h.wk u k hu).2.1; rw [hwt] at this; cases this
    · intro t' c1 ph1 hr hcw
      have := (h.own k t').2 ⟨c1, ph1, hr, hcw⟩; rw [ho] at this; cases this
    · intro u sc hr
      have hu : (a.ro u).spin = true := by rw [hr]; rfl
      have := hs.unique hsp hu; subst this; rw [hro] at hr; cases hr
  | requeue t c k hro hw hq =>
    have hsp : (a.ro t).spin = true := by rw [hro]; rfl
    refine aqueue_enqueue (k := k) h hro hq (Or.inr hw) ?_ ?_ ?_ (fun _ => mem_enqueue ..) (nodup_enqueue _ hq h.nodup)
      (by rw [SL.with_w_self hw])
      ⟨?_, by simp [setFn], ?_⟩ (setFn_others rfl)
    · intro u hu
      obtain ⟨_, _, t', c1, ph1, hr, hcw, hph⟩ := h.wk u k hu
      have := h.owner_unique hr hcw hro hw; subst this
      rw [hro] at hr; cases hr; simp [Phase.inLoop] at hph
    · intro t' c1 ph1 hr hcw; exact h.owner_unique hr hcw hro hw
    · intro u sc hr
      have hu : (a.ro u).spin = true := by rw [hr]; rfl
      have := hs.unique hsp hu; subst this; rw [hro] at hr; cases hr
    · simp only [setFn, if_true]; exact (h.own k t).2 ⟨c, .st, hro, hw⟩
    · simp only [setFn, if_true]; exact h.lty t c .st k hro hw
  | relSpin t c hro =>
    obtain ⟨e1, e2, e3⟩ := h.slok t c .rel hro
    have := aqueue_phase (ph' := .loopLd) h hro rfl rfl (fun _ => Or.inl rfl)
      (fun hq => by simp [Phase.inLoop] at hq) ⟨e1, (fun e => by rcases e with e | e <;> cases e), fun _ => e3 rfl⟩
      (fun e => by cases e)
    exact this.of_eq rfl rfl rfl
  | loopWait t c k hro hw hwt =>
    obtain ⟨e1, e2, e3⟩ := h.slok t c .loopLd hro
    have := aqueue_phase (ph' := .loopP) h hro rfl rfl (fun _ => Or.inl rfl)
      (fun _ => Or.inl rfl) ⟨e1, (fun e => by rcases e with e | e <;> cases e), fun _ => e3 rfl⟩
      (fun e => by cases e)
    exact this.of_eq rfl rfl rfl
  | loopWoken t c k hro hw hwt =>
    obtain ⟨e1, e2, e3⟩ := h.slok t c .loopLd hro
    have := aqueue_phase (c' := c.woken) (ph' := .pre) h hro rfl rfl
      (fun _ => Or.inr (fun k' hk' hm => by
        rw [hw] at hk'; cases hk'
        have := (h.inq k hm).1; rw [hwt] at this; cases this))
      (fun _ => Or.inr (fun k' hk' u hm => by
        rw [hw] at hk'; cases hk'
        have := (h.wk u k hm).2.1; rw [hwt] at this; cases this))
      ⟨SL.ok_woken e1, fun _ => by show c.w.isSome = true; exact e3 rfl, fun hq => by simp [Phase.queued] at hq⟩
      (fun e => by cases e)
    exact this.of_eq rfl rfl rfl
  | pRet t c k hro hw hsem =>
    obtain ⟨e1, e2, e3⟩ := h.slok t c .loopP hro
    have := aqueue_phase (ph' := .loopLd) h hro rfl rfl (fun _ => Or.inl rfl)
      (fun _ => Or.inl rfl) ⟨e1, (fun e => by rcases e with e | e <;> cases e), fun _ => e3 rfl⟩
      (fun e => by cases e)
    exact aqueue_congr this rfl rfl (sem_fields a.wr k _)
  | release t l hro hts hsh hc => exact h.of_eq (by simp) (by simp) (by simp)
  | grab t l hro hts hsh hu hsp =>
    have hX : AQueue (({ a with word := grabWord l a.word, sp := some t } : AState).subShare t l) :=
      h.of_eq (by simp) (by simp) (by simp)
    refine aqueue_advance hX (by simp [hro, scan0, Role.wake]) (by simp [hro]) ⟨[], by simp [scan0]⟩ ?_
    intro u _; simp only [AState.subShare_ro]; exact hs.no_spin_of_free hsp u
  | rcDone t sc hro =>
    refine aqueue_advance h (by rw [hro]; rfl) (by simp [hro]) (h.scant t sc hro) ?_
    intro u hu
    cases hx : (a.ro u).spin with
    | false => rfl
    | true => exact absurd (hs.unique (by rw [hro]; rfl) hx) hu
  | finish t f hro =>
    have := aqueue_role_plain (r1 := roleAfter f.wake) h (fun c ph hr => by rw [hro] at hr; cases hr)
      (fun c ph hr => absurd hr (roleAfter_not_slow _ c ph)) (by rw [hro, roleAfter_wake]; rfl)
      (fun sc hr => absurd hr (roleAfter_not_scan _ sc))
    exact this.of_eq rfl rfl rfl
  | wakeStore t k r hro =>
    exact aqueue_wakeStore h hro rfl rfl ⟨by simp [setFn], by simp [setFn], by simp [setFn]⟩
      (setFn_others rfl)
  | post t k r hro =>
    have := aqueue_role_plain (r1 := roleAfter r) h (fun c ph hr => by rw [hro] at hr; cases hr)
      (fun c ph hr => absurd hr (roleAfter_not_slow _ c ph)) (by rw [hro, roleAfter_wake]; rfl)
      (fun sc hr => absurd hr (roleAfter_not_scan _ sc))
    exact aqueue_congr this rfl rfl (fun k' => semPost_fields cfg _ k k')
  | envV k => exact aqueue_congr h rfl rfl (fun k' => semPost_fields cfg _ k k')
  | envSem k n ho =>
    exact aqueue_congr h rfl rfl (sem_fields a.wr k _)

theorem aqueue_init : AQueue (abs init) := by
  refine ⟨?_, ?_, ?_, ?_, ?_, ?_, ?_, ?_, ?_, ?_, ?_⟩ <;> simp [abs, init, role, Role.wake]

end NsyncVerif.MuQ
