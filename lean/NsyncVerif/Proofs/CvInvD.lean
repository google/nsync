/-
  Layer `Cv`: the sequence-number invariant behind `C04_broadcast` ("every instance whose
  enqueue was published before the broadcast's first load of the cv word is unlinked by the time
  the broadcast returns").  It is the repaired layer's `CvFix.InvD` at the embedded state
  (`Proofs/CvUp.lean`); the argument is in `Proofs/CvFixInvD*.lean`.
-/
import NsyncVerif.Proofs.CvInvA
import NsyncVerif.Proofs.CvUpTr
import NsyncVerif.Proofs.CvFixInvDAll

namespace NsyncVerif.Cv

/-- Program points of a broadcast after it has either seen CV_NON_EMPTY clear or emptied the queue. -/
def bcastDone (x : Thr) : Bool :=
  x.bcast && (match x.loc with
    | .sRcLd | .sRcCas | .sRel | .wwMuLd | .wwMuCas | .wwRelLd | .wwRelCas | .wwRelLd2 | .wwStore | .wwV
    | .kRet => true
    | _ => false)

structure InvD (s : State) : Prop where
  seq0 : ∀ t, (s.thr t).seq0 ≤ s.seq
  pubSeq : ∀ r, (s.recs r).pub = true → (s.recs r).enqSeq < s.seq
  /-- while somebody holds the spinlock with CV_NON_EMPTY clear, nothing in the queue is published -/
  held : ∀ h, s.holder = some h → s.word.ne = false → ∀ r, r ∈ s.queue → (s.recs r).pub = false
  prepPub : ∀ r, (s.recs r).stat = .prep → (s.recs r).pub = false
  done : ∀ t, bcastDone (s.thr t) = true → ∀ r, r ∈ s.queue → (s.recs r).pub = true →
    (s.thr t).seq0 ≤ (s.recs r).enqSeq

theorem up_bcastDone (x : Thr) : CvFix.bcastDone x.up = bcastDone x := by
  simp only [CvFix.bcastDone, bcastDone, Thr.up]; cases x.loc <;> rfl

theorem invD_up {s : State} (h : CvFix.InvD s.up) : InvD s := by
  obtain ⟨d1, d2, d3, d4, d5⟩ := h
  refine ⟨d1, fun r => ?_, fun h e1 e2 r hr => ?_, fun r e => ?_, fun t e r hr => ?_⟩
  · have := d2 r.up; rw [State.up_recs] at this; exact this
  · have := d3 h e1 e2 r.up (List.mem_map_of_mem hr); rw [State.up_recs] at this; exact this
  · have := d4 r.up (up_stat e); rw [State.up_recs] at this; exact this
  · have := d5 t (by rw [State.up_thr, up_bcastDone]; exact e) r.up (List.mem_map_of_mem hr)
    rw [State.up_recs] at this; exact this

end NsyncVerif.Cv
