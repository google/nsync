/-
  Composition CvFix × MuX × vector clocks: the inductive invariant `JI` that carries the cv-signal
  edge to a TRANSFERRED waiter, its preservation by the events of other code on a mutex and by the
  events of the CvFix layer (among them cv.c's own accesses to a mutex word, which are also events
  of the mutex protocol), and the invariant over all reachable joint states.
-/
import NsyncVerif.Proofs.CvMuVC

namespace NsyncVerif.CvMu
open NsyncVerif NsyncVerif.CvFix

/-- A transferred record `r` and its transfer `w` (waker `w.by_`, clock `w.clk` from just before its
    cv.c/1, clock `w.call` at its call).
    `unpub`  not yet published: the waker is between cv.c/1 and cv.c/3 on the mutex the record was
             transferred to, HOLDS THAT MUTEX' SPINLOCK, and its own clock covers `w.clk`;
    `pub`    published (the waker's `ATM_CAS_REL` [cv.c/3] has succeeded): `w.clk` is covered by the
             RELEASE CLOCK OF THE MUTEX WORD and by the clock of the holder of the spinlock;
    `got`    … and by the clock of every thread that has acquired the word since;
    `woke`   once `waiting` is 0: by the release clock of `r.waiting`. -/
structure XR (p : JP) (r : Rid) (w : Wake) : Prop where
  unl : (p.j.s.recs r).unl = [Unl.waker w.by_]
  call : VC.Clock.le w.call w.clk
  unpub : p.j.g.pub r = false → (p.j.s.thr w.by_).loc.muHeld = true ∧ p.j.g.tm w.by_ = p.j.g.xm r ∧
    VC.Clock.le w.clk (p.c.vc w.by_) ∧ (p.j.mx (p.j.g.xm r)).sp = some w.by_
  pub : p.j.g.pub r = true → VC.Clock.le w.clk (p.c.relc (.mu (p.j.g.xm r))) ∧
    ∀ v, (p.j.mx (p.j.g.xm r)).sp = some v → VC.Clock.le w.clk (p.c.vc v)
  got : ∀ v, p.j.g.got v r = true → VC.Clock.le w.clk (p.c.vc v)
  woke : (p.j.s.recs r).waiting = false → VC.Clock.le w.clk (p.c.relc (.fld r .waiting))

/-- The edge invariant.
    `call`  a thread's clock covers its clock at its latest signal/broadcast call;
    `xfer`  every record in status `xfer` has its transfer recorded (`XR`);
    `seen`  what a thread recorded when it left its wait loop is covered by its clock;
    `exit`  a cv wait past its loop whose record was transferred, and whose instance a waker `u`
            unlinked, has recorded a transfer by `u`. -/
structure JI (p : JP) : Prop where
  call : ∀ u, VC.Clock.le (p.cc u) (p.c.vc u)
  xfer : ∀ r, (p.j.s.recs r).stat = .xfer → ∃ w, p.xf r = some w ∧ XR p r w
  seen : ∀ t w, p.xt t = some w → VC.Clock.le w.clk (p.c.vc t) ∧ VC.Clock.le w.call w.clk
  exit : ∀ t, (p.j.s.thr t).loc.afterLoop = true → (p.j.s.thr t).xferd = true →
    ∀ u, Unl.waker u ∈ (p.j.s.thr t).exitUnl → ∃ w, p.xt t = some w ∧ w.by_ = u

theorem ji_init : JI jpinit := by
  constructor
  · intro u i; simp [jpinit, VC.Clock.bot]
  · intro r h; simp [jpinit, jinit, init] at h
  · intro t w h; simp [jpinit] at h
  · intro t h; simp [jpinit, jinit, init, Loc.afterLoop] at h

/-- Events of other code on a mutex: loads, CASes of any order and release stores by the holder of
    the spinlock keep the release sequence of the word; an acquire CAS imports it. -/
theorem ji_step_mu {cfg : Config} {p : JP} {m : MuId} {x : MuX.Ev} {j' : JState} (hi : JI p)
    (h : jstep cfg p.j (.mu m x) = .ok j') : JI (jpnext p (.mu m x) j') := by
  obtain ⟨hs, hm, hg⟩ := jstep_mu h
  obtain ⟨g1, g2, g3, g4, g5⟩ := ghost_mu hg
  have hmono := xc_mono p.c (.mu m x)
  constructor
  · intro u; exact VC.Clock.le_trans (hi.call u) (hmono u)
  · intro r hx
    have hx' : (p.j.s.recs r).stat = .xfer := by rw [← hs]; exact hx
    obtain ⟨w, hw, hr⟩ := hi.xfer r hx'
    refine ⟨w, hw, ?_⟩
    constructor
    · show (j'.s.recs r).unl = _
      rw [hs]; exact hr.unl
    · exact hr.call
    · intro hp
      have hp' : p.j.g.pub r = false := by rw [← g4]; exact hp
      obtain ⟨a1, a2, a3, a4⟩ := hr.unpub hp'
      show (j'.s.thr w.by_).loc.muHeld = true ∧ j'.g.tm w.by_ = j'.g.xm r ∧
        VC.Clock.le w.clk ((xcstep p.c (.mu m x)).vc w.by_) ∧ (j'.mx (j'.g.xm r)).sp = some w.by_
      rw [hs, g2, g3]
      refine ⟨a1, a2, VC.Clock.le_trans a3 (hmono _), ?_⟩
      rcases muxStep_sp hm (p.j.g.xm r) with h1 | ⟨_, t, exp, new, ord, _, _, h3, _⟩ | ⟨_, x', hx'', h2, _, _⟩
      · rw [h1]; exact a4
      · rw [a4] at h3; cases h3
      · cases hx''
        rw [a4] at h2
        have h2' : w.by_ = x.tid := Option.some.inj h2
        rw [inTransfer_muHeld, ← h2', a1] at g1
        cases g1
    · intro hp
      have hp' : p.j.g.pub r = true := by rw [← g4]; exact hp
      obtain ⟨b1, b2⟩ := hr.pub hp'
      show VC.Clock.le w.clk ((xcstep p.c (.mu m x)).relc (.mu (j'.g.xm r))) ∧
        ∀ v, (j'.mx (j'.g.xm r)).sp = some v → VC.Clock.le w.clk ((xcstep p.c (.mu m x)).vc v)
      rw [g3]
      constructor
      · refine xc_keep_mu p.c m x _ _ ?_ b1
        intro t new ord hxe hloc
        cases hloc
        subst hxe
        obtain ⟨mm, hmm, _⟩ := muxStep_some hm
        obtain ⟨c1, c2⟩ := mux_st hmm
        exact ⟨c2, b2 t c1⟩
      · intro v hv
        rcases muxStep_sp hm (p.j.g.xm r) with h1 | ⟨hk, t, exp, new, ord, hx'', ha, _, h4⟩ | ⟨_, x', _, _, h3, _⟩
        · rw [h1] at hv; exact VC.Clock.le_trans (b2 v hv) (hmono v)
        · cases hx''
          rw [h4] at hv; cases hv
          rw [hk] at b1
          exact VC.Clock.le_trans b1 (xc_muAcq p.c v exp new ord m ha)
        · rw [h3] at hv; cases hv
    · intro v hv
      rcases g5 v r hv with h1 | ⟨exp, new, ord, rfl, ha, hp, hxm⟩
      · exact VC.Clock.le_trans (hr.got v h1) (hmono v)
      · have := (hr.pub hp).1
        rw [hxm] at this
        exact VC.Clock.le_trans this (xc_muAcq p.c v exp new ord m ha)
    · intro hwt
      have hwt' : (p.j.s.recs r).waiting = false := by rw [← hs]; exact hwt
      refine xc_keep_mu p.c m x _ _ ?_ (hr.woke hwt')
      intro t new ord _ hloc
      cases hloc
  · intro t w hw
    obtain ⟨h1, h2⟩ := hi.seen t w hw
    exact ⟨VC.Clock.le_trans h1 (hmono t), h2⟩
  · intro t hal hxf u hu
    have e : (jpnext p (.mu m x) j').j.s = p.j.s := hs
    rw [e] at hal hxf hu
    exact hi.exit t hal hxf u hu

theorem ccE_le (cc : Tid → VC.Clock) (c : VC.St XLoc) (e : Event)
    (h : ∀ u, VC.Clock.le (cc u) (c.vc u)) (u : Tid) : VC.Clock.le (ccE cc c e u) (c.vc u) := by
  cases e <;> first | exact h u | exact VC.upd_self_le h _ u

theorem xfE_keep (p : JP) (s' : State) (e : Event) (r : Rid) (h : newly p.j.s s' r = false) :
    xfE p s' e r = p.xf r := by
  cases e <;> try rfl
  case muCas u site exp new obs ok =>
    cases site <;> try rfl
    cases ok <;> try rfl
    simp [xfE, h]

/-- cv.c's accesses to a mutex word as events of the mutex protocol. -/
theorem muxOf_some {e : Event} {x : MuX.Ev} (h : muxOf e = some x) :
    (∃ t site obs, e = .muLd t site obs ∧ x = .ld t obs) ∨
    (∃ t site exp new obs, e = .muCas t site exp new obs false ∧ x = .casFail t exp obs) ∨
    (∃ t site exp new obs, e = .muCas t site exp new obs true ∧ x = .cas t exp new (ordX (mOrd site))) := by
  cases e <;> simp only [muxOf, reduceCtorEq, Option.some.injEq] at h
  case muLd t site obs => exact .inl ⟨t, site, obs, rfl, h.symm⟩
  case muCas t site exp new obs ok =>
    cases ok
    · exact .inr (.inl ⟨t, site, exp, new, obs, rfl, by simpa using h.symm⟩)
    · exact .inr (.inr ⟨t, site, exp, new, obs, rfl, by simpa using h.symm⟩)

theorem reloc_fld {m : MuId} {l : VLoc} {r : Rid} {f : Fld} (h : reloc m l = .fld r f) : l = .fld r f := by
  cases l <;> simp [reloc] at h ⊢
  exact h

theorem ji_step_cv {cfg : Config} {p : JP} {e : Event} {m : MuId} {o : VC.Ord} {j' : JState}
    (hr : Reachable cfg p.j.s) (hi : JI p) (h : jstep cfg p.j (.cv e m o) = .ok j') :
    JI (jpnext p (.cv e m o) j') := by
  obtain ⟨hs, hm, hg⟩ := jstep_cv h
  have G := ghost_cv hg
  have hI := inv_reachable hr
  have hf := invF_reachable hr
  have htr := step_tr hs
  have hmono := xc_mono p.c (.cv e m o)
  constructor
  · -- call
    intro u
    exact VC.Clock.le_trans (ccE_le p.cc p.c e hi.call u) (hmono u)
  · -- xfer
    intro r hw'
    have hw'' : (j'.s.recs r).stat = .xfer := hw'
    rcases xfer_entry hI htr r hw'' with ⟨hw, hu⟩ | ⟨u, exp, new, obs, rfl, hst, hu, hl⟩
    · -- transferred before
      have hn := newly_false_of_xfer (s' := j'.s) hw
      obtain ⟨w, hxf, R⟩ := hi.xfer r hw
      obtain ⟨gx, gg, gp⟩ := G.old r hn
      refine ⟨w, ?_, ?_⟩
      · show xfE p j'.s e r = some w
        rw [xfE_keep p j'.s e r hn]; exact hxf
      · constructor
        · show (j'.s.recs r).unl = _
          rw [hu]; exact R.unl
        · exact R.call
        · -- not published
          intro hp
          have hp' : j'.g.pub r = false := hp
          have hnp : ∀ exp new obs, e ≠ .muCas w.by_ .wwRelCas exp new obs true := by
            intro exp new obs he
            have := G.publ w.by_ exp new obs he r hw R.unl
            rw [this] at hp'; cases hp'
          have hpo : p.j.g.pub r = false := by
            rcases gp with h1 | ⟨_, _, _, _, _, _, _, _, h1⟩
            · rw [← h1]; exact hp'
            · rw [h1] at hp'; cases hp'
          obtain ⟨a1, a2, a3, a4⟩ := R.unpub hpo
          have hheld : (j'.s.thr w.by_).loc.muHeld = true := by
            rcases mu_leave htr w.by_ a1 with h6 | ⟨exp, new, obs, he⟩
            · exact h6
            · exact absurd he (hnp exp new obs)
          have htm : j'.g.tm w.by_ = p.j.g.tm w.by_ := by
            rcases G.tm w.by_ with h1 | ⟨exp, new, obs, he⟩
            · exact h1
            · subst he
              rcases muCas_accepted hs with ⟨_, hl⟩ | ⟨hc, _⟩
              · rw [hl] at a1; cases a1
              · cases hc
          show (j'.s.thr w.by_).loc.muHeld = true ∧ j'.g.tm w.by_ = j'.g.xm r ∧
            VC.Clock.le w.clk ((xcstep p.c (.cv e m o)).vc w.by_) ∧ (j'.mx (j'.g.xm r)).sp = some w.by_
          rw [gx, htm]
          refine ⟨hheld, a2, VC.Clock.le_trans a3 (hmono _), ?_⟩
          rcases muxStep_sp hm (p.j.g.xm r) with h1 | ⟨_, t, exp, new, ord, _, _, h3, _⟩ | ⟨_, x, hx, h2, _, h5⟩
          · rw [h1]; exact a4
          · rw [a4] at h3; cases h3
          · -- the holder gives the spinlock up: that is the waker's cv.c/3, which publishes
            exfalso
            rw [a4] at h2
            have htid : w.by_ = x.tid := Option.some.inj h2
            rcases muxOf_some hx with ⟨t, site, obs, rfl, rfl⟩ | ⟨t, site, exp, new, obs, rfl, rfl⟩ |
              ⟨t, site, exp, new, obs, rfl, rfl⟩
            · rcases h5 with ⟨_, _, _, _, h⟩ | ⟨_, _, _, h⟩ <;> cases h
            · rcases h5 with ⟨_, _, _, _, h⟩ | ⟨_, _, _, h⟩ <;> cases h
            · have htt : w.by_ = t := htid
              rcases muCas_accepted hs with ⟨_, hl⟩ | ⟨hc, _⟩
              · rw [htt, hl] at a1; cases a1
              · subst hc
                exact hnp exp new obs (by rw [htt])
        · -- published
          intro hp
          show VC.Clock.le w.clk ((xcstep p.c (.cv e m o)).relc (.mu (j'.g.xm r))) ∧
            ∀ v, (j'.mx (j'.g.xm r)).sp = some v → VC.Clock.le w.clk ((xcstep p.c (.cv e m o)).vc v)
          rw [gx]
          cases hpo : p.j.g.pub r with
          | true =>
            obtain ⟨b1, b2⟩ := R.pub hpo
            constructor
            · exact xc_keep_cv p.c e m o _ _ (fun l hl => reloc_ne_mu m _ e l hl) b1
            · intro v hv
              rcases muxStep_sp hm (p.j.g.xm r) with h1 | ⟨hk, t, exp, new, ord, hx, ha, _, h4⟩ | ⟨_, x, _, _, h3, _⟩
              · rw [h1] at hv; exact VC.Clock.le_trans (b2 v hv) (hmono v)
              · rw [h4] at hv
                have hvt : t = v := Option.some.inj hv
                subst hvt
                rcases muxOf_some hx with ⟨_, _, _, _, hxe⟩ | ⟨_, _, _, _, _, _, hxe⟩ |
                  ⟨t', site, exp', new', obs, rfl, hxe⟩
                · cases hxe
                · cases hxe
                · cases hxe
                  rw [hk] at b1
                  refine VC.Clock.le_trans b1 (xc_cvAcq p.c t site exp new obs m o ?_)
                  rw [← mOrd_siteOrd, ← ordX_isAcq]; exact ha
              · rw [h3] at hv; cases hv
          | false =>
            -- published by this very event: the waker's cv.c/3
            have hp' : j'.g.pub r = true := hp
            rcases gp with h1 | ⟨u, exp, new, obs, rfl, hmu, _, hunl, _⟩
            · rw [h1, hpo] at hp'; cases hp'
            · have hby : w.by_ = u := by
                have := R.unl; rw [hunl] at this
                simp only [List.cons.injEq, Unl.waker.injEq, and_true] at this
                exact this.symm
              subst hby
              obtain ⟨a1, a2, a3, a4⟩ := R.unpub hpo
              have hmx : m = p.j.g.xm r := by rw [hmu]; exact a2
              constructor
              · rw [← hmx]
                exact VC.Clock.le_trans a3 (xc_pub p.c w.by_ exp new obs m o)
              · intro v hv
                rcases muxStep_sp hm (p.j.g.xm r) with h1 | ⟨_, t, exp', new', ord, _, _, h3, _⟩ | ⟨_, x, _, _, h3, _⟩
                · rw [h1, a4] at hv
                  have : w.by_ = v := Option.some.inj hv
                  rw [← this]
                  exact VC.Clock.le_trans a3 (hmono _)
                · rw [a4] at h3; cases h3
                · rw [h3] at hv; cases hv
        · -- got
          intro v hv
          have hv' : p.j.g.got v r = true := by rw [← gg v]; exact hv
          exact VC.Clock.le_trans (R.got v hv') (hmono v)
        · -- woke
          intro hwt
          have hwt' : (j'.s.recs r).waiting = false := hwt
          by_cases hfs : ∃ v new, e = .fSt v r .waiting new
          · obtain ⟨v, new, rfl⟩ := hfs
            obtain ⟨hle, hwv⟩ := fSt_waiting hs
            rw [hwv] at hwt'
            have hn0 : new = 0 := by
              have : ¬ new = 1 := by simpa using hwt'
              omega
            subst hn0
            obtain ⟨k4, k5⟩ := G.wake v r rfl hw
            exact VC.Clock.le_trans (R.got v k5) (xc_fSt p.c v r 0 m o k4)
          · have hne : ∀ v new, e ≠ .fSt v r .waiting new := fun v new he => hfs ⟨v, new, he⟩
            have hfr := xfer_frame hI htr r hw'' hne
            have hwo : (p.j.s.recs r).waiting = false := by rw [← hfr]; exact hwt'
            refine xc_keep_cv p.c e m o _ _ ?_ (R.woke hwo)
            intro l hl hloc
            have := reloc_fld hloc
            subst this
            obtain ⟨v, new, he⟩ := xfer_no_store hI hs r hw hl
            exact hne v new he
    · -- transferred by this event: cv.c/1 of `u` succeeded
      have hne : (p.j.s.recs r).stat ≠ .xfer := by rw [hst]; simp
      have hn := newly_true hw'' hne
      obtain ⟨k1, ktm, kr⟩ := G.enter u exp new obs rfl
      obtain ⟨kx, kp, kg⟩ := kr r hn
      refine ⟨⟨u, p.c.vc u, p.cc u⟩, ?_, ?_⟩
      · show xfE p j'.s (.muCas u .wwCas exp new obs true) r = _
        simp [xfE, hn]
      · constructor
        · show (j'.s.recs r).unl = _
          rw [hu]; exact hf.unlL r u hst
        · exact hi.call u
        · intro _
          show (j'.s.thr u).loc.muHeld = true ∧ j'.g.tm u = j'.g.xm r ∧
            VC.Clock.le (p.c.vc u) ((xcstep p.c (.cv (.muCas u .wwCas exp new obs true) m o)).vc u) ∧
            (j'.mx (j'.g.xm r)).sp = some u
          rw [hl, ktm, kx]
          exact ⟨rfl, rfl, hmono u, k1⟩
        · intro hp
          have hp' : j'.g.pub r = true := hp
          rw [kp] at hp'; cases hp'
        · intro v hv
          have hv' : j'.g.got v r = true := hv
          rw [kg v] at hv'; cases hv'
        · intro hwt
          have hwt' : (j'.s.recs r).waiting = false := hwt
          exfalso
          have hfr := xfer_frame hI htr r hw'' (by intro v new he; cases he)
          have := hI.b.lWait r u hst
          rw [← hfr, hwt'] at this
          cases this
  · -- seen
    refine exitGhost_seen hmono hi.seen fun t r w he hx => ?_
    subst he
    split at hx
    · rename_i hw
      obtain ⟨w', hxf, R⟩ := hi.xfer r hw
      rw [hxf] at hx; cases hx
      have hwt := (wHead_exit_accepted hs).2.2.2.2.2.2.2.2.2
      exact ⟨VC.Clock.le_trans (R.woke hwt) (xc_wHead p.c t r 0 m o), R.call⟩
    · cases hx
  · -- exit
    refine exitGhost_exit hf hs hi.exit fun t r _ _ _ hx u hu => ?_
    have hw : (p.j.s.recs r).stat = .xfer := by simpa using hx
    obtain ⟨w, hxf, R⟩ := hi.xfer r hw
    exact ⟨w, by rw [if_pos hw]; exact hxf, (by simpa [R.unl] using hu : u = w.by_).symm⟩

theorem ji_reachable {cfg : Config} {p : JP} (h : JPReachable cfg p) : JI p ∧ Reachable cfg p.j.s :=
  h.elim fun _ => (isJPRun cfg).induct (Q := fun p => JI p ∧ Reachable cfg p.j.s)
    ⟨ji_init, ⟨[], rfl⟩⟩ fun p ev p' _ ⟨hi, hr⟩ hs => by
      obtain ⟨j1, hj, rfl⟩ := jpstep_ok hs
      cases ev with
      | cv e m o => exact ⟨ji_step_cv hr hi hj, reachable_step hr (jstep_cv hj).1⟩
      | mu m x =>
        exact ⟨ji_step_mu hi hj, by show Reachable cfg j1.s; rw [(jstep_mu hj).1]; exact hr⟩

end NsyncVerif.CvMu
