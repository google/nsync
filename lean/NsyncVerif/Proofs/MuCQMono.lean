import NsyncVerif.Proofs.MuCInv4
/-
  MuC: the scan of unlock_slow only moves waiters from the lists to its wake list; the set of queued
  waiters never grows during a scan step.
-/
namespace NsyncVerif.MuC

theorem queued_of_scan {s s' : State} {t : Tid} (h' : Inv4 s')
    (hpc : ∀ u, u ≠ t → s'.pc u = s.pc u)
    (hperm : (allOf s' t).Perm (allOf s t))
    (hoth : ∀ u, u ≠ t → (s.pc u).unl = false)
    (hwake : ∀ x, x ∈ (s.pc t).wakeL → x ∈ (s'.pc t).wakeL) {x : Wid} (hx : Queued s' x) : Queued s x := by
  have hin : x ∈ s'.queue ++ (s'.pc t).priv := by
    rcases hx with hx | ⟨u, sc, h1, h2⟩
    · simp [hx]
    · by_cases hu : u = t
      · subst hu; exact List.mem_append_right _ (mem_priv_iff.2 ⟨sc, h1, h2⟩)
      · have h3 := mem_priv_iff.2 ⟨sc, h1, h2⟩
        rw [hpc u hu, priv_nil_of_not_unl (hoth u hu)] at h3; cases h3
  have hnd := h'.nd t
  simp only [allOf] at hnd
  have hnw : x ∉ (s'.pc t).wakeL := fun e => (List.nodup_append.mp hnd).2.2 x hin x e rfl
  have hall : x ∈ allOf s t := hperm.mem_iff.1 (by simp only [allOf]; exact List.mem_append_left _ hin)
  simp only [allOf, List.mem_append] at hall
  rcases hall with (e | e) | e
  · exact Or.inl e
  · obtain ⟨sc, h1, h2⟩ := mem_priv_iff.1 e
    exact Or.inr ⟨t, sc, h1, h2⟩
  · exact absurd (hwake x e) hnw

end NsyncVerif.MuC
