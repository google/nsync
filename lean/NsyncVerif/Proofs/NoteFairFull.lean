/-
  Layer `Note`, fair termination, ALL calls: the termination theorems (`gen_returns`,
  Proofs/NoteFairGen.lean; `dl_returns`, `expiry_returns`, `notified_returns`) assume that the work
  of every thread is bounded (`GenHyps.work`).  It is (`finiteWork`): `finiteWork_settled` (once
  the set of notes is settled, Proofs/NoteFairFiniteWork.lean) + `settled_gen` (it is settled after the
  last arrival).  `GenHyps.of_fair` puts the two halves together.
-/
import NsyncVerif.Proofs.NoteFairFiniteWork

namespace Note

variable {s0 : State}

/-- BOUNDED WORK holds in every weakly fair execution with finitely many arrivals. -/
theorem finiteWork (x : Exec s0) (hr : Reachable s0) (hw : WeakFair x) (hf : FiniteArrivals x) :
    FiniteWork x := by
  obtain ⟨N, hS⟩ := settled_gen x hr hw hf
  exact finiteWork_settled x hr hS

/-- The hypotheses of the termination theorems: bounded work is not one of them. -/
theorem GenHyps.of_fair {x : Exec s0} (hr : Reachable s0) (hw : WeakFair x) (hl : LockFair x)
    (hwt : WaitFair x) (hf : FiniteArrivals x) : GenHyps x :=
  ⟨hr, hw, hl, hwt, hf, finiteWork x hr hw hf⟩

end Note
