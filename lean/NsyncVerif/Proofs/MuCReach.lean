import NsyncVerif.Proofs.MuCInv1Step
import NsyncVerif.Proofs.MuCInv2
import NsyncVerif.Proofs.MuCInv2Step
import NsyncVerif.Proofs.MuCInv3
import NsyncVerif.Proofs.MuCInv3Step
import NsyncVerif.Proofs.MuCQueueDefs
import NsyncVerif.Proofs.MuCQ
import NsyncVerif.Proofs.MuCQScan
import NsyncVerif.Proofs.MuCRing
import NsyncVerif.Proofs.MuCChain
import NsyncVerif.Proofs.MuCInv4
import NsyncVerif.Proofs.MuCInv4Enq
import NsyncVerif.Proofs.MuCInv4St
import NsyncVerif.Proofs.MuCInv4Scan
import NsyncVerif.Proofs.MuCEffScan
import NsyncVerif.Proofs.MuCInv4Step
import NsyncVerif.Proofs.MuCQMono
import NsyncVerif.Proofs.MuCInv5
import NsyncVerif.Proofs.MuCInv5Step
import NsyncVerif.Proofs.MuCInv6
import NsyncVerif.Proofs.MuCInv6Step
import NsyncVerif.Proofs.MuCInv7
import NsyncVerif.Proofs.MuCInv7Scan
import NsyncVerif.Proofs.MuCInv7Step
import NsyncVerif.Proofs.MuCOther
import NsyncVerif.Proofs.MuCInv8
import NsyncVerif.Proofs.MuCInv8Step
import NsyncVerif.Proofs.MuCInv9
import NsyncVerif.Proofs.MuCInv9Step
import NsyncVerif.Proofs.MuCInv10
import NsyncVerif.Proofs.MuCInv10Step
import NsyncVerif.Proofs.MuCInv11
import NsyncVerif.Proofs.MuCInv11Step
/-
  MuC: the invariants `Inv1` … `Inv11` hold in every reachable state, by one induction (`reachable_invs`); each
  `invN_step` takes the invariants of the old state it needs, and `Inv1`, `Inv4` of the new one where it asks for them.
-/
namespace NsyncVerif.MuC

structure Invs (s : State) : Prop where
  i1 : Inv1 s
  i2 : Inv2 s
  i3 : Inv3 s
  i4 : Inv4 s
  i5 : Inv5 s
  i6 : Inv6 s
  i7 : Inv7 s
  i8 : Inv8 s
  i9 : Inv9 s
  i10 : Inv10 s
  i11 : Inv11 s

theorem invs_init : Invs init :=
  ⟨inv1_init, inv2_init, inv3_init, inv4_init, inv5_init, inv6_init, inv7_init, inv8_init, inv9_init, inv10_init, inv11_init⟩

theorem invs_step {cfg : Cfg} {s s' : State} {e : Event} (a : Invs s) (hs : step cfg s e = .ok s') : Invs s' :=
  have h1' := inv1_step a.i1 hs
  have h4' := inv4_step a.i1 a.i3 a.i4 hs
  ⟨h1', inv2_step a.i1 a.i2 hs, inv3_step a.i1 a.i3 hs, h4', inv5_step a.i1 a.i3 a.i4 h4' a.i5 hs,
    inv6_step a.i1 a.i3 a.i4 a.i6 hs, inv7_step a.i1 h1' a.i3 a.i4 h4' a.i5 a.i6 a.i7 hs, inv8_step a.i8 hs,
    inv9_step a.i1 a.i3 a.i4 h4' a.i9 hs, inv10_step a.i1 a.i3 a.i4 h4' a.i9 a.i10 hs,
    inv11_step a.i1 a.i3 a.i4 a.i5 a.i7 a.i8 a.i9 a.i10 a.i11 hs⟩

theorem reachable_invs {cfg : Cfg} {s : State} (h : Reachable cfg s) : Invs s :=
  reachable_induction (P := Invs) invs_init (fun _ _ _ _ hp hs => invs_step hp hs) s h

theorem reachable_inv1 {cfg : Cfg} {s : State} (h : Reachable cfg s) : Inv1 s := (reachable_invs h).i1
theorem reachable_inv2 {cfg : Cfg} {s : State} (h : Reachable cfg s) : Inv2 s := (reachable_invs h).i2
theorem reachable_inv3 {cfg : Cfg} {s : State} (h : Reachable cfg s) : Inv3 s := (reachable_invs h).i3
theorem reachable_inv4 {cfg : Cfg} {s : State} (h : Reachable cfg s) : Inv4 s := (reachable_invs h).i4
theorem reachable_inv5 {cfg : Cfg} {s : State} (h : Reachable cfg s) : Inv5 s := (reachable_invs h).i5
theorem reachable_inv6 {cfg : Cfg} {s : State} (h : Reachable cfg s) : Inv6 s := (reachable_invs h).i6
theorem reachable_inv7 {cfg : Cfg} {s : State} (h : Reachable cfg s) : Inv7 s := (reachable_invs h).i7
theorem reachable_inv8 {cfg : Cfg} {s : State} (h : Reachable cfg s) : Inv8 s := (reachable_invs h).i8
theorem reachable_inv9 {cfg : Cfg} {s : State} (h : Reachable cfg s) : Inv9 s := (reachable_invs h).i9
theorem reachable_inv10 {cfg : Cfg} {s : State} (h : Reachable cfg s) : Inv10 s := (reachable_invs h).i10
theorem reachable_inv11 {cfg : Cfg} {s : State} (h : Reachable cfg s) : Inv11 s := (reachable_invs h).i11

theorem reachable_inv_all {cfg : Cfg} {s : State} (h : Reachable cfg s) :
    Inv1 s ∧ Inv3 s ∧ Inv4 s ∧ Inv5 s ∧ Inv6 s ∧ Inv7 s :=
  have a := reachable_invs h
  ⟨a.i1, a.i3, a.i4, a.i5, a.i6, a.i7⟩

end NsyncVerif.MuC
