/-
  Layer `CvFix`, observers (property C16, cv half): the invariant behind "the release store of
  emit_cv_state writes back exactly the word it found".

  `InvO`: (1) the test-and-set of an observer has `set = CV_SPINLOCK` only (`setNE = false`);
  (3) an observer is in the loop or holds the spinlock only if debug.c:246-247 said so
  (`dbgAcquires`: print_waiters, CV_NON_EMPTY seen, and blocking or the spinlock seen free);
  (2) while an observer holds the spinlock (`dWalk`, `dRc`) its local `word` (= `old`, the value
  `nsync_spin_test_and_set_` returned) has the CV_NON_EMPTY bit of the current cv word.  (2) is where
  "every change of the cv word happens under the cv spinlock" is used: every transition that changes
  the word is an acquisition (nobody held the spinlock before: `acq_facts`) or a release by the
  holder (`InvA.hold`, `InvA.others_free`: the holder is unique, so it is not the observer).
-/
import NsyncVerif.Proofs.CvFixInvG
import NsyncVerif.Proofs.CvFixThr

namespace NsyncVerif.CvFix

/-- Program points of `nsync_spin_test_and_set_`. -/
def Loc.spinLoop : Loc → Bool
  | .spLd0 | .spLd2 | .spCas => true
  | _ => false

/-- Program points at which emit_cv_state holds the cv spinlock (`acquired = 1`). -/
def Loc.dbgHolds : Loc → Bool
  | .dWalk | .dRc => true
  | _ => false

/-- The thread is inside a debug call (nsync_cv_debug_state, …_and_waiters, nsync_cv_debugger) on
    this cv. -/
def inDebug (x : Thr) : Bool :=
  match x.loc with
  | .dLd | .dWalk | .dRc | .dRet => true
  | .spLd0 | .spLd2 | .spCas => x.cont == .dbg
  | _ => false

theorem dbgHolds_holds {l : Loc} (h : l.dbgHolds = true) : l.holds = true := by
  cases l <;> simp_all [Loc.dbgHolds, Loc.holds]

theorem dbgHolds_inDebug {x : Thr} (h : x.loc.dbgHolds = true) : inDebug x = true := by
  unfold inDebug; cases hl : x.loc <;> simp_all [Loc.dbgHolds]

structure TInvO (s : State) (t : Tid) : Prop where
  noNE : (s.thr t).loc.spinLoop = true → (s.thr t).cont = .dbg → (s.thr t).setNE = false
  oldW : (s.thr t).loc.dbgHolds = true → (s.thr t).old.ne = s.word.ne
  /-- why the observer is in the test-and-set loop / holds the spinlock: debug.c:246-247 -/
  why : ((s.thr t).loc.spinLoop = true ∧ (s.thr t).cont = .dbg) ∨ (s.thr t).loc.dbgHolds = true →
    dbgAcquires (s.thr t).dk (s.thr t).dWord = true

def InvO (s : State) : Prop := ∀ t, TInvO s t

theorem invO_init : InvO init := by
  intro t; constructor <;> simp [init, Loc.spinLoop, Loc.dbgHolds]

/-- One thread gets a new frame; the NON_EMPTY bit of the word is unchanged, or no other thread is an
    observer holding the spinlock. -/
theorem invO_of {s s' : State} {t : Tid} (ho : InvO s) (hoth : ∀ u, u ≠ t → s'.thr u = s.thr u)
    (hw : s'.word.ne = s.word.ne ∨ ∀ u, u ≠ t → (s.thr u).loc.dbgHolds = false)
    (ht : TInvO s' t) : InvO s' := by
  intro u
  by_cases hu : u = t
  · subst hu; exact ht
  · constructor
    · rw [hoth u hu]; exact (ho u).noNE
    · rw [hoth u hu]
      intro h
      rcases hw with hw | hw
      · rw [hw]; exact (ho u).oldW h
      · rw [hw u hu] at h; cases h
    · rw [hoth u hu]; exact (ho u).why

/-- Nothing but the frame-independent parts of the state changes. -/
theorem invO_same {s s' : State} (ho : InvO s) (ht : s'.thr = s.thr) (hw : s'.word = s.word) : InvO s' := by
  intro u
  constructor
  · rw [ht]; exact (ho u).noNE
  · rw [ht, hw]; exact (ho u).oldW
  · rw [ht]; exact (ho u).why

theorem ltr_o {s : State} {t : Tid} {e : Event} {x' : Thr} (ho : TInvO s t) (h : LTr s t e x') :
    (x'.loc.spinLoop = true → x'.cont = .dbg → x'.setNE = false) ∧
    (x'.loc.dbgHolds = true → x'.old.ne = s.word.ne) ∧
    ((x'.loc.spinLoop = true ∧ x'.cont = .dbg) ∨ x'.loc.dbgHolds = true → dbgAcquires x'.dk x'.dWord = true) := by
  obtain ⟨o1, o2, o3⟩ := ho
  -- the new program point is outside the test-and-set loop and the observer's critical section
  have out : ∀ {y : Thr}, y.loc.spinLoop = false → y.loc.dbgHolds = false →
      (y.loc.spinLoop = true → y.cont = .dbg → y.setNE = false) ∧
      (y.loc.dbgHolds = true → y.old.ne = s.word.ne) ∧
      ((y.loc.spinLoop = true ∧ y.cont = .dbg) ∨ y.loc.dbgHolds = true → dbgAcquires y.dk y.dWord = true) :=
    fun h1 h2 => ⟨fun h => (by rw [h1] at h; cases h), fun h => (by rw [h2] at h; cases h),
      fun h => (by rw [h1, h2] at h; simp at h)⟩
  cases h with
  | spinLd site obs hl ho' =>
    rcases hl with ⟨_, hl⟩ | ⟨_, hl⟩ <;> split <;> simp_all [Loc.spinLoop, Loc.dbgHolds]
  | casFail exp new obs hl ho' hne => simp_all [Loc.spinLoop, Loc.dbgHolds]
  | spinLdN | sigLd => split <;> simp [Loc.spinLoop, Loc.dbgHolds]
  | wHeadStay r obs hl hr ho' hz =>
    split
    · by_cases hn : (s.thr t).note = true <;> simp [hn, Loc.spinLoop, Loc.dbgHolds]
    · exact out rfl rfl
  | wChk y r obs hy hl hr ho' hso => split <;> simp [Loc.spinLoop, Loc.dbgHolds]
  | wChk2 | wwLd | wwRelCasOk => split <;> exact out rfl rfl
  | ready r obs hl hr ho' => exact out (by rw [hl]; rfl) (by rw [hl]; rfl)
  | deqSpinStay r obs hl hr hw => exact out (by rw [hl]; rfl) (by rw [hl]; rfl)
  | noteSeen hl => rcases hl with hl | hl | hl <;> exact out (by simp [hl, Loc.spinLoop]) (by simp [hl, Loc.dbgHolds])
  | noteNotify hl ht => exact out (by simp [hl, Loc.spinLoop]) (by simp [hl, Loc.dbgHolds])
  | dbgLd obs hl ho' => split <;> simp_all [Loc.spinLoop, Loc.dbgHolds]
  | dbgW r obs hl hq hm ho' => simp_all [Loc.spinLoop, Loc.dbgHolds]
  | dbgRc r obs hl hq ho' => simp_all [Loc.spinLoop, Loc.dbgHolds]
  | _ => exact out rfl rfl

theorem afterAcquire_word (s : State) (t : Tid) (x : Thr) : (afterAcquire s t x).word = s.word := by
  unfold afterAcquire
  split <;> simp

theorem afterAcquire_dbg (s : State) (t : Tid) (x : Thr) (hc : x.cont = .dbg) :
    afterAcquire s t x = s.setThr t { x with loc := .dWalk } := by
  unfold afterAcquire
  split <;> simp_all

theorem ite_sRel_out (b : Bool) :
    (if b = true then Loc.sRel else Loc.sRcLd).dbgHolds = false ∧
    (if b = true then Loc.sRel else Loc.sRcLd).spinLoop = false := by
  cases b <;> simp [Loc.dbgHolds, Loc.spinLoop]

theorem afterAcquire_not_dbg (s : State) (t : Tid) (x : Thr) (hc : x.cont ≠ .dbg) :
    ((afterAcquire s t x).thr t).loc.dbgHolds = false ∧ ((afterAcquire s t x).thr t).loc.spinLoop = false := by
  unfold afterAcquire
  split
  · simp [Loc.dbgHolds, Loc.spinLoop]
  · simp [Loc.dbgHolds, Loc.spinLoop]
  · simp [Loc.dbgHolds, Loc.spinLoop]
  · rename_i h; exact absurd h hc
  · dsimp only
    simp only [updT_apply, if_true]
    exact ite_sRel_out _

/-- A release of the spinlock by `t`: nobody else holds it, and `t` does not afterwards. -/
theorem invO_release {s s' : State} {t : Tid} (ha : InvA s) (ho : InvO s) (hh : s.holder = some t)
    (hoth : ∀ u, u ≠ t → s'.thr u = s.thr u)
    (hl : (s'.thr t).loc.spinLoop = false ∧ (s'.thr t).loc.dbgHolds = false) : InvO s' := by
  refine invO_of (t := t) ho hoth (.inr ?_) ⟨?_, ?_, ?_⟩
  · intro u hu
    have := ha.others_free ((ha.hold t).mp hh) u hu
    cases hb : (s.thr u).loc.dbgHolds
    · rfl
    · rw [dbgHolds_holds hb] at this; cases this
  · intro h; rw [hl.1] at h; cases h
  · intro h; rw [hl.2] at h; cases h
  · intro h; rw [hl.1, hl.2] at h; simp at h

/-- A step of `t` that leaves the word alone and ends outside the spin loop and the observer's
    critical section. -/
theorem invO_out {s s' : State} {t : Tid} (ho : InvO s) (hw : s'.word = s.word)
    (hoth : ∀ u, u ≠ t → s'.thr u = s.thr u)
    (hl : (s'.thr t).loc.spinLoop = false ∧ (s'.thr t).loc.dbgHolds = false) : InvO s' := by
  refine invO_of (t := t) ho hoth (.inl (by rw [hw])) ⟨?_, ?_, ?_⟩
  · intro h; rw [hl.1] at h; cases h
  · intro h; rw [hl.2] at h; cases h
  · intro h; rw [hl.1, hl.2] at h; simp at h

theorem wakeEntry_out (s : State) (l : List Rid) :
    (wakeEntry s l).spinLoop = false ∧ (wakeEntry s l).dbgHolds = false := by
  rcases wakeEntry_cases s l with ⟨_, hw⟩ | ⟨_, hw | hw⟩ <;> simp [hw, Loc.spinLoop, Loc.dbgHolds]

theorem invO_tr {cfg : Config} {s s' : State} {e : Event} (ha : InvA s) (ho : InvO s) (h : Tr cfg s e s') :
    InvO s' := by
  cases h with
  | same e h => exact ho
  | tick | semOther => exact invO_same ho rfl rfl
  | loc h =>
    rename_i t x'
    have := ltr_o (ho t) h
    exact invO_of (t := t) ho (fun u hu => by simp [hu]) (.inl rfl)
      ⟨by simpa using this.1, by simpa using this.2.1, by simpa using this.2.2⟩
  | acq t exp new obs o n hl hexp hw he ho' hn hnew =>
    obtain ⟨f1, f2, f3, f4, f5, f6⟩ := acq_facts ha hl hexp hw he ho' hn hnew
    subst f1
    have hfree : ∀ u, u ≠ t → (s.thr u).loc.dbgHolds = false := by
      intro u _
      cases hb : (s.thr u).loc.dbgHolds
      · rfl
      · have := f6 u; rw [dbgHolds_holds hb] at this; cases this
    by_cases hc : (s.thr t).cont = .dbg
    · rw [afterAcquire_dbg _ _ _ (by simpa using hc)]
      refine invO_of (t := t) ho (fun u hu => by simp [hu]) (.inr hfree) ⟨?_, ?_, ?_⟩
      · simp [Loc.spinLoop]
      · intro _
        have hne := (ho t).noNE (by simp [hl, Loc.spinLoop]) hc
        simp [f5, hne]
      · intro _
        simpa using (ho t).why (.inl ⟨by simp [hl, Loc.spinLoop], hc⟩)
    · obtain ⟨h1, h2⟩ := afterAcquire_not_dbg { s with word := n, holder := some t } t { s.thr t with old := s.word }
        (by simpa using hc)
      refine invO_of (t := t) ho (fun u hu => afterAcquire_thr_other _ _ _ _ hu) (.inr hfree) ⟨?_, ?_, ?_⟩
      · intro h; rw [h2] at h; cases h
      · intro h; rw [h1] at h; cases h
      · intro h; rw [h1, h2] at h; simp at h
  | relWait t new obs n hl hh | relWait2 t new obs n hl hh | relEnq t new obs n hl hh
  | relDeq t new obs n hl hh | relDeqW t new obs n hl hh | relDbg t new obs n hl hh =>
    exact invO_release (t := t) ha ho hh (fun u hu => by simp [hu]) (by simp [Loc.spinLoop, Loc.dbgHolds])
  | relSig t site new obs n hl hs hh hnew hn hsp =>
    exact invO_release (t := t) ha ho hh (fun u hu => by simp [hu]) (by simpa using wakeEntry_out s (s.thr t).list)
  | wHeadExit t r y hy hl hr hw =>
    subst hy
    exact invO_out (t := t) ho rfl (fun u hu => by simp [hu]) (by simp [Loc.spinLoop, Loc.dbgHolds])
  | wCmpEq t | deqLdQueued t | deqSpinExit t | wClr t | wake t | enqSt t | deqSt t | wRmCasOk t
  | wwCasOk t | semPdRetOkW t | semPdRetOkC t =>
    exact invO_out (t := t) ho rfl (fun u hu => by simp [hu]) (by simp [Loc.spinLoop, Loc.dbgHolds])
  | sRcCasOk t | semVWake t =>
    refine invO_out (t := t) ho rfl (fun u hu => by simp [hu]) ?_
    simp; split <;> simp [Loc.spinLoop, Loc.dbgHolds]
  | wSt1 t r obs hl hm hst =>
    refine invO_of (t := t) ho (fun u hu => by simp [hu]) (.inl rfl) ⟨?_, ?_, ?_⟩
    · simp; split <;> simp [Loc.spinLoop]
    · simp; split <;> simp [Loc.dbgHolds]
    · simp; split <;> simp [Loc.dbgHolds, Loc.spinLoop]
  | muMode t obs lt hl hlt =>
    refine invO_of (t := t) ho (fun u hu => by simp [hu]) (.inl rfl) ⟨?_, ?_, ?_⟩
    · simp
    · simp [Loc.dbgHolds]
    · simp [Loc.dbgHolds]
  | wInit | nwInit | fStW | fCasOk => exact invO_same ho rfl rfl

end NsyncVerif.CvFix
