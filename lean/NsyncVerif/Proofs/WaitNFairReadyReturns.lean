/-
  Proofs/WaitNFairReadyReturns.lean — WaitN layer, liveness, case (b): a sleeper that is never woken again while one of its
  objects is ready for it is eventually not blocked (`ready_unblocks`), hence a call for which an object becomes ready
  while it is at the P returns (`wait_returns`), with an index (`wait_index_ready`).
-/
import NsyncVerif.Proofs.WaitNFairTok


namespace WaitN
open NsyncVerif

variable {s0 : State}

theorem ready_unblocks (x : Exec s0) (H : FairHyps x) (t : Tid) (j : Nat) (k : SemId) (i : Nat) (r : Rid)
    (hst : Still x t j) (hpk : (x.ρ j).pc t = .wPdWait k) (hrec : ((x.ρ j).fr t).recs[i]? = some r)
    (hb : becameReady (x.ρ j) t i r) : ∃ j1, j ≤ j1 ∧ ∀ j', j1 ≤ j' → ¬ Blocked (x.ρ j') t := by
  have hr := H.reach
  have hp : ∀ a, j ≤ a → (x.ρ a).pc t = .wPdWait k := fun a ha => by rw [hst.pc_ge ha]; exact hpk
  have hsl : ∀ a, j ≤ a → inSleep ((x.ρ a).pc t) = true := fun a ha => by rw [hp a ha]; rfl
  have hrdy : ∀ a, j ≤ a → ((x.ρ a).fr t).recs[i]? = some r ∧ becameReady (x.ρ a) t i r :=
    Sched.keeps_from ⟨hrec, hb⟩ fun a ha ih =>
      ready_step x hr t a (hsl a ha) ih.1 ih.2
  have hrecs : ∀ a a', j ≤ a → a ≤ a' → ((x.ρ a').fr t).recs = ((x.ρ a).fr t).recs := fun a a' h1 h2 => by
    rw [frSame_recs (hst.fr_ge (by omega)), frSame_recs (hst.fr_ge h1)]
  have hmin : ∀ a a', j ≤ a → a ≤ a' → ((x.ρ a').fr t).min = ((x.ρ a).fr t).min := fun a a' h1 h2 => by
    rw [frSame_min (hst.fr_ge (by omega)), frSame_min (hst.fr_ge h1)]
  -- a token, or the deadline of the P has passed: not blocked any more
  have good_forever : ∀ a, j ≤ a → (0 < (x.ρ a).sem k ∨ expiredB ((x.ρ a).fr t).min (x.ρ a).now = true) →
      ∀ a', a ≤ a' → ¬ Blocked (x.ρ a') t := by
    intro a ha hg a' ha' hbl
    rcases hbl with ⟨k', hpk', hsem, hexp⟩ | ⟨o, ho, _⟩ | ⟨k', r', hpk', _, _⟩
    · rw [hp a' (by omega)] at hpk'; cases hpk'
      rcases hg with hg | hg
      · have := token_stays x hr t k a (fun a'' h => hp a'' (by omega)) hg a' ha'
        omega
      · rw [hmin a a' ha ha'] at hexp
        rw [expiredB_mono (x.now_mono ha') hg] at hexp; cases hexp
    · rw [hp a' (by omega)] at ho; cases ho
    · rw [hp a' (by omega)] at hpk'; cases hpk'
  suffices hex : ∃ a, j ≤ a ∧ (0 < (x.ρ a).sem k ∨ expiredB ((x.ρ a).fr t).min (x.ρ a).now = true) by
    obtain ⟨a, ha, hg⟩ := hex
    exact ⟨a, ha, good_forever a ha hg⟩
  apply Classical.byContradiction
  intro hng
  have tok_good : ∀ a, j ≤ a → ∀ b, Tok (x.ρ a) b t → False := by
    intro a ha b ⟨k', hk', hpos, _⟩
    have := (sb_of_reachable (x.reach hr a)).b3 t k (hp a ha)
    rw [this] at hk'; cases hk'
    exact hng ⟨a, ha, .inl hpos⟩
  have infl_good : ∀ a, j ≤ a → InFlight (x.ρ a) t → False := by
    intro a ha ⟨u, r', hpost, hmem⟩
    obtain ⟨a', ha', hpos⟩ := inflight_posts x H t k a u r' (fun a'' h => hp a'' (by omega))
      (fun a'' h => by rw [hrecs a a'' ha h]; exact hmem) hpost
    exact hng ⟨a', by omega, .inl hpos⟩
  -- so the record is still queued on the ready object, whose mutex is held: at all times
  have hD : ∀ a, j ≤ a → ∃ o, ((x.ρ a).fr t).objs[i]? = some o ∧ ((x.ρ a).obj o).lock ≠ none := by
    intro a ha
    obtain ⟨evs, hrun⟩ := x.reach hr a
    rcases C11_no_oversleep hrun (.inr ⟨k, hp a ha⟩) (hrdy a ha).1 (hrdy a ha).2 with h | h | h | h | h
    · exact (tok_good a ha _ h).elim
    · exact (infl_good a ha h).elim
    · obtain ⟨u, c, l, hwk, hpd⟩ := h
      obtain ⟨a', ha', hw⟩ := pend_clears x H a u c l r hwk hpd
      obtain ⟨evs', hrun'⟩ := x.reach hr a'
      rcases C11_cleared_accounted hrun' (.inr ⟨k, hp a' (by omega)⟩) (hrdy a' (by omega)).1 hw with h' | h'
      · exact (tok_good a' (by omega) _ h').elim
      · exact (infl_good a' (by omega) h').elim
    · obtain ⟨o, u, ho, _, _, _, hlk⟩ := h
      exact ⟨o, ho, by rw [hlk]; simp⟩
    · exact (hng ⟨a, ha, .inr h⟩).elim
  obtain ⟨o, ho, _⟩ := hD j (Nat.le_refl _)
  obtain ⟨j', hj', hfree⟩ := lock_free_again x hr H.weak H.foreign o j
  obtain ⟨o', ho', hlk'⟩ := hD j' hj'
  rw [frSame_objs (hst.fr_ge hj'), ho] at ho'
  cases ho'
  exact hlk' hfree

/-- the proviso of case (b): at some time while the call is at its P one of its objects is ready for it -/
def ReadyAtP (x : Exec s0) (t : Tid) (i : Nat) : Prop :=
  ∃ i' k r, i ≤ i' ∧ (∀ j, i ≤ j → j ≤ i' → (x.ρ j).pc t ≠ .idle) ∧ atP (x.ρ i') t
    ∧ ((x.ρ i').fr t).recs[k]? = some r ∧ becameReady (x.ρ i') t k r

/-- An nsync_wait_n call returns if its abs_deadline is finite or one of its objects becomes ready for it. -/
theorem wait_returns (x : Exec s0) (H : FairHyps x) (hclk : ClockAdvances x) (t : Tid) (hfw : FiniteWakeups x t) (i : Nat)
    (hin : inCall ((x.ρ i).pc t) = true)
    (hprov : (∃ d : Int, ((x.ρ i).fr t).dl = some d) ∨ ReadyAtP x t i) :
    ∃ j, i ≤ j ∧ (x.ρ j).pc t = .idle := by
  rcases hprov with ⟨d, hd⟩ | ⟨i', k0, r, hi', -, hatp, hrec, hb⟩
  · exact wait_returns_timed x H hclk t hfw i hin d hd
  · refine wait_returns_core x H t hfw i hin (fun j _ hni hst k hpk => ?_)
    have hr := H.reach
    -- look at the later of the two times
    have hsl' : inSleep ((x.ρ i').pc t) = true := inSleep_of_atP hatp
    have hpa : ∀ a, j ≤ a → (x.ρ a).pc t = .wPdWait k := fun a ha => by rw [hst.pc_ge ha]; exact hpk
    by_cases hle : i' ≤ j
    · -- the readiness has persisted from i' to j
      have hbetween := inSleep_between x hr t (fun m h1 h2 => hni m (by omega) h2) hsl' (by rw [hpk]; rfl)
      have hready : ∀ m, i' ≤ m → m ≤ j → ((x.ρ m).fr t).recs[k0]? = some r ∧ becameReady (x.ρ m) t k0 r :=
        Sched.keeps_from (P := fun m => m ≤ j → ((x.ρ m).fr t).recs[k0]? = some r ∧ becameReady (x.ρ m) t k0 r)
          (fun _ => ⟨hrec, hb⟩) fun m h1 ih h2 => by
            have ih := ih (by omega)
            exact ready_step x hr t m (hbetween m h1 (by omega)) ih.1 ih.2
      exact ready_unblocks x H t j k k0 r hst hpk (hready j hle (Nat.le_refl j)).1 (hready j hle (Nat.le_refl j)).2
    · -- the sleeper is stuck before i': at i' it is still there
      have hst' : Still x t i' := fun j' hj' => hst j' (by omega)
      obtain ⟨j1, hj1, hnb⟩ := ready_unblocks x H t i' k k0 r hst' (hpa i' (by omega)) hrec hb
      exact ⟨j1, by omega, hnb⟩

/-- … and without abs_deadline it returns the index of a ready object, not `count`. -/
theorem wait_index_ready (x : Exec s0) (H : FairHyps x) (hclk : ClockAdvances x) (t : Tid) (hfw : FiniteWakeups x t) (i : Nat)
    (hin : inCall ((x.ρ i).pc t) = true) (hdl : ((x.ρ i).fr t).dl = none) (hrdy : ReadyAtP x t i) :
    ∃ j r nested, i ≤ j ∧ x.σ j = some (.thr t (.retWaitN r nested)) ∧ (x.ρ (j + 1)).pc t = .idle
      ∧ r < ((x.ρ j).fr t).count ∧ readyFor (x.ρ j) t r := by
  obtain ⟨j, hj, hidle⟩ := wait_returns x H hclk t hfw i hin (.inr hrdy)
  exact index_of_return x H.reach t i j hj hin hdl hidle

/-- The only way for an nsync_wait_n call not to return is to sleep in the P of wait.c:78 for ever, blocked again and
    again (no deadline / readiness proviso: a call that finds an object ready before it sleeps returns). -/
theorem wait_returns_or_sleeps (x : Exec s0) (H : FairHyps x) (t : Tid) (hfw : FiniteWakeups x t) (i : Nat)
    (hin : inCall ((x.ρ i).pc t) = true) :
    (∃ j, i ≤ j ∧ (x.ρ j).pc t = .idle)
    ∨ (∃ j k, i ≤ j ∧ Still x t j ∧ (x.ρ j).pc t = .wPdWait k ∧ ∀ j1, j ≤ j1 → ∃ j', j1 ≤ j' ∧ Blocked (x.ρ j') t) := by
  by_cases h : ∃ j k, i ≤ j ∧ Still x t j ∧ (x.ρ j).pc t = .wPdWait k ∧ ∀ j1, j ≤ j1 → ∃ j', j1 ≤ j' ∧ Blocked (x.ρ j') t
  · exact .inr h
  · left
    refine wait_returns_core x H t hfw i hin (fun j hj _ hst k hpk => ?_)
    apply Classical.byContradiction
    intro hno
    refine h ⟨j, k, hj, hst, hpk, fun j1 hj1 => ?_⟩
    apply Classical.byContradiction
    intro hnb
    exact hno ⟨j1, hj1, fun j' hj' hbl => hnb ⟨j', hj', hbl⟩⟩

end WaitN
