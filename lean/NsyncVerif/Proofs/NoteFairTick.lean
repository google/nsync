/-
  Layer `Note`, fair termination: an execution whose clock passes every value — a finite accepted
  trace followed by `tick`s for ever (`tickExec`) — and the concrete one used for the non-vacuity
  of `C09_fair_termination_deadline`: a `nsync_note_wait` with a finite deadline on a note that is
  never notified really sleeps, the clock passes the deadline, P returns ETIMEDOUT, the wait
  dequeues itself and returns 0 (`timedExec`).
-/
import NsyncVerif.Proofs.NoteFairWitness
import NsyncVerif.Proofs.NoteFairDl


namespace Note

/-- A finite accepted trace from `s`, then one `tick` per time unit for ever. -/
def tickExec (s : State) (evs : List Event) (sf : State) (h : run s evs = .ok sf) : Exec s :=
  { ρ := fun i => if i < evs.length then stateFrom s (evs.take i)
                  else sf.setNow (sf.now + (i - evs.length))
    σ := fun i => if i < evs.length then evs[i]?
                  else some (.tick (sf.now + (i + 1 - evs.length)))
    start := by
      by_cases h0 : 0 < evs.length
      · simp [h0, stateFrom, run]
      · have : evs = [] := by
          cases evs with
          | nil => rfl
          | cons e es => simp at h0
        subst this
        simp only [run, Except.ok.injEq] at h
        subst h
        simp [State.setNow]
    next := by
      intro i
      by_cases hi : i < evs.length
      · simp only [hi, if_true]
        have he : evs[i]? = some evs[i] := List.getElem?_eq_getElem hi
        rw [he]
        have hs := stateFrom_step h hi
        by_cases hi1 : i + 1 < evs.length
        · simp only [hi1, if_true]; exact hs
        · simp only [hi1, if_false]
          have : i + 1 = evs.length := by omega
          rw [this, stateFrom_all h (Nat.le_refl _)] at hs
          rw [hs, this]
          simp [State.setNow]
      · have hi1 : ¬ i + 1 < evs.length := by omega
        simp only [hi, hi1, if_false]
        have hle : (sf.setNow (sf.now + (i - evs.length))).now ≤ sf.now + (i + 1 - evs.length) := by
          simp only [State.setNow]; omega
        simp only [step, need, hle, if_true]
        rfl }

theorem tickExec_tail {s : State} {evs : List Event} {sf : State} (h : run s evs = .ok sf)
    {j : Nat} (hj : evs.length ≤ j) :
    (tickExec s evs sf h).ρ j = sf.setNow (sf.now + (j - evs.length)) ∧
    (tickExec s evs sf h).σ j = some (.tick (sf.now + (j + 1 - evs.length))) := by
  have : ¬ j < evs.length := by omega
  exact ⟨by show (if _ then _ else _) = _; simp [this], by show (if _ then _ else _) = _; simp [this]⟩

theorem tickExec_head {s : State} {evs : List Event} {sf : State} (h : run s evs = .ok sf)
    {j : Nat} (hj : j < evs.length) :
    (tickExec s evs sf h).ρ j = stateFrom s (evs.take j) ∧
    (tickExec s evs sf h).σ j = evs[j]? :=
  ⟨by show (if _ then _ else _) = _; simp [hj], by show (if _ then _ else _) = _; simp [hj]⟩

theorem tickExec_clock {s : State} {evs : List Event} {sf : State} (h : run s evs = .ok sf) :
    ClockAdvances (tickExec s evs sf h) := by
  intro v i
  refine ⟨max i (evs.length + v), by omega, ?_⟩
  rw [(tickExec_tail h (by omega : evs.length ≤ max i (evs.length + v))).1]
  simp only [State.setNow]
  omega

/-! ### the concrete execution -/

/-- `nsync_note_wait (note0, deadline 5)` by `t`: sleeps; the clock goes to 7; ETIMEDOUT; dequeue;
    returns 0. -/
def timedWait (t : Tid) : List Event := [
  .call t (.wait 0 (some 5)), .waitnCall t (some 5), .ld t .dlLd1 .acq 0 0, .lockCall t 0,
  .lockRet t, .ld t .dlLd2 .acq 0 0, .unlockCall t 0, .unlockRet t, .now t 0,
  .stW t .waitInit .rlx 0 0 0, .lockCall t 0, .lockRet t, .ld t .enqLd .acq 0 0,
  .stW t .enqSt1 .rlx 0 1 0, .unlockCall t 0, .unlockRet t,
  .ld t .dlLd1 .acq 0 0, .lockCall t 0, .lockRet t, .ld t .dlLd2 .acq 0 0, .unlockCall t 0,
  .unlockRet t, .now t 0, .pdEnter t 0 (some 5),
  .tick 7,
  .pdRet t 0 true, .ld t .dlLd1 .acq 0 0, .lockCall t 0, .lockRet t, .ld t .dlLd2 .acq 0 0,
  .unlockCall t 0, .unlockRet t, .now t 7,
  .lockCall t 0, .lockRet t, .ld t .deqLd .acq 0 0, .stW t .deqSt .rlx 0 0 1,
  .unlockCall t 0, .unlockRet t, .waitnRet t 1, .ret t (.wait false)]

def timedEvs : List Event := mkRoot 2 ++ timedWait 1

def timedFinal : State := (run init timedEvs).toOption.get (by decide)

theorem timed_run : run init timedEvs = .ok timedFinal := ok_get _ _

def timedExec : Exec init := tickExec init timedEvs timedFinal timed_run

theorem timed_final_idle (t : Tid) : timedFinal.pc t = .idle :=
  final_idle timed_run (by decide) (by decide) t

theorem timed_tail {j : Nat} (hj : timedEvs.length ≤ j) : ∀ t, (timedExec.ρ j).pc t = .idle := by
  intro t
  rw [show timedExec.ρ j = _ from (tickExec_tail timed_run hj).1]
  exact timed_final_idle t

theorem timed_no_spurious : ∀ j, j < 51 → ∀ t sem, timedEvs[j]? ≠ some (.pdRet t sem false) := by
  intro j hj t sem h
  have : ∀ j, j < 51 → ∀ e, timedEvs[j]? = some e →
      (match e with | .pdRet _ _ false => false | .call _ _ => decide (j < 11) | _ => true) = true := by
    decide
  have := this j hj _ h
  simp at this

/-- All hypotheses of `C09_fair_termination_deadline` hold for `timedExec`. -/
theorem timed_hyps : Reachable init ∧ WeakFair timedExec ∧ LockFair timedExec ∧
    WaitFair timedExec ∧ FiniteArrivals timedExec ∧ ClockAdvances timedExec ∧
    SemSound timedExec := by
  refine ⟨⟨[], rfl⟩, weakFair_of_quiescent _ _ (fun _ hj => timed_tail hj),
    lockFair_of_quiescent _ _ (fun _ hj => timed_tail hj),
    waitFair_of_quiescent _ _ (fun _ hj => timed_tail hj), ⟨timedEvs.length, ?_⟩,
    tickExec_clock timed_run, ?_⟩
  · intro j t a hj he
    rw [show timedExec.σ j = _ from (tickExec_tail timed_run hj).2] at he
    cases he
  · intro j t sem d n wdl r he _
    exfalso
    by_cases hj : j < timedEvs.length
    · rw [show timedExec.σ j = _ from (tickExec_head timed_run hj).2] at he
      exact timed_no_spurious j hj t sem he
    · rw [show timedExec.σ j = _ from (tickExec_tail timed_run (Nat.le_of_not_lt hj)).2] at he
      cases he

end Note
