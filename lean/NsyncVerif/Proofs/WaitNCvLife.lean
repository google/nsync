/-
  Proofs/WaitNCvLife.lean — the life cycle of a cv record (`ULife`), and first the program-counter effects it needs:
  cv_enqueue leaves the "fresh" phase only by the store `waiting := 1`; cv_dequeue's removing store goes to
  `.release true`, and the release store marks the record `deqd`.
-/
import NsyncVerif.Proofs.WaitNQInv


namespace WaitN

theorem freshAt_congr {p : PC} {f g : Frame} (h : g.recs = f.recs) : freshAt p g = freshAt p f := by
  unfold freshAt; rw [h]

/-- cv_enqueue: the record stays fresh until the store that marks it waiting -/
theorem enqCv_fresh {s s' : State} {t : Tid} {e : Ev} {i : Nat} {st : CvEnqSt} {r : Rid}
    (hpc : s.pc t = .wEnqCv i st) (hfr : freshAt (s.pc t) (s.fr t) = some r) (h : stepThr s t e = .ok s') :
    freshAt (s'.pc t) (s'.fr t) = some r ∨ (s'.rcd r).waiting = true := by
  simp only [stepThr, hpc] at h
  rw [hpc] at hfr
  unfold stepEnqCv at h
  split at h
  · rename_i c r' ho hr'
    cases st with
    | spin sp =>
      simp only [freshAt] at hfr
      dsimp only at h
      obtain ⟨h1, _, _, h2⟩ := spinAcq_pc h
      left
      rcases h2 with ⟨x, h2⟩ | h2 | h2
      · rw [h2, h1]; exact hfr
      · rw [h2, h1]; exact hfr
      · rw [h2, h1, hpc]; exact hfr
    | store =>
      simp only [freshAt] at hfr
      rw [hr'] at hfr; cases hfr
      dsimp only at h
      split_ok h
      · cases h; right; simp
      · obtain ⟨h1, h2, _, _⟩ := dflt_frame h
        left; rw [h1, h2, hpc]; exact hr'
    | release => simp [freshAt] at hfr
  · exact (reject_ne_ok h).elim

/-- cv_dequeue: after the removing store the caller is at `.release true` -/
theorem deqCv_store {s s' : State} {t : Tid} {e : Ev} {j : Nat}
    (hpc : s.pc t = .wDeqCv j .store) (h : stepThr s t e = .ok s') :
    s'.pc t = .wDeqCv j (.release true) ∨ s'.rcd = s.rcd := by
  simp only [stepThr, hpc] at h
  unfold stepDeqCv at h
  split at h
  · dsimp only at h
    split_ok h
    · cases h; left; simp
    · cases h; right; rfl
    · exact .inr (dflt_frame h).2.2.2
  · exact (reject_ne_ok h).elim

/-- cv_dequeue: the release store marks the record -/
theorem deqCv_release {s s' : State} {t : Tid} {e : Ev} {j : Nat} {b : Bool} {r : Rid}
    (hpc : s.pc t = .wDeqCv j (.release b)) (hr : (s.fr t).recs[j]? = some r) (h : stepThr s t e = .ok s') :
    s'.pc t = .wDeqCv j (.release b) ∨ (s'.rcd r).deqd = true := by
  simp only [stepThr, hpc] at h
  unfold stepDeqCv at h
  split at h
  · rename_i c r' ho hr'
    rw [hr] at hr'; cases hr'
    dsimp only at h
    split_ok h
    · right
      rw [(shared_deqDone h).2.1]; simp
    · left; rw [(dflt_frame h).1, hpc]
  · exact (reject_ne_ok h).elim

/-!
### the life cycle of a condition-variable record of an nsync_wait_n call (`ULife`, `ulife_of_reachable`): fresh
(`unl = none`, `waiting = 0`, cv_enqueue has not stored yet) → queued (`unl = none`, `waiting = 1`) → unlinked
by a signaller (`unl = waker`; `waiting` is cleared later, outside the spinlock) or removed by the owner's
cv_dequeue (`unl = owner`, only inside that cv_dequeue call or after it). Consequence (`cvdeq_waker`):
when cv_dequeue reads `waiting == 0` a signaller has unlinked the record.
-/

structure ULife (s : State) : Prop where
  fresh : ∀ (t : Tid) (k : Nat) (r : Rid) (c : Nat), inCall (s.pc t) = true → (s.fr t).frees = 0 → (s.fr t).recs[k]? = some r → (s.rcd r).obj = .cv c →
      (s.rcd r).unl = .none → (s.rcd r).waiting = true ∨ freshAt (s.pc t) (s.fr t) = some r
  owner : ∀ (t : Tid) (k : Nat) (r : Rid) (c : Nat), inCall (s.pc t) = true → (s.fr t).frees = 0 → (s.fr t).recs[k]? = some r → (s.rcd r).obj = .cv c →
      (s.rcd r).unl = .owner → (s.rcd r).deqd = true ∨ s.pc t = .wDeqCv k (.release true)
  pend : ∀ (u : Tid) (c : Nat) (l : List Rid) (r : Rid), wk (s.pc u) = some (c, l) → r ∈ pend (s.post u) l → (s.rcd r).unl = .waker

theorem ulife_init : ULife init :=
  ⟨fun t _ _ _ h => by simp [init, inCall] at h, fun t _ _ _ h => by simp [init, inCall] at h,
   fun u _ _ _ h => by simp [init, wk] at h⟩

/-- a record handled by note_enqueue / note_dequeue / counter_enqueue / counter_dequeue is not a cv record -/
theorem notcv_of_pc {s : State} {t : Tid} {r : Rid} {c j : Nat} (own : Own s) (hl : LInv (s.pc t) (s.fr t))
    (hpc : (∃ st, s.pc t = .wDeq j st) ∨ (∃ st, s.pc t = .wEnq j st)) (hr : (s.fr t).recs[j]? = some r)
    (ho : (s.rcd r).obj = .cv c) : False := by
  rcases hpc with ⟨st, hp⟩ | ⟨st, hp⟩
  · rw [hp] at hl
    have hidx := own.idx t j r (by rw [hp]; rfl) hl.1.frees hr
    rw [ho] at hidx
    rcases hl.2.2.2.1 with ⟨n, hn⟩ | ⟨k, hk⟩
    · rw [hn] at hidx; cases hidx
    · rw [hk] at hidx; cases hidx
  · rw [hp] at hl
    have hidx := own.idx t j r (by rw [hp]; rfl) hl.1.frees hr
    rw [ho] at hidx
    rcases hl.2.2.1 with ⟨n, hn⟩ | ⟨k, hk⟩
    · rw [hn] at hidx; cases hidx
    · rw [hk] at hidx; cases hidx

theorem ulife_step {s s' : State} {v : Tid} {e : Ev} (hr : Reachable s) (hu : ULife s)
    (h : stepThr s v e = .ok s') : ULife s' := by
  have own := own_of_reachable hr
  have hl := linv_of_reachable hr
  have q := (qinv_of_reachable hr).qi
  have nodup := recsNodup_of_reachable hr
  have tr : ∀ r, ∃ k, RecTr s s' v r k := tr_rec h
  have oth := others_stepThr h
  have qs := quiet_or_structural h
  constructor
  · -- fresh
    intro t k r c hc' hf' hk' ho' hun'
    rcases qs with qq | st
    · have hc : inCall (s.pc t) = true := by rw [← qq.inCall t]; exact hc'
      have hf : (s.fr t).frees = 0 := by rw [← qq.frees t]; exact hf'
      have hk : (s.fr t).recs[k]? = some r := by rw [← qq.recs t]; exact hk'
      have ho : (s.rcd r).obj = .cv c := by rw [← qq.robj r]; exact ho'
      have hmem := List.mem_of_getElem? hk
      have hlive := (own.own t r hc hf hmem).1
      by_cases hun : (s.rcd r).unl = .none
      · rcases hu.fresh t k r c hc hf hk ho hun with hw | hfr
        · by_cases hw' : (s'.rcd r).waiting = true
          · exact .inl hw'
          · have hw' : (s'.rcd r).waiting = false := by cases hx : (s'.rcd r).waiting <;> simp_all
            exfalso
            obtain ⟨_, tr⟩ := tr r
            cases tr
            case clear c1 bc rest hpc hp0 hp1 hh =>
              have := hu.pend v c1 (r :: rest) r (by rw [hpc]; rfl) (by rw [hp0]; exact List.mem_cons_self)
              rw [hun] at this; cases this
            case init i oid hpc hoid hdead hh => rw [hlive] at hdead; cases hdead
            case kill hm hpc hh => have := qq.live r; rw [hh, hlive] at this; cases this
            case refused j hj hpc hh => exact notcv_of_pc own (hl v) (.inr ⟨_, hpc⟩) hj ho
            case remove j oid hj hpc hh =>
              rcases hpc with ⟨_, hin⟩ | ⟨res, hpc⟩
              · rw [hh] at hun'; simp [hin] at hun'
              · exact notcv_of_pc own (hl v) (.inl ⟨_, hpc⟩) hj ho
            all_goals (rename_i hh; rw [hh] at hw' hun'; first | exact Bool.noConfusion (hw.symm.trans hw') | exact Unl.noConfusion hun' | exact Bool.noConfusion hw')
        · by_cases hvt : t = v
          · subst hvt
            cases hp : s.pc t with
            | wEnqCv i st =>
              rcases enqCv_fresh hp hfr h with h1 | h1
              · exact .inr h1
              · exact .inl h1
            | wEnq i st =>
              exfalso
              rw [hp] at hfr
              have hj : (s.fr t).recs[i]? = some r := by
                cases st <;> simp [freshAt] at hfr <;> exact hfr
              exact notcv_of_pc own (hl t) (.inr ⟨st, hp⟩) hj ho
            | _ => rw [hp] at hfr; simp [freshAt] at hfr
          · right; rw [(oth t hvt).1, freshAt_congr (qq.recs t)]; exact hfr
      · -- no step resets `unl` of a live record
        exfalso
        obtain ⟨_, tr⟩ := tr r
        cases tr
        case init i oid hpc hoid hdead hh => rw [hlive] at hdead; cases hdead
        case remove j oid hj hpc hh => rw [hh] at hun'; dsimp only at hun'; split at hun' <;> first | cases hun' | exact hun hun'
        all_goals (rename_i hh; rw [hh] at hun'; first | exact hun hun' | cases hun')
    · rcases st.rec_at (hl v) own hc' hf' hk' with ⟨oid, rfl, _, _, hrc, hpc', _⟩ | ⟨hc, hf, hk, hrc, _, hinit, hoth⟩
      · -- the record `init` has just made is fresh
        right
        rw [hrc] at ho'
        have hcv : oid.isCv = true := by rw [show oid = .cv c from ho']; rfl
        rw [hpc', if_pos hcv]; exact hk'
      · rw [hrc] at ho' hun' ⊢
        rcases hu.fresh t k r c hc hf hk ho' hun' with hw | hfr
        · exact .inl hw
        · right
          by_cases ht : t = v
          · obtain ⟨i, hi⟩ := hinit ht; subst ht; rw [hi] at hfr; simp [freshAt] at hfr
          · rw [(hoth ht).1, freshAt_congr (hoth ht).2]; exact hfr
  · -- owner
    intro t k r c hc' hf' hk' ho' huo'
    rcases qs with qq | st
    · have hc : inCall (s.pc t) = true := by rw [← qq.inCall t]; exact hc'
      have hf : (s.fr t).frees = 0 := by rw [← qq.frees t]; exact hf'
      have hk : (s.fr t).recs[k]? = some r := by rw [← qq.recs t]; exact hk'
      have ho : (s.rcd r).obj = .cv c := by rw [← qq.robj r]; exact ho'
      have hmem := List.mem_of_getElem? hk
      have hlive := (own.own t r hc hf hmem).1
      by_cases huo : (s.rcd r).unl = .owner
      · rcases hu.owner t k r c hc hf hk ho huo with hd | hp
        · left
          obtain ⟨_, tr⟩ := tr r
          cases tr
          case init i oid hpc hoid hdead hh => rw [hlive] at hdead; cases hdead
          all_goals (rename_i hh; first | (rw [hh]; exact hd) | rw [hh])
        · by_cases hvt : t = v
          · subst hvt
            rcases deqCv_release hp hk h with h1 | h1
            · exact .inr h1
            · exact .inl h1
          · exact .inr (by rw [(oth t hvt).1]; exact hp)
      · -- `unl` becomes `owner` only in the removing store of the owner's cv_dequeue
        obtain ⟨_, tr⟩ := tr r
        cases tr
        case init i oid hpc hoid hdead hh => rw [hlive] at hdead; cases hdead
        case remove j oid hj hpc hh =>
          rcases hpc with ⟨hp, _⟩ | ⟨res, hp⟩
          · have hvt := owner_unique own (by rw [hp]; rfl) (by have := hl v; rw [hp] at this; exact this.1.frees)
              (List.mem_of_getElem? hj) hc hf hmem
            subst hvt
            have hjk : j = k := idx_unique (nodup v) hj hk
            subst hjk
            rcases deqCv_store hp h with h1 | h1
            · exact .inr h1
            · rw [h1] at huo'; exact absurd huo' huo
          · exact (notcv_of_pc own (hl v) (.inl ⟨_, hp⟩) hj ho).elim
        all_goals (rename_i hh; rw [hh] at huo'; first | exact absurd huo' huo | cases huo')
    · rcases st.rec_at (hl v) own hc' hf' hk' with ⟨oid, rfl, _, _, hrc, _⟩ | ⟨hc, hf, hk, hrc, _, hinit, hoth⟩
      · rw [hrc] at huo'; cases huo'
      · rw [hrc] at ho' huo' ⊢
        rcases hu.owner t k r c hc hf hk ho' huo' with hd | hp
        · exact .inl hd
        · right
          by_cases ht : t = v
          · obtain ⟨i, hi⟩ := hinit ht; subst ht; rw [hi] at hp; cases hp
          · rw [(hoth ht).1]; exact hp
  · -- pend: after the step the record is live, waiting, not `deqd` and in no queue (`q4`): the step has unlinked it
    -- or left it alone.  Then it was waiting before, and not queued, since it would have stayed so: `q3` finds it
    -- in a wake list.
    intro u c l r hw' hm'
    obtain ⟨hl', -, hwt', hd', hnq'⟩ := ((qinv_of_reachable (reachable_step hr (e := .thr v e) h)).qi.q4 u c l hw').2.2 r hm'
    obtain ⟨_, tr⟩ := tr r
    cases tr
    case keep hq hh =>
      rw [hh] at hl' hwt' ⊢
      rcases q.q3 r hl' hwt' with h1 | ⟨u0, c0, l0, h1, h2⟩
      · exact (hnq' _ ((hq _).2 h1)).elim
      · exact hu.pend u0 c0 l0 r h1 h2
    case unlink hh => rw [hh]
    case enqueue hq hh => exact (hnq' _ hq).elim
    all_goals (rename_i hh; rw [hh] at hl' hwt' hd'; first | cases hwt' | cases hd' | cases hl')

theorem ulife_of_reachable {s : State} (h : Reachable s) : ULife s :=
  reachable_inv ulife_init (fun _ _ ih _ => ⟨ih.fresh, ih.owner, ih.pend⟩) (fun _ _ _ _ hr ih hs => ulife_step hr ih hs) h

/-- when cv_dequeue has read `waiting == 0` (at its first load, or in its wait loop), or does not find the
    record on pcv->waiters, a signaller has unlinked the record -/
theorem cvdeq_waker {s : State} {t : Tid} {j : Nat} {r : Rid} (hr : Reachable s)
    (hk : (s.fr t).recs[j]? = some r)
    (hp : ((s.pc t = .wDeqCv j .load ∨ s.pc t = .wDeqCv j (.release false) ∨ s.pc t = .wDeqCv j .wspin)
            ∧ (s.rcd r).waiting = false)
        ∨ (s.pc t = .wDeqCv j .store ∧ (s.rcd r).waiting = true ∧ ∃ c, (s.fr t).objs[j]? = some (.cv c) ∧ r ∉ (s.obj (.cv c)).queue)) :
    (s.rcd r).unl = .waker := by
  have hu := ulife_of_reachable hr
  have own := own_of_reachable hr
  have hl := linv_of_reachable hr t
  have q := qinv_of_reachable hr
  rcases hp with ⟨hp, hw⟩ | ⟨hp, hw, c, hoc, hnq⟩
  · have hst : ∃ st, s.pc t = .wDeqCv j st ∧ st ≠ .release true ∧ (∀ sp, st ≠ .spin sp) ∧ st ≠ .store := by
      rcases hp with hp | hp | hp <;> exact ⟨_, hp, by simp, by simp, by simp⟩
    obtain ⟨st, hp, hne, hnsp, hnst⟩ := hst
    rw [hp] at hl
    have hc : inCall (s.pc t) = true := by rw [hp]; rfl
    have hf := hl.1.frees
    obtain ⟨c, hc0⟩ := hl.2.2.2.1
    have hidx := own.idx t j r hc hf hk
    rw [hc0] at hidx
    have ho : (s.rcd r).obj = .cv c := (Option.some.inj hidx).symm
    cases hun : (s.rcd r).unl with
    | waker => rfl
    | none =>
      rcases hu.fresh t j r c hc hf hk ho hun with h1 | h1
      · rw [hw] at h1; cases h1
      · rw [hp] at h1; simp [freshAt] at h1
    | owner =>
      rcases hu.owner t j r c hc hf hk ho hun with h1 | h1
      · have := ((q.cf t).dq hc hf j r hk).1 h1
        rw [hp] at this; simp [dqIdx] at this
      · rw [hp] at h1; cases h1; exact absurd rfl hne
  · rw [hp] at hl
    have hc : inCall (s.pc t) = true := by rw [hp]; rfl
    have hf := hl.1.frees
    have hlive := (own.own t r hc hf (List.mem_of_getElem? hk)).1
    have hidx := own.idx t j r hc hf hk
    rw [hoc] at hidx
    have ho : (s.rcd r).obj = .cv c := (Option.some.inj hidx).symm
    rcases q.qi.q3 r hlive hw with h1 | ⟨u, c1, l1, h1, h2⟩
    · rw [ho] at h1; exact absurd h1 hnq
    · exact hu.pend u c1 l1 r h1 h2

/-- a cv record of a caller that is past its enqueue and has not begun to dequeue is queued or was unlinked by
    a signaller -/
theorem cv_rec_queued_or_woken {s : State} {t : Tid} {i c : Nat} {r : Rid} (hreach : Reachable s)
    (hc : inCall (s.pc t) = true) (hfr : (s.fr t).frees = 0)
    (hfresh : freshAt (s.pc t) (s.fr t) ≠ some r) (hdq : dqIdx (s.pc t) (s.fr t) = 0)
    (hnrel : ∀ k, s.pc t ≠ .wDeqCv k (.release true))
    (hr : (s.fr t).recs[i]? = some r) (ho : (s.fr t).objs[i]? = some (.cv c)) :
    r ∈ (s.obj (.cv c)).queue ∨ (s.rcd r).unl = .waker := by
  have own := own_of_reachable hreach
  have qi := qinv_of_reachable hreach
  have ul := ulife_of_reachable hreach
  have hlive := (own.own t r hc hfr (List.mem_of_getElem? hr)).1
  have hidx := own.idx t i r hc hfr hr
  rw [ho] at hidx
  have hobj : (s.rcd r).obj = .cv c := (Option.some.inj hidx).symm
  cases hw : (s.rcd r).waiting with
  | true =>
    rcases qi.qi.q3 r hlive hw with h | ⟨u, c', l, h1, h2⟩
    · rw [hobj] at h; exact .inl h
    · exact .inr (ul.pend u c' l r h1 h2)
  | false =>
    cases hu : (s.rcd r).unl with
    | waker => exact .inr rfl
    | none =>
      exfalso
      rcases ul.fresh t i r c hc hfr hr hobj hu with h | h
      · rw [hw] at h; cases h
      · exact hfresh h
    | owner =>
      exfalso
      rcases ul.owner t i r c hc hfr hr hobj hu with h | h
      · have := ((qi.cf t).dq hc hfr i r hr).1 h
        omega
      · exact hnrel i h

end WaitN
