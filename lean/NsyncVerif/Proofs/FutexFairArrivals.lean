/-
  Futex layer (C12), fair termination: finitely many calls ⇒ finitely many posts.

  `FiniteCalls` (the `FiniteArrivals` of C02: from some time on no P / P_with_deadline / V is
  called) implies `BoundedPosts`: after the last call every post is the CAS of a thread that was
  inside V before its CAS at that time, each such thread posts once, and there are finitely many of
  them (reachable states have finite support).
-/
import NsyncVerif.Proofs.FutexFairTrace

namespace NsyncVerif.Futex

def Event.isCall : Event → Bool
  | .callP _ | .callPD _ _ | .callV _ => true
  | _ => false

/-- From some time on nobody calls P, P_with_deadline or V. -/
def FiniteCalls {s0 : State} (x : Exec s0) : Prop :=
  ∃ n, ∀ j e, n ≤ j → x.σ j = some e → e.isCall = false

/-- Number of threads `< b` inside V before their CAS. -/
def cntPre (s : State) : Nat → Nat
  | 0 => 0
  | b + 1 => cntPre s b + (if (s.pc b).vPre then 1 else 0)

/-- Without a call nobody enters the part of V before the CAS, and every post takes one thread out
    of it. -/
theorem step_nocall (hs : step s e = .ok s') (hc : e.isCall = false) :
    (∀ t, (s'.pc t).vPre = true → (s.pc t).vPre = true) ∧
    (s'.posts = s.posts ∨
      (s'.posts = s.posts + 1 ∧ ∃ p, (s.pc p).vPre = true ∧ (s'.pc p).vPre = false)) := by
  -- the new program point of the thread that moves is before V's CAS only if the old one was
  have stay {t : Tid} {p' : PC} (h : p'.vPre = true → (s.pc t).vPre = true) :
      ∀ u, (setPc s.pc t p' u).vPre = true → (s.pc u).vPre = true :=
    forall_setPc (Q := fun u p => p.vPre = true → (s.pc u).vPre = true) (fun _ h => h) h
  cases Step.of_step hs
  case tick => exact ⟨fun _ h => h, Or.inl rfl⟩
  case callP | callPD | callV => cases hc
  case post hpc _ =>
    exact ⟨stay fun h => (by cases h),
      Or.inr ⟨rfl, _, by rw [hpc]; rfl, by rw [show State.pc _ _ = _ from setPc_same ..]; rfl⟩⟩
  case vLd hpc | postFail hpc _ _ => exact ⟨stay fun _ => (by rw [hpc]; rfl), Or.inl rfl⟩
  case wLd | now => exact ⟨stay fun h => (by split at h <;> cases h), Or.inl rfl⟩
  all_goals exact ⟨stay fun h => (by cases h), Or.inl rfl⟩

/-- Fewer threads are before V's CAS after a step without a call, one fewer if `p` has left. -/
theorem cntPre_le {s s' : State} (p : Nat) : ∀ b : Nat,
    (∀ t : Nat, t < b → (s'.pc t).vPre = true → (s.pc t).vPre = true) →
    cntPre s' b + (if p < b ∧ (s.pc p).vPre = true ∧ (s'.pc p).vPre = false then 1 else 0) ≤
      cntPre s b := by
  intro b
  induction b with
  | zero => intro _; simp [cntPre]
  | succ b ih =>
    intro h
    have h1 := ih fun t ht => h t (by omega)
    have h2 := h b (by omega)
    have e : p < b + 1 ↔ p < b ∨ p = b := by omega
    simp only [cntPre, e]
    by_cases hpb : p = b
    · subst hpb
      cases ha : (s'.pc p).vPre <;> cases hb : (s.pc p).vPre <;> simp_all <;> omega
    · cases ha : (s'.pc b).vPre <;> cases hb : (s.pc b).vPre <;> simp_all <;> omega

theorem finiteCalls_boundedPosts {s0 : State} (x : Exec s0) (hr : Reachable s0) (hc : FiniteCalls x) :
    BoundedPosts x := by
  obtain ⟨n, hn⟩ := hc
  obtain ⟨B, hB⟩ := (x.reach hr n).support
  -- after time `n`: threads `≥ B` are never inside V before the CAS, and what is posted is paid for
  -- by threads `< B` leaving that part of V
  have key := x.keeps (n := n) (P := fun s => (∀ t : Nat, (s.pc t).vPre = true → t < B) ∧
      s.posts + cntPre s B ≤ (x.ρ n).posts + cntPre (x.ρ n) B) ⟨fun t ht => ?_, Nat.le_refl _⟩ ?_
  · refine ⟨(x.ρ n).posts + cntPre (x.ρ n) B, fun j => ?_⟩
    by_cases hj : n ≤ j
    · have := (key j hj).2; omega
    · have := x.posts_mono (show j ≤ n by omega); omega
  · apply Classical.byContradiction; intro hlt
    rw [hB t (by omega)] at ht; cases ht
  · intro j e hj he hs ⟨h1, h2⟩
    obtain ⟨a, b⟩ := step_nocall hs (hn j e hj he)
    refine ⟨fun t ht => h1 t (a t ht), ?_⟩
    rcases b with b | ⟨b, p, hp, hp'⟩
    · have := cntPre_le (s := x.ρ j) (s' := x.ρ (j + 1)) 0 B (fun t _ ht => a t ht)
      omega
    · have := cntPre_le (s := x.ρ j) (s' := x.ρ (j + 1)) p B (fun t _ ht => a t ht)
      rw [if_pos ⟨h1 p hp, hp, hp'⟩] at this
      omega

end NsyncVerif.Futex
