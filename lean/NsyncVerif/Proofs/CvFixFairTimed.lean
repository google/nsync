/-
  Layer `CvFix`, liveness, timed waits (the first links of clause (a) of `C05_fair_return_full`): the
  clock never goes back (`now_mono`, `exec_now_mono`); a waiter asleep in the semaphore wait of cv.c
  (no note) whose deadline has passed leaves the semaphore wait (`semRet_stays`,
  `timed_sleeper_wakes`); a live wait whose record is neither queued nor self-removed — in particular one
  that sees `waiting = 0` at cv.c:254-265 — is covered by a wake-up (`covered_of`, `covered_of_waiting0`); and from cv.c:254 the
  waiter returns 0 or starts to remove itself (`timedout_removes_or_returns`).
-/
import NsyncVerif.Props.C05Fair

namespace NsyncVerif.CvFix

theorem now_mono {cfg : Config} {s s' : State} {e : Event} (hs : step cfg s e = .ok s') :
    s.now ≤ s'.now := by
  have htr := step_tr hs
  cases htr with
  | tick ns h => exact h
  | acq t0 exp new obs o n hl hexp hw he ho hn hnew => rw [afterAcquire_now]; exact Nat.le_refl _
  | _ => exact Nat.le_refl _

variable {cfg : Config} {s0 : State}

theorem exec_now_mono (x : Exec cfg s0) (j : Nat) : ∀ d, (x.ρ j).now ≤ (x.ρ (j + d)).now := by
  intro d
  induction d with
  | zero => exact Nat.le_refl _
  | succ d ih =>
    have : (x.ρ (j + d)).now ≤ (x.ρ (j + d + 1)).now := by
      cases hs : x.σ (j + d) with
      | none => rw [x.next_none hs]; exact Nat.le_refl _
      | some e => exact now_mono (x.next_some hs)
    exact Nat.le_trans ih this

/-- While the thread stays in the semaphore wait `wSemRet`, its deadline stays the same. -/
theorem semRet_stays (x : Exec cfg s0) {t : Tid} {j : Nat} {dl : Option Nat}
    (hl : ((x.ρ j).thr t).loc = .wSemRet) (hd : ((x.ρ j).thr t).dl = dl)
    (hall : ∀ j', j ≤ j' → ((x.ρ j').thr t).loc.asleep = true) :
    ∀ d, ((x.ρ (j + d)).thr t).loc = .wSemRet ∧ ((x.ρ (j + d)).thr t).dl = dl := by
  intro d
  induction d with
  | zero => exact ⟨hl, hd⟩
  | succ d ih =>
    obtain ⟨h1, h2⟩ := ih
    have hw : inWait ((x.ρ (j + d)).thr t) = true := by simp [inWait, waitLive, h1]
    obtain ⟨a, k, _⟩ := exec_wait_step x hw
    have hsl := hall (j + d + 1) (by omega)
    have hni : ((x.ρ (j + d + 1)).thr t).loc ≠ .idle := by
      intro h; rw [h] at hsl; cases hsl
    refine ⟨?_, (k.2.1 hni).1.trans h2⟩
    rcases a with ⟨a, _⟩ | a
    · exact a.trans h1
    · unfold WSucc at a
      rw [h1] at a
      rcases a with ⟨a, _⟩ | a <;> rw [a] at hsl <;> cases hsl

/-- A waiter asleep in the semaphore wait of cv.c (`wSemRet`: no cancel note) whose deadline has
    passed leaves the semaphore wait (`SemFair`): with ETIMEDOUT (`sem_outcome := ETIMEDOUT`, next
    cv.c:254) or with 0 (next cv.c:287). -/
theorem timed_sleeper_wakes (x : Exec cfg s0) (hy : WaitHyps x) {t : Tid} {j d : Nat}
    (hl : ((x.ρ j).thr t).loc = .wSemRet) (hd : ((x.ρ j).thr t).dl = some d)
    (hnow : d ≤ (x.ρ j).now) :
    ∃ j1, j ≤ j1 ∧ ((x.ρ j1).thr t).loc = .wSemRet ∧ ((x.ρ j1).thr t).dl = some d ∧
      ((((x.ρ (j1 + 1)).thr t).loc = .wChk ∧ ((x.ρ (j1 + 1)).thr t).semOut = .timedOut) ∨
       ((x.ρ (j1 + 1)).thr t).loc = .wTail) := by
  have hw : inWait ((x.ρ j).thr t) = true := by simp [inWait, waitLive, hl]
  have hsl : ((x.ρ j).thr t).loc.asleep = true →
      ∃ j', j ≤ j' ∧ ((x.ρ j').thr t).loc.asleep = false := by
    intro _
    apply Classical.byContradiction
    intro hn
    have hall : ∀ j', j ≤ j' → ((x.ρ j').thr t).loc.asleep = true := by
      intro j' hj'
      cases h : ((x.ρ j').thr t).loc.asleep
      · exact absurd ⟨j', hj', h⟩ hn
      · rfl
    apply hy.sem t j
    intro j' hj'
    obtain ⟨d', rfl⟩ := Nat.exists_eq_add_of_le hj'
    obtain ⟨h1, h2⟩ := semRet_stays x hl hd hall d'
    refine ⟨hall _ hj', .inr ⟨d, ?_, Nat.le_trans hnow (exec_now_mono x j d')⟩⟩
    rw [(invC_reachable (x.reach hy.reach (j + d')) t).semRet h1, h2]
  obtain ⟨j1, h1, ⟨f1, _, f3, _⟩, _, hs, _, _⟩ := hop x hy hw (by rw [hl]; rfl) hsl
  refine ⟨j1, h1, f1.trans hl, f3.trans hd, ?_⟩
  unfold WSucc at hs
  rw [f1.trans hl] at hs
  exact hs

/-- A live wait whose record is neither queued nor self-removed is covered by a wake-up. -/
theorem covered_of {s : State} {t : Tid} (hi : Inv s) (hl : waitLive (s.thr t) = true)
    (hq : (s.recs (s.thr t).r).stat ≠ .queued) (hs : (s.recs (s.thr t).r).stat ≠ .selfOut) :
    Covered s t := by
  refine ⟨hl, ?_⟩
  have hlv := ((hi.a.thr t).live hl).2.2
  cases hst : (s.recs (s.thr t).r).stat with
  | idle => rw [hst] at hlv; cases hlv
  | prep => rw [hst] at hlv; cases hlv
  | queued => exact absurd hst hq
  | listed u => exact .inl ⟨u, rfl⟩
  | xfer => exact .inr (.inr rfl)
  | woken => exact .inr (.inl rfl)
  | selfOut => exact absurd hst hs

/-- … in particular if `waiting = 0` is seen at a program point at which the record cannot be
    self-removed. -/
theorem covered_of_waiting0 {s : State} {t : Tid} (hi : Inv s) (hl : waitLive (s.thr t) = true)
    (hw : (s.recs (s.thr t).r).waiting = false)
    (hloc : (s.thr t).loc = .wChk ∨ (s.thr t).loc = .wChk2 ∨ (s.thr t).loc = .wCmp) :
    Covered s t := by
  apply covered_of hi hl
  · intro hq; rw [hi.a.qWait _ hq] at hw; cases hw
  · intro hs
    have := (hi.b.thr t).soLoc hl hs
    rcases hloc with h | h | h <;> rw [h] at this <;> simp at this

/-- Step (2) of the timeout path: a waiter whose semaphore wait has timed out (it is at cv.c:254,
    `wChk`) takes the spinlock, re-checks `waiting` and `remove_count` (cv.c:264-265) and starts to
    remove itself (`wRmLd`) — unless a waker got there first, and then its call returns 0. -/
theorem timedout_removes_or_returns (x : Exec cfg s0) (hy : WaitHyps x) {t : Tid} {j : Nat}
    (hl : ((x.ρ j).thr t).loc = .wChk) :
    (∃ j', j ≤ j' ∧ x.σ j' = some (.retWait t .ok)) ∨
    (∃ j', j ≤ j' ∧ ((x.ρ j').thr t).loc = .wRmLd) := by
  have hinv := x.inv hy.reach
  have cov : ∀ j1, j ≤ j1 → Covered (x.ρ j1) t → ∃ j', j ≤ j' ∧ x.σ j' = some (.retWait t .ok) := by
    intro j1 h1 hc
    obtain ⟨j', h2, h3⟩ := covered_returns x hy hc
    exact ⟨j', by omega, h3⟩
  -- cv.c:254
  have hw : inWait ((x.ρ j).thr t) = true := by simp [inWait, waitLive, hl]
  have hr : Ready (x.ρ j) t := by refine ⟨?_, ?_, ?_⟩ <;> simp [hl, Loc.foreign, Loc.asleep]
  obtain ⟨j1, h1, ⟨f1, _⟩, _, hs1, _, _⟩ := hop_ready x hy.weak hw hr
  have hl1 := f1.trans hl
  unfold WSucc at hs1
  rw [hl1] at hs1
  have hwl1 : waitLive ((x.ρ j1).thr t) = true := by simp [waitLive, hl1]
  rcases hs1 with ⟨hw0, _⟩ | ⟨_, hsp, hcont⟩
  · exact .inl (cov j1 h1 (covered_of_waiting0 (hinv j1) hwl1 hw0 (.inl hl1)))
  -- the test-and-set loop
  have hw2 : inWait ((x.ρ (j1 + 1)).thr t) = true := by simp [inWait, waitLive, hsp, hcont]
  obtain ⟨j2, h2, _, _, _, _, _, hc2⟩ := hop_spin x hy.toHyps hw2 (by rw [hsp]; rfl)
  rcases hc2 with ⟨hc, _⟩ | ⟨_, hl2⟩
  · rw [hcont] at hc; cases hc
  -- cv.c:264
  have hw3 : inWait ((x.ρ j2).thr t) = true := by simp [inWait, waitLive, hl2]
  have hr3 : Ready (x.ρ j2) t := by refine ⟨?_, ?_, ?_⟩ <;> simp [hl2, Loc.foreign, Loc.asleep]
  obtain ⟨j3, h3, ⟨f3, _⟩, _, hs3, _, _⟩ := hop_ready x hy.weak hw3 hr3
  have hl3 := f3.trans hl2
  unfold WSucc at hs3
  rw [hl3] at hs3
  have hwl3 : waitLive ((x.ρ j3).thr t) = true := by simp [waitLive, hl3]
  rcases hs3 with ⟨hw0, _⟩ | ⟨_, hl4⟩
  · exact .inl (cov j3 (by omega) (covered_of_waiting0 (hinv j3) hwl3 hw0 (.inr (.inl hl3))))
  -- cv.c:265
  have hw4 : inWait ((x.ρ (j3 + 1)).thr t) = true := by simp [inWait, waitLive, hl4]
  have hr4 : Ready (x.ρ (j3 + 1)) t := by refine ⟨?_, ?_, ?_⟩ <;> simp [hl4, Loc.foreign, Loc.asleep]
  obtain ⟨j5, h5, ⟨f5, _⟩, _, hs5, _, _⟩ := hop_ready x hy.weak hw4 hr4
  have hl5 := f5.trans hl4
  unfold WSucc at hs5
  rw [hl5] at hs5
  have hwl5 : waitLive ((x.ρ j5).thr t) = true := by simp [waitLive, hl5]
  rcases hs5 with ⟨_, hl6⟩ | ⟨hne, _⟩
  · exact .inr ⟨j5 + 1, by omega, hl6⟩
  · left
    apply cov j5 (by omega)
    apply covered_of (hinv j5) hwl5
    · intro hq
      have := ((hinv j5).b.thr t).svQ (by simp [savedLoc, hl5]) hq
      simp [this] at hne
    · intro hs
      have := ((hinv j5).b.thr t).soLoc hwl5 hs
      rw [hl5] at this; simp at this

end NsyncVerif.CvFix
