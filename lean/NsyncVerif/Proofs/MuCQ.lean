import NsyncVerif.Proofs.MuCQueueDefs
/-
  MuC: the queue invariant (I_queue) — definitions, and what the plain code of the scan does to the
  lists (a permutation of queue ++ private lists ++ wake list; only `lnk` fields of records change).
-/
namespace NsyncVerif.MuC

def Ret.ws : Ret → List Wid
  | .ul _ _ => []
  | .mw c => c.w.toList

def SL.ws (c : SL) : List Wid :=
  c.w.toList ++ (match c.mw with | some m => m.w.toList | none => [])

/-- The waiter records the thread refers to. -/
def PC.ws : PC → List Wid
  | .lsLd c | .lsCasAcq c _ | .lsCasEnq c _ | .lsSt c | .lsRelLd c | .lsRelCas c _ | .lsWaitLd c | .lsPEnter c | .lsPRet c => c.ws
  | .usLd r | .usCasUnc r _ | .usCasGrab r _ | .usRelLd r _ | .usRelCas r _ _ | .usEval r _ | .usRcLd r _ _ | .usRcCas r _ _ _
  | .usReLd r _ | .usReCas r _ _ | .usFinLd r _ | .usFinCas r _ _ | .usWakeSt r _ _ | .usWakeV r _ _ => r.ws
  | .mwLd0 c | .mwEval c | .mwStW c | .mwRcLd c | .mwEnqLd c | .mwEnqCas c _ | .mwRelLd c | .mwRelCas c _ _ | .mwWaitLd c
  | .mwSem c | .mwPdRet c _ | .mwNotify c | .mwLd244 c | .mwLd255 c | .mwRet c _
  | .mtLd c | .mtCasAcq c _ | .mtCasWW c _ | .mtLdWk c _ | .mtLdW c _ | .mtLdRc c _ | .mtRmLd c _ | .mtRmCas c _ _ | .mtStW c _ | .mtStRel c _ _ => c.w.toList
  | _ => []

/-- Between the grab CAS and the final CAS of unlock_slow. -/
def PC.unl : PC → Bool
  | .usRelLd _ _ | .usRelCas _ _ _ | .usEval _ _ | .usRcLd _ _ _ | .usRcCas _ _ _ _ | .usReLd _ _ | .usReCas _ _ _
  | .usFinLd _ _ | .usFinCas _ _ _ => true
  | _ => false

/-- The waiters on the private lists of the thread. -/
def PC.priv (p : PC) : List Wid :=
  match p.scan? with
  | some sc => sc.lists
  | none => []

/-- The waiters the thread has removed from the queue and whose `waiting` it has still to clear. -/
def PC.wakeL : PC → List Wid
  | .usRelLd _ sc | .usRelCas _ sc _ | .usEval _ sc | .usRcLd _ sc _ | .usRcCas _ sc _ _ | .usReLd _ sc | .usReCas _ sc _ => sc.wake
  | .usFinLd _ f | .usFinCas _ f _ => f.wake
  | .usWakeSt _ k rest => k :: rest
  | .usWakeV _ _ rest => rest
  | _ => []

/-- The record the thread has marked `waiting` but not queued yet (mu_wait.c:210-214), or has taken
    off the queue itself and not yet marked (mu_wait.c:112-113). -/
def PC.limbo : PC → Option Wid
  | .mwRcLd c | .mwEnqLd c | .mwEnqCas c _ | .mtRmLd c _ | .mtRmCas c _ _ | .mtStW c _ => c.w
  | _ => none

def allOf (s : State) (t : Tid) : List Wid := s.queue ++ (s.pc t).priv ++ (s.pc t).wakeL

/-- Records differ at most in `lnk`. -/
def LnkOnly (s s' : State) : Prop :=
  ∀ x, (s'.wr x).owner = (s.wr x).owner ∧ (s'.wr x).waiting = (s.wr x).waiting ∧ (s'.wr x).lType = (s.wr x).lType ∧
    (s'.wr x).sem = (s.wr x).sem ∧ (s'.wr x).cond = (s.wr x).cond ∧ (s'.wr x).rc = (s.wr x).rc

theorem LnkOnly.refl (s : State) : LnkOnly s s := fun _ => ⟨rfl, rfl, rfl, rfl, rfl, rfl⟩

theorem LnkOnly.trans {a b c : State} (h1 : LnkOnly a b) (h2 : LnkOnly b c) : LnkOnly a c := by
  intro x
  obtain ⟨a1, a2, a3, a4, a5, a6⟩ := h1 x
  obtain ⟨b1, b2, b3, b4, b5, b6⟩ := h2 x
  exact ⟨b1.trans a1, b2.trans a2, b3.trans a3, b4.trans a4, b5.trans a5, b6.trans a6⟩

theorem lnkOnly_setLnk (s : State) (k : Wid) (b : Bool) : LnkOnly s (setLnk s k b) := by
  intro x
  simp only [setLnk, setFn]
  split <;> simp_all

theorem lnkOnly_mergeLinks (s : State) (p n : Option Wid) : LnkOnly s (mergeLinks s p n) := by
  unfold mergeLinks
  split
  · split
    · exact lnkOnly_setLnk _ _ _
    · exact LnkOnly.refl _
  · exact LnkOnly.refl _

theorem wr_of_merge (s : State) (p n : Option Wid) (x : Wid) :
    ((mergeLinks s p n).wr x).owner = (s.wr x).owner ∧ ((mergeLinks s p n).wr x).waiting = (s.wr x).waiting :=
  ⟨(lnkOnly_mergeLinks s p n x).1, (lnkOnly_mergeLinks s p n x).2.1⟩

theorem cond_of_merge (s : State) (p n : Option Wid) (x : Wid) : ((mergeLinks s p n).wr x).cond = (s.wr x).cond :=
  (lnkOnly_mergeLinks s p n x).2.2.2.2.1

/-- `enqLast` / `enqFirst` put `k` on mu->waiters and change `lnk` fields only. -/
theorem enq_grow {s s2 : State} {k : Wid} (hs2 : s2 = enqLast s k ∨ s2 = enqFirst s k) :
    (∀ y, y ∈ s2.queue → y = k ∨ y ∈ s.queue) ∧ s2.pc = s.pc ∧ s2.data = s.data ∧ LnkOnly s s2 := by
  rcases hs2 with rfl | rfl
  · exact ⟨fun y hy => (List.mem_append.1 hy).symm.imp List.mem_singleton.1 id, by simp, by simp, lnkOnly_mergeLinks _ _ _⟩
  · exact ⟨fun y hy => List.mem_cons.1 hy, by simp, by simp, lnkOnly_mergeLinks _ _ _⟩

theorem lnkOnly_removeLinks (s : State) (p : Option Wid) (k : Wid) (n : Option Wid) : LnkOnly s (removeLinks s p k n) := by
  cases p with
  | none =>
    simp only [removeLinks]
    split
    · exact lnkOnly_setLnk _ _ _
    · exact LnkOnly.refl _
  | some q =>
    simp only [removeLinks]
    split
    · refine LnkOnly.trans ?_ (lnkOnly_setLnk _ _ _)
      split
      · exact lnkOnly_setLnk _ _ _
      · exact LnkOnly.refl _
    · cases n with
      | none => exact LnkOnly.refl _
      | some m => exact lnkOnly_mergeLinks _ _ _

/-- `dequeue` takes records off mu->waiters and changes `lnk` fields only. -/
theorem deq_shrink (s : State) (k : Wid) :
    (∀ y, y ∈ (dequeue s k).queue → y ∈ s.queue) ∧ (dequeue s k).pc = s.pc ∧ (dequeue s k).data = s.data ∧
      LnkOnly s (dequeue s k) :=
  ⟨fun _ hy => List.mem_of_mem_erase hy, dequeue_pc s k, dequeue_data s k, lnkOnly_removeLinks _ _ _ _⟩

/-- What is queued after `t`, which is not scanning, has put `k` on mu->waiters. -/
theorem queued_grow {s s2 : State} {t : Tid} {p : PC} {k x : Wid} (hq : ∀ y, y ∈ s2.queue → y = k ∨ y ∈ s.queue) (hpc : s2.pc = s.pc)
    (hp : p.scan? = none) (hx : Queued (setPc s2 t p) x) : x = k ∨ Queued s x := by
  rcases hx with hx | ⟨u, sc, h1, h2⟩
  · exact (hq x hx).imp id Or.inl
  · refine Or.inr (Or.inr ⟨u, sc, ?_, h2⟩)
    by_cases hu : u = t
    · subst hu; rw [setPc_pc, setFn_same, hp] at h1; cases h1
    · rwa [setPc_pc, setFn_other _ _ _ _ hu, hpc] at h1

/-- What is queued after `t` has moved to `p` with the same scan locals and records have left mu->waiters. -/
theorem queued_shrink {s s2 : State} {t : Tid} {p : PC} {x : Wid} (hq : ∀ y, y ∈ s2.queue → y ∈ s.queue) (hpc : s2.pc = s.pc)
    (hp : p.scan? = (s.pc t).scan?) (hx : Queued (setPc s2 t p) x) : Queued s x := by
  rcases hx with hx | ⟨u, sc, h1, h2⟩
  · exact Or.inl (hq x hx)
  · rw [setPc_pc, hpc, setFn_proj PC.scan? hp u] at h1
    exact Or.inr ⟨u, sc, h1, h2⟩

theorem lnkOnly_setPc {s s1 : State} (h : LnkOnly s s1) (t : Tid) (p : PC) : LnkOnly s (setPc s1 t p) := h

theorem lnkOnly_pickup (s : State) (sc : Scan) : LnkOnly s (pickup s sc).1 := by
  unfold pickup
  dsimp only
  split <;> exact lnkOnly_mergeLinks _ _ _

theorem unl_of_scan {p : PC} {sc : Scan} (h : p.scan? = some sc) : p.unl = true := by
  cases p <;> simp [PC.scan?] at h <;> rfl

theorem scanPc_unl {r : Ret} {late : Bool} {p : PC} (h : ScanPc r late p) : p.unl = true := by
  cases p <;> simp [ScanPc] at h <;> rfl

theorem scan_none_of_not_unl {p : PC} (h : p.unl = false) : p.scan? = none := by
  cases hs : p.scan? with
  | none => rfl
  | some sc => rw [unl_of_scan hs] at h; cases h

theorem priv_nil_of_not_unl {p : PC} (h : p.unl = false) : p.priv = [] := by
  simp only [PC.priv, scan_none_of_not_unl h]

end NsyncVerif.MuC
