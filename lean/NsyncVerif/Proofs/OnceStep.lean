/-
  Layer `Once`: the accepted steps as a relation (`step_ok` and `Step.accepted`: exactly those),
  the effect of a step on the invariant, and `Inv` in every reachable state.
-/
import NsyncVerif.Proofs.OnceInv
import NsyncVerif.Proofs.Run

namespace Once

/-- From `guards ∧ explicit = s'` (or an `if` of such): substitute `s'`, keep the guards. -/
syntax "step_subst " ident : tactic
macro_rules
  | `(tactic| step_subst $h:ident) => `(tactic|
      first
      | subst $h:ident
      | (have := And.left $h; replace $h := And.right $h; step_subst $h)
      | (split at $h:ident <;> step_norm $h <;> step_subst $h))

/-- Case analysis of `step cfg s e = .ok s'`: one goal per accepted (event, pc) combination, with
    `s'` replaced by the explicit successor state and the guards as hypotheses. -/
macro "step_cases " e:ident h:ident : tactic => `(tactic|
  (cases $e:ident <;> simp only [step] at $h:ident <;> (try split at $h:ident) <;>
   step_norm $h <;> (try contradiction) <;> step_subst $h))

/-- The events that are skipped when their thread is outside run_once: internal traffic and the
    nested API events, which then belong to another layer. -/
def Event.nested : Event → Bool
  | .internal | .muLockCall .. | .muLockRet _ | .muUnlockCall .. | .muUnlockRet _
  | .cvBroadcastCall .. | .cvBroadcastRet _ | .cvWaitCall .. | .cvWaitRet .. => true
  | _ => false

/-- The accepted steps, program point by program point: the event is the one the C code performs
    there (reads see the model memory), the successor state is explicit. -/
inductive Step (cfg : Config) (s : State) : Event → State → Prop
  /-- skipped events: internal traffic, nested API events of a thread outside run_once -/
  | skip {e} : e.nested = true → (∀ t, e.tid = some t → s.pc t = .idle) → Step cfg s e s
  | call {t b a o} : s.pc t = .idle →
      Step cfg s (.call t b a o) { s.setPc t (.outerLd ⟨o, b, a⟩) with called := (t, o) :: s.called }
  | ret {t f} : s.pc t = .readyRet f →
      Step cfg s (.ret t f.blocking f.arg) { s.setPc t .idle with returned := (t, f.o) :: s.returned }
  | outerLd {t f} : s.pc t = .outerLd f →
      Step cfg s (.ld t (.outer f.blocking f.arg) .acq f.o (s.word f.o))
        (s.setPc t (if s.word f.o = 2 then .readyRet f else .implLd f))
  | implLd {t f} : s.pc t = .implLd f →
      Step cfg s (.ld t .impl .acq f.o (s.word f.o))
        (s.setPc t (if s.word f.o = 2 then .readyRet f
          else if f.blocking then .lock1Call f (s.word f.o) else afterLoc f (s.word f.o)))
  | casReload {t f} : s.pc t = .casReload f →
      Step cfg s (.ld t .impl .rlx f.o (s.word f.o)) (s.setPc t (afterLoc f (s.word f.o)))
  | waitLd {t f} : s.pc t = .waitLd f →
      Step cfg s (.ld t .impl .acq f.o (s.word f.o))
        (s.setPc t (if s.word f.o = 2 then (if f.blocking then .fUnlockCall f else .readyRet f)
          else (if f.blocking then .cvWaitCall f else .waitLd f)))
  | casOk {t f} : s.pc t = .casTry f → s.word f.o = 0 →
      Step cfg s (.cas t .impl .acq f.o 0 1 0 true)
        { s.setPc t (if f.blocking then .wUnlockCall f else .wCbStart f) with
          word := upd s.word f.o 1, winner := upd s.winner f.o (some t) }
  | casFail {t f} : s.pc t = .casTry f → s.word f.o ≠ 0 →
      Step cfg s (.cas t .impl .acq f.o 0 1 (s.word f.o) false) (s.setPc t (.casReload f))
  | store {t f} : s.pc t = .wStore f →
      Step cfg s (.st t .impl .rel f.o 2 (s.word f.o))
        { s.setPc t (.waitLd f) with word := upd s.word f.o 2 }
  | cbStart {t f} : s.pc t = .wCbStart f →
      Step cfg s (.cbStart t f.arg)
        { s.setPc t (.wCbEnd f) with fStarts := upd s.fStarts f.o (s.fStarts f.o ++ [t]) }
  | cbEnd {t f} : s.pc t = .wCbEnd f →
      Step cfg s (.cbEnd t f.arg)
        { s.setPc t (if f.blocking then .wLockCall f else .wStore f) with
          fEnds := upd s.fEnds f.o (s.fEnds f.o ++ [t]) }
  | lock1Call {t f loc} : s.pc t = .lock1Call f loc →
      Step cfg s (.muLockCall t (cfg.slotOf f.o)) (s.setPc t (.lock1Ret f loc))
  | wLockCall {t f} : s.pc t = .wLockCall f →
      Step cfg s (.muLockCall t (cfg.slotOf f.o)) (s.setPc t (.wLockRet f))
  | lock1Ret {t f loc} : s.pc t = .lock1Ret f loc → s.lockHolder (cfg.slotOf f.o) = none →
      Step cfg s (.muLockRet t) ((s.acquire (cfg.slotOf f.o) t).setPc t (afterLoc f loc))
  | wLockRet {t f} : s.pc t = .wLockRet f → s.lockHolder (cfg.slotOf f.o) = none →
      Step cfg s (.muLockRet t) ((s.acquire (cfg.slotOf f.o) t).setPc t (.wBcastCall f))
  | wUnlockCall {t f} : s.pc t = .wUnlockCall f → s.lockHolder (cfg.slotOf f.o) = some t →
      Step cfg s (.muUnlockCall t (cfg.slotOf f.o))
        ((s.release (cfg.slotOf f.o)).setPc t (.wUnlockRet f))
  | fUnlockCall {t f} : s.pc t = .fUnlockCall f → s.lockHolder (cfg.slotOf f.o) = some t →
      Step cfg s (.muUnlockCall t (cfg.slotOf f.o))
        ((s.release (cfg.slotOf f.o)).setPc t (.fUnlockRet f))
  | wUnlockRet {t f} : s.pc t = .wUnlockRet f →
      Step cfg s (.muUnlockRet t) (s.setPc t (.wCbStart f))
  | fUnlockRet {t f} : s.pc t = .fUnlockRet f →
      Step cfg s (.muUnlockRet t) (s.setPc t (.readyRet f))
  | wBcastCall {t f} : s.pc t = .wBcastCall f →
      Step cfg s (.cvBroadcastCall t (cfg.slotOf f.o)) (s.setPc t (.wBcastRet f))
  | wBcastRet {t f} : s.pc t = .wBcastRet f →
      Step cfg s (.cvBroadcastRet t) (s.setPc t (.wStore f))
  | cvWaitCall {t f} : s.pc t = .cvWaitCall f → s.lockHolder (cfg.slotOf f.o) = some t →
      Step cfg s (.cvWaitCall t (cfg.slotOf f.o) (cfg.slotOf f.o))
        ((s.release (cfg.slotOf f.o)).setPc t (.cvWaitRet f))
  | cvWaitRet {t f r} : s.pc t = .cvWaitRet f → s.lockHolder (cfg.slotOf f.o) = none →
      Step cfg s (.cvWaitRet t r) ((s.acquire (cfg.slotOf f.o) t).setPc t (.waitLd f))

theorem step_ok {cfg s e s'} (h : step cfg s e = .ok s') : Step cfg s e s' := by
  step_cases e h
  all_goals try obtain ⟨rfl, rfl⟩ := ‹_ ∧ _›
  all_goals subst_vars
  all_goals try (constructor <;> assumption)
  -- left: the CAS, whose `ok` flag selects the rule, and the skipped events
  · have hw : s.word _ = 0 := of_decide_eq_true (Eq.symm ‹true = _›)
    rw [hw]; exact .casOk ‹_› hw
  · have hw : s.word _ ≠ 0 := of_decide_eq_false (Bool.eq_false_iff.2 ‹_›)
    rw [decide_eq_false hw]; exact .casFail ‹_› hw
  all_goals exact .skip rfl fun _ h => by cases h <;> assumption

theorem Step.accepted {cfg s e s'} (h : Step cfg s e s') : step cfg s e = .ok s' := by
  cases h
  case skip hn hidle =>
    cases e <;> try cases hn
    case internal => rfl
    all_goals simp [step, hidle _ rfl]
  all_goals simp [step, need, *]

theorem upd_ne {β : Type} {f : Nat → β} {a x : Nat} (b : β) (h : x ≠ a) : upd f a b x = f x := by
  simp [upd, h]

/-- Thread `t` moves from `p` to `p'`; the slot locks stay and `p'` holds what `p` holds (the
    default), or `t`, holding nothing, acquires a free slot, or it releases the only slot it holds;
    and `t` may rewrite the record
    (word, winner, callback history) of once objects it owns: those whose word is 0 (it wins the
    CAS) or whose winner it is.  The invariant survives if `p'` claims about the shared state
    only what is true of it: each claim of `p'` is a claim of `p` (by evaluation, the default)
    or is true outright.  At the program points that touch only pc and locks every record stays
    and `p'` is as far into the winner's path and in the same call as `p`, again by evaluation:
    the last two hypotheses. -/
theorem Inv.move {cfg s t p p'} {W' : OnceId → Nat} {N' : OnceId → Option Tid}
    {S' E' : OnceId → List Tid} {L' : SlotId → Option Tid} (hi : Inv cfg s) (hp : s.pc t = p)
    (hB : p.BlockingOnly → p'.BlockingOnly)
    (hH : L' = s.lockHolder ∧ (∀ k, p'.Holds cfg k ↔ p.Holds cfg k) ∨
      (∃ k₀, L' = upd s.lockHolder k₀ (some t) ∧ s.lockHolder k₀ = none ∧
        (∀ k, ¬ p.Holds cfg k) ∧ (p.BlockingOnly → ∀ k, p'.Holds cfg k ↔ k₀ = k)) ∨
      (∃ k₀, L' = upd s.lockHolder k₀ none ∧ s.lockHolder k₀ = some t ∧
        (∀ k, p.Holds cfg k → k₀ = k) ∧ ∀ k, ¬ p'.Holds cfg k) := by
      exact .inl ⟨rfl, fun _ => .rfl⟩)
    (hL : ∀ o, p'.Leaving o → p.Leaving o ∨ W' o = 2 := by exact fun _ => .inl)
    (hWt : ∀ o, p'.Waiting o → p.Waiting o ∨ W' o ≠ 0 := by exact fun _ => .inl)
    (hN : ∀ o, p'.SawNonzero o → p.SawNonzero o ∨ W' o ≠ 0 := by exact fun _ => .inl)
    (hrec : ∀ o,
      W' o = s.word o ∧ N' o = s.winner o ∧ S' o = s.fStarts o ∧ E' o = s.fEnds o ∧
        (p'.InW o ↔ p.InW o) ∧
        (p.InW o → p'.startsOf t = p.startsOf t ∧ p'.endsOf t = p.endsOf t) ∨
      (s.word o = 0 ∨ p.InW o) ∧ (t, o) ∈ s.called ∧ N' o = some t ∧
        (W' o = 1 ∧ p'.InW o ∧ S' o = p'.startsOf t ∧ E' o = p'.endsOf t ∨
         W' o = 2 ∧ ¬ p'.InW o ∧ S' o = [t] ∧ E' o = [t]) := by
      exact fun _ => .inl ⟨rfl, rfl, rfl, rfl, .rfl, fun _ => ⟨rfl, rfl⟩⟩)
    (hF : ∀ f, p'.frame? = some f → p.frame? = some f ∨ (t, f.o) ∈ s.called := by
      exact fun _ => .inl) :
    Inv cfg { s with word := W', lockHolder := L', pc := upd s.pc t p', winner := N',
                     fStarts := S', fEnds := E' } := by
  subst hp
  have locks : ∀ k u, L' k = some u ↔ (upd s.pc t p' u).Holds cfg k := by
    intro k u
    have := hi.lock k u; have := hi.held k u; have hb := hi.blk t
    clear hi hB hL hWt hN hrec hF
    obtain ⟨rfl, h⟩ | ⟨k₀, rfl, hfree, h0, h⟩ | ⟨k₀, rfl, hheld, h1, h0⟩ := hH
    · have := h k; grind [upd]
    · have := h hb k; have := h0 k; grind [upd]
    · have := h1 k; have := h0 k; grind [upd]
  have h1 := hi.word_le; have h2 := hi.w0; have h3 := hi.w1; have h4 := hi.w2; have h5 := hi.inW
  have h6 := hi.leaving; have h7 := hi.ret; have h8 := hi.waiting; have h9 := hi.sawNonzero
  have h10 := hi.blk; have h13 := hi.called; have h14 := hi.winCalled
  clear hi hH
  constructor <;> dsimp only
  case lock => exact fun k u h => (locks k u).1 h
  case held => exact fun k u h => (locks k u).2 h
  all_goals clear locks; grind [upd]

/-- The record of an object whose winner `t` is. -/
theorem Inv.winner_at {cfg s t p o} (hi : Inv cfg s) (hp : s.pc t = p) (h : p.InW o) :
    s.word o = 1 ∧ s.winner o = some t ∧ s.fStarts o = p.startsOf t ∧ s.fEnds o = p.endsOf t := by
  subst hp
  obtain ⟨hw, hwin⟩ := hi.inW t o h
  obtain ⟨u, hu, -, hs, he⟩ := hi.w1 o hw
  cases hwin.symm.trans hu
  exact ⟨hw, hwin, hs, he⟩

theorem inv_step {cfg s s' e} (hi : Inv cfg s) (h : step cfg s e = .ok s') : Inv cfg s' := by
  cases step_ok h with
  | skip _ => exact hi
  | @call t b a o hp =>
    have hi1 : Inv cfg { s with called := (t, o) :: s.called } :=
      { hi with called := fun u f h => .tail _ (hi.called u f h),
                winCalled := fun o u h => .tail _ (hi.winCalled o u h) }
    exact hi1.move hp (fun _ => trivial) (hF := fun _ h => .inr (by cases h; exact .head _))
  | @ret t f hp =>
    have hr : ∀ u o, (u, o) ∈ (t, f.o) :: s.returned → s.word o = 2 := fun u o h =>
      (List.mem_cons.1 h).elim (fun e => by cases e; exact hi.leaving t _ (by rw [hp]; rfl))
        (hi.ret u o)
    have hi1 : Inv cfg { s with returned := (t, f.o) :: s.returned } := { hi with ret := hr }
    exact hi1.move hp (fun _ => trivial) (hL := nofun) (hF := nofun)
  | outerLd hp =>
    split
    · next hw => exact hi.move hp id (hL := fun _ h => .inr (h ▸ hw))
    · exact hi.move hp id
  | implLd hp =>
    unfold afterLoc
    split
    · next hw => exact hi.move hp id (hL := fun _ h => .inr (h ▸ hw))
    split
    · next hb => exact hi.move hp (fun _ => hb) (hN := fun _ h => .inr (h.2 ▸ h.1))
    split
    · next hb _ => exact hi.move hp id (hH := .inl ⟨rfl, fun _ => iff_of_false (hb ·.1) id⟩)
    · next hb hl =>
      exact hi.move hp id (hH := .inl ⟨rfl, fun _ => iff_of_false (hb ·.1) id⟩)
        (hWt := fun _ h => .inr (h ▸ hl))
  | casReload hp =>
    unfold afterLoc
    split
    · exact hi.move hp id (hWt := nofun)
    · exact hi.move hp id
  | waitLd hp =>
    split <;> split
    · next hw hb =>
      exact hi.move hp (fun _ => hb) (hL := fun _ h => .inr (h ▸ hw)) (hWt := nofun)
    · next hw hb =>
      exact hi.move hp id (hH := .inl ⟨rfl, fun _ => iff_of_false id (hb ·.1)⟩)
        (hL := fun _ h => .inr (h ▸ hw)) (hWt := nofun)
    · next hb => exact hi.move hp (fun _ => hb)
    · exact hi.move hp id
  | @casOk t f hp hw =>
    have hc := hi.called t f (by rw [hp]; rfl)
    obtain ⟨-, hs, he⟩ := hi.w0 f.o hw
    split
    case' isTrue hb => refine hi.move hp (fun _ => hb) (hrec := fun o => ?_)
    case' isFalse hb =>
      refine hi.move hp (fun _ => trivial) (hH := .inl ⟨rfl, fun _ => iff_of_false id (hb ·.1)⟩)
        (hrec := fun o => ?_)
    all_goals
      by_cases ho : o = f.o
      · subst ho; exact .inr ⟨.inl hw, hc, upd_same .., .inl ⟨upd_same .., rfl, hs, he⟩⟩
      · exact .inl ⟨upd_ne _ ho, upd_ne _ ho, rfl, rfl, ⟨fun h => absurd h.symm ho, nofun⟩, nofun⟩
  | casFail hp hw => exact hi.move hp id (hWt := fun _ h => .inr (h ▸ hw))
  | @store t f hp =>
    obtain ⟨hw, hwin, hs, he⟩ := hi.winner_at hp rfl
    refine hi.move hp (fun _ => trivial)
      (hWt := fun o h => .inr (by rw [← h, upd_same]; omega)) (hrec := fun o => ?_)
    by_cases ho : o = f.o
    · subst ho
      exact .inr ⟨.inr rfl, hi.winCalled _ t hwin, hwin, .inr ⟨upd_same .., nofun, hs, he⟩⟩
    · exact .inl ⟨upd_ne _ ho, rfl, rfl, rfl, ⟨nofun, fun h => absurd h.symm ho⟩,
        fun h => absurd h.symm ho⟩
  | @cbStart t f hp =>
    obtain ⟨hw, hwin, hs, he⟩ := hi.winner_at hp rfl
    refine hi.move hp (fun _ => trivial) (hrec := fun o => ?_)
    by_cases ho : o = f.o
    · subst ho
      exact .inr ⟨.inr rfl, hi.winCalled _ t hwin, hwin,
        .inl ⟨hw, rfl, by rw [upd_same, hs]; rfl, he⟩⟩
    · exact .inl ⟨rfl, rfl, upd_ne _ ho, rfl, .rfl, fun h => absurd h.symm ho⟩
  | @cbEnd t f hp =>
    obtain ⟨hw, hwin, hs, he⟩ := hi.winner_at hp rfl
    split
    case' isTrue hb => refine hi.move hp (fun _ => hb) (hrec := fun o => ?_)
    case' isFalse hb =>
      refine hi.move hp (fun _ => trivial) (hH := .inl ⟨rfl, fun _ => iff_of_false (hb ·.1) id⟩)
        (hrec := fun o => ?_)
    all_goals
      by_cases ho : o = f.o
      · subst ho
        exact .inr ⟨.inr rfl, hi.winCalled _ t hwin, hwin,
          .inl ⟨hw, rfl, hs, by rw [upd_same, he]; rfl⟩⟩
      · exact .inl ⟨rfl, rfl, rfl, upd_ne _ ho, .rfl, fun h => absurd h.symm ho⟩
  | lock1Ret hp hfree =>
    unfold afterLoc
    split
    · exact hi.move hp (fun _ => trivial)
        (hH := .inr (.inl ⟨_, rfl, hfree, nofun, fun hb _ => and_iff_right hb⟩)) (hN := nofun)
    · next hl =>
      exact hi.move hp (fun _ => trivial)
        (hH := .inr (.inl ⟨_, rfl, hfree, nofun, fun hb _ => and_iff_right hb⟩)) (hN := nofun)
        (hWt := fun o h => .inr (hi.sawNonzero _ o (by rw [hp]; exact ⟨hl, h⟩)))
  | wLockRet hp hfree =>
    exact hi.move hp id (hH := .inr (.inl ⟨_, rfl, hfree, nofun, fun hb _ => and_iff_right hb⟩))
  | cvWaitRet hp hfree =>
    exact hi.move hp (fun _ => trivial)
      (hH := .inr (.inl ⟨_, rfl, hfree, nofun, fun hb _ => and_iff_right hb⟩))
  | wUnlockCall hp hheld | fUnlockCall hp hheld | cvWaitCall hp hheld =>
    exact hi.move hp id (hH := .inr (.inr ⟨_, rfl, hheld, fun _ h => h.2, nofun⟩))
  | lock1Call hp | wLockCall hp | wBcastCall hp => exact hi.move hp id
  | wUnlockRet hp | fUnlockRet hp | wBcastRet hp => exact hi.move hp (fun _ => trivial)

theorem isRun (cfg : Config) : NsyncVerif.IsRun (step cfg) (run cfg) :=
  ⟨fun _ => rfl, fun s e _ => by rw [run]; cases step cfg s e <;> rfl⟩

theorem inv_run {cfg evs s s'} (hi : Inv cfg s) (h : run cfg s evs = .ok s') : Inv cfg s' :=
  (isRun cfg).induct hi (fun _ _ _ _ hi hs => inv_step hi hs) h

theorem inv_reachable {cfg s} (h : Reachable cfg s) : Inv cfg s := by
  obtain ⟨evs, h⟩ := h
  exact inv_run (inv_init cfg) h

end Once
