/-
  Layer `Note` × vector clocks: what one accepted step does to the `notified` flags and which
  orders the acceptor insists on (facts about the acceptor alone).
-/
import NsyncVerif.Proofs.NoteVC
import NsyncVerif.Proofs.NoteForestStep
import NsyncVerif.Proofs.NoteOwn


namespace Note
open NsyncVerif

/-- A flag becomes set only by an accepted store event on that very note. -/
theorem step_flag_event {s s' : State} {e : Event} (hs : step s e = .ok s') (k : NoteId)
    (hk : (s'.notes k).notified = true) :
    (s.notes k).notified = true ∨ ∃ t site o n ob, e = .stNote t site o k n ob := by
  rcases step_own hs with ⟨t, pc, pc', -, -, -, h⟩ | ⟨v, rfl, _, rfl⟩ | ⟨rfl, rfl⟩
  case inr.inl | inr.inr => exact .inl hk
  clear hs
  cases h
  all_goals (try (left; exact hk))
  all_goals (try (left; simpa using hk))
  all_goals (repeat' split at hk)
  all_goals (first
    | (simp only [childWakeNext_f_notified, setNotified_f_notified] at hk
       split at hk
       · next h => subst h; right; exact ⟨_, _, _, _, _, rfl⟩
       · left; exact hk)
    | (simp only [setPc_notes, markBorn_notes, setNotified_f_notified] at hk
       split at hk
       · next h =>
         subst h; right
         have := (by assumption : _ = Site.newSt ∧ _ ∧ _ ∧ _).2.2.1
         subst this
         exact ⟨_, _, _, _, _, rfl⟩
       · left; exact hk)
    | (simp only [setPc_notes, allocNote_f] at hk
       split at hk
       · simp [NoteRec.blank] at hk
       · left; exact hk))

/-- … so every other event leaves every flag as it is. -/
theorem flag_frame {s s' : State} {e : Event} (hr : Reachable s) (hs : step s e = .ok s')
    (k : NoteId) (hne : ∀ t site o n ob, e ≠ .stNote t site o k n ob) :
    (s'.notes k).notified = (s.notes k).notified := by
  cases h' : (s'.notes k).notified with
  | true =>
    rcases step_flag_event hs k h' with h | ⟨t, site, o, n, ob, h⟩
    · exact h.symm
    · exact absurd h (hne t site o n ob)
  | false =>
    cases h0 : (s.notes k).notified with
    | false => rfl
    | true =>
      have := (step_stable hs).flag k (hr.inv6.1.flag k h0) h0
      rw [h'] at this; cases this

/-- An accepted store to a `notified` word: it is one of the two release stores of 1, by a thread at
    the corresponding program point, and it sets the flag. -/
theorem stNote_ok {s s' : State} {t : Tid} {site : Site} {o : Ord} {k : NoteId} {n ob : Nat}
    (hs : step s (.stNote t site o k n ob) = .ok s') :
    o = .rel ∧ n = 1 ∧ (s'.notes k).notified = true ∧ ob = flagVal (s.notes k).notified ∧
    ((site = .childSt ∧ ∃ f rest top, s.pc t = .chd .st (f :: rest) top ∧ f.note = k ∧
        ∃ pos' f', s'.pc t = .chd pos' (f' :: rest) top ∧ pos'.stored = true) ∨
     (site = .newSt ∧ ∃ p dl, s.pc t = .newP .st k p dl ∧ s'.pc t = .newP .unlockCall k p dl)) := by
  have h := step_actor hs rfl
  generalize hp : s.pc t = p at h
  generalize hq : s'.pc t = q at h
  cases h
  case stNote_newP_st =>
    obtain ⟨rfl, rfl, rfl, rfl⟩ := ‹_ = Site.newSt ∧ _›
    refine ⟨rfl, rfl, ?_, ‹_›, Or.inr ⟨rfl, _, _, rfl, rfl⟩⟩
    simp
  all_goals
    obtain ⟨rfl, rfl, rfl, rfl⟩ := ‹_ = Site.childSt ∧ _›
    refine ⟨rfl, rfl, ?_, ‹_ = flagVal _›, Or.inl ⟨rfl, _, _, _, rfl, rfl, _, _, rfl, rfl⟩⟩
    simp only [childWakeNext_f_notified, setNotified_f_notified, if_true]

/-- An accepted load of a `notified` word is an acquire load at one of the load sites and reads
    the flag. -/
theorem ld_ok {s s' : State} {t : Tid} {site : Site} {o : Ord} {k : NoteId} {obs : Nat}
    (hs : step s (.ld t site o k obs) = .ok s') :
    o = .acq ∧ obs = flagVal (s.notes k).notified := by
  simp only [step, stepLd, need_ok] at hs
  exact ⟨hs.1, hs.2.2.1⟩

/-- THE ORDERS: every accepted atomic event carries, at its site, exactly the order `noteSiteOrd`
    declares (and its site is one of the 14 sites of the table). -/
theorem step_orders {s s' : State} {e : Event} (hs : step s e = .ok s') :
    match e with
    | .ld _ site o _ _ => site ≠ .other ∧ site.op = "ld" ∧ o = noteSiteOrd site
    | .stNote _ site o _ _ _ => site ≠ .other ∧ site.op = "st" ∧ o = noteSiteOrd site
    | .stW _ site o _ _ _ => site ≠ .other ∧ site.op = "st" ∧ o = noteSiteOrd site
    | _ => True := by
  rcases step_own hs with ⟨t, pc, pc', -, -, -, h⟩ | ⟨v, rfl, _, _⟩ | ⟨rfl, _⟩
  · cases h <;> first
      | trivial
      | (simp_all [noteSiteOrd, Site.op]; done)
      | (cases ‹Bool› <;> simp_all [noteSiteOrd, Site.op])
  · trivial
  · trivial

end Note
