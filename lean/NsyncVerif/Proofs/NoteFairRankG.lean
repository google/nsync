/-
  Layer `Note`, fair termination: the rank of a thread for calls that work on children — the loop
  over a children list (position in the list, stable while the mutex is held), the recursive
  activations of `note_notify_child`, and two global potentials: the number of notes whose flag is
  not yet set (every recursive activation that scans a list has stored a flag) and the number of
  `children_adopted` marks (every rescan clears one; marks are set by adoptions only).  Their sum
  `PG` never increases (as long as no note is allocated and no child is adopted), and decreases when
  a flag is stored or a `children_adopted` mark is cleared (`PG_le`, `PG_lt_flag`, `PG_lt_adopted`).
-/
import NsyncVerif.Proofs.NoteFairGen


namespace Note

/-! ### position in a children list -/

/-- Number of elements of the list from `c` (inclusive) on; 0 for `none`. -/
def sufLen (l : List NoteId) : Option NoteId → Nat
  | none => 0
  | some c => (l.dropWhile (fun x => x != c)).length

theorem sufLen_le (l : List NoteId) (nx : Option NoteId) : sufLen l nx ≤ l.length := by
  cases nx with
  | none => exact Nat.zero_le _
  | some c =>
    unfold sufLen
    induction l with
    | nil => simp
    | cons x xs ih =>
      simp only [List.dropWhile_cons]
      split
      · exact Nat.le_trans ih (by simp)
      · exact Nat.le_refl _

theorem nextAfter_mem {l : List NoteId} {c d : NoteId} (h : nextAfter l c = some d) : d ∈ l := by
  induction l with
  | nil => cases h
  | cons x xs ih =>
    simp only [nextAfter] at h
    split at h
    · cases xs with
      | nil => cases h
      | cons y ys => simp at h; simp [h]
    · exact List.mem_cons_of_mem _ (ih h)

theorem sufLen_next {l : List NoteId} {c : NoteId} (hn : l.Nodup) (hc : c ∈ l) :
    sufLen l (nextAfter l c) + 1 = sufLen l (some c) := by
  induction l with
  | nil => cases hc
  | cons x xs ih =>
    have hx : x ∉ xs := (List.nodup_cons.mp hn).1
    have hn' : xs.Nodup := (List.nodup_cons.mp hn).2
    by_cases hxc : x = c
    · subst hxc
      simp only [nextAfter, if_true]
      cases xs with
      | nil => simp [sufLen]
      | cons d ys =>
        have hd : x ≠ d := fun e => hx (by simp [e])
        simp [sufLen, hd]
    · have hc' : c ∈ xs := by
        rcases List.mem_cons.mp hc with h | h
        · exact absurd h.symm hxc
        · exact h
      simp only [nextAfter, hxc, if_false]
      have e1 : sufLen (x :: xs) (some c) = sufLen xs (some c) := by
        simp [sufLen, hxc]
      rw [e1, ← ih hn' hc']
      cases hnx : nextAfter xs c with
      | none => rfl
      | some d =>
        have hd : x ≠ d := fun e => hx (e ▸ nextAfter_mem hnx)
        simp [sufLen, hd]

theorem sufLen_head {c : NoteId} {cs : List NoteId} (hn : (c :: cs).Nodup) :
    sufLen (c :: cs) cs.head? = cs.length := by
  have := sufLen_next hn (List.mem_cons_self)
  simp only [nextAfter, if_true] at this
  have e : sufLen (c :: cs) (some c) = cs.length + 1 := by simp [sufLen]
  omega

theorem sufLen_erase (l : List NoteId) (a : NoteId) (nx : Option NoteId) :
    sufLen (l.erase a) nx ≤ sufLen l nx := by
  cases nx with
  | none => exact Nat.le_refl _
  | some c =>
    induction l with
    | nil => simp
    | cons x xs ih =>
      by_cases hxa : x = a
      · subst hxa
        simp only [List.erase_cons_head]
        by_cases hxc : x = c
        · subst hxc
          have : sufLen (x :: xs) (some x) = xs.length + 1 := by simp [sufLen]
          rw [this]; exact Nat.le_trans (sufLen_le xs _) (by omega)
        · have : sufLen (x :: xs) (some c) = sufLen xs (some c) := by
            simp [sufLen, hxc]
          rw [this]; exact Nat.le_refl _
      · have hb : (x == a) = false := by simp [hxa]
        simp only [List.erase_cons, hb, Bool.false_eq_true, if_false]
        by_cases hxc : x = c
        · subst hxc
          simp only [sufLen, List.dropWhile_cons, bne_self_eq_false, Bool.false_eq_true, if_false,
            List.length_cons]
          have := List.length_erase_le (a := a) (l := xs)
          omega
        · have e1 : sufLen (x :: xs.erase a) (some c) = sufLen (xs.erase a) (some c) := by
            simp [sufLen, hxc]
          have e2 : sufLen (x :: xs) (some c) = sufLen xs (some c) := by
            simp [sufLen, hxc]
          rw [e1, e2]; exact ih

/-! ### the rank -/

def KK : Nat := 12

/-- The children lists of a state. -/
def State.ch (s : State) : NoteId → List NoteId := fun k => (s.notes k).children

/-- The enclosing activations: each is inside the recursive call for one child. -/
def outerW (ch : NoteId → List NoteId) : List Frame → Nat
  | [] => 0
  | g :: rest => KK * (sufLen (ch g.note) g.next + 1) + 3 + outerW ch rest

/-- The innermost activation. -/
def headW (ch : NoteId → List NoteId) (f : Frame) : CPos → Nat
  | .ld => 5
  | .st => 4
  | .wake _ | .semV _ => KK * ((ch f.note).length + 1) + 3
  | .lockChild _ => KK * (sufLen (ch f.note) f.next + 1) + 10
  | .lockChildRet _ => KK * (sufLen (ch f.note) f.next + 1) + 9
  | .unlockChild _ => KK * (sufLen (ch f.note) f.next + 1) + 2
  | .unlockChildRet _ => KK * (sufLen (ch f.note) f.next + 1) + 1
  | .waitCall => 2
  | .waitRet _ => 1

def frW (ch : NoteId → List NoteId) (n : NoteId) (nx : Option NoteId) : FPos → Nat
  | .lockChild => KK * (sufLen (ch n) nx + 1) + 10
  | .lockChildRet => KK * (sufLen (ch n) nx + 1) + 9
  | .unlockChild => KK * (sufLen (ch n) nx + 1) + 2
  | .unlockChildRet => KK * (sufLen (ch n) nx + 1) + 1
  | .waitRet _ => 7
  | p => p.rk

/-- The work of the thread at its position, given the children lists. -/
def wGc (ch : NoteId → List NoteId) : PC → Nat
  | .chd p (f :: rest) top => top.k.after + 4 + headW ch f p + outerW ch rest
  | .fr p n _ _ nx => frW ch n nx p
  | pc => mj pc

def wG (s : State) (pc : PC) : Nat := wGc s.ch pc

theorem outerW_mono {ch' ch : NoteId → List NoteId}
    (h : ∀ k nx, sufLen (ch' k) nx ≤ sufLen (ch k) nx) : ∀ l, outerW ch' l ≤ outerW ch l := by
  intro l
  induction l with
  | nil => exact Nat.le_refl _
  | cons g rest ih =>
    simp only [outerW]
    have := h g.note g.next
    have hk : KK * (sufLen (ch' g.note) g.next + 1) ≤ KK * (sufLen (ch g.note) g.next + 1) :=
      Nat.mul_le_mul_left _ (by omega)
    omega

/-- `nsync_note_free` before its first scan of the children. -/
def phG : PC → Nat
  | .fr p _ _ _ _ =>
    (match p with
     | .lockCall | .lockRet | .tryCall | .tryRet | .sUnlockCall | .sUnlockRet | .sLockPCall
     | .sLockPRet | .sLockNCall | .sLockNRet => 1
     | _ => 0)
  | _ => 0

/-- The global potential: notes not yet notified + `children_adopted` marks (notes below `B`). -/
def PG (B : Nat) (s : State) : Nat :=
  ((List.range B).filter (fun k => (s.notes k).allocated && !(s.notes k).notified)).length +
  ((List.range B).filter (fun k => (s.notes k).adopted)).length

def Lex2 {α β : Type} (ra : α → α → Prop) (rb : β → β → Prop) (a b : α × β) : Prop :=
  ra a.1 b.1 ∨ (a.1 = b.1 ∧ rb a.2 b.2)

theorem lex2_wf {α β : Type} {ra : α → α → Prop} {rb : β → β → Prop} (ha : WellFounded ra)
    (hb : WellFounded rb) : WellFounded (Lex2 ra rb) := by
  have : ∀ a b, Acc (Lex2 ra rb) (a, b) := by
    intro a
    induction a using ha.induction with
    | _ a iha =>
      intro b
      induction b using hb.induction with
      | _ b ihb =>
        constructor
        rintro ⟨c, d⟩ h
        rcases h with h | ⟨h1, h2⟩
        · exact iha c h d
        · simp only at h1 h2; subst h1; exact ihb d h2
  exact ⟨fun ⟨a, b⟩ => this a b⟩

def LexLt (a b : Nat × Nat) : Prop := a.1 < b.1 ∨ (a.1 = b.1 ∧ a.2 < b.2)

theorem lexLt_wf : WellFounded LexLt := lex2_wf Nat.lt_wfRel.wf Nat.lt_wfRel.wf

/-- The order on ranks. -/
def LtG : Nat × (Nat × (Nat × Nat)) → Nat × (Nat × (Nat × Nat)) → Prop :=
  Lex2 (· < ·) (Lex2 (· < ·) LexLt)

theorem ltG_wf : WellFounded LtG := lex2_wf Nat.lt_wfRel.wf (lex2_wf Nat.lt_wfRel.wf lexLt_wf)

/-- The inner part (phase, work, waiters). -/
def RestLt (a b : Nat × (Nat × Nat)) : Prop := Lex2 (· < ·) LexLt a b

theorem ltG_of {p' p : Nat} {r' r : Nat × (Nat × Nat)} (hle : p' ≤ p)
    (h : p' < p ∨ RestLt r' r) : LtG (p', r') (p, r) := by
  rcases h with h | h
  · exact Or.inl h
  · rcases Nat.lt_or_ge p' p with h' | h'
    · exact Or.inl h'
    · exact Or.inr ⟨Nat.le_antisymm hle h', h⟩

theorem restLt_w {ph : Nat} {w' w m' m : Nat} (h : w' < w) : RestLt (ph, (w', m')) (ph, (w, m)) :=
  Or.inr ⟨rfl, Or.inl h⟩

/-- The step is the adoption of a child by the parent of the note being freed. -/
def Adopts (s : State) (e : Event) : Prop :=
  ∃ a n m c nx, e = .lockRet a ∧ s.pc a = .fr .lockChildRet n (some m) c nx ∧
    (s.notes c).disconnecting = 0

def NoMalloc (s : State) : Prop := ∀ a, (s.pc a).isMalloc = false

/-- A note that is allocated and not notified after a step was so before it (no `malloc` pending). -/
theorem unnotified_back {s s' : State} {e : Event} (hs : step s e = .ok s') (hm : NoMalloc s)
    {k : NoteId} (hk : ((s'.notes k).allocated && !(s'.notes k).notified) = true) :
    ((s.notes k).allocated && !(s.notes k).notified) = true := by
  simp only [Bool.and_eq_true, Bool.not_eq_true'] at hk ⊢
  have hal : (s.notes k).allocated = true := by
    rcases step_alloc hs k hk.1 with h | ⟨a, par, dl, _, hpc, _⟩
    · exact h
    · have := hm a; rw [hpc] at this; cases this
  refine ⟨hal, ?_⟩
  cases hn : (s.notes k).notified with
  | false => rfl
  | true => have := (step_stable hs).flag k hal hn; rw [hk.2] at this; cases this

/-- A `children_adopted` mark that is set after a step was set before it, unless the step is an
    adoption. -/
theorem adopted_back {s s' : State} {e : Event} (hs : step s e = .ok s') (hna : ¬ Adopts s e)
    {k : NoteId} (hk : (s'.notes k).adopted = true) : (s.notes k).adopted = true := by
  cases h0 : (s.notes k).adopted with
  | true => rfl
  | false =>
    obtain ⟨a, n, c, nx, he, hpc, hd⟩ := step_adopted_set hs h0 hk
    exact absurd ⟨a, n, k, c, nx, he, hpc, hd⟩ hna

theorem PG_le {s s' : State} {e : Event} (B : Nat) (hs : step s e = .ok s')
    (hm : NoMalloc s) (hna : ¬ Adopts s e) : PG B s' ≤ PG B s :=
  Nat.add_le_add (length_filter_le fun _ hk => unnotified_back hs hm hk)
    (length_filter_le fun _ hk => adopted_back hs hna hk)

theorem PG_lt_flag {s s' : State} {e : Event} (B : Nat) (hs : step s e = .ok s')
    (hm : NoMalloc s) (hna : ¬ Adopts s e) {k : NoteId} (hk : k < B)
    (hal : (s.notes k).allocated = true) (h0 : (s.notes k).notified = false)
    (h1 : (s'.notes k).notified = true) : PG B s' < PG B s :=
  Nat.add_lt_add_of_lt_of_le
    (length_filter_lt (a := k) (fun _ hj => unnotified_back hs hm hj) (List.mem_range.mpr hk)
      (by simp [hal, h0]) (by simp [h1]))
    (length_filter_le fun _ hj => adopted_back hs hna hj)

theorem PG_lt_adopted {s s' : State} {e : Event} (B : Nat) (hs : step s e = .ok s')
    (hm : NoMalloc s) (hna : ¬ Adopts s e) {k : NoteId} (hk : k < B)
    (h0 : (s.notes k).adopted = true) (h1 : (s'.notes k).adopted = false) :
    PG B s' < PG B s :=
  Nat.add_lt_add_of_le_of_lt (length_filter_le fun _ hj => unnotified_back hs hm hj)
    (length_filter_lt (a := k) (fun _ hj => adopted_back hs hna hj) (List.mem_range.mpr hk) h0 h1)

end Note
