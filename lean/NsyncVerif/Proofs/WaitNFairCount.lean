/-
  Proofs/WaitNFairCount.lean — WaitN layer, liveness, token counting: from what a thread's own step does to the semaphore
  counts and to its pending post (`SemA`, Proofs/WaitNSem.lean: a count goes up only by `sem v` on that semaphore; the
  post is kept, posted, or the head of a wake list / of the queue of a ready object is popped) to `finiteWakeups_of_stray`.
-/
import NsyncVerif.Proofs.WaitNFairReadyReturns


namespace WaitN
open NsyncVerif

/-- the wake-up `pd_ret 0` of the P of wait.c:78 consumes a token -/
theorem wake_dec {s s' : State} {t : Tid} {k : SemId} (hpc : s.pc t = .wPdWait k)
    (h : stepThr s t (.pdRet k false) = .ok s') : s'.sem k < s.sem k := by
  unfold stepThr at h
  rw [hpc] at h
  simp only [stepPdWait] at h
  split_ok h
  all_goals first
    | (simp_all; done)
    | (cases h; simp_all [startScan]; done)

/-!
### generic facts (a non-increasing sequence of naturals is eventually
constant; counting the elements of a list that satisfy a predicate; `post` has finite support), what stays
constant while a caller is in its sleep loop, and "a waker that owes a post makes it".
-/

section

variable {s0 : State}

theorem filter_len_le {α : Type} (p q : α → Bool) : ∀ l : List α, (∀ r ∈ l, q r = true → p r = true) →
    (l.filter q).length ≤ (l.filter p).length := by
  intro l
  induction l with
  | nil => intro _; simp
  | cons a l ih =>
    intro h
    have ih := ih (fun r hr => h r (List.mem_cons_of_mem _ hr))
    have ha := h a (List.mem_cons_self ..)
    simp only [List.filter_cons]
    cases hq : q a with
    | false => simp only [Bool.false_eq_true, if_false]; split <;> simp <;> omega
    | true => rw [ha hq]; simp; exact ih

theorem filter_len_lt {α : Type} (p q : α → Bool) : ∀ l : List α, (∀ r ∈ l, q r = true → p r = true) →
    (∃ r ∈ l, p r = true ∧ q r = false) → (l.filter q).length < (l.filter p).length := by
  intro l
  induction l with
  | nil => intro _ ⟨r, hr, _⟩; simp at hr
  | cons a l ih =>
    intro h ⟨r, hr, hp, hq⟩
    have hl := filter_len_le p q l (fun r hr => h r (List.mem_cons_of_mem _ hr))
    have ha := h a (List.mem_cons_self ..)
    simp only [List.filter_cons]
    rcases List.mem_cons.1 hr with rfl | hr'
    · rw [hp, hq]; simp; omega
    · have ih := ih (fun r hr => h r (List.mem_cons_of_mem _ hr)) ⟨r, hr', hp, hq⟩
      cases hqa : q a with
      | false => simp only [Bool.false_eq_true, if_false]; split <;> simp <;> omega
      | true => rw [ha hqa]; simp; exact ih

/-- only finitely many threads owe a post -/
theorem post_support {s : State} (h : Reachable s) : ∃ B, ∀ u, B ≤ u → s.post u = none := by
  refine reachable_inv (P := fun s => ∃ B, ∀ u, B ≤ u → s.post u = none) ⟨0, fun _ _ => rfl⟩ (fun _ _ ih _ => ih) ?_ h
  intro s s' v e _ ⟨B, hB⟩ hs
  refine ⟨max B (v + 1), fun u hu => ?_⟩
  have h1 : v + 1 ≤ u := Nat.le_trans (Nat.le_max_right _ _) hu
  have h2 : B ≤ u := Nat.le_trans (Nat.le_max_left _ _) hu
  have hne : u ≠ v := fun h => by rw [h] at h1; exact Nat.lt_irrefl _ h1
  rw [(others_stepThr hs u hne).2.2.1]
  exact hB u h2

/-- while the caller stays in its sleep loop its records and its semaphore stay -/
theorem sleep_const (x : Exec s0) (t : Tid) (m : Nat) (h1 : inSleep ((x.ρ m).pc t) = true)
    (h2 : inSleep ((x.ρ (m + 1)).pc t) = true) :
    ((x.ρ (m + 1)).fr t).recs = ((x.ρ m).fr t).recs
    ∧ ∀ k, ((x.ρ m).fr t).sem = some k → ((x.ρ (m + 1)).fr t).sem = some k := by
  refine ⟨?_, fun k hk => ?_⟩
  · rcases x.view t m with ⟨_, _, h⟩ | ⟨e, _, hst⟩
    · exact frSame_recs h
    · exact (quiet_of_inSleep hst h1).recs t
  · rcases x.step_cases m with ⟨ns, h, _⟩ | ⟨v, e, _, hst⟩
    · rw [h]; exact hk
    · rcases (bind_stepThr hst).1 t k hk with h | ⟨h, h'⟩
      · exact h
      · subst h; rw [h2] at h'; cases h'

/-- … and the `waiting` field of one of its records is not set again -/
theorem sleep_wfalse (x : Exec s0) (hr : Reachable s0) (t : Tid) (m : Nat) (h1 : inSleep ((x.ρ m).pc t) = true)
    {r : Rid} (hmem : r ∈ ((x.ρ m).fr t).recs) (hw' : ((x.ρ (m + 1)).rcd r).waiting = true) :
    ((x.ρ m).rcd r).waiting = true := by
  cases hw : ((x.ρ m).rcd r).waiting with
  | true => rfl
  | false =>
    have hil := inLoop_of_inSleep h1 (linv_of_reachable (x.reach hr m) t)
    obtain ⟨i, hi | hi⟩ := x.waiting_set hr (inCall_of_inSleep h1) hil.frees hmem hw hw' <;>
      (rw [hi] at h1; cases h1)

end

/-!
### for a call that never returns, `FiniteStrayPosts x` implies
`FiniteWakeups x t` (`finiteWakeups_of_stray`). Were the caller woken again and again, it would stay in its
sleep loop for ever, with the same records and the same semaphore. The number of its records with `waiting` set
does not increase there, so it is eventually constant; from then on no record of the call is popped (a pop
clears a `waiting` that was set), so no thread comes to owe a post for one of them; the finitely many threads
that do owe one (`post` has finite support) make it (`ower_posts`) and owe nothing afterwards; after that nobody
posts the call's semaphore (`FiniteStrayPosts`), its count does not go up any more, and every wake-up takes a
token: contradiction.
-/

section

variable {s0 : State}

theorem finiteWakeups_of_stray (x : Exec s0) (H : FairHyps x) (hsp : FiniteStrayPosts x) (t : Tid) (i : Nat)
    (hni : ∀ j, i ≤ j → (x.ρ j).pc t ≠ .idle) : FiniteWakeups x t := by
  have hr := H.reach
  apply Classical.byContradiction
  intro hnf
  have hinf : ∀ n, ∃ j k, n ≤ j ∧ (x.ρ j).pc t = .wPdWait k ∧ x.σ j = some (.thr t (.pdRet k false)) := by
    intro n
    apply Classical.byContradiction
    intro h
    exact hnf ⟨n, fun j k hj hp he => h ⟨j, k, hj, hp, he⟩⟩
  obtain ⟨n0, hn0⟩ := hsp
  obtain ⟨a, k, ha, hpa, _⟩ := hinf (max n0 i)
  have hai : i ≤ a := Nat.le_trans (Nat.le_max_right _ _) ha
  have hn0a : n0 ≤ a := Nat.le_trans (Nat.le_max_left _ _) ha
  -- in the sleep loop for ever
  have hsl : ∀ m, a ≤ m → inSleep ((x.ρ m).pc t) = true := by
    intro m hm
    obtain ⟨a', k', ha', hpa', _⟩ := hinf m
    exact inSleep_between x hr t (fun m' h1 _ => hni m' (by omega)) (by rw [hpa]; rfl) (by rw [hpa']; rfl) m hm ha'
  have hsem0 : ((x.ρ a).fr t).sem = some k := (sb_of_reachable (x.reach hr a)).b3 t k hpa
  have hconst : ∀ m, a ≤ m → ((x.ρ m).fr t).recs = ((x.ρ a).fr t).recs ∧ ((x.ρ m).fr t).sem = some k :=
    Sched.keeps_from ⟨rfl, hsem0⟩ fun m hm ih =>
      have := sleep_const x t m (hsl m hm) (hsl (m + 1) (Nat.le_succ_of_le hm))
      ⟨this.1.trans ih.1, this.2 k ih.2⟩
  have hrecs := fun m hm => (hconst m hm).1
  have hsem := fun m hm => (hconst m hm).2
  have huser : ∀ m, a ≤ m → (x.ρ m).semUser k = some t := fun m hm =>
    (sb_of_reachable (x.reach hr m)).b1 t k (hsem m hm)
  -- the number of records still marked waiting
  let W : Nat → Nat := fun m => ((((x.ρ a).fr t).recs).filter (fun r => ((x.ρ m).rcd r).waiting)).length
  have hwm : ∀ m, a ≤ m → ∀ r ∈ ((x.ρ a).fr t).recs, ((x.ρ (m + 1)).rcd r).waiting = true → ((x.ρ m).rcd r).waiting = true :=
    fun m hm r hmem hw' => sleep_wfalse x hr t m (hsl m hm) (by rw [hrecs m hm]; exact hmem) hw'
  have hWmono : ∀ m, a ≤ m → W (m + 1) ≤ W m := fun m hm => filter_len_le _ _ _ (hwm m hm)
  obtain ⟨a2, ha2, hWc⟩ := Sched.mono_stabilizes W hWmono
  -- from a2 on nobody comes to owe a post for a record of the call
  have hnew : ∀ m, a2 ≤ m → ∀ u r, r ∈ ((x.ρ a).fr t).recs → (x.ρ (m + 1)).post u = some r → (x.ρ m).post u = some r := by
    intro m hm u r hmem hp'
    apply Classical.byContradiction
    intro hne
    rcases x.view u m with ⟨_, h, _⟩ | ⟨e, _, hst⟩
    · exact hne (h ▸ hp')
    · have q := (qinv_of_reachable (x.reach hr m)).qi
      rcases (sema_stepThr hst).post_cases with h | h | ⟨r', h1, h2, h3, h4⟩
      · rw [h] at hp'; exact hne hp'
      · rw [h] at hp'; cases hp'
      · rw [hp'] at h1; cases h1
        have hwt : ((x.ρ m).rcd r).waiting = true := by
          rcases h4 with ⟨c, bc, l, hpc, hhd⟩ | ⟨tl, hq⟩
          · have hmeml : r ∈ l := by
              cases l with
              | nil => cases hhd
              | cons b l' => simp only [List.head?_cons, Option.some.injEq] at hhd; subst hhd; exact List.mem_cons_self ..
            have := (q.q4 u c l (by rw [hpc]; rfl)).2.2 r (by rw [h2]; exact hmeml)
            exact this.2.2.1
          · exact (q.q1 _ r (by rw [hq]; exact List.mem_cons_self ..)).2.2.1
        have hlt : W (m + 1) < W m := filter_len_lt _ _ _ (hwm m (by omega)) ⟨r, hmem, hwt, h3⟩
        have e1 := hWc m hm
        have e2 := hWc (m + 1) (by omega)
        omega
  have hback : ∀ m1, a2 ≤ m1 → ∀ m, m1 ≤ m → ∀ u r, r ∈ ((x.ρ a).fr t).recs → (x.ρ m).post u = some r →
      (x.ρ m1).post u = some r := fun m1 hm1 =>
    Sched.keeps_from (fun _ _ _ h => h) fun m hm ih u r hmem h => ih u r hmem (hnew m (Nat.le_trans hm1 hm) u r hmem h)
  -- every thread eventually owes nothing for the call
  have hgone : ∀ u, ∃ mu, a2 ≤ mu ∧ ∀ m, mu ≤ m → ∀ r, r ∈ ((x.ρ a).fr t).recs → (x.ρ m).post u ≠ some r := by
    intro u
    by_cases hO : ∃ r, r ∈ ((x.ρ a).fr t).recs ∧ (x.ρ a2).post u = some r
    · obtain ⟨r, hmem, hp⟩ := hO
      obtain ⟨j, hj, hd⟩ := ower_posts x H a2 u r
      refine ⟨j, hj, fun m hm r2 hmem2 hp2 => ?_⟩
      have h1 := hback a2 (Nat.le_refl _) m (Nat.le_trans hj hm) u r2 hmem2 hp2
      rw [hp] at h1; cases h1
      exact hd (hback j hj m hm u r hmem hp2)
    · exact ⟨a2, Nat.le_refl _, fun m hm r hmem hp => hO ⟨r, hmem, hback a2 (Nat.le_refl _) m hm u r hmem hp⟩⟩
  obtain ⟨B, hB⟩ := post_support (x.reach hr a2)
  have hallB : ∀ B', ∃ a3, a2 ≤ a3 ∧ ∀ u, u < B' → ∀ m, a3 ≤ m → ∀ r, r ∈ ((x.ρ a).fr t).recs → (x.ρ m).post u ≠ some r := by
    intro B'
    induction B' with
    | zero => exact ⟨a2, Nat.le_refl _, fun u hu => absurd hu (Nat.not_lt_zero _)⟩
    | succ B' ih =>
      obtain ⟨a3, h1, h2⟩ := ih
      obtain ⟨mu, -, h4⟩ := hgone B'
      refine ⟨max a3 mu, Nat.le_trans h1 (Nat.le_max_left _ _), fun u hu m hm => ?_⟩
      have hm1 : a3 ≤ m := Nat.le_trans (Nat.le_max_left _ _) hm
      have hm2 : mu ≤ m := Nat.le_trans (Nat.le_max_right _ _) hm
      by_cases hu' : u < B'
      · exact h2 u hu' m hm1
      · have : u = B' := Nat.le_antisymm (Nat.le_of_lt_succ hu) (Nat.not_lt.1 hu')
        subst this; exact h4 m hm2
  obtain ⟨a3, ha3, hnoB⟩ := hallB B
  have hnoO : ∀ u m, a3 ≤ m → ∀ r, r ∈ ((x.ρ a).fr t).recs → (x.ρ m).post u ≠ some r := by
    intro u m hm r hmem hp
    by_cases hu : u < B
    · exact hnoB u hu m hm r hmem hp
    · have := hback a2 (Nat.le_refl _) m (Nat.le_trans ha3 hm) u r hmem hp
      rw [hB u (Nat.not_lt.1 hu)] at this; cases this
  -- so nobody posts the call's semaphore any more
  have hnoV : ∀ m, a3 ≤ m → ∀ u, x.σ m ≠ some (.thr u (.semV k)) := by
    intro m hm u he
    obtain ⟨r, hp, hlive, hown⟩ := hn0 m u k (by omega) he t (huser m (by omega))
    have hb := (own_of_reachable (x.reach hr m)).back r hlive
    rw [hown, hrecs m (by omega)] at hb
    exact hnoO u m hm r hb.2.2 hp
  have hsemmono : ∀ m, a3 ≤ m → (x.ρ (m + 1)).sem k ≤ (x.ρ m).sem k := by
    intro m hm
    rcases x.step_cases m with ⟨ns, h, _⟩ | ⟨v, e, hs, hst⟩
    · rw [h]; exact Nat.le_refl _
    · apply Classical.byContradiction
      intro hlt
      have := (sema_stepThr hst).up k (by omega)
      rw [this] at hs
      exact hnoV m hm v hs
  -- and every wake-up takes a token: `Sched.leads` with the wake-ups as moves and the count as rank
  obtain ⟨_, _, hf⟩ := Sched.leads (M := fun m => (x.ρ m).pc t = .wPdWait k ∧ x.σ m = some (.thr t (.pdRet k false)))
    (fun m => a3 ≤ m) (fun _ => False) (fun m => (x.ρ m).sem k)
    (fun m hm _ => .inr ⟨Nat.le_succ_of_le hm, hsemmono m hm⟩)
    (fun m hm ⟨hpm, hem⟩ => .inr ⟨Nat.le_succ_of_le hm, by have := wake_dec hpm (x.next_some hem); omega⟩)
    (fun m hm => by
      obtain ⟨j, k', hj, hpj, hej⟩ := hinf m
      have hk' : ((x.ρ j).fr t).sem = some k' := (sb_of_reachable (x.reach hr j)).b3 t k' hpj
      rw [hsem j (by omega)] at hk'
      cases hk'
      exact ⟨j, hj, hpj, hej⟩)
    a3 (Nat.le_refl _)
  exact hf

end

end WaitN
