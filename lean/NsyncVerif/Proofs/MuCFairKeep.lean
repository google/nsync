import NsyncVerif.Proofs.MuCInv2
import NsyncVerif.Proofs.MuCInv3Step
import NsyncVerif.Proofs.MuCQScan
import NsyncVerif.Proofs.MuCInv5Step
/-
  MuC, fair termination: what else one step keeps, besides the facts of Inv12 — definitions and their lemmas for the
  program points at which the plain code of the scan stops.  (1) `CallKeep`: the parameters of the nsync_mu_wait_with_deadline call in progress
  (condition, deadline, note) do not change while the call is in progress, and "has seen its note notified" (`MW.saw`)
  is never reset.  (2) `KindKeep`: the kind of call a thread is inside (a release — nsync_mu_unlock / runlock /
  unlock_without_wakeup — or an acquisition) does not change while the call is in progress, and only `call` / `ret`
  events enter or leave a call.  (3) mu->waiters (`queue`) is changed only by the owner of MU_SPINLOCK, or by a step
  that takes the spinlock.  (4) `InvRC`: from the store `waiting := 1` of nsync_mu_wait_with_deadline (mu_wait.c:210)
  until the thread re-contends (lock_slow) or re-evaluates, the condition stored in its waiter record is the condition
  of the call.  `StepAll` (Proofs/MuCTLStep.lean) collects the four; they are established for every step by `step_all`
  (Proofs/MuCTL.lean, through the walks of Proofs/MuCTLWalk.lean; a scan step is read through `ScanKeep`, Proofs/MuCEffScan.lean).
-/
namespace NsyncVerif.MuC


/-- `c'` are locals of the same call as `c`, later. -/
def MW.same (c c' : MW) : Prop :=
  c'.cond = c.cond ∧ c'.dl = c.dl ∧ c'.note = c.note ∧ (c.saw = true → c'.saw = true)

theorem MW.same_refl (c : MW) : c.same c := ⟨rfl, rfl, rfl, id⟩

theorem MW.same_trans {a b c : MW} (h1 : a.same b) (h2 : b.same c) : a.same c :=
  ⟨h2.1.trans h1.1, h2.2.1.trans h1.2.1, h2.2.2.1.trans h1.2.2.1, fun h => h2.2.2.2 (h1.2.2.2 h)⟩

/-- The deadline of a timed P inside nsync_mu_wait_with_deadline is not later than the deadline of the call. -/
def PC.okD : PC → Prop
  | .mwPdRet c dl => dlLe dl c.dl = true
  | _ => True

/-- One step of the thread: if it was inside nsync_mu_wait_with_deadline with locals `c`, it has returned or is
    inside the same call; if it was inside another call, it has returned or is still inside another call; `okD`
    is kept. -/
def CallKeep (p p' : PC) : Prop :=
  (∀ c, p.mw = some c → p' = .idle ∨ ∃ c', p'.mw = some c' ∧ c.same c') ∧
  (p ≠ .idle → p.mw = none → p' = .idle ∨ p'.mw = none) ∧
  (p.okD → p'.okD)

theorem CallKeep.refl (p : PC) : CallKeep p p :=
  ⟨fun c h => Or.inr ⟨c, h, c.same_refl⟩, fun _ h => Or.inr h, id⟩

theorem CallKeep.of_eq {p p' : PC} (h : p' = p) : CallKeep p p' := h ▸ CallKeep.refl p

theorem ScanPc.okD {r : Ret} {late : Bool} {p : PC} (h : ScanPc r late p) : p.okD := by
  cases p <;> simp [ScanPc] at h <;> simp [PC.okD]

/-- A step that ends in the plain code of the scan keeps the call. -/
theorem CallKeep.scan {p p' : PC} {r : Ret} {late : Bool} (hmw : p.mw = r.mw?) (hp : ScanPc r late p') : CallKeep p p' := by
  refine ⟨?_, ?_, fun _ => hp.okD⟩
  · intro c hc
    exact Or.inr ⟨c, by rw [hp.mw, ← hmw]; exact hc, c.same_refl⟩
  · intro _ hn
    exact Or.inr (by rw [hp.mw, ← hmw]; exact hn)


def Ret.isUl : Ret → Bool
  | .ul _ _ => true
  | .mw _ => false

/-- Inside nsync_mu_unlock / nsync_mu_runlock / nsync_mu_unlock_without_wakeup (including their unlock_slow). -/
def PC.rel : PC → Bool
  | .ulCas0 _ _ | .ulLd _ _ | .ulCas1 _ _ _ | .ulRet _ _ => true
  | .usLd r | .usCasUnc r _ | .usCasGrab r _ | .usRelLd r _ | .usRelCas r _ _ | .usEval r _ | .usRcLd r _ _ | .usRcCas r _ _ _
  | .usReLd r _ | .usReCas r _ _ | .usFinLd r _ | .usFinCas r _ _ | .usWakeSt r _ _ | .usWakeV r _ _ => r.isUl
  | _ => false

/-- A step of the thread that is neither a `call` nor a `ret`: it stays inside its call, of the same kind. -/
def KindKeep (p p' : PC) : Prop := p ≠ .idle ∧ p' ≠ .idle ∧ p'.rel = p.rel

theorem ScanPc.kind {r : Ret} {late : Bool} {p : PC} (h : ScanPc r late p) : p ≠ .idle ∧ p.rel = r.isUl := by
  cases p <;> simp [ScanPc] at h <;> simp [PC.rel, h]

theorem KindKeep.scan {p p' : PC} {r : Ret} {late : Bool} (hni : p ≠ .idle) (hrel : p.rel = r.isUl) (hp : ScanPc r late p') :
    KindKeep p p' := ⟨hni, hp.kind.1, hp.kind.2.trans hrel.symm⟩


def Ret.condRec : Ret → Option (Wid × Option Cond)
  | .ul _ _ => none
  | .mw c => c.w.map (fun k => (k, c.cond))

/-- The waiter record of the nsync_mu_wait_with_deadline call in progress and the condition of the call, at the
    program points at which the record carries that condition. -/
def PC.condRec : PC → Option (Wid × Option Cond)
  | .usLd r | .usCasUnc r _ | .usCasGrab r _ | .usRelLd r _ | .usRelCas r _ _ | .usEval r _ | .usRcLd r _ _ | .usRcCas r _ _ _
  | .usReLd r _ | .usReCas r _ _ | .usFinLd r _ | .usFinCas r _ _ | .usWakeSt r _ _ | .usWakeV r _ _ => r.condRec
  | .mwRcLd c | .mwEnqLd c | .mwEnqCas c _ | .mwRelLd c | .mwRelCas c _ _ | .mwWaitLd c
  | .mwSem c | .mwPdRet c _ | .mwNotify c | .mwLd244 c | .mwLd255 c
  | .mtLd c | .mtCasAcq c _ | .mtCasWW c _ | .mtLdWk c _ | .mtLdW c _ | .mtLdRc c _ | .mtRmLd c _ | .mtRmCas c _ _ | .mtStW c _ | .mtStRel c _ _ =>
    c.w.map (fun k => (k, c.cond))
  | _ => none

def InvRC (s : State) : Prop := ∀ t k c, (s.pc t).condRec = some (k, c) → (s.wr k).cond = c

theorem condRec_mem_ws {p : PC} {k : Wid} {c : Option Cond} (h : p.condRec = some (k, c)) : k ∈ p.ws := by
  have hw : ∀ {w : Option Wid} {cd : Option Cond}, w.map (fun k => (k, cd)) = some (k, c) → k ∈ w.toList := by
    intro w cd h; cases w <;> simp_all
  have hr : ∀ {r : Ret}, r.condRec = some (k, c) → k ∈ r.ws := by
    intro r h; cases r <;> first | cases h | exact hw h
  cases p <;> first | (cases h; done) | exact hr h | exact hw h

theorem ScanPc.condRec {r : Ret} {late : Bool} {p : PC} (h : ScanPc r late p) : p.condRec = r.condRec := by
  cases p <;> simp [ScanPc] at h <;> simp [PC.condRec, h]

theorem InvRC.env {s s' : State} (h : InvRC s) (hcnd : ∀ x, (s'.wr x).cond = (s.wr x).cond) (hpc : s'.pc = s.pc) :
    InvRC s' := by
  intro u k c hl; rw [hpc] at hl; rw [hcnd]; exact h u k c hl

end NsyncVerif.MuC
