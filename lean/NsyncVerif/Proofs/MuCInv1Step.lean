import NsyncVerif.Proofs.MuCInv1Cas1
import NsyncVerif.Proofs.MuCEff
/-
  MuC, first invariant group (lock invariant, local facts, held only when idle) through every step: one lemma per kind
  of step (`Eff`), `inv1_step`, `inv1_init`.
-/
namespace NsyncVerif.MuC

theorem Inv1.to {s s' : State} {t : Tid} {p' : PC} (h : Inv1 s) (hpc : s'.pc = setFn s.pc t p') (hh : s'.held = s.held)
    (hheld : s.held t = none) (hok : p'.ok) (hlock : LockInv s') : Inv1 s' := by
  have hpt : s'.pc t = p' := setFn_at hpc
  have hoth : ∀ u, u ≠ t → s'.pc u = s.pc u := setFn_others hpc
  refine ⟨hlock, forall_of_others hoth (hpt ▸ hok) h.pcok, ?_⟩
  · intro u hu
    rw [hh] at hu
    by_cases hut : u = t
    · subst hut; exact absurd hheld hu
    · rw [hoth u hut]; exact h.hidle u hu

theorem Inv1.frame {s s' : State} {t : Tid} {p p' : PC} (h : Inv1 s) (heq : s.pc t = p) (hpc : s'.pc = setFn s.pc t p')
    (hw : s'.word.wlock = s.word.wlock) (hr : s'.word.readers = s.word.readers)
    (ho : s'.wOwner = s.wOwner) (hro : s'.rOwners = s.rOwners) (hh : s'.held = s.held)
    (hheld : s.held t = none) (hok : p.ok → p'.ok) (hsh : pcShare p' = pcShare p) : Inv1 s' := by
  refine h.to hpc hh hheld (hok (heq ▸ h.pcok t)) (h.lock.same hw hr ho hro fun u => ?_)
  simp only [shareOf, hh]
  by_cases hu : u = t
  · subst hu; rw [hpc, setFn_same]; simp [tshare, hheld, hsh, heq]
  · rw [hpc, setFn_other _ _ _ _ hu]

theorem Inv1.frameAt {s s' : State} {t : Tid} {p p' : PC} (h : Inv1 s) (heq : s.pc t = p) (hne : p ≠ .idle)
    (hpc : s'.pc = setFn s.pc t p') (hw : s'.word.wlock = s.word.wlock) (hr : s'.word.readers = s.word.readers)
    (ho : s'.wOwner = s.wOwner) (hro : s'.rOwners = s.rOwners) (hh : s'.held = s.held)
    (hok : p.ok → p'.ok) (hsh : pcShare p' = pcShare p) : Inv1 s' :=
  h.frame heq hpc hw hr ho hro hh (h.held_none (heq ▸ hne)) hok hsh

theorem shareOf_step {s s' : State} {t : Tid} {p' : PC} (hpc : s'.pc = setFn s.pc t p') (hh : s'.held = s.held)
    (hheld : s.held t = none) : shareOf s' t = pcShare p' ∧ ∀ u, u ≠ t → shareOf s' u = shareOf s u :=
  ⟨by simp [shareOf, tshare, hh, hheld, hpc], fun u hu => shareOf_other hh (setFn_others hpc u hu)⟩

theorem ScanPc.share {r : Ret} {late : Bool} {p : PC} (h : ScanPc r late p) :
    pcShare p = if late then some .W else none := by
  cases p <;> simp [ScanPc] at h <;> simp [pcShare, h]

theorem ScanPc.pcok {r : Ret} {late : Bool} {p : PC} (h : ScanPc r late p) (hr : r.ok) : p.ok := by
  cases p <;> simp [ScanPc] at h <;> simp [PC.ok] <;> simp_all

theorem ScanPc.ne_idle {r : Ret} {late : Bool} {p : PC} (h : ScanPc r late p) : p ≠ .idle := by
  cases p <;> simp [ScanPc] at h <;> simp

/-- A quiet move leads to a program point at which the local facts hold and which owns the same share
    (mu_wait.c:171-179 detects the right mode). -/
theorem Inv1.move_facts {s : State} {t : Tid} {p' : PC} (h : Inv1 s) (hp : PcMove s (s.pc t) p') :
    p'.ok ∧ pcShare p' = pcShare (s.pc t) := by
  have hok := h.pcok t
  have hmd := fun c (e : s.pc t = .mwLd0 c) => h.mode_detect e
  generalize heq : s.pc t = p at hp hok hmd
  cases hp
  case ld hl =>
    cases hl
    case mwModeEval c l _ hl _ | mwModeRet c l _ hl _ =>
      obtain rfl : l = c.l := hl.trans (hmd c rfl)
      exact ⟨by (simp_all [PC.ok, MW.ok]) <;> grind, rfl⟩
    all_goals
      refine ⟨?_, ?_⟩
      · first
        | exact hok
        | trivial
        | ((simp_all [PC.ok, MW.inner, MW.ok, noLock]) <;> grind)
      · first
        | rfl
        | ((simp_all [pcShare, PC.ok, MW.inner, MW.ok]) <;> grind)
  all_goals
    refine ⟨?_, ?_⟩
    · first
      | exact hok
      | trivial
      | ((simp_all [PC.ok, SL.okL, MW.inner, MW.ok, Ret.ok, noLock]) <;> grind)
    · first
      | rfl
      | ((simp_all [pcShare, Ret.mode, PC.ok, SL.okL, MW.inner, MW.ok, Ret.ok]) <;> grind)

theorem Inv1.move {s : State} {t : Tid} {p' : PC} (h : Inv1 s) (hp : PcMove s (s.pc t) p') (hheld : s.held t = none) :
    Inv1 (setPc s t p') :=
  h.frame rfl rfl rfl rfl rfl rfl rfl hheld (fun _ => (h.move_facts hp).1) (h.move_facts hp).2

theorem finPc_share {r : Ret} (l : List Wid) (hr : r.ok) : pcShare (finPc r l) = none := by
  cases l <;> cases r <;> first | rfl | (show (if _ then _ else _) = none; rw [hr.2.1]; rfl)
theorem finPc_ok {r : Ret} (l : List Wid) (hr : r.ok) : (finPc r l).ok := by
  cases l <;> cases r <;> first | trivial | exact hr | exact hr.1

/-- A return or a call of `t`: its share passes between the program point and the client (`held t := m`). -/
theorem Inv1.api {s s' : State} {t : Tid} {p' : PC} {m : Option Mode} (h : Inv1 s) (hpc : s'.pc = setFn s.pc t p')
    (hh : s'.held = setFn s.held t m) (hw : s'.word = s.word) (ho : s'.wOwner = s.wOwner) (hro : s'.rOwners = s.rOwners)
    (hsh : tshare m p' = shareOf s t) (hok : p'.ok) (hid : m ≠ none → p' = .idle) : Inv1 s' := by
  have hpt : s'.pc t = p' := setFn_at hpc
  have hht : s'.held t = m := setFn_at hh
  have hoth : ∀ u, u ≠ t → s'.pc u = s.pc u ∧ s'.held u = s.held u :=
    fun u hu => ⟨setFn_others hpc u hu, setFn_others hh u hu⟩
  refine ⟨h.lock.same (by rw [hw]) (by rw [hw]) ho hro fun u => ?_,
    forall_of_others (fun u hu => (hoth u hu).1) (hpt ▸ hok) h.pcok, fun u hu => ?_⟩
  · by_cases hu : u = t
    · subst hu; rw [← hsh, shareOf, hht, hpt]
    · rw [shareOf, shareOf, (hoth u hu).1, (hoth u hu).2]
  · by_cases hut : u = t
    · subst hut; rw [hpt]; exact hid (hht ▸ hu)
    · rw [(hoth u hut).2] at hu; rw [(hoth u hut).1]; exact h.hidle u hu

/-- A return: the client holds from now on what the program point owned. -/
theorem Inv1.ret {s s' : State} {t : Tid} {m : Option Mode} {w : Option Wid} {b : Bool} {p : PC} (h : Inv1 s) (heq : s.pc t = p)
    (hp : RetPc (s.held t) p m w b) (e : RetEff s t m w b s') : Inv1 s' := by
  have hheld := h.held_none (t := t) (by rw [heq]; cases hp <;> exact PC.noConfusion)
  refine h.api e.pc e.held e.word e.wOwner e.rOwners ?_ trivial (fun _ => rfl)
  rw [shareOf, heq]
  cases hp <;> rw [hheld]
  case try_ l r => cases r <;> rfl
  all_goals rfl

/-- A call of unlock, runlock, unlock_without_wakeup or nsync_mu_wait: the program point owns from now on what the client held. -/
theorem Inv1.call {s s' : State} {t : Tid} {p' : PC} {nw : Bool} {ca : Option Cond} (h : Inv1 s) (h0 : s.pc t = .idle)
    (hp : CallPc s t p' nw ca) (e : CallEff s t p' nw ca s') : Inv1 s' := by
  refine h.api e.pc e.held e.word e.wOwner e.rOwners ?_ ?_ (fun hm => absurd rfl hm)
  · rw [shareOf, h0]; cases hp <;> (rename_i hh _; rw [hh]; rfl)
  · cases hp
    · trivial
    · simp [PC.ok, MW.ok]

theorem Inv1.sem {cfg : Cfg} {s s' : State} {t : Tid} {p p' : PC} {k : Wid} {n : Nat} (h : Inv1 s) (heq : s.pc t = p)
    (hp : SemPc cfg s p p' k n) (e : SemEff s t p' k n s') : Inv1 s' := by
  have hok := h.pcok t
  rw [heq] at hok
  refine h.frameAt heq (by cases hp <;> exact PC.noConfusion) e.pc (by rw [e.word]) (by rw [e.word]) e.wOwner e.rOwners e.held
    ?_ ?_ <;> cases hp
  · exact id
  · exact fun hok => hok.1
  · exact finPc_ok _
  · rfl
  · show (if _ then _ else _) = none; rw [hok.2.1]; rfl
  · exact finPc_share _ hok

theorem Inv1.eval {s : State} {t : Tid} {c : MW} (h : Inv1 s) (heq : s.pc t = .mwEval c) (b : Bool) :
    Inv1 (setPc s t (loopPc c b)) := by
  refine h.frameAt heq PC.noConfusion rfl rfl rfl rfl rfl rfl (fun hok => ?_) ?_
  · unfold loopPc; split
    · rename_i hc; exact ⟨hok, hc.1⟩
    · rename_i hc; exact ⟨hok, fun e hc' => hc ⟨hc', e⟩⟩
  · unfold loopPc; split <;> rfl

/-- A successful CAS of `t` on the word by a rule of `CasPc`: it acquires, releases, or leaves the lock bits alone. -/
theorem Inv1.cas {s s' : State} {t : Tid} {p' : PC} {nw : Word} {w : Option Wid} (h : Inv1 s) (hp : CasPc s (s.pc t) p' nw w)
    (ok : CasOk s t p' nw w s') : Inv1 s' := by
  have hne : s.pc t ≠ .idle := by intro e; rw [e] at hp; cases hp
  have hheld := h.held_none hne
  obtain ⟨hs', hoth⟩ := shareOf_step ok.pc ok.held hheld
  have hs0 := h.share_eq hne
  have hok := h.pcok t
  have hwo := ok.wOwner
  have hro := ok.rOwners
  have hw := ok.word
  generalize hq : s.pc t = p at hp hok hwo hro hs0
  cases hp
  case lk0 l hw0 | try0 l hw0 =>
    exact h.to ok.pc ok.held hheld trivial
      (h.lock.acquire (l := l) (ign := false) (clear := false) (lwl := false) hs0 (by rw [hw0]; cases l <;> rfl)
        (by rw [hw, hw0]; cases l <;> rfl) hwo hro hs' hoth)
  case lk1 l old hw0 | try1 l old hw0 =>
    exact h.to ok.pc ok.held hheld trivial
      (h.lock.acquire (l := l) (ign := false) (clear := false) (lwl := false) hs0 (by rw [hw0]; exact hok) (by rw [hw, hw0]) hwo hro hs' hoth)
  case acqLk c old hmw hw0 =>
    exact h.to ok.pc ok.held hheld trivial
      (h.lock.acquire (l := c.l) (ign := c.ign) (clear := c.clear) (lwl := c.lwl) hs0 (by rw [hw0]; exact hok.2) (by rw [hw, hw0]) hwo hro
        hs' hoth)
  case acqMw c old m hmw hw0 =>
    -- lock_slow called from nsync_mu_wait returns into its loop with the mode of the wait
    have hml : c.l = m.l := by simp [PC.ok, SL.okL, hmw] at hok; exact hok.1.2.2
    have hmok : m.ok := by simp [PC.ok, SL.okL, hmw] at hok; exact hok.1.1
    refine h.to ok.pc ok.held hheld ?_
      (h.lock.acquire (l := c.l) (ign := c.ign) (clear := c.clear) (lwl := c.lwl) hs0 (by rw [hw0]; exact hok.2) (by rw [hw, hw0]) hwo hro
        (by rw [hs', hml]; split <;> first | rfl | (rw [loopPc_true]; rfl)) hoth)
    split
    · exact hmok
    · rw [loopPc_true]; exact ⟨hmok, fun e => (nomatch e)⟩
  case ul0 l nwk hw0 =>
    exact h.to ok.pc ok.held hheld trivial
      (h.lock.release (l := l) hs0 (by rw [hw, hw0]; cases l <;> rfl) (by rw [hw, hw0]; cases l <;> rfl) hwo hro hs' hoth)
  case ul1 l nwk old hw0 =>
    exact h.to ok.pc ok.held hheld trivial
      (h.lock.release (l := l) hs0 (by rw [hw, hw0]; cases nwk <;> cases l <;> rfl) (by rw [hw, hw0]; cases nwk <;> cases l <;> rfl)
        hwo hro hs' hoth)
  case unc r old hw0 =>
    refine h.to ok.pc ok.held hheld (by cases r <;> first | trivial | exact hok.1) ?_
    refine h.lock.release (l := r.mode) hs0 (by rw [hw, hw0]; cases r.mode <;> rfl) (by rw [hw, hw0]; cases r.mode <;> rfl) hwo hro ?_ hoth
    rw [hs']; cases r with
    | ul l nwk => rfl
    | mw c => show (if c.hl then _ else _) = none; rw [hok.2.1]; rfl
  case mwRelSleep c old hw0 =>
    refine h.to ok.pc ok.held hheld ?_ ?_
    · simp [PC.ok, MW.ok] at hok ⊢
      obtain ⟨⟨a1, a2, a3, a4, a5⟩, a6⟩ := hok
      exact ⟨a1, a3, a6⟩
    · refine h.lock.release (l := c.l) hs0 (by rw [hw, hw0]) (by rw [hw, hw0]) ?_ ?_ hs' hoth
      · rw [hwo]; simp only [PC.casGhost, Bool.false_eq_true, ↓reduceIte]; cases c.l <;> rfl
      · rw [hro]; simp only [PC.casGhost, Bool.false_eq_true, ↓reduceIte]; cases c.l <;> rfl
  case mtAcq c old hw0 =>
    refine h.to ok.pc ok.held hheld hok ?_
    exact h.lock.acquireW (by rw [hw0]; exact hok.2.2.2.1) (by rw [hw0]; exact hok.2.2.2.2) (by rw [hw]; rfl)
      (by rw [hw]; exact hok.2.2.2.2) hwo hro hs' hoth
  case lsEnq c old hw0 =>
    exact h.frame hq ok.pc (by rw [hw, hw0]; rfl) (by rw [hw, hw0]; rfl) hwo hro ok.held hheld id rfl
  case lsRel c old hw0 =>
    exact h.frame hq ok.pc (by rw [hw, hw0]) (by rw [hw, hw0]) hwo hro ok.held hheld id rfl
  case mwRelUs c old hw0 =>
    refine h.frame hq ok.pc (by rw [hw, hw0]) (by rw [hw, hw0]) hwo hro ok.held hheld (fun _ => ?_) rfl
    simp [PC.ok, Ret.ok, MW.inner, MW.ok] at hok ⊢
    obtain ⟨⟨a1, a2, a3, a4, a5⟩, a6⟩ := hok
    exact ⟨a1, a3, a6⟩
  case mtWW c old hw0 =>
    exact h.frame hq ok.pc (by rw [hw, hw0]) (by rw [hw, hw0]) hwo hro ok.held hheld id rfl

/-- The final CAS of unlock_slow gives up the writer bit a late scan holds. -/
theorem Inv1.fin {s s' : State} {t : Tid} {r : Ret} {f : Fin} {old : Word} (h : Inv1 s)
    (heq : s.pc t = .usFinCas r f old) (hw : s.word = old) (e : CasOk s t (finPc r f.wake) (finWord f old) none s') : Inv1 s' := by
  have hne : s.pc t ≠ .idle := by rw [heq]; exact PC.noConfusion
  have hheld := h.held_none hne
  obtain ⟨hs', hoth⟩ := shareOf_step e.pc e.held hheld
  have hok := h.pcok t
  rw [heq] at hok
  have hwo := e.wOwner
  have hro := e.rOwners
  rw [heq] at hwo hro
  cases hl : f.late with
  | false =>
    refine h.frame heq e.pc (by rw [e.word, hw]; simp [finWord, hl]) (by rw [e.word, hw]; simp [finWord]) ?_ ?_ e.held hheld
      (finPc_ok _) (by rw [finPc_share _ hok]; simp [pcShare, hl])
    · rw [hwo]; simp [PC.casGhost, hl]
    · rw [hro]; simp [PC.casGhost, hl]
  | true =>
    have hsh : shareOf s t = some .W := by rw [h.share_eq hne, heq]; simp [pcShare, hl]
    refine h.to e.pc e.held hheld (finPc_ok _ hok) ?_
    refine h.lock.releaseW hsh (by rw [e.word]; simp [finWord, hl]) (by rw [e.word, hw]; simp [finWord]) ?_ ?_
      (by rw [hs']; exact finPc_share _ hok) hoth
    · rw [hwo]; simp [PC.casGhost, hl]
    · rw [hro]; simp [PC.casGhost, hl]

/-- A scan step: the grab CAS releases the caller's share, or keeps / takes the writer bit when MU_CONDITION is set
    (a late scan); the others leave lock bits and ghosts alone. -/
theorem Inv1.scan {s s' : State} {t : Tid} {r : Ret} (h : Inv1 s) (hsc : ScanStart s t r s') : Inv1 s' := by
  obtain ⟨late, b⟩ := hsc.base (h.pcok t)
  have hok0 := h.pcok t
  cases hsc
  case grab old heq hw hs =>
    rw [heq] at hok0
    obtain ⟨hrok, hhas, hunc⟩ := hok0
    have hsh : shareOf s t = some r.mode := by rw [h.share_eq (by rw [heq]; simp), heq]; rfl
    have hheld := h.held_none (t := t) (by rw [heq]; simp)
    obtain ⟨hf, p, hpc, hsc⟩ := afterPickup_frame hs
    have hpt : ScanPc r old.cond (s'.pc t) := by rw [hpc]; simpa using hsc (fun h => h)
    have hself : shareOf s' t = if old.cond then some .W else none := by
      rw [shareOf_self (by rw [hf.held]; simpa using hheld), hpt.share]
    have hoth : ∀ u, u ≠ t → shareOf s' u = shareOf s u := by
      intro u hu; exact shareOf_other (by rw [hf.held]; simp) (by rw [hpc]; simp [setFn, hu])
    refine Inv1.step t h (by rw [hf.held]; simp) (by intro u hu; rw [hpc]; simp [setFn, hu]) (by rw [heq]; simp) (hpt.pcok hrok) ?_
    cases hc : old.cond with
    | false =>
      rw [hc] at hself
      refine h.lock.release (l := r.mode) hsh ?_ ?_ ?_ ?_ hself hoth
      · rw [hf.word]; simp [hc, hw, grabWord]
        cases hm : r.mode with
        | W => simp [subWord]
        | R =>
          simp [subWord]
          rw [hm] at hsh
          have hmem := (h.lock.rown t).2 hsh
          cases hwl : s.word.wlock with
          | false => rw [← hw, hwl]
          | true => rw [h.lock.noReaders (h.lock.excl hwl)] at hmem; cases hmem
      · rw [hf.word]; simp [hc, hw, grabWord]
      · rw [hf.wOwner]; simp [hc]; cases r.mode <;> rfl
      · rw [hf.rOwners]; simp [hc]; cases r.mode <;> rfl
    | true =>
      rw [hc] at hself
      cases hm : r.mode with
      | W =>
        rw [hm] at hsh
        have hown := (h.lock.wown t).2 hsh
        have hwl : s.word.wlock = true := by rw [h.lock.wl, hown]; rfl
        refine h.lock.same ?_ ?_ ?_ ?_ ?_
        · rw [hf.word]; simp [hc, hw, grabWord]; rw [← hw, hwl]
        · rw [hf.word]; simp [hc, hw, grabWord, hm, subWord]
        · rw [hf.wOwner]; simp [hc, hown]
        · rw [hf.rOwners]; simp [hc, hm]
        · intro u
          by_cases hu : u = t
          · subst hu; rw [hself, hsh]; simp
          · exact hoth u hu
      | R =>
        rw [hm] at hsh
        have hr1 : s.word.readers = 1 := by
          rw [hw]
          simp [uncontended] at hunc
          simp [hm, hasShare] at hhas
          omega
        refine h.lock.upgrade hsh hr1 ?_ ?_ ?_ ?_ hself hoth
        · rw [hf.word]; simp [hc, grabWord]
        · rw [hf.word]; simp [hc, grabWord, hm, subWord]; rw [← hw, hr1]
        · rw [hf.wOwner]; simp [hc]
        · rw [hf.rOwners]; simp [hc, hm]
  -- the others leave lock bits and ghosts alone
  all_goals
    have heq : s.pc t = _ := ‹s.pc t = _›
    have hg : ∀ old, s.pc t ≠ .usCasGrab r old := fun old e => by rw [heq] at e; cases e
    rw [heq] at hok0
    have hw : s'.word.wlock = s.word.wlock ∧ s'.word.readers = s.word.readers := by
      rcases b.word with ⟨x, e⟩ | ⟨e, _⟩
      · rw [e]; exact ⟨rfl, rfl⟩
      · exact absurd e (hg _)
    have ho : s'.wOwner = s.wOwner ∧ s'.rOwners = s.rOwners := b.own.elim id fun e => absurd e.1 (hg _)
    exact Inv1.local t h hw.1 hw.2 ho.1 ho.2 b.held b.oth (heq ▸ PC.noConfusion) (b.dst.pcok hok0.1) (by rw [b.dst.share, b.share hg])

/-- At the release store of mu_try_acquire_after_timeout_or_cancel the thread, not the client, owns the writer bit. -/
theorem Inv1.at_mtStRel {s : State} {t : Tid} {c : MW} {old : Word} {b : Bool} (h : Inv1 s) (heq : s.pc t = .mtStRel c old b) :
    s.held t = none ∧ shareOf s t = some .W ∧ s.word.wlock = true := by
  have hne : s.pc t ≠ .idle := heq ▸ PC.noConfusion
  have hsh : shareOf s t = some .W := by rw [h.share_eq hne, heq]; rfl
  exact ⟨h.held_none hne, hsh, by rw [h.lock.wl, (h.lock.wown t).2 hsh]; rfl⟩

theorem Inv1.st {s s' : State} {t : Tid} (h : Inv1 s) (e : StEff s t s') : Inv1 s' := by
  cases e
  case mtKeep c old heq =>
    -- removed from the queue: keep the lock in the caller's mode
    obtain ⟨hheld, hsh, hwl⟩ := h.at_mtStRel heq
    obtain ⟨hc, _, hso, hnl1, hnl2⟩ := heq ▸ h.pcok t
    refine h.to (t := t) (p' := .mwLd255 { c with hl := true, outc := c.so }) (by simp) (by simp) hheld
      ⟨hc.1, hc.2.1, hc.2.1, fun _ => ⟨hso, rfl⟩, fun e => nomatch e⟩ ?_
    cases hl : c.l with
    | W =>
      refine h.lock.same (by simp [mtRelWord, hwl]) (by simp [mtRelWord, hnl2, h.lock.excl hwl]) ?_ (by simp) fun u => ?_
      · simp; exact ((h.lock.wown t).2 hsh).symm
      · by_cases hu : u = t
        · subst hu; rw [hsh, shareOf_self (by simpa using hheld)]; simp [pcShare]
        · exact shareOf_other (by simp) (by simp [setFn, hu])
    | R =>
      exact h.lock.downgrade hsh (by simp [mtRelWord, hnl1]) (by simp [mtRelWord, hnl2]) (by simp) (by simp)
        (by rw [shareOf_self (by simpa using hheld)]; simp [pcShare]) (fun u hu => shareOf_other (by simp) (by simp [setFn, hu]))
  case mtGive c old heq =>
    -- not removed: release spinlock and lock
    obtain ⟨hheld, hsh, hwl⟩ := h.at_mtStRel heq
    obtain ⟨hc, hhl, _, hnl1, hnl2⟩ := heq ▸ h.pcok t
    refine h.to (t := t) (p' := .mwLd255 c) (by simp) (by simp) hheld hc ?_
    exact h.lock.releaseW hsh (by simp [mtRelWord, hnl1]) (by simp [mtRelWord, hnl2, h.lock.excl hwl]) (by simp) (by simp)
      (by rw [shareOf_self (by simpa using hheld)]; simp [pcShare, hhl]) (fun u hu => shareOf_other (by simp) (by simp [setFn, hu]))
  -- the other stores leave lock bits and ghosts alone and stay at a point with the same share and local facts
  case wake r k rest heq | mwNew c k heq _ _ _ _ | mwOwn c k heq _ _ _ | mtGone c old k heq _ =>
    exact h.frameAt heq PC.noConfusion rfl rfl rfl rfl rfl rfl id rfl
  case lsNewLast c k heq _ _ _ _ _ | lsNewFirst c k heq _ _ _ _ _ =>
    exact h.frameAt heq PC.noConfusion (p' := .lsRelLd { c with w := some k }) (by simp) (by simp) (by simp) (by simp) (by simp)
      (by simp) id rfl
  case lsOwnLast c k heq _ _ _ _ | lsOwnFirst c k heq _ _ _ _ =>
    exact h.frameAt heq PC.noConfusion (p' := .lsRelLd c) (by simp) (by simp) (by simp) (by simp) (by simp) (by simp) id rfl

theorem Inv1.envEff {cfg : Cfg} {s s' : State} (h : Inv1 s) (e : EnvEff cfg s s') : Inv1 s' := by
  cases e with
  | post k => exact h.env (by simp) (by simp) (by simp) (by simp) (by simp) (by simp)
  | sem k n _ => exact h.env rfl rfl rfl rfl rfl rfl
  | tick n _ => exact h.env rfl rfl rfl rfl rfl rfl

theorem inv1_step {cfg : Cfg} {s s' : State} {e : Event} (h : Inv1 s)
    (hs : step cfg s e = .ok s') : Inv1 s' := by
  cases ht : e.tid with
  | none => exact h.envEff (step_env hs ht)
  | some t =>
    cases step_eff hs ht with
    | move hm hne => exact h.move hm (h.held_none hne)
    | callQ h0 hh hm => exact h.move (h0 ▸ hm) hh
    | cas hc =>
      cases hc with
      | fail hm hne => exact h.move hm (h.held_none hne)
      | plain hp ok => exact h.cas hp ok
      | scan hsc => exact h.scan hsc
      | fin heq hw e => exact h.fin heq hw e
      | mwEnq c old k heq hk hw =>
        exact h.frameAt heq PC.noConfusion (p' := .mwRelLd { c with hadW := old.waiting, first := false }) (by split <;> simp)
          (by split <;> simp [enqLast, enqFirst, hw, mwEnqWord]) (by split <;> simp [enqLast, enqFirst, hw, mwEnqWord])
          (by split <;> simp) (by split <;> simp) (by split <;> simp) (fun hok => by simpa [PC.ok, MW.ok] using hok) rfl
      | mtRm c old rc k heq hk => exact h.frameAt heq PC.noConfusion rfl rfl rfl rfl rfl rfl id rfl
    | st e => exact h.st e
    | ldRc c k obs heq hk => exact h.frameAt heq PC.noConfusion rfl rfl rfl rfl rfl rfl id rfl
    | ldDeq c old k heq hk hmem hrc =>
      exact h.frameAt heq PC.noConfusion (p' := .mtRmLd c old) (by simp) (by simp) (by simp) (by simp) (by simp) (by simp) id rfl
    | ret hp e => exact h.ret rfl hp e
    | call h0 hp e => exact h.call h0 hp e
    | scan hsc => exact h.scan hsc
    | eval c cd heq hcd => exact h.eval heq _
    | sem hp e => exact h.sem rfl hp e
    | dataW x v hh => exact h.env rfl rfl rfl rfl rfl rfl
    | dataR => exact h

theorem inv1_init : Inv1 init := by
  refine ⟨⟨?_, ?_, ?_, rfl, rfl, fun h => by cases h⟩, ?_, ?_⟩
  · intro t; simp [init, shareOf, tshare, pcShare]
  · intro t; simp [init, shareOf, tshare, pcShare]
  · simp [init]
  · intro t; simp [init, PC.ok]
  · intro t ht; rfl

end NsyncVerif.MuC
