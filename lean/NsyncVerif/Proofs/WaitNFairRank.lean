/-
  Proofs/WaitNFairRank.lean — WaitN layer, liveness: the rank of a program point of nsync_wait_n (number of
  own steps to the return along the longest path, the sleep loop counted once) and of the wake loop of
  nsync_cv_signal / broadcast; bounds for the program-counter arithmetic of wait.c; the classification `Prog`
  of a thread's own step.
-/
import NsyncVerif.Proofs.WaitNFairDefs


namespace WaitN

def ndR : NDst → Nat
  | .ld0 => 15 | .lockCall => 14 | .lockWait => 13 | .ld1 => 12 | .unlockCall _ => 11 | .unlockWait _ => 10
  | .now => 9 | .nfLockCall => 8 | .nfLockWait => 7 | .nfLd0 => 6 | .nfLd1 => 5 | .nfStore => 4 | .nfWake => 3
  | .nfUnlockCall => 2 | .nfUnlockWait => 1

def enqR : EnqSt → Nat
  | .lockCall => 6 | .lockWait => 5 | .load => 4 | .store _ => 3 | .unlockCall _ => 2 | .unlockWait _ => 1

def cvEnqR : CvEnqSt → Nat
  | .spin _ => 3 | .store => 2 | .release => 1

def cvDeqR : CvDeqSt → Nat
  | .spin _ => 5 | .load => 4 | .store => 3 | .release _ => 2 | .wspin => 1

def deqR : DeqSt → Nat
  | .lockCall => 7 | .lockWait => 6 | .load => 5 | .loadW _ => 4 | .store _ => 3 | .unlockCall _ => 2 | .unlockWait _ => 1

/-- offsets of the phases of wait.c for a call over `n` objects -/
def offS (n : Nat) : Nat := 32 * n + 35      -- the sleep loop (above the dequeue loop)
def offU (n : Nat) : Nat := 64 * n + 69      -- `(*unlock) (mu)` (above the sleep loop)
def offA (n : Nat) : Nat := 96 * n + 101     -- malloc (above the enqueue loop)

/-- start of the block of object `i` in the loop of use `u` -/
def base (u : Use) (n i : Nat) : Nat :=
  match u with
  | .poll => offA n + (n - i) * 32
  | .loop => offS n + 2 + (n - i) * 32
  | .deq => 3 + (n - i) * 32 + 8

/-- rank of a program point (`n` = count of the call, `po` = the thread's pending post) -/
def rank (p : PC) (n : Nat) (po : Option Rid) : Nat :=
  match p with
  | .idle | .stuck => 0
  | .sg _ _ .ret => 1
  | .sg _ _ (.wake l) => 2 * l.length + 2 - (if po.isSome then 1 else 0)
  | .sg _ _ _ => 0
  | .wRet _ => 1
  | .wRelock => 2
  | .wFree => 3
  | .wDeqCv j st => 3 + (n - j) * 32 + cvDeqR st
  | .wDeq j st => 3 + (n - j) * 32 + deqR st
  | .wPdWait _ => offS n + 1
  | .wPdEnter => offS n + 2
  | .wCvRT j => offS n + 2 + (n - j) * 32 + 1
  | .wCtrRT u i l => base u n i + (if l then 1 else 2)
  | .wND u i st => base u n i + ndR st
  | .wUnlock => offU n
  | .wInit i => offU n + (n - i) * 32 + 20
  | .wEnqCv i st => offU n + (n - i) * 32 + cvEnqR st
  | .wEnq i st => offU n + (n - i) * 32 + enqR st
  | .wAlloc => offA n

def rk (s : State) (t : Tid) : Nat := rank (s.pc t) (s.fr t).count (s.post t)

/-- program points of nsync_cv_signal / broadcast before the wake loop -/
def sgEarly : PC → Bool
  | .sg _ _ .load | .sg _ _ (.spin _) | .sg _ _ .held => true
  | _ => false

/-- how many phases of nsync_cv_signal / broadcast are left before the wake loop: load, test-and-set loop, unlink -/
def phase : PC → Nat
  | .sg _ _ .load => 3 | .sg _ _ (.spin _) => 2 | .sg _ _ .held => 1 | _ => 0

/-- the steps of nsync_cv_signal / broadcast before the wake loop -/
def sgNext (p p' : PC) : Prop :=
  match p with
  | .sg c bc .load => p' = .sg c bc (.spin .ld) ∨ p' = .sg c bc .ret
  | .sg c bc (.spin _) => (∃ sp, p' = .sg c bc (.spin sp)) ∨ p' = .sg c bc .held
  | .sg c bc .held => p' = .sg c bc .ret ∨ ∃ l, p' = .sg c bc (.wake l)
  | _ => False

/-- What an accepted event `e` of thread `t` does to `t`. -/
def Prog (s s' : State) (t : Tid) (e : Ev) : Prop :=
  s.pc t = .idle ∨ s'.pc t = .idle ∨
  ((s'.fr t).objs = (s.fr t).objs ∧ (s'.fr t).dl = (s.fr t).dl ∧
    ((s'.pc t = s.pc t ∧ s'.post t = s.post t ∧ frSame (s.fr t) (s'.fr t))        -- not a step of its own code
     ∨ rk s' t < rk s t                                                          -- progress
     ∨ (isSpin (s.pc t) = true ∧ isSpin (s'.pc t) = true ∧ rk s' t = rk s t
          ∧ lockWaitOf (s'.pc t) (s'.fr t) = lockWaitOf (s.pc t) (s.fr t))       -- inside a test-and-set loop
     ∨ (∃ j, s.pc t = .wPdWait j ∧ e = .pdRet j false ∧ rk s' t < offU (s.fr t).count)  -- woken: a token is consumed, new scan
     ∨ (isNfWake (s.pc t) = true ∧ s'.pc t = s.pc t)                             -- protocol-driven wake loop
     ∨ sgNext (s.pc t) (s'.pc t)))                                               -- signal / broadcast before its wake loop

theorem rank_relockNext (f : Frame) (n : Nat) (po : Option Rid) : rank (relockNext f) n po ≤ 2 := by
  unfold relockNext; split <;> simp [rank]

theorem rank_finNext (f : Frame) (n : Nat) (po : Option Rid) : rank (finNext f) n po ≤ 3 := by
  unfold finNext; split
  · simp [rank]
  · have := rank_relockNext f n po; omega

theorem rank_deqNext (f : Frame) (j n : Nat) (po : Option Rid) : rank (deqNext f j) n po ≤ 3 + (n - j) * 32 + 23 := by
  unfold deqNext; split
  · split
    · simp [rank, cvDeqR]
    · simp [rank, base, ndR]
    · simp [rank, deqR]
    · simp [rank]
  · have := rank_finNext f n po; omega

theorem rank_scanEnd (f : Frame) (n : Nat) (po : Option Rid) : rank (scanEnd f) n po ≤ offS n + 2 := by
  unfold scanEnd; split
  · have := rank_deqNext f 0 n po; simp only [offS]; omega
  · simp [rank]

theorem rank_loopNext (f : Frame) (j n : Nat) (po : Option Rid) :
    rank (loopNext f j) n po ≤ offS n + 2 + (n - j) * 32 + 15 := by
  unfold loopNext; split
  · split
    · simp [rank]
    · simp [rank, base, ndR]
    · simp [rank, base]
    · simp [rank]
  · have := rank_scanEnd f n po; omega

theorem rank_enqNext (f : Frame) (i : Nat) (res : Bool) (po : Option Rid) :
    rank (enqNext f (i + 1) res) f.count po < offU f.count + (f.count - i) * 32 + 1 := by
  unfold enqNext; split
  · rename_i h; simp only [rank]; omega
  · split
    · split
      · simp only [rank]; omega
      · have := rank_loopNext f 0 f.count po; simp only [offU, offS] at *; omega
    · have := rank_deqNext f 0 f.count po; simp only [offU] at *; omega

theorem rank_enqNext0 (f : Frame) (res : Bool) (po : Option Rid) :
    rank (enqNext f 0 res) f.count po < offA f.count := by
  unfold enqNext; split
  · simp only [rank, offA, offU]; omega
  · split
    · split
      · simp [rank, offA, offU]; omega
      · have := rank_loopNext f 0 f.count po; simp only [offA, offS] at *; omega
    · have := rank_deqNext f 0 f.count po; simp only [offA] at *; omega

theorem rank_pollFrom (f : Frame) (po : Option Rid) : ∀ (l : List ObjId) (k : Nat), l.length ≤ f.count - k →
    rank (pollFrom f l k) f.count po ≤ offA f.count + (f.count - k) * 32 + 15 := by
  intro l
  induction l with
  | nil =>
    intro k _
    unfold pollFrom; split
    · simp [rank]
    · split
      · simp only [rank]; omega
      · have := rank_enqNext0 f true po; omega
  | cons o rest ih =>
    intro k hk
    simp only [List.length_cons] at hk
    cases o with
    | cv c => simp only [pollFrom]; have := ih (k + 1) (by omega); omega
    | note n => simp [pollFrom, rank, base, ndR]
    | ctr c => simp [pollFrom, rank, base]

theorem rank_pollNext (f : Frame) (i : Nat) (po : Option Rid) :
    rank (pollNext f i) f.count po ≤ offA f.count + (f.count - i) * 32 + 15 := by
  unfold pollNext
  exact rank_pollFrom f po _ _ (by simp [Frame.count])

end WaitN
