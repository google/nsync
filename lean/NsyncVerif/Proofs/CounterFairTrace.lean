/-
  Proofs/CounterFairTrace.lean — Counter layer: a finite accepted trace followed by idling for ever,
  as an `Exec` (non-vacuity and witness executions for `Props/C10Fair.lean`).
-/
import NsyncVerif.Proofs.CounterFairMain
import NsyncVerif.Proofs.Lasso

namespace Counter
open NsyncVerif

/-- The state after the first `i` events (the initial state if the trace is not accepted). -/
def stateAt (evs : List Event) (i : Nat) : State :=
  match run init (evs.take i) with
  | .ok s => s
  | .error _ => init

theorem stateAt_eq (evs : List Event) (i : Nat) : stateAt evs i = Lasso.after run init (evs.take i) := by
  unfold stateAt Lasso.after; cases run init (evs.take i) <;> rfl

theorem stateAt_ok {evs : List Event} {sf : State} (h : run init evs = .ok sf) (i : Nat) :
    run init (evs.take i) = .ok (stateAt evs i) := by
  rw [stateAt_eq]; exact Lasso.after_take isRun h i

theorem stateAt_ge {evs : List Event} {sf : State} (h : run init evs = .ok sf) {i : Nat}
    (hi : evs.length ≤ i) : stateAt evs i = sf := by
  simp only [stateAt, List.take_of_length_le hi, h]

theorem run_stateAt {evs : List Event} (h : accepts evs = true) : run init evs = .ok (stateAt evs evs.length) := by
  simp only [accepts, final] at h
  split at h
  · rename_i s hs
    rw [stateAt_ge hs (Nat.le_refl _)]; exact hs
  · cases h

/-- A finite accepted trace, then nothing for ever. -/
def traceExec (evs : List Event) (sf : State) (h : run init evs = .ok sf) : Exec init :=
  { ρ := stateAt evs
    σ := fun i => evs[i]?
    start := by simp [stateAt, run]
    next := by
      intro i
      cases he : evs[i]? with
      | none => simp only [stateAt_eq]; exact Lasso.after_none h he
      | some e => simp only [stateAt_eq]; exact Lasso.after_some isRun h he }

theorem traceExec_tail {evs : List Event} {sf : State} (h : run init evs = .ok sf) {j : Nat}
    (hj : evs.length ≤ j) : (traceExec evs sf h).ρ j = sf ∧ (traceExec evs sf h).σ j = none :=
  ⟨stateAt_ge h hj, by show evs[j]? = none; simpa using hj⟩

def Event.tidOf : Event → Option Tid
  | .thr t _ => some t
  | .tick _ => none

/-- Threads that do not occur in a trace are where they were. -/
theorem run_untouched {t : Tid} (evs : List Event) (s s' : State) (hr : Reachable s)
    (hne : ∀ e ∈ evs, e.tidOf ≠ some t) (h : run s evs = .ok s') : s'.pc t = s.pc t := by
  obtain ⟨l0, hl0⟩ := hr
  refine isRun.induct_mem (Q := fun s1 => s1.pc t = s.pc t) rfl (fun s1 e s2 he ⟨l, hl⟩ hq hs => ?_) h
  have hr1 : Reachable s1 := ⟨l0 ++ l, by rw [isRun.append_of_ok hl0]; exact hl⟩
  rw [← hq]
  cases e with
  | tick ns => exact congrFun (C10_tick_keeps hs).2.2.2 t
  | thr u ev =>
    exact (facts_stepThr (inv_of_reachable hr1) hs).others t (fun h => hne _ he (by simp [Event.tidOf, h]))

theorem reachable_init : Reachable init := ⟨[], rfl⟩

variable {s0 : State}

/-- an execution that ends with every thread idle or blocked for ever is weakly fair -/
theorem weakFair_of_final (x : Exec s0) (N : Nat)
    (hN : ∀ j, N ≤ j → ∀ t, (x.ρ j).pc t = .idle ∨ Blocked (x.ρ j) t) : WeakFair x := by
  intro t i h
  rcases hN (max i N) (by omega) t with h1 | h1
  · exact absurd h1 (h (max i N) (by omega)).1
  · exact absurd h1 (h (max i N) (by omega)).2

theorem finiteArrivals_of_tail (x : Exec s0) (N : Nat) (hN : ∀ j, N ≤ j → x.σ j = none) :
    FiniteArrivals x :=
  ⟨N, fun j t e hj he => by rw [hN j hj] at he; cases he⟩

end Counter
