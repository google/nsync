/-
  Layer `Pool`: the inductive invariant, in three independent groups
    `MInv` — the spinlock (word, ghost holder, critical sections),
    `LInv` — the location of every struct (free list / in transit / handed out / reserved-idle /
             not yet allocated) against the concrete representation (list, pcs, flag bits,
             per-thread slots),
    `FInv` — the contract fields and the initialisation block.
  Each group only mentions the state components it depends on, so that a step that does not touch
  them preserves the group by reflexivity.  `LInv` is preserved by each kind of move of a struct
  (`LInv_pop` … `LInv_exit`); a move sets `loc w := l`, and each clause relates one component to
  one kind of location, so it is kept by a lemma about that clause alone.
-/
import NsyncVerif.Proofs.PoolBasic

namespace Pool

/-- The struct a pc is initialising. -/
def PC.initing : PC → Option Wid
  | .newInit w => some w
  | _ => none

/-- View of the pcs used by `FInv`: the struct each thread is initialising. -/
def iniOf (pc : Tid → PC) : Tid → Option Wid := fun t => (pc t).initing

/-- The spinlock as seen from thread `t` at pc `c`. -/
structure MT (holder : Option Tid) (t : Tid) (c : PC) : Prop where
  /-- the thread in a critical section is the ghost holder -/
  csIff : (∃ j, c = .cs j) ↔ holder = some t
  /-- a thread about to CAS loaded 0 -/
  casOld : ∀ j old, c = .spinCas j old → old = 0

structure MInv (mu : Nat) (holder : Option Tid) (pc : Tid → PC) : Prop where
  /-- the spinlock word is 1 exactly while some thread is in a critical section -/
  muVal : mu = if holder.isSome then 1 else 0
  thr : ∀ t, MT holder t (pc t)

/-- Reserved structs and per-thread slots against the locations. -/
structure RInv (reserved : Wid → Bool) (ptw : Tid → Option Wid) (loc : Wid → Loc) : Prop where
  resIdle : ∀ t w, loc w = .resIdle t → ptw t = some w
  ptwOK : ∀ t w, ptw t = some w → reserved w = true ∧ (loc w = .resIdle t ∨ loc w = .held t)
  resOK : ∀ w, reserved w = true → ∃ t, ptw t = some w

structure LInv (free : List Wid) (loc : Wid → Loc) (pc : Tid → PC) (nalloc : Nat)
    (inuse reserved : Wid → Bool) (ptw : Tid → Option Wid) : Prop where
  nodup : free.Nodup
  locFree : ∀ w, w ∈ free ↔ loc w = .free
  locTr : ∀ t w, (pc t).transit = some w ↔ loc w = .transit t
  locUn : ∀ w, nalloc ≤ w ↔ loc w = .unalloc
  inuseIff : ∀ w, inuse w = true ↔ ∃ t, loc w = .held t
  res : RInv reserved ptw loc

structure FInv (ready : Wid → Bool) (nalloc : Nat) (ini : Tid → Option Wid)
    (nwflags : Wid → Nat) (sem : Wid → Option Wid) (inits : Wid → Nat)
    (nwr : Wid → Fld → Nat) : Prop where
  readyIff : ∀ w, ready w = true ↔ (w < nalloc ∧ ∀ t, ini t ≠ some w)
  fields : ∀ w, ready w = true →
    nwflags w = MUCV ∧ sem w = some w ∧ inits w = 1 ∧ ∀ f, nwr w f = 1
  initing : ∀ t w, ini t = some w →
    w < nalloc ∧ nwflags w = MUCV ∧ sem w = some w ∧ inits w = 1 ∧
    nwr w .rc = 0 ∧ nwr w .sem = 1 ∧ nwr w .waiting = 1 ∧ nwr w .nwflags = 1
  iniInj : ∀ t u w, ini t = some w → ini u = some w → t = u
  unalloc : ∀ w, nalloc ≤ w → inits w = 0 ∧ ∀ f, nwr w f = 0

structure Inv (s : State) : Prop where
  m : MInv s.mu s.holder s.pc
  l : LInv s.free s.loc s.pc s.nalloc s.inuse s.reserved s.ptw
  f : FInv s.ready s.nalloc (iniOf s.pc) s.nwflags s.sem s.inits s.nwr

theorem inv_init : Inv init :=
  ⟨⟨rfl, fun _ => ⟨by simp [init], nofun⟩⟩,
    ⟨.nil, by simp [init], by simp [init, PC.transit], by simp [init], by simp [init],
      ⟨nofun, nofun, nofun⟩⟩,
    ⟨by simp [init, iniOf, PC.initing], nofun, nofun, nofun, by simp [init]⟩⟩

theorem upd_ne {β : Type} {f : Nat → β} {a x : Nat} (b : β) (h : x ≠ a) : upd f a b x = f x := by
  simp [upd_apply, h]

theorem upd_eq_self {β : Type} {f : Nat → β} {a : Nat} {b : β} (h : f a = b) : upd f a b = f := by
  funext x; rw [upd_apply]; split
  · subst_vars; rfl
  · rfl

/-- A property of every point of `f` holds of `upd f a b` once it holds of the new value at `a`
    and, away from `a`, follows from what held before. -/
theorem forall_upd {β : Type} {f : Nat → β} {a : Nat} {b : β} {P P' : Nat → β → Prop}
    (h : ∀ x, P x (f x)) (ha : P' a b) (hne : ∀ x, x ≠ a → P x (f x) → P' x (f x)) :
    ∀ x, P' x (upd f a b x) := by
  intro x; rw [upd_apply]; split
  · subst_vars; exact ha
  · exact hne x ‹_› (h x)

theorem iniOf_upd (pc : Tid → PC) (t : Tid) (p : PC) :
    iniOf (upd pc t p) = upd (iniOf pc) t p.initing := by
  funext x; simp only [iniOf, upd_apply]; split <;> rfl

theorem iniOf_upd_same {pc : Tid → PC} {t : Tid} {p : PC} (h : p.initing = (pc t).initing) :
    iniOf (upd pc t p) = iniOf pc := by
  rw [iniOf_upd]; exact upd_eq_self h.symm

theorem afterLoad_transit (j : Job) (obs : Nat) : (afterLoad j obs).transit = j.carried := by
  unfold afterLoad; split <;> rfl

theorem afterLoad_initing (j : Job) (obs : Nat) : (afterLoad j obs).initing = none := by
  unfold afterLoad; split <;> rfl

variable {free : List Wid} {loc : Wid → Loc} {pc : Tid → PC} {p : PC} {nalloc : Nat}
  {inuse reserved : Wid → Bool} {ptw : Tid → Option Wid} {t : Tid} {w : Wid} {l : Loc}

/-! ### one clause under a move of one struct

A move sets `loc w := l`.  A clause `P x ↔ loc x = c` survives with the new `P'` when `P'` agrees
with `P` away from `w` and with `l = c` at `w`. -/

theorem iff_loc_upd {P P' : Wid → Prop} {c : Loc} (h : ∀ x, P x ↔ loc x = c)
    (hw : P' w ↔ l = c) (hne : ∀ x, x ≠ w → (P' x ↔ P x)) : ∀ x, P' x ↔ upd loc w l x = c := by
  intro x; rw [upd_apply]; split
  · subst_vars; exact hw
  · exact (hne x ‹_›).trans (h x)

/-- Neither the old nor the new location is `c`. -/
theorem iff_loc_frame {P : Wid → Prop} {a c : Loc} (h : ∀ x, P x ↔ loc x = c) (hw : loc w = a)
    (hc : a ≠ c ∧ l ≠ c) : ∀ x, P x ↔ upd loc w l x = c :=
  iff_loc_upd h (by simp [h, hw, hc]) (fun _ _ => .rfl)

theorem locTr_enter (h : ∀ t w, (pc t).transit = some w ↔ loc w = .transit t)
    (ht : (pc t).transit = none) (hp : p.transit = some w)
    (hw : ∀ u, loc w ≠ .transit u) :
    ∀ u x, (upd pc t p u).transit = some x ↔ upd loc w (.transit t) x = .transit u := by
  intro u x; simp only [upd_apply]; grind

theorem locTr_leave (h : ∀ t w, (pc t).transit = some w ↔ loc w = .transit t)
    (ht : (pc t).transit = some w) (hp : p.transit = none)
    (hl : ∀ u, l ≠ .transit u) :
    ∀ u x, (upd pc t p u).transit = some x ↔ upd loc w l x = .transit u := by
  intro u x; simp only [upd_apply]; grind

theorem locTr_same (h : ∀ t w, (pc t).transit = some w ↔ loc w = .transit t)
    (hp : p.transit = (pc t).transit) :
    ∀ u x, (upd pc t p u).transit = some x ↔ loc x = .transit u := by
  intro u x; rw [upd_apply]; split
  · subst_vars; rw [hp]; exact h u x
  · exact h u x

theorem inuse_upd {b : Bool} (h : ∀ x, inuse x = true ↔ ∃ t, loc x = .held t)
    (hw : b = true ↔ ∃ t, l = .held t) :
    ∀ x, upd inuse w b x = true ↔ ∃ t, upd loc w l x = .held t := by
  intro x; simp only [upd_apply]; split
  · exact hw
  · exact h x

theorem inuse_frame {a : Loc} (h : ∀ x, inuse x = true ↔ ∃ t, loc x = .held t) (hw : loc w = a)
    (hc : ∀ t, a ≠ .held t ∧ l ≠ .held t) : ∀ x, inuse x = true ↔ ∃ t, upd loc w l x = .held t := by
  intro x; rw [h x, upd_apply]; split
  · next e => rw [e, hw]; simp [hc]
  · rfl

/-- A struct that is neither handed out nor idle-reserved is not reserved. -/
theorem RInv.reserved_false (h : RInv reserved ptw loc) (hw : ∀ t, loc w ≠ .resIdle t ∧ loc w ≠ .held t) :
    reserved w = false := by
  cases hr : reserved w with
  | false => rfl
  | true =>
    obtain ⟨u, hu⟩ := h.resOK w hr
    rcases (h.ptwOK u w hu).2 with h1 | h1
    · exact absurd h1 (hw u).1
    · exact absurd h1 (hw u).2

/-- A struct is the reserved struct of at most one thread. -/
theorem RInv.ptw_inj (h : RInv reserved ptw loc) {u : Tid} (ht : ptw t = some w)
    (hu : ptw u = some w) : u = t := by
  rcases (h.ptwOK t w ht).2 with a | a <;> rcases (h.ptwOK u w hu).2 with b | b <;>
    rw [a] at b <;> first | (injection b with b; exact b.symm) | cases b

/-- A reserved struct handed out to `t` is the reserved struct of `t`. -/
theorem RInv.ptw_of_held (h : RInv reserved ptw loc) (hw : loc w = .held t)
    (hr : reserved w = true) : ptw t = some w := by
  obtain ⟨u, hu⟩ := h.resOK w hr
  rcases (h.ptwOK u w hu).2 with h | h <;> rw [hw] at h <;> cases h
  exact hu

/-- An unreserved struct moves anywhere but to a reserved-idle location. -/
theorem RInv.move (h : RInv reserved ptw loc) (hr : reserved w = false) (hl : ∀ t, l ≠ .resIdle t) :
    RInv reserved ptw (upd loc w l) := by
  refine ⟨fun u x hx => ?_, fun u x hp => ?_, h.resOK⟩
  · by_cases e : x = w
    · rw [e, upd_same] at hx; exact absurd hx (hl u)
    · rw [upd_ne _ e] at hx; exact h.resIdle u x hx
  · have hx : x ≠ w := fun e => by have := (h.ptwOK u x hp).1; rw [e, hr] at this; cases this
    rw [upd_ne _ hx]; exact h.ptwOK u x hp

/-- The reserved struct of `t` changes between idle and handed out to `t`. -/
theorem RInv.swap (h : RInv reserved ptw loc) (hp : ptw t = some w)
    (hl : l = .resIdle t ∨ l = .held t) : RInv reserved ptw (upd loc w l) := by
  refine ⟨fun u x hx => ?_, fun u x hu => ?_, h.resOK⟩
  · by_cases e : x = w
    · rw [e, upd_same] at hx
      rcases hl with hl | hl <;> rw [hl] at hx <;> cases hx
      rw [e]; exact hp
    · rw [upd_ne _ e] at hx; exact h.resIdle u x hx
  · by_cases e : x = w
    · rw [e] at hu ⊢; rw [upd_same, h.ptw_inj hp hu]; exact ⟨(h.ptwOK t w hp).1, hl⟩
    · rw [upd_ne _ e]; exact h.ptwOK u x hu

/-- The struct handed out to `t` by its first call becomes its reserved struct. -/
theorem RInv.reserve (h : RInv reserved ptw loc) (hw : loc w = .held t) (hp : ptw t = none) :
    RInv (upd reserved w true) (upd ptw t (some w)) loc := by
  have hne : ∀ u x, ptw u = some x → u ≠ t := fun u x hu e => by rw [e, hp] at hu; cases hu
  refine ⟨fun u x hx => ?_, fun u x hu => ?_, fun x hx => ?_⟩
  · have := h.resIdle u x hx
    rw [upd_ne _ (hne u x this)]; exact this
  · by_cases e : u = t
    · rw [e, upd_same] at hu; cases hu; rw [upd_same, e]; exact ⟨rfl, .inr hw⟩
    · rw [upd_ne _ e] at hu
      refine ⟨?_, (h.ptwOK u x hu).2⟩
      rw [upd_apply]; split
      · rfl
      · exact (h.ptwOK u x hu).1
  · by_cases e : x = w
    · exact ⟨t, by rw [e, upd_same]⟩
    · rw [upd_ne _ e] at hx
      obtain ⟨u, hu⟩ := h.resOK x hx
      exact ⟨u, by rw [upd_ne _ (hne u x hu)]; exact hu⟩

/-- The idle reserved struct of `t` loses its reservation and leaves. -/
theorem RInv.unreserve (h : RInv reserved ptw loc) (hw : loc w = .resIdle t)
    (hl : ∀ u, l ≠ .resIdle u ∧ l ≠ .held u) :
    RInv (upd reserved w false) (upd ptw t none) (upd loc w l) := by
  have hp : ptw t = some w := h.resIdle t w hw
  -- the other slots are untouched and do not point to `w`
  have hne : ∀ u x, x ≠ w → ptw u = some x → upd ptw t none u = some x := fun u x hx hu => by
    rw [upd_ne _ (fun e => hx (Option.some.inj ((e ▸ hu).symm.trans hp)))]; exact hu
  refine ⟨fun u x hx => ?_, fun u x hu => ?_, fun x hx => ?_⟩
  · by_cases e : x = w
    · rw [e, upd_same] at hx; exact absurd hx (hl u).1
    · rw [upd_ne _ e] at hx; exact hne u x e (h.resIdle u x hx)
  · by_cases e : u = t
    · rw [e, upd_same] at hu; cases hu
    · rw [upd_ne _ e] at hu
      have hx : x ≠ w := fun ex => e (h.ptw_inj hp (ex ▸ hu))
      rw [upd_ne _ hx, upd_ne _ hx]; exact h.ptwOK u x hu
  · by_cases e : x = w
    · rw [e, upd_same] at hx; cases hx
    · rw [upd_ne _ e] at hx
      obtain ⟨u, hu⟩ := h.resOK x hx
      exact ⟨u, hne u x e hu⟩

theorem LInv.inuse_false (hi : LInv free loc pc nalloc inuse reserved ptw)
    (hw : ∀ t, loc w ≠ .held t) : inuse w = false := by
  cases hu : inuse w with
  | false => rfl
  | true => obtain ⟨u, h⟩ := (hi.inuseIff w).1 hu; exact absurd h (hw u)

theorem LInv.lt_nalloc (hi : LInv free loc pc nalloc inuse reserved ptw)
    (hw : loc w ≠ .unalloc) : w < nalloc :=
  Nat.lt_of_not_le fun hle => hw ((hi.locUn w).1 hle)

/-- The idle reserved struct of `t`: its slot points to it and its IN_USE bit is clear. -/
theorem LInv.resIdle_iff (hi : LInv free loc pc nalloc inuse reserved ptw) :
    loc w = .resIdle t ↔ ptw t = some w ∧ inuse w = false := by
  constructor
  · intro hl; exact ⟨hi.res.resIdle t w hl, hi.inuse_false (by simp [hl])⟩
  · intro ⟨hp, hu⟩
    rcases (hi.res.ptwOK t w hp).2 with h | h
    · exact h
    · rw [(hi.inuseIff w).2 ⟨t, h⟩] at hu; cases hu

/-- A pc update of a thread that carries the same struct before and after. -/
theorem LInv.pc_frame (hi : LInv free loc pc nalloc inuse reserved ptw)
    (hp : p.transit = (pc t).transit) : LInv free loc (upd pc t p) nalloc inuse reserved ptw :=
  { hi with locTr := locTr_same hi.locTr hp }

/-- `rel new`, list non-empty: pop the first struct. -/
theorem LInv_pop {rest : List Wid} {q : Wid}
    (hi : LInv (q :: rest) loc pc nalloc inuse reserved ptw) (ht : (pc t).transit = none)
    (hp : p.transit = some q) :
    LInv rest (upd loc q (.transit t)) (upd pc t p) nalloc inuse reserved ptw := by
  obtain ⟨h1, h2, h3, h4, h5, hR⟩ := hi
  have hq : loc q = .free := (h2 q).1 (by simp)
  obtain ⟨hnq, hnd⟩ := List.nodup_cons.1 h1
  exact ⟨hnd, iff_loc_upd h2 (by simp [hnq]) (fun x hx => by simp [hx]),
    locTr_enter h3 ht hp (by simp [hq]), iff_loc_frame h4 hq (by simp),
    inuse_frame h5 hq (by simp),
    hR.move (hR.reserved_false (by simp [hq])) (by simp)⟩

/-- `rel free` / `rel destroy`: push the carried struct. -/
theorem LInv_push (hi : LInv free loc pc nalloc inuse reserved ptw) (ht : (pc t).transit = some w)
    (hp : p.transit = none) : LInv (w :: free) (upd loc w .free) (upd pc t p) nalloc inuse reserved ptw := by
  obtain ⟨h1, h2, h3, h4, h5, hR⟩ := hi
  have hw : loc w = .transit t := (h3 t w).1 ht
  have hnw : w ∉ free := by simp [h2, hw]
  exact ⟨List.nodup_cons.2 ⟨hnw, h1⟩, iff_loc_upd h2 (by simp) (fun x hx => by simp [hx]),
    locTr_leave h3 ht hp (by simp), iff_loc_frame h4 hw (by simp),
    inuse_frame h5 hw (by simp),
    hR.move (hR.reserved_false (by simp [hw])) (by simp)⟩

/-- `malloc`: a fresh struct appears, carried by the allocating thread. -/
theorem LInv_malloc (hi : LInv free loc pc nalloc inuse reserved ptw) (ht : (pc t).transit = none)
    (hp : p.transit = some nalloc) :
    LInv free (upd loc nalloc (.transit t)) (upd pc t p) (nalloc + 1)
      inuse reserved ptw := by
  obtain ⟨h1, h2, h3, h4, h5, hR⟩ := hi
  have hw : loc nalloc = .unalloc := (h4 nalloc).1 (Nat.le_refl _)
  exact ⟨h1, iff_loc_frame h2 hw (by simp), locTr_enter h3 ht hp (by simp [hw]),
    iff_loc_upd h4 (by simp) (fun x hx => ⟨Nat.le_of_succ_le, fun h => Nat.lt_of_le_of_ne h (Ne.symm hx)⟩), inuse_frame h5 hw (by simp),
    hR.move (hR.reserved_false (by simp [hw])) (by simp)⟩

/-- store of site 5: `w->flags = 0` on the struct being initialised (both bits were clear). -/
theorem LInv_stRc (hi : LInv free loc pc nalloc inuse reserved ptw)
    (ht : (pc t).transit = some w) :
    LInv free loc pc nalloc (upd inuse w false) (upd reserved w false) ptw := by
  have hw : loc w = .transit t := (hi.locTr t w).1 ht
  have hu : inuse w = false := by simpa [hw] using hi.inuseIff w
  have hr : reserved w = false := hi.res.reserved_false (by simp [hw])
  rw [upd_eq_self hu, upd_eq_self hr]; exact hi

/-- The reserved struct of `t` changes between idle and handed out to `t`: the fast path of `new`,
    `free` of the reserved struct. -/
theorem LInv_swap {b : Bool} (hi : LInv free loc pc nalloc inuse reserved ptw) (hp : ptw t = some w)
    (hl : l = .resIdle t ∨ l = .held t) (hb : b = true ↔ ∃ u, l = .held u) :
    LInv free (upd loc w l) pc nalloc (upd inuse w b) reserved ptw := by
  obtain ⟨h1, h2, h3, h4, h5, hR⟩ := hi
  have hR' := hR.swap hp hl
  rcases (hR.ptwOK t w hp).2 with hw | hw <;> rcases hl with rfl | rfl <;>
    exact ⟨h1, iff_loc_frame h2 hw (by simp), fun u => iff_loc_frame (h3 u) hw (by simp),
      iff_loc_frame h4 hw (by simp), inuse_upd h5 hb, hR'⟩

/-- pool path of `new`, the thread already has a reserved struct (in use): plain hand-out. -/
theorem LInv_retPlain (hi : LInv free loc pc nalloc inuse reserved ptw)
    (ht : (pc t).transit = some w) (hp : p.transit = none) :
    LInv free (upd loc w (.held t)) (upd pc t p) nalloc (upd inuse w true) reserved ptw := by
  obtain ⟨h1, h2, h3, h4, h5, hR⟩ := hi
  have hw : loc w = .transit t := (h3 t w).1 ht
  exact ⟨h1, iff_loc_frame h2 hw (by simp), locTr_leave h3 ht hp (by simp),
    iff_loc_frame h4 hw (by simp), inuse_upd h5 (by simp),
    hR.move (hR.reserved_false (by simp [hw])) (by simp)⟩

/-- pool path of `new`, first call of the thread: the carried struct is handed out and becomes
    the thread's reserved struct. -/
theorem LInv_retReserve (hi : LInv free loc pc nalloc inuse reserved ptw)
    (ht : (pc t).transit = some w) (hpc : p.transit = none)
    (hp : ptw t = none) :
    LInv free (upd loc w (.held t)) (upd pc t p) nalloc (upd inuse w true)
      (upd reserved w true) (upd ptw t (some w)) :=
  have h := LInv_retPlain hi ht hpc
  { h with res := h.res.reserve (upd_same ..) hp }

/-- `free` of a pooled struct: the thread carries it to the list. -/
theorem LInv_freePool (hi : LInv free loc pc nalloc inuse reserved ptw) (hw : loc w = .held t)
    (hr : reserved w = false) (ht : (pc t).transit = none) (hp : p.transit = some w) :
    LInv free (upd loc w (.transit t)) (upd pc t p) nalloc (upd inuse w false)
      reserved ptw := by
  obtain ⟨h1, h2, h3, h4, h5, hR⟩ := hi
  exact ⟨h1, iff_loc_frame h2 hw (by simp), locTr_enter h3 ht hp (by simp [hw]),
    iff_loc_frame h4 hw (by simp), inuse_upd h5 (by simp), hR.move hr (by simp)⟩

/-- thread exit: the reserved idle struct loses its reservation and is carried to the list. -/
theorem LInv_exit (hi : LInv free loc pc nalloc inuse reserved ptw) (hp : ptw t = some w)
    (hu : inuse w = false) (ht : (pc t).transit = none) (hpc : p.transit = some w) :
    LInv free (upd loc w (.transit t)) (upd pc t p) nalloc inuse
      (upd reserved w false) (upd ptw t none) := by
  have hw : loc w = .resIdle t := hi.resIdle_iff.2 ⟨hp, hu⟩
  obtain ⟨h1, h2, h3, h4, h5, hR⟩ := hi
  exact ⟨h1, iff_loc_frame h2 hw (by simp), locTr_enter h3 ht hpc (by simp [hw]),
    iff_loc_frame h4 hw (by simp), inuse_frame h5 hw (by simp),
    hR.unreserve hw (by simp)⟩

variable {mu : Nat} {holder : Option Tid}

theorem MInv.mu_le (hi : MInv mu holder pc) : mu = 0 ∨ mu = 1 := by
  rw [hi.muVal]; split
  · exact .inr rfl
  · exact .inl rfl

/-- A thread outside the critical section moves to a pc that is not the critical section and, if
    it is the CAS, has loaded 0. -/
theorem MInv_move (hi : MInv mu holder pc) (h0 : ∀ j, pc t ≠ .cs j) (h1 : ∀ j, p ≠ .cs j)
    (h2 : ∀ j old, p = .spinCas j old → old = 0) : MInv mu holder (upd pc t p) :=
  ⟨hi.muVal, forall_upd hi.thr
    ⟨⟨fun ⟨j, h⟩ => absurd h (h1 j),
      fun h => by obtain ⟨j, hj⟩ := (hi.thr t).csIff.2 h; exact absurd hj (h0 j)⟩, h2⟩
    fun _ _ h => h⟩

/-- A load of the spin loop: the CAS is tried only after loading an even word, that is 0. -/
theorem MInv_ld {j : Job} (hi : MInv mu holder pc) (h0 : ∀ j, pc t ≠ .cs j) :
    MInv mu holder (upd pc t (afterLoad j mu)) := by
  refine MInv_move hi h0 (fun j' => ?_) (fun j' old => ?_) <;> unfold afterLoad <;> split
  · nofun
  · nofun
  · nofun
  · intro h; cases h
    rcases hi.mu_le with h | h
    · exact h
    · exact absurd (by rw [h]) ‹¬ mu % 2 = 1›

/-- A successful CAS: the word was 0, nobody held the lock. -/
theorem MInv_casOk {j : Job} {exp : Nat} (hi : MInv mu holder pc)
    (hpc : pc t = .spinCas j exp) (hobs : mu = exp) :
    MInv (exp ||| 1) (some t) (upd pc t (.cs j)) := by
  cases (hi.thr t).casOld j exp hpc
  have hh : ∀ u, holder ≠ some u := fun u h => by
    have := hi.muVal; rw [h, hobs] at this; cases this
  exact ⟨rfl, forall_upd hi.thr ⟨⟨fun _ => rfl, fun _ => ⟨j, rfl⟩⟩, nofun⟩ fun u e hu =>
    ⟨⟨fun h => absurd (hu.csIff.1 h) (hh u), fun h => absurd (Option.some.inj h).symm e⟩,
      hu.casOld⟩⟩

/-- The release store by the thread in the critical section. -/
theorem MInv_rel {j : Job} (hi : MInv mu holder pc) (hpc : pc t = .cs j)
    (h1 : ∀ j, p ≠ .cs j) (h2 : ∀ j old, p ≠ .spinCas j old) :
    MInv 0 none (upd pc t p) := by
  have hh : holder = some t := (hi.thr t).csIff.1 ⟨j, hpc⟩
  exact ⟨rfl, forall_upd hi.thr
    ⟨⟨fun ⟨j, h⟩ => absurd h (h1 j), nofun⟩, fun j' old h => absurd h (h2 j' old)⟩ fun u e hu =>
    ⟨⟨fun h => by have := hu.csIff.1 h; rw [hh] at this; exact absurd (Option.some.inj this).symm e,
      nofun⟩, hu.casOld⟩⟩

variable {ready : Wid → Bool} {ini : Tid → Option Wid} {nwflags : Wid → Nat}
  {sem : Wid → Option Wid} {inits : Wid → Nat} {nwr : Wid → Fld → Nat}

theorem bump_apply (n : Wid → Fld → Nat) (w : Wid) (f : Fld) (x : Wid) (g : Fld) :
    bump n w f x g = if x = w ∧ g = f then n x g + 1 else n x g := rfl

theorem bump_ne {n : Wid → Fld → Nat} {w x : Wid} (f : Fld) (h : x ≠ w) : bump n w f x = n x := by
  funext g; simp [bump_apply, h]

/-- `malloc` + common.c:197-203: every clause about a struct other than the new one is untouched;
    the new struct has the field values and write counts of a struct being initialised. -/
theorem FInv_malloc (hi : FInv ready nalloc ini nwflags sem inits nwr)
    (ht : ini t = none) :
    FInv ready (nalloc + 1) (upd ini t (some nalloc)) (upd nwflags nalloc MUCV)
      (upd sem nalloc (some nalloc)) (upd inits nalloc (inits nalloc + 1))
      (bump (bump (bump nwr nalloc .sem) nalloc .waiting) nalloc .nwflags) := by
  obtain ⟨f1, f2, f3, f4, f5⟩ := hi
  obtain ⟨hu1, hu2⟩ := f5 nalloc (Nat.le_refl _)
  have hlt : ∀ u x, ini u = some x → x ≠ nalloc := fun u x h => Nat.ne_of_lt (f3 u x h).1
  have hnr : ready nalloc = false := by
    cases h : ready nalloc with
    | false => rfl
    | true => exact absurd ((f1 _).1 h).1 (Nat.lt_irrefl _)
  have hini : ∀ u x, x ≠ nalloc → (upd ini t (some nalloc) u = some x ↔ ini u = some x) := by
    intro u x hx; rw [upd_apply]; split
    · subst_vars; simp [ht, Ne.symm hx]
    · rfl
  constructor
  · intro x
    by_cases hx : x = nalloc
    · rw [hx, hnr]
      exact ⟨(nomatch ·), fun h => absurd (upd_same ..) (h.2 t)⟩
    · simp only [f1 x, ne_eq, hini _ x hx]
      exact ⟨fun ⟨a, b⟩ => ⟨Nat.lt_succ_of_lt a, b⟩,
        fun ⟨a, b⟩ => ⟨Nat.lt_of_le_of_ne (Nat.le_of_lt_succ a) hx, b⟩⟩
  · intro x hx
    have hne : x ≠ nalloc := fun e => by rw [e, hnr] at hx; cases hx
    simp only [upd_ne _ hne, bump_ne _ hne]; exact f2 x hx
  · intro u x hx
    by_cases hne : x = nalloc
    · rw [hne]; simp [bump_apply, hu1, hu2]
    · have := f3 u x ((hini u x hne).1 hx)
      simp only [upd_ne _ hne, bump_ne _ hne]; exact ⟨Nat.lt_succ_of_lt this.1, this.2⟩
  · intro u v x hu hv
    by_cases hne : x = nalloc
    · rw [hne] at hu hv
      have : ∀ u, upd ini t (some nalloc) u = some nalloc → u = t := by
        intro u h; rw [upd_apply] at h; split at h
        · assumption
        · exact absurd rfl (hlt u _ h)
      rw [this u hu, this v hv]
    · exact f4 u v x ((hini u x hne).1 hu) ((hini v x hne).1 hv)
  · intro x hx
    have hne : x ≠ nalloc := Nat.ne_of_gt hx
    simp only [upd_ne _ hne, bump_ne _ hne]; exact f5 x (Nat.le_of_succ_le hx)

/-- site 5 + common.c:205-206: the initialisation block of `w` completes.  No other thread is
    initialising `w`, so afterwards nobody is; the struct has the field values of an initialised one,
    the write count of `remove_count` going from 0 to 1. -/
theorem FInv_stRc (hi : FInv ready nalloc ini nwflags sem inits nwr)
    (ht : ini t = some w) :
    FInv (upd ready w true) nalloc (upd ini t none) nwflags sem inits (bump nwr w .rc) := by
  obtain ⟨f1, f2, f3, f4, f5⟩ := hi
  obtain ⟨hlt, hfl, hsem, hin, hrc, hn⟩ := f3 t w ht
  have hsub : ∀ u x, upd ini t none u = some x → ini u = some x ∧ x ≠ w := by
    intro u x h; rw [upd_apply] at h; split at h
    · cases h
    · exact ⟨h, fun e => ‹¬ u = t› (f4 u t w (e ▸ h) ht)⟩
  have hini : ∀ u x, x ≠ w → ini u = some x → upd ini t none u = some x := by
    intro u x hx h; rw [upd_ne _ (fun e => hx (Option.some.inj ((e ▸ h).symm.trans ht)))]; exact h
  constructor
  · intro x
    by_cases hx : x = w
    · rw [hx, upd_same]
      exact ⟨fun _ => ⟨hlt, fun u h => (hsub u w h).2 rfl⟩, fun _ => rfl⟩
    · rw [upd_ne _ hx, f1 x]
      exact ⟨fun ⟨a, b⟩ => ⟨a, fun u h => b u (hsub u x h).1⟩,
        fun ⟨a, b⟩ => ⟨a, fun u h => b u (hini u x hx h)⟩⟩
  · intro x hx
    by_cases hxw : x = w
    · rw [hxw]
      refine ⟨hfl, hsem, hin, fun f => ?_⟩
      cases f <;> simp [bump_apply, hrc, hn]
    · rw [upd_ne _ hxw] at hx; rw [bump_ne _ hxw]; exact f2 x hx
  · intro u x h
    obtain ⟨h1, h2⟩ := hsub u x h
    rw [bump_ne _ h2]; exact f3 u x h1
  · intro u v x hu hv
    exact f4 u v x (hsub u x hu).1 (hsub v x hv).1
  · intro x hx
    rw [bump_ne _ (Nat.ne_of_gt (Nat.lt_of_lt_of_le hlt hx))]; exact f5 x hx

theorem fast_some {s : State} (h : fast s t = some w) :
    s.ptw t = some w ∧ s.reserved w = true ∧ s.inuse w = false := by
  unfold fast at h
  split at h
  · split at h
    · injection h with h; subst h; exact ⟨‹_›, ‹_ ∧ _›.1, ‹_ ∧ _›.2⟩
    · cases h
  · cases h

theorem inv_step {s s' : State} {e : Ev} (hi : Inv s) (h : step s e = .ok s') : Inv s' := by
  obtain ⟨hm, hl, hf⟩ := hi
  -- a pc update that keeps the view keeps the group that sees the pcs through it
  have fpc : ∀ t p, p.initing = (s.pc t).initing →
      FInv s.ready s.nalloc (iniOf (upd s.pc t p)) s.nwflags s.sem s.inits s.nwr :=
    fun t p hp => by rw [iniOf_upd_same hp]; exact hf
  cases step_sound h with
  | ld t site obs j hobs hpc =>
    subst hobs
    rcases hpc with ⟨hq, rfl, _⟩ | ⟨hq, _⟩ | ⟨hq, _⟩ <;>
      exact ⟨MInv_ld hm (by rw [hq]; simp), hl.pc_frame (by rw [afterLoad_transit, hq]; rfl),
        fpc t _ (by rw [afterLoad_initing, hq]; rfl)⟩
  | casOk t j exp obs hpc hobs hok =>
    exact ⟨MInv_casOk hm hpc (hobs ▸ hok), hl.pc_frame (by rw [hpc]; rfl), fpc t _ (by rw [hpc]; rfl)⟩
  | casFail t j exp obs hpc =>
    exact ⟨MInv_move hm (by rw [hpc]; simp) (by simp) (by simp), hl.pc_frame (by rw [hpc]; rfl),
      fpc t _ (by rw [hpc]; rfl)⟩
  | relEmpty t obs hpc hfr =>
    exact ⟨MInv_rel hm hpc (by simp) (by simp), hl.pc_frame (by rw [hpc]; rfl),
      fpc t _ (by rw [hpc]; rfl)⟩
  | relPop t obs q rest hpc hfr =>
    exact ⟨MInv_rel hm hpc (by simp) (by simp), LInv_pop (hfr ▸ hl) (by rw [hpc]; rfl) rfl,
      fpc t _ (by rw [hpc]; rfl)⟩
  | relPush t fn obs j w hpc hfn hj =>
    exact ⟨MInv_rel hm hpc (by simp) (by simp),
      LInv_push hl (by rcases hj with rfl | rfl <;> (rw [hpc]; rfl)) rfl, fpc t _ (by rw [hpc]; rfl)⟩
  | malloc t w hpc hw =>
    subst hw
    refine ⟨MInv_move hm (by rw [hpc]; simp) (by simp) (by simp),
      LInv_malloc hl (by rw [hpc]; rfl) rfl, ?_⟩
    show FInv _ _ (iniOf (upd s.pc t _)) _ _ _ _
    rw [iniOf_upd]; exact FInv_malloc hf (by simp [iniOf, hpc, PC.initing])
  | stRc t w obs hpc =>
    refine ⟨MInv_move hm (by rw [hpc]; simp) (by simp) (by simp),
      (LInv_stRc hl (t := t) (by rw [hpc]; rfl)).pc_frame (by rw [hpc]; rfl), ?_⟩
    show FInv _ _ (iniOf (upd s.pc t _)) _ _ _ _
    rw [iniOf_upd]; exact FInv_stRc hf (by simp [iniOf, hpc, PC.initing])
  | retFast t w hpc hfast =>
    exact ⟨hm, LInv_swap hl (fast_some hfast).1 (.inr rfl) (by simp), hf⟩
  | retReserve t w hpc hp =>
    exact ⟨MInv_move hm (by rw [hpc]; simp) (by simp) (by simp),
      LInv_retReserve hl (by rw [hpc]; rfl) rfl hp, fpc t _ (by rw [hpc]; rfl)⟩
  | retPlain t w r hpc =>
    exact ⟨MInv_move hm (by rw [hpc]; simp) (by simp) (by simp),
      LInv_retPlain hl (by rw [hpc]; rfl) rfl, fpc t _ (by rw [hpc]; rfl)⟩
  | freeRes t w hpc hloc hu hr =>
    exact ⟨hm, LInv_swap hl (hl.res.ptw_of_held hloc hr) (.inl rfl) (by simp), hf⟩
  | freePool t w hpc hloc hu hr =>
    exact ⟨MInv_move hm (by rw [hpc]; simp) (by simp) (by simp),
      LInv_freePool hl hloc hr (by rw [hpc]; rfl) rfl, fpc t _ (by rw [hpc]; rfl)⟩
  | exit t w hpc hp hr hu =>
    exact ⟨MInv_move hm (by rw [hpc]; simp) (by simp) (by simp),
      LInv_exit hl hp hu (by rw [hpc]; rfl) rfl, fpc t _ (by rw [hpc]; rfl)⟩
  | use | envRc | envWaiting => exact ⟨hm, hl, hf⟩

theorem reachable_inv {s : State} (hr : Reachable s) : Inv s :=
  Reachable.induct (P := Inv) inv_init (fun _ _ _ _ hp h => inv_step hp h) s hr

end Pool
