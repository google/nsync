/-
  Futex layer (C12), fair termination: a lasso up to the ghost counters.

  The acceptor never reads `posts`, `takes`, `succRets`; adding `q` to each commutes with every
  step.  So a loop that takes a state `sf` to `bump 1 sf` can be repeated for ever (`bumpExec`).
  At the end: three small facts used to close such a loop in Props/C12Fair.lean.
-/
import NsyncVerif.Proofs.FutexFairTrace

namespace NsyncVerif.Futex


/-- `q` more posts, takes and successful returns. -/
def bump (q : Nat) (s : State) : State :=
  { s with posts := s.posts + q, takes := s.takes + q, succRets := s.succRets + q }

theorem bump_zero (s : State) : bump 0 s = s := rfl

theorem bump_bump (a b : Nat) (s : State) : bump a (bump b s) = bump (b + a) s := by
  simp [bump, Nat.add_assoc]

def mapOk (f : State → State) : Except String State → Except String State
  | .ok s => .ok (f s)
  | .error m => .error m

theorem mapOk_ite (f : State → State) (c : Prop) [Decidable c] (a b : Except String State) :
    mapOk f (if c then a else b) = if c then mapOk f a else mapOk f b := apply_ite _ _ _ _

/-- Per event: split on the program point (both sides at once), push `mapOk` through the guards;
    the two sides then differ only in the order in which `q` and 1 are added to a counter. -/
theorem step_bump (q : Nat) (s : State) (e : Event) : step (bump q s) e = mapOk (bump q) (step s e) := by
  cases e <;> simp only [step, bump]
  case st => rfl
  case tick => rw [mapOk_ite]; rfl
  case fwaitRet =>
    split
    · rw [mapOk_ite]; congr 1; split <;> rfl
    · rfl
  case retPD =>
    cases ‹Bool› <;> split <;> (try simp only [mapOk_ite]) <;>
      simp only [mapOk, bump, Bool.false_eq_true, ↓reduceIte, Nat.add_right_comm _ 1 q] <;> rfl
  case cas | retP =>
    split <;> (try simp only [mapOk_ite]) <;> simp only [mapOk, bump, Nat.add_right_comm _ 1 q] <;> rfl
  all_goals split <;> (try simp only [mapOk_ite]) <;> rfl

theorem run_bump (q : Nat) : ∀ (evs : List Event) (s : State),
    run (bump q s) evs = mapOk (bump q) (run s evs) := by
  intro evs
  induction evs with
  | nil => intro s; rfl
  | cons e es ih =>
    intro s
    simp only [run, step_bump]
    cases step s e with
    | ok s1 => simp only [mapOk]; exact ih s1
    | error m => rfl

theorem div_mod_step {L m : Nat} (hL : 0 < L) (h : m % L + 1 < L) :
    (m + 1) / L = m / L ∧ (m + 1) % L = m % L + 1 := by
  have hm := Nat.div_add_mod m L
  have e : m + 1 = L * (m / L) + (m % L + 1) := by omega
  rw [e]
  exact ⟨by rw [Nat.mul_add_div hL, Nat.div_eq_of_lt h]; omega,
    by rw [Nat.mul_add_mod, Nat.mod_eq_of_lt h]⟩

theorem div_mod_wrap {L m : Nat} (hL : 0 < L) (h : m % L + 1 = L) :
    (m + 1) / L = m / L + 1 ∧ (m + 1) % L = 0 := by
  have hm := Nat.div_add_mod m L
  have e : m + 1 = L * (m / L + 1) + 0 := by rw [Nat.mul_succ]; omega
  rw [e]
  exact ⟨by rw [Nat.mul_add_div hL]; simp, by rw [Nat.mul_add_mod]; simp⟩

/-- `evs` from `s0`, then `loop` for ever, where `loop` takes the state `sf` reached by `evs` to
    `bump 1 sf`. -/
def bumpExec (s0 : State) (evs loop : List Event) (sf : State)
    (h : run s0 evs = .ok sf) (hl : run sf loop = .ok (bump 1 sf)) (hp : 0 < loop.length) : Exec s0 :=
  { ρ := fun i => if i < evs.length then stateFrom s0 (evs.take i)
                  else bump ((i - evs.length) / loop.length)
                    (stateFrom sf (loop.take ((i - evs.length) % loop.length)))
    σ := fun i => if i < evs.length then evs[i]? else loop[(i - evs.length) % loop.length]?
    start := by
      by_cases h0 : 0 < evs.length
      · simp [h0, stateFrom, run]
      · have : evs = [] := by cases evs <;> simp_all
        subst this; simp [run] at h; subst h
        simp [stateFrom, run, Nat.zero_div, bump_zero]
    next := by
      intro i
      have hsf0 : stateFrom sf (loop.take 0) = sf := by simp [stateFrom, run]
      by_cases hi : i < evs.length
      · have he : evs[i]? = some evs[i] := List.getElem?_eq_getElem hi
        simp only [hi, if_true, he]
        have hs := stateFrom_step h hi
        by_cases hi' : i + 1 < evs.length
        · simp only [hi', if_true]; exact hs
        · have : i + 1 - evs.length = 0 := by omega
          simp only [hi', if_false, this, Nat.zero_mod, Nat.zero_div, hsf0, bump_zero]
          rw [← stateFrom_all h (show evs.length ≤ i + 1 by omega)]; exact hs
      · have hi' : ¬ i + 1 < evs.length := by omega
        simp only [hi, hi', if_false]
        have hr : (i - evs.length) % loop.length < loop.length := Nat.mod_lt _ hp
        have he : loop[(i - evs.length) % loop.length]? = some loop[(i - evs.length) % loop.length] :=
          List.getElem?_eq_getElem hr
        simp only [he]
        have hs := stateFrom_step hl hr
        have hsucc : i + 1 - evs.length = (i - evs.length) + 1 := by omega
        rw [step_bump, hs, hsucc]
        simp only [mapOk]
        by_cases hwrap : (i - evs.length) % loop.length + 1 = loop.length
        · obtain ⟨a, b⟩ := div_mod_wrap (m := i - evs.length) hp hwrap
          rw [a, b, hsf0, hwrap, List.take_of_length_le (Nat.le_refl _)]
          have : stateFrom sf loop = bump 1 sf := by simp [stateFrom, hl]
          rw [this, bump_bump, Nat.add_comm]
        · obtain ⟨a, b⟩ := div_mod_step (m := i - evs.length) hp (by omega)
          rw [a, b] }

theorem bumpExec_tail {s0 : State} {evs loop : List Event} {sf : State}
    (h : run s0 evs = .ok sf) (hl : run sf loop = .ok (bump 1 sf)) (hp : 0 < loop.length) {j : Nat}
    (hj : evs.length ≤ j) :
    (bumpExec s0 evs loop sf h hl hp).ρ j =
      bump ((j - evs.length) / loop.length) (stateFrom sf (loop.take ((j - evs.length) % loop.length))) ∧
    (bumpExec s0 evs loop sf h hl hp).σ j = loop[(j - evs.length) % loop.length]? := by
  have : ¬ j < evs.length := by omega
  simp [bumpExec, this]

theorem setPc_apply (f : Tid → PC) (t u : Tid) (v : PC) : setPc f t v u = if u = t then v else f u := rfl

theorem pc3_ext {f g : Tid → PC} (h0 : f 0 = g 0) (h1 : f 1 = g 1) (h2 : f 2 = g 2)
    (h : ∀ t : Nat, 3 ≤ t → f t = g t) : f = g := by
  funext (t : Nat)
  by_cases a : t = 0
  · subst a; exact h0
  by_cases b : t = 1
  · subst b; exact h1
  by_cases c : t = 2
  · subst c; exact h2
  exact h t (by omega)

theorem kernelDue_none {s : State} {t : Tid} (h : s.sleeper = none) : kernelDue s t = false := by
  unfold kernelDue; rw [h]; cases s.pc t <;> rfl

end NsyncVerif.Futex
