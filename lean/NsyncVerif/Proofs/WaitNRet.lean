/-
  Proofs/WaitNRet.lean — which program counter accepts the event `ret nsync_wait_n`, and what the step does there.
-/
import NsyncVerif.Proofs.WaitNReady


namespace WaitN

theorem stepOpen_ret {s s' : State} {t : Tid} {r : Nat} {n : Bool} : stepOpen s t (.retWaitN r n) = .ok s' → False := by
  intro h
  unfold stepOpen at h
  split at h <;> simp [proto, dflt] at h

theorem spinAcq_ret {s s' : State} {t : Tid} {c : Nat} {st : SpinSt} {mk : SpinSt → PC} {done : PC} {r : Nat} {n : Bool} :
    spinAcq s t c st mk done (.retWaitN r n) = .ok s' → False := by
  intro h
  cases st <;> simp [spinAcq, dflt] at h

/-- `ret nsync_wait_n r` is accepted only at the program point `wRet r`: the event is in no other step function's
    vocabulary, so each of them hands it to `dflt`, which rejects it -/
theorem ret_pc {s s' : State} {t : Tid} {r : Nat} {n : Bool} (h : step s (.thr t (.retWaitN r n)) = .ok s') :
    s.pc t = .wRet r ∧ n = (s.fr t).nested := by
  simp only [step] at h
  unfold stepThr at h
  split at h <;> rename_i hpc
  case h_18 r0 =>
    unfold stepRet at h
    simp only at h
    by_cases hc : r = r0 ∧ n = (s.fr t).nested
    · rw [hpc, hc.1]; exact ⟨rfl, hc.2⟩
    · rw [if_neg hc] at h; simp at h
  all_goals exfalso
  · exact stepOpen_ret h
  · simp at h
  · rename_i st; cases st <;> simp [stepSg, dflt] at h
    exact spinAcq_ret h
  · unfold stepCtrRT at h; split at h <;> simp [dflt] at h
  · rename_i st
    unfold stepND at h; split at h
    · cases st <;> simp [dflt] at h
      all_goals exact stepOpen_ret h
    · simp at h
  · rename_i st
    unfold stepEnqCv at h; split at h
    · cases st <;> simp [dflt] at h
      exact spinAcq_ret h
    · simp at h
  · rename_i st
    unfold stepEnq at h; split at h
    · cases st <;> simp [dflt] at h
    · simp at h
  · rename_i st
    unfold stepDeqCv at h; split at h
    · cases st <;> simp [dflt] at h
      exact spinAcq_ret h
    · simp at h
  · rename_i st
    unfold stepDeq at h; split at h
    · cases st <;> simp [dflt] at h
    · simp at h
  · simp [stepAlloc, dflt] at h
  · simp [stepInit, dflt] at h
  · simp [stepUnlockMu, dflt] at h
  · simp [stepCvRT, dflt] at h
  · simp [stepPdEnter, dflt] at h
  · simp [stepPdWait, dflt] at h
  · simp [stepFree, dflt] at h
  · simp [stepRelock, dflt] at h

/-- … and there the records of a stack array die, the frame is emptied and the thread is idle again -/
theorem ret_state {s s' : State} {t : Tid} {r : Nat} {n : Bool} (h : step s (.thr t (.retWaitN r n)) = .ok s') :
    s' = ((s.kill (if (s.fr t).heap.isSome then [] else (s.fr t).recs)).setFr t Frame.empty).setPc t .idle := by
  have hpc := (ret_pc h).1
  simp only [step, stepThr, hpc, stepRet] at h
  split at h
  · exact (Except.ok.inj h).symm
  · simp at h

end WaitN
