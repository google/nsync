import NsyncVerif.Proofs.MuCFairKeep
/-
  MuC, fair termination: tactic abbreviations that open a step function at one program point and close the leaves
  of one of the step properties (`CallKeep`, `KindKeep`, the data and queue frames, `InvRC`).  No proof calls them:
  the step properties are established through `step_all` (Proofs/MuCTL.lean); `rc_local` names a lemma `InvRC.local`
  that does not exist.
-/
namespace NsyncVerif.MuC

macro "data_local" : tactic => `(tactic|
  first
  | (simp [enqLast, enqFirst, dequeue, dropW, setHeld, toFin, afterFin_eq, afterWakes_eq, mwLoop_eq]; done)
  | (simp [enqLast, enqFirst, dequeue, dropW, setHeld, toFin, afterFin_eq, afterWakes_eq, mwLoop_eq] <;> (repeat' split) <;> simp))

macro "ld_caseD" hs:ident : tactic => `(tactic|
  (try dsimp only at $hs:ident
   try simp only [ldWord, ldWaiting, casWord] at $hs:ident
   repeat' split at $hs:ident
   all_goals first
     | (cases $hs:ident; done)
     | (cases $hs:ident; data_local)
     | (cases $hs:ident; split <;> data_local)))

macro "keep_local" heq:ident : tactic => `(tactic|
  (rw [$heq:ident]
   (simp [CallKeep, MW.same, PC.mw, PC.okD, Ret.mw?, SL.entry, SL.fromWait, SL.woken, loopPc, finPc, Ret.pc, setFn]) <;> grind))

macro "ld_caseK" heq:ident hs:ident : tactic => `(tactic|
  (try dsimp only at $hs:ident
   try simp only [ldWord, ldWaiting, casWord] at $hs:ident
   repeat' split at $hs:ident
   all_goals first
     | (cases $hs:ident; done)
     | (cases $hs:ident; keep_local $heq)
     | (cases $hs:ident; split <;> keep_local $heq)))

macro "kind_local" heq:ident : tactic => `(tactic|
  (rw [$heq:ident]
   (simp [KindKeep, PC.rel, Ret.isUl, SL.entry, SL.fromWait, SL.woken, loopPc, finPc, Ret.pc, setFn]) <;> grind))

macro "ld_caseKd" heq:ident hs:ident : tactic => `(tactic|
  (try dsimp only at $hs:ident
   try simp only [ldWord, ldWaiting, casWord] at $hs:ident
   repeat' split at $hs:ident
   all_goals first
     | (cases $hs:ident; done)
     | (cases $hs:ident; kind_local $heq)
     | (cases $hs:ident; split <;> kind_local $heq)))

macro "q_local" : tactic => `(tactic|
  first
  | (simp [dropW, setHeld, afterFin_eq, afterWakes_eq, mwLoop_eq]; done)
  | (simp [dropW, setHeld, afterFin_eq, afterWakes_eq, mwLoop_eq] <;> (repeat' split) <;> simp))

/-- a thread at a program point that holds the spinlock is the owner -/
macro "q_owner" h3:ident hsp:ident hne:ident heq:ident : tactic => `(tactic|
  (exfalso
   have hown := (($h3).own _).2 (by rw [$heq:ident]; simp [PC.spin])
   rw [$hsp:ident] at hown
   exact $hne (Option.some.inj hown).symm))

macro "ld_caseQ" hs:ident : tactic => `(tactic|
  (try dsimp only at $hs:ident
   try simp only [ldWord, ldWaiting, casWord] at $hs:ident
   repeat' split at $hs:ident
   all_goals first
     | (cases $hs:ident; done)
     | (cases $hs:ident; q_local)
     | (cases $hs:ident; split <;> q_local)))

macro "rc_local" t:ident h:ident heq:ident : tactic => `(tactic|
  (refine InvRC.local $t $h ?_ ?_ ?_
   · intro x; (simp [setFn, enqLast, enqFirst, cond_of_merge]) <;> (try split) <;> simp_all
   · intro u hu; simp [setFn, hu, enqLast, enqFirst]
   · intro k c hl
     rw [$heq:ident]
     (simp_all [PC.condRec, Ret.condRec, setFn, loopPc, finPc, Ret.pc, SL.entry, SL.fromWait, SL.woken]) <;> grind))

macro "ld_caseRC" t:ident h:ident heq:ident hs:ident : tactic => `(tactic|
  (try dsimp only at $hs:ident
   try simp only [ldWord, ldWaiting] at $hs:ident
   repeat' split at $hs:ident
   all_goals first
     | (cases $hs:ident; done)
     | (cases $hs:ident; rc_local $t $h $heq)
     | (cases $hs:ident; split <;> rc_local $t $h $heq)))

end NsyncVerif.MuC
