/-
  Proofs/WaitNDq.lean — what one step of a thread does to the ghost lists `deqRes` / `deqUnl` of its own frame:
  nothing (`DqSame`), a push by the return of a dequeue call (`DqPush`), or a reset by call / return; and what the list `deqUnl` records (`DUI`).
-/
import NsyncVerif.Proofs.WaitNCvLife


namespace WaitN

structure DqSame (s s' : State) (t : Tid) : Prop where
  res : (s'.fr t).deqRes = (s.fr t).deqRes
  unl : (s'.fr t).deqUnl = (s.fr t).deqUnl
  objs : (s'.fr t).objs = (s.fr t).objs

/-- the dequeue call on object j returns `res` -/
def DqPush (s s' : State) (t : Tid) : Prop :=
  ∃ (j : Nat) (res : Bool) (r : Rid), (s.fr t).recs[j]? = some r
    ∧ (s'.fr t).deqRes = (s.fr t).deqRes ++ [res] ∧ (s'.fr t).deqUnl = (s.fr t).deqUnl ++ [(s.rcd r).unl]
    ∧ (s'.fr t).objs = (s.fr t).objs
    ∧ ((s.pc t = .wDeqCv j (.release res)) ∨ (s.pc t = .wDeqCv j .wspin ∧ res = false ∧ (s.rcd r).waiting = false)
        ∨ ∃ st, s.pc t = .wDeq j st)

def DqReset (s' : State) (t : Tid) : Prop := (s'.fr t).deqRes = [] ∧ (s'.fr t).deqUnl = []

def DqEff (s s' : State) (t : Tid) : Prop := DqSame s s' t ∨ DqPush s s' t ∨ DqReset s' t

theorem b2n_zero {b : Bool} (h : 0 = b2n b) : b = false := by cases b <;> simp [b2n] at h ⊢

theorem DqSame.of_eq {s s' : State} {t : Tid} (h : s'.fr t = s.fr t) : DqSame s s' t := ⟨by rw [h], by rw [h], by rw [h]⟩

theorem dqsame_dflt {s s' : State} {t : Tid} {e : Ev} (h : dflt s t e = .ok s') : DqSame s s' t :=
  DqSame.of_eq (by rw [(dflt_frame h).2.1])

theorem dqsame_bindSem {s s' : State} {t owner : Tid} {j : SemId} (h : bindSem s owner j = some s') : DqSame s s' t := by
  unfold bindSem at h
  split at h
  · split at h
    · cases h; exact DqSame.of_eq rfl
    · cases h
  · split at h
    · cases h
    · cases h
      by_cases ho : t = owner
      · subst ho; exact ⟨by simp, by simp, by simp⟩
      · exact DqSame.of_eq (by simp [ho])

theorem dqsame_postSem {s s' : State} {t : Tid} {r : Rid} {j : SemId} (h : postSem s r j = some s') : DqSame s s' t := by
  unfold postSem at h
  split at h
  · exact dqsame_bindSem h
  · cases h; exact DqSame.of_eq rfl

theorem DqSame.trans {s s1 s2 : State} {t : Tid} (a : DqSame s s1 t) (b : DqSame s1 s2 t) : DqSame s s2 t :=
  ⟨b.res.trans a.res, b.unl.trans a.unl, b.objs.trans a.objs⟩

theorem dqsame_rtDone {s s' : State} {t : Tid} {u : Use} {i : Nat} {time : Deadline}
    (h : rtDone s t u i time = .ok s') : DqSame s s' t := by
  unfold rtDone at h
  split_ok h <;> (cases h; exact ⟨by simp, by simp, by simp⟩)

theorem dqsame_afterEnq {s s' : State} {t : Tid} {i : Nat} {res : Bool}
    (h : afterEnq s t i res = .ok s') : DqSame s s' t := by
  unfold afterEnq at h
  cases h
  cases res <;> exact ⟨by simp, by simp, by simp⟩

theorem dqsame_startScan (s : State) (t : Tid) : DqSame s (startScan s t) t := by
  unfold startScan; exact ⟨by simp, by simp, by simp⟩

/-- the push itself -/
theorem dqpush_deqDone {s s' : State} {t : Tid} {j : Nat} {res : Bool} {r : Rid} (hr : (s.fr t).recs[j]? = some r)
    (h : deqDone s t j res = .ok s') :
    (s'.fr t).deqRes = (s.fr t).deqRes ++ [res] ∧ (s'.fr t).deqUnl = (s.fr t).deqUnl ++ [(s.rcd r).unl]
    ∧ (s'.fr t).objs = (s.fr t).objs := by
  unfold deqDone at h
  dsimp only at h
  rw [hr] at h
  split at h
  · cases h; simp
  · cases h
    simp only [setPc_fr]
    unfold unbindSem
    split <;> simp

macro "dq_leaf" h:ident : tactic =>
  `(tactic| first
    | exact .inl (dqsame_dflt $h)
    | exact .inl (dqsame_rtDone $h)
    | exact .inl (dqsame_afterEnq $h)
    | exact .inl (dqsame_spinAcq $h)
    | (cases $h:ident; first
        | exact .inl (DqSame.of_eq rfl)
        | (refine .inl (DqSame.of_eq ?_); simp; done)
        | (refine .inl ⟨?_, ?_, ?_⟩; all_goals (simp; done))
        | exact .inl (dqsame_startScan _ _)
        | (refine .inl (DqSame.trans (s1 := State.setSem _ _ _) ?_ (dqsame_startScan _ _)); exact DqSame.of_eq rfl)
        | (refine .inl (DqSame.trans (dqsame_postSem ‹postSem _ _ _ = some _›) (DqSame.of_eq ?_)); simp; done)
        | (refine .inl (DqSame.trans (dqsame_bindSem ‹bindSem _ _ _ = some _›) ?_); first
            | (refine DqSame.of_eq ?_; simp; done)
            | (refine ⟨?_, ?_, ?_⟩; all_goals (simp; done)))))

/-- what a `Tail` does to the ghost lists of the stepping caller -/
theorem dq_tail {s s1 s' : State} {t : Tid} {e : Ev} {k : Kind} (hfr : s1.fr = s.fr) (b : Tail s s1 t e k s') :
    DqEff s s' t := by
  have same : ∀ {s2 : State}, DqSame s1 s2 t → DqEff s s2 t := fun h =>
    .inl ⟨by rw [← hfr]; exact h.res, by rw [← hfr]; exact h.unl, by rw [← hfr]; exact h.objs⟩
  have own : ∀ {f : Frame} {p : PC}, ((s1.setFr t f).setPc t p).fr t = f := by
    intros; rw [setPc_fr, setFr_fr, if_pos rfl]
  have loc : ∀ {f : Frame} {p : PC}, f.deqRes = (s1.fr t).deqRes → f.deqUnl = (s1.fr t).deqUnl →
      f.objs = (s1.fr t).objs → DqEff s ((s1.setFr t f).setPc t p) t := fun h1 h2 h3 =>
    same ⟨by rw [own, h1], by rw [own, h2], by rw [own, h3]⟩
  cases b
  case same => exact same (.of_eq rfl)
  case goto => exact same (.of_eq rfl)
  case giveUp => exact same (.of_eq rfl)
  case nested => exact same (.of_eq rfl)
  case dflt h => exact same (dqsame_dflt h)
  case rtDone h => exact same (dqsame_rtDone h)
  case afterEnq h => exact same (dqsame_afterEnq h)
  case deqDone j res r hr hu hpc h =>
    have hp := dqpush_deqDone (r := r) (by rw [hfr]; exact hr) h
    rw [hfr, hu] at hp
    refine .inr (.inl ⟨j, res, r, hr, hp.1, hp.2.1, hp.2.2, ?_⟩)
    rcases hpc with h | h | h
    · exact .inl h
    · exact .inr (.inl h)
    · exact .inr (.inr ⟨_, h⟩)
  case v h => exact same ((dqsame_postSem h).trans (.of_eq rfl))
  case vgoto h _ _ _ _ _ _ => exact same ((dqsame_postSem h).trans (.of_eq rfl))
  case pdEnter h => exact same ((dqsame_bindSem h).trans (.of_eq rfl))
  case pdWake => exact same (DqSame.trans (s1 := s1.setSem _ _) (.of_eq rfl) (dqsame_startScan _ _))
  case call => exact .inr (.inr ⟨by rw [own]; rfl, by rw [own]; rfl⟩)
  case ret => exact .inr (.inr ⟨by rw [own]; rfl, by rw [own]; rfl⟩)
  all_goals exact loc rfl rfl rfl

theorem dq_stepThr {s s' : State} {t : Tid} {e : Ev} (h : stepThr s t e = .ok s') : DqEff s s' t := by
  obtain ⟨_, s1, a, b⟩ := steps_stepThr h
  exact dq_tail a.fr b

/-!
### the ghost list `deqUnl` of a frame records, for every dequeue call of a condition variable that returned 0 ("not
still enqueued"), that a signaller had unlinked the record (`DUI`).
-/

structure DUI (s : State) : Prop where
  len : ∀ (t : Tid), (s.fr t).deqUnl.length = (s.fr t).deqRes.length
  cv : ∀ (t : Tid) (k c : Nat), (s.fr t).objs[k]? = some (.cv c) → (s.fr t).deqRes[k]? = some false →
        (s.fr t).deqUnl[k]? = some .waker

theorem dui_init : DUI init := ⟨fun _ => rfl, fun _ _ _ h => by simp [init, Frame.empty] at h⟩

theorem frSame_fields {f g : Frame} (h : frSame f g) : g.deqRes = f.deqRes ∧ g.deqUnl = f.deqUnl ∧ g.objs = f.objs := by
  unfold frSame at h
  rw [h]; exact ⟨rfl, rfl, rfl⟩

theorem dui_step {s s' : State} {v : Tid} {e : Ev} (hr : Reachable s) (hd : DUI s) (h : stepThr s v e = .ok s') :
    DUI s' := by
  have oth := others_stepThr h
  have hl := linv_of_reachable hr v
  have own := own_of_reachable hr
  have q := qinv_of_reachable hr
  -- the frame of another thread keeps the three fields
  have key : ∀ t, t ≠ v → (s'.fr t).deqRes = (s.fr t).deqRes ∧ (s'.fr t).deqUnl = (s.fr t).deqUnl
      ∧ (s'.fr t).objs = (s.fr t).objs := fun t ht => frSame_fields (oth t ht).2.2.2
  rcases dq_stepThr h with same | ⟨j, res, r, hri, hres, hunl, hobjs, kind⟩ | ⟨h1, h2⟩
  · constructor
    · intro t
      by_cases ht : t = v
      · subst ht; rw [same.res, same.unl]; exact hd.len t
      · rw [(key t ht).1, (key t ht).2.1]; exact hd.len t
    · intro t k c
      by_cases ht : t = v
      · subst ht; rw [same.res, same.unl, same.objs]; exact hd.cv t k c
      · rw [(key t ht).1, (key t ht).2.1, (key t ht).2.2]; exact hd.cv t k c
  · -- push
    have hlen : (s.fr v).deqRes.length = j := by
      rcases kind with hp | ⟨hp, _, _⟩ | ⟨st, hp⟩ <;> (rw [hp] at hl; exact hl.2.1)
    constructor
    · intro t
      by_cases ht : t = v
      · subst ht; rw [hres, hunl]; simp [hd.len t]
      · rw [(key t ht).1, (key t ht).2.1]; exact hd.len t
    · intro t k c
      by_cases ht : t = v
      · subst ht
        rw [hres, hunl, hobjs]
        intro hoc hrk
        by_cases hkj : k < j
        · rw [List.getElem?_append_left (by rw [hd.len t, hlen]; exact hkj)]
          rw [List.getElem?_append_left (by rw [hlen]; exact hkj)] at hrk
          exact hd.cv t k c hoc hrk
        · have hkj' : k = j := by
            have : k < ((s.fr t).deqRes ++ [res]).length := by
              rcases Nat.lt_or_ge k ((s.fr t).deqRes ++ [res]).length with h' | h'
              · exact h'
              · rw [List.getElem?_eq_none h'] at hrk; cases hrk
            simp [hlen] at this; omega
          subst hkj'
          have hrf : res = false := by
            rw [List.getElem?_append_right (by rw [hlen]; exact Nat.le_refl _)] at hrk
            simp [hlen] at hrk; exact hrk
          subst hrf
          rw [List.getElem?_append_right (by rw [hd.len t, hlen]; exact Nat.le_refl _)]
          simp [hd.len t, hlen]
          rcases kind with hp | ⟨hp, _, hw⟩ | ⟨st, hp⟩
          · have hw : (s.rcd r).waiting = false := (q.cf t).cleared r (by rw [hp]; simpa [clearedAt] using hri)
            exact cvdeq_waker hr hri (.inl ⟨.inr (.inl hp), hw⟩)
          · exact cvdeq_waker hr hri (.inl ⟨.inr (.inr hp), hw⟩)
          · exfalso
            rw [hp] at hl
            rcases hl.2.2.2.1 with ⟨n, hn⟩ | ⟨k', hk'⟩
            · rw [hn] at hoc; cases hoc
            · rw [hk'] at hoc; cases hoc
      · rw [(key t ht).1, (key t ht).2.1, (key t ht).2.2]; exact hd.cv t k c
  · -- reset
    constructor
    · intro t
      by_cases ht : t = v
      · subst ht; rw [h1, h2]; rfl
      · rw [(key t ht).1, (key t ht).2.1]; exact hd.len t
    · intro t k c
      by_cases ht : t = v
      · subst ht; rw [h1]; intro _ hx; simp at hx
      · rw [(key t ht).1, (key t ht).2.1, (key t ht).2.2]; exact hd.cv t k c

theorem dui_of_reachable {s : State} (h : Reachable s) : DUI s :=
  reachable_inv dui_init (fun _ _ ih _ => ⟨ih.len, ih.cv⟩) (fun _ _ _ _ hr ih hs => dui_step hr ih hs) h

end WaitN
