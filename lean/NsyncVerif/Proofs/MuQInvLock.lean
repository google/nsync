import NsyncVerif.Proofs.MuQInv
/-
  MuQ: preservation of (I_lock) and (I_spin) by every abstract step.
-/
namespace NsyncVerif.MuQ

theorem blocked_false_free {l : Mode} {ign : Bool} {w : Word} (h : blocked l ign w = false) :
    w.wlock = false ∧ (l = .W → w.readers = 0) := by
  cases l <;> simp [blocked] at h
  · exact ⟨h.1.1, fun _ => h.1.2⟩
  · exact ⟨h.1, fun h => by cases h⟩

theorem alock_acq {a X : AState} {t : Tid} {l : Mode} {clear lwl : Bool} (h : ALock a)
    (hw : X.word = acqWord l clear lwl a.word) (ho : X.wOwner = a.wOwner) (hr : X.rOwners = a.rOwners)
    (ht : X.ts = a.ts) (hts : a.ts t = none) (hfree : a.word.wlock = false ∧ (l = .W → a.word.readers = 0)) :
    ALock (X.addShare t l) := by
  obtain ⟨a1, a2, a3, a4, a5, a6, a7⟩ := h
  have hnow : a.wOwner = none := by
    cases hx : a.wOwner with
    | none => rfl
    | some u => rw [hx] at a4; simp [hfree.1] at a4
  have htr : t ∉ a.rOwners := fun hm => by rw [a2 t, hts] at hm; cases hm
  cases l
  · refine ⟨?_, ?_, ?_, ?_, ?_, ?_, ?_⟩
    · intro u; simp only [AState.addShare, ht, setFn]
      by_cases hu : u = t
      · subst hu; simp
      · simp only [hu, if_false]; rw [← a1 u, hnow]; simp; exact fun h => hu h.symm
    · intro u; simp only [AState.addShare, hr, ht, setFn]
      by_cases hu : u = t
      · subst hu; simp [htr]
      · simp only [hu, if_false]; exact a2 u
    · simpa [AState.addShare, hr] using a3
    · simp [AState.addShare, hw, acqWord]
    · simp [AState.addShare, hw, acqWord, hr]; exact a5
    · intro _; simp [AState.addShare, hw, acqWord]; exact hfree.2 rfl
    · simp [AState.addShare, hw, acqWord]; exact a7
  · refine ⟨?_, ?_, ?_, ?_, ?_, ?_, ?_⟩
    · intro u; simp only [AState.addShare, ho, ht, setFn]
      by_cases hu : u = t
      · subst hu; simp [hnow]
      · simp only [hu, if_false]; exact a1 u
    · intro u; simp only [AState.addShare, hr, ht, setFn]
      by_cases hu : u = t
      · subst hu; simp
      · simp only [hu, if_false, List.mem_cons, false_or]; exact a2 u
    · simp only [AState.addShare, hr, List.nodup_cons]; exact ⟨htr, a3⟩
    · simp [AState.addShare, hw, acqWord, ho, hnow, hfree.1]
    · simp [AState.addShare, hw, acqWord, hr]; exact a5
    · intro hx; simp [AState.addShare, hw, acqWord, hfree.1] at hx
    · simp [AState.addShare, hw, acqWord]; exact a7

theorem alock_rel {a X : AState} {t : Tid} {l : Mode} (h : ALock a)
    (hw1 : X.word.wlock = (subWord l a.word).wlock) (hw2 : X.word.readers = (subWord l a.word).readers)
    (hw3 : X.word.cond = a.word.cond)
    (ho : X.wOwner = a.wOwner) (hr : X.rOwners = a.rOwners)
    (ht : X.ts = a.ts) (hts : a.ts t = some l) (hs : hasShare l a.word = true) :
    ALock (X.subShare t l) := by
  obtain ⟨a1, a2, a3, a4, a5, a6, a7⟩ := h
  cases l
  · have hown : a.wOwner = some t := (a1 t).2 hts
    have hrd : a.word.readers = 0 := a6 (by simpa [hasShare] using hs)
    refine ⟨?_, ?_, ?_, ?_, ?_, ?_, ?_⟩
    · intro u; simp only [AState.subShare, ht, setFn]
      by_cases hu : u = t
      · subst hu; simp
      · simp only [hu, if_false]; rw [← a1 u, hown]; simp; exact fun h => hu h.symm
    · intro u; simp only [AState.subShare, hr, ht, setFn]
      by_cases hu : u = t
      · subst hu; simp; rw [a2 u, hts]; simp
      · simp only [hu, if_false]; exact a2 u
    · simpa [AState.subShare, hr] using a3
    · simp [AState.subShare, hw1, subWord]
    · simp [AState.subShare, hw2, subWord, hr]; exact a5
    · intro _; simp [AState.subShare, hw2, subWord]; exact hrd
    · simp [AState.subShare, hw3]; exact a7
  · have hmem : t ∈ a.rOwners := (a2 t).2 hts
    have hwl : a.word.wlock = false := by
      cases hx : a.word.wlock with
      | false => rfl
      | true => have := a6 hx; simp [hasShare, this] at hs
    have hnow : a.wOwner ≠ some t := fun hx => by rw [a1 t, hts] at hx; cases hx
    refine ⟨?_, ?_, ?_, ?_, ?_, ?_, ?_⟩
    · intro u; simp only [AState.subShare, ho, ht, setFn]
      by_cases hu : u = t
      · subst hu; simp [hnow]
      · simp only [hu, if_false]; exact a1 u
    · intro u; simp only [AState.subShare, hr, ht, setFn]
      by_cases hu : u = t
      · subst hu; simp [a3.mem_erase_iff]
      · simp only [hu, if_false]; rw [List.mem_erase_of_ne hu]; exact a2 u
    · simp only [AState.subShare, hr]; exact a3.erase t
    · simp [AState.subShare, hw1, subWord, ho]; exact a4
    · simp [AState.subShare, hw2, subWord, hr, List.length_erase_of_mem hmem]; rw [a5]
    · intro hx; simp [AState.subShare, hw1, subWord, hwl] at hx
    · simp [AState.subShare, hw3]; exact a7

theorem alock_step {cfg : Cfg} {a a' : AState} (h : ALock a) (st : AStep cfg a a') : ALock a' := by
  cases st with
  | acqFresh t l hro hts hb => exact alock_acq h rfl rfl rfl rfl hts (blocked_false_free hb)
  | enterSlow t l hro hts => exact h.congr rfl rfl rfl rfl rfl rfl
  | acqSlow t c hro hts hb =>
    exact alock_acq (X := (_ : AState).dropW c.w) (clear := c.clear) (lwl := c.lwl) h (by simp) (by simp) (by simp) (by simp) hts (blocked_false_free hb)
  | enq t c hro hsp hb => exact h.congr rfl rfl rfl rfl rfl rfl
  | adopt t c k hro hw hq ho hwt => exact h.congr rfl rfl rfl rfl rfl rfl
  | requeue t c k hro hw hq => exact h.congr rfl rfl rfl rfl rfl rfl
  | relSpin t c hro => exact h.congr rfl rfl rfl rfl rfl rfl
  | loopWait t c k hro hw hwt => exact h.congr rfl rfl rfl rfl rfl rfl
  | loopWoken t c k hro hw hwt => exact h.congr rfl rfl rfl rfl rfl rfl
  | pRet t c k hro hw hs => exact h.congr rfl rfl rfl rfl rfl rfl
  | release t l hro hts hs hc =>
    refine alock_rel h ?_ ?_ ?_ rfl rfl rfl hts hs <;> cases l <;> rfl
  | grab t l hro hts hs hu hsp =>
    have : ALock (({ a with word := grabWord l a.word, sp := some t } : AState).subShare t l) := by
      refine alock_rel h ?_ ?_ ?_ rfl rfl rfl hts hs <;> cases l <;> rfl
    exact this.congr (by simp) (by simp) (by simp) (by simp) (by simp) (by simp)
  | rcDone t sc hro => exact h.congr (by simp) (by simp) (by simp) (by simp) (by simp) (by simp)
  | finish t f hro =>
    refine h.congr rfl rfl ?_ rfl rfl rfl
    simp [finWord, h.cond]
  | wakeStore t k r hro => exact h.congr rfl rfl rfl rfl rfl rfl
  | post t k r hro => exact h.congr rfl rfl rfl rfl rfl rfl
  | envV k => exact h.congr rfl rfl rfl rfl rfl rfl
  | envSem k n ho => exact h.congr rfl rfl rfl rfl rfl rfl

theorem alock_init : ALock (abs init) := by
  refine ⟨?_, ?_, ?_, ?_, ?_, ?_, ?_⟩ <;> simp [abs, init, tshare, pcShare, Word.zero]


theorem aspin_same {a a' : AState} (h : ASpin a) (hw : a'.word.spin = a.word.spin) (hs : a'.sp = a.sp)
    (hr : ∀ u, (a'.ro u).spin = (a.ro u).spin) : ASpin a' :=
  ⟨fun t => by rw [hs, hr t]; exact h.own t, by rw [hw, hs]; exact h.bit⟩

theorem aspin_take {a a' : AState} {t : Tid} (h : ASpin a) (hfree : a.word.spin = false)
    (hw : a'.word.spin = true) (hs : a'.sp = some t) (hrt : (a'.ro t).spin = true)
    (hro : ∀ u, u ≠ t → a'.ro u = a.ro u) : ASpin a' := by
  have hnone : a.sp = none := by
    cases hx : a.sp with
    | none => rfl
    | some u => have := h.bit; rw [hx, hfree] at this; cases this
  refine ⟨fun u => ?_, by rw [hw, hs]; rfl⟩
  rw [hs]
  by_cases hu : u = t
  · subst hu; simp [hrt]
  · rw [hro u hu, ← h.own u, hnone]; simp; exact fun h => hu h.symm

theorem aspin_give {a a' : AState} {t : Tid} (h : ASpin a) (hown : (a.ro t).spin = true)
    (hw : a'.word.spin = false) (hs : a'.sp = none) (hrt : (a'.ro t).spin = false)
    (hro : ∀ u, u ≠ t → a'.ro u = a.ro u) : ASpin a' := by
  have hsp : a.sp = some t := (h.own t).2 hown
  refine ⟨fun u => ?_, by rw [hw, hs]; rfl⟩
  rw [hs]
  by_cases hu : u = t
  · subst hu; simp [hrt]
  · rw [hro u hu, ← h.own u, hsp]; simp; exact fun h => hu h.symm

theorem spin_setFn {a : AState} {t : Tid} {r : Role} (h : r.spin = (a.ro t).spin) (u : Tid) :
    (setFn a.ro t r u).spin = (a.ro u).spin := by
  simp only [setFn]; split
  · rename_i hu; subst hu; exact h
  · rfl

theorem roleAfter_spin (l : List Wid) : (roleAfter l).spin = false := by cases l <;> rfl

theorem aspin_step {cfg : Cfg} {a a' : AState} (h : ASpin a) (st : AStep cfg a a') : ASpin a' := by
  cases st with
  | acqFresh t l hro hts hb =>
    refine aspin_same h ?_ (by simp) (fun u => by simp)
    cases l <;> simp [acqWord]
  | enterSlow t l hro hts => exact aspin_same h rfl rfl (spin_setFn (by rw [hro]; rfl))
  | acqSlow t c hro hts hb =>
    refine aspin_same h ?_ (by simp) (fun u => by simp; exact spin_setFn (by rw [hro]; rfl) u)
    cases c.l <;> simp [acqWord]
  | enq t c hro hsp hb =>
    exact aspin_take (t := t) h hsp rfl rfl (by simp [Role.spin]) (setFn_others rfl)
  | adopt t c k hro hw hq ho hwt => exact aspin_same h rfl rfl (spin_setFn (by rw [hro]; rfl))
  | requeue t c k hro hw hq => exact aspin_same h rfl rfl (spin_setFn (by rw [hro]; rfl))
  | relSpin t c hro =>
    exact aspin_give (t := t) h (by rw [hro]; rfl) rfl rfl (by simp [Role.spin]) (setFn_others rfl)
  | loopWait t c k hro hw hwt => exact aspin_same h rfl rfl (spin_setFn (by rw [hro]; rfl))
  | loopWoken t c k hro hw hwt => exact aspin_same h rfl rfl (spin_setFn (by rw [hro]; rfl))
  | pRet t c k hro hw hs => exact aspin_same h rfl rfl (spin_setFn (by rw [hro]; rfl))
  | release t l hro hts hs hc =>
    refine aspin_same h ?_ (by simp) (fun u => by simp)
    cases l <;> simp [relUncWord]
  | grab t l hro hts hs hu hsp =>
    refine aspin_take (t := t) h hsp (by simp [grabWord]) (by simp) ?_ (fun u hu => by rw [AState.advance_ro_other _ _ _ _ hu]; simp)
    rcases AState.advance_ro_self (({ a with word := grabWord l a.word, sp := some t } : AState).subShare t l) t (scan0 a.queue) with ⟨sc', h1⟩ | ⟨f, h1⟩ <;> rw [h1] <;> rfl
  | rcDone t sc hro =>
    refine aspin_same h (by simp) (by simp) (fun u => ?_)
    by_cases hu : u = t
    · subst hu
      rcases AState.advance_ro_self a u sc with ⟨sc', h1⟩ | ⟨f, h1⟩ <;> rw [h1, hro] <;> rfl
    · rw [AState.advance_ro_other _ _ _ _ hu]
  | finish t f hro =>
    exact aspin_give (t := t) h (by rw [hro]; rfl) (by simp [finWord]) rfl (by simp [roleAfter_spin]) (setFn_others rfl)
  | wakeStore t k r hro => exact aspin_same h rfl rfl (spin_setFn (by rw [hro]; rfl))
  | post t k r hro =>
    exact aspin_same h rfl rfl (fun u => by simp; exact spin_setFn (by rw [hro, roleAfter_spin]; rfl) u)
  | envV k => exact aspin_same h rfl rfl (fun _ => rfl)
  | envSem k n ho => exact aspin_same h rfl rfl (fun _ => rfl)

theorem aspin_init : ASpin (abs init) := by
  refine ⟨?_, ?_⟩ <;> simp [abs, init, role, Role.spin, Word.zero]

end NsyncVerif.MuQ
