import NsyncVerif.Proofs.MuQFairSettle
/-
  MuQ, fair termination (C02): what becomes true for ever along a fair execution, part 2, and the
  conclusion.

  E  the spinlock is eventually free (`spin_freed`): otherwise, nobody enqueueing any more, the word
     and the spinlock owner are constant, and the owner — mu_release_spinlock, or the scan / final
     CAS of unlock_slow with no failing `remove_count` CAS — finishes in finitely many own steps;
     once free it stays free and the word is constant (`settled`);
  F  with the word constant and the spinlock free every CAS a thread attempts after re-reading the
     word succeeds, and no `waiting` flag changes any more, so: no contender that is not parked is left
     (`no_contender`: its own part of `acqRank` goes down with each of its steps), no thread owns a
     share (`no_stage2`; here, and only here, the hypothesis that holders call unlock / runlock);
  G  what is left are threads idle holding nothing and parked threads, and the invariants exclude the
     latter (`final_quiescent`).
-/
namespace NsyncVerif.MuQ

variable {cfg : Cfg} {s0 : State}

/-- E: the spinlock is eventually free. -/
theorem spin_freed (x : Exec cfg s0) (hr : Reachable cfg s0) (hf : WeakFair x) {n2 : Nat} (hz : Frozen x n2)
    (hrc : NoRcFails x n2) (hst : ∀ t j, n2 ≤ j → ∀ c, (x.ρ j).pc t ≠ .lsSt c) :
    ∃ n3, n2 ≤ n3 ∧ (x.ρ n3).sp = none := by
  apply Classical.byContradiction
  intro hno
  have hsp : ∀ j, n2 ≤ j → (x.ρ j).sp ≠ none := fun j hj h => hno ⟨j, hj, h⟩
  have hword : ∀ j, n2 ≤ j → (x.ρ (j + 1)).word = (x.ρ j).word := by
    intro j hj
    cases hs : x.σ j with
    | none => rw [x.next_none hs]
    | some e =>
      apply Classical.byContradiction; intro hne
      obtain ⟨t, _, h | ⟨c, h⟩ | ⟨_, h⟩⟩ := step_word_change (x.next_some hs) hne
      · have := hz t j hj; omega
      · exact hst t (j + 1) (by omega) c h
      · exact hsp (j + 1) (by omega) h
  have hspc : ∀ j, n2 ≤ j → (x.ρ (j + 1)).sp = (x.ρ j).sp := by
    intro j hj
    cases hs : x.σ j with
    | none => rw [x.next_none hs]
    | some e =>
      apply Classical.byContradiction; intro hne
      rcases step_sp_change (x.next_some hs) hne with h | ⟨t, _, h | ⟨c, h⟩⟩
      · exact hsp (j + 1) (by omega) h
      · have := hz t j hj; omega
      · exact hst t (j + 1) (by omega) c h
  have hW : ∀ d, (x.ρ (n2 + d)).word = (x.ρ n2).word ∧ (x.ρ (n2 + d)).sp = (x.ρ n2).sp := by
    intro d
    induction d with
    | zero => exact ⟨rfl, rfl⟩
    | succ d ih =>
      rw [show n2 + (d + 1) = n2 + d + 1 by omega, hword (n2 + d) (by omega), hspc (n2 + d) (by omega)]
      exact ih
  have hW' : ∀ j, n2 ≤ j → (x.ρ j).word = (x.ρ n2).word ∧ (x.ρ j).sp = (x.ρ n2).sp := by
    intro j hj
    have := hW (j - n2); rw [show n2 + (j - n2) = j by omega] at this; exact this
  cases hv : (x.ρ n2).sp with
  | none => exact hsp n2 (Nat.le_refl _) hv
  | some v =>
    have hrole : ∀ j, n2 ≤ j → (role ((x.ρ j).pc v)).spin = true := by
      intro j hj
      have inv := reachable_inv (x.reach hr j)
      exact (inv.spin.own v).1 (by show (x.ρ j).sp = some v; rw [(hW' j hj).2, hv])
    have := chain x v n2 (fun _ => True) (fun j => spinRank (x.ρ n2).word ((x.ρ j).pc v))
      (fun j _ _ hnm => by
        obtain ⟨a, _⟩ := not_moves_frame x hnm
        simp only [a]; exact ⟨trivial, Nat.le_refl _⟩)
      (fun j hj _ hm => by
        obtain ⟨e, he, hown⟩ := hm.own
        have := spin_own hown (hrc j e hj he) (hrole j hj) (hst v j hj) (hsp (j + 1) (by omega))
        rw [(hW' j hj).1] at this
        exact ⟨trivial, this⟩)
      (fun j hj _ => by
        obtain ⟨a, b⟩ := spin_not_idle (hrole j hj)
        exact fair_move_pc x hf a b)
      n2 (Nat.le_refl _)
    exact this trivial

/-- The execution has settled at time `n`: stages frozen, nobody past a point of no return, nobody at
    the enqueue store, spinlock free and word constant for ever. -/
structure Settled (x : Exec cfg s0) (n : Nat) : Prop where
  frozen : Frozen x n
  noExit : ∀ t j, n ≤ j → exitRank ((x.ρ j).pc t) = 0
  noSt : ∀ t j, n ≤ j → ∀ c, (x.ρ j).pc t ≠ .lsSt c
  sp : ∀ j, n ≤ j → (x.ρ j).sp = none
  word : ∀ j, n ≤ j → (x.ρ j).word = (x.ρ n).word

theorem settled (x : Exec cfg s0) (hr : Reachable cfg s0) {n3 : Nat} (hz : Frozen x n3)
    (hx : ∀ t j, n3 ≤ j → exitRank ((x.ρ j).pc t) = 0)
    (hst : ∀ t j, n3 ≤ j → ∀ c, (x.ρ j).pc t ≠ .lsSt c) (h0 : (x.ρ n3).sp = none) : Settled x n3 := by
  have hsp : ∀ d, (x.ρ (n3 + d)).sp = none := by
    intro d
    induction d with
    | zero => exact h0
    | succ d ih =>
      rw [show n3 + (d + 1) = n3 + d + 1 by omega]
      cases hs : x.σ (n3 + d) with
      | none => rw [x.next_none hs]; exact ih
      | some e =>
        apply Classical.byContradiction; intro hne
        have hne' : (x.ρ (n3 + d + 1)).sp ≠ (x.ρ (n3 + d)).sp := by rw [ih]; exact hne
        rcases step_sp_change (x.next_some hs) hne' with h | ⟨t, _, h | ⟨c, h⟩⟩
        · exact hne h
        · have := hz t (n3 + d) (by omega); omega
        · exact hst t (n3 + d + 1) (by omega) c h
  have hsp' : ∀ j, n3 ≤ j → (x.ρ j).sp = none := by
    intro j hj
    have := hsp (j - n3); rw [show n3 + (j - n3) = j by omega] at this; exact this
  have hword : ∀ d, (x.ρ (n3 + d)).word = (x.ρ n3).word := by
    intro d
    induction d with
    | zero => rfl
    | succ d ih =>
      rw [show n3 + (d + 1) = n3 + d + 1 by omega, ← ih]
      cases hs : x.σ (n3 + d) with
      | none => rw [x.next_none hs]
      | some e =>
        apply Classical.byContradiction; intro hne
        obtain ⟨t, _, h | ⟨c, h⟩ | ⟨h, _⟩⟩ := step_word_change (x.next_some hs) hne
        · have := hz t (n3 + d) (by omega); omega
        · exact hst t (n3 + d + 1) (by omega) c h
        · have inv := reachable_inv (x.reach hr (n3 + d))
          have := (inv.spin.own t).2 h
          have e2 : (x.ρ (n3 + d)).sp = some t := this
          rw [hsp d] at e2; cases e2
  refine ⟨hz, hx, hst, hsp', fun j hj => ?_⟩
  have := hword (j - n3); rw [show n3 + (j - n3) = j by omega] at this; exact this

theorem Settled.nospin {x : Exec cfg s0} {n : Nat} (h : Settled x n) (hr : Reachable cfg s0) {j : Nat} (hj : n ≤ j) :
    (x.ρ j).word.spin = false ∧ ∀ t, (role ((x.ρ j).pc t)).spin = false := by
  have inv := reachable_inv (x.reach hr j)
  constructor
  · have : (x.ρ j).word.spin = (x.ρ j).sp.isSome := inv.spin.bit
    rw [this, h.sp j hj]; rfl
  · intro t
    cases hb : (role ((x.ρ j).pc t)).spin with
    | false => rfl
    | true =>
      have : (x.ρ j).sp = some t := (inv.spin.own t).2 hb
      rw [h.sp j hj] at this; cases this

theorem Settled.word_step {x : Exec cfg s0} {n : Nat} (h : Settled x n) {j : Nat} (hj : n ≤ j) :
    (x.ρ (j + 1)).word = (x.ρ j).word := by
  rw [h.word j hj, h.word (j + 1) (by omega)]

/-- Once settled no `waiting` flag changes. -/
theorem Settled.waiting_step {x : Exec cfg s0} {n : Nat} (h : Settled x n) {j : Nat} (hj : n ≤ j) (k : Wid) :
    ((x.ρ (j + 1)).wr k).waiting = ((x.ρ j).wr k).waiting := by
  cases hs : x.σ j with
  | none => rw [x.next_none hs]
  | some e =>
    rcases (step_wr_at (x.next_some hs) k).waiting with a | ⟨_, u, c, hu⟩ | ⟨_, u, l, r, hu⟩
    · exact a
    · exact absurd hu (h.noSt u j hj c)
    · have := h.noExit u j hj; simp [hu, exitRank] at this

/-- A contender that does not move stays one, with the same own part of its rank. -/
theorem Settled.contender_stay {x : Exec cfg s0} {n : Nat} (h : Settled x n) {t : Tid} {j : Nat} (hj : n ≤ j)
    (hR : Contender (x.ρ j) t) (hnm : ¬ Moves x t j) :
    Contender (x.ρ (j + 1)) t ∧ ownPart (x.ρ (j + 1)) t = ownPart (x.ρ j) t := by
  obtain ⟨a, b⟩ := not_moves_frame x hnm
  have hw : waitingOf (x.ρ (j + 1)).wr (slRec ((x.ρ j).pc t)) = waitingOf (x.ρ j).wr (slRec ((x.ρ j).pc t)) := by
    cases slRec ((x.ρ j).pc t) with
    | none => rfl
    | some k => exact h.waiting_step hj k
  refine ⟨⟨by rw [a]; exact hR.1, by rw [stage_congr a b]; exact hR.2.1,
    fun ⟨c, k, hc, hk, hwt⟩ => hR.2.2 ⟨c, k, by rw [← a]; exact hc, hk, ?_⟩⟩, ?_⟩
  · rw [← h.waiting_step hj k]; exact hwt
  · simp only [ownPart, a, h.word_step hj, hw]

/-- F1: no contender is left. -/
theorem no_contender (x : Exec cfg s0) (hr : Reachable cfg s0) (hf : WeakFair x) {n : Nat} (h : Settled x n) :
    ∀ t j, n ≤ j → ¬ Contender (x.ρ j) t := by
  intro t
  refine chain x t n (fun j => Contender (x.ρ j) t) (fun j => ownPart (x.ρ j) t) ?_ ?_ ?_
  · intro j hj hR hnm
    obtain ⟨a, b⟩ := h.contender_stay hj hR hnm
    exact ⟨a, Nat.le_of_eq b⟩
  · intro j hj hR ⟨e, he, ht⟩
    have h3 : stage (x.ρ (j + 1)) t = 3 := by rw [h.frozen t j hj]; exact hR.2.1
    rcases acq_own (M := 0) (x.reach hr j) hR.1 (.inl (h.sp j hj)) (tstep_of_step (x.next_some he) ht) with hid | nx
    · have := stage_idle_le hid; omega
    · refine ⟨⟨nx.pc, h3, fun hp => ?_⟩, ?_⟩
      · rcases nx.park hp with h1 | ⟨c, h1⟩
        · exact hR.2.2 h1
        · exact h.noSt t j hj c h1
      · rcases nx.own with h1 | ⟨h1, _⟩
        · exact h1
        · exact absurd h1 hR.2.2
  · intro j hj hR
    apply fair_move x hf
    intro j' hj' hnm
    obtain ⟨hacq, _, hnp⟩ : Contender (x.ρ j') t :=
      Sched.inv_between (M := Moves x t) (P := fun j => Contender (x.ρ j) t)
        (fun k hk hR hnm => (h.contender_stay (by omega) hR hnm).1) hR hj' hnm
    refine ⟨fun hi => ?_, ?_⟩
    · rw [hi] at hacq; cases hacq
    -- asleep and not parked: `waiting` is clear, so the count is not 0 or a V is pending in an unlocker
    rintro ⟨c, k, hp, hw, hs⟩
    have inv := reachable_inv (x.reach hr j')
    cases hwt : ((x.ρ j').wr k).waiting with
    | true => exact hnp ⟨c, k, by rw [hp]; rfl, hw, hwt⟩
    | false =>
      rcases inv.live.post t c k (by show role ((x.ρ j').pc t) = _; rw [hp]; rfl) hw hwt with h1 | ⟨u, r, hu⟩
      · exact h1 hs
      · have hu' : role ((x.ρ j').pc u) = .wakeV k r := hu
        have := h.noExit u j' (by omega)
        cases hpu : (x.ρ j').pc u <;> rw [hpu] at hu' <;> simp [role] at hu'
        simp [hpu, exitRank] at this

theorem stage2_pc {s : State} {t : Tid} (h : stage s t = 2) :
    (s.pc t = .idle ∧ s.held t ≠ none) ∨ (s.pc t ≠ .idle ∧ ∀ c, s.pc t ≠ .lsPRet c) := by
  cases hp : s.pc t <;> simp [stage, hp] at h ⊢
  exact h

/-- F2: no thread owns a share.  (The only use of `HoldersRelease`.) -/
theorem no_stage2 (x : Exec cfg s0) (hr : Reachable cfg s0) (hf : WeakFair x) (hh : HoldersRelease x)
    {n : Nat} (h : Settled x n) : ∀ t j, n ≤ j → stage (x.ρ j) t ≠ 2 := by
  intro t
  refine chain x t n (fun j => stage (x.ρ j) t = 2) (fun j => rank2 (x.ρ n).word ((x.ρ j).pc t)) ?_ ?_ ?_
  · intro j _ hR hnm
    obtain ⟨a, b⟩ := not_moves_frame x hnm
    simp only [a]; exact ⟨by rw [stage_congr a b]; exact hR, Nat.le_refl _⟩
  · intro j hj hR hm
    obtain ⟨e, _, hown⟩ := hm.own
    have h2 : stage (x.ρ (j + 1)) t = 2 := by rw [h.frozen t j hj]; exact hR
    have := stage2_own hown hR h2 (h.nospin hr hj).1
    rw [h.word j hj] at this
    exact ⟨h2, this⟩
  · intro j _ hR
    rcases stage2_pc hR with ⟨_, hheld⟩ | ⟨h1, h2⟩
    · obtain ⟨j', a, hj', hs⟩ := hh t j hheld
      exact ⟨j', hj', .call t a, hs, rfl⟩
    · exact fair_move_pc x hf h1 h2

/-- G: a fair execution in which holders release, arrivals stop and `remove_count` CASes stop
    failing reaches a state in which every thread is idle holding nothing, and stays there. -/
theorem fair_quiescence (x : Exec cfg s0) (hr : Reachable cfg s0) (hf : WeakFair x) (hh : HoldersRelease x)
    {n0 : Nat} (hq : NoArrivals x n0) (hrc : NoRcFails x n0) :
    ∃ n, n0 ≤ n ∧ ∀ j, n ≤ j → ∀ t, IdleHoldingNothing (x.ρ j) t := by
  obtain ⟨n1, h1, hz1⟩ := stages_freeze x hr hq
  have hx1 := no_exit x hr hf hz1
  obtain ⟨n2, h2, hst2⟩ := no_lsSt x hr hf hz1 hx1
  obtain ⟨n3, h3, hsp3⟩ := spin_freed x hr hf (hz1.mono h2) (fun j e hj => hrc j e (by omega)) hst2
  have hS : Settled x n3 := settled x hr (hz1.mono (by omega)) (fun t j hj => hx1 t j (by omega))
    (fun t j hj => hst2 t j (by omega)) hsp3
  have hc := no_contender x hr hf hS
  have h2' := no_stage2 x hr hf hh hS
  have hns := (hS.nospin hr (Nat.le_refl n3)).2
  have hfin : ∀ t, IdleHoldingNothing (x.ρ n3) t :=
    final_quiescent (x.reach hr n3) fun t =>
      (classify_final (hS.noExit t n3 (Nat.le_refl _)) (hns t) (hc t n3 (Nat.le_refl _))
        (h2' t n3 (Nat.le_refl _))).imp_right fun hp => ⟨hp, hns t⟩
  refine ⟨n3, by omega, fun j hj t => ?_⟩
  have := hS.frozen.const t (Nat.le_refl n3) (j - n3)
  rw [show n3 + (j - n3) = j by omega, stage_of_ihn (hfin t)] at this
  exact stage_zero this

end NsyncVerif.MuQ
