/-
  Proofs/WaitNTouch.lean — who can touch a waiter record: every accepted event that accesses
  `nw->waiting` of record r, or posts with `nw->sem` of r, is of one of five kinds.
-/
import NsyncVerif.Proofs.WaitNQInv


namespace WaitN

/-- the kinds of accesses to record r by thread u -/
inductive TouchKind (s s' : State) (u : Tid) (e : Ev) (r : Rid) : Prop
  | init (i : Nat) (hpc : s.pc u = .wInit i) (ho : (s'.rcd r).owner = u)
  | own (hr : r ∈ (s.fr u).recs) (hc : inCall (s.pc u) = true) (hf : (s.fr u).frees = 0)
  | pop (o : ObjId) (hq : r ∈ (s.obj o).queue)
  | clear (c : Nat) (l : List Rid) (hwk : wk (s.pc u) = some (c, l)) (hp : s.post u = none) (hr : r ∈ l)
  | post (j : SemId) (he : e = .semV j) (hp : s.post u = some r) (hw : wk (s.pc u) = none)

theorem touches_semV {s : State} {u : Tid} {j : SemId} {r : Rid} (ht : touches s u (.semV j) r) :
    s.post u = some r ∧ wk (s.pc u) = none := by
  simp only [touches] at ht
  cases hp : s.pc u <;> rw [hp] at ht <;> first | exact ht.elim | exact ⟨ht, rfl⟩

theorem touches_cases {s : State} {u : Tid} {e : Ev} {r : Rid} (ht : touches s u e r) :
    (∃ o fn obs, e = .ld o (.waiting r) fn obs) ∨ (∃ o fn new obs, e = .st o (.waiting r) fn new obs)
    ∨ (∃ o fn exp new obs ok, e = .cas o (.waiting r) fn exp new obs ok) ∨ (∃ j, e = .semV j ∧ s.post u = some r) := by
  cases e with
  | ld o loc fn obs => cases loc <;> simp [touches] at ht; subst ht; exact .inl ⟨_, _, _, rfl⟩
  | st o loc fn new obs => cases loc <;> simp [touches] at ht; subst ht; exact .inr (.inl ⟨_, _, _, _, rfl⟩)
  | cas o loc fn exp new obs ok =>
    cases loc <;> simp [touches] at ht; subst ht; exact .inr (.inr (.inl ⟨_, _, _, _, _, _, rfl⟩))
  | semV j => exact .inr (.inr (.inr ⟨j, rfl, (touches_semV ht).1⟩))
  | _ => simp [touches] at ht

theorem dflt_touch {s s' : State} {u : Tid} {e : Ev} {r : Rid} (h : dflt s u e = .ok s')
    (ht : touches s u e r) : TouchKind s s' u e r := by
  rcases touches_cases ht with ⟨o, fn, obs, rfl⟩ | ⟨o, fn, new, obs, rfl⟩ | ⟨o, fn, exp, new, obs, ok, rfl⟩ | ⟨j, rfl, hp⟩
  · simp [dflt] at h
  · simp [dflt] at h
  · simp [dflt] at h
  · exact .post j rfl (touches_semV ht).1 (touches_semV ht).2

theorem proto_touch {s s' : State} {u : Tid} {e : Ev} {r : Rid} (h : proto s u e = .ok s')
    (ht : touches s u e r) : TouchKind s s' u e r := by
  unfold proto at h
  split at h
  all_goals try (simp [touches] at ht; done)
  · -- pop
    rename_i r' fn new obs
    simp only [touches] at ht
    subst ht
    dsimp only at h
    split at h
    · simp at h
    · rename_i hd tl hq
      split at h
      · rename_i hg
        exact .pop _ (by rw [hq, hg.1]; simp)
      · simp at h
  · -- semV
    exact .post _ rfl (touches_semV ht).1 (touches_semV ht).2
  · exact dflt_touch h ht

theorem stepOpen_touch {s s' : State} {u : Tid} {e : Ev} {r : Rid} (h : stepOpen s u e = .ok s')
    (ht : touches s u e r) : TouchKind s s' u e r := by
  unfold stepOpen at h
  split at h
  · split at h
    · simp [touches] at ht
    · exact dflt_touch h ht
  · split at h
    · simp [touches] at ht
    · exact dflt_touch h ht
  · exact proto_touch h ht

theorem spinAcq_touch {s s' : State} {u : Tid} {c : Nat} {st : SpinSt} {mk : SpinSt → PC} {done : PC} {e : Ev} {r : Rid}
    (h : spinAcq s u c st mk done e = .ok s') (ht : touches s u e r) : TouchKind s s' u e r := by
  unfold spinAcq at h
  split at h
  · simp [touches] at ht
  · simp [touches] at ht
  · exact dflt_touch h ht

set_option hygiene false in
macro "touch_leaf" : tactic =>
  `(tactic| first
    | exact dflt_touch h ht
    | exact stepOpen_touch h ht
    | exact spinAcq_touch h ht
    | (simp [touches] at ht; done)
    | (simp only [touches] at ht; subst ht
       have hg1 := (‹_ ∧ _› : _ ∧ _).1
       subst hg1
       exact .own (List.mem_of_getElem? ‹(s.fr u).recs[_]? = some _›) hc hf)
    | (simp only [touches] at ht; subst ht
       exact .own (List.mem_of_getElem? ‹(s.fr u).recs[_]? = some _›) hc hf))

theorem touch_stepThr {s s' : State} {u : Tid} {e : Ev} {r : Rid} (hl : LInv (s.pc u) (s.fr u))
    (h : stepThr s u e = .ok s') (ht : touches s u e r) : TouchKind s s' u e r := by
  unfold stepThr at h
  split at h <;> rename_i hpc
  · -- idle
    unfold stepIdle at h
    split_ok h <;> touch_leaf
  · simp at h
  · -- sg
    unfold stepSg at h
    split at h
    · split_ok h <;> touch_leaf
    · exact spinAcq_touch h ht
    · split_ok h <;> touch_leaf
    · -- wake
      rename_i l
      split at h
      · simp only [touches] at ht
        subst ht
        split at h
        · rename_i hg
          exact .clear _ _ (by rw [hpc]; rfl) ‹s.post u = none› (by rw [hg.1]; simp)
        · simp at h
      · have := (touches_semV ht).2; rw [hpc] at this; simp [wk] at this
      · have := (touches_semV ht).2; rw [hpc] at this; simp [wk] at this
      · exact dflt_touch h ht
    · split_ok h <;> touch_leaf
  · -- wCtrRT
    unfold stepCtrRT at h
    split_ok h <;> first | touch_leaf | (have := shared_rtDone h; simp [touches] at ht; done)
  · -- wND
    unfold stepND at h
    split_ok h <;> first | touch_leaf | (simp [touches] at ht; done)
  · -- wEnqCv
    have hc : inCall (s.pc u) = true := by rw [hpc]; rfl
    have hf : (s.fr u).frees = 0 := (hpc ▸ hl : LInv (.wEnqCv _ _) _).1.frees
    unfold stepEnqCv at h
    split_ok h <;> touch_leaf
  · -- wEnq
    have hc : inCall (s.pc u) = true := by rw [hpc]; rfl
    have hf : (s.fr u).frees = 0 := (hpc ▸ hl : LInv (.wEnq _ _) _).1.frees
    unfold stepEnq at h
    split_ok h <;> touch_leaf
  · -- wDeqCv
    have hc : inCall (s.pc u) = true := by rw [hpc]; rfl
    have hf : (s.fr u).frees = 0 := (hpc ▸ hl : LInv (.wDeqCv _ _) _).1.frees
    unfold stepDeqCv at h
    split_ok h <;> touch_leaf
  · -- wDeq
    have hc : inCall (s.pc u) = true := by rw [hpc]; rfl
    have hf : (s.fr u).frees = 0 := (hpc ▸ hl : LInv (.wDeq _ _) _).1.frees
    unfold stepDeq at h
    split_ok h <;> touch_leaf
  · unfold stepAlloc at h; split_ok h <;> touch_leaf
  · -- wInit
    rename_i i
    unfold stepInit at h
    dsimp only at h
    split at h
    · rename_i r' new obs oid hoid
      simp only [touches] at ht
      subst ht
      split at h
      · cases h
        refine .init i hpc ?_
        simp
      · simp at h
    · exact dflt_touch h ht
  · unfold stepUnlockMu at h; split_ok h <;> touch_leaf
  · -- wCvRT
    have hc : inCall (s.pc u) = true := by rw [hpc]; rfl
    have hf : (s.fr u).frees = 0 := (hpc ▸ hl : LInv (.wCvRT _) _).1.frees
    unfold stepCvRT at h
    split_ok h <;> touch_leaf
  · unfold stepPdEnter at h; split_ok h <;> touch_leaf
  · unfold stepPdWait at h; split_ok h <;> touch_leaf
  · unfold stepFree at h; split_ok h <;> touch_leaf
  · unfold stepRelock at h; split_ok h <;> touch_leaf
  · unfold stepRet at h; split_ok h <;> touch_leaf

end WaitN
