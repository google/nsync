import NsyncVerif.Proofs.MuCFairWit
/-
  MuC, fair termination: executable criteria for the hypotheses of `C06_fair_termination_full` on a lasso (a finite
  accepted trace followed by a loop repeated for ever), for the necessity witnesses of Props/C06Fair.lean.
-/
namespace NsyncVerif.MuC

variable {cfg : Cfg} {evs loop : List Event} {sf : State}

theorem lasso_head (h : run cfg init evs = .ok sf) (hl : run cfg sf loop = .ok sf) (hp : 0 < loop.length) {j : Nat}
    (hj : j < evs.length) :
    (lassoExec cfg evs loop sf h hl hp).ρ j = stateAt cfg evs j ∧ (lassoExec cfg evs loop sf h hl hp).σ j = evs[j]? := by
  simp [lassoExec, hj]

/-- A state check that holds along the trace and along the loop holds at every time of the lasso. -/
theorem lasso_all (h : run cfg init evs = .ok sf) (hl : run cfg sf loop = .ok sf) (hp : 0 < loop.length)
    (f : State → Bool) (h1 : allStates cfg f init evs = true) (h2 : allStates cfg f sf loop = true) (j : Nat) :
    f ((lassoExec cfg evs loop sf h hl hp).ρ j) = true := by
  by_cases hj : j < evs.length
  · rw [(lasso_head h hl hp hj).1]; exact allStates_stateAt h h1 j
  · rw [(lassoExec_tail h hl hp (by omega)).1]
    exact allStates_take loop sf h2 _ _ (stateFrom_ok hl _)

theorem untouched_loop (h : run cfg init evs = .ok sf) (hl : run cfg sf loop = .ok sf) {T : Nat}
    (hT : tidsBelow T evs = true) (hT2 : tidsBelow T loop = true) {t : Tid} (ht : ¬ t < T) (r : Nat) :
    (stateFrom cfg sf (loop.take r)).pc t = .idle ∧ (stateFrom cfg sf (loop.take r)).held t = none := by
  have hne : ∀ e ∈ loop.take r, e.tid ≠ some t := by
    intro e he htid
    simp only [tidsBelow, List.all_eq_true] at hT2
    have := hT2 e (List.mem_of_mem_take he)
    rw [htid] at this
    exact ht (by simpa using this)
  obtain ⟨a, b⟩ := run_other t (loop.take r) sf _ hne (stateFrom_ok hl r)
  have := untouched_stateAt h hT ht evs.length
  rw [stateAt_ge h (Nat.le_refl _)] at this
  exact ⟨by rw [a]; exact this.1, by rw [b]; exact this.2⟩

/-- Threads that occur neither in the trace nor in the loop are idle holding nothing at all times. -/
theorem lasso_untouched (h : run cfg init evs = .ok sf) (hl : run cfg sf loop = .ok sf) (hp : 0 < loop.length) {T : Nat}
    (hT : tidsBelow T evs = true) (hT2 : tidsBelow T loop = true) {t : Tid} (ht : ¬ t < T) (j : Nat) :
    ((lassoExec cfg evs loop sf h hl hp).ρ j).pc t = .idle ∧ ((lassoExec cfg evs loop sf h hl hp).ρ j).held t = none := by
  by_cases hj : j < evs.length
  · rw [(lasso_head h hl hp hj).1]; exact untouched_stateAt h hT ht j
  · rw [(lassoExec_tail h hl hp (by omega)).1]; exact untouched_loop h hl hT hT2 ht _

/-- A per-thread check that holds along the trace and along the loop holds for every thread at every time. -/
theorem lasso_all_thr (h : run cfg init evs = .ok sf) (hl : run cfg sf loop = .ok sf) (hp : 0 < loop.length) {T : Nat}
    (hT : tidsBelow T evs = true) (hT2 : tidsBelow T loop = true) (g : State → Tid → Bool)
    (hidle : ∀ s t, s.pc t = .idle → s.held t = none → g s t = true)
    (h1 : allStates cfg (fun s => (List.range T).all (g s)) init evs = true)
    (h2 : allStates cfg (fun s => (List.range T).all (g s)) sf loop = true) (j : Nat) (t : Tid) :
    g ((lassoExec cfg evs loop sf h hl hp).ρ j) t = true := by
  by_cases ht : t < T
  · have := lasso_all h hl hp _ h1 h2 j
    simp only [List.all_eq_true, List.mem_range] at this
    exact this t ht
  · obtain ⟨a, b⟩ := lasso_untouched h hl hp hT hT2 ht j
    exact hidle _ _ a b

theorem lasso_note (h : run cfg init evs = .ok sf) (hl : run cfg sf loop = .ok sf) (hp : 0 < loop.length) {T : Nat}
    (hT : tidsBelow T evs = true) (hT2 : tidsBelow T loop = true)
    (h1 : allStates cfg (fun s => (List.range T).all (noteB s)) init evs = true)
    (h2 : allStates cfg (fun s => (List.range T).all (noteB s)) sf loop = true)
    (hns : (evs ++ loop).all (fun e => !e.isNoteSeen) = true) :
    NoteHonoured (lassoExec cfg evs loop sf h hl hp) := by
  refine ⟨?_, ?_⟩
  · intro j t c dl hpc
    have := lasso_all_thr h hl hp hT hT2 noteB (fun s t a _ => noteB_idle s t a) h1 h2 j t
    simpa [noteB, hpc] using this
  · intro j t c _ _ hσ
    have hmem : Event.noteSeen t ∈ evs ++ loop := by
      by_cases hj : j < evs.length
      · rw [(lasso_head h hl hp hj).2] at hσ
        exact List.mem_append_left _ (List.mem_of_getElem? hσ)
      · rw [(lassoExec_tail h hl hp (by omega)).2] at hσ
        exact List.mem_append_right _ (List.mem_of_getElem? hσ)
    have := (List.all_eq_true.mp hns) _ hmem
    simp [Event.isNoteSeen] at this

theorem lasso_contract (h : run cfg init evs = .ok sf) (hl : run cfg sf loop = .ok sf) (hp : 0 < loop.length)
    (h1 : allStates cfg (fun s => !s.nwViol) init evs = true) (h2 : allStates cfg (fun s => !s.nwViol) sf loop = true) :
    ContractKept (lassoExec cfg evs loop sf h hl hp) := by
  intro j
  have := lasso_all h hl hp _ h1 h2 j
  show ((lassoExec cfg evs loop sf h hl hp).ρ j).nwViol = false
  simpa using this

theorem lasso_clock (h : run cfg init evs = .ok sf) (hl : run cfg sf loop = .ok sf) (hp : 0 < loop.length) {T : Nat}
    (hT : tidsBelow T evs = true) (hT2 : tidsBelow T loop = true)
    (h1 : allStates cfg (fun s => (List.range T).all (clockB s)) init evs = true)
    (h2 : allStates cfg (fun s => (List.range T).all (clockB s)) sf loop = true) :
    ClockAdvances (lassoExec cfg evs loop sf h hl hp) := by
  intro t i c d hpc
  have := lasso_all_thr h hl hp hT hT2 clockB (fun s t a _ => clockB_idle s t a) h1 h2 i t
  refine ⟨i, Nat.le_refl _, Or.inl ?_⟩
  simpa [clockB, hpc] using this

def heldNoneB (s : State) (t : Tid) : Bool := decide (s.held t = none)

/-- Nobody holds the mutex along the loop: holders release. -/
theorem lasso_release (h : run cfg init evs = .ok sf) (hl : run cfg sf loop = .ok sf) (hp : 0 < loop.length) {T : Nat}
    (hT : tidsBelow T evs = true) (hT2 : tidsBelow T loop = true)
    (h2 : allStates cfg (fun s => (List.range T).all (heldNoneB s)) sf loop = true) :
    HoldersRelease (lassoExec cfg evs loop sf h hl hp) := by
  apply holdersRelease_of_quiescent _ (reachable_init cfg) evs.length
  intro j hj t
  rw [(lassoExec_tail h hl hp hj).1]
  by_cases ht : t < T
  · have := allStates_take loop sf h2 _ _ (stateFrom_ok hl ((j - evs.length) % loop.length))
    simp only [List.all_eq_true, List.mem_range, heldNoneB, decide_eq_true_eq] at this
    exact this t ht
  · exact (untouched_loop h hl hT hT2 ht _).2

/-- Events of a kind that does not occur in the loop occur only finitely often. -/
theorem lasso_finite (h : run cfg init evs = .ok sf) (hl : run cfg sf loop = .ok sf) (hp : 0 < loop.length)
    (p : Event → Bool) (hall : loop.all (fun e => !p e) = true) :
    ∃ n, ∀ j e, n ≤ j → (lassoExec cfg evs loop sf h hl hp).σ j = some e → p e = false := by
  refine ⟨evs.length, fun j e hj he => ?_⟩
  rw [(lassoExec_tail h hl hp hj).2] at he
  simpa using (List.all_eq_true.mp hall) e (List.mem_of_getElem? he)

/-- The loop position `r` comes round again and again. -/
theorem lasso_pos (hp : 0 < loop.length) (i : Nat) {r : Nat} (hr : r < loop.length) :
    ∃ j, i ≤ j ∧ evs.length ≤ j ∧ (j - evs.length) % loop.length = r :=
  ⟨evs.length + loop.length * i + r, by
    have : i ≤ loop.length * i := Nat.le_mul_of_pos_left i hp
    omega, by omega, by
    rw [show evs.length + loop.length * i + r - evs.length = r + loop.length * i by omega, Nat.add_mul_mod_self_left]
    exact Nat.mod_eq_of_lt hr⟩

/-- Thread `u` moves at loop position `r0`; every other thread is idle or asleep all along the loop: weakly fair. -/
theorem lasso_weakFair (h : run cfg init evs = .ok sf) (hl : run cfg sf loop = .ok sf) (hp : 0 < loop.length) {T : Nat}
    (hT : tidsBelow T evs = true) (hT2 : tidsBelow T loop = true) (u : Tid) {r0 : Nat} {e0 : Event}
    (hr0 : loop[r0]? = some e0) (hu : e0.tid = some u) (hd : e0.isData = false)
    (h2 : allStates cfg (fun s => (List.range T).all (fun t => decide (t = u) || decide (s.pc t = .idle) || asleepSemB s t))
      sf loop = true) :
    WeakFair (lassoExec cfg evs loop sf h hl hp) := by
  intro t i hne
  by_cases htu : t = u
  · subst htu
    have hr : r0 < loop.length := by
      apply Classical.byContradiction; intro hge
      rw [List.getElem?_eq_none (by omega)] at hr0; cases hr0
    obtain ⟨j, h1, h2', h3⟩ := lasso_pos (evs := evs) hp i hr
    exact ⟨j, e0, h1, by rw [(lassoExec_tail h hl hp h2').2, h3]; exact hr0, hu, hd⟩
  · exfalso
    have hj : evs.length ≤ max i evs.length := by omega
    obtain ⟨a, b⟩ := hne (max i evs.length) (by omega)
    rw [(lassoExec_tail h hl hp hj).1] at a b
    by_cases ht : t < T
    · have := allStates_take loop sf h2 _ _ (stateFrom_ok hl ((max i evs.length - evs.length) % loop.length))
      simp only [List.all_eq_true, List.mem_range, Bool.or_eq_true, decide_eq_true_eq] at this
      rcases this t ht with (c | c) | c
      · exact htu c
      · exact a c
      · exact b ((asleepSemB_iff _ _).1 c)
    · exact a (untouched_loop h hl hT hT2 ht _).1

/-- A state check that holds along the trace from position `n` on and along the loop holds at every time `≥ n`. -/
theorem lasso_from (h : run cfg init evs = .ok sf) (hl : run cfg sf loop = .ok sf) (hp : 0 < loop.length)
    (f : State → Bool) (n : Nat) (h1 : allStates cfg f (stateAt cfg evs n) (evs.drop n) = true)
    (h2 : allStates cfg f sf loop = true) (j : Nat) (hj : n ≤ j) :
    f ((lassoExec cfg evs loop sf h hl hp).ρ j) = true := by
  by_cases hlt : j < evs.length
  · rw [(lasso_head h hl hp hlt).1]; exact allStates_from h n h1 j hj
  · rw [(lassoExec_tail h hl hp (by omega)).1]
    exact allStates_take loop sf h2 _ _ (stateFrom_ok hl _)

theorem setPc_setPc_self {s : State} {t : Tid} {p1 p2 : PC} (h : s.pc t = p2) :
    setPc (setPc s t p1) t p2 = s := by
  cases s
  simp only [setPc, State.mk.injEq, true_and, and_true] at h ⊢
  funext u
  simp only [setFn]
  split
  · rename_i hu; subst hu; exact h.symm
  · rfl

/-- Every thread below `T` either moves somewhere in the loop or is idle or asleep all along the loop: weakly fair. -/
theorem lasso_weakFairB (h : run cfg init evs = .ok sf) (hl : run cfg sf loop = .ok sf) (hp : 0 < loop.length) {T : Nat}
    (hT : tidsBelow T evs = true) (hT2 : tidsBelow T loop = true)
    (h2 : (List.range T).all (fun t => loop.any (fun e => decide (e.tid = some t) && !e.isData) ||
      allStates cfg (fun s => decide (s.pc t = .idle) || asleepSemB s t) sf loop) = true) :
    WeakFair (lassoExec cfg evs loop sf h hl hp) := by
  intro t i hne
  have hstuck : (∀ r, (stateFrom cfg sf (loop.take r)).pc t = .idle ∨ AsleepOnSem (stateFrom cfg sf (loop.take r)) t) → False := by
    intro hs
    have hj : evs.length ≤ max i evs.length := by omega
    obtain ⟨a, b⟩ := hne (max i evs.length) (by omega)
    rw [(lassoExec_tail h hl hp hj).1] at a b
    rcases hs ((max i evs.length - evs.length) % loop.length) with c | c
    · exact a c
    · exact b c
  by_cases ht : t < T
  · simp only [List.all_eq_true, List.mem_range, Bool.or_eq_true] at h2
    rcases h2 t ht with c | c
    · obtain ⟨e0, hmem, he0⟩ := List.any_eq_true.mp c
      obtain ⟨r0, hr0⟩ := List.getElem?_of_mem hmem
      have hr : r0 < loop.length := by
        apply Classical.byContradiction; intro hge
        rw [List.getElem?_eq_none (by omega)] at hr0; cases hr0
      obtain ⟨j, h1, h2', h3⟩ := lasso_pos (evs := evs) hp i hr
      simp only [Bool.and_eq_true, decide_eq_true_eq, Bool.not_eq_true'] at he0
      exact ⟨j, e0, h1, by rw [(lassoExec_tail h hl hp h2').2, h3]; exact hr0, he0.1, he0.2⟩
    · exfalso
      apply hstuck
      intro r
      have := allStates_take loop sf c r _ (stateFrom_ok hl r)
      simp only [Bool.or_eq_true, decide_eq_true_eq] at this
      exact this.imp id (fun e => (asleepSemB_iff _ _).1 e)
  · exact (hstuck (fun r => Or.inl (untouched_loop h hl hT hT2 ht r).1)).elim

/-- Nobody holds the mutex at the head of the loop: every holder calls again. -/
theorem lasso_release_rec (h : run cfg init evs = .ok sf) (hl : run cfg sf loop = .ok sf) (hp : 0 < loop.length) {T : Nat}
    (hT : tidsBelow T evs = true) (h2 : (List.range T).all (heldNoneB sf) = true) :
    HoldersRelease (lassoExec cfg evs loop sf h hl hp) := by
  apply holdersRelease_of_recurrent _ (reachable_init cfg)
  intro i t
  obtain ⟨j, h1, h2', h3⟩ := lasso_pos (evs := evs) hp i (r := 0) hp
  refine ⟨j, h1, ?_⟩
  rw [(lassoExec_tail h hl hp h2').1, h3]
  have e : stateFrom cfg sf (loop.take 0) = sf := by simp [stateFrom, run]
  rw [e]
  by_cases ht : t < T
  · simp only [List.all_eq_true, List.mem_range, heldNoneB, decide_eq_true_eq] at h2
    exact h2 t ht
  · have := untouched_stateAt h hT ht evs.length
    rw [stateAt_ge h (Nat.le_refl _)] at this
    exact this.2

end NsyncVerif.MuC
