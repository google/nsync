import NsyncVerif.Proofs.MuCRing
/-
  MuC: the ring invariant `Chain` split into its adjacency part (`Links`), the junction between two
  lists and the "last record is not linked" part; what nsync_maybe_merge_conditions_ (`mergeLinks`)
  and the ring fix-up of nsync_remove_from_mu_queue_ (`removeLinks`) do to it.  From these, the invariant is
  preserved by the two operations that touch rings: appending one list to another with
  nsync_maybe_merge_conditions_ at the junction (enqueue at either end, mu.c:403; `chain_append_merge`), and
  nsync_remove_from_mu_queue_ (`chain_remove`).  Pure list facts.
-/
namespace NsyncVerif.MuC

/-- A record linked to its list successor has a condition denoting the same predicate. -/
def Links (wr : Wid → WRec) : List Wid → Prop
  | [] => True
  | [_] => True
  | a :: b :: rest => ((wr a).lnk = true → SameSem (wr a).cond (wr b).cond) ∧ Links wr (b :: rest)

def Junction (wr : Wid → WRec) (p n : Option Wid) : Prop :=
  ∀ a b, p = some a → n = some b → (wr a).lnk = true → SameSem (wr a).cond (wr b).cond

def LastOff (wr : Wid → WRec) (l : List Wid) : Prop := ∀ p, l.getLast? = some p → (wr p).lnk = false

theorem chain_iff {wr : Wid → WRec} (l : List Wid) : Chain wr l ↔ Links wr l ∧ LastOff wr l := by
  induction l with
  | nil => simp [Chain, Links, LastOff]
  | cons a l ih =>
    cases l with
    | nil => simp [Chain, Links, LastOff]
    | cons b rest =>
      simp only [Chain, Links]
      rw [ih]
      simp only [LastOff, List.getLast?_cons_cons]
      exact and_assoc.symm

theorem links_tail {wr : Wid → WRec} {a : Wid} {l : List Wid} (h : Links wr (a :: l)) : Links wr l := by
  cases l with
  | nil => trivial
  | cons b rest => exact h.2

theorem links_cons {wr : Wid → WRec} (a : Wid) (l : List Wid) :
    Links wr (a :: l) ↔ Junction wr (some a) l.head? ∧ Links wr l := by
  cases l with
  | nil => simp [Links, Junction]
  | cons b rest =>
    simp only [Links, Junction, List.head?_cons]
    constructor
    · rintro ⟨h1, h2⟩
      exact ⟨fun x y hx hy => by cases hx; cases hy; exact h1, h2⟩
    · rintro ⟨h1, h2⟩
      exact ⟨h1 a b rfl rfl, h2⟩

theorem links_append {wr : Wid → WRec} (l1 l2 : List Wid) :
    Links wr (l1 ++ l2) ↔ Links wr l1 ∧ Links wr l2 ∧ Junction wr l1.getLast? l2.head? := by
  induction l1 with
  | nil => simp [Links, Junction]
  | cons a l1 ih =>
    cases l1 with
    | nil =>
      simp only [List.singleton_append, List.getLast?_singleton]
      rw [links_cons]
      simp [Links, and_comm]
    | cons b rest =>
      simp only [List.cons_append, Links, List.getLast?_cons_cons]
      simp only [List.cons_append] at ih
      rw [ih]
      simp only [and_assoc]

/-- `Links` looks at `lnk` only of the records that have a successor. -/
theorem links_congr {wr wr' : Wid → WRec} {l : List Wid} (hc : ∀ x, x ∈ l → (wr' x).cond = (wr x).cond)
    (hl : ∀ x, x ∈ l.dropLast → (wr' x).lnk = (wr x).lnk) (h : Links wr l) : Links wr' l := by
  induction l with
  | nil => trivial
  | cons a l ih =>
    cases l with
    | nil => trivial
    | cons b rest =>
      simp only [Links] at h ⊢
      simp only [List.dropLast_cons_cons] at hl
      refine ⟨?_, ih (fun x hx => hc x (List.mem_cons_of_mem _ hx)) (fun x hx => hl x (List.mem_cons_of_mem _ hx)) h.2⟩
      rw [hl a (List.mem_cons_self), hc a (List.mem_cons_self), hc b (List.mem_cons_of_mem _ List.mem_cons_self)]
      exact h.1

theorem mem_dropLast_ne_last : ∀ {l : List Wid} {p x : Wid}, l.Nodup → l.getLast? = some p → x ∈ l.dropLast → x ≠ p
  | [], _, _, _, h, _ => by simp at h
  | [_], _, _, _, _, hx => by simp at hx
  | a :: b :: rest, p, x, hnd, hlast, hx => by
    simp only [List.getLast?_cons_cons] at hlast
    simp only [List.dropLast_cons_cons, List.mem_cons] at hx
    rcases hx with rfl | hx
    · intro e; subst e
      have := List.mem_of_getLast? hlast
      exact (List.nodup_cons.mp hnd).1 this
    · exact mem_dropLast_ne_last (List.nodup_cons.mp hnd).2 hlast hx

theorem mem_of_mem_dropLast {l : List Wid} {x : Wid} (hx : x ∈ l.dropLast) : x ∈ l :=
  (List.dropLast_sublist l).subset hx

/-- Only the last record of the list changes its `lnk`. -/
theorem links_congr_last {wr wr' : Wid → WRec} {l : List Wid} {p : Wid} (hnd : l.Nodup) (hlast : l.getLast? = some p)
    (hc : ∀ x, (wr' x).cond = (wr x).cond) (hl : ∀ x, x ≠ p → (wr' x).lnk = (wr x).lnk) (h : Links wr l) : Links wr' l :=
  links_congr (fun x _ => hc x) (fun x hx => hl x (mem_dropLast_ne_last hnd hlast hx)) h

theorem links_congr_all {wr wr' : Wid → WRec} {l : List Wid} (hc : ∀ x, x ∈ l → (wr' x).cond = (wr x).cond)
    (hl : ∀ x, x ∈ l → (wr' x).lnk = (wr x).lnk) (h : Links wr l) : Links wr' l :=
  links_congr hc (fun x hx => hl x (mem_of_mem_dropLast hx)) h

theorem chain_congr {wr wr' : Wid → WRec} {l : List Wid} (hc : ∀ x, x ∈ l → (wr' x).cond = (wr x).cond)
    (hl : ∀ x, x ∈ l → (wr' x).lnk = (wr x).lnk) (h : Chain wr l) : Chain wr' l := by
  rw [chain_iff] at h ⊢
  refine ⟨links_congr_all hc hl h.1, ?_⟩
  intro p hp
  rw [hl p (List.mem_of_getLast? hp)]
  exact h.2 p hp

theorem getLast?_mem' {l : List Wid} {p : Wid} (h : l.getLast? = some p) : p ∈ l := List.mem_of_getLast? h

theorem head?_mem' {l : List Wid} {p : Wid} (h : l.head? = some p) : p ∈ l := List.mem_of_head? h

/-! ### what WAIT_CONDITION_EQ guarantees -/

/-- The condition's argument object denotes what the condition says. -/
def CondOk (cargs : Nat → Option (Nat × Int × Bool)) (c : Option Cond) : Prop :=
  ∀ cd, c = some cd → cargs cd.k = some (cd.var, cd.val, cd.hasEq)

theorem condEq_sameSem {cargs : Nat → Option (Nat × Int × Bool)} {a b : Option Cond} (ha : CondOk cargs a) (hb : CondOk cargs b)
    (h : condEq a b = true) : SameSem a b := by
  cases a with
  | none => simp [condEq] at h
  | some x =>
    cases b with
    | none => simp [condEq] at h
    | some y =>
      refine ⟨x, y, rfl, rfl, ?_⟩
      simp only [condEq, Bool.and_eq_true, Bool.or_eq_true, beq_iff_eq] at h
      obtain ⟨h1, h2⟩ := h
      have hx := ha x rfl
      have hy := hb y rfl
      rcases h2 with h2 | ⟨⟨_, h3⟩, h4⟩
      · rw [h2, hy] at hx
        simp only [Option.some.injEq, Prod.mk.injEq] at hx
        simp [Cond.sem, h1, hx.1, hx.2.1]
      · simp [Cond.sem, h1, h3, h4]

/-! ### mergeLinks / removeLinks on records -/

theorem mergeLinks_wr_other (s : State) (p n : Option Wid) (x : Wid) (h : p ≠ some x) : (mergeLinks s p n).wr x = s.wr x := by
  unfold mergeLinks
  split
  · rename_i a b
    split
    · simp only [setLnk, setFn]
      split
      · rename_i e; subst e; exact absurd rfl h
      · rfl
    · rfl
  · rfl

theorem mergeLinks_lnk_self (s : State) (a : Wid) (n : Option Wid) (h : ((mergeLinks s (some a) n).wr a).lnk = true) :
    (s.wr a).lnk = true ∨ ∃ b, n = some b ∧ condEq (s.wr a).cond (s.wr b).cond = true := by
  unfold mergeLinks at h
  split at h
  · rename_i a' b heq
    simp only [Option.some.injEq] at heq
    obtain ⟨rfl, rfl⟩ := heq
    split at h
    · rename_i hce; exact Or.inr ⟨b, rfl, hce⟩
    · exact Or.inl h
  · exact Or.inl h

theorem removeLinks_cond (s : State) (p : Option Wid) (k : Wid) (n : Option Wid) (x : Wid) :
    ((removeLinks s p k n).wr x).cond = (s.wr x).cond :=
  (lnkOnly_removeLinks s p k n x).2.2.2.2.1

theorem setLnk_wr_other (s : State) (k x : Wid) (b : Bool) (h : x ≠ k) : (setLnk s k b).wr x = s.wr x := by
  simp [setLnk, setFn, h]

theorem setLnk_wr_self (s : State) (k : Wid) (b : Bool) : ((setLnk s k b).wr k).lnk = b := by
  simp [setLnk, setFn]

theorem removeLinks_wr_other (s : State) (p : Option Wid) (k : Wid) (n : Option Wid) (x : Wid) (hk : x ≠ k) (hp : p ≠ some x) :
    (removeLinks s p k n).wr x = s.wr x := by
  cases p with
  | none =>
    simp only [removeLinks]
    split
    · exact setLnk_wr_other _ _ _ _ hk
    · rfl
  | some q =>
    have hq : x ≠ q := fun e => hp (by rw [e])
    simp only [removeLinks]
    split
    · rw [setLnk_wr_other _ _ _ _ hk]
      split
      · exact setLnk_wr_other _ _ _ _ hq
      · rfl
    · cases n with
      | none => rfl
      | some m => exact mergeLinks_wr_other _ _ _ _ hp

/-- WAIT_CONDITION_EQ is sound on all records. -/
def CeSound (wr : Wid → WRec) : Prop :=
  ∀ a b, condEq (wr a).cond (wr b).cond = true → SameSem (wr a).cond (wr b).cond

theorem getLast?_append_cons (l1 : List Wid) (k : Wid) (l2 : List Wid) :
    (l1 ++ k :: l2).getLast? = (k :: l2).getLast? := by
  rw [List.getLast?_append]
  cases h : (k :: l2).getLast? with
  | none => simp at h
  | some x => simp

theorem chain_append_merge {s : State} {l1 l2 : List Wid} (hnd : (l1 ++ l2).Nodup) (h1 : Chain s.wr l1) (h2 : Chain s.wr l2)
    (hce : CeSound s.wr) : Chain (mergeLinks s l1.getLast? l2.head?).wr (l1 ++ l2) := by
  rw [chain_iff] at h1 h2 ⊢
  have hnd1 : l1.Nodup := (List.nodup_append.mp hnd).1
  have hdisj : ∀ a, a ∈ l1 → ∀ b, b ∈ l2 → a ≠ b := (List.nodup_append.mp hnd).2.2
  have hcond : ∀ x, ((mergeLinks s l1.getLast? l2.head?).wr x).cond = (s.wr x).cond := cond_of_merge s l1.getLast? l2.head?
  refine ⟨(links_append l1 l2).2 ⟨?_, ?_, ?_⟩, ?_⟩
  · refine links_congr (fun x _ => hcond x) (fun x hx => ?_) h1.1
    rw [mergeLinks_wr_other]
    intro e
    exact mem_dropLast_ne_last hnd1 e hx rfl
  · refine links_congr_all (fun x _ => hcond x) (fun x hx => ?_) h2.1
    rw [mergeLinks_wr_other]
    intro e
    exact hdisj x (List.mem_of_getLast? e) x hx rfl
  · intro a b ha hb hlnk
    rw [ha] at hlnk
    rw [hcond, hcond]
    rcases mergeLinks_lnk_self s a _ hlnk with e | ⟨b', hb', e⟩
    · have := h1.2 a ha; rw [this] at e; cases e
    · rw [hb] at hb'; cases hb'; exact hce a b e
  · intro q hq
    rw [List.getLast?_append] at hq
    cases h : l2.getLast? with
    | none =>
      have hl2 : l2 = [] := List.getLast?_eq_none_iff.mp h
      rw [h] at hq
      simp only [Option.none_or] at hq
      subst hl2
      have : mergeLinks s l1.getLast? ([] : List Wid).head? = s := by
        unfold mergeLinks; split <;> simp_all
      rw [this]; exact h1.2 q hq
    | some q' =>
      rw [h] at hq
      simp only [Option.some_or, Option.some.injEq] at hq
      subst hq
      rw [mergeLinks_wr_other]
      · exact h2.2 q' h
      · intro e
        exact hdisj q' (List.mem_of_getLast? e) q' (List.mem_of_getLast? h) rfl

theorem chain_remove {s : State} {l1 l2 : List Wid} {k : Wid} (hnd : (l1 ++ k :: l2).Nodup) (hc : Chain s.wr (l1 ++ k :: l2))
    (hce : CeSound s.wr) :
    Chain (removeLinks s l1.getLast? k l2.head?).wr (l1 ++ l2) ∧ ((removeLinks s l1.getLast? k l2.head?).wr k).lnk = false := by
  rw [chain_iff] at hc
  obtain ⟨hL, hoff⟩ := hc
  rw [links_append] at hL
  obtain ⟨hL1, hLk, hJ1⟩ := hL
  rw [links_cons] at hLk
  obtain ⟨hJ2, hL2⟩ := hLk
  simp only [List.head?_cons] at hJ1
  have hnd' := List.nodup_append.mp hnd
  have hnd1 : l1.Nodup := hnd'.1
  have hk1 : k ∉ l1 := fun e => hnd'.2.2 k e k (by simp) rfl
  have hk2 : k ∉ l2 := (List.nodup_cons.mp hnd'.2.1).1
  have hnd2 : l2.Nodup := (List.nodup_cons.mp hnd'.2.1).2
  have hdisj : ∀ a, a ∈ l1 → ∀ b, b ∈ l2 → a ≠ b := fun a ha b hb => hnd'.2.2 a ha b (List.mem_cons_of_mem _ hb)
  have hcond : ∀ p' x, ((removeLinks s p' k l2.head?).wr x).cond = (s.wr x).cond := fun p' x => removeLinks_cond s p' k _ x
  -- `lnk` of `k` when it is the last record
  have hklast : l2 = [] → (s.wr k).lnk = false := by
    intro e; subst e
    exact hoff k (by rw [getLast?_append_cons]; rfl)
  have hl2off : l2 ≠ [] → LastOff s.wr l2 := by
    intro hne q hq
    apply hoff q
    rw [getLast?_append_cons]
    cases l2 with
    | nil => exact absurd rfl hne
    | cons b r => rw [List.getLast?_cons_cons]; exact hq
  rw [chain_iff]
  cases hp : l1.getLast? with
  | none =>
    have hl1 : l1 = [] := List.getLast?_eq_none_iff.mp hp
    subst hl1
    simp only [List.nil_append]
    have hwr : ∀ x, x ≠ k → (removeLinks s none k l2.head?).wr x = s.wr x :=
      fun x hx => removeLinks_wr_other s none k _ x hx (by simp)
    refine ⟨⟨links_congr_all (fun x _ => hcond _ x) (fun x hx => by rw [hwr x (fun e => hk2 (e ▸ hx))]) hL2, ?_⟩, ?_⟩
    · intro q hq
      have hqm := List.mem_of_getLast? hq
      rw [hwr q (fun e => hk2 (e ▸ hqm))]
      exact hl2off (List.ne_nil_of_mem hqm) q hq
    · simp only [removeLinks]
      split
      · exact setLnk_wr_self _ _ _
      · rename_i h; simpa using h
  | some p =>
    have hpm : p ∈ l1 := List.mem_of_getLast? hp
    have hpk : p ≠ k := fun e => hk1 (e ▸ hpm)
    have hwr : ∀ x, x ≠ k → x ≠ p → (removeLinks s (some p) k l2.head?).wr x = s.wr x :=
      fun x hx hxp => removeLinks_wr_other s (some p) k _ x hx (fun e => hxp (by cases e; rfl))
    have hJp := hJ1 p k hp rfl
    -- the new `lnk` of p and k
    have hnew : ((removeLinks s (some p) k l2.head?).wr k).lnk = false ∧
        (((removeLinks s (some p) k l2.head?).wr p).lnk = true →
          ((s.wr p).lnk = true ∧ (s.wr k).lnk = true) ∨
          ((s.wr p).lnk = false ∧ (s.wr k).lnk = false ∧ ∃ n, l2.head? = some n ∧ condEq (s.wr p).cond (s.wr n).cond = true)) := by
      simp only [removeLinks]
      split
      · rename_i hor
        refine ⟨setLnk_wr_self _ _ _, ?_⟩
        rw [setLnk_wr_other _ _ _ _ hpk]
        split
        · rename_i hpl
          rw [setLnk_wr_self]
          intro hkl; exact Or.inl ⟨hpl, hkl⟩
        · rename_i hpl
          intro e; exact absurd e hpl
      · rename_i hor
        simp only [Bool.or_eq_true, not_or, Bool.not_eq_true] at hor
        cases hn : l2.head? with
        | none => exact ⟨hor.2, fun e => by rw [hor.1] at e; cases e⟩
        | some n =>
          dsimp only
          refine ⟨by rw [mergeLinks_wr_other _ _ _ _ (fun e => hpk (by cases e; rfl))]; exact hor.2, ?_⟩
          intro e
          rcases mergeLinks_lnk_self s p _ e with e' | ⟨b, hb, e'⟩
          · rw [hor.1] at e'; cases e'
          · cases hb; exact Or.inr ⟨hor.1, hor.2, n, rfl, e'⟩
    refine ⟨⟨(links_append l1 l2).2 ⟨?_, ?_, ?_⟩, ?_⟩, hnew.1⟩
    · exact links_congr (fun x _ => hcond _ x) (fun x hx => by
        have hx1 := mem_of_mem_dropLast hx
        rw [hwr x (fun e => hk1 (e ▸ hx1)) (mem_dropLast_ne_last hnd1 hp hx)]) hL1
    · refine links_congr_all (fun x _ => hcond _ x) (fun x hx => ?_) hL2
      rw [hwr x (fun e => hk2 (e ▸ hx)) (fun e => hdisj p hpm x hx e.symm)]
    · intro a b ha hb hlnk
      rw [hp] at ha; cases ha
      rw [hcond, hcond]
      rcases hnew.2 hlnk with ⟨e1, e2⟩ | ⟨_, _, n, hn, e⟩
      · exact (hJp e1).trans (hJ2 k b rfl hb e2)
      · rw [hb] at hn; cases hn; exact hce p _ e
    · intro q hq
      rw [List.getLast?_append] at hq
      cases h : l2.getLast? with
      | none =>
        have hl2 : l2 = [] := List.getLast?_eq_none_iff.mp h
        rw [h] at hq
        simp only [Option.none_or] at hq
        rw [hp] at hq; cases hq
        cases hlk : ((removeLinks s (some p) k l2.head?).wr p).lnk with
        | false => rfl
        | true =>
          rcases hnew.2 hlk with ⟨_, e2⟩ | ⟨_, _, n, hn, _⟩
          · rw [hklast hl2] at e2; cases e2
          · rw [hl2] at hn; cases hn
      | some q' =>
        rw [h] at hq
        simp only [Option.some_or, Option.some.injEq] at hq
        subst hq
        have hqm := List.mem_of_getLast? h
        rw [hwr q' (fun e => hk2 (e ▸ hqm)) (fun e => hdisj p hpm q' hqm e.symm)]
        exact hl2off (List.ne_nil_of_mem hqm) q' h

end NsyncVerif.MuC
