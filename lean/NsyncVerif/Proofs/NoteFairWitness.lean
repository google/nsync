/-
  Layer `Note`, fair termination: the concrete executions used by Props/C09Fair.lean.

  * `leafExec`     root note0; T1 `nsync_note_wait (note0)` really sleeps; T0 `nsync_note_notify
                   (note0)` sets the flag, clears `nw0.waiting`, posts; T1 wakes and returns; then
                   idling.  All hypotheses of `C09_fair_termination_leaf` hold (`leaf_hyps`).
  * `releaseExec`  `Traces.releaseTrace` (recorded from the library: a waiter on a CHILD released by
                   `notify (parent)`) followed by idling: the hypotheses of the FULL statement hold.
  * `stallExec`    a call has started and nothing ever happens: `WeakFair` is needed.
  * `bargeExec`    a lasso: T0 `nsync_note_is_notified (note0)` waits for ever inside
                   `nsync_mu_lock (&note0->note_mu)` while the waiter T1 goes round the wait loop of
                   `nsync_wait_n` (woken again and again without a V: accepted by assumption A3),
                   taking and releasing the mutex each time: `LockFair` is needed.
-/
import NsyncVerif.Proofs.NoteFairTrace
import NsyncVerif.Proofs.NoteRelTraces


namespace Note

variable {s0 : State}

/-! ### criteria for executions that end quiescent -/

theorem weakFair_of_quiescent (x : Exec s0) (N : Nat)
    (hN : ∀ j, N ≤ j → ∀ t, (x.ρ j).pc t = .idle) : WeakFair x := by
  intro t i h
  exact absurd (hN (max i N) (by omega) t) (h (max i N) (by omega)).1

theorem lockFair_of_quiescent (x : Exec s0) (N : Nat)
    (hN : ∀ j, N ≤ j → ∀ t, (x.ρ j).pc t = .idle) : LockFair x := by
  intro t m i h _
  have := h (max i N) (by omega)
  rw [hN (max i N) (by omega) t] at this
  cases this

theorem waitFair_of_quiescent (x : Exec s0) (N : Nat)
    (hN : ∀ j, N ≤ j → ∀ t, (x.ρ j).pc t = .idle) : WaitFair x := by
  intro t m i h _
  have := h (max i N) (by omega)
  rw [hN (max i N) (by omega) t] at this
  cases this

theorem finiteArrivals_of_tail (x : Exec s0) (N : Nat) (hN : ∀ j, N ≤ j → x.σ j = none) :
    FiniteArrivals x :=
  ⟨N, fun j t a hj he => by rw [hN j hj] at he; cases he⟩

theorem two_le_of_ne {t : Nat} (h1 : t ≠ 1) (h0 : t ≠ 0) : 2 ≤ t := by omega
theorem init_idle (t : Tid) : init.pc t = .idle := rfl

/-- A trace from `init` of threads 0, 1, 2 that leaves them outside any call leaves everybody there. -/
theorem final_idle {evs : List Event} {sf : State} (h : run init evs = .ok sf)
    (hb : tidsBelow 3 evs = true)
    (h3 : sf.pc 0 = .idle ∧ sf.pc 1 = .idle ∧ sf.pc 2 = .idle) (t : Tid) : sf.pc t = .idle := by
  by_cases ht : t < 3
  · rcases NsyncVerif.Lasso.lt3_cases ht with rfl | rfl | rfl
    · exact h3.1
    · exact h3.2.1
    · exact h3.2.2
  · exact (run_pc_other h t (tidsBelow_ne hb (Nat.le_of_not_lt ht))).trans (init_idle t)

/-- The hypotheses of the theorems hold for a trace from `init` that ends with everybody outside any
    call, followed by idling. -/
theorem traceExec_hyps {evs : List Event} {sf : State} (h : run init evs = .ok sf)
    (hi : ∀ t, sf.pc t = .idle) :
    Reachable init ∧ WeakFair (traceExec init evs sf h) ∧ LockFair (traceExec init evs sf h) ∧
      WaitFair (traceExec init evs sf h) ∧ FiniteArrivals (traceExec init evs sf h) :=
  have tail : ∀ j, evs.length ≤ j → ∀ t, ((traceExec init evs sf h).ρ j).pc t = .idle :=
    fun j hj t => by rw [(traceExec_tail h hj).1]; exact hi t
  ⟨⟨[], rfl⟩, weakFair_of_quiescent _ _ tail, lockFair_of_quiescent _ _ tail,
   waitFair_of_quiescent _ _ tail,
   finiteArrivals_of_tail _ evs.length (fun _ hj => (traceExec_tail h hj).2)⟩

/-! ### building blocks (root note0, clock at 0, semaphore 0, waiter record 0) -/

/-- `nsync_note_new (NULL, no deadline)` by `t`, returning note0. -/
def mkRoot (t : Tid) : List Event := [
  .call t (.new none none), .malloc t (some 0), .ld t .dlLd1 .acq 0 0, .lockCall t 0, .lockRet t,
  .ld t .dlLd2 .acq 0 0, .unlockCall t 0, .unlockRet t, .now t 0, .ret t (.new (some 0))]

/-- `nsync_note_wait (note0, no deadline)` by `t` up to the sleep on its semaphore: first
    `ready_time` loop, `note_enqueue`, second `ready_time`, `P`. -/
def waitPre (t : Tid) : List Event := [
  .call t (.wait 0 none), .waitnCall t none, .ld t .dlLd1 .acq 0 0, .lockCall t 0, .lockRet t,
  .ld t .dlLd2 .acq 0 0, .unlockCall t 0, .unlockRet t, .now t 0,
  .stW t .waitInit .rlx 0 0 0, .lockCall t 0, .lockRet t, .ld t .enqLd .acq 0 0,
  .stW t .enqSt1 .rlx 0 1 0, .unlockCall t 0, .unlockRet t,
  .ld t .dlLd1 .acq 0 0, .lockCall t 0, .lockRet t, .ld t .dlLd2 .acq 0 0, .unlockCall t 0,
  .unlockRet t, .now t 0, .pdEnter t 0 none]

/-- `nsync_note_notify (note0)` by `t`, complete: sets the flag, unlinks waiter record 0, clears
    its `waiting` word, posts its semaphore, finds no children. -/
def notifyAll (t : Tid) : List Event := [
  .call t (.notify 0), .ld t .dlLd1 .acq 0 0, .lockCall t 0, .lockRet t, .ld t .dlLd2 .acq 0 0,
  .unlockCall t 0, .unlockRet t, .now t 0,
  .lockCall t 0, .lockRet t, .ld t .notifyLd .acq 0 0, .ld t .childLd .acq 0 0,
  .stNote t .childSt .rel 0 1 0, .stW t .childWake .rel 0 0 1, .semV t 0,
  .waitCall t 0, .waitRet t, .unlockCall t 0, .unlockRet t, .ret t .notify]

/-- The sleeper `t` wakes up, finds the flag set, dequeues (already unlinked), returns 1. -/
def wakeAll (t : Tid) : List Event := [
  .pdRet t 0 false, .ld t .dlLd1 .acq 0 1, .ld t .dlLd1 .acq 0 1, .lockCall t 0, .lockRet t,
  .ld t .deqLd .acq 0 1, .unlockCall t 0, .unlockRet t, .waitnRet t 0, .ret t (.wait true)]

/-! ### non-vacuity of the leaf theorem -/

def leafEvs : List Event := mkRoot 2 ++ waitPre 1 ++ notifyAll 0 ++ wakeAll 1

def leafFinal : State := (run init leafEvs).toOption.get (by decide)

theorem leaf_run : run init leafEvs = .ok leafFinal := ok_get _ _

def leafExec : Exec init := traceExec init leafEvs leafFinal leaf_run

theorem leaf_state (j : Nat) : leafExec.ρ j = stateFrom init (leafEvs.take j) := rfl

theorem leaf_high {t : Tid} (ht : 3 ≤ t) (j : Nat) : (leafExec.ρ j).pc t = .idle := by
  rw [leaf_state]
  exact (run_pc_other (stateFrom_ok leaf_run j) t
    (tidsBelow_ne (n := 3) (tidsBelow_take (by decide) j) ht)).trans (init_idle t)

theorem leaf_final_idle (t : Tid) : leafFinal.pc t = .idle :=
  final_idle leaf_run (by decide) (by decide) t

theorem leaf_tail {j : Nat} (hj : leafEvs.length ≤ j) : ∀ t, (leafExec.ρ j).pc t = .idle := by
  intro t
  rw [show leafExec.ρ j = leafFinal from (traceExec_tail leaf_run hj).1]
  exact leaf_final_idle t

theorem leaf_low : ∀ j, j ≤ 64 → ∀ t, t < 3 →
    ((stateFrom init (leafEvs.take j)).pc t).inChildLoop = false := by decide

theorem leaf_leafCalls : LeafCalls leafExec := by
  intro j t
  by_cases hj : j ≤ 64
  · by_cases ht : t < 3
    · exact leaf_low j hj t ht
    · rw [leaf_high (Nat.le_of_not_lt ht) j]; rfl
  · rw [leaf_tail (show 64 ≤ j from Nat.le_of_lt (Nat.lt_of_not_le hj)) t]; rfl

/-- All hypotheses of `C09_fair_termination_leaf` (and `WaitFair`) hold for `leafExec`. -/
theorem leaf_hyps : Reachable init ∧ WeakFair leafExec ∧ LockFair leafExec ∧ WaitFair leafExec ∧
    FiniteArrivals leafExec ∧ LeafCalls leafExec :=
  have h := traceExec_hyps leaf_run leaf_final_idle
  ⟨h.1, h.2.1, h.2.2.1, h.2.2.2.1, h.2.2.2.2, leaf_leafCalls⟩

/-! ### non-vacuity of the full statement: `Traces.releaseTrace`, then idling -/

def relFinal : State := (run init Traces.releaseTrace).toOption.get (by decide)

theorem rel_run : run init Traces.releaseTrace = .ok relFinal := ok_get _ _

def releaseExec : Exec init := traceExec init Traces.releaseTrace relFinal rel_run

theorem rel_actors : ∀ e ∈ Traces.releaseTrace,
    e.actor = none ∨ e.actor = some 0 ∨ e.actor = some 1 ∨ e.actor = some 99 := by decide

theorem rel_final_idle (t : Tid) : relFinal.pc t = .idle := by
  by_cases ht : t = 0 ∨ t = 1 ∨ t = 99
  · have h : relFinal.pc 0 = .idle ∧ relFinal.pc 1 = .idle ∧ relFinal.pc 99 = .idle := by decide
    rcases ht with rfl | rfl | rfl
    · exact h.1
    · exact h.2.1
    · exact h.2.2
  · refine (run_pc_other rel_run t (fun e he hte => ?_)).trans (init_idle t)
    rcases rel_actors e he with h | h | h | h <;> rw [h] at hte <;> cases hte <;> simp at ht

theorem rel_tail {j : Nat} (hj : Traces.releaseTrace.length ≤ j) :
    ∀ t, (releaseExec.ρ j).pc t = .idle := by
  intro t
  rw [show releaseExec.ρ j = relFinal from (traceExec_tail rel_run hj).1]
  exact rel_final_idle t

/-- All hypotheses of the FULL statement hold for `releaseExec`. -/
theorem release_hyps : Reachable init ∧ WeakFair releaseExec ∧ LockFair releaseExec ∧
    WaitFair releaseExec ∧ FiniteArrivals releaseExec :=
  traceExec_hyps rel_run rel_final_idle

/-! ### `WeakFair` is needed -/

def stallA : State := (run init [.call 0 (.new none none)]).toOption.get (by decide)

theorem stall_reach : Reachable stallA := ⟨_, ok_get _ _⟩

theorem stallA_pc (t : Tid) : (t = 0 → stallA.pc t = .newMalloc none none) ∧
    (t ≠ 0 → stallA.pc t = .idle) := by
  refine ⟨fun h => by subst h; decide, fun h => ?_⟩
  exact (run_pc_other (s := stallA) (ok_get _ _) t
    (tidsBelow_ne (n := 1) (evs := [.call 0 (.new none none)]) (by decide)
      (Nat.pos_of_ne_zero h))).trans (init_idle t)

/-- T0 has called nsync_note_new and nothing happens any more. -/
def stallExec : Exec stallA := traceExec stallA [] stallA rfl

theorem stall_at (j : Nat) : stallExec.ρ j = stallA ∧ stallExec.σ j = none :=
  traceExec_tail (s := stallA) (evs := []) rfl (Nat.zero_le j)

/-! ### `LockFair` is needed -/

/-- note0 exists; T1 sleeps in `nsync_note_wait (note0)`; T0 has called
    `nsync_note_is_notified (note0)`, found the flag unset and called `nsync_mu_lock`. -/
def bargePre : List Event := mkRoot 2 ++ waitPre 1 ++
  [.call 0 (.isNotified 0), .ld 0 .dlLd1 .acq 0 0, .lockCall 0 0]

/-- One iteration of the wait loop of T1: P returns 0, `ready_time` (flag unset: lock, read the
    expiry time, unlock, read the clock), P again. -/
def bargeLoop : List Event := [.pdRet 1 0 false, .ld 1 .dlLd1 .acq 0 0, .lockCall 1 0, .lockRet 1,
  .ld 1 .dlLd2 .acq 0 0, .unlockCall 1 0, .unlockRet 1, .now 1 0, .pdEnter 1 0 none]

def bargeA : State := (run init bargePre).toOption.get (by decide)

theorem barge_reach : Reachable bargeA := ⟨_, ok_get _ _⟩

theorem bargeA_facts : bargeA.pc 1 = .wt (.pdRet none) 0 none 0 ∧
    bargeA.pc 0 = .dl .lockRet 0 none .isNotified ∧ bargeA.pc 2 = .idle ∧
    (bargeA.notes 0).lockHolder = none ∧ (bargeA.notes 0).notified = false ∧
    (bargeA.notes 0).allocated = true ∧ (bargeA.notes 0).expiry = none ∧
    (bargeA.recs 0).sem = some 0 ∧ bargeA.now = 0 ∧ (bargeA.recs 0).posted = 0 := by decide

theorem bargeA_idle {t : Tid} (ht : 2 ≤ t) : bargeA.pc t = .idle := by
  by_cases h2 : t = 2
  · subst h2; exact bargeA_facts.2.2.1
  · have h3 : 3 ≤ t := by
      rcases Nat.lt_or_ge t 3 with h | h
      · exact absurd (Nat.le_antisymm (Nat.le_of_lt_succ h) ht) h2
      · exact h
    exact (run_pc_other (s := bargeA) (ok_get _ _) t
      (tidsBelow_ne (n := 3) (evs := bargePre) (by decide) h3)).trans (init_idle t)

theorem noteRec_eta (r : NoteRec) (a : r.notified = false) (b : r.expiry = none)
    (c : r.lockHolder = none) (d : r.allocated = true) :
    r = { parent := r.parent, children := r.children, notified := false, expiry := none,
          disconnecting := r.disconnecting, waiters := r.waiters, lockHolder := none,
          adopted := r.adopted, allocated := true, freed := r.freed } := by
  cases r; simp_all

theorem wrec_eta (w : WRec) (a : w.sem = some 0) :
    w = { used := w.used, waiting := w.waiting, owner := w.owner, note := w.note, sem := some 0,
          posted := w.posted } := by
  cases w; simp_all

theorem barge_cycle : run bargeA bargeLoop = .ok bargeA := by
  obtain ⟨h1, _, _, hl, hn, ha, he, hs, hnow, _⟩ := bargeA_facts
  simp [bargeLoop, run, step, stepLd, stepLockCall, stepLockRet, stepUnlockCall, stepUnlockRet, h1,
    need, hl, hn, ha, he, hs, hnow, flagVal, afterDeadline, afterDeadlinePc, bornNow, newExpiry,
    NoteRec.ntime, Dl.pos, Dl.min, Dl.lt, Dl.leNow, semOk, State.setPc, State.acquire,
    State.release, State.modNote, State.modRec, upd_same]
  simp only [upd_upd]
  rw [upd_eq_self h1, upd_eq_self (noteRec_eta _ hn he hl ha), upd_eq_self (wrec_eta _ hs)]
  have e : ∀ s : State, s.now = 0 → ({ s with now := 0 } : State) = s := by
    intro s h; cases s; simp_all
  exact e bargeA hnow

/-- T0 waits for the mutex of note0 for ever while T1 goes round its wait loop for ever. -/
def bargeExec : Exec bargeA := loopExec bargeA bargeLoop barge_cycle (by decide)

theorem barge_state (j : Nat) : bargeExec.ρ j = stateFrom bargeA (bargeLoop.take (j % 9)) := rfl

theorem barge_ev (j : Nat) : bargeExec.σ j = bargeLoop[j % 9]? := rfl

theorem barge_loop_tids : ∀ e ∈ bargeLoop, e.actor = some 1 := by decide

theorem barge_pc0 (j : Nat) : (bargeExec.ρ j).pc 0 = .dl .lockRet 0 none .isNotified := by
  have := loopExec_untouched barge_cycle (by decide) (t := 0)
    (fun e he => by rw [barge_loop_tids e he]; decide) j
  exact this.trans bargeA_facts.2.1

theorem barge_idle (j : Nat) {t : Tid} (ht : 2 ≤ t) : (bargeExec.ρ j).pc t = .idle := by
  have := loopExec_untouched barge_cycle (by decide) (t := t)
    (fun e he => by rw [barge_loop_tids e he]; intro h; cases h; exact absurd ht (by decide)) j
  exact this.trans (bargeA_idle ht)

theorem barge_states : ∀ r, r < 9 →
    ((stateFrom bargeA (bargeLoop.take r)).pc 1).inChildLoop = false ∧
    ((stateFrom bargeA (bargeLoop.take r)).pc 1).condWait = none ∧
    (r = 4 → ((stateFrom bargeA (bargeLoop.take r)).notes 0).lockHolder = some 1) ∧
    (r = 0 → ((stateFrom bargeA (bargeLoop.take r)).notes 0).lockHolder = none) ∧
    (stateFrom bargeA (bargeLoop.take r)).pc 1 ≠ .idle := by
  decide

theorem barge_moves (j : Nat) : Moves bargeExec 1 j := by
  have hlt : j % 9 < bargeLoop.length := by show j % 9 < 9; omega
  refine ⟨bargeLoop[j % 9], ?_, barge_loop_tids _ (List.getElem_mem hlt)⟩
  rw [barge_ev]; exact List.getElem?_eq_getElem hlt

theorem barge_not_moves0 (j : Nat) : ¬ Moves bargeExec 0 j := by
  rintro ⟨e, he, ha⟩
  have hlt : j % 9 < bargeLoop.length := by show j % 9 < 9; omega
  rw [barge_ev, List.getElem?_eq_getElem hlt] at he
  have := barge_loop_tids _ (List.getElem_mem hlt)
  rw [Option.some.inj he, ha] at this
  cases this

end Note
