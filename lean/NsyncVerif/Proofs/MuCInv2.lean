import NsyncVerif.Proofs.MuCCas
/-
  MuC: the second invariant group — facts about the locals of nsync_mu_wait_with_deadline that depend
  on the clock and on the client data: a recorded timeout implies that the deadline has been reached;
  the `condition_is_true` with which the call is about to return is the value of the condition on
  the current data.
-/
namespace NsyncVerif.MuC

def Ret.mw? : Ret → Option MW
  | .ul _ _ => none
  | .mw c => some c

/-- The locals of the nsync_mu_wait_with_deadline call in progress (also while it is inside
    lock_slow / unlock_slow). -/
def PC.mw : PC → Option MW
  | .lsLd c | .lsCasAcq c _ | .lsCasEnq c _ | .lsSt c | .lsRelLd c | .lsRelCas c _ | .lsWaitLd c | .lsPEnter c | .lsPRet c => c.mw
  | .usLd r | .usCasUnc r _ | .usCasGrab r _ | .usRelLd r _ | .usRelCas r _ _ | .usEval r _ | .usRcLd r _ _ | .usRcCas r _ _ _
  | .usReLd r _ | .usReCas r _ _ | .usFinLd r _ | .usFinCas r _ _ | .usWakeSt r _ _ | .usWakeV r _ _ => r.mw?
  | .mwLd0 c | .mwEval c | .mwStW c | .mwRcLd c | .mwEnqLd c | .mwEnqCas c _ | .mwRelLd c | .mwRelCas c _ _ | .mwWaitLd c
  | .mwSem c | .mwPdRet c _ | .mwNotify c | .mwLd244 c | .mwLd255 c | .mwRet c _
  | .mtLd c | .mtCasAcq c _ | .mtCasWW c _ | .mtLdWk c _ | .mtLdW c _ | .mtLdRc c _ | .mtRmLd c _ | .mtRmCas c _ _ | .mtStW c _ | .mtStRel c _ _ => some c
  | _ => none

/-- A recorded timeout implies that the deadline has been reached. -/
def TimeOk (now : Int) (c : MW) : Prop :=
  (c.so = .timedout → ∃ d, c.dl = some d ∧ d ≤ now) ∧ (c.outc = .timedout → ∃ d, c.dl = some d ∧ d ≤ now)

def PC.ok2 (data : Nat → Int) (now : Int) (p : PC) : Prop :=
  (∀ c, p.mw = some c → TimeOk now c) ∧ (∀ c cit, p = .mwRet c cit → cit = evalOpt data c.cond)

def Inv2 (s : State) : Prop := ∀ t, (s.pc t).ok2 s.data s.now

theorem Inv2.local {s s' : State} (t : Tid) (h : Inv2 s) (hd : s'.data = s.data) (hn : s'.now = s.now)
    (hpc : ∀ u, u ≠ t → s'.pc u = s.pc u) (hok : (s'.pc t).ok2 s.data s.now) : Inv2 s' := by
  intro u
  rw [hd, hn]
  exact forall_of_others hpc hok h u

theorem ScanPc.mw {r : Ret} {late : Bool} {p : PC} (h : ScanPc r late p) : p.mw = r.mw? := by
  cases p <;> simp [ScanPc] at h <;> simp [PC.mw, h]

theorem ScanPc.not_ret {r : Ret} {late : Bool} {p : PC} (h : ScanPc r late p) (c : MW) (cit : Bool) : p ≠ .mwRet c cit := by
  cases p <;> simp [ScanPc] at h <;> simp

theorem Inv2.scan {s s' : State} {r : Ret} {late : Bool} (t : Tid) (h : Inv2 s) (hd : s'.data = s.data) (hn : s'.now = s.now)
    (hpc : ∀ u, u ≠ t → s'.pc u = s.pc u) (hmw : (s.pc t).mw = r.mw?) (hp : ScanPc r late (s'.pc t)) : Inv2 s' := by
  refine Inv2.local t h hd hn hpc ⟨?_, ?_⟩
  · intro c hc; rw [hp.mw, ← hmw] at hc; exact (h t).1 c hc
  · intro c cit hc; exact absurd hc (hp.not_ret c cit)

theorem PcMove.timeOk {s : State} {p p' : PC} (h : PcMove s p p') {c' : MW} (hc : p'.mw = some c') :
    ∃ c0, p.mw = some c0 ∧ (TimeOk s.now c0 → TimeOk s.now c') := by
  cases h
  case semTimedOut c dl d h1 h2 h3 =>
    cases hc; subst h1
    exact ⟨_, rfl, fun h => And.intro (fun _ => ⟨d, h3.symm, h2⟩) (And.right h)⟩
  all_goals first | exact ⟨_, hc, id⟩ | (cases hc; exact ⟨_, rfl, id⟩) |
    (cases hc; exact ⟨_, rfl, fun h => And.intro (fun e => Outc.noConfusion e) (And.right h)⟩) | (cases hc; done) |
    (rename_i h; cases h <;> first | exact ⟨_, hc, id⟩ | (cases hc; exact ⟨_, rfl, id⟩) |
      (cases hc; exact ⟨_, rfl, fun h => And.intro (fun e => Outc.noConfusion e) (And.right h)⟩) | (cases hc; done))

theorem PcMove.ret {s : State} {p p' : PC} (h : PcMove s p p') {c : MW} {cit : Bool} (hc : p' = .mwRet c cit) :
    cit = evalOpt s.data c.cond := by
  cases h <;> first | (cases hc; done) | (rename_i h; cases h <;> first | (cases hc; done) | (cases hc; simp_all [evalOpt]))

theorem Inv2.move {s : State} {t : Tid} {p' : PC} (h : Inv2 s) (hp : PcMove s (s.pc t) p') : Inv2 (setPc s t p') := by
  refine Inv2.local t h rfl rfl (setFn_others rfl) ⟨?_, ?_⟩
  · intro c hc
    obtain ⟨c0, h0, e⟩ := hp.timeOk (by simpa using hc)
    exact e ((h t).1 c0 h0)
  · intro c cit hc
    exact hp.ret (by simpa using hc)
theorem CasPc.timeOk {s : State} {p p' : PC} {nw : Word} {w : Option Wid} (h : CasPc s p p' nw w) {c' : MW} (hc : p'.mw = some c') :
    ∃ c0, p.mw = some c0 ∧ (TimeOk s.now c0 → TimeOk s.now c') := by
  cases h <;> first | exact ⟨_, hc, id⟩ | (cases hc; done) |
    (cases hc; exact ⟨_, rfl, fun h => And.intro (fun e => Outc.noConfusion e) (And.right h)⟩) |
    (cases ‹Ret› <;> first | exact ⟨_, hc, id⟩ | (cases hc; done)) |
    (rw [loopPc_true] at hc; split at hc <;> (cases hc; exact ⟨_, ‹_›, id⟩))

/-- lock_slow called from nsync_mu_wait returns at once only if the wait has no condition. -/
theorem CasPc.ret {s : State} {p p' : PC} {nw : Word} {w : Option Wid} (h : CasPc s p p' nw w) {c : MW} {cit : Bool}
    (hc : p' = .mwRet c cit) : cit = evalOpt s.data c.cond := by
  cases h <;> first | (cases hc; done) | (cases ‹Ret› <;> cases hc) | skip
  rw [loopPc_true] at hc
  split at hc <;> cases hc
  cases hm : (‹MW›).cond with
  | none => rfl
  | some cd => rename_i hcnd; rw [hm] at hcnd; exact absurd rfl hcnd

theorem Inv2.cas {s s' : State} {t : Tid} {p' : PC} {nw : Word} {w : Option Wid} (h : Inv2 s) (hp : CasPc s (s.pc t) p' nw w)
    (ok : CasOk s t p' nw w s') : Inv2 s' := by
  have hpt : s'.pc t = p' := setFn_at ok.pc
  refine Inv2.local t h ok.data ok.now (setFn_others ok.pc) ⟨?_, ?_⟩
  · intro c hc
    obtain ⟨c0, h0, e⟩ := hp.timeOk (by rw [hpt] at hc; exact hc)
    exact e ((h t).1 c0 h0)
  · intro c cit hc
    exact hp.ret (hpt ▸ hc)

/-- Close a goal `Inv2 s'` for a step of thread `t` that changes neither data nor clock. -/
macro "inv2_local" t:ident h:ident heq:ident : tactic => `(tactic|
  (have hok := $h $t
   rw [$heq:ident] at hok
   refine Inv2.local $t $h (by simp) (by simp) (by intro u hu; simp [setFn, hu]) ?_
   (simp_all [PC.ok2, PC.mw, Ret.mw?, TimeOk, SL.entry, SL.fromWait, SL.woken, loopPc, finPc, Ret.pc, evalOpt]) <;> grind))

macro "ld_case2" t:ident h:ident heq:ident hs:ident : tactic => `(tactic|
  (try dsimp only at $hs:ident
   try simp only [ldWord, ldWaiting, casWord] at $hs:ident
   repeat' split at $hs:ident
   all_goals first
     | (cases $hs:ident; done)
     | (cases $hs:ident; inv2_local $t $h $heq)
     | (cases $hs:ident; split <;> inv2_local $t $h $heq)))

theorem finPc_mw (r : Ret) (l : List Wid) : (finPc r l).mw = r.mw? := by
  cases l <;> cases r <;> rfl

end NsyncVerif.MuC
