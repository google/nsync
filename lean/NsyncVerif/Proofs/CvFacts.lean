/-
  Layer `Cv`: runs of the acceptor from `init`, what an accepted event says about the state before it
  (`*_accepted`), and what signal's selection contains.
-/
import NsyncVerif.Proofs.CvInvBAll
import NsyncVerif.Proofs.CvInvC

namespace NsyncVerif.Cv

def runD (cfg : Config) (evs : List Event) : State :=
  match run cfg init evs with
  | .ok s => s
  | .error _ => init

def okRun (cfg : Config) (evs : List Event) : Bool :=
  match run cfg init evs with
  | .ok _ => true
  | .error _ => false

theorem run_runD {cfg : Config} {evs : List Event} (h : okRun cfg evs = true) :
    run cfg init evs = .ok (runD cfg evs) := by
  unfold okRun at h; unfold runD
  split at h
  · rename_i s hs; rw [hs]
  · cases h

theorem reachable_runD {cfg : Config} {evs : List Event} (h : okRun cfg evs = true) :
    Reachable cfg (runD cfg evs) := ⟨evs, run_runD h⟩

theorem reachable_step {cfg : Config} {s s' : State} {e : Event} (h : Reachable cfg s)
    (hs : step cfg s e = .ok s') : Reachable cfg s' := by
  obtain ⟨evs, he⟩ := h
  exact ⟨evs ++ [e], (isRun cfg).snoc he hs⟩

theorem relMark_accepted {cfg : Config} {s s' : State} {t : Tid} {op : MuOp}
    (hs : step cfg s (.relMark t op) = .ok s') : (s.thr t).loc = .wUnlock := by
  simp only [step, need_ok] at hs; exact hs.1

theorem wCmp_accepted {cfg : Config} {s s' : State} {t : Tid} {r : Rid} {obs : Nat}
    (hs : step cfg s (.recLd t .wCmp r obs) = .ok s') :
    (s.thr t).loc = .wCmp ∧ r = (s.thr t).r ∧ obs = (s.recs r).rc := by
  simp only [step] at hs
  unfold stepRecLd at hs
  split at hs
  · cases hs
  · rename_i y hy
    have hS := settle_inv hy
    dsimp only at hs
    split at hs <;> try contradiction
    rename_i hl
    have := settle_id_of_loc hS (by simp [hl]) (by simp [hl]); subst this
    simp only [need_ok] at hs
    exact ⟨hl, hs.1, hs.2.1⟩

/-- The loop of the wait is left: the record becomes idle. -/
theorem wHead_exit_accepted {cfg : Config} {s s' : State} {t : Tid} {r : Rid}
    (hs : step cfg s (.recLd t .wHead r 0) = .ok s') :
    (s.thr t).loc = .wHead ∧ r = (s.thr t).r ∧ (s'.recs r).stat = .idle ∧ (s'.thr t).loc = .wExit ∧
    (s'.thr t).exitUnl = (s.recs r).unl ∧ (s'.recs r).unl = (s.recs r).unl ∧ (s'.thr t).r = r ∧ (s'.thr t).out = (s.thr t).out := by
  simp only [step] at hs
  unfold stepRecLd at hs
  split at hs
  · cases hs
  · rename_i y hy
    have hS := settle_inv hy
    dsimp only at hs
    split at hs <;> try contradiction
    rename_i hl
    have := settle_id_of_loc hS (by simp [hl]) (by simp [hl]); subst this
    simp only [need_ok] at hs
    obtain ⟨hr, _, hs⟩ := hs
    simp only [if_true] at hs
    cases hs
    subst hr
    simp [hl]

theorem retBroadcast_accepted {cfg : Config} {s s' : State} {t : Tid}
    (hs : step cfg s (.retBroadcast t) = .ok s') : (s.thr t).loc = .kRet ∧ (s.thr t).bcast = true := by
  simp only [step] at hs
  obtain ⟨hok, _⟩ := stepRet_ok hs
  simpa using hok

theorem retSignal_accepted {cfg : Config} {s s' : State} {t : Tid}
    (hs : step cfg s (.retSignal t) = .ok s') : (s.thr t).loc = .kRet ∧ (s.thr t).bcast = false := by
  simp only [step] at hs
  obtain ⟨hok, _⟩ := stepRet_ok hs
  simpa using hok

/-- The successor state of a successful CAS on the cv word by signal / broadcast. -/
theorem acq_sig_state {cfg : Config} {s s' : State} {t : Tid} {exp new obs : Nat}
    (hs : step cfg s (.wordCas t exp new obs true) = .ok s') (hc : (s.thr t).cont = .sig) :
    (s.thr t).loc = .spCas ∧
    s'.queue = s.queue.filter
      (fun r => !((if (s.thr t).bcast then s.queue else sigSelect s.recs s.queue).contains r)) ∧
    (∀ r, s'.recs r =
      if (if (s.thr t).bcast then s.queue else sigSelect s.recs s.queue).contains r then
        { s.recs r with stat := .listed t, unl := (s.recs r).unl ++ [Unl.waker t] } else s.recs r) ∧
    (s'.thr t).list = (if (s.thr t).bcast then s.queue else sigSelect s.recs s.queue) := by
  simp only [step, stepWordCas, need_ok] at hs
  obtain ⟨hl, _, _, _, _, hs⟩ := hs
  simp only [if_true] at hs
  split at hs
  · cases hs
    refine ⟨hl, ?_⟩
    unfold afterAcquire
    simp only [hc]
    refine ⟨trivial, fun r => trivial, ?_⟩
    simp
  · cases hs


theorem pickReaders_readers (recs : Rid → Rec) (l : List Rid) (w : Bool) (r : Rid) (hr : r ∈ l)
    (hrd : isReader recs r = true) : r ∈ pickReaders recs l w := by
  induction l generalizing w with
  | nil => cases hr
  | cons p ps ih =>
    simp only [pickReaders]
    rcases List.mem_cons.mp hr with rfl | hr
    · simp [hrd]
    · split
      · exact List.mem_cons_of_mem _ (ih w hr)
      · split
        · exact ih w hr
        · exact List.mem_cons_of_mem _ (ih true hr)

theorem pickReaders_nonreaders (recs : Rid → Rec) (l : List Rid) (w : Bool) :
    ((pickReaders recs l w).filter (fun r => !isReader recs r)).length ≤ (if w then 0 else 1) := by
  induction l generalizing w with
  | nil => simp [pickReaders]
  | cons p ps ih =>
    simp only [pickReaders]
    by_cases hp : isReader recs p = true
    · simp only [hp, if_true, List.filter_cons, Bool.not_true, Bool.false_eq_true, if_false]
      exact ih w
    · simp only [hp]
      cases w with
      | true => simpa using ih true
      | false =>
        simp only [Bool.false_eq_true, if_false, List.filter_cons]
        have hp' : (!isReader recs p) = true := by simpa using hp
        simp only [hp', if_true, List.length_cons]
        have := ih true
        simp at this
        simp
        exact this

/-- cv.c:338-383: if the first waiter is a reader, every reader in the queue is selected. -/
theorem sigSelect_readers (recs : Rid → Rec) (f : Rid) (rest : List Rid) (hf : isReader recs f = true)
    (r : Rid) (hr : r ∈ f :: rest) (hrd : isReader recs r = true) : r ∈ sigSelect recs (f :: rest) := by
  simp only [sigSelect, hf, if_true]
  rcases List.mem_cons.mp hr with rfl | hr
  · simp
  · exact List.mem_cons_of_mem _ (pickReaders_readers recs rest false r hr hrd)

/-- … and at most one record that is not a reader. -/
theorem sigSelect_nonreaders (recs : Rid → Rec) (l : List Rid) :
    ((sigSelect recs l).filter (fun r => !isReader recs r)).length ≤ 1 := by
  cases l with
  | nil => simp [sigSelect]
  | cons f rest =>
    simp only [sigSelect]
    by_cases hf : isReader recs f = true
    · simp only [hf, if_true, List.filter_cons, Bool.not_true, Bool.false_eq_true, if_false]
      simpa using pickReaders_nonreaders recs rest false
    · simp only [hf]
      simp [List.filter_cons]
      split <;> simp

end NsyncVerif.Cv
