/-!
# Schedules

What the fair-termination proofs of all layers need about time, stated once.  A layer's infinite execution
`ρ : Nat → State`, `σ : Nat → Option Event` enters only through predicates on time, above all `M j`: "the
thread under consideration moves at time `j`".

* Induction along time: what every step keeps is kept (`keeps_from`; for a relation `rel_from`, for an
  execution `along`).
* Between two moves: the first move after a given time (`first_at`); what only a move can destroy or change
  survives a stretch without one (`inv_between`, `const_between`).
* Descent: a rank in a well-founded order cannot go down for ever (`descends`).  Leads-to by a local rank is
  descent from move to move (`leads_wf`; `leads_or`, `leads` for ranks in `Nat`; `chain`: without a goal the
  class is empty).
* Finitely often: `not_recurs`, `finite_wf` (the goal is reached or the thread stops moving),
  `mono_stabilizes`, `eventually_list`.
* How a fairness hypothesis is used: `moves_of_fair`.
-/
namespace NsyncVerif.Sched

variable {M : Nat → Prop}

/-! ### along time -/

/-- A predicate on time that every step from `i` on keeps holds from `i` on. -/
theorem keeps_from {P : Nat → Prop} {i : Nat} (h0 : P i) (hs : ∀ j, i ≤ j → P j → P (j + 1)) :
    ∀ j, i ≤ j → P j := by
  intro j hij
  obtain ⟨d, rfl⟩ : ∃ d, j = i + d := ⟨j - i, by omega⟩
  induction d with
  | zero => exact h0
  | succ d ih => exact hs (i + d) (by omega) (ih (by omega))

/-- A reflexive and transitive relation that holds across every step from `i` on holds from `i`
    to every later time. -/
theorem rel_from {α : Type _} {r : α → α → Prop} (hrefl : ∀ a, r a a) (htrans : ∀ {a b c}, r a b → r b c → r a c)
    {f : Nat → α} {i : Nat} (h : ∀ j, i ≤ j → r (f j) (f (j + 1))) : ∀ j, i ≤ j → r (f i) (f j) :=
  keeps_from (P := fun j => r (f i) (f j)) (hrefl _) (fun j hj a => htrans a (h j hj))

/-- A sequence of naturals that no step from `i` on raises stays below its value at `i`. -/
theorem mono_from {f : Nat → Nat} {i : Nat} (h : ∀ j, i ≤ j → f (j + 1) ≤ f j) : ∀ j, i ≤ j → f j ≤ f i :=
  rel_from (r := fun a b : Nat => b ≤ a) Nat.le_refl (fun h1 h2 => Nat.le_trans h2 h1) h

/-- Along an execution as the layers define it (`σ i = none`: nobody moves at time `i`), what every
    accepted step keeps is kept.  The two halves of a layer's `Exec.next` are passed separately. -/
theorem along {S E ε : Type _} {step : S → E → Except ε S} {ρ : Nat → S} {σ : Nat → Option E}
    (none : ∀ {i}, σ i = none → ρ (i + 1) = ρ i)
    (some : ∀ {i e}, σ i = some e → step (ρ i) e = .ok (ρ (i + 1)))
    {P : S → Prop} (hs : ∀ s e s', P s → step s e = .ok s' → P s') {i : Nat} (h0 : P (ρ i)) :
    ∀ j, i ≤ j → P (ρ j) :=
  keeps_from h0 fun j _ hp => by
    cases h : σ j with
    | none => rw [none h]; exact hp
    | some e => exact hs _ _ _ hp (some h)

/-! ### between two moves -/

/-- The first time at or after `i` at which `M` holds. -/
theorem first_at {i : Nat} (h : ∃ j, i ≤ j ∧ M j) :
    ∃ j, i ≤ j ∧ M j ∧ ∀ j', i ≤ j' → j' < j → ¬ M j' := by
  obtain ⟨j, hij, hm⟩ := h
  obtain ⟨d, rfl⟩ : ∃ d, j = i + d := ⟨j - i, by omega⟩
  induction d generalizing i with
  | zero => exact ⟨i, Nat.le_refl _, hm, fun j' h1 h2 => by omega⟩
  | succ d ih =>
    by_cases hi : M i
    · exact ⟨i, Nat.le_refl _, hi, fun j' h1 h2 => by omega⟩
    · obtain ⟨j, h1, h2, h3⟩ := ih (i := i + 1) (by omega) (by rwa [show i + 1 + d = i + (d + 1) by omega])
      refine ⟨j, by omega, h2, fun j' h4 h5 => ?_⟩
      by_cases hj : j' = i
      · exact hj ▸ hi
      · exact h3 j' (by omega) h5

/-- A property that only a time at which `M` holds can destroy is kept over an interval without
    such a time. -/
theorem inv_between {P : Nat → Prop} {i j : Nat} (hP : ∀ k, i ≤ k → P k → ¬ M k → P (k + 1)) (hi : P i)
    (hij : i ≤ j) (h : ∀ j', i ≤ j' → j' < j → ¬ M j') : P j :=
  keeps_from (P := fun k => k ≤ j → P k) (fun _ => hi)
    (fun k hk ih hle => hP k hk (ih (by omega)) (h k hk (by omega))) j hij (Nat.le_refl _)

/-- A quantity that changes only at times at which `M` holds is constant over an interval
    without such a time. -/
theorem const_between {α : Type _} {f : Nat → α} (hf : ∀ j, ¬ M j → f (j + 1) = f j) {i j : Nat}
    (hij : i ≤ j) (h : ∀ j', i ≤ j' → j' < j → ¬ M j') : f j = f i :=
  inv_between (P := fun k => f k = f i) (fun k _ hk hm => (hf k hm).trans hk) rfl hij h

/-! ### descent and leads-to -/

/-- Descent.  From every time in the class `R` a later time is reached at which the goal `G` holds, or `R`
    again with a smaller rank.  Then `G` is reached. -/
theorem descends {α : Type _} {r : α → α → Prop} (wf : WellFounded r) (R G : Nat → Prop) (rk : Nat → α)
    (h : ∀ j, R j → ∃ j', j ≤ j' ∧ (G j' ∨ (R j' ∧ r (rk j') (rk j)))) : ∀ i, R i → ∃ j, i ≤ j ∧ G j := by
  intro i hR
  generalize hp : rk i = p
  induction p using wf.induction generalizing i with
  | _ p ih =>
    obtain ⟨j', h1, hg | ⟨hR', hlt⟩⟩ := h i hR
    · exact ⟨j', h1, hg⟩
    · obtain ⟨j, h2, hg⟩ := ih _ (hp ▸ hlt) j' hR' rfl
      exact ⟨j, by omega, hg⟩

/-- Leads-to by a local rank.  In the class of times `R` the thread always moves again, as long as the goal
    `G` is not reached; while it does not move `R` is kept and the rank does not go up; each of its moves
    keeps `R` and takes the rank down — unless `G` is reached.  Then `G` is reached. -/
theorem leads_wf {α : Type _} {r : α → α → Prop} (wf : WellFounded r) (R G : Nat → Prop) (rk : Nat → α)
    (hstay : ∀ j, R j → ¬ M j → G (j + 1) ∨ (R (j + 1) ∧ (rk (j + 1) = rk j ∨ r (rk (j + 1)) (rk j))))
    (hmove : ∀ j, R j → M j → G (j + 1) ∨ (R (j + 1) ∧ r (rk (j + 1)) (rk j)))
    (hlive : ∀ j, R j → ∃ j', j ≤ j' ∧ (M j' ∨ G j')) :
    ∀ i, R i → ∃ j, i ≤ j ∧ G j :=
  descends (WellFounded.transGen wf) R G rk fun i hR => by
    -- up to the next move the rank is equal or below (`inv_between`), the move takes it down
    obtain ⟨j, hij, hmg, hno⟩ := first_at (M := fun j => M j ∨ G j) (hlive i hR)
    have hj := inv_between (M := fun j => M j ∨ G j)
      (P := fun k => (∃ j', i ≤ j' ∧ G j') ∨ (R k ∧ (rk k = rk i ∨ Relation.TransGen r (rk k) (rk i))))
      (fun k hk hP hn => hP.elim .inl fun ⟨hRk, b⟩ =>
        (hstay k hRk fun hm => hn (.inl hm)).elim (fun hg => .inl ⟨k + 1, by omega, hg⟩) fun ⟨hR', b'⟩ =>
          .inr ⟨hR', b'.elim (fun e => e ▸ b) fun lt => .inr (b.elim (fun e => e ▸ .single lt) (.trans (.single lt)))⟩)
      (.inr ⟨hR, .inl rfl⟩) hij hno
    rcases hj with ⟨j', h1, hg⟩ | ⟨hRj, b⟩
    · exact ⟨j', h1, .inl hg⟩
    · rcases hmg with hm | hg
      · rcases hmove j hRj hm with hg | ⟨hR', c⟩
        · exact ⟨j + 1, by omega, .inl hg⟩
        · exact ⟨j + 1, by omega, .inr ⟨hR', b.elim (fun e => e ▸ .single c) (.trans (.single c))⟩⟩
      · exact ⟨j, hij, .inl hg⟩

/-- `leads_wf` for a rank in `Nat`. -/
theorem leads_or (R G : Nat → Prop) (rk : Nat → Nat)
    (hstay : ∀ j, R j → ¬ M j → G (j + 1) ∨ (R (j + 1) ∧ rk (j + 1) ≤ rk j))
    (hmove : ∀ j, R j → M j → G (j + 1) ∨ (R (j + 1) ∧ rk (j + 1) < rk j))
    (hlive : ∀ j, R j → ∃ j', j ≤ j' ∧ (M j' ∨ G j')) :
    ∀ i, R i → ∃ j, i ≤ j ∧ G j :=
  leads_wf (M := M) Nat.lt_wfRel.wf R G rk
    (fun j hR hm => (hstay j hR hm).imp id (fun ⟨a, b⟩ => ⟨a, (Nat.eq_or_lt_of_le b)⟩))
    hmove hlive

/-- … for a thread that always moves again. -/
theorem leads (R G : Nat → Prop) (rk : Nat → Nat)
    (hstay : ∀ j, R j → ¬ M j → G (j + 1) ∨ (R (j + 1) ∧ rk (j + 1) ≤ rk j))
    (hmove : ∀ j, R j → M j → G (j + 1) ∨ (R (j + 1) ∧ rk (j + 1) < rk j))
    (hlive : ∀ j, R j → ∃ j', j ≤ j' ∧ M j') :
    ∀ i, R i → ∃ j, i ≤ j ∧ G j :=
  leads_or (M := M) R G rk hstay hmove fun j hR => (hlive j hR).imp fun _ h => ⟨h.1, .inl h.2⟩

/-- The chain argument: a class of times with a rank that times without a move do not raise and
    every move lowers, and in which a move always comes again, is empty. -/
theorem chain {i : Nat} (R : Nat → Prop) (rk : Nat → Nat)
    (hstay : ∀ j, i ≤ j → R j → ¬ M j → R (j + 1) ∧ rk (j + 1) ≤ rk j)
    (hmove : ∀ j, i ≤ j → R j → M j → R (j + 1) ∧ rk (j + 1) < rk j)
    (hlive : ∀ j, i ≤ j → R j → ∃ j', j ≤ j' ∧ M j') :
    ∀ j, i ≤ j → ¬ R j := fun j hj hR =>
  let ⟨_, _, hf⟩ := leads (M := M) (fun j => i ≤ j ∧ R j) (fun _ => False) rk
    (fun j ⟨a, b⟩ hm => .inr ⟨⟨Nat.le_succ_of_le a, (hstay j a b hm).1⟩, (hstay j a b hm).2⟩)
    (fun j ⟨a, b⟩ hm => .inr ⟨⟨Nat.le_succ_of_le a, (hmove j a b hm).1⟩, (hmove j a b hm).2⟩)
    (fun j ⟨a, b⟩ => hlive j a b) j ⟨hj, hR⟩
  hf

/-! ### finitely often -/

/-- What does not hold again and again does not hold from some time on. -/
theorem not_recurs {P : Nat → Prop} {T : Nat} (h : ¬ ∀ i, T ≤ i → ∃ j, i ≤ j ∧ P j) :
    ∃ i, T ≤ i ∧ ∀ j, i ≤ j → ¬ P j :=
  Classical.byContradiction fun hno => h fun i hi =>
    Classical.byContradiction fun hn => hno ⟨i, hi, fun j hj hp => hn ⟨j, hj, hp⟩⟩

/-- Finitely many moves by a well-founded rank: from `i` on the rank does not go up while the thread
    does not move and goes down with each of its moves — unless the goal `G` is reached.  Then `G` is
    reached or the thread moves finitely often. -/
theorem finite_wf {α : Type _} {r : α → α → Prop} (wf : WellFounded r) (G : Nat → Prop) (rk : Nat → α)
    {i : Nat}
    (hstay : ∀ j, i ≤ j → ¬ M j → G (j + 1) ∨ rk (j + 1) = rk j ∨ r (rk (j + 1)) (rk j))
    (hmove : ∀ j, i ≤ j → M j → G (j + 1) ∨ r (rk (j + 1)) (rk j)) :
    (∃ j, i ≤ j ∧ G j) ∨ ∃ i', ∀ j, i' ≤ j → ¬ M j :=
  (Classical.em (∀ i', i ≤ i' → ∃ j, i' ≤ j ∧ M j)).elim
    (fun hl => .inl (leads_wf (M := M) wf (fun j => i ≤ j) G rk
      (fun j hR hm => (hstay j hR hm).imp id fun h => ⟨Nat.le_succ_of_le hR, h⟩)
      (fun j hR hm => (hmove j hR hm).imp id fun h => ⟨Nat.le_succ_of_le hR, h⟩)
      (fun j hR => (hl j hR).imp fun _ h => ⟨h.1, .inl h.2⟩) i (Nat.le_refl _)))
    (fun hn => let ⟨i', _, h⟩ := not_recurs hn; .inr ⟨i', h⟩)

/-- A non-increasing sequence of naturals is eventually constant: it goes down finitely often. -/
theorem mono_stabilizes (f : Nat → Nat) {i : Nat} (h : ∀ j, i ≤ j → f (j + 1) ≤ f j) :
    ∃ n, i ≤ n ∧ ∀ j, n ≤ j → f j = f n := by
  rcases finite_wf (M := fun j => f (j + 1) < f j) Nat.lt_wfRel.wf (fun _ => False) f (i := i)
      (fun j hj hm => .inr (.inl (Nat.le_antisymm (h j hj) (Nat.le_of_not_lt hm))))
      (fun j _ hm => .inr hm) with ⟨_, _, hF⟩ | ⟨n, hn⟩
  · exact hF.elim
  · refine ⟨max n i, Nat.le_max_right _ _, ?_⟩
    exact keeps_from (P := fun j => f j = f (max n i)) rfl fun j hj ih => by
      have := h j (by omega); have := hn j (by omega); omega

/-- Finitely many "eventually for ever" hold together eventually for ever. -/
theorem eventually_list {α : Type _} {P : α → Nat → Prop} (i : Nat) : ∀ (L : List α),
    (∀ t ∈ L, ∃ n, i ≤ n ∧ ∀ j, n ≤ j → P t j) →
    ∃ n, i ≤ n ∧ ∀ t ∈ L, ∀ j, n ≤ j → P t j := by
  intro L
  induction L with
  | nil => intro _; exact ⟨i, Nat.le_refl _, fun t ht => by cases ht⟩
  | cons u L ih =>
    intro h
    obtain ⟨n1, h1, hP1⟩ := h u (by simp)
    obtain ⟨n2, h2, hP2⟩ := ih (fun t ht => h t (by simp [ht]))
    refine ⟨max n1 n2, by omega, fun t ht j hj => ?_⟩
    rcases List.mem_cons.1 ht with rfl | ht'
    · exact hP1 j (by omega)
    · exact hP2 t ht' j (by omega)

/-! ### fairness -/

/-- How a fairness hypothesis "ready for ever from `i` on, hence it moves" is used: it is enough to be
    ready as long as one has not moved. -/
theorem moves_of_fair {Rdy : Nat → Prop} {i : Nat} (fair : (∀ j, i ≤ j → Rdy j) → ∃ j, i ≤ j ∧ M j)
    (h : ∀ j, i ≤ j → (∀ j', i ≤ j' → j' < j → ¬ M j') → Rdy j) : ∃ j, i ≤ j ∧ M j :=
  Classical.byContradiction fun hn =>
    hn (fair fun j hj => h j hj fun j' h1 _ hm => hn ⟨j', h1, hm⟩)

end NsyncVerif.Sched
