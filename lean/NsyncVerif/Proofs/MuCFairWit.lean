import NsyncVerif.Proofs.MuCFairTrace
/-
  MuC, fair termination: executable criteria for the hypotheses of `C06_fair_termination_full` on an execution given
  by a finite accepted trace (followed by idling, or by a loop), for the witnesses of Props/C06Fair.lean.
-/
namespace NsyncVerif.MuC

/-- `f` holds in every state of the run of `evs` from `s` (one pass; false if the run is rejected). -/
def allStates (cfg : Cfg) (f : State → Bool) : State → List Event → Bool
  | s, [] => f s
  | s, e :: es => f s && (match step cfg s e with | .ok s1 => allStates cfg f s1 es | .error _ => false)

theorem allStates_take {cfg : Cfg} {f : State → Bool} : ∀ (evs : List Event) (s : State), allStates cfg f s evs = true →
    ∀ i s', run cfg s (evs.take i) = .ok s' → f s' = true := by
  intro evs
  induction evs with
  | nil =>
    intro s h i s' hr
    simp [run] at hr; subst hr; simpa [allStates] using h
  | cons e es ih =>
    intro s h i s' hr
    simp only [allStates, Bool.and_eq_true] at h
    cases i with
    | zero => simp [run] at hr; subst hr; exact h.1
    | succ i =>
      simp only [List.take_succ_cons, run] at hr
      cases hs : step cfg s e with
      | error m => rw [hs] at hr; cases hr
      | ok s1 =>
        rw [hs] at hr
        have h2 := h.2; rw [hs] at h2
        exact ih s1 h2 i s' hr

theorem allStates_stateAt {cfg : Cfg} {f : State → Bool} {evs : List Event} {sf : State} (h : run cfg init evs = .ok sf)
    (ha : allStates cfg f init evs = true) (i : Nat) : f (stateAt cfg evs i) = true :=
  allStates_take evs init ha i _ (stateAt_ok h i)

/-- Every thread that occurs in the trace has a number below `T`. -/
def tidsBelow (T : Nat) (evs : List Event) : Bool :=
  evs.all (fun e => match e.tid with | some t => decide (t < T) | none => true)

theorem untouched_stateAt {cfg : Cfg} {evs : List Event} {sf : State} (h : run cfg init evs = .ok sf) {T : Nat}
    (hT : tidsBelow T evs = true) {t : Tid} (ht : ¬ t < T) (i : Nat) :
    (stateAt cfg evs i).pc t = .idle ∧ (stateAt cfg evs i).held t = none := by
  have hne : ∀ e ∈ evs.take i, e.tid ≠ some t := by
    intro e he htid
    simp only [tidsBelow, List.all_eq_true] at hT
    have := hT e (List.mem_of_mem_take he)
    rw [htid] at this
    exact ht (by simpa using this)
  obtain ⟨a, b⟩ := run_other t (evs.take i) init _ hne (stateAt_ok h i)
  exact ⟨by rw [a]; rfl, by rw [b]; rfl⟩

/-- A per-thread check that holds along the whole trace holds for every thread in every state. -/
theorem trace_all {cfg : Cfg} {evs : List Event} {sf : State} (h : run cfg init evs = .ok sf) {T : Nat}
    (hT : tidsBelow T evs = true) (g : State → Tid → Bool) (hidle : ∀ s t, s.pc t = .idle → g s t = true)
    (hall : allStates cfg (fun s => (List.range T).all (g s)) init evs = true) (i : Nat) (t : Tid) :
    g (stateAt cfg evs i) t = true := by
  by_cases ht : t < T
  · have := allStates_stateAt h hall i
    simp only [List.all_eq_true, List.mem_range] at this
    exact this t ht
  · exact hidle _ _ (untouched_stateAt h hT ht i).1

def noteB (s : State) (t : Tid) : Bool :=
  match s.pc t with
  | .mwPdRet c _ => !c.saw
  | _ => true

def clockB (s : State) (t : Tid) : Bool :=
  match s.pc t with
  | .mwPdRet _ (some d) => decide (d ≤ s.now)
  | _ => true

/-- The final state: every thread below `T` is idle or asleep, and holds nothing. -/
def finalB (T : Nat) (s : State) : Bool :=
  (List.range T).all (fun t => (decide (s.pc t = .idle) || asleepSemB s t) && decide (s.held t = none))

theorem final_of_finalB {cfg : Cfg} {evs : List Event} {sf : State} (h : run cfg init evs = .ok sf) {T : Nat}
    (hT : tidsBelow T evs = true) (hf : finalB T sf = true) (t : Tid) :
    (sf.pc t = .idle ∨ AsleepOnSem sf t) ∧ sf.held t = none := by
  by_cases ht : t < T
  · simp only [finalB, List.all_eq_true, List.mem_range, Bool.and_eq_true, Bool.or_eq_true, decide_eq_true_eq] at hf
    obtain ⟨a, b⟩ := hf t ht
    exact ⟨a.imp id (fun e => (asleepSemB_iff _ _).1 e), b⟩
  · have := untouched_stateAt h hT ht evs.length
    rw [stateAt_ge h (Nat.le_refl _)] at this
    exact ⟨Or.inl this.1, this.2⟩

/-- The five hypotheses that only concern the tail, for a trace followed by idling. -/
theorem trace_fair5 {cfg : Cfg} {evs : List Event} {sf : State} (h : run cfg init evs = .ok sf) {T : Nat}
    (hT : tidsBelow T evs = true) (hf : finalB T sf = true) :
    WeakFair (traceExec cfg evs sf h) ∧ HoldersRelease (traceExec cfg evs sf h) ∧ FiniteArrivals (traceExec cfg evs sf h) ∧
      FiniteRcFails (traceExec cfg evs sf h) ∧ FiniteEnvPosts (traceExec cfg evs sf h) :=
  fairHyps_of_idle_tail _ (reachable_init cfg) evs.length
    (fun j hj => (traceExec_tail h hj).2)
    (fun j hj t => by rw [(traceExec_tail h hj).1]; exact (final_of_finalB h hT hf t).1)
    (fun j hj t => by rw [(traceExec_tail h hj).1]; exact (final_of_finalB h hT hf t).2)

theorem noteB_idle (s : State) (t : Tid) (h : s.pc t = .idle) : noteB s t = true := by simp [noteB, h]
theorem clockB_idle (s : State) (t : Tid) (h : s.pc t = .idle) : clockB s t = true := by simp [clockB, h]

theorem trace_note {cfg : Cfg} {evs : List Event} {sf : State} (h : run cfg init evs = .ok sf) {T : Nat}
    (hT : tidsBelow T evs = true) (hall : allStates cfg (fun s => (List.range T).all (noteB s)) init evs = true)
    (hns : evs.all (fun e => !e.isNoteSeen) = true) :
    NoteHonoured (traceExec cfg evs sf h) := by
  refine ⟨?_, ?_⟩
  · intro j t c dl hp
    have := trace_all h hT noteB noteB_idle hall j t
    have hp' : (stateAt cfg evs j).pc t = .mwPdRet c dl := hp
    simpa [noteB, hp'] using this
  · intro j t c _ _ hσ
    have hσ' : evs[j]? = some (.noteSeen t) := hσ
    have := (List.all_eq_true.mp hns) _ (List.mem_of_getElem? hσ')
    simp [Event.isNoteSeen] at this

theorem trace_contract {cfg : Cfg} {evs : List Event} {sf : State} (h : run cfg init evs = .ok sf)
    (hall : allStates cfg (fun s => !s.nwViol) init evs = true) : ContractKept (traceExec cfg evs sf h) := by
  intro j
  have := allStates_stateAt h hall j
  show (stateAt cfg evs j).nwViol = false
  simpa using this

theorem trace_clock {cfg : Cfg} {evs : List Event} {sf : State} (h : run cfg init evs = .ok sf) {T : Nat}
    (hT : tidsBelow T evs = true) (hall : allStates cfg (fun s => (List.range T).all (clockB s)) init evs = true) :
    ClockAdvances (traceExec cfg evs sf h) := by
  intro t i c d hp
  have := trace_all h hT clockB clockB_idle hall i t
  have hp' : (stateAt cfg evs i).pc t = .mwPdRet c (some d) := hp
  refine ⟨i, Nat.le_refl _, Or.inl ?_⟩
  show d ≤ (stateAt cfg evs i).now
  simpa [clockB, hp'] using this

/-- All hypotheses for a trace followed by idling, from four executable checks. -/
theorem trace_fairHyps {cfg : Cfg} {evs : List Event} {sf : State} (h : run cfg init evs = .ok sf) {T : Nat}
    (hT : tidsBelow T evs = true) (hf : finalB T sf = true)
    (hn : allStates cfg (fun s => (List.range T).all (noteB s)) init evs = true)
    (hns : evs.all (fun e => !e.isNoteSeen) = true)
    (hc : allStates cfg (fun s => !s.nwViol) init evs = true)
    (hk : allStates cfg (fun s => (List.range T).all (clockB s)) init evs = true) :
    FairHyps (traceExec cfg evs sf h) := by
  obtain ⟨a, b, c, d, e⟩ := trace_fair5 h hT hf
  exact ⟨reachable_init cfg, a, b, c, d, e, trace_note h hT hn hns, trace_contract h hc, trace_clock h hT hk⟩

/-- The final state: every thread below `T` is idle or asleep (it may hold the mutex). -/
def finalPcB (T : Nat) (s : State) : Bool :=
  (List.range T).all (fun t => decide (s.pc t = .idle) || asleepSemB s t)

/-- The hypotheses that only concern the tail, except `HoldersRelease`. -/
theorem trace_fair4 {cfg : Cfg} {evs : List Event} {sf : State} (h : run cfg init evs = .ok sf) {T : Nat}
    (hT : tidsBelow T evs = true) (hf : finalPcB T sf = true) :
    WeakFair (traceExec cfg evs sf h) ∧ FiniteArrivals (traceExec cfg evs sf h) ∧
      FiniteRcFails (traceExec cfg evs sf h) ∧ FiniteEnvPosts (traceExec cfg evs sf h) := by
  refine ⟨weakFair_of_final _ evs.length (fun j hj t => ?_), finite_of_tail _ evs.length (fun j hj => (traceExec_tail h hj).2)⟩
  rw [(traceExec_tail h hj).1]
  by_cases ht : t < T
  · simp only [finalPcB, List.all_eq_true, List.mem_range, Bool.or_eq_true, decide_eq_true_eq] at hf
    exact (hf t ht).imp id (fun e => (asleepSemB_iff _ _).1 e)
  · have := untouched_stateAt h hT ht evs.length
    rw [stateAt_ge h (Nat.le_refl _)] at this
    exact Or.inl this.1

/-- A check that holds along the trace from position `n` on. -/
theorem allStates_from {cfg : Cfg} {f : State → Bool} {evs : List Event} {sf : State} (h : run cfg init evs = .ok sf) (n : Nat)
    (ha : allStates cfg f (stateAt cfg evs n) (evs.drop n) = true) (j : Nat) (hj : n ≤ j) : f (stateAt cfg evs j) = true := by
  obtain ⟨i, rfl⟩ : ∃ i, j = n + i := ⟨j - n, by omega⟩
  have h1 := stateAt_ok h (n + i)
  rw [List.take_add] at h1
  obtain ⟨s1, a, b⟩ := (isRun cfg).append.mp h1
  have : s1 = stateAt cfg evs n := by
    have := stateAt_ok h n; rw [a] at this; exact Except.ok.inj this
  subst this
  exact allStates_take _ _ ha i _ b

theorem never_idle_from {cfg : Cfg} {evs : List Event} {sf : State} (h : run cfg init evs = .ok sf) (t : Tid) (n : Nat)
    (ha : allStates cfg (fun s => !decide (s.pc t = .idle)) (stateAt cfg evs n) (evs.drop n) = true) (j : Nat) (hj : n ≤ j) :
    (stateAt cfg evs j).pc t ≠ .idle := by
  simpa using allStates_from h n ha j hj

end NsyncVerif.MuC
