/-
  Proofs/CounterTrans.lean — the accepted transitions of `stepThr` as a relation.

  `Tr sh t p e sh' p'`: thread `t` at program point `p`, with shared state `sh`, accepts the event
  `e` that `p` prescribes and goes to `p'` with shared state `sh'`.  One constructor per accepting
  branch of `stepThr`, with the guard of that branch as hypothesis.  Every other accepted event is
  one that `dflt` lets pass (`stepThr_ok`); `Own` is the two together, on the components of the state
  (`own_step`).  The invariant, the per-step facts and the enabledness lemma are case analyses of `Tr`.
-/
import NsyncVerif.Model.Counter

namespace Counter

inductive Tr (sh : Shared) (t : Tid) : PC → Ev → Shared → PC → Prop
  | callNew {v} : sh.phase = .absent ∧ v < two32 → Tr sh t .idle (.callNew v) sh (.newMalloc v)
  | callFree : sh.phase = .live ∧ sh.active = 0 → Tr sh t .idle .callFree sh .fLockCall
  | callAddZero {d} : sh.phase = .live ∧ int32ok d → d = 0 →
      Tr sh t .idle (.callAdd d) { sh with active := sh.active + 1 } .azLoad
  | callAdd {d} : sh.phase = .live ∧ int32ok d → ¬ d = 0 →
      Tr sh t .idle (.callAdd d) { sh with active := sh.active + 1 } (.aLockCall d)
  | callValue : sh.phase = .live → Tr sh t .idle .callValue { sh with active := sh.active + 1 } .valLoad
  | callWait {dl} : sh.phase = .live →
      Tr sh t .idle (.callWait dl) { sh with active := sh.active + 1 } (.w0Store dl)
  | mallocFail {v} : Tr sh t (.newMalloc v) (.malloc false) sh (.newRet false)
  | mallocOk {v} : sh.phase = .absent →
      Tr sh t (.newMalloc v) (.malloc true) { sh with phase := .creating } (.newStore v)
  | newStore {v new obs} : new = v ∧ obs = 0 ∧ sh.phase = .creating →
      Tr sh t (.newStore v) (.st .rlx .value new obs)
        { sh with phase := .live, value := v, created := true, initial := v, hist := [v] } (.newRet true)
  | newRet {ok ok'} : ok' = ok → Tr sh t (.newRet ok) (.retNew ok') sh .idle
  | fLockCall {m} : sh.useMu m = some { sh with mu := some m } →
      Tr sh t .fLockCall (.callLock m) { sh with mu := some m } .fLockWait
  | fLockWait : sh.lockHolder = none → Tr sh t .fLockWait .retLock { sh with lockHolder := some t } .fHeld
  | fHeld {m} : sh.mu = some m ∧ sh.waiters = [] →
      Tr sh t .fHeld (.callUnlock m) { sh with lockHolder := none } .fUnlockWait
  | fUnlockWait : Tr sh t .fUnlockWait .retUnlock sh .fFree
  | fFree : sh.phase = .live → Tr sh t .fFree .free { sh with phase := .freed } .fRet
  | fRet : Tr sh t .fRet .retFree sh .idle
  | valLoad {obs} : obs = sh.value → Tr sh t .valLoad (.ld .acq .value obs) sh (.valRet obs)
  | valRet {v r} : r = v → Tr sh t (.valRet v) (.retValue r) { sh with active := sh.active - 1 } .idle
  | azLoad {obs} : obs = sh.value → Tr sh t .azLoad (.ld .acq .value obs) sh (.azRet obs)
  | azRet {v r} : r = v → Tr sh t (.azRet v) (.retAdd r) { sh with active := sh.active - 1 } .idle
  | aLockCall {d m} : sh.useMu m = some { sh with mu := some m } →
      Tr sh t (.aLockCall d) (.callLock m) { sh with mu := some m } (.aLockWait d)
  | aLockWait {d} : sh.lockHolder = none →
      Tr sh t (.aLockWait d) .retLock { sh with lockHolder := some t } (.aLoad d)
  | aLoad {d obs} : obs = sh.value → Tr sh t (.aLoad d) (.ld .rlx .value obs) sh (.aCas d obs)
  | casFail {d v exp new obs ok} :
      exp = v ∧ new = wrapAdd v d ∧ obs = sh.value ∧ ok = decide (obs = exp) → ¬ ok = true →
      Tr sh t (.aCas d v) (.cas .ar .value exp new obs ok) sh (.aLoad d)
  | casWaited {d v exp new obs ok} :
      exp = v ∧ new = wrapAdd v d ∧ obs = sh.value ∧ ok = decide (obs = exp) → ok = true →
      ¬ (v : Int) + d < 0 → ¬ (two32 : Int) ≤ (v : Int) + d → ¬ (v = 0 ∧ 0 < d ∧ sh.waited) →
      0 < d ∧ new = u32 d →
      Tr sh t (.aCas d v) (.cas .ar .value exp new obs ok)
        { sh with value := new, hist := sh.hist ++ [new], deltas := sh.deltas ++ [d], waking := decide (new = 0) }
        (.aLoadWaited d new sh.hist.length)
  | casHeld {d v exp new obs ok} :
      exp = v ∧ new = wrapAdd v d ∧ obs = sh.value ∧ ok = decide (obs = exp) → ok = true →
      ¬ (v : Int) + d < 0 → ¬ (two32 : Int) ≤ (v : Int) + d → ¬ (v = 0 ∧ 0 < d ∧ sh.waited) →
      ¬ (0 < d ∧ new = u32 d) →
      Tr sh t (.aCas d v) (.cas .ar .value exp new obs ok)
        { sh with value := new, hist := sh.hist ++ [new], deltas := sh.deltas ++ [d], waking := decide (new = 0) }
        (.aHeld d new sh.hist.length (decide (new = 0)))
  | aLoadWaited {d r idx obs} : obs = b2n sh.waited → obs = 0 →
      Tr sh t (.aLoadWaited d r idx) (.ld .rlx .waited obs) sh (.aHeld d r idx (decide (r = 0)))
  | wake {d r idx wake k new obs k' tl} : sh.waiters = k' :: tl →
      wake = true ∧ k = k' ∧ new = 0 ∧ obs = b2n (sh.nw k).waiting →
      Tr sh t (.aHeld d r idx wake) (.st .rel (.nwWaiting k) new obs)
        ({ sh with waiters := tl, posting := some k }.setRec k { sh.nw k with waiting := false })
        (.aPost d r idx k)
  | aUnlock {d r idx wake m} : sh.mu = some m ∧ (wake = true → sh.waiters = []) →
      Tr sh t (.aHeld d r idx wake) (.callUnlock m) { sh with lockHolder := none, waking := false }
        (.aUnlockWait d r idx)
  | aPost {d r idx k j sh'} : sh.bind k j = some sh' →
      Tr sh t (.aPost d r idx k) (.semV j) { sh'.setSem j (sh'.sem j + 1) with posting := none }
        (.aHeld d r idx true)
  | aUnlockWait {d r idx} : Tr sh t (.aUnlockWait d r idx) .retUnlock sh (.aRet d r idx)
  | aRet {d r idx v} : v = r → Tr sh t (.aRet d r idx) (.retAdd v) { sh with active := sh.active - 1 } .idle
  | w0Store {dl new obs} : new = 1 ∧ obs = b2n sh.waited →
      Tr sh t (.w0Store dl) (.st .rlx .waited new obs) { sh with waited := true } (.w0Load dl)
  | w0Zero {dl obs} : obs = sh.value → obs = 0 → Tr sh t (.w0Load dl) (.ld .acq .value obs) sh (.wRet dl 0)
  | w0Past {dl obs} : obs = sh.value → ¬ obs = 0 → dlePast dl = true →
      Tr sh t (.w0Load dl) (.ld .acq .value obs) sh (.wFinalLoad dl)
  | w0Sleep {dl obs} : obs = sh.value → ¬ obs = 0 → ¬ dlePast dl = true →
      Tr sh t (.w0Load dl) (.ld .acq .value obs) sh (.wInit dl)
  | wInit {dl k new obs} : new = 0 ∧ (sh.nw k).live = false →
      Tr sh t (.wInit dl) (.st .rlx (.nwWaiting k) new obs)
        (sh.setRec k { live := true, waiting := false, sem := none, owner := t }) (.wEnqLockCall dl k)
  | wEnqLockCall {dl k m} : sh.useMu m = some { sh with mu := some m } →
      Tr sh t (.wEnqLockCall dl k) (.callLock m) { sh with mu := some m } (.wEnqLockWait dl k)
  | wEnqLockWait {dl k} : sh.lockHolder = none →
      Tr sh t (.wEnqLockWait dl k) .retLock { sh with lockHolder := some t } (.wEnqLoad dl k)
  | wEnqLoad {dl k obs} : obs = sh.value →
      Tr sh t (.wEnqLoad dl k) (.ld .acq .value obs) sh (.wEnqStore dl k obs)
  | enqueue {dl k v k' new obs} : k' = k ∧ new = b2n (decide (v ≠ 0)) ∧ obs = b2n (sh.nw k).waiting → v ≠ 0 →
      Tr sh t (.wEnqStore dl k v) (.st .rlx (.nwWaiting k') new obs)
        ({ sh with waiters := sh.waiters ++ [k] }.setRec k { sh.nw k with waiting := true })
        (.wEnqUnlockCall dl k true)
  | noEnqueue {dl k v k' new obs} : k' = k ∧ new = b2n (decide (v ≠ 0)) ∧ obs = b2n (sh.nw k).waiting →
      ¬ v ≠ 0 →
      Tr sh t (.wEnqStore dl k v) (.st .rlx (.nwWaiting k') new obs)
        (sh.setRec k { sh.nw k with waiting := false }) (.wEnqUnlockCall dl k false)
  | wEnqUnlockCall {dl k enq m} : sh.mu = some m →
      Tr sh t (.wEnqUnlockCall dl k enq) (.callUnlock m) { sh with lockHolder := none } (.wEnqUnlockWait dl k enq)
  | wEnqUnlockWait {dl k enq} : Tr sh t (.wEnqUnlockWait dl k enq) .retUnlock sh (.wLoopStore dl k)
  | wLoopStore {dl k new obs} : new = 1 ∧ obs = b2n sh.waited →
      Tr sh t (.wLoopStore dl k) (.st .rlx .waited new obs) { sh with waited := true } (.wLoopLoad dl k)
  | loopZero {dl k obs} : obs = sh.value → obs = 0 →
      Tr sh t (.wLoopLoad dl k) (.ld .acq .value obs) sh (.wDeqLockCall dl k false)
  | loopSleep {dl k obs} : obs = sh.value → ¬ obs = 0 →
      Tr sh t (.wLoopLoad dl k) (.ld .acq .value obs) sh (.wPdEnter dl k)
  | wPdEnter {dl k j d sh'} : d = dl → sh.bind k j = some sh' →
      Tr sh t (.wPdEnter dl k) (.pdEnter j d) sh' (.wPdWait dl k j)
  | pdTimeout {dl k j j' tmo} : j' = j → tmo = true → expired dl sh.now →
      Tr sh t (.wPdWait dl k j) (.pdRet j' tmo) sh (.wDeqLockCall dl k true)
  | pdWoken {dl k j j' tmo n} : j' = j → ¬ tmo = true → sh.sem j = n + 1 →
      Tr sh t (.wPdWait dl k j) (.pdRet j' tmo) (sh.setSem j n) (.wLoopStore dl k)
  | wDeqLockCall {dl k tmo m} : sh.useMu m = some { sh with mu := some m } →
      Tr sh t (.wDeqLockCall dl k tmo) (.callLock m) { sh with mu := some m } (.wDeqLockWait dl k tmo)
  | wDeqLockWait {dl k tmo} : sh.lockHolder = none →
      Tr sh t (.wDeqLockWait dl k tmo) .retLock { sh with lockHolder := some t } (.wDeqLoadV dl k tmo)
  | wDeqLoadV {dl k tmo obs} : obs = sh.value →
      Tr sh t (.wDeqLoadV dl k tmo) (.ld .acq .value obs) sh (.wDeqLoadW dl k tmo obs)
  | deqQueued {dl k tmo v k' obs} : k' = k ∧ obs = b2n (sh.nw k).waiting → obs ≠ 0 →
      Tr sh t (.wDeqLoadW dl k tmo v) (.ld .acq (.nwWaiting k') obs) sh (.wDeqStore dl k tmo v)
  | deqGone {dl k tmo v k' obs} : k' = k ∧ obs = b2n (sh.nw k).waiting → ¬ obs ≠ 0 →
      Tr sh t (.wDeqLoadW dl k tmo v) (.ld .acq (.nwWaiting k') obs) sh (.wDeqUnlockCall dl k tmo v)
  | dequeue {dl k tmo v k' new obs} : k' = k ∧ new = 0 ∧ obs = b2n (sh.nw k).waiting →
      Tr sh t (.wDeqStore dl k tmo v) (.st .rlx (.nwWaiting k') new obs)
        ({ sh with waiters := sh.waiters.erase k }.setRec k { sh.nw k with waiting := false })
        (.wDeqUnlockCall dl k tmo v)
  | wDeqUnlockCall {dl k tmo v m} : sh.mu = some m →
      Tr sh t (.wDeqUnlockCall dl k tmo v) (.callUnlock m) { sh with lockHolder := none }
        (.wDeqUnlockWait dl k tmo v)
  | deqZero {dl k tmo v} : v = 0 → Tr sh t (.wDeqUnlockWait dl k tmo v) .retUnlock (sh.release k) (.wRet dl 0)
  | deqNonzero {dl k tmo v} : ¬ v = 0 →
      Tr sh t (.wDeqUnlockWait dl k tmo v) .retUnlock (sh.release k) (.wFinalLoad dl)
  | wFinalLoad {dl obs} : obs = sh.value → Tr sh t (.wFinalLoad dl) (.ld .acq .value obs) sh (.wRet dl obs)
  | wRet {dl r v} : v = r → Tr sh t (.wRet dl r) (.retWait v) { sh with active := sh.active - 1 } .idle

theorem useMu_eq {sh sh' : Shared} {m : MuId} (h : sh.useMu m = some sh') : sh' = { sh with mu := some m } := by
  unfold Shared.useMu at h
  split at h
  · cases h; rfl
  · split at h
    · cases h; cases sh; simp_all
    · cases h

def Ev.isCall : Ev → Bool
  | .callNew _ | .callFree | .callAdd _ | .callValue | .callWait _ => true
  | _ => false

/-- the event is an atomic access to `nw<k>.waiting` -/
def touches : Ev → NwId → Prop
  | .ld _ (.nwWaiting k') _, k => k' = k
  | .st _ (.nwWaiting k') _ _, k => k' = k
  | .cas _ (.nwWaiting k') _ _ _ _, k => k' = k
  | _, _ => False

def Ev.loc : Ev → Option Loc
  | .ld _ l _ | .st _ l _ _ | .cas _ l _ _ _ _ => some l
  | _ => none

/-- What `dflt` lets pass: no API call, no access to `value`, `waited` or a live record.  The state
    changes at most in one semaphore count: up by a post, down only on a semaphore no wait uses. -/
theorem dflt_ok {s s' : State} {idle : Bool} {e : Ev} (h : dflt s idle e = .ok s') :
    e.isCall = false ∧ (∀ k, touches e k → (s.sh.nw k).live = false)
    ∧ (e.loc ≠ some .value ∧ e.loc ≠ some .waited)
    ∧ (s' = s ∨ ∃ j n, s' = { s with sh := s.sh.setSem j n }
        ∧ ((e = .semV j ∧ n = s.sh.sem j + 1) ∨ (s.sh.semUser j = none ∧ s.sh.sem j = n + 1))) := by
  unfold dflt at h
  repeat' (split at h)
  all_goals first
    | (cases h; done)
    | (cases h; simp_all [Ev.isCall, touches, Ev.loc]; done)
    | (cases h; exact ⟨rfl, nofun, ⟨nofun, nofun⟩, .inr ⟨_, _, rfl, by simp_all⟩⟩)

theorem dflt_pc_phase {s s' : State} {idle : Bool} {e : Ev} (h : dflt s idle e = .ok s') :
    s'.pc = s.pc ∧ s'.sh.phase = s.sh.phase := by
  obtain ⟨_, _, _, rfl | ⟨_, _, rfl, _⟩⟩ := dflt_ok h <;> exact ⟨rfl, rfl⟩

/-- An accepted event of a thread is either skipped by `dflt` or one of the transitions `Tr`; the post of
    a waker that has just taken a record off the queue is never skipped. -/
theorem stepThr_ok {s s' : State} {t : Tid} {e : Ev} (h : stepThr s t e = .ok s') :
    ((∃ idle, dflt s idle e = .ok s') ∧ ∀ j d r idx k, e = .semV j → s.pc t ≠ .aPost d r idx k)
    ∨ ∃ sh' p', Tr s.sh t (s.pc t) e sh' p' ∧ s' = State.mk' sh' s t p' := by
  unfold stepThr at h; dsimp only at h
  split at h <;> rename_i hpc <;> rw [hpc] <;> split at h
  -- a prescribed event: its guards, then the transition; any other event is `dflt`'s
  all_goals first
    | (repeat' (split at h)) <;> first
      | (cases h; done)
      | (cases h; try cases useMu_eq ‹Shared.useMu _ _ = some _›
         exact Or.inr ⟨_, _, by constructor <;> assumption, rfl⟩)
    | exact Or.inl ⟨⟨_, h⟩, fun j _ _ _ _ hj hp => by
        first | (cases hp; done) | exact ‹∀ j, _ = Ev.semV j → False› j hj⟩

theorem Tr.step {s : State} {t : Tid} {e : Ev} {sh' : Shared} {p' : PC} (h : Tr s.sh t (s.pc t) e sh' p') :
    stepThr s t e = .ok (State.mk' sh' s t p') := by
  generalize hpc : s.pc t = p at h
  -- opened once, before the case split: each transition then only selects its branch.  By `simp only` and not by
  -- `unfold`: the unfolding lemma of `stepThr` that `simp` generates (slow: one big match) then exists from here
  -- on, and the files that evaluate `stepThr` on concrete traces by `simp` do not generate it again, each for itself
  simp only [stepThr, hpc]
  cases h with
  | casFail hc ho =>
    obtain ⟨rfl, rfl, rfl, rfl⟩ := hc
    simp_all [State.setPc, State.mk']
  | casWaited hc ho h1 h2 h3 h4 | casHeld hc ho h1 h2 h3 h4 =>
    obtain ⟨rfl, rfl, rfl, rfl⟩ := hc
    simp only [true_and, if_true, ho, h1, h2, h3, if_false]
    simp only [h4, and_self, if_true, if_false]
  | _ => simp_all [State.setPc, State.mk']

theorem mk'_pc (sh' : Shared) (s : State) (t : Tid) (p : PC) : (State.mk' sh' s t p).pc t = p := if_pos rfl

theorem Tr.step_at {s : State} {t : Tid} {p : PC} {e : Ev} {sh' : Shared} {p' : PC} (hpc : s.pc t = p)
    (h : Tr s.sh t p e sh' p') : Counter.step s (.thr t e) = .ok (State.mk' sh' s t p') := by
  subst hpc; exact h.step

theorem Tr.run_cons {s : State} {t : Tid} {p : PC} {e : Ev} {sh' : Shared} {p' : PC} (hpc : s.pc t = p)
    (h : Tr s.sh t p e sh' p') (es : List Event) :
    Counter.run s (.thr t e :: es) = Counter.run (State.mk' sh' s t p') es := by
  rw [Counter.run, h.step_at hpc]

/-- An accepted event of thread `t`, on the components of the state it can change: a transition its
    program point prescribes, or an event `dflt` lets pass.  The latter leaves the program point and
    all of the shared state but the semaphore counts alone; a count goes up by a post (never the post
    of a waker that has just taken a record off the queue), down only on a semaphore no wait uses. -/
inductive Own (sh : Shared) (t : Tid) (p : PC) (e : Ev) : Shared → PC → Prop
  | tr {sh' p'} : Tr sh t p e sh' p' → Own sh t p e sh' p'
  | skip {f : SemId → Nat} : e.isCall = false → (∀ k, touches e k → (sh.nw k).live = false) →
      (∀ o n ob, e ≠ .st o .value n ob) → (∀ o x n ob b, e ≠ .cas o .value x n ob b) →
      (∀ j, f j ≠ sh.sem j →
        (e = .semV j ∧ f j = sh.sem j + 1 ∧ ∀ d r idx k, p ≠ .aPost d r idx k)
        ∨ (sh.semUser j = none ∧ sh.sem j = f j + 1)) →
      Own sh t p e { sh with sem := f } p

/-- `stepThr_ok` read on the fields of the two states. -/
theorem own_step {s s' : State} {t : Tid} {e : Ev} (h : stepThr s t e = .ok s') :
    Own s.sh t (s.pc t) e s'.sh (s'.pc t) ∧ ∀ u, u ≠ t → s'.pc u = s.pc u := by
  rcases stepThr_ok h with ⟨⟨_, hd⟩, hx⟩ | ⟨sh', p', htr, rfl⟩
  · obtain ⟨h1, h2, h34, hs⟩ := dflt_ok hd
    have h3 : ∀ o n ob, e ≠ .st o .value n ob := fun _ _ _ h => h34.1 (h ▸ rfl)
    have h4 : ∀ o x n ob b, e ≠ .cas o .value x n ob b := fun _ _ _ _ _ h => h34.1 (h ▸ rfl)
    rcases hs with rfl | ⟨j, n, rfl, h5⟩
    · exact ⟨.skip (f := _) h1 h2 h3 h4 fun _ hj => absurd rfl hj, fun _ _ => rfl⟩
    · refine ⟨.skip (f := fun i => if i = j then n else _) h1 h2 h3 h4 fun i hi => ?_,
        fun _ _ => rfl⟩
      by_cases hij : i = j
      · subst hij
        rw [if_pos rfl]
        rcases h5 with ⟨rfl, rfl⟩ | h5
        · exact .inl ⟨rfl, rfl, fun d r idx k => hx i d r idx k rfl⟩
        · exact .inr h5
      · exact absurd (if_neg hij) hi
  · exact ⟨by simpa [State.mk'] using Own.tr htr, fun u hu => if_neg hu⟩

end Counter
