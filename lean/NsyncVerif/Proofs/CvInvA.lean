/-
  Layer `Cv`: the structural invariant (spinlock, queue, private lists, ownership of records).
  Definitions and the lemmas about the selection functions.
-/
import NsyncVerif.Proofs.CvBasic

namespace NsyncVerif.Cv

/-- Program points at which the thread holds the cv spinlock. -/
def Loc.holds : Loc → Bool
  | .wEnq | .wRel | .wChk2 | .wCmp | .wRmLd | .wRmCas | .wClr | .wRel2 | .sRcLd | .sRcCas | .sRel
  | .nLocked | .nEnqRel | .nDeqSt | .nDeqRel => true
  | _ => false

/-- Program points at which the thread may have a non-empty private `to_wake_list`. -/
def Loc.wakePhase : Loc → Bool
  | .sRcLd | .sRcCas | .sRel | .wwMuLd | .wwMuCas | .wwRelLd | .wwRelCas | .wwRelLd2 | .wwStore | .wwV => true
  | _ => false

/-- The record is registered with the cv as an instance of a wait in progress. -/
def RStat.live : RStat → Bool
  | .queued | .listed _ | .xfer | .woken | .selfOut => true
  | _ => false

/-- cv wait between enqueue and loop exit. -/
def waitLive (x : Thr) : Bool :=
  match x.loc with
  | .wEnq | .wRel | .wUnlock | .wUnlocking | .wHead | .wSemEnter | .wSemRet | .cPre | .cWait | .cPost
  | .wChk | .wChk2 | .wCmp | .wRmLd | .wRmCas | .wClr | .wRel2 | .wTail => true
  | .spLd0 | .spLd2 | .spCas => x.cont == .waitChk
  | _ => false

/-- cv wait between `waiting := 1` and enqueue. -/
def waitPrep (x : Thr) : Bool :=
  match x.loc with
  | .wMode => true
  | .spLd0 | .spLd2 | .spCas => x.cont == .waitEnq
  | _ => false

/-- inside nsync_wait_n. -/
def inWaitN (x : Thr) : Bool :=
  match x.loc with
  | .nOut | .nLocked | .nEnqRel | .nDeqSt | .nDeqRel => true
  | .spLd0 | .spLd2 | .spCas => x.cont == .waitn
  | _ => false

/-- Program points of the wait at which the local `remove_count` is valid and still used. -/
def savedLoc (x : Thr) : Bool :=
  match x.loc with
  | .wRel | .wUnlock | .wUnlocking | .wHead | .wSemEnter | .wSemRet | .cPre | .cWait | .cPost
  | .wChk | .wChk2 | .wCmp | .wRel2 | .wTail => true
  | .spLd0 | .spLd2 | .spCas => x.cont == .waitChk
  | _ => false

/-- Program points after the loop of the wait. -/
def Loc.afterLoop : Loc → Bool
  | .wExit | .wLocking | .wRelocking | .wRet => true
  | _ => false

theorem savedLoc_live {x : Thr} (h : savedLoc x = true) : waitLive x = true := by
  unfold savedLoc at h; unfold waitLive; split at h <;> simp_all

structure TInvA (s : State) (t : Tid) : Prop where
  list0 : (s.thr t).loc.wakePhase = false → (s.thr t).list = []
  prep : waitPrep (s.thr t) = true →
    (s.recs (s.thr t).r).stat = .prep ∧ (s.recs (s.thr t).r).owner = t ∧ (s.thr t).r.isMucv = true
  live : waitLive (s.thr t) = true →
    (s.recs (s.thr t).r).owner = t ∧ (s.thr t).r.isMucv = true ∧ (s.recs (s.thr t).r).stat.live = true
  enq : (s.thr t).loc = .wEnq ∨ (s.thr t).loc = .wRel → (s.recs (s.thr t).r).stat = .queued
  selfO : (s.thr t).loc = .wRmLd ∨ (s.thr t).loc = .wRmCas ∨ (s.thr t).loc = .wClr →
    (s.recs (s.thr t).r).stat = .selfOut
  mine : ∀ r, r ∈ (s.thr t).mine →
    r.isMucv = false ∧ (s.recs r).owner = t ∧ (s.recs r).stat ≠ .idle ∧ (s.recs r).stat ≠ .prep
  mineNd : (s.thr t).mine.Nodup
  mine0 : inWaitN (s.thr t) = false → (s.thr t).mine = []
  nEnq : (s.thr t).loc = .nEnqRel → (s.recs (s.thr t).r).stat = .queued ∧ (s.thr t).r ∈ (s.thr t).mine
  nDeq : (s.thr t).loc = .nDeqSt ∨ (s.thr t).loc = .nDeqRel →
    (s.thr t).r ∈ (s.thr t).mine ∧ (s.recs (s.thr t).r).stat ≠ .queued
  casEven : (s.thr t).loc = .spCas → (s.thr t).casExp % 2 = 0

structure InvA (s : State) : Prop where
  spin : s.word.spin = s.holder.isSome
  hold : ∀ t, s.holder = some t ↔ (s.thr t).loc.holds = true
  old : ∀ t, s.holder = some t → (s.thr t).old.spin = false ∧ ((s.thr t).old.ne = true ↔ s.queue ≠ [])
  free : s.holder = none → (s.word.ne = true ↔ s.queue ≠ [])
  qNd : s.queue.Nodup
  qMem : ∀ r, r ∈ s.queue ↔ (s.recs r).stat = .queued
  qWait : ∀ r, (s.recs r).stat = .queued → (s.recs r).waiting = true
  lNd : ∀ u, (s.thr u).list.Nodup
  lMem : ∀ u r, r ∈ (s.thr u).list ↔ (s.recs r).stat = .listed u
  thr : ∀ t, TInvA s t
  /-- a broadcaster that has taken the spinlock has emptied the queue -/
  bq : ∀ t, (s.thr t).bcast = true →
    ((s.thr t).loc = .sRcLd ∨ (s.thr t).loc = .sRcCas ∨ (s.thr t).loc = .sRel) → s.queue = []
  /-- a record being prepared by a cv wait already has `waiting = 1` -/
  pWait : ∀ r, (s.recs r).stat = .prep → (s.recs r).waiting = true

theorem pickReaders_sublist (recs : Rid → Rec) (l : List Rid) (w : Bool) :
    (pickReaders recs l w).Sublist l := by
  induction l generalizing w with
  | nil => simp [pickReaders]
  | cons p ps ih =>
    simp only [pickReaders]
    split
    · exact (ih w).cons_cons p
    · split
      · exact (ih w).cons p
      · exact (ih true).cons_cons p

theorem sigSelect_sublist (recs : Rid → Rec) (l : List Rid) : (sigSelect recs l).Sublist l := by
  cases l with
  | nil => simp [sigSelect]
  | cons f rest =>
    simp only [sigSelect]
    split
    · exact (pickReaders_sublist recs rest false).cons_cons f
    · exact (List.nil_sublist rest).cons_cons f

theorem sigSelect_head (recs : Rid → Rec) (f : Rid) (rest : List Rid) : f ∈ sigSelect recs (f :: rest) := by
  simp only [sigSelect]; split <;> simp

theorem transferSet_subset (recs : Rid → Rec) (fca : Bool) (l : List Rid) :
    ∀ r, r ∈ transferSet recs fca l → r ∈ l := by
  intro r h
  cases l with
  | nil => simp [transferSet] at h
  | cons f rest =>
    simp only [transferSet, List.mem_append, List.mem_filter] at h
    rcases h with h | h
    · split at h <;> simp_all
    · simp [h.1]

theorem enc_even_spin {w : Word} (h : w.enc % 2 = 0) : w.spin = false := by
  cases w with | mk sp ne => cases sp <;> cases ne <;> simp_all [Word.enc]

theorem dec_enc {n : Nat} {w : Word} (h : Word.dec? n = some w) : w.enc = n := by
  match n with
  | 0 | 1 | 2 | 3 => simp [Word.dec?] at h; subst h; rfl
  | n + 4 => simp [Word.dec?] at h

theorem enc_dec (w : Word) : Word.dec? w.enc = some w := by
  cases w with | mk sp ne => cases sp <;> cases ne <;> rfl

theorem enc_inj {a b : Word} (h : a.enc = b.enc) : a = b := by
  have := enc_dec a; rw [h, enc_dec b] at this; cases this; rfl

end NsyncVerif.Cv
