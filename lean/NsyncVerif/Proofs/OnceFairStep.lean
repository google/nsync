/-
  Layer `Once`, fair termination (C07): the local ranks and what one accepted step does to them.

  * `relRank`  own steps of a slot-lock holder until it releases the lock (≤ 5);
  * `wRank`    own steps of the CAS winner until its store of 2 (≤ 9);
  * `zRank`    own steps of a caller until its CAS, while the word is 0 (≤ 5);
  * `dRank`    own steps of a caller until its return, once the word is 2 (≤ 10; 11 stands for
               the winner's path, where the word is not 2).
-/
import NsyncVerif.Proofs.OnceFairExec

namespace Once

/-- Own steps a holder of a slot lock needs at most to release it. -/
def relRank : PC → Nat
  | .wBcastCall _ => 5
  | .wBcastRet _ | .casTry _ => 4
  | .wStore _ | .casReload _ => 3
  | .waitLd _ => 2
  | .wUnlockCall _ | .cvWaitCall _ | .fUnlockCall _ => 1
  | _ => 0

/-- Own steps the CAS winner needs to reach (and perform) its store of 2. -/
def wRank : PC → Nat
  | .wUnlockCall _ => 9 | .wUnlockRet _ => 8 | .wCbStart _ => 7 | .wCbEnd _ => 6
  | .wLockCall _ => 5 | .wLockRet _ => 4 | .wBcastCall _ => 3 | .wBcastRet _ => 2
  | .wStore _ => 1
  | _ => 0

/-- Own steps to the CAS while the word is 0. -/
def zRank : PC → Nat
  | .outerLd _ => 5 | .implLd _ => 4 | .lock1Call _ _ => 3 | .lock1Ret _ _ => 2 | .casTry _ => 1
  | _ => 0

/-- Own steps to the return once the word is 2. -/
def dRank : PC → Nat
  | .idle => 0 | .readyRet _ => 1 | .fUnlockRet _ => 2 | .fUnlockCall _ => 3 | .waitLd _ => 4
  | .cvWaitRet _ | .casReload _ => 5
  | .cvWaitCall _ | .casTry _ => 6
  | .lock1Ret _ _ => 7 | .lock1Call _ _ => 8 | .implLd _ => 9 | .outerLd _ => 10
  | _ => 11

variable {cfg : Config}

/-- A thread stays in its call frame until it returns; the only way out of a call is the `ret`
    event from `readyRet`, which records the return. -/
theorem frame_step {s s' : State} {e : Event} {t : Tid} {f : Frame}
    (h : step cfg s e = .ok s') (hf : (s.pc t).frame? = some f) :
    (s'.pc t).frame? = some f ∨
      (e = .ret t f.blocking f.arg ∧ s'.pc t = .idle ∧ s'.returned = (t, f.o) :: s.returned) := by
  by_cases he : e.tid = some t
  · have hs := step_ok h; clear h; cases hs
    case skip => exact .inl hf
    case ret hp => cases he; rw [hp] at hf; cases hf; exact .inr ⟨rfl, upd_same .., rfl⟩
    all_goals
      cases he
      simp only [‹s.pc _ = _›, PC.frame?, Option.some.injEq, reduceCtorEq] at hf <;> subst hf <;>
      simp only [State.setPc, State.acquire, State.release, upd_same, afterLoc] <;>
      (repeat' split) <;> exact .inl rfl
  · rw [pc_step_other h t he]; exact .inl hf

/-- A lock held by `t` is not touched by the others. -/
theorem holder_other {s s' : State} {e : Event} {t : Tid} {k : SlotId}
    (h : step cfg s e = .ok s') (hne : e.tid ≠ some t) (hl : s.lockHolder k = some t) :
    s'.lockHolder k = some t := by
  cases step_ok h with
  | lock1Ret _ hfree | wLockRet _ hfree | cvWaitRet _ hfree =>
    exact (upd_ne _ (by rintro rfl; rw [hl] at hfree; cases hfree)).trans hl
  | wUnlockCall _ hheld | fUnlockCall _ hheld | cvWaitCall _ hheld =>
    exact (upd_ne _ (by rintro rfl; exact hne (hheld.symm.trans hl))).trans hl
  | _ => exact hl

/-! The rank facts go rule by rule through `Step`: the mover is `t` (`cases he`), the hypotheses
about `s.pc t` are evaluated at the pc of the rule (most rules end there: the pc is not one the
hypothesis allows), then the successor pc is evaluated and the two ranks compared. -/

/-- Every own step of a lock holder releases the lock or brings the release closer. -/
theorem holder_move {s s' : State} {e : Event} {t : Tid} {k : SlotId} (hi : Inv cfg s)
    (h : step cfg s e = .ok s') (he : e.tid = some t) (hl : s.lockHolder k = some t) :
    s'.lockHolder k = none ∨
      (s'.lockHolder k = some t ∧ relRank (s'.pc t) < relRank (s.pc t)) := by
  have hH := hi.lock k t hl
  have hw := hi.waiting t
  have hs := step_ok h; clear h; cases hs
  case skip hidle => rw [hidle t he] at hH; cases hH
  all_goals
    cases he
    simp only [‹s.pc _ = _›, PC.Holds, PC.Waiting] at hH hw ⊢ <;> obtain ⟨hb, rfl⟩ := hH <;>
    simp only [State.setPc, State.release, upd_same, afterLoc] <;>
    (repeat' split) <;> simp_all [relRank]

/-- Every own step of the winner of `o` stores 2 or brings the store closer. -/
theorem winner_move {s s' : State} {e : Event} {t : Tid} {o : OnceId}
    (h : step cfg s e = .ok s') (he : e.tid = some t) (hw : (s.pc t).InW o) :
    s'.word o = 2 ∨ ((s'.pc t).InW o ∧ wRank (s'.pc t) < wRank (s.pc t)) := by
  have hs := step_ok h; clear h; cases hs
  case skip hidle => rw [hidle t he] at hw; cases hw
  all_goals
    cases he
    simp only [‹s.pc _ = _›, PC.InW] at hw <;> subst hw <;>
    simp only [‹s.pc _ = _›, State.setPc, State.acquire, State.release, upd_same] <;>
    (try split) <;> simp [PC.InW, wRank]

/-- While the word of its once object is 0, every own step of a caller makes the word non-zero
    (its CAS succeeds) or brings the CAS closer. -/
theorem zero_move {s s' : State} {e : Event} {t : Tid} {f : Frame} (hi : Inv cfg s)
    (h : step cfg s e = .ok s') (he : e.tid = some t) (hf : (s.pc t).frame? = some f)
    (hw : s.word f.o = 0) :
    s'.word f.o ≠ 0 ∨ ((s'.pc t).frame? = some f ∧ zRank (s'.pc t) < zRank (s.pc t)) := by
  have h1 : ¬ (s.pc t).Waiting f.o := fun h => hi.waiting t f.o h hw
  have h2 : ¬ (s.pc t).SawNonzero f.o := fun h => hi.sawNonzero t f.o h hw
  have h3 : ¬ (s.pc t).InW f.o := fun h => by have := (hi.inW t f.o h).1; omega
  have h4 : ¬ (s.pc t).Leaving f.o := fun h => by have := hi.leaving t f.o h; omega
  have hs := step_ok h; clear h; cases hs
  case skip hidle => rw [hidle t he] at hf; cases hf
  all_goals
    cases he
    simp only [‹s.pc _ = _›, PC.frame?, Option.some.injEq, PC.InW, PC.Waiting, PC.SawNonzero,
      PC.Leaving, not_false_eq_true, reduceCtorEq] at hf h1 h2 h3 h4 <;> subst hf <;>
    simp only [‹s.pc _ = _›, State.setPc, State.acquire, upd_same, afterLoc, hw,
      not_true_eq_false] at h1 h2 h3 h4 ⊢ <;> (try split) <;> (try split) <;>
    simp_all [zRank, PC.frame?]

/-- Once the word of its once object is 2, every own step of a caller brings its return closer. -/
theorem done_move {s s' : State} {e : Event} {t : Tid} {f : Frame} (hi : Inv cfg s)
    (h : step cfg s e = .ok s') (he : e.tid = some t) (hf : (s.pc t).frame? = some f)
    (hw : s.word f.o = 2) : dRank (s'.pc t) < dRank (s.pc t) := by
  have h3 : ¬ (s.pc t).InW f.o := fun h => by have := (hi.inW t f.o h).1; omega
  have hs := step_ok h; clear h; cases hs
  case skip hidle => rw [hidle t he] at hf; cases hf
  case casOk hp hw0 => cases he; rw [hp] at hf; cases hf; omega
  all_goals
    cases he
    simp only [‹s.pc _ = _›, PC.frame?, Option.some.injEq, PC.InW, not_false_eq_true,
      reduceCtorEq] at hf h3 ⊢ <;> subst hf <;>
    simp only [State.setPc, State.acquire, State.release, upd_same, afterLoc, hw,
      if_true, not_true_eq_false] at h3 ⊢ <;> (try split) <;> simp [dRank] <;> omega

/-- A pc at which the thread holds a slot lock is `Ready`. -/
theorem ready_of_holds {s : State} {t : Tid} {k : SlotId} (h : (s.pc t).Holds cfg k) :
    Ready cfg s t := by
  refine ⟨(holds_not_lockWait h).1, ?_, fun k' hk' => absurd hk' ((holds_not_lockWait h).2 k')⟩
  intro hu; cases hp : s.pc t <;> simp [hp, PC.Holds, PC.InUser] at h hu

end Once
