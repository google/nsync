import NsyncVerif.Proofs.MuQBasic
/-
  MuQ: the accepted steps of the model as a relation.

  `TStep cfg s t p e s'`: thread `t`, at program point `p`, takes `s` to `s'` by the event `e`; one
  rule per program point and outcome, the event spelled out as the log line the acceptor demands,
  the guards as hypotheses, the successor state as the model builds it.  `Step` adds the two
  environment events.  `step_inv : step cfg s e = .ok s' → Step cfg s e s'` analyses an accepted step
  once; later files open the step functions only to exhibit an accepted event (enabledness, concrete
  executions).

  A fact about the steps from a class of program points is proved by `tstep_of_step`, then
  `generalize s.pc t = p` in the rule and in the hypothesis that names the class, then `cases` on
  the rule: the rules of other program points contradict that hypothesis, the remaining ones are
  closed by `simp` with the projections below.
-/
namespace NsyncVerif.MuQ

/-! ### Fields of the successor states -/

@[simp] theorem addShare_word (s : State) (t : Tid) (l : Mode) : (addShare s t l).word = s.word := by cases l <;> rfl
@[simp] theorem addShare_queue (s : State) (t : Tid) (l : Mode) : (addShare s t l).queue = s.queue := by cases l <;> rfl
@[simp] theorem addShare_wr (s : State) (t : Tid) (l : Mode) : (addShare s t l).wr = s.wr := by cases l <;> rfl
@[simp] theorem addShare_sp (s : State) (t : Tid) (l : Mode) : (addShare s t l).sp = s.sp := by cases l <;> rfl
@[simp] theorem addShare_pc (s : State) (t : Tid) (l : Mode) : (addShare s t l).pc = s.pc := by cases l <;> rfl
@[simp] theorem addShare_held (s : State) (t : Tid) (l : Mode) : (addShare s t l).held = s.held := by cases l <;> rfl
@[simp] theorem subShare_word (s : State) (t : Tid) (l : Mode) : (subShare s t l).word = s.word := by cases l <;> rfl
@[simp] theorem subShare_queue (s : State) (t : Tid) (l : Mode) : (subShare s t l).queue = s.queue := by cases l <;> rfl
@[simp] theorem subShare_wr (s : State) (t : Tid) (l : Mode) : (subShare s t l).wr = s.wr := by cases l <;> rfl
@[simp] theorem subShare_sp (s : State) (t : Tid) (l : Mode) : (subShare s t l).sp = s.sp := by cases l <;> rfl
@[simp] theorem subShare_pc (s : State) (t : Tid) (l : Mode) : (subShare s t l).pc = s.pc := by cases l <;> rfl
@[simp] theorem subShare_held (s : State) (t : Tid) (l : Mode) : (subShare s t l).held = s.held := by cases l <;> rfl
@[simp] theorem dropW_word (s : State) (w : Option Wid) : (dropW s w).word = s.word := by cases w <;> rfl
@[simp] theorem dropW_queue (s : State) (w : Option Wid) : (dropW s w).queue = s.queue := by cases w <;> rfl
@[simp] theorem dropW_sp (s : State) (w : Option Wid) : (dropW s w).sp = s.sp := by cases w <;> rfl
@[simp] theorem dropW_pc (s : State) (w : Option Wid) : (dropW s w).pc = s.pc := by cases w <;> rfl
@[simp] theorem dropW_held (s : State) (w : Option Wid) : (dropW s w).held = s.held := by cases w <;> rfl

theorem dropW_sem (s : State) (w : Option Wid) (k : Wid) : ((dropW s w).wr k).sem = (s.wr k).sem := by
  cases w with
  | none => rfl
  | some k' => simp only [dropW, setFn]; split <;> simp_all

theorem dropW_waiting (s : State) (w : Option Wid) (k : Wid) : ((dropW s w).wr k).waiting = (s.wr k).waiting := by
  cases w with
  | none => rfl
  | some k' => simp only [dropW, setFn]; split <;> simp_all

@[simp] theorem semPost_word (cfg : Cfg) (s : State) (k : Wid) : (semPost cfg s k).word = s.word := rfl
@[simp] theorem semPost_queue (cfg : Cfg) (s : State) (k : Wid) : (semPost cfg s k).queue = s.queue := rfl
@[simp] theorem semPost_sp (cfg : Cfg) (s : State) (k : Wid) : (semPost cfg s k).sp = s.sp := rfl
@[simp] theorem semPost_pc (cfg : Cfg) (s : State) (k : Wid) : (semPost cfg s k).pc = s.pc := rfl
@[simp] theorem semPost_held (cfg : Cfg) (s : State) (k : Wid) : (semPost cfg s k).held = s.held := rfl

@[simp] theorem scanAdvance_word (s : State) (t : Tid) (l : Mode) (sc : Scan) : (scanAdvance s t l sc).word = s.word := by
  simp only [scanAdvance]; split <;> rfl
@[simp] theorem scanAdvance_sp (s : State) (t : Tid) (l : Mode) (sc : Scan) : (scanAdvance s t l sc).sp = s.sp := by
  simp only [scanAdvance]; split <;> rfl
@[simp] theorem scanAdvance_wr (s : State) (t : Tid) (l : Mode) (sc : Scan) : (scanAdvance s t l sc).wr = s.wr := by
  simp only [scanAdvance]; split <;> rfl
@[simp] theorem scanAdvance_held (s : State) (t : Tid) (l : Mode) (sc : Scan) : (scanAdvance s t l sc).held = s.held := by
  simp only [scanAdvance]; split <;> rfl
theorem scanAdvance_pc_other (s : State) (l : Mode) (sc : Scan) {t u : Tid} (h : u ≠ t) :
    (scanAdvance s t l sc).pc u = s.pc u := by
  simp only [scanAdvance]; split <;> exact setFn_other _ _ _ _ h

@[simp] theorem afterFin_word (s : State) (t : Tid) (l : Mode) (w : List Wid) : (afterFin s t l w).word = s.word := by
  cases w <;> rfl
@[simp] theorem afterFin_queue (s : State) (t : Tid) (l : Mode) (w : List Wid) : (afterFin s t l w).queue = s.queue := by
  cases w <;> rfl
@[simp] theorem afterFin_sp (s : State) (t : Tid) (l : Mode) (w : List Wid) : (afterFin s t l w).sp = s.sp := by
  cases w <;> rfl
@[simp] theorem afterFin_wr (s : State) (t : Tid) (l : Mode) (w : List Wid) : (afterFin s t l w).wr = s.wr := by
  cases w <;> rfl
@[simp] theorem afterFin_held (s : State) (t : Tid) (l : Mode) (w : List Wid) : (afterFin s t l w).held = s.held := by
  cases w <;> rfl
theorem afterFin_pc_other (s : State) (l : Mode) (w : List Wid) {t u : Tid} (h : u ≠ t) :
    (afterFin s t l w).pc u = s.pc u := by
  cases w <;> exact setFn_other _ _ _ _ h

theorem ldWord_inv {s : State} {o : Ord} {loc : Loc} {obs : Nat} {next s' : State}
    (h : ldWord s o loc obs next = .ok s') : (o = .rlx ∧ loc = .word ∧ obs = encode s.word) ∧ s' = next := by
  unfold ldWord at h
  simp only [guard_ok, Decidable.not_not] at h
  obtain ⟨h1, h2, h3, h⟩ := h
  cases h
  exact ⟨⟨h1, h2, h3⟩, rfl⟩

theorem casWord_inv {s : State} {o want : Ord} {loc : Loc} {exp new obs : Nat} {ok : Bool}
    {old nw : Word} {succ fail s' : State}
    (h : casWord s o want loc exp new obs ok old nw succ fail = .ok s') :
    (o = want ∧ loc = .word ∧ exp = encode old ∧ new = encode nw ∧ obs = encode s.word) ∧
      ((s.word = old ∧ ok = true ∧ s' = succ) ∨ (s.word ≠ old ∧ ok = false ∧ s' = fail)) := by
  unfold casWord at h
  simp only [guard_ok, Decidable.not_not] at h
  obtain ⟨h1, h2, h3, h4, h5, h6, h⟩ := h
  cases h
  refine ⟨⟨h1, h2, h3, h4, h5⟩, ?_⟩
  subst h3 h5 h6
  by_cases hw : s.word = old
  · exact Or.inl ⟨hw, decide_eq_true (congrArg encode hw), by rw [decide_eq_true (congrArg encode hw)]; rfl⟩
  · have hne : encode s.word ≠ encode old := fun e => hw (encode_inj e)
    exact Or.inr ⟨hw, decide_eq_false hne, by rw [decide_eq_false hne]; rfl⟩

/-- The state after the grab CAS of unlock_slow: share given up, spinlock taken, scan started. -/
def grabbed (s : State) (t : Tid) (l : Mode) (old : Word) : State :=
  scanAdvance (subShare { s with word := grabWord l old, sp := some t } t l) t l
    { wake := [], todo := s.queue, wt := none, sww := false, saf := true }

/-- The steps of thread `t` from program point `p` (the rule is chosen by `p` and the outcome). -/
inductive TStep (cfg : Cfg) (s : State) (t : Tid) : PC → Event → State → Prop
  -- API boundaries
  | callLock : s.held t = none → TStep cfg s t .idle (.call t .lock) (setPc s t (.lkCas0 .W))
  | callRlock : s.held t = none → TStep cfg s t .idle (.call t .rlock) (setPc s t (.lkCas0 .R))
  | callTry : s.held t = none → TStep cfg s t .idle (.call t .trylock) (setPc s t (.tryCas0 .W))
  | callRtry : s.held t = none → TStep cfg s t .idle (.call t .rtrylock) (setPc s t (.tryCas0 .R))
  | callUnlock : s.held t = some .W →
      TStep cfg s t .idle (.call t .unlock) { setPc s t (.ulCas0 .W) with held := setFn s.held t none }
  | callRunlock : s.held t = some .R →
      TStep cfg s t .idle (.call t .runlock) { setPc s t (.ulCas0 .R) with held := setFn s.held t none }
  | retLock : TStep cfg s t (.lkRet .W) (.ret t .lock none) { setPc s t .idle with held := setFn s.held t (some .W) }
  | retRlock : TStep cfg s t (.lkRet .R) (.ret t .rlock none) { setPc s t .idle with held := setFn s.held t (some .R) }
  | retTry (r : Bool) : TStep cfg s t (.tryRet .W r) (.ret t .trylock (some r)) { setPc s t .idle with held := setFn s.held t (if r then some .W else none) }
  | retRtry (r : Bool) : TStep cfg s t (.tryRet .R r) (.ret t .rtrylock (some r)) { setPc s t .idle with held := setFn s.held t (if r then some .R else none) }
  | retUnlock : TStep cfg s t (.ulRet .W) (.ret t .unlock none) (setPc s t .idle)
  | retRunlock : TStep cfg s t (.ulRet .R) (.ret t .runlock none) (setPc s t .idle)
  -- loads
  | lkLdSlow (l : Mode) :
      blocked l false s.word = true →
      TStep cfg s t (.lkLd l) (.ld t .rlx .word (encode s.word)) (setPc s t (.lsLd (SL.entry l)))
  | lkLdFast (l : Mode) :
      blocked l false s.word = false →
      TStep cfg s t (.lkLd l) (.ld t .rlx .word (encode s.word)) (setPc s t (.lkCas1 l s.word))
  | tryLdFail (l : Mode) :
      blocked l false s.word = true →
      TStep cfg s t (.tryLd l) (.ld t .rlx .word (encode s.word)) (setPc s t (.tryRet l false))
  | tryLdFast (l : Mode) :
      blocked l false s.word = false →
      TStep cfg s t (.tryLd l) (.ld t .rlx .word (encode s.word)) (setPc s t (.tryCas1 l s.word))
  | lsLdAcq (c : SL) :
      blocked c.l c.ign s.word = false →
      TStep cfg s t (.lsLd c) (.ld t .rlx .word (encode s.word)) (setPc s t (.lsCasAcq c s.word))
  | lsLdEnq (c : SL) :
      blocked c.l c.ign s.word = true → s.word.spin = false →
      TStep cfg s t (.lsLd c) (.ld t .rlx .word (encode s.word)) (setPc s t (.lsCasEnq c s.word))
  | lsLdSpin (c : SL) :
      blocked c.l c.ign s.word = true → s.word.spin = true →
      TStep cfg s t (.lsLd c) (.ld t .rlx .word (encode s.word)) (setPc s t (.lsLd c))
  | lsRelLd (c : SL) :
      TStep cfg s t (.lsRelLd c) (.ld t .rlx .word (encode s.word)) (setPc s t (.lsRelCas c s.word))
  | lsWaitLdSleep (c : SL) (k : Wid) :
      c.w = some k → (s.wr k).waiting = true →
      TStep cfg s t (.lsWaitLd c) (.ld t .acq (.waiting k) (b2n (s.wr k).waiting)) (setPc s t (.lsPEnter c))
  | lsWaitLdWoken (c : SL) (k : Wid) :
      c.w = some k → (s.wr k).waiting = false →
      TStep cfg s t (.lsWaitLd c) (.ld t .acq (.waiting k) (b2n (s.wr k).waiting)) (setPc s t (.lsLd c.woken))
  | ulLdSlowW :
      s.word.wlock = true → s.word.readers = 0 →
      s.word.waiting = true → s.word.desig = false →
      TStep cfg s t (.ulLd .W) (.ld t .rlx .word (encode s.word)) (setPc s t (.usLd .W))
  | ulLdFastW :
      s.word.wlock = true → s.word.readers = 0 →
      ¬(s.word.waiting = true ∧ s.word.desig = false) →
      TStep cfg s t (.ulLd .W) (.ld t .rlx .word (encode s.word)) (setPc s t (.ulCas1 .W s.word))
  | ulLdSlowR :
      s.word.wlock = false →
      s.word.waiting = true → s.word.desig = false → s.word.readers = 1 → s.word.af = false →
      TStep cfg s t (.ulLd .R) (.ld t .rlx .word (encode s.word)) (setPc s t (.usLd .R))
  | ulLdFastR :
      s.word.wlock = false → s.word.readers ≠ 0 →
      ¬(s.word.waiting = true ∧ s.word.desig = false ∧ s.word.readers = 1 ∧ s.word.af = false) →
      TStep cfg s t (.ulLd .R) (.ld t .rlx .word (encode s.word)) (setPc s t (.ulCas1 .R s.word))
  | usLdUnc (l : Mode) :
      hasShare l s.word = true → uncontended s.word = true →
      TStep cfg s t (.usLd l) (.ld t .rlx .word (encode s.word)) (setPc s t (.usCasUnc l s.word))
  | usLdGrab (l : Mode) :
      hasShare l s.word = true → uncontended s.word = false →
      s.word.spin = false →
      TStep cfg s t (.usLd l) (.ld t .rlx .word (encode s.word)) (setPc s t (.usCasGrab l s.word))
  | usLdSpin (l : Mode) :
      hasShare l s.word = true → uncontended s.word = false →
      s.word.spin = true →
      TStep cfg s t (.usLd l) (.ld t .rlx .word (encode s.word)) (setPc s t (.usLd l))
  | usRcLd (l : Mode) (sc : Scan) (k : Wid) (obs : Nat) :
      TStep cfg s t (.usRcLd l sc k) (.ld t .rlx (.rc k) obs) (setPc s t (.usRcCas l sc k obs))
  | usFinLd (l : Mode) (f : Fin) :
      TStep cfg s t (.usFinLd l f) (.ld t .rlx .word (encode s.word)) (setPc s t (.usFinCas l f s.word))
  -- stores
  | lsStAdopt (c : SL) (k : Wid) :
      c.w = none → k ∉ s.queue → (s.wr k).owner = none → (s.wr k).waiting = false →
      TStep cfg s t (.lsSt c) (.st t .rlx (.waiting k) 1 (b2n (s.wr k).waiting))
        { setPc s t (.lsRelLd { c with w := some k }) with
            queue := if c.wc = 0 then s.queue ++ [k] else k :: s.queue,
            wr := setFn s.wr k { s.wr k with owner := some t, waiting := true, lType := c.l } }
  | lsStRequeue (c : SL) (k : Wid) :
      c.w = some k → k ∉ s.queue →
      TStep cfg s t (.lsSt c) (.st t .rlx (.waiting k) 1 (b2n (s.wr k).waiting))
        { setPc s t (.lsRelLd c) with
            queue := if c.wc = 0 then s.queue ++ [k] else k :: s.queue,
            wr := setFn s.wr k { s.wr k with waiting := true } }
  | usWakeSt (l : Mode) (k : Wid) (r : List Wid) :
      TStep cfg s t (.usWakeSt l k r) (.st t .rel (.waiting k) 0 (b2n (s.wr k).waiting))
        { setPc s t (.usWakeV l k r) with wr := setFn s.wr k { s.wr k with waiting := false } }
  -- compare-and-swap on the word: success and failure
  | lkCas0 (l : Mode) :
      s.word = Word.zero →
      TStep cfg s t (.lkCas0 l) (.cas t .acq .word (encode Word.zero) (encode (addWord l)) (encode s.word) true) (addShare { setPc s t (.lkRet l) with word := addWord l } t l)
  | lkCas0F (l : Mode) :
      s.word ≠ Word.zero →
      TStep cfg s t (.lkCas0 l) (.cas t .acq .word (encode Word.zero) (encode (addWord l)) (encode s.word) false) (setPc s t (.lkLd l))
  | lkCas1 (l : Mode) (old : Word) :
      s.word = old →
      TStep cfg s t (.lkCas1 l old) (.cas t .acq .word (encode old) (encode (acqWord l false false old)) (encode s.word) true)
        (addShare { setPc s t (.lkRet l) with word := acqWord l false false old } t l)
  | lkCas1F (l : Mode) (old : Word) :
      s.word ≠ old →
      TStep cfg s t (.lkCas1 l old) (.cas t .acq .word (encode old) (encode (acqWord l false false old)) (encode s.word) false) (setPc s t (.lsLd (SL.entry l)))
  | tryCas0 (l : Mode) :
      s.word = Word.zero →
      TStep cfg s t (.tryCas0 l) (.cas t .acq .word (encode Word.zero) (encode (addWord l)) (encode s.word) true) (addShare { setPc s t (.tryRet l true) with word := addWord l } t l)
  | tryCas0F (l : Mode) :
      s.word ≠ Word.zero →
      TStep cfg s t (.tryCas0 l) (.cas t .acq .word (encode Word.zero) (encode (addWord l)) (encode s.word) false) (setPc s t (.tryLd l))
  | tryCas1 (l : Mode) (old : Word) :
      s.word = old →
      TStep cfg s t (.tryCas1 l old) (.cas t .acq .word (encode old) (encode (acqWord l false false old)) (encode s.word) true)
        (addShare { setPc s t (.tryRet l true) with word := acqWord l false false old } t l)
  | tryCas1F (l : Mode) (old : Word) :
      s.word ≠ old →
      TStep cfg s t (.tryCas1 l old) (.cas t .acq .word (encode old) (encode (acqWord l false false old)) (encode s.word) false) (setPc s t (.tryRet l false))
  | lsCasAcq (c : SL) (old : Word) :
      s.word = old →
      TStep cfg s t (.lsCasAcq c old) (.cas t .acq .word (encode old) (encode (acqWord c.l c.clear c.lwl old)) (encode s.word) true)
        (addShare (dropW { setPc s t (.lkRet c.l) with word := acqWord c.l c.clear c.lwl old } c.w) t c.l)
  | lsCasAcqF (c : SL) (old : Word) :
      s.word ≠ old →
      TStep cfg s t (.lsCasAcq c old) (.cas t .acq .word (encode old) (encode (acqWord c.l c.clear c.lwl old)) (encode s.word) false) (setPc s t (.lsLd c))
  | lsCasEnq (c : SL) (old : Word) :
      s.word = old →
      TStep cfg s t (.lsCasEnq c old) (.cas t .acq .word (encode old) (encode (enqWord c.l c.clear c.lwl old)) (encode s.word) true)
        { setPc s t (.lsSt c) with word := enqWord c.l c.clear c.lwl old, sp := some t }
  | lsCasEnqF (c : SL) (old : Word) :
      s.word ≠ old →
      TStep cfg s t (.lsCasEnq c old) (.cas t .acq .word (encode old) (encode (enqWord c.l c.clear c.lwl old)) (encode s.word) false) (setPc s t (.lsLd c))
  | lsRelCas (c : SL) (old : Word) :
      s.word = old →
      TStep cfg s t (.lsRelCas c old) (.cas t .rel .word (encode old) (encode { old with spin := false }) (encode s.word) true)
        { setPc s t (.lsWaitLd c) with word := { old with spin := false }, sp := none }
  | lsRelCasF (c : SL) (old : Word) :
      s.word ≠ old →
      TStep cfg s t (.lsRelCas c old) (.cas t .rel .word (encode old) (encode { old with spin := false }) (encode s.word) false) (setPc s t (.lsRelLd c))
  | ulCas0 (l : Mode) :
      s.word = addWord l →
      TStep cfg s t (.ulCas0 l) (.cas t .rel .word (encode (addWord l)) (encode Word.zero) (encode s.word) true) (subShare { setPc s t (.ulRet l) with word := Word.zero } t l)
  | ulCas0F (l : Mode) :
      s.word ≠ addWord l →
      TStep cfg s t (.ulCas0 l) (.cas t .rel .word (encode (addWord l)) (encode Word.zero) (encode s.word) false) (setPc s t (.ulLd l))
  | ulCas1 (l : Mode) (old : Word) :
      s.word = old →
      TStep cfg s t (.ulCas1 l old) (.cas t .rel .word (encode old) (encode (relUncWord l old)) (encode s.word) true) (subShare { setPc s t (.ulRet l) with word := relUncWord l old } t l)
  | ulCas1F (l : Mode) (old : Word) :
      s.word ≠ old →
      TStep cfg s t (.ulCas1 l old) (.cas t .rel .word (encode old) (encode (relUncWord l old)) (encode s.word) false) (setPc s t (.usLd l))
  | usCasUnc (l : Mode) (old : Word) :
      s.word = old →
      TStep cfg s t (.usCasUnc l old) (.cas t .rel .word (encode old) (encode (relUncWord l old)) (encode s.word) true) (subShare { setPc s t (.ulRet l) with word := relUncWord l old } t l)
  | usCasUncF (l : Mode) (old : Word) :
      s.word ≠ old →
      TStep cfg s t (.usCasUnc l old) (.cas t .rel .word (encode old) (encode (relUncWord l old)) (encode s.word) false) (setPc s t (.usLd l))
  | usCasGrab (l : Mode) (old : Word) :
      s.word = old →
      TStep cfg s t (.usCasGrab l old) (.cas t .ar .word (encode old) (encode (grabWord l old)) (encode s.word) true) (grabbed s t l old)
  | usCasGrabF (l : Mode) (old : Word) :
      s.word ≠ old →
      TStep cfg s t (.usCasGrab l old) (.cas t .ar .word (encode old) (encode (grabWord l old)) (encode s.word) false) (setPc s t (.usLd l))
  | usFinCas (l : Mode) (f : Fin) (old : Word) :
      s.word = old →
      TStep cfg s t (.usFinCas l f old) (.cas t .rel .word (encode old) (encode (finWord f old)) (encode s.word) true) (afterFin { s with word := finWord f old, sp := none } t l f.wake)
  | usFinCasF (l : Mode) (f : Fin) (old : Word) :
      s.word ≠ old →
      TStep cfg s t (.usFinCas l f old) (.cas t .rel .word (encode old) (encode (finWord f old)) (encode s.word) false) (setPc s t (.usFinLd l f))
  -- compare-and-swap on remove_count (memory this mutex does not own)
  | usRcCas (l : Mode) (sc : Scan) (k : Wid) (old obs : Nat) :
      obs = old →
      TStep cfg s t (.usRcCas l sc k old) (.cas t .rlx (.rc k) old ((old + 1) % 4294967296) obs true) (scanAdvance s t l sc)
  | usRcCasF (l : Mode) (sc : Scan) (k : Wid) (old obs : Nat) :
      obs ≠ old →
      TStep cfg s t (.usRcCas l sc k old) (.cas t .rlx (.rc k) old ((old + 1) % 4294967296) obs false) (setPc s t (.usRcLd l sc k))
  -- semaphore operations
  | pEnter (c : SL) (k : Wid) :
      c.w = some k → TStep cfg s t (.lsPEnter c) (.semPEnter t k) (setPc s t (.lsPRet c))
  | pRet (c : SL) (k : Wid) :
      c.w = some k → (s.wr k).sem ≠ 0 →
      TStep cfg s t (.lsPRet c) (.semPRet t k)
        { setPc s t (.lsWaitLd c) with
            wr := setFn s.wr k { s.wr k with sem := if cfg.binary then 0 else (s.wr k).sem - 1 } }
  | semV (l : Mode) (k : Wid) (r : List Wid) :
      TStep cfg s t (.usWakeV l k r) (.semV t k) (semPost cfg (afterFin s t l r) k)
/-- The accepted steps of the model: a step of a thread from its program point, or of the environment. -/
inductive Step (cfg : Cfg) (s : State) : Event → State → Prop
  | thread (t : Tid) (p : PC) {e : Event} {s' : State} : s.pc t = p → TStep cfg s t p e s' → Step cfg s e s'
  | envV (k : Wid) : Step cfg s (.envV k) (semPost cfg s k)
  | envSem (k : Wid) (n : Nat) :
      (s.wr k).owner = none → Step cfg s (.envSem k n) { s with wr := setFn s.wr k { s.wr k with sem := n } }

theorem stepCall_inv {cfg : Cfg} {s s' : State} {t : Tid} {a : Api}
    (h : stepCall s t a = .ok s') : TStep cfg s t (s.pc t) (.call t a) s' := by
  unfold stepCall at h
  cases hp : s.pc t <;> simp only [hp] at h <;> try (cases h; done)
  cases a <;> simp only at h <;> split at h <;> try (cases h; done)
  all_goals cases h
  all_goals rename_i hx
  · exact .callLock hx
  · exact .callRlock hx
  · exact .callTry hx
  · exact .callRtry hx
  · exact .callUnlock hx
  · exact .callRunlock hx

theorem stepRet_inv {cfg : Cfg} {s s' : State} {t : Tid} {a : Api} {res : Option Bool}
    (h : stepRet s t a res = .ok s') : TStep cfg s t (s.pc t) (.ret t a res) s' := by
  unfold stepRet at h
  split at h
  all_goals try (cases h; done)
  all_goals rename_i hp
  all_goals rw [hp]
  · cases h; exact .retLock
  · cases h; exact .retRlock
  · split at h <;> try (cases h; done)
    rename_i hr; subst hr; cases h; exact .retTry _
  · split at h <;> try (cases h; done)
    rename_i hr; subst hr; cases h; exact .retRtry _
  · cases h; exact .retUnlock
  · cases h; exact .retRunlock

theorem stepLd_inv {cfg : Cfg} {s s' : State} {t : Tid} {o : Ord} {loc : Loc} {obs : Nat}
    (h : stepLd s t o loc obs = .ok s') : TStep cfg s t (s.pc t) (.ld t o loc obs) s' := by
  unfold stepLd at h
  cases hp : s.pc t <;> simp only [hp] at h <;> try (cases h; done)
  case lsWaitLd c =>
    cases hw : c.w with
    | none => simp [hw] at h
    | some k =>
      simp only [hw, guard_ok, Decidable.not_not] at h
      obtain ⟨h1, h2, h3, h⟩ := h
      subst h1 h2 h3
      split at h
      · rename_i hwt; cases h; exact .lsWaitLdSleep c k hw hwt
      · rename_i hwt; cases h; exact .lsWaitLdWoken c k hw (by simpa using hwt)
  case usRcLd l sc k =>
    simp only [guard_ok, Decidable.not_not] at h
    obtain ⟨h1, h2, h⟩ := h
    subst h1 h2; cases h
    exact .usRcLd l sc k obs
  -- loads of the word: after the panic check of the unlock paths, the branch taken determines the
  -- rule and its guards are the conditions of the branch
  case ulLd l =>
    cases l <;> simp only at h <;> (split at h; · cases h) <;>
      obtain ⟨⟨rfl, rfl, rfl⟩, rfl⟩ := ldWord_inv h <;> split <;> constructor <;> simp_all
  case usLd l =>
    split at h; · cases h
    obtain ⟨⟨rfl, rfl, rfl⟩, rfl⟩ := ldWord_inv h
    repeat' split
    all_goals constructor <;> simp_all
  all_goals
    obtain ⟨⟨rfl, rfl, rfl⟩, rfl⟩ := ldWord_inv h
    repeat' split
    all_goals constructor <;> simp_all

theorem stepSt_inv {cfg : Cfg} {s s' : State} {t : Tid} {o : Ord} {loc : Loc} {new obs : Nat}
    (h : stepSt s t o loc new obs = .ok s') : TStep cfg s t (s.pc t) (.st t o loc new obs) s' := by
  unfold stepSt at h
  cases hp : s.pc t <;> simp only [hp] at h <;> try (cases h; done)
  case lsSt c =>
    cases loc <;> simp only at h <;> try (cases h; done)
    rename_i k
    simp only [guard_ok, Decidable.not_not] at h
    obtain ⟨h1, h2, h3, hq, h⟩ := h
    subst h1 h2 h3
    cases hw : c.w with
    | none =>
      simp only [hw, guard_ok, Decidable.not_not] at h
      obtain ⟨hown, hwt, h⟩ := h
      cases h
      exact .lsStAdopt c k hw hq hown (by simpa using hwt)
    | some k' =>
      simp only [hw, guard_ok, Decidable.not_not] at h
      obtain ⟨hkk, h⟩ := h
      subst hkk
      cases h
      exact .lsStRequeue c k hw hq
  case usWakeSt l k r =>
    simp only [guard_ok, Decidable.not_not] at h
    obtain ⟨h1, h2, h3, h4, h⟩ := h
    subst h1 h2 h3 h4; cases h
    exact .usWakeSt l k r

theorem stepCas_inv {cfg : Cfg} {s s' : State} {t : Tid} {o : Ord} {loc : Loc} {exp new obs : Nat} {ok : Bool}
    (h : stepCas s t o loc exp new obs ok = .ok s') : TStep cfg s t (s.pc t) (.cas t o loc exp new obs ok) s' := by
  unfold stepCas at h
  cases hp : s.pc t <;> simp only [hp] at h <;> try (cases h; done)
  case usRcCas l sc k old =>
    simp only [guard_ok, Decidable.not_not] at h
    obtain ⟨h1, h2, h3, h4, h5, h⟩ := h
    subst h1 h2 h3 h4
    cases h
    by_cases hoe : obs = exp
    · have : ok = true := by simp [h5, hoe]
      subst this; exact .usRcCas l sc k exp obs hoe
    · have : ok = false := by simp [h5, hoe]
      subst this; exact .usRcCasF l sc k exp obs hoe
  all_goals obtain ⟨⟨rfl, rfl, rfl, rfl, rfl⟩, ⟨hw, rfl, rfl⟩ | ⟨hw, rfl, rfl⟩⟩ := casWord_inv h
  -- the program point and the outcome determine the rule
  all_goals (constructor; exact hw)

/-- Every accepted step is an instance of one of the rules. -/
theorem step_inv {cfg : Cfg} {s s' : State} {e : Event} (h : step cfg s e = .ok s') : Step cfg s e s' := by
  cases e with
  | call t a => exact .thread t _ rfl (stepCall_inv h)
  | ret t a res => exact .thread t _ rfl (stepRet_inv h)
  | ld t o loc obs => exact .thread t _ rfl (stepLd_inv h)
  | st t o loc new obs => exact .thread t _ rfl (stepSt_inv h)
  | cas t o loc exp new obs ok => exact .thread t _ rfl (stepCas_inv h)
  | semPEnter t k =>
    refine .thread t _ rfl ?_
    simp only [step] at h
    cases hp : s.pc t <;> simp only [hp] at h <;> try (cases h; done)
    split at h <;> try (cases h; done)
    rename_i hw; cases h; exact .pEnter _ k hw
  | semPRet t k =>
    refine .thread t _ rfl ?_
    simp only [step] at h
    cases hp : s.pc t <;> simp only [hp] at h <;> try (cases h; done)
    simp only [guard_ok, Decidable.not_not] at h
    obtain ⟨hw, hs, h⟩ := h
    cases h; exact .pRet _ k hw hs
  | semV t k =>
    refine .thread t _ rfl ?_
    simp only [step] at h
    cases hp : s.pc t <;> simp only [hp] at h <;> try (cases h; done)
    simp only [guard_ok, Decidable.not_not] at h
    obtain ⟨hkk, h⟩ := h
    subst hkk
    cases h; exact .semV _ k _
  | envV k => simp only [step] at h; cases h; exact .envV k
  | envSem k n =>
    simp only [step] at h
    split at h <;> try (cases h; done)
    rename_i ho; cases h; exact .envSem k n ho

theorem TStep.tid {cfg : Cfg} {s s' : State} {t : Tid} {p : PC} {e : Event} (h : TStep cfg s t p e s') :
    e.tid = some t := by
  cases h <;> rfl

/-- The rule behind an accepted step of thread `t`. -/
theorem tstep_of_step {cfg : Cfg} {s s' : State} {e : Event} {t : Tid}
    (h : step cfg s e = .ok s') (he : e.tid = some t) : TStep cfg s t (s.pc t) e s' := by
  cases step_inv h with
  | thread u p hp hu => cases he.symm.trans hu.tid; exact hp ▸ hu
  | envV k => cases he
  | envSem k n => cases he

/-! ### What every step leaves alone -/

theorem ne_of_tid {e : Event} {t u : Tid} (h : e.tid ≠ some u) (he : e.tid = some t) : u ≠ t :=
  fun e' => h (e' ▸ he)

/-- A step changes the program point and the client ghost `held` of the stepping thread only. -/
theorem step_pc_other {cfg : Cfg} {s s' : State} {e : Event} {t : Tid}
    (h : step cfg s e = .ok s') (hne : e.tid ≠ some t) : s'.pc t = s.pc t := by
  cases step_inv h with
  | envV k => rfl
  | envSem k n => rfl
  | thread u p hp hu =>
    have hut := ne_of_tid hne hu.tid
    cases hu <;>
      simp only [grabbed, semPost_pc, setPc, addShare_pc, subShare_pc, dropW_pc, scanAdvance_pc_other _ _ _ hut,
        afterFin_pc_other _ _ _ hut, setFn_other _ _ _ _ hut]

theorem step_held_other {cfg : Cfg} {s s' : State} {e : Event} {t : Tid}
    (h : step cfg s e = .ok s') (hne : e.tid ≠ some t) : s'.held t = s.held t := by
  cases step_inv h with
  | envV k => rfl
  | envSem k n => rfl
  | thread u p hp hu =>
    have hut := ne_of_tid hne hu.tid
    cases hu <;>
      simp only [grabbed, semPost_held, setPc, addShare_held, subShare_held, dropW_held, scanAdvance_held,
        afterFin_held, setFn_other _ _ _ _ hut]

end NsyncVerif.MuQ
