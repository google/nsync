import NsyncVerif.Proofs.MuCInv1
import NsyncVerif.Proofs.MuCEff
import NsyncVerif.Proofs.MuCInv2
/-
  MuC, `Inv2` (recorded timeouts) through every step: one lemma per kind of step (`Eff`), `inv2_step`, `inv2_init`.
-/
namespace NsyncVerif.MuC

theorem Inv2.keep {s s' : State} {t : Tid} {p' : PC} (h : Inv2 s) (hpc : s'.pc = setFn s.pc t p') (hd : s'.data = s.data)
    (hn : s'.now = s.now)
    (hmw : ∀ c', p'.mw = some c' → (∀ c0, (s.pc t).mw = some c0 → TimeOk s.now c0) → TimeOk s.now c')
    (hret : ∀ c cit, p' = .mwRet c cit → cit = evalOpt s.data c.cond) : Inv2 s' := by
  have hpt : s'.pc t = p' := setFn_at hpc
  refine Inv2.local t h hd hn (setFn_others hpc) ⟨?_, ?_⟩
  · intro c hc; rw [hpt] at hc; exact hmw c hc (h t).1
  · intro c cit hc; rw [hpt] at hc; exact hret c cit hc

theorem Inv2.same {s s' : State} {t : Tid} {p p' : PC} (h : Inv2 s) (heq : s.pc t = p) (hpc : s'.pc = setFn s.pc t p')
    (hd : s'.data = s.data) (hn : s'.now = s.now) (hmw : p'.mw = p.mw) (hnr : ∀ c cit, p' ≠ .mwRet c cit) : Inv2 s' :=
  h.keep hpc hd hn (fun c' hc old => old c' (by rw [heq, ← hmw]; exact hc)) (fun c cit e => absurd e (hnr c cit))

theorem Inv2.upd {s s' : State} {t : Tid} {p p' : PC} {c c' : MW} (h : Inv2 s) (heq : s.pc t = p) (hpc : s'.pc = setFn s.pc t p')
    (hd : s'.data = s.data) (hn : s'.now = s.now) (hmw' : p'.mw = some c') (hmw : p.mw = some c)
    (ht : TimeOk s.now c → TimeOk s.now c') (hnr : ∀ c cit, p' ≠ .mwRet c cit) : Inv2 s' :=
  h.keep hpc hd hn (fun c'' hc old => by rw [hmw'] at hc; cases hc; exact ht (old c (by rw [heq]; exact hmw)))
    (fun c cit e => absurd e (hnr c cit))

theorem finPc_not_ret (r : Ret) (l : List Wid) (c : MW) (cit : Bool) : finPc r l ≠ .mwRet c cit := by
  cases l <;> cases r <;> exact PC.noConfusion

theorem TimeOk.mono {now n : Int} {c : MW} (h : TimeOk now c) (hn : now ≤ n) : TimeOk n c := by
  obtain ⟨h1, h2⟩ := h
  refine ⟨fun e => ?_, fun e => ?_⟩
  · obtain ⟨d, hd, hle⟩ := h1 e; exact ⟨d, hd, Int.le_trans hle hn⟩
  · obtain ⟨d, hd, hle⟩ := h2 e; exact ⟨d, hd, Int.le_trans hle hn⟩

theorem Inv2.ret {s s' : State} {t : Tid} {m : Option Mode} {w : Option Wid} {b : Bool} (h : Inv2 s)
    (e : RetEff s t m w b s') : Inv2 s' :=
  h.keep e.pc e.data e.now (fun _ hc => nomatch hc) (fun _ _ e => nomatch e)

theorem Inv2.call {s s' : State} {t : Tid} {p' : PC} {nw : Bool} {ca : Option Cond} (h : Inv2 s)
    (hp : CallPc s t p' nw ca) (e : CallEff s t p' nw ca s') : Inv2 s' := by
  refine h.keep e.pc e.data e.now ?_ ?_
  · intro c' hc _
    cases hp
    · cases hc
    · cases hc; exact ⟨fun e => (nomatch e), fun e => (nomatch e)⟩
  · intro c cit e0; cases hp <;> cases e0

theorem Inv2.sem {cfg : Cfg} {s s' : State} {t : Tid} {p p' : PC} {k : Wid} {n : Nat} (h : Inv2 s) (heq : s.pc t = p)
    (hp : SemPc cfg s p p' k n) (e : SemEff s t p' k n s') : Inv2 s' := by
  cases hp
  · exact h.same heq e.pc e.data e.now rfl (fun _ _ => PC.noConfusion)
  · exact h.same heq e.pc e.data e.now rfl (fun _ _ => PC.noConfusion)
  · exact h.same heq e.pc e.data e.now (finPc_mw _ _) (finPc_not_ret _ _)

theorem Inv2.eval {s : State} {t : Tid} {c : MW} {cd : Cond} (h : Inv2 s) (heq : s.pc t = .mwEval c) (hcd : c.cond = some cd) :
    Inv2 (setPc s t (loopPc c (evalCond s.data cd))) := by
  refine h.keep rfl rfl rfl ?_ ?_
  · intro c' hc old
    have : c' = c := by simp only [loopPc] at hc; split at hc <;> (cases hc; rfl)
    exact this ▸ old c (by rw [heq]; rfl)
  · intro c0 cit e0
    simp only [loopPc] at e0
    split at e0
    · cases e0
    · cases e0; rw [hcd]; rfl

theorem Inv2.scanBase {s s' : State} {t : Tid} {r : Ret} {late : Bool} (h : Inv2 s) (e : ScanBase s t r late s') : Inv2 s' := by
  refine Inv2.scan t h e.data e.now e.oth ?_ e.dst
  have := e.src
  cases hp : s.pc t <;> rw [hp] at this <;> cases this <;> rfl

theorem Inv2.st {s s' : State} {t : Tid} (h : Inv2 s) (e : StEff s t s') : Inv2 s' := by
  cases e
  case mwNew c k heq _ _ _ _ | mwOwn c k heq _ _ _ => exact h.upd heq rfl rfl rfl rfl rfl id (fun _ _ => PC.noConfusion)
  case mtKeep c old heq =>
    exact h.upd heq (p' := .mwLd255 { c with hl := true, outc := c.so }) (by simp) (by simp) (by simp) rfl rfl
      (fun ht => ⟨ht.1, ht.1⟩) (fun _ _ => PC.noConfusion)
  case mtGive c old heq => exact h.same heq (p' := .mwLd255 c) (by simp) (by simp) (by simp) rfl (fun _ _ => PC.noConfusion)
  case wake r k rest heq | mtGone c old k heq _ => exact h.same heq rfl rfl rfl rfl (fun _ _ => PC.noConfusion)
  case lsNewLast c k heq _ _ _ _ _ | lsNewFirst c k heq _ _ _ _ _ =>
    exact h.same heq (p' := .lsRelLd { c with w := some k }) (by simp) (by simp) (by simp) rfl (fun _ _ => PC.noConfusion)
  case lsOwnLast c k heq _ _ _ _ | lsOwnFirst c k heq _ _ _ _ =>
    exact h.same heq (p' := .lsRelLd c) (by simp) (by simp) (by simp) rfl (fun _ _ => PC.noConfusion)

theorem Inv2.envEff {cfg : Cfg} {s s' : State} (h : Inv2 s) (e : EnvEff cfg s s') : Inv2 s' := by
  cases e with
  | post k => exact h
  | sem k n _ => exact h
  | tick n hle => intro u; exact ⟨fun c hc => ((h u).1 c hc).mono hle, (h u).2⟩

/-- A write to the client data: a thread about to return from nsync_mu_wait holds the mutex, so it is no other thread
    that writes. -/
theorem Inv2.dataW {s : State} {t : Tid} (h1 : Inv1 s) (h : Inv2 s) (hheld : s.held t = some .W) (x : Nat) (v : Int) :
    Inv2 { s with data := setFn s.data x v } := by
  intro u
  refine ⟨(h u).1, ?_⟩
  intro c cit hpc
  have hpc' : s.pc u = PC.mwRet c cit := hpc
  have hshu : shareOf s u ≠ none := by
    rw [h1.share_eq (by rw [hpc']; simp), hpc']
    simp [pcShare]
  have hsht : shareOf s t = some .W := by simp [shareOf, tshare, hheld]
  have hut := h1.lock.writer_alone hsht hshu
  subst hut
  have := h1.hidle u (by rw [hheld]; simp)
  rw [hpc'] at this; cases this

theorem inv2_step {cfg : Cfg} {s s' : State} {e : Event} (h1 : Inv1 s) (h : Inv2 s)
    (hs : step cfg s e = .ok s') : Inv2 s' := by
  cases ht : e.tid with
  | none => exact h.envEff (step_env hs ht)
  | some t =>
    cases step_eff hs ht with
    | move hm => exact h.move hm
    | callQ h0 hh hm => exact h.move (h0 ▸ hm)
    | cas hc =>
      cases hc with
      | fail hm => exact h.move hm
      | plain hp ok => exact h.cas hp ok
      | scan hsc => obtain ⟨late, e⟩ := hsc.base (h1.pcok t); exact h.scanBase e
      | fin heq hw e => exact h.same heq e.pc e.data e.now (finPc_mw _ _) (finPc_not_ret _ _)
      | mwEnq c old k heq hk hw =>
        exact h.upd heq (p' := .mwRelLd { c with hadW := old.waiting, first := false }) (by split <;> simp) (by split <;> simp)
          (by split <;> simp) rfl rfl id (fun _ _ => PC.noConfusion)
      | mtRm c old rc k heq hk =>
        exact h.same heq rfl rfl rfl rfl (fun _ _ => PC.noConfusion)
    | st e => exact h.st e
    | ldRc c k obs heq hk =>
      exact h.upd heq rfl rfl rfl rfl rfl id (fun _ _ => PC.noConfusion)
    | ldDeq c old k heq hk hmem hrc =>
      exact h.same heq (p' := .mtRmLd c old) (by simp) (by simp) (by simp) rfl (fun _ _ => PC.noConfusion)
    | ret hp e => exact h.ret e
    | call h0 hp e => exact h.call hp e
    | scan hsc => obtain ⟨late, e⟩ := hsc.base (h1.pcok t); exact h.scanBase e
    | eval c cd heq hcd => exact h.eval heq hcd
    | sem hp e => exact h.sem rfl hp e
    | dataW x v hh => exact h.dataW h1 hh x v
    | dataR => exact h

theorem inv2_init : Inv2 init := by
  intro t; simp [init, PC.ok2, PC.mw]

end NsyncVerif.MuC
