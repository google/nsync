/-
  Layer `CvFix` (repaired cv.c): `InvE` is preserved by every transition.
-/
import NsyncVerif.Proofs.CvFixInvE
import NsyncVerif.Proofs.CvFixRcd
import NsyncVerif.Proofs.CvFixThr

namespace NsyncVerif.CvFix

variable {f3 : Bool}

theorem ite_ne_wwV {c : Prop} [Decidable c] : (if c then Loc.sRel else Loc.sRcLd) ≠ .wwV := by
  split <;> nofun

/-- The actor's `cur` and its side of the V: kept; or the waker enters the V (`wake`); or it leaves the V by its V,
    which posts the instance it was at the V for, if that instance is still the woken one. -/
theorem tr_cur {cfg : Config} {s s' : State} {e : Event} {t : Tid} (hi : InvE s) (h : Tr cfg s e s') (ht : e.tid = some t) :
    ((s'.thr t).cur = (s.thr t).cur ∧ ((s'.thr t).loc = .wwV ↔ (s.thr t).loc = .wwV)) ∨
    ((s.thr t).cur = none ∧ (s'.thr t).cur ≠ none ∧ (s'.thr t).loc = .wwV) ∨
    ∃ r q, (s.thr t).cur = some (r, q) ∧ (s'.thr t).cur = none ∧ (s'.thr t).loc ≠ .wwV ∧
      (s'.recs r).posted = ((s.recs r).posted || (decide ((s.recs r).enqSeq = q) && decide ((s.recs r).stat = .woken))) := by
  have hnone : (s.thr t).loc ≠ .wwV → (s.thr t).cur = none := fun hl =>
    Decidable.of_not_not fun hc => hl ((hi.curLoc t).mp hc)
  cases h with
  | tick => cases ht
  | same | semOther => exact .inl ⟨rfl, Iff.rfl⟩
  | loc h => cases (ltr_tid h).symm.trans ht; simpa using .inl (ltr_cur hi h)
  | wake t0 r obs hl => cases ht; exact .inr (.inl ⟨hnone (by rw [hl]; nofun), by simp, by simp⟩)
  | semVWake t0 k r q hl hc => cases ht; refine .inr (.inr ⟨r, q, hc, by simp, ?_, by simp⟩); simp; split <;> nofun
  | acq t0 exp new obs o n hl => cases ht; left; unfold afterAcquire; split <;> simp [hl]; exact ite_ne_wwV
  | relSig t0 site new obs n hl =>
    cases ht; left; simp [hl]
    rcases wakeEntry_cases s (s.thr t).list with ⟨_, hw⟩ | ⟨_, hw | hw⟩ <;> simp [hw]
  | wSt1 t0 r obs hl => cases ht; left; simp [hl]; split <;> simp
  | sRcCasOk t0 site r exp new obs hl => cases ht; left; simp [hl]; exact ite_ne_wwV
  | wHeadExit t0 r y hy hl => cases ht; subst hy; left; simp [hl]
  | _ => cases ht; left; simp [*]

theorem invE_tr {cfg : Config} {s s' : State} {e : Event} (ha : InvA s) (hb : InvB' f3 s) (hi : InvE s) (h : Tr cfg s e s') :
    InvE s' := by
  constructor
  · intro u
    by_cases hu : e.tid = some u
    case neg => rw [tr_other h hu]; exact hi.curLoc u
    rcases tr_cur hi h hu with ⟨h1, h2⟩ | ⟨_, h1, h2⟩ | ⟨_, _, _, h1, h2, _⟩
    · rw [h1, h2]; exact hi.curLoc u
    · exact ⟨fun _ => h2, fun _ => h1⟩
    · exact ⟨fun hc => absurd h1 hc, fun hl => absurd hl h2⟩
  · intro r hw
    rcases (h.rcd ha hb r).woken hw with ⟨h1, h2, h3⟩ | hx
    case inr => exact .inr hx
    rcases hi.woken r h1 with hp | ⟨u, hc, hl⟩
    · exact .inl (h3 hp)
    -- the waker at the V for `r`
    by_cases hu : e.tid = some u
    case neg => exact .inr ⟨u, by rw [tr_other h hu, h2]; exact hc, by rw [tr_other h hu]; exact hl⟩
    rcases tr_cur hi h hu with ⟨c1, c2⟩ | ⟨c1, _⟩ | ⟨r0, q, c1, _, _, hp⟩
    · exact .inr ⟨u, by rw [c1, h2]; exact hc, c2.mpr hl⟩
    · rw [c1] at hc; cases hc
    · rw [hc] at c1; cases c1
      exact .inl (by rw [hp]; simp [h1])

theorem invE_old {s s' : State} {e : Event} {g : Bool} (hi : InvE s) (h : Old s e s' g) : InvE s' := by
  cases h with
  | same e => exact hi
  | sem e sem' => exact invE_frame hi (fun u => ⟨rfl, Iff.rfl⟩) (fun r hr => ⟨hr, rfl, id⟩)
  | deqLdQueued t r obs hl | deqLdF3 t r obs u hl | deqLdBad t r obs hl =>
    refine invE_frame hi (fun v => ?_) (fun q hw => ?_)
    · by_cases hv : v = t <;> simp [hv, hl]
    · by_cases hq : q = r <;> simp [hq] at hw ⊢ <;> exact hw

end NsyncVerif.CvFix
