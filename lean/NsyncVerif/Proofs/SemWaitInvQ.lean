/-
  Proofs/SemWaitInvQ.lean — preservation of the invariant `InvQ` (the list of a note, the records on it and the
  records in the hands of a notifier) by the effects of a thread step.
-/
import NsyncVerif.Proofs.SemWaitInvAux
import NsyncVerif.Proofs.SemWaitTac

namespace SemWait

/-- threads whose program points differ on a predicate are different threads -/
theorem ne_of_pc {s : State} {P : PC → Bool} {u t : Tid} {p : PC} (hu : P (s.pc u) = true) (ht : s.pc t = p)
    (hp : P p = false := by rfl) : u ≠ t :=
  fun e => by rw [e, ht, hp] at hu; cases hu

/-- at sem_wait.c:68 with the note notified or expired the list is empty: the waiter holds note_mu, and a
    notified note with waiters left is held by a notifier -/
theorem ld68_queue_nil {s : State} {t : Tid} (ha : InvA s) (hq : InvQ s) (hpc : s.pc t = .ld68)
    (htp : timePos (s.note (s.fr t).note) = false) : (s.note (s.fr t).note).queue = [] := by
  have k1 := hq.k1 (s.fr t).note
  have e1 := hq.e1 t
  have h1 := ha.h1 t
  grind [enq, timePos, protoMode, holdsPc]

theorem InvQ.eff {cfg : Config} {s s' : State} {t : Tid} (hc : cfg.noReread = false) (ha : InvA s) (hq : InvQ s)
    (he : Eff cfg s t s') : InvQ s' where
  q1 := by
    have q1 := hq.q1
    cases he with
    | nop | semV | semP => exact q1
    | lock | unlock | setFlag | born | inherit => simp only [setNote_lock, setNote_flag, setNote_expiry]; exact q1
    | post | postBind => simp only [posted_rcd]; exact q1
    | ctl op p' h =>
      simp only [setPc_note, setPc_rcd, setPc_pc, lockOp_note, lockOp_rcd, lockOp_pc]
      intro k r hm
      obtain ⟨a, b, c⟩ := q1 k r hm
      refine ⟨a, b, ?_⟩
      split
      · rename_i ho
        rw [ho] at c
        rcases ctl_enq h c with h' | ⟨hpc, htp⟩
        · exact h'
        · have := ld68_queue_nil ha hq hpc htp
          have hn := (ha.own a).2.1
          rw [ho] at hn
          rw [← hn, b] at this
          rw [this] at hm; cases hm
      · exact c
    | pop r tl hp hqu hl hf hpost =>
      simp only [popped_eq]
      intro k r' hm
      refine q1 k r' ?_
      split at hm
      · rename_i hk; rw [hk, hqu]; exact List.mem_cons_of_mem _ hm
      · exact hm
    | newNote k ex hp hk =>
      simp only [setNote_note, setNote_rcd, setNote_pc]
      intro k' r hm
      split at hm
      · cases hm
      · exact q1 k' r hm
    | call n dl hpc hk hpost hl =>
      simp only [call_eq]
      intro k r hm
      obtain ⟨a, b, c⟩ := q1 k r hm
      refine ⟨a, b, ?_⟩
      split
      · rename_i ho; rw [ho, hpc] at c; cases c
      · exact c
    | m_init r hpc hlive =>
      simp only [inited_eq]
      intro k r' hm
      obtain ⟨a, b, c⟩ := q1 k r' hm
      have hr : r' ≠ r := fun e => by rw [e, hlive] at a; cases a
      have ho : (s.rcd r').owner ≠ t := ne_of_pc c hpc
      simp only [if_neg hr, if_neg ho]
      exact ⟨a, b, c⟩
    | m_ld49_enq r hpc hen hnw =>
      have i1 := ha.i1; proj_simp; grind [enq]
    | m_pdEnterBind | m_tmoNear | m_tmoFar | m_p0 =>
      simp only [bindPc_eq, tmo_eq, p0_eq]
      intro k r hm
      obtain ⟨a, b, c⟩ := q1 k r hm
      refine ⟨a, b, ?_⟩
      split
      · rfl
      · exact c
    | m_ld68_rm r hpc htp hnw hm =>
      have q2 := hq.q2; have i1 := ha.i1; have i4 := ha.i4; proj_simp; grind [enq, List.Nodup.mem_erase_iff]
    | m_ret hpc =>
      simp only [returned_eq]
      intro k r hm
      obtain ⟨a, b, c⟩ := q1 k r hm
      have ho : (s.rcd r).owner ≠ t := ne_of_pc c hpc
      have hn : (s.fr t).nw ≠ some r := fun e => ho (ha.i1 t r e).2.1
      simp only [if_neg hn, if_neg ho]
      exact ⟨a, b, c⟩
  q2 := by
    have q2 := hq.q2
    cases he with
    | nop | semV | semP | post | postBind | m_init | m_pdEnterBind | m_tmoNear | m_tmoFar | m_p0 | m_ret => exact q2
    | lock | unlock | setFlag | born | inherit => simp only [setNote_lock, setNote_flag, setNote_expiry]; exact q2
    | ctl op p' h => simp only [setPc_note, lockOp_note]; exact q2
    | pop r tl hp hqu hl hf hpost =>
      proj_simp; grind [List.nodup_cons]
    | newNote k ex hp hk =>
      proj_simp; grind
    | call n dl hpc hk hpost hl =>
      proj_simp; grind
    | m_ld49_enq r hpc hen hnw =>
      have q1 := hq.q1; have i1 := ha.i1; proj_simp; grind [enq, List.nodup_append]
    | m_ld68_rm r hpc htp hnw hm =>
      proj_simp; grind [List.Nodup.erase]
  q3 := by
    have q3 := hq.q3
    cases he with
    | nop | semV | semP => exact q3
    | setFlag | born | inherit => simp only [setNote_flag, setNote_expiry]; exact q3
    | pop r tl hp hqu hl hf hpost =>
      obtain ⟨h1, h2⟩ := pop_facts ha hq hp hqu hl
      proj_simp
      intro u r' h
      by_cases hu : u = t
      · subst hu
        simp only [if_true, Option.some.injEq] at h
        subst h
        simp [h1, h2, hp, hl]
      · simp only [if_neg hu] at h
        have hr : r' ≠ r := by
          intro e; subst e
          have := (q3 u _ h).2.2.1
          rw [hl] at this; cases this; exact hu rfl
        simp only [if_neg hr]
        obtain ⟨a, c, e, f, g⟩ := q3 u r' h
        refine ⟨a, c, ?_, f, g⟩
        split <;> simp_all
    | post r j hp hpost | postBind r j hp hpost =>
      proj_simp
      intro u r' h
      by_cases hu : u = t
      · subst hu; simp at h
      · simp only [if_neg hu] at h
        have hr : r' ≠ r := by
          intro e; subst e
          have h1 := (q3 u _ h).2.1
          have h2 := (q3 t _ hpost).2.1
          exact hu (h1.symm.trans h2)
        simp only [if_neg hr]
        exact q3 u r' h
    | ctl op p' h =>
      simp only [setPc_note, setPc_rcd, setPc_pc, setPc_post, lockOp_note, lockOp_rcd, lockOp_pc, lockOp_post]
      intro u r hu
      obtain ⟨a, c, e, f, g⟩ := q3 u r hu
      have hut : u ≠ t := by
        intro hut
        rw [hut] at g hu
        rw [ctl_proto h g] at hu; cases hu
      refine ⟨a, c, ?_, ?_, ?_⟩
      · show (if _ then _ else _) = _
        split
        · rename_i hn; rw [hn] at e ⊢; exact ctl_lock_other h e hut
        · exact e
      · split
        · rename_i ho
          rw [ho] at f
          rcases ctl_enqNL h f with h' | h'
          · exact h'
          · have hn := (ha.own a).2.1
            rw [ho] at hn
            rw [hn, h'] at e; cases e
        · exact f
      · rw [if_neg hut]; exact g
    | lock k hp hl =>
      simp only [setNote_lock, setNote_rcd, setNote_post, setNote_pc]
      intro u r' hu
      obtain ⟨a, c, e, f, g⟩ := q3 u r' hu
      have hk : (s.rcd r').note ≠ k := fun hn => by rw [hn, hl] at e; cases e
      exact ⟨a, c, by rw [if_neg hk]; exact e, f, g⟩
    | unlock k hp hl hpost hfq =>
      simp only [setNote_lock, setNote_rcd, setNote_post, setNote_pc]
      intro u r' hu
      obtain ⟨a, c, e, f, g⟩ := q3 u r' hu
      have hk : (s.rcd r').note ≠ k := fun hn => by
        rw [hn, hl] at e; cases e; rw [hpost] at hu; cases hu
      exact ⟨a, c, by rw [if_neg hk]; exact e, f, g⟩
    | newNote k ex hp hk =>
      obtain ⟨-, hr, -⟩ := unknown_unused ha hq hk
      proj_simp; grind
    | m_init r hpc hlive =>
      proj_simp
      intro u r' hu
      obtain ⟨a, c, e, f, g⟩ := q3 u r' hu
      have hr : r' ≠ r := fun h => by rw [h, hlive] at a; cases a
      have ho : (s.rcd r').owner ≠ t := ne_of_pc f hpc
      have hu' : u ≠ t := ne_of_pc g hpc
      simp only [if_neg hr, if_neg ho, if_neg hu']
      exact ⟨a, c, e, f, g⟩
    | m_ld68_rm r hpc htp hnw hm =>
      proj_simp
      intro u r' hu
      obtain ⟨a, c, e, f, g⟩ := q3 u r' hu
      have ho : (s.rcd r').owner ≠ t := ne_of_pc f hpc
      have hr : r' ≠ r := fun h => ho (h ▸ (ha.i1 t r hnw).2.1)
      have hu' : u ≠ t := ne_of_pc g hpc
      simp only [if_neg hr, if_neg ho, if_neg hu']
      refine ⟨a, c, ?_, f, g⟩
      split
      · rename_i hn; rw [← hn]; exact e
      · exact e
    | m_ret hpc =>
      proj_simp
      intro u r' hu
      obtain ⟨a, c, e, f, g⟩ := q3 u r' hu
      have ho : (s.rcd r').owner ≠ t := ne_of_pc f hpc
      have hr : (s.fr t).nw ≠ some r' := fun h => ho (ha.i1 t r' h).2.1
      have hu' : u ≠ t := ne_of_pc g hpc
      simp only [if_neg hr, if_neg ho, if_neg hu']
      exact ⟨a, c, e, f, g⟩
    | call n dl hpc hk hpost hl =>
      proj_simp
      intro u r' hu
      obtain ⟨a, c, e, f, g⟩ := q3 u r' hu
      have ho : (s.rcd r').owner ≠ t := ne_of_pc f hpc
      have hu' : u ≠ t := fun h => by rw [h, hpost] at hu; cases hu
      simp only [if_neg ho, if_neg hu']
      refine ⟨a, c, ?_, f, g⟩
      split
      · rename_i hn; rw [← hn]; exact e
      · exact e
    | m_ld49_enq r hpc hen hnw =>
      proj_simp
      intro u r' hu
      obtain ⟨a, c, e, f, g⟩ := q3 u r' hu
      have ho : (s.rcd r').owner ≠ t := ne_of_pc f hpc
      have hu' : u ≠ t := ne_of_pc g hpc
      simp only [if_neg ho, if_neg hu']
      refine ⟨a, c, ?_, f, g⟩
      split
      · rename_i hn; rw [← hn]; exact e
      · exact e
    | m_pdEnterBind j hpc hsem huser | m_tmoNear j hpc hx hn | m_tmoFar j hpc hx hn | m_p0 j c hpc hs =>
      proj_simp
      intro u r' hu
      obtain ⟨a, c, e, f, g⟩ := q3 u r' hu
      have hu' : u ≠ t := ne_of_pc g hpc
      simp only [if_neg hu']
      refine ⟨a, c, e, ?_, g⟩
      split
      · rfl
      · exact f
  q4 := by
    have q4 := hq.q4
    cases he with
    | nop | semV | semP => exact q4
    | lock | unlock | inherit => simp only [setNote_lock, setNote_expiry]; exact q4
    | pop r tl hp hqu hl hf hpost =>
      obtain ⟨h1, h2⟩ := pop_facts ha hq hp hqu hl
      proj_simp
      intro r' hl' hu'
      by_cases hr : r' = r
      · subst hr
        simp [hf, enq_afterEnq (enqNL_enq h1)]
      · simp only [if_neg hr] at hl' hu' ⊢
        obtain ⟨a, b, c⟩ := q4 r' hl' hu'
        refine ⟨?_, b, ?_⟩
        · split <;> simp_all
        · intro hp'
          have := c hp'
          split
          · rename_i e; rw [e, hpost] at this; cases this
          · exact this
    | post r j hp hpost | postBind r j hp hpost =>
      proj_simp
      intro r' hl' hu'
      by_cases hr : r' = r
      · subst hr
        simp only [if_true] at hl' hu' ⊢
        obtain ⟨a, b, -⟩ := q4 r' hl' hu'
        exact ⟨a, b, by simp⟩
      · simp only [if_neg hr] at hl' hu' ⊢
        obtain ⟨a, b, c⟩ := q4 r' hl' hu'
        refine ⟨a, b, ?_⟩
        intro hp'
        have := c hp'
        split
        · rename_i e; rw [e, hpost] at this; cases this; exact absurd rfl hr
        · exact this
    | ctl op p' h =>
      simp only [setPc_note, setPc_rcd, setPc_pc, setPc_post, lockOp_note, lockOp_rcd, lockOp_pc, lockOp_post]
      intro r hl hu
      obtain ⟨a, b, c⟩ := q4 r hl hu
      refine ⟨a, ?_, c⟩
      split
      · rename_i ho; rw [ho] at b; exact ctl_afterEnq h b
      · exact b
    | setFlag | born =>
      simp only [setNote_flag, setNote_rcd, setNote_pc, setNote_post]
      intro r hl hu
      obtain ⟨a, b, c⟩ := q4 r hl hu
      refine ⟨?_, b, c⟩
      split
      · rfl
      · exact a
    | newNote k ex hp hk =>
      obtain ⟨-, hr, -⟩ := unknown_unused ha hq hk
      proj_simp; grind
    | call n dl hpc hk hpost hl =>
      have i1 := ha.i1; have i4 := ha.i4
      proj_simp; grind [afterEnq]
    | m_init r hpc hlive =>
      simp only [inited_eq]
      intro r' hl hu
      split at hu
      · cases hu
      · rename_i hr
        simp only [if_neg hr] at hl ⊢
        obtain ⟨a, b, c⟩ := q4 r' hl hu
        refine ⟨a, ?_, c⟩
        split
        · rename_i ho; rw [ho, hpc] at b; cases b
        · exact b
    | m_ld49_enq | m_pdEnterBind | m_tmoNear | m_tmoFar | m_p0 =>
      simp only [enqd_eq, bindPc_eq, tmo_eq, p0_eq]
      intro r hl hu
      obtain ⟨a, b, c⟩ := q4 r hl hu
      refine ⟨a, ?_, c⟩
      split
      · rfl
      · exact b
    | m_ld68_rm r hpc htp hnw hm =>
      simp only [removed_eq]
      intro r' hl hu
      split at hu
      · cases hu
      · obtain ⟨a, b, c⟩ := q4 r' hl hu
        refine ⟨a, ?_, c⟩
        split
        · rfl
        · exact b
    | m_ret hpc =>
      have i1 := ha.i1; have i4 := ha.i4
      proj_simp; grind [afterEnq]
  q5 := by
    have q5 := hq.q5
    cases he with
    | nop | semV | semP => exact q5
    | lock | unlock | setFlag | born | inherit => simp only [setNote_lock, setNote_flag, setNote_expiry]; exact q5
    | post | postBind => simp only [posted_rcd]; exact q5
    | ctl op p' h =>
      simp only [setPc_note, setPc_rcd, setPc_pc, lockOp_note, lockOp_rcd, lockOp_pc]
      intro r hl
      split
      · rename_i ho; intro he; exact q5 r hl (ho ▸ ctl_enq_of h he)
      · exact q5 r hl
    | pop r tl hp hqu hl hf hpost =>
      simp only [popped_eq]
      intro r' hl' he
      by_cases hr : r' = r
      · exact .inr (by rw [if_pos hr])
      · rw [if_neg hr]
        rcases q5 r' hl' he with h | h
        · refine .inl ?_
          split
          · rename_i hn; rw [hn, hqu] at h; exact (List.mem_cons.1 h).resolve_left hr
          · exact h
        · exact .inr h
    | newNote k ex hp hk =>
      obtain ⟨-, hr, -⟩ := unknown_unused ha hq hk
      proj_simp; grind
    | call =>
      simp only [call_eq]
      intro r hl
      split
      · intro h'; cases h'
      · exact q5 r hl
    | m_init r hpc hlive =>
      have i1 := ha.i1; have i3 := ha.i3; have i4 := ha.i4
      proj_simp; grind [enq, preNw]
    | m_ld49_enq r hpc hen hnw =>
      have i1 := ha.i1; have i4 := ha.i4
      proj_simp; grind [enq]
    | m_pdEnterBind _ hpc | m_tmoNear _ hpc | m_tmoFar _ hpc | m_p0 _ _ hpc =>
      simp only [bindPc_eq, tmo_eq, p0_eq]
      intro r hl
      split
      · rename_i ho; exact fun _ => q5 r hl (by rw [ho, hpc]; rfl)
      · exact q5 r hl
    | m_ld68_rm r hpc htp hnw hm =>
      have i1 := ha.i1; have i4 := ha.i4
      proj_simp; grind [enq]
    | m_ret =>
      simp only [returned_eq]
      intro r hl
      split at hl
      · cases hl
      · split
        · intro h'; cases h'
        · exact q5 r hl
  l3 := by
    have l3 := hq.l3
    cases he with
    | nop | lock | unlock | setFlag | born | newNote | inherit => exact l3
    | ctl op p' h =>
      intro u r
      rw [setPc_pc]
      split
      · rename_i hu; subst hu; exact fun h' => l3 _ r (ctl_asleep_of h h')
      · exact l3 u r
    | semV j =>
      intro u r h1 h2 h3 h4
      obtain ⟨a, b⟩ := l3 u r h1 h2 h3 h4
      refine ⟨a, fun i hi => ?_⟩
      rw [setSem_sem]
      split
      · exact vCount_pos ..
      · exact b i hi
    | semP j c hu hs =>
      intro u r h1 h2 h3 h4
      obtain ⟨a, b⟩ := l3 u r h1 h2 h3 h4
      refine ⟨a, fun i hi => ?_⟩
      have hij : i ≠ j := fun e => by subst e; rw [(ha.i6 u i).1 hi] at hu; cases hu
      rw [setSem_sem, if_neg hij]
      exact b i hi
    | pop r tl hp hqu hl hf hpost =>
      simp only [popped_eq]
      intro u r' h1 h2 h3 h4
      by_cases hr : r' = r
      · rw [if_pos hr] at h4; cases h4
      · rw [if_neg hr] at h3 h4; exact l3 u r' h1 h2 h3 h4
    | post r j hp hpost hsem =>
      have i1 := ha.i1
      proj_simp; grind [asleep, vCount_pos]
    | postBind r j hp hpost hlive hsem huser =>
      have i1 := ha.i1
      proj_simp; grind [asleep, vCount_pos]
    | call | m_ret =>
      simp only [call_eq, returned_eq]
      intro u r
      by_cases hu : u = t
      · simp only [if_pos hu]; intro h'; cases h'
      · simp only [if_neg hu]; exact l3 u r
    | m_init | m_ld68_rm =>
      simp only [inited_eq, removed_eq]
      intro u r'
      by_cases hu : u = t
      · simp only [if_pos hu]; intro h'; cases h'
      · simp only [if_neg hu]
        intro h1 h2 h3 h4
        split at h3
        · cases h3
        · rename_i hr; (try simp only [if_neg hr] at h4); exact l3 u r' h1 h2 h3 h4
    | m_ld49_enq r hpc hen hnw =>
      simp only [enqd_eq]
      intro u r'
      by_cases hu : u = t
      · simp only [if_pos hu]
        intro _ h2 h3 _
        rw [hu, hnw] at h2
        cases h2
        obtain ⟨hl, ho, -⟩ := ha.i1 t r hnw
        have := (hq.q4 r hl h3).2.1
        rw [ho, hpc] at this
        cases this
      · simp only [if_neg hu]; exact l3 u r'
    | m_pdEnterBind j hpc hsem huser =>
      simp only [bindPc_eq]
      intro u r
      by_cases hu : u = t
      · simp only [if_pos hu]
        intro _ h2 h3 h4
        rw [hu] at h2
        exact absurd hsem (l3 t r (by rw [hpc]; rfl) h2 h3 h4).1
      · simp only [if_neg hu]; exact l3 u r
    | m_tmoNear | m_tmoFar =>
      simp only [tmo_eq]
      intro u r
      split
      · intro h'; cases h'
      · exact l3 u r
    | m_p0 j c hpc hs =>
      simp only [p0_eq]
      intro u r
      by_cases hu : u = t
      · simp only [if_pos hu]; intro h'; cases h'
      · simp only [if_neg hu]
        intro h1 h2 h3 h4
        obtain ⟨a, b⟩ := l3 u r h1 h2 h3 h4
        refine ⟨a, fun i hi => ?_⟩
        have hij : i ≠ j := fun e => by
          subst e
          have := (ha.i6 t i).1 (ha.i8 t i hpc)
          rw [(ha.i6 u i).1 hi] at this
          exact hu (Option.some.inj this)
        rw [if_neg hij]; exact b i hi
  k1 := by
    have k1 := hq.k1
    cases he with
    | nop | semV | semP | post => exact k1
    | postBind => simp only [posted_eq, bind_eq]; exact k1
    | inherit => simp only [setNote_expiry]; exact k1
    | ctl op p' h =>
      simp only [setPc_note, setPc_pc, setPc_fr, lockOp_note, lockOp_pc, lockOp_fr]
      intro k hf hne
      obtain ⟨a, b⟩ := k1 k hf hne
      split
      · rename_i hk
        subst hk
        cases hl : (s.note (s.fr t).note).lock with
        | none => exact absurd hl a
        | some u =>
          have hut : u ≠ t := by
            rintro rfl
            rcases b u hl with h' | h'
            · exact hne (ctl_proto_queue h h')
            · exact h' rfl
          have := ctl_lock_other h hl hut
          rw [hl] at this
          rw [this]
          refine ⟨by simp, fun u' hu' => ?_⟩
          cases hu'
          rw [if_neg hut]
          exact b u hl
      · rename_i hk
        refine ⟨a, fun u hu => ?_⟩
        split
        · rename_i hut; subst hut; exact .inr fun e => hk e.symm
        · exact b u hu
    | lock k hp hl =>
      simp only [setNote_lock, setNote_pc, setNote_fr]
      intro k' hf hne
      split
      · exact ⟨by simp, fun u hu => by cases hu; exact .inl hp⟩
      · exact k1 k' hf hne
    | unlock k hp hl hpost hfq =>
      simp only [setNote_lock, setNote_pc, setNote_fr]
      intro k' hf hne
      split
      · rename_i hk; subst hk; exact absurd (hfq hf) hne
      · exact k1 k' hf hne
    | setFlag k hp hl hk hf hd =>
      simp only [setNote_flag, setNote_pc, setNote_fr]
      intro k' hf' hne
      by_cases hk' : k' = k
      · subst hk'; exact ⟨by rw [hl]; simp, fun u hu => by rw [hl] at hu; cases hu; exact .inl hp⟩
      · rw [if_neg hk'] at hf'; exact k1 k' hf' hne
    | born k p hp hk hfr hne hl hf htp =>
      simp only [setNote_flag, setNote_pc, setNote_fr]
      intro k' hf' hne'
      by_cases hk' : k' = k
      · subst hk'; exact absurd (fresh_queue_nil ha hq hfr) hne'
      · rw [if_neg hk'] at hf'; exact k1 k' hf' hne'
    | pop r tl hp hqu hl hf hpost =>
      simp only [popped_eq]
      intro k hf' hne
      refine k1 k hf' ?_
      split at hne
      · rename_i hk; rw [hk, hqu]; exact List.cons_ne_nil _ _
      · exact hne
    | newNote k ex hp hk =>
      simp only [setNote_note, setNote_pc, setNote_fr]
      intro k' hf hne
      split at hne
      · exact absurd rfl hne
      · rename_i hk'; simp only [if_neg hk'] at hf ⊢; exact k1 k' hf hne
    | call n dl hpc hk hpost hl =>
      simp only [call_eq]
      intro k hf hne
      obtain ⟨a, b⟩ := k1 k hf hne
      refine ⟨a, fun u hu => ?_⟩
      by_cases hut : u = t
      · simp only [if_pos hut]
        exact .inr fun e => hl (by rw [e, ← hut]; exact hu)
      · simp only [if_neg hut]; exact b u hu
    | m_ld49_enq r hpc hen hnw =>
      have h1 := ha.h1
      proj_simp; grind [protoMode, timePos, holdsPc]
    | m_init _ hpc | m_pdEnterBind _ hpc | m_tmoNear _ hpc | m_tmoFar _ hpc | m_p0 _ _ hpc =>
      simp only [inited_eq, bindPc_eq, tmo_eq, p0_eq]
      intro k hf hne
      obtain ⟨a, b⟩ := k1 k hf hne
      refine ⟨a, fun u hu => ?_⟩
      split
      · rename_i hut
        subst hut
        rcases b u hu with h' | h'
        · rw [hpc] at h'; cases h'
        · exact .inr h'
      · exact b u hu
    | m_ld68_rm r hpc htp hnw hm =>
      have h1 := ha.h1
      proj_simp; grind [protoMode, timePos, holdsPc]
    | m_ret hpc =>
      simp only [returned_eq]
      intro k hf hne
      obtain ⟨a, b⟩ := k1 k hf hne
      refine ⟨a, fun u hu => ?_⟩
      by_cases hut : u = t
      · simp only [if_pos hut]; exact .inl rfl
      · simp only [if_neg hut]; exact b u hu
  e1 := by
    have e1 := hq.e1
    cases he with
    | nop | semV | semP | post => exact e1
    | pop | postBind => simp only [popped_eq, posted_eq, bind_eq]; exact e1
    | lock | unlock | setFlag | born => simp only [setNote_lock, setNote_flag]; exact e1
    | ctl op p' h =>
      simp only [setPc_note, setPc_fr, lockOp_note, lockOp_fr]
      exact forall_setPc (fun u _ => e1 u) fun h' => e1 t (ctl_enq_of h h')
    | newNote k ex hp hk =>
      obtain ⟨ht, -, -⟩ := unknown_unused ha hq hk
      proj_simp; grind [enq_inCall]
    | inherit k p hp hk hfr hne =>
      have i5 := ha.i5
      proj_simp; grind [enq_inCall]
    | call | m_ret =>
      simp only [call_eq, returned_eq]
      exact forall_setPc (fun u hu => by simpa only [if_neg hu] using e1 u) nofun
    | m_ld49_enq r hpc hen hnw =>
      proj_simp; grind [enq, timePos]
    | m_init _ hpc | m_pdEnterBind _ hpc | m_tmoNear _ hpc | m_tmoFar _ hpc | m_p0 _ _ hpc | m_ld68_rm _ hpc =>
      simp only [inited_eq, bindPc_eq, tmo_eq, p0_eq, removed_eq]
      exact forall_setPc (fun u _ => e1 u) fun h' => e1 t (by rw [hpc]; first | exact h' | cases h')

end SemWait
