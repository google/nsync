import NsyncVerif.Props.C02Progress
import NsyncVerif.Proofs.MuQFairChain
import NsyncVerif.Proofs.Sched
/-
  MuQ, fair termination (C02): infinite executions.

  Generic facts about `Exec` (every state is reachable, a thread's program point changes only when
  it moves), the use of weak fairness (`fair_move`), the
  chain argument for the moves of one thread (`chain`, an instance of `Sched.chain`).
-/
namespace NsyncVerif.MuQ

variable {cfg : Cfg} {s0 : State}

theorem Exec.next_none (x : Exec cfg s0) {i : Nat} (h : x.σ i = none) : x.ρ (i + 1) = x.ρ i := by
  have := x.next i; rw [h] at this; exact this

theorem Exec.next_some (x : Exec cfg s0) {i : Nat} {e : Event} (h : x.σ i = some e) :
    step cfg (x.ρ i) e = .ok (x.ρ (i + 1)) := by
  have := x.next i; rw [h] at this; exact this

theorem Exec.reach (x : Exec cfg s0) (hr : Reachable cfg s0) : ∀ i, Reachable cfg (x.ρ i) := by
  intro i
  induction i with
  | zero => rw [x.start]; exact hr
  | succ i ih =>
    cases h : x.σ i with
    | none => rw [x.next_none h]; exact ih
    | some e => exact reachable_step ih (x.next_some h)

/-- Thread `t` takes a step at time `j`. -/
def Moves (x : Exec cfg s0) (t : Tid) (j : Nat) : Prop := ∃ e, x.σ j = some e ∧ e.tid = some t

theorem Moves.own {x : Exec cfg s0} {t : Tid} {j : Nat} (h : Moves x t j) :
    ∃ e, x.σ j = some e ∧ Own cfg (x.ρ j) t e.rcFail (x.ρ (j + 1)) := by
  obtain ⟨e, he, ht⟩ := h
  exact ⟨e, he, step_own (x.next_some he) ht⟩

theorem not_moves_frame (x : Exec cfg s0) {t : Tid} {j : Nat} (h : ¬ Moves x t j) :
    (x.ρ (j + 1)).pc t = (x.ρ j).pc t ∧ (x.ρ (j + 1)).held t = (x.ρ j).held t := by
  cases hs : x.σ j with
  | none => rw [x.next_none hs]; exact ⟨rfl, rfl⟩
  | some e =>
    have hne : e.tid ≠ some t := fun ht => h ⟨e, hs, ht⟩
    exact ⟨step_pc_other (x.next_some hs) hne, step_held_other (x.next_some hs) hne⟩

theorem frame_between (x : Exec cfg s0) {t : Tid} {i j : Nat} (hij : i ≤ j)
    (h : ∀ j', i ≤ j' → j' < j → ¬ Moves x t j') :
    (x.ρ j).pc t = (x.ρ i).pc t ∧ (x.ρ j).held t = (x.ρ i).held t :=
  Prod.mk.inj (Sched.const_between (M := Moves x t) (f := fun j => ((x.ρ j).pc t, (x.ρ j).held t))
    (fun _ hm => Prod.ext (not_moves_frame x hm).1 (not_moves_frame x hm).2) hij h)

/-- Weak fairness: a thread that stays inside a call and awake as long as it does not move, moves. -/
theorem fair_move (x : Exec cfg s0) (hf : WeakFair x) {t : Tid} {i : Nat}
    (h : ∀ j, i ≤ j → (∀ j', i ≤ j' → j' < j → ¬ Moves x t j') →
      (x.ρ j).pc t ≠ .idle ∧ ¬ AsleepOnSem (x.ρ j) t) :
    ∃ j, i ≤ j ∧ Moves x t j := by
  apply Classical.byContradiction
  intro hn
  have hnm : ∀ j, i ≤ j → ¬ Moves x t j := fun j hj hm => hn ⟨j, hj, hm⟩
  obtain ⟨j, e, hj, he, ht⟩ := hf t i (fun j hj => h j hj (fun j' h1 _ => hnm j' h1))
  exact hnm j hj ⟨e, he, ht⟩

/-- … in particular a thread at a program point that is neither idle nor the return point of P. -/
theorem fair_move_pc (x : Exec cfg s0) (hf : WeakFair x) {t : Tid} {i : Nat}
    (h1 : (x.ρ i).pc t ≠ .idle) (h2 : ∀ c, (x.ρ i).pc t ≠ .lsPRet c) :
    ∃ j, i ≤ j ∧ Moves x t j := by
  apply fair_move x hf
  intro j hj hnm
  obtain ⟨a, _⟩ := frame_between x hj hnm
  refine ⟨by rw [a]; exact h1, ?_⟩
  rintro ⟨c, k, hp, _⟩
  rw [a] at hp; exact h2 c hp

/-! ### the chain argument -/

/-- `Sched.chain` for the moves of thread `t`: a class of times with a rank that steps of the others
    do not increase and every step of `t` decreases, and in which `t` always moves again, is empty. -/
theorem chain (x : Exec cfg s0) (t : Tid) (n : Nat) (R : Nat → Prop) (rk : Nat → Nat)
    (hstay : ∀ j, n ≤ j → R j → ¬ Moves x t j → R (j + 1) ∧ rk (j + 1) ≤ rk j)
    (hmove : ∀ j, n ≤ j → R j → Moves x t j → R (j + 1) ∧ rk (j + 1) < rk j)
    (hlive : ∀ j, n ≤ j → R j → ∃ j', j ≤ j' ∧ Moves x t j') :
    ∀ j, n ≤ j → ¬ R j :=
  Sched.chain (M := Moves x t) R rk hstay hmove hlive

end NsyncVerif.MuQ
