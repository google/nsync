/-
  Proofs/WaitNFrameCond.lean — what a step of thread u can do to objects whose lock it does not hold and to
  records outside its own frame.
-/
import NsyncVerif.Proofs.WaitNQ

namespace WaitN

/-- a record keeps its identity and dequeue mark, unless it belongs to the frame of the stepping caller -/
abbrev RecKept (s s' : State) (u : Tid) (r : Rid) : Prop :=
  ((s'.rcd r).live = true ∧ (s'.rcd r).owner = (s.rcd r).owner ∧ (s'.rcd r).obj = (s.rcd r).obj
            ∧ (s'.rcd r).deqd = (s.rcd r).deqd)
          ∨ (r ∈ (s.fr u).recs ∧ inCall (s.pc u) = true ∧ (s.fr u).frees = 0)

structure Frame2 (s s' : State) (u : Tid) : Prop where
  /-- an object whose lock u does not hold keeps its queue and its readiness -/
  obj : ∀ o, (s.obj o).known = true → (s.obj o).lock ≠ some u →
          (s'.obj o).queue = (s.obj o).queue ∧ wakeable o (s'.obj o) = wakeable o (s.obj o)
  /-- u can only acquire a free lock or release its own -/
  lock : ∀ o, (s'.obj o).lock = (s.obj o).lock ∨ ((s.obj o).lock = none ∧ (s'.obj o).lock = some u)
          ∨ ((s.obj o).lock = some u ∧ (s'.obj o).lock = none)
  /-- live records outside u's frame keep their identity and dequeue mark -/
  rcd : ∀ r, (s.rcd r).live = true → RecKept s s' u r

theorem Frame2.of_eq {s s' : State} {u : Tid} (ho : s'.obj = s.obj) (hr : s'.rcd = s.rcd) : Frame2 s s' u := by
  refine ⟨fun o _ _ => by rw [ho]; exact ⟨rfl, rfl⟩, fun o => .inl (by rw [ho]), fun r h => .inl ?_⟩
  rw [hr]; exact ⟨h, rfl, rfl, rfl⟩

theorem Frame2.trans_eq {s s1 s2 : State} {u : Tid} (a : Frame2 s s1 u) (ho : s2.obj = s1.obj) (hr : s2.rcd = s1.rcd) :
    Frame2 s s2 u := by
  refine ⟨fun o h1 h2 => by rw [ho]; exact a.obj o h1 h2, fun o => by rw [ho]; exact a.lock o, fun r h => ?_⟩
  unfold RecKept; rw [hr]; exact a.rcd r h

/-- the step changes object `o` only, to `v` -/
theorem Frame2.of_setObj {s s1 : State} {u : Tid} {o : ObjId} {v : Obj}
    (ho : s1.obj = fun i => if i = o then v else s.obj i)
    (hv : (s.obj o).known = true → (s.obj o).lock ≠ some u →
          v.queue = (s.obj o).queue ∧ wakeable o v = wakeable o (s.obj o))
    (hl : v.lock = (s.obj o).lock ∨ ((s.obj o).lock = none ∧ v.lock = some u) ∨ ((s.obj o).lock = some u ∧ v.lock = none))
    (hr : ∀ r, (s.rcd r).live = true → RecKept s s1 u r) : Frame2 s s1 u := by
  have hx : ∀ x, x ≠ o → s1.obj x = s.obj x := fun x h => by rw [ho]; exact if_neg h
  have ho' : s1.obj o = v := by rw [ho]; exact if_pos rfl
  refine ⟨fun x hk hn => ?_, fun x => ?_, hr⟩ <;> by_cases h : x = o
  · subst h; rw [ho']; exact hv hk hn
  · rw [hx x h]; exact ⟨rfl, rfl⟩
  · subst h; rw [ho']; exact hl
  · rw [hx x h]; exact .inl rfl

/-- a live record keeps its identity and dequeue mark, or it belongs to the frame of the stepping caller: only the
    owner's dequeue marks `deqd`, only the end of the owner's array kills -/
theorem RecTr.kept {s s' : State} {u : Tid} {r : Rid} {k : Kind} (tr : RecTr s s' u r k) (hi : LInv (s.pc u) (s.fr u))
    (hl : (s.rcd r).live = true) : RecKept s s' u r := by
  cases tr
  case init i oid hpc hoid hdead h => exact absurd (hdead.symm.trans hl) Bool.false_ne_true
  case kill hm hpc h =>
    refine .inr ⟨hm, ?_⟩
    rcases hpc with hpc | ⟨x, hpc, hh⟩ <;> rw [hpc] at hi ⊢
    · exact ⟨rfl, hi.1.frees⟩
    · exact ⟨rfl, frees_of_linv_ret hi hh⟩
  case deqd j hr hpc h =>
    refine .inr ⟨List.mem_of_getElem? hr, ?_⟩
    rcases hpc with ⟨st, hpc⟩ | ⟨st, hpc⟩ <;> rw [hpc] at hi ⊢ <;> exact ⟨rfl, hi.1.frees⟩
  all_goals (rename_i h; unfold RecKept; rw [h]; exact .inl ⟨hl, rfl, rfl, rfl⟩)

theorem Frame2.of_rcd {s s1 : State} {u : Tid} (ho : s1.obj = s.obj)
    (hr : ∀ r, (s.rcd r).live = true → RecKept s s1 u r) : Frame2 s s1 u :=
  ⟨fun o _ _ => by rw [ho]; exact ⟨rfl, rfl⟩, fun o => .inl (by rw [ho]), hr⟩

theorem Frame2.of_act {s s1 : State} {t : Tid} {k : Kind} (hi : LInv (s.pc t) (s.fr t)) (a : Act s t k s1) : Frame2 s s1 t := by
  have rk := fun r => (a.rcd r).kept hi
  have held : ∀ {o : ObjId} {P : Prop}, (s.obj o).lock = some t → (s.obj o).known = true → (s.obj o).lock ≠ some t → P :=
    fun h _ hn => absurd h hn
  cases a
  case skip | posted | sgWake | init | refused | wspinDone | kill => exact .of_rcd rfl rk
  case acquire o hl => exact .of_setObj rfl (fun _ _ => ⟨rfl, wakeable_congr rfl rfl⟩) (.inr (.inl ⟨hl, rfl⟩)) rk
  case waited k => exact .of_setObj rfl (fun _ _ => ⟨rfl, rfl⟩) (.inl rfl) rk
  case newNote k _ hk | newCtr k _ hk =>
    exact .of_setObj rfl (fun h => absurd (hk.symm.trans h) Bool.false_ne_true) (.inl rfl) rk
  -- the holder releases …
  case unlock o hl | cvRelease c fl hl | sgUnlink c bc l q fl hpc hl hq | unlockDeq j r oid res hpc hr hl
      | cvReleaseDeq j r c fl res hpc hr hl =>
    exact .of_setObj rfl (held hl) (.inr (.inr ⟨hl, rfl⟩)) rk
  -- … or changes the object under its lock
  case notify n hl | value k new hl hz | pop r tl hq hcv hl hw hp | enqueue i r oid hpc hr ho hl | remove j r oid hpc hr ho hl =>
    exact .of_setObj rfl (held hl) (.inl rfl) rk

theorem frame2_stepThr {s s' : State} {t : Tid} {e : Ev} (hl : LInv (s.pc t) (s.fr t))
    (h : stepThr s t e = .ok s') : Frame2 s s' t := by
  obtain ⟨_, s1, a, g⟩ := act_stepThr h
  exact (Frame2.of_act hl a).trans_eq g.obj g.rcd

end WaitN
