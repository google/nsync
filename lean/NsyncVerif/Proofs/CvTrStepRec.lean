/-
  Layer `Cv`: `step … = .ok s'` implies `Tr` — stores / CAS on record fields, mutex word, semaphores.
-/
import NsyncVerif.Proofs.CvTrStepRecLd

namespace NsyncVerif.Cv

theorem tr_recSt {cfg : Config} {s s' : State} {t : Tid} {site : RSite} {r : Rid} {new obs : Nat}
    (h : stepRecSt s t site r new obs = .ok s') : Tr cfg s (.recSt t site r new obs) s' := by
  unfold stepRecSt at h
  dsimp only at h
  split at h
  · rename_i hl
    simp only [need_ok] at h
    obtain ⟨hm, hst, hn, _, h⟩ := h
    cases h; subst hn
    exact .wSt1 t r obs hl hm hst
  · rename_i hl
    simp only [need_ok] at h
    obtain ⟨hr, hn, _, h⟩ := h
    cases h; subst hn
    exact .wClr t r obs hl hr
  · rename_i hl
    simp only [need_ok] at h
    obtain ⟨hr, hn, _, h⟩ := h
    cases h; subst hn
    exact .wake t r obs hl hr
  · rename_i hl
    simp only [need_ok] at h
    obtain ⟨hm, hst, ⟨ho, he⟩, hn, _, h⟩ := h
    cases h; subst hn
    exact .enqSt t r obs hl hm hst ho he
  · rename_i hl
    simp only [need_ok] at h
    obtain ⟨hr, hn, _, h⟩ := h
    cases h; subst hn
    exact .deqSt t r obs hl hr
  · cases h

theorem tr_recCas {cfg : Config} {s s' : State} {t : Tid} {site : RSite} {r : Rid} {exp new obs : Nat}
    {ok : Bool} (h : stepRecCas s t site r exp new obs ok = .ok s') :
    Tr cfg s (.recCas t site r exp new obs ok) s' := by
  unfold stepRecCas at h
  dsimp only at h
  simp only [need_ok] at h
  obtain ⟨_, hn, ho, hok, h⟩ := h
  split at h
  · rename_i hl
    simp only [need_ok] at h
    obtain ⟨hr, h⟩ := h
    split at h
    · rename_i hk; cases h; subst hk
      exact .wRmCasOk t r exp new obs hl hr hn ho (by simpa using hok.symm)
    · rename_i hk; cases h
      obtain rfl := eq_false_of_ne_true hk
      exact .loc (.wRmCasFail _ _ _ _ hl hr)
  · rename_i first hl
    simp only [need_ok] at h
    obtain ⟨hs, hr, h⟩ := h
    split at h
    · rename_i hk; cases h; subst hk
      exact .sRcCasOk t _ r exp new obs hl hr hn ho (by simpa using hok.symm) (.inl ⟨by rw [hs.2], hs.1⟩)
    · rename_i hk; cases h
      obtain rfl := eq_false_of_ne_true hk
      exact .loc (.sRcCasFail _ _ _ _ _ hl hr (.inl ⟨by rw [hs.2], hs.1⟩))
  · rename_i hl
    simp only [need_ok] at h
    obtain ⟨hs, hr, h⟩ := h
    split at h
    · rename_i hk; cases h; subst hk
      exact .sRcCasOk t _ r exp new obs hl hr hn ho (by simpa using hok.symm) (.inr ⟨rfl, hs⟩)
    · rename_i hk; cases h
      obtain rfl := eq_false_of_ne_true hk
      exact .loc (.sRcCasFail _ _ _ _ _ hl hr (.inr ⟨rfl, hs⟩))
  · cases h

theorem tr_muLd {cfg : Config} {s s' : State} {t : Tid} {site : MSite} {obs : Nat}
    (h : stepMuLd s t site obs = .ok s') : Tr cfg s (.muLd t site obs) s' := by
  unfold stepMuLd at h
  dsimp only at h
  split at h
  · rename_i hl
    simp only [need_ok] at h
    obtain ⟨_, _, h⟩ := h
    cases h
    refine .muMode t obs _ hl ?_
    split <;> simp
  · rename_i hl
    split at h
    · cases h
    · rename_i f rest hlist
      cases h
      exact .loc (.wwLd obs f rest hl hlist)
  · rename_i hl; cases h; exact .loc (.wwRelLd _ _ (.inl ⟨rfl, hl⟩))
  · rename_i hl; cases h; exact .loc (.wwRelLd _ _ (.inr ⟨rfl, hl⟩))
  · cases h

theorem tr_muCas {cfg : Config} {s s' : State} {t : Tid} {site : MSite} {exp new obs : Nat} {ok : Bool}
    (h : stepMuCas s t site exp new obs ok = .ok s') : Tr cfg s (.muCas t site exp new obs ok) s' := by
  unfold stepMuCas at h
  dsimp only at h
  simp only [need_ok] at h
  obtain ⟨_, _, h⟩ := h
  split at h
  · rename_i hl
    simp only [need_ok] at h
    obtain ⟨_, h⟩ := h
    split at h
    · rename_i hk; subst hk
      split at h
      · cases h
      · rename_i f rest hlist
        cases h
        exact .wwCasOk t exp new obs f rest hl hlist
    · rename_i hk; cases h
      obtain rfl := eq_false_of_ne_true hk
      exact .loc (.wwCasFail _ _ _ hl)
  · rename_i hl
    simp only [need_ok] at h
    obtain ⟨_, h⟩ := h
    split at h
    · rename_i hk; subst hk; cases h
      exact .loc (.wwRelCasOk _ _ _ hl)
    · rename_i hk; cases h
      obtain rfl := eq_false_of_ne_true hk
      exact .loc (.wwRelCasFail _ _ _ hl)
  · cases h

theorem tr_semV {cfg : Config} {s s' : State} {t : Tid} {k : SemId}
    (h : stepSemV cfg s t k = .ok s') : Tr cfg s (.semV t k) s' := by
  unfold stepSemV at h
  dsimp only at h
  split at h
  · rename_i hl
    split at h
    · cases h
    · rename_i r q hc
      simp only [need_ok] at h
      obtain ⟨_, h⟩ := h
      cases h
      exact .semVWake t k r q hl hc
  · rename_i hl
    simp only [need_ok] at h
    obtain ⟨_, h⟩ := h
    cases h
    refine .semOther _ _ ?_
    simp only [touches]
    split
    · rename_i h1 _; exact absurd h1 hl
    · rfl

theorem tr_semPdEnter {cfg : Config} {s s' : State} {t : Tid} {k : SemId} {dl : Option Nat}
    (h : stepSemPdEnter s t k dl = .ok s') : Tr cfg s (.semPdEnter t k dl) s' := by
  unfold stepSemPdEnter at h
  dsimp only at h
  split at h
  · rename_i hl
    simp only [need_ok] at h
    obtain ⟨hk, hd, h⟩ := h
    cases h
    exact .loc (.semPdEnterW k dl hl hk hd)
  · rename_i hl
    simp only [need_ok] at h
    obtain ⟨hk, hd, h⟩ := h
    cases h
    exact .loc (.semPdEnterC k dl hl hk hd)
  · cases h; exact .same _ rfl
  · cases h; exact .same _ rfl
  · cases h

theorem tr_semPdRet {cfg : Config} {s s' : State} {t : Tid} {k : SemId} {to : Bool}
    (h : stepSemPdRet s t k to = .ok s') : Tr cfg s (.semPdRet t k to) s' := by
  unfold stepSemPdRet at h
  dsimp only at h
  split at h
  · rename_i hl
    simp only [need_ok] at h
    obtain ⟨_, h⟩ := h
    split at h
    · rename_i hto; subst hto
      simp only [need_ok] at h
      obtain ⟨htime, h⟩ := h
      cases h
      split at htime
      · rename_i d hd
        exact .loc (.semPdRetTimedW k d hl hd (by simpa using htime))
      · simp at htime
    · rename_i hto
      have : to = false := by simpa using hto
      subst this
      simp only [need_ok] at h
      cases h.2
      exact .semPdRetOkW t k hl
  · rename_i hl
    simp only [need_ok] at h
    obtain ⟨_, h⟩ := h
    split at h
    · rename_i hto; subst hto
      simp only [need_ok] at h
      obtain ⟨htime, h⟩ := h
      cases h
      split at htime
      · rename_i d hd
        exact .loc (.semPdRetTimedC k d hl hd (by simpa using htime))
      · simp at htime
    · rename_i hto
      have : to = false := by simpa using hto
      subst this
      simp only [need_ok] at h
      cases h.2
      exact .semPdRetOkC t k hl
  · split at h
    · cases h; exact .same _ rfl
    · simp only [need_ok] at h; cases h.2; exact .semOther _ _ rfl
  · split at h
    · cases h; exact .same _ rfl
    · simp only [need_ok] at h; cases h.2; exact .semOther _ _ rfl
  · cases h

end NsyncVerif.Cv
