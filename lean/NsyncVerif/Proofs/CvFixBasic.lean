/-
  Layer `CvFix` (repaired cv.c): projection lemmas for the state update functions.
-/
import NsyncVerif.Proofs.CvFixTrStep
import NsyncVerif.Proofs.ListFacts

namespace NsyncVerif.CvFix

@[simp] theorem setThr_thr (s : State) (t : Tid) (x : Thr) (u : Tid) :
    (s.setThr t x).thr u = if u = t then x else s.thr u := rfl
@[simp] theorem setThr_recs (s : State) (t : Tid) (x : Thr) : (s.setThr t x).recs = s.recs := rfl
@[simp] theorem setThr_queue (s : State) (t : Tid) (x : Thr) : (s.setThr t x).queue = s.queue := rfl
@[simp] theorem setThr_word (s : State) (t : Tid) (x : Thr) : (s.setThr t x).word = s.word := rfl
@[simp] theorem setThr_holder (s : State) (t : Tid) (x : Thr) : (s.setThr t x).holder = s.holder := rfl
@[simp] theorem setThr_now (s : State) (t : Tid) (x : Thr) : (s.setThr t x).now = s.now := rfl
@[simp] theorem setThr_seq (s : State) (t : Tid) (x : Thr) : (s.setThr t x).seq = s.seq := rfl
@[simp] theorem setThr_bad (s : State) (t : Tid) (x : Thr) : (s.setThr t x).bad = s.bad := rfl
@[simp] theorem setThr_sem (s : State) (t : Tid) (x : Thr) : (s.setThr t x).sem = s.sem := rfl

@[simp] theorem setRec_recs (s : State) (r : Rid) (v : Rec) (q : Rid) :
    (s.setRec r v).recs q = if q = r then v else s.recs q := rfl
@[simp] theorem setRec_thr (s : State) (r : Rid) (v : Rec) : (s.setRec r v).thr = s.thr := rfl
@[simp] theorem setRec_queue (s : State) (r : Rid) (v : Rec) : (s.setRec r v).queue = s.queue := rfl
@[simp] theorem setRec_word (s : State) (r : Rid) (v : Rec) : (s.setRec r v).word = s.word := rfl
@[simp] theorem setRec_holder (s : State) (r : Rid) (v : Rec) : (s.setRec r v).holder = s.holder := rfl
@[simp] theorem setRec_now (s : State) (r : Rid) (v : Rec) : (s.setRec r v).now = s.now := rfl
@[simp] theorem setRec_seq (s : State) (r : Rid) (v : Rec) : (s.setRec r v).seq = s.seq := rfl
@[simp] theorem setRec_bad (s : State) (r : Rid) (v : Rec) : (s.setRec r v).bad = s.bad := rfl
@[simp] theorem setRec_sem (s : State) (r : Rid) (v : Rec) : (s.setRec r v).sem = s.sem := rfl

@[simp] theorem updT_apply (f : Tid → Thr) (a : Tid) (b : Thr) (x : Tid) :
    updT f a b x = if x = a then b else f x := rfl

theorem afterAcquire_thr_other (s : State) (t : Tid) (x : Thr) (u : Tid) (h : u ≠ t) :
    (afterAcquire s t x).thr u = s.thr u := by
  unfold afterAcquire
  split <;> simp [h]

theorem afterAcquire_now (s : State) (t : Tid) (x : Thr) : (afterAcquire s t x).now = s.now := by
  unfold afterAcquire
  split <;> simp


/-- The frame of the acting thread after the acquisition, as far as C05 is concerned. -/
theorem afterAcquire_thr_self (s : State) (t : Tid) (x : Thr) :
    ((afterAcquire s t x).thr t).semOut = x.semOut ∧ ((afterAcquire s t x).thr t).dl = x.dl ∧
    ((afterAcquire s t x).thr t).sawNote = x.sawNote ∧ ((afterAcquire s t x).thr t).out = x.out ∧
    (((afterAcquire s t x).thr t).loc = .wEnq ∨ ((afterAcquire s t x).thr t).loc = .wChk2 ∨
     ((afterAcquire s t x).thr t).loc = .nLocked ∨ ((afterAcquire s t x).thr t).loc = .sRel ∨
     ((afterAcquire s t x).thr t).loc = .sRcLd ∨ ((afterAcquire s t x).thr t).loc = .dWalk) := by
  unfold afterAcquire
  split
  · simp
  · simp
  · simp
  · simp
  · dsimp only
    simp only [updT_apply, if_true]
    refine ⟨trivial, trivial, trivial, trivial, ?_⟩
    split <;> split <;> simp_all

end NsyncVerif.CvFix
