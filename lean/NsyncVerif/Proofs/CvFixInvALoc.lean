/-
  Layer `CvFix`: the structural invariant is preserved by the local transitions.
-/
import NsyncVerif.Proofs.CvFixLocal
import NsyncVerif.Proofs.CvFixTactics  -- imported only so that it is built

namespace NsyncVerif.CvFix

theorem setThr_thr_self (s : State) (t : Tid) (x : Thr) : (s.setThr t x).thr t = x := by simp

theorem tinvA_congr {s s' : State} {u : Tid} (ht : s'.thr u = s.thr u) (hr : s'.recs = s.recs)
    (h : TInvA s u) : TInvA s' u := by
  obtain ⟨h1, h2, h3, h4, h5, h6, h7, h8, h9, h10, h11⟩ := h
  constructor <;> rw [ht] <;> (try rw [hr]) <;> assumption

/-- `FrameA` looks only at the cv word, the holder, the queue, the records and the frames. -/
theorem FrameA.congr {s s' : State} (h : FrameA s) (h1 : s'.word = s.word) (h2 : s'.holder = s.holder)
    (h3 : s'.queue = s.queue) (h4 : s'.recs = s.recs) (h5 : s'.thr = s.thr) : FrameA s' := by
  obtain ⟨a1, a2, a3, a4, a5, a6, a8, a9, a10, a11⟩ := h
  refine ⟨?_, ?_, ?_, ?_, ?_, ?_, ?_, ?_, fun t => tinvA_congr (by rw [h5]) h4 (a10 t), ?_⟩ <;>
    simp only [h1, h2, h3, h4, h5] <;> assumption

/-- Assembling `FrameA` after a change of one thread's frame only. -/
theorem invA_setThr {s : State} {t : Tid} (hi : InvA s) (x' : Thr)
    (h1 : x'.loc.holds = (s.thr t).loc.holds) (h2 : x'.list = (s.thr t).list)
    (h3 : s.holder = some t → x'.old.spin = false ∧ (x'.old.ne = true ↔ s.queue ≠ []))
    (h4 : TInvA (s.setThr t x') t)
    (h5 : x'.bcast = true → (x'.loc = .sRcLd ∨ x'.loc = .sRcCas ∨ x'.loc = .sRel) → s.queue = []) :
    FrameA (s.setThr t x') := by
  obtain ⟨a1, a2, a3, a4, a5, a6, a8, a9, a10, a11⟩ := hi.frame
  constructor
  · exact a1
  · intro u
    by_cases hu : u = t
    · subst hu; simp [h1]; exact a2 u
    · simp [hu]; exact a2 u
  · intro u hh
    by_cases hu : u = t
    · subst hu; simp; exact h3 hh
    · simp [hu]; exact a3 u hh
  · exact a4
  · exact a5
  · exact a6
  · intro u
    by_cases hu : u = t
    · subst hu; simp [h2]; exact a8 u
    · simp [hu]; exact a8 u
  · intro u r
    by_cases hu : u = t
    · subst hu; simp [h2]; exact a9 u r
    · simp [hu]; exact a9 u r
  · intro u
    by_cases hu : u = t
    · subst hu; exact h4
    · exact tinvA_congr (s := s) (by simp [hu]) rfl (a10 u)
  · intro u
    by_cases hu : u = t
    · subst hu; simp; exact h5
    · simp [hu]; exact a11 u

/-- The per-thread facts survive a move of the thread, whatever else the transition does, as long
    as no record changes status or owner. -/
theorem tinvA_move {s s' : State} {t : Tid} (hi : InvA s) (m : Move s (s.thr t) (s'.thr t))
    (hrec : ∀ q, (s'.recs q).stat = (s.recs q).stat ∧ (s'.recs q).owner = (s.recs q).owner) :
    TInvA s' t := by
  obtain ⟨t1, t2, t3, t4, t5, t6, t7, t8, t9, t10, t11, t12⟩ := hi.thr t
  have hs := fun q => (hrec q).1
  have ho := fun q => (hrec q).2
  have hr : (s.thr t).loc ≠ .nLocked → (s'.thr t).r = (s.thr t).r := fun h => m.r.resolve_right h
  -- the record cv_dequeue picks is one of the call's and is not queued (any more)
  have hdeq : (s.thr t).loc = .nLocked →
      (s'.thr t).r ∈ (s'.thr t).mine ∧ (s'.recs (s'.thr t).r).stat ≠ .queued := by
    intro h
    obtain ⟨a, b⟩ := m.deq h
    refine ⟨m.mine ▸ a, fun e => ?_⟩
    rw [hs] at e
    rcases b with b | b
    · have := hi.qWait _ e; rw [b] at this; cases this
    · exact b.1 ((hi.qMem _).mpr e)
  constructor
  · intro g; rw [m.list]; exact (m.wake g).elim t1 id
  · intro g
    have g' := m.prep g
    rw [hs, ho, hr (by intro h; simp [waitPrep, h] at g')]; exact t2 g'
  · intro g
    have g' := m.live g
    rw [hs, ho, hr (by intro h; simp [waitLive, h] at g')]; exact t3 g'
  · intro g
    have g' := m.enq g
    rw [hs, hr (by intro h; simp [h] at g')]; exact t4 g'
  · intro g
    have g' := m.rm.mp g
    rw [hs, hr (by intro h; simp [h] at g')]; exact t5 g'
  · intro q hq; rw [hs, ho]; exact t6 q (m.mine ▸ hq)
  · rw [m.mine]; exact t7
  · intro g; rw [m.mine]; apply t8
    cases hx : inWaitN (s.thr t)
    · rfl
    · rw [m.waitN hx] at g; cases g
  · intro g; exact absurd g m.nEnq.1
  · intro g
    rcases g with g | g
    · exact absurd g m.nEnq.2.1
    · exact hdeq (m.nDeq g)
  · exact m.cas
  · intro g
    rcases m.nSpin g with h | h | h
    · exact hdeq h
    · rw [hs, hr (by rw [h]; simp), m.mine]; exact t12 (.inl h)
    · rw [hs, hr (by rw [h]; simp), m.mine]; exact t12 (.inr h)

theorem invA_loc {s : State} {t : Tid} {e : Event} {x' : Thr} (hi : InvA s) (h : LTr s t e x') :
    FrameA (s.setThr t x') := by
  obtain ⟨t1, t2, t3, t4, t5, t6, t7, t8, t9, t10, t11, t12⟩ := hi.thr t
  cases h.eff with
  | fresh hl hl' hd =>
    obtain ⟨d1, d2, d3, d4⟩ := hd
    obtain ⟨g1, g2, g3, g4, g5, g6⟩ := entry_regions hl'
    refine invA_setThr hi x' (g1.trans hl.1.symm) (d1.trans (t1 hl.2).symm) ?_ ?_ ?_
    · intro hh; have := (hi.hold t).mp hh; rw [hl.1] at this; cases this
    · constructor <;> rw [setThr_thr_self]
      · intro _; exact d1
      · intro g; rw [g3] at g; cases g
      · intro g; rw [g4] at g; cases g
      · intro g; rcases hl' with h | h | h | h | h <;> simp [h] at g
      · intro g; rcases hl' with h | h | h | h | h <;> simp [h] at g
      · intro r hr; rw [d3] at hr; cases hr
      · rw [d3]; exact .nil
      · intro _; exact d3
      · intro g; rcases hl' with h | h | h | h | h <;> simp [h] at g
      · intro g; rcases hl' with h | h | h | h | h <;> simp [h] at g
      · intro g; rcases hl' with h | h | h | h | h <;> simp [h] at g
      · intro g; rcases hl' with h | h | h | h | h <;> simp [h] at g
    · intro _ g; rcases hl' with h | h | h | h | h <;> simp [h] at g
  | move m h =>
    refine invA_setThr hi x' h.1 m.list ?_
      (tinvA_move hi (by rw [setThr_thr_self]; exact m) (fun _ => ⟨rfl, rfl⟩))
      (fun hb g => hi.bq t (m.bcast ▸ hb) (m.sig g))
    intro hh
    have ho := hi.old t hh
    rcases h.2 with e | ⟨_, e⟩ <;> rw [e]
    · exact ho
    · by_cases hq : s.queue = [] <;> simp_all

end NsyncVerif.CvFix
