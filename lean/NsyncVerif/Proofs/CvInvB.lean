/-
  Layer `Cv`: the protocol invariant (remove_count handshake, `waiting` flags, unlinkers, outcome).
  It is the repaired layer's `CvFix.InvB'` at the embedded state (`Proofs/CvUp.lean`) with the ghost
  `s.f3` for its parameter; `invB_up` reads it back.  The argument is in `Proofs/CvFixInvB*.lean`.
-/
import NsyncVerif.Proofs.CvInvAAll
import NsyncVerif.Proofs.CvFixInvBAll

namespace NsyncVerif.Cv

structure TInvB (s : State) (t : Tid) : Prop where
  /-- the remove_count handshake -/
  svQ : savedLoc (s.thr t) = true → (s.recs (s.thr t).r).stat = .queued → (s.recs (s.thr t).r).rc = (s.thr t).saved
  svX : savedLoc (s.thr t) = true → (s.recs (s.thr t).r).stat = .xfer ∨ (s.recs (s.thr t).r).stat = .woken →
    (s.thr t).saved < (s.recs (s.thr t).r).rc
  svL : savedLoc (s.thr t) = true → ∀ u, (s.recs (s.thr t).r).stat = .listed u →
    ((s.thr t).r ∈ (s.thr u).todo → (s.recs (s.thr t).r).rc = (s.thr t).saved) ∧
    ((s.thr t).r ∉ (s.thr u).todo → (s.thr t).saved < (s.recs (s.thr t).r).rc)
  /-- a self-removed record: where its owner is -/
  soLoc : waitLive (s.thr t) = true → (s.recs (s.thr t).r).stat = .selfOut →
    (s.thr t).loc = .wRmLd ∨ (s.thr t).loc = .wRmCas ∨ (s.thr t).loc = .wClr ∨ (s.thr t).loc = .wRel2 ∨
    (s.thr t).loc = .wTail ∨ (s.thr t).loc = .wHead
  soW : waitLive (s.thr t) = true → (s.recs (s.thr t).r).stat = .selfOut →
    (s.thr t).loc = .wRel2 ∨ (s.thr t).loc = .wTail ∨ (s.thr t).loc = .wHead → (s.recs (s.thr t).r).waiting = false
  /-- `outcome` -/
  out0 : (s.thr t).loc = .wNew ∨ waitPrep (s.thr t) = true ∨ (s.thr t).loc = .wEnq ∨ (s.thr t).loc = .wRel →
    (s.thr t).out = .ok
  outS : waitLive (s.thr t) = true → (s.thr t).out ≠ .ok →
    (s.recs (s.thr t).r).stat = .selfOut ∧
    ((s.thr t).loc = .wRel2 ∨ (s.thr t).loc = .wTail ∨ (s.thr t).loc = .wHead)
  outE : (s.thr t).loc.afterLoop = true → (s.thr t).out ≠ .ok → (s.thr t).exitUnl = [Unl.self]
  /-- wait_n: a record of the call that is self-removed is the one being dequeued -/
  mineS : ∀ q, q ∈ (s.thr t).mine → (s.recs q).stat = .selfOut →
    ((s.thr t).loc = .nDeqSt ∨ (s.thr t).loc = .nDeqRel) ∧ (s.thr t).r = q
  /-- the pending `remove_count++` of signal/broadcast -/
  todoL : ∀ r, r ∈ (s.thr t).todo → r ∈ (s.thr t).list ∧ r.isMucv = true
  todoNd : (s.thr t).todo.Nodup
  todoLoc : (s.thr t).todo ≠ [] → (s.thr t).loc = .sRcLd ∨ (s.thr t).loc = .sRcCas
  /-- wake_waiters looks at the mutex only if the first record is a pooled waiter -/
  wwHead : (s.thr t).loc = .wwMuLd ∨ (s.thr t).loc = .wwMuCas →
    ∃ f rest, (s.thr t).list = f :: rest ∧ f.isMucv = true
  /-- cv_dequeue found its record on a waker's list: that is defect F3 -/
  f3L : (s.thr t).loc = .nDeqSt ∨ (s.thr t).loc = .nDeqRel →
    ∀ u, (s.recs (s.thr t).r).stat = .listed u → s.f3 = true

structure InvB (s : State) : Prop where
  lWait : ∀ r u, (s.recs r).stat = .listed u → (r.isMucv = true ∨ s.f3 = false) → (s.recs r).waiting = true
  wokenW : ∀ r, (s.recs r).stat = .woken → (s.recs r).waiting = false
  xferM : ∀ r, (s.recs r).stat = .xfer → r.isMucv = true
  unlQ : ∀ r, (s.recs r).stat = .queued ∨ (s.recs r).stat = .prep → (s.recs r).unl = []
  unlS : ∀ r, (s.recs r).stat = .selfOut → r.isMucv = true → (s.recs r).unl = [Unl.self]
  unl1 : ∀ r, r.isMucv = true → (s.recs r).unl.length ≤ 1
  thr : ∀ t, TInvB s t
  nobad : s.bad = false

/-- A thread that does not act keeps its facts if the self-removed records are the same (with the
    same `waiting`) and the remove_count handshake for its own record is re-established. -/
theorem tinvB_other2 {s s' : State} {u : Tid} (h : TInvB s u) (ht : s'.thr u = s.thr u)
    (hf3 : s.f3 = true → s'.f3 = true) (hst : (s'.recs (s.thr u).r).stat = (s.recs (s.thr u).r).stat)
    (hso : ∀ q, (s'.recs q).stat = .selfOut ↔ (s.recs q).stat = .selfOut)
    (hsw : ∀ q, (s.recs q).stat = .selfOut → (s'.recs q).waiting = (s.recs q).waiting)
    (hsv : savedLoc (s.thr u) = true →
      ((s'.recs (s.thr u).r).stat = .queued → (s'.recs (s.thr u).r).rc = (s.thr u).saved) ∧
      ((s'.recs (s.thr u).r).stat = .xfer ∨ (s'.recs (s.thr u).r).stat = .woken →
        (s.thr u).saved < (s'.recs (s.thr u).r).rc) ∧
      (∀ v, (s'.recs (s.thr u).r).stat = .listed v →
        ((s.thr u).r ∈ (s'.thr v).todo → (s'.recs (s.thr u).r).rc = (s.thr u).saved) ∧
        ((s.thr u).r ∉ (s'.thr v).todo → (s.thr u).saved < (s'.recs (s.thr u).r).rc))) :
    TInvB s' u := by
  obtain ⟨b1, b2, b3, b4, b5, b6, b7, b8, b9, b10, b11, b12, b13, b14⟩ := h
  constructor <;> rw [ht]
  · intro h1; exact (hsv h1).1
  · intro h1; exact (hsv h1).2.1
  · intro h1; exact (hsv h1).2.2
  · intro h1 h2; exact b4 h1 ((hso _).mp h2)
  · intro h1 h2 h3; rw [hsw _ ((hso _).mp h2)]; exact b5 h1 ((hso _).mp h2) h3
  · exact b6
  · intro h1 h2; obtain ⟨c1, c2⟩ := b7 h1 h2; exact ⟨(hso _).mpr c1, c2⟩
  · exact b8
  · intro q hq h2; exact b9 q hq ((hso _).mp h2)
  · exact b10
  · exact b11
  · exact b12
  · exact b13
  · intro h1 v h2; rw [hst] at h2; exact hf3 (b14 h1 v h2)

/-- cv_dequeue never finds `waiting != 0` on a record that is neither queued nor on a waker's list. -/
theorem deqLdBad_impossible {s : State} (hi : InvB s) (ha : InvA s) (t : Tid) (r : Rid)
    (hl : (s.thr t).loc = .nLocked) (hr : r ∈ (s.thr t).mine) (hw : (s.recs r).waiting = true)
    (hst : (s.recs r).stat ≠ .queued) (hst2 : ∀ u, (s.recs r).stat ≠ .listed u) : False := by
  obtain ⟨hm, hown, hni, hnp⟩ := (ha.thr t).mine r hr
  cases h : (s.recs r).stat with
  | idle => exact hni h
  | prep => exact hnp h
  | queued => exact hst h
  | listed u => exact hst2 u h
  | xfer => have := hi.xferM r h; rw [hm] at this; cases this
  | woken => have := hi.wokenW r h; rw [hw] at this; cases this
  | selfOut => have := ((hi.thr t).mineS r hr h).1; rw [hl] at this; simp at this

theorem Loc.up_afterLoop (l : Loc) : l.up.afterLoop = l.afterLoop := by cases l <;> rfl
theorem up_savedLoc (x : Thr) : CvFix.savedLoc x.up = savedLoc x := by
  simp only [CvFix.savedLoc, savedLoc, Thr.up]; cases x.loc <;> first | rfl | exact Cont.up_beq _ .waitChk
theorem Outcome.up_inj {a b : Outcome} (h : a.up = b.up) : a = b := by cases a <;> cases b <;> first | rfl | cases h
theorem Unl.up_inj {a b : Unl} (h : a.up = b.up) : a = b := by
  cases a <;> cases b <;> simp_all [Unl.up]
theorem up_unlNil {l : List Unl} (h : l.map Unl.up = []) : l = [] := List.map_eq_nil_iff.mp h
theorem up_unlSelf {l : List Unl} (h : l.map Unl.up = [CvFix.Unl.self]) : l = [Unl.self] := by
  cases l with
  | nil => cases h
  | cons a l =>
    simp only [List.map_cons, List.cons.injEq, List.map_eq_nil_iff] at h
    rw [Unl.up_inj (b := .self) h.1, h.2]

theorem tinvB_up {s : State} {t : Tid} (h : CvFix.TInvB' s.f3 s.up t) : TInvB s t := by
  obtain ⟨b1, b2, b3, b4, b5, b6, b7, b8, b9, b10, b11, b12, b13, b14, _⟩ := h
  simp only [State.up_thr, up_savedLoc, up_waitLive, up_waitPrep, Thr.up_loc, Thr.up_r, State.up_recs, Rec.up_stat,
    Rec.up_waiting, Loc.up_afterLoop, Thr.up_mine, Thr.up_list] at b1 b2 b3 b4 b5 b6 b7 b8 b9 b10 b11 b12 b13 b14
  have ou : (s.thr t).out ≠ .ok → (s.thr t).up.out ≠ CvFix.Outcome.ok := fun h e => h (Outcome.up_inj e)
  have l3 : ∀ {a b c : Loc}, (s.thr t).loc.up = a.up ∨ (s.thr t).loc.up = b.up ∨ (s.thr t).loc.up = c.up →
      (s.thr t).loc = a ∨ (s.thr t).loc = b ∨ (s.thr t).loc = c :=
    fun h => h.imp Loc.up_inj (Or.imp Loc.up_inj Loc.up_inj)
  constructor
  · exact fun h e => b1 h (congrArg RStat.up e)
  · exact fun h e => b2 h (e.imp (congrArg _) (congrArg _))
  · intro h u e
    have := b3 h u (congrArg RStat.up e)
    exact ⟨fun m => this.1 (List.mem_map_of_mem m), fun m => this.2 (fun m' => m (Rid.mem_map_up.mp m'))⟩
  · exact fun h e => (b4 h (congrArg _ e)).imp Loc.up_inj (Or.imp Loc.up_inj (Or.imp Loc.up_inj l3))
  · exact fun h e l => b5 h (congrArg _ e) (l.imp (congrArg _) (Or.imp (congrArg _) (congrArg _)))
  · exact fun h => Outcome.up_inj (b6 (h.imp (congrArg _) (Or.imp id (Or.imp (congrArg _) (congrArg _)))))
  · exact fun h o => ⟨stat_up (b7 h (ou o)).1, l3 (b7 h (ou o)).2⟩
  · exact fun h o => up_unlSelf (b8 h (ou o))
  · intro q hq e
    have := b9 q.up (List.mem_map_of_mem hq) (up_stat e)
    exact ⟨this.1.imp Loc.up_inj Loc.up_inj, Rid.up_inj this.2⟩
  · intro r hr
    have := b10 r.up (List.mem_map_of_mem hr)
    exact ⟨Rid.mem_map_up.mp this.1, by rw [← Rid.up_isMucv]; exact this.2⟩
  · exact nodup_of_map_up b11
  · exact fun h => (b12 (fun e => h (List.map_eq_nil_iff.mp e))).imp Loc.up_inj Loc.up_inj
  · intro h
    obtain ⟨f, rest, e, m⟩ := b13 (h.imp (congrArg _) (congrArg _))
    cases hl : (s.thr t).list with
    | nil => rw [hl] at e; cases e
    | cons a l =>
      rw [hl, List.map_cons, List.cons.injEq] at e
      exact ⟨a, l, rfl, by rw [← Rid.up_isMucv, e.1]; exact m⟩
  · exact fun h u e => b14 (h.imp (congrArg _) (congrArg _)) u (congrArg _ e)

theorem invB_up {s : State} (h : CvFix.InvB' s.f3 s.up) : InvB s := by
  obtain ⟨b1, b2, b3, b4, b5, b6, b7, b8⟩ := h
  have rc : ∀ {P : CvFix.Rec → Prop} (r : Rid), P (s.up.recs r.up) → P (s.recs r).up := fun r h => State.up_recs s r ▸ h
  refine ⟨fun r u e c => ?_, fun r e => ?_, fun r e => ?_, fun r e => ?_, fun r e m => ?_, fun r m => ?_,
    fun t => tinvB_up (b7 t), b8⟩
  · exact rc (P := fun x => x.waiting = true) r (b1 r.up u (up_stat e)
      (by rw [Rid.up_isMucv]; exact c))
  · exact rc (P := fun x => x.waiting = false) r (b2 r.up (up_stat e))
  · rw [← Rid.up_isMucv]; exact b3 r.up (up_stat e)
  · exact up_unlNil (rc (P := fun x => x.unl = []) r
      (b4 r.up (e.imp up_stat up_stat)))
  · exact up_unlSelf (rc (P := fun x => x.unl = [CvFix.Unl.self]) r
      (b5 r.up (up_stat e) (by rw [Rid.up_isMucv]; exact m)))
  · have := rc (P := fun x => x.unl.length ≤ 1) r (b6 r.up (by rw [Rid.up_isMucv]; exact m))
    simpa [Rec.up] using this

end NsyncVerif.Cv
