import NsyncVerif.Proofs.MuCQScan
import NsyncVerif.Proofs.MuCInv7
/-
  MuC, MU_ALL_FALSE: the plain code of the scan of unlock_slow keeps `set_on_release & MU_ALL_FALSE`
  only as long as every waiter it has left behind was found (or is known by its same_condition ring)
  to have a false condition.  Stated for an arbitrary predicate `G` on waiter records that the scan
  does not change.
-/
namespace NsyncVerif.MuC

/-- `set_on_release` still has MU_ALL_FALSE ⇒ the unlocker holds the writer bit and everything on
    `waiters` and on `new_waiters` before p satisfies `G`. -/
def SafOk (G : Wid → Prop) (sc : Scan) : Prop :=
  sc.saf = true → ∀ k, k ∈ sc.done ++ sc.passed → sc.late = true ∧ G k

def ScanAt7 (G : Wid → Prop) (s' : State) (t : Tid) : Prop :=
  (∀ sc', (s'.pc t).scan? = some sc' → SafOk G sc') ∧
  (∀ sc', (s'.pc t).reScan = some sc' → sc'.saf = true → sc'.todo = []) ∧
  (∀ f, (s'.pc t).finOf = some f → f.cAf = !f.saf ∧ (f.saf = true → ∀ k, k ∈ s'.queue → f.late = true ∧ G k))

def ScanRes.goodS (sc : Scan) : ScanRes → Prop
  | .eval _ sc' => sc'.saf = true → sc.saf = true ∧ sc'.passed = sc.passed
  | .remove _ sc' => sc'.saf = true → sc.saf = true ∧ sc'.passed = sc.passed
  | .iterEnd sc' => sc'.saf = true → sc.saf = true ∧ sc'.passed = sc.passed ∧ sc'.todo = []
  | .panic => True

theorem ScanRes.goodS_of_false {sc sc0 : Scan} {r : ScanRes} (h : r.goodS sc) (hf : sc.saf = false) : r.goodS sc0 := by
  cases r <;> simp_all [ScanRes.goodS]

theorem scanGo_saf (wr : Wid → WRec) (l : List Wid) (sc : Scan) : (scanGo wr l sc).goodS sc := by
  induction l generalizing sc with
  | nil => simp [scanGo, ScanRes.goodS]
  | cons k rest ih =>
    unfold scanGo
    split
    · simp [ScanRes.goodS]
    · split
      · split
        · simp [ScanRes.goodS]
        · trivial
      · by_cases hw : sc.wt = none ∨ (wr k).lType = .R
        · simp [wakeOrPass, hw, ScanRes.goodS]
        · simp only [wakeOrPass, hw, if_false]
          exact ScanRes.goodS_of_false (ih { sc with todo := rest, passed := sc.passed ++ [k], sww := true, saf := false }) rfl

theorem pickup_saf {s : State} {sc sc2 : Scan} (h : (pickup s sc).2 = some sc2) : sc2.saf = sc.saf := by
  unfold pickup at h
  split at h
  · cases h
  · simp only [Option.some.injEq] at h; subst h; rfl

theorem scanAt7_scan {G : Wid → Prop} {s : State} {t : Tid} {p : PC} {sc : Scan} (hp : p.scan? = some sc) (hok : SafOk G sc)
    (hre : ∀ sc', p.reScan = some sc' → sc'.saf = true → sc'.todo = []) (hfin : p.finOf = none) : ScanAt7 G (setPc s t p) t := by
  refine ⟨?_, ?_, ?_⟩
  · intro sc' h; simp only [setPc_pc, setFn_same, hp, Option.some.injEq] at h; subst h; exact hok
  · intro sc' h; simp only [setPc_pc, setFn_same] at h; exact hre sc' h
  · intro f h; simp only [setPc_pc, setFn_same, hfin] at h; cases h

theorem pickup_saf_none {G : Wid → Prop} {s : State} {sc : Scan} (t : Tid) (r : Ret) (e2 : (pickup s sc).2 = none)
    (hok : SafOk G sc) (htodo : sc.saf = true → sc.todo = []) : ScanAt7 G (toFin (pickup s sc).1 t r sc) t := by
  obtain ⟨_, hq1⟩ := pickup_none' e2
  refine ⟨?_, ?_, ?_⟩
  · intro sc' h; simp [toFin, PC.scan?] at h
  · intro sc' h; simp [toFin, PC.reScan] at h
  · intro f h
    simp only [toFin, setPc_pc, setFn_same, PC.finOf, Option.some.injEq] at h
    subst h
    refine ⟨by simp [mkFin], ?_⟩
    intro hsaf k hk
    have hsaf' : sc.saf = true := by simpa [mkFin] using hsaf
    simp only [toFin, setPc_queue] at hk
    rw [hq1, htodo hsaf', List.append_nil] at hk
    have := hok hsaf' k hk
    simpa [mkFin] using this

theorem pickup_saf_some {G : Wid → Prop} {s : State} {sc sc2 : Scan} (e2 : (pickup s sc).2 = some sc2)
    (hok : SafOk G sc) (htodo : sc.saf = true → sc.todo = []) : SafOk G sc2 := by
  obtain ⟨_, hd, hpa, _, _, _⟩ := pickup_some' e2
  have hs := pickup_saf e2
  have hl := (pickup_some e2).1
  intro hsaf k hk
  rw [hs] at hsaf
  rw [hd, hpa, htodo hsaf, List.append_nil, List.append_nil] at hk
  rw [hl]
  exact hok hsaf k hk

/-- The inner loop keeps `SafOk`: MU_ALL_FALSE survives only if nothing was passed. -/
theorem SafOk.go {G : Wid → Prop} {sc sc' : Scan} (hok : SafOk G sc) (hd : sc'.done = sc.done) (hl : sc'.late = sc.late)
    (hs : sc'.saf = true → sc.saf = true ∧ sc'.passed = sc.passed) : SafOk G sc' := by
  intro hsaf x hx
  obtain ⟨a, b⟩ := hs hsaf
  rw [hd, b] at hx
  rw [hl]
  exact hok a x hx

/-- Along the plain code `set_on_release & MU_ALL_FALSE` means that everything left behind satisfies `G`; after the inner loop
    it also means that the loop has come to the end of the list. -/
theorem scanInv_saf (G : Wid → Prop) (t : Tid) (r : Ret) :
    ScanInvJ t r (fun _ sc => SafOk G sc) (fun _ sc => SafOk G sc ∧ (sc.saf = true → sc.todo = [])) (fun s' => ScanAt7 G s' t) where
  eval := fun hok hgo =>
    scanAt7_scan rfl (hok.go (scanGo_goodL hgo).1 (scanGo_good hgo).1 (hgo ▸ scanGo_saf _ _ _ :)) (fun _ e => nomatch e) rfl
  remove := fun hok hgo =>
    scanAt7_scan rfl (hok.go (scanGo_goodL hgo).1 (scanGo_good hgo).1 (hgo ▸ scanGo_saf _ _ _ :)) (fun _ e => nomatch e) rfl
  iterEnd := fun hok hgo =>
    have hs : ScanRes.goodS _ (.iterEnd _) := hgo ▸ scanGo_saf _ _ _
    ⟨hok.go (scanGo_goodL hgo).1 (scanGo_good hgo).1 (fun h => ⟨(hs h).1, (hs h).2.1⟩), fun h => (hs h).2.2⟩
  reLd := fun ⟨hok, htodo⟩ _ => scanAt7_scan rfl hok (fun _ e hsaf => by cases e; exact htodo hsaf) rfl
  fin := fun ⟨hok, htodo⟩ e2 => pickup_saf_none t r e2 hok htodo
  pick := fun ⟨hok, htodo⟩ e2 => pickup_saf_some e2 hok htodo
  relLd := fun hok _ => scanAt7_scan rfl hok (fun _ e => nomatch e) rfl

theorem afterEval_saf {G : Wid → Prop} {s : State} {sc : Scan} {t : Tid} {r : Ret} {res : Bool} {s' : State}
    (h : afterEval s t r sc res = .ok s') (hok : SafOk G sc) (hlate : sc.late = true)
    (hfalse : res = false → ∀ k rest, sc.todo = k :: rest → ∀ x, x ∈ (skipPast s.wr sc.passed k rest).1 → x ∈ sc.passed ∨ G x) :
    ScanAt7 G s' t := by
  refine (scanInv_saf G t r).afterEval h ?_ (fun _ _ _ _ _ => scanAt7_scan rfl hok (fun _ e => nomatch e) rfl)
    (fun _ _ _ _ _ hsaf => nomatch hsaf)
  intro k rest hk hres hsaf x hx
  simp only [List.mem_append] at hx
  rcases hx with hx | hx
  · exact hok hsaf x (List.mem_append_left _ hx)
  · rcases hfalse hres k rest hk x hx with e | e
    · exact hok hsaf x (List.mem_append_right _ e)
    · exact ⟨hlate, e⟩

end NsyncVerif.MuC
