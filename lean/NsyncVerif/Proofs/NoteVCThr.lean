/-
  Layer `Note` × vector clocks: what a program counter knows about the thread's own ghosts
  (per-thread claims; a step of another thread changes none of them).

  `TClaimX api P pc`: the API call in progress is the one the program counter belongs to (`api`),
  and at every program point from which the call is going to report the note `n` notified
  (`nsync_note_notified_deadline_` about to return zero, `nsync_note_is_notified` about to return 1,
  `nsync_wait_n` about to return index 0) the thread has a REASON `P n` — in the product:
  its own acquire load of `note<n>.notified` read 1 / it stored the flag itself (`saw`), or it read
  `expiry_time == 0` with the flag 0 (`zsaw`).
-/
import NsyncVerif.Proofs.NoteVCInv
import NsyncVerif.Proofs.NoteOwn


namespace Note
open NsyncVerif

/-- The API call a continuation of `nsync_note_notified_deadline_ (n)` belongs to. -/
def DK.api (n : NoteId) : DK → ApiCall
  | .isNotified => .isNotified n
  | .notifyApi => .notify n
  | .newSelf par dl => .new par dl
  | .ready1 wdl | .ready2 _ wdl | .dequeue _ wdl => .wait n wdl

/-- The API call an activation of `notify (n)` belongs to: nsync_note_notify (n) itself, or the
    call whose poll of `n` found the deadline passed. -/
def NK.api (n : NoteId) : NK → ApiCall
  | .ofApi => .notify n
  | .ofDeadline dk => dk.api n

def TClaimX (api : Option ApiCall) (P : NoteId → Prop) : PC → Prop
  | .newMalloc par dl => api = some (.new par dl)
  | .dl pos n nt dk => api = some (dk.api n) ∧ (pos.late = true → ¬ nt.pos → P n)
  | .nfy pos n _ nk => api = some (nk.api n) ∧ (pos.done = true → P n)
  | .chd pos stk top =>
    api = some (top.k.api top.n) ∧ ((2 ≤ stk.length ∨ pos.stored = true) → P top.n)
  | .newP _ _ par dl => api = some (.new (some par) dl)
  | .retIs n b => api = some (.isNotified n) ∧ (b = true → P n)
  | .retNotify n => api = some (.notify n)
  | .wt0 pos n wdl =>
    api = some (.wait n wdl) ∧
    (match pos with
     | .nret rd | .ret rd => rd = 0 → P n
     | _ => True)
  | .wt pos n wdl _ =>
    api = some (.wait n wdl) ∧
    (match pos with
     | .qUnlockCall q | .qUnlockRet q => q = false → P n
     | _ => True)
  | _ => True

theorem TClaimX.afterDeadlinePc {api : Option ApiCall} {P : NoteId → Prop} {n : NoteId} {nt : Dl}
    {dk : DK} (ha : api = some (dk.api n)) (hp : ¬ nt.pos → P n) :
    TClaimX api P (Note.afterDeadlinePc n nt dk) := by
  cases dk with
  | isNotified => exact ⟨ha, fun h => hp (by simpa using h)⟩
  | notifyApi =>
    simp only [Note.afterDeadlinePc]
    split
    · exact ⟨ha, fun h => by simp at h⟩
    · exact ha
  | newSelf par dl =>
    simp only [Note.afterDeadlinePc]
    split
    · cases par with
      | none => trivial
      | some p => exact ha
    · trivial
  | ready1 wdl =>
    simp only [Note.afterDeadlinePc]
    split
    · exact ⟨ha, trivial⟩
    · refine ⟨ha, ?_⟩
      show _ = 0 → P n
      split
      · intro h; cases h
      · next h => intro _; exact hp h
  | ready2 r wdl =>
    simp only [Note.afterDeadlinePc]
    split
    · exact ⟨ha, trivial⟩
    · exact ⟨ha, fun h => by simp at h⟩
  | dequeue r wdl => exact ⟨ha, trivial⟩

/-- One step of thread `a` from `pc` to `pc'` that is not an API call: the claim of the new program
    counter, given that its reasons only grow (`hmono`), that an acquire load which evaluates
    NOTIFIED_TIME (k) to zero gives a reason for `k` (`hld`), and that a store of the flag of `k`
    does (`hst`). -/
theorem TClaimX.own {s s' : State} {e : Event} {a : Tid} {pc pc' : PC} (h : Own s a pc e pc' s')
    (hL : LClaim s pc) (api : Option ApiCall)
    (P P' : NoteId → Prop) (hmono : ∀ n, P n → P' n)
    (hcall : ∀ t c, e ≠ .call t c)
    (hld : ∀ t site o k obs, e = .ld t site o k obs → ¬ (s.notes k).ntime.pos → P' k)
    (hst : ∀ t site o k n ob, e = .stNote t site o k n ob → P' k)
    (hc : TClaimX api P pc) : TClaimX api P' pc' := by
  cases h
  case unlockRet_dl_unlockRet_2 | now_dl_now_2 =>
    exact TClaimX.afterDeadlinePc hc.1 (fun h => hmono _ (hc.2 rfl h))
  case unlockRet_nfy_unlockRet_api => exact hc.1
  case unlockRet_nfy_unlockRet_dl =>
    exact TClaimX.afterDeadlinePc hc.1 (fun _ => hmono _ (hc.2 rfl))
  -- past the store: the reason is there
  case semV_chd_semV_wake | semV_chd_semV_none | semV_chd_semV_child | waitRet_chd_waitRet_2
      | waitRet_chd_waitRet_1_in | waitRet_chd_waitRet_1_par | waitRet_chd_waitRet_1_top =>
    exact ⟨hc.1, fun _ => hmono _ (hc.2 (Or.inr rfl))⟩
  case ld_dl_ld1_1 =>
    -- note.c/4 read 1
    obtain ⟨_, rfl⟩ := ‹_ = Site.dlLd1 ∧ _›
    exact TClaimX.afterDeadlinePc hc.1 fun _ =>
      hld _ _ _ _ _ rfl (by simp [NoteRec.ntime, ‹(s.notes _).notified = true›, Dl.pos])
  -- note.c/0 found the note notified already
  case ld_chd_ld_2_in => exact ⟨hc.1, fun _ => hmono _ (hc.2 (Or.inl (by simp)))⟩
  case ld_chd_ld_2_par | ld_chd_ld_2_top =>
    obtain ⟨_, rfl⟩ := ‹_ = Site.childLd ∧ _›
    have := hL.single
    exact ⟨hc.1, fun _ => this ▸ hld _ _ _ _ _ rfl ‹_›⟩
  case stNote_chd_st_wake | stNote_chd_st_none | stNote_chd_st_child =>
    -- note.c/1: the store
    obtain ⟨_, _, rfl, _⟩ := ‹_ = Site.childSt ∧ _›
    refine ⟨hc.1, fun _ => ?_⟩
    cases ‹List Frame› with
    | nil =>
      have := hL.single
      exact this ▸ hst _ _ _ _ _ _ rfl
    | cons g gs => exact hmono _ (hc.2 (Or.inl (by simp)))
  all_goals (try (exact absurd rfl (hcall _ _)))
  all_goals (try trivial)
  -- the loads that find NOTIFIED_TIME zero use `hld`
  case ld_dl_ld2 | ld_nfy_ld_3 | ld_wt_qLd_2 => simp_all [TClaimX, DK.api, NK.api]
  all_goals (clear hld hst hcall hL; simp_all [TClaimX, DK.api, NK.api]; done)

/-- An API call: the claim of the first program counter of the call. -/
theorem tclaimX_call {s s' : State} {t : Tid} {c : ApiCall} (hs : step s (.call t c) = .ok s')
    (P : NoteId → Prop) : TClaimX (some c) P (s'.pc t) := by
  have h := step_actor hs rfl
  generalize s'.pc t = q at h ⊢
  generalize s.pc t = p at h
  cases h <;> first | trivial | simp [TClaimX, DK.api]

theorem TClaimX.mono {api : Option ApiCall} {P P' : NoteId → Prop} (h : ∀ n, P n → P' n) {pc : PC}
    (hc : TClaimX api P pc) : TClaimX api P' pc := by
  cases pc with
  | dl pos n nt dk => exact ⟨hc.1, fun h1 h2 => h _ (hc.2 h1 h2)⟩
  | nfy pos n par nk => exact ⟨hc.1, fun h1 => h _ (hc.2 h1)⟩
  | chd pos stk top => exact ⟨hc.1, fun h1 => h _ (hc.2 h1)⟩
  | retIs n b => exact ⟨hc.1, fun h1 => h _ (hc.2 h1)⟩
  | wt0 pos n wdl =>
    refine ⟨hc.1, ?_⟩
    have := hc.2
    cases pos <;> first | trivial | exact fun h1 => h _ (this h1)
  | wt pos n wdl r =>
    refine ⟨hc.1, ?_⟩
    have := hc.2
    cases pos <;> first | trivial | exact fun h1 => h _ (this h1)
  | _ => exact hc

/-- During its current API call thread `t` has obtained a reason to report note `n` notified: its
    own acquire load of `note<n>.notified` read 1 or it stored the flag itself (`saw`), or it read
    `expiry_time == 0` with the flag 0 (`zsaw`). -/
def Pos (p : PState) (t : Tid) (n : NoteId) : Prop := p.saw t n ≠ 0 ∨ p.zsaw t n = true

def TClaim (p : PState) (t : Tid) : Prop := TClaimX (p.capi t) (Pos p t) (p.s.pc t)

theorem gSaw_mono {p : PState} {e : Event} (hv : VInv p) (hnc : ∀ t c, e ≠ .call t c) (t : Tid)
    (n : NoteId) (h : p.saw t n ≠ 0) : gSaw p e t n ≠ 0 := by
  cases e with
  | call u c => exact absurd rfl (hnc u c)
  | ld u site o k obs =>
    simp only [gSaw]
    split
    · next hc =>
      intro h0
      have := hv.nil k (List.eq_nil_of_length_eq_zero h0)
      rw [hc.2.2] at this; cases this
    · exact h
  | stNote u site o k m ob =>
    simp only [gSaw]
    split
    · omega
    · exact h
  | _ => exact h

theorem gZsaw_mono {p : PState} {e : Event} (hnc : ∀ t c, e ≠ .call t c) (t : Tid) (n : NoteId)
    (h : p.zsaw t n = true) : gZsaw p e t n = true := by
  cases e with
  | call u c => exact absurd rfl (hnc u c)
  | ld u site o k obs =>
    simp only [gZsaw]
    split
    · rfl
    · exact h
  | _ => exact h

theorem gCapi_other {p : PState} {e : Event} (hnc : ∀ t c, e ≠ .call t c) : gCapi p e = p.capi := by
  cases e with
  | call u c => exact absurd rfl (hnc u c)
  | _ => rfl

/-- the ghosts of a thread are changed by its own events only -/
theorem ghosts_other {p : PState} {e : Event} {u : Tid} (hu : e.actor ≠ some u) :
    gCapi p e u = p.capi u ∧ gSaw p e u = p.saw u ∧ gZsaw p e u = p.zsaw u := by
  cases e <;> simp only [Event.actor, ne_eq, Option.some.injEq, reduceCtorEq, not_false_eq_true] at hu
  all_goals (try exact ⟨rfl, rfl, rfl⟩)
  · exact ⟨by simp [gCapi, Ne.symm hu], by funext x; simp [gSaw, Ne.symm hu],
      by funext x; simp [gZsaw, Ne.symm hu]⟩
  · exact ⟨rfl, by funext x; simp [gSaw, Ne.symm hu], by funext x; simp [gZsaw, Ne.symm hu]⟩
  · exact ⟨rfl, by funext x; simp [gSaw, Ne.symm hu], rfl⟩

theorem tclaim_step {p p' : PState} {e : Event} (hr : Reachable p.s) (hv : VInv p)
    (hc : ∀ t, TClaim p t) (hp : pstep p e = .ok p') : ∀ t, TClaim p' t := by
  obtain ⟨hs, _, _, hcapi, _, hsaw, hzsaw⟩ := pstep_ok hp
  intro u
  unfold TClaim
  by_cases hu : e.actor = some u
  · by_cases hcall : ∃ t c, e = .call t c
    · obtain ⟨t, c, he⟩ := hcall
      subst he
      simp only [Event.actor, Option.some.injEq] at hu
      subst hu
      have : p'.capi t = some c := by rw [hcapi]; simp [gCapi]
      rw [this]
      exact tclaimX_call hs _
    · have hnc : ∀ t c, e ≠ .call t c := fun t c he => hcall ⟨t, c, he⟩
      have hapi : p'.capi u = p.capi u := by rw [hcapi, gCapi_other hnc]
      rw [hapi]
      refine TClaimX.own (step_actor hs hu) (hr.inv6.2.2.2.2.1.claim u) (p.capi u) (Pos p u) (Pos p' u) ?_ hnc
        ?_ ?_ (hc u)
      · intro n hn
        rcases hn with hn | hn
        · left; rw [hsaw]; exact gSaw_mono hv hnc u n hn
        · right; rw [hzsaw]; exact gZsaw_mono hnc u n hn
      · intro t site o k obs he hnp
        subst he
        simp only [Event.actor, Option.some.injEq] at hu
        subst hu
        cases hfl : (p.s.notes k).notified with
        | true =>
          left; rw [hsaw]; simp only [gSaw, hfl, and_self, if_true]
          intro h0
          have := hv.nil k (List.eq_nil_of_length_eq_zero h0)
          rw [hfl] at this; cases this
        | false =>
          right; rw [hzsaw]
          have hz : (p.s.notes k).expiry = some 0 := by
            simpa [NoteRec.ntime, hfl, Dl.pos] using hnp
          simp [gZsaw, hfl, hz]
      · intro t site o k n ob he
        subst he
        simp only [Event.actor, Option.some.injEq] at hu
        subst hu
        left; rw [hsaw]; simp [gSaw]
  · obtain ⟨h1, h2, h3⟩ := ghosts_other (p := p) hu
    rw [step_pc_other hs u hu, hcapi, h1]
    refine TClaimX.mono ?_ (hc u)
    intro n hn
    unfold Pos at hn ⊢
    rw [hsaw, hzsaw, h2, h3]
    exact hn

theorem tclaim_init : ∀ t, TClaim pinit t := by
  intro t; simp [TClaim, pinit, Note.init, TClaimX]

theorem PReachable.inv {p : PState} (h : PReachable p) : VInv p ∧ ∀ t, TClaim p t := by
  refine PReachable.induction (P := fun p => VInv p ∧ ∀ t, TClaim p t) ⟨VInv.init, tclaim_init⟩ ?_ p h
  intro p e p' hr hi hs
  exact ⟨vinv_step hr.s hi.1 hs, tclaim_step hr.s hi.1 hi.2 hs⟩

end Note
