/-
  Layer `Once`, fair termination (C07): concrete executions.

  * `traceExec`  a finite accepted trace from `init`, then nothing for ever; criteria for the
                 hypotheses of `C07_fair_termination` for an execution that ends quiescent;
  * `loopExec`   a lasso: a list of events that takes a state `s` back to `s`, for ever; `loop_hyps`: criteria on
                 the positions of the loop for the same hypotheses.
-/
import NsyncVerif.Proofs.OnceFairMain
import NsyncVerif.Proofs.Lasso

namespace Once
open NsyncVerif

/-- The state after `evs` from `s` (`s` itself if the events are not accepted). -/
def stateFrom (cfg : Config) (s : State) (evs : List Event) : State :=
  match run cfg s evs with
  | .ok s' => s'
  | .error _ => s

theorem stateFrom_eq (cfg : Config) (s : State) (evs : List Event) :
    stateFrom cfg s evs = Lasso.after (run cfg) s evs := by
  unfold stateFrom Lasso.after; cases run cfg s evs <;> rfl

theorem stateFrom_ok {cfg : Config} {s sf : State} {evs : List Event}
    (h : run cfg s evs = .ok sf) (i : Nat) :
    run cfg s (evs.take i) = .ok (stateFrom cfg s (evs.take i)) := by
  rw [stateFrom_eq]; exact Lasso.after_take (isRun cfg) h i

theorem stateFrom_all {cfg : Config} {s sf : State} {evs : List Event}
    (h : run cfg s evs = .ok sf) {i : Nat} (hi : evs.length ≤ i) :
    stateFrom cfg s (evs.take i) = sf := by
  simp only [stateFrom, List.take_of_length_le hi, h]

/-- A finite accepted trace from `s`, then nothing for ever. -/
def traceExec (cfg : Config) (s : State) (evs : List Event) (sf : State)
    (h : run cfg s evs = .ok sf) : Exec cfg s :=
  { ρ := fun i => stateFrom cfg s (evs.take i)
    σ := fun i => evs[i]?
    start := by simp [stateFrom, run]
    next := by
      intro i
      cases he : evs[i]? with
      | none => simp only [stateFrom_eq]; exact Lasso.after_none h he
      | some e => simp only [stateFrom_eq]; exact Lasso.after_some (isRun cfg) h he }

theorem traceExec_tail {cfg : Config} {s : State} {evs : List Event} {sf : State}
    (h : run cfg s evs = .ok sf) {j : Nat} (hj : evs.length ≤ j) :
    (traceExec cfg s evs sf h).ρ j = sf ∧ (traceExec cfg s evs sf h).σ j = none :=
  ⟨stateFrom_all h hj, by show evs[j]? = none; simpa using hj⟩

/-- Threads that do not occur in a trace are where they were. -/
theorem run_untouched {cfg : Config} {t : Tid} (evs : List Event) (s s' : State)
    (hne : ∀ e ∈ evs, e.tid ≠ some t) (h : run cfg s evs = .ok s') : s'.pc t = s.pc t :=
  (isRun cfg).induct_mem (Q := fun s1 => s1.pc t = s.pc t) rfl
    (fun _ e _ he _ h1 hs => (pc_step_other hs t (hne e he)).trans h1) h

/-- All events of the list are events of threads `< n`. -/
def tidsBelow (n : Nat) (evs : List Event) : Bool :=
  evs.all fun e => match e.tid with | some t => decide (t < n) | none => true

theorem tidsBelow_ne {n : Nat} {evs : List Event} (h : tidsBelow n evs = true) {t : Tid}
    (ht : n ≤ t) : ∀ e ∈ evs, e.tid ≠ some t := by
  intro e he hte
  have := List.all_eq_true.1 h e he
  have h2 : decide (t < n) = true := by simpa [hte] using this
  have h3 : t < n := of_decide_eq_true h2
  exact absurd h3 (Nat.not_lt.2 ht)

theorem tidsBelow_take {n : Nat} {evs : List Event} (h : tidsBelow n evs = true) (i : Nat) :
    tidsBelow n (evs.take i) = true := by
  apply List.all_eq_true.2
  intro e he
  exact List.all_eq_true.1 h e (List.mem_of_mem_take he)

variable {cfg : Config} {s0 : State}

/-- In the client's function the only accepted own event is the end of the function. -/
theorem cb_only_end {s s' : State} {e : Event} {t : Tid} {f : Frame}
    (h : step cfg s e = .ok s') (he : e.tid = some t) (hp : s.pc t = .wCbEnd f) :
    e = .cbEnd t f.arg := by
  have hs := step_ok h
  cases hs
  case skip hidle => rw [hidle t he] at hp; cases hp
  case cbEnd hp' => cases he; rw [hp'] at hp; cases hp; rfl
  all_goals (cases he; rw [‹s.pc _ = _›] at hp; cases hp)

theorem weakFair_of_quiescent (x : Exec cfg s0) (N : Nat)
    (hN : ∀ j, N ≤ j → ∀ t, (x.ρ j).pc t = .idle) : WeakFair x := by
  intro t i h
  exact absurd (hN (max i N) (by omega) t) (h (max i N) (by omega)).1

theorem lockFair_of_quiescent (x : Exec cfg s0) (N : Nat)
    (hN : ∀ j, N ≤ j → ∀ t, (x.ρ j).pc t = .idle) : LockFair x := by
  intro t k i h _
  have := h (max i N) (by omega)
  rw [hN (max i N) (by omega) t] at this
  simp [PC.LockWait] at this

theorem initReturns_of_quiescent (x : Exec cfg s0) (N : Nat)
    (hN : ∀ j, N ≤ j → ∀ t, (x.ρ j).pc t = .idle) : InitReturns x := by
  intro t i f hp
  have hmv : ∃ j, i ≤ j ∧ Moves x t j := by
    apply Classical.byContradiction; intro hn
    have := pc_between x (t := t) (show i ≤ max i N by omega) (fun j' h1 _ hm => hn ⟨j', h1, hm⟩)
    rw [hN (max i N) (by omega) t, hp] at this
    cases this
  obtain ⟨j, h1, ⟨e, he, ht⟩, h3⟩ := Sched.first_at hmv
  have hpj : (x.ρ j).pc t = .wCbEnd f := by rw [pc_between x h1 h3]; exact hp
  have := cb_only_end (x.next_some he) ht hpj
  exact ⟨j, h1, by rw [he, this]⟩

theorem finiteArrivals_of_tail (x : Exec cfg s0) (N : Nat) (hN : ∀ j, N ≤ j → x.σ j = none) :
    FiniteArrivals x :=
  ⟨N, fun j t b a o hj he => by rw [hN j hj] at he; cases he⟩

/-! ### a lasso without a stem -/

/-- `loop` takes `s` back to `s`: repeat it for ever. -/
def loopExec (cfg : Config) (s : State) (loop : List Event)
    (hl : run cfg s loop = .ok s) (hp : 0 < loop.length) : Exec cfg s :=
  { ρ := fun i => stateFrom cfg s (loop.take (i % loop.length))
    σ := fun i => loop[i % loop.length]?
    start := by simp [stateFrom, run]
    next := by
      intro i
      obtain ⟨e, he, hs⟩ := Lasso.loop_next (isRun cfg) hl hp i
      simp only [he, stateFrom_eq]; exact hs }

theorem loopExec_at {cfg : Config} {s : State} {loop : List Event}
    (hl : run cfg s loop = .ok s) (hp : 0 < loop.length) (j : Nat) :
    (loopExec cfg s loop hl hp).ρ j = stateFrom cfg s (loop.take (j % loop.length)) ∧
    (loopExec cfg s loop hl hp).σ j = loop[j % loop.length]? := ⟨rfl, rfl⟩

/-- Threads that do not occur in the loop are where they were, at all times. -/
theorem loopExec_untouched {cfg : Config} {s : State} {loop : List Event}
    (hl : run cfg s loop = .ok s) (hp : 0 < loop.length) {t : Tid}
    (hne : ∀ e ∈ loop, e.tid ≠ some t) (j : Nat) :
    ((loopExec cfg s loop hl hp).ρ j).pc t = s.pc t := by
  show (stateFrom cfg s (loop.take (j % loop.length))).pc t = s.pc t
  exact run_untouched _ _ _ (fun e he => hne e (List.mem_of_mem_take he)) (stateFrom_ok hl _)

theorem upd_eq_self {β : Type} {f : Nat → β} {a : Nat} {b : β} (h : f a = b) : upd f a b = f := by
  funext x; simp only [upd]; split
  · rename_i hx; subst hx; exact h.symm
  · rfl

theorem upd_upd {β : Type} (f : Nat → β) (a : Nat) (b c : β) : upd (upd f a b) a c = upd f a c := by
  funext x; simp only [upd]; split <;> rfl

/-! ### the hypotheses of `C07_fair_termination` on a loop, as criteria on its positions -/

def PC.inUserB : PC → Bool
  | .wCbEnd _ => true
  | _ => false

/-- The slot lock the program point waits for. -/
def PC.lockWait? (cfg : Config) : PC → Option SlotId
  | .lock1Ret f _ | .wLockRet f | .cvWaitRet f => some (cfg.slotOf f.o)
  | _ => none

theorem PC.lockWait_iff {cfg : Config} {p : PC} {k : SlotId} : p.LockWait cfg k ↔ p.lockWait? cfg = some k := by
  cases p <;> simp [PC.LockWait, PC.lockWait?]

/-- The thread is idle, in the client's function, or waits for a slot lock that is held. -/
def notReadyB (cfg : Config) (s : State) (t : Tid) : Bool :=
  match s.pc t with
  | .idle | .wCbEnd _ => true
  | p => match p.lockWait? cfg with
    | some k => (s.lockHolder k).isSome
    | none => false

theorem not_ready_of_notReadyB {cfg : Config} {s : State} {t : Tid} (h : notReadyB cfg s t = true) :
    ¬ Ready cfg s t := by
  rintro ⟨h1, h2, h3⟩
  unfold notReadyB at h
  split at h
  · rename_i hp; exact h1 hp
  · rename_i hp; rw [hp] at h2; exact h2 trivial
  · split at h
    · rename_i k hk
      rw [h3 k (PC.lockWait_iff.2 hk)] at h; cases h
    · cases h

variable {cfg : Config} {A : State} {loop : List Event}

/-- A loop of threads `< n` from a state in which the other threads are idle: it is weakly fair if each thread, at
    some position, moves or is not `Ready`; the lock is fair if each thread, at some position, moves or waits for no
    lock; initializers return if no thread is ever in the client's function; arrivals are finite if the loop has no call. -/
theorem loop_hyps (hl : run cfg A loop = .ok A) (hp : 0 < loop.length) (n : Nat)
    (hA : ∀ t, n ≤ t → A.pc t = .idle) (hb : tidsBelow n loop = true) :
    ((∀ t, t < n → ∃ k, k < loop.length ∧
        ((loop[k]?.bind Event.tid == some t) || notReadyB cfg (stateFrom cfg A (loop.take k)) t) = true) →
      WeakFair (loopExec cfg A loop hl hp)) ∧
    ((∀ t, t < n → ∃ k, k < loop.length ∧ ((loop[k]?.bind Event.tid == some t) ||
        ((stateFrom cfg A (loop.take k)).pc t).lockWait? cfg == none) = true) →
      LockFair (loopExec cfg A loop hl hp)) ∧
    ((∀ k, k < loop.length → ∀ t, t < n → ((stateFrom cfg A (loop.take k)).pc t).inUserB = false) →
      InitReturns (loopExec cfg A loop hl hp)) ∧
    (loop.all (fun e => match e with | .call .. => false | _ => true) = true →
      FiniteArrivals (loopExec cfg A loop hl hp)) := by
  have rest : ∀ t, n ≤ t → ∀ j, ((loopExec cfg A loop hl hp).ρ j).pc t = .idle := fun t ht j =>
    (loopExec_untouched hl hp (tidsBelow_ne hb ht) j).trans (hA t ht)
  -- where a thread moves or satisfies `P` at some position, one of the two happens again and again
  have alt : ∀ (P : State → Tid → Bool) {t : Tid}, (∃ k, k < loop.length ∧
      ((loop[k]?.bind Event.tid == some t) || P (stateFrom cfg A (loop.take k)) t) = true) → ∀ i,
      (∃ j, i ≤ j ∧ Moves (loopExec cfg A loop hl hp) t j) ∨
      ∃ j, i ≤ j ∧ P ((loopExec cfg A loop hl hp).ρ j) t = true := fun P {t} ⟨k, hk, hf⟩ i => by
    rcases Bool.or_eq_true _ _ ▸ hf with hm | hq
    · refine .inl (Lasso.mod_again (Q := fun k => ∃ e, loop[k]? = some e ∧ e.tid = some t) hk ?_ i)
      cases he : loop[k]? with
      | none => simp [he] at hm
      | some e => exact ⟨e, rfl, by simpa [he] using hm⟩
    · exact .inr (Lasso.mod_again (Q := fun k => P (stateFrom cfg A (loop.take k)) t = true) hk hq i)
  refine ⟨fun hf t i h => ?_, fun hf t k i h _ => ?_, fun hf t i f hpc => ?_, fun hc => ⟨0, fun j t b a o _ he => ?_⟩⟩
  · by_cases ht : t < n
    · rcases alt (notReadyB cfg) (hf t ht) i with hm | ⟨j, hj, hq⟩
      · exact hm
      · exact absurd (h j hj) (not_ready_of_notReadyB hq)
    · exact absurd (rest t (Nat.le_of_not_lt ht) i) (h i (Nat.le_refl _)).1
  · by_cases ht : t < n
    · rcases alt (fun s t => (s.pc t).lockWait? cfg == none) (hf t ht) i with hm | ⟨j, hj, hq⟩
      · exact hm
      · simp [PC.lockWait_iff.1 (h j hj)] at hq
    · have := h i (Nat.le_refl _)
      rw [rest t (Nat.le_of_not_lt ht) i] at this; cases this
  · exfalso
    by_cases ht : t < n
    · have := hf _ (Nat.mod_lt i hp) t ht
      rw [show stateFrom cfg A (loop.take (i % loop.length)) = (loopExec cfg A loop hl hp).ρ i from rfl, hpc] at this
      cases this
    · rw [rest t (Nat.le_of_not_lt ht) i] at hpc; cases hpc
  · have hm : Event.call t b a o ∈ loop := List.mem_of_getElem? he
    have := List.all_eq_true.1 hc _ hm
    cases this

end Once
