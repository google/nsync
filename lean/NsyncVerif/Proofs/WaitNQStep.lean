/-
  Proofs/WaitNQStep.lean — `QI ∧ CF` across the pieces an own step of a caller is made of: the returns of the
  waitable functions (rtDone, afterEnq, startScan, deqDone); `dflt`; and the three elementary own steps — a move of
  its program counter inside a waitable call (`qcf_move`), the acquisition (`qcf_acquire`) and the release
  (`qcf_release`) of an object's mutex.
-/
import NsyncVerif.Proofs.WaitNQOwn


namespace WaitN

theorem opn_false_of_inCall {p : PC} (h : inCall p = true) (hn : isNfWake p = false) : opn p = false := by
  cases p with
  | idle => simp [inCall] at h
  | sg c bc st => simp [inCall] at h
  | wND u i st => cases st <;> simp [isNfWake] at hn <;> rfl
  | _ => rfl

/-- all records of the frame are still unmarked (before the dequeue loop) -/
def NoneDeqd (s : State) (f : Frame) : Prop := ∀ (k : Nat) (r : Rid), f.recs[k]? = some r → (s.rcd r).deqd = false

theorem plain_of_pc {s' : State} {t : Tid} {p : PC} (hp : s'.pc t = p) (h : Plain p (s'.fr t)) :
    Plain (s'.pc t) (s'.fr t) := by rw [hp]; exact h

theorem noneDeqd_of_cf {s : State} {t : Tid} (h : CF s t) (hc : inCall (s.pc t) = true) (hf : (s.fr t).frees = 0)
    (h0 : dqIdx (s.pc t) (s.fr t) = 0) : NoneDeqd s (s.fr t) := by
  intro k r hr
  have := h.dq hc hf k r hr
  rw [h0] at this
  cases hd : (s.rcd r).deqd with
  | false => rfl
  | true => exact absurd (this.1 hd) (Nat.not_lt_zero _)

theorem dq_of_noneDeqd {s : State} {f : Frame} {p : PC} (h : NoneDeqd s f) (h0 : dqIdx p f = 0) :
    ∀ k r, f.recs[k]? = some r → ((s.rcd r).deqd = true ↔ k < dqIdx p f) := by
  intro k r hr
  rw [h0, h k r hr]
  simp

/-- a `ready_time` call ends (poll or loop): the caller lands at a plain program point -/
theorem qcf_rtDone {s s' : State} {t : Tid} {u : Use} {i : Nat} {time : Deadline} (c : QCtx s t)
    (hu : u ≠ .deq) (hc : inCall (s.pc t) = true) (hnop : opn (s.pc t) = false)
    (h0 : dqIdx (s.pc t) (s.fr t) = 0) (hfr : (s.fr t).frees = 0) (hlen : (s.fr t).recs.length ≤ (s.fr t).count)
    (hpoll : u = .poll → (s.fr t).recs = [])
    (h : rtDone s t u i time = .ok s') : QI s' ∧ CF s' t := by
  have hnd := noneDeqd_of_cf c.cf hc hfr h0
  unfold rtDone at h
  cases u with
  | deq => exact absurd rfl hu
  | poll =>
    simp only at h
    have hr0 := hpoll rfl
    split at h
    · cases h
      refine ⟨qi_goto (qi_setFr c.qi) hnop rfl, cf_plain (plain_of_pc (p := .wRet i) (by simp) ⟨rfl, rfl, rfl, rfl⟩) ?_⟩
      intro _ _ k r hk
      simp only [setPc_fr, setFr_fr, if_true, hr0] at hk
      cases hk
    · cases h
      have hpl := (entry_pollNext (s.fr t) (i + 1)).plain (s.fr t)
      refine ⟨qi_goto c.qi hnop ?_, cf_plain (by simpa using hpl) ?_⟩
      · have := hpl.1
        cases hp : pollNext (s.fr t) (i + 1) <;> simp [wk]
        rename_i cc bc st
        have := (entry_pollNext (s.fr t) (i + 1)).inCall
        rw [hp] at this; simp [inCall] at this
      · intro _ _ k r hk
        simp only [setPc_fr, hr0] at hk
        cases hk
  | loop =>
    simp only at h
    cases h
    have key : ∀ f' : Frame, f'.recs = (s.fr t).recs → f'.objs = (s.fr t).objs → f'.frees = (s.fr t).frees →
        QI ((s.setFr t f').setPc t (loopNext f' (i + 1))) ∧ CF ((s.setFr t f').setPc t (loopNext f' (i + 1))) t := by
      intro f' h1 h2 h3
      have hlen' : f'.recs.length ≤ f'.count := by unfold Frame.count; rw [h1, h2]; exact hlen
      have hpl := (entry_loopNext f' (i + 1)).plain f'
      refine ⟨qi_goto (qi_setFr c.qi) hnop ?_, cf_plain (by simpa using hpl) ?_⟩
      · have hic := (entry_loopNext f' (i + 1)).inCall
        cases hp : loopNext f' (i + 1) <;> simp [wk]
        rw [hp] at hic; simp [inCall] at hic
      · intro _ _ k r hk
        simp only [setPc_fr, setFr_fr, if_true, setPc_pc, setPc_rcd, setFr_rcd] at hk ⊢
        rw [h1] at hk
        rw [dqIdx_loopNext f' (i + 1) hlen', hnd k r hk]; simp
    split
    · exact key _ rfl rfl rfl
    · split
      · exact key _ rfl rfl rfl
      · exact key _ rfl rfl rfl

theorem wk_none_of_inCall {p : PC} (h : inCall p = true) : wk p = none := by
  cases p <;> simp [inCall] at h <;> rfl

/-- the enqueue loop moves on -/
theorem qcf_afterEnq {s s' : State} {t : Tid} {i : Nat} {res : Bool} (hqi : QI s) (hnd : NoneDeqd s (s.fr t))
    (hnop : opn (s.pc t) = false)
    (hlen : (s.fr t).recs.length ≤ (s.fr t).count)
    (h : afterEnq s t i res = .ok s') : QI s' ∧ CF s' t := by
  unfold afterEnq at h
  dsimp only at h
  cases h
  have key : ∀ f' : Frame, f'.recs = (s.fr t).recs → f'.objs = (s.fr t).objs →
      QI ((s.setFr t f').setPc t (enqNext f' i res)) ∧ CF ((s.setFr t f').setPc t (enqNext f' i res)) t := by
    intro f' h1 h2
    have hlen' : f'.recs.length ≤ f'.count := by unfold Frame.count; rw [h1, h2]; exact hlen
    refine ⟨qi_goto (qi_setFr hqi) hnop ((entry_enqNext _ _ _).wk),
            cf_plain (by simpa using (entry_enqNext f' i res).plain f') ?_⟩
    intro _ _ k r hk
    simp only [setPc_fr, setFr_fr, if_true, setPc_pc, setPc_rcd, setFr_rcd] at hk ⊢
    rw [h1] at hk
    rw [dqIdx_enqNext f' i res hlen', hnd k r hk]; simp
  split
  · exact key _ rfl rfl
  · exact key _ rfl rfl

/-- a new scan of the sleep loop -/
theorem qcf_startScan {s : State} {t : Tid} (hqi : QI s) (hnd : NoneDeqd s (s.fr t))
    (hnop : opn (s.pc t) = false)
    (hlen : (s.fr t).recs.length ≤ (s.fr t).count) : QI (startScan s t) ∧ CF (startScan s t) t := by
  unfold startScan
  dsimp only
  have hlen' : ({ s.fr t with min := (s.fr t).dl, who := none } : Frame).recs.length
      ≤ ({ s.fr t with min := (s.fr t).dl, who := none } : Frame).count := hlen
  refine ⟨qi_goto (qi_setFr hqi) hnop ((entry_loopNext _ _).wk),
          cf_plain (by simpa using (entry_loopNext _ 0).plain _) ?_⟩
  intro _ _ k r hk
  simp only [setPc_fr, setFr_fr, if_true, setPc_pc, setPc_rcd, setFr_rcd] at hk ⊢
  rw [dqIdx_loopNext _ 0 hlen', hnd k r hk]; simp

/-- a dequeue call is over -/
theorem qcf_deqDone {s s' : State} {t : Tid} {j : Nat} {res : Bool} (hqi : QI s)
    (hdq : ∀ (k : Nat) (r : Rid), (s.fr t).recs[k]? = some r → ((s.rcd r).deqd = true ↔ k < j + 1))
    (hnop : opn (s.pc t) = false)
    (hj : j < (s.fr t).recs.length) (hlen : (s.fr t).recs.length ≤ (s.fr t).count)
    (h : deqDone s t j res = .ok s') : QI s' ∧ CF s' t := by
  unfold deqDone at h
  dsimp only at h
  split at h
  · rename_i hlt
    cases h
    refine ⟨qi_goto (qi_setFr hqi) hnop ((entry_deqNext _ _).wk),
            cf_plain (by simpa using (entry_deqNext _ (j + 1)).plain _) ?_⟩
    intro _ _ k r hk
    simp only [setPc_fr, setFr_fr, if_true, setPc_pc, setPc_rcd, setFr_rcd] at hk ⊢
    rw [dqIdx_deqNext (by simpa using Nat.le_of_lt hlt) (by simpa [Frame.count] using hlen)]
    exact hdq k r hk
  · rename_i hlt
    cases h
    have hrl : (s.fr t).recs.length = j + 1 := by simp at hlt; omega
    have hfr : ∀ x, ((unbindSem (s.setFr t x) t).fr t).recs = x.recs := by
      intro x; unfold unbindSem; split <;> simp
    have hrc : ∀ x, (unbindSem (s.setFr t x) t).rcd = s.rcd := by
      intro x; unfold unbindSem; split <;> rfl
    have hpc0 : ∀ x, (unbindSem (s.setFr t x) t).pc = s.pc := by
      intro x; unfold unbindSem; split <;> rfl
    refine ⟨qi_goto (qi_unbindSem (qi_setFr hqi)) (by rw [hpc0]; exact hnop) (entry_finNext _).wk,
            cf_plain (by simpa using (entry_finNext _).plain _) ?_⟩
    intro _ _ k r hk
    simp only [setPc_fr, setPc_pc, if_true, setPc_rcd] at hk ⊢
    rw [dqIdx_finNext, hfr, hrc]
    rw [hfr] at hk
    simp only at hk ⊢
    rw [hrl]; exact hdq k r hk

theorem qcf_dflt {s s' : State} {t : Tid} {e : Ev} (c : QCtx s t) (h : dflt s t e = .ok s') : QI s' ∧ CF s' t :=
  ⟨qi_dflt c.qi h, cf_dflt c.cf h⟩

/-- frees = 0 and the records fit, at a program point of the poll / loop phases -/
theorem len_of_linv {p : PC} {f : Frame} (hl : LInv p f) (hc : inCall p = true) (hnp : PostPc p = false) :
    f.frees = 0 ∧ f.recs.length ≤ f.count := by
  cases p with
  | idle => simp [inCall] at hc
  | sg c bc st => simp [inCall] at hc
  | stuck => exact hl.elim
  | wCtrRT u i l => cases u <;> simp only [LInv] at hl <;> first | exact ⟨hl.1.frees, by rw [hl.1.recs]; exact Nat.zero_le _⟩ | exact ⟨hl.1.frees, hl.1.len⟩ | exact hl.elim
  | wND u i st => cases u <;> simp only [LInv] at hl <;> first | exact ⟨hl.1.frees, by rw [hl.1.recs]; exact Nat.zero_le _⟩ | exact ⟨hl.1.frees, hl.1.len⟩
  | wAlloc => exact ⟨hl.1.frees, by rw [hl.1.recs]; exact Nat.zero_le _⟩
  | wRelock => simp [PostPc] at hnp
  | wRet r => simp [PostPc] at hnp
  | _ => simp only [LInv] at hl; exact ⟨hl.1.frees, hl.1.len⟩

/-- a move of the caller's program counter that changes nothing else; the new program point has the
    same lock / record roles as the old one -/
theorem qcf_move {s : State} {t : Tid} {p p' : PC} (c : QCtx s t) (hpc : s.pc t = p) (hnop : opn p = false) (hw1 : wk p' = none)
    (hh : holdsAt p' (s.fr t) = holdsAt p (s.fr t) ∨ holdsAt p' (s.fr t) = none)
    (hf : freshAt p' (s.fr t) = freshAt p (s.fr t) ∨ freshAt p' (s.fr t) = none)
    (hcl : clearedAt p' (s.fr t) = clearedAt p (s.fr t) ∨ clearedAt p' (s.fr t) = none)
    (he : enqTrueAt p' (s.fr t) = enqTrueAt p (s.fr t) ∨ enqTrueAt p' (s.fr t) = none)
    (hic : inCall p' = inCall p) (hdq : dqIdx p' (s.fr t) = dqIdx p (s.fr t))
    (hnw : isNfWake p = true → isNfWake p' = true ∨ holdsAt p' (s.fr t) = none) :
    QI (s.setPc t p') ∧ CF (s.setPc t p') t := by
  subst hpc
  refine ⟨qi_goto c.qi hnop hw1, ?_⟩
  constructor
  · intro o ho
    simp only [setPc_pc, setPc_fr, if_true, setPc_obj] at ho ⊢
    rcases hh with hh | hh
    · rw [hh] at ho
      obtain ⟨a1, a2⟩ := c.cf.holds o ho
      refine ⟨a1, fun hn => ?_⟩
      have : isNfWake (s.pc t) = false := by
        cases hx : isNfWake (s.pc t) with
        | false => rfl
        | true =>
          rcases hnw hx with h1 | h1
          · rw [h1] at hn; cases hn
          · rw [hh] at h1; rw [h1] at ho; cases ho
      exact a2 this
    · rw [hh] at ho; cases ho
  · intro r hr
    simp only [setPc_pc, setPc_fr, if_true, setPc_rcd] at hr ⊢
    rcases hf with hf | hf
    · rw [hf] at hr; exact c.cf.fresh r hr
    · rw [hf] at hr; cases hr
  · intro r hr
    simp only [setPc_pc, setPc_fr, if_true, setPc_rcd] at hr ⊢
    rcases hcl with hcl | hcl
    · rw [hcl] at hr; exact c.cf.cleared r hr
    · rw [hcl] at hr; cases hr
  · intro o ho
    simp only [setPc_pc, setPc_fr, if_true, setPc_obj] at ho ⊢
    rcases he with he | he
    · rw [he] at ho; exact c.cf.enqT o ho
    · rw [he] at ho; cases ho
  · intro hc hf0 k r hk
    simp only [setPc_pc, setPc_fr, if_true, setPc_rcd] at hc hf0 hk ⊢
    rw [hdq]; exact c.cf.dq (hic ▸ hc) hf0 k r hk

/-- the caller acquires the mutex of a note / counter -/
theorem qcf_acquire {s : State} {t : Tid} {o : ObjId} {p p' : PC} (c : QCtx s t) (hpc : s.pc t = p) (hnop : opn p = false)
    (hcv : o.isCv = false) (hn : (s.obj o).lock = none) (hk : (s.obj o).known = true) (hw1 : wk p' = none)
    (hh : holdsAt p' (s.fr t) = some o)
    (hf : freshAt p' (s.fr t) = freshAt p (s.fr t) ∨ freshAt p' (s.fr t) = none)
    (hcl : clearedAt p' (s.fr t) = none) (he : enqTrueAt p' (s.fr t) = none)
    (hic : inCall p' = inCall p) (hdq : dqIdx p' (s.fr t) = dqIdx p (s.fr t)) :
    QI ((s.setObj o { s.obj o with lock := some t }).setPc t p')
    ∧ CF ((s.setObj o { s.obj o with lock := some t }).setPc t p') t := by
  subst hpc
  refine ⟨qi_goto (qi_lockAcq c.qi hn hk) hnop hw1, ?_⟩
  constructor
  · intro o' ho'
    simp only [setPc_pc, setPc_fr, setObj_fr, if_true, setPc_obj, setObj_obj] at ho' ⊢
    rw [hh] at ho'; cases ho'
    simp only [if_true]
    refine ⟨trivial, fun _ hw => ?_⟩
    have hw' : wakeable o (s.obj o) = true := by cases o <;> simpa [wakeable] using hw
    cases hq : (s.obj o).queue with
    | nil => rfl
    | cons a l => exact absurd hn (c.qi.q7 o hcv hw' (by rw [hq]; simp))
  · intro r hr
    simp only [setPc_pc, setPc_fr, setObj_fr, if_true, setPc_rcd, setObj_rcd] at hr ⊢
    rcases hf with hf | hf
    · rw [hf] at hr; exact c.cf.fresh r hr
    · rw [hf] at hr; cases hr
  · intro r hr
    simp only [setPc_pc, setPc_fr, setObj_fr, if_true] at hr
    rw [hcl] at hr; cases hr
  · intro o' ho'
    simp only [setPc_pc, setPc_fr, setObj_fr, if_true] at ho'
    rw [he] at ho'; cases ho'
  · intro hc hf0 k r hk'
    simp only [setPc_pc, setPc_fr, setObj_fr, if_true, setPc_rcd, setObj_rcd] at hc hf0 hk' ⊢
    rw [hdq]; exact c.cf.dq (hic ▸ hc) hf0 k r hk'

/-- the caller releases the mutex of the note / counter it holds -/
theorem qcf_release {s : State} {t : Tid} {o : ObjId} {p p' : PC} (c : QCtx s t) (hpc : s.pc t = p)
    (hpost : s.post t = none) (hmc : s.mc t = .none) (hw0 : wk p = none)
    (hh0 : holdsAt p (s.fr t) = some o) (hnw : isNfWake p = true → (s.obj o).queue = [])
    (hw1 : wk p' = none) (hh : holdsAt p' (s.fr t) = none)
    (hf : freshAt p' (s.fr t) = none) (hcl : clearedAt p' (s.fr t) = clearedAt p (s.fr t) ∨ clearedAt p' (s.fr t) = none)
    (he : enqTrueAt p' (s.fr t) = none)
    (hic : inCall p' = inCall p) (hdq : dqIdx p' (s.fr t) = dqIdx p (s.fr t)) :
    QI ((s.setObj o { s.obj o with lock := none }).setPc t p')
    ∧ CF ((s.setObj o { s.obj o with lock := none }).setPc t p') t := by
  subst hpc
  obtain ⟨hl, h4⟩ := c.cf.holds o hh0
  have hrel : o.isCv = false → wakeable o (s.obj o) = true → (s.obj o).queue = [] := by
    intro _ hw
    cases hx : isNfWake (s.pc t) with
    | true => exact hnw hx
    | false => exact h4 hx hw
  refine ⟨qi_setPc (qi_lockRel c.qi hl hpost hrel) hw0 hw1 hpost hmc, ?_⟩
  constructor
  · intro o' ho'
    simp only [setPc_pc, setPc_fr, setObj_fr, if_true] at ho'
    rw [hh] at ho'; cases ho'
  · intro r hr
    simp only [setPc_pc, setPc_fr, setObj_fr, if_true] at hr
    rw [hf] at hr; cases hr
  · intro r hr
    simp only [setPc_pc, setPc_fr, setObj_fr, if_true, setPc_rcd, setObj_rcd] at hr ⊢
    rcases hcl with hcl | hcl
    · rw [hcl] at hr; exact c.cf.cleared r hr
    · rw [hcl] at hr; cases hr
  · intro o' ho'
    simp only [setPc_pc, setPc_fr, setObj_fr, if_true] at ho'
    rw [he] at ho'; cases ho'
  · intro hc hf0 k r hk'
    simp only [setPc_pc, setPc_fr, setObj_fr, if_true, setPc_rcd, setObj_rcd] at hc hf0 hk' ⊢
    rw [hdq]; exact c.cf.dq (hic ▸ hc) hf0 k r hk'

end WaitN
