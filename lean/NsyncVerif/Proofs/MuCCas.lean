import NsyncVerif.Proofs.MuCStep
/-
  MuC: the CASes on the word whose success changes, besides the word, only the program point of the thread,
  the ghosts `wOwner`, `rOwners`, `sp` and the owner of the waiter record it releases (`CasPc`: old point, new
  point, new word, record released; `CasOk`: what the successor state keeps), and what these word updates do to
  the hint bits.
-/
namespace NsyncVerif.MuC

inductive CasPc (s : State) : PC → PC → Word → Option Wid → Prop
  | lk0 (l : Mode) : s.word = Word.zero → CasPc s (.lkCas0 l) (.lkRet l) (addWord l) none
  | lk1 (l : Mode) (old : Word) : s.word = old → CasPc s (.lkCas1 l old) (.lkRet l) (acqWord l false false old) none
  | try0 (l : Mode) : s.word = Word.zero → CasPc s (.tryCas0 l) (.tryRet l true) (addWord l) none
  | try1 (l : Mode) (old : Word) : s.word = old → CasPc s (.tryCas1 l old) (.tryRet l true) (acqWord l false false old) none
  | acqLk (c : SL) (old : Word) : c.mw = none → s.word = old →
      CasPc s (.lsCasAcq c old) (.lkRet c.l) (acqWord c.l c.clear c.lwl old) c.w
  | acqMw (c : SL) (old : Word) (m : MW) : c.mw = some m → s.word = old →
      CasPc s (.lsCasAcq c old) (if m.cond.isSome then .mwEval m else loopPc m true) (acqWord c.l c.clear c.lwl old) none
  | lsEnq (c : SL) (old : Word) : s.word = old → CasPc s (.lsCasEnq c old) (.lsSt c) (enqWord c.l c.clear c.lwl old) none
  | lsRel (c : SL) (old : Word) : s.word = old → CasPc s (.lsRelCas c old) (.lsWaitLd c) { old with spin := false } none
  | ul0 (l : Mode) (nw : Bool) : s.word = addWord l → CasPc s (.ulCas0 l nw) (.ulRet l nw) Word.zero none
  | ul1 (l : Mode) (nw : Bool) (old : Word) : s.word = old → CasPc s (.ulCas1 l nw old) (.ulRet l nw)
      (match l with
       | .W => if nw then relNwWord old else relUncWord .W old
       | .R => relUncWord .R old) none
  | unc (r : Ret) (old : Word) : s.word = old → CasPc s (.usCasUnc r old) r.pc (relUncWord r.mode old) none
  | mwRelUs (c : MW) (old : Word) : s.word = old →
      CasPc s (.mwRelCas c old true) (.usLd (.mw { c with so := .ok, hl := false })) { old with spin := false } none
  | mwRelSleep (c : MW) (old : Word) : s.word = old →
      CasPc s (.mwRelCas c old false) (.mwWaitLd { c with so := .ok, hl := false }) { subWord c.l old with spin := false } none
  | mtAcq (c : MW) (old : Word) : s.word = old → CasPc s (.mtCasAcq c old) (.mtLdW c old) (mtAcqWord old) none
  | mtWW (c : MW) (old : Word) : s.word = old → CasPc s (.mtCasWW c old) (.mtLd c) { old with ww := true } none

/-- The state whose ghost owners (`wOwner`, `rOwners`, `sp`) are those after a successful CAS of `t` at program point `p`. -/
def PC.casGhost (p : PC) (s : State) (t : Tid) : State :=
  match p with
  | .lkCas0 l | .lkCas1 l _ | .tryCas0 l | .tryCas1 l _ => addShare s t l
  | .lsCasAcq c _ => addShare s t c.l
  | .lsCasEnq _ _ => { s with sp := some t }
  | .lsRelCas _ _ => { s with sp := none }
  | .ulCas0 l _ | .ulCas1 l _ _ => subShare s t l
  | .usCasUnc r _ => subShare s t r.mode
  | .usFinCas _ f _ => if f.late then { s with sp := none, wOwner := none } else { s with sp := none }
  | .mwRelCas c _ add0 => if add0 then { s with sp := none } else subShare { s with sp := none } t c.l
  | .mtCasAcq _ _ => { s with sp := some t, wOwner := some t }
  | _ => s

/-- `s'` is `s` with the program point of `t`, the word and the ghost owners replaced and the record `w` released. -/
structure CasOk (s : State) (t : Tid) (p' : PC) (nw : Word) (w : Option Wid) (s' : State) : Prop where
  pc : s'.pc = setFn s.pc t p'
  word : s'.word = nw
  queue : s'.queue = s.queue
  wr : s'.wr = (dropW s w).wr
  data : s'.data = s.data
  cargs : s'.cargs = s.cargs
  now : s'.now = s.now
  held : s'.held = s.held
  secStart : s'.secStart = s.secStart
  nwViol : s'.nwViol = s.nwViol
  wOwner : s'.wOwner = ((s.pc t).casGhost s t).wOwner
  rOwners : s'.rOwners = ((s.pc t).casGhost s t).rOwners
  sp : s'.sp = ((s.pc t).casGhost s t).sp

theorem CasOk.wr_none {s s' : State} {t : Tid} {p' : PC} {nw : Word} (e : CasOk s t p' nw none s') : s'.wr = s.wr := e.wr

/-! the hint bits MU_ALL_FALSE and MU_CONDITION through the word updates -/

theorem addWord_af (l : Mode) : (addWord l).af = false := by cases l <;> rfl
theorem acqWord_af (l : Mode) (c lwl : Bool) (w : Word) : (acqWord l c lwl w).af = w.af := by cases l <;> rfl
theorem subWord_af (l : Mode) (w : Word) : (subWord l w).af = w.af := by cases l <;> rfl
theorem relUncWord_af (l : Mode) (w : Word) : (relUncWord l w).af = (w.af && l != .W) := by cases l <;> simp [relUncWord]
theorem addWord_cond (l : Mode) : (addWord l).cond = false := by cases l <;> rfl
theorem acqWord_cond (l : Mode) (c lwl : Bool) (w : Word) : (acqWord l c lwl w).cond = w.cond := by cases l <;> rfl
theorem subWord_cond (l : Mode) (w : Word) : (subWord l w).cond = w.cond := by cases l <;> rfl
theorem relUncWord_cond (l : Mode) (w : Word) : (relUncWord l w).cond = w.cond := by cases l <;> rfl

theorem CasPc.af {s : State} {p p' : PC} {nw : Word} {w : Option Wid} (h : CasPc s p p' nw w) (e : nw.af = true) : s.word.af = true := by
  cases h <;> rename_i hw <;> rw [hw] <;> revert e <;> (try cases ‹Mode›) <;> (try cases ‹Bool›) <;>
    simp +contextual [addWord_af, acqWord_af, subWord_af, relUncWord_af, relNwWord, enqWord, mtAcqWord, Word.zero]

theorem CasPc.cond {s : State} {p p' : PC} {nw : Word} {w : Option Wid} (h : CasPc s p p' nw w) (e : nw.cond = true) : s.word.cond = true := by
  cases h <;> rename_i hw <;> rw [hw] <;> revert e <;> (try cases ‹Mode›) <;> (try cases ‹Bool›) <;>
    simp [addWord_cond, acqWord_cond, subWord_cond, relUncWord_cond, relNwWord, enqWord, mtAcqWord, Word.zero]

theorem CasPc.cond_keep {s : State} {p p' : PC} {nw : Word} {w : Option Wid} (h : CasPc s p p' nw w) (e : s.word.cond = true) : nw.cond = true := by
  cases h <;> rename_i hw <;> rw [hw] at e <;> revert e <;> (try cases ‹Mode›) <;> (try cases ‹Bool›) <;>
    simp +contextual [addWord_cond, acqWord_cond, subWord_cond, relUncWord_cond, relNwWord, enqWord, mtAcqWord, Word.zero]

/-! MU_WAITING through the word updates -/

theorem addWord_waiting (l : Mode) : (addWord l).waiting = false := by cases l <;> rfl
theorem acqWord_waiting (l : Mode) (c lwl : Bool) (w : Word) : (acqWord l c lwl w).waiting = w.waiting := by cases l <;> rfl
theorem subWord_waiting (l : Mode) (w : Word) : (subWord l w).waiting = w.waiting := by cases l <;> rfl
theorem relUncWord_waiting (l : Mode) (w : Word) : (relUncWord l w).waiting = w.waiting := by cases l <;> rfl

theorem CasPc.waiting {s : State} {p p' : PC} {nw : Word} {w : Option Wid} (h : CasPc s p p' nw w) (e : s.word.waiting = true) : nw.waiting = true := by
  cases h <;> rename_i hw <;> rw [hw] at e <;> revert e <;> (try cases ‹Mode›) <;> (try cases ‹Bool›) <;>
    simp +contextual [addWord_waiting, acqWord_waiting, subWord_waiting, relUncWord_waiting, relNwWord, enqWord, mtAcqWord, Word.zero]

theorem grabWord_cond (l : Mode) (w : Word) : (grabWord l w.cond w).cond = w.cond := by
  cases l <;> simp [grabWord, subWord]

end NsyncVerif.MuC
