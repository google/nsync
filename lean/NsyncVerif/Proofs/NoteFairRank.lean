/-
  Layer `Note`, fair termination: the position rank of a thread inside a call: `mj` (position in
  the code outside the loops over children, with the continuations `DK` / `NK` of
  `nsync_note_notified_deadline_` / `notify` added in) and `mn` (the length of the `waiters` list
  inside the wake loop of `note_notify_child`).  They are the last components of the rank
  of Proofs/NoteFairRankG.lean and NoteFairFiniteWork.lean.
-/
import NsyncVerif.Proofs.NoteFairDefs


namespace Note

/-- Bound of the rank of the code that follows `nsync_note_notified_deadline_` for caller `k`. -/
def DK.after : DK → Nat
  | .isNotified => 1
  | .notifyApi => 21
  | .newSelf _ _ => 7
  | .dequeue _ _ => 8
  | .ready2 _ _ => 38
  | .ready1 _ => 43

/-- Bound of the rank of the code that follows `notify` for caller `k`. -/
def NK.after : NK → Nat
  | .ofApi => 1
  | .ofDeadline k => k.after

def DPos.rk : DPos → Nat
  | .ld1 => 7 | .lockCall => 6 | .lockRet => 5 | .ld2 => 4 | .unlockCall => 3 | .unlockRet => 2
  | .now => 1

def NPos.rk : NPos → Nat
  | .lockCall => 20 | .lockRet => 19 | .ld => 18 | .tryCall => 17 | .tryRet => 16
  | .sUnlockCall => 15 | .sUnlockRet => 14 | .sLockPCall => 13 | .sLockPRet => 12
  | .sLockNCall => 11 | .sLockNRet => 10
  | .unlockPCall => 4 | .unlockPRet => 3 | .unlockCall => 2 | .unlockRet => 1

def CPos.rk : CPos → Nat
  | .ld => 9 | .st => 8 | .wake _ => 7 | .semV _ => 7 | .waitCall => 6 | .waitRet true => 5
  | _ => 0

def NewPos.rk : NewPos → Nat
  | .lockCall => 7 | .lockRet => 6 | .ld => 5 | .st => 4 | .unlockCall => 3 | .unlockRet => 2

def FPos.rk : FPos → Nat
  | .lockCall => 18 | .lockRet => 17 | .tryCall => 16 | .tryRet => 15
  | .sUnlockCall => 14 | .sUnlockRet => 13 | .sLockPCall => 12 | .sLockPRet => 11
  | .sLockNCall => 10 | .sLockNRet => 9 | .waitCall => 8 | .waitRet true => 7
  | .unlockPCall => 6 | .unlockPRet => 5 | .unlockCall => 4 | .unlockRet => 3 | .free => 2 | .ret => 1
  | _ => 0

def W0Pos.rk : W0Pos → Nat
  | .ncall => 71 | .newRec => 43 | .nret _ => 2 | .ret _ => 1

def WPos.rk : WPos → Nat
  | .eLockCall => 42 | .eLockRet => 41 | .eLd => 40 | .eSt _ => 39 | .eUnlockCall => 38
  | .eUnlockRet => 37
  | .pdEnter _ => 38 | .pdRet _ => 37
  | .qLockCall => 8 | .qLockRet => 7 | .qLd => 6 | .qSt => 5 | .qUnlockCall _ => 4 | .qUnlockRet _ => 3

/-- The position rank. -/
def mj : PC → Nat
  | .idle => 0
  | .newMalloc _ _ => 35
  | .newRetNull _ => 1
  | .dl .ld1 _ _ (.ready2 _ _) => 36
  | .dl p _ _ k => p.rk + 20 + k.after
  | .nfy p _ _ k => p.rk + k.after
  | .chd p _ top => p.rk + top.k.after
  | .newP p _ _ _ => p.rk
  | .retNew _ _ => 1
  | .retIs _ _ => 1
  | .retNotify _ => 1
  | .retExpiry _ => 1
  | .fr p _ _ _ _ => p.rk
  | .wt0 p _ _ => p.rk
  | .wt p _ _ _ => p.rk

/-- The inner rank: inside the wake loop, the number of waiters still to wake. -/
def mn (s : State) : PC → Nat
  | .chd (.wake _) (f :: _) _ => 2 * (s.notes f.note).waiters.length + 1
  | .chd (.semV _) (f :: _) _ => 2 * (s.notes f.note).waiters.length
  | _ => 0

theorem min_zero_not_pos (wdl : Dl) : ¬ (Dl.min wdl (some 0)).pos := by
  cases wdl with
  | none => simp [Dl.min, Dl.lt, Dl.pos]
  | some v =>
    simp only [Dl.min, Dl.lt, Dl.pos]
    by_cases h : 0 < v <;> simp [h]
    omega

theorem mj_afterDeadlinePc (n : NoteId) (nt : Dl) (k : DK) : mj (afterDeadlinePc n nt k) ≤ k.after := by
  cases k <;> simp only [afterDeadlinePc, DK.after]
  · simp [mj]
  · split <;> simp [mj, NPos.rk, NK.after]
  · split
    · split <;> simp [mj, NewPos.rk]
    · simp [mj]
  · split <;> simp [mj, W0Pos.rk]
  · split <;> simp [mj, WPos.rk, DPos.rk, DK.after]
  · simp [mj, WPos.rk]

/-- With the flag set the wait loop leaves through `note_dequeue`. -/
theorem mj_afterDeadlinePc_ready2 (n : NoteId) (r : Rid) (wdl : Dl) :
    mj (afterDeadlinePc n (some 0) (.ready2 r wdl)) = 35 := by
  simp [afterDeadlinePc, min_zero_not_pos, mj, DPos.rk, DK.after]

theorem mj_ld1_flag (n : NoteId) (nt : Dl) (k : DK) :
    mj (afterDeadlinePc n (some 0) k) < mj (.dl .ld1 n nt k) := by
  cases k with
  | ready2 r wdl => rw [mj_afterDeadlinePc_ready2]; simp [mj]
  | _ =>
    refine Nat.lt_of_le_of_lt (mj_afterDeadlinePc n (some 0) _) ?_
    simp [mj, DPos.rk, DK.after]

theorem mj_after_lt_dl (n : NoteId) (nt nt' : Dl) (k : DK) (p : DPos) (h : p ≠ .ld1) :
    mj (afterDeadlinePc n nt k) < mj (.dl p n nt' k) := by
  refine Nat.lt_of_le_of_lt (mj_afterDeadlinePc n nt k) ?_
  cases p <;> first | exact absurd rfl h | (cases k <;> simp [mj, DPos.rk, DK.after])

theorem mj_afterNotify_lt (n : NoteId) (par : Option NoteId) (k : DK) :
    mj (afterDeadlinePc n (some 0) k) < mj (.nfy .unlockRet n par (.ofDeadline k)) := by
  refine Nat.lt_of_le_of_lt (mj_afterDeadlinePc n (some 0) k) ?_
  simp [mj, NPos.rk, NK.after]

theorem mn_afterDeadlinePc (s : State) (n : NoteId) (nt : Dl) (k : DK) :
    mn s (afterDeadlinePc n nt k) = 0 := by
  cases k <;> simp only [afterDeadlinePc] <;> (repeat' split) <;> rfl

theorem mn_afterNotifyPc (s : State) (n : NoteId) (k : NK) : mn s (afterNotifyPc n k) = 0 := by
  cases k with
  | ofApi => rfl
  | ofDeadline k => exact mn_afterDeadlinePc s n (some 0) k

end Note
