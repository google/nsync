/-
  Proofs/WaitNQUpd.lean — `QI` is preserved by the elementary updates of the shared state
  (program counters unchanged, but for the steps of a cv signaller at the end): lock acquire / release, readiness changes, enqueue, pop, post,
  owner removal, dequeue mark, record birth and death, object creation, cv word changes.
-/
import NsyncVerif.Proofs.WaitNFrameCond


namespace WaitN

/-- changes of an object that leave its queue alone -/
theorem qi_objNoQueue {s : State} {o : ObjId} {ob : Obj} (h : QI s)
    (hq : ob.queue = (s.obj o).queue) (hk : ob.known = (s.obj o).known)
    (h5 : ∀ u r, s.post u = some r → (s.rcd r).obj = o → o.isCv = false → (s.obj o).lock = some u → ob.lock = some u)
    (h7 : o.isCv = false → wakeable o ob = true → ob.queue ≠ [] → ob.lock ≠ none)
    (h8 : ∀ n, o = .note n → dlePast ob.expiry = true → ob.queue = [])
    (h9 : ob.known = false → ob.lock = none) : QI (s.setObj o ob) := by
  constructor
  · intro o' r hr
    simp only [setObj_obj, setObj_rcd] at hr ⊢
    by_cases ho : o' = o
    · subst ho; simp only [if_true] at hr; rw [hq] at hr; exact h.q1 _ r hr
    · simp only [ho, if_false] at hr; exact h.q1 o' r hr
  · intro o'
    simp only [setObj_obj]
    by_cases ho : o' = o
    · subst ho; simp only [if_true]; rw [hq]; exact h.q2 _
    · simp only [ho, if_false]; exact h.q2 o'
  · intro r h1 h2
    simp only [setObj_rcd, setObj_obj, setObj_pc, setObj_post] at h1 h2 ⊢
    rcases h.q3 r h1 h2 with h3 | h3
    · left
      by_cases ho : (s.rcd r).obj = o
      · simp only [ho, if_true]; rw [hq, ← ho]; exact h3
      · simp only [ho, if_false]; exact h3
    · exact .inr h3
  · intro u c l hw
    simp only [setObj_pc, setObj_post, setObj_rcd, setObj_obj] at hw ⊢
    obtain ⟨h1, h2, h3⟩ := h.q4 u c l hw
    refine ⟨h1, h2, fun r hr => ?_⟩
    obtain ⟨a1, a2, a3, a4, a5⟩ := h3 r hr
    refine ⟨a1, a2, a3, a4, fun o' => ?_⟩
    by_cases ho : o' = o
    · subst ho; simp only [if_true]; rw [hq]; exact a5 _
    · simp only [ho, if_false]; exact a5 o'
  · intro u u' c l c' l' hne h1 h2; exact h.q4d u u' c l c' l' hne h1 h2
  · intro u r hpo
    simp only [setObj_post, setObj_pc, setObj_rcd, setObj_obj] at hpo ⊢
    rcases h.q5 u r hpo with h1 | ⟨a1, a2, a3, a4, a5⟩
    · exact .inl h1
    · right
      refine ⟨a1, a2, a3, ?_, a5⟩
      by_cases ho : (s.rcd r).obj = o
      · simp only [ho, if_true]; exact h5 u r hpo ho (ho ▸ a3) (ho ▸ a4)
      · simp only [ho, if_false]; exact a4
  · exact h.q6
  · intro o' hcv
    simp only [setObj_obj]
    by_cases ho : o' = o
    · subst ho; simp only [if_true]; exact h7 hcv
    · simp only [ho, if_false]; exact h.q7 o' hcv
  · intro n
    simp only [setObj_obj]
    by_cases ho : ObjId.note n = o
    · simp only [ho, if_true]; exact h8 n ho.symm
    · simp only [ho, if_false]; exact h.q8 n
  · intro o'
    simp only [setObj_obj]
    by_cases ho : o' = o
    · subst ho; simp only [if_true]; intro hkn; exact ⟨by rw [hq]; exact (h.q9 _ (hk ▸ hkn)).1, h9 hkn⟩
    · simp only [ho, if_false]; exact h.q9 o'
  · intro c
    simp only [setObj_obj]
    by_cases ho : ObjId.cv c = o
    · simp only [ho, if_true]; rw [hk, ← ho]; exact h.q10 c
    · simp only [ho, if_false]; exact h.q10 c
  · exact h.q11

theorem qi_lockAcq {s : State} {o : ObjId} {t : Tid} (h : QI s) (hn : (s.obj o).lock = none)
    (hk : (s.obj o).known = true) : QI (s.setObj o { s.obj o with lock := some t }) := by
  refine qi_objNoQueue h ?_ ?_ ?_ ?_ ?_ ?_
  · rfl
  · rfl
  · intro u r _ _ _ hl; rw [hn] at hl; cases hl
  · intro _ _ _; simp
  · intro n ho hd; subst ho; exact h.q8 n hd
  · intro hkn; simp only at hkn; rw [hk] at hkn; cases hkn

theorem qi_lockRel {s : State} {o : ObjId} {t : Tid} (h : QI s) (hl : (s.obj o).lock = some t)
    (hp : s.post t = none)
    (hw : o.isCv = false → wakeable o (s.obj o) = true → (s.obj o).queue = []) :
    QI (s.setObj o { s.obj o with lock := none }) := by
  refine qi_objNoQueue h ?_ ?_ ?_ ?_ ?_ ?_
  · rfl
  · rfl
  · intro u r hpo _ _ hlu; rw [hl] at hlu; cases hlu; rw [hp] at hpo; cases hpo
  · intro hcv hwk hq
    have : wakeable o (s.obj o) = true := by cases o <;> simpa [wakeable] using hwk
    exact absurd (hw hcv this) hq
  · intro n ho hd; subst ho; exact h.q8 n hd
  · intro _; rfl

/-- a note is notified (note_mu held) -/
theorem qi_setFlag {s : State} {n : Nat} {t : Tid} (h : QI s) (hl : (s.obj (.note n)).lock = some t) :
    QI (s.setObj (.note n) { s.obj (.note n) with flag := true }) := by
  refine qi_objNoQueue h ?_ ?_ ?_ ?_ ?_ ?_
  · rfl
  · rfl
  · intro u r _ _ _ hlu; exact hlu
  · intro _ _ _; simp [hl]
  · intro n' ho hd; cases ho; exact h.q8 n hd
  · intro hkn; exact (h.q9 _ hkn).2

/-- `waited` of a counter is set (no lock needed: readiness does not depend on it) -/
theorem qi_setWaited {s : State} {k : Nat} (h : QI s) :
    QI (s.setObj (.ctr k) { s.obj (.ctr k) with flag := true }) := by
  refine qi_objNoQueue h ?_ ?_ ?_ ?_ ?_ ?_
  · rfl
  · rfl
  · intro u r _ _ _ hlu; exact hlu
  · intro hcv hwk hq; exact h.q7 _ hcv (by simpa [wakeable] using hwk) hq
  · intro n' ho; cases ho
  · intro hkn; exact (h.q9 _ hkn).2

/-- the value of a counter changes (counter_mu held) -/
theorem qi_setValue {s : State} {k v : Nat} {t : Tid} (h : QI s) (hl : (s.obj (.ctr k)).lock = some t) :
    QI (s.setObj (.ctr k) { s.obj (.ctr k) with value := v }) := by
  refine qi_objNoQueue h ?_ ?_ ?_ ?_ ?_ ?_
  · rfl
  · rfl
  · intro u r _ _ _ hlu; exact hlu
  · intro _ _ _; simp [hl]
  · intro n' ho; cases ho
  · intro hkn; exact (h.q9 _ hkn).2

theorem qi_newObj {s : State} {o : ObjId} {e : Deadline} {v : Nat} (h : QI s) (hk : (s.obj o).known = false) :
    QI (s.setObj o { s.obj o with known := true, expiry := e, value := v }) := by
  have h9 := h.q9 o hk
  constructor
  · intro o' r hr
    simp only [setObj_obj, setObj_rcd] at hr ⊢
    by_cases ho : o' = o
    · subst ho; simp only [if_true] at hr; exact h.q1 _ r hr
    · simp only [ho, if_false] at hr; exact h.q1 o' r hr
  · intro o'; simp only [setObj_obj]; split
    · rename_i ho; subst ho; exact h.q2 _
    · exact h.q2 o'
  · intro r h1 h2
    simp only [setObj_rcd, setObj_obj, setObj_pc, setObj_post] at h1 h2 ⊢
    rcases h.q3 r h1 h2 with h3 | h3
    · left; split
      · rename_i ho; rw [ho] at h3; exact h3
      · exact h3
    · exact .inr h3
  · intro u c l hw
    simp only [setObj_pc, setObj_post, setObj_rcd, setObj_obj] at hw ⊢
    obtain ⟨h1, h2, h3⟩ := h.q4 u c l hw
    refine ⟨h1, h2, fun r hr => ?_⟩
    obtain ⟨a1, a2, a3, a4, a5⟩ := h3 r hr
    refine ⟨a1, a2, a3, a4, fun o' => ?_⟩
    split
    · rename_i ho; subst ho; exact a5 _
    · exact a5 o'
  · intro u u' c l c' l' hne h1 h2; exact h.q4d u u' c l c' l' hne h1 h2
  · intro u r hpo
    simp only [setObj_post, setObj_pc, setObj_rcd, setObj_obj] at hpo ⊢
    rcases h.q5 u r hpo with h1 | ⟨a1, a2, a3, a4, a5⟩
    · exact .inl h1
    · right; refine ⟨a1, a2, a3, ?_, a5⟩
      split
      · rename_i ho; rw [ho] at a4; exact a4
      · exact a4
  · exact h.q6
  · intro o' hcv
    simp only [setObj_obj]
    split
    · rename_i ho; subst ho; intro _ hq; exact absurd h9.1 hq
    · exact h.q7 o' hcv
  · intro n
    simp only [setObj_obj]
    split
    · rename_i ho; intro _; exact h.q9 o hk |>.1
    · exact h.q8 n
  · intro o'
    simp only [setObj_obj]
    split
    · intro hkn; cases hkn
    · exact h.q9 o'
  · intro c
    simp only [setObj_obj]
    split
    · rfl
    · exact h.q10 c
  · exact h.q11

/-- a change of the word of a cv that keeps its queue (spinlock acquire / release, NON_EMPTY bit) -/
theorem qi_cvWord {s : State} {c : Nat} {ob : Obj} (h : QI s) (hq : ob.queue = (s.obj (.cv c)).queue)
    (hk : ob.known = (s.obj (.cv c)).known) : QI (s.setObj (.cv c) ob) := by
  refine qi_objNoQueue h hq hk ?_ ?_ ?_ ?_
  · intro u r _ _ hcv; cases hcv
  · intro hcv; cases hcv
  · intro n ho; cases ho
  · intro hkn; rw [hk, h.q10 c] at hkn; cases hkn

/-- Records change: those that `QI` has an eye on (queued, in a wake list, or owed a post by a note / counter waker)
    keep `live`, `obj`, `waiting`, `deqd`; the others may change in any way that does not make them live and waiting. -/
theorem qi_rcd {s : State} (h : QI s) (f : Rid → Rec)
    (hf : ∀ r, ((f r).live = (s.rcd r).live ∧ (f r).obj = (s.rcd r).obj ∧ (f r).waiting = (s.rcd r).waiting
                ∧ (f r).deqd = (s.rcd r).deqd)
          ∨ ((∀ o, r ∉ (s.obj o).queue) ∧ (∀ u c l, wk (s.pc u) = some (c, l) → r ∉ pend (s.post u) l)
              ∧ (∀ u, s.post u = some r → (wk (s.pc u)).isSome = true) ∧ ((f r).live = true → (f r).waiting = false))) :
    QI { s with rcd := f } := by
  constructor
  · intro o r hr
    rcases hf r with ⟨a, b, c, d⟩ | ⟨a, _⟩
    · show (f r).live = true ∧ (f r).obj = o ∧ (f r).waiting = true ∧ (f r).deqd = false
      rw [a, b, c, d]; exact h.q1 o r hr
    · exact absurd hr (a o)
  · exact h.q2
  · intro r h1 h2
    rcases hf r with ⟨a, b, c, _⟩ | ⟨_, _, _, d⟩
    · show r ∈ (s.obj (f r).obj).queue ∨ _
      rw [b]; exact h.q3 r (a ▸ h1) (c ▸ h2)
    · have := d h1; rw [h2] at this; cases this
  · intro u c l hwk
    obtain ⟨a1, a2, a3⟩ := h.q4 u c l hwk
    refine ⟨a1, a2, fun r hr => ?_⟩
    rcases hf r with ⟨a, b, c', d⟩ | ⟨_, b, _⟩
    · show (f r).live = true ∧ (f r).obj = .cv c ∧ (f r).waiting = true ∧ (f r).deqd = false ∧ _
      rw [a, b, c', d]; exact a3 r hr
    · exact absurd hr (b u c l hwk)
  · exact h.q4d
  · intro u r hpo
    rcases hf r with ⟨a, b, c, d⟩ | ⟨_, _, c, _⟩
    · show _ ∨ ((f r).live = true ∧ (f r).deqd = false ∧ (f r).obj.isCv = false ∧ (s.obj (f r).obj).lock = some u
        ∧ (f r).waiting = false)
      rw [a, b, c, d]; exact h.q5 u r hpo
    · exact .inl (c u hpo)
  · exact h.q6
  · exact h.q7
  · exact h.q8
  · exact h.q9
  · exact h.q10
  · exact h.q11

theorem qi_recGhost {s : State} (h : QI s) (f : Rid → Rec)
    (hl : ∀ r, (f r).live = (s.rcd r).live) (ho : ∀ r, (f r).obj = (s.rcd r).obj)
    (hw : ∀ r, (f r).waiting = (s.rcd r).waiting) (hd : ∀ r, (f r).deqd = (s.rcd r).deqd) :
    QI { s with rcd := f } :=
  qi_rcd h f fun r => .inl ⟨hl r, ho r, hw r, hd r⟩

/-- One record `r` of object `o` changes its `waiting` / ghost fields while the queue of `o` changes by `r` only
    (program counters, posts and every other object and record as they were): what has to be checked is local to
    `o` and `r`. -/
theorem qi_upd {s : State} {o : ObjId} {r : Rid} {q' : List Rid} {w' d' : Bool} {x : Unl} (h : QI s)
    (hq : ∀ y, y ≠ r → (y ∈ q' ↔ y ∈ (s.obj o).queue)) (hnd : q'.Nodup)
    (hoth : ∀ o', o' ≠ o → r ∉ (s.obj o').queue)
    (h1 : r ∈ q' → (s.rcd r).live = true ∧ (s.rcd r).obj = o ∧ w' = true ∧ d' = false)
    (h3 : (s.rcd r).live = true → w' = true → r ∈ q' ∨ (s.rcd r).obj ≠ o ∧ (s.rcd r).waiting = true)
    (h4 : ∀ u c l, wk (s.pc u) = some (c, l) → r ∉ pend (s.post u) l)
    (h5 : ∀ u, s.post u = some r → (wk (s.pc u)).isSome = true ∨ (d' = false ∧ w' = false))
    (h7 : o.isCv = false → wakeable o (s.obj o) = true → q' ≠ [] → (s.obj o).lock ≠ none)
    (h8 : q' ≠ [] → (s.obj o).queue ≠ [] ∨ ∀ n, o = .note n → dlePast (s.obj o).expiry = false)
    (h9 : q' ≠ [] → (s.obj o).known = true) :
    QI ((s.setObj o { s.obj o with queue := q' }).setRec r { s.rcd r with waiting := w', unl := x, deqd := d' }) := by
  have qmem : ∀ {o' y}, y ≠ r → (y ∈ ((s.setObj o { s.obj o with queue := q' }).obj o').queue ↔ y ∈ (s.obj o').queue) := by
    intro o' y hy; simp only [setObj_obj]; split
    · rename_i ho; subst ho; exact hq y hy
    · exact Iff.rfl
  constructor
  · intro o' r' hr'
    simp only [setRec_obj, setRec_rcd, setObj_rcd] at hr' ⊢
    by_cases hrr : r' = r
    · subst hrr
      simp only [setObj_obj] at hr'
      split at hr'
      · rename_i ho; subst ho; simpa using h1 hr'
      · rename_i ho; exact absurd hr' (hoth o' ho)
    · simp only [hrr, if_false]; exact h.q1 o' r' ((qmem hrr).1 hr')
  · intro o'
    simp only [setRec_obj, setObj_obj]; split
    · exact hnd
    · exact h.q2 o'
  · intro r' hl hw
    simp only [setRec_rcd, setObj_rcd, setRec_obj, setRec_pc, setObj_pc, setRec_post, setObj_post] at hl hw ⊢
    by_cases hrr : r' = r
    · subst hrr
      simp only [if_true] at hl hw ⊢
      rcases h3 hl hw with h | ⟨hne, hw0⟩
      · left; simp only [setObj_obj]; split
        · exact h
        · rename_i ho; exact absurd (h1 h).2.1 ho
      · rcases h.q3 r' hl hw0 with h | h
        · left; simp only [setObj_obj, hne, if_false]; exact h
        · exact .inr h
    · simp only [hrr, if_false] at hl hw ⊢
      rcases h.q3 r' hl hw with h | h
      · exact .inl ((qmem hrr).2 h)
      · exact .inr h
  · intro u c l hwk
    simp only [setRec_pc, setObj_pc, setRec_post, setObj_post, setRec_rcd, setObj_rcd, setRec_obj] at hwk ⊢
    obtain ⟨a1, a2, a3⟩ := h.q4 u c l hwk
    refine ⟨a1, a2, fun r' hr' => ?_⟩
    have hrr : r' ≠ r := fun hh => by subst hh; exact h4 u c l hwk hr'
    obtain ⟨b1, b2, b3, b4, b5⟩ := a3 r' hr'
    simp only [hrr, if_false]
    exact ⟨b1, b2, b3, b4, fun o' hm => b5 o' ((qmem hrr).1 hm)⟩
  · intro u u' c l c' l' hne h1 h2; exact h.q4d u u' c l c' l' hne h1 h2
  · intro u r' hpo
    simp only [setRec_post, setObj_post, setRec_pc, setObj_pc, setRec_rcd, setObj_rcd, setRec_obj] at hpo ⊢
    have lock : ∀ o', ((s.setObj o { s.obj o with queue := q' }).obj o').lock = (s.obj o').lock := by
      intro o'; simp only [setObj_obj]; split
      · rename_i ho; rw [ho]
      · rfl
    rcases h.q5 u r' hpo with hw | ⟨a1, a2, a3, a4, a5⟩
    · exact .inl hw
    · by_cases hrr : r' = r
      · subst hrr
        rcases h5 u hpo with hw | ⟨hd, hw⟩
        · exact .inl hw
        · right; simp only [if_true]; rw [lock]; exact ⟨a1, hd, a3, a4, hw⟩
      · right; simp only [hrr, if_false]; rw [lock]; exact ⟨a1, a2, a3, a4, a5⟩
  · exact h.q6
  · intro o' hcv
    simp only [setRec_obj, setObj_obj]; split
    · rename_i ho; subst ho; exact fun hw hne => h7 hcv (by rw [← hw]; exact (wakeable_congr rfl rfl).symm) hne
    · exact h.q7 o' hcv
  · intro n
    simp only [setRec_obj, setObj_obj]; split
    · rename_i ho; intro hd
      refine Classical.byContradiction fun hne => ?_
      rcases h8 hne with hq0 | hx
      · exact hq0 (by have := h.q8 n (by rw [ho]; exact hd); rw [ho] at this; exact this)
      · rw [hx n ho.symm] at hd; cases hd
    · exact h.q8 n
  · intro o'
    simp only [setRec_obj, setObj_obj]; split
    · rename_i ho; subst ho
      intro hk
      refine ⟨Classical.byContradiction fun hne => ?_, (h.q9 _ hk).2⟩
      rw [h9 hne] at hk; cases hk
    · exact h.q9 o'
  · intro c
    simp only [setRec_obj, setObj_obj]; split
    · rename_i ho; rw [← ho]; exact h.q10 c
    · exact h.q10 c
  · exact h.q11

/-- enqueue: the owner appends its fresh record to the queue and marks it waiting -/
theorem qi_append {s : State} {o : ObjId} {r : Rid} (h : QI s)
    (hlive : (s.rcd r).live = true) (hobj : (s.rcd r).obj = o) (hw : (s.rcd r).waiting = false)
    (hd : (s.rcd r).deqd = false) {t : Tid} (hlk : (s.obj o).lock = some t) (hpt : s.post t = none)
    (hdle : ∀ n, o = .note n → dlePast (s.obj o).expiry = false) (hk : (s.obj o).known = true) :
    QI ((s.setObj o { s.obj o with queue := (s.obj o).queue ++ [r] }).setRec r { s.rcd r with waiting := true }) := by
  have hnq : ∀ o', r ∉ (s.obj o').queue := fun o' hm => by have := (h.q1 o' r hm).2.2.1; rw [hw] at this; cases this
  refine qi_upd (x := (s.rcd r).unl) (d' := (s.rcd r).deqd) h (fun y hy => by simp [hy]) ?_ (fun o' _ => hnq o')
    (fun _ => ⟨hlive, hobj, rfl, hd⟩) (fun _ _ => .inl (by simp)) ?_ ?_ (fun _ _ _ => by rw [hlk]; nofun)
    (fun _ => .inr hdle) (fun _ => hk)
  · exact List.nodup_append.2 ⟨h.q2 _, by simp, by intro a ha b hb; simp at hb; subst hb; intro hab; subst hab; exact hnq _ ha⟩
  · intro u c l hwk hm
    have := ((h.q4 u c l hwk).2.2 r hm).2.2.1; rw [hw] at this; cases this
  · intro u hpo
    refine (h.q5 u r hpo).imp_right fun a => ?_
    have := a.2.2.2.1; rw [hobj, hlk] at this; cases this
    rw [hpt] at hpo; cases hpo

/-- the owner removes its record from the queue (or finds it already gone) and clears `waiting` -/
theorem qi_ownerRemove {s : State} {o : ObjId} {r : Rid} (h : QI s)
    (hin : r ∈ (s.obj o).queue ∨ (s.rcd r).waiting = false) : QI (ownerRemove s o r) := by
  have hne : ∀ {y}, y ∈ (s.obj o).queue.erase r → y ≠ r := fun hy hh =>
    ((List.Nodup.mem_erase_iff (h.q2 o)).1 (hh ▸ hy)).1 rfl
  refine qi_upd (d' := (s.rcd r).deqd) h (fun y hy => List.mem_erase_of_ne hy) ((h.q2 o).erase r) ?_
    (fun hm => (hne hm rfl).elim) (fun _ hw => by cases hw) ?_ (fun u hpo => ?_) (fun hcv hw hq => ?_)
    (fun hq => .inl fun h0 => hq (by simp [h0])) (fun hq => ?_)
  · intro o' ho hm
    rcases hin with h1 | h1
    · exact ho ((h.q1 o' r hm).2.1.symm.trans (h.q1 o r h1).2.1)
    · have := (h.q1 o' r hm).2.2.1; rw [h1] at this; cases this
  · intro u c l hwk hm
    obtain ⟨_, _, b3, _, b5⟩ := (h.q4 u c l hwk).2.2 r hm
    rcases hin with h1 | h1
    · exact b5 o h1
    · rw [h1] at b3; cases b3
  · exact (h.q5 u r hpo).imp_right fun a => ⟨a.2.1, rfl⟩
  · exact h.q7 o hcv hw fun h0 => hq (by simp [h0])
  · cases hk : (s.obj o).known with
    | true => rfl
    | false => exact absurd (by simp [(h.q9 o hk).1]) hq

/-- the pending post of a thread without wake list changes: it is discharged, or the thread comes to owe the post of a
    cleared record whose object's mutex it holds -/
theorem qi_setPost {s : State} {t : Tid} {p : Option Rid} (h : QI s) (hwk : wk (s.pc t) = none)
    (hp : ∀ r, p = some r → s.mc t = .none ∧ opn (s.pc t) = true ∧ (s.rcd r).live = true ∧ (s.rcd r).deqd = false
      ∧ (s.rcd r).obj.isCv = false ∧ (s.obj (s.rcd r).obj).lock = some t ∧ (s.rcd r).waiting = false) :
    QI (s.setPost t p) := by
  have ne : ∀ {u c l}, wk (s.pc u) = some (c, l) → u ≠ t := fun hw hh => by subst hh; rw [hwk] at hw; cases hw
  constructor
  · exact h.q1
  · exact h.q2
  · intro r' h1 h2
    rcases h.q3 r' h1 h2 with h3 | ⟨u, c, l, h3, h4⟩
    · exact .inl h3
    · exact .inr ⟨u, c, l, h3, by simpa [ne h3] using h4⟩
  · intro u c l hw
    simp only [setPost_post, ne hw, if_false]; exact h.q4 u c l hw
  · intro u u' c l c' l' hne h1 h2
    simp only [setPost_post, ne h1, ne h2, if_false]; exact h.q4d u u' c l c' l' hne h1 h2
  · intro u r' hpo
    simp only [setPost_post] at hpo
    split at hpo
    · rename_i hu; subst hu; exact .inr (hp r' hpo).2.2
    · exact h.q5 u r' hpo
  · intro u hpo
    simp only [setPost_post] at hpo
    split at hpo
    · rename_i hu; subst hu
      cases p with
      | none => exact absurd rfl hpo
      | some r => exact ⟨(hp r rfl).1, (hp r rfl).2.1⟩
    · exact h.q6 u hpo
  · exact h.q7
  · exact h.q8
  · exact h.q9
  · exact h.q10
  · exact h.q11

/-- a note / counter waker pops the head of the queue, clears `waiting`, and owes a post -/
theorem qi_pop {s : State} {o : ObjId} {r : Rid} {tl : List Rid} {t : Tid} {x : Unl} (h : QI s)
    (hq : (s.obj o).queue = r :: tl) (hcv : o.isCv = false) (hl : (s.obj o).lock = some t)
    (hmc : s.mc t = .none) (hopn : opn (s.pc t) = true) (hwk : wk (s.pc t) = none) :
    QI (((s.setObj o { s.obj o with queue := tl }).setRec r { s.rcd r with waiting := false, unl := x }).setPost t (some r)) := by
  have hr1 := h.q1 o r (by rw [hq]; simp)
  have hnd := h.q2 o
  rw [hq] at hnd
  have hrtl : r ∉ tl := (List.nodup_cons.1 hnd).1
  refine qi_setPost (qi_upd (d' := (s.rcd r).deqd) h (fun y hy => by rw [hq]; simp [hy]) (List.nodup_cons.1 hnd).2 ?_
    (fun hm => (hrtl hm).elim) (fun _ hw => by cases hw) ?_ (fun u hpo => ?_) (fun _ _ _ => by rw [hl]; nofun)
    (fun _ => .inl (by rw [hq]; nofun)) (fun hne => ?_)) hwk fun r' hr' => ?_
  · intro o' ho hm; exact ho ((h.q1 o' r hm).2.1.symm.trans hr1.2.1)
  · intro u c l hw hm; exact ((h.q4 u c l hw).2.2 r hm).2.2.2.2 o (by rw [hq]; simp)
  · exact (h.q5 u r hpo).imp_right fun a => ⟨a.2.1, rfl⟩
  · cases hk : (s.obj o).known with
    | true => rfl
    | false => have := (h.q9 o hk).1; rw [hq] at this; cases this
  · cases hr'
    simp only [setRec_rcd, setObj_rcd, setRec_obj, setObj_obj, if_true]
    exact ⟨hmc, hopn, hr1.1, hr1.2.2.2, hr1.2.1 ▸ hcv, by rw [hr1.2.1]; simp [hl], trivial⟩

/-- a record in no queue and no wake list -/
theorem out_of_not_waiting {s : State} {r : Rid} (h : QI s) (hw : (s.rcd r).live = true → (s.rcd r).waiting = false) :
    (∀ o, r ∉ (s.obj o).queue) ∧ ∀ u c l, wk (s.pc u) = some (c, l) → r ∉ pend (s.post u) l :=
  ⟨fun o hm => by
      have := h.q1 o r hm
      rw [hw this.1] at this
      exact Bool.noConfusion this.2.2.1,
   fun u c l hwk hm => by
      have := (h.q4 u c l hwk).2.2 r hm
      rw [hw this.1] at this
      exact Bool.noConfusion this.2.2.1⟩

/-- the owner's dequeue call on record r is over -/
theorem qi_setDeqd {s : State} {r : Rid} (h : QI s) (hw : (s.rcd r).waiting = false)
    (hp : ∀ u, s.post u = some r → (wk (s.pc u)).isSome = true) :
    QI (s.setRec r { s.rcd r with deqd := true }) := by
  refine qi_rcd h _ fun r' => ?_
  by_cases hr : r' = r
  · subst hr
    exact .inr ⟨(out_of_not_waiting h fun _ => hw).1, (out_of_not_waiting h fun _ => hw).2, hp, fun _ => by simp [hw]⟩
  · exact .inl (by simp [hr])

/-- a dead record is (re)initialised -/
theorem qi_init {s : State} {r : Rid} {t : Tid} {o : ObjId} (h : QI s) (hdead : (s.rcd r).live = false) :
    QI (s.setRec r { live := true, waiting := false, owner := t, obj := o, unl := .none, deqd := false }) := by
  have out := out_of_not_waiting (r := r) h fun hl => by rw [hdead] at hl; cases hl
  refine qi_rcd h _ fun r' => ?_
  by_cases hr : r' = r
  · subst hr
    refine .inr ⟨out.1, out.2, fun u hpo => (h.q5 u r' hpo).elim id fun a => ?_, fun _ => by simp⟩
    rw [hdead] at a; cases a.1
  · exact .inl (by simp [hr])

/-- records whose dequeue calls are over die -/
theorem qi_kill {s : State} {l : List Rid} (h : QI s) (hd : ∀ r ∈ l, (s.rcd r).deqd = true ∨ (s.rcd r).live = false) :
    QI (s.kill l) := by
  refine qi_rcd h _ fun r => ?_
  by_cases hm : r ∈ l
  · refine .inr ⟨fun o hq => ?_, fun u c l' hwk hp => ?_, fun u hpo => (h.q5 u r hpo).elim id fun a => ?_, fun hl => by simp [hm] at hl⟩
    · have := h.q1 o r hq; rcases hd r hm with h3 | h3 <;> simp [this] at h3
    · have := (h.q4 u c l' hwk).2.2 r hp; rcases hd r hm with h3 | h3 <;> simp [this] at h3
    · rcases hd r hm with h3 | h3 <;> simp [a] at h3
  · exact .inl (by simp [hm])

theorem pend_none (l : List Rid) : pend none l = l := rfl
theorem pend_some (r : Rid) (l : List Rid) : pend (some r) l = l.tail := rfl

/-- the signaller unlinks `l` from the front of the queue of cv c and releases the spinlock;
    its program counter enters wake_waiters with the private list `l` -/
theorem qi_unlink {s : State} {c : Nat} {t : Tid} {l q : List Rid} {ob : Obj} {p : PC} (h : QI s)
    (hsplit : (s.obj (.cv c)).queue = l ++ q) (hq : ob.queue = q) (hk : ob.known = (s.obj (.cv c)).known)
    (hwk0 : wk (s.pc t) = none) (hpost : s.post t = none) (hmc : s.mc t = .none)
    (hp : wk p = some (c, l)) :
    QI ((s.setObj (.cv c) ob).setPc t p) := by
  have hnd := h.q2 (.cv c)
  rw [hsplit] at hnd
  have hl_in : ∀ r ∈ l, r ∈ (s.obj (.cv c)).queue := fun r hr => by rw [hsplit]; exact List.mem_append_left _ hr
  have hq_in : ∀ r ∈ q, r ∈ (s.obj (.cv c)).queue := fun r hr => by rw [hsplit]; exact List.mem_append_right _ hr
  have hdisj : ∀ r, r ∈ l → r ∉ q := fun r h1 h2 => (List.nodup_append.1 hnd).2.2 r h1 r h2 rfl
  have hwku : ∀ u, u ≠ t → wk (((s.setObj (.cv c) ob).setPc t p).pc u) = wk (s.pc u) := by
    intro u hu; simp [hu]
  constructor
  · intro o r hr
    simp only [setPc_obj, setObj_obj, setPc_rcd, setObj_rcd] at hr ⊢
    by_cases ho : o = .cv c
    · subst ho; simp only [if_true] at hr; rw [hq] at hr; exact h.q1 _ r (hq_in r hr)
    · simp only [ho, if_false] at hr; exact h.q1 o r hr
  · intro o
    simp only [setPc_obj, setObj_obj]
    split
    · rw [hq]; exact (List.nodup_append.1 hnd).2.1
    · exact h.q2 o
  · intro r h1 h2
    simp only [setPc_rcd, setObj_rcd, setPc_obj, setObj_obj, setPc_pc, setPc_post, setObj_post] at h1 h2 ⊢
    rcases h.q3 r h1 h2 with h3 | ⟨u, c', l', h3, h4⟩
    · by_cases ho : (s.rcd r).obj = .cv c
      · rw [ho, hsplit] at h3
        rcases List.mem_append.1 h3 with h3 | h3
        · right; exact ⟨t, c, l, by simp [hp], by simp [hpost, pend_none, h3]⟩
        · left; simp only [ho, if_true]; rw [hq]; exact h3
      · left; simp only [ho, if_false]; exact h3
    · right
      have hu : u ≠ t := fun hh => by subst hh; rw [hwk0] at h3; cases h3
      exact ⟨u, c', l', by simp [hu, h3], h4⟩
  · intro u c' l' hw
    simp only [setPc_pc, setPc_post, setObj_post, setPc_rcd, setObj_rcd, setPc_obj, setObj_obj] at hw ⊢
    by_cases hu : u = t
    · subst hu
      simp only [if_true] at hw
      rw [hp] at hw; cases hw
      refine ⟨(List.nodup_append.1 hnd).1, fun r0 hr0 => (by rw [hpost] at hr0; cases hr0), ?_⟩
      intro r hr
      rw [hpost, pend_none] at hr
      have := h.q1 _ r (hl_in r hr)
      refine ⟨this.1, this.2.1, this.2.2.1, this.2.2.2, fun o => ?_⟩
      split
      · rw [hq]; exact hdisj r hr
      · rename_i ho; intro hm; exact ho ((h.q1 o r hm).2.1.symm.trans this.2.1)
    · simp only [hu, if_false] at hw
      obtain ⟨a1, a2, a3⟩ := h.q4 u c' l' hw
      refine ⟨a1, a2, fun r hr => ?_⟩
      obtain ⟨b1, b2, b3, b4, b5⟩ := a3 r hr
      refine ⟨b1, b2, b3, b4, fun o => ?_⟩
      split
      · rw [hq]; intro hm; exact b5 _ (hq_in r hm)
      · exact b5 o
  · intro u u' c1 l1 c2 l2 hne h1 h2 r hr
    simp only [setPc_pc, setPc_post, setObj_post] at h1 h2 hr ⊢
    by_cases hu : u = t
    · subst hu
      have hu' : u' ≠ u := fun hh => hne hh.symm
      simp only [if_true] at h1; rw [hp] at h1; cases h1
      simp only [hu', if_false] at h2
      rw [hpost, pend_none] at hr
      intro hm
      exact ((h.q4 u' c2 l2 h2).2.2 r hm).2.2.2.2 _ (hl_in r hr)
    · simp only [hu, if_false] at h1
      by_cases hu' : u' = t
      · subst hu'
        simp only [if_true] at h2; rw [hp] at h2; cases h2
        rw [hpost, pend_none]
        intro hm
        exact ((h.q4 u c1 l1 h1).2.2 r hr).2.2.2.2 _ (hl_in r hm)
      · simp only [hu', if_false] at h2
        exact h.q4d u u' c1 l1 c2 l2 hne h1 h2 r hr
  · intro u r hpo
    simp only [setPc_post, setObj_post, setPc_pc, setPc_rcd, setObj_rcd, setPc_obj, setObj_obj] at hpo ⊢
    have hu : u ≠ t := fun hh => by subst hh; rw [hpost] at hpo; cases hpo
    simp only [hu, if_false]
    rcases h.q5 u r hpo with h1 | ⟨a1, a2, a3, a4, a5⟩
    · exact .inl h1
    · right; refine ⟨a1, a2, a3, ?_, a5⟩
      split
      · rename_i ho; rw [ho] at a3; cases a3
      · exact a4
  · intro u hpo
    simp only [setPc_post, setObj_post, setPc_mc, setObj_mc, setPc_pc] at hpo ⊢
    have hu : u ≠ t := fun hh => by subst hh; exact hpo hpost
    simp only [hu, if_false]; exact h.q6 u hpo
  · intro o hcv
    simp only [setPc_obj, setObj_obj]
    split
    · rename_i ho; subst ho; cases hcv
    · exact h.q7 o hcv
  · intro n
    simp only [setPc_obj, setObj_obj]
    split
    · rename_i ho; cases ho
    · exact h.q8 n
  · intro o
    simp only [setPc_obj, setObj_obj]
    split
    · rename_i ho; subst ho; intro hkn; rw [hk, h.q10 c] at hkn; cases hkn
    · exact h.q9 o
  · intro c'
    simp only [setPc_obj, setObj_obj]
    split
    · rename_i ho; cases ho; rw [hk]; exact h.q10 c
    · exact h.q10 c'
  · intro u hm
    simp only [setPc_mc, setObj_mc, setPc_pc] at hm ⊢
    have hu : u ≠ t := fun hh => by subst hh; exact hm hmc
    simp only [hu, if_false]; exact h.q11 u hm

/-- wake_waiters: `ATM_STORE_REL (&p_nw->waiting, 0)` on the head of the private list -/
theorem qi_clear {s : State} {c : Nat} {t : Tid} {r : Rid} {rest : List Rid} (h : QI s)
    (hwk : wk (s.pc t) = some (c, r :: rest)) (hpost : s.post t = none) :
    QI ((s.setRec r { s.rcd r with waiting := false }).setPost t (some r)) := by
  obtain ⟨hnd, _, hp4⟩ := h.q4 t c (r :: rest) hwk
  rw [hpost, pend_none] at hp4
  have hr := hp4 r (by simp)
  have hrrest : r ∉ rest := (List.nodup_cons.1 hnd).1
  have hmc := h.q11 t
  have hopn : opn (s.pc t) = true := by
    cases hp : s.pc t <;> simp [hp, wk] at hwk <;> first | rfl | (rename_i st; cases st <;> simp at hwk <;> rfl)
  have hmct : s.mc t = .none := by
    cases hm : s.mc t with
    | none => rfl
    | locking o => have := (hmc (by rw [hm]; simp)).2; rw [hwk] at this; cases this
    | unlocking => have := (hmc (by rw [hm]; simp)).2; rw [hwk] at this; cases this
  constructor
  · intro o r' hr'
    have hne : r' ≠ r := fun hh => by subst hh; exact hr.2.2.2.2 o hr'
    simp only [setPost_rcd, setRec_rcd, hne, if_false]; exact h.q1 o r' hr'
  · exact h.q2
  · intro r' h1 h2
    simp only [setPost_rcd, setRec_rcd, setPost_obj, setRec_obj, setPost_pc, setRec_pc, setPost_post] at h1 h2 ⊢
    by_cases hrr : r' = r
    · subst hrr; simp at h2
    · simp only [hrr, if_false] at h1 h2 ⊢
      rcases h.q3 r' h1 h2 with h3 | ⟨u, c', l', h3, h4⟩
      · exact .inl h3
      · right
        refine ⟨u, c', l', h3, ?_⟩
        by_cases hu : u = t
        · subst hu
          rw [hwk] at h3; cases h3
          rw [hpost, pend_none] at h4
          simp only [if_true, pend_some, List.tail_cons]
          rcases List.mem_cons.1 h4 with h4 | h4
          · exact absurd h4 hrr
          · exact h4
        · simpa [hu] using h4
  · intro u c' l' hw
    simp only [setPost_pc, setRec_pc, setPost_post, setPost_rcd, setRec_rcd, setPost_obj, setRec_obj] at hw ⊢
    by_cases hu : u = t
    · subst hu
      rw [hwk] at hw; cases hw
      simp only [if_true, pend_some, List.tail_cons]
      refine ⟨hnd, fun r0 hr0 => (by cases hr0; rfl), fun r' hr' => ?_⟩
      have hne : r' ≠ r := fun hh => by subst hh; exact hrrest hr'
      simp only [hne, if_false]
      exact hp4 r' (List.mem_cons_of_mem _ hr')
    · simp only [hu, if_false]
      obtain ⟨a1, a2, a3⟩ := h.q4 u c' l' hw
      refine ⟨a1, a2, fun r' hr' => ?_⟩
      have hne : r' ≠ r := by
        intro hh; subst hh
        exact h.q4d u t c' l' c (r' :: rest) hu hw hwk r' hr' (by rw [hpost, pend_none]; simp)
      simp only [hne, if_false]; exact a3 r' hr'
  · intro u u' c1 l1 c2 l2 hne h1 h2 r' hr'
    simp only [setPost_pc, setRec_pc, setPost_post] at h1 h2 hr' ⊢
    have sub : ∀ x, x ∈ pend (if t = t then some r else s.post t) (r :: rest) → x ∈ pend (s.post t) (r :: rest) := by
      intro x hx; simp only [if_true, pend_some, List.tail_cons] at hx; rw [hpost, pend_none]; exact List.mem_cons_of_mem _ hx
    by_cases hu : u = t
    · subst hu
      have hu' : u' ≠ u := fun hh => hne hh.symm
      rw [hwk] at h1; cases h1
      simp only [hu', if_false]
      exact h.q4d u u' _ _ _ _ hne hwk h2 r' (sub r' hr')
    · simp only [hu, if_false] at hr'
      by_cases hu' : u' = t
      · subst hu'
        rw [hwk] at h2; cases h2
        intro hm
        exact h.q4d u u' _ _ _ _ hne h1 hwk r' hr' (sub r' hm)
      · simp only [hu', if_false]
        exact h.q4d u u' c1 l1 c2 l2 hne h1 h2 r' hr'
  · intro u r' hpo
    simp only [setPost_post, setPost_pc, setRec_pc, setPost_rcd, setRec_rcd, setPost_obj, setRec_obj] at hpo ⊢
    by_cases hu : u = t
    · subst hu; left; rw [hwk]; rfl
    · simp only [hu, if_false] at hpo
      rcases h.q5 u r' hpo with h1 | ⟨a1, a2, a3, a4, a5⟩
      · exact .inl h1
      · right
        have hne : r' ≠ r := fun hh => by subst hh; rw [hr.2.1] at a3; cases a3
        simp only [hne, if_false]; exact ⟨a1, a2, a3, a4, a5⟩
  · intro u hpo
    simp only [setPost_post, setPost_mc, setRec_mc, setPost_pc, setRec_pc] at hpo ⊢
    by_cases hu : u = t
    · subst hu; exact ⟨hmct, hopn⟩
    · simp only [hu, if_false] at hpo; exact h.q6 u hpo
  · exact h.q7
  · exact h.q8
  · exact h.q9
  · exact h.q10
  · exact h.q11

/-- wake_waiters: the post for the head of the private list; the signaller moves on -/
theorem qi_sgPost {s : State} {c : Nat} {t : Tid} {r0 r : Rid} {rest : List Rid} {p : PC} (h : QI s)
    (hwk : wk (s.pc t) = some (c, r0 :: rest)) (hpost : s.post t = some r)
    (hp : wk p = if rest = [] then none else some (c, rest)) :
    QI ((s.setPost t none).setPc t p) := by
  obtain ⟨hnd, hhead, hp4⟩ := h.q4 t c (r0 :: rest) hwk
  rw [hpost, pend_some, List.tail_cons] at hp4
  have hmct : s.mc t = .none := (h.q6 t (by rw [hpost]; simp)).1
  constructor
  · exact h.q1
  · exact h.q2
  · intro r' h1 h2
    simp only [setPc_rcd, setPost_rcd, setPc_obj, setPost_obj, setPc_pc, setPost_pc, setPc_post, setPost_post] at h1 h2 ⊢
    rcases h.q3 r' h1 h2 with h3 | ⟨u, c', l', h3, h4⟩
    · exact .inl h3
    · right
      by_cases hu : u = t
      · subst hu
        rw [hwk] at h3; cases h3
        rw [hpost, pend_some, List.tail_cons] at h4
        have hne : rest ≠ [] := fun h0 => by rw [h0] at h4; cases h4
        exact ⟨u, c, rest, by simp [hp, hne], by simp [pend_none, h4]⟩
      · exact ⟨u, c', l', by simp [hu, h3], by simpa [hu] using h4⟩
  · intro u c' l' hw
    simp only [setPc_pc, setPost_pc, setPc_post, setPost_post, setPc_rcd, setPost_rcd, setPc_obj, setPost_obj] at hw ⊢
    by_cases hu : u = t
    · subst hu
      simp only [if_true] at hw ⊢
      rw [hp] at hw
      split at hw
      · cases hw
      · cases hw
        refine ⟨(List.nodup_cons.1 hnd).2, fun r1 hr1 => (by cases hr1), ?_⟩
        rw [pend_none]; exact hp4
    · simp only [hu, if_false] at hw ⊢
      exact h.q4 u c' l' hw
  · intro u u' c1 l1 c2 l2 hne h1 h2 r' hr'
    simp only [setPc_pc, setPost_pc, setPc_post, setPost_post] at h1 h2 hr' ⊢
    have sub : ∀ {cc ll}, wk p = some (cc, ll) → ∀ x, x ∈ pend none ll → x ∈ pend (s.post t) (r0 :: rest) := by
      intro cc ll hw x hx
      rw [hp] at hw
      split at hw
      · cases hw
      · cases hw; rw [hpost, pend_some, List.tail_cons]; exact hx
    by_cases hu : u = t
    · subst hu
      have hu' : u' ≠ u := fun hh => hne hh.symm
      simp only [if_true] at h1 hr'
      simp only [hu', if_false] at h2 ⊢
      exact h.q4d u u' c (r0 :: rest) c2 l2 hne hwk h2 r' (sub h1 r' hr')
    · simp only [hu, if_false] at h1 hr'
      by_cases hu' : u' = t
      · subst hu'
        simp only [if_true] at h2 ⊢
        intro hm
        exact h.q4d u u' c1 l1 c (r0 :: rest) hne h1 hwk r' hr' (sub h2 r' hm)
      · simp only [hu', if_false] at h2 ⊢
        exact h.q4d u u' c1 l1 c2 l2 hne h1 h2 r' hr'
  · intro u r' hpo
    simp only [setPc_post, setPost_post, setPc_pc, setPost_pc, setPc_rcd, setPost_rcd, setPc_obj, setPost_obj] at hpo ⊢
    by_cases hu : u = t
    · subst hu; simp at hpo
    · simp only [hu, if_false] at hpo ⊢; exact h.q5 u r' hpo
  · intro u hpo
    simp only [setPc_post, setPost_post, setPc_mc, setPost_mc, setPc_pc, setPost_pc] at hpo ⊢
    by_cases hu : u = t
    · subst hu; simp at hpo
    · simp only [hu, if_false] at hpo ⊢; exact h.q6 u hpo
  · exact h.q7
  · exact h.q8
  · exact h.q9
  · exact h.q10
  · intro u hm
    simp only [setPc_mc, setPost_mc, setPc_pc, setPost_pc] at hm ⊢
    have hu : u ≠ t := fun hh => by subst hh; exact hm hmct
    simp only [hu, if_false]; exact h.q11 u hm

end WaitN
