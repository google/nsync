/-
  Layer `CvFix` (repaired cv.c): structural invariant — transitions that leave every record's status alone.
-/
import NsyncVerif.Proofs.CvFixInvARel

namespace NsyncVerif.CvFix

/-- Status-preserving change of the records. -/
def RecSame (a b : Rec) : Prop :=
  b.stat = a.stat ∧ (a.stat ≠ .idle → b.owner = a.owner)

theorem RecSame.refl (a : Rec) : RecSame a a := ⟨rfl, fun _ => rfl⟩

/-- One thread gets a new frame (same side of the spinlock, same private list), records keep their
    status, the queue and the cv word are untouched. -/
theorem invA_frame {s s' : State} {t : Tid} (hi : InvA s) (hword : s'.word = s.word) (hhold : s'.holder = s.holder)
    (hq : s'.queue = s.queue) (hthr : ∀ u, u ≠ t → s'.thr u = s.thr u)
    (h1 : (s'.thr t).loc.holds = (s.thr t).loc.holds) (h2 : (s'.thr t).list = (s.thr t).list)
    (h3 : s.holder = some t → (s'.thr t).old.spin = false ∧ ((s'.thr t).old.ne = true ↔ s.queue ≠ []))
    (hrec : ∀ q, RecSame (s.recs q) (s'.recs q)) (ht : TInvA s' t)
    (hb : (s'.thr t).bcast = true →
      ((s'.thr t).loc = .sRcLd ∨ (s'.thr t).loc = .sRcCas ∨ (s'.thr t).loc = .sRel) → s.queue = []) :
    FrameA s' := by
  obtain ⟨a1, a2, a3, a4, a5, a6, a8, a9, a10, a11⟩ := hi.frame
  constructor
  · rw [hword, hhold]; exact a1
  · intro u
    rw [hhold]
    by_cases hu : u = t
    · subst hu; rw [h1]; exact a2 u
    · rw [hthr u hu]; exact a2 u
  · intro u e
    rw [hhold] at e
    rw [hq]
    by_cases hu : u = t
    · subst hu; exact h3 e
    · rw [hthr u hu]; exact a3 u e
  · rw [hhold, hword, hq]; exact a4
  · rw [hq]; exact a5
  · intro r; rw [hq, (hrec r).1]; exact a6 r
  · intro u
    by_cases hu : u = t
    · subst hu; rw [h2]; exact a8 u
    · rw [hthr u hu]; exact a8 u
  · intro u r
    rw [(hrec r).1]
    by_cases hu : u = t
    · subst hu; rw [h2]; exact a9 u r
    · rw [hthr u hu]; exact a9 u r
  · intro u
    by_cases hu : u = t
    · subst hu; exact ht
    · refine tinvA_other (a10 u) (hthr u hu) ?_ ?_
      · intro q _ hq'
        exact RecOK.of_stat ((hrec q).2 hq') (hrec q).1 hq'
      · intro _ q e; rw [(hrec q).1]; exact e
  · intro u hb1 hb2
    rw [hq]
    by_cases hu : u = t
    · subst hu; exact hb hb1 hb2
    · rw [hthr u hu] at hb1 hb2; exact a11 u hb1 hb2

end NsyncVerif.CvFix
