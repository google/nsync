/-
  Layer `Once`, fair termination (C07): the proof.

  Chain of leads-to facts, each by a local rank (`Sched.leads`):
  (A) `lock_free_again`   every slot lock is free again and again (rank `relRank` of its holder;
                          a holder is `Ready`, so weak fairness makes it move);
  (B) `eventually_moves`  every thread inside a call moves again: library code not at a lock
                          acquisition by `WeakFair`, a lock acquisition by (A) + `LockFair`, the
                          client's function by `InitReturns`;
  (C) `word1_to_2`        word 1 leads to word 2 (rank `wRank` of the winner, (B));
  (D) `word0_to_nz`       word 0 with a caller inside leads to word ≠ 0 (rank `zRank`, (B));
  (E) `done_returns`      word 2 leads to the caller's return (rank `dRank`, (B)).
-/
import NsyncVerif.Proofs.OnceFairStep

namespace Once
open NsyncVerif

variable {cfg : Config} {s0 : State}

/-- The hypotheses of the theorem, bundled; of the start state only the invariant is used. -/
structure FairHyps (x : Exec cfg s0) : Prop where
  inv : Inv cfg s0
  wf : WeakFair x
  lf : LockFair x
  ir : InitReturns x

theorem word2_stable (x : Exec cfg s0) (hr : Inv cfg s0) {o : OnceId} {i : Nat}
    (h : (x.ρ i).word o = 2) : ∀ j, i ≤ j → (x.ρ j).word o = 2 := fun j hj =>
  (Sched.along x.next_none x.next_some (P := fun s => Inv cfg s ∧ s.word o = 2)
    (fun _ _ _ h hs => ⟨inv_step h.1 hs, word2_step h.1 hs h.2⟩) ⟨x.inv hr i, h⟩ j hj).2

theorem word2_next (x : Exec cfg s0) (hr : Inv cfg s0) {o : OnceId} {i : Nat}
    (h : (x.ρ i).word o = 2) : (x.ρ (i + 1)).word o = 2 :=
  word2_stable x hr h (i + 1) (by omega)

/-- (A) Every slot lock is free again and again. -/
theorem lock_free_again (x : Exec cfg s0) (H : FairHyps x) (k : SlotId) (i : Nat) :
    ∃ j, i ≤ j ∧ (x.ρ j).lockHolder k = none := by
  cases hl : (x.ρ i).lockHolder k with
  | none => exact ⟨i, Nat.le_refl _, hl⟩
  | some h =>
    refine Sched.leads (M := Moves x h) (fun j => (x.ρ j).lockHolder k = some h) (fun j => (x.ρ j).lockHolder k = none)
      (fun j => relRank ((x.ρ j).pc h)) ?_ ?_ ?_ i hl
    · intro j hR hnm
      refine .inr ?_
      rw [not_moves_pc x hnm]
      refine ⟨?_, Nat.le_refl _⟩
      cases hs : x.σ j with
      | none => rw [x.next_none hs]; exact hR
      | some e => exact holder_other (x.next_some hs) (fun ht => hnm ⟨e, hs, ht⟩) hR
    · rintro j hR ⟨e, hs, ht⟩
      exact holder_move (x.inv H.inv j) (x.next_some hs) ht hR
    · intro j hR
      apply fair_move x H.wf
      intro j' hj' hnm
      have hpc := pc_between x hj' hnm
      have hH := (x.inv H.inv j).lock k h hR
      have : ((x.ρ j').pc h).Holds cfg k := by rw [hpc]; exact hH
      exact ready_of_holds this

/-- (B) Every thread inside a call moves again. -/
theorem eventually_moves (x : Exec cfg s0) (H : FairHyps x) {t : Tid} {i : Nat}
    (hp : (x.ρ i).pc t ≠ .idle) : ∃ j, i ≤ j ∧ Moves x t j := by
  by_cases hU : ((x.ρ i).pc t).InUser
  · -- the client's function
    cases hq : (x.ρ i).pc t <;> simp only [hq, PC.InUser] at hU
    rename_i f
    obtain ⟨j, hj, hs⟩ := H.ir t i f hq
    exact ⟨j, hj, _, hs, rfl⟩
  · by_cases hL : ∃ k, ((x.ρ i).pc t).LockWait cfg k
    · -- a lock acquisition
      obtain ⟨k, hk⟩ := hL
      exact Sched.moves_of_fair (fun h => H.lf t k i h fun j _ => lock_free_again x H k j)
        fun j hj hnm => by rw [pc_between x hj hnm]; exact hk
    · -- library code that nothing blocks
      exact Sched.moves_of_fair (H.wf t i) fun j hj hnm => by
        rw [Ready, pc_between x hj hnm]
        exact ⟨hp, hU, fun k hk => absurd ⟨k, hk⟩ hL⟩

/-- (C) Word 1 leads to word 2: the winner is in flight and completes. -/
theorem word1_to_2 (x : Exec cfg s0) (H : FairHyps x) {o : OnceId} {i : Nat}
    (h1 : (x.ρ i).word o = 1) : ∃ j, i ≤ j ∧ (x.ρ j).word o = 2 := by
  obtain ⟨w, _, hin, _⟩ := (x.inv H.inv i).w1 o h1
  refine Sched.leads (M := Moves x w) (fun j => ((x.ρ j).pc w).InW o) (fun j => (x.ρ j).word o = 2)
    (fun j => wRank ((x.ρ j).pc w)) ?_ ?_ ?_ i hin
  · intro j hR hnm
    refine .inr ?_
    rw [not_moves_pc x hnm]
    exact ⟨hR, Nat.le_refl _⟩
  · rintro j hR ⟨e, hs, ht⟩
    exact winner_move (x.next_some hs) ht hR
  · intro j hR
    apply eventually_moves x H
    intro hp; simp [hp, PC.InW] at hR

/-- (D) Word 0 with a caller inside leads to a non-zero word. -/
theorem word0_to_nz (x : Exec cfg s0) (H : FairHyps x) {t : Tid} {f : Frame} {i : Nat}
    (hf : ((x.ρ i).pc t).frame? = some f) (h0 : (x.ρ i).word f.o = 0) :
    ∃ j, i ≤ j ∧ (x.ρ j).word f.o ≠ 0 := by
  refine Sched.leads (M := Moves x t) (fun j => ((x.ρ j).pc t).frame? = some f ∧ (x.ρ j).word f.o = 0)
    (fun j => (x.ρ j).word f.o ≠ 0) (fun j => zRank ((x.ρ j).pc t)) ?_ ?_ ?_ i ⟨hf, h0⟩
  · intro j hR hnm
    by_cases hz : (x.ρ (j + 1)).word f.o = 0
    · refine .inr ?_
      rw [not_moves_pc x hnm]
      exact ⟨⟨hR.1, hz⟩, Nat.le_refl _⟩
    · exact .inl hz
  · rintro j hR ⟨e, hs, ht⟩
    rcases zero_move (x.inv H.inv j) (x.next_some hs) ht hR.1 hR.2 with hz | ⟨a, b⟩
    · exact .inl hz
    · by_cases hz : (x.ρ (j + 1)).word f.o = 0
      · exact .inr ⟨⟨a, hz⟩, b⟩
      · exact .inl hz
  · intro j hR
    apply eventually_moves x H
    intro hp; simp [hp, PC.frame?] at hR

/-- The word of the once object of a call in progress eventually is 2. -/
theorem word_to_2 (x : Exec cfg s0) (H : FairHyps x) {t : Tid} {f : Frame} {i : Nat}
    (hf : ((x.ρ i).pc t).frame? = some f) : ∃ j, i ≤ j ∧ (x.ρ j).word f.o = 2 := by
  have from_nz : ∀ j, (x.ρ j).word f.o ≠ 0 → ∃ j', j ≤ j' ∧ (x.ρ j').word f.o = 2 := by
    intro j hnz
    have hle := (x.inv H.inv j).word_le f.o
    by_cases h2 : (x.ρ j).word f.o = 2
    · exact ⟨j, Nat.le_refl _, h2⟩
    · exact word1_to_2 x H (by omega)
  by_cases h0 : (x.ρ i).word f.o = 0
  · obtain ⟨j, hj, hnz⟩ := word0_to_nz x H hf h0
    obtain ⟨j', hj', h2⟩ := from_nz j hnz
    exact ⟨j', by omega, h2⟩
  · exact from_nz i h0

/-- (E) Word 2 leads to the `ret` of the caller. -/
theorem done_returns (x : Exec cfg s0) (H : FairHyps x) {t : Tid} {f : Frame} {i : Nat}
    (hf : ((x.ρ i).pc t).frame? = some f) (h2 : (x.ρ i).word f.o = 2) :
    ∃ j, i ≤ j ∧ x.σ j = some (.ret t f.blocking f.arg) ∧ (x.ρ (j + 1)).pc t = .idle ∧
      (x.ρ (j + 1)).returned = (t, f.o) :: (x.ρ j).returned := by
  suffices h : ∃ k, i ≤ k ∧ ∃ j, k = j + 1 ∧ x.σ j = some (.ret t f.blocking f.arg) ∧
      (x.ρ (j + 1)).pc t = .idle ∧ (x.ρ (j + 1)).returned = (t, f.o) :: (x.ρ j).returned by
    obtain ⟨k, hk, j, rfl, h⟩ := h
    have : i ≠ j + 1 := by rintro rfl; rw [h.2.1] at hf; cases hf
    exact ⟨j, by omega, h⟩
  refine Sched.leads (M := Moves x t)
    (fun j => ((x.ρ j).pc t).frame? = some f ∧ (x.ρ j).word f.o = 2) _
    (fun j => dRank ((x.ρ j).pc t)) ?_ ?_ ?_ i ⟨hf, h2⟩
  · intro j hR hnm
    refine .inr ?_
    rw [not_moves_pc x hnm]
    exact ⟨⟨hR.1, word2_next x H.inv hR.2⟩, Nat.le_refl _⟩
  · rintro j hR ⟨e, hs, ht⟩
    have hd := done_move (x.inv H.inv j) (x.next_some hs) ht hR.1 hR.2
    rcases frame_step (x.next_some hs) hR.1 with a | a
    · exact .inr ⟨⟨a, word2_next x H.inv hR.2⟩, hd⟩
    · exact .inl ⟨j, rfl, hs ▸ a.1 ▸ rfl, a.2⟩
  · intro j hR
    apply eventually_moves x H
    intro hp; simp [hp, PC.frame?] at hR

theorem frame_persist (x : Exec cfg s0) {t : Tid} {f : Frame} {i : Nat}
    (hf : ((x.ρ i).pc t).frame? = some f) : ∀ j, i ≤ j →
    (∃ j', i ≤ j' ∧ x.σ j' = some (.ret t f.blocking f.arg) ∧ (x.ρ (j' + 1)).pc t = .idle ∧
      (x.ρ (j' + 1)).returned = (t, f.o) :: (x.ρ j').returned) ∨
    ((x.ρ j).pc t).frame? = some f :=
  Sched.keeps_from (.inr hf) fun j hj ih => ih.elim .inl fun a => by
    cases hs : x.σ j with
    | none => rw [x.next_none hs]; exact .inr a
    | some e =>
      rcases frame_step (x.next_some hs) a with b | b
      · exact .inr b
      · exact .inl ⟨j, hj, hs ▸ b.1 ▸ rfl, b.2⟩

theorem fair_performs_ret (x : Exec cfg s0) (H : FairHyps x) {t : Tid} {f : Frame} {i : Nat}
    (hf : ((x.ρ i).pc t).frame? = some f) :
    ∃ j, i ≤ j ∧ x.σ j = some (.ret t f.blocking f.arg) ∧ (x.ρ (j + 1)).pc t = .idle ∧
      (x.ρ (j + 1)).returned = (t, f.o) :: (x.ρ j).returned :=
  let ⟨j, hj, h2⟩ := word_to_2 x H hf
  (frame_persist x hf j hj).elim id fun a =>
    let ⟨j', hj', h⟩ := done_returns x H a h2
    ⟨j', by omega, h⟩

theorem fair_returns (x : Exec cfg s0) (H : FairHyps x) {t : Tid} {i : Nat}
    (hp : (x.ρ i).pc t ≠ .idle) : ∃ j, i ≤ j ∧ (x.ρ j).pc t = .idle := by
  obtain ⟨f, hf⟩ : ∃ f, ((x.ρ i).pc t).frame? = some f := by
    cases hq : (x.ρ i).pc t <;> simp [hq, PC.frame?] at hp ⊢
  obtain ⟨j, hj, -, hidle, -⟩ := fair_performs_ret x H hf
  exact ⟨j + 1, by omega, hidle⟩

end Once
