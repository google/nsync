/-
  Layer `CvFix`: the protocol invariant is preserved by the local transitions.
-/
import NsyncVerif.Proofs.CvFixInvB

namespace NsyncVerif.CvFix

variable {f3 : Bool}

theorem invB_setThr {s : State} {t : Tid} (hi : InvB' f3 s) (ha : InvA s) (x' : Thr)
    (htodo : x'.todo = (s.thr t).todo) (ht : TInvB' f3 (s.setThr t x') t) : InvB' f3 (s.setThr t x') := by
  obtain ⟨b1, b2, b3, b4, b5, b6, b7, b8⟩ := hi
  refine ⟨b1, b2, b3, b4, b5, b6, ?_, b8⟩
  intro u
  by_cases hu : u = t
  · subst hu; exact ht
  · refine tinvB_other (s := s) (b7 u) (ha.thr u) (by simp [hu]) ?_ (fun q _ _ => ⟨rfl, rfl, rfl⟩)
    intro v
    by_cases hv : v = t
    · subst hv; simp [htodo]
    · simp [hv]

/-- The per-thread facts survive a move of the thread, whatever else the transition does, as long
    as no record changes `stat`, no `todo` list changes, and the thread's record keeps `remove_count`
    while the local copy is in use and `waiting` at the end of the wait loop. -/
theorem tinvB_move {s s' : State} {t : Tid} (hi : InvB' f3 s) (ha : InvA s) (m : Move s (s.thr t) (s'.thr t))
    (hs : ∀ q, (s'.recs q).stat = (s.recs q).stat)
    (hc : savedLoc (s'.thr t) = true → (s'.recs (s'.thr t).r).rc = (s.recs (s'.thr t).r).rc)
    (hw : (s'.thr t).loc = .wRel2 ∨ (s'.thr t).loc = .wTail ∨ (s'.thr t).loc = .wHead →
      (s'.recs (s'.thr t).r).waiting = (s.recs (s'.thr t).r).waiting)
    (htodo : ∀ u, (s'.thr u).todo = (s.thr u).todo) : TInvB' f3 s' t := by
  obtain ⟨b1, b2, b3, b4, b5, b6, b7, b8, b9, b10, b11, b12, b13, b14⟩ := hi.thr t
  have hr : (s.thr t).loc ≠ .nLocked → (s'.thr t).r = (s.thr t).r := fun h => m.r.resolve_right h
  -- the local `remove_count` is the old one, or has just been loaded from a queued record
  have hsv : savedLoc (s'.thr t) = true → (s'.thr t).r = (s.thr t).r ∧
      ((savedLoc (s.thr t) = true ∧ (s'.thr t).saved = (s.thr t).saved) ∨
       ((s.recs (s.thr t).r).stat = .queued ∧ (s'.thr t).saved = (s.recs (s.thr t).r).rc)) := by
    intro g
    rcases m.svd g with g' | g'
    · have hn : (s.thr t).loc ≠ .wEnq := by intro h; simp [savedLoc, h] at g'
      exact ⟨hr (by intro h; simp [savedLoc, h] at g'), .inl ⟨g', m.saved.resolve_right hn⟩⟩
    · exact ⟨hr (by rw [g']; simp), .inr ⟨(ha.thr t).enq (.inl g'), m.rc g'⟩⟩
  have hlive : waitLive (s'.thr t) = true → waitLive (s.thr t) = true ∧ (s'.thr t).r = (s.thr t).r := by
    intro g
    have g' := m.live g
    exact ⟨g', hr (by intro h; simp [waitLive, h] at g')⟩
  -- a wait that goes round its loop has seen `waiting != 0`: its record is not self-removed
  have hhead : waitLive (s.thr t) = true → (s.recs (s.thr t).r).stat = .selfOut → (s.thr t).loc ≠ .wHead := by
    intro g so h
    have := b5 g so (.inr (.inr h))
    rw [m.head h] at this; cases this
  constructor
  · intro g q
    rw [hs] at q; rw [hc g]
    obtain ⟨e, h | h⟩ := hsv g <;> rw [e] at q ⊢
    · rw [h.2]; exact b1 h.1 q
    · rw [h.2]
  · intro g q
    rw [hs] at q; rw [hc g]
    obtain ⟨e, h | h⟩ := hsv g <;> rw [e] at q ⊢
    · rw [h.2]; exact b2 h.1 q
    · rw [h.1] at q; simp at q
  · intro g u q
    rw [hs] at q; rw [hc g, htodo u]
    obtain ⟨e, h | h⟩ := hsv g <;> rw [e] at q ⊢
    · rw [h.2]; exact b3 h.1 u q
    · rw [h.1] at q; cases q
  · intro g so
    obtain ⟨g', e⟩ := hlive g
    rw [hs, e] at so
    rcases b4 g' so with h | h | h | h | h | h
    · have := m.rm.mpr (.inl h); rcases this with h | h | h <;> simp [h]
    · have := m.rm.mpr (.inr (.inl h)); rcases this with h | h | h <;> simp [h]
    · have := m.rm.mpr (.inr (.inr h)); rcases this with h | h | h <;> simp [h]
    · rcases m.tail (.inl h) with h | h | h <;> simp [h]
    · rcases m.tail (.inr h) with h | h | h <;> simp [h]
    · exact absurd h (hhead g' so)
  · intro g so hl
    obtain ⟨g', e⟩ := hlive g
    rw [hs, e] at so; rw [hw hl, e]
    obtain ⟨n1, n2, n3⟩ := m.tail' hl
    rcases b4 g' so with h | h | h | h | h | h
    · exact absurd h n1
    · exact absurd h n2
    · exact absurd h n3
    · exact b5 g' so (.inl h)
    · exact b5 g' so (.inr (.inl h))
    · exact b5 g' so (.inr (.inr h))
  · intro g; rw [m.out]; apply b6
    rcases g with g | g | g
    · exact .inl (m.new g)
    · exact .inr (.inl (m.prep g))
    · exact .inr (.inr (m.enq g))
  · intro g ho
    obtain ⟨g', e⟩ := hlive g
    rw [m.out] at ho
    obtain ⟨so, hl⟩ := b7 g' ho
    rw [hs, e]
    refine ⟨so, ?_⟩
    rcases hl with h | h | h
    · exact m.tail (.inl h)
    · exact m.tail (.inr h)
    · exact absurd h (hhead g' so)
  · intro g; rw [m.out, m.exitUnl]; exact b8 (m.after g)
  · intro q hq so
    rw [m.mine] at hq; rw [hs] at so
    rcases (b9 q hq so).1 with a | a
    · exact absurd a m.nEnq.2.2.1
    · exact absurd a m.nEnq.2.2.2
  · rw [m.todo, m.list]; exact b10
  · rw [m.todo]; exact b11
  · rw [m.todo]; intro g; exact m.rcs (b12 g)
  · intro g; exact (m.mu g).elim (fun h => m.list ▸ b13 h) id
  · intro g u q
    rcases g with g | g
    · exact absurd g m.nEnq.2.1
    · -- cv_dequeue saw `waiting == 0` on a record that a waker has not yet woken
      obtain ⟨_, hw0⟩ := m.deq (m.nDeq g)
      rw [hs] at q
      cases hf : f3
      · have := hi.lWait _ u q (.inr hf)
        rcases hw0 with hw0 | hw0
        · rw [hw0] at this; cases this
        · exact absurd g hw0.2
      · rfl
  · intro g; exact absurd g m.nEnq.2.1

/-- A frame outside the wait loop and the wake phase with an empty `todo` list: only the clauses
    about `outcome` and about the records of a wait_n call are left. -/
theorem tinvB_outside {s : State} {t : Tid} (x : Thr) (hx : s.thr t = x)
    (hs : savedLoc x = false) (hl : waitLive x = false) (ha : x.loc.afterLoop = false)
    (ho : x.loc = .wNew ∨ waitPrep x = true ∨ x.loc = .wEnq ∨ x.loc = .wRel → x.out = .ok)
    (hm : ∀ q, q ∈ x.mine → (s.recs q).stat = .selfOut → (x.loc = .nDeqSt ∨ x.loc = .nDeqRel) ∧ x.r = q)
    (ht : x.todo = []) (hw : x.loc ≠ .wwMuLd ∧ x.loc ≠ .wwMuCas) 
    (hq : (x.loc = .nDeqSt ∨ x.loc = .nDeqRel → ∀ u, (s.recs x.r).stat = .listed u → f3 = true) ∧
      (x.loc = .nDeqSt → (s.recs x.r).stat = .selfOut ∨ f3 = true)) : TInvB' f3 s t := by
  constructor <;> rw [hx]
  · intro g; rw [hs] at g; cases g
  · intro g; rw [hs] at g; cases g
  · intro g; rw [hs] at g; cases g
  · intro g; rw [hl] at g; cases g
  · intro g; rw [hl] at g; cases g
  · exact ho
  · intro g; rw [hl] at g; cases g
  · intro g; rw [ha] at g; cases g
  · exact hm
  · intro q h; rw [ht] at h; cases h
  · rw [ht]; exact .nil
  · intro g; exact absurd ht g
  · intro g; exact absurd g (fun h => h.elim hw.1 hw.2)
  · exact hq.1
  · exact hq.2

theorem invB_loc {s : State} {t : Tid} {e : Event} {x' : Thr} (hi : InvB' f3 s) (ha : InvA s) (h : LTr s t e x') :
    InvB' f3 (s.setThr t x') := by
  obtain ⟨b1, b2, b3, b4, b5, b6, b7, b8, b9, b10, b11, b12, b13, b14⟩ := hi.thr t
  cases h.eff with
  | fresh hl hl' hd =>
    obtain ⟨d1, d2, d3, d4⟩ := hd
    obtain ⟨g1, g2, g3, g4, g5, g6⟩ := entry_regions hl'
    have htodo := (hi.thr t).todo_nil (fun h => by rcases h with h | h <;> simp [h, Loc.holds] at hl)
    refine invB_setThr hi ha x' (d2.trans htodo.symm)
      (tinvB_outside x' (setThr_thr_self s t x') g5 g4 g6 (fun _ => d4) (by simp [d3]) d2 ?_ ?_)
    all_goals rcases hl' with h | h | h | h | h <;> simp [h]
  | move m _ =>
    refine invB_setThr hi ha x' m.todo
      (tinvB_move hi ha (by rw [setThr_thr_self]; exact m) (fun _ => rfl) (fun _ => rfl) (fun _ => rfl) ?_)
    intro u
    by_cases hu : u = t
    · subst hu; rw [setThr_thr_self, m.todo]
    · simp [hu]

end NsyncVerif.CvFix
