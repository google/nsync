/-
  Layer `CvFix` (repaired cv.c): everything that is proved of a reachable state, as one invariant and one induction.
  `Full s` collects the groups (`Inv` = structure A and protocol B; C the outcome of the semaphore wait, D sequence
  numbers, E posted wake-ups, F unlinkers and cv_dequeue, G and H the owners of registered records, O the observers
  of debug.c); `full_tr` is their preservation lemmas side by side; the statements `inv_reachable`, `invC_reachable`, …
  that the properties quote are its projections.
-/
import NsyncVerif.Proofs.CvFixObsOwner

namespace NsyncVerif.CvFix

structure Full (s : State) : Prop extends Inv s where
  c : InvC s
  d : InvD s
  e : InvE s
  f : InvF s
  g : InvG s
  h : InvH s
  o : InvO s

theorem full_init : Full init :=
  { a := invA_init, b := (invB_init (f3 := false)).strong, c := invC_init, d := invD_init, e := invE_init,
    f := invF_init, g := invG_init, h := invH_init, o := invO_init }

theorem full_tr {cfg : Config} {s s' : State} {e : Event} (hi : Full s) (h : Tr cfg s e s') : Full s' :=
  have hb := invB_tr hi.a hi.b.weak h
  { a := invA_tr hi.a hi.b.weak h hb.nobad, b := hb.strong, c := invC_tr hi.c h, d := invD_tr hi.a hi.b.weak hi.d h,
    e := invE_tr hi.a hi.b.weak hi.e h, f := invF_tr hi.a hi.b hi.f h, g := invG_tr hi.a hi.b hi.f hi.g h,
    h := invH_tr hi.a hi.b hi.h h, o := invO_tr hi.a hi.o h }

theorem full_reachable {cfg : Config} {s : State} (h : Reachable cfg s) : Full s :=
  reachable_induct full_init (fun _ _ _ => full_tr) s h

variable {cfg : Config} {s : State}

theorem inv_reachable (h : Reachable cfg s) : Inv s := (full_reachable h).toInv
theorem invC_reachable (h : Reachable cfg s) : InvC s := (full_reachable h).c
theorem invD_reachable (h : Reachable cfg s) : InvD s := (full_reachable h).d
theorem invE_reachable (h : Reachable cfg s) : InvE s := (full_reachable h).e
theorem invF_reachable (h : Reachable cfg s) : InvF s := (full_reachable h).f
theorem invG_reachable (h : Reachable cfg s) : InvG s := (full_reachable h).g
theorem invH_reachable (h : Reachable cfg s) : InvH s := (full_reachable h).h
theorem invO_reachable (h : Reachable cfg s) : InvO s := (full_reachable h).o

end NsyncVerif.CvFix
