/-
  Futex layer (C12), fair termination: vocabulary.

  Infinite executions of the acceptor `Futex.step` (`Exec`), weak fairness for the threads
  (`WeakFair`), fairness of the kernel in the sense the futex(2) contract of Model/Futex.lean allows
  (`KernelFair`), the two finiteness hypotheses that turn out to be needed (`FiniteSpurious` for the
  time-out branch of P_with_deadline, `BoundedPosts` for V), and "a matching post exists"
  (`PostPending`).  The theorems are in Props/C12Fair.lean.
-/
import NsyncVerif.Props.C12
import NsyncVerif.Proofs.Sched

namespace NsyncVerif.Futex

/-- The thread that performs an event (`none` for the environment's clock tick). -/
def Event.tid : Event → Option Tid
  | .callP t => some t
  | .callPD t _ => some t
  | .callV t => some t
  | .retP t => some t
  | .retPD t _ => some t
  | .retV t => some t
  | .ld t _ _ _ => some t
  | .st t _ _ _ _ => some t
  | .cas t _ _ _ _ _ _ => some t
  | .fwait t _ _ => some t
  | .fwaitRet t _ => some t
  | .fwake t _ _ => some t
  | .now t _ => some t
  | .tick _ => none

/-- An infinite execution from `s0`; `σ i = none` means that nobody moves at time `i`. -/
structure Exec (s0 : State) where
  ρ : Nat → State
  σ : Nat → Option Event
  start : ρ 0 = s0
  next : ∀ i, match σ i with
    | none => ρ (i + 1) = ρ i
    | some e => step (ρ i) e = .ok (ρ (i + 1))

/-- Thread `t` is inside the futex WAIT system call and queued in the kernel (it went to sleep: the
    compare succeeded).  Whether and when it returns is the kernel's business.  A thread inside the
    call whose compare FAILED (`sleeper = none`: EAGAIN pending) is not in the kernel's hands in this
    sense: the call returns at once, that is a step of the thread. -/
def inKernel (s : State) (t : Tid) : Bool :=
  match s.pc t with
  | .wSleep _ => s.sleeper.isSome
  | _ => false

/-- Thread `t` is queued in the kernel and the kernel OWES it a return: a FUTEX_WAKE has been
    addressed to it, or the absolute timeout it handed to the kernel has been reached by the clock. -/
def kernelDue (s : State) (t : Tid) : Bool :=
  match s.pc t, s.sleeper with
  | .wSleep _, some si => si.woken || expired si.deadline s.now
  | _, _ => false

/-- Weak fairness for the threads: a thread that from time `i` on is inside P / P_with_deadline / V
    and not queued in the kernel moves at some time `j ≥ i`.  (Such a thread always has an accepted
    next event except at `vCas old` with `old + 1 = 2^32`, the count overflow the model rejects as a
    contract violation: an execution that gets there is not weakly fair in this sense, i.e. it is
    outside the scope of the theorems, like the overflow itself.) -/
def WeakFair {s0 : State} (x : Exec s0) : Prop :=
  ∀ t i, (∀ j, i ≤ j → (x.ρ j).pc t ≠ .idle ∧ inKernel (x.ρ j) t = false) →
    ∃ j e, i ≤ j ∧ x.σ j = some e ∧ e.tid = some t

/-- Fairness of the kernel, as far as the contract in the header of Model/Futex.lean lets one state
    it: a thread that from time `i` on is asleep in FUTEX_WAIT and has been the target of a FUTEX_WAKE
    or has a timeout that has passed, returns from the system call (with whatever result the contract
    permits: 0, EINTR, ETIMEDOUT) at some time `j ≥ i`.  Nothing is promised to a sleeper that has
    neither been woken nor timed out. -/
def KernelFair {s0 : State} (x : Exec s0) : Prop :=
  ∀ t i, (∀ j, i ≤ j → kernelDue (x.ρ j) t = true) →
    ∃ j e, i ≤ j ∧ x.σ j = some e ∧ e.tid = some t

/-- Only finitely many spurious wake-ups and EINTRs: from some time on every return of futex WAIT
    with 0 or EINTR is the return of a sleeper that had been marked woken by a FUTEX_WAKE (so it is
    0, and not spurious).  Needed ONLY for the time-out branch of P_with_deadline. -/
def FiniteSpurious {s0 : State} (x : Exec s0) : Prop :=
  ∃ n, ∀ j t r, n ≤ j → x.σ j = some (.fwaitRet t r) → (r = .ok ∨ r = .eintr) → ¬ (x.ρ j).asleep

/-- Only finitely many posts are ever made (the model's own counter `posts` = successful CASes of V
    is bounded along the execution).  Needed ONLY for "V returns": V's CAS loop is lock-free, not
    wait-free. -/
def BoundedPosts {s0 : State} (x : Exec s0) : Prop :=
  ∃ B, ∀ j, (x.ρ j).posts ≤ B

/-- The pc is inside V before its successful CAS (the post is still to be made). -/
def PC.vPre : PC → Bool
  | .vLoad | .vCas _ => true
  | _ => false

/-- The pc is inside V. -/
def PC.isPoster : PC → Bool
  | .vLoad | .vCas _ | .vWake | .vRet => true
  | _ => false

/-- A matching post exists, in the model's own counters: more posts have been made than taken
    (`takes < posts`, equivalently `0 < word` by `C12_conservation`), or a call of V has started and
    has not yet performed its CAS. -/
def PostPending (s : State) : Prop :=
  s.takes < s.posts ∨ ∃ p, (s.pc p).vPre = true

variable {s0 : State}

theorem Exec.next_some (x : Exec s0) {i : Nat} {e : Event} (h : x.σ i = some e) :
    step (x.ρ i) e = .ok (x.ρ (i + 1)) := by
  have := x.next i; rw [h] at this; exact this

/-- One step of the execution: a relation that every state has to itself and every accepted step
    establishes holds between the states at times `j` and `j + 1`. -/
theorem Exec.across (x : Exec s0) {Q : State → State → Prop} (hrefl : ∀ s, Q s s) (j : Nat)
    (hQ : ∀ e, x.σ j = some e → step (x.ρ j) e = .ok (x.ρ (j + 1)) → Q (x.ρ j) (x.ρ (j + 1))) :
    Q (x.ρ j) (x.ρ (j + 1)) := by
  cases hs : x.σ j with
  | none => have := x.next j; rw [hs] at this; rw [this]; exact hrefl _
  | some e => exact hQ e hs (x.next_some hs)

theorem Exec.keeps (x : Exec s0) {P : State → Prop} {n : Nat} (hP : P (x.ρ n))
    (hst : ∀ j e, n ≤ j → x.σ j = some e → step (x.ρ j) e = .ok (x.ρ (j + 1)) → P (x.ρ j) →
      P (x.ρ (j + 1))) : ∀ j, n ≤ j → P (x.ρ j) :=
  Sched.keeps_from (P := fun j => P (x.ρ j)) hP fun j hj =>
    x.across (Q := fun s s' => P s → P s') (fun _ => id) j fun e he hs => hst j e hj he hs

theorem Exec.reach (x : Exec s0) (hr : Reachable s0) (i : Nat) : Reachable (x.ρ i) :=
  x.keeps (n := 0) (x.start.symm ▸ hr) (fun _ _ _ _ hs h => h.step hs) i (Nat.zero_le _)

theorem Exec.mono (x : Exec s0) (f : State → Nat) (hst : ∀ {s s' e}, step s e = .ok s' → f s ≤ f s')
    {i j : Nat} (hij : i ≤ j) : f (x.ρ i) ≤ f (x.ρ j) :=
  x.keeps (P := fun s => f (x.ρ i) ≤ f s) (Nat.le_refl _) (fun _ _ _ _ hs h => Nat.le_trans h (hst hs))
    j hij

def Moves (x : Exec s0) (t : Tid) (j : Nat) : Prop := ∃ e, x.σ j = some e ∧ e.tid = some t

/-- What every step of another thread (and a step at which nobody moves) establishes between
    the state before and after, holds across a time at which `t` does not move. -/
theorem not_moves_rel (x : Exec s0) (hr : Reachable s0) {t : Tid} {Q : State → State → Prop}
    (hrefl : ∀ s, Q s s) (hQ : ∀ {s s' e}, Inv s → step s e = .ok s' → e.tid ≠ some t → Q s s')
    {j : Nat} (h : ¬ Moves x t j) : Q (x.ρ j) (x.ρ (j + 1)) :=
  x.across hrefl j fun e he hs => hQ (x.reach hr j).inv hs fun ht => h ⟨e, he, ht⟩

end NsyncVerif.Futex
