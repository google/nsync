import NsyncVerif.Gen.Sites
import NsyncVerif.Model.Expected
/-
  Tie lemmas (T-gen): the tables regenerated from /repo's current sources agree with what the models
  assume.  Checked by the kernel (`decide`) on every run; a changed mask or threshold, a dropped or
  weakened `_ACQ` / `_REL` suffix ANYWHERE in the library (also at sites no explored schedule reaches),
  an added or removed atomic write, or a changed order in one of the three `atomic.h` flavours makes one
  of these fail.  Adding relaxed loads does not.
-/
namespace NsyncVerif.Tie
open NsyncVerif

def isWrite (m : String) : Bool := m != "ATM_LOAD" && m != "ATM_LOAD_ACQ"

def countAcq (k : String × String × String) : Nat :=
  (Gen.sites.filter (fun s => s.2.2.1 == "ATM_LOAD_ACQ" && s.1 == k.1 && s.2.1 == k.2.1 && s.2.2.2 == k.2.2)).length

/-- G3a: the atomic WRITE sites of the library (file, function, macro with its order suffix, location). -/
theorem writes_tie : (Gen.sites.filter (fun s => isWrite s.2.2.1) == Expected.writes) = true := by decide +kernel

/-- G3b: every acquire load the models rely on is still an acquire load. -/
theorem acq_loads_tie : (Expected.acqLoads.all (fun e => decide (e.2 ≤ countAcq e.1))) = true := by decide +kernel

end NsyncVerif.Tie
