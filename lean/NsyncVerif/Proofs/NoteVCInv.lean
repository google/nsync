/-
  Layer `Note` × vector clocks: the invariant of the machine component.

  `VInv`: (last) the flag of note `k` is set iff some store `notified := 1` was performed on it, and
  the release clock of `note<k>.notified` dominates the clock the LATEST storer had just before its
  store (every accepted store to that word is a release store: the release sequence is restarted,
  never broken); (seen) a thread whose acquire load read 1 from the store `(sets k)[i]` — or that
  performed that store — has a clock that dominates that storer's clock from before the store;
  (callc) which in turn dominates the storer's clock at its API call.
-/
import NsyncVerif.Proofs.NoteVCStep


namespace Note
open NsyncVerif

structure VInv (p : PState) : Prop where
  ccle : ∀ t, VC.Clock.le (p.cc t) (p.m.vc t)
  nil : ∀ k, p.sets k = [] → (p.s.notes k).notified = false
  last : ∀ k g, (p.sets k).getLast? = some g →
    (p.s.notes k).notified = true ∧ VC.Clock.le g.clk (p.m.relc (.notified k))
  callc : ∀ k g, g ∈ p.sets k → VC.Clock.le g.callc g.clk
  seen : ∀ t k i, p.saw t k = i + 1 →
    ∃ g, (p.sets k)[i]? = some g ∧ VC.Clock.le g.clk (p.m.vc t)

theorem VInv.init : VInv pinit := by
  refine ⟨?_, ?_, ?_, ?_, ?_⟩
  · intro t i; simp [pinit, VC.Clock.bot]
  · intro k _; rfl
  · intro k g h; simp [pinit] at h
  · intro k g h; simp [pinit] at h
  · intro t k i h; simp [pinit] at h

/-! ### the machine on the three kinds of atomic events -/

theorem vc_ld_relc (m : VC.St VLoc) (t : Tid) (o : VC.Ord) (l : VLoc) :
    (VC.step m ⟨t, .ld, o, l⟩).relc = m.relc := by
  unfold VC.step; simp only; split <;> rfl

theorem vc_st_relc_ne (m : VC.St VLoc) (t : Tid) (o : VC.Ord) (l l' : VLoc) (h : l' ≠ l) :
    (VC.step m ⟨t, .st, o, l⟩).relc l' = m.relc l' := by
  simp [VC.step, VC.upd, h]

theorem vc_st_relc_rel (m : VC.St VLoc) (t : Tid) (l : VLoc) :
    (VC.step m ⟨t, .st, .rel, l⟩).relc l = m.vc t := by
  simp [VC.step, VC.upd, VC.Ord.isRel]

theorem vstep_eq (m : VC.St VLoc) (e : Event) : vstep m e = VC.stepO m (evVC e) := by
  unfold vstep; cases evVC e <;> rfl

theorem vstep_mono (m : VC.St VLoc) (e : Event) (u : Tid) :
    VC.Clock.le (m.vc u) ((vstep m e).vc u) := by
  rw [vstep_eq]; exact VC.stepO_mono _ _ u

/-- Steps that are neither an atomic event nor a `call`: nothing the invariant looks at changes. -/
theorem vinv_frame {p p' : PState} {e : Event} (hr : Reachable p.s) (hv : VInv p)
    (hs : step p.s e = .ok p'.s) (hm : p'.m = p.m) (hcc : p'.cc = p.cc) (hsets : p'.sets = p.sets)
    (hsaw : p'.saw = p.saw) (hne : ∀ t site o k n ob, e ≠ .stNote t site o k n ob) : VInv p' := by
  have hf : ∀ k, (p'.s.notes k).notified = (p.s.notes k).notified :=
    fun k => flag_frame hr hs k (fun t site o n ob => hne t site o k n ob)
  refine ⟨?_, ?_, ?_, ?_, ?_⟩
  · intro t; rw [hcc, hm]; exact hv.ccle t
  · intro k h; rw [hf]; rw [hsets] at h; exact hv.nil k h
  · intro k g h; rw [hf, hm]; rw [hsets] at h; exact hv.last k g h
  · intro k g h; rw [hsets] at h; exact hv.callc k g h
  · intro t k i h; rw [hsets, hm]; rw [hsaw] at h; exact hv.seen t k i h

theorem vinv_step {p p' : PState} {e : Event} (hr : Reachable p.s) (hv : VInv p)
    (hp : pstep p e = .ok p') : VInv p' := by
  obtain ⟨hs, hm, hcc, _, hsets, hsaw, _⟩ := pstep_ok hp
  have hmono : ∀ u, VC.Clock.le (p.m.vc u) (p'.m.vc u) := fun u => by
    rw [hm]; exact vstep_mono _ _ u
  cases e with
  | call t a =>
    have hf : ∀ k, (p'.s.notes k).notified = (p.s.notes k).notified :=
      fun k => flag_frame hr hs k (fun _ _ _ _ _ => by simp)
    have hm' : p'.m = p.m := hm
    have hsets' : p'.sets = p.sets := hsets
    refine ⟨?_, ?_, ?_, ?_, ?_⟩
    · intro u; rw [hcc, hm']; simp only [gCc]
      split
      · next hu => subst hu; exact VC.Clock.le_refl _
      · exact hv.ccle u
    · intro k h; rw [hf]; rw [hsets'] at h; exact hv.nil k h
    · intro k g h; rw [hf, hm']; rw [hsets'] at h; exact hv.last k g h
    · intro k g h; rw [hsets'] at h; exact hv.callc k g h
    · intro u k i h
      rw [hsets', hm']; rw [hsaw] at h; simp only [gSaw] at h
      by_cases hu : u = t
      · rw [if_pos hu] at h; cases h
      · rw [if_neg hu] at h; exact hv.seen u k i h
  | ld t site o k obs =>
    have hf : ∀ x, (p'.s.notes x).notified = (p.s.notes x).notified :=
      fun x => flag_frame hr hs x (fun _ _ _ _ _ => by simp)
    have hsets' : p'.sets = p.sets := hsets
    have ho := (ld_ok hs).1
    subst ho
    have hm' : p'.m = VC.step p.m ⟨t, .ld, .acq, .notified k⟩ := hm
    have hrelc : p'.m.relc = p.m.relc := by rw [hm']; exact vc_ld_relc _ _ _ _
    refine ⟨?_, ?_, ?_, ?_, ?_⟩
    · intro u; rw [hcc]; exact VC.Clock.le_trans (hv.ccle u) (hmono u)
    · intro x h; rw [hf]; rw [hsets'] at h; exact hv.nil x h
    · intro x g h; rw [hf, hrelc]; rw [hsets'] at h; exact hv.last x g h
    · intro x g h; rw [hsets'] at h; exact hv.callc x g h
    · intro u x i h
      rw [hsets']; rw [hsaw] at h; simp only [gSaw] at h
      by_cases hc : u = t ∧ x = k ∧ (p.s.notes k).notified = true
      · rw [if_pos hc] at h
        obtain ⟨hu, hx, hflag⟩ := hc
        subst hu hx
        -- the load read 1: it read from the latest store
        cases hl : (p.sets x).getLast? with
        | none =>
          have := hv.nil x (List.getLast?_eq_none_iff.mp hl)
          rw [hflag] at this; cases this
        | some g =>
          have hlast := hv.last x g hl
          rw [List.getLast?_eq_getElem?, h] at hl
          refine ⟨g, by simpa using hl, ?_⟩
          have hacq := VC.acq_sees_relc p.m ⟨u, .ld, .acq, .notified x⟩ rfl (Or.inl rfl)
          rw [← hm'] at hacq
          exact VC.Clock.le_trans hlast.2 hacq
      · rw [if_neg hc] at h
        obtain ⟨g, hg1, hg2⟩ := hv.seen u x i h
        exact ⟨g, hg1, VC.Clock.le_trans hg2 (hmono u)⟩
  | stNote t site o k n ob =>
    obtain ⟨ho, _, hset, _, _⟩ := stNote_ok hs
    subst ho
    have hf : ∀ x, x ≠ k → (p'.s.notes x).notified = (p.s.notes x).notified :=
      fun x hx => flag_frame hr hs x (fun _ _ _ _ _ he => by cases he; exact hx rfl)
    have hm' : p'.m = VC.step p.m ⟨t, .st, .rel, .notified k⟩ := hm
    have hsk : p'.sets k = p.sets k ++ [newSetter p t] := by rw [hsets]; simp [gSets]
    have hso : ∀ x, x ≠ k → p'.sets x = p.sets x := fun x hx => by rw [hsets]; simp [gSets, hx]
    refine ⟨?_, ?_, ?_, ?_, ?_⟩
    · intro u; rw [hcc]; exact VC.Clock.le_trans (hv.ccle u) (hmono u)
    · intro x h
      by_cases hx : x = k
      · rw [hx, hsk] at h; simp at h
      · rw [hf x hx]; rw [hso x hx] at h; exact hv.nil x h
    · intro x g h
      by_cases hx : x = k
      · rw [hx, hsk, List.getLast?_append] at h
        simp at h
        rw [hx, ← h]
        refine ⟨hset, ?_⟩
        rw [hm', vc_st_relc_rel]
        exact VC.Clock.le_refl _
      · rw [hf x hx, hm', vc_st_relc_ne _ _ _ _ _ (by simp [hx])]
        rw [hso x hx] at h; exact hv.last x g h
    · intro x g h
      by_cases hx : x = k
      · rw [hx, hsk, List.mem_append] at h
        rcases h with h | h
        · exact hv.callc k g h
        · simp at h; rw [h]; exact hv.ccle t
      · rw [hso x hx] at h; exact hv.callc x g h
    · intro u x i h
      rw [hsaw] at h; simp only [gSaw] at h
      by_cases hc : u = t ∧ x = k
      · rw [if_pos hc] at h
        obtain ⟨hu, hx⟩ := hc
        have hi : i = (p.sets k).length := by omega
        refine ⟨newSetter p t, by rw [hx, hsk, hi]; simp, ?_⟩
        rw [hu]
        exact hmono t
      · rw [if_neg hc] at h
        obtain ⟨g, hg1, hg2⟩ := hv.seen u x i h
        refine ⟨g, ?_, VC.Clock.le_trans hg2 (hmono u)⟩
        by_cases hx : x = k
        · rw [hx, hsk, List.getElem?_append_left]
          · rw [← hx]; exact hg1
          · rcases Nat.lt_or_ge i (p.sets k).length with hlt | hge
            · exact hlt
            · rw [hx, List.getElem?_eq_none hge] at hg1; cases hg1
        · rw [hso x hx]; exact hg1
  | stW t site o r n ob =>
    have hf : ∀ x, (p'.s.notes x).notified = (p.s.notes x).notified :=
      fun x => flag_frame hr hs x (fun _ _ _ _ _ => by simp)
    have hsets' : p'.sets = p.sets := hsets
    have hsaw' : p'.saw = p.saw := hsaw
    have hm' : p'.m = VC.step p.m ⟨t, .st, toOrd o, .waiting r⟩ := hm
    refine ⟨?_, ?_, ?_, ?_, ?_⟩
    · intro u; rw [hcc]; exact VC.Clock.le_trans (hv.ccle u) (hmono u)
    · intro x h; rw [hf]; rw [hsets'] at h; exact hv.nil x h
    · intro x g h
      rw [hf, hm', vc_st_relc_ne _ _ _ _ _ (by simp)]
      rw [hsets'] at h; exact hv.last x g h
    · intro x g h; rw [hsets'] at h; exact hv.callc x g h
    · intro u x i h
      rw [hsets']; rw [hsaw'] at h
      obtain ⟨g, hg1, hg2⟩ := hv.seen u x i h
      exact ⟨g, hg1, VC.Clock.le_trans hg2 (hmono u)⟩
  | _ => exact vinv_frame hr hv hs hm hcc hsets hsaw (fun _ _ _ _ _ _ => by simp)

/-- The invariant of the machine component holds in every reachable product state. -/
theorem PReachable.vinv {p : PState} (h : PReachable p) : VInv p := by
  refine PReachable.induction (P := VInv) VInv.init ?_ p h
  intro p e p' hr hv hs
  exact vinv_step hr.s hv hs

end Note
