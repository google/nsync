import NsyncVerif.Props.C06
import NsyncVerif.Proofs.MuCFairRegions
/-
  MuC, fair termination: the reduction of `C06_fair_termination_full` to "the execution settles"
  (`C06_fair_quiescence_or_sleepers_full`), through `C06_no_stuck_state`; and an execution in which, from some time
  on, no thread takes a step of the library has settled (`settled_of_no_steps`): what is missing is a pure
  termination statement, `C06_fair_finite_steps_full`.
-/
namespace NsyncVerif.MuC

variable {cfg : Cfg} {s0 : State}

/-- The deadline of a timed P is not later than the deadline of the call, in every reachable state. -/
theorem reachable_okD {s : State} (h : Reachable cfg s) : ∀ t, (s.pc t).okD :=
  reachable_induction (P := fun s => ∀ t, (s.pc t).okD) (fun t => by simp [init, PC.okD])
    (fun _ _ _ hr hp hs t => (keep_step (reachable_inv1 hr) hs t).2.2 (hp t)) s h

theorem dlLe_none {d : Option Int} (h : dlLe none d = true) : d = none := by
  cases d with
  | none => rfl
  | some _ => simp [dlLe] at h

/-- One time step of an execution keeps every thread's call. -/
theorem exec_keep (x : Exec cfg s0) (hr : Reachable cfg s0) (t : Tid) (j : Nat) :
    CallKeep ((x.ρ j).pc t) ((x.ρ (j + 1)).pc t) :=
  x.next_rel (r := fun a b => CallKeep (a.pc t) (b.pc t)) j (CallKeep.refl _)
    (fun _ _ hs => keep_step (reachable_inv1 (x.reach hr j)) hs t)

/-- While the thread does not return it stays inside the same call. -/
theorem call_kept (x : Exec cfg s0) (hr : Reachable cfg s0) (t : Tid) {i j : Nat} (hij : i ≤ j)
    (hni : ∀ j', i ≤ j' → (x.ρ j').pc t ≠ .idle) :
    (∀ c, ((x.ρ i).pc t).mw = some c → ∃ c', ((x.ρ j).pc t).mw = some c' ∧ c.same c') ∧
    (((x.ρ i).pc t).mw = none → ((x.ρ j).pc t).mw = none) :=
  Sched.keeps_from
    (P := fun j => (∀ c, ((x.ρ i).pc t).mw = some c → ∃ c', ((x.ρ j).pc t).mw = some c' ∧ c.same c') ∧
      (((x.ρ i).pc t).mw = none → ((x.ρ j).pc t).mw = none))
    ⟨fun c h => ⟨c, h, c.same_refl⟩, id⟩
    (fun j hj ⟨a, b⟩ => by
      have hk := exec_keep x hr t j
      refine ⟨fun c hc => ?_, fun hc => (hk.2.1 (hni j hj) (b hc)).resolve_left (hni (j + 1) (by omega))⟩
      obtain ⟨c1, h1, s1⟩ := a c hc
      rcases hk.1 c1 h1 with e | ⟨c2, h2, s2⟩
      · exact absurd e (hni (j + 1) (by omega))
      · exact ⟨c2, h2, MW.same_trans s1 s2⟩) j hij

/-- In a settled execution a thread that never returns sleeps, at every late time, in a P without deadline of
    nsync_mu_wait whose call has no deadline and a condition that is false on the data. -/
theorem settled_sleeper (x : Exec cfg s0) (hr : Reachable cfg s0) (hc : ContractKept x) {n : Nat} (hs : SettledFrom x n)
    {t : Tid} {J : Nat} (hJ : n ≤ J) (hni : (x.ρ J).pc t ≠ .idle) :
    ∃ c cd, (x.ρ J).pc t = .mwPdRet c none ∧ c.cond = some cd ∧ evalCond (x.ρ J).data cd = false ∧ c.dl = none := by
  have hrJ := x.reach hr J
  have hq := hs J hJ
  rcases hq t with ⟨a, _⟩ | ha
  · exact absurd a hni
  · obtain ⟨c, k, cd, h1, h2, _, h4, h5⟩ := C06_no_stuck_state cfg (x.ρ J) hrJ hq (hc J) t ha
    refine ⟨c, cd, h1, ?_, h5, ?_⟩
    · rw [← reachable_pd_cond hrJ h1 h2]; exact h4
    · have := reachable_okD hrJ t
      rw [h1] at this
      exact dlLe_none this

/-- THE REDUCTION: if the execution settles (every thread eventually idle holding nothing or asleep, for ever),
    every call returns, nsync_mu_wait_with_deadline under the proviso `MustReturn`. -/
theorem fair_termination_of_settled (x : Exec cfg s0) (hr : Reachable cfg s0) (hc : ContractKept x)
    (hn : NoteHonoured x) {n : Nat} (hs : SettledFrom x n) (t : Tid) (i : Nat) (hm : MustReturn x t i) :
    ∃ j, i ≤ j ∧ (x.ρ j).pc t = .idle := by
  apply Classical.byContradiction
  intro hne
  have hni : ∀ j, i ≤ j → (x.ρ j).pc t ≠ .idle := fun j hj e => hne ⟨j, hj, e⟩
  have sleeper : ∀ J, i ≤ J → n ≤ J → ∃ c cd, (x.ρ J).pc t = .mwPdRet c none ∧ c.cond = some cd ∧
      evalCond (x.ρ J).data cd = false ∧ c.dl = none :=
    fun J h1 h2 => settled_sleeper x hr hc hs h2 (hni J h1)
  obtain ⟨cJ, cdJ, hpJ, hcJ, _, hdJ⟩ := sleeper (max i n) (by omega) (by omega)
  have hp := call_kept x hr t (show i ≤ max i n by omega) hni
  cases hmw : ((x.ρ i).pc t).mw with
  | none =>
    have := hp.2 hmw
    rw [hpJ] at this; simp [PC.mw] at this
  | some c0 =>
    obtain ⟨c', h1, hsame⟩ := hp.1 c0 hmw
    rw [hpJ] at h1; simp only [PC.mw, Option.some.injEq] at h1; subst h1
    rcases hm c0 hmw with hdl | ⟨j, c1, hij, hmw1, hsaw⟩ | hcond
    · exact hdl (hsame.2.1 ▸ hdJ)
    · -- the note was seen at time j: from then on `saw`, but the thread sleeps in a P
      obtain ⟨c2, cd2, hp2, _, _, _⟩ := sleeper (max j n) (by omega) (by omega)
      have hp' := call_kept x hr t (show j ≤ max j n by omega) (fun j' h => hni j' (by omega))
      obtain ⟨c3, h3, hs3⟩ := hp'.1 c1 hmw1
      rw [hp2] at h3; simp only [PC.mw, Option.some.injEq] at h3; subst h3
      have := hn.1 (max j n) t c2 none hp2
      rw [hs3.2.2.2 hsaw] at this; cases this
    · -- the condition is true from some time on, but the sleeper's condition is false
      obtain ⟨n', hn'⟩ := hcond cdJ (hsame.1 ▸ hcJ)
      obtain ⟨c2, cd2, hp2, hc2, hf2, _⟩ := sleeper (max (max i n) n') (by omega) (by omega)
      have hp' := call_kept x hr t (show i ≤ max (max i n) n' by omega) hni
      obtain ⟨c3, h3, hs3⟩ := hp'.1 c0 hmw
      rw [hp2] at h3; simp only [PC.mw, Option.some.injEq] at h3; subst h3
      have e : cd2 = cdJ := by
        have : some cd2 = some cdJ := by rw [← hc2, hs3.1, ← hsame.1, hcJ]
        exact Option.some.inj this
      rw [e, hn' _ (by omega)] at hf2; cases hf2
/-! ### an execution in which nothing moves any more has settled -/

/-- From time `N` on no thread takes a step of the library. -/
def NoStepsFrom (x : Exec cfg s0) (N : Nat) : Prop := ∀ j, N ≤ j → ∀ t, ¬ RMoves x t j

/-- What is left open: only finitely many library steps happen.  NOT PROVED. -/
def C06_fair_finite_steps_full : Prop :=
  ∀ (cfg : Cfg) (s0 : State) (x : Exec cfg s0), FairHyps x → ∃ N, NoStepsFrom x N

/-- What a step that is neither a library step nor an environment post can change. -/
structure Quiet (s s' : State) : Prop where
  pc : s'.pc = s.pc
  held : s'.held = s.held
  now : s.now ≤ s'.now
  wr : ∀ k, (s.wr k).owner ≠ none → (s'.wr k).sem = (s.wr k).sem ∧ (s'.wr k).owner = (s.wr k).owner

theorem Quiet.refl (s : State) : Quiet s s := ⟨rfl, rfl, Int.le_refl _, fun _ _ => ⟨rfl, rfl⟩⟩

theorem Quiet.trans {a b c : State} (h1 : Quiet a b) (h2 : Quiet b c) : Quiet a c := by
  refine ⟨h2.pc.trans h1.pc, h2.held.trans h1.held, Int.le_trans h1.now h2.now, fun k hk => ?_⟩
  obtain ⟨a1, a2⟩ := h1.wr k hk
  obtain ⟨b1, b2⟩ := h2.wr k (by rw [a2]; exact hk)
  exact ⟨b1.trans a1, b2.trans a2⟩

theorem quiet_step {s s' : State} {e : Event} (h : step cfg s e = .ok s') (hd : ∀ t, e.tid = some t → e.isData = true)
    (hv : e.isEnvV = false) : Quiet s s' := by
  cases e
  case envV k => simp [Event.isEnvV] at hv
  case envSem k n =>
    simp only [step] at h
    split at h
    · rename_i ho
      cases h
      refine ⟨rfl, rfl, Int.le_refl _, fun k' hk' => ?_⟩
      have : k' ≠ k := fun e => hk' (e ▸ ho)
      simp [setFn, this]
    · cases h
  case tick n =>
    simp only [step] at h
    split at h
    · rename_i hle; cases h; exact ⟨rfl, rfl, hle, fun _ _ => ⟨rfl, rfl⟩⟩
    · cases h
  case dataW | dataR =>
    rcases data_step_eff h rfl with ⟨_, _, _, _, rfl⟩ | rfl <;> exact ⟨rfl, rfl, Int.le_refl _, fun _ _ => ⟨rfl, rfl⟩⟩
  all_goals (have := hd _ rfl; simp [Event.isData] at this)

/-- After the last library step and the last environment post the state is frozen. -/
theorem quiet_between (x : Exec cfg s0) {N : Nat} (hN : NoStepsFrom x N)
    (hv : ∀ j e, N ≤ j → x.σ j = some e → e.isEnvV = false) {i j : Nat} (hi : N ≤ i) (hij : i ≤ j) :
    Quiet (x.ρ i) (x.ρ j) :=
  Sched.rel_from Quiet.refl Quiet.trans (f := x.ρ) (fun j hj => x.next_rel j (Quiet.refl _) (fun e he hs =>
    quiet_step hs (fun t ht => by
      cases hdt : e.isData with
      | true => rfl
      | false => exact absurd ⟨e, he, ht, hdt⟩ (hN j (by omega) t)) (hv j e (by omega) he))) j hij

/-- Being awake persists while nothing moves. -/
theorem awake_persists {s s' : State} {t : Tid} (h4 : Inv4 s) (hq : Quiet s s') (hna : ¬ AsleepOnSem s t) :
    ¬ AsleepOnSem s' t := by
  rintro (⟨c, k, a, b, d⟩ | ⟨c, k, dl, a, b, d, f⟩)
  · rw [hq.pc] at a
    have hown := h4.own t k (by rw [a]; simp [PC.ws, SL.ws, b])
    rw [(hq.wr k (by rw [hown]; simp)).1] at d
    exact hna (Or.inl ⟨c, k, a, b, d⟩)
  · rw [hq.pc] at a
    have hown := h4.own t k (by rw [a]; simp [PC.ws, b])
    rw [(hq.wr k (by rw [hown]; simp)).1] at d
    exact hna (Or.inr ⟨c, k, dl, a, b, d, fun d' hd' => Int.lt_of_le_of_lt hq.now (f d' hd')⟩)

/-- An execution in which nothing moves any more has settled. -/
theorem settled_of_no_steps (x : Exec cfg s0) (hy : FairHyps x) {N : Nat} (hN : NoStepsFrom x N) :
    ∃ n, SettledFrom x n := by
  obtain ⟨nv, hnv⟩ := hy.envPosts
  obtain ⟨na, hna⟩ := hy.arrivals
  let M := max N (max nv na)
  have hNM : NoStepsFrom x M := fun j hj t => hN j (by omega) t
  have hv : ∀ j e, M ≤ j → x.σ j = some e → e.isEnvV = false := fun j e hj he => hnv j e (by omega) he
  refine ⟨M, fun j hj t => ?_⟩
  have hpc : ∀ j', j ≤ j' → (x.ρ j').pc t = (x.ρ j).pc t := fun j' h => by rw [(quiet_between x hNM hv hj h).pc]
  have h4 : ∀ j', Inv4 (x.ρ j') := fun j' => reachable_inv4 (x.reach hy.reach j')
  -- the thread is never awake inside a call
  have hsleep : ∀ j', j ≤ j' → (x.ρ j').pc t ≠ .idle → AsleepOnSem (x.ρ j') t := by
    intro j' hj' hne
    apply Classical.byContradiction
    intro hna'
    obtain ⟨j2, e, h1, h2, h3, h5⟩ := hy.fair t j' (fun j2 hj2 =>
      ⟨by rw [hpc j2 (by omega), ← hpc j' hj']; exact hne,
       awake_persists (h4 j') (quiet_between x hNM hv (by omega) hj2) hna'⟩)
    exact hNM j2 (by omega) t ⟨e, h2, h3, h5⟩
  by_cases hidle : (x.ρ j).pc t = .idle
  · left
    refine ⟨hidle, ?_⟩
    -- an idle holder would have to call, and a call is a library step
    apply Classical.byContradiction
    intro hh
    obtain ⟨j2, a, h1, h2⟩ := hy.release t j hh
    exact hNM j2 (by omega) t ⟨_, h2, rfl, rfl⟩
  · right
    rcases hsleep j (Nat.le_refl _) hidle with ⟨c, k, a, b, d⟩ | ⟨c, k, dl, a, b, d, f⟩
    · exact Or.inl ⟨c, k, a, b, d⟩
    · cases dl with
      | none => exact Or.inr ⟨c, k, a, b, d⟩
      | some dd =>
        -- the clock passes the deadline; then the thread is awake
        exfalso
        obtain ⟨j2, h1, h2⟩ := hy.clock t j c dd a
        rcases h2 with h2 | h2
        · rcases hsleep j2 h1 (by rw [hpc j2 h1]; exact hidle) with ⟨c', k', a', _⟩ | ⟨c', k', dl', a', b', d', f'⟩
          · rw [hpc j2 h1, a] at a'; cases a'
          · rw [hpc j2 h1, a] at a'; cases a'
            have := f' dd rfl
            omega
        · exact h2 (by rw [hpc j2 h1]; exact a)
end NsyncVerif.MuC
