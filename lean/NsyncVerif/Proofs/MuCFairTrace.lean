import NsyncVerif.Proofs.MuCFairExec
import NsyncVerif.Proofs.MuCReach
import NsyncVerif.Proofs.Lasso
/-
  MuC, fair termination (C06): a finite accepted trace followed by idling for ever (`traceExec`) or by a loop
  repeated for ever (`lassoExec`), as an `Exec`, and criteria for `WeakFair` / `HoldersRelease` / `FiniteArrivals` /
  `FiniteRcFails` / `FiniteEnvPosts` of an execution whose tail is idle (the constructions of Proofs/MuQFairTrace.lean,
  for the model MuC).

  Differences from MuQ:
  * in MuC an idle thread can also emit `dataW` / `dataR` (client data accesses inside a critical section), so
    `idle_step_call` has a three-way conclusion; `idle_step_frame` says that the two others change neither pc nor
    `held`.  `holdersRelease_of_recurrent` is proved through `held_until_call`.
  * `acceptsF` / `asleepSemB` are named so because `NsyncVerif.MuC.accepts` (Props/C05Mu.lean, the same definition)
    and `NsyncVerif.MuC.asleepB` (Props/C06.lean, decides `Asleep`, not `AsleepOnSem`) exist already and the root
    module imports everything.
-/
namespace NsyncVerif.MuC

/-- The state after the first `i` events (the initial state if the trace is not accepted). -/
def stateAt (cfg : Cfg) (evs : List Event) (i : Nat) : State :=
  match run cfg init (evs.take i) with
  | .ok s => s
  | .error _ => init

theorem stateAt_eq (cfg : Cfg) (evs : List Event) (i : Nat) :
    stateAt cfg evs i = Lasso.after (run cfg) init (evs.take i) := by
  unfold stateAt Lasso.after; cases run cfg init (evs.take i) <;> rfl

theorem stateAt_ok {cfg : Cfg} {evs : List Event} {sf : State} (h : run cfg init evs = .ok sf) (i : Nat) :
    run cfg init (evs.take i) = .ok (stateAt cfg evs i) := by
  rw [stateAt_eq]; exact Lasso.after_take (isRun cfg) h i

theorem stateAt_ge {cfg : Cfg} {evs : List Event} {sf : State} (h : run cfg init evs = .ok sf) {i : Nat}
    (hi : evs.length ≤ i) : stateAt cfg evs i = sf := by
  simp only [stateAt, List.take_of_length_le hi, h]

/-- A finite accepted trace, then nothing for ever. -/
def traceExec (cfg : Cfg) (evs : List Event) (sf : State) (h : run cfg init evs = .ok sf) : Exec cfg init :=
  { ρ := stateAt cfg evs
    σ := fun i => evs[i]?
    start := by simp [stateAt, run]
    next := by
      intro i
      cases he : evs[i]? with
      | none => simp only [stateAt_eq]; exact Lasso.after_none h he
      | some e => simp only [stateAt_eq]; exact Lasso.after_some (isRun cfg) h he }

theorem traceExec_tail {cfg : Cfg} {evs : List Event} {sf : State} (h : run cfg init evs = .ok sf) {j : Nat}
    (hj : evs.length ≤ j) : (traceExec cfg evs sf h).ρ j = sf ∧ (traceExec cfg evs sf h).σ j = none :=
  ⟨stateAt_ge h hj, by show evs[j]? = none; simpa using hj⟩

/-- From `idle` a thread can only call, or access the client data. -/
theorem idle_step_call {cfg : Cfg} {s s' : State} {e : Event} {t : Tid} (h : step cfg s e = .ok s')
    (he : e.tid = some t) (hp : s.pc t = .idle) :
    (∃ a, e = .call t a) ∨ (∃ x v, e = .dataW t x v) ∨ (∃ x v, e = .dataR t x v) := by
  cases e <;> simp only [Event.tid, Option.some.injEq, reduceCtorEq] at he
  all_goals subst he
  case call t a => exact Or.inl ⟨a, rfl⟩
  case dataW t x v => exact Or.inr (Or.inl ⟨x, v, rfl⟩)
  case dataR t x v => exact Or.inr (Or.inr ⟨x, v, rfl⟩)
  all_goals (simp [step, stepRet, stepLd, stepSt, stepCas, stepCond, hp] at h)

/-- A step of an idle thread that is not a call changes neither its pc nor its `held`. -/
theorem idle_step_frame {cfg : Cfg} {s s' : State} {e : Event} {t : Tid} (h : step cfg s e = .ok s')
    (he : e.tid = some t) (hp : s.pc t = .idle) (hc : ∀ a, e ≠ .call t a) :
    s'.pc t = s.pc t ∧ s'.held t = s.held t := by
  rcases idle_step_call h he hp with ⟨a, rfl⟩ | ⟨x, v, rfl⟩ | ⟨x, v, rfl⟩
  · exact absurd rfl (hc a)
  · simp only [step] at h
    split at h
    · cases h; exact ⟨rfl, rfl⟩
    · cases h
  · simp only [step] at h
    split at h
    · cases h; exact ⟨rfl, rfl⟩
    · cases h

variable {cfg : Cfg} {s0 : State}

theorem weakFair_of_quiescent (x : Exec cfg s0) (N : Nat) (hN : ∀ j, N ≤ j → ∀ t, (x.ρ j).pc t = .idle) :
    WeakFair x := by
  intro t i h
  exact absurd (hN (max i N) (by omega) t) (h (max i N) (by omega)).1

theorem weakFair_of_final (x : Exec cfg s0) (N : Nat)
    (hN : ∀ j, N ≤ j → ∀ t, (x.ρ j).pc t = .idle ∨ AsleepOnSem (x.ρ j) t) : WeakFair x := by
  intro t i h
  rcases hN (max i N) (by omega) t with h1 | h1
  · exact absurd h1 (h (max i N) (by omega)).1
  · exact absurd h1 (h (max i N) (by omega)).2

/-- A holder keeps what it holds as long as it makes no call. -/
theorem held_until_call (x : Exec cfg s0) (hr : Reachable cfg s0) {t : Tid} {i : Nat}
    (hheld : (x.ρ i).held t ≠ none) : ∀ d, (∀ j a, i ≤ j → j < i + d → x.σ j ≠ some (.call t a)) →
    (x.ρ (i + d)).held t = (x.ρ i).held t := by
  intro d
  induction d with
  | zero => intro _; rfl
  | succ d ih =>
    intro h
    have a := ih (fun j a h1 h2 => h j a h1 (by omega))
    rw [← a]
    show (x.ρ (i + d + 1)).held t = (x.ρ (i + d)).held t
    cases hs : x.σ (i + d) with
    | none => rw [x.next_none hs]
    | some e =>
      have hst := x.next_some hs
      by_cases ht : e.tid = some t
      · have hidle : (x.ρ (i + d)).pc t = .idle :=
          (reachable_inv1 (x.reach hr (i + d))).hidle t (by rw [a]; exact hheld)
        exact (idle_step_frame hst ht hidle (fun ap hap => h (i + d) ap (by omega) (by omega) (by rw [hs, hap]))).2
      · exact (step_other hst t ht).2

/-- If every thread is again and again seen holding nothing, every holder calls (unlock / runlock / … ). -/
theorem holdersRelease_of_recurrent (x : Exec cfg s0) (hr : Reachable cfg s0)
    (hN : ∀ i t, ∃ j, i ≤ j ∧ (x.ρ j).held t = none) : HoldersRelease x := by
  intro t i hheld
  obtain ⟨j0, hj0, hnone⟩ := hN i t
  obtain ⟨d, rfl⟩ : ∃ d, j0 = i + d := ⟨j0 - i, by omega⟩
  apply Classical.byContradiction; intro hn
  have := held_until_call x hr hheld d (fun j a h1 _ hs => hn ⟨j, a, h1, hs⟩)
  rw [hnone] at this
  exact hheld this.symm

theorem holdersRelease_of_quiescent (x : Exec cfg s0) (hr : Reachable cfg s0) (N : Nat)
    (hN : ∀ j, N ≤ j → ∀ t, (x.ρ j).held t = none) : HoldersRelease x :=
  holdersRelease_of_recurrent x hr (fun i t => ⟨max i N, by omega, hN (max i N) (by omega) t⟩)

theorem finite_of_tail (x : Exec cfg s0) (N : Nat) (hN : ∀ j, N ≤ j → x.σ j = none) :
    FiniteArrivals x ∧ FiniteRcFails x ∧ FiniteEnvPosts x :=
  ⟨⟨N, fun j e hj he => by rw [hN j hj] at he; cases he⟩, ⟨N, fun j e hj he => by rw [hN j hj] at he; cases he⟩,
   ⟨N, fun j e hj he => by rw [hN j hj] at he; cases he⟩⟩

/-- The hypotheses that hold trivially on an execution whose tail is idle: nobody moves, everybody is idle or asleep
    and nobody holds anything from time `N` on. -/
theorem fairHyps_of_idle_tail (x : Exec cfg s0) (hr : Reachable cfg s0) (N : Nat)
    (hσ : ∀ j, N ≤ j → x.σ j = none)
    (hpc : ∀ j, N ≤ j → ∀ t, (x.ρ j).pc t = .idle ∨ AsleepOnSem (x.ρ j) t)
    (hheld : ∀ j, N ≤ j → ∀ t, (x.ρ j).held t = none) :
    WeakFair x ∧ HoldersRelease x ∧ FiniteArrivals x ∧ FiniteRcFails x ∧ FiniteEnvPosts x :=
  ⟨weakFair_of_final x N hpc, holdersRelease_of_quiescent x hr N hheld, finite_of_tail x N hσ⟩

/-! ### a lasso: a finite accepted trace, then a loop for ever -/

/-- The state after `evs` from `s` (`s` itself if the events are not accepted). -/
def stateFrom (cfg : Cfg) (s : State) (evs : List Event) : State :=
  match run cfg s evs with
  | .ok s' => s'
  | .error _ => s

theorem stateFrom_eq (cfg : Cfg) (s : State) (evs : List Event) :
    stateFrom cfg s evs = Lasso.after (run cfg) s evs := by
  unfold stateFrom Lasso.after; cases run cfg s evs <;> rfl

theorem stateFrom_ok {cfg : Cfg} {s sf : State} {evs : List Event} (h : run cfg s evs = .ok sf) (i : Nat) :
    run cfg s (evs.take i) = .ok (stateFrom cfg s (evs.take i)) := by
  rw [stateFrom_eq]; exact Lasso.after_take (isRun cfg) h i

/-- A lasso: `evs`, then `loop` repeated for ever, where `loop` takes the state `sf` reached by `evs`
    back to `sf`. -/
def lassoExec (cfg : Cfg) (evs loop : List Event) (sf : State)
    (h : run cfg init evs = .ok sf) (hl : run cfg sf loop = .ok sf) (hp : 0 < loop.length) :
    Exec cfg init :=
  { ρ := fun i => if i < evs.length then stateAt cfg evs i
                  else stateFrom cfg sf (loop.take ((i - evs.length) % loop.length))
    σ := fun i => if i < evs.length then evs[i]? else loop[(i - evs.length) % loop.length]?
    start := by
      have _ := hl
      simp only [stateAt_eq, stateFrom_eq]; exact Lasso.start (isRun cfg) h
    next := by
      intro i
      obtain ⟨e, he, hs⟩ := Lasso.next (isRun cfg) h hl hp i
      have he' : (if i < evs.length then evs[i]? else loop[(i - evs.length) % loop.length]?) = some e := he
      simp only [he', stateAt_eq, stateFrom_eq]; exact hs }

theorem lassoExec_tail {cfg : Cfg} {evs loop : List Event} {sf : State}
    (h : run cfg init evs = .ok sf) (hl : run cfg sf loop = .ok sf) (hp : 0 < loop.length) {j : Nat}
    (hj : evs.length ≤ j) :
    (lassoExec cfg evs loop sf h hl hp).ρ j = stateFrom cfg sf (loop.take ((j - evs.length) % loop.length)) ∧
    (lassoExec cfg evs loop sf h hl hp).σ j = loop[(j - evs.length) % loop.length]? := by
  have : ¬ j < evs.length := by omega
  simp [lassoExec, this]

/-! ### decidable checks on a finite trace -/

/-- The trace is accepted from `init`.  (Same definition as `accepts` of Props/C05Mu.lean.) -/
def acceptsF (cfg : Cfg) (evs : List Event) : Bool :=
  match run cfg init evs with
  | .ok _ => true
  | .error _ => false

/-- `f` of the state after the trace; `false` if the trace is rejected.  (Same meaning as `stateAfter` of Props/C06.lean.) -/
def checkAfter (cfg : Cfg) (evs : List Event) (f : State → Bool) : Bool :=
  match run cfg init evs with
  | .ok s => f s
  | .error _ => false

theorem run_of_accepts {cfg : Cfg} {evs : List Event} (h : acceptsF cfg evs = true) :
    run cfg init evs = .ok (stateAt cfg evs evs.length) := by
  simp only [acceptsF] at h
  split at h
  · rename_i s hs
    rw [stateAt_ge hs (Nat.le_refl evs.length)]; exact hs
  · cases h

theorem checkAfter_run {cfg : Cfg} {evs : List Event} {s : State} {f : State → Bool}
    (hr : run cfg init evs = .ok s) (h : checkAfter cfg evs f = true) : f s = true := by
  simpa only [checkAfter, hr] using h

theorem checkAfter_eq {cfg : Cfg} {evs : List Event} {s : State} (hr : run cfg init evs = .ok s) (f : State → Bool) :
    checkAfter cfg evs f = f s := by
  simp only [checkAfter, hr]

/-- `AsleepOnSem`, decidably. -/
def asleepSemB (s : State) (t : Tid) : Bool :=
  match s.pc t with
  | .lsPRet c => (match c.w with | some k => (s.wr k).sem == 0 | none => false)
  | .mwPdRet c dl =>
    (match c.w with
     | some k => (s.wr k).sem == 0 && (match dl with | none => true | some d => decide (s.now < d))
     | none => false)
  | _ => false

theorem asleepSemB_iff (s : State) (t : Tid) : asleepSemB s t = true ↔ AsleepOnSem s t := by
  constructor
  · intro h
    unfold asleepSemB at h
    split at h
    · rename_i c hpc
      split at h
      · rename_i k hk; exact Or.inl ⟨c, k, hpc, hk, by simpa using h⟩
      · cases h
    · rename_i c dl hpc
      split at h
      · rename_i k hk
        simp only [Bool.and_eq_true, beq_iff_eq] at h
        refine Or.inr ⟨c, k, dl, hpc, hk, h.1, fun d hd => ?_⟩
        subst hd; simpa using h.2
      · cases h
    · cases h
  · rintro (⟨c, k, hpc, hk, hs⟩ | ⟨c, k, dl, hpc, hk, hs, hd⟩)
    · simp [asleepSemB, hpc, hk, hs]
    · cases dl with
      | none => simp [asleepSemB, hpc, hk, hs]
      | some d => simp [asleepSemB, hpc, hk, hs, hd d rfl]

end NsyncVerif.MuC
