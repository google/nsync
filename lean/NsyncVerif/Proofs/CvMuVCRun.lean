/-
  Composition CvFix × MuX × vector clocks: the product is faithful.
    `jprun_of_jrun` / `jrun_of_jprun`  the product run is the joint acceptor's run decorated with
                     clocks and ghosts: same accepted lists, clock component = the clock machine run
                     over the projected events;
    `jrun_cv`, `jrun_mu`  a joint log is accepted only if the CvFix acceptor accepts its CvFix
                     projection and, for every mutex, the MuX acceptor accepts the projection onto
                     that mutex: the joint acceptor only ADDS the checks K1–K5.
-/
import NsyncVerif.Proofs.CvMuVCStep

namespace NsyncVerif.CvMu
open NsyncVerif NsyncVerif.CvFix

theorem jpnext_j (p : JP) (ev : XEv) (j' : JState) : (jpnext p ev j').j = j' := by
  cases ev <;> rfl

theorem jpnext_c (p : JP) (ev : XEv) (j' : JState) : (jpnext p ev j').c = xcstep p.c ev := by
  cases ev <;> rfl

theorem jprun_of_jrun {cfg : Config} {evs : List XEv} {p : JP} {j' : JState}
    (h : jrun cfg p.j evs = .ok j') : ∃ p', jprun cfg p evs = .ok p' ∧ p'.j = j' :=
  (isJRun cfg).lift (isJPRun cfg) (π := JP.j)
    (fun p ev j' hs => ⟨_, by unfold jpstep; rw [hs], jpnext_j p ev j'⟩) h

theorem jrun_of_jprun {cfg : Config} {evs : List XEv} {p p' : JP} (h : jprun cfg p evs = .ok p') :
    jrun cfg p.j evs = .ok p'.j ∧ p'.c = xcrunx siteOrd p.c evs := by
  refine ⟨(isJRun cfg).proj (isJPRun cfg) (fun p ev p' hs => by
    obtain ⟨j', hj, rfl⟩ := jpstep_ok hs; rw [jpnext_j]; exact hj) h, ?_⟩
  induction evs generalizing p with
  | nil => cases h; rfl
  | cons ev evs ih =>
    obtain ⟨p1, hp, h⟩ := (isJPRun cfg).of_cons h
    obtain ⟨j1, -, rfl⟩ := jpstep_ok hp
    rw [ih h, jpnext_c]; rfl

theorem jpreachable_step {cfg : Config} {p p' : JP} {ev : XEv} (h : JPReachable cfg p)
    (hs : jpstep cfg p ev = .ok p') : JPReachable cfg p' :=
  h.elim fun evs he => ⟨evs ++ [ev], (isJPRun cfg).snoc he hs⟩

theorem xcrunx_append (so : Site → VC.Ord) (c : VC.St XLoc) (a b : List XEv) :
    xcrunx so c (a ++ b) = xcrunx so (xcrunx so c a) b := by
  induction a generalizing c with
  | nil => rfl
  | cons e es ih => simp only [List.cons_append, xcrunx]; exact ih _

/-- The clock component of a reachable product state is the clock machine run over the log. -/
theorem jprun_clocks {cfg : Config} {evs : List XEv} {p : JP} (h : jprun cfg jpinit evs = .ok p) :
    p.c = xclocks evs := (jrun_of_jprun h).2

/-- The CvFix layer accepts its projection of an accepted joint log. -/
theorem jrun_cv {cfg : Config} {evs : List XEv} {j j' : JState} (h : jrun cfg j evs = .ok j') :
    CvFix.run cfg j.s (cvProj evs) = .ok j'.s := by
  induction evs generalizing j with
  | nil => cases h; rfl
  | cons ev evs ih =>
    obtain ⟨j1, hj, hr⟩ := (isJRun cfg).of_cons h
    cases ev with
    | cv e m o =>
      simp only [cvProj, CvFix.run, (jstep_cv hj).1]
      exact ih hr
    | mu m x =>
      simp only [cvProj]
      rw [← (jstep_mu hj).1]
      exact ih hr

theorem muxStep_run {mx mx' : MuId → MuX.State} {m : MuId} {x : MuX.Ev}
    (h : muxStep mx m (some x) = .ok mx') (k : MuId) :
    (k = m → MuX.step (mx k) x = .ok (mx' k)) ∧ (k ≠ m → mx' k = mx k) := by
  obtain ⟨mm, hm, rfl⟩ := muxStep_some h
  constructor
  · rintro rfl; rw [updM_same]; exact hm
  · intro hk; exact updM_other _ _ hk

/-- The MuX layer accepts, for every mutex, its projection of an accepted joint log. -/
theorem jrun_mu {cfg : Config} {evs : List XEv} {j j' : JState} (h : jrun cfg j evs = .ok j')
    (k : MuId) : MuX.run (j.mx k) (muProj k evs) = .ok (j'.mx k) := by
  induction evs generalizing j with
  | nil => cases h; rfl
  | cons ev evs ih =>
    obtain ⟨j1, hj, hr⟩ := (isJRun cfg).of_cons h
    have ih' := ih hr
    cases ev with
    | cv e m o =>
      have hm := (jstep_cv hj).2.1
      simp only [muProj]
      cases hx : muxOf e with
      | none =>
        rw [hx] at hm
        rw [muxStep_none hm] at ih'
        exact ih'
      | some x =>
        rw [hx] at hm
        obtain ⟨h1, h2⟩ := muxStep_run hm k
        by_cases hk : m = k
        · simp only [hk, if_true, MuX.run]
          rw [h1 hk.symm]; exact ih'
        · simp only [hk, if_false]
          rw [h2 (fun hh => hk hh.symm)] at ih'; exact ih'
    | mu m x =>
      have hm := (jstep_mu hj).2.1
      obtain ⟨h1, h2⟩ := muxStep_run hm k
      simp only [muProj]
      by_cases hk : m = k
      · simp only [hk, if_true, MuX.run]
        rw [h1 hk.symm]; exact ih'
      · simp only [hk, if_false]
        rw [h2 (fun hh => hk hh.symm)] at ih'; exact ih'

end NsyncVerif.CvMu
