import NsyncVerif.Proofs.MuQFairExec
import NsyncVerif.Proofs.MuQFairFinal
/-
  MuQ, fair termination (C02): what becomes true for ever along a fair execution, part 1.

  After the last arrival:
  A  every thread's stage is non-increasing, hence eventually frozen (`stages_freeze`);
  B  from then on no thread is past its point of no return (`no_exit`): such a thread would reach
     its return in finitely many own steps, each of which it eventually takes, and drop to stage 0;
  C  hence no `waiting` flag is cleared any more (`waiting_stays`);
  D  hence every thread takes the spinlock with its enqueue CAS at most once more: eventually
     nobody is at the enqueue store (`no_lsSt`).
-/
namespace NsyncVerif.MuQ

variable {cfg : Cfg} {s0 : State}

/-- No acquisition call arrives from time `n` on. -/
def NoArrivals (x : Exec cfg s0) (n : Nat) : Prop := ∀ j e, n ≤ j → x.σ j = some e → e.isAcqCall = false

/-- No CAS on `remove_count` fails from time `n` on. -/
def NoRcFails (x : Exec cfg s0) (n : Nat) : Prop := ∀ j e, n ≤ j → x.σ j = some e → e.rcFail = false

/-- From time `n` on no step changes anybody's stage. -/
def Frozen (x : Exec cfg s0) (n : Nat) : Prop := ∀ t j, n ≤ j → stage (x.ρ (j + 1)) t = stage (x.ρ j) t

theorem Frozen.mono {x : Exec cfg s0} {n m : Nat} (h : Frozen x n) (hnm : n ≤ m) : Frozen x m :=
  fun t j hj => h t j (by omega)

theorem Frozen.const {x : Exec cfg s0} {n : Nat} (h : Frozen x n) (t : Tid) {i : Nat} (hi : n ≤ i) :
    ∀ d, stage (x.ρ (i + d)) t = stage (x.ρ i) t := by
  intro d
  induction d with
  | zero => rfl
  | succ d ih => rw [show i + (d + 1) = i + d + 1 by omega, h t (i + d) (by omega), ih]

theorem stage_mono (x : Exec cfg s0) (hr : Reachable cfg s0) {n0 : Nat} (hq : NoArrivals x n0) (t : Tid) :
    ∀ j, n0 ≤ j → stage (x.ρ (j + 1)) t ≤ stage (x.ρ j) t := by
  intro j hj
  cases hs : x.σ j with
  | none => rw [x.next_none hs]; exact Nat.le_refl _
  | some e => exact stage_step_le (x.reach hr j) (x.next_some hs) (hq j e hj hs) t

/-- A: the stages freeze. -/
theorem stages_freeze (x : Exec cfg s0) (hr : Reachable cfg s0) {n0 : Nat} (hq : NoArrivals x n0) :
    ∃ n1, n0 ≤ n1 ∧ Frozen x n1 := by
  obtain ⟨L, hL⟩ := reachable_cover (x.reach hr n0)
  have hin : ∀ t ∈ L, ∃ n, n0 ≤ n ∧ ∀ j, n ≤ j → stage (x.ρ (j + 1)) t = stage (x.ρ j) t := by
    intro t _
    obtain ⟨n, hn, hc⟩ := Sched.mono_stabilizes (fun j => stage (x.ρ j) t) (stage_mono x hr hq t)
    exact ⟨n, hn, fun j hj => by have a := hc j hj; have b := hc (j + 1) (by omega); rw [a, b]⟩
  obtain ⟨n1, h1, hP⟩ := Sched.eventually_list n0 L hin
  refine ⟨n1, h1, fun t j hj => ?_⟩
  by_cases ht : t ∈ L
  · exact hP t ht j hj
  · have h0 : stage (x.ρ n0) t = 0 := stage_of_ihn (hL t ht)
    have hz : ∀ j, n0 ≤ j → stage (x.ρ j) t = 0 := fun j hj => by
      have := Sched.mono_from (f := fun j => stage (x.ρ j) t) (stage_mono x hr hq t) j hj
      omega
    rw [hz j (by omega), hz (j + 1) (by omega)]

/-- B: from the freeze on nobody is past its point of no return. -/
theorem no_exit (x : Exec cfg s0) (hr : Reachable cfg s0) (hf : WeakFair x) {n1 : Nat} (hz : Frozen x n1) :
    ∀ t j, n1 ≤ j → exitRank ((x.ρ j).pc t) = 0 := by
  intro t j hj
  have := chain x t n1 (fun j => 0 < exitRank ((x.ρ j).pc t)) (fun j => exitRank ((x.ρ j).pc t))
    (fun j _ hR hnm => by
      obtain ⟨a, _⟩ := not_moves_frame x hnm
      simp only [a]; exact ⟨hR, Nat.le_refl _⟩)
    (fun j hj hR hm => by
      obtain ⟨e, _, hown⟩ := hm.own
      rcases exit_own hown (reachable_side (x.reach hr j)).2 hR with h0 | h1
      · have := hz t j hj
        rw [h0, stage_of_exit hR] at this; cases this
      · exact h1)
    (fun j _ hR => by
      apply fair_move_pc x hf
      · intro h; simp [h, exitRank] at hR
      · intro c h; simp [h, exitRank] at hR)
    j hj
  omega

/-- C: from the freeze on no `waiting` flag is cleared. -/
theorem waiting_stays (x : Exec cfg s0) {n1 : Nat}
    (hx : ∀ t j, n1 ≤ j → exitRank ((x.ρ j).pc t) = 0) (k : Wid) :
    ∀ j, n1 ≤ j → ((x.ρ j).wr k).waiting = true → ((x.ρ (j + 1)).wr k).waiting = true := by
  intro j hj h1
  cases hs : x.σ j with
  | none => rw [x.next_none hs]; exact h1
  | some e =>
    cases h2 : ((x.ρ (j + 1)).wr k).waiting with
    | true => rfl
    | false =>
      obtain ⟨t, l, r, hp⟩ := step_waiting_clear (x.next_some hs) h1 h2
      have := hx t j hj
      simp [hp, exitRank] at this

theorem post2_stable (x : Exec cfg s0) {n1 : Nat}
    (hx : ∀ t j, n1 ≤ j → exitRank ((x.ρ j).pc t) = 0) (t : Tid) :
    ∀ j, n1 ≤ j → Post2 (x.ρ j) t → Post2 (x.ρ (j + 1)) t := by
  intro j hj hp
  by_cases hm : Moves x t j
  · obtain ⟨e, _, hown⟩ := hm.own
    exact post2_own hown hp
  · obtain ⟨c, k, hc, hw, hwt⟩ := hp
    obtain ⟨a, _⟩ := not_moves_frame x hm
    exact ⟨c, k, by rw [a]; exact hc, hw, waiting_stays x hx k j hj hwt⟩

theorem post2_forever (x : Exec cfg s0) {n1 : Nat}
    (hx : ∀ t j, n1 ≤ j → exitRank ((x.ρ j).pc t) = 0) (t : Tid) {i : Nat} (hi : n1 ≤ i)
    (hp : Post2 (x.ρ i) t) : ∀ d, Post2 (x.ρ (i + d)) t := by
  intro d
  induction d with
  | zero => exact hp
  | succ d ih => exact post2_stable x hx t (i + d) (by omega) ih

theorem post2_not_lsSt {s : State} {t : Tid} (h : Post2 s t) (c : SL) : s.pc t ≠ .lsSt c := by
  obtain ⟨c', k, hc, _, _⟩ := h
  intro hp; simp [hp, postSL] at hc

/-- D: eventually nobody is at the enqueue store of lock_slow any more. -/
theorem no_lsSt (x : Exec cfg s0) (hr : Reachable cfg s0) (hf : WeakFair x) {n1 : Nat} (hz : Frozen x n1)
    (hx : ∀ t j, n1 ≤ j → exitRank ((x.ρ j).pc t) = 0) :
    ∃ n2, n1 ≤ n2 ∧ ∀ t j, n2 ≤ j → ∀ c, (x.ρ j).pc t ≠ .lsSt c := by
  obtain ⟨L, hL⟩ := reachable_cover (x.reach hr n1)
  have hin : ∀ t ∈ L, ∃ n, n1 ≤ n ∧ ∀ j, n ≤ j → ∀ c, (x.ρ j).pc t ≠ .lsSt c := by
    intro t _
    by_cases hex : ∃ j, n1 ≤ j ∧ Post2 (x.ρ j) t
    · obtain ⟨i, hi, hp⟩ := hex
      refine ⟨i, hi, fun j hj c => ?_⟩
      have := post2_forever x hx t hi hp (j - i)
      rw [show i + (j - i) = j by omega] at this
      exact post2_not_lsSt this c
    · refine ⟨n1, Nat.le_refl _, fun j hj c hp => ?_⟩
      have hmv : ∃ j', j ≤ j' ∧ Moves x t j' :=
        fair_move_pc x hf (by rw [hp]; simp) (by rw [hp]; simp)
      obtain ⟨j', h1, h2, h3⟩ := Sched.first_at hmv
      obtain ⟨a, _⟩ := frame_between x h1 h3
      obtain ⟨e, _, hown⟩ := h2.own
      exact hex ⟨j' + 1, by omega, lsSt_own hown (by rw [a]; exact hp)⟩
  obtain ⟨n2, h2, hP⟩ := Sched.eventually_list n1 L hin
  refine ⟨n2, h2, fun t j hj c hp => ?_⟩
  by_cases ht : t ∈ L
  · exact hP t ht j hj c hp
  · have h0 : stage (x.ρ n1) t = 0 := stage_of_ihn (hL t ht)
    have := hz.const t (Nat.le_refl n1) (j - n1)
    rw [show n1 + (j - n1) = j by omega, h0] at this
    have := (stage_zero this).1
    rw [hp] at this; cases this

end NsyncVerif.MuQ
