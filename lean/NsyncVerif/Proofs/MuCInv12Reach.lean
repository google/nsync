import NsyncVerif.Proofs.MuCInv12Resp
/-
  MuC, Inv12: initial state, client data accesses, environment events; reachability.
-/
namespace NsyncVerif.MuC

theorem inv12_init : Inv12 init := by
  refine ⟨?_, ?_, ?_, ?_, ?_, ?_, ?_, ?_⟩
  · intro h; simp [init, Word.zero] at h
  · intro h; simp [init, Word.zero] at h
  · intro h; simp [init, Word.zero] at h
  · intro t old ho; simp [init, PC.mtOld] at ho
  · intro t old ho; simp [init, PC.mtOld] at ho
  · intro t; simp [PC.ok12]
  · intro t k hk; simp [init, PC.lsRec] at hk
  · rintro _ (⟨k, hk, _⟩ | ⟨t, ht⟩)
    · simp [Queued, init, PC.scan?] at hk
    · simp [init, PC.enqPend] at ht

/-- Nothing the invariant speaks about changes. -/
theorem Inv12.env {s s' : State} (h : Inv12 s) (hq : s'.queue = s.queue)
    (hwr : ∀ x, (s'.wr x).cond = (s.wr x).cond ∧ (s'.wr x).lType = (s.wr x).lType) (hd : s'.data = s.data) (hpc : s'.pc = s.pc)
    (hh : s'.held = s.held) (hw : s'.word = s.word) (hnv : s'.nwViol = s.nwViol) (hwo : s'.wOwner = s.wOwner) : Inv12 s' := by
  have hQ : ∀ k, Queued s' k ↔ Queued s k := fun k => queued_congr hq (by intro u; rw [hpc]) k
  have hWJ : ∀ u, WJ s u → WJ s' u := by
    rintro u (b | ⟨k, b1, b2, b3, b4⟩)
    · left; rw [hpc]; exact b
    · right; exact ⟨k, by rw [hpc]; exact b1, by rw [hpc]; exact b2, by rw [hpc]; exact b3, fun e => b4 ((hQ k).1 e)⟩
  have hR : ∀ u, RespT s u → RespT s' u := by
    rintro u (b | (b | b | ⟨k, b1, b2, b3⟩) | b)
    · left; simpa [shareOf, hpc, hh] using b
    · right; left; left; rw [hpc]; exact b
    · right; left; right; left; rw [hpc]; exact b
    · right; left; right; right; exact ⟨k, by rw [hpc]; exact b1, by rw [hpc]; exact b2, fun e => b3 ((hQ k).1 e)⟩
    · right; right; rw [hpc]; exact b
  refine ⟨?_, ?_, ?_, ?_, ?_, ?_, ?_, ?_⟩
  · intro a
    rw [hw] at a
    rcases h.ww a with ⟨u, b⟩ | ⟨k, b1, b2, b3⟩
    · exact Or.inl ⟨u, hWJ u b⟩
    · exact Or.inr ⟨k, (hQ k).2 b1, by rw [(hwr k).2]; exact b2, by rw [(hwr k).1, hd]; exact b3⟩
  · intro a ⟨v, c1, c2⟩
    rw [hw] at a
    rcases h.wws a ⟨v, by rw [← hwo]; exact c1, by rw [← hpc]; exact c2⟩ with ⟨u, b⟩ | ⟨k, b1, b2, b3⟩
    · exact Or.inl ⟨u, hWJ u b⟩
    · exact Or.inr ⟨k, (hQ k).2 b1, by rw [(hwr k).2]; exact b2, by rw [(hwr k).1]; exact b3⟩
  · intro a
    rw [hw] at a
    obtain ⟨u, c, b1, b2⟩ := h.lw a
    exact ⟨u, c, by rw [hpc]; exact b1, b2⟩
  · intro u old a; rw [hpc] at a; rw [hw]; exact h.mtw u old a
  · intro u old a b; rw [hpc] at a; rw [hw]; exact h.mtlw u old a b
  · intro u; rw [hpc]; exact h.ok u
  · intro u k a; rw [hpc] at a; rw [(hwr k).1]; exact h.rcn u k a
  · intro a b
    have b0 : NeedN s := by
      rcases b with ⟨k, b1, b2⟩ | ⟨u, b⟩
      · exact Or.inl ⟨k, (hQ k).1 b1, by rw [← (hwr k).1]; exact b2⟩
      · exact Or.inr ⟨u, by rw [← hpc]; exact b⟩
    obtain ⟨w, c⟩ := h.nm (by rw [← hnv]; exact a) b0
    exact ⟨w, hR w c⟩

theorem inv12_dataW {s : State} {t : Tid} {x : Nat} {v : Int} (a : Invs s) (h : Inv12 s) (ht : s.held t = some .W) :
    Inv12 { s with data := setFn s.data x v } := by
  have hc : ClientW s := by
    refine ⟨t, (a.i1.lock.wown t).2 (by simp [shareOf, tshare, ht]), ?_⟩
    rw [a.i1.hidle t (by rw [ht]; simp)]; rfl
  have hWJ : ∀ u, WJ s u → WJ { s with data := setFn s.data x v } u := fun u b => b
  have key : s.word.ww = true → (∃ u, WJ { s with data := setFn s.data x v } u) ∨ WB0 { s with data := setFn s.data x v } := by
    intro b
    rcases h.wws b hc with ⟨u, c⟩ | ⟨k, c1, c2, c3⟩
    · exact Or.inl ⟨u, hWJ u c⟩
    · exact Or.inr ⟨k, c1, c2, c3⟩
  refine ⟨?_, ?_, h.lw, h.mtw, h.mtlw, h.ok, h.rcn, ?_⟩
  · intro b
    rcases key b with c | ⟨k, c1, c2, c3⟩
    · exact Or.inl c
    · refine Or.inr ⟨k, c1, c2, ?_⟩
      have : ({ s with data := setFn s.data x v } : State).wr k = s.wr k := rfl
      rw [this, c3]; rfl
  · intro b _; exact key b
  · intro _ _
    exact ⟨t, Or.inl (by simp [shareOf, tshare, ht])⟩

theorem inv12_step {cfg : Cfg} {s s' : State} {e : Event} (a : Invs s) (a' : Invs s') (h : Inv12 s)
    (hs : step cfg s e = .ok s') : Inv12 s' := by
  cases e with
  | call t _ | ret t _ _ | ld t _ _ _ | st t _ _ _ _ | cas t _ _ _ _ _ _ | cond t _ _ _
  | semPEnter t _ | semPRet t _ | semPdEnter t _ _ | semPdRet t _ _ | semV t _ | noteSeen t | noteNotify t =>
    exact inv12_of_tl a a' (step_tl (t := t) a.i1 a.i3 hs rfl (by intro u x v e; cases e) (by intro u x v e; cases e)) h
  | envV k | envSem k n | tick n =>
    cases step_env hs rfl with
    | post k => exact h.env (by simp) (by intro x; simp) (by simp) (by simp) (by simp) (by simp) (by simp) (by simp)
    | sem k n => exact h.env rfl (by intro x; simp [setFn]; split <;> simp_all) rfl rfl rfl rfl rfl rfl
    | tick n => exact h.env rfl (fun _ => ⟨rfl, rfl⟩) rfl rfl rfl rfl rfl rfl
  | dataW t x v =>
    simp only [step] at hs
    split at hs
    · rename_i ht; cases hs; exact inv12_dataW a h ht
    · cases hs
  | dataR t x v =>
    simp only [step] at hs
    split at hs
    · cases hs; exact h
    · cases hs

theorem reachable_Inv12 {cfg : Cfg} {s : State} (h : Reachable cfg s) : Inv12 s :=
  reachable_induction (P := Inv12) inv12_init
    (fun _ _ _ hr hp hs => inv12_step (reachable_invs hr) (reachable_invs (reachable_step hr hs)) hp hs) s h

end NsyncVerif.MuC
