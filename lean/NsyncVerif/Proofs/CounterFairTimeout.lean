/-
  Proofs/CounterFairTimeout.lean — Counter layer, fair timeouts: a wait whose deadline the clock has
  passed returns (`fair_return_expired`), given weak fairness, finitely many arrivals (counter_mu) and
  finitely many stray semaphore posts (the way back from the sleep costs one unit of the semaphore).
-/
import NsyncVerif.Proofs.CounterFairMain

namespace Counter

/-- Only finitely many semaphore posts come from outside the wake loop of nsync_counter_add. -/
def FiniteStrayPosts {s0 : State} (x : Exec s0) : Prop :=
  ∃ n, ∀ j t k, n ≤ j → x.σ j = some (.thr t (.semV k)) → ∃ d r idx w, (x.ρ j).pc t = .aPost d r idx w

variable {s0 : State}

theorem now_step (x : Exec s0) (hr : Reachable s0) (j : Nat) : (x.ρ j).sh.now ≤ (x.ρ (j + 1)).sh.now := by
  rcases x.step_cases hr j with h1 | ⟨_, h1, _⟩ | ⟨u, e, _, g, _⟩
  · rw [h1]; exact Nat.le_refl _
  · exact h1
  · rw [g.now]; exact Nat.le_refl _

theorem now_mono (x : Exec s0) (hr : Reachable s0) {i j : Nat} (h : i ≤ j) : (x.ρ i).sh.now ≤ (x.ρ j).sh.now :=
  NsyncVerif.Sched.rel_from (r := (· ≤ ·)) Nat.le_refl Nat.le_trans (f := fun j => (x.ρ j).sh.now)
    (fun j _ => now_step x hr j) j h

theorem tpos_of_pcDl {p : PC} {dl : Deadline} (h : pcDl p = some dl) : 0 < tpos p := by
  cases p <;> simp [pcDl] at h <;> simp [tpos]

theorem own_of_pcNw {s : State} (hi : Inv s) {t : Tid} {k : NwId} (h : pcNw (s.pc t) = some k) :
    own s.sh t k := by
  have hp := (hi.pcs t).2
  cases hpc : s.pc t <;> rw [hpc] at h hp <;> simp [pcNw] at h <;> subst h <;> simp only [pcFacts] at hp <;> exact hp.1.own

theorem step_prog2 (x : Exec s0) (hr : Reachable s0) {j : Nat} {u : Tid} {e : Ev}
    (h : x.σ j = some (.thr u e)) : Prog2 (x.ρ j).sh ((x.ρ j).pc u) e (x.ρ (j + 1)).sh ((x.ρ (j + 1)).pc u) :=
  prog2_stepThr (inv_of_reachable (x.reach hr j)) (x.next_some h)

/-- After its deadline a thread inside nsync_counter_wait keeps moving. -/
theorem wait_moves_expired (x : Exec s0) (hr : Reachable s0) (hf : WeakFair x) (ha : FiniteArrivals x)
    {d : Int} {jc : Nat} (hc : d ≤ ((x.ρ jc).sh.now : Int)) {t : Tid} {j0 : Nat} (hj0 : jc ≤ j0)
    (hw : pcDl ((x.ρ j0).pc t) = some (some d)) : ∃ j', j0 ≤ j' ∧ Moves x t j' := by
  obtain ⟨n2, hfree⟩ := lock_eventually_free x hr hf ha
  refine fair_move_after x hf n2 (fun h => by rw [h] at hw; simp [pcDl] at hw) fun j' hj hn hp => ?_
  rintro (⟨dl', k', j'', a, _, b⟩ | ⟨_, a⟩)
  · rw [← hp, a] at hw
    simp only [pcDl, Option.some.injEq] at hw
    subst hw
    have := now_mono x hr (Nat.le_trans hj0 hj)
    exact b (by simp only [expired]; omega)
  · exact a (hfree j' hn)

/-- The second component of the measure `tmu` below, as a predicate with the bound as a parameter: the thread is
    in the wait with deadline `d` or has returned; if it still has a record and can go back to sleep, the record's
    semaphore is bound and delivers ≤ b units. -/
def TState (s : State) (t : Tid) (d : Int) (b : Nat) : Prop :=
  (pcDl (s.pc t) = some (some d) ∨ s.pc t = .idle) ∧ tpos (s.pc t) ≤ 24 ∧
  ∀ k, pcNw (s.pc t) = some k → tpos (s.pc t) ≤ 20 ∨
    (∃ jj, (s.sh.nw k).sem = some jj ∧ Bf s.sh k jj ≤ b)

theorem tstate_mono {s : State} {t : Tid} {d : Int} {b b' : Nat} (h : TState s t d b) (hb : b ≤ b') :
    TState s t d b' := by
  refine ⟨h.1, h.2.1, fun k hk => ?_⟩
  rcases h.2.2 k hk with h1 | ⟨jj, h2, h3⟩
  · exact Or.inl h1
  · exact Or.inr ⟨jj, h2, Nat.le_trans h3 hb⟩

/-- units the semaphore of `t`'s record can still deliver; `none` while no semaphore is bound to it -/
def loopUnits (s : State) (t : Tid) : Option Nat :=
  match pcNw (s.pc t) with
  | some k => (s.sh.nw k).sem.map (Bf s.sh k)
  | none => none

/-- the thread is in the sleep loop of nsync_counter_wait (ready_time, P with deadline) -/
def inLoop (p : PC) : Prop := 20 < tpos p ∧ tpos p ≤ 24

instance (p : PC) : Decidable (inLoop p) := inferInstanceAs (Decidable (_ ∧ _))

/-- the sleep loop still lies ahead of the thread, or it is in it, with no semaphore bound yet: nothing is known
    yet about what the semaphore will deliver -/
def tfl (s : State) (t : Tid) : Nat :=
  if 24 < tpos (s.pc t) then 1 else if 20 < tpos (s.pc t) ∧ loopUnits s t = none then 1 else 0

/-- the units the bound semaphore can deliver while the thread is in the loop -/
def tun (s : State) (t : Tid) : Nat := if inLoop (s.pc t) then (loopUnits s t).getD 0 else 0

/-- Measure of "a wait whose deadline has passed returns". -/
def tmu (s : State) (t : Tid) : Nat × Nat × Nat := (tfl s t, tun s t, tpos (s.pc t))

abbrev R3 : Nat × Nat × Nat → Nat × Nat × Nat → Prop := Prod.Lex (· < ·) (Prod.Lex (· < ·) (· < ·))

/-- two components that do not grow: the triple goes down with the third, and stays or goes down if the third stays -/
theorem R3.of_le {a b c a' b' c' : Nat} (h1 : a' ≤ a) (h2 : a' = a → b' ≤ b) :
    (c' = c → (a', b', c') = (a, b, c) ∨ R3 (a', b', c') (a, b, c)) ∧ (c' < c → R3 (a', b', c') (a, b, c)) := by
  rcases Nat.lt_or_eq_of_le h1 with h | rfl
  · exact ⟨fun _ => .inr (.left _ _ h), fun _ => .left _ _ h⟩
  · rcases Nat.lt_or_eq_of_le (h2 rfl) with h | rfl
    · exact ⟨fun _ => .inr (.right _ (.left _ _ h)), fun _ => .right _ (.left _ _ h)⟩
    · exact ⟨fun h => .inl (by rw [h]), fun h => .right _ (.right _ h)⟩

theorem pcNw_of_inLoop {p : PC} (h : inLoop p) : ∃ k, pcNw p = some k := by
  cases p <;> simp [inLoop, tpos] at h <;> exact ⟨_, rfl⟩

/-- while `t` stays in the loop with the same record, a bound semaphore stays bound and its units do not grow,
    unless `t` comes back from its sleep -/
theorem units_step (x : Exec s0) (hr : Reachable s0) {ns : Nat}
    (hsp : ∀ j t k, ns ≤ j → x.σ j = some (.thr t (.semV k)) → ∃ d r idx w, (x.ρ j).pc t = .aPost d r idx w)
    {j : Nat} (hj : ns ≤ j) {u : Tid} {e : Ev} (he : x.σ j = some (.thr u e)) {t : Tid} {k : NwId}
    (hk : pcNw ((x.ρ j).pc t) = some k) (hk' : pcNw ((x.ρ (j + 1)).pc t) = some k) (h24 : tpos ((x.ρ j).pc t) ≤ 24)
    (hb : ∀ dl jj, (x.ρ j).pc t = .wPdWait dl k jj → (x.ρ (j + 1)).pc t = (x.ρ j).pc t) {b : Nat}
    (hu : loopUnits (x.ρ j) t = some b) : ∃ b', b' ≤ b ∧ loopUnits (x.ρ (j + 1)) t = some b' := by
  have hi := inv_of_reachable (x.reach hr j)
  have hown := own_of_pcNw hi hk
  have hown' := own_of_pcNw (inv_of_reachable (x.reach hr (j + 1))) hk'
  have g2 := step_prog2 x hr he
  have hut : pcNw ((x.ρ j).pc u) = some k → u = t := fun h => by rw [← (own_of_pcNw hi h).2, ← hown.2]
  simp only [loopUnits, hk, hk'] at hu ⊢
  cases hs : ((x.ρ j).sh.nw k).sem with
  | none => rw [hs] at hu; cases hu
  | some jj =>
    rw [hs] at hu; cases hu
    rw [g2.semkeep k jj hown.1 hs hown'.1]
    refine ⟨_, g2.bmono k jj hown.1 hs ?_ ?_ ?_, rfl⟩
    · intro jj' hev; subst hev; exact hsp j u jj' hj he
    · intro dl v hpu; cases hut (by rw [hpu]; rfl); rw [hpu] at h24; simp [tpos] at h24
    · intro dl jj' hpu; cases hut (by rw [hpu]; rfl); exact hb dl jj' hpu

/-- the first two components of the measure do not grow in a step that does not take the position up, given that
    inside the loop a bound semaphore stays bound with no more units -/
theorem tmu_le2 (s s' : State) (t : Tid) (hpos : tpos (s'.pc t) ≤ tpos (s.pc t))
    (hu : inLoop (s.pc t) → inLoop (s'.pc t) → ∀ b, loopUnits s t = some b → ∃ b', b' ≤ b ∧ loopUnits s' t = some b') :
    tfl s' t ≤ tfl s t ∧ (tfl s' t = tfl s t → tun s' t ≤ tun s t) := by
  unfold tfl tun inLoop at *
  cases h1 : loopUnits s t <;> cases h2 : loopUnits s' t <;> simp only [h1, h2] at hu ⊢ <;> grind

theorem R3.wf : WellFounded R3 := (Prod.lex Nat.lt_wfRel (Prod.lex Nat.lt_wfRel Nat.lt_wfRel)).wf

/-- One step of the execution seen from `t`, which is inside its wait with deadline `d` before and after: the measure
    stays as it is, `t` not moving, or goes down. -/
theorem tmu_step (x : Exec s0) (hr : Reachable s0) {ns : Nat}
    (hsp : ∀ j t k, ns ≤ j → x.σ j = some (.thr t (.semV k)) → ∃ d r idx w, (x.ρ j).pc t = .aPost d r idx w)
    {j : Nat} (hj : ns ≤ j) {t : Tid} {d : Int} (hdl : pcDl ((x.ρ j).pc t) = some (some d)) :
    (¬ Moves x t j ∧ tmu (x.ρ (j + 1)) t = tmu (x.ρ j) t) ∨ R3 (tmu (x.ρ (j + 1)) t) (tmu (x.ρ j) t) := by
  -- a step that leaves `t` where it is
  have same : ∀ {u e}, x.σ j = some (.thr u e) → (x.ρ (j + 1)).pc t = (x.ρ j).pc t →
      (¬ Moves x t j ∧ tmu (x.ρ (j + 1)) t = tmu (x.ρ j) t) ∨ R3 (tmu (x.ρ (j + 1)) t) (tmu (x.ρ j) t) := by
    intro u e he hpc
    have h2 := tmu_le2 (x.ρ j) (x.ρ (j + 1)) t (Nat.le_of_eq (by rw [hpc])) fun hl _ b hb => by
      obtain ⟨k, hk⟩ := pcNw_of_inLoop hl
      exact units_step x hr hsp hj he hk (by rw [hpc]; exact hk) hl.2 (fun _ _ _ => hpc) hb
    exact ((R3.of_le h2.1 h2.2).1 (by rw [hpc])).imp_left fun h => ⟨fun hm => hm hpc, h⟩
  rcases x.step_cases hr j with h1 | ⟨h1, _, h2⟩ | ⟨u, e, he, _, f⟩
  · exact .inl ⟨fun hm => hm (by rw [h1]), by rw [h1]⟩
  · refine .inl ⟨fun hm => hm (by rw [h1]), ?_⟩
    simp only [tmu, tfl, tun, loopUnits, h1]
    rw [h2]
    rfl
  · by_cases hu : u = t
    · subst hu
      rcases (step_prog2 x hr he).trank (tpos_of_pcDl hdl) with a | ⟨a, _, c⟩ | ⟨dl, k, jj, a1, a2, a3, a4, a5⟩
      · exact same he a
      · -- the position goes down
        have h2 := tmu_le2 (x.ρ j) (x.ρ (j + 1)) u (Nat.le_of_lt a) fun hl hl' b hb => by
          obtain ⟨k, hk'⟩ := pcNw_of_inLoop hl'
          have hk := (c k hk').resolve_right (by have := hl.2; omega)
          refine units_step x hr hsp hj he hk hk' hl.2 (fun dl jj hpu => ?_) hb
          have := hl'.1
          rw [hpu] at a
          have : tpos (PC.wPdWait dl k jj) = 21 := rfl
          omega
        exact .inr ((R3.of_le h2.1 h2.2).2 a)
      · -- back from the sleep: a unit of the semaphore is gone
        have hsem : ((x.ρ j).sh.nw k).sem = some jj := by
          have hp := ((inv_of_reachable (x.reach hr j)).pcs u).2; rw [a1] at hp; exact hp.2.1
        have e0 : tmu (x.ρ j) u = (0, Bf (x.ρ j).sh k jj, 21) := by
          simp [tmu, tfl, tun, inLoop, loopUnits, a1, pcNw, tpos, hsem]
        have e1 : tmu (x.ρ (j + 1)) u = (0, Bf (x.ρ (j + 1)).sh k jj, 24) := by
          simp [tmu, tfl, tun, inLoop, loopUnits, a2, pcNw, tpos, a4, hsem]
        rw [e0, e1]
        refine .inr (.right _ (.left _ _ ?_))
        simp only [Bf, a4, a5]
        omega
    · exact same he (f.others t fun h => hu h.symm)

/-- A wait whose deadline the clock has passed returns. -/
theorem fair_return_expired (x : Exec s0) (hr : Reachable s0) (hf : WeakFair x) (ha : FiniteArrivals x)
    (hs : FiniteStrayPosts x) {d : Int} (hc : ClockAdvances x d) (t : Tid) {i : Nat}
    (hw : pcDl ((x.ρ i).pc t) = some (some d)) : ∃ j, i ≤ j ∧ (x.ρ j).pc t = .idle := by
  obtain ⟨ns, hsp⟩ := hs
  obtain ⟨jc, hc⟩ := hc
  -- from time i to i + (ns + jc) the thread returns or is still in the call
  have hpre := NsyncVerif.Sched.keeps_from
    (P := fun k => (∃ j, i ≤ j ∧ (x.ρ j).pc t = .idle) ∨ pcDl ((x.ρ k).pc t) = some (some d)) (.inr hw)
    fun k hk ih => ih.elim .inl fun ih => by
      by_cases hm : Moves x t k
      · obtain ⟨e, _, _, f⟩ := moves_prog x hr hm
        exact (f.dline _ ih).elim (fun a => .inl ⟨k + 1, by omega, a⟩) .inr
      · exact .inr (by rw [not_moves_eq hm]; exact ih)
  rcases hpre (i + (ns + jc)) (by omega) with h | h
  · exact h
  · -- from then on: leads-to with the measure `tmu`
    obtain ⟨j, hj, hidle⟩ := NsyncVerif.Sched.leads_wf (M := Moves x t) R3.wf
      (fun k => i + (ns + jc) ≤ k ∧ pcDl ((x.ρ k).pc t) = some (some d)) (fun k => (x.ρ k).pc t = .idle)
      (fun k => tmu (x.ρ k) t)
      (fun k ⟨hk, hdl⟩ hnm => .inr ⟨⟨by omega, by rw [not_moves_eq hnm]; exact hdl⟩,
        (tmu_step x hr hsp (by omega) hdl).imp_left And.right⟩)
      (fun k ⟨hk, hdl⟩ hm => by
        obtain ⟨e, _, _, f⟩ := moves_prog x hr hm
        rcases f.dline _ hdl with a | a
        · exact .inl a
        · exact .inr ⟨⟨by omega, a⟩, (tmu_step x hr hsp (by omega) hdl).resolve_left fun h => h.1 hm⟩)
      (fun k ⟨hk, hdl⟩ => (wait_moves_expired x hr hf ha hc (by omega) hdl).imp fun _ h => ⟨h.1, .inl h.2⟩)
      _ ⟨Nat.le_refl _, h⟩
    exact ⟨j, by omega, hidle⟩

end Counter
