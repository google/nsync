/-
  Proofs/WaitNDeath.lean — the end of a record's lifetime: a record dies only in the `free` / return step
  of its owner, after all dequeue calls of that nsync_wait_n; and what that implies under `QI`.
-/
import NsyncVerif.Proofs.WaitNTouch


namespace WaitN

/-- a record that dies in this step: the step is the `free` / return of its owner t, the record is one
    of t's, and its dequeue call is over -/
theorem dies_facts {s s' : State} {ev : Event} {r : Rid} (hr : Reachable s) (hs : step s ev = .ok s')
    (hl : (s.rcd r).live = true) (hd : (s'.rcd r).live = false) :
    ∃ t e, ev = .thr t e ∧ r ∈ (s.fr t).recs ∧ (s.rcd r).owner = t ∧ (s.rcd r).deqd = true
      ∧ (s.pc t = .wFree ∨ ∃ r0, s.pc t = .wRet r0) ∧ (s.fr t).frees = 0 := by
  cases ev with
  | tick ns => rw [(step_tick hs).1, hl] at hd; cases hd
  | thr t e =>
    have hli := linv_of_reachable hr t
    obtain ⟨_, tr⟩ := tr_rec (show stepThr s t e = .ok s' from hs) r
    cases tr
    case init i oid hpc hoid hdead h => rw [hl] at hdead; cases hdead
    case kill hm hpc h =>
      have hc : inCall (s.pc t) = true := by rcases hpc with h | ⟨x, h, _⟩ <;> (rw [h]; rfl)
      have hf0 : (s.fr t).frees = 0 := by
        rcases hpc with h | ⟨x, h, hh⟩ <;> rw [h] at hli
        · exact hli.1.frees
        · exact frees_of_linv_ret hli hh
      obtain ⟨k, hk⟩ := List.getElem?_of_mem hm
      have hlt : k < (s.fr t).recs.length := (List.getElem?_eq_some_iff.1 hk).1
      refine ⟨t, e, rfl, hm, ((own_of_reachable hr).own t r hc hf0 hm).2,
        (((qinv_of_reachable hr).cf t).dq hc hf0 k r hk).2 ?_, hpc.imp id fun ⟨x, h, _⟩ => ⟨x, h⟩, hf0⟩
      rcases hpc with h | ⟨x, h, _⟩ <;> (rw [h]; exact hlt)
    all_goals (rename_i h; rw [h] at hd; exact Bool.noConfusion (hl.symm.trans hd))

/-- a record whose dequeue call is over is out of every queue and wake list, and no note / counter waker
    owes it a post -/
theorem deqd_out {s : State} {r : Rid} (h : QI s) (hd : (s.rcd r).deqd = true) :
    (∀ o, r ∉ (s.obj o).queue) ∧ (∀ u c l, wk (s.pc u) = some (c, l) → r ∉ pend (s.post u) l)
    ∧ (∀ u, s.post u = some r → (wk (s.pc u)).isSome = true) := by
  refine ⟨?_, ?_, ?_⟩
  · intro o hm; have := (h.q1 o r hm).2.2.2; rw [hd] at this; cases this
  · intro u c l hw hm; have := ((h.q4 u c l hw).2.2 r hm).2.2.2.1; rw [hd] at this; cases this
  · intro u hp
    rcases h.q5 u r hp with h1 | ⟨_, a2, _⟩
    · exact h1
    · rw [hd] at a2; cases a2

end WaitN
