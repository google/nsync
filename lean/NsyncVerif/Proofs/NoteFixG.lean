/-
  Layer `Note`, the repaired code (/verif/fixes/F4F7/note_fix.diff): delivery and no use after free
  in EVERY reachable state.

  Invariant J (delivery, `Reachable.invJ`): a notified note with children has a thread inside
  `note_notify_child` on it, past the store of the flag.  The case that `ReachableH` excludes is the
  adoption of a child under an already notified parent `p` whose notifier is gone.  On the repaired
  code the adopter `nsync_note_free (n)` finds `n` itself still on `p->children` (I1,
  `InvForest.linked`: `n` is disconnected from `p` only by the last disconnector of `n`, and the
  adopter is one of them), so `p->children` was not empty before the adoption and `p` had a thread
  with an activation past the store already; that activation ends only with `p->children` empty
  (`Own.active`: it rescans when `children_adopted` ended its wait).

  Invariant family G (no use after free, `InvLive`, `Reachable.invLive`):
    * a note on a children list is not freed, and neither is the owner of the list;
    * a note whose mutex is held is not freed;
    * once `nsync_note_free (n)` has left its last WAIT_FOR_NO_CHILDREN, `n` has no parent and no
      children any more, and once it has released `n->note_mu` nobody holds or acquires it.
  Hence none of the notes a program counter may dereference (`PC.uses`, `uses_live`), and none of
  the notes an accepted step dereferences (`touches`: `touches_uses`, `touches_live`), is freed.
-/
import NsyncVerif.Proofs.NoteRelF


namespace Note

theorem step_invJ_fix {s s' : State} {e : Event} (hr : Reachable s) (hJ : InvJ s)
    (hs : step s e = .ok s') : InvJ s' := by
  refine step_invJ' hr hJ hs ?_
  intro t n p c nx _ hpc _ _ hch
  -- `n` is still a child of `p`
  have hpar := hr.invForest.linked t n p (by rw [hpc]; rfl)
  have := hr.invT.p2c p n hpar
  rw [hch] at this
  cases this

theorem Reachable.invJ {s : State} (h : Reachable s) : InvJ s := by
  refine Reachable.induction (P := InvJ) ?_ ?_ s h
  · intro p hn; simp [Note.init, NoteRec.blank] at hn
  · intro s e s' hr hJ hs; exact step_invJ_fix hr hJ hs

/-! ## Family G: how a mutex is acquired, `freeing` implies `published` -/

/-- A thread acquires the mutex of `k` only at the end of a `nsync_mu_lock (k)` /
    WAIT_FOR_NO_CHILDREN (k) it is in (`wants`), or by a successful `nsync_mu_trylock`; the step
    dereferences `k`. -/
theorem step_acquire {s s' : State} {e : Event} (hs : step s e = .ok s') (k : NoteId) (a : Tid)
    (h' : (s'.notes k).lockHolder = some a) (h : (s.notes k).lockHolder ≠ some a) :
    e.actor = some a ∧ k ∈ touches s e ∧
    ((s.pc a).wants = some k ∨ (∃ n nk, s.pc a = .nfy .tryRet n (some k) nk) ∨
      (∃ n c nx, s.pc a = .fr .tryRet n (some k) c nx)) := by
  rcases step_holder hs k with h0 | ⟨b, hb, h0, _, ht, hw⟩ | ⟨_, _, _, h0⟩ | ⟨_, h0⟩
  · exact absurd (h0 ▸ h') h
  · obtain rfl : b = a := Option.some.inj (h0.symm.trans h')
    exact ⟨hb, ht, hw⟩
  · rw [h0] at h'; cases h'
  · rw [h0] at h'; cases h'

/-- `nsync_note_free` is called on notes that `nsync_note_new` has returned. -/
def InvFP (s : State) : Prop := ∀ n, s.freeing n = true → s.published n = true

/-- `nsync_note_free` is accepted on a live note only. -/
theorem Own.free_live {s s' : State} {e : Event} {t : Tid} {pc' : PC}
    (h : Own s t .idle e pc' s') {n : NoteId} (hf : pc'.freer = some n) : s.Live n := by
  cases h
  all_goals cases hf
  assumption

theorem step_invFP {s s' : State} {e : Event} (hP : InvFP s) (hs : step s e = .ok s') :
    InvFP s' := by
  intro n hn
  have hst := step_stable hs
  rcases step_freeing hs with h | ⟨a, m, ha, hpc, hfr, h⟩
  · rw [h] at hn; exact hst.published n (hP n hn)
  · rw [h, upd_apply] at hn
    split at hn
    · next hk =>
      have ho := step_actor hs ha
      rw [hpc] at ho
      exact hk ▸ hst.published m (ho.free_live hfr).2.1
    · exact hst.published n (hP n hn)

theorem Reachable.invFP {s : State} (h : Reachable s) : InvFP s :=
  Reachable.induction (P := InvFP) (fun n hn => by simp [Note.init] at hn)
    (fun _ _ _ _ hP hs => step_invFP hP hs) s h

/-! ## `InvLive` -/

/-- `nsync_note_free (n)` has left its last WAIT_FOR_NO_CHILDREN (`n`). -/
def FPos.afterWait : FPos → Bool
  | .unlockPCall | .unlockPRet | .unlockCall | .unlockRet | .free | .ret => true
  | _ => false

/-- `nsync_note_free (n)` has released `n->note_mu` for the last time. -/
def FPos.released : FPos → Bool
  | .unlockRet | .free | .ret => true
  | _ => false

structure InvLive (s : State) : Prop where
  /-- a note on a children list is not freed, nor is the owner of the list -/
  child : ∀ p c, c ∈ (s.notes p).children → (s.notes c).freed = false ∧ (s.notes p).freed = false
  /-- a note whose mutex is held is not freed -/
  held : ∀ k t, (s.notes k).lockHolder = some t → (s.notes k).freed = false
  /-- after its last WAIT_FOR_NO_CHILDREN the note being freed has neither parent nor children -/
  done : ∀ t pos n par c nx, s.pc t = .fr pos n par c nx → pos.afterWait = true →
    (s.notes n).parent = none ∧ (s.notes n).children = []
  /-- … and once its mutex is released for the last time nobody holds it -/
  quiet : ∀ t pos n par c nx, s.pc t = .fr pos n par c nx → pos.released = true →
    (s.notes n).lockHolder = none

theorem InvLive.init : InvLive Note.init := by
  refine ⟨?_, ?_, ?_, ?_⟩ <;> simp [Note.init, NoteRec.blank]

/-! ### The notes a program counter may dereference -/

def DK.par : DK → List NoteId
  | .newSelf (some p) _ => [p]
  | _ => []

def NK.par : NK → List NoteId
  | .ofDeadline dk => dk.par
  | .ofApi => []

/-- Positions of `notify` at which the local `parent` may still be dereferenced. -/
def NPos.usesPar : NPos → Bool
  | .tryCall | .tryRet | .sUnlockCall | .sUnlockRet | .sLockPCall | .sLockPRet | .sLockNCall
  | .sLockNRet | .unlockPCall => true
  | _ => false

def FPos.usesPar : FPos → Bool
  | .tryCall | .tryRet | .sUnlockCall | .sUnlockRet | .sLockPCall | .sLockPRet | .sLockNCall
  | .sLockNRet | .lockChild | .lockChildRet | .unlockChild | .unlockChildRet | .waitCall
  | .waitRet _ | .unlockPCall => true
  | _ => false

def FPos.usesChild : FPos → Bool
  | .lockChild | .lockChildRet | .unlockChild => true
  | _ => false

def CPos.usesChild : CPos → List NoteId
  | .lockChild c | .lockChildRet c | .unlockChild c => [c]
  | _ => []

/-- The notes the thread may dereference directly at its next step. -/
def PC.uses : PC → List NoteId
  | .dl _ n _ dk => n :: dk.par
  | .nfy pos n par nk => n :: (nk.par ++ (bif pos.usesPar then par.toList else []))
  | .chd pos stk top => pos.usesChild ++ (stk.map Frame.note ++ (top.par.toList ++ top.n :: top.k.par))
  | .newP _ n p _ => [n, p]
  | .retExpiry n => [n]
  | .fr .ret _ _ _ _ => []
  | .fr pos n par c _ =>
    n :: ((bif pos.usesChild then [c] else []) ++ (bif pos.usesPar then par.toList else []))
  | .wt0 _ n _ => [n]
  | .wt _ n _ _ => [n]
  | _ => []

/-! ### None of them is freed -/

theorem arg_live {s : State} (hr : Reachable s) {t : Tid} {pc : PC} {n : NoteId} (hpc : s.pc t = pc)
    (h : pc.arg = some n) (hf : pc.freedIt = false) : (s.notes n).freed = false := by
  subst hpc
  have hU := hr.invU
  cases hfr : (s.notes n).freed with
  | false => rfl
  | true =>
    have := hU.freedK t n hfr ((hU.users t n).mpr h)
    rw [hf] at this; cases this

theorem creating_live {s : State} (hr : Reachable s) {t : Tid} {pc : PC} {n : NoteId}
    (hpc : s.pc t = pc) (h : pc.creating = some n) : (s.notes n).freed = false := by
  subst hpc
  cases hfr : (s.notes n).freed with
  | false => rfl
  | true =>
    have h1 := hr.invFP n (hr.invU.freedA n hfr)
    rw [(hr.inv6.1.creating t n h).2] at h1; cases h1

theorem held_live {s : State} (hr : Reachable s) (hG : InvLive s) {t : Tid} {pc : PC} {k : NoteId}
    (hpc : s.pc t = pc) (h : k ∈ pc.held) : (s.notes k).freed = false :=
  hG.held k t ((hr.inv6.2.2.2.2.2.iff k t).mpr (hpc ▸ h))

theorem linked_live {s : State} (hr : Reachable s) (hG : InvLive s) {t : Tid} {pc : PC}
    {n p : NoteId} (hpc : s.pc t = pc) (h : pc.linked = some (n, p)) : (s.notes p).freed = false :=
  (hG.child p n (hr.invT.p2c p n (hr.invForest.linked t n p (hpc ▸ h)))).2

/-- The note of a `nsync_note_notified_deadline_` / `notify` activation: the argument of the
    call, or the note being created. -/
theorem dk_self_live {s : State} (hr : Reachable s) {t : Tid} {pc : PC} {n : NoteId} {dk : DK}
    (hpc : s.pc t = pc) (harg : pc.arg = dk.arg n)
    (hcr : pc.creating = bif dk.isNew then some n else none)
    (hf : pc.freedIt = false) : (s.notes n).freed = false := by
  cases dk with
  | newSelf par dl => exact creating_live hr hpc (by rw [hcr]; rfl)
  | _ => exact arg_live hr hpc (by rw [harg]; rfl) hf

theorem dk_par_live {s : State} (hr : Reachable s) {t : Tid} {pc : PC} {n : NoteId} {dk : DK}
    (hpc : s.pc t = pc) (harg : pc.arg = dk.arg n) (hf : pc.freedIt = false) :
    ∀ k ∈ dk.par, (s.notes k).freed = false := by
  intro k hk
  cases dk with
  | newSelf par dl =>
    cases par with
    | none => simp [DK.par] at hk
    | some p =>
      simp only [DK.par, List.mem_singleton] at hk
      subst hk
      exact arg_live hr hpc (by rw [harg]; rfl) hf
  | _ => simp [DK.par] at hk

theorem uses_live {s : State} (hr : Reachable s) (hG : InvLive s) (t : Tid) :
    ∀ k ∈ (s.pc t).uses, (s.notes k).freed = false := by
  intro k hk
  have hF := hr.invForest
  have hL := hr.inv6.2.2.2.2.1
  cases hpc : s.pc t with
  | dl pos n nt dk =>
    rw [hpc] at hk
    simp only [PC.uses, List.mem_cons] at hk
    rcases hk with rfl | hk
    · exact dk_self_live hr hpc (dk := dk) rfl rfl rfl
    · exact dk_par_live hr hpc (n := n) (dk := dk) rfl rfl k hk
  | nfy pos n par nk =>
    rw [hpc] at hk
    simp only [PC.uses, List.mem_cons, List.mem_append] at hk
    rcases hk with rfl | hk | hk
    · cases nk with
      | ofApi => exact arg_live hr hpc rfl rfl
      | ofDeadline dk =>
        exact dk_self_live hr hpc (dk := dk) rfl rfl rfl
    · cases nk with
      | ofApi => simp [NK.par] at hk
      | ofDeadline dk =>
        exact dk_par_live hr hpc (n := n) (dk := dk) rfl rfl k hk
    · cases par with
      | none => cases pos <;> simp [NPos.usesPar] at hk
      | some p =>
        cases pos <;> simp [NPos.usesPar] at hk <;> subst hk
        all_goals first
          | exact linked_live hr hG hpc (n := n) rfl
          | exact held_live hr hG hpc (by simp [PC.held])
  | chd pos stk top =>
    rw [hpc] at hk
    have hc := hL.claim_of hpc
    simp only [PC.uses, List.mem_cons, List.mem_append] at hk
    -- the note of the outermost activation
    have htop : (s.notes top.n).freed = false := by
      cases hk' : top.k with
      | ofApi => exact arg_live hr hpc (by simp [PC.arg, hk', NK.arg]) rfl
      | ofDeadline dk =>
        exact dk_self_live hr hpc (dk := dk) (by simp [PC.arg, hk', NK.arg])
          (by simp [hk']) rfl
    rcases hk with hk | hk | hk | rfl | hk
    · -- the child the loop is working on
      cases stk with
      | nil => exact absurd hpc (hL.chd_ne_nil t _ _)
      | cons f rest =>
        cases pos <;> simp [CPos.usesChild] at hk <;> subst hk
        · exact (hG.child _ _ (hF.chc t _ _ _ _ _ hpc rfl)).1
        · exact (hG.child _ _ (hF.chc t _ _ _ _ _ hpc rfl)).1
        · exact held_live hr hG hpc (by simp [PC.held])
    · -- a note of the activation stack
      obtain ⟨g, hg, rfl⟩ := List.mem_map.mp hk
      cases stk with
      | nil => cases hg
      | cons f rest =>
        rcases List.mem_cons.mp hg with rfl | hg
        · -- the innermost note: the outermost one, or a child of the enclosing activation's note
          cases rest with
          | nil =>
            rw [hc.single]; exact htop
          | cons g' gs =>
            have := hF.chain t _ _ _ hpc
            simp only [List.map_cons, ChainCur] at this
            exact (hG.child _ _ this.1).1
        · exact held_live hr hG hpc (held_chd_tail (by simp; exact ⟨g, hg, rfl⟩))
    · cases hp : top.par with
      | none => rw [hp] at hk; cases hk
      | some p =>
        rw [hp] at hk
        simp only [Option.toList, List.mem_singleton] at hk
        subst hk
        cases stk with
        | nil => exact absurd hpc (hL.chd_ne_nil t _ _)
        | cons f rest =>
          exact linked_live hr hG hpc (n := top.n) (by simp [PC.linked, hp])
    · exact htop
    · cases hk' : top.k with
      | ofApi => rw [hk'] at hk; simp [NK.par] at hk
      | ofDeadline dk =>
        rw [hk'] at hk
        exact dk_par_live hr hpc (n := top.n) (dk := dk)
          (by simp [PC.arg, hk', NK.arg]) rfl k hk
  | newP pos n p dl =>
    rw [hpc] at hk
    simp only [PC.uses, List.mem_cons, List.not_mem_nil, or_false] at hk
    rcases hk with rfl | rfl
    · exact creating_live hr hpc rfl
    · exact arg_live hr hpc rfl rfl
  | retExpiry n =>
    rw [hpc] at hk
    simp only [PC.uses, List.mem_singleton] at hk
    subst hk
    exact arg_live hr hpc rfl rfl
  | wt0 pos n wdl =>
    rw [hpc] at hk
    simp only [PC.uses, List.mem_singleton] at hk
    subst hk
    exact arg_live hr hpc rfl rfl
  | wt pos n wdl r =>
    rw [hpc] at hk
    simp only [PC.uses, List.mem_singleton] at hk
    subst hk
    exact arg_live hr hpc rfl rfl
  | fr pos n par c nx =>
    rw [hpc] at hk
    by_cases hret : pos = .ret
    · subst hret; simp [PC.uses] at hk
    · have hk' : k = n ∨ (pos.usesChild = true ∧ k = c) ∨ (pos.usesPar = true ∧ par = some k) := by
        cases pos <;> simp [PC.uses, FPos.usesChild, FPos.usesPar] at hk hret ⊢ <;>
          (try cases par) <;> simp_all
      rcases hk' with rfl | ⟨h1, rfl⟩ | ⟨h1, rfl⟩
      · exact arg_live hr hpc rfl (by
          cases pos <;> first | rfl | exact absurd rfl hret)
      · cases pos <;> simp [FPos.usesChild] at h1
        · exact (hG.child _ _ (hF.frc t _ _ _ _ _ hpc rfl)).1
        · exact (hG.child _ _ (hF.frc t _ _ _ _ _ hpc rfl)).1
        · exact held_live hr hG hpc (by simp [PC.held])
      · cases pos <;> simp [FPos.usesPar] at h1
        all_goals first
          | exact linked_live hr hG hpc (n := n) rfl
          | exact held_live hr hG hpc (by simp [PC.held])
  | _ => rw [hpc] at hk; simp [PC.uses] at hk

/-! ## The notes a step dereferences -/

/-- The note whose flag or mutex the event names. -/
def Event.arg : Event → Option NoteId
  | .ld _ _ _ k _ | .stNote _ _ _ k _ _ | .lockCall _ k | .unlockCall _ k | .tryCall _ k
  | .waitCall _ k => some k
  | _ => none

/-- The acceptor checks it against the program counter: it is a note the thread may dereference. -/
theorem Own.arg_uses {s s' : State} {e : Event} {a : Tid} {pc pc' : PC} (h : Own s a pc e pc' s')
    {k : NoteId} (hk : e.arg = some k) : k ∈ pc.uses := by
  cases h
  all_goals cases hk
  all_goals simp_all [PC.uses, NPos.usesPar, FPos.usesPar, FPos.usesChild, CPos.usesChild]

theorem frameParent_mem {rest : List Frame} {top : Top} {p : NoteId}
    (h : frameParent rest top = some p) : p ∈ rest.map Frame.note ∨ top.par = some p := by
  cases rest <;> simp_all [frameParent]

theorem touches_uses {s s' : State} {e : Event} (hs : step s e = .ok s') (k : NoteId)
    (hk : k ∈ touches s e) :
    (∃ a, e.actor = some a ∧
      (k ∈ (s.pc a).uses ∨ ∃ j, j ∈ (s.pc a).uses ∧ k ∈ (s.notes j).children)) ∨
    (s.notes k).allocated = false := by
  rcases step_own hs with ⟨a, pc, pc', ha, hpc, -, ho⟩ | ⟨_, rfl, _, _⟩ | ⟨rfl, _⟩
  case inr.inl | inr.inr => simp [touches] at hk
  have harg := fun j => hpc ▸ ho.arg_uses (k := j)
  -- by the arms of `touches`: each lists the note the event names and notes of the program
  -- counter, some with their children; the step itself is needed for `malloc` and `free` only
  cases e with
  | malloc t res | free t j =>
    cases ha
    clear hs harg
    simp only [touches, hpc] at hk
    split at hk
    · cases ho <;> simp_all [Event.actor, PC.uses]
    · cases hk
  | lockCall t j | unlockCall t j | tryCall t j | waitCall t j | stNote t _ _ j _ _ =>
    cases ha
    rcases List.mem_cons.mp hk with rfl | hk
    · exact Or.inl ⟨_, rfl, Or.inl (harg _ rfl)⟩
    · first | cases hk | exact Or.inl ⟨_, rfl, Or.inr ⟨j, harg _ rfl, hk⟩⟩
  | _ =>
    cases ha <;> clear ho hs <;> simp only [touches, hpc, List.not_mem_nil] at hk <;>
      refine Or.inl ⟨_, rfl, ?_⟩ <;> repeat' split at hk
    all_goals first
      | (obtain rfl := List.mem_singleton.mp hk; exact Or.inl (harg _ rfl))
      | (try have := frameParent_mem ‹frameParent _ _ = some _›
         rw [hpc] at harg ⊢
         simp only [Event.arg, Option.some.injEq, forall_eq', PC.uses, DK.par, NK.par,
           NPos.usesPar, FPos.usesPar, FPos.usesChild, CPos.usesChild, cond_true, cond_false,
           Option.mem_toList, List.mem_cons, List.mem_append, List.not_mem_nil] at hk harg ⊢ <;>
         grind)

/-- A freed note has been allocated. -/
theorem freed_alloc {s : State} (hr : Reachable s) {k : NoteId} (h : (s.notes k).freed = true) :
    (s.notes k).allocated = true :=
  hr.inv6.1.published k (hr.invFP k (hr.invU.freedA k h))

/-- In a state in which `InvLive` holds, no accepted step dereferences a freed note. -/
theorem touches_live {s s' : State} {e : Event} (hr : Reachable s) (hG : InvLive s)
    (hs : step s e = .ok s') (k : NoteId) (hk : k ∈ touches s e) : (s.notes k).freed = false := by
  rcases touches_uses hs k hk with ⟨a, _, h | ⟨j, hj, hkj⟩⟩ | h
  · exact uses_live hr hG a k h
  · exact (hG.child j k hkj).1
  · cases hf : (s.notes k).freed with
    | false => rfl
    | true => rw [freed_alloc hr hf] at h; cases h

/-! ## Preservation of `InvLive`: children lists and held mutexes -/

/-- A note newly freed by this step: the actor was at the `free (n)` of `nsync_note_free (n)`. -/
theorem freed_new {s s' : State} {e : Event} (hs : step s e = .ok s') {x : NoteId}
    (h0 : (s.notes x).freed = false) (h1 : (s'.notes x).freed = true) :
    ∃ a par c nx, e.actor = some a ∧ s.pc a = .fr .free x par c nx := by
  rcases step_freed hs x h1 with h | ⟨a, par, c, nx, ha, hpc, _⟩
  · rw [h0] at h; cases h
  · exact ⟨a, par, c, nx, ha, hpc⟩

theorem InvLive.step_child {s s' : State} {e : Event} (hr : Reachable s) (hG : InvLive s)
    (hs : step s e = .ok s') (p c : NoteId) (hc : c ∈ (s'.notes p).children) :
    (s'.notes c).freed = false ∧ (s'.notes p).freed = false := by
  have hF := hr.invForest
  -- both were live before the step
  have hold : (s.notes c).freed = false ∧ (s.notes p).freed = false := by
    rcases step_children' hs p c hc with h | ⟨a, dl, ha, hpc, _⟩ | ⟨a, n, nx, he, hpc, _⟩
    · exact hG.child p c h
    · exact ⟨creating_live hr hpc rfl,
        arg_live hr hpc rfl rfl⟩
    · exact ⟨(hG.child n c (hF.frc a _ _ _ _ _ hpc rfl)).1,
        linked_live hr hG hpc (n := n) rfl⟩
  -- a note freed by this step has neither parent nor children, before and after
  have key : ∀ x, (s.notes x).freed = false → (s'.notes x).freed = true →
      (∀ q, x ∉ (s'.notes q).children) ∧ (s'.notes x).children = [] := by
    intro x h0 h1
    obtain ⟨a, par, c', nx, ha, hpc⟩ := freed_new hs h0 h1
    obtain ⟨hd1, hd2⟩ := hG.done a _ x par c' nx hpc rfl
    -- the step is the `free` event: the forest does not change
    have hsame : s'.notes = (s.markFreed x).notes := by
      have ho := step_actor hs ha
      rw [hpc] at ho
      generalize s'.pc a = pc' at ho
      cases ho; rfl
    refine ⟨fun q hq => ?_, ?_⟩
    · rw [hsame] at hq
      simp only [markFreed_f_children] at hq
      have := hF.c2p q x hq
      rw [hd1] at this; cases this
    · rw [hsame]; simpa using hd2
  constructor
  · cases h1 : (s'.notes c).freed with
    | false => rfl
    | true => exact absurd hc ((key c hold.1 h1).1 p)
  · cases h1 : (s'.notes p).freed with
    | false => rfl
    | true => have := (key p hold.2 h1).2; rw [this] at hc; cases hc

theorem InvLive.step_held {s s' : State} {e : Event} (hr : Reachable s) (hG : InvLive s)
    (hs : step s e = .ok s') (k : NoteId) (t : Tid) (h : (s'.notes k).lockHolder = some t) :
    (s'.notes k).freed = false := by
  -- the note was live before the step
  have hold : (s.notes k).freed = false ∧
      ((s.notes k).lockHolder = some t ∨
        (e.actor = some t ∧ ∀ par c nx, s.pc t ≠ .fr .free k par c nx)) := by
    by_cases h0 : (s.notes k).lockHolder = some t
    · exact ⟨hG.held k t h0, Or.inl h0⟩
    · obtain ⟨ha, hk, hw⟩ := step_acquire hs k t h h0
      refine ⟨touches_live hr hG hs k hk, Or.inr ⟨ha, ?_⟩⟩
      intro par c nx hpc
      rcases hw with hw | ⟨n, nk, hpc'⟩ | ⟨n, c', nx', hpc'⟩
      · rw [hpc] at hw; simp [PC.wants] at hw
      · rw [hpc] at hpc'; cases hpc'
      · rw [hpc] at hpc'; cases hpc'
  cases h1 : (s'.notes k).freed with
  | false => rfl
  | true =>
    exfalso
    obtain ⟨a, par, c, nx, ha, hpc⟩ := freed_new hs hold.1 h1
    have hq := hG.quiet a _ k par c nx hpc rfl
    rcases hold.2 with h2 | ⟨h2, h3⟩
    · rw [hq] at h2; cases h2
    · rw [ha] at h2
      obtain rfl := Option.some.inj h2
      exact h3 par c nx hpc

/-! ## Preservation: the end of `nsync_note_free`; the invariant -/

theorem FPos.afterWait_of_released {pos : FPos} (h : pos.released = true) :
    pos.afterWait = true := by
  cases pos <;> first | rfl | cases h

/-- The acting thread reaches / stays in the part of `nsync_note_free (n)` after the last
    WAIT_FOR_NO_CHILDREN: `n` has neither parent nor children, and once the thread has released
    `n->note_mu` for the last time nobody holds it. -/
theorem InvLive.end_own {s s' : State} {e : Event} {t : Tid} {pc pc' : PC} (hr : Reachable s)
    (hG : InvLive s) (h : Own s t pc e pc' s') (hpc : s.pc t = pc) {pos' : FPos} {n : NoteId}
    {par : Option NoteId} {c : NoteId} {nx : Option NoteId}
    (hpc' : pc' = .fr pos' n par c nx) (haw : pos'.afterWait = true) :
    ((s'.notes n).parent = none ∧ (s'.notes n).children = []) ∧
    (pos'.released = true → (s'.notes n).lockHolder = none) := by
  have hF := hr.invForest
  have hL := hr.inv6.2.2.2.2.1
  cases h
  all_goals (try (cases hpc'; done))
  case ld_dl_ld1_1 | unlockRet_dl_unlockRet_2 | now_dl_now_2 | unlockRet_nfy_unlockRet_dl =>
    exact absurd hpc' (afterDeadlinePc_ne_fr _ _ _ _ _ _ _ _)
  all_goals (try (cases hpc'; simp [FPos.afterWait] at haw; done))
  -- inside the last part already; `unlockCall_fr_unlockCall` is the last release
  case unlockCall_fr_unlockPCall | unlockCall_fr_unlockCall | unlockRet_fr_unlockPRet
      | unlockRet_fr_unlockRet | free_fr_free =>
    cases hpc'
    refine ⟨by simpa using hG.done _ _ _ _ _ _ hpc rfl, fun hrel => ?_⟩
    first
      | simpa using hG.quiet _ _ _ _ _ _ hpc rfl
      | simp_all [FPos.released]
    done
  all_goals refine ⟨?_, fun hrel => by cases hpc'; simp [FPos.released] at hrel⟩
  -- leaving the last WAIT_FOR_NO_CHILDREN, with a parent: the disconnection
  case waitRet_fr_waitRet_1 =>
    have hch := ‹(s.notes _).children = []›
    cases hpc'
    have hne := ((hL.claim_of hpc).2.1 _ rfl).2
    refine ⟨by simp, ?_⟩
    simp [hne.symm, hch]
    done
  -- … without parent
  all_goals (
    have hch := ‹(s.notes _).children = []›
    cases hpc'
    have hst := hF.stale _ _ _ (by rw [hpc]; rfl)
    refine ⟨by simpa using hst, by simpa using hch⟩)

/-- A thread whose call is on `m`, or that is creating `m`, and the thread freeing `m`. -/
theorem top_vs_freer {s : State} (hr : Reachable s) {t a : Tid} {m : NoteId}
    (ht : (s.pc t).arg = some m ∨ (s.pc t).creating = some m) (ha : (s.pc a).freer = some m) :
    t = a := by
  have hU := hr.invU
  have hsole := hU.sole a m ha
  rcases ht with h | h
  · have : t ∈ s.users m := (hU.users t m).mpr h
    rw [hsole] at this; exact List.mem_singleton.mp this
  · have h1 := hr.invR.pub a m (by rw [hsole]; simp)
    rw [(hr.inv6.1.creating t m h).2] at h1; cases h1

/-- The first part is preserved by the steps of the other threads. -/
theorem done_other {s s' : State} {e : Event} (hr : Reachable s) (hG : InvLive s)
    (hs : step s e = .ok s') (t : Tid) {pos : FPos} {n : NoteId}
    {par : Option NoteId} {c : NoteId} {nx : Option NoteId}
    (hpc : s.pc t = .fr pos n par c nx) (haw : pos.afterWait = true) :
    (s'.notes n).parent = none ∧ (s'.notes n).children = [] := by
  have hF := hr.invForest
  obtain ⟨hd1, hd2⟩ := hG.done t pos n par c nx hpc haw
  have hfr : (s.pc t).freer = some n := by rw [hpc]; rfl
  constructor
  · cases hp : (s'.notes n).parent with
    | none => rfl
    | some q =>
      exfalso
      rcases step_parent hs q n hp with h | ⟨a, dl, _, hpa⟩ | ⟨a, n0, nx0, _, hpa⟩
      · rw [hd1] at h; cases h
      · obtain rfl := top_vs_freer hr (Or.inr (by rw [hpa]; rfl)) hfr
        rw [hpc] at hpa; cases hpa
      · have := hF.c2p n0 n (hF.frc a _ _ _ _ _ hpa rfl)
        rw [hd1] at this; cases this
  · cases hc : (s'.notes n).children with
    | nil => rfl
    | cons x xs =>
      exfalso
      rcases step_children' hs n x (by rw [hc]; simp) with h | ⟨a, dl, _, hpa, _⟩ |
        ⟨a, n0, nx0, _, hpa, _⟩
      · rw [hd2] at h; cases h
      · obtain rfl := top_vs_freer hr (Or.inl (by rw [hpa]; rfl)) hfr
        rw [hpc] at hpa; cases hpa
      · have h1 := hF.linked a n0 n (by rw [hpa]; rfl)
        have := hr.invT.p2c n n0 h1
        rw [hd2] at this; cases this

/-- Nobody is about to acquire the mutex of a note whose `nsync_note_free` has left its last
    WAIT_FOR_NO_CHILDREN — except that call itself. -/
theorem no_acquire_done {s : State} (hr : Reachable s) (hG : InvLive s) {t : Tid} {pos : FPos}
    {n : NoteId} {par : Option NoteId} {c : NoteId} {nx : Option NoteId}
    (hpc : s.pc t = .fr pos n par c nx) (haw : pos.afterWait = true) {u : Tid}
    (hw : (s.pc u).wants = some n ∨ (∃ n' nk, s.pc u = .nfy .tryRet n' (some n) nk) ∨
      (∃ n' c' nx', s.pc u = .fr .tryRet n' (some n) c' nx')) : u = t := by
  have hF := hr.invForest
  have hL := hr.inv6.2.2.2.2.1
  obtain ⟨hd1, hd2⟩ := hG.done t pos n par c nx hpc haw
  -- a thread whose call is on `n`, or that is creating `n`
  have self : (s.pc u).arg = some n ∨ (s.pc u).creating = some n → u = t :=
    fun h => top_vs_freer hr h (by rw [hpc]; rfl)
  -- a thread whose local `parent` is `n` and that has not yet seen its note disconnected
  have lnk : ∀ m, (s.pc u).linked = some (m, n) → False := by
    intro m h
    have := hr.invT.p2c n m (hF.linked u m n h)
    rw [hd2] at this; cases this
  -- a thread that has selected `n` in a children list
  have chl : ∀ q, n ∈ (s.notes q).children → False := by
    intro q h
    have := hF.c2p q n h
    rw [hd1] at this; cases this
  rcases hw with hw | ⟨n', nk, hpu⟩ | ⟨n', c', nx', hpu⟩
  · cases hpu : s.pc u with
    | dl p m nt dk =>
      rw [hpu] at hw
      cases p <;> simp [PC.wants] at hw
      subst hw
      refine self ?_
      rw [hpu]
      cases dk <;> simp [PC.arg, DK.arg]
    | nfy p m par' nk =>
      rw [hpu] at hw
      cases p <;> simp [PC.wants] at hw
      · subst hw
        refine self ?_
        rw [hpu]
        cases nk with
        | ofApi => simp [PC.arg, NK.arg]
        | ofDeadline dk => cases dk <;> simp [PC.arg, NK.arg, DK.arg]
      · subst hw; exact (lnk m (by rw [hpu]; rfl)).elim
      · subst hw
        refine self ?_
        rw [hpu]
        cases nk with
        | ofApi => simp [PC.arg, NK.arg]
        | ofDeadline dk => cases dk <;> simp [PC.arg, NK.arg, DK.arg]
    | chd p stk top =>
      rw [hpu] at hw
      cases p with
      | lockChildRet c0 =>
        simp [PC.wants] at hw
        subst hw
        cases stk with
        | nil => exact absurd hpu (hL.chd_ne_nil u _ _)
        | cons f rest => exact (chl _ (hF.chc u _ _ _ _ _ hpu rfl)).elim
      | waitRet b =>
        cases b <;> simp [PC.wants] at hw
        cases stk with
        | nil => simp at hw
        | cons f rest =>
          simp at hw
          cases rest with
          | nil =>
            have hft := (hL.claim_of hpu).single
            refine self ?_
            rw [hpu, ← hw, hft]
            cases hk : top.k with
            | ofApi => simp [PC.arg, hk, NK.arg]
            | ofDeadline dk => cases dk <;> simp [PC.arg, hk, NK.arg, DK.arg]
          | cons g gs =>
            have := hF.chain u _ _ _ hpu
            simp only [List.map_cons, ChainCur] at this
            rw [hw] at this
            exact (chl _ this.1).elim
      | _ => simp [PC.wants] at hw
    | newP p m q dl =>
      rw [hpu] at hw
      cases p <;> simp [PC.wants] at hw
      subst hw
      exact self (Or.inl (by rw [hpu]; rfl))
    | fr p m par' c0 nx0 =>
      rw [hpu] at hw
      cases p with
      | waitRet b =>
        cases b <;> simp [PC.wants] at hw
        subst hw; exact self (Or.inl (by rw [hpu]; rfl))
      | lockRet => simp [PC.wants] at hw; subst hw; exact self (Or.inl (by rw [hpu]; rfl))
      | sLockNRet => simp [PC.wants] at hw; subst hw; exact self (Or.inl (by rw [hpu]; rfl))
      | sLockPRet => simp [PC.wants] at hw; subst hw; exact (lnk m (by rw [hpu]; rfl)).elim
      | lockChildRet =>
        simp [PC.wants] at hw; subst hw
        exact (chl _ (hF.frc u _ _ _ _ _ hpu rfl)).elim
      | _ => simp [PC.wants] at hw
    | wt p m wdl r =>
      rw [hpu] at hw
      cases p <;> simp [PC.wants] at hw <;> subst hw <;> exact self (Or.inl (by rw [hpu]; rfl))
    | _ => rw [hpu] at hw; simp [PC.wants] at hw
  · exact (lnk n' (by rw [hpu]; rfl)).elim
  · exact (lnk n' (by rw [hpu]; rfl)).elim

theorem step_invLive {s s' : State} {e : Event} (hr : Reachable s) (hG : InvLive s)
    (hs : step s e = .ok s') : InvLive s' := by
  refine ⟨hG.step_child hr hs, hG.step_held hr hs, ?_, ?_⟩
  · intro t pos n par c nx hpc' haw
    by_cases ha : e.actor = some t
    · exact (hG.end_own hr (step_actor hs ha) rfl hpc' haw).1
    · rw [step_pc_other hs t ha] at hpc'
      exact done_other hr hG hs t hpc' haw
  · intro t pos n par c nx hpc' hrel
    have haw := FPos.afterWait_of_released hrel
    by_cases ha : e.actor = some t
    · exact (hG.end_own hr (step_actor hs ha) rfl hpc' haw).2 hrel
    · rw [step_pc_other hs t ha] at hpc'
      have hq := hG.quiet t pos n par c nx hpc' hrel
      cases hl : (s'.notes n).lockHolder with
      | none => rfl
      | some u =>
        exfalso
        obtain ⟨hau, -, hw⟩ := step_acquire hs n u hl (by rw [hq]; simp)
        have := no_acquire_done hr hG hpc' haw hw
        subst this
        exact ha hau

theorem Reachable.invLive {s : State} (h : Reachable s) : InvLive s :=
  Reachable.induction (P := InvLive) InvLive.init (fun _ _ _ hr hG hs => step_invLive hr hG hs)
    s h

end Note
