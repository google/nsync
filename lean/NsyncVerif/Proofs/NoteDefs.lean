/-
  Layer `Note`: derived notions used by the invariants and theorems (the note a program counter is
  creating, which continuations are observations, ancestors in the current forest, `Caused`).
-/
import NsyncVerif.Proofs.NoteFrame

namespace Note

theorem mem_of_eq_cons {α : Type} {l cs : List α} {c : α} (h : l = c :: cs) : c ∈ l :=
  h ▸ List.mem_cons_self

/-- The continuation belongs to `nsync_note_new` (the note is the one being created). -/
def DK.isNew : DK → Bool
  | .newSelf _ _ => true
  | _ => false

def NK.isNew : NK → Bool
  | .ofDeadline k => k.isNew
  | .ofApi => false

/-- The continuation belongs to an observation (`nsync_note_is_notified` / `nsync_note_wait`). -/
@[simp] def DK.isObs : DK → Bool
  | .isNotified | .ready1 _ | .ready2 _ _ | .dequeue _ _ => true
  | _ => false

@[simp] def NK.isObs : NK → Bool
  | .ofDeadline k => k.isObs
  | .ofApi => false

/-- `nsync_note_notified_deadline_` returns to an API function, never into `note_notify_child` … -/
theorem afterDeadlinePc_ne_chd (n : NoteId) (nt : Dl) (k : DK) (pos : CPos) (stk : List Frame)
    (top : Top) : afterDeadlinePc n nt k ≠ .chd pos stk top := by
  cases k <;> simp only [afterDeadlinePc] <;> (repeat' split) <;> exact PC.noConfusion

/-- … nor into `nsync_note_free`. -/
theorem afterDeadlinePc_ne_fr (n : NoteId) (nt : Dl) (k : DK) (pos : FPos) (m : NoteId)
    (par : Option NoteId) (c : NoteId) (nx : Option NoteId) :
    afterDeadlinePc n nt k ≠ .fr pos m par c nx := by
  cases k <;> simp only [afterDeadlinePc] <;> (repeat' split) <;> exact PC.noConfusion

/-- The activation of `note_notify_child` has stored the flag of its note. -/
@[simp] def CPos.stored : CPos → Bool
  | .ld | .st => false
  | _ => true

/-- The note this thread is creating (inside `nsync_note_new`, after `malloc`). -/
def PC.creating : PC → Option NoteId
  | .dl _ n _ k => bif k.isNew then some n else none
  | .nfy _ n _ k => bif k.isNew then some n else none
  | .chd _ _ top => bif top.k.isNew then some top.n else none
  | .newP _ n _ _ => some n
  | .retNew n _ => some n
  | _ => none

@[simp] theorem creating_idle : PC.idle.creating = none := rfl
@[simp] theorem creating_newMalloc (p : Option NoteId) (d : Dl) : (PC.newMalloc p d).creating = none := rfl
@[simp] theorem creating_newRetNull (p : Option NoteId) : (PC.newRetNull p).creating = none := rfl
@[simp] theorem creating_dl (p : DPos) (n : NoteId) (nt : Dl) (k : DK) :
    (PC.dl p n nt k).creating = bif k.isNew then some n else none := rfl
@[simp] theorem creating_nfy (p : NPos) (n : NoteId) (par : Option NoteId) (k : NK) :
    (PC.nfy p n par k).creating = bif k.isNew then some n else none := rfl
@[simp] theorem creating_chd (p : CPos) (stk : List Frame) (top : Top) :
    (PC.chd p stk top).creating = bif top.k.isNew then some top.n else none := rfl
@[simp] theorem creating_newP (p : NewPos) (n par : NoteId) (d : Dl) : (PC.newP p n par d).creating = some n := rfl
@[simp] theorem creating_retNew (n : NoteId) (par : Option NoteId) : (PC.retNew n par).creating = some n := rfl
@[simp] theorem creating_retIs (n : NoteId) (b : Bool) : (PC.retIs n b).creating = none := rfl
@[simp] theorem creating_retNotify (n : NoteId) : (PC.retNotify n).creating = none := rfl
@[simp] theorem creating_retExpiry (n : NoteId) : (PC.retExpiry n).creating = none := rfl
@[simp] theorem creating_fr (p : FPos) (n : NoteId) (par : Option NoteId) (c : NoteId) (nx : Option NoteId) :
    (PC.fr p n par c nx).creating = none := rfl
@[simp] theorem creating_wt0 (p : W0Pos) (n : NoteId) (d : Dl) : (PC.wt0 p n d).creating = none := rfl
@[simp] theorem creating_wt (p : WPos) (n : NoteId) (d : Dl) (r : Rid) : (PC.wt p n d r).creating = none := rfl

@[simp] theorem DK.isNew_isNotified : DK.isNotified.isNew = false := rfl
@[simp] theorem DK.isNew_notifyApi : DK.notifyApi.isNew = false := rfl
@[simp] theorem DK.isNew_newSelf (p : Option NoteId) (d : Dl) : (DK.newSelf p d).isNew = true := rfl
@[simp] theorem DK.isNew_ready1 (d : Dl) : (DK.ready1 d).isNew = false := rfl
@[simp] theorem DK.isNew_ready2 (r : Rid) (d : Dl) : (DK.ready2 r d).isNew = false := rfl
@[simp] theorem DK.isNew_dequeue (r : Rid) (d : Dl) : (DK.dequeue r d).isNew = false := rfl
@[simp] theorem NK.isNew_ofApi : NK.ofApi.isNew = false := rfl
@[simp] theorem NK.isNew_ofDeadline (k : DK) : (NK.ofDeadline k).isNew = k.isNew := rfl

/-- Ancestor-or-self in the current forest. -/
inductive Anc (s : State) : NoteId → NoteId → Prop
  | refl (n : NoteId) : Anc s n n
  | up {a p n : NoteId} : (s.notes n).parent = some p → Anc s a p → Anc s a n

/-- Some note that was ever on the path from `n` to a root had `nsync_note_notify` called on it, or
    its own deadline has passed. -/
def Caused (s : State) (n : NoteId) : Prop :=
  ∃ a, a ∈ s.ancEver n ∧ (s.notifyCalled a = true ∨ ∃ e, s.ownDl a = some e ∧ e ≤ s.now)

end Note
