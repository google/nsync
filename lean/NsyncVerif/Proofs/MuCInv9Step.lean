import NsyncVerif.Proofs.MuCEffScan
import NsyncVerif.Proofs.MuCQMono
import NsyncVerif.Proofs.MuCInv9
/-
  MuC, who waits on which record (`Inv9`) through every step: one lemma per kind of step (`Eff`), `inv9_step`, `inv9_init`.
-/
namespace NsyncVerif.MuC

theorem wr9_of_eq {s s' : State} {x : Wid}
    (h : (s'.wr x).waiting = (s.wr x).waiting ∧ (s'.wr x).lType = (s.wr x).lType ∧ (s'.wr x).sem = (s.wr x).sem) :
    (s'.wr x).waiting = (s.wr x).waiting ∧ (s'.wr x).lType = (s.wr x).lType ∧
      ∀ u, (s'.pc u).pwait = some x → (s.wr x).sem ≠ 0 → (s'.wr x).sem ≠ 0 :=
  ⟨h.1, h.2.1, fun _ _ => by rw [h.2.2]; exact id⟩

theorem setFn_wr3 {wr : Wid → WRec} {k : Wid} {r : WRec} (hw : r.waiting = (wr k).waiting) (hl : r.lType = (wr k).lType)
    (hs : r.sem = (wr k).sem) (x : Wid) :
    (setFn wr k r x).waiting = (wr x).waiting ∧ (setFn wr k r x).lType = (wr x).lType ∧ (setFn wr k r x).sem = (wr x).sem := by
  rw [setFn_apply]; split
  · subst_vars; exact ⟨hw, hl, hs⟩
  · exact ⟨rfl, rfl, rfl⟩

theorem dropW_wr3 (s : State) (w : Option Wid) (x : Wid) :
    ((dropW s w).wr x).waiting = (s.wr x).waiting ∧ ((dropW s w).wr x).lType = (s.wr x).lType ∧
      ((dropW s w).wr x).sem = (s.wr x).sem := by
  cases w with
  | none => exact ⟨rfl, rfl, rfl⟩
  | some k => exact setFn_wr3 (by rfl) (by rfl) (by rfl) x

theorem lnk3_mergeLinks (s : State) (p n : Option Wid) (x : Wid) :
    ((mergeLinks s p n).wr x).waiting = (s.wr x).waiting ∧ ((mergeLinks s p n).wr x).lType = (s.wr x).lType ∧
    ((mergeLinks s p n).wr x).sem = (s.wr x).sem := by
  have := lnkOnly_mergeLinks s p n x
  exact ⟨this.2.1, this.2.2.1, this.2.2.2.1⟩

/-- From a point of unlock_slow for the caller `r` with wake list `l` to the end of unlock_slow. -/
theorem finPc_keep9 {s : State} {w' : Word} {r : Ret} {l : List Wid} {p : PC} (hok : r.ok) (hsc : p.scan? = none)
    (hwk : p.wakeL = l) (hrec : p.waitRec = r.w?) (hwm : p.wmode = r.wmode) : Keep9 s w' (finPc r l) p := by
  have hhl := finPc_hlRec r l hok
  cases l <;> cases r <;> first
    | exact .plain hsc.symm hwk.symm hrec.symm (fun hn => absurd hrec hn) rfl rfl rfl rfl hhl
    | exact .plain hsc.symm hwk.symm hrec.symm (fun _ => hwm.symm) rfl rfl rfl rfl hhl

theorem RetPc.keep9 {hd : Option Mode} {p : PC} {m : Option Mode} {w : Option Wid} {b : Bool} (h : RetPc hd p m w b) {s : State}
    {w' : Word} : Keep9 s w' .idle p := by
  cases h <;> exact .plain rfl rfl rfl (fun e => absurd rfl e) rfl rfl rfl rfl rfl

theorem CallPc.keep9 {s : State} {t : Tid} {p : PC} {nw : Bool} {ca : Option Cond} (h : CallPc s t p nw ca) {w' : Word} :
    Keep9 s w' p .idle := by
  cases h <;> exact .plain rfl rfl rfl (fun e => absurd rfl e) rfl rfl rfl rfl rfl

theorem loopPc_keep9 {s : State} {w' : Word} {c : MW} {b : Bool} {p : PC} (hsc : p.scan? = none) (hwk : p.wakeL = [])
    (hrec : p.waitRec = none) : Keep9 s w' (loopPc c b) p := by
  unfold loopPc; split <;> exact .plain hsc.symm hwk.symm hrec.symm (fun e => absurd hrec e) rfl rfl rfl rfl rfl

theorem SemPc.keep9 {cfg : Cfg} {s0 s : State} {w' : Word} {p p' : PC} {k : Wid} {n : Nat} (h : SemPc cfg s0 p p' k n)
    (hok : p.ok) : Keep9 s w' p' p := by
  cases h with
  | ls c k _ _ => exact .plain rfl rfl rfl (fun _ => rfl) rfl rfl rfl rfl rfl
  | mw c dl k _ _ => exact .plain rfl rfl rfl (fun _ => rfl) rfl rfl rfl rfl (by simp only [PC.hlRec, hok.2.1]; rfl)
  | v r k rest => exact finPc_keep9 hok rfl rfl rfl rfl

/-- The thread consumes a post of the semaphore it waits on, or it posts: the new count is not 0. -/
theorem SemPc.post9 {cfg : Cfg} {s : State} {p p' : PC} {k : Wid} {n : Nat} (h : SemPc cfg s p p' k n) :
    (p.pwait = some k ∧ p'.pwait = none ∧ ∀ r x rest, p ≠ .usWakeV r x rest) ∨
      (n ≠ 0 ∧ ∀ r x rest, p = .usWakeV r x rest → x = k) := by
  cases h with
  | ls c k hk _ => exact Or.inl ⟨hk, rfl, fun _ _ _ e => nomatch e⟩
  | mw c dl k hk _ => exact Or.inl ⟨hk, rfl, fun _ _ _ e => nomatch e⟩
  | v r k rest => exact Or.inr ⟨by split <;> simp, fun _ _ _ e => by cases e; rfl⟩

theorem Inv9.ret {s s' : State} {t : Tid} {m : Option Mode} {w : Option Wid} {b : Bool} (h4 : Inv4 s) (h : Inv9 s)
    (hp : RetPc (s.held t) (s.pc t) m w b) (e : RetEff s t m w b s') : Inv9 s' :=
  h.frame h4 e.pc e.queue (fun x => wr9_of_eq (by rw [e.wr]; exact dropW_wr3 s w x)) (fun _ hc => by rw [e.word]; exact hc)
    (fun _ _ _ hv => by rw [hv] at hp; cases hp) hp.keep9

theorem Inv9.call {s s' : State} {t : Tid} {p' : PC} {nw : Bool} {ca : Option Cond} (h4 : Inv4 s) (h : Inv9 s)
    (h0 : s.pc t = .idle) (hp : CallPc s t p' nw ca) (e : CallEff s t p' nw ca s') : Inv9 s' :=
  h.frame h4 e.pc e.queue (fun _ => by rw [e.wr]; exact ⟨rfl, rfl, fun _ _ => id⟩) (fun _ hc => by rw [e.word]; exact hc)
    (fun _ _ _ hv => by rw [h0] at hv; cases hv) (h0 ▸ hp.keep9)

theorem Inv9.eval {s : State} {t : Tid} {c : MW} (h4 : Inv4 s) (h : Inv9 s) (heq : s.pc t = .mwEval c) (b : Bool) :
    Inv9 (setPc s t (loopPc c b)) :=
  h.frame h4 rfl rfl (fun _ => ⟨rfl, rfl, fun _ _ => id⟩) (fun _ => id) (fun _ _ _ hv => by rw [heq] at hv; cases hv)
    (heq ▸ loopPc_keep9 rfl rfl rfl)

theorem Inv9.ldRc {s : State} {t : Tid} {c : MW} {k : Wid} (h4 : Inv4 s) (h : Inv9 s) (heq : s.pc t = .mwRcLd c) (obs : Nat) :
    Inv9 { setPc s t (.mwEnqLd { c with rcl := obs }) with wr := setFn s.wr k { s.wr k with rc := obs } } :=
  h.frame h4 rfl rfl (fun x => wr9_of_eq (setFn_wr3 (by rfl) (by rfl) (by rfl) x)) (fun _ => id) (fun _ _ _ hv => by rw [heq] at hv; cases hv)
    (heq ▸ (⟨rfl, rfl, fun e => (nomatch e), fun _ e => (nomatch e), Or.inl ⟨rfl, fun _ => rfl⟩, fun _ e => (nomatch e),
      fun _ _ e => Or.inl e, fun _ e => (nomatch e)⟩ : Keep9 s _ (.mwEnqLd { c with rcl := obs }) (.mwRcLd c)))

theorem Inv9.mtRm {s : State} {t : Tid} {c : MW} {old : Word} {rc : Nat} {k : Wid} (h4 : Inv4 s) (h : Inv9 s)
    (heq : s.pc t = .mtRmCas c old rc) (n : Nat) :
    Inv9 { setPc s t (.mtStW c old) with wr := setFn s.wr k { s.wr k with rc := n } } :=
  h.frame h4 rfl rfl (fun x => wr9_of_eq (setFn_wr3 (by rfl) (by rfl) (by rfl) x)) (fun _ => id) (fun _ _ _ hv => by rw [heq] at hv; cases hv)
    (heq ▸ (⟨rfl, rfl, fun e => (nomatch e), fun _ e => Or.inl e, Or.inl ⟨rfl, fun _ => rfl⟩, fun _ e => (nomatch e),
      fun _ _ e => Or.inl e, fun _ e => (nomatch e)⟩ : Keep9 s _ (.mtStW c old) (.mtRmCas c old rc)))

/-- The thread consumes a post of its own semaphore (no other thread waits on it), or posts a semaphore. -/
theorem Inv9.sem {cfg : Cfg} {s s' : State} {t : Tid} {p' : PC} {k : Wid} {n : Nat} (h1 : Inv1 s) (h4 : Inv4 s) (h : Inv9 s)
    (hp : SemPc cfg s (s.pc t) p' k n) (e : SemEff s t p' k n s') : Inv9 s' := by
  have hk : (s'.wr k).sem = n := by rw [e.wr, setFn_same]
  have hx : ∀ x, x ≠ k → s'.wr x = s.wr x := setFn_others e.wr
  have hwl : ∀ x, (s'.wr x).waiting = (s.wr x).waiting ∧ (s'.wr x).lType = (s.wr x).lType := fun x => by
    rw [e.wr, setFn_apply]; split
    · subst_vars; exact ⟨rfl, rfl⟩
    · exact ⟨rfl, rfl⟩
  have hw : s.word.waiting = true → s'.word.waiting = true := fun hc => by rw [e.word]; exact hc
  rcases hp.post9 with ⟨a, b, c⟩ | ⟨a, c⟩
  · refine h.frame h4 e.pc e.queue (fun x => ⟨(hwl x).1, (hwl x).2, fun u hu hne => ?_⟩) (fun _ => hw)
      (fun r x rest hv => absurd hv (c r x rest)) (hp.keep9 (h1.pcok t))
    by_cases hxk : x = k
    · exfalso
      subst hxk
      by_cases hu' : u = t
      · subst hu'; rw [e.pc, setFn_same, b] at hu; cases hu
      · rw [e.pc, setFn_other _ _ _ _ hu'] at hu
        exact hu' (waitRec_unique h4 (pwait_waitRec hu) (pwait_waitRec a))
    · rw [hx x hxk]; exact hne
  · refine h.frame h4 e.pc e.queue (fun x => ⟨(hwl x).1, (hwl x).2, fun u _ hne => ?_⟩) (fun _ => hw)
      (fun r x rest hv => Or.inr (by rw [c r x rest hv, hk]; exact a)) (hp.keep9 (h1.pcok t))
    by_cases hxk : x = k
    · rw [hxk, hk]; exact a
    · rw [hx x hxk]; exact hne

theorem scanPc_view9 {r : Ret} {late : Bool} {p : PC} (h : ScanPc r late p) :
    p.waitRec = r.w? ∧ p.wmode = r.wmode ∧ p.pwait = none ∧ p.limboL = none ∧ p.hlRec = none := by
  cases p <;> simp [ScanPc] at h <;> simp [PC.waitRec, PC.wmode, PC.pwait, PC.limboL, PC.hlRec, h]

theorem scanPc_waitRec {r : Ret} {late : Bool} {p : PC} (h : ScanPc r late p) : p.waitRec = r.w? := (scanPc_view9 h).1

theorem scanPc_hlRec {r : Ret} {late : Bool} {p : PC} (h : ScanPc r late p) : p.hlRec = none := (scanPc_view9 h).2.2.2.2

theorem scanSrc_view9 {p : PC} {r : Ret} (h : p.scanSrc = some r) :
    p.waitRec = r.w? ∧ p.wmode = r.wmode ∧ ∀ r' k rest, p ≠ .usWakeV r' k rest := by
  cases p <;> cases h <;> exact ⟨rfl, rfl, fun _ _ _ e => nomatch e⟩

theorem listed_iff_allOf {s : State} (t : Tid) (hoth : ∀ u, u ≠ t → (s.pc u).unl = false) (x : Wid) :
    Listed s x ↔ x ∈ allOf s t ∨ ∃ u, u ≠ t ∧ x ∈ (s.pc u).wakeL := by
  simp only [Listed, allOf, List.mem_append]
  constructor
  · rintro (hq | ⟨u, hu⟩)
    · rcases hq with hq | ⟨u, sc, h1, h2⟩
      · exact Or.inl (Or.inl (Or.inl hq))
      · by_cases e : u = t
        · subst e; exact Or.inl (Or.inl (Or.inr (mem_priv_iff.2 ⟨sc, h1, h2⟩)))
        · have := unl_of_scan h1; rw [hoth u e] at this; cases this
    · by_cases e : u = t
      · subst e; exact Or.inl (Or.inr hu)
      · exact Or.inr ⟨u, e, hu⟩
  · rintro (((hq | hp) | hw) | ⟨u, _, hu⟩)
    · exact Or.inl (Or.inl hq)
    · obtain ⟨sc, h1, h2⟩ := mem_priv_iff.1 hp
      exact Or.inl (Or.inr ⟨t, sc, h1, h2⟩)
    · exact Or.inr ⟨t, hw⟩
    · exact Or.inr ⟨u, hu⟩

/-- A step of the unlocker `t` that runs the scan: queue, private lists and wake list are permuted. -/
theorem Inv9.scan {s s' : State} {t : Tid} {r : Ret} {late : Bool} (h4 : Inv4 s) (h4' : Inv4 s') (h : Inv9 s)
    (e : ScanEff s t r late s') : Inv9 s' := by
  have hoth' : ∀ u, u ≠ t → (s'.pc u).unl = false := fun u hu => by rw [e.oth u hu]; exact e.alone u hu
  have hL : ∀ x, Listed s' x ↔ Listed s x := by
    intro x
    rw [listed_iff_allOf t hoth', listed_iff_allOf t e.alone, e.perm.mem_iff]
    constructor
    · rintro (a | ⟨u, hu, b⟩)
      · exact Or.inl a
      · exact Or.inr ⟨u, hu, by rw [← e.oth u hu]; exact b⟩
    · rintro (a | ⟨u, hu, b⟩)
      · exact Or.inl a
      · exact Or.inr ⟨u, hu, by rw [e.oth u hu]; exact b⟩
  obtain ⟨hrec, hwm, hnv⟩ := scanSrc_view9 e.src
  obtain ⟨d1, d2, d3, d4, d5⟩ := scanPc_view9 e.dst
  refine Inv9.step t h4 h (fun x => (hL x).1) (fun x hx => queued_of_scan h4' e.oth e.perm e.alone e.wake hx)
    (fun x hx _ => (hL x).2 hx) (fun x => wr9_of_eq ⟨(e.wr x).2.1, (e.wr x).2.2.1, (e.wr x).2.2.2.1⟩) ?_ e.oth
    (fun r k rest hv => absurd hv (hnv r k rest)) (by rw [scanPc_enqPend e.dst]; intro e; cases e)
    (by rw [scanPc_mtOld e.dst]; intro o e; cases e)
    (Or.inl ⟨d1.trans hrec.symm, fun _ => d2.trans hwm.symm, fun x _ hx => (hL x).2 hx⟩)
    (by rw [d3]; intro k e; cases e) (by rw [d4]; intro k l e; cases e) (by rw [d5]; intro k e; cases e)
  intro _ hc
  rw [e.hints.1]; exact hc

/-- The waiter takes its record off the queue (mu_wait.c:112): it stops waiting on it. -/
theorem Inv9.ldDeq {s : State} {t : Tid} {c : MW} {old : Word} {k : Wid} (h4 : Inv4 s) (h : Inv9 s)
    (heq : s.pc t = .mtLdRc c old) (hk : c.w = some k) (hmem : k ∈ s.queue) : Inv9 (setPc (dequeue s k) t (.mtRmLd c old)) := by
  obtain ⟨hq, hpc, -, hlo⟩ := deq_shrink s k
  have hqnd : s.queue.Nodup := by
    have := h4.nd t; simp only [allOf, List.append_assoc] at this; exact (List.nodup_append.mp this).1
  have hsc : ∀ u, ((setPc (dequeue s k) t (PC.mtRmLd c old)).pc u).scan? = (s.pc u).scan? := fun u => by
    rw [setPc_pc, hpc]; exact setFn_proj PC.scan? (by rw [heq]; rfl) u
  have hwkL : ∀ u, ((setPc (dequeue s k) t (PC.mtRmLd c old)).pc u).wakeL = (s.pc u).wakeL := fun u => by
    rw [setPc_pc, hpc]; exact setFn_proj PC.wakeL (by rw [heq]; rfl) u
  have hQsub : ∀ x, Queued (setPc (dequeue s k) t (PC.mtRmLd c old)) x → Queued s x :=
    fun x => queued_shrink hq hpc (by rw [heq]; rfl)
  have hwrec : (s.pc t).waitRec = some k := by rw [heq]; exact hk
  refine Inv9.step t h4 h ?_ hQsub ?_ (fun x => wr9_of_eq ⟨(hlo x).2.1, (hlo x).2.2.1, (hlo x).2.2.2.1⟩)
    (fun _ hc => by simpa [dequeue] using hc) (by intro u hu; simp [dequeue, setFn, hu]) (by intro r k' rest hv; rw [heq] at hv; cases hv)
    (by simp [PC.enqPend]) (by intro o' ho; left; simpa [heq, PC.mtOld] using ho) (Or.inr (Or.inr ⟨by simp [PC.waitRec], ?_⟩))
    (by intro k' hk'; simp [PC.pwait] at hk')
    (by intro k' l hk'; right; rw [heq]; simp only [setPc_pc, setFn_same, PC.limboL, hk, Option.map_some, Option.some.injEq, Prod.mk.injEq] at hk'; simp [PC.waitRec, PC.wmode, hk, hk'.1, hk'.2])
    (by intro k' hk'; simp [PC.hlRec] at hk')
  · rintro x (hx | ⟨u, hu⟩)
    · exact Or.inl (hQsub x hx)
    · rw [hwkL] at hu; exact Or.inr ⟨u, hu⟩
  · rintro x (hx | ⟨u, hu⟩) hne
    · left
      rcases hx with hx | ⟨u, sc, h1, h2⟩
      · left
        have hxk : x ≠ k := fun e => hne (by rw [e]; exact hwrec)
        simp only [setPc_queue, dequeue]
        exact (List.mem_erase_of_ne hxk).2 hx
      · right; exact ⟨u, sc, by rw [hsc]; exact h1, h2⟩
    · right; exact ⟨u, by rw [hwkL]; exact hu⟩
  · intro k' hk'
    rw [hwrec] at hk'; cases hk'
    rintro (hx | ⟨u, hu⟩)
    · rcases hx with hx | ⟨u, sc, h1, h2⟩
      · simp only [setPc_queue, dequeue] at hx
        exact (List.Nodup.not_mem_erase hqnd) hx
      · rw [hsc] at h1
        exact h4.not_in_priv hmem u (mem_priv_iff.2 ⟨sc, h1, h2⟩)
    · rw [hwkL] at hu
      exact (h4.wk u k hu).2 (Or.inl hmem)

/-- The final CAS of unlock_slow: MU_WAITING is cleared only when nothing is queued. -/
theorem Inv9.fin {s s' : State} {t : Tid} {r : Ret} {f : Fin} {old : Word} (h1 : Inv1 s) (h3 : Inv3 s) (h4 : Inv4 s) (h : Inv9 s)
    (heq : s.pc t = .usFinCas r f old) (hw : s.word = old) (e : CasOk s t (finPc r f.wake) (finWord f old) none s') : Inv9 s' := by
  have hsp := h3.others_no_spin (t := t) (by rw [heq]; rfl)
  have hok := h1.pcok t; rw [heq] at hok
  have hpct : s'.pc t = finPc r f.wake := setFn_at e.pc
  have hpcs : ∀ u, u ≠ t → s'.pc u = s.pc u := setFn_others e.pc
  refine h.frame h4 e.pc e.queue (fun _ => by rw [e.wr_none]; exact ⟨rfl, rfl, fun _ _ => id⟩) ?_
    (fun _ _ _ hv => by rw [heq] at hv; cases hv) (heq ▸ finPc_keep9 hok rfl rfl rfl rfl)
  intro hex hc
  have hcef : f.cEmpty = false := by
    rcases hex with ⟨k, hk⟩ | ⟨u, hu⟩
    · -- the only scanner is `t`, which is past the scan: what is queued is on mu->waiters
      have hmem : k ∈ s.queue := by
        rcases (queued_same (t := t) e.queue hpcs (by rw [hpct, finPc_scan, heq]; rfl) k).1 hk with hk' | ⟨u, sc, hu, _⟩
        · exact hk'
        · have := h4.uniq u t (unl_of_scan hu) (by rw [heq]; rfl)
          subst this; rw [heq] at hu; cases hu
      rw [h4.finq t f (by rw [heq]; rfl)]
      cases hq : s.queue with
      | nil => rw [hq] at hmem; cases hmem
      | cons a b => rfl
    · -- `t` holds the spinlock
      exfalso
      by_cases e' : u = t
      · subst e'; rw [hpct, finPc_enqPend] at hu; cases hu
      · rw [hpcs u e'] at hu
        have := spin_of_enqPend hu; rw [hsp u e'] at this; cases this
  rw [e.word]
  simp [finWord, hcef, ← hw, hc]

theorem Inv4.no_other_ref {s : State} (h4 : Inv4 s) {t : Tid} {k : Wid}
    (hown : (s.wr k).owner = none ∨ (s.wr k).owner = some t) (u : Tid) (hu : u ≠ t) : k ∉ (s.pc u).ws := by
  intro e
  have := h4.own u k e
  rcases hown with a | a <;> rw [a] at this <;> cases this
  exact hu rfl

/-- `t`, which holds the spinlock, queues the record `k` (reset to `rec`), to which no other thread refers, and waits
    on it from `p'` on. -/
theorem Inv9.enq {s E : State} {p : PC} (t : Tid) (k : Wid) (p' : PC) (rec : WRec) (h4 : Inv4 s) (h : Inv9 s) (heq : s.pc t = p)
    (hsp : ∀ u, u ≠ t → (s.pc u).spin = false)
    (hsrc : p.scan? = none ∧ p.wakeL = [] ∧ p.waitRec = none ∧ ∀ r x rest, p ≠ .usWakeV r x rest)
    (hEq : ∀ x, x ∈ E.queue ↔ x = k ∨ x ∈ s.queue) (hEpc : E.pc = s.pc) (hEw : E.word.waiting = true)
    (hEwr : ∀ x, ((E.wr x).waiting = ((setFn s.wr k rec) x).waiting ∧ (E.wr x).lType = ((setFn s.wr k rec) x).lType ∧
      (E.wr x).sem = ((setFn s.wr k rec) x).sem))
    (hrl : rec.lType = p'.wmode)
    (hdst : p'.scan? = none ∧ p'.wakeL = [] ∧ p'.waitRec = some k ∧ p'.mtOld = none ∧ p'.pwait = none ∧ p'.limboL = none ∧
      p'.hlRec = none)
    (hown : (s.wr k).owner = none ∨ (s.wr k).owner = some t) : Inv9 (setPc E t p') := by
  subst heq
  obtain ⟨s1, s2, s3, s4⟩ := hsrc
  obtain ⟨d1, d2, d3, d4, d5, d6, d7⟩ := hdst
  have hno := h4.no_other_ref hown
  have hpt : (setPc E t p').pc t = p' := setFn_same _ _ _
  have hpcs : ∀ u, u ≠ t → (setPc E t p').pc u = s.pc u := by
    intro u hu; simp [setFn, hu, hEpc]
  have hsc : ∀ u, ((setPc E t p').pc u).scan? = (s.pc u).scan? := by
    intro u; by_cases e : u = t
    · subst e; rw [hpt, d1, s1]
    · rw [hpcs u e]
  have hwkL : ∀ u, ((setPc E t p').pc u).wakeL = (s.pc u).wakeL := by
    intro u; by_cases e : u = t
    · subst e; rw [hpt, d2, s2]
    · rw [hpcs u e]
  have hQ : ∀ x, Queued (setPc E t p') x ↔ x = k ∨ Queued s x := by
    intro x
    simp only [Queued, hsc, setPc_queue, hEq]
    constructor
    · rintro ((a | a) | a)
      · exact Or.inl a
      · exact Or.inr (Or.inl a)
      · exact Or.inr (Or.inr a)
    · rintro (a | a | a)
      · exact Or.inl (Or.inl a)
      · exact Or.inl (Or.inr a)
      · exact Or.inr a
  refine Inv9.core t (some k) h4 h (fun _ _ => hEw) (fun _ _ => hEw) ?_ ?_ ?_ ?_ ?_ hpcs ?_ ?_ ?_ ?_ ?_ ?_ ?_ ?_ ?_
  · intro u old ho
    by_cases e : u = t
    · subst e; rw [hpt, d4] at ho; cases ho
    · rw [hpcs u e] at ho
      have := spin_of_mtOld ho; rw [hsp u e] at this; cases this
  · rintro x (hx | ⟨u, hu⟩)
    · rcases (hQ x).1 hx with e | e
      · right; rw [hpt, d3, e]
      · exact Or.inl (Or.inl e)
    · rw [hwkL] at hu; exact Or.inl (Or.inr ⟨u, hu⟩)
  · rintro x (hx | ⟨u, hu⟩) _ _
    · exact Or.inl ((hQ x).2 (Or.inr hx))
    · exact Or.inr ⟨u, by rw [hwkL]; exact hu⟩
  · intro x hx
    have hxk : x ≠ k := fun e => hx (by rw [e])
    have := hEwr x
    rw [setFn_other _ _ _ _ hxk] at this
    exact wr9_of_eq this
  · intro u hu x e; cases e; exact fun e' => hno u hu (waitRec_mem_ws e')
  · intro x hx; rw [s3] at hx; cases hx
  · intro x hx
    rw [hpt, d3] at hx; cases hx
    have := (hEwr k).2.1
    rw [setFn_same] at this
    rw [hpt]; exact this.trans hrl
  · intro x hx _
    rw [hpt, d3] at hx; cases hx
    exact Or.inl ((hQ k).2 (Or.inl rfl))
  · intro x hx; rw [hpt, d5] at hx; cases hx
  · intro r x rest hv; exact absurd hv (s4 r x rest)
  · intro k' l hk'; rw [hpt, d6] at hk'; cases hk'
  · intro u hu x l hl e; cases e; exact hno u hu (limboL_mem_ws hl)
  · intro x hx; rw [hpt, d7] at hx; cases hx
  · intro u hu x hx e; cases e; exact hno u hu (hlRec_mem_ws hx)

/-- The enqueue CAS of nsync_mu_wait: the record in limbo is queued. -/
theorem Inv9.mwEnq {s : State} {t : Tid} {c : MW} {old : Word} {k : Wid} (h3 : Inv3 s) (h4 : Inv4 s) (h : Inv9 s)
    (heq : s.pc t = .mwEnqCas c old) (hcw : c.w = some k) (hw : s.word = old) :
    Inv9 (setPc (if c.first then enqLast { s with word := mwEnqWord c.cond.isSome old, sp := some t } k
                 else enqFirst { s with word := mwEnqWord c.cond.isSome old, sp := some t } k) t
           (.mwRelLd { c with hadW := old.waiting, first := false })) := by
  have hok3 := h3.ok3 t; rw [heq] at hok3
  refine Inv9.enq t k _ (s.wr k) h4 h heq (fun u _ => h3.no_spin_of_free (by rw [hw]; exact hok3) u)
    ⟨rfl, rfl, rfl, fun _ _ _ e => nomatch e⟩ (fun x => ?_) ?_ ?_ (fun x => ?_)
    (h.lim t k c.l (by rw [heq]; simp [PC.limboL, hcw])) ⟨rfl, rfl, hcw, rfl, rfl, rfl, rfl⟩
    (Or.inr (h4.own t k (by rw [heq]; simp [PC.ws, hcw])))
  · split <;> simp [enqLast, enqFirst, or_comm]
  · split <;> simp [enqLast, enqFirst]
  · split <;> simp [enqLast, enqFirst, mwEnqWord]
  · rw [setFn_self]; split <;> exact lnk3_mergeLinks _ _ _ x

/-- The record `k` of `t`, on no list and waited on by nobody, changes its contents; `t` moves between
    program points without a wait record. -/
theorem Inv9.own_rec_step {s : State} {p0 : PC} (t : Tid) (k : Wid) (p : PC) (rec : WRec) (h4 : Inv4 s) (h : Inv9 s)
    (heq : s.pc t = p0) (hown : (s.wr k).owner = none ∨ (s.wr k).owner = some t)
    (hwr0 : p0.waitRec = none) (hwr1 : p.waitRec = none) (hpw : p.pwait = none)
    (hsc : p.scan? = p0.scan?) (hwk : p.wakeL = p0.wakeL) (henq : p.enqPend = p0.enqPend)
    (hmt : p.mtOld = p0.mtOld) (hnv : ∀ r x rest, p0 ≠ .usWakeV r x rest)
    (hlim : ∀ x l, p.limboL = some (x, l) → (x = k ∧ rec.lType = l))
    (hhl : ∀ x, p.hlRec = some x → (x = k ∧ rec.waiting = false)) :
    Inv9 { setPc s t p with wr := setFn s.wr k rec } := by
  subst heq
  have hno := h4.no_other_ref hown
  have hpcs : ∀ u, u ≠ t → ({ setPc s t p with wr := setFn s.wr k rec } : State).pc u = s.pc u := by
    intro u hu; simp [setFn, hu]
  have hQ : ∀ x, Queued ({ setPc s t p with wr := setFn s.wr k rec } : State) x ↔ Queued s x :=
    fun x => queued_same (s := s) (t := t) (by simp) hpcs (by simpa using hsc) x
  have hwkL : ∀ u, (({ setPc s t p with wr := setFn s.wr k rec } : State).pc u).wakeL = (s.pc u).wakeL := by
    intro u; by_cases e : u = t
    · subst e; simpa using hwk
    · rw [hpcs u e]
  have hL := listed_congr hQ hwkL
  refine Inv9.core t (some k) h4 h ?_ ?_ ?_ (fun x hx => Or.inl ((hL x).1 hx)) (fun x hx _ _ => (hL x).2 hx) ?_ ?_ hpcs ?_ ?_ ?_ ?_ ?_ ?_ ?_ ?_ ?_
  · intro x hx; exact h.w4 x ((hQ x).1 hx)
  · intro u hu
    by_cases e : u = t
    · subst e; simp only [setPc_pc, setFn_same, henq] at hu; exact h.w4p u hu
    · rw [hpcs u e] at hu; exact h.w4p u hu
  · intro u old ho x hx
    by_cases e : u = t
    · subst e; simp only [setPc_pc, setFn_same, hmt] at ho; exact h.w4m u old ho x ((hQ x).1 hx)
    · rw [hpcs u e] at ho; exact h.w4m u old ho x ((hQ x).1 hx)
  · intro x hx
    have hxk : x ≠ k := fun e => hx (by rw [e])
    simp [setFn, hxk]
  · intro u hu x e; cases e; exact fun e' => hno u hu (waitRec_mem_ws e')
  · intro x hx; rw [hwr0] at hx; cases hx
  · intro x hx; simp only [setPc_pc, setFn_same, hwr1] at hx; cases hx
  · intro x hx; simp only [setPc_pc, setFn_same, hwr1] at hx; cases hx
  · intro x hx; simp only [setPc_pc, setFn_same, hpw] at hx; cases hx
  · intro r x rest hv; exact absurd hv (hnv r x rest)
  · intro x l hx
    simp only [setPc_pc, setFn_same] at hx
    obtain ⟨rfl, e⟩ := hlim x l hx
    simp [setFn, e]
  · intro u hu x l hl e; cases e; exact hno u hu (limboL_mem_ws hl)
  · intro x hx
    simp only [setPc_pc, setFn_same] at hx
    obtain ⟨rfl, e⟩ := hhl x hx
    simp [setFn, e]
  · intro u hu x hx e; cases e; exact hno u hu (hlRec_mem_ws hx)

/-- The wake-up store of unlock_slow (mu.c:447): `waiting := 0` in the record at the head of the wake list, which
    leaves the list; its semaphore is posted next. -/
theorem Inv9.wake {s s' : State} {t : Tid} {r : Ret} {k : Wid} {rest : List Wid} (h : Inv9 s) (heq : s.pc t = .usWakeSt r k rest)
    (hpc : s'.pc = setFn s.pc t (.usWakeV r k rest)) (hq : s'.queue = s.queue) (hw : s'.word = s.word)
    (hwr : s'.wr = setFn s.wr k { s.wr k with waiting := false }) : Inv9 s' := by
  have hpt : s'.pc t = .usWakeV r k rest := setFn_at hpc
  have hpcs : ∀ u, u ≠ t → s'.pc u = s.pc u := setFn_others hpc
  have hQ : ∀ x, Queued s' x ↔ Queued s x := queued_same (t := t) hq hpcs (by rw [hpt, heq]; rfl)
  have hwt : ∀ x, x ≠ k → s'.wr x = s.wr x := setFn_others hwr
  have hwk : (s'.wr k).waiting = false := by rw [hwr, setFn_same]
  have hlt : ∀ x, (s'.wr x).lType = (s.wr x).lType := fun x => by
    rw [hwr, setFn_apply]; split
    · subst_vars; rfl
    · rfl
  have hLsub : ∀ x, Listed s' x → Listed s x := by
    rintro x (hx | ⟨u, hu⟩)
    · exact Or.inl ((hQ x).1 hx)
    · by_cases e : u = t
      · subst e
        rw [hpt] at hu
        exact Or.inr ⟨u, by rw [heq]; exact List.mem_cons_of_mem _ hu⟩
      · rw [hpcs u e] at hu; exact Or.inr ⟨u, hu⟩
  have hLkeep : ∀ x, x ≠ k → Listed s x → Listed s' x := by
    rintro x hxk (hx | ⟨u, hu⟩)
    · exact Or.inl ((hQ x).2 hx)
    · by_cases e : u = t
      · subst e
        rw [heq] at hu
        rcases List.mem_cons.1 hu with a | a
        · exact absurd a hxk
        · exact Or.inr ⟨u, by rw [hpt]; exact a⟩
      · exact Or.inr ⟨u, by rw [hpcs u e]; exact hu⟩
  have hpw : ∀ {α : Type} (f : PC → α), f (PC.usWakeV r k rest) = f (PC.usWakeSt r k rest) → ∀ u, f (s'.pc u) = f (s.pc u) :=
    fun f hf u => by rw [hpc]; exact setFn_proj f (heq ▸ hf) u
  have hwf : ∀ x, (s.wr x).waiting = false → (s'.wr x).waiting = false := fun x hx => by
    by_cases hxk : x = k
    · rw [hxk]; exact hwk
    · rw [hwt x hxk]; exact hx
  refine ⟨?_, ?_, ?_, ?_, ?_, ?_, ?_, ?_, ?_⟩
  · intro u x hu
    rw [hpw PC.hlRec rfl u] at hu
    exact hwf x (h.hlf u x hu)
  · intro u x l hu
    rw [hpw PC.limboL rfl u] at hu
    rw [hlt]; exact h.lim u x l hu
  · intro x hx; rw [hw]; exact h.w4 x ((hQ x).1 hx)
  · intro u hu; rw [hpw PC.enqPend rfl u] at hu; rw [hw]; exact h.w4p u hu
  · intro u old ho x hx; rw [hpw PC.mtOld rfl u] at ho; exact h.w4m u old ho x ((hQ x).1 hx)
  · intro x hx
    obtain ⟨u, hu⟩ := h.own x (hLsub x hx)
    exact ⟨u, by rw [hpw PC.waitRec rfl u]; exact hu⟩
  · intro u x hu
    rw [hpw PC.waitRec rfl u] at hu
    rw [hpw PC.wmode rfl u, hlt]
    exact h.lt u x hu
  · intro u x hu hwx
    rw [hpw PC.waitRec rfl u] at hu
    have hxk : x ≠ k := fun e => by rw [e, hwk] at hwx; cases hwx
    rw [hwt x hxk] at hwx
    exact hLkeep x hxk (h.w3 u x hu hwx)
  · intro u x hu hwx
    rw [hpw PC.pwait rfl u] at hu
    by_cases hxk : x = k
    · subst hxk
      exact Or.inr ⟨t, r, rest, hpt⟩
    · rw [hwt x hxk] at hwx ⊢
      rcases h.w1 u x hu hwx with a | ⟨v, r', rest', hv⟩
      · exact Or.inl a
      · have hvt : v ≠ t := by intro e; subst e; rw [heq] at hv; cases hv
        exact Or.inr ⟨v, r', rest', by rw [hpcs v hvt]; exact hv⟩

theorem mtRelWord_waiting (add : Option Mode) (old : Word) : (mtRelWord add old).waiting = old.waiting := by
  cases add with
  | none => rfl
  | some m => cases m <;> rfl

/-- The release store of mu_try_acquire_after_timeout_or_cancel (mu_wait.c:120/125): the word stored is built from
    `old_word`; the thread waits on its record again unless it has removed it from the queue itself (`ok`). -/
theorem Inv9.mtRel {s s' : State} {t : Tid} {c c' : MW} {old : Word} {ok : Bool} {add : Option Mode} (h3 : Inv3 s) (h4 : Inv4 s)
    (h : Inv9 s) (heq : s.pc t = .mtStRel c old ok) (hpc : s'.pc = setFn s.pc t (.mwLd255 c')) (hw : s'.word = mtRelWord add old)
    (hq : s'.queue = s.queue) (hwr : s'.wr = s.wr) (hcw : c'.w = c.w) (hcl : c'.l = c.l) (hhl : c'.hl = ok) : Inv9 s' := by
  have hsp := h3.others_no_spin (t := t) (by rw [heq]; rfl)
  have hpt : s'.pc t = .mwLd255 c' := setFn_at hpc
  have hpcs : ∀ u, u ≠ t → s'.pc u = s.pc u := setFn_others hpc
  have hQ : ∀ x, Queued s' x ↔ Queued s x := queued_same (t := t) hq hpcs (by rw [hpt, heq]; rfl)
  have hL := listed_congr hQ (fun u => by
    by_cases e : u = t
    · subst e; rw [hpt, heq]; rfl
    · rw [hpcs u e])
  refine Inv9.core t none h4 h ?_ ?_ ?_ (fun x hx => Or.inl ((hL x).1 hx)) (fun x hx _ _ => (hL x).2 hx)
    (fun x _ => by rw [hwr]; exact ⟨rfl, rfl, fun _ _ => id⟩) (fun u _ x e => by cases e) hpcs ?_ ?_ ?_ ?_ ?_ ?_ (fun u _ x l _ e => by cases e)
    ?_ (fun u _ x _ e => by cases e)
  · intro x hx
    rw [hw, mtRelWord_waiting]
    exact h.w4m t old (by rw [heq]; rfl) x ((hQ x).1 hx)
  · intro u hu
    by_cases e : u = t
    · subst e; rw [hpt] at hu; cases hu
    · rw [hpcs u e] at hu
      have := spin_of_enqPend hu; rw [hsp u e] at this; cases this
  · intro u old' ho x hx
    by_cases e : u = t
    · subst e; rw [hpt] at ho; cases ho
    · rw [hpcs u e] at ho; exact h.w4m u old' ho x ((hQ x).1 hx)
  · intro x hx _
    rw [hpt]; show c'.w = some x
    rw [heq] at hx
    cases ok with
    | true => cases hx
    | false => rw [hcw]; exact hx
  · intro x hx
    rw [hpt] at hx ⊢
    have hx' : c.w = some x := hcw ▸ hx
    show (s'.wr x).lType = c'.l
    rw [hwr, hcl]
    cases ok with
    | true => exact h.lim t x c.l (by rw [heq]; simp [PC.limboL, hx'])
    | false => have := h.lt t x (by rw [heq]; exact hx'); rw [heq] at this; exact this
  · intro x hx hwx
    rw [hpt] at hx
    have hx' : c.w = some x := hcw ▸ hx
    rw [hwr] at hwx
    cases ok with
    | true => have := h.hlf t x (by rw [heq]; exact hx'); rw [this] at hwx; cases hwx
    | false => exact (hL x).2 (h.w3 t x (by rw [heq]; exact hx') hwx)
  · intro x hx; rw [hpt] at hx; cases hx
  · intro r x rest hv; rw [heq] at hv; cases hv
  · intro x l hx; rw [hpt] at hx; cases hx
  · intro x hx
    rw [hpt] at hx
    have hx' : (if c'.hl then c'.w else none) = some x := hx
    rw [hwr]
    cases ok with
    | true => rw [hhl, hcw] at hx'; exact h.hlf t x (by rw [heq]; exact hx')
    | false => rw [hhl] at hx'; cases hx'

/-- The stores: queue insertion by lock_slow, the wake-up store, the reset of the record in nsync_mu_wait, the two
    stores of mu_try_acquire_after_timeout_or_cancel. -/
theorem Inv9.st {s s' : State} {t : Tid} (h1 : Inv1 s) (h3 : Inv3 s) (h4 : Inv4 s) (h : Inv9 s) (e : StEff s t s') : Inv9 s' := by
  cases e
  case lsNewLast c k heq hq hcw hown hwait _ | lsNewFirst c k heq hq hcw hown hwait _
     | lsOwnLast c k heq hq hcw hwait _ | lsOwnFirst c k heq hq hcw hwait _ =>
    -- the record was free, or it is `t`'s own
    have hown' : (s.wr k).owner = none ∨ (s.wr k).owner = some t := by
      first
      | exact Or.inl hown
      | exact Or.inr (h4.own t k (by rw [heq]; simp [PC.ws, SL.ws, hcw]))
    have hww : s.word.waiting = true := h.w4p t (by rw [heq]; rfl)
    refine Inv9.enq t k _ _ h4 h heq (h3.others_no_spin (by rw [heq]; rfl)) ⟨rfl, rfl, rfl, fun _ _ _ e => nomatch e⟩ ?_ ?_ ?_
      (fun x => lnk3_mergeLinks _ _ _ x) rfl
      ⟨rfl, rfl, by first | rfl | exact hcw, rfl, rfl, rfl, rfl⟩ hown'
    · intro x; simp [enqLast, enqFirst, or_comm]
    · simp [enqLast, enqFirst]
    · simpa [enqLast, enqFirst] using hww
  case wake r k rest heq => exact h.wake heq rfl rfl rfl rfl
  case mwNew c k heq hq hcw hown hwait =>
    -- the record, on no list, gets mode and condition of the call
    exact Inv9.own_rec_step t k _ _ h4 h heq (Or.inl hown) rfl rfl rfl rfl rfl rfl rfl (fun _ _ _ e => nomatch e)
      (by intro x l hx; simp only [PC.limboL, Option.map_some, Option.some.injEq, Prod.mk.injEq] at hx; exact ⟨hx.1.symm, hx.2⟩)
      (by intro x hx; simp [PC.hlRec] at hx)
  case mwOwn c k heq hq hcw hwait =>
    exact Inv9.own_rec_step t k _ _ h4 h heq (Or.inr (h4.own t k (by rw [heq]; simp [PC.ws, hcw]))) rfl rfl rfl rfl rfl rfl rfl
      (fun _ _ _ e => nomatch e)
      (by intro x l hx; simp only [PC.limboL, hcw, Option.map_some, Option.some.injEq, Prod.mk.injEq] at hx; exact ⟨hx.1.symm, hx.2⟩)
      (by intro x hx; simp [PC.hlRec] at hx)
  case mtGone c old k heq hcw =>
    -- the thread clears `waiting` of the record it has removed itself
    exact Inv9.own_rec_step t k _ _ h4 h heq (Or.inr (h4.own t k (by rw [heq]; simp [PC.ws, hcw]))) rfl rfl rfl rfl rfl rfl rfl
      (fun _ _ _ e => nomatch e)
      (by intro x l hx
          simp only [PC.limboL, hcw, Option.map_some, Option.some.injEq, Prod.mk.injEq] at hx
          refine ⟨hx.1.symm, ?_⟩
          have := h.lim t k c.l (by rw [heq]; simp [PC.limboL, hcw])
          rw [← hx.2]; exact this)
      (by intro x hx; simp only [PC.hlRec, hcw, Option.some.injEq] at hx; exact ⟨hx.symm, rfl⟩)
  case mtKeep c old heq =>
    exact h.mtRel (c' := { c with hl := true, outc := c.so }) (add := some c.l) h3 h4 heq (by simp) (by simp) (by simp) (by simp)
      rfl rfl rfl
  case mtGive c old heq =>
    have hok1 := h1.pcok t; rw [heq] at hok1
    exact h.mtRel (c' := c) (add := none) h3 h4 heq rfl rfl rfl rfl rfl rfl hok1.2.1

theorem Inv9.envEff {cfg : Cfg} {s s' : State} (h4 : Inv4 s) (h : Inv9 s) (e : EnvEff cfg s s') : Inv9 s' := by
  cases e with
  | post k =>
    refine h.env h4 (by simp) (by simp) (by simp) (fun x => ?_)
    simp only [semPost, setFn_apply]
    split
    · subst_vars; exact ⟨rfl, rfl, fun _ _ _ => by split <;> simp⟩
    · exact ⟨rfl, rfl, fun _ _ => id⟩
  | sem k n ho =>
    refine h.env h4 rfl rfl id (fun x => ?_)
    show (setFn s.wr k _ x).waiting = _ ∧ (setFn s.wr k _ x).lType = _ ∧ ∀ u, _ → _ → (setFn s.wr k _ x).sem ≠ 0
    rw [setFn_apply]; split
    · subst_vars
      refine ⟨rfl, rfl, fun u hu => ?_⟩
      have := h4.own u x (waitRec_mem_ws (pwait_waitRec hu))
      rw [ho] at this; cases this
    · exact ⟨rfl, rfl, fun _ _ => id⟩
  | tick n _ => exact h.env h4 rfl rfl id (fun _ => ⟨rfl, rfl, fun _ _ => id⟩)

theorem inv9_step {cfg : Cfg} {s s' : State} {e : Event} (h1 : Inv1 s) (h3 : Inv3 s) (h4 : Inv4 s) (h4' : Inv4 s') (h : Inv9 s)
    (hs : step cfg s e = .ok s') : Inv9 s' := by
  cases ht : e.tid with
  | none => exact h.envEff h4 (step_env hs ht)
  | some t =>
    cases step_eff hs ht with
    | move hm => exact h.move h4 hm
    | callQ h0 hh hm => exact h.move h4 (h0 ▸ hm)
    | cas hc =>
      cases hc with
      | fail hm => exact h.move h4 hm
      | plain hp ok => exact h.cas h1 h4 hp ok
      | scan hsc => obtain ⟨late, e⟩ := hsc.eff h1 h3 h4; exact h.scan h4 h4' e
      | fin heq hw e => exact h.fin h1 h3 h4 heq hw e
      | mwEnq c old k heq hk hw => exact h.mwEnq h3 h4 heq hk hw
      | mtRm c old rc k heq hk => exact h.mtRm h4 heq _
    | st e => exact h.st h1 h3 h4 e
    | ldRc c k obs heq hk => exact h.ldRc h4 heq obs
    | ldDeq c old k heq hk hmem hrc => exact h.ldDeq h4 heq hk hmem
    | ret hp e => exact h.ret h4 hp e
    | call h0 hp e => exact h.call h4 h0 hp e
    | scan hsc => obtain ⟨late, e⟩ := hsc.eff h1 h3 h4; exact h.scan h4 h4' e
    | eval c cd heq hcd => exact h.eval h4 heq _
    | sem hp e => exact h.sem h1 h4 hp e
    | dataW x v hh => exact h.env h4 rfl rfl id (fun _ => ⟨rfl, rfl, fun _ _ => id⟩)
    | dataR => exact h

theorem inv9_init : Inv9 init := by
  refine ⟨?_, ?_, ?_, ?_, ?_, ?_, ?_, ?_, ?_⟩
  · intro t k hk; simp [init, PC.hlRec] at hk
  · intro t k l hk; simp [init, PC.limboL] at hk
  · intro k hk; simp [Queued, init, PC.scan?] at hk
  · intro t ht; simp [init, PC.enqPend] at ht
  · intro t old ho; simp [init, PC.mtOld] at ho
  · rintro k (hk | ⟨u, hu⟩)
    · simp [Queued, init, PC.scan?] at hk
    · simp [init, PC.wakeL] at hu
  · intro t k hk; simp [init, PC.waitRec] at hk
  · intro t k hk; simp [init, PC.waitRec] at hk
  · intro t k hk; simp [init, PC.pwait] at hk

end NsyncVerif.MuC
