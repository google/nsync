import NsyncVerif.Proofs.MuCReach
/-
  MuC: the hints MU_WRITER_WAITING and MU_LONG_WAIT are never stale, and somebody is responsible for
  every queued waiter WITHOUT a condition (`Inv12`) — definitions.

  The induction is organised differently from Inv1 … Inv11: the facts about ONE step that the argument
  needs (`StepTL`: which record fields, word bits and program-point attributes a step of thread `t` can
  change) are proved by cases on the kinds of a step (`Eff`; files MuCTL*.lean); the induction step itself
  (`MuCInv12Step.lean`, `MuCInv12Hint.lean`, `MuCInv12Resp.lean`) uses only those facts and the invariants Inv1 … Inv11 of BOTH states.
-/
namespace NsyncVerif.MuC

/-- The locals of nsync_mu_lock_slow_. -/
def PC.sl? : PC → Option SL
  | .lsLd c | .lsCasAcq c _ | .lsCasEnq c _ | .lsSt c | .lsRelLd c | .lsRelCas c _ | .lsWaitLd c | .lsPEnter c | .lsPRet c => some c
  | _ => none

/-- A thread whose next acquisition clears MU_WRITER_WAITING (or that sets the bit again when it re-queues):
    a writer inside lock_slow that has done its enqueue CAS at least once or comes from a wake-up
    (`clear`), or a timed-out waiter spinning in mu_try_acquire_after_timeout_or_cancel (any mode: it
    acquires in write mode first). -/
def PC.wwA : PC → Bool
  | .lsSt c | .lsRelLd c | .lsRelCas c _ | .lsWaitLd c | .lsPEnter c | .lsPRet c => c.l == .W
  | .lsLd c | .lsCasAcq c _ | .lsCasEnq c _ => c.l == .W && c.clear
  | .mtLd _ | .mtCasAcq _ _ | .mtCasWW _ _ | .mtLdWk _ _ => true
  | _ => false

/-- The record of a thread waiting inside lock_slow (it has no condition). -/
def PC.lsRec : PC → Option Wid
  | .lsRelLd c | .lsRelCas c _ | .lsWaitLd c | .lsPEnter c | .lsPRet c => c.w
  | _ => none

/-- No local fact is needed at any program point (the clause is `True`).  In nsync's code before the repair of F9
    `old_word` of mu_try_acquire_after_timeout_or_cancel had passed a test that included MU_LONG_WAIT; with the repair a
    woken thread acquires with MU_LONG_WAIT set in `old_word`, and what makes its release store harmless is `Inv12.mtlw`:
    the bit is then still set in the word. -/
def PC.ok12 : PC → Prop
  | _ => True

/-- A write-mode waiter whose record has been taken off the queue (by an unlocker) and that has not yet
    re-contended: it will enter lock_slow in write mode. -/
def WaitW (s : State) (t : Tid) : Prop :=
  ∃ k, (s.pc t).waitRec = some k ∧ (s.pc t).hlRec = none ∧ (s.pc t).wmode = .W ∧ ¬ Queued s k

/-- Thread `t` justifies MU_WRITER_WAITING. -/
def WJ (s : State) (t : Tid) : Prop := (s.pc t).wwA = true ∨ WaitW s t

/-- A queued write-mode waiter that could run: no condition, or its condition is true. -/
def WB (s : State) : Prop := ∃ k, Queued s k ∧ (s.wr k).lType = .W ∧ evalOpt s.data (s.wr k).cond = true

def WB0 (s : State) : Prop := ∃ k, Queued s k ∧ (s.wr k).lType = .W ∧ (s.wr k).cond = none

/-- The writer bit is owned by a thread that is not an unlocker between grab CAS and final CAS (a client
    write section, or a call on its way in or out): the protected data may change. -/
def ClientW (s : State) : Prop := ∃ t, s.wOwner = some t ∧ (s.pc t).unl = false

/-- Some queued waiter has no condition, or a thread is between its enqueue CAS and the queue insertion. -/
def NeedN (s : State) : Prop := (∃ k, Queued s k ∧ (s.wr k).cond = none) ∨ ∃ t, (s.pc t).enqPend = true

structure Inv12 (s : State) : Prop where
  ww : s.word.ww = true → (∃ t, WJ s t) ∨ WB s
  wws : s.word.ww = true → ClientW s → (∃ t, WJ s t) ∨ WB0 s
  lw : s.word.lw = true → ∃ t c, (s.pc t).sl? = some c ∧ c.lwl = true
  mtw : ∀ t old, (s.pc t).mtOld = some old → s.word.ww = false
  mtlw : ∀ t old, (s.pc t).mtOld = some old → old.lw = true → s.word.lw = true
  ok : ∀ t, (s.pc t).ok12
  rcn : ∀ t k, (s.pc t).lsRec = some k → (s.wr k).cond = none
  nm : s.nwViol = false → NeedN s → ∃ t, RespT s t

/-! ### facts about one step of thread `t` -/

/-- The steps on which a thread can stop being responsible, with what the step knows about the word. -/
def GaveUp (s s' : State) (t : Tid) : Prop :=
  (∃ l nw, s.pc t = .ulCas0 l nw ∧ s.word = addWord l) ∨
  (∃ l nw old, s.pc t = .ulCas1 l nw old ∧ s.word = old) ∨
  (∃ r old, s.pc t = .usCasUnc r old ∧ s.word = old) ∨
  (∃ c old, s.pc t = .mwRelCas c old false ∧ s.word = old) ∨
  (∃ r f old, s.pc t = .usFinCas r f old ∧ s.word = old ∧ s'.pc t = finPc r f.wake) ∨
  (∃ c old, s.pc t = .lsCasEnq c old ∧ s.word = old ∧ s'.pc t = .lsSt c)

/-- What a step of `t` keeps of `t`'s being responsible. -/
structure RKeep (s s' : State) (t : Tid) : Prop where
  share : shareOf s t ≠ none → shareOf s' t ≠ none ∨ (s'.pc t).unl = true ∨ (s'.pc t).timedOut = true ∨ GaveUp s s' t
  unl : (s.pc t).unl = true → (s'.pc t).unl = true ∨ GaveUp s s' t
  woken : (s.pc t).woken = true → (s'.pc t).woken = true ∨ shareOf s' t ≠ none ∨ GaveUp s s' t
  wrec : ∀ k, (s.pc t).waitRec = some k → (s.pc t).hlRec = none →
    ((s'.pc t).waitRec = some k ∧ (s'.pc t).hlRec = none) ∨ (s'.pc t).woken = true ∨ (s'.pc t).timedOut = true ∨ shareOf s' t ≠ none
  tout : (s.pc t).timedOut = true → (s'.pc t).timedOut = true ∨ (s'.pc t).woken = true ∨ shareOf s' t ≠ none

/-- Records: `waiting`, `l_type`, the condition. -/
structure RecTL (s s' : State) (t : Tid) : Prop where
  r1 : ∀ k, (s.wr k).waiting = true → (s'.wr k).waiting = false → k ∈ (s.pc t).wakeL ∨ (s.pc t).limbo = some k
  r2 : ∀ k, (s.wr k).waiting = false → (s'.wr k).waiting = true →
    ((s.pc t).enqPend = true ∨ (s'.pc t).limbo = some k) ∧ (k ∈ (s.pc t).ws ∨ (s.wr k).owner = none) ∧ (s.pc t).waitRec = none
  r3 : ∀ k, ((s'.wr k).lType = (s.wr k).lType ∧ (s'.wr k).cond = (s.wr k).cond) ∨
    ((s.wr k).waiting = false ∧ (s'.wr k).waiting = true)
  r4 : ∀ k, (s'.pc t).lsRec = some k → (s.pc t).lsRec = some k ∨ (s'.wr k).cond = none

/-- Program points of `t`: the record it waits on, wake lists. -/
structure WaitTL (s s' : State) (t : Tid) : Prop where
  p1 : ∀ k, (s.pc t).waitRec = some k → (s.wr k).waiting = true → (s'.pc t).waitRec = some k ∨ (s.pc t).mtOld ≠ none
  p1' : ∀ k, (s'.pc t).waitRec = some k → (s.pc t).waitRec = some k ∨ (s.pc t).enqPend = true ∨ (∃ c, (s'.pc t).mwRel = some c) ∨ (s'.pc t).hlRec = some k
  p2 : ∀ k, k ∈ (s.pc t).wakeL → k ∈ (s'.pc t).wakeL ∨ (s'.wr k).waiting = false
  p5 : ∀ k, (s.pc t).waitRec = some k → (s.pc t).hlRec = none → (s.pc t).wmode = .W →
    ((s'.pc t).waitRec = some k ∧ (s'.pc t).hlRec = none) ∨ (s'.pc t).wwA = true ∨ s'.word.ww = false ∨ (s.pc t).mtOld ≠ none
  p11 : (s'.pc t).enqPend = true → (s.pc t).enqPend = true ∨ ∃ c old, s.pc t = .lsCasEnq c old ∧ s.word = old ∧ s'.pc t = .lsSt c

/-- The hint bits of the word. -/
structure WordTL (s s' : State) (t : Tid) : Prop where
  p3 : s'.word.ww = true → s.word.ww = true ∨ ((s'.pc t).wwA = true ∧ s.word.spin = false) ∨
    ∃ f, (s.pc t).finOf = some f ∧ f.sww = true
  p4 : (s.pc t).wwA = true → (s'.pc t).wwA = true ∨ s'.word.ww = false
  p6 : s'.word.lw = true → s.word.lw = true ∨ (∃ c, (s'.pc t).sl? = some c ∧ c.lwl = true) ∨
    ∃ old, (s.pc t).mtOld = some old ∧ old.lw = true
  p7 : ∀ c, (s.pc t).sl? = some c → c.lwl = true → (∃ c', (s'.pc t).sl? = some c' ∧ c'.lwl = true) ∨ s'.word.lw = false
  p8 : ∀ old, (s'.pc t).mtOld = some old → (s.pc t).mtOld = some old ∨ s'.word.ww = false
  p9 : (s.pc t).ok12 → (s'.pc t).ok12
  p10 : ∀ v, s'.wOwner = some v → (v = t → (s'.pc t).unl = false) → s'.word.ww = true →
    s.wOwner = some v ∧ (v = t → (s.pc t).unl = false)

/-- MU_LONG_WAIT against the `old_word` of mu_try_acquire_after_timeout_or_cancel (repair of F9): the bit is cleared only by
    an acquisition (the writer bit is clear) or by the release store of that function. -/
structure LwTL (s s' : State) (t : Tid) : Prop where
  p12 : ∀ old, (s'.pc t).mtOld = some old → old.lw = true → ((s.pc t).mtOld = some old → s.word.lw = true) → s'.word.lw = true
  p13 : s.word.lw = true → s'.word.lw = true ∨ s.word.wlock = false ∨ (s.pc t).mtOld ≠ none

/-- Everything the induction step of `Inv12` needs to know about a step of thread `t` that is not a
    client data access. -/
structure StepTL (s s' : State) (t : Tid) : Prop where
  oth : ∀ u, u ≠ t → s'.pc u = s.pc u ∧ s'.held u = s.held u
  data : s'.data = s.data
  nv : s'.nwViol = false → s.nwViol = false
  rc : RecTL s s' t
  wt : WaitTL s s' t
  wd : WordTL s s' t
  rk : RKeep s s' t
  lw : LwTL s s' t

end NsyncVerif.MuC
