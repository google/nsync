/-
  Layer `CvFix` (repaired cv.c): structural invariant — the transitions that keep every record's status.
-/
import NsyncVerif.Proofs.CvFixInvAFrame

namespace NsyncVerif.CvFix

/-- Writing one record without touching its status or, unless it is idle, its owner. -/
theorem RecSame.set {s : State} {r : Rid} {v : Rec} (h : RecSame (s.recs r) v) (q : Rid) :
    RecSame (s.recs q) ((s.setRec r v).recs q) := by
  by_cases hq : q = r
  · subst hq; simpa using h
  · simpa [hq] using .refl _

set_option hygiene false in
/-- `TInvA` of the acting thread after a change that touches neither status nor owner. -/
macro "tinv_same" hl:ident : tactic =>
  `(tactic| (
     have ht := hi.thr t
     obtain ⟨t1, t2, t3, t4, t5, t6, t7, t8, t9, t10, t11, t12⟩ := ht
     simp only [waitLive, waitPrep, inWaitN, Loc.wakePhase, Loc.holds, $hl:ident] at t1 t2 t3 t4 t5 t8 t9 t10 t11 t12
     constructor <;> simp [waitLive, waitPrep, inWaitN, Loc.wakePhase, Loc.holds] <;>
       (try (intro r hr; split)) <;> simp_all))

/-- One thread moves and stays on its side of the spinlock; cv word, holder, queue and every
    record's status and owner are untouched. -/
theorem invA_move {s s' : State} {t : Tid} {x' : Thr} (hi : InvA s) (hword : s'.word = s.word)
    (hhold : s'.holder = s.holder) (hq : s'.queue = s.queue) (hthr : s'.thr = updT s.thr t x')
    (hrec : ∀ q, (s'.recs q).stat = (s.recs q).stat ∧ (s'.recs q).owner = (s.recs q).owner)
    (m : Move s (s.thr t) x') (h1 : x'.loc.holds = (s.thr t).loc.holds) (h3 : x'.old = (s.thr t).old) :
    FrameA s' := by
  have hx' : s'.thr t = x' := by rw [hthr]; simp
  rw [← hx'] at m h1 h3
  exact invA_frame hi hword hhold hq (fun u hu => by rw [hthr]; simp [hu]) h1 m.list
    (fun e => by rw [h3]; exact hi.old t e) (fun q => ⟨(hrec q).1, fun _ => (hrec q).2⟩) (tinvA_move hi m hrec)
    (fun hb g => hi.bq t (m.bcast ▸ hb) (m.sig g))

theorem invA_wClr {s : State} (hi : InvA s) (t : Tid) (r : Rid) (hl : (s.thr t).loc = .wClr) (hr : r = (s.thr t).r) :
    FrameA (s.setRec r { s.recs r with waiting := false }
          |>.setThr t { s.thr t with out := (s.thr t).semOut, loc := .wRel2 }) := by
  refine invA_frame (t := t) hi rfl rfl rfl (fun u hu => by simp [hu]) (by simp [hl, Loc.holds]) (by simp)
    (fun e => by simpa using hi.old t e) (RecSame.set ⟨rfl, fun _ => rfl⟩) ?_ (by simp)
  subst hr; tinv_same hl

theorem invA_deqSt {s : State} (hi : InvA s) (t : Tid) (r : Rid) (hl : (s.thr t).loc = .nDeqSt) (hr : r = (s.thr t).r) :
    FrameA (s.setRec r { s.recs r with waiting := false } |>.setThr t { s.thr t with loc := .nDeqRel }) := by
  refine invA_frame (t := t) hi rfl rfl rfl (fun u hu => by simp [hu]) (by simp [hl, Loc.holds]) (by simp)
    (fun e => by simpa using hi.old t e) (RecSame.set ⟨rfl, fun _ => rfl⟩) ?_ (by simp)
  subst hr; tinv_same hl

theorem invA_sRcCasOk {s : State} (hi : InvA s) (t : Tid) (r : Rid) (new : Nat) (hl : (s.thr t).loc = .sRcCas) :
    FrameA (s.setRec r { s.recs r with rc := new }
          |>.setThr t { s.thr t with todo := (s.thr t).todo.tail, firstRc := false,
                                     loc := if (s.thr t).todo.tail.isEmpty then .sRel else .sRcLd }) := by
  have hbq := hi.bq t
  simp only [hl, true_or, or_true, forall_const] at hbq
  by_cases hz : (s.thr t).todo.tail.isEmpty = true <;> simp only [hz, if_true]
  all_goals
    refine invA_frame (t := t) hi rfl rfl rfl (fun u hu => by simp [hu]) (by simp [hl, Loc.holds]) (by simp)
      (fun e => by simpa using hi.old t e) (RecSame.set ⟨rfl, fun _ => rfl⟩) ?_ (by simpa using hbq)
    tinv_same hl

/-- One record gets new fields, its status and (unless it is idle) its owner apart; no frame changes. -/
theorem invA_setRec {s : State} (hi : InvA s) (r : Rid) {v : Rec} (h : RecSame (s.recs r) v) :
    FrameA (s.setRec r v) :=
  invA_frame (t := 0) hi rfl rfl rfl (fun _ _ => rfl) rfl rfl (hi.old 0) h.set
    (tinvA_other (hi.thr 0) rfl (fun q _ hq' => .of_stat ((h.set q).2 hq') (h.set q).1 hq')
      (fun _ q e => by rw [(h.set q).1]; exact e))
    (hi.bq 0)

end NsyncVerif.CvFix
