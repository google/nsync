/-
  Proofs/WaitNFairSig.lean — WaitN layer, liveness: every nsync_cv_signal / nsync_cv_broadcast call returns
  (`signal_returns`): the wake loop is straight-line code (`sg_late_returns`); before it the call has three phases — load,
  test-and-set loop (`LockFair`), unlink under the spinlock — and leaves each (`sg_early_leaves`).
-/
import NsyncVerif.Proofs.WaitNFairMain


namespace WaitN
open NsyncVerif

variable {s0 : State}

/-- from the wake loop the call returns -/
theorem sg_late_returns (x : Exec s0) (H : FairHyps x) (u : Tid) (j : Nat) (hl : sgLate ((x.ρ j).pc u) = true) :
    ∃ j', j ≤ j' ∧ (x.ρ j').pc u = .idle :=
  x.straight_leads H.reach H.weak u (R := fun j => sgLate ((x.ρ j).pc u) = true) (fun _ => straight_of_late)
    (fun j h => (x.late_step u j h).symm) j hl

/-! ### before the wake loop: three phases, one leads-to -/

theorem early_cases {p : PC} (h : sgEarly p = true) :
    ∃ c bc, p = .sg c bc .load ∨ (∃ sp, p = .sg c bc (.spin sp)) ∨ p = .sg c bc .held := by
  unfold sgEarly at h
  split at h
  · exact ⟨_, _, .inl rfl⟩
  · exact ⟨_, _, .inr (.inl ⟨_, rfl⟩)⟩
  · exact ⟨_, _, .inr (.inr rfl)⟩
  · cases h

theorem spin_early {p : PC} (h : isSpin p = true) (hc : inCall p = false) : sgEarly p = true := by
  unfold isSpin at h
  split at h <;> first | rfl | cases hc | cases h

theorem inCall_early {p : PC} (h : sgEarly p = true) : inCall p = false := by
  obtain ⟨c, bc, h | ⟨_, h⟩ | h⟩ := early_cases h <;> (rw [h]; rfl)

theorem early_spin {p : PC} (he : sgEarly p = true) (hs : isSpin p = true) :
    phase p = 2 ∧ ∃ c, ∀ f, lockWaitOf p f = some (.cv c) := by
  obtain ⟨c, bc, h | ⟨_, h⟩ | h⟩ := early_cases he <;> rw [h] at hs ⊢
  · cases hs
  · exact ⟨rfl, c, fun _ => rfl⟩
  · cases hs

theorem early_straight {p : PC} (he : sgEarly p = true) (hs : isSpin p = false) : Straight p := by
  obtain ⟨c, bc, h | ⟨_, h⟩ | h⟩ := early_cases he <;> rw [h] at hs ⊢ <;> first | exact ⟨by simp, rfl, rfl, rfl⟩ | cases hs

/-- One step of an execution seen from a thread before the wake loop of nsync_cv_signal / broadcast: nothing of its
    own, one more round of the test-and-set loop, or on to a later phase. -/
theorem early_step (x : Exec s0) (hr : Reachable s0) (u : Tid) (j : Nat) (he : sgEarly ((x.ρ j).pc u) = true) :
    ((x.ρ (j + 1)).pc u = (x.ρ j).pc u ∧ (x.ρ (j + 1)).post u = (x.ρ j).post u)
    ∨ (isSpin ((x.ρ j).pc u) = true ∧ sgEarly ((x.ρ (j + 1)).pc u) = true ∧ isSpin ((x.ρ (j + 1)).pc u) = true
        ∧ lockWaitOf ((x.ρ (j + 1)).pc u) ((x.ρ (j + 1)).fr u) = lockWaitOf ((x.ρ j).pc u) ((x.ρ j).fr u))
    ∨ (phase ((x.ρ (j + 1)).pc u) < phase ((x.ρ j).pc u)
        ∧ (sgEarly ((x.ρ (j + 1)).pc u) = true ∨ sgLate ((x.ρ (j + 1)).pc u) = true ∨ (x.ρ (j + 1)).pc u = .idle)) := by
  obtain ⟨e, hprog, _⟩ := x.prog hr u j
  obtain ⟨c, bc, hp⟩ := early_cases he
  have hpos : 0 < phase ((x.ρ j).pc u) := by rcases hp with h | ⟨_, h⟩ | h <;> (rw [h]; simp [phase])
  rcases hprog with h | h | ⟨_, _, h | h | h | h | h | h⟩
  · rw [h] at he; cases he
  · exact .inr (.inr ⟨by rw [h]; exact hpos, .inr (.inr h)⟩)
  · exact .inl ⟨h.1, h.2.1⟩
  · rcases hp with h' | ⟨_, h'⟩ | h' <;> simp [rk, h', rank] at h
  · have hni : (x.ρ (j + 1)).pc u ≠ .idle := fun h' => by have := h.2.1; rw [h'] at this; cases this
    have hic := x.inCall_step u j (fun h' => by rw [h'] at he; cases he) hni
    exact .inr (.inl ⟨h.1, spin_early h.2.1 (by rw [hic]; exact inCall_early he), h.2.1, h.2.2.2⟩)
  · obtain ⟨k, hk, _⟩ := h; rw [hk] at he; cases he
  · have := h.1; rcases hp with h' | ⟨_, h'⟩ | h' <;> (rw [h'] at this; cases this)
  · rcases hp with h' | ⟨sp, h'⟩ | h' <;> rw [h'] at h ⊢
    · rcases h with h2 | h2 <;> (rw [h2]; simp [phase, sgEarly, sgLate])
    · rcases h with ⟨sp', h2⟩ | h2
      · exact .inr (.inl ⟨rfl, by rw [h2]; rfl, by rw [h2]; rfl, by rw [h2]; rfl⟩)
      · rw [h2]; simp [phase, sgEarly, sgLate]
    · rcases h with h2 | ⟨l, h2⟩ <;> (rw [h2]; simp [phase, sgEarly, sgLate])

/-- Before its wake loop a call of nsync_cv_signal / broadcast has three phases left (`phase`); it leaves each: the load
    and the unlink are single steps (weak fairness), the test-and-set loop ends by `LockFair`. -/
theorem sg_early_leaves (x : Exec s0) (H : FairHyps x) (u : Tid) :
    ∀ i, sgEarly ((x.ρ i).pc u) = true → ∃ j, i ≤ j ∧ (sgLate ((x.ρ j).pc u) = true ∨ (x.ρ j).pc u = .idle) := by
  refine Sched.leads (M := fun j => phase ((x.ρ (j + 1)).pc u) < phase ((x.ρ j).pc u))
    (fun j => sgEarly ((x.ρ j).pc u) = true) (fun j => sgLate ((x.ρ j).pc u) = true ∨ (x.ρ j).pc u = .idle)
    (fun j => phase ((x.ρ j).pc u)) ?_ ?_ ?_
  · intro j he hm
    rcases early_step x H.reach u j he with h | h | h
    · exact .inr ⟨by rw [h.1]; exact he, by rw [h.1]; exact Nat.le_refl _⟩
    · exact .inr ⟨h.2.1, by rw [(early_spin h.2.1 h.2.2.1).1, (early_spin he h.1).1]; exact Nat.le_refl _⟩
    · exact absurd h.1 hm
  · intro j he hm
    rcases early_step x H.reach u j he with h | h | h
    · rw [h.1] at hm; exact absurd hm (Nat.lt_irrefl _)
    · rw [(early_spin h.2.1 h.2.2.1).1, (early_spin he h.1).1] at hm; exact absurd hm (Nat.lt_irrefl _)
    · exact h.2.elim (fun h2 => .inr ⟨h2, h.1⟩) .inl
  · -- no phase ends any more: in the test-and-set loop for ever, or at one program point for ever
    intro j he
    apply Classical.byContradiction
    intro hno
    have hnm : ∀ j', j ≤ j' → ¬ phase ((x.ρ (j' + 1)).pc u) < phase ((x.ρ j').pc u) := fun j' hj hm => hno ⟨j', hj, hm⟩
    have hE : ∀ j', j ≤ j' → sgEarly ((x.ρ j').pc u) = true := Sched.keeps_from he fun j' hj h => by
      rcases early_step x H.reach u j' h with a | a | a
      · rw [a.1]; exact h
      · exact a.2.1
      · exact absurd a.1 (hnm j' hj)
    by_cases hsp : isSpin ((x.ρ j).pc u) = true
    · obtain ⟨c, hc⟩ := (early_spin he hsp).2
      have hl : ∀ j', j ≤ j' → isSpin ((x.ρ j').pc u) = true ∧ lockWaitOf ((x.ρ j').pc u) ((x.ρ j').fr u) = some (.cv c) :=
        Sched.keeps_from ⟨hsp, hc _⟩ fun j' hj ⟨a, b⟩ => by
          rcases early_step x H.reach u j' (hE j' hj) with h | h | h
          · obtain ⟨c', hc'⟩ := (early_spin (hE j' hj) a).2
            rw [h.1]; exact ⟨a, by rw [hc'] at b ⊢; exact b⟩
          · exact ⟨h.2.2.1, h.2.2.2.trans b⟩
          · exact absurd h.1 (hnm j' hj)
      exact H.lock u (.cv c) j (fun j' hj' => (hl j' hj').2) (fun j' _ => lock_free_again x H.reach H.weak H.foreign _ j')
    · have hsp : isSpin ((x.ρ j).pc u) = false := by cases h : isSpin ((x.ρ j).pc u) <;> simp_all
      have hpc : ∀ j', j ≤ j' → (x.ρ j').pc u = (x.ρ j).pc u := Sched.keeps_from rfl fun j' hj h => by
        rcases early_step x H.reach u j' (hE j' hj) with a | a | a
        · rw [a.1]; exact h
        · rw [h, hsp] at a; cases a.1
        · exact absurd a.1 (hnm j' hj)
      obtain ⟨j', hj', hn⟩ := straight_leaves x H.reach H.weak u j
      exact hn (by rw [hpc j' hj']; exact early_straight he hsp)

/-- Every nsync_cv_signal / nsync_cv_broadcast call returns. -/
theorem signal_returns (x : Exec s0) (H : FairHyps x) (u : Tid) (c : Nat) (bc : Bool) (st : SgSt) (j : Nat)
    (hp : (x.ρ j).pc u = .sg c bc st) : ∃ j', j ≤ j' ∧ (x.ρ j').pc u = .idle := by
  by_cases hl : sgLate ((x.ρ j).pc u) = true
  · exact sg_late_returns x H u j hl
  · obtain ⟨j1, hj1, h | h⟩ := sg_early_leaves x H u j (by rw [hp] at hl ⊢; cases st <;> first | rfl | exact absurd rfl hl)
    · obtain ⟨j2, hj2, h2⟩ := sg_late_returns x H u j1 h
      exact ⟨j2, Nat.le_trans hj1 hj2, h2⟩
    · exact ⟨j1, hj1, h⟩

end WaitN
