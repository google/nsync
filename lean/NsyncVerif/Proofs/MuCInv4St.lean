import NsyncVerif.Proofs.MuCInv4Enq
/-
  MuC (I_queue): stores — `waiting := 1` (mark), `waiting := 0` (unmark), enqueue in lock_slow.
-/
namespace NsyncVerif.MuC

/-- `t` sets `waiting := 1` on its record `k`, which is on no list, and enters limbo. -/
theorem Inv4.mark {s s' : State} (t : Tid) (k : Wid) (h : Inv4 s)
    (hq : s'.queue = s.queue)
    (hwrk : (s'.wr k).waiting = true ∧ (s'.wr k).owner = some t)
    (hwro : ∀ x, x ≠ k → (s'.wr x).owner = (s.wr x).owner ∧ (s'.wr x).waiting = (s.wr x).waiting)
    (hw0 : (s.wr k).waiting = false) (hown : ∀ u, u ≠ t → k ∉ (s.pc u).ws)
    (hpc : ∀ u, u ≠ t → s'.pc u = s.pc u)
    (hws : ∀ x, x ∈ (s'.pc t).ws → x = k ∨ x ∈ (s.pc t).ws)
    (hunl : (s'.pc t).unl = false) (hunl0 : (s.pc t).unl = false)
    (hwk : (s'.pc t).wakeL = []) (hwk0 : (s.pc t).wakeL = [])
    (hlb : (s'.pc t).limbo = some k) (hfin : (s'.pc t).finOf = none) : Inv4 s' := by
  have hsc : ∀ u, (s'.pc u).scan? = (s.pc u).scan? :=
    eq_of_others hpc ((scan_none_of_not_unl hunl).trans (scan_none_of_not_unl hunl0).symm)
  have hwkL : ∀ u, (s'.pc u).wakeL = (s.pc u).wakeL := eq_of_others hpc (hwk.trans hwk0.symm)
  have hQ := queued_congr hq hsc
  have hnq : ¬ Queued s k := h.not_queued hw0
  have hnw : ∀ u, k ∉ (s.pc u).wakeL := h.not_woken hw0
  refine ⟨?_, ?_, ?_, ?_, ?_, ?_, ?_, fun u v x hu hv => by rw [hwkL] at hu hv; exact h.wkd u v x hu hv⟩
  · intro u x hx
    by_cases hu : u = t
    · subst hu
      rcases hws x hx with rfl | hx'
      · exact hwrk.2
      · by_cases hxk : x = k
        · subst hxk; exact hwrk.2
        · rw [(hwro x hxk).1]; exact h.own u x hx'
    · rw [hpc u hu] at hx
      have hxk : x ≠ k := fun e => hown u hu (e ▸ hx)
      rw [(hwro x hxk).1]; exact h.own u x hx
  · intro u v hu hv
    have e : ∀ w, (s'.pc w).unl = (s.pc w).unl := eq_of_others hpc (hunl.trans hunl0.symm)
    rw [e] at hu hv; exact h.uniq u v hu hv
  · intro u
    have : allOf s' u = allOf s u := by simp only [allOf, hq, PC.priv, hsc, hwkL]
    rw [this]; exact h.nd u
  · intro x hx
    have hx' := (hQ x).1 hx
    have hxk : x ≠ k := fun e => hnq (e ▸ hx')
    rw [(hwro x hxk).2]; exact h.wait x hx'
  · intro u x hx
    rw [hwkL] at hx
    have hxk : x ≠ k := fun e => hnw u (e ▸ hx)
    obtain ⟨a, b⟩ := h.wk u x hx
    exact ⟨by rw [(hwro x hxk).2]; exact a, by rw [hQ]; exact b⟩
  · intro u x hx
    by_cases hu : u = t
    · subst hu; rw [hlb] at hx; cases hx
      exact ⟨hwrk.1, by rw [hQ]; exact hnq, fun v => by rw [hwkL]; exact hnw v⟩
    · rw [hpc u hu] at hx
      have hxk : x ≠ k := fun e => hown u hu (e ▸ limbo_mem_ws hx)
      obtain ⟨a, b, c⟩ := h.limbo u x hx
      exact ⟨by rw [(hwro x hxk).2]; exact a, by rw [hQ]; exact b, fun v => by rw [hwkL]; exact c v⟩
  · intro u f hf
    by_cases hu : u = t
    · subst hu; rw [hfin] at hf; cases hf
    · rw [hpc u hu] at hf; rw [hq]; exact h.finq u f hf

/-- `t` clears `waiting` of a record `k` that is on no list and (afterwards) on no wake list. -/
theorem Inv4.unmark {s s' : State} (t : Tid) (k : Wid) (h : Inv4 s)
    (hq : s'.queue = s.queue)
    (hwro : ∀ x, (s'.wr x).owner = (s.wr x).owner ∧ (x ≠ k → (s'.wr x).waiting = (s.wr x).waiting))
    (hnq : ¬ Queued s k) (hnw : ∀ u, u ≠ t → k ∉ (s.pc u).wakeL) (hnl : ∀ u, u ≠ t → (s.pc u).limbo ≠ some k)
    (hpc : ∀ u, u ≠ t → s'.pc u = s.pc u)
    (hws : ∀ x, x ∈ (s'.pc t).ws → x ∈ (s.pc t).ws)
    (hunl : (s'.pc t).unl = (s.pc t).unl) (hsc : (s'.pc t).scan? = (s.pc t).scan?)
    (hwk : ∀ x, x ∈ (s'.pc t).wakeL → x ∈ (s.pc t).wakeL ∧ x ≠ k)
    (hwksub : List.Sublist (s'.pc t).wakeL (s.pc t).wakeL)
    (hlb : (s'.pc t).limbo = none) (hfin : (s'.pc t).finOf = (s.pc t).finOf) : Inv4 s' := by
  have hQ := queued_congr hq (eq_of_others hpc hsc)
  refine ⟨?_, ?_, ?_, ?_, ?_, ?_, ?_, ?_⟩
  · intro u x hx
    rw [(hwro x).1]
    by_cases hu : u = t
    · subst hu; exact h.own u x (hws x hx)
    · rw [hpc u hu] at hx; exact h.own u x hx
  · intro u v hu hv
    have e : ∀ w, (s'.pc w).unl = (s.pc w).unl := eq_of_others hpc hunl
    rw [e] at hu hv; exact h.uniq u v hu hv
  · intro u
    have hnd := h.nd u
    by_cases hu : u = t
    · subst hu
      simp only [allOf, hq, PC.priv, hsc] at hnd ⊢
      exact List.Nodup.sublist (List.Sublist.append_left hwksub _) hnd
    · simp only [allOf, hq, hpc u hu] at hnd ⊢; exact hnd
  · intro x hx
    have hx' := (hQ x).1 hx
    have hxk : x ≠ k := fun e => hnq (e ▸ hx')
    rw [(hwro x).2 hxk]; exact h.wait x hx'
  · intro u x hx
    by_cases hu : u = t
    · subst hu
      obtain ⟨hx1, hxk⟩ := hwk x hx
      obtain ⟨a, b⟩ := h.wk u x hx1
      exact ⟨by rw [(hwro x).2 hxk]; exact a, by rw [hQ]; exact b⟩
    · rw [hpc u hu] at hx
      have hxk : x ≠ k := fun e => hnw u hu (e ▸ hx)
      obtain ⟨a, b⟩ := h.wk u x hx
      exact ⟨by rw [(hwro x).2 hxk]; exact a, by rw [hQ]; exact b⟩
  · intro u x hx
    by_cases hu : u = t
    · subst hu; rw [hlb] at hx; cases hx
    · rw [hpc u hu] at hx
      have hxk : x ≠ k := fun e => hnl u hu (e ▸ hx)
      obtain ⟨a, b, c⟩ := h.limbo u x hx
      refine ⟨by rw [(hwro x).2 hxk]; exact a, by rw [hQ]; exact b, fun v => ?_⟩
      by_cases hv : v = t
      · subst hv; exact fun e => c v (hwk x e).1
      · rw [hpc v hv]; exact c v
  · intro u f hf
    have hf' : (s.pc u).finOf = some f := (eq_of_others hpc hfin u).symm.trans hf
    rw [hq]; exact h.finq u f hf'
  · intro u v x hu hv
    have hu' : x ∈ (s.pc u).wakeL := by
      by_cases e : u = t
      · subst e; exact (hwk x hu).1
      · rw [hpc u e] at hu; exact hu
    have hv' : x ∈ (s.pc v).wakeL := by
      by_cases e : v = t
      · subst e; exact (hwk x hv).1
      · rw [hpc v e] at hv; exact hv
    exact h.wkd u v x hu' hv'

/-- The stores: queue insertion by lock_slow, the wake-up store, the reset of the record in nsync_mu_wait, the two
    stores of mu_try_acquire_after_timeout_or_cancel. -/
theorem Inv4.st {s s' : State} {t : Tid} (h3 : Inv3 s) (h : Inv4 s) (e : StEff s t s') : Inv4 s' := by
  cases e
  case lsNewLast c k heq hq hcw hown hwait _ | lsNewFirst c k heq hq hcw hown hwait _ =>
    -- mark and enqueue: adoption of a fresh record
    refine h.enq_step (k := k) rfl (by simp [enqLast, enqFirst]) (by simp) (by simp [enqLast, enqFirst, wr_of_merge, setFn])
      (fun x hx => by simp [enqLast, enqFirst, wr_of_merge, setFn, hx]) ?_ ?_ ?_ (h3.no_fin (by rw [heq]; rfl)) ?_
      rfl (by rw [heq]; rfl) rfl (by rw [heq]; rfl) rfl rfl
    · exact h.not_queued hwait
    · exact h.not_woken hwait
    · intro u _ e; have := h.own u k e; rw [hown] at this; cases this
    · intro x hx
      rw [heq]
      simp only [PC.ws, SL.ws, hcw] at hx ⊢
      simpa using hx
  case lsOwnLast c k heq hq hcw hwait _ | lsOwnFirst c k heq hq hcw hwait _ =>
    -- mark and enqueue: the thread's own record again
    have hown := h.own t k (by rw [heq]; simp [PC.ws, SL.ws, hcw])
    refine h.enq_step (k := k) rfl (by simp [enqLast, enqFirst]) (by simp) (by simp [enqLast, enqFirst, wr_of_merge, setFn, hown])
      (fun x hx => by simp [enqLast, enqFirst, wr_of_merge, setFn, hx]) ?_ ?_ ?_ (h3.no_fin (by rw [heq]; rfl))
      (fun x hx => Or.inr (by rw [heq]; exact hx)) rfl (by rw [heq]; rfl) rfl (by rw [heq]; rfl) rfl rfl
    · exact h.not_queued hwait
    · exact h.not_woken hwait
    · exact fun u hu e => hu (h.ws_owner hown e)
  case wake r k rest heq =>
    -- `waiting := 0` of the next waiter to wake
    have hnd := h.nd t
    have hkw : k ∈ (s.pc t).wakeL := by rw [heq]; simp [PC.wakeL]
    have hkr : k ∉ rest := by
      simp only [allOf, heq, PC.wakeL] at hnd
      have := (List.nodup_append.mp hnd).2.1
      exact (List.nodup_cons.mp this).1
    refine Inv4.unmark t k h (by simp) ?_ (h.wk t k hkw).2 ?_ ?_ (setFn_others rfl)
      (by rw [heq]; simp [PC.ws]) (by rw [heq]; simp [PC.unl]) (by rw [heq]; simp [PC.scan?]) ?_ ?_ (by simp [PC.limbo])
      (by rw [heq]; simp [PC.finOf])
    · intro x; simp only [setFn]; constructor
      · split <;> simp_all
      · intro hx; simp [hx]
    · intro u hu e; exact hu (h.wkd u t k e hkw)
    · intro u _ e; exact (h.limbo u k e).2.2 t hkw
    · intro x hx
      simp only [setPc_pc, setFn_same, PC.wakeL] at hx
      rw [heq]; simp only [PC.wakeL]
      exact ⟨List.mem_cons_of_mem _ hx, fun e => hkr (e ▸ hx)⟩
    · rw [heq]; simp [PC.wakeL]
  case mwNew c k heq hq hcw hown hwait =>
    -- `waiting := 1` (mu_wait.c:210)
    refine Inv4.mark t k h (by simp) (by simp [setFn]) (by intro x hx; simp [setFn, hx]) hwait ?_
      (setFn_others rfl) ?_ (by simp [PC.unl]) (by rw [heq]; rfl) (by simp [PC.wakeL]) (by rw [heq]; rfl)
      (by simp [PC.limbo]) (by simp [PC.finOf])
    · intro u _ e; have := h.own u k e; rw [hown] at this; cases this
    · intro x hx; left; simpa [PC.ws] using hx
  case mwOwn c k heq hq hcw hwait =>
    have hmem : k ∈ (s.pc t).ws := by rw [heq]; simp [PC.ws, hcw]
    have hown := h.own t k hmem
    refine Inv4.mark t k h (by simp) (by simp [setFn, hown]) (by intro x hx; simp [setFn, hx]) hwait ?_
      (setFn_others rfl) ?_ (by simp [PC.unl]) (by rw [heq]; rfl) (by simp [PC.wakeL]) (by rw [heq]; rfl)
      (by simp [PC.limbo, hcw]) (by simp [PC.finOf])
    · exact fun u hu e => hu (h.ws_owner hown e)
    · intro x hx; right; rw [heq]; simpa [PC.ws] using hx
  case mtGone c old k heq hcw =>
    -- `waiting := 0` by the waiter that removed itself
    have hlb : (s.pc t).limbo = some k := by rw [heq]; simp [PC.limbo, hcw]
    obtain ⟨_, hnq, hnw⟩ := h.limbo t k hlb
    refine Inv4.unmark t k h (by simp) ?_ hnq (fun u _ => hnw u) ?_ (setFn_others rfl)
      (by rw [heq]; simp [PC.ws]) (by rw [heq]; simp [PC.unl]) (by rw [heq]; simp [PC.scan?]) (by simp [PC.wakeL])
      (by rw [heq]; simp [PC.wakeL]) (by simp [PC.limbo]) (by rw [heq]; simp [PC.finOf])
    · intro x; simp only [setFn]; constructor
      · split <;> simp_all
      · intro hx; simp [hx]
    · intro u hu e
      have h1 := h.own u k (limbo_mem_ws e)
      have h2 := h.own t k (limbo_mem_ws hlb)
      rw [h1] at h2; cases h2; exact hu rfl
  case mtKeep c old heq =>
    exact h.frame (t := t) (p' := .mwLd255 { c with hl := true, outc := c.so }) (by simp) (by simp)
      (fun x => ⟨Or.inl (by simp), by simp⟩) (heq ▸ .of_sub (fun _ hk => hk) rfl rfl rfl rfl rfl)
  case mtGive c old heq =>
    exact h.frame rfl rfl (fun x => ⟨Or.inl rfl, rfl⟩) (heq ▸ .of_sub (fun _ hk => hk) rfl rfl rfl rfl rfl)

end NsyncVerif.MuC
