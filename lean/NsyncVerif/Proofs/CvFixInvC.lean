/-
  Layer `CvFix` (repaired cv.c): the invariant behind C05 (timeouts, cancellation, no second sleep).
-/
import NsyncVerif.Proofs.CvFixBasic
import NsyncVerif.Proofs.CvFixOld

namespace NsyncVerif.CvFix

/-- Program points inside nsync_sem_wait_with_cancel_. -/
def Loc.inSem : Loc → Bool
  | .wSemEnter | .wSemRet | .cPre | .cWait | .cPost => true
  | _ => false

/-- Per-thread facts about `sem_outcome` / `outcome`. -/
structure TInvC (now : Nat) (x : Thr) : Prop where
  sem0 : x.loc.inSem = true → x.semOut = .ok
  timed : x.semOut = .timedOut → ∃ d, x.dl = some d ∧ d ≤ now
  canc : x.semOut = .cancelled → x.sawNote = true
  out : x.out = .ok ∨ x.out = x.semOut
  semRet : x.loc = .wSemRet → x.semDl = x.dl
  post : x.loc = .cPost → x.cTimed = true → ∃ d, x.semDl = some d ∧ d ≤ now

def InvC (s : State) : Prop := ∀ t, TInvC s.now (s.thr t)

theorem tinvC_fresh (now : Nat) (x : Thr) (l : Loc) (h : l.inSem = false) : TInvC now (x.fresh l) := by
  constructor <;> simp_all [Thr.fresh] <;> (intro hl; subst hl; simp [Loc.inSem] at h)

theorem tinvC_mono {now now' : Nat} {x : Thr} (h : TInvC now x) (hn : now ≤ now') : TInvC now' x := by
  obtain ⟨h1, h2, h3, h4, h5, h6⟩ := h
  refine ⟨h1, ?_, h3, h4, h5, ?_⟩
  · intro e; obtain ⟨d, hd, hle⟩ := h2 e; exact ⟨d, hd, by omega⟩
  · intro e1 e2; obtain ⟨d, hd, hle⟩ := h6 e1 e2; exact ⟨d, hd, by omega⟩

theorem tinvC_settle {now : Nat} {x y : Thr} (h : TInvC now x) (hs : Settle x y) :
    TInvC now y := by
  obtain ⟨h1, h2, h3, h4, h5, h6⟩ := h
  suffices (y.loc.inSem = true → y.semOut = .ok) ∧ (y.semOut = .timedOut → ∃ d, y.dl = some d ∧ d ≤ now) ∧
      (y.semOut = .cancelled → y.sawNote = true) ∧ (y.out = .ok ∨ y.out = y.semOut) ∧
      (y.loc ≠ .cPost) ∧ (y.loc = .wSemRet → y.semDl = y.dl) from
    ⟨this.1, this.2.1, this.2.2.1, this.2.2.2.1, this.2.2.2.2.2, fun e => absurd e this.2.2.2.2.1⟩
  cases hs with
  | id n1 n2 => exact ⟨h1, h2, h3, h4, n2, h5⟩
  | pre hl hn =>
    have := h1 (by simp [hl, Loc.inSem])
    refine ⟨by simp [Loc.inSem], by simp, by simp [hn], ?_, by simp, by simp⟩
    rcases h4 with h4 | h4
    · exact .inl h4
    · left; simpa [this] using h4
  | postOk hl ht =>
    have := h1 (by simp [hl, Loc.inSem])
    refine ⟨by simp [Loc.inSem], by simp, by simp, ?_, by simp, by simp⟩
    rcases h4 with h4 | h4
    · exact .inl h4
    · left; simpa [this] using h4
  | postCancel hl ht hc hn =>
    have := h1 (by simp [hl, Loc.inSem])
    refine ⟨by simp [Loc.inSem], by simp, by simp [hn], ?_, by simp, by simp⟩
    rcases h4 with h4 | h4
    · exact .inl h4
    · left; simpa [this] using h4
  | postTimed hl ht hc hd =>
    have := h1 (by simp [hl, Loc.inSem])
    obtain ⟨d, hd1, hd2⟩ := h6 hl ht
    refine ⟨by simp [Loc.inSem], ?_, by simp, ?_, by simp, by simp⟩
    · intro _; exact ⟨d, by rw [← hd]; exact hd1, hd2⟩
    · rcases h4 with h4 | h4
      · exact .inl h4
      · left; simpa [this] using h4

theorem tinvC_upd {now : Nat} {x x' : Thr} (h : TInvC now x) (hso : x'.semOut = x.semOut) (hdl : x'.dl = x.dl)
    (hsn : x'.sawNote = x.sawNote) (hout : x'.out = x.out) (hloc : x'.loc.inSem = false) : TInvC now x' := by
  obtain ⟨h1, h2, h3, h4, h5, h6⟩ := h
  constructor
  · intro e; rw [hloc] at e; cases e
  · rw [hso, hdl]; exact h2
  · rw [hso, hsn]; exact h3
  · rw [hso, hout]; exact h4
  · intro e; rw [e] at hloc; cases hloc
  · intro e; rw [e] at hloc; cases hloc

theorem tinvC_ltr {s : State} {t : Tid} {e : Event} {x' : Thr} (hi : TInvC s.now (s.thr t))
    (h : LTr s t e x') : TInvC s.now x' := by
  have ⟨h1, h2, h3, h4, h5, h6⟩ := hi
  cases h with
  | callWait gen dl note hl => constructor <;> simp [Thr.fresh, Loc.inSem]
  | retWait res hl hr => exact tinvC_fresh _ _ _ rfl
  | callSignal hl => constructor <;> simp [Thr.fresh, Loc.inSem]
  | callBroadcast hl => constructor <;> simp [Thr.fresh, Loc.inSem]
  | retSignal hl hb => exact tinvC_fresh _ _ _ rfl
  | retBroadcast hl hb => exact tinvC_fresh _ _ _ rfl
  | callWaitN hl => exact tinvC_fresh _ _ _ rfl
  | retWaitN hl hm => constructor <;> simp [Thr.fresh, Loc.inSem]
  | wHeadStay r obs hl hr ho hz =>
    split
    · rename_i hso
      constructor <;> simp_all [Loc.inSem]
      · split <;> simp
    · constructor <;> simp_all [Loc.inSem]
  | wChk y r obs hy hl hr ho hso => split <;> exact tinvC_upd (tinvC_settle hi hy) rfl rfl rfl rfl rfl
  | wTail y r obs hy hl hr ho => exact tinvC_upd (tinvC_settle hi hy) rfl rfl rfl rfl rfl
  | spinLd site obs hl ho => split <;> exact tinvC_upd hi rfl rfl rfl rfl rfl
  | spinLdN obs hl ho => split <;> exact tinvC_upd hi rfl rfl rfl rfl rfl
  | sigLd site obs hl hs ho => split <;> exact tinvC_upd hi rfl rfl rfl rfl rfl
  | semPdEnterW k dl hl hk hd => constructor <;> simp_all [Loc.inSem]
  | semPdEnterC k dl hl hk hd => constructor <;> simp_all [Loc.inSem]
  | semPdRetTimedW k d hl hd hn =>
    have e := h5 hl
    have e2 : (s.thr t).dl = some d := by rw [← e]; exact hd
    constructor <;> simp_all [Loc.inSem]
  | semPdRetTimedC k d hl hd hn =>
    constructor <;> simp_all [Loc.inSem]
  | noteSeen hl => constructor <;> simp_all [Loc.inSem]
  | noteNotify hl ht => constructor <;> simp_all [Loc.inSem]
  | callDebug k hl => constructor <;> simp [Thr.fresh, Loc.inSem]
  | retDebug k hl hk => exact tinvC_fresh _ _ _ rfl
  | dbgLd obs hl ho => split <;> exact tinvC_upd hi rfl rfl rfl rfl rfl
  | wChk2 r obs hl hr ho => exact tinvC_upd hi rfl rfl rfl rfl (by dsimp only; split <;> rfl)
  | wwLd obs f rest hl hlist => exact tinvC_upd hi rfl rfl rfl rfl (by dsimp only; split <;> rfl)
  | wwRelCasOk exp new obs hl => exact tinvC_upd hi rfl rfl rfl rfl (by dsimp only; split <;> rfl)
  | ready r obs hl hr ho => exact hi
  | deqSpinStay r obs hl hr hw => exact hi
  | _ => exact tinvC_upd hi rfl rfl rfl rfl rfl

/-- Generic shape of a non-local transition as far as `InvC` is concerned: one thread gets a new
    frame, the clock does not move. -/
theorem invC_of_frame {s s' : State} {t : Tid} (hi : InvC s) (hnow : s'.now = s.now)
    (hoth : ∀ u, u ≠ t → s'.thr u = s.thr u) (ht : TInvC s.now (s'.thr t)) : InvC s' := by
  intro u
  rw [hnow]
  by_cases hu : u = t
  · subst hu; exact ht
  · rw [hoth u hu]; exact hi u

theorem invC_step {s s' : State} {t : Tid} {x' : Thr} (hi : InvC s) (hnow : s'.now = s.now)
    (hthr : s'.thr = updT s.thr t x') (ht : TInvC s.now x') : InvC s' :=
  invC_of_frame (t := t) hi hnow (fun u hu => by rw [hthr]; simp [hu]) (by rw [hthr]; simpa using ht)

def FrameC (x x' : Thr) : Prop :=
  x' = x ∨ (x'.semOut = x.semOut ∧ x'.dl = x.dl ∧ x'.sawNote = x.sawNote ∧ x'.out = x.out ∧ x'.loc.inSem = false)

theorem invC_of_frameC {s s' : State} (hi : InvC s) (hnow : s'.now = s.now)
    (h : ∀ u, FrameC (s.thr u) (s'.thr u)) : InvC s' := by
  intro u
  rw [hnow]
  rcases h u with h | ⟨a1, a2, a3, a4, a5⟩
  · rw [h]; exact hi u
  · exact tinvC_upd (hi u) a1 a2 a3 a4 a5

theorem invC_init : InvC init := by
  intro t
  constructor <;> simp [init, Loc.inSem]

theorem invC_tr {cfg : Config} {s s' : State} {e : Event} (hi : InvC s) (h : Tr cfg s e s') : InvC s' := by
  cases h with
  | same e h => exact hi
  | tick ns h => intro t; exact tinvC_mono (hi t) h
  | loc h =>
    rename_i t x'
    exact invC_step hi rfl rfl (tinvC_ltr (hi t) h)
  | acq t exp new obs o n hl hexp hw he ho hn hnew =>
    refine invC_of_frame (t := t) hi (afterAcquire_now _ _ _) (fun u hu => afterAcquire_thr_other _ _ _ _ hu) ?_
    obtain ⟨a1, a2, a3, a4, a5⟩ := afterAcquire_thr_self { s with word := n, holder := some t } t { s.thr t with old := o }
    refine tinvC_upd (hi t) a1 a2 a3 a4 ?_
    rcases a5 with a5 | a5 | a5 | a5 | a5 | a5 <;> rw [a5] <;> rfl
  | semOther e sem' h => exact hi
  | wwCasOk t exp new obs f rest hl hlist =>
    exact invC_step hi rfl rfl (tinvC_upd (hi t) rfl rfl rfl rfl rfl)
  | semPdRetOkC t k hl =>
    refine invC_step hi rfl rfl ?_
    have ⟨h1, h2, h3, h4, h5, h6⟩ := hi t
    have := h1 (by simp [hl, Loc.inSem])
    constructor <;> simp_all [Loc.inSem]
  | wClr t r obs hl hr =>
    refine invC_step hi rfl rfl ?_
    have ⟨h1, h2, h3, h4, h5, h6⟩ := hi t
    constructor <;> simp_all [Loc.inSem]
  | wSt1 t r obs hl hm hst =>
    refine invC_step hi rfl rfl ?_
    split <;> exact tinvC_upd (hi t) rfl rfl rfl rfl rfl
  | relSig t site new obs n hl hs hh hnew hn hsp =>
    refine invC_step hi rfl rfl (tinvC_upd (hi t) rfl rfl rfl rfl ?_)
    simp only [wakeEntry]
    split
    · rfl
    · split <;> rfl
  | semVWake t k r q hl hc =>
    refine invC_step hi rfl rfl (tinvC_upd (hi t) rfl rfl rfl rfl ?_)
    simp only; split <;> rfl
  | sRcCasOk t site r exp new obs hl hr hn ho he =>
    refine invC_step hi rfl rfl (tinvC_upd (hi t) rfl rfl rfl rfl ?_)
    simp only; split <;> rfl
  | wInit t r hl hm hst => exact fun u => hi u
  | nwInit t r hl hm hst => exact fun u => hi u
  | fStW t r new hl hf => exact fun u => hi u
  | fCasOk t r exp new obs hl hf hn ho he => exact fun u => hi u
  | wHeadExit t r y hy hl hr hw =>
    subst hy
    exact invC_step hi rfl rfl (tinvC_upd (hi t) rfl rfl rfl rfl rfl)
  | _ =>
    refine invC_of_frameC hi rfl (fun u => ?_)
    simp
    split
    · rename_i hu; subst hu; exact .inr ⟨rfl, rfl, rfl, rfl, rfl⟩
    · exact .inl rfl

theorem invC_old {s s' : State} {e : Event} {g : Bool} (hi : InvC s) (h : Old s e s' g) : InvC s' := by
  cases h with
  | same e => exact hi
  | sem e sem' => exact hi
  | deqLdQueued t r obs hl hr hw hst => exact invC_step hi rfl rfl (tinvC_upd (hi t) rfl rfl rfl rfl rfl)
  | deqLdF3 t r obs u hl hr hw hst hlist => exact invC_step hi rfl rfl (tinvC_upd (hi t) rfl rfl rfl rfl rfl)
  | deqLdBad t r obs hl hr hw hst hst2 => exact invC_step hi rfl rfl (tinvC_upd (hi t) rfl rfl rfl rfl rfl)

/-- What an accepted `ret` of a cv wait says about the returning thread. -/
theorem retWait_accepted {cfg : Config} {s s' : State} {t : Tid} {res : Outcome}
    (hs : step cfg s (.retWait t res) = .ok s') :
    ((s.thr t).loc = .wRet ∨ (s.thr t).loc = .wRelocking) ∧ res = (s.thr t).out := by
  simp only [step] at hs
  obtain ⟨hok, _⟩ := stepRet_ok hs
  simpa using hok

end NsyncVerif.CvFix
