/-
  Futex layer (C12): the abstract counting semaphore, the abstraction `abs s = ⟨word, now⟩` and the
  abstract action of a concrete event.  That they form a simulation is proved in Props/C12.lean.
-/
import NsyncVerif.Model.Futex

namespace NsyncVerif.Futex

structure AState where
  count : Nat
  now : Nat
  deriving DecidableEq, Repr

def AState.init : AState := ⟨0, 0⟩

inductive ALabel where
  | tau                    -- stutter
  | post                   -- V: count+1            (at the successful CAS of V)
  | take                   -- P success: count-1    (at the successful CAS of P / P_with_deadline)
  | timeout (d : Nat)      -- P_with_deadline gives up: count unchanged, d ≤ now
  | tick (ns : Nat)        -- clock advances
  deriving DecidableEq, Repr

inductive AStep : AState → ALabel → AState → Prop where
  | tau (a : AState) : AStep a .tau a
  | post (c n : Nat) : AStep ⟨c, n⟩ .post ⟨c + 1, n⟩
  | take (c n : Nat) : AStep ⟨c + 1, n⟩ .take ⟨c, n⟩          -- only enabled when count > 0
  | timeout (c n d : Nat) : d ≤ n → AStep ⟨c, n⟩ (.timeout d) ⟨c, n⟩
  | tick (c n ns : Nat) : n ≤ ns → AStep ⟨c, n⟩ (.tick ns) ⟨c, ns⟩

inductive ARun : AState → List ALabel → AState → Prop where
  | nil (a : AState) : ARun a [] a
  | cons {a b c : AState} {l : ALabel} {ls : List ALabel} :
      AStep a l b → ARun b ls c → ARun a (l :: ls) c

/-- Abstraction function: the count is the futex word. -/
def State.abs (s : State) : AState := ⟨s.word, s.now⟩

/-- The abstract action a concrete event stands for. -/
def labelOf (s : State) : Event → ALabel
  | .cas t _ _ _ _ _ true =>
      match s.pc t with
      | .vCas _ => .post
      | .wCas _ _ => .take
      | _ => .tau
  | .retPD t true =>
      match callDeadline s t with
      | some (some d) => .timeout d
      | _ => .tau
  | .tick ns => .tick ns
  | _ => .tau

def labels (s : State) : List Event → List ALabel
  | [] => []
  | e :: es =>
      match step s e with
      | .ok s' => labelOf s e :: labels s' es
      | .error _ => []

theorem AStep.take' {i n : Nat} (h : 0 < i) : AStep ⟨i, n⟩ .take ⟨i - 1, n⟩ := by
  obtain ⟨j, rfl⟩ : ∃ j, i = j + 1 := ⟨i - 1, by omega⟩
  exact AStep.take j n

def ALabel.isTimeout : ALabel → Bool
  | .timeout _ => true
  | _ => false

end NsyncVerif.Futex
