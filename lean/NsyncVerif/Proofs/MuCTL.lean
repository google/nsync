import NsyncVerif.Proofs.MuCTLWalk
import NsyncVerif.Proofs.MuCFairAccepts
/-
  MuC: all the facts about one step of thread `t` (`StepAll`; `step_tl`: the part `StepTL`), for every event of `t`
  except client data accesses: `Eff.all` puts the kinds of Proofs/MuCTLWalk.lean together, `step_all` is `Eff.all` after
  `step_eff`.
-/
namespace NsyncVerif.MuC

def Event.isApi : Event → Bool
  | .call _ _ | .ret _ _ _ => true
  | _ => false

/-- The program points at which a call or a return is the accepted event. -/
def ApiAt (p : PC) : Prop := p.accepts = [.call] ∨ p.accepts = [.ret]

theorem RetPc.apiAt {hd : Option Mode} {p : PC} {m : Option Mode} {w : Option Wid} {snap : Bool}
    (h : RetPc hd p m w snap) : ApiAt p := by
  cases h <;> exact Or.inr rfl

theorem CasEff.all {s s' : State} {t : Tid} {ok : Bool} (h1 : Inv1 s) (h1' : Inv1 s') (e : CasEff s t ok s') :
    StepAll s s' t (s.pc t = .idle) := by
  cases e with
  | fail hm => exact PcMove.all h1 rfl hm
  | plain hp e => exact (CasOk.all h1 h1' rfl hp e).mono False.elim
  | scan h => exact (h.all h1).mono False.elim
  | fin heq hw e => exact (finCas_all h1 h1' heq hw e).mono False.elim
  | mwEnq c old k heq _ hw => exact (mwEnq_all h1 c old k heq hw).mono False.elim
  | mtRm c old rc k heq _ => exact (mtRm_all h1 c old rc k heq).mono False.elim

/-- Every kind of step of `t` but a client data access (`hd`: an idle thread does not stay idle). -/
theorem Eff.all {cfg : Cfg} {s s' : State} {t : Tid} (h1 : Inv1 s) (h1' : Inv1 s') (e : Eff cfg s t s')
    (hd : s.pc t = .idle → s'.pc t ≠ .idle) : StepAll s s' t (ApiAt (s.pc t)) := by
  have idle : s.pc t = .idle → ApiAt (s.pc t) := fun h => Or.inl (by rw [h]; rfl)
  cases e with
  | move hm _ => exact (PcMove.all h1 rfl hm).mono idle
  | callQ h0 hh hm => exact (PcMove.all h1 rfl (h0 ▸ hm)).mono idle
  | cas e => exact (e.all h1 h1').mono idle
  | st e => exact (e.all h1).mono False.elim
  | ldRc c k obs heq _ => exact (ldRc_all h1 c k obs heq).mono False.elim
  | ldDeq c old k heq _ _ _ => exact (ldDeq_all h1 c old k heq).mono False.elim
  | ret hp e => exact (e.all h1 rfl hp).mono fun _ => hp.apiAt
  | call h0 hp e => exact (e.all h0 hp).mono fun _ => idle h0
  | scan h => exact (h.all h1).mono False.elim
  | eval c cd heq _ => exact (eval_all h1 c _ heq).mono False.elim
  | sem hp e => exact (e.all h1 rfl hp).mono False.elim
  | dataW x v hh =>
    have h0 := h1.hidle t (by rw [hh]; simp)
    exact absurd h0 (hd h0)
  | dataR =>
    have hni : s.pc t ≠ .idle := fun h0 => hd h0 h0
    have := StepAll.setPc (A := ApiAt (s.pc t)) (s := s) (t := t) rfl (TL.refl _ _ _ (Or.inr (by
      cases hp : (s.pc t).isIdle
      · exact hp
      · exact absurd (PC.eq_idle hp) hni)))
    rwa [show setPc s t (s.pc t) = s from by simp [setPc, setFn_self]] at this

theorem isApi_of_apiAt {cfg : Cfg} {s s' : State} {e : Event} {t : Tid} (hs : step cfg s e = .ok s') (ht : e.tid = some t)
    (hd : e.isData = false) (h : ApiAt (s.pc t)) : e.isApi = true := by
  obtain ⟨k, hk, hm⟩ := step_accepts hs ht hd
  rcases h with h | h <;> rw [h] at hm <;> obtain rfl := List.mem_singleton.mp hm <;> cases e <;> first | rfl | cases hk

theorem step_all {cfg : Cfg} {s s' : State} {e : Event} {t : Tid} (h1 : Inv1 s)
    (h : step cfg s e = .ok s') (he : e.tid = some t) (hd : e.isData = false) : StepAll s s' t (e.isApi = true) := by
  refine ((step_eff h he).all h1 (inv1_step h1 h) fun h0 => ?_).mono (isApi_of_apiAt h he hd)
  -- the only event accepted from an idle thread is a call, and a call leaves `idle`
  obtain ⟨k, hk, hm⟩ := step_accepts h he hd
  rw [h0] at hm
  obtain rfl := List.mem_singleton.mp hm
  cases e <;> cases hk
  cases he
  obtain ⟨-, ⟨p', hm, -, rfl⟩ | ⟨p', nw, ca, hp, e⟩⟩ := stepCall_eff h
  · rw [setPc_pc, setFn_same]; cases hm <;> first | exact PC.noConfusion | (rename_i hl; cases hl)
  · rw [e.pc, setFn_same]; cases hp <;> exact PC.noConfusion

theorem step_tl {cfg : Cfg} {s s' : State} {e : Event} {t : Tid} (h1 : Inv1 s) (h3 : Inv3 s)
    (h : step cfg s e = .ok s') (he : e.tid = some t)
    (hd : ∀ u x v, e ≠ .dataW u x v) (hr : ∀ u x v, e ≠ .dataR u x v) : StepTL s s' t :=
  (step_all h1 h he (by cases e <;> first | rfl | exact absurd rfl (hd _ _ _) | exact absurd rfl (hr _ _ _))).tl.full h1
    (inv1_step h1 h) (h3.ok3 t)

end NsyncVerif.MuC
