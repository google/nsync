import NsyncVerif.Proofs.MuCInv12Step
/-
  MuC, Inv12, the induction step: the hint bits MU_WRITER_WAITING and MU_LONG_WAIT stay justified.
-/
namespace NsyncVerif.MuC

section step
variable {s s' : State} {t : Tid}

theorem inv12_mtw_step (a : Invs s) (tl : StepTL s s' t) (h : Inv12 s) (u : Tid) (old : Word)
    (ho : (s'.pc u).mtOld = some old) : s'.word.ww = false := by
  cases hww' : s'.word.ww with
  | false => rfl
  | true =>
    exfalso
    by_cases e : u = t
    · subst e
      rcases tl.wd.p8 old ho with b | b
      · have hww := h.mtw u old b
        rcases tl.wd.p3 hww' with c | ⟨_, c⟩ | ⟨f, c, _⟩
        · rw [hww] at c; cases c
        · have := a.i3.no_spin_of_free c u; rw [spin_of_mtOld b] at this; cases this
        · rw [finOf_mtOld c] at b; cases b
      · rw [b] at hww'; cases hww'
    · rw [(tl.oth u e).1] at ho
      have hww := h.mtw u old ho
      have hsp := spin_of_mtOld ho
      rcases tl.wd.p3 hww' with c | ⟨_, c⟩ | ⟨f, c, _⟩
      · rw [hww] at c; cases c
      · have := a.i3.no_spin_of_free c u; rw [hsp] at this; cases this
      · have := a.i3.others_no_spin (fin_spin c) u e; rw [hsp] at this; cases this

theorem inv12_ok_step (tl : StepTL s s' t) (h : Inv12 s) (u : Tid) : (s'.pc u).ok12 := by
  by_cases e : u = t
  · subst e; exact tl.wd.p9 (h.ok u)
  · rw [(tl.oth u e).1]; exact h.ok u

/-- A thread between the acquiring CAS and the release store of mu_try_acquire_after_timeout_or_cancel holds the writer
    bit. -/
theorem wlock_of_mtOld (a : Invs s) {u : Tid} {old : Word} (h : (s.pc u).mtOld = some old) : s.word.wlock = true := by
  have hni : s.pc u ≠ .idle := by intro e; rw [e] at h; cases h
  have hsh : shareOf s u = some .W := by
    rw [a.i1.share_eq hni]
    cases hp : s.pc u <;> rw [hp] at h <;> simp [PC.mtOld] at h <;> rfl
  have := (a.i1.lock.wown u).2 hsh
  rw [a.i1.lock.wl, this]; rfl

theorem inv12_mtlw_step (a : Invs s) (tl : StepTL s s' t) (h : Inv12 s) (u : Tid) (old : Word)
    (ho : (s'.pc u).mtOld = some old) (hl : old.lw = true) : s'.word.lw = true := by
  by_cases e : u = t
  · subst e
    exact tl.lw.p12 old ho hl (fun hs => h.mtlw u old hs hl)
  · rw [(tl.oth u e).1] at ho
    have hlw := h.mtlw u old ho hl
    rcases tl.lw.p13 hlw with b | b | b
    · exact b
    · rw [wlock_of_mtOld a ho] at b; cases b
    · exfalso
      cases hm : (s.pc t).mtOld with
      | none => exact b hm
      | some o' =>
        have h1 := spin_of_mtOld hm
        have h2 := spin_of_mtOld ho
        have := a.i3.others_no_spin h1 u e
        rw [h2] at this; cases this

theorem inv12_lw_step (tl : StepTL s s' t) (h : Inv12 s) (hlw' : s'.word.lw = true) :
    ∃ u c, (s'.pc u).sl? = some c ∧ c.lwl = true := by
  rcases tl.wd.p6 hlw' with b | ⟨c, b1, b2⟩ | ⟨old, b1, b2⟩
  · obtain ⟨u, c, hu, hc⟩ := h.lw b
    by_cases e : u = t
    · subst e
      rcases tl.wd.p7 c hu hc with ⟨c', d1, d2⟩ | d
      · exact ⟨u, c', d1, d2⟩
      · rw [d] at hlw'; cases hlw'
    · exact ⟨u, c, by rw [(tl.oth u e).1]; exact hu, hc⟩
  · exact ⟨t, c, b1, b2⟩
  · -- a release store of mu_try_acquire_after_timeout_or_cancel that writes MU_LONG_WAIT: the bit was set all along
    obtain ⟨u, c, hu, hc⟩ := h.lw (h.mtlw t old b1 b2)
    by_cases e : u = t
    · subst e
      rcases tl.wd.p7 c hu hc with ⟨c', d1, d2⟩ | d
      · exact ⟨u, c', d1, d2⟩
      · rw [d] at hlw'; cases hlw'
    · exact ⟨u, c, by rw [(tl.oth u e).1]; exact hu, hc⟩

theorem inv12_rcn_step (a : Invs s) (tl : StepTL s s' t) (h : Inv12 s) (u : Tid) (k : Wid)
    (hu : (s'.pc u).lsRec = some k) : (s'.wr k).cond = none := by
  have key : ∀ v, (s.pc v).lsRec = some k → (s'.wr k).cond = none := by
    intro v hv
    rcases tl.rc.r3 k with b | ⟨b1, b2⟩
    · rw [b.2]; exact h.rcn v k hv
    · exfalso
      obtain ⟨_, c2, c3⟩ := tl.rc.r2 k b1 b2
      have hown := a.i4.own v k (lsRec_mem_ws hv)
      have hvt : v = t := by
        rcases c2 with c2 | c2
        · exact (a.i4.ws_owner hown c2).symm
        · rw [hown] at c2; cases c2
      subst hvt
      rw [(lsRec_waitRec hv).1] at c3; cases c3
  by_cases e : u = t
  · subst e
    rcases tl.rc.r4 k hu with b | b
    · exact key u b
    · exact b
  · rw [(tl.oth u e).1] at hu; exact key u hu

/-- `WB` / `WB0` for a record that was queued and stays as it is. -/
theorem wb_keep (a : Invs s) (a' : Invs s') (tl : StepTL s s' t) {k : Wid} (hq : Queued s k) (hmt : (s.pc t).mtOld = none)
    (hl : (s.wr k).lType = .W) :
    (Queued s' k ∧ (s'.wr k).lType = .W ∧ (s'.wr k).cond = (s.wr k).cond) ∨ ∃ u, WJ s' u := by
  obtain ⟨⟨h1, h2⟩, h3⟩ := queued_keep a a' tl hq hmt
  rcases h3 with b | ⟨u, b1, b2, b3, b4⟩
  · exact Or.inl ⟨b, by rw [h1]; exact hl, h2⟩
  · exact Or.inr ⟨u, Or.inr ⟨k, b1, b2, by rw [b3]; exact hl, b4⟩⟩

theorem mtOld_none_of_ww (h : Inv12 s) (hww : s.word.ww = true) (u : Tid) : (s.pc u).mtOld = none := by
  cases ho : (s.pc u).mtOld with
  | none => rfl
  | some old => have := h.mtw u old ho; rw [hww] at this; cases this

theorem passedW_evalOpt {late : Bool} {k : Wid} (h : PassedW s late k) : evalOpt s.data (s.wr k).cond = true := by
  rcases h.2 with b | ⟨_, c, b1, b2⟩
  · rw [b]; rfl
  · rw [b1]; exact b2

theorem inv12_ww_step (a : Invs s) (a' : Invs s') (tl : StepTL s s' t) (h : Inv12 s) (hww' : s'.word.ww = true) :
    (∃ u, WJ s' u) ∨ WB s' := by
  rcases tl.wd.p3 hww' with hww | ⟨b, _⟩ | ⟨f, hf, hs⟩
  · rcases h.ww hww with ⟨u, hu⟩ | ⟨k, hq, hl, he⟩
    · exact Or.inl ⟨u, wj_keep a a' tl (fun old => h.mtw t old) hww hww' hu⟩
    · rcases wb_keep a a' tl hq (mtOld_none_of_ww h hww t) hl with ⟨b1, b2, b3⟩ | b
      · exact Or.inr ⟨k, b1, b2, by rw [b3, tl.data]; exact he⟩
      · exact Or.inl b
  · exact Or.inl ⟨t, Or.inl b⟩
  · obtain ⟨k, hk, hp⟩ := a.i10.swf t f hf hs
    rcases wb_keep a a' tl (Or.inl hk) (finOf_mtOld hf) hp.1 with ⟨b1, b2, b3⟩ | b
    · exact Or.inr ⟨k, b1, b2, by rw [b3, tl.data]; exact passedW_evalOpt hp⟩
    · exact Or.inl b

theorem inv12_wws_step (a : Invs s) (a' : Invs s') (tl : StepTL s s' t) (h : Inv12 s) (hww' : s'.word.ww = true)
    (hc' : ClientW s') : (∃ u, WJ s' u) ∨ WB0 s' := by
  obtain ⟨v, hv, hun⟩ := hc'
  obtain ⟨hv0, hun0⟩ := tl.wd.p10 v hv (fun e => by subst e; exact hun) hww'
  have hc : ClientW s := by
    refine ⟨v, hv0, ?_⟩
    by_cases e : v = t
    · subst e; exact hun0 rfl
    · rw [← (tl.oth v e).1]; exact hun
  rcases tl.wd.p3 hww' with hww | ⟨b, _⟩ | ⟨f, hf, hs⟩
  · rcases h.wws hww hc with ⟨u, hu⟩ | ⟨k, hq, hl, he⟩
    · exact Or.inl ⟨u, wj_keep a a' tl (fun old => h.mtw t old) hww hww' hu⟩
    · rcases wb_keep a a' tl hq (mtOld_none_of_ww h hww t) hl with ⟨b1, b2, b3⟩ | b
      · exact Or.inr ⟨k, b1, b2, by rw [b3]; exact he⟩
      · exact Or.inl b
  · exact Or.inl ⟨t, Or.inl b⟩
  · obtain ⟨k, hk, hp⟩ := a.i10.swf t f hf hs
    have hlate : f.late = false := by
      cases e : f.late with
      | false => rfl
      | true =>
        exfalso
        have hne : s.pc t ≠ .idle := by intro e'; rw [e'] at hf; simp [PC.finOf] at hf
        have hsh : shareOf s t = some .W := by rw [a.i1.share_eq hne]; exact share_of_fin_late hf e
        have hown := (a.i1.lock.wown t).2 hsh
        rw [hv0] at hown; cases hown
        have := hun0 rfl
        rw [unl_of_fin hf] at this; cases this
    have hcn : (s.wr k).cond = none := by
      rcases hp.2 with b | ⟨b, _⟩
      · exact b
      · rw [hlate] at b; cases b
    rcases wb_keep a a' tl (Or.inl hk) (finOf_mtOld hf) hp.1 with ⟨b1, b2, b3⟩ | b
    · exact Or.inr ⟨k, b1, b2, by rw [b3]; exact hcn⟩
    · exact Or.inl b

end step

end NsyncVerif.MuC
