/-
  Layer `Once` × vector clocks (property C03, once edge): definitions.

  `toVC` projects the atomic events of the Once acceptor on the once word to events of the generic
  vector-clock machine (`NsyncVerif.VC`), keeping exactly the memory order each event declares
  (the acceptor `Once.step` rejects every order other than the one once.c requests, so these are
  the declared orders).  `PState` is the product of the Once state, the clock state and the
  ghost `ec o` = clock of the winner of `o` at the end of the once-function (its `cb … end`).
  `VInv` is the invariant that carries the happens-before edge.
-/
import NsyncVerif.Proofs.OnceProgress
import NsyncVerif.Proofs.VC

namespace Once
open NsyncVerif

/-- The declared order, in the vocabulary of the clock machine. -/
def ordVC : Ord → VC.Ord
  | .rlx => .rlx
  | .acq => .acq
  | .rel => .rel
  | .ar => .ar

/-- Atomic events on the once word as clock-machine events: a load with its declared order; a
    failed CAS is a relaxed load; a successful CAS is a read-modify-write with its declared order;
    a store is a plain store with its declared order.  Everything else contributes nothing. -/
def toVC : Event → Option (VC.AEv OnceId)
  | .ld t _ ord o _ => some ⟨t, .ld, ordVC ord, o⟩
  | .cas t _ ord o _ _ _ true => some ⟨t, .rmw, ordVC ord, o⟩
  | .cas t _ _ o _ _ _ false => some ⟨t, .ld, .rlx, o⟩
  | .st t _ ord o _ _ => some ⟨t, .st, ordVC ord, o⟩
  | _ => none

/-- The clock state after an event list (only program order and declared orders count). -/
def clocks (evs : List Event) : VC.St OnceId :=
  VC.run VC.St.init (evs.filterMap toVC)

def cstep (c : VC.St OnceId) (e : Event) : VC.St OnceId :=
  match toVC e with
  | some a => VC.step c a
  | none => c

theorem cstep_eq (c : VC.St OnceId) (e : Event) : cstep c e = VC.stepO c (toVC e) := by
  unfold cstep; cases toVC e <;> rfl

theorem clocks_snoc (evs : List Event) (e : Event) : clocks (evs ++ [e]) = cstep (clocks evs) e := by
  simp only [clocks, VC.run_filterMap, List.foldl_append, List.foldl, cstep_eq]

structure PState where
  s : State
  c : VC.St OnceId
  /-- ghost: clock of the winner of `o` at its `cb … end` event -/
  ec : OnceId → VC.Clock

def pinit : PState := ⟨init, VC.St.init, fun _ => VC.Clock.bot⟩

/-- `cb … end` of thread `t` (inside the function of once `f.o`) records `t`'s clock. -/
def endUpd (s : State) (c : VC.St OnceId) (ec : OnceId → VC.Clock) : Event → OnceId → VC.Clock
  | .cbEnd t _ =>
    match s.pc t with
    | .wCbEnd f => upd ec f.o (c.vc t)
    | _ => ec
  | _ => ec

def pstep (cfg : Config) (p : PState) (e : Event) : Except String PState :=
  match step cfg p.s e with
  | .ok s' => .ok ⟨s', cstep p.c e, endUpd p.s p.c p.ec e⟩
  | .error m => .error m

def prun (cfg : Config) (p : PState) : List Event → Except String PState
  | [] => .ok p
  | e :: es =>
    match pstep cfg p e with
    | .ok p' => prun cfg p' es
    | .error m => .error m

theorem isPRun (cfg : Config) : IsRun (pstep cfg) (prun cfg) :=
  ⟨fun _ => rfl, fun p e _ => by rw [prun]; cases pstep cfg p e <;> rfl⟩

/-- An accepted product step is an accepted step of the acceptor, decorated. -/
theorem pstep_ok {cfg : Config} {p p' : PState} {e : Event} (h : pstep cfg p e = .ok p') :
    ∃ s', step cfg p.s e = .ok s' ∧ p' = ⟨s', cstep p.c e, endUpd p.s p.c p.ec e⟩ := by
  unfold pstep at h
  split at h
  · cases h; exact ⟨_, ‹_›, rfl⟩
  · cases h

theorem pstep_s {cfg : Config} (p : PState) (e : Event) (p' : PState) (h : pstep cfg p e = .ok p') :
    step cfg p.s e = .ok p'.s := by
  obtain ⟨_, hs, rfl⟩ := pstep_ok h; exact hs

/-- The product run is the Once run decorated with ghosts: it accepts exactly the same event
    lists, and its clock component is `VC.run` over the projected events. -/
theorem prun_of_run {cfg : Config} {evs : List Event} {p : PState} {s' : State}
    (h : run cfg p.s evs = .ok s') : ∃ p', prun cfg p evs = .ok p' ∧ p'.s = s' :=
  (isRun cfg).lift (isPRun cfg) (π := PState.s) (fun p e s' hs => ⟨_, by unfold pstep; rw [hs], rfl⟩) h

theorem run_of_prun {cfg : Config} {evs : List Event} {p p' : PState}
    (h : prun cfg p evs = .ok p') :
    run cfg p.s evs = .ok p'.s ∧ p'.c = VC.run p.c (evs.filterMap toVC) :=
  ⟨(isRun cfg).proj (isPRun cfg) pstep_s h, by
    rw [VC.run_filterMap]
    exact (isPRun cfg).fold (κ := PState.c) (fun p e p' hs => by
      obtain ⟨_, -, rfl⟩ := pstep_ok hs; exact cstep_eq _ _) h⟩

def PReachable (cfg : Config) (p : PState) : Prop := ∃ evs, prun cfg pinit evs = .ok p

theorem preachable_reachable {cfg : Config} {p : PState} (h : PReachable cfg p) :
    Reachable cfg p.s := by
  obtain ⟨evs, h⟩ := h
  exact ⟨evs, (run_of_prun h).1⟩

/-- Winner of `o` after the end of the once-function, up to and including its store of 2. -/
def PC.AfterCb : PC → OnceId → Prop
  | .wLockCall f, o | .wLockRet f, o | .wBcastCall f, o | .wBcastRet f, o | .wStore f, o => f.o = o
  | _, _ => False

/-- The edge invariant.
    (i)   once the word is 2, the release clock of the word covers the end of the function;
    (ii)  a thread at a pc reachable only through an acquire load that observed 2
          (`fUnlockCall`, `fUnlockRet`, `readyRet`) has a clock that covers it;
    (iii) so does the winner from the end of the function to its release store. -/
structure VInv (p : PState) : Prop where
  relc : ∀ o, p.s.word o = 2 → VC.Clock.le (p.ec o) (p.c.relc o)
  leaving : ∀ t o, (p.s.pc t).Leaving o → VC.Clock.le (p.ec o) (p.c.vc t)
  afterCb : ∀ t o, (p.s.pc t).AfterCb o → VC.Clock.le (p.ec o) (p.c.vc t)

theorem vinv_init : VInv pinit := by
  constructor <;> simp [pinit, init, PC.Leaving, PC.AfterCb]

/-! ### the clock step, event by event (only the orders the acceptor lets through) -/

theorem cstep_ld_acq (c : VC.St OnceId) (t : Tid) (fn : Fn) (o : OnceId) (obs : Nat) :
    cstep c (.ld t fn .acq o obs) =
      { c with vc := VC.upd c.vc t (VC.Clock.join (c.vc t) (c.relc o)) } := by
  simp [cstep, toVC, VC.step, ordVC, VC.Ord.isAcq]

theorem cstep_ld_rlx (c : VC.St OnceId) (t : Tid) (fn : Fn) (o : OnceId) (obs : Nat) :
    cstep c (.ld t fn .rlx o obs) = c := by
  simp [cstep, toVC, VC.step, ordVC, VC.Ord.isAcq]

theorem cstep_cas_fail (c : VC.St OnceId) (t : Tid) (fn : Fn) (ord : Ord) (o : OnceId)
    (exp new obs : Nat) : cstep c (.cas t fn ord o exp new obs false) = c := by
  simp [cstep, toVC, VC.step, VC.Ord.isAcq]

theorem cstep_cas_acq_ok (c : VC.St OnceId) (t : Tid) (fn : Fn) (o : OnceId) (exp new obs : Nat) :
    cstep c (.cas t fn .acq o exp new obs true) =
      { vc := VC.upd c.vc t ((VC.Clock.join (c.vc t) (c.relc o)).tick t),
        relc := VC.upd c.relc o (c.relc o) } := by
  simp [cstep, toVC, VC.step, ordVC, VC.Ord.isAcq, VC.Ord.isRel]

theorem cstep_st_rel (c : VC.St OnceId) (t : Tid) (fn : Fn) (o : OnceId) (new obs : Nat) :
    cstep c (.st t fn .rel o new obs) =
      { vc := VC.upd c.vc t ((c.vc t).tick t), relc := VC.upd c.relc o (c.vc t) } := by
  simp [cstep, toVC, VC.step, ordVC, VC.Ord.isRel]

theorem le_join_of_le_left {a b c : VC.Clock} (h : VC.Clock.le a b) :
    VC.Clock.le a (VC.Clock.join b c) := VC.Clock.le_join_of_le_left h

theorem le_tick_of_le {a b : VC.Clock} (t : Tid) (h : VC.Clock.le a b) :
    VC.Clock.le a (b.tick t) := VC.Clock.le_tick_of_le t h

end Once
