import NsyncVerif.Proofs.MuCScan
/-
  MuC: what a step does, by kind, as far as it is read off one step function: a load moves the loading thread from
  one program point to the next (`LdPc`) and, in two places, also touches a waiter record or the queue
  (`stepLd_effect`); the successor states of a store (`StEff`, `stepSt_effect`); `PcMove`: every step that changes
  nothing but the program point of its thread.  Proofs/MuCEff.lean has all kinds together (`Eff`).
-/
namespace NsyncVerif.MuC

/-- `LdPc s p p'`: in state `s` a load takes a thread from program point `p` to `p'` and changes nothing
    else.  `k` is the thread's own waiter record where the load reads `waiting`. -/
inductive LdPc (s : State) : PC → PC → Prop
  | lkSlow (l : Mode) : blocked l false s.word = true → LdPc s (.lkLd l) (.lsLd (SL.entry l))
  | lkFast (l : Mode) : blocked l false s.word = false → LdPc s (.lkLd l) (.lkCas1 l s.word)
  | tryFail (l : Mode) : blocked l false s.word = true → LdPc s (.tryLd l) (.tryRet l false)
  | tryCas (l : Mode) : blocked l false s.word = false → LdPc s (.tryLd l) (.tryCas1 l s.word)
  | lsAcq (c : SL) : blocked c.l c.ign s.word = false → LdPc s (.lsLd c) (.lsCasAcq c s.word)
  | lsEnq (c : SL) : blocked c.l c.ign s.word = true → s.word.spin = false → LdPc s (.lsLd c) (.lsCasEnq c s.word)
  | lsSpin (c : SL) : blocked c.l c.ign s.word = true → s.word.spin = true → LdPc s (.lsLd c) (.lsLd c)
  | lsRel (c : SL) : LdPc s (.lsRelLd c) (.lsRelCas c s.word)
  | lsSleep (c : SL) (k : Wid) : c.w = some k → (s.wr k).waiting = true → LdPc s (.lsWaitLd c) (.lsPEnter c)
  | lsWoken (c : SL) (k : Wid) : c.w = some k → (s.wr k).waiting = false → LdPc s (.lsWaitLd c) (.lsLd c.woken)
  | ulWSlow (nw : Bool) : (s.word.wlock && s.word.readers == 0) = true →
      (s.word.waiting && !s.word.desig && !(nw && s.word.af)) = true → LdPc s (.ulLd .W nw) (.usLd (.ul .W nw))
  | ulWFast (nw : Bool) : (s.word.wlock && s.word.readers == 0) = true →
      (s.word.waiting && !s.word.desig && !(nw && s.word.af)) = false → LdPc s (.ulLd .W nw) (.ulCas1 .W nw s.word)
  | ulRSlow (nw : Bool) : (s.word.wlock || s.word.readers == 0) = false →
      (s.word.waiting && !s.word.desig && s.word.readers == 1 && !s.word.af) = true → LdPc s (.ulLd .R nw) (.usLd (.ul .R nw))
  | ulRFast (nw : Bool) : (s.word.wlock || s.word.readers == 0) = false →
      (s.word.waiting && !s.word.desig && s.word.readers == 1 && !s.word.af) = false → LdPc s (.ulLd .R nw) (.ulCas1 .R nw s.word)
  | usUnc (r : Ret) : hasShare r.mode s.word = true → uncontended s.word = true → LdPc s (.usLd r) (.usCasUnc r s.word)
  | usGrab (r : Ret) : hasShare r.mode s.word = true → uncontended s.word = false → s.word.spin = false →
      LdPc s (.usLd r) (.usCasGrab r s.word)
  | usSpin (r : Ret) : hasShare r.mode s.word = true → uncontended s.word = false → s.word.spin = true →
      LdPc s (.usLd r) (.usLd r)
  | usRel (r : Ret) (sc : Scan) : LdPc s (.usRelLd r sc) (.usRelCas r sc s.word)
  | usReSpin (r : Ret) (sc : Scan) : s.word.spin = true → LdPc s (.usReLd r sc) (.usReLd r sc)
  | usRe (r : Ret) (sc : Scan) : s.word.spin = false → LdPc s (.usReLd r sc) (.usReCas r sc s.word)
  | usRc (r : Ret) (sc : Scan) (k : Wid) (obs : Nat) : LdPc s (.usRcLd r sc k) (.usRcCas r sc k obs)
  | usFin (r : Ret) (f : Fin) : LdPc s (.usFinLd r f) (.usFinCas r f s.word)
  | mwModeEval (c : MW) (l : Mode) : (!s.word.wlock && s.word.readers == 0) = false →
      l = (if s.word.readers != 0 then .R else .W) → c.cond.isSome = true → LdPc s (.mwLd0 c) (.mwEval { c with l := l })
  | mwModeRet (c : MW) (l : Mode) : (!s.word.wlock && s.word.readers == 0) = false →
      l = (if s.word.readers != 0 then .R else .W) → c.cond.isSome = false → LdPc s (.mwLd0 c) (.mwRet { c with l := l } true)
  | mwEnqSpin (c : MW) : s.word.spin = true → LdPc s (.mwEnqLd c) (.mwEnqLd c)
  | mwEnq (c : MW) : s.word.spin = false → LdPc s (.mwEnqLd c) (.mwEnqCas c s.word)
  | mwRel (c : MW) : hasShare c.l s.word = true →
      LdPc s (.mwRelLd c) (.mwRelCas c s.word
        (!(subWord c.l s.word).wlock && (subWord c.l s.word).readers == 0 && c.hadW && !s.word.desig))
  | mwSleep (c : MW) (k : Wid) : c.w = some k → (s.wr k).waiting = true → c.so = .ok → LdPc s (.mwWaitLd c) (.mwSem c)
  | mwExpired (c : MW) (k : Wid) : c.w = some k → (s.wr k).waiting = true → c.so ≠ .ok → LdPc s (.mwWaitLd c) (.mwLd255 c)
  | mwHaveEval (c : MW) (k : Wid) : c.w = some k → (s.wr k).waiting = false → c.hl = true → c.cond.isSome = true →
      LdPc s (.mwWaitLd c) (.mwEval c)
  | mwHaveRet (c : MW) (k : Wid) : c.w = some k → (s.wr k).waiting = false → c.hl = true → c.cond.isSome = false →
      LdPc s (.mwWaitLd c) (.mwRet c true)
  | mwWoken (c : MW) (k : Wid) : c.w = some k → (s.wr k).waiting = false → c.hl = false →
      LdPc s (.mwWaitLd c) (.lsLd (SL.fromWait c))
  | mwCancel (c : MW) (k : Wid) : c.w = some k → (c.note && c.saw) = true → (s.wr k).waiting = true →
      LdPc s (.mwSem c) (.mtLd { c with so := .cancelled, wk := false })
  | mwCancelLate (c : MW) (k : Wid) : c.w = some k → (c.note && c.saw) = true → (s.wr k).waiting = false →
      LdPc s (.mwSem c) (.mwLd255 { c with so := .cancelled })
  | mw244 (c : MW) (k : Wid) : c.w = some k → (s.wr k).waiting = true → LdPc s (.mwLd244 c) (.mtLd { c with wk := false })
  | mw244Late (c : MW) (k : Wid) : c.w = some k → (s.wr k).waiting = false → LdPc s (.mwLd244 c) (.mwLd255 c)
  | mw255 (c : MW) (k : Wid) : c.w = some k → LdPc s (.mwLd255 c) (.mwWaitLd c)
  | mtFree (c : MW) : (s.word.wlock || s.word.readers != 0 || (!c.wk && s.word.lw) || s.word.spin) = false →
      LdPc s (.mtLd c) (.mtCasAcq c s.word)
  | mtBusy (c : MW) : (s.word.wlock || s.word.readers != 0 || (!c.wk && s.word.lw) || s.word.spin) = true →
      LdPc s (.mtLd c) (.mtLdWk c s.word)
  | mtWW (c : MW) (old : Word) (k : Wid) : c.w = some k → (old.ww || old.spin) = false →
      LdPc s (.mtLdWk c old) (.mtCasWW { c with wk := c.wk || !(s.wr k).waiting } old)
  | mtAgain (c : MW) (old : Word) (k : Wid) : c.w = some k → (old.ww || old.spin) = true →
      LdPc s (.mtLdWk c old) (.mtLd { c with wk := c.wk || !(s.wr k).waiting })
  | mtStill (c : MW) (old : Word) (k : Wid) : c.w = some k → (s.wr k).waiting = true → LdPc s (.mtLdW c old) (.mtLdRc c old)
  | mtGone (c : MW) (old : Word) (k : Wid) : c.w = some k → (s.wr k).waiting = false →
      LdPc s (.mtLdW c old) (.mtStRel c old false)
  | mtRcMoved (c : MW) (old : Word) (k : Wid) : c.w = some k → (s.wr k).rc ≠ c.rcl → LdPc s (.mtLdRc c old) (.mtStRel c old false)
  | mtRm (c : MW) (old : Word) (k : Wid) (obs : Nat) : c.w = some k → LdPc s (.mtRmLd c old) (.mtRmCas c old obs)

/-- `PcMove s p p'`: a step that takes a thread from `p` to `p'` and changes nothing else: a load, a CAS
    that fails (the word is not the one expected), the entry into a P, a timed P that times out, a step on the cancel note, the call of a lock or
    trylock function. -/
inductive PcMove (s : State) : PC → PC → Prop
  | casLk0 (l : Mode) : s.word ≠ Word.zero → PcMove s (.lkCas0 l) (.lkLd l)
  | casLk1 (l : Mode) (old : Word) : s.word ≠ old → PcMove s (.lkCas1 l old) (.lsLd (SL.entry l))
  | casTry0 (l : Mode) : s.word ≠ Word.zero → PcMove s (.tryCas0 l) (.tryLd l)
  | casTry1 (l : Mode) (old : Word) : s.word ≠ old → PcMove s (.tryCas1 l old) (.tryRet l false)
  | casLsAcq (c : SL) (old : Word) : s.word ≠ old → PcMove s (.lsCasAcq c old) (.lsLd c)
  | casLsEnq (c : SL) (old : Word) : s.word ≠ old → PcMove s (.lsCasEnq c old) (.lsLd c)
  | casLsRel (c : SL) (old : Word) : s.word ≠ old → PcMove s (.lsRelCas c old) (.lsRelLd c)
  | casUl0 (l : Mode) (nw : Bool) : s.word ≠ addWord l → PcMove s (.ulCas0 l nw) (.ulLd l nw)
  | casUl1 (l : Mode) (nw : Bool) (old : Word) : s.word ≠ old → PcMove s (.ulCas1 l nw old) (.usLd (.ul l nw))
  | casUnc (r : Ret) (old : Word) : s.word ≠ old → PcMove s (.usCasUnc r old) (.usLd r)
  | casGrab (r : Ret) (old : Word) : s.word ≠ old → PcMove s (.usCasGrab r old) (.usLd r)
  | casUsRel (r : Ret) (sc : Scan) (old : Word) : s.word ≠ old → PcMove s (.usRelCas r sc old) (.usRelLd r sc)
  | casUsRe (r : Ret) (sc : Scan) (old : Word) : s.word ≠ old → PcMove s (.usReCas r sc old) (.usReLd r sc)
  | casUsRc (r : Ret) (sc : Scan) (k : Wid) (old : Nat) : PcMove s (.usRcCas r sc k old) (.usRcLd r sc k)
  | casFin (r : Ret) (f : Fin) (old : Word) : s.word ≠ old → PcMove s (.usFinCas r f old) (.usFinLd r f)
  | casMwEnq (c : MW) (old : Word) : s.word ≠ old → PcMove s (.mwEnqCas c old) (.mwEnqLd c)
  | casMwRel (c : MW) (old : Word) (add0 : Bool) : s.word ≠ old → PcMove s (.mwRelCas c old add0) (.mwRelLd c)
  | casMtAcq (c : MW) (old : Word) : s.word ≠ old → PcMove s (.mtCasAcq c old) (.mtLdWk c old)
  | casMtWW (c : MW) (old : Word) : s.word ≠ old → PcMove s (.mtCasWW c old) (.mtLd c)
  | casMtRm (c : MW) (old : Word) (rc : Nat) : PcMove s (.mtRmCas c old rc) (.mtRmLd c old)
  | semEnter (c : SL) : PcMove s (.lsPEnter c) (.lsPRet c)
  | semPdEnter (c : MW) (dl : Option Int) : (c.note = false → dl = c.dl) → dlLe dl c.dl = true →
      PcMove s (.mwSem c) (.mwPdRet c dl)
  | semTimedOut (c : MW) (dl : Option Int) (d : Int) : dl = some d → d ≤ s.now → dl = c.dl →
      PcMove s (.mwPdRet c dl) (.mwLd244 { c with so := .timedout })
  | semNoteDl (c : MW) (dl : Option Int) : PcMove s (.mwPdRet c dl) (.mwNotify c)
  | noteSeen (c : MW) : PcMove s (.mwSem c) (.mwSem { c with saw := true })
  | noteNotify (c : MW) : PcMove s (.mwNotify c) (.mwLd244 { c with so := .cancelled, saw := true })
  | noteNotify244 (c : MW) : PcMove s (.mwLd244 c) (.mwLd244 { c with so := .cancelled, saw := true })
  | callLock (l : Mode) : PcMove s .idle (.lkCas0 l)
  | callTry (l : Mode) : PcMove s .idle (.tryCas0 l)
  | ld {p p' : PC} : LdPc s p p' → PcMove s p p'

/-- The three shapes of a load step: only the program point moves; mu_wait.c:211 also copies
    remove_count into the record; mu_wait.c:112 takes the thread's record off mu->waiters. -/
theorem stepLd_effect {s s' : State} {t : Tid} {o : Ord} {loc : Loc} {obs : Nat} (hs : stepLd s t o loc obs = .ok s') :
    (∃ p', LdPc s (s.pc t) p' ∧ s' = setPc s t p') ∨
    (∃ c k, s.pc t = .mwRcLd c ∧ c.w = some k ∧
      s' = { setPc s t (.mwEnqLd { c with rcl := obs }) with wr := setFn s.wr k { s.wr k with rc := obs } }) ∨
    (∃ c old k, s.pc t = .mtLdRc c old ∧ c.w = some k ∧ k ∈ s.queue ∧ (s.wr k).rc = c.rcl ∧
      s' = setPc (dequeue s k) t (.mtRmLd c old)) := by
  unfold stepLd at hs
  split at hs
  case h_13 c heq =>
    dsimp only at hs
    generalize hl : (if (s.word.readers != 0) = true then Mode.R else Mode.W) = l at hs
    rw [heq]
    simp only [mwLoop_eq, loopPc_true] at hs
    have hg := (guard_ok hs).1
    replace hs := ldWord_ok (guard_ok hs).2
    split at hs
    all_goals
      (cases hs; exact Or.inl ⟨_, by constructor <;> first | assumption | exact hl.symm | (simp_all; done), rfl⟩)
  all_goals (try (rename_i heq; rw [heq]))
  all_goals (try dsimp only at hs)
  all_goals (try simp only [mwLoop_eq, loopPc_true] at hs)
  -- the record of the thread, the panic checks and the checks of the event's order and location; then the branches
  all_goals (try split at hs)
  all_goals (repeat (have hg := (guard_ok hs).1; replace hs := (guard_ok hs).2))
  all_goals (try replace hs := ldWord_ok hs)
  all_goals (try replace hs := (ldWaiting_ok hs).1)
  all_goals (repeat' split at hs)
  all_goals first
    | (cases hs; done)
    | (cases hs
       first
       | exact Or.inl ⟨_, by
           constructor <;> first
             | assumption
             | (simp only [Bool.not_eq_true', Bool.not_eq_true] at *; assumption)
             | (simp_all; done)
             | grind, rfl⟩
       | exact Or.inr (Or.inl ⟨_, _, rfl, ‹_›, rfl⟩)
       | exact Or.inr (Or.inr ⟨_, _, _, rfl, ‹_›, ‹_›, by simp_all, rfl⟩))

/-- The successor states of a store by thread `t`: queue insertion by lock_slow with a fresh or the thread's
    own waiter record (mu.c:83-91), the wake-up store of unlock_slow (mu.c:447), the reset of the record in
    nsync_mu_wait (mu_wait.c:201-210), and the two stores of mu_try_acquire_after_timeout_or_cancel
    (mu_wait.c:113, 120/125). -/
inductive StEff (s : State) (t : Tid) : State → Prop
  | lsNewLast (c : SL) (k : Wid) : s.pc t = .lsSt c → k ∉ s.queue → c.w = none → (s.wr k).owner = none →
      (s.wr k).waiting = false → c.wc = 0 →
      StEff s t (setPc
        (enqLast { s with wr := setFn s.wr k { s.wr k with owner := some t, waiting := true, lType := c.l, cond := none, lnk := false } } k)
        t (.lsRelLd { c with w := some k }))
  | lsNewFirst (c : SL) (k : Wid) : s.pc t = .lsSt c → k ∉ s.queue → c.w = none → (s.wr k).owner = none →
      (s.wr k).waiting = false → c.wc ≠ 0 →
      StEff s t (setPc
        (enqFirst { s with wr := setFn s.wr k { s.wr k with owner := some t, waiting := true, lType := c.l, cond := none, lnk := false } } k)
        t (.lsRelLd { c with w := some k }))
  | lsOwnLast (c : SL) (k : Wid) : s.pc t = .lsSt c → k ∉ s.queue → c.w = some k → (s.wr k).waiting = false → c.wc = 0 →
      StEff s t (setPc
        (enqLast { s with wr := setFn s.wr k { s.wr k with waiting := true, lType := c.l, cond := none, lnk := false } } k)
        t (.lsRelLd c))
  | lsOwnFirst (c : SL) (k : Wid) : s.pc t = .lsSt c → k ∉ s.queue → c.w = some k → (s.wr k).waiting = false → c.wc ≠ 0 →
      StEff s t (setPc
        (enqFirst { s with wr := setFn s.wr k { s.wr k with waiting := true, lType := c.l, cond := none, lnk := false } } k)
        t (.lsRelLd c))
  | wake (r : Ret) (k : Wid) (rest : List Wid) : s.pc t = .usWakeSt r k rest →
      StEff s t { setPc s t (.usWakeV r k rest) with wr := setFn s.wr k { s.wr k with waiting := false } }
  | mwNew (c : MW) (k : Wid) : s.pc t = .mwStW c → k ∉ s.queue → c.w = none → (s.wr k).owner = none → (s.wr k).waiting = false →
      StEff s t { setPc s t (.mwRcLd { c with w := some k }) with
        wr := setFn s.wr k { s.wr k with owner := some t, waiting := true, lType := c.l, cond := c.cond, lnk := false } }
  | mwOwn (c : MW) (k : Wid) : s.pc t = .mwStW c → k ∉ s.queue → c.w = some k → (s.wr k).waiting = false →
      StEff s t { setPc s t (.mwRcLd c) with
        wr := setFn s.wr k { s.wr k with waiting := true, lType := c.l, cond := c.cond, lnk := false } }
  | mtGone (c : MW) (old : Word) (k : Wid) : s.pc t = .mtStW c old → c.w = some k →
      StEff s t { setPc s t (.mtStRel c old true) with wr := setFn s.wr k { s.wr k with waiting := false } }
  | mtKeep (c : MW) (old : Word) : s.pc t = .mtStRel c old true →
      StEff s t (setPc (addShare { s with word := mtRelWord (some c.l) old, sp := none, wOwner := none } t c.l) t
        (.mwLd255 { c with hl := true, outc := c.so }))
  | mtGive (c : MW) (old : Word) : s.pc t = .mtStRel c old false →
      StEff s t (setPc { s with word := mtRelWord none old, sp := none, wOwner := none } t (.mwLd255 c))

theorem stepSt_effect {s s' : State} {t : Tid} {o : Ord} {loc : Loc} {new obs : Nat}
    (hs : stepSt s t o loc new obs = .ok s') : StEff s t s' := by
  unfold stepSt at hs
  split at hs
  case h_1 c heq =>
    dsimp only at hs
    split at hs
    · rename_i k
      obtain ⟨-, g1⟩ := guard_ok hs
      obtain ⟨-, g2⟩ := guard_ok g1
      obtain ⟨-, g3⟩ := guard_ok g2
      obtain ⟨hq, g4⟩ := guard_ok g3
      clear hs g1 g2 g3
      split at g4
      · rename_i hcw
        obtain ⟨ho, g5⟩ := guard_ok g4
        obtain ⟨hwt, g6⟩ := guard_ok g5
        clear g4 g5
        cases g6
        split
        · exact .lsNewLast _ _ heq hq hcw (Decidable.of_not_not ho) (by simpa using hwt) ‹_›
        · exact .lsNewFirst _ _ heq hq hcw (Decidable.of_not_not ho) (by simpa using hwt) ‹_›
      · rename_i k' hcw
        obtain ⟨hk, g5⟩ := guard_ok g4
        obtain ⟨hwt, g6⟩ := guard_ok g5
        clear g4 g5
        obtain rfl : k = k' := Decidable.of_not_not hk
        cases g6
        split
        · exact .lsOwnLast _ _ heq hq hcw (by simpa using hwt) ‹_›
        · exact .lsOwnFirst _ _ heq hq hcw (by simpa using hwt) ‹_›
    · cases hs
  case h_2 r k rest heq =>
    obtain ⟨-, g1⟩ := guard_ok hs
    obtain ⟨-, g2⟩ := guard_ok g1
    obtain ⟨-, g3⟩ := guard_ok g2
    obtain ⟨-, g4⟩ := guard_ok g3
    cases g4; exact .wake _ _ _ heq
  case h_3 c heq =>
    dsimp only at hs
    split at hs
    · rename_i k
      obtain ⟨-, g1⟩ := guard_ok hs
      obtain ⟨-, g2⟩ := guard_ok g1
      obtain ⟨-, g3⟩ := guard_ok g2
      obtain ⟨hq, g4⟩ := guard_ok g3
      clear hs g1 g2 g3
      split at g4
      · rename_i hcw
        obtain ⟨ho, g5⟩ := guard_ok g4
        obtain ⟨hwt, g6⟩ := guard_ok g5
        cases g6
        exact .mwNew _ _ heq hq hcw (Decidable.of_not_not ho) (by simpa using hwt)
      · rename_i k' hcw
        obtain ⟨hk, g5⟩ := guard_ok g4
        obtain ⟨hwt, g6⟩ := guard_ok g5
        obtain rfl : k = k' := Decidable.of_not_not hk
        cases g6
        exact .mwOwn _ _ heq hq hcw (by simpa using hwt)
    · cases hs
  case h_4 c old heq =>
    split at hs
    · cases hs
    · rename_i k hcw
      obtain ⟨-, g1⟩ := guard_ok hs
      obtain ⟨-, g2⟩ := guard_ok g1
      obtain ⟨-, g3⟩ := guard_ok g2
      obtain ⟨-, g4⟩ := guard_ok g3
      cases g4; exact .mtGone _ _ _ heq hcw
  case h_5 c old ok heq =>
    dsimp only at hs
    obtain ⟨-, g1⟩ := guard_ok hs
    obtain ⟨-, g2⟩ := guard_ok g1
    obtain ⟨-, g3⟩ := guard_ok g2
    obtain ⟨-, g4⟩ := guard_ok g3
    clear hs g1 g2 g3
    cases ok
    · cases g4; exact .mtGive _ _ heq
    · cases g4; exact .mtKeep _ _ heq
  case h_6 => cases hs

/-! The events that only move the program point of their thread. -/

theorem step_semPEnter {cfg : Cfg} {s s' : State} {t : Tid} {k : Wid} (hs : step cfg s (.semPEnter t k) = .ok s') :
    ∃ p', PcMove s (s.pc t) p' ∧ s' = setPc s t p' := by
  simp only [step] at hs
  split at hs
  · rename_i c heq
    split at hs
    · cases hs; exact ⟨_, heq ▸ .semEnter c, rfl⟩
    · cases hs
  · cases hs

theorem step_semPdEnter {cfg : Cfg} {s s' : State} {t : Tid} {k : Wid} {dl : Option Int}
    (hs : step cfg s (.semPdEnter t k dl) = .ok s') : ∃ p', PcMove s (s.pc t) p' ∧ s' = setPc s t p' := by
  simp only [step] at hs
  split at hs
  · rename_i c heq
    split at hs; · cases hs
    split at hs; · cases hs
    rename_i hn
    split at hs; · cases hs
    rename_i hd
    cases hs
    exact ⟨_, heq ▸ .semPdEnter c dl (fun h => Decidable.of_not_not fun h' => hn ⟨h, h'⟩) (by simpa using hd), rfl⟩
  · cases hs

theorem step_noteSeen {cfg : Cfg} {s s' : State} {t : Tid} (hs : step cfg s (.noteSeen t) = .ok s') :
    ∃ p', PcMove s (s.pc t) p' ∧ s' = setPc s t p' := by
  simp only [step] at hs
  split at hs
  · rename_i c heq
    split at hs
    · cases hs; exact ⟨_, heq ▸ .noteSeen c, rfl⟩
    · cases hs
  · cases hs

theorem step_noteNotify {cfg : Cfg} {s s' : State} {t : Tid} (hs : step cfg s (.noteNotify t) = .ok s') :
    ∃ p', PcMove s (s.pc t) p' ∧ s' = setPc s t p' := by
  simp only [step] at hs
  split at hs
  · rename_i c heq
    cases hs; exact ⟨_, heq ▸ .noteNotify c, rfl⟩
  · rename_i c heq
    split at hs
    · cases hs; exact ⟨_, heq ▸ .noteNotify244 c, rfl⟩
    · cases hs
  · cases hs

end NsyncVerif.MuC
