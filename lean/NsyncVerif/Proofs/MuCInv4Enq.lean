import NsyncVerif.Proofs.MuCInv4
/-
  MuC (I_queue): a thread that holds the spinlock puts its own record `k` on mu->waiters.
-/
namespace NsyncVerif.MuC

theorem limbo_mem_ws {p : PC} {k : Wid} (h : p.limbo = some k) : k ∈ p.ws := by
  cases p <;> simp [PC.limbo] at h <;> simp [PC.ws, h]

/-- Nobody but the owner of the spinlock is at the final CAS of unlock_slow. -/
theorem Inv3.no_fin {s : State} (h3 : Inv3 s) {t : Tid} (ht : (s.pc t).spin = true) (u : Tid) (hu : u ≠ t) :
    (s.pc u).finOf = none := by
  cases hf : (s.pc u).finOf with
  | none => rfl
  | some f => exact absurd (h3.fin_owner ht hf) hu

theorem Inv3.no_fin_of_free {s : State} (h3 : Inv3 s) (hw : s.word.spin = false) (u : Tid) : (s.pc u).finOf = none := by
  cases hf : (s.pc u).finOf with
  | none => rfl
  | some f =>
    have h1 := (h3.own u).2 (fin_spin hf)
    have h2 := h3.bit; rw [hw, h1] at h2; cases h2

/-- `t` moves to `p'` and puts record `k`, which is its own and on no list, at one end of mu->waiters; nobody else is
    at the final CAS of unlock_slow. -/
theorem Inv4.enq_step {s s1 s' : State} {t : Tid} {k : Wid} {p' : PC} (h : Inv4 s) (hs' : s' = setPc s1 t p')
    (hq : s1.queue = s.queue ++ [k] ∨ s1.queue = k :: s.queue) (hpc : s1.pc = s.pc)
    (hwrk : (s1.wr k).waiting = true ∧ (s1.wr k).owner = some t)
    (hwro : ∀ x, x ≠ k → (s1.wr x).owner = (s.wr x).owner ∧ (s1.wr x).waiting = (s.wr x).waiting)
    (hnq : ¬ Queued s k) (hnw : ∀ u, k ∉ (s.pc u).wakeL) (hown : ∀ u, u ≠ t → k ∉ (s.pc u).ws)
    (hnofin : ∀ u, u ≠ t → (s.pc u).finOf = none)
    (hws : ∀ x, x ∈ p'.ws → x = k ∨ x ∈ (s.pc t).ws)
    (hunl : p'.unl = false) (hunl0 : (s.pc t).unl = false)
    (hwk : p'.wakeL = []) (hwk0 : (s.pc t).wakeL = [])
    (hlb : p'.limbo = none) (hfin : p'.finOf = none) : Inv4 s' := by
  have hpt : s'.pc t = p' := by rw [hs']; exact setFn_same _ _ _
  have hpc : ∀ u, u ≠ t → s'.pc u = s.pc u := hs' ▸ setPc_others hpc t p'
  have hq : s'.queue = s.queue ++ [k] ∨ s'.queue = k :: s.queue := by rw [hs']; exact hq
  have hwrk : (s'.wr k).waiting = true ∧ (s'.wr k).owner = some t := by rw [hs']; exact hwrk
  have hwro : ∀ x, x ≠ k → (s'.wr x).owner = (s.wr x).owner ∧ (s'.wr x).waiting = (s.wr x).waiting := by rw [hs']; exact hwro
  rw [← hpt] at hws hunl hwk hlb hfin
  have hsc : ∀ u, (s'.pc u).scan? = (s.pc u).scan? :=
    eq_of_others hpc ((scan_none_of_not_unl hunl).trans (scan_none_of_not_unl hunl0).symm)
  have hwkL : ∀ u, (s'.pc u).wakeL = (s.pc u).wakeL := eq_of_others hpc (hwk.trans hwk0.symm)
  have hmemq : ∀ x, x ∈ s'.queue ↔ x = k ∨ x ∈ s.queue := by
    intro x; rcases hq with hq | hq <;> rw [hq] <;> simp [or_comm]
  have hQ : ∀ x, Queued s' x ↔ x = k ∨ Queued s x := by
    intro x
    simp only [Queued, hmemq, hsc]
    constructor
    · rintro ((h1 | h1) | h1)
      · exact Or.inl h1
      · exact Or.inr (Or.inl h1)
      · exact Or.inr (Or.inr h1)
    · rintro (h1 | h1 | h1)
      · exact Or.inl (Or.inl h1)
      · exact Or.inl (Or.inr h1)
      · exact Or.inr h1
  have hkq : k ∉ s.queue := fun e => hnq (Or.inl e)
  have hkp : ∀ u, k ∉ (s.pc u).priv := fun u e => by
    obtain ⟨sc, h1, h2⟩ := mem_priv_iff.1 e
    exact hnq (Or.inr ⟨u, sc, h1, h2⟩)
  refine ⟨?_, ?_, ?_, ?_, ?_, ?_, ?_, fun u v x hu hv => by rw [hwkL] at hu hv; exact h.wkd u v x hu hv⟩
  · intro u x hx
    by_cases hu : u = t
    · subst hu
      rcases hws x hx with rfl | hx'
      · exact hwrk.2
      · by_cases hxk : x = k
        · subst hxk; exact hwrk.2
        · rw [(hwro x hxk).1]; exact h.own u x hx'
    · rw [hpc u hu] at hx
      have hxk : x ≠ k := fun e => hown u hu (e ▸ hx)
      rw [(hwro x hxk).1]; exact h.own u x hx
  · intro u v hu hv
    have e : ∀ w, (s'.pc w).unl = (s.pc w).unl := eq_of_others hpc (hunl.trans hunl0.symm)
    rw [e] at hu hv; exact h.uniq u v hu hv
  · intro u
    have hnd := h.nd u
    simp only [allOf, PC.priv, hsc, hwkL] at hnd ⊢
    have hk' : k ∉ s.queue ++ (match (s.pc u).scan? with | some sc => sc.lists | none => []) ++ (s.pc u).wakeL := by
      simp only [List.mem_append, not_or]
      exact ⟨⟨hkq, hkp u⟩, hnw u⟩
    rcases hq with hq | hq <;> rw [hq]
    · simp only [List.append_assoc] at hnd hk' ⊢
      rw [← List.append_assoc [k]]
      have : (s.queue ++ ([k] ++ ((match (s.pc u).scan? with | some sc => sc.lists | none => []) ++ (s.pc u).wakeL))).Perm
          (k :: (s.queue ++ ((match (s.pc u).scan? with | some sc => sc.lists | none => []) ++ (s.pc u).wakeL))) := by
        simp
      simp only [List.append_assoc] at this ⊢
      exact (List.Perm.nodup_iff this).2 (List.nodup_cons.2 ⟨hk', hnd⟩)
    · simp only [List.cons_append, List.append_assoc] at hnd hk' ⊢
      exact List.nodup_cons.2 ⟨hk', hnd⟩
  · intro x hx
    rcases (hQ x).1 hx with rfl | hx'
    · exact hwrk.1
    · have hxk : x ≠ k := fun e => hnq (e ▸ hx')
      rw [(hwro x hxk).2]; exact h.wait x hx'
  · intro u x hx
    rw [hwkL] at hx
    have hxk : x ≠ k := fun e => hnw u (e ▸ hx)
    obtain ⟨a, b⟩ := h.wk u x hx
    refine ⟨by rw [(hwro x hxk).2]; exact a, fun hqx => ?_⟩
    rcases (hQ x).1 hqx with e | e
    · exact hxk e
    · exact b e
  · intro u x hx
    by_cases hu : u = t
    · subst hu; rw [hlb] at hx; cases hx
    · rw [hpc u hu] at hx
      have hxk : x ≠ k := fun e => hown u hu (e ▸ limbo_mem_ws hx)
      obtain ⟨a, b, c⟩ := h.limbo u x hx
      refine ⟨by rw [(hwro x hxk).2]; exact a, fun hqx => ?_, fun v => by rw [hwkL]; exact c v⟩
      rcases (hQ x).1 hqx with e | e
      · exact hxk e
      · exact b e
  · intro u f hf
    by_cases hu : u = t
    · subst hu; rw [hfin] at hf; cases hf
    · rw [hpc u hu, hnofin u hu] at hf; cases hf

/-- `Inv4.enq_step` for the owner of the spinlock, with the successor state a variable. -/
theorem Inv4.enqueue {s s' : State} (t : Tid) (k : Wid) (h3 : Inv3 s) (h : Inv4 s) (hspin : (s.pc t).spin = true)
    (hq : s'.queue = s.queue ++ [k] ∨ s'.queue = k :: s.queue)
    (hwrk : (s'.wr k).waiting = true ∧ (s'.wr k).owner = some t)
    (hwro : ∀ x, x ≠ k → (s'.wr x).owner = (s.wr x).owner ∧ (s'.wr x).waiting = (s.wr x).waiting)
    (hnq : ¬ Queued s k) (hnw : ∀ u, k ∉ (s.pc u).wakeL) (hown : ∀ u, u ≠ t → k ∉ (s.pc u).ws)
    (hpc : ∀ u, u ≠ t → s'.pc u = s.pc u)
    (hws : ∀ x, x ∈ (s'.pc t).ws → x = k ∨ x ∈ (s.pc t).ws)
    (hunl : (s'.pc t).unl = false) (hunl0 : (s.pc t).unl = false)
    (hwk : (s'.pc t).wakeL = []) (hwk0 : (s.pc t).wakeL = [])
    (hlb : (s'.pc t).limbo = none) (hfin : (s'.pc t).finOf = none) : Inv4 s' := by
  have hpc' : s'.pc = setFn s.pc t (s'.pc t) := funext fun u => by
    rw [setFn_apply]; split
    · subst_vars; rfl
    · exact hpc u ‹_›
  exact h.enq_step (s1 := { s' with pc := s.pc }) (show s' = { s' with pc := setFn s.pc t (s'.pc t) } by rw [← hpc'])
    hq rfl hwrk hwro hnq hnw hown (h3.no_fin hspin) hws hunl hunl0 hwk hwk0 hlb hfin

end NsyncVerif.MuC
