import NsyncVerif.Proofs.MuCInv1
/-
  MuC (I_lock, `Inv1`): tactics for local steps; the mode detection of nsync_mu_wait.
-/
namespace NsyncVerif.MuC

/-- Close a goal `Inv1 s'` for a step of thread `t` that leaves lock bits and ghosts alone. -/
macro "inv1_local" t:ident h:ident heq:ident : tactic => `(tactic|
  (have hok := ($h).pcok $t
   rw [$heq:ident] at hok
   refine Inv1.local $t $h (by simp) (by simp) (by simp) (by simp) (by simp)
     (by intro u hu; simp [setFn, hu]) (by rw [$heq:ident]; simp) ?_ ?_
   · (simp_all [PC.ok, SL.okL, SL.entry, SL.fromWait, SL.woken, MW.inner, MW.ok, Ret.ok, noLock, Scan.ok, loopPc, finPc, Ret.pc]) <;> grind
   · (simp_all [pcShare, loopPc, finPc, Ret.pc, Ret.mode, PC.ok, SL.okL, MW.inner, MW.ok, Ret.ok]) <;> grind))

/-- Decompose the hypothesis `hs : … = .ok s'` of a load step and close every resulting goal. -/
macro "ld_case" t:ident h:ident heq:ident hs:ident : tactic => `(tactic|
  (try dsimp only at $hs:ident
   try simp only [ldWord, ldWaiting] at $hs:ident
   repeat' split at $hs:ident
   all_goals first
     | (cases $hs:ident; done)
     | (cases $hs:ident; inv1_local $t $h $heq)
     | (cases $hs:ident; split <;> inv1_local $t $h $heq)))

/-- mu_wait.c:171-179 detects the mode in which the caller holds the mutex. -/
theorem Inv1.mode_detect {s : State} (h : Inv1 s) {t : Tid} {c : MW} (heq : s.pc t = .mwLd0 c) :
    (if (s.word.readers != 0) = true then Mode.R else Mode.W) = c.l := by
  have hsh : shareOf s t = some c.l := by rw [h.share_eq (by rw [heq]; simp), heq]; rfl
  cases hl : c.l with
  | R =>
    rw [hl] at hsh
    have hmem := (h.lock.rown t).2 hsh
    have : s.word.readers ≠ 0 := by
      rw [h.lock.rd]; intro e
      rw [List.length_eq_zero_iff.mp e] at hmem; cases hmem
    simp [this]
  | W =>
    rw [hl] at hsh
    have hown := (h.lock.wown t).2 hsh
    have hwl : s.word.wlock = true := by rw [h.lock.wl, hown]; rfl
    simp [h.lock.excl hwl]

end NsyncVerif.MuC
