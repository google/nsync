import NsyncVerif.Proofs.MuQFairChain
/-
  MuQ, fair termination (C02): the state the execution settles in.

  `classify_final`   a thread that is in none of the classes emptied by the chain arguments is idle
                     holding nothing, or parked (`Post2`).
  `final_quiescent`  in a reachable state all of whose threads are of these two kinds and in which
                     nobody holds the spinlock, nobody is parked: such a thread is `Parked` (`no_parked`).
-/
namespace NsyncVerif.MuQ

theorem stage_of_exit {s : State} {t : Tid} (h : 0 < exitRank (s.pc t)) : stage s t = 1 := by
  cases hp : s.pc t
  case tryRet l r => cases r <;> simp [hp, exitRank] at h <;> simp [stage, hp]
  all_goals (simp [hp, exitRank] at h <;> simp [stage, hp])

theorem stage_zero {s : State} {t : Tid} (h : stage s t = 0) : IdleHoldingNothing s t := by
  cases hp : s.pc t <;> simp [stage, hp] at h
  · exact ⟨hp, h⟩
  · rename_i l r; cases r <;> simp at h

theorem stage_of_ihn {s : State} {t : Tid} (h : IdleHoldingNothing s t) : stage s t = 0 :=
  stage_done h.1 h.2

theorem spin_not_idle {p : PC} (h : (role p).spin = true) : p ≠ .idle ∧ ∀ c, p ≠ .lsPRet c := by
  cases p <;> simp [role, Role.spin] at h <;> simp

/-- Still contending: inside an acquiring call before its acquisition, and not parked. -/
def Contender (s : State) (t : Tid) : Prop := acqPc (s.pc t) = true ∧ stage s t = 3 ∧ ¬ Post2 s t

theorem classify_final {s : State} {t : Tid}
    (h1 : exitRank (s.pc t) = 0) (h2 : (role (s.pc t)).spin = false) (h3 : ¬ Contender s t)
    (h4 : stage s t ≠ 2) : IdleHoldingNothing s t ∨ Post2 s t := by
  have park : acqPc (s.pc t) = true → stage s t = 3 → Post2 s t :=
    fun a b => Classical.byContradiction fun hn => h3 ⟨a, b, hn⟩
  cases hp : s.pc t
  case idle =>
    left
    refine ⟨hp, ?_⟩
    cases hh : s.held t with
    | none => rfl
    | some m => simp [stage, hp, hh] at h4
  case tryRet l r => cases r <;> simp [hp, exitRank, stage] at h1 h4
  all_goals first
    | (simp [hp, exitRank] at h1; done)
    | (simp [hp, role, Role.spin] at h2; done)
    | (simp [hp, stage] at h4; done)
    | exact .inr (park (by rw [hp]; rfl) (by simp [stage, hp]))

theorem final_quiescent {cfg : Cfg} {s : State} (hr : Reachable cfg s)
    (hall : ∀ t, IdleHoldingNothing s t ∨ (Post2 s t ∧ (role (s.pc t)).spin = false)) : ∀ t, IdleHoldingNothing s t :=
  no_parked hr fun t => (hall t).imp_right fun ⟨⟨c, k, hc, hw, hwt⟩, hs⟩ => by
    cases hp : s.pc t <;> rw [hp] at hc hs <;> cases hc
    · cases hs
    · cases hs
    · exact ⟨_, .loopLd, k, by rw [hp]; rfl, rfl, hw, .inl hwt⟩
    · exact ⟨_, .loopP, k, by rw [hp]; rfl, rfl, hw, .inl hwt⟩
    · exact ⟨_, .loopP, k, by rw [hp]; rfl, rfl, hw, .inl hwt⟩

end NsyncVerif.MuQ
