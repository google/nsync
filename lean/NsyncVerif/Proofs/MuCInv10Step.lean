import NsyncVerif.Proofs.MuCEffScan
import NsyncVerif.Proofs.MuCQMono
import NsyncVerif.Proofs.MuCInv9
import NsyncVerif.Proofs.MuCInv10
/-
  MuC, `Inv10` (the locals of nsync_mu_wait before its release; `set_on_release & MU_WRITER_WAITING`): one lemma per kind
  of step (`Eff`), `inv10_step`.
-/
namespace NsyncVerif.MuC

theorem finPc_keep10 {data : Nat → Int} {r : Ret} {l : List Wid} {p : PC} (hsc : p.scan? = none) : Keep10 data (finPc r l) p := by
  cases l <;> cases r <;> exact .of_none hsc.symm rfl rfl rfl
/-- The loop of nsync_mu_wait goes on after an evaluation that found the condition false. -/
theorem loopPc_keep10 {data : Nat → Int} {c : MW} {cd : Cond} {p : PC} (hsc : p.scan? = none) (hcd : c.cond = some cd) :
    Keep10 data (loopPc c (evalCond data cd)) p := by
  unfold loopPc; split
  · rename_i hc
    exact ⟨hsc.symm, fun _ e => Or.inr (by cases e; rw [hcd]; exact hc.2), fun _ e => (nomatch e), fun _ e => (nomatch e)⟩
  · exact .of_none hsc.symm rfl rfl rfl
theorem RetPc.keep10 {data : Nat → Int} {hd : Option Mode} {p : PC} {m : Option Mode} {w : Option Wid} {b : Bool}
    (h : RetPc hd p m w b) : Keep10 data .idle p :=
  .of_none h.scan.symm rfl rfl rfl
theorem CallPc.keep10 {data : Nat → Int} {s : State} {t : Tid} {p : PC} {nw : Bool} {ca : Option Cond} (h : CallPc s t p nw ca) :
    Keep10 data p .idle := by
  cases h <;> exact .of_none rfl rfl rfl rfl
theorem SemPc.keep10 {data : Nat → Int} {cfg : Cfg} {s : State} {p p' : PC} {k : Wid} {n : Nat} (h : SemPc cfg s p p' k n) :
    Keep10 data p' p := by
  cases h
  · exact .of_none rfl rfl rfl rfl
  · exact .of_none rfl rfl rfl rfl
  · exact finPc_keep10 rfl
theorem scanPc_mwPre {r : Ret} {late : Bool} {p : PC} (h : ScanPc r late p) : p.mwPre = none := by
  cases p <;> simp [ScanPc] at h <;> rfl
theorem scanPc_mwRel {r : Ret} {late : Bool} {p : PC} (h : ScanPc r late p) : p.mwRel = none := by
  cases p <;> simp [ScanPc] at h <;> rfl
theorem scanPc_late_scan {r : Ret} {late : Bool} {p : PC} {sc : Scan} (h : ScanPc r late p) (hs : p.scan? = some sc) : sc.late = late := by
  cases p <;> simp [ScanPc] at h <;> simp [PC.scan?] at hs <;> subst hs <;> simp [h]
theorem scanPc_late_fin {r : Ret} {late : Bool} {p : PC} {f : Fin} (h : ScanPc r late p) (hs : p.finOf = some f) : f.late = late := by
  cases p <;> simp [ScanPc] at h <;> simp [PC.finOf] at hs <;> subst hs <;> simp [h]

theorem dropW_lType_cond (s : State) (w : Option Wid) (x : Wid) :
    ((dropW s w).wr x).lType = (s.wr x).lType ∧ ((dropW s w).wr x).cond = (s.wr x).cond := by
  obtain ⟨o, e⟩ := dropW_wr_eq s w x; rw [e]; exact ⟨rfl, rfl⟩

theorem Inv10.ret {s s' : State} {t : Tid} {m : Option Mode} {w : Option Wid} {b : Bool} (h : Inv10 s)
    (hp : RetPc (s.held t) (s.pc t) m w b) (e : RetEff s t m w b s') : Inv10 s' :=
  h.frame e.pc e.queue (fun x _ => by rw [e.wr]; exact dropW_lType_cond s w x) e.data hp.keep10

theorem Inv10.call {s s' : State} {t : Tid} {p' : PC} {nw : Bool} {ca : Option Cond} (h : Inv10 s) (h0 : s.pc t = .idle)
    (hp : CallPc s t p' nw ca) (e : CallEff s t p' nw ca s') : Inv10 s' :=
  h.frame e.pc e.queue (fun _ _ => by rw [e.wr]; exact ⟨rfl, rfl⟩) e.data (h0 ▸ hp.keep10)

theorem Inv10.sem {cfg : Cfg} {s s' : State} {t : Tid} {p' : PC} {k : Wid} {n : Nat} (h : Inv10 s)
    (hp : SemPc cfg s (s.pc t) p' k n) (e : SemEff s t p' k n s') : Inv10 s' :=
  h.frame e.pc e.queue (fun x _ => by rw [e.wr]; exact setFn_lType_cond (by rfl) (by rfl) x) e.data hp.keep10

theorem Inv10.fin {s s' : State} {t : Tid} {r : Ret} {f : Fin} {old : Word} (h : Inv10 s)
    (heq : s.pc t = .usFinCas r f old) (e : CasOk s t (finPc r f.wake) (finWord f old) none s') : Inv10 s' :=
  h.frame e.pc e.queue (fun _ _ => by rw [e.wr_none]; exact ⟨rfl, rfl⟩) e.data (heq ▸ finPc_keep10 rfl)

theorem Inv10.eval {s : State} {t : Tid} {c : MW} {cd : Cond} (h : Inv10 s) (heq : s.pc t = .mwEval c) (hcd : c.cond = some cd) :
    Inv10 (setPc s t (loopPc c (evalCond s.data cd))) :=
  h.frame rfl rfl (fun _ _ => ⟨rfl, rfl⟩) rfl (heq ▸ loopPc_keep10 rfl hcd)

theorem Inv10.ldRc {s : State} {t : Tid} {c : MW} {k : Wid} (h : Inv10 s) (heq : s.pc t = .mwRcLd c) (obs : Nat) :
    Inv10 { setPc s t (.mwEnqLd { c with rcl := obs }) with wr := setFn s.wr k { s.wr k with rc := obs } } :=
  h.frame rfl rfl (fun x _ => setFn_lType_cond (by rfl) (by rfl) x) rfl (heq ▸ .of_pre (c0 := c) rfl rfl rfl rfl rfl rfl)

theorem Inv10.mtRm {s : State} {t : Tid} {c : MW} {old : Word} {rc : Nat} {k : Wid} (h : Inv10 s)
    (heq : s.pc t = .mtRmCas c old rc) (n : Nat) :
    Inv10 { setPc s t (.mtStW c old) with wr := setFn s.wr k { s.wr k with rc := n } } :=
  h.frame rfl rfl (fun x _ => setFn_lType_cond (by rfl) (by rfl) x) rfl (heq ▸ .of_none rfl rfl rfl rfl)

/-- The waiter takes its record off the queue (mu_wait.c:112): it holds the spinlock, so nobody is at a final CAS or in
    nsync_mu_wait's release. -/
theorem Inv10.ldDeq {s : State} {t : Tid} {c : MW} {old : Word} (h3 : Inv3 s) (h : Inv10 s) (heq : s.pc t = .mtLdRc c old) (k : Wid) :
    Inv10 (setPc (dequeue s k) t (.mtRmLd c old)) :=
  have hlo : LnkOnly s (dequeue s k) := lnkOnly_removeLinks _ _ _ _
  h.spin_step (k := k) (h3.others_no_spin (t := t) (by rw [heq]; rfl))
    (fun y hy => Or.inr (List.mem_of_mem_erase (by simpa [dequeue] using hy))) (by simp [dequeue]) (by simp [dequeue])
    (fun x _ => ⟨(hlo x).2.2.1, (hlo x).2.2.2.2.1⟩) (fun _ e => nomatch e) (fun _ e => nomatch e) rfl rfl

/-- The enqueue CAS of nsync_mu_wait: `had_waiters` is the MU_WAITING bit of the word, which is set when anything is queued. -/
theorem Inv10.mwEnq {s : State} {t : Tid} {c : MW} {old : Word} {k : Wid} (h3 : Inv3 s) (h4 : Inv4 s) (h9 : Inv9 s) (h : Inv10 s)
    (heq : s.pc t = .mwEnqCas c old) (hcw : c.w = some k) (hw : s.word = old) :
    Inv10 (setPc (if c.first then enqLast { s with word := mwEnqWord c.cond.isSome old, sp := some t } k
                  else enqFirst { s with word := mwEnqWord c.cond.isSome old, sp := some t } k) t
            (.mwRelLd { c with hadW := old.waiting, first := false })) := by
  have hok3 := h3.ok3 t; rw [heq] at hok3
  refine h.enq_step (s1 := { s with word := mwEnqWord c.cond.isSome old, sp := some t })
    (fun u _ => h3.no_spin_of_free (by rw [hw]; exact hok3) u) (by split; exact Or.inl rfl; exact Or.inr rfl) rfl rfl rfl
    (fun _ _ => ⟨rfl, rfl⟩) (h4.limbo t k (by rw [heq]; simp [PC.limbo, hcw])).2.1
    (fun _ e => ⟨c, by rw [heq]; rfl, by cases e; rfl⟩) (fun _ e => ?_) rfl rfl
  cases e
  refine ⟨hcw, fun hh x hx => ?_⟩
  -- MU_WAITING is set when something is queued
  have := h9.w4 x hx
  rw [hw, show old.waiting = false from hh] at this; cases this

/-- A scan step: `set_on_release & MU_WRITER_WAITING` at the point where the plain code stops. -/
theorem ScanStart.sww {s s' : State} {t : Tid} {r : Ret} {late : Bool} (h1 : Inv1 s) (h : Inv10 s)
    (hlate : ∀ sc, (s.pc t).scan? = some sc → sc.late = late) (hsc : ScanStart s t r s') :
    ScanAt10 (fun k => PassedW s late k) s' t := by
  have hok1 := h1.pcok t
  have hPW : ∀ k, (s.wr k).lType = .W → (s.wr k).cond = none → PassedW s late k := fun k a b => ⟨a, Or.inl b⟩
  have hok : ∀ sc, (s.pc t).scan? = some sc → SwwOk (fun k => PassedW s late k) sc := fun sc e => hlate sc e ▸ h.sww t sc e
  cases hsc with
  | grab old heq hw hs => exact (scanInv_sww _ t r).afterPickup hs ⟨fun k a b => hPW k (by simpa using a) (by simpa using b), fun e => nomatch e⟩
  | rel sc old heq hw hs => exact (scanInv_sww _ t r).run _ _ _ hs ⟨hPW, hok sc (by rw [heq]; rfl)⟩
  | re sc old heq hw hs => exact (scanInv_sww _ t r).afterPickup hs ⟨hPW, hok sc (by rw [heq]; rfl)⟩
  | rc sc k old heq hs =>
    have hwr := setFn_lType_cond (wr := s.wr) (k := k) (r := { s.wr k with rc := (old + 1) % 4294967296 }) (by rfl) (by rfl)
    exact (scanInv_sww _ t r).run _ _ _ hs
      ⟨fun x a b => hPW x ((hwr x).1.symm.trans a) ((hwr x).2.symm.trans b), hok sc (by rw [heq]; rfl)⟩
  | eval sc k rest cd heq hk hcd hs =>
    rw [heq] at hok1
    refine afterEval_sww hs hPW (hok sc (by rw [heq]; rfl)) ?_
    intro htrue k2 rest2 htodo2 hlt
    rw [hk] at htodo2; cases htodo2
    exact ⟨hlt, Or.inr ⟨(hlate sc (by rw [heq]; rfl)).symm.trans (hok1.2.1 hok1.2.2.1), cd, hcd, htrue⟩⟩

theorem Inv10.scan {s s' : State} {t : Tid} {r : Ret} {late : Bool} (h : Inv10 s) (h4' : Inv4 s')
    (hat : ScanAt10 (fun k => PassedW s late k) s' t) (e : ScanEff s t r late s') : Inv10 s' := by
  have hQ : ∀ k, Queued s' k → Queued s k := fun k hk => queued_of_scan h4' e.oth e.perm e.alone e.wake hk
  have hwr : ∀ x, (s'.wr x).lType = (s.wr x).lType ∧ (s'.wr x).cond = (s.wr x).cond := fun x => ⟨(e.wr x).2.2.1, (e.wr x).2.2.2.2⟩
  refine ⟨?_, ?_, ?_, ?_⟩
  · intro u c hu
    rw [e.data]
    by_cases hut : u = t
    · subst hut; rw [scanPc_mwPre e.dst] at hu; cases hu
    · rw [e.oth u hut] at hu; exact h.pcf u c hu
  · intro u c k hu hk hh x hx
    by_cases hut : u = t
    · subst hut; rw [scanPc_mwRel e.dst] at hu; cases hu
    · rw [e.oth u hut] at hu; exact h.prel u c k hu hk hh x (hQ x hx)
  · intro u sc hu hs
    by_cases hut : u = t
    · subst hut
      obtain ⟨k, hk, hp⟩ := hat.1 sc hu hs
      rw [scanPc_late_scan e.dst hu]
      exact ⟨k, hk, hp.congr (hwr k).1 (hwr k).2 e.data⟩
    · rw [e.oth u hut] at hu
      have := unl_of_scan hu; rw [e.alone u hut] at this; cases this
  · intro u f hu hs
    by_cases hut : u = t
    · subst hut
      obtain ⟨k, hk, hp⟩ := hat.2 f hu hs
      rw [scanPc_late_fin e.dst hu]
      exact ⟨k, hk, hp.congr (hwr k).1 (hwr k).2 e.data⟩
    · rw [e.oth u hut] at hu
      have := unl_of_fin hu; rw [e.alone u hut] at this; cases this

/-- The stores: queue insertion by lock_slow, the wake-up store, the reset of the record in nsync_mu_wait, the two
    stores of mu_try_acquire_after_timeout_or_cancel. -/
theorem Inv10.st {s s' : State} {t : Tid} (h3 : Inv3 s) (h4 : Inv4 s) (h : Inv10 s) (e : StEff s t s') : Inv10 s' := by
  cases e
  case lsNewLast c k heq hq hcw hown' hwait _ | lsNewFirst c k heq hq hcw hown' hwait _
     | lsOwnLast c k heq hq hcw hwait _ | lsOwnFirst c k heq hq hcw hwait _ =>
    refine h.enq_step (s1 := { s with wr := setFn s.wr k _ }) (h3.others_no_spin (t := t) (by rw [heq]; rfl))
      (by first | exact Or.inl rfl | exact Or.inr rfl) rfl rfl rfl
      (fun x hx => ?_) (h4.not_queued hwait) (fun _ e => nomatch e) (fun _ e => nomatch e) rfl rfl
    show (setFn s.wr k _ x).lType = _ ∧ (setFn s.wr k _ x).cond = _
    rw [setFn_other _ _ _ _ hx]; exact ⟨rfl, rfl⟩
  case wake r k rest heq | mtGone c old k heq hcw =>
    exact h.frame rfl rfl (fun x _ => setFn_lType_cond (by rfl) (by rfl) x) rfl (heq ▸ .of_none rfl rfl rfl rfl)
  case mwNew c k heq hq hcw hown hwait | mwOwn c k heq hq hcw hwait =>
    -- the record is on no list
    refine h.frame rfl rfl (fun x hx => ?_) rfl (heq ▸ .of_pre (c0 := c) rfl rfl rfl rfl rfl rfl)
    have hxk : x ≠ k := fun e => h4.not_queued hwait (e ▸ hx)
    show (setFn s.wr k _ x).lType = _ ∧ (setFn s.wr k _ x).cond = _
    rw [setFn_other _ _ _ _ hxk]; exact ⟨rfl, rfl⟩
  case mtKeep c old heq | mtGive c old heq =>
    exact h.frame (t := t) (by simp; rfl) (by simp) (fun _ _ => by simp) (by simp) (by rw [heq]; exact .of_none rfl rfl rfl rfl)

theorem share_of_mwPre {s : State} (h1 : Inv1 s) {u : Tid} {c : MW} (h : (s.pc u).mwPre = some c) : shareOf s u ≠ none := by
  have hne : s.pc u ≠ .idle := by intro e; rw [e] at h; simp [PC.mwPre] at h
  rw [h1.share_eq hne, mwPre_share h]; simp

/-- A write of the client, who holds the lock in write mode: nobody is between a false evaluation and the release, and no
    scan runs with the writer bit held. -/
theorem Inv10.dataW {s : State} {t : Tid} (h1 : Inv1 s) (h : Inv10 s) (ht : s.held t = some .W) (x : Nat) (v : Int) :
    Inv10 { s with data := setFn s.data x v } := by
  have hsh : shareOf s t = some .W := by simp [shareOf, tshare, ht]
  have hidle := h1.hidle t (by rw [ht]; simp)
  refine ⟨?_, h.prel, ?_, ?_⟩
  · intro u c hu
    exfalso
    have := h1.lock.writer_alone hsh (share_of_mwPre h1 hu)
    subst this; rw [hidle] at hu; simp [PC.mwPre] at hu
  · intro u sc hu hs'
    obtain ⟨k, hk, hl, hc⟩ := h.sww u sc hu hs'
    refine ⟨k, hk, hl, ?_⟩
    rcases hc with a | ⟨a, _⟩
    · exact Or.inl a
    · exact (no_other_W h1 ht (share_of_scan_late hu a)).elim
  · intro u f hu hs'
    obtain ⟨k, hk, hl, hc⟩ := h.swf u f hu hs'
    refine ⟨k, hk, hl, ?_⟩
    rcases hc with a | ⟨a, _⟩
    · exact Or.inl a
    · exact (no_other_W h1 ht (share_of_fin_late hu a)).elim

theorem Inv10.envEff {cfg : Cfg} {s s' : State} (h : Inv10 s) (e : EnvEff cfg s s') : Inv10 s' := by
  cases e with
  | post k => exact h.env (by simp) (fun x => by simp only [semPost]; exact setFn_lType_cond (by rfl) (by rfl) x) (by simp) (by simp)
  | sem k n _ => exact h.env rfl (setFn_lType_cond (by rfl) (by rfl)) rfl rfl
  | tick n _ => exact h.env rfl (fun _ => ⟨rfl, rfl⟩) rfl rfl

theorem inv10_step {cfg : Cfg} {s s' : State} {e : Event} (h1 : Inv1 s) (h3 : Inv3 s) (h4 : Inv4 s) (h4' : Inv4 s') (h9 : Inv9 s)
    (h : Inv10 s) (hs : step cfg s e = .ok s') : Inv10 s' := by
  cases ht : e.tid with
  | none => exact h.envEff (step_env hs ht)
  | some t =>
    cases step_eff hs ht with
    | move hm => exact h.move hm
    | callQ h0 hh hm => exact h.move (h0 ▸ hm)
    | cas hc =>
      cases hc with
      | fail hm => exact h.move hm
      | plain hp ok => exact h.cas hp ok
      | scan hsc => obtain ⟨late, e⟩ := hsc.eff h1 h3 h4; exact h.scan h4' (hsc.sww h1 h e.late_src) e
      | fin heq hw e => exact h.fin heq e
      | mwEnq c old k heq hk hw => exact h.mwEnq h3 h4 h9 heq hk hw
      | mtRm c old rc k heq hk => exact h.mtRm heq _
    | st e => exact h.st h3 h4 e
    | ldRc c k obs heq hk => exact h.ldRc heq obs
    | ldDeq c old k heq hk hmem hrc => exact h.ldDeq h3 heq k
    | ret hp e => exact h.ret hp e
    | call h0 hp e => exact h.call h0 hp e
    | scan hsc => obtain ⟨late, e⟩ := hsc.eff h1 h3 h4; exact h.scan h4' (hsc.sww h1 h e.late_src) e
    | eval c cd heq hcd => exact h.eval heq hcd
    | sem hp e => exact h.sem hp e
    | dataW x v hh => exact h.dataW h1 hh x v
    | dataR => exact h

theorem inv10_init : Inv10 init := by
  refine ⟨?_, ?_, ?_, ?_⟩
  · intro t c hc; simp [init, PC.mwPre] at hc
  · intro t c k hc; simp [init, PC.mwRel] at hc
  · intro t sc hs; simp [init, PC.scan?] at hs
  · intro t f hf; simp [init, PC.finOf] at hf

end NsyncVerif.MuC
