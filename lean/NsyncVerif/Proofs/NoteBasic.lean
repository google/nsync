/-
  Layer `Note`: basic facts about the acceptor (induction over reachable states, and the projections
  of every primitive state update, field by field: one lemma per primitive and field, all proved
  by unfolding).
-/
import NsyncVerif.Model.Note
import NsyncVerif.Proofs.Run


namespace Note

theorem isRun : NsyncVerif.IsRun step run := ⟨fun _ => rfl, fun s e _ => by rw [run]; cases step s e <;> rfl⟩

theorem Reachable.start : Reachable Note.init := ⟨[], rfl⟩

theorem Reachable.next {s s' : State} {e : Event} (h : Reachable s) (hs : step s e = .ok s') :
    Reachable s' := by
  obtain ⟨evs, h⟩ := h
  exact ⟨evs ++ [e], isRun.snoc h hs⟩

theorem Reachable.many {s s' : State} {evs : List Event} (h : Reachable s)
    (hr : run s evs = .ok s') : Reachable s' := by
  obtain ⟨evs0, h⟩ := h
  exact ⟨evs0 ++ evs, by rw [isRun.append_of_ok h]; exact hr⟩

theorem Reachable.induction {P : State → Prop} (h0 : P Note.init)
    (hstep : ∀ s e s', Reachable s → P s → step s e = .ok s' → P s') :
    ∀ s, Reachable s → P s :=
  fun _ ⟨_, h⟩ => isRun.induct h0 hstep h

/-- `need` succeeds iff the condition holds and the continuation succeeds. -/
@[simp] theorem need_ok {c : Prop} [Decidable c] {msg : String} {k : Except String State}
    {s' : State} : need c msg k = .ok s' ↔ c ∧ k = .ok s' := by
  unfold need; split <;> simp [*]

theorem upd_ne {β : Type} (f : Nat → β) {a x : Nat} (b : β) (h : x ≠ a) : upd f a b x = f x := by
  simp [upd, h]

/-- A field of note `j` after the record of note `k` has been updated. -/
theorem modNote_field {α : Type} (g : NoteRec → α) (s : State) (k : NoteId) (f : NoteRec → NoteRec)
    (j : NoteId) :
    g ((s.modNote k f).notes j) = if j = k then g (f (s.notes j)) else g (s.notes j) := by
  show g (if j = k then _ else _) = _
  split
  · next h => subst h; rfl
  · rfl

theorem modNote_field_same {α : Type} (g : NoteRec → α) (s : State) (k : NoteId)
    (f : NoteRec → NoteRec) (j : NoteId) (h : ∀ r, g (f r) = g r) :
    g ((s.modNote k f).notes j) = g (s.notes j) := by
  rw [modNote_field g, h, ite_self]


/-! ### State fields left alone by each primitive -/

@[simp] theorem setPc_notes (s : State) (t : Tid) (p : PC) : (s.setPc t p).notes = s.notes := rfl
@[simp] theorem setPc_recs (s : State) (t : Tid) (p : PC) : (s.setPc t p).recs = s.recs := rfl
@[simp] theorem setPc_now (s : State) (t : Tid) (p : PC) : (s.setPc t p).now = s.now := rfl
@[simp] theorem setPc_pc (s : State) (t : Tid) (p : PC) :
    (s.setPc t p).pc = upd s.pc t p := rfl
@[simp] theorem setPc_users (s : State) (t : Tid) (p : PC) : (s.setPc t p).users = s.users := rfl
@[simp] theorem setPc_freeing (s : State) (t : Tid) (p : PC) : (s.setPc t p).freeing = s.freeing := rfl
@[simp] theorem setPc_published (s : State) (t : Tid) (p : PC) : (s.setPc t p).published = s.published := rfl
@[simp] theorem setPc_notifyCalled (s : State) (t : Tid) (p : PC) : (s.setPc t p).notifyCalled = s.notifyCalled := rfl
@[simp] theorem setPc_ownDl (s : State) (t : Tid) (p : PC) : (s.setPc t p).ownDl = s.ownDl := rfl
@[simp] theorem setPc_cparent (s : State) (t : Tid) (p : PC) : (s.setPc t p).cparent = s.cparent := rfl
@[simp] theorem setPc_ancEver (s : State) (t : Tid) (p : PC) : (s.setPc t p).ancEver = s.ancEver := rfl
@[simp] theorem setPc_pathMin (s : State) (t : Tid) (p : PC) : (s.setPc t p).pathMin = s.pathMin := rfl
@[simp] theorem setPc_bornNotified (s : State) (t : Tid) (p : PC) : (s.setPc t p).bornNotified = s.bornNotified := rfl
@[simp] theorem setPc_after (s : State) (t : Tid) (p : PC) : (s.setPc t p).after = s.after := rfl
@[simp] theorem setPc_observed (s : State) (t : Tid) (p : PC) : (s.setPc t p).observed = s.observed := rfl
@[simp] theorem modNote_notes (s : State) (k : NoteId) (f : NoteRec → NoteRec) :
    (s.modNote k f).notes = upd s.notes k (f (s.notes k)) := rfl
@[simp] theorem modNote_recs (s : State) (k : NoteId) (f : NoteRec → NoteRec) : (s.modNote k f).recs = s.recs := rfl
@[simp] theorem modNote_now (s : State) (k : NoteId) (f : NoteRec → NoteRec) : (s.modNote k f).now = s.now := rfl
@[simp] theorem modNote_pc (s : State) (k : NoteId) (f : NoteRec → NoteRec) : (s.modNote k f).pc = s.pc := rfl
@[simp] theorem modNote_users (s : State) (k : NoteId) (f : NoteRec → NoteRec) : (s.modNote k f).users = s.users := rfl
@[simp] theorem modNote_freeing (s : State) (k : NoteId) (f : NoteRec → NoteRec) : (s.modNote k f).freeing = s.freeing := rfl
@[simp] theorem modNote_published (s : State) (k : NoteId) (f : NoteRec → NoteRec) : (s.modNote k f).published = s.published := rfl
@[simp] theorem modNote_notifyCalled (s : State) (k : NoteId) (f : NoteRec → NoteRec) : (s.modNote k f).notifyCalled = s.notifyCalled := rfl
@[simp] theorem modNote_ownDl (s : State) (k : NoteId) (f : NoteRec → NoteRec) : (s.modNote k f).ownDl = s.ownDl := rfl
@[simp] theorem modNote_cparent (s : State) (k : NoteId) (f : NoteRec → NoteRec) : (s.modNote k f).cparent = s.cparent := rfl
@[simp] theorem modNote_ancEver (s : State) (k : NoteId) (f : NoteRec → NoteRec) : (s.modNote k f).ancEver = s.ancEver := rfl
@[simp] theorem modNote_pathMin (s : State) (k : NoteId) (f : NoteRec → NoteRec) : (s.modNote k f).pathMin = s.pathMin := rfl
@[simp] theorem modNote_bornNotified (s : State) (k : NoteId) (f : NoteRec → NoteRec) : (s.modNote k f).bornNotified = s.bornNotified := rfl
@[simp] theorem modNote_after (s : State) (k : NoteId) (f : NoteRec → NoteRec) : (s.modNote k f).after = s.after := rfl
@[simp] theorem modNote_observed (s : State) (k : NoteId) (f : NoteRec → NoteRec) : (s.modNote k f).observed = s.observed := rfl
@[simp] theorem modRec_notes (s : State) (r : Rid) (f : WRec → WRec) : (s.modRec r f).notes = s.notes := rfl
@[simp] theorem modRec_recs (s : State) (r : Rid) (f : WRec → WRec) :
    (s.modRec r f).recs = upd s.recs r (f (s.recs r)) := rfl
@[simp] theorem modRec_now (s : State) (r : Rid) (f : WRec → WRec) : (s.modRec r f).now = s.now := rfl
@[simp] theorem modRec_pc (s : State) (r : Rid) (f : WRec → WRec) : (s.modRec r f).pc = s.pc := rfl
@[simp] theorem modRec_users (s : State) (r : Rid) (f : WRec → WRec) : (s.modRec r f).users = s.users := rfl
@[simp] theorem modRec_freeing (s : State) (r : Rid) (f : WRec → WRec) : (s.modRec r f).freeing = s.freeing := rfl
@[simp] theorem modRec_published (s : State) (r : Rid) (f : WRec → WRec) : (s.modRec r f).published = s.published := rfl
@[simp] theorem modRec_notifyCalled (s : State) (r : Rid) (f : WRec → WRec) : (s.modRec r f).notifyCalled = s.notifyCalled := rfl
@[simp] theorem modRec_ownDl (s : State) (r : Rid) (f : WRec → WRec) : (s.modRec r f).ownDl = s.ownDl := rfl
@[simp] theorem modRec_cparent (s : State) (r : Rid) (f : WRec → WRec) : (s.modRec r f).cparent = s.cparent := rfl
@[simp] theorem modRec_ancEver (s : State) (r : Rid) (f : WRec → WRec) : (s.modRec r f).ancEver = s.ancEver := rfl
@[simp] theorem modRec_pathMin (s : State) (r : Rid) (f : WRec → WRec) : (s.modRec r f).pathMin = s.pathMin := rfl
@[simp] theorem modRec_bornNotified (s : State) (r : Rid) (f : WRec → WRec) : (s.modRec r f).bornNotified = s.bornNotified := rfl
@[simp] theorem modRec_after (s : State) (r : Rid) (f : WRec → WRec) : (s.modRec r f).after = s.after := rfl
@[simp] theorem modRec_observed (s : State) (r : Rid) (f : WRec → WRec) : (s.modRec r f).observed = s.observed := rfl
@[simp] theorem addUser_notes (s : State) (n : NoteId) (t : Tid) : (s.addUser n t).notes = s.notes := rfl
@[simp] theorem addUser_recs (s : State) (n : NoteId) (t : Tid) : (s.addUser n t).recs = s.recs := rfl
@[simp] theorem addUser_now (s : State) (n : NoteId) (t : Tid) : (s.addUser n t).now = s.now := rfl
@[simp] theorem addUser_pc (s : State) (n : NoteId) (t : Tid) : (s.addUser n t).pc = s.pc := rfl
@[simp] theorem addUser_users (s : State) (n : NoteId) (t : Tid) :
    (s.addUser n t).users = upd s.users n (t :: s.users n) := rfl
@[simp] theorem addUser_freeing (s : State) (n : NoteId) (t : Tid) : (s.addUser n t).freeing = s.freeing := rfl
@[simp] theorem addUser_published (s : State) (n : NoteId) (t : Tid) : (s.addUser n t).published = s.published := rfl
@[simp] theorem addUser_notifyCalled (s : State) (n : NoteId) (t : Tid) : (s.addUser n t).notifyCalled = s.notifyCalled := rfl
@[simp] theorem addUser_ownDl (s : State) (n : NoteId) (t : Tid) : (s.addUser n t).ownDl = s.ownDl := rfl
@[simp] theorem addUser_cparent (s : State) (n : NoteId) (t : Tid) : (s.addUser n t).cparent = s.cparent := rfl
@[simp] theorem addUser_ancEver (s : State) (n : NoteId) (t : Tid) : (s.addUser n t).ancEver = s.ancEver := rfl
@[simp] theorem addUser_pathMin (s : State) (n : NoteId) (t : Tid) : (s.addUser n t).pathMin = s.pathMin := rfl
@[simp] theorem addUser_bornNotified (s : State) (n : NoteId) (t : Tid) : (s.addUser n t).bornNotified = s.bornNotified := rfl
@[simp] theorem addUser_after (s : State) (n : NoteId) (t : Tid) : (s.addUser n t).after = s.after := rfl
@[simp] theorem addUser_observed (s : State) (n : NoteId) (t : Tid) : (s.addUser n t).observed = s.observed := rfl
@[simp] theorem delUser_notes (s : State) (n : NoteId) (t : Tid) : (s.delUser n t).notes = s.notes := rfl
@[simp] theorem delUser_recs (s : State) (n : NoteId) (t : Tid) : (s.delUser n t).recs = s.recs := rfl
@[simp] theorem delUser_now (s : State) (n : NoteId) (t : Tid) : (s.delUser n t).now = s.now := rfl
@[simp] theorem delUser_pc (s : State) (n : NoteId) (t : Tid) : (s.delUser n t).pc = s.pc := rfl
@[simp] theorem delUser_users (s : State) (n : NoteId) (t : Tid) :
    (s.delUser n t).users = upd s.users n ((s.users n).erase t) := rfl
@[simp] theorem delUser_freeing (s : State) (n : NoteId) (t : Tid) : (s.delUser n t).freeing = s.freeing := rfl
@[simp] theorem delUser_published (s : State) (n : NoteId) (t : Tid) : (s.delUser n t).published = s.published := rfl
@[simp] theorem delUser_notifyCalled (s : State) (n : NoteId) (t : Tid) : (s.delUser n t).notifyCalled = s.notifyCalled := rfl
@[simp] theorem delUser_ownDl (s : State) (n : NoteId) (t : Tid) : (s.delUser n t).ownDl = s.ownDl := rfl
@[simp] theorem delUser_cparent (s : State) (n : NoteId) (t : Tid) : (s.delUser n t).cparent = s.cparent := rfl
@[simp] theorem delUser_ancEver (s : State) (n : NoteId) (t : Tid) : (s.delUser n t).ancEver = s.ancEver := rfl
@[simp] theorem delUser_pathMin (s : State) (n : NoteId) (t : Tid) : (s.delUser n t).pathMin = s.pathMin := rfl
@[simp] theorem delUser_bornNotified (s : State) (n : NoteId) (t : Tid) : (s.delUser n t).bornNotified = s.bornNotified := rfl
@[simp] theorem delUser_after (s : State) (n : NoteId) (t : Tid) : (s.delUser n t).after = s.after := rfl
@[simp] theorem delUser_observed (s : State) (n : NoteId) (t : Tid) : (s.delUser n t).observed = s.observed := rfl
@[simp] theorem markFreeing_notes (s : State) (n : NoteId) : (s.markFreeing n).notes = s.notes := rfl
@[simp] theorem markFreeing_recs (s : State) (n : NoteId) : (s.markFreeing n).recs = s.recs := rfl
@[simp] theorem markFreeing_now (s : State) (n : NoteId) : (s.markFreeing n).now = s.now := rfl
@[simp] theorem markFreeing_pc (s : State) (n : NoteId) : (s.markFreeing n).pc = s.pc := rfl
@[simp] theorem markFreeing_users (s : State) (n : NoteId) : (s.markFreeing n).users = s.users := rfl
@[simp] theorem markFreeing_freeing (s : State) (n : NoteId) :
    (s.markFreeing n).freeing = upd s.freeing n true := rfl
@[simp] theorem markFreeing_published (s : State) (n : NoteId) : (s.markFreeing n).published = s.published := rfl
@[simp] theorem markFreeing_notifyCalled (s : State) (n : NoteId) : (s.markFreeing n).notifyCalled = s.notifyCalled := rfl
@[simp] theorem markFreeing_ownDl (s : State) (n : NoteId) : (s.markFreeing n).ownDl = s.ownDl := rfl
@[simp] theorem markFreeing_cparent (s : State) (n : NoteId) : (s.markFreeing n).cparent = s.cparent := rfl
@[simp] theorem markFreeing_ancEver (s : State) (n : NoteId) : (s.markFreeing n).ancEver = s.ancEver := rfl
@[simp] theorem markFreeing_pathMin (s : State) (n : NoteId) : (s.markFreeing n).pathMin = s.pathMin := rfl
@[simp] theorem markFreeing_bornNotified (s : State) (n : NoteId) : (s.markFreeing n).bornNotified = s.bornNotified := rfl
@[simp] theorem markFreeing_after (s : State) (n : NoteId) : (s.markFreeing n).after = s.after := rfl
@[simp] theorem markFreeing_observed (s : State) (n : NoteId) : (s.markFreeing n).observed = s.observed := rfl
@[simp] theorem markCalled_notes (s : State) (n : NoteId) : (s.markCalled n).notes = s.notes := rfl
@[simp] theorem markCalled_recs (s : State) (n : NoteId) : (s.markCalled n).recs = s.recs := rfl
@[simp] theorem markCalled_now (s : State) (n : NoteId) : (s.markCalled n).now = s.now := rfl
@[simp] theorem markCalled_pc (s : State) (n : NoteId) : (s.markCalled n).pc = s.pc := rfl
@[simp] theorem markCalled_users (s : State) (n : NoteId) : (s.markCalled n).users = s.users := rfl
@[simp] theorem markCalled_freeing (s : State) (n : NoteId) : (s.markCalled n).freeing = s.freeing := rfl
@[simp] theorem markCalled_published (s : State) (n : NoteId) : (s.markCalled n).published = s.published := rfl
@[simp] theorem markCalled_notifyCalled (s : State) (n : NoteId) :
    (s.markCalled n).notifyCalled = upd s.notifyCalled n true := rfl
@[simp] theorem markCalled_ownDl (s : State) (n : NoteId) : (s.markCalled n).ownDl = s.ownDl := rfl
@[simp] theorem markCalled_cparent (s : State) (n : NoteId) : (s.markCalled n).cparent = s.cparent := rfl
@[simp] theorem markCalled_ancEver (s : State) (n : NoteId) : (s.markCalled n).ancEver = s.ancEver := rfl
@[simp] theorem markCalled_pathMin (s : State) (n : NoteId) : (s.markCalled n).pathMin = s.pathMin := rfl
@[simp] theorem markCalled_bornNotified (s : State) (n : NoteId) : (s.markCalled n).bornNotified = s.bornNotified := rfl
@[simp] theorem markCalled_after (s : State) (n : NoteId) : (s.markCalled n).after = s.after := rfl
@[simp] theorem markCalled_observed (s : State) (n : NoteId) : (s.markCalled n).observed = s.observed := rfl
@[simp] theorem markBorn_notes (s : State) (n : NoteId) : (s.markBorn n).notes = s.notes := rfl
@[simp] theorem markBorn_recs (s : State) (n : NoteId) : (s.markBorn n).recs = s.recs := rfl
@[simp] theorem markBorn_now (s : State) (n : NoteId) : (s.markBorn n).now = s.now := rfl
@[simp] theorem markBorn_pc (s : State) (n : NoteId) : (s.markBorn n).pc = s.pc := rfl
@[simp] theorem markBorn_users (s : State) (n : NoteId) : (s.markBorn n).users = s.users := rfl
@[simp] theorem markBorn_freeing (s : State) (n : NoteId) : (s.markBorn n).freeing = s.freeing := rfl
@[simp] theorem markBorn_published (s : State) (n : NoteId) : (s.markBorn n).published = s.published := rfl
@[simp] theorem markBorn_notifyCalled (s : State) (n : NoteId) : (s.markBorn n).notifyCalled = s.notifyCalled := rfl
@[simp] theorem markBorn_ownDl (s : State) (n : NoteId) : (s.markBorn n).ownDl = s.ownDl := rfl
@[simp] theorem markBorn_cparent (s : State) (n : NoteId) : (s.markBorn n).cparent = s.cparent := rfl
@[simp] theorem markBorn_ancEver (s : State) (n : NoteId) : (s.markBorn n).ancEver = s.ancEver := rfl
@[simp] theorem markBorn_pathMin (s : State) (n : NoteId) : (s.markBorn n).pathMin = s.pathMin := rfl
@[simp] theorem markBorn_bornNotified (s : State) (n : NoteId) :
    (s.markBorn n).bornNotified = upd s.bornNotified n true := rfl
@[simp] theorem markBorn_after (s : State) (n : NoteId) : (s.markBorn n).after = s.after := rfl
@[simp] theorem markBorn_observed (s : State) (n : NoteId) : (s.markBorn n).observed = s.observed := rfl
@[simp] theorem publish_notes (s : State) (n : NoteId) : (s.publish n).notes = s.notes := rfl
@[simp] theorem publish_recs (s : State) (n : NoteId) : (s.publish n).recs = s.recs := rfl
@[simp] theorem publish_now (s : State) (n : NoteId) : (s.publish n).now = s.now := rfl
@[simp] theorem publish_pc (s : State) (n : NoteId) : (s.publish n).pc = s.pc := rfl
@[simp] theorem publish_users (s : State) (n : NoteId) : (s.publish n).users = s.users := rfl
@[simp] theorem publish_freeing (s : State) (n : NoteId) : (s.publish n).freeing = s.freeing := rfl
@[simp] theorem publish_published (s : State) (n : NoteId) :
    (s.publish n).published = upd s.published n true := rfl
@[simp] theorem publish_notifyCalled (s : State) (n : NoteId) : (s.publish n).notifyCalled = s.notifyCalled := rfl
@[simp] theorem publish_ownDl (s : State) (n : NoteId) : (s.publish n).ownDl = s.ownDl := rfl
@[simp] theorem publish_cparent (s : State) (n : NoteId) : (s.publish n).cparent = s.cparent := rfl
@[simp] theorem publish_ancEver (s : State) (n : NoteId) : (s.publish n).ancEver = s.ancEver := rfl
@[simp] theorem publish_pathMin (s : State) (n : NoteId) : (s.publish n).pathMin = s.pathMin := rfl
@[simp] theorem publish_bornNotified (s : State) (n : NoteId) : (s.publish n).bornNotified = s.bornNotified := rfl
@[simp] theorem publish_after (s : State) (n : NoteId) : (s.publish n).after = s.after := rfl
@[simp] theorem publish_observed (s : State) (n : NoteId) : (s.publish n).observed = s.observed := rfl
@[simp] theorem setAfter_notes (s : State) (t : Tid) (b : Bool) : (s.setAfter t b).notes = s.notes := rfl
@[simp] theorem setAfter_recs (s : State) (t : Tid) (b : Bool) : (s.setAfter t b).recs = s.recs := rfl
@[simp] theorem setAfter_now (s : State) (t : Tid) (b : Bool) : (s.setAfter t b).now = s.now := rfl
@[simp] theorem setAfter_pc (s : State) (t : Tid) (b : Bool) : (s.setAfter t b).pc = s.pc := rfl
@[simp] theorem setAfter_users (s : State) (t : Tid) (b : Bool) : (s.setAfter t b).users = s.users := rfl
@[simp] theorem setAfter_freeing (s : State) (t : Tid) (b : Bool) : (s.setAfter t b).freeing = s.freeing := rfl
@[simp] theorem setAfter_published (s : State) (t : Tid) (b : Bool) : (s.setAfter t b).published = s.published := rfl
@[simp] theorem setAfter_notifyCalled (s : State) (t : Tid) (b : Bool) : (s.setAfter t b).notifyCalled = s.notifyCalled := rfl
@[simp] theorem setAfter_ownDl (s : State) (t : Tid) (b : Bool) : (s.setAfter t b).ownDl = s.ownDl := rfl
@[simp] theorem setAfter_cparent (s : State) (t : Tid) (b : Bool) : (s.setAfter t b).cparent = s.cparent := rfl
@[simp] theorem setAfter_ancEver (s : State) (t : Tid) (b : Bool) : (s.setAfter t b).ancEver = s.ancEver := rfl
@[simp] theorem setAfter_pathMin (s : State) (t : Tid) (b : Bool) : (s.setAfter t b).pathMin = s.pathMin := rfl
@[simp] theorem setAfter_bornNotified (s : State) (t : Tid) (b : Bool) : (s.setAfter t b).bornNotified = s.bornNotified := rfl
@[simp] theorem setAfter_after (s : State) (t : Tid) (b : Bool) :
    (s.setAfter t b).after = upd s.after t b := rfl
@[simp] theorem setAfter_observed (s : State) (t : Tid) (b : Bool) : (s.setAfter t b).observed = s.observed := rfl
@[simp] theorem pushObs_notes (s : State) (o : Obs) : (s.pushObs o).notes = s.notes := rfl
@[simp] theorem pushObs_recs (s : State) (o : Obs) : (s.pushObs o).recs = s.recs := rfl
@[simp] theorem pushObs_now (s : State) (o : Obs) : (s.pushObs o).now = s.now := rfl
@[simp] theorem pushObs_pc (s : State) (o : Obs) : (s.pushObs o).pc = s.pc := rfl
@[simp] theorem pushObs_users (s : State) (o : Obs) : (s.pushObs o).users = s.users := rfl
@[simp] theorem pushObs_freeing (s : State) (o : Obs) : (s.pushObs o).freeing = s.freeing := rfl
@[simp] theorem pushObs_published (s : State) (o : Obs) : (s.pushObs o).published = s.published := rfl
@[simp] theorem pushObs_notifyCalled (s : State) (o : Obs) : (s.pushObs o).notifyCalled = s.notifyCalled := rfl
@[simp] theorem pushObs_ownDl (s : State) (o : Obs) : (s.pushObs o).ownDl = s.ownDl := rfl
@[simp] theorem pushObs_cparent (s : State) (o : Obs) : (s.pushObs o).cparent = s.cparent := rfl
@[simp] theorem pushObs_ancEver (s : State) (o : Obs) : (s.pushObs o).ancEver = s.ancEver := rfl
@[simp] theorem pushObs_pathMin (s : State) (o : Obs) : (s.pushObs o).pathMin = s.pathMin := rfl
@[simp] theorem pushObs_bornNotified (s : State) (o : Obs) : (s.pushObs o).bornNotified = s.bornNotified := rfl
@[simp] theorem pushObs_after (s : State) (o : Obs) : (s.pushObs o).after = s.after := rfl
@[simp] theorem pushObs_observed (s : State) (o : Obs) :
    (s.pushObs o).observed = o :: s.observed := rfl
@[simp] theorem setNow_notes (s : State) (v : Nat) : (s.setNow v).notes = s.notes := rfl
@[simp] theorem setNow_recs (s : State) (v : Nat) : (s.setNow v).recs = s.recs := rfl
@[simp] theorem setNow_now (s : State) (v : Nat) :
    (s.setNow v).now = v := rfl
@[simp] theorem setNow_pc (s : State) (v : Nat) : (s.setNow v).pc = s.pc := rfl
@[simp] theorem setNow_users (s : State) (v : Nat) : (s.setNow v).users = s.users := rfl
@[simp] theorem setNow_freeing (s : State) (v : Nat) : (s.setNow v).freeing = s.freeing := rfl
@[simp] theorem setNow_published (s : State) (v : Nat) : (s.setNow v).published = s.published := rfl
@[simp] theorem setNow_notifyCalled (s : State) (v : Nat) : (s.setNow v).notifyCalled = s.notifyCalled := rfl
@[simp] theorem setNow_ownDl (s : State) (v : Nat) : (s.setNow v).ownDl = s.ownDl := rfl
@[simp] theorem setNow_cparent (s : State) (v : Nat) : (s.setNow v).cparent = s.cparent := rfl
@[simp] theorem setNow_ancEver (s : State) (v : Nat) : (s.setNow v).ancEver = s.ancEver := rfl
@[simp] theorem setNow_pathMin (s : State) (v : Nat) : (s.setNow v).pathMin = s.pathMin := rfl
@[simp] theorem setNow_bornNotified (s : State) (v : Nat) : (s.setNow v).bornNotified = s.bornNotified := rfl
@[simp] theorem setNow_after (s : State) (v : Nat) : (s.setNow v).after = s.after := rfl
@[simp] theorem setNow_observed (s : State) (v : Nat) : (s.setNow v).observed = s.observed := rfl
@[simp] theorem allocNote_notes (s : State) (k : NoteId) (par : Option NoteId) (dl : Dl) :
    (s.allocNote k par dl).notes = upd s.notes k { NoteRec.blank with expiry := dl, allocated := true } := rfl
@[simp] theorem allocNote_recs (s : State) (k : NoteId) (par : Option NoteId) (dl : Dl) : (s.allocNote k par dl).recs = s.recs := rfl
@[simp] theorem allocNote_now (s : State) (k : NoteId) (par : Option NoteId) (dl : Dl) : (s.allocNote k par dl).now = s.now := rfl
@[simp] theorem allocNote_pc (s : State) (k : NoteId) (par : Option NoteId) (dl : Dl) : (s.allocNote k par dl).pc = s.pc := rfl
@[simp] theorem allocNote_users (s : State) (k : NoteId) (par : Option NoteId) (dl : Dl) : (s.allocNote k par dl).users = s.users := rfl
@[simp] theorem allocNote_freeing (s : State) (k : NoteId) (par : Option NoteId) (dl : Dl) : (s.allocNote k par dl).freeing = s.freeing := rfl
@[simp] theorem allocNote_published (s : State) (k : NoteId) (par : Option NoteId) (dl : Dl) : (s.allocNote k par dl).published = s.published := rfl
@[simp] theorem allocNote_notifyCalled (s : State) (k : NoteId) (par : Option NoteId) (dl : Dl) : (s.allocNote k par dl).notifyCalled = s.notifyCalled := rfl
@[simp] theorem allocNote_ownDl (s : State) (k : NoteId) (par : Option NoteId) (dl : Dl) :
    (s.allocNote k par dl).ownDl = upd s.ownDl k dl := rfl
@[simp] theorem allocNote_cparent (s : State) (k : NoteId) (par : Option NoteId) (dl : Dl) :
    (s.allocNote k par dl).cparent = upd s.cparent k par := rfl
@[simp] theorem allocNote_ancEver (s : State) (k : NoteId) (par : Option NoteId) (dl : Dl) :
    (s.allocNote k par dl).ancEver = upd s.ancEver k (k :: s.ancOf par) := rfl
@[simp] theorem allocNote_pathMin (s : State) (k : NoteId) (par : Option NoteId) (dl : Dl) :
    (s.allocNote k par dl).pathMin = upd s.pathMin k (s.minOf dl par) := rfl
@[simp] theorem allocNote_bornNotified (s : State) (k : NoteId) (par : Option NoteId) (dl : Dl) : (s.allocNote k par dl).bornNotified = s.bornNotified := rfl
@[simp] theorem allocNote_after (s : State) (k : NoteId) (par : Option NoteId) (dl : Dl) : (s.allocNote k par dl).after = s.after := rfl
@[simp] theorem allocNote_observed (s : State) (k : NoteId) (par : Option NoteId) (dl : Dl) : (s.allocNote k par dl).observed = s.observed := rfl

/-! ### The note primitives, record field by record field -/

@[simp] theorem acquire_recs (s : State) (k : NoteId) (t : Tid) : (s.acquire k t).recs = s.recs := rfl
@[simp] theorem acquire_now (s : State) (k : NoteId) (t : Tid) : (s.acquire k t).now = s.now := rfl
@[simp] theorem acquire_pc (s : State) (k : NoteId) (t : Tid) : (s.acquire k t).pc = s.pc := rfl
@[simp] theorem acquire_users (s : State) (k : NoteId) (t : Tid) : (s.acquire k t).users = s.users := rfl
@[simp] theorem acquire_freeing (s : State) (k : NoteId) (t : Tid) : (s.acquire k t).freeing = s.freeing := rfl
@[simp] theorem acquire_published (s : State) (k : NoteId) (t : Tid) : (s.acquire k t).published = s.published := rfl
@[simp] theorem acquire_notifyCalled (s : State) (k : NoteId) (t : Tid) : (s.acquire k t).notifyCalled = s.notifyCalled := rfl
@[simp] theorem acquire_ownDl (s : State) (k : NoteId) (t : Tid) : (s.acquire k t).ownDl = s.ownDl := rfl
@[simp] theorem acquire_cparent (s : State) (k : NoteId) (t : Tid) : (s.acquire k t).cparent = s.cparent := rfl
@[simp] theorem acquire_ancEver (s : State) (k : NoteId) (t : Tid) : (s.acquire k t).ancEver = s.ancEver := rfl
@[simp] theorem acquire_pathMin (s : State) (k : NoteId) (t : Tid) : (s.acquire k t).pathMin = s.pathMin := rfl
@[simp] theorem acquire_bornNotified (s : State) (k : NoteId) (t : Tid) : (s.acquire k t).bornNotified = s.bornNotified := rfl
@[simp] theorem acquire_after (s : State) (k : NoteId) (t : Tid) : (s.acquire k t).after = s.after := rfl
@[simp] theorem acquire_observed (s : State) (k : NoteId) (t : Tid) : (s.acquire k t).observed = s.observed := rfl
@[simp] theorem acquire_f_parent (s : State) (k : NoteId) (t : Tid) (j : NoteId) :
    ((s.acquire k t).notes j).parent = (s.notes j).parent :=
  modNote_field_same (·.parent) _ _ _ _ fun _ => rfl
@[simp] theorem acquire_f_children (s : State) (k : NoteId) (t : Tid) (j : NoteId) :
    ((s.acquire k t).notes j).children = (s.notes j).children :=
  modNote_field_same (·.children) _ _ _ _ fun _ => rfl
@[simp] theorem acquire_f_notified (s : State) (k : NoteId) (t : Tid) (j : NoteId) :
    ((s.acquire k t).notes j).notified = (s.notes j).notified :=
  modNote_field_same (·.notified) _ _ _ _ fun _ => rfl
@[simp] theorem acquire_f_expiry (s : State) (k : NoteId) (t : Tid) (j : NoteId) :
    ((s.acquire k t).notes j).expiry = (s.notes j).expiry :=
  modNote_field_same (·.expiry) _ _ _ _ fun _ => rfl
@[simp] theorem acquire_f_disconnecting (s : State) (k : NoteId) (t : Tid) (j : NoteId) :
    ((s.acquire k t).notes j).disconnecting = (s.notes j).disconnecting :=
  modNote_field_same (·.disconnecting) _ _ _ _ fun _ => rfl
@[simp] theorem acquire_f_waiters (s : State) (k : NoteId) (t : Tid) (j : NoteId) :
    ((s.acquire k t).notes j).waiters = (s.notes j).waiters :=
  modNote_field_same (·.waiters) _ _ _ _ fun _ => rfl
@[simp] theorem acquire_f_lockHolder (s : State) (k : NoteId) (t : Tid) (j : NoteId) :
    ((s.acquire k t).notes j).lockHolder = if j = k then some t else (s.notes j).lockHolder :=
  modNote_field (·.lockHolder) _ _ _ _
@[simp] theorem acquire_f_allocated (s : State) (k : NoteId) (t : Tid) (j : NoteId) :
    ((s.acquire k t).notes j).allocated = (s.notes j).allocated :=
  modNote_field_same (·.allocated) _ _ _ _ fun _ => rfl
@[simp] theorem acquire_f_freed (s : State) (k : NoteId) (t : Tid) (j : NoteId) :
    ((s.acquire k t).notes j).freed = (s.notes j).freed :=
  modNote_field_same (·.freed) _ _ _ _ fun _ => rfl
@[simp] theorem acquire_f_adopted (s : State) (k : NoteId) (t : Tid) (j : NoteId) :
    ((s.acquire k t).notes j).adopted = (s.notes j).adopted :=
  modNote_field_same (·.adopted) _ _ _ _ fun _ => rfl
@[simp] theorem release_recs (s : State) (k : NoteId) : (s.release k).recs = s.recs := rfl
@[simp] theorem release_now (s : State) (k : NoteId) : (s.release k).now = s.now := rfl
@[simp] theorem release_pc (s : State) (k : NoteId) : (s.release k).pc = s.pc := rfl
@[simp] theorem release_users (s : State) (k : NoteId) : (s.release k).users = s.users := rfl
@[simp] theorem release_freeing (s : State) (k : NoteId) : (s.release k).freeing = s.freeing := rfl
@[simp] theorem release_published (s : State) (k : NoteId) : (s.release k).published = s.published := rfl
@[simp] theorem release_notifyCalled (s : State) (k : NoteId) : (s.release k).notifyCalled = s.notifyCalled := rfl
@[simp] theorem release_ownDl (s : State) (k : NoteId) : (s.release k).ownDl = s.ownDl := rfl
@[simp] theorem release_cparent (s : State) (k : NoteId) : (s.release k).cparent = s.cparent := rfl
@[simp] theorem release_ancEver (s : State) (k : NoteId) : (s.release k).ancEver = s.ancEver := rfl
@[simp] theorem release_pathMin (s : State) (k : NoteId) : (s.release k).pathMin = s.pathMin := rfl
@[simp] theorem release_bornNotified (s : State) (k : NoteId) : (s.release k).bornNotified = s.bornNotified := rfl
@[simp] theorem release_after (s : State) (k : NoteId) : (s.release k).after = s.after := rfl
@[simp] theorem release_observed (s : State) (k : NoteId) : (s.release k).observed = s.observed := rfl
@[simp] theorem release_f_parent (s : State) (k : NoteId) (j : NoteId) :
    ((s.release k).notes j).parent = (s.notes j).parent :=
  modNote_field_same (·.parent) _ _ _ _ fun _ => rfl
@[simp] theorem release_f_children (s : State) (k : NoteId) (j : NoteId) :
    ((s.release k).notes j).children = (s.notes j).children :=
  modNote_field_same (·.children) _ _ _ _ fun _ => rfl
@[simp] theorem release_f_notified (s : State) (k : NoteId) (j : NoteId) :
    ((s.release k).notes j).notified = (s.notes j).notified :=
  modNote_field_same (·.notified) _ _ _ _ fun _ => rfl
@[simp] theorem release_f_expiry (s : State) (k : NoteId) (j : NoteId) :
    ((s.release k).notes j).expiry = (s.notes j).expiry :=
  modNote_field_same (·.expiry) _ _ _ _ fun _ => rfl
@[simp] theorem release_f_disconnecting (s : State) (k : NoteId) (j : NoteId) :
    ((s.release k).notes j).disconnecting = (s.notes j).disconnecting :=
  modNote_field_same (·.disconnecting) _ _ _ _ fun _ => rfl
@[simp] theorem release_f_waiters (s : State) (k : NoteId) (j : NoteId) :
    ((s.release k).notes j).waiters = (s.notes j).waiters :=
  modNote_field_same (·.waiters) _ _ _ _ fun _ => rfl
@[simp] theorem release_f_lockHolder (s : State) (k : NoteId) (j : NoteId) :
    ((s.release k).notes j).lockHolder = if j = k then none else (s.notes j).lockHolder :=
  modNote_field (·.lockHolder) _ _ _ _
@[simp] theorem release_f_allocated (s : State) (k : NoteId) (j : NoteId) :
    ((s.release k).notes j).allocated = (s.notes j).allocated :=
  modNote_field_same (·.allocated) _ _ _ _ fun _ => rfl
@[simp] theorem release_f_freed (s : State) (k : NoteId) (j : NoteId) :
    ((s.release k).notes j).freed = (s.notes j).freed :=
  modNote_field_same (·.freed) _ _ _ _ fun _ => rfl
@[simp] theorem release_f_adopted (s : State) (k : NoteId) (j : NoteId) :
    ((s.release k).notes j).adopted = (s.notes j).adopted :=
  modNote_field_same (·.adopted) _ _ _ _ fun _ => rfl
@[simp] theorem incDisc_recs (s : State) (k : NoteId) : (s.incDisc k).recs = s.recs := rfl
@[simp] theorem incDisc_now (s : State) (k : NoteId) : (s.incDisc k).now = s.now := rfl
@[simp] theorem incDisc_pc (s : State) (k : NoteId) : (s.incDisc k).pc = s.pc := rfl
@[simp] theorem incDisc_users (s : State) (k : NoteId) : (s.incDisc k).users = s.users := rfl
@[simp] theorem incDisc_freeing (s : State) (k : NoteId) : (s.incDisc k).freeing = s.freeing := rfl
@[simp] theorem incDisc_published (s : State) (k : NoteId) : (s.incDisc k).published = s.published := rfl
@[simp] theorem incDisc_notifyCalled (s : State) (k : NoteId) : (s.incDisc k).notifyCalled = s.notifyCalled := rfl
@[simp] theorem incDisc_ownDl (s : State) (k : NoteId) : (s.incDisc k).ownDl = s.ownDl := rfl
@[simp] theorem incDisc_cparent (s : State) (k : NoteId) : (s.incDisc k).cparent = s.cparent := rfl
@[simp] theorem incDisc_ancEver (s : State) (k : NoteId) : (s.incDisc k).ancEver = s.ancEver := rfl
@[simp] theorem incDisc_pathMin (s : State) (k : NoteId) : (s.incDisc k).pathMin = s.pathMin := rfl
@[simp] theorem incDisc_bornNotified (s : State) (k : NoteId) : (s.incDisc k).bornNotified = s.bornNotified := rfl
@[simp] theorem incDisc_after (s : State) (k : NoteId) : (s.incDisc k).after = s.after := rfl
@[simp] theorem incDisc_observed (s : State) (k : NoteId) : (s.incDisc k).observed = s.observed := rfl
@[simp] theorem incDisc_f_parent (s : State) (k : NoteId) (j : NoteId) :
    ((s.incDisc k).notes j).parent = (s.notes j).parent :=
  modNote_field_same (·.parent) _ _ _ _ fun _ => rfl
@[simp] theorem incDisc_f_children (s : State) (k : NoteId) (j : NoteId) :
    ((s.incDisc k).notes j).children = (s.notes j).children :=
  modNote_field_same (·.children) _ _ _ _ fun _ => rfl
@[simp] theorem incDisc_f_notified (s : State) (k : NoteId) (j : NoteId) :
    ((s.incDisc k).notes j).notified = (s.notes j).notified :=
  modNote_field_same (·.notified) _ _ _ _ fun _ => rfl
@[simp] theorem incDisc_f_expiry (s : State) (k : NoteId) (j : NoteId) :
    ((s.incDisc k).notes j).expiry = (s.notes j).expiry :=
  modNote_field_same (·.expiry) _ _ _ _ fun _ => rfl
@[simp] theorem incDisc_f_disconnecting (s : State) (k : NoteId) (j : NoteId) :
    ((s.incDisc k).notes j).disconnecting = if j = k then (s.notes j).disconnecting + 1 else (s.notes j).disconnecting :=
  modNote_field (·.disconnecting) _ _ _ _
@[simp] theorem incDisc_f_waiters (s : State) (k : NoteId) (j : NoteId) :
    ((s.incDisc k).notes j).waiters = (s.notes j).waiters :=
  modNote_field_same (·.waiters) _ _ _ _ fun _ => rfl
@[simp] theorem incDisc_f_lockHolder (s : State) (k : NoteId) (j : NoteId) :
    ((s.incDisc k).notes j).lockHolder = (s.notes j).lockHolder :=
  modNote_field_same (·.lockHolder) _ _ _ _ fun _ => rfl
@[simp] theorem incDisc_f_allocated (s : State) (k : NoteId) (j : NoteId) :
    ((s.incDisc k).notes j).allocated = (s.notes j).allocated :=
  modNote_field_same (·.allocated) _ _ _ _ fun _ => rfl
@[simp] theorem incDisc_f_freed (s : State) (k : NoteId) (j : NoteId) :
    ((s.incDisc k).notes j).freed = (s.notes j).freed :=
  modNote_field_same (·.freed) _ _ _ _ fun _ => rfl
@[simp] theorem incDisc_f_adopted (s : State) (k : NoteId) (j : NoteId) :
    ((s.incDisc k).notes j).adopted = (s.notes j).adopted :=
  modNote_field_same (·.adopted) _ _ _ _ fun _ => rfl
@[simp] theorem decDisc_recs (s : State) (k : NoteId) : (s.decDisc k).recs = s.recs := rfl
@[simp] theorem decDisc_now (s : State) (k : NoteId) : (s.decDisc k).now = s.now := rfl
@[simp] theorem decDisc_pc (s : State) (k : NoteId) : (s.decDisc k).pc = s.pc := rfl
@[simp] theorem decDisc_users (s : State) (k : NoteId) : (s.decDisc k).users = s.users := rfl
@[simp] theorem decDisc_freeing (s : State) (k : NoteId) : (s.decDisc k).freeing = s.freeing := rfl
@[simp] theorem decDisc_published (s : State) (k : NoteId) : (s.decDisc k).published = s.published := rfl
@[simp] theorem decDisc_notifyCalled (s : State) (k : NoteId) : (s.decDisc k).notifyCalled = s.notifyCalled := rfl
@[simp] theorem decDisc_ownDl (s : State) (k : NoteId) : (s.decDisc k).ownDl = s.ownDl := rfl
@[simp] theorem decDisc_cparent (s : State) (k : NoteId) : (s.decDisc k).cparent = s.cparent := rfl
@[simp] theorem decDisc_ancEver (s : State) (k : NoteId) : (s.decDisc k).ancEver = s.ancEver := rfl
@[simp] theorem decDisc_pathMin (s : State) (k : NoteId) : (s.decDisc k).pathMin = s.pathMin := rfl
@[simp] theorem decDisc_bornNotified (s : State) (k : NoteId) : (s.decDisc k).bornNotified = s.bornNotified := rfl
@[simp] theorem decDisc_after (s : State) (k : NoteId) : (s.decDisc k).after = s.after := rfl
@[simp] theorem decDisc_observed (s : State) (k : NoteId) : (s.decDisc k).observed = s.observed := rfl
@[simp] theorem decDisc_f_parent (s : State) (k : NoteId) (j : NoteId) :
    ((s.decDisc k).notes j).parent = (s.notes j).parent :=
  modNote_field_same (·.parent) _ _ _ _ fun _ => rfl
@[simp] theorem decDisc_f_children (s : State) (k : NoteId) (j : NoteId) :
    ((s.decDisc k).notes j).children = (s.notes j).children :=
  modNote_field_same (·.children) _ _ _ _ fun _ => rfl
@[simp] theorem decDisc_f_notified (s : State) (k : NoteId) (j : NoteId) :
    ((s.decDisc k).notes j).notified = (s.notes j).notified :=
  modNote_field_same (·.notified) _ _ _ _ fun _ => rfl
@[simp] theorem decDisc_f_expiry (s : State) (k : NoteId) (j : NoteId) :
    ((s.decDisc k).notes j).expiry = (s.notes j).expiry :=
  modNote_field_same (·.expiry) _ _ _ _ fun _ => rfl
@[simp] theorem decDisc_f_disconnecting (s : State) (k : NoteId) (j : NoteId) :
    ((s.decDisc k).notes j).disconnecting = if j = k then (s.notes j).disconnecting - 1 else (s.notes j).disconnecting :=
  modNote_field (·.disconnecting) _ _ _ _
@[simp] theorem decDisc_f_waiters (s : State) (k : NoteId) (j : NoteId) :
    ((s.decDisc k).notes j).waiters = (s.notes j).waiters :=
  modNote_field_same (·.waiters) _ _ _ _ fun _ => rfl
@[simp] theorem decDisc_f_lockHolder (s : State) (k : NoteId) (j : NoteId) :
    ((s.decDisc k).notes j).lockHolder = (s.notes j).lockHolder :=
  modNote_field_same (·.lockHolder) _ _ _ _ fun _ => rfl
@[simp] theorem decDisc_f_allocated (s : State) (k : NoteId) (j : NoteId) :
    ((s.decDisc k).notes j).allocated = (s.notes j).allocated :=
  modNote_field_same (·.allocated) _ _ _ _ fun _ => rfl
@[simp] theorem decDisc_f_freed (s : State) (k : NoteId) (j : NoteId) :
    ((s.decDisc k).notes j).freed = (s.notes j).freed :=
  modNote_field_same (·.freed) _ _ _ _ fun _ => rfl
@[simp] theorem decDisc_f_adopted (s : State) (k : NoteId) (j : NoteId) :
    ((s.decDisc k).notes j).adopted = (s.notes j).adopted :=
  modNote_field_same (·.adopted) _ _ _ _ fun _ => rfl
@[simp] theorem setWaiters_recs (s : State) (k : NoteId) (ws : List Rid) : (s.setWaiters k ws).recs = s.recs := rfl
@[simp] theorem setWaiters_now (s : State) (k : NoteId) (ws : List Rid) : (s.setWaiters k ws).now = s.now := rfl
@[simp] theorem setWaiters_pc (s : State) (k : NoteId) (ws : List Rid) : (s.setWaiters k ws).pc = s.pc := rfl
@[simp] theorem setWaiters_users (s : State) (k : NoteId) (ws : List Rid) : (s.setWaiters k ws).users = s.users := rfl
@[simp] theorem setWaiters_freeing (s : State) (k : NoteId) (ws : List Rid) : (s.setWaiters k ws).freeing = s.freeing := rfl
@[simp] theorem setWaiters_published (s : State) (k : NoteId) (ws : List Rid) : (s.setWaiters k ws).published = s.published := rfl
@[simp] theorem setWaiters_notifyCalled (s : State) (k : NoteId) (ws : List Rid) : (s.setWaiters k ws).notifyCalled = s.notifyCalled := rfl
@[simp] theorem setWaiters_ownDl (s : State) (k : NoteId) (ws : List Rid) : (s.setWaiters k ws).ownDl = s.ownDl := rfl
@[simp] theorem setWaiters_cparent (s : State) (k : NoteId) (ws : List Rid) : (s.setWaiters k ws).cparent = s.cparent := rfl
@[simp] theorem setWaiters_ancEver (s : State) (k : NoteId) (ws : List Rid) : (s.setWaiters k ws).ancEver = s.ancEver := rfl
@[simp] theorem setWaiters_pathMin (s : State) (k : NoteId) (ws : List Rid) : (s.setWaiters k ws).pathMin = s.pathMin := rfl
@[simp] theorem setWaiters_bornNotified (s : State) (k : NoteId) (ws : List Rid) : (s.setWaiters k ws).bornNotified = s.bornNotified := rfl
@[simp] theorem setWaiters_after (s : State) (k : NoteId) (ws : List Rid) : (s.setWaiters k ws).after = s.after := rfl
@[simp] theorem setWaiters_observed (s : State) (k : NoteId) (ws : List Rid) : (s.setWaiters k ws).observed = s.observed := rfl
@[simp] theorem setWaiters_f_parent (s : State) (k : NoteId) (ws : List Rid) (j : NoteId) :
    ((s.setWaiters k ws).notes j).parent = (s.notes j).parent :=
  modNote_field_same (·.parent) _ _ _ _ fun _ => rfl
@[simp] theorem setWaiters_f_children (s : State) (k : NoteId) (ws : List Rid) (j : NoteId) :
    ((s.setWaiters k ws).notes j).children = (s.notes j).children :=
  modNote_field_same (·.children) _ _ _ _ fun _ => rfl
@[simp] theorem setWaiters_f_notified (s : State) (k : NoteId) (ws : List Rid) (j : NoteId) :
    ((s.setWaiters k ws).notes j).notified = (s.notes j).notified :=
  modNote_field_same (·.notified) _ _ _ _ fun _ => rfl
@[simp] theorem setWaiters_f_expiry (s : State) (k : NoteId) (ws : List Rid) (j : NoteId) :
    ((s.setWaiters k ws).notes j).expiry = (s.notes j).expiry :=
  modNote_field_same (·.expiry) _ _ _ _ fun _ => rfl
@[simp] theorem setWaiters_f_disconnecting (s : State) (k : NoteId) (ws : List Rid) (j : NoteId) :
    ((s.setWaiters k ws).notes j).disconnecting = (s.notes j).disconnecting :=
  modNote_field_same (·.disconnecting) _ _ _ _ fun _ => rfl
@[simp] theorem setWaiters_f_waiters (s : State) (k : NoteId) (ws : List Rid) (j : NoteId) :
    ((s.setWaiters k ws).notes j).waiters = if j = k then ws else (s.notes j).waiters :=
  modNote_field (·.waiters) _ _ _ _
@[simp] theorem setWaiters_f_lockHolder (s : State) (k : NoteId) (ws : List Rid) (j : NoteId) :
    ((s.setWaiters k ws).notes j).lockHolder = (s.notes j).lockHolder :=
  modNote_field_same (·.lockHolder) _ _ _ _ fun _ => rfl
@[simp] theorem setWaiters_f_allocated (s : State) (k : NoteId) (ws : List Rid) (j : NoteId) :
    ((s.setWaiters k ws).notes j).allocated = (s.notes j).allocated :=
  modNote_field_same (·.allocated) _ _ _ _ fun _ => rfl
@[simp] theorem setWaiters_f_freed (s : State) (k : NoteId) (ws : List Rid) (j : NoteId) :
    ((s.setWaiters k ws).notes j).freed = (s.notes j).freed :=
  modNote_field_same (·.freed) _ _ _ _ fun _ => rfl
@[simp] theorem setWaiters_f_adopted (s : State) (k : NoteId) (ws : List Rid) (j : NoteId) :
    ((s.setWaiters k ws).notes j).adopted = (s.notes j).adopted :=
  modNote_field_same (·.adopted) _ _ _ _ fun _ => rfl
@[simp] theorem setAdopted_recs (s : State) (k : NoteId) (b : Bool) : (s.setAdopted k b).recs = s.recs := rfl
@[simp] theorem setAdopted_now (s : State) (k : NoteId) (b : Bool) : (s.setAdopted k b).now = s.now := rfl
@[simp] theorem setAdopted_pc (s : State) (k : NoteId) (b : Bool) : (s.setAdopted k b).pc = s.pc := rfl
@[simp] theorem setAdopted_users (s : State) (k : NoteId) (b : Bool) : (s.setAdopted k b).users = s.users := rfl
@[simp] theorem setAdopted_freeing (s : State) (k : NoteId) (b : Bool) : (s.setAdopted k b).freeing = s.freeing := rfl
@[simp] theorem setAdopted_published (s : State) (k : NoteId) (b : Bool) : (s.setAdopted k b).published = s.published := rfl
@[simp] theorem setAdopted_notifyCalled (s : State) (k : NoteId) (b : Bool) : (s.setAdopted k b).notifyCalled = s.notifyCalled := rfl
@[simp] theorem setAdopted_ownDl (s : State) (k : NoteId) (b : Bool) : (s.setAdopted k b).ownDl = s.ownDl := rfl
@[simp] theorem setAdopted_cparent (s : State) (k : NoteId) (b : Bool) : (s.setAdopted k b).cparent = s.cparent := rfl
@[simp] theorem setAdopted_ancEver (s : State) (k : NoteId) (b : Bool) : (s.setAdopted k b).ancEver = s.ancEver := rfl
@[simp] theorem setAdopted_pathMin (s : State) (k : NoteId) (b : Bool) : (s.setAdopted k b).pathMin = s.pathMin := rfl
@[simp] theorem setAdopted_bornNotified (s : State) (k : NoteId) (b : Bool) : (s.setAdopted k b).bornNotified = s.bornNotified := rfl
@[simp] theorem setAdopted_after (s : State) (k : NoteId) (b : Bool) : (s.setAdopted k b).after = s.after := rfl
@[simp] theorem setAdopted_observed (s : State) (k : NoteId) (b : Bool) : (s.setAdopted k b).observed = s.observed := rfl
@[simp] theorem setAdopted_f_parent (s : State) (k : NoteId) (b : Bool) (j : NoteId) :
    ((s.setAdopted k b).notes j).parent = (s.notes j).parent :=
  modNote_field_same (·.parent) _ _ _ _ fun _ => rfl
@[simp] theorem setAdopted_f_children (s : State) (k : NoteId) (b : Bool) (j : NoteId) :
    ((s.setAdopted k b).notes j).children = (s.notes j).children :=
  modNote_field_same (·.children) _ _ _ _ fun _ => rfl
@[simp] theorem setAdopted_f_notified (s : State) (k : NoteId) (b : Bool) (j : NoteId) :
    ((s.setAdopted k b).notes j).notified = (s.notes j).notified :=
  modNote_field_same (·.notified) _ _ _ _ fun _ => rfl
@[simp] theorem setAdopted_f_expiry (s : State) (k : NoteId) (b : Bool) (j : NoteId) :
    ((s.setAdopted k b).notes j).expiry = (s.notes j).expiry :=
  modNote_field_same (·.expiry) _ _ _ _ fun _ => rfl
@[simp] theorem setAdopted_f_disconnecting (s : State) (k : NoteId) (b : Bool) (j : NoteId) :
    ((s.setAdopted k b).notes j).disconnecting = (s.notes j).disconnecting :=
  modNote_field_same (·.disconnecting) _ _ _ _ fun _ => rfl
@[simp] theorem setAdopted_f_waiters (s : State) (k : NoteId) (b : Bool) (j : NoteId) :
    ((s.setAdopted k b).notes j).waiters = (s.notes j).waiters :=
  modNote_field_same (·.waiters) _ _ _ _ fun _ => rfl
@[simp] theorem setAdopted_f_lockHolder (s : State) (k : NoteId) (b : Bool) (j : NoteId) :
    ((s.setAdopted k b).notes j).lockHolder = (s.notes j).lockHolder :=
  modNote_field_same (·.lockHolder) _ _ _ _ fun _ => rfl
@[simp] theorem setAdopted_f_allocated (s : State) (k : NoteId) (b : Bool) (j : NoteId) :
    ((s.setAdopted k b).notes j).allocated = (s.notes j).allocated :=
  modNote_field_same (·.allocated) _ _ _ _ fun _ => rfl
@[simp] theorem setAdopted_f_freed (s : State) (k : NoteId) (b : Bool) (j : NoteId) :
    ((s.setAdopted k b).notes j).freed = (s.notes j).freed :=
  modNote_field_same (·.freed) _ _ _ _ fun _ => rfl
@[simp] theorem setAdopted_f_adopted (s : State) (k : NoteId) (b : Bool) (j : NoteId) :
    ((s.setAdopted k b).notes j).adopted = if j = k then b else (s.notes j).adopted :=
  modNote_field (·.adopted) _ _ _ _
@[simp] theorem setExpiry_recs (s : State) (k : NoteId) (d : Dl) : (s.setExpiry k d).recs = s.recs := rfl
@[simp] theorem setExpiry_now (s : State) (k : NoteId) (d : Dl) : (s.setExpiry k d).now = s.now := rfl
@[simp] theorem setExpiry_pc (s : State) (k : NoteId) (d : Dl) : (s.setExpiry k d).pc = s.pc := rfl
@[simp] theorem setExpiry_users (s : State) (k : NoteId) (d : Dl) : (s.setExpiry k d).users = s.users := rfl
@[simp] theorem setExpiry_freeing (s : State) (k : NoteId) (d : Dl) : (s.setExpiry k d).freeing = s.freeing := rfl
@[simp] theorem setExpiry_published (s : State) (k : NoteId) (d : Dl) : (s.setExpiry k d).published = s.published := rfl
@[simp] theorem setExpiry_notifyCalled (s : State) (k : NoteId) (d : Dl) : (s.setExpiry k d).notifyCalled = s.notifyCalled := rfl
@[simp] theorem setExpiry_ownDl (s : State) (k : NoteId) (d : Dl) : (s.setExpiry k d).ownDl = s.ownDl := rfl
@[simp] theorem setExpiry_cparent (s : State) (k : NoteId) (d : Dl) : (s.setExpiry k d).cparent = s.cparent := rfl
@[simp] theorem setExpiry_ancEver (s : State) (k : NoteId) (d : Dl) : (s.setExpiry k d).ancEver = s.ancEver := rfl
@[simp] theorem setExpiry_pathMin (s : State) (k : NoteId) (d : Dl) : (s.setExpiry k d).pathMin = s.pathMin := rfl
@[simp] theorem setExpiry_bornNotified (s : State) (k : NoteId) (d : Dl) : (s.setExpiry k d).bornNotified = s.bornNotified := rfl
@[simp] theorem setExpiry_after (s : State) (k : NoteId) (d : Dl) : (s.setExpiry k d).after = s.after := rfl
@[simp] theorem setExpiry_observed (s : State) (k : NoteId) (d : Dl) : (s.setExpiry k d).observed = s.observed := rfl
@[simp] theorem setExpiry_f_parent (s : State) (k : NoteId) (d : Dl) (j : NoteId) :
    ((s.setExpiry k d).notes j).parent = (s.notes j).parent :=
  modNote_field_same (·.parent) _ _ _ _ fun _ => rfl
@[simp] theorem setExpiry_f_children (s : State) (k : NoteId) (d : Dl) (j : NoteId) :
    ((s.setExpiry k d).notes j).children = (s.notes j).children :=
  modNote_field_same (·.children) _ _ _ _ fun _ => rfl
@[simp] theorem setExpiry_f_notified (s : State) (k : NoteId) (d : Dl) (j : NoteId) :
    ((s.setExpiry k d).notes j).notified = (s.notes j).notified :=
  modNote_field_same (·.notified) _ _ _ _ fun _ => rfl
@[simp] theorem setExpiry_f_expiry (s : State) (k : NoteId) (d : Dl) (j : NoteId) :
    ((s.setExpiry k d).notes j).expiry = if j = k then d else (s.notes j).expiry :=
  modNote_field (·.expiry) _ _ _ _
@[simp] theorem setExpiry_f_disconnecting (s : State) (k : NoteId) (d : Dl) (j : NoteId) :
    ((s.setExpiry k d).notes j).disconnecting = (s.notes j).disconnecting :=
  modNote_field_same (·.disconnecting) _ _ _ _ fun _ => rfl
@[simp] theorem setExpiry_f_waiters (s : State) (k : NoteId) (d : Dl) (j : NoteId) :
    ((s.setExpiry k d).notes j).waiters = (s.notes j).waiters :=
  modNote_field_same (·.waiters) _ _ _ _ fun _ => rfl
@[simp] theorem setExpiry_f_lockHolder (s : State) (k : NoteId) (d : Dl) (j : NoteId) :
    ((s.setExpiry k d).notes j).lockHolder = (s.notes j).lockHolder :=
  modNote_field_same (·.lockHolder) _ _ _ _ fun _ => rfl
@[simp] theorem setExpiry_f_allocated (s : State) (k : NoteId) (d : Dl) (j : NoteId) :
    ((s.setExpiry k d).notes j).allocated = (s.notes j).allocated :=
  modNote_field_same (·.allocated) _ _ _ _ fun _ => rfl
@[simp] theorem setExpiry_f_freed (s : State) (k : NoteId) (d : Dl) (j : NoteId) :
    ((s.setExpiry k d).notes j).freed = (s.notes j).freed :=
  modNote_field_same (·.freed) _ _ _ _ fun _ => rfl
@[simp] theorem setExpiry_f_adopted (s : State) (k : NoteId) (d : Dl) (j : NoteId) :
    ((s.setExpiry k d).notes j).adopted = (s.notes j).adopted :=
  modNote_field_same (·.adopted) _ _ _ _ fun _ => rfl
@[simp] theorem setNotified_recs (s : State) (k : NoteId) : (s.setNotified k).recs = s.recs := rfl
@[simp] theorem setNotified_now (s : State) (k : NoteId) : (s.setNotified k).now = s.now := rfl
@[simp] theorem setNotified_pc (s : State) (k : NoteId) : (s.setNotified k).pc = s.pc := rfl
@[simp] theorem setNotified_users (s : State) (k : NoteId) : (s.setNotified k).users = s.users := rfl
@[simp] theorem setNotified_freeing (s : State) (k : NoteId) : (s.setNotified k).freeing = s.freeing := rfl
@[simp] theorem setNotified_published (s : State) (k : NoteId) : (s.setNotified k).published = s.published := rfl
@[simp] theorem setNotified_notifyCalled (s : State) (k : NoteId) : (s.setNotified k).notifyCalled = s.notifyCalled := rfl
@[simp] theorem setNotified_ownDl (s : State) (k : NoteId) : (s.setNotified k).ownDl = s.ownDl := rfl
@[simp] theorem setNotified_cparent (s : State) (k : NoteId) : (s.setNotified k).cparent = s.cparent := rfl
@[simp] theorem setNotified_ancEver (s : State) (k : NoteId) : (s.setNotified k).ancEver = s.ancEver := rfl
@[simp] theorem setNotified_pathMin (s : State) (k : NoteId) : (s.setNotified k).pathMin = s.pathMin := rfl
@[simp] theorem setNotified_bornNotified (s : State) (k : NoteId) : (s.setNotified k).bornNotified = s.bornNotified := rfl
@[simp] theorem setNotified_after (s : State) (k : NoteId) : (s.setNotified k).after = s.after := rfl
@[simp] theorem setNotified_observed (s : State) (k : NoteId) : (s.setNotified k).observed = s.observed := rfl
@[simp] theorem setNotified_f_parent (s : State) (k : NoteId) (j : NoteId) :
    ((s.setNotified k).notes j).parent = (s.notes j).parent :=
  modNote_field_same (·.parent) _ _ _ _ fun _ => rfl
@[simp] theorem setNotified_f_children (s : State) (k : NoteId) (j : NoteId) :
    ((s.setNotified k).notes j).children = (s.notes j).children :=
  modNote_field_same (·.children) _ _ _ _ fun _ => rfl
@[simp] theorem setNotified_f_notified (s : State) (k : NoteId) (j : NoteId) :
    ((s.setNotified k).notes j).notified = if j = k then true else (s.notes j).notified :=
  modNote_field (·.notified) _ _ _ _
@[simp] theorem setNotified_f_expiry (s : State) (k : NoteId) (j : NoteId) :
    ((s.setNotified k).notes j).expiry = (s.notes j).expiry :=
  modNote_field_same (·.expiry) _ _ _ _ fun _ => rfl
@[simp] theorem setNotified_f_disconnecting (s : State) (k : NoteId) (j : NoteId) :
    ((s.setNotified k).notes j).disconnecting = (s.notes j).disconnecting :=
  modNote_field_same (·.disconnecting) _ _ _ _ fun _ => rfl
@[simp] theorem setNotified_f_waiters (s : State) (k : NoteId) (j : NoteId) :
    ((s.setNotified k).notes j).waiters = (s.notes j).waiters :=
  modNote_field_same (·.waiters) _ _ _ _ fun _ => rfl
@[simp] theorem setNotified_f_lockHolder (s : State) (k : NoteId) (j : NoteId) :
    ((s.setNotified k).notes j).lockHolder = (s.notes j).lockHolder :=
  modNote_field_same (·.lockHolder) _ _ _ _ fun _ => rfl
@[simp] theorem setNotified_f_allocated (s : State) (k : NoteId) (j : NoteId) :
    ((s.setNotified k).notes j).allocated = (s.notes j).allocated :=
  modNote_field_same (·.allocated) _ _ _ _ fun _ => rfl
@[simp] theorem setNotified_f_freed (s : State) (k : NoteId) (j : NoteId) :
    ((s.setNotified k).notes j).freed = (s.notes j).freed :=
  modNote_field_same (·.freed) _ _ _ _ fun _ => rfl
@[simp] theorem setNotified_f_adopted (s : State) (k : NoteId) (j : NoteId) :
    ((s.setNotified k).notes j).adopted = (s.notes j).adopted :=
  modNote_field_same (·.adopted) _ _ _ _ fun _ => rfl
@[simp] theorem markFreed_recs (s : State) (k : NoteId) : (s.markFreed k).recs = s.recs := rfl
@[simp] theorem markFreed_now (s : State) (k : NoteId) : (s.markFreed k).now = s.now := rfl
@[simp] theorem markFreed_pc (s : State) (k : NoteId) : (s.markFreed k).pc = s.pc := rfl
@[simp] theorem markFreed_users (s : State) (k : NoteId) : (s.markFreed k).users = s.users := rfl
@[simp] theorem markFreed_freeing (s : State) (k : NoteId) : (s.markFreed k).freeing = s.freeing := rfl
@[simp] theorem markFreed_published (s : State) (k : NoteId) : (s.markFreed k).published = s.published := rfl
@[simp] theorem markFreed_notifyCalled (s : State) (k : NoteId) : (s.markFreed k).notifyCalled = s.notifyCalled := rfl
@[simp] theorem markFreed_ownDl (s : State) (k : NoteId) : (s.markFreed k).ownDl = s.ownDl := rfl
@[simp] theorem markFreed_cparent (s : State) (k : NoteId) : (s.markFreed k).cparent = s.cparent := rfl
@[simp] theorem markFreed_ancEver (s : State) (k : NoteId) : (s.markFreed k).ancEver = s.ancEver := rfl
@[simp] theorem markFreed_pathMin (s : State) (k : NoteId) : (s.markFreed k).pathMin = s.pathMin := rfl
@[simp] theorem markFreed_bornNotified (s : State) (k : NoteId) : (s.markFreed k).bornNotified = s.bornNotified := rfl
@[simp] theorem markFreed_after (s : State) (k : NoteId) : (s.markFreed k).after = s.after := rfl
@[simp] theorem markFreed_observed (s : State) (k : NoteId) : (s.markFreed k).observed = s.observed := rfl
@[simp] theorem markFreed_f_parent (s : State) (k : NoteId) (j : NoteId) :
    ((s.markFreed k).notes j).parent = (s.notes j).parent :=
  modNote_field_same (·.parent) _ _ _ _ fun _ => rfl
@[simp] theorem markFreed_f_children (s : State) (k : NoteId) (j : NoteId) :
    ((s.markFreed k).notes j).children = (s.notes j).children :=
  modNote_field_same (·.children) _ _ _ _ fun _ => rfl
@[simp] theorem markFreed_f_notified (s : State) (k : NoteId) (j : NoteId) :
    ((s.markFreed k).notes j).notified = (s.notes j).notified :=
  modNote_field_same (·.notified) _ _ _ _ fun _ => rfl
@[simp] theorem markFreed_f_expiry (s : State) (k : NoteId) (j : NoteId) :
    ((s.markFreed k).notes j).expiry = (s.notes j).expiry :=
  modNote_field_same (·.expiry) _ _ _ _ fun _ => rfl
@[simp] theorem markFreed_f_disconnecting (s : State) (k : NoteId) (j : NoteId) :
    ((s.markFreed k).notes j).disconnecting = (s.notes j).disconnecting :=
  modNote_field_same (·.disconnecting) _ _ _ _ fun _ => rfl
@[simp] theorem markFreed_f_waiters (s : State) (k : NoteId) (j : NoteId) :
    ((s.markFreed k).notes j).waiters = (s.notes j).waiters :=
  modNote_field_same (·.waiters) _ _ _ _ fun _ => rfl
@[simp] theorem markFreed_f_lockHolder (s : State) (k : NoteId) (j : NoteId) :
    ((s.markFreed k).notes j).lockHolder = (s.notes j).lockHolder :=
  modNote_field_same (·.lockHolder) _ _ _ _ fun _ => rfl
@[simp] theorem markFreed_f_allocated (s : State) (k : NoteId) (j : NoteId) :
    ((s.markFreed k).notes j).allocated = (s.notes j).allocated :=
  modNote_field_same (·.allocated) _ _ _ _ fun _ => rfl
@[simp] theorem markFreed_f_freed (s : State) (k : NoteId) (j : NoteId) :
    ((s.markFreed k).notes j).freed = if j = k then true else (s.notes j).freed :=
  modNote_field (·.freed) _ _ _ _
@[simp] theorem markFreed_f_adopted (s : State) (k : NoteId) (j : NoteId) :
    ((s.markFreed k).notes j).adopted = (s.notes j).adopted :=
  modNote_field_same (·.adopted) _ _ _ _ fun _ => rfl
@[simp] theorem eraseChild_recs (s : State) (n c : NoteId) : (s.eraseChild n c).recs = s.recs := rfl
@[simp] theorem eraseChild_now (s : State) (n c : NoteId) : (s.eraseChild n c).now = s.now := rfl
@[simp] theorem eraseChild_pc (s : State) (n c : NoteId) : (s.eraseChild n c).pc = s.pc := rfl
@[simp] theorem eraseChild_users (s : State) (n c : NoteId) : (s.eraseChild n c).users = s.users := rfl
@[simp] theorem eraseChild_freeing (s : State) (n c : NoteId) : (s.eraseChild n c).freeing = s.freeing := rfl
@[simp] theorem eraseChild_published (s : State) (n c : NoteId) : (s.eraseChild n c).published = s.published := rfl
@[simp] theorem eraseChild_notifyCalled (s : State) (n c : NoteId) : (s.eraseChild n c).notifyCalled = s.notifyCalled := rfl
@[simp] theorem eraseChild_ownDl (s : State) (n c : NoteId) : (s.eraseChild n c).ownDl = s.ownDl := rfl
@[simp] theorem eraseChild_cparent (s : State) (n c : NoteId) : (s.eraseChild n c).cparent = s.cparent := rfl
@[simp] theorem eraseChild_ancEver (s : State) (n c : NoteId) : (s.eraseChild n c).ancEver = s.ancEver := rfl
@[simp] theorem eraseChild_pathMin (s : State) (n c : NoteId) : (s.eraseChild n c).pathMin = s.pathMin := rfl
@[simp] theorem eraseChild_bornNotified (s : State) (n c : NoteId) : (s.eraseChild n c).bornNotified = s.bornNotified := rfl
@[simp] theorem eraseChild_after (s : State) (n c : NoteId) : (s.eraseChild n c).after = s.after := rfl
@[simp] theorem eraseChild_observed (s : State) (n c : NoteId) : (s.eraseChild n c).observed = s.observed := rfl
@[simp] theorem eraseChild_f_parent (s : State) (n c : NoteId) (j : NoteId) :
    ((s.eraseChild n c).notes j).parent = (s.notes j).parent :=
  modNote_field_same (·.parent) _ _ _ _ fun _ => rfl
@[simp] theorem eraseChild_f_children (s : State) (n c : NoteId) (j : NoteId) :
    ((s.eraseChild n c).notes j).children = if j = n then (s.notes j).children.erase c else (s.notes j).children :=
  modNote_field (·.children) _ _ _ _
@[simp] theorem eraseChild_f_notified (s : State) (n c : NoteId) (j : NoteId) :
    ((s.eraseChild n c).notes j).notified = (s.notes j).notified :=
  modNote_field_same (·.notified) _ _ _ _ fun _ => rfl
@[simp] theorem eraseChild_f_expiry (s : State) (n c : NoteId) (j : NoteId) :
    ((s.eraseChild n c).notes j).expiry = (s.notes j).expiry :=
  modNote_field_same (·.expiry) _ _ _ _ fun _ => rfl
@[simp] theorem eraseChild_f_disconnecting (s : State) (n c : NoteId) (j : NoteId) :
    ((s.eraseChild n c).notes j).disconnecting = (s.notes j).disconnecting :=
  modNote_field_same (·.disconnecting) _ _ _ _ fun _ => rfl
@[simp] theorem eraseChild_f_waiters (s : State) (n c : NoteId) (j : NoteId) :
    ((s.eraseChild n c).notes j).waiters = (s.notes j).waiters :=
  modNote_field_same (·.waiters) _ _ _ _ fun _ => rfl
@[simp] theorem eraseChild_f_lockHolder (s : State) (n c : NoteId) (j : NoteId) :
    ((s.eraseChild n c).notes j).lockHolder = (s.notes j).lockHolder :=
  modNote_field_same (·.lockHolder) _ _ _ _ fun _ => rfl
@[simp] theorem eraseChild_f_allocated (s : State) (n c : NoteId) (j : NoteId) :
    ((s.eraseChild n c).notes j).allocated = (s.notes j).allocated :=
  modNote_field_same (·.allocated) _ _ _ _ fun _ => rfl
@[simp] theorem eraseChild_f_freed (s : State) (n c : NoteId) (j : NoteId) :
    ((s.eraseChild n c).notes j).freed = (s.notes j).freed :=
  modNote_field_same (·.freed) _ _ _ _ fun _ => rfl
@[simp] theorem eraseChild_f_adopted (s : State) (n c : NoteId) (j : NoteId) :
    ((s.eraseChild n c).notes j).adopted = (s.notes j).adopted :=
  modNote_field_same (·.adopted) _ _ _ _ fun _ => rfl
@[simp] theorem clearParent_recs (s : State) (c : NoteId) : (s.clearParent c).recs = s.recs := rfl
@[simp] theorem clearParent_now (s : State) (c : NoteId) : (s.clearParent c).now = s.now := rfl
@[simp] theorem clearParent_pc (s : State) (c : NoteId) : (s.clearParent c).pc = s.pc := rfl
@[simp] theorem clearParent_users (s : State) (c : NoteId) : (s.clearParent c).users = s.users := rfl
@[simp] theorem clearParent_freeing (s : State) (c : NoteId) : (s.clearParent c).freeing = s.freeing := rfl
@[simp] theorem clearParent_published (s : State) (c : NoteId) : (s.clearParent c).published = s.published := rfl
@[simp] theorem clearParent_notifyCalled (s : State) (c : NoteId) : (s.clearParent c).notifyCalled = s.notifyCalled := rfl
@[simp] theorem clearParent_ownDl (s : State) (c : NoteId) : (s.clearParent c).ownDl = s.ownDl := rfl
@[simp] theorem clearParent_cparent (s : State) (c : NoteId) : (s.clearParent c).cparent = s.cparent := rfl
@[simp] theorem clearParent_ancEver (s : State) (c : NoteId) : (s.clearParent c).ancEver = s.ancEver := rfl
@[simp] theorem clearParent_pathMin (s : State) (c : NoteId) : (s.clearParent c).pathMin = s.pathMin := rfl
@[simp] theorem clearParent_bornNotified (s : State) (c : NoteId) : (s.clearParent c).bornNotified = s.bornNotified := rfl
@[simp] theorem clearParent_after (s : State) (c : NoteId) : (s.clearParent c).after = s.after := rfl
@[simp] theorem clearParent_observed (s : State) (c : NoteId) : (s.clearParent c).observed = s.observed := rfl
@[simp] theorem clearParent_f_parent (s : State) (c : NoteId) (j : NoteId) :
    ((s.clearParent c).notes j).parent = if j = c then none else (s.notes j).parent :=
  modNote_field (·.parent) _ _ _ _
@[simp] theorem clearParent_f_children (s : State) (c : NoteId) (j : NoteId) :
    ((s.clearParent c).notes j).children = (s.notes j).children :=
  modNote_field_same (·.children) _ _ _ _ fun _ => rfl
@[simp] theorem clearParent_f_notified (s : State) (c : NoteId) (j : NoteId) :
    ((s.clearParent c).notes j).notified = (s.notes j).notified :=
  modNote_field_same (·.notified) _ _ _ _ fun _ => rfl
@[simp] theorem clearParent_f_expiry (s : State) (c : NoteId) (j : NoteId) :
    ((s.clearParent c).notes j).expiry = (s.notes j).expiry :=
  modNote_field_same (·.expiry) _ _ _ _ fun _ => rfl
@[simp] theorem clearParent_f_disconnecting (s : State) (c : NoteId) (j : NoteId) :
    ((s.clearParent c).notes j).disconnecting = (s.notes j).disconnecting :=
  modNote_field_same (·.disconnecting) _ _ _ _ fun _ => rfl
@[simp] theorem clearParent_f_waiters (s : State) (c : NoteId) (j : NoteId) :
    ((s.clearParent c).notes j).waiters = (s.notes j).waiters :=
  modNote_field_same (·.waiters) _ _ _ _ fun _ => rfl
@[simp] theorem clearParent_f_lockHolder (s : State) (c : NoteId) (j : NoteId) :
    ((s.clearParent c).notes j).lockHolder = (s.notes j).lockHolder :=
  modNote_field_same (·.lockHolder) _ _ _ _ fun _ => rfl
@[simp] theorem clearParent_f_allocated (s : State) (c : NoteId) (j : NoteId) :
    ((s.clearParent c).notes j).allocated = (s.notes j).allocated :=
  modNote_field_same (·.allocated) _ _ _ _ fun _ => rfl
@[simp] theorem clearParent_f_freed (s : State) (c : NoteId) (j : NoteId) :
    ((s.clearParent c).notes j).freed = (s.notes j).freed :=
  modNote_field_same (·.freed) _ _ _ _ fun _ => rfl
@[simp] theorem clearParent_f_adopted (s : State) (c : NoteId) (j : NoteId) :
    ((s.clearParent c).notes j).adopted = (s.notes j).adopted :=
  modNote_field_same (·.adopted) _ _ _ _ fun _ => rfl
@[simp] theorem link_recs (s : State) (c p : NoteId) : (s.link c p).recs = s.recs := rfl
@[simp] theorem link_now (s : State) (c p : NoteId) : (s.link c p).now = s.now := rfl
@[simp] theorem link_pc (s : State) (c p : NoteId) : (s.link c p).pc = s.pc := rfl
@[simp] theorem link_users (s : State) (c p : NoteId) : (s.link c p).users = s.users := rfl
@[simp] theorem link_freeing (s : State) (c p : NoteId) : (s.link c p).freeing = s.freeing := rfl
@[simp] theorem link_published (s : State) (c p : NoteId) : (s.link c p).published = s.published := rfl
@[simp] theorem link_notifyCalled (s : State) (c p : NoteId) : (s.link c p).notifyCalled = s.notifyCalled := rfl
@[simp] theorem link_ownDl (s : State) (c p : NoteId) : (s.link c p).ownDl = s.ownDl := rfl
@[simp] theorem link_cparent (s : State) (c p : NoteId) : (s.link c p).cparent = s.cparent := rfl
@[simp] theorem link_ancEver (s : State) (c p : NoteId) : (s.link c p).ancEver = s.ancEver := rfl
@[simp] theorem link_pathMin (s : State) (c p : NoteId) : (s.link c p).pathMin = s.pathMin := rfl
@[simp] theorem link_bornNotified (s : State) (c p : NoteId) : (s.link c p).bornNotified = s.bornNotified := rfl
@[simp] theorem link_after (s : State) (c p : NoteId) : (s.link c p).after = s.after := rfl
@[simp] theorem link_observed (s : State) (c p : NoteId) : (s.link c p).observed = s.observed := rfl
@[simp] theorem link_f_parent (s : State) (c p : NoteId) (j : NoteId) :
    ((s.link c p).notes j).parent = if j = c then some p else (s.notes j).parent := by
  simp only [State.link, modNote_field NoteRec.parent, ite_self]
@[simp] theorem link_f_children (s : State) (c p : NoteId) (j : NoteId) :
    ((s.link c p).notes j).children = if j = p then (s.notes j).children ++ [c] else (s.notes j).children := by
  simp only [State.link, modNote_field NoteRec.children, ite_self]
@[simp] theorem link_f_notified (s : State) (c p : NoteId) (j : NoteId) :
    ((s.link c p).notes j).notified = (s.notes j).notified := by
  simp only [State.link, modNote_field NoteRec.notified, ite_self]
@[simp] theorem link_f_expiry (s : State) (c p : NoteId) (j : NoteId) :
    ((s.link c p).notes j).expiry = (s.notes j).expiry := by
  simp only [State.link, modNote_field NoteRec.expiry, ite_self]
@[simp] theorem link_f_disconnecting (s : State) (c p : NoteId) (j : NoteId) :
    ((s.link c p).notes j).disconnecting = (s.notes j).disconnecting := by
  simp only [State.link, modNote_field NoteRec.disconnecting, ite_self]
@[simp] theorem link_f_waiters (s : State) (c p : NoteId) (j : NoteId) :
    ((s.link c p).notes j).waiters = (s.notes j).waiters := by
  simp only [State.link, modNote_field NoteRec.waiters, ite_self]
@[simp] theorem link_f_lockHolder (s : State) (c p : NoteId) (j : NoteId) :
    ((s.link c p).notes j).lockHolder = (s.notes j).lockHolder := by
  simp only [State.link, modNote_field NoteRec.lockHolder, ite_self]
@[simp] theorem link_f_allocated (s : State) (c p : NoteId) (j : NoteId) :
    ((s.link c p).notes j).allocated = (s.notes j).allocated := by
  simp only [State.link, modNote_field NoteRec.allocated, ite_self]
@[simp] theorem link_f_freed (s : State) (c p : NoteId) (j : NoteId) :
    ((s.link c p).notes j).freed = (s.notes j).freed := by
  simp only [State.link, modNote_field NoteRec.freed, ite_self]
@[simp] theorem link_f_adopted (s : State) (c p : NoteId) (j : NoteId) :
    ((s.link c p).notes j).adopted = (s.notes j).adopted := by
  simp only [State.link, modNote_field NoteRec.adopted, ite_self]
@[simp] theorem unlink_recs (s : State) (c p : NoteId) : (s.unlink c p).recs = s.recs := rfl
@[simp] theorem unlink_now (s : State) (c p : NoteId) : (s.unlink c p).now = s.now := rfl
@[simp] theorem unlink_pc (s : State) (c p : NoteId) : (s.unlink c p).pc = s.pc := rfl
@[simp] theorem unlink_users (s : State) (c p : NoteId) : (s.unlink c p).users = s.users := rfl
@[simp] theorem unlink_freeing (s : State) (c p : NoteId) : (s.unlink c p).freeing = s.freeing := rfl
@[simp] theorem unlink_published (s : State) (c p : NoteId) : (s.unlink c p).published = s.published := rfl
@[simp] theorem unlink_notifyCalled (s : State) (c p : NoteId) : (s.unlink c p).notifyCalled = s.notifyCalled := rfl
@[simp] theorem unlink_ownDl (s : State) (c p : NoteId) : (s.unlink c p).ownDl = s.ownDl := rfl
@[simp] theorem unlink_cparent (s : State) (c p : NoteId) : (s.unlink c p).cparent = s.cparent := rfl
@[simp] theorem unlink_ancEver (s : State) (c p : NoteId) : (s.unlink c p).ancEver = s.ancEver := rfl
@[simp] theorem unlink_pathMin (s : State) (c p : NoteId) : (s.unlink c p).pathMin = s.pathMin := rfl
@[simp] theorem unlink_bornNotified (s : State) (c p : NoteId) : (s.unlink c p).bornNotified = s.bornNotified := rfl
@[simp] theorem unlink_after (s : State) (c p : NoteId) : (s.unlink c p).after = s.after := rfl
@[simp] theorem unlink_observed (s : State) (c p : NoteId) : (s.unlink c p).observed = s.observed := rfl
@[simp] theorem unlink_f_parent (s : State) (c p : NoteId) (j : NoteId) :
    ((s.unlink c p).notes j).parent = if j = c then none else (s.notes j).parent := by
  simp only [State.unlink, State.eraseChild, State.clearParent, modNote_field NoteRec.parent, ite_self]
@[simp] theorem unlink_f_children (s : State) (c p : NoteId) (j : NoteId) :
    ((s.unlink c p).notes j).children = if j = p then (s.notes j).children.erase c else (s.notes j).children := by
  simp only [State.unlink, State.eraseChild, State.clearParent, modNote_field NoteRec.children, ite_self]
@[simp] theorem unlink_f_notified (s : State) (c p : NoteId) (j : NoteId) :
    ((s.unlink c p).notes j).notified = (s.notes j).notified := by
  simp only [State.unlink, State.eraseChild, State.clearParent, modNote_field NoteRec.notified, ite_self]
@[simp] theorem unlink_f_expiry (s : State) (c p : NoteId) (j : NoteId) :
    ((s.unlink c p).notes j).expiry = (s.notes j).expiry := by
  simp only [State.unlink, State.eraseChild, State.clearParent, modNote_field NoteRec.expiry, ite_self]
@[simp] theorem unlink_f_disconnecting (s : State) (c p : NoteId) (j : NoteId) :
    ((s.unlink c p).notes j).disconnecting = (s.notes j).disconnecting := by
  simp only [State.unlink, State.eraseChild, State.clearParent, modNote_field NoteRec.disconnecting, ite_self]
@[simp] theorem unlink_f_waiters (s : State) (c p : NoteId) (j : NoteId) :
    ((s.unlink c p).notes j).waiters = (s.notes j).waiters := by
  simp only [State.unlink, State.eraseChild, State.clearParent, modNote_field NoteRec.waiters, ite_self]
@[simp] theorem unlink_f_lockHolder (s : State) (c p : NoteId) (j : NoteId) :
    ((s.unlink c p).notes j).lockHolder = (s.notes j).lockHolder := by
  simp only [State.unlink, State.eraseChild, State.clearParent, modNote_field NoteRec.lockHolder, ite_self]
@[simp] theorem unlink_f_allocated (s : State) (c p : NoteId) (j : NoteId) :
    ((s.unlink c p).notes j).allocated = (s.notes j).allocated := by
  simp only [State.unlink, State.eraseChild, State.clearParent, modNote_field NoteRec.allocated, ite_self]
@[simp] theorem unlink_f_freed (s : State) (c p : NoteId) (j : NoteId) :
    ((s.unlink c p).notes j).freed = (s.notes j).freed := by
  simp only [State.unlink, State.eraseChild, State.clearParent, modNote_field NoteRec.freed, ite_self]
@[simp] theorem unlink_f_adopted (s : State) (c p : NoteId) (j : NoteId) :
    ((s.unlink c p).notes j).adopted = (s.notes j).adopted := by
  simp only [State.unlink, State.eraseChild, State.clearParent, modNote_field NoteRec.adopted, ite_self]
@[simp] theorem allocNote_f (s : State) (k : NoteId) (par : Option NoteId) (dl : Dl) (j : NoteId) :
    (s.allocNote k par dl).notes j =
      if j = k then { NoteRec.blank with expiry := dl, allocated := true } else s.notes j := by
  simp [upd_apply]

/-! ### The control transfers, field by field -/

/-- The value of `expiry` after `newExpiry`. -/
def newExpiryVal (s : State) (n : NoteId) (k : DK) (j : NoteId) : Dl :=
  match k with
  | .newSelf (some p) dl => if j = n then Dl.min dl (s.notes p).expiry else (s.notes j).expiry
  | _ => (s.notes j).expiry

@[simp] theorem newExpiryVal_isNotified (s : State) (n j : NoteId) :
    newExpiryVal s n .isNotified j = (s.notes j).expiry := rfl
@[simp] theorem newExpiryVal_notifyApi (s : State) (n j : NoteId) :
    newExpiryVal s n .notifyApi j = (s.notes j).expiry := rfl
@[simp] theorem newExpiryVal_ready1 (s : State) (n j : NoteId) (d : Dl) :
    newExpiryVal s n (.ready1 d) j = (s.notes j).expiry := rfl
@[simp] theorem newExpiryVal_ready2 (s : State) (n j : NoteId) (r : Rid) (d : Dl) :
    newExpiryVal s n (.ready2 r d) j = (s.notes j).expiry := rfl
@[simp] theorem newExpiryVal_dequeue (s : State) (n j : NoteId) (r : Rid) (d : Dl) :
    newExpiryVal s n (.dequeue r d) j = (s.notes j).expiry := rfl
@[simp] theorem newExpiryVal_newSelf_none (s : State) (n j : NoteId) (d : Dl) :
    newExpiryVal s n (.newSelf none d) j = (s.notes j).expiry := rfl
@[simp] theorem newExpiryVal_newSelf_some (s : State) (n j p : NoteId) (d : Dl) :
    newExpiryVal s n (.newSelf (some p) d) j =
      if j = n then Dl.min d (s.notes p).expiry else (s.notes j).expiry := rfl
theorem newExpiryVal_ne (s : State) {n j : NoteId} (k : DK) (h : j ≠ n) :
    newExpiryVal s n k j = (s.notes j).expiry := by
  unfold newExpiryVal; split <;> simp [h]

@[simp] theorem newExpiry_recs (s : State) (n : NoteId) (k : DK) : (newExpiry s n k).recs = s.recs := by
  unfold newExpiry; split <;> rfl
@[simp] theorem newExpiry_now (s : State) (n : NoteId) (k : DK) : (newExpiry s n k).now = s.now := by
  unfold newExpiry; split <;> rfl
@[simp] theorem newExpiry_users (s : State) (n : NoteId) (k : DK) : (newExpiry s n k).users = s.users := by
  unfold newExpiry; split <;> rfl
@[simp] theorem newExpiry_freeing (s : State) (n : NoteId) (k : DK) : (newExpiry s n k).freeing = s.freeing := by
  unfold newExpiry; split <;> rfl
@[simp] theorem newExpiry_published (s : State) (n : NoteId) (k : DK) : (newExpiry s n k).published = s.published := by
  unfold newExpiry; split <;> rfl
@[simp] theorem newExpiry_notifyCalled (s : State) (n : NoteId) (k : DK) : (newExpiry s n k).notifyCalled = s.notifyCalled := by
  unfold newExpiry; split <;> rfl
@[simp] theorem newExpiry_ownDl (s : State) (n : NoteId) (k : DK) : (newExpiry s n k).ownDl = s.ownDl := by
  unfold newExpiry; split <;> rfl
@[simp] theorem newExpiry_cparent (s : State) (n : NoteId) (k : DK) : (newExpiry s n k).cparent = s.cparent := by
  unfold newExpiry; split <;> rfl
@[simp] theorem newExpiry_ancEver (s : State) (n : NoteId) (k : DK) : (newExpiry s n k).ancEver = s.ancEver := by
  unfold newExpiry; split <;> rfl
@[simp] theorem newExpiry_pathMin (s : State) (n : NoteId) (k : DK) : (newExpiry s n k).pathMin = s.pathMin := by
  unfold newExpiry; split <;> rfl
@[simp] theorem newExpiry_after (s : State) (n : NoteId) (k : DK) : (newExpiry s n k).after = s.after := by
  unfold newExpiry; split <;> rfl
@[simp] theorem newExpiry_observed (s : State) (n : NoteId) (k : DK) : (newExpiry s n k).observed = s.observed := by
  unfold newExpiry; split <;> rfl
@[simp] theorem newExpiry_pc (s : State) (n : NoteId) (k : DK) : (newExpiry s n k).pc = s.pc := by
  unfold newExpiry; split <;> rfl
@[simp] theorem newExpiry_bornNotified (s : State) (n : NoteId) (k : DK) : (newExpiry s n k).bornNotified = s.bornNotified := by
  unfold newExpiry; split <;> rfl
@[simp] theorem newExpiry_f_parent (s : State) (n : NoteId) (k : DK) (j : NoteId) :
    ((newExpiry s n k).notes j).parent = (s.notes j).parent := by
  unfold newExpiry; split <;> simp
@[simp] theorem newExpiry_f_children (s : State) (n : NoteId) (k : DK) (j : NoteId) :
    ((newExpiry s n k).notes j).children = (s.notes j).children := by
  unfold newExpiry; split <;> simp
@[simp] theorem newExpiry_f_notified (s : State) (n : NoteId) (k : DK) (j : NoteId) :
    ((newExpiry s n k).notes j).notified = (s.notes j).notified := by
  unfold newExpiry; split <;> simp
@[simp] theorem newExpiry_f_disconnecting (s : State) (n : NoteId) (k : DK) (j : NoteId) :
    ((newExpiry s n k).notes j).disconnecting = (s.notes j).disconnecting := by
  unfold newExpiry; split <;> simp
@[simp] theorem newExpiry_f_waiters (s : State) (n : NoteId) (k : DK) (j : NoteId) :
    ((newExpiry s n k).notes j).waiters = (s.notes j).waiters := by
  unfold newExpiry; split <;> simp
@[simp] theorem newExpiry_f_lockHolder (s : State) (n : NoteId) (k : DK) (j : NoteId) :
    ((newExpiry s n k).notes j).lockHolder = (s.notes j).lockHolder := by
  unfold newExpiry; split <;> simp
@[simp] theorem newExpiry_f_allocated (s : State) (n : NoteId) (k : DK) (j : NoteId) :
    ((newExpiry s n k).notes j).allocated = (s.notes j).allocated := by
  unfold newExpiry; split <;> simp
@[simp] theorem newExpiry_f_freed (s : State) (n : NoteId) (k : DK) (j : NoteId) :
    ((newExpiry s n k).notes j).freed = (s.notes j).freed := by
  unfold newExpiry; split <;> simp
@[simp] theorem newExpiry_f_adopted (s : State) (n : NoteId) (k : DK) (j : NoteId) :
    ((newExpiry s n k).notes j).adopted = (s.notes j).adopted := by
  unfold newExpiry; split <;> simp
@[simp] theorem newExpiry_f_expiry (s : State) (n : NoteId) (k : DK) (j : NoteId) :
    ((newExpiry s n k).notes j).expiry = newExpiryVal s n k j := by
  unfold newExpiry newExpiryVal; split <;> simp
@[simp] theorem afterDeadline_f_parent (s : State) (t : Tid) (n : NoteId) (nt : Dl) (k : DK) (j : NoteId) :
    ((afterDeadline s t n nt k).notes j).parent = (s.notes j).parent := by
  unfold afterDeadline; split <;> simp
@[simp] theorem afterDeadline_f_children (s : State) (t : Tid) (n : NoteId) (nt : Dl) (k : DK) (j : NoteId) :
    ((afterDeadline s t n nt k).notes j).children = (s.notes j).children := by
  unfold afterDeadline; split <;> simp
@[simp] theorem afterDeadline_f_notified (s : State) (t : Tid) (n : NoteId) (nt : Dl) (k : DK) (j : NoteId) :
    ((afterDeadline s t n nt k).notes j).notified = (s.notes j).notified := by
  unfold afterDeadline; split <;> simp
@[simp] theorem afterDeadline_f_disconnecting (s : State) (t : Tid) (n : NoteId) (nt : Dl) (k : DK) (j : NoteId) :
    ((afterDeadline s t n nt k).notes j).disconnecting = (s.notes j).disconnecting := by
  unfold afterDeadline; split <;> simp
@[simp] theorem afterDeadline_f_waiters (s : State) (t : Tid) (n : NoteId) (nt : Dl) (k : DK) (j : NoteId) :
    ((afterDeadline s t n nt k).notes j).waiters = (s.notes j).waiters := by
  unfold afterDeadline; split <;> simp
@[simp] theorem afterDeadline_f_lockHolder (s : State) (t : Tid) (n : NoteId) (nt : Dl) (k : DK) (j : NoteId) :
    ((afterDeadline s t n nt k).notes j).lockHolder = (s.notes j).lockHolder := by
  unfold afterDeadline; split <;> simp
@[simp] theorem afterDeadline_f_allocated (s : State) (t : Tid) (n : NoteId) (nt : Dl) (k : DK) (j : NoteId) :
    ((afterDeadline s t n nt k).notes j).allocated = (s.notes j).allocated := by
  unfold afterDeadline; split <;> simp
@[simp] theorem afterDeadline_f_freed (s : State) (t : Tid) (n : NoteId) (nt : Dl) (k : DK) (j : NoteId) :
    ((afterDeadline s t n nt k).notes j).freed = (s.notes j).freed := by
  unfold afterDeadline; split <;> simp
@[simp] theorem afterDeadline_f_adopted (s : State) (t : Tid) (n : NoteId) (nt : Dl) (k : DK) (j : NoteId) :
    ((afterDeadline s t n nt k).notes j).adopted = (s.notes j).adopted := by
  unfold afterDeadline; split <;> simp
@[simp] theorem afterDeadline_f_expiry (s : State) (t : Tid) (n : NoteId) (nt : Dl) (k : DK) (j : NoteId) :
    ((afterDeadline s t n nt k).notes j).expiry = newExpiryVal s n k j := by
  unfold afterDeadline; split <;> simp
/-- Outside `nsync_note_new` with a parent the notes are left alone. -/
theorem afterDeadline_notes_of (s : State) (t : Tid) (n : NoteId) (nt : Dl) {k : DK}
    (h : ∀ p dl, k ≠ .newSelf (some p) dl) : (afterDeadline s t n nt k).notes = s.notes := by
  have e : newExpiry s n k = s := by
    unfold newExpiry
    split
    · exact absurd rfl (h _ _)
    · rfl
  unfold afterDeadline
  rw [e]
  split <;> rfl
@[simp] theorem afterDeadline_recs (s : State) (t : Tid) (n : NoteId) (nt : Dl) (k : DK) : (afterDeadline s t n nt k).recs = s.recs := by
  unfold afterDeadline; split <;> simp
@[simp] theorem afterDeadline_now (s : State) (t : Tid) (n : NoteId) (nt : Dl) (k : DK) : (afterDeadline s t n nt k).now = s.now := by
  unfold afterDeadline; split <;> simp
@[simp] theorem afterDeadline_users (s : State) (t : Tid) (n : NoteId) (nt : Dl) (k : DK) : (afterDeadline s t n nt k).users = s.users := by
  unfold afterDeadline; split <;> simp
@[simp] theorem afterDeadline_freeing (s : State) (t : Tid) (n : NoteId) (nt : Dl) (k : DK) : (afterDeadline s t n nt k).freeing = s.freeing := by
  unfold afterDeadline; split <;> simp
@[simp] theorem afterDeadline_published (s : State) (t : Tid) (n : NoteId) (nt : Dl) (k : DK) : (afterDeadline s t n nt k).published = s.published := by
  unfold afterDeadline; split <;> simp
@[simp] theorem afterDeadline_notifyCalled (s : State) (t : Tid) (n : NoteId) (nt : Dl) (k : DK) : (afterDeadline s t n nt k).notifyCalled = s.notifyCalled := by
  unfold afterDeadline; split <;> simp
@[simp] theorem afterDeadline_ownDl (s : State) (t : Tid) (n : NoteId) (nt : Dl) (k : DK) : (afterDeadline s t n nt k).ownDl = s.ownDl := by
  unfold afterDeadline; split <;> simp
@[simp] theorem afterDeadline_cparent (s : State) (t : Tid) (n : NoteId) (nt : Dl) (k : DK) : (afterDeadline s t n nt k).cparent = s.cparent := by
  unfold afterDeadline; split <;> simp
@[simp] theorem afterDeadline_ancEver (s : State) (t : Tid) (n : NoteId) (nt : Dl) (k : DK) : (afterDeadline s t n nt k).ancEver = s.ancEver := by
  unfold afterDeadline; split <;> simp
@[simp] theorem afterDeadline_pathMin (s : State) (t : Tid) (n : NoteId) (nt : Dl) (k : DK) : (afterDeadline s t n nt k).pathMin = s.pathMin := by
  unfold afterDeadline; split <;> simp
@[simp] theorem afterDeadline_after (s : State) (t : Tid) (n : NoteId) (nt : Dl) (k : DK) : (afterDeadline s t n nt k).after = s.after := by
  unfold afterDeadline; split <;> simp
@[simp] theorem afterDeadline_observed (s : State) (t : Tid) (n : NoteId) (nt : Dl) (k : DK) : (afterDeadline s t n nt k).observed = s.observed := by
  unfold afterDeadline; split <;> simp
@[simp] theorem afterDeadline_pc (s : State) (t : Tid) (n : NoteId) (nt : Dl) (k : DK) :
    (afterDeadline s t n nt k).pc = upd s.pc t (afterDeadlinePc n nt k) := by
  unfold afterDeadline; split <;> simp
@[simp] theorem afterDeadline_bornNotified (s : State) (t : Tid) (n : NoteId) (nt : Dl) (k : DK) : (afterDeadline s t n nt k).bornNotified =
    (if bornNow nt k then upd s.bornNotified n true else s.bornNotified) := by
  unfold afterDeadline; split <;> simp [*]
@[simp] theorem leave_notes (s : State) (t : Tid) (n : NoteId) : (s.leave t n).notes = s.notes := rfl
@[simp] theorem leave_recs (s : State) (t : Tid) (n : NoteId) : (s.leave t n).recs = s.recs := rfl
@[simp] theorem leave_now (s : State) (t : Tid) (n : NoteId) : (s.leave t n).now = s.now := rfl
@[simp] theorem leave_freeing (s : State) (t : Tid) (n : NoteId) : (s.leave t n).freeing = s.freeing := rfl
@[simp] theorem leave_published (s : State) (t : Tid) (n : NoteId) : (s.leave t n).published = s.published := rfl
@[simp] theorem leave_notifyCalled (s : State) (t : Tid) (n : NoteId) : (s.leave t n).notifyCalled = s.notifyCalled := rfl
@[simp] theorem leave_ownDl (s : State) (t : Tid) (n : NoteId) : (s.leave t n).ownDl = s.ownDl := rfl
@[simp] theorem leave_cparent (s : State) (t : Tid) (n : NoteId) : (s.leave t n).cparent = s.cparent := rfl
@[simp] theorem leave_ancEver (s : State) (t : Tid) (n : NoteId) : (s.leave t n).ancEver = s.ancEver := rfl
@[simp] theorem leave_pathMin (s : State) (t : Tid) (n : NoteId) : (s.leave t n).pathMin = s.pathMin := rfl
@[simp] theorem leave_bornNotified (s : State) (t : Tid) (n : NoteId) : (s.leave t n).bornNotified = s.bornNotified := rfl
@[simp] theorem leave_after (s : State) (t : Tid) (n : NoteId) : (s.leave t n).after = s.after := rfl
@[simp] theorem leave_observed (s : State) (t : Tid) (n : NoteId) : (s.leave t n).observed = s.observed := rfl
@[simp] theorem leave_pc (s : State) (t : Tid) (n : NoteId) : (s.leave t n).pc = upd s.pc t .idle := rfl
@[simp] theorem leave_users (s : State) (t : Tid) (n : NoteId) : (s.leave t n).users = upd s.users n ((s.users n).erase t) := rfl

/-- Where control goes when `notify (n)` returns. -/
def afterNotifyPc (n : NoteId) : NK → PC
  | .ofApi => .retNotify n
  | .ofDeadline k => afterDeadlinePc n (some 0) k

/-- `notify` was called by the `nsync_note_is_notified (n)` of `nsync_note_new`. -/
def NK.bornNow : NK → Bool
  | .ofApi => false
  | .ofDeadline k => Note.bornNow (some 0) k

@[simp] theorem afterNotify_f_parent (s : State) (t : Tid) (n : NoteId) (k : NK) (j : NoteId) :
    ((afterNotify s t n k).notes j).parent = (s.notes j).parent := by
  cases k <;> simp [afterNotify]
@[simp] theorem afterNotify_f_children (s : State) (t : Tid) (n : NoteId) (k : NK) (j : NoteId) :
    ((afterNotify s t n k).notes j).children = (s.notes j).children := by
  cases k <;> simp [afterNotify]
@[simp] theorem afterNotify_f_notified (s : State) (t : Tid) (n : NoteId) (k : NK) (j : NoteId) :
    ((afterNotify s t n k).notes j).notified = (s.notes j).notified := by
  cases k <;> simp [afterNotify]
@[simp] theorem afterNotify_f_disconnecting (s : State) (t : Tid) (n : NoteId) (k : NK) (j : NoteId) :
    ((afterNotify s t n k).notes j).disconnecting = (s.notes j).disconnecting := by
  cases k <;> simp [afterNotify]
@[simp] theorem afterNotify_f_waiters (s : State) (t : Tid) (n : NoteId) (k : NK) (j : NoteId) :
    ((afterNotify s t n k).notes j).waiters = (s.notes j).waiters := by
  cases k <;> simp [afterNotify]
@[simp] theorem afterNotify_f_lockHolder (s : State) (t : Tid) (n : NoteId) (k : NK) (j : NoteId) :
    ((afterNotify s t n k).notes j).lockHolder = (s.notes j).lockHolder := by
  cases k <;> simp [afterNotify]
@[simp] theorem afterNotify_f_allocated (s : State) (t : Tid) (n : NoteId) (k : NK) (j : NoteId) :
    ((afterNotify s t n k).notes j).allocated = (s.notes j).allocated := by
  cases k <;> simp [afterNotify]
@[simp] theorem afterNotify_f_freed (s : State) (t : Tid) (n : NoteId) (k : NK) (j : NoteId) :
    ((afterNotify s t n k).notes j).freed = (s.notes j).freed := by
  cases k <;> simp [afterNotify]
@[simp] theorem afterNotify_f_adopted (s : State) (t : Tid) (n : NoteId) (k : NK) (j : NoteId) :
    ((afterNotify s t n k).notes j).adopted = (s.notes j).adopted := by
  cases k <;> simp [afterNotify]
/-- The value of `expiry` after `notify (n)` has returned to its caller. -/
def NK.expiryVal (s : State) (n : NoteId) (k : NK) (j : NoteId) : Dl :=
  match k with
  | .ofApi => (s.notes j).expiry
  | .ofDeadline dk => newExpiryVal s n dk j
@[simp] theorem NK.expiryVal_ofApi (s : State) (n j : NoteId) :
    NK.expiryVal s n .ofApi j = (s.notes j).expiry := rfl
@[simp] theorem NK.expiryVal_ofDeadline (s : State) (n j : NoteId) (dk : DK) :
    NK.expiryVal s n (.ofDeadline dk) j = newExpiryVal s n dk j := rfl
theorem NK.expiryVal_ne (s : State) {n j : NoteId} (k : NK) (h : j ≠ n) :
    NK.expiryVal s n k j = (s.notes j).expiry := by
  cases k
  · rfl
  · exact newExpiryVal_ne s _ h
@[simp] theorem afterNotify_f_expiry (s : State) (t : Tid) (n : NoteId) (k : NK) (j : NoteId) :
    ((afterNotify s t n k).notes j).expiry = NK.expiryVal s n k j := by
  cases k <;> simp [afterNotify]
theorem afterNotify_notes_of (s : State) (t : Tid) (n : NoteId) {k : NK}
    (h : ∀ p dl, k ≠ .ofDeadline (.newSelf (some p) dl)) : (afterNotify s t n k).notes = s.notes := by
  cases k with
  | ofApi => simp [afterNotify]
  | ofDeadline dk =>
    simp only [afterNotify]
    exact afterDeadline_notes_of s t n _ (fun p dl e => h p dl (by rw [e]))
@[simp] theorem afterNotify_recs (s : State) (t : Tid) (n : NoteId) (k : NK) : (afterNotify s t n k).recs = s.recs := by
  cases k <;> simp [afterNotify]
@[simp] theorem afterNotify_now (s : State) (t : Tid) (n : NoteId) (k : NK) : (afterNotify s t n k).now = s.now := by
  cases k <;> simp [afterNotify]
@[simp] theorem afterNotify_users (s : State) (t : Tid) (n : NoteId) (k : NK) : (afterNotify s t n k).users = s.users := by
  cases k <;> simp [afterNotify]
@[simp] theorem afterNotify_freeing (s : State) (t : Tid) (n : NoteId) (k : NK) : (afterNotify s t n k).freeing = s.freeing := by
  cases k <;> simp [afterNotify]
@[simp] theorem afterNotify_published (s : State) (t : Tid) (n : NoteId) (k : NK) : (afterNotify s t n k).published = s.published := by
  cases k <;> simp [afterNotify]
@[simp] theorem afterNotify_notifyCalled (s : State) (t : Tid) (n : NoteId) (k : NK) : (afterNotify s t n k).notifyCalled = s.notifyCalled := by
  cases k <;> simp [afterNotify]
@[simp] theorem afterNotify_ownDl (s : State) (t : Tid) (n : NoteId) (k : NK) : (afterNotify s t n k).ownDl = s.ownDl := by
  cases k <;> simp [afterNotify]
@[simp] theorem afterNotify_cparent (s : State) (t : Tid) (n : NoteId) (k : NK) : (afterNotify s t n k).cparent = s.cparent := by
  cases k <;> simp [afterNotify]
@[simp] theorem afterNotify_ancEver (s : State) (t : Tid) (n : NoteId) (k : NK) : (afterNotify s t n k).ancEver = s.ancEver := by
  cases k <;> simp [afterNotify]
@[simp] theorem afterNotify_pathMin (s : State) (t : Tid) (n : NoteId) (k : NK) : (afterNotify s t n k).pathMin = s.pathMin := by
  cases k <;> simp [afterNotify]
@[simp] theorem afterNotify_after (s : State) (t : Tid) (n : NoteId) (k : NK) : (afterNotify s t n k).after = s.after := by
  cases k <;> simp [afterNotify]
@[simp] theorem afterNotify_observed (s : State) (t : Tid) (n : NoteId) (k : NK) : (afterNotify s t n k).observed = s.observed := by
  cases k <;> simp [afterNotify]
@[simp] theorem afterNotify_pc (s : State) (t : Tid) (n : NoteId) (k : NK) :
    (afterNotify s t n k).pc = upd s.pc t (afterNotifyPc n k) := by
  cases k <;> simp [afterNotify, afterNotifyPc]
@[simp] theorem afterNotify_bornNotified (s : State) (t : Tid) (n : NoteId) (k : NK) : (afterNotify s t n k).bornNotified =
    (if k.bornNow then upd s.bornNotified n true else s.bornNotified) := by
  cases k with
  | ofApi => simp [afterNotify, NK.bornNow]
  | ofDeadline k => simp only [afterNotify, afterDeadline_bornNotified]; rfl
@[simp] theorem childUnlink_recs (s : State) (f : Frame) (rest : List Frame) (top : Top) : (childUnlink s f rest top).recs = s.recs := by
  unfold childUnlink; split <;> rfl
@[simp] theorem childUnlink_now (s : State) (f : Frame) (rest : List Frame) (top : Top) : (childUnlink s f rest top).now = s.now := by
  unfold childUnlink; split <;> rfl
@[simp] theorem childUnlink_users (s : State) (f : Frame) (rest : List Frame) (top : Top) : (childUnlink s f rest top).users = s.users := by
  unfold childUnlink; split <;> rfl
@[simp] theorem childUnlink_freeing (s : State) (f : Frame) (rest : List Frame) (top : Top) : (childUnlink s f rest top).freeing = s.freeing := by
  unfold childUnlink; split <;> rfl
@[simp] theorem childUnlink_published (s : State) (f : Frame) (rest : List Frame) (top : Top) : (childUnlink s f rest top).published = s.published := by
  unfold childUnlink; split <;> rfl
@[simp] theorem childUnlink_notifyCalled (s : State) (f : Frame) (rest : List Frame) (top : Top) : (childUnlink s f rest top).notifyCalled = s.notifyCalled := by
  unfold childUnlink; split <;> rfl
@[simp] theorem childUnlink_ownDl (s : State) (f : Frame) (rest : List Frame) (top : Top) : (childUnlink s f rest top).ownDl = s.ownDl := by
  unfold childUnlink; split <;> rfl
@[simp] theorem childUnlink_cparent (s : State) (f : Frame) (rest : List Frame) (top : Top) : (childUnlink s f rest top).cparent = s.cparent := by
  unfold childUnlink; split <;> rfl
@[simp] theorem childUnlink_ancEver (s : State) (f : Frame) (rest : List Frame) (top : Top) : (childUnlink s f rest top).ancEver = s.ancEver := by
  unfold childUnlink; split <;> rfl
@[simp] theorem childUnlink_pathMin (s : State) (f : Frame) (rest : List Frame) (top : Top) : (childUnlink s f rest top).pathMin = s.pathMin := by
  unfold childUnlink; split <;> rfl
@[simp] theorem childUnlink_bornNotified (s : State) (f : Frame) (rest : List Frame) (top : Top) : (childUnlink s f rest top).bornNotified = s.bornNotified := by
  unfold childUnlink; split <;> rfl
@[simp] theorem childUnlink_after (s : State) (f : Frame) (rest : List Frame) (top : Top) : (childUnlink s f rest top).after = s.after := by
  unfold childUnlink; split <;> rfl
@[simp] theorem childUnlink_observed (s : State) (f : Frame) (rest : List Frame) (top : Top) : (childUnlink s f rest top).observed = s.observed := by
  unfold childUnlink; split <;> rfl
@[simp] theorem childUnlink_pc (s : State) (f : Frame) (rest : List Frame) (top : Top) : (childUnlink s f rest top).pc = s.pc := by
  unfold childUnlink; split <;> rfl
@[simp] theorem childUnlink_f_notified (s : State) (f : Frame) (rest : List Frame) (top : Top) (j : NoteId) :
    ((childUnlink s f rest top).notes j).notified = (s.notes j).notified := by
  unfold childUnlink; split <;> simp
@[simp] theorem childUnlink_f_expiry (s : State) (f : Frame) (rest : List Frame) (top : Top) (j : NoteId) :
    ((childUnlink s f rest top).notes j).expiry = (s.notes j).expiry := by
  unfold childUnlink; split <;> simp
@[simp] theorem childUnlink_f_disconnecting (s : State) (f : Frame) (rest : List Frame) (top : Top) (j : NoteId) :
    ((childUnlink s f rest top).notes j).disconnecting = (s.notes j).disconnecting := by
  unfold childUnlink; split <;> simp
@[simp] theorem childUnlink_f_waiters (s : State) (f : Frame) (rest : List Frame) (top : Top) (j : NoteId) :
    ((childUnlink s f rest top).notes j).waiters = (s.notes j).waiters := by
  unfold childUnlink; split <;> simp
@[simp] theorem childUnlink_f_lockHolder (s : State) (f : Frame) (rest : List Frame) (top : Top) (j : NoteId) :
    ((childUnlink s f rest top).notes j).lockHolder = (s.notes j).lockHolder := by
  unfold childUnlink; split <;> simp
@[simp] theorem childUnlink_f_adopted (s : State) (f : Frame) (rest : List Frame) (top : Top) (j : NoteId) :
    ((childUnlink s f rest top).notes j).adopted = (s.notes j).adopted := by
  unfold childUnlink; split <;> simp
@[simp] theorem childUnlink_f_allocated (s : State) (f : Frame) (rest : List Frame) (top : Top) (j : NoteId) :
    ((childUnlink s f rest top).notes j).allocated = (s.notes j).allocated := by
  unfold childUnlink; split <;> simp
@[simp] theorem childUnlink_f_freed (s : State) (f : Frame) (rest : List Frame) (top : Top) (j : NoteId) :
    ((childUnlink s f rest top).notes j).freed = (s.notes j).freed := by
  unfold childUnlink; split <;> simp
@[simp] theorem childUnlink_f_parent (s : State) (f : Frame) (rest : List Frame) (top : Top) (j : NoteId) :
    ((childUnlink s f rest top).notes j).parent =
      if (childUnlinks s f rest top).isSome = true ∧ j = f.note then none else (s.notes j).parent := by
  unfold childUnlink; split <;> simp_all
@[simp] theorem childUnlink_f_children (s : State) (f : Frame) (rest : List Frame) (top : Top) (j : NoteId) :
    ((childUnlink s f rest top).notes j).children =
      if childUnlinks s f rest top = some j then (s.notes j).children.erase f.note
      else (s.notes j).children := by
  unfold childUnlink; split <;> simp_all
  · rename_i p hp; split <;> simp_all
    intro h; exact absurd h.symm ‹_›
@[simp] theorem childReturn_recs (s : State) (t : Tid) (f : Frame) (rest : List Frame) (top : Top) : (childReturn s t f rest top).recs = s.recs := by
  unfold childReturn; split <;> simp
@[simp] theorem childReturn_now (s : State) (t : Tid) (f : Frame) (rest : List Frame) (top : Top) : (childReturn s t f rest top).now = s.now := by
  unfold childReturn; split <;> simp
@[simp] theorem childReturn_users (s : State) (t : Tid) (f : Frame) (rest : List Frame) (top : Top) : (childReturn s t f rest top).users = s.users := by
  unfold childReturn; split <;> simp
@[simp] theorem childReturn_freeing (s : State) (t : Tid) (f : Frame) (rest : List Frame) (top : Top) : (childReturn s t f rest top).freeing = s.freeing := by
  unfold childReturn; split <;> simp
@[simp] theorem childReturn_published (s : State) (t : Tid) (f : Frame) (rest : List Frame) (top : Top) : (childReturn s t f rest top).published = s.published := by
  unfold childReturn; split <;> simp
@[simp] theorem childReturn_notifyCalled (s : State) (t : Tid) (f : Frame) (rest : List Frame) (top : Top) : (childReturn s t f rest top).notifyCalled = s.notifyCalled := by
  unfold childReturn; split <;> simp
@[simp] theorem childReturn_ownDl (s : State) (t : Tid) (f : Frame) (rest : List Frame) (top : Top) : (childReturn s t f rest top).ownDl = s.ownDl := by
  unfold childReturn; split <;> simp
@[simp] theorem childReturn_cparent (s : State) (t : Tid) (f : Frame) (rest : List Frame) (top : Top) : (childReturn s t f rest top).cparent = s.cparent := by
  unfold childReturn; split <;> simp
@[simp] theorem childReturn_ancEver (s : State) (t : Tid) (f : Frame) (rest : List Frame) (top : Top) : (childReturn s t f rest top).ancEver = s.ancEver := by
  unfold childReturn; split <;> simp
@[simp] theorem childReturn_pathMin (s : State) (t : Tid) (f : Frame) (rest : List Frame) (top : Top) : (childReturn s t f rest top).pathMin = s.pathMin := by
  unfold childReturn; split <;> simp
@[simp] theorem childReturn_bornNotified (s : State) (t : Tid) (f : Frame) (rest : List Frame) (top : Top) : (childReturn s t f rest top).bornNotified = s.bornNotified := by
  unfold childReturn; split <;> simp
@[simp] theorem childReturn_after (s : State) (t : Tid) (f : Frame) (rest : List Frame) (top : Top) : (childReturn s t f rest top).after = s.after := by
  unfold childReturn; split <;> simp
@[simp] theorem childReturn_observed (s : State) (t : Tid) (f : Frame) (rest : List Frame) (top : Top) : (childReturn s t f rest top).observed = s.observed := by
  unfold childReturn; split <;> simp
@[simp] theorem childReturn_pc (s : State) (t : Tid) (f : Frame) (rest : List Frame) (top : Top) :
    (childReturn s t f rest top).pc = upd s.pc t (childReturnPc f rest top) := by
  unfold childReturn; split <;> simp
@[simp] theorem childReturn_f_notified (s : State) (t : Tid) (f : Frame) (rest : List Frame) (top : Top) (j : NoteId) :
    ((childReturn s t f rest top).notes j).notified = (s.notes j).notified := by
  unfold childReturn; split <;> simp
@[simp] theorem childReturn_f_expiry (s : State) (t : Tid) (f : Frame) (rest : List Frame) (top : Top) (j : NoteId) :
    ((childReturn s t f rest top).notes j).expiry = (s.notes j).expiry := by
  unfold childReturn; split <;> simp
@[simp] theorem childReturn_f_waiters (s : State) (t : Tid) (f : Frame) (rest : List Frame) (top : Top) (j : NoteId) :
    ((childReturn s t f rest top).notes j).waiters = (s.notes j).waiters := by
  unfold childReturn; split <;> simp
@[simp] theorem childReturn_f_lockHolder (s : State) (t : Tid) (f : Frame) (rest : List Frame) (top : Top) (j : NoteId) :
    ((childReturn s t f rest top).notes j).lockHolder = (s.notes j).lockHolder := by
  unfold childReturn; split <;> simp
@[simp] theorem childReturn_f_adopted (s : State) (t : Tid) (f : Frame) (rest : List Frame) (top : Top) (j : NoteId) :
    ((childReturn s t f rest top).notes j).adopted = (s.notes j).adopted := by
  unfold childReturn; split <;> simp
@[simp] theorem childReturn_f_allocated (s : State) (t : Tid) (f : Frame) (rest : List Frame) (top : Top) (j : NoteId) :
    ((childReturn s t f rest top).notes j).allocated = (s.notes j).allocated := by
  unfold childReturn; split <;> simp
@[simp] theorem childReturn_f_freed (s : State) (t : Tid) (f : Frame) (rest : List Frame) (top : Top) (j : NoteId) :
    ((childReturn s t f rest top).notes j).freed = (s.notes j).freed := by
  unfold childReturn; split <;> simp
@[simp] theorem childReturn_f_parent (s : State) (t : Tid) (f : Frame) (rest : List Frame) (top : Top) (j : NoteId) :
    ((childReturn s t f rest top).notes j).parent =
      if (childUnlinks s f rest top).isSome = true ∧ j = f.note then none else (s.notes j).parent := by
  unfold childReturn; split <;> simp
@[simp] theorem childReturn_f_children (s : State) (t : Tid) (f : Frame) (rest : List Frame) (top : Top) (j : NoteId) :
    ((childReturn s t f rest top).notes j).children =
      if childUnlinks s f rest top = some j then (s.notes j).children.erase f.note
      else (s.notes j).children := by
  unfold childReturn; split <;> simp
@[simp] theorem childReturn_f_disconnecting (s : State) (t : Tid) (f : Frame) (rest : List Frame) (top : Top) (j : NoteId) :
    ((childReturn s t f rest top).notes j).disconnecting =
      if childReturnDec f rest top = some j then (s.notes j).disconnecting - 1
      else (s.notes j).disconnecting := by
  unfold childReturn; split <;> simp_all
  · rename_i k hk; split <;> simp_all
    intro h; exact absurd h.symm ‹_›
@[simp] theorem childScanStart_recs (s : State) (t : Tid) (f : Frame) (rest : List Frame) (top : Top) : (childScanStart s t f rest top).recs = s.recs := rfl
@[simp] theorem childScanStart_now (s : State) (t : Tid) (f : Frame) (rest : List Frame) (top : Top) : (childScanStart s t f rest top).now = s.now := rfl
@[simp] theorem childScanStart_users (s : State) (t : Tid) (f : Frame) (rest : List Frame) (top : Top) : (childScanStart s t f rest top).users = s.users := rfl
@[simp] theorem childScanStart_freeing (s : State) (t : Tid) (f : Frame) (rest : List Frame) (top : Top) : (childScanStart s t f rest top).freeing = s.freeing := rfl
@[simp] theorem childScanStart_published (s : State) (t : Tid) (f : Frame) (rest : List Frame) (top : Top) : (childScanStart s t f rest top).published = s.published := rfl
@[simp] theorem childScanStart_notifyCalled (s : State) (t : Tid) (f : Frame) (rest : List Frame) (top : Top) : (childScanStart s t f rest top).notifyCalled = s.notifyCalled := rfl
@[simp] theorem childScanStart_ownDl (s : State) (t : Tid) (f : Frame) (rest : List Frame) (top : Top) : (childScanStart s t f rest top).ownDl = s.ownDl := rfl
@[simp] theorem childScanStart_cparent (s : State) (t : Tid) (f : Frame) (rest : List Frame) (top : Top) : (childScanStart s t f rest top).cparent = s.cparent := rfl
@[simp] theorem childScanStart_ancEver (s : State) (t : Tid) (f : Frame) (rest : List Frame) (top : Top) : (childScanStart s t f rest top).ancEver = s.ancEver := rfl
@[simp] theorem childScanStart_pathMin (s : State) (t : Tid) (f : Frame) (rest : List Frame) (top : Top) : (childScanStart s t f rest top).pathMin = s.pathMin := rfl
@[simp] theorem childScanStart_bornNotified (s : State) (t : Tid) (f : Frame) (rest : List Frame) (top : Top) : (childScanStart s t f rest top).bornNotified = s.bornNotified := rfl
@[simp] theorem childScanStart_after (s : State) (t : Tid) (f : Frame) (rest : List Frame) (top : Top) : (childScanStart s t f rest top).after = s.after := rfl
@[simp] theorem childScanStart_observed (s : State) (t : Tid) (f : Frame) (rest : List Frame) (top : Top) : (childScanStart s t f rest top).observed = s.observed := rfl
@[simp] theorem childScanStart_pc (s : State) (t : Tid) (f : Frame) (rest : List Frame) (top : Top) :
    (childScanStart s t f rest top).pc =
      upd s.pc t (childLoopStartPc (s.notes f.note).children f rest top) := rfl
theorem childScanStart_notes (s : State) (t : Tid) (f : Frame) (rest : List Frame) (top : Top) :
    (childScanStart s t f rest top).notes = (s.setAdopted f.note false).notes := rfl
@[simp] theorem childScanStart_f_parent (s : State) (t : Tid) (f : Frame) (rest : List Frame) (top : Top) (j : NoteId) :
    ((childScanStart s t f rest top).notes j).parent = (s.notes j).parent := by
  simp [childScanStart]
@[simp] theorem childScanStart_f_children (s : State) (t : Tid) (f : Frame) (rest : List Frame) (top : Top) (j : NoteId) :
    ((childScanStart s t f rest top).notes j).children = (s.notes j).children := by
  simp [childScanStart]
@[simp] theorem childScanStart_f_notified (s : State) (t : Tid) (f : Frame) (rest : List Frame) (top : Top) (j : NoteId) :
    ((childScanStart s t f rest top).notes j).notified = (s.notes j).notified := by
  simp [childScanStart]
@[simp] theorem childScanStart_f_expiry (s : State) (t : Tid) (f : Frame) (rest : List Frame) (top : Top) (j : NoteId) :
    ((childScanStart s t f rest top).notes j).expiry = (s.notes j).expiry := by
  simp [childScanStart]
@[simp] theorem childScanStart_f_disconnecting (s : State) (t : Tid) (f : Frame) (rest : List Frame) (top : Top) (j : NoteId) :
    ((childScanStart s t f rest top).notes j).disconnecting = (s.notes j).disconnecting := by
  simp [childScanStart]
@[simp] theorem childScanStart_f_waiters (s : State) (t : Tid) (f : Frame) (rest : List Frame) (top : Top) (j : NoteId) :
    ((childScanStart s t f rest top).notes j).waiters = (s.notes j).waiters := by
  simp [childScanStart]
@[simp] theorem childScanStart_f_lockHolder (s : State) (t : Tid) (f : Frame) (rest : List Frame) (top : Top) (j : NoteId) :
    ((childScanStart s t f rest top).notes j).lockHolder = (s.notes j).lockHolder := by
  simp [childScanStart]
@[simp] theorem childScanStart_f_allocated (s : State) (t : Tid) (f : Frame) (rest : List Frame) (top : Top) (j : NoteId) :
    ((childScanStart s t f rest top).notes j).allocated = (s.notes j).allocated := by
  simp [childScanStart]
@[simp] theorem childScanStart_f_freed (s : State) (t : Tid) (f : Frame) (rest : List Frame) (top : Top) (j : NoteId) :
    ((childScanStart s t f rest top).notes j).freed = (s.notes j).freed := by
  simp [childScanStart]
@[simp] theorem childScanStart_f_adopted (s : State) (t : Tid) (f : Frame) (rest : List Frame) (top : Top) (j : NoteId) :
    ((childScanStart s t f rest top).notes j).adopted =
      if j = f.note then false else (s.notes j).adopted := by
  simp [childScanStart]
/-- Where control goes after a waiter has been woken (or the flag stored). -/
def childWakeNextPc (s : State) (f : Frame) (rest : List Frame) (top : Top) : PC :=
  match (s.notes f.note).waiters with
  | r :: _ => .chd (.wake r) (f :: rest) top
  | [] => childLoopStartPc (s.notes f.note).children f rest top

@[simp] theorem childWakeNext_recs (s : State) (t : Tid) (f : Frame) (rest : List Frame) (top : Top) : (childWakeNext s t f rest top).recs = s.recs := by
  unfold childWakeNext; split <;> rfl
@[simp] theorem childWakeNext_now (s : State) (t : Tid) (f : Frame) (rest : List Frame) (top : Top) : (childWakeNext s t f rest top).now = s.now := by
  unfold childWakeNext; split <;> rfl
@[simp] theorem childWakeNext_users (s : State) (t : Tid) (f : Frame) (rest : List Frame) (top : Top) : (childWakeNext s t f rest top).users = s.users := by
  unfold childWakeNext; split <;> rfl
@[simp] theorem childWakeNext_freeing (s : State) (t : Tid) (f : Frame) (rest : List Frame) (top : Top) : (childWakeNext s t f rest top).freeing = s.freeing := by
  unfold childWakeNext; split <;> rfl
@[simp] theorem childWakeNext_published (s : State) (t : Tid) (f : Frame) (rest : List Frame) (top : Top) : (childWakeNext s t f rest top).published = s.published := by
  unfold childWakeNext; split <;> rfl
@[simp] theorem childWakeNext_notifyCalled (s : State) (t : Tid) (f : Frame) (rest : List Frame) (top : Top) : (childWakeNext s t f rest top).notifyCalled = s.notifyCalled := by
  unfold childWakeNext; split <;> rfl
@[simp] theorem childWakeNext_ownDl (s : State) (t : Tid) (f : Frame) (rest : List Frame) (top : Top) : (childWakeNext s t f rest top).ownDl = s.ownDl := by
  unfold childWakeNext; split <;> rfl
@[simp] theorem childWakeNext_cparent (s : State) (t : Tid) (f : Frame) (rest : List Frame) (top : Top) : (childWakeNext s t f rest top).cparent = s.cparent := by
  unfold childWakeNext; split <;> rfl
@[simp] theorem childWakeNext_ancEver (s : State) (t : Tid) (f : Frame) (rest : List Frame) (top : Top) : (childWakeNext s t f rest top).ancEver = s.ancEver := by
  unfold childWakeNext; split <;> rfl
@[simp] theorem childWakeNext_pathMin (s : State) (t : Tid) (f : Frame) (rest : List Frame) (top : Top) : (childWakeNext s t f rest top).pathMin = s.pathMin := by
  unfold childWakeNext; split <;> rfl
@[simp] theorem childWakeNext_bornNotified (s : State) (t : Tid) (f : Frame) (rest : List Frame) (top : Top) : (childWakeNext s t f rest top).bornNotified = s.bornNotified := by
  unfold childWakeNext; split <;> rfl
@[simp] theorem childWakeNext_after (s : State) (t : Tid) (f : Frame) (rest : List Frame) (top : Top) : (childWakeNext s t f rest top).after = s.after := by
  unfold childWakeNext; split <;> rfl
@[simp] theorem childWakeNext_observed (s : State) (t : Tid) (f : Frame) (rest : List Frame) (top : Top) : (childWakeNext s t f rest top).observed = s.observed := by
  unfold childWakeNext; split <;> rfl
@[simp] theorem childWakeNext_pc (s : State) (t : Tid) (f : Frame) (rest : List Frame) (top : Top) :
    (childWakeNext s t f rest top).pc = upd s.pc t (childWakeNextPc s f rest top) := by
  unfold childWakeNext childWakeNextPc; split <;> simp_all
@[simp] theorem childWakeNext_f_parent (s : State) (t : Tid) (f : Frame) (rest : List Frame) (top : Top) (j : NoteId) :
    ((childWakeNext s t f rest top).notes j).parent = (s.notes j).parent := by
  unfold childWakeNext; split <;> simp
@[simp] theorem childWakeNext_f_children (s : State) (t : Tid) (f : Frame) (rest : List Frame) (top : Top) (j : NoteId) :
    ((childWakeNext s t f rest top).notes j).children = (s.notes j).children := by
  unfold childWakeNext; split <;> simp
@[simp] theorem childWakeNext_f_notified (s : State) (t : Tid) (f : Frame) (rest : List Frame) (top : Top) (j : NoteId) :
    ((childWakeNext s t f rest top).notes j).notified = (s.notes j).notified := by
  unfold childWakeNext; split <;> simp
@[simp] theorem childWakeNext_f_expiry (s : State) (t : Tid) (f : Frame) (rest : List Frame) (top : Top) (j : NoteId) :
    ((childWakeNext s t f rest top).notes j).expiry = (s.notes j).expiry := by
  unfold childWakeNext; split <;> simp
@[simp] theorem childWakeNext_f_disconnecting (s : State) (t : Tid) (f : Frame) (rest : List Frame) (top : Top) (j : NoteId) :
    ((childWakeNext s t f rest top).notes j).disconnecting = (s.notes j).disconnecting := by
  unfold childWakeNext; split <;> simp
@[simp] theorem childWakeNext_f_waiters (s : State) (t : Tid) (f : Frame) (rest : List Frame) (top : Top) (j : NoteId) :
    ((childWakeNext s t f rest top).notes j).waiters =
      if j = f.note then (s.notes j).waiters.tail else (s.notes j).waiters := by
  unfold childWakeNext; split <;> simp_all <;> split <;> simp_all
@[simp] theorem childWakeNext_f_lockHolder (s : State) (t : Tid) (f : Frame) (rest : List Frame) (top : Top) (j : NoteId) :
    ((childWakeNext s t f rest top).notes j).lockHolder = (s.notes j).lockHolder := by
  unfold childWakeNext; split <;> simp
@[simp] theorem childWakeNext_f_allocated (s : State) (t : Tid) (f : Frame) (rest : List Frame) (top : Top) (j : NoteId) :
    ((childWakeNext s t f rest top).notes j).allocated = (s.notes j).allocated := by
  unfold childWakeNext; split <;> simp
@[simp] theorem childWakeNext_f_freed (s : State) (t : Tid) (f : Frame) (rest : List Frame) (top : Top) (j : NoteId) :
    ((childWakeNext s t f rest top).notes j).freed = (s.notes j).freed := by
  unfold childWakeNext; split <;> simp
@[simp] theorem childWakeNext_f_adopted (s : State) (t : Tid) (f : Frame) (rest : List Frame) (top : Top) (j : NoteId) :
    ((childWakeNext s t f rest top).notes j).adopted =
      if j = f.note ∧ (s.notes f.note).waiters = [] then false else (s.notes j).adopted := by
  unfold childWakeNext; split <;> simp_all
theorem freeLoopStart_notes (s : State) (t : Tid) (n : NoteId) (par : Option NoteId) : (freeLoopStart s t n par).notes = (s.setAdopted n false).notes := rfl
@[simp] theorem freeLoopStart_f_parent (s : State) (t : Tid) (n : NoteId) (par : Option NoteId) (j : NoteId) :
    ((freeLoopStart s t n par).notes j).parent = (s.notes j).parent := by
  simp [freeLoopStart]
@[simp] theorem freeLoopStart_f_children (s : State) (t : Tid) (n : NoteId) (par : Option NoteId) (j : NoteId) :
    ((freeLoopStart s t n par).notes j).children = (s.notes j).children := by
  simp [freeLoopStart]
@[simp] theorem freeLoopStart_f_notified (s : State) (t : Tid) (n : NoteId) (par : Option NoteId) (j : NoteId) :
    ((freeLoopStart s t n par).notes j).notified = (s.notes j).notified := by
  simp [freeLoopStart]
@[simp] theorem freeLoopStart_f_expiry (s : State) (t : Tid) (n : NoteId) (par : Option NoteId) (j : NoteId) :
    ((freeLoopStart s t n par).notes j).expiry = (s.notes j).expiry := by
  simp [freeLoopStart]
@[simp] theorem freeLoopStart_f_disconnecting (s : State) (t : Tid) (n : NoteId) (par : Option NoteId) (j : NoteId) :
    ((freeLoopStart s t n par).notes j).disconnecting = (s.notes j).disconnecting := by
  simp [freeLoopStart]
@[simp] theorem freeLoopStart_f_waiters (s : State) (t : Tid) (n : NoteId) (par : Option NoteId) (j : NoteId) :
    ((freeLoopStart s t n par).notes j).waiters = (s.notes j).waiters := by
  simp [freeLoopStart]
@[simp] theorem freeLoopStart_f_lockHolder (s : State) (t : Tid) (n : NoteId) (par : Option NoteId) (j : NoteId) :
    ((freeLoopStart s t n par).notes j).lockHolder = (s.notes j).lockHolder := by
  simp [freeLoopStart]
@[simp] theorem freeLoopStart_f_allocated (s : State) (t : Tid) (n : NoteId) (par : Option NoteId) (j : NoteId) :
    ((freeLoopStart s t n par).notes j).allocated = (s.notes j).allocated := by
  simp [freeLoopStart]
@[simp] theorem freeLoopStart_f_freed (s : State) (t : Tid) (n : NoteId) (par : Option NoteId) (j : NoteId) :
    ((freeLoopStart s t n par).notes j).freed = (s.notes j).freed := by
  simp [freeLoopStart]
@[simp] theorem freeLoopStart_f_adopted (s : State) (t : Tid) (n : NoteId) (par : Option NoteId) (j : NoteId) :
    ((freeLoopStart s t n par).notes j).adopted = if j = n then false else (s.notes j).adopted := by
  simp [freeLoopStart]
@[simp] theorem freeLoopStart_recs (s : State) (t : Tid) (n : NoteId) (par : Option NoteId) : (freeLoopStart s t n par).recs = s.recs := rfl
@[simp] theorem freeLoopStart_now (s : State) (t : Tid) (n : NoteId) (par : Option NoteId) : (freeLoopStart s t n par).now = s.now := rfl
@[simp] theorem freeLoopStart_users (s : State) (t : Tid) (n : NoteId) (par : Option NoteId) : (freeLoopStart s t n par).users = s.users := rfl
@[simp] theorem freeLoopStart_freeing (s : State) (t : Tid) (n : NoteId) (par : Option NoteId) : (freeLoopStart s t n par).freeing = s.freeing := rfl
@[simp] theorem freeLoopStart_published (s : State) (t : Tid) (n : NoteId) (par : Option NoteId) : (freeLoopStart s t n par).published = s.published := rfl
@[simp] theorem freeLoopStart_notifyCalled (s : State) (t : Tid) (n : NoteId) (par : Option NoteId) : (freeLoopStart s t n par).notifyCalled = s.notifyCalled := rfl
@[simp] theorem freeLoopStart_ownDl (s : State) (t : Tid) (n : NoteId) (par : Option NoteId) : (freeLoopStart s t n par).ownDl = s.ownDl := rfl
@[simp] theorem freeLoopStart_cparent (s : State) (t : Tid) (n : NoteId) (par : Option NoteId) : (freeLoopStart s t n par).cparent = s.cparent := rfl
@[simp] theorem freeLoopStart_ancEver (s : State) (t : Tid) (n : NoteId) (par : Option NoteId) : (freeLoopStart s t n par).ancEver = s.ancEver := rfl
@[simp] theorem freeLoopStart_pathMin (s : State) (t : Tid) (n : NoteId) (par : Option NoteId) : (freeLoopStart s t n par).pathMin = s.pathMin := rfl
@[simp] theorem freeLoopStart_bornNotified (s : State) (t : Tid) (n : NoteId) (par : Option NoteId) : (freeLoopStart s t n par).bornNotified = s.bornNotified := rfl
@[simp] theorem freeLoopStart_after (s : State) (t : Tid) (n : NoteId) (par : Option NoteId) : (freeLoopStart s t n par).after = s.after := rfl
@[simp] theorem freeLoopStart_observed (s : State) (t : Tid) (n : NoteId) (par : Option NoteId) : (freeLoopStart s t n par).observed = s.observed := rfl
@[simp] theorem freeLoopStart_pc (s : State) (t : Tid) (n : NoteId) (par : Option NoteId) :
    (freeLoopStart s t n par).pc = upd s.pc t (freeLoopStartPc (s.notes n).children n par) := rfl
@[simp] theorem enterChild_notes (s : State) (t : Tid) (n : NoteId) (par : Option NoteId) (k : NK) : (enterChild s t n par k).notes = s.notes := rfl
@[simp] theorem enterChild_recs (s : State) (t : Tid) (n : NoteId) (par : Option NoteId) (k : NK) : (enterChild s t n par k).recs = s.recs := rfl
@[simp] theorem enterChild_now (s : State) (t : Tid) (n : NoteId) (par : Option NoteId) (k : NK) : (enterChild s t n par k).now = s.now := rfl
@[simp] theorem enterChild_users (s : State) (t : Tid) (n : NoteId) (par : Option NoteId) (k : NK) : (enterChild s t n par k).users = s.users := rfl
@[simp] theorem enterChild_freeing (s : State) (t : Tid) (n : NoteId) (par : Option NoteId) (k : NK) : (enterChild s t n par k).freeing = s.freeing := rfl
@[simp] theorem enterChild_published (s : State) (t : Tid) (n : NoteId) (par : Option NoteId) (k : NK) : (enterChild s t n par k).published = s.published := rfl
@[simp] theorem enterChild_notifyCalled (s : State) (t : Tid) (n : NoteId) (par : Option NoteId) (k : NK) : (enterChild s t n par k).notifyCalled = s.notifyCalled := rfl
@[simp] theorem enterChild_ownDl (s : State) (t : Tid) (n : NoteId) (par : Option NoteId) (k : NK) : (enterChild s t n par k).ownDl = s.ownDl := rfl
@[simp] theorem enterChild_cparent (s : State) (t : Tid) (n : NoteId) (par : Option NoteId) (k : NK) : (enterChild s t n par k).cparent = s.cparent := rfl
@[simp] theorem enterChild_ancEver (s : State) (t : Tid) (n : NoteId) (par : Option NoteId) (k : NK) : (enterChild s t n par k).ancEver = s.ancEver := rfl
@[simp] theorem enterChild_pathMin (s : State) (t : Tid) (n : NoteId) (par : Option NoteId) (k : NK) : (enterChild s t n par k).pathMin = s.pathMin := rfl
@[simp] theorem enterChild_bornNotified (s : State) (t : Tid) (n : NoteId) (par : Option NoteId) (k : NK) : (enterChild s t n par k).bornNotified = s.bornNotified := rfl
@[simp] theorem enterChild_after (s : State) (t : Tid) (n : NoteId) (par : Option NoteId) (k : NK) : (enterChild s t n par k).after = s.after := rfl
@[simp] theorem enterChild_observed (s : State) (t : Tid) (n : NoteId) (par : Option NoteId) (k : NK) : (enterChild s t n par k).observed = s.observed := rfl
@[simp] theorem enterChild_pc (s : State) (t : Tid) (n : NoteId) (par : Option NoteId) (k : NK) :
    (enterChild s t n par k).pc = upd s.pc t (.chd .ld [⟨n, none⟩] ⟨n, par, k⟩) := rfl

end Note
