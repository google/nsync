/-
  Layer `CvFix`, liveness: the hypotheses for concrete executions.  A record that no event of a
  trace mentions stays idle (`idle_stable`, `run_idle`), so the hypotheses that quantify over all
  records (`TransferFair`, `PostKept`) reduce to decidable facts about the finitely many records of
  the trace.  `waitHyps_of_trace`: `WaitHyps` for an execution that ends quiescent;
  `stuck_of_trace`: a finite accepted trace followed by idling in which ONE thread is left stuck at
  a program point at which it is not `Ready` (asleep, or inside another layer's code), for the
  necessity witnesses of Props/C05Fair.lean: every hypothesis holds except the one that speaks
  about that program point.
-/
import NsyncVerif.Proofs.CvFixFairWaitDone

namespace NsyncVerif.CvFix

/-- The record an event names. -/
def Event.rid : Event → Option Rid
  | .recLd _ _ r _ | .recSt _ _ r _ _ | .recCas _ _ r _ _ _ _ | .wInit _ r | .nwInit _ r
  | .fLd _ r _ _ | .fSt _ r _ _ | .fCas _ r _ _ _ _ _ => some r
  | _ => none

/-- An idle record stays idle under every event that does not name it. -/
theorem idle_stable {cfg : Config} {s s' : State} {e : Event} {r : Rid} (htr : Tr cfg s e s')
    (hi : Inv s) (hst : (s.recs r).stat = .idle) (hne : e.rid ≠ some r) : (s'.recs r).stat = .idle := by
  have h := htr.rcd hi.a hi.b.weak r
  generalize s'.recs r = b at h ⊢
  generalize s.recs r = a at h hst
  cases h with
  | keep | post | pub | muMode => exact hst
  | deqRel => simp [hst]
  | enq _ _ _ _ _ h | unlink _ _ _ _ _ h | xfer _ _ _ _ _ h => rw [hst] at h; cases h
  | _ => exact absurd rfl hne

/-- A record that a trace from a reachable state never names stays idle. -/
theorem run_idle {cfg : Config} {r : Rid} (evs : List Event) (s s' : State) (hreach : Reachable cfg s)
    (h : (s.recs r).stat = .idle) (hne : ∀ e ∈ evs, e.rid ≠ some r) (hr : run cfg s evs = .ok s') :
    (s'.recs r).stat = .idle :=
  ((isRun cfg).induct_mem (Q := fun s1 => Reachable cfg s1 ∧ (s1.recs r).stat = .idle) ⟨hreach, h⟩
    (fun _ e _ he _ ⟨h1, h2⟩ hs =>
      ⟨reachable_step h1 hs, idle_stable (step_tr hs) (inv_reachable h1) h2 (hne e he)⟩) hr).2

/-- All records the events of the list name are pooled waiters `w k` with `k < n`. -/
def ridsBelow (n : Nat) (evs : List Event) : Bool :=
  evs.all fun e => match e.rid with
    | some (.w k) => decide (k < n)
    | some _ => true
    | none => true

theorem ridsBelow_ne {n : Nat} {evs : List Event} (h : ridsBelow n evs = true) {k : Nat}
    (hk : n ≤ k) : ∀ e ∈ evs, e.rid ≠ some (.w k) := by
  intro e he hte
  have := List.all_eq_true.1 h e he
  rw [hte] at this
  have h3 : k < n := by simpa using this
  exact absurd h3 (Nat.not_lt.2 hk)

variable {cfg : Config}

/-- `TransferFair` and `PostKept` for a trace (stuck or not) whose named records are `w k`, `k < n`. -/
theorem recHyps_of_trace (evs : List Event) (sf : State) (hrun : run cfg init evs = .ok sf)
    (n : Nat) (hrid : ridsBelow n evs = true) :
    ((∀ j, j ≤ evs.length → ∀ k, k < n →
      ((stateFrom cfg init (evs.take j)).recs (.w k)).stat ≠ .xfer) →
      TransferFair (traceExec cfg init evs sf hrun)) ∧
    ((∀ j, j ≤ evs.length → ∀ k, k < n →
      ((stateFrom cfg init (evs.take j)).recs (.w k)).stat = .woken →
      ((stateFrom cfg init (evs.take j)).recs (.w k)).posted = true →
      ((stateFrom cfg init (evs.take j)).thr ((stateFrom cfg init (evs.take j)).recs (.w k)).owner).loc.asleep = true →
      0 < (stateFrom cfg init (evs.take j)).sem k) →
      PostKept (traceExec cfg init evs sf hrun)) := by
  have hr0 : Reachable cfg init := ⟨[], rfl⟩
  have hst : ∀ j, (traceExec cfg init evs sf hrun).ρ j = stateFrom cfg init (evs.take (min j evs.length)) := by
    intro j
    show stateFrom cfg init (evs.take j) = _
    by_cases h : j ≤ evs.length
    · rw [Nat.min_eq_left h]
    · rw [Nat.min_eq_right (by omega), stateFrom_all hrun (by omega), stateFrom_all hrun (Nat.le_refl _)]
  have hbig : ∀ j k, n ≤ k → (((traceExec cfg init evs sf hrun).ρ j).recs (.w k)).stat = .idle := by
    intro j k hk
    rw [hst]
    exact run_idle _ _ _ hr0 rfl
      (fun e he => ridsBelow_ne hrid hk e (List.mem_of_mem_take he)) (stateFrom_ok hrun _)
  constructor
  · intro hx k i h
    exfalso
    by_cases hk : k < n
    · rw [hst] at h; exact hx _ (Nat.min_le_right _ _) k hk h
    · rw [hbig i k (by omega)] at h; cases h
  · intro hp j k h1 h2 h3 _
    by_cases hk : k < n
    · rw [hst] at h1 h2 h3 ⊢; exact hp _ (Nat.min_le_right _ _) k hk h1 h2 h3
    · rw [hbig j k (by omega)] at h1; cases h1

/-- `WaitHyps` for a finite accepted trace from `init` followed by idling, in which all threads
    return and only the pooled waiters `w k`, `k < n`, are named: it is enough to check, for these
    finitely many records and the finitely many states of the trace, that none is ever transferred
    and that a woken and posted record whose owner sleeps has a positive count. -/
theorem waitHyps_of_trace (evs : List Event) (sf : State) (hrun : run cfg init evs = .ok sf)
    (hidle : ∀ t, (sf.thr t).loc = .idle) (n : Nat) (hrid : ridsBelow n evs = true)
    (hx : ∀ j, j ≤ evs.length → ∀ k, k < n →
      ((stateFrom cfg init (evs.take j)).recs (.w k)).stat ≠ .xfer)
    (hp : ∀ j, j ≤ evs.length → ∀ k, k < n →
      ((stateFrom cfg init (evs.take j)).recs (.w k)).stat = .woken →
      ((stateFrom cfg init (evs.take j)).recs (.w k)).posted = true →
      ((stateFrom cfg init (evs.take j)).thr ((stateFrom cfg init (evs.take j)).recs (.w k)).owner).loc.asleep = true →
      0 < (stateFrom cfg init (evs.take j)).sem k) :
    WaitHyps (traceExec cfg init evs sf hrun) := by
  have htail : ∀ j, evs.length ≤ j → ∀ t, (((traceExec cfg init evs sf hrun).ρ j).thr t).loc = .idle := by
    intro j hj t; rw [(traceExec_tail hrun hj).1]; exact hidle t
  have leaves : ∀ t i, (((traceExec cfg init evs sf hrun).ρ i).thr t).loc ≠ .idle →
      ∃ j, i ≤ j ∧ (((traceExec cfg init evs sf hrun).ρ j).thr t).loc ≠
        (((traceExec cfg init evs sf hrun).ρ i).thr t).loc := by
    intro t i h
    exact ⟨max i evs.length, by omega, by rw [htail _ (by omega) t]; exact fun h' => h h'.symm⟩
  obtain ⟨htr, hk⟩ := recHyps_of_trace evs sf hrun n hrid
  refine { toHyps := hyps_of_quiescent _ ⟨[], rfl⟩ evs.length htail, sem := ?_, mutex := ?_,
           alloc := ?_, cancel := ?_, transfer := htr hx, kept := hk hp, finSp := ?_ }
  · intro t i h
    have := (h (max i evs.length) (by omega)).1
    rw [htail _ (by omega) t] at this; cases this
  · intro t i h
    exact leaves t i (by intro h'; rw [h'] at h; cases h)
  · intro t i h
    obtain ⟨j, h1, h2⟩ := leaves t i (by rw [h]; simp)
    exact ⟨j, h1, by rw [h] at h2; exact h2⟩
  · intro t i h
    exact leaves t i (by intro h'; rw [h'] at h; cases h)
  · intro t
    refine ⟨evs.length, fun j k hj he => ?_⟩
    rw [(traceExec_tail hrun hj).2] at he; cases he

/-- What holds of a stuck trace. -/
structure StuckHyps {s0 : State} (x : Exec cfg s0) (t0 : Tid) (L : Loc) (N : Nat) : Prop where
  hyps : Hyps x
  finSp : FiniteSpurious x
  stuck : ∀ j, N ≤ j → ((x.ρ j).thr t0).loc = L
  quiet : ∀ j, N ≤ j → x.σ j = none
  sem : (L.asleep = true → ¬ CanWake (x.ρ N) t0) → SemFair x
  mutex : L.inMutex = false → MutexFair x
  alloc : L ≠ .wNew → AllocFair x
  cancel : L.inCancel = false → CancelFair x

theorem not_ready_loc {L : Loc} (h : L = .idle ∨ L.foreign = true ∨ L.asleep = true) :
    L.spinLoop = false ∧ L.muRel = false := by
  revert h; cases L <;> simp [Loc.spinLoop, Loc.muRel, Loc.foreign, Loc.asleep]

theorem stuck_of_trace (evs : List Event) (sf : State) (hrun : run cfg init evs = .ok sf)
    (t0 : Tid) (L : Loc) (hL : (sf.thr t0).loc = L) (hidle : ∀ t, t ≠ t0 → (sf.thr t).loc = .idle)
    (hnr : L = .idle ∨ L.foreign = true ∨ L.asleep = true) :
    StuckHyps (traceExec cfg init evs sf hrun) t0 L evs.length := by
  have hr0 : Reachable cfg init := ⟨[], rfl⟩
  have htl : ∀ j, evs.length ≤ j → (traceExec cfg init evs sf hrun).ρ j = sf :=
    fun j hj => (traceExec_tail hrun hj).1
  have hloc : ∀ j, evs.length ≤ j → ∀ t,
      (t = t0 → (((traceExec cfg init evs sf hrun).ρ j).thr t).loc = L) ∧
      (t ≠ t0 → (((traceExec cfg init evs sf hrun).ρ j).thr t).loc = .idle) := by
    intro j hj t; rw [htl j hj]
    exact ⟨fun h => by rw [h]; exact hL, hidle t⟩
  have hspin := not_ready_loc hnr
  have leaves : ∀ t i, t ≠ t0 → (((traceExec cfg init evs sf hrun).ρ i).thr t).loc ≠ .idle →
      ∃ j, i ≤ j ∧ (((traceExec cfg init evs sf hrun).ρ j).thr t).loc ≠
        (((traceExec cfg init evs sf hrun).ρ i).thr t).loc := by
    intro t i ht h
    exact ⟨max i evs.length, by omega, by rw [(hloc _ (by omega) t).2 ht]; exact fun h' => h h'.symm⟩
  have leaves0 : ∀ i, (((traceExec cfg init evs sf hrun).ρ i).thr t0).loc ≠ L →
      ∃ j, i ≤ j ∧ (((traceExec cfg init evs sf hrun).ρ j).thr t0).loc ≠
        (((traceExec cfg init evs sf hrun).ρ i).thr t0).loc := by
    intro i h
    exact ⟨max i evs.length, by omega, by rw [(hloc _ (by omega) t0).1 rfl]; exact fun h' => h h'.symm⟩
  refine ⟨⟨hr0, ?_, ?_, ?_⟩, ?_, fun j hj => (hloc j hj t0).1 rfl, fun j hj => (traceExec_tail hrun hj).2,
    ?_, ?_, ?_, ?_⟩
  · intro t i h
    exfalso
    have hR := h (max i evs.length) (by omega)
    by_cases ht : t = t0
    · have hl := (hloc (max i evs.length) (by omega) t).1 ht
      obtain ⟨r1, r2, r3⟩ := hR
      rw [hl] at r1 r2 r3
      rcases hnr with h' | h' | h'
      · exact r1 h'
      · rw [h'] at r2; cases r2
      · rw [h'] at r3; cases r3
    · exact hR.1 ((hloc _ (by omega) t).2 ht)
  · intro t i h _
    have := h (max i evs.length) (by omega)
    by_cases ht : t = t0
    · rw [(hloc _ (by omega) t).1 ht, hspin.1] at this; cases this
    · rw [(hloc _ (by omega) t).2 ht] at this; cases this
  · intro t i h
    have := h (max i evs.length) (by omega)
    by_cases ht : t = t0
    · rw [(hloc _ (by omega) t).1 ht, hspin.2] at this; cases this
    · rw [(hloc _ (by omega) t).2 ht] at this; cases this
  · intro t
    refine ⟨evs.length, fun j k hj he => ?_⟩
    rw [(traceExec_tail hrun hj).2] at he; cases he
  · intro hcw t i h
    have h1 := h (max i evs.length) (by omega)
    by_cases ht : t = t0
    · subst ht
      have ha : L.asleep = true := by
        rw [← (hloc (max i evs.length) (by omega) t).1 rfl]; exact h1.1
      apply hcw ha
      have := h1.2
      rw [htl _ (by omega)] at this
      rw [htl _ (Nat.le_refl _)]; exact this
    · have := h1.1; rw [(hloc _ (by omega) t).2 ht] at this; cases this
  · intro hm t i h
    by_cases ht : t = t0
    · subst ht
      exact leaves0 i (by intro h'; rw [h', hm] at h; cases h)
    · exact leaves t i ht (by intro h'; rw [h'] at h; cases h)
  · intro hm t i h
    by_cases ht : t = t0
    · subst ht
      obtain ⟨j, h1, h2⟩ := leaves0 i (by rw [h]; exact fun h' => hm h'.symm)
      exact ⟨j, h1, by rw [h] at h2; exact h2⟩
    · obtain ⟨j, h1, h2⟩ := leaves t i ht (by rw [h]; simp)
      exact ⟨j, h1, by rw [h] at h2; exact h2⟩
  · intro hm t i h
    by_cases ht : t = t0
    · subst ht
      exact leaves0 i (by intro h'; rw [h', hm] at h; cases h)
    · exact leaves t i ht (by intro h'; rw [h'] at h; cases h)

end NsyncVerif.CvFix
