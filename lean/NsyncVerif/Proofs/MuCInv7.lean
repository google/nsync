import NsyncVerif.Proofs.MuCInv1
import NsyncVerif.Proofs.MuCInv2
import NsyncVerif.Proofs.MuCInv5
/-
  MuC: meaning of MU_ALL_FALSE (`Inv7`) — definitions, who can have a write section open, the frame lemmas
  (`Inv7.local`, `Inv7.frame`, `Inv7.quiet`) and the steps every invariant has a lemma for (`Inv7.move`, `Inv7.cas`, `Inv7.env`).

  `SecOpen s`: some client write section is open (the client holds the mutex in write mode, or is in
  the first iteration of nsync_mu_wait_with_deadline before it has queued itself): the data may differ
  from the snapshot `secStart`, and the hint speaks about the snapshot.  Otherwise it speaks about the
  data.  While a writer is inside nsync_mu_unlock before its release, or an unlocker that tests
  conditions is between its grab CAS and its final CAS (`PC.susp`), the hint says nothing.
-/
namespace NsyncVerif.MuC

def CondFalse (s : State) (d : Nat → Int) (k : Wid) : Prop := ∃ c, (s.wr k).cond = some c ∧ evalCond d c = false

theorem CondFalse.has {s : State} {d : Nat → Int} {k : Wid} (h : CondFalse s d k) : (s.wr k).cond ≠ none := by
  obtain ⟨c, hc, _⟩ := h; rw [hc]; simp

theorem CondFalse.congr {s s' : State} {d : Nat → Int} {k : Wid} (hc : (s'.wr k).cond = (s.wr k).cond) (h : CondFalse s d k) :
    CondFalse s' d k := by
  obtain ⟨c, h1, h2⟩ := h; exact ⟨c, by rw [hc]; exact h1, h2⟩

/-- First iteration of nsync_mu_wait_with_deadline, called with the mutex held in write mode, before
    the enqueue CAS (or returning at once): the caller's write section is still open. -/
def PC.firstW : PC → Bool
  | .mwLd0 c | .mwEval c | .mwStW c | .mwRcLd c | .mwEnqLd c | .mwEnqCas c _ | .mwRet c _ => c.first && (c.hm == .W)
  | _ => false

def SecOpen (s : State) : Prop := ∃ t, s.held t = some .W ∨ (s.pc t).firstW = true

/-- The data MU_ALL_FALSE speaks about. -/
def RefData (s : State) (d : Nat → Int) : Prop := (SecOpen s ∧ d = s.secStart) ∨ (¬ SecOpen s ∧ d = s.data)

def Ret.dirty : Ret → Bool
  | .ul .W false => true
  | _ => false

/-- The hint says nothing: a writer inside nsync_mu_unlock before its release (the section it ends may
    have made conditions true), an unlocker that holds the writer bit while it scans. -/
def PC.susp : PC → Bool
  | .ulCas0 l nw | .ulLd l nw | .ulCas1 l nw _ => (l == .W) && !nw
  | .usLd r | .usCasUnc r _ | .usCasGrab r _ => r.dirty
  | .usRelLd _ sc | .usRelCas _ sc _ | .usEval _ sc | .usRcLd _ sc _ | .usRcCas _ sc _ _ | .usReLd _ sc | .usReCas _ sc _ => sc.late
  | .usFinLd _ f | .usFinCas _ f _ => f.late
  | _ => false

/-- The locals of nsync_mu_wait_with_deadline at the program points after the enqueue CAS. -/
def PC.mwPost : PC → Option MW
  | .lsLd c | .lsCasAcq c _ | .lsCasEnq c _ | .lsSt c | .lsRelLd c | .lsRelCas c _ | .lsWaitLd c | .lsPEnter c | .lsPRet c => c.mw
  | .usLd r | .usCasUnc r _ | .usCasGrab r _ | .usRelLd r _ | .usRelCas r _ _ | .usEval r _ | .usRcLd r _ _ | .usRcCas r _ _ _
  | .usReLd r _ | .usReCas r _ _ | .usFinLd r _ | .usFinCas r _ _ | .usWakeSt r _ _ | .usWakeV r _ _ => r.mw?
  | .mwRelLd c | .mwRelCas c _ _ | .mwWaitLd c
  | .mwSem c | .mwPdRet c _ | .mwNotify c | .mwLd244 c | .mwLd255 c
  | .mtLd c | .mtCasAcq c _ | .mtCasWW c _ | .mtLdWk c _ | .mtLdW c _ | .mtLdRc c _ | .mtRmLd c _ | .mtRmCas c _ _ | .mtStW c _ | .mtStRel c _ _ => some c
  | _ => none

/-- The scan locals at mu.c:399 (spinlock being re-acquired after an inner loop). -/
def PC.reScan : PC → Option Scan
  | .usReLd _ sc | .usReCas _ sc _ => some sc
  | _ => none

/-- The spinlock is held and the queue insertion of lock_slow is still to come. -/
def PC.enqPend : PC → Bool
  | .lsSt _ => true
  | _ => false

/-- An unlocker between grab CAS and final CAS that has given up the caller's share at once (it found
    MU_CONDITION clear): it holds the spinlock throughout. -/
def PC.nonLate : PC → Bool
  | .usRelLd _ sc | .usRelCas _ sc _ | .usEval _ sc | .usRcLd _ sc _ | .usRcCas _ sc _ _ | .usReLd _ sc | .usReCas _ sc _ => !sc.late
  | .usFinLd _ f | .usFinCas _ f _ => !f.late
  | _ => false

/-! A quiet move keeps what these projections see.  (A waiter that finds itself woken with the lock held
    goes back to the head of the loop of nsync_mu_wait: `firstW` stays false because the call is past its
    first iteration.) -/

theorem PcMove.reScan {s : State} {p p' : PC} (h : PcMove s p p') : p'.reScan = p.reScan := by
  cases h <;> first | rfl | (rename_i h; cases h <;> rfl)
theorem PcMove.susp {s : State} {p p' : PC} (h : PcMove s p p') : p'.susp = p.susp := by
  cases h <;> first | rfl | (cases ‹Mode› <;> cases ‹Bool› <;> rfl) | (rename_i h; cases h <;> first | rfl | (cases ‹Bool› <;> rfl))
theorem PcMove.enqPend {s : State} {p p' : PC} (h : PcMove s p p') : p'.enqPend = p.enqPend := by
  cases h <;> first | rfl | (rename_i h; cases h <;> rfl)
theorem PcMove.nonLate {s : State} {p p' : PC} (h : PcMove s p p') : p'.nonLate = p.nonLate := by
  cases h <;> first | rfl | (rename_i h; cases h <;> rfl)
theorem PcMove.firstW {s : State} {p p' : PC} (h : PcMove s p p') (hf : ∀ c, p.mwPost = some c → c.first = false) :
    p'.firstW = p.firstW := by
  cases h <;> first | rfl | (rename_i h; cases h <;> first | rfl | simp [PC.firstW, hf _ rfl])
theorem PcMove.mwPost {s : State} {p p' : PC} (h : PcMove s p p') {c' : MW} (hc : p'.mwPost = some c') :
    ∃ c, p.mwPost = some c ∧ c'.first = c.first := by
  cases h <;> first | exact ⟨_, hc, rfl⟩ | (cases hc; exact ⟨_, rfl, rfl⟩) | cases hc |
    (rename_i h; cases h <;> first | exact ⟨_, hc, rfl⟩ | (cases hc; exact ⟨_, rfl, rfl⟩) | cases hc)

structure Inv7 (s : State) : Prop where
  nl : ∀ t, (s.pc t).nonLate = true → s.word.cond = false
  fst : ∀ t c, (s.pc t).mwPost = some c → c.first = false
  enq : ∀ t, (s.pc t).enqPend = true → s.word.af = false
  a1 : s.word.af = true → ∀ k, Queued s k → (s.wr k).cond ≠ none ∧
        (s.nwViol = false → (∀ u, (s.pc u).susp = false) → ∀ d, RefData s d → CondFalse s d k)
  a2 : ∀ t old, (s.pc t).mtOld = some old → old.af = true → ∀ k, Queued s k → (s.wr k).cond ≠ none ∧
        (s.nwViol = false → CondFalse s s.data k)
  sc : ∀ t sc, (s.pc t).scan? = some sc → sc.saf = true → ∀ k, k ∈ sc.done ++ sc.passed → sc.late = true ∧ CondFalse s s.data k
  re : ∀ t sc, (s.pc t).reScan = some sc → sc.saf = true → sc.todo = []
  fin : ∀ t f, (s.pc t).finOf = some f → f.cAf = !f.saf ∧
        (f.saf = true → ∀ k, k ∈ s.queue → f.late = true ∧ CondFalse s s.data k)

theorem firstW_share {p : PC} (hok : p.ok) (h : p.firstW = true) : pcShare p = some .W := by
  cases p <;> simp [PC.firstW] at h <;> simp_all [pcShare, PC.ok, MW.ok]

theorem dirty_mode {r : Ret} (h : r.dirty = true) : r.mode = .W := by
  cases r with
  | mw c => simp [Ret.dirty] at h
  | ul l nw => cases l <;> cases nw <;> simp_all [Ret.dirty, Ret.mode]

theorem susp_share {p : PC} (h : p.susp = true) : pcShare p = some .W := by
  cases p <;> simp [PC.susp] at h <;> simp_all [pcShare, dirty_mode]

theorem opener_owner {s : State} (h1 : Inv1 s) {t : Tid} (ht : s.held t = some .W ∨ (s.pc t).firstW = true) : s.wOwner = some t := by
  refine (h1.lock.wown t).2 ?_
  rcases ht with e | e
  · simp [shareOf, tshare, e]
  · have hne : s.pc t ≠ .idle := by intro e'; rw [e'] at e; simp [PC.firstW] at e
    rw [h1.share_eq hne]
    exact firstW_share (h1.pcok t) e

theorem secOpen_owner {s : State} (h1 : Inv1 s) (h : SecOpen s) : ∃ t, s.wOwner = some t ∧ (s.held t = some .W ∨ (s.pc t).firstW = true) := by
  obtain ⟨t, ht⟩ := h
  exact ⟨t, opener_owner h1 ht, ht⟩

/-- The owner of the writer bit stops being a client with an open section: nobody has one. -/
theorem not_secOpen_release {s s' : State} (h1 : Inv1 s) {t : Tid} (hown : s.wOwner = some t) (hh' : s'.held t = none)
    (hf' : (s'.pc t).firstW = false) (hoth : ∀ u, u ≠ t → s'.held u = s.held u ∧ s'.pc u = s.pc u) : ¬ SecOpen s' := by
  rintro ⟨u, hu⟩
  by_cases e : u = t
  · subst e; rw [hh', hf'] at hu; simp at hu
  · rw [(hoth u e).1, (hoth u e).2] at hu
    have := opener_owner h1 hu
    rw [hown] at this; cases this; exact e rfl

theorem nonLate_of_scan_not_susp {p : PC} {sc : Scan} (h : p.scan? = some sc) (hs : p.susp = false) : p.nonLate = true := by
  cases p <;> simp [PC.scan?] at h <;> simp_all [PC.susp, PC.nonLate]

/-- The owner of the writer bit is not the client: no write section is open. -/
theorem not_secOpen_of_owner {s : State} (h1 : Inv1 s) {t : Tid} (ho : s.wOwner = some t) (hh : s.held t ≠ some .W)
    (hf : (s.pc t).firstW = false) : ¬ SecOpen s := by
  intro h
  obtain ⟨u, hu, e⟩ := secOpen_owner h1 h
  rw [ho] at hu; cases hu
  rcases e with e | e
  · exact hh e
  · rw [hf] at e; cases e

theorem not_secOpen_of_free {s : State} (h1 : Inv1 s) (ho : s.wOwner = none) : ¬ SecOpen s := by
  intro h
  obtain ⟨u, hu, _⟩ := secOpen_owner h1 h
  rw [ho] at hu; cases hu

theorem susp_owner {s : State} (h1 : Inv1 s) {u : Tid} (h : (s.pc u).susp = true) : s.wOwner = some u := by
  have hne : s.pc u ≠ .idle := by intro e'; rw [e'] at h; simp [PC.susp] at h
  refine (h1.lock.wown u).2 ?_
  rw [h1.share_eq hne]
  exact susp_share h

theorem no_susp_of_free {s : State} (h1 : Inv1 s) (ho : s.wOwner = none) (u : Tid) : (s.pc u).susp = false := by
  cases e : (s.pc u).susp with
  | false => rfl
  | true => have := susp_owner h1 e; rw [ho] at this; cases this

/-- Nobody but the owner of the writer bit can be suspended. -/
theorem no_susp_of_owner {s : State} (h1 : Inv1 s) {t : Tid} (ho : s.wOwner = some t) (ht : (s.pc t).susp = false) (u : Tid) :
    (s.pc u).susp = false := by
  cases e : (s.pc u).susp with
  | false => rfl
  | true =>
    have := susp_owner h1 e
    rw [ho] at this; cases this
    rw [ht] at e; cases e

theorem secOpen_congr {s s' : State} (hh : s'.held = s.held) (hf : ∀ u, (s'.pc u).firstW = (s.pc u).firstW) : SecOpen s' ↔ SecOpen s := by
  simp only [SecOpen, hh, hf]

theorem secOpen_iff {s s' : State} (h : ∀ u, (s'.held u = some .W ∨ (s'.pc u).firstW = true) ↔ (s.held u = some .W ∨ (s.pc u).firstW = true)) :
    SecOpen s' ↔ SecOpen s := by
  simp only [SecOpen, h]

theorem refData_congr {s s' : State} (ho : SecOpen s' ↔ SecOpen s) (hd : s'.data = s.data) (hs : s'.secStart = s.secStart)
    {d : Nat → Int} (h : RefData s' d) : RefData s d := by
  simp only [RefData, ho, hd, hs] at h
  exact h

theorem refData_closed {s : State} (h : ¬ SecOpen s) {d : Nat → Int} (hd : RefData s d) : d = s.data := by
  rcases hd with ⟨a, _⟩ | ⟨_, b⟩
  · exact absurd a h
  · exact b

theorem refData_of_closed {s : State} (h : ¬ SecOpen s) : RefData s s.data := Or.inr ⟨h, rfl⟩

theorem refData_of_open {s : State} (h : SecOpen s) : RefData s s.secStart := Or.inl ⟨h, rfl⟩

theorem refData_open {s : State} (h : SecOpen s) {d : Nat → Int} (hd : RefData s d) : d = s.secStart := by
  rcases hd with ⟨_, b⟩ | ⟨a, _⟩
  · exact b
  · exact absurd h a

theorem refData_same {s s' : State} (t : Tid) (hd : s'.data = s.data) (hss : s'.secStart = s.secStart)
    (hoth : ∀ u, u ≠ t → s'.held u = s.held u ∧ s'.pc u = s.pc u)
    (ht : (s'.held t = some .W ∨ (s'.pc t).firstW = true) ↔ (s.held t = some .W ∨ (s.pc t).firstW = true))
    {d : Nat → Int} (h : RefData s' d) : RefData s d := by
  refine refData_congr (secOpen_iff ?_) hd hss h
  intro u
  by_cases e : u = t
  · subst e; exact ht
  · rw [(hoth u e).1, (hoth u e).2]

/-- `t`, owner of the writer bit, becomes the client that holds the mutex: the snapshot is taken. -/
theorem refData_acquireW {s s' : State} (t : Tid) (h1 : Inv1 s) (ho : s.wOwner = some t) (hh : s.held t ≠ some .W)
    (hf : (s.pc t).firstW = false) (hh' : s'.held t = some .W) (hss : s'.secStart = s.data)
    {d : Nat → Int} (h : RefData s' d) : RefData s d := by
  have hcl := not_secOpen_of_owner h1 ho hh hf
  rw [refData_open ⟨t, Or.inl hh'⟩ h, hss]
  exact refData_of_closed hcl

theorem not_secOpen_step {s s' : State} (t : Tid) (hcl : ¬ SecOpen s) (hh : s'.held = s.held)
    (hpc : ∀ u, u ≠ t → s'.pc u = s.pc u) (hf : (s'.pc t).firstW = false) : ¬ SecOpen s' := by
  rintro ⟨u, hu⟩
  rw [hh] at hu
  by_cases e : u = t
  · subst e
    rcases hu with hu | hu
    · exact hcl ⟨u, Or.inl hu⟩
    · rw [hf] at hu; cases hu
  · rw [hpc u e] at hu; exact hcl ⟨u, hu⟩

theorem Inv7.local {s s' : State} (t : Tid) (h : Inv7 s)
    (hQ : ∀ k, Queued s' k → Queued s k)
    (hq : ∀ k, k ∈ s'.queue → k ∈ s.queue)
    (hcnd : ∀ x, Queued s x → (s'.wr x).cond = (s.wr x).cond)
    (hd : s'.data = s.data) (hnv : s'.nwViol = false → s.nwViol = false)
    (ha1 : (((s.pc t).susp = true → (s'.pc t).susp = true) ∧ (∀ d, RefData s' d → RefData s d)) ∨ s'.word.af = false ∨
      (s'.pc t).susp = true ∨
      (∀ k d, Queued s k → s.word.af = true → s'.nwViol = false → (∀ u, (s'.pc u).susp = false) → RefData s' d → CondFalse s d k))
    (haf : s'.word.af = true → s.word.af = true ∨
      ∃ old, (s.pc t).mtOld = some old ∧ old.af = true ∧ ¬ SecOpen s' ∧ ∀ u, u ≠ t → (s.pc u).enqPend = false)
    (hpc : ∀ u, u ≠ t → s'.pc u = s.pc u)
    (hsc : ∀ sc, (s'.pc t).scan? = some sc → (s.pc t).scan? = some sc)
    (hre : ∀ sc, (s'.pc t).reScan = some sc → (s.pc t).reScan = some sc)
    (hfin : ∀ f, (s'.pc t).finOf = some f → (s.pc t).finOf = some f)
    (hmt : ∀ old, (s'.pc t).mtOld = some old →
      (s.pc t).mtOld = some old ∨ (s.word = old ∧ (∀ u, (s.pc u).susp = false) ∧ ¬ SecOpen s))
    (hfst : ∀ c, (s'.pc t).mwPost = some c → c.first = false)
    (henq : (s'.pc t).enqPend = true → s'.word.af = false)
    (hnl : (s'.pc t).nonLate = true → (s.pc t).nonLate = true)
    (hcb : s'.word.cond = true → s.word.cond = true ∨ ((∀ u, u ≠ t → (s.pc u).nonLate = false) ∧ (s'.pc t).nonLate = false)) :
    Inv7 s' := by
  have hcf : ∀ d k, Queued s k → CondFalse s d k → CondFalse s' d k := fun d k hk hc => hc.congr (hcnd k hk)
  refine ⟨?_, ?_, ?_, ?_, ?_, ?_, ?_, ?_⟩
  · intro u hu
    cases hc : s'.word.cond with
    | false => rfl
    | true =>
      rcases hcb hc with e1 | e1
      · have : (s.pc u).nonLate = true := by
          by_cases e : u = t
          · subst e; exact hnl hu
          · rw [← hpc u e]; exact hu
        have := h.nl u this; rw [e1] at this; cases this
      · by_cases e : u = t
        · subst e; rw [e1.2] at hu; cases hu
        · rw [hpc u e, e1.1 u e] at hu; cases hu
  · intro u c hc
    by_cases hu : u = t
    · subst hu; exact hfst c hc
    · rw [hpc u hu] at hc; exact h.fst u c hc
  · intro u hu
    by_cases e : u = t
    · subst e; exact henq hu
    · rw [hpc u e] at hu
      cases haf' : s'.word.af with
      | false => rfl
      | true =>
        rcases haf haf' with e1 | ⟨old, _, _, _, e1⟩
        · have := h.enq u hu; rw [e1] at this; cases this
        · rw [e1 u e] at hu; cases hu
  · intro haf' k hk
    have hk' := hQ k hk
    rcases haf haf' with e1 | ⟨old, ho, hoaf, hclosed, _⟩
    · obtain ⟨a, b⟩ := h.a1 e1 k hk'
      refine ⟨by rw [hcnd k hk']; exact a, ?_⟩
      intro hnv' hns d hd'
      rcases ha1 with ⟨hsusp, href⟩ | hz | hz | hz
      · refine hcf d k hk' (b (hnv hnv') ?_ d (href d hd'))
        intro u
        by_cases e : u = t
        · subst e
          cases hsu : (s.pc u).susp with
          | false => rfl
          | true => have := hsusp hsu; rw [hns u] at this; cases this
        · rw [← hpc u e]; exact hns u
      · rw [hz] at haf'; cases haf'
      · rw [hns t] at hz; cases hz
      · exact hcf d k hk' (hz k d hk' e1 hnv' hns hd')
    · obtain ⟨a, b⟩ := h.a2 t old ho hoaf k hk'
      refine ⟨by rw [hcnd k hk']; exact a, ?_⟩
      intro hnv' _ d hd'
      rw [refData_closed hclosed hd', hd]
      exact hcf _ k hk' (b (hnv hnv'))
  · intro u old ho hoaf k hk
    have hk' := hQ k hk
    have key : (s.pc u).mtOld = some old ∨ (s.word = old ∧ (∀ v, (s.pc v).susp = false) ∧ ¬ SecOpen s) := by
      by_cases e : u = t
      · subst e; exact hmt old ho
      · left; rw [← hpc u e]; exact ho
    rcases key with ho' | ⟨hw, hns, hcl⟩
    · obtain ⟨a, b⟩ := h.a2 u old ho' hoaf k hk'
      exact ⟨by rw [hcnd k hk']; exact a, fun hnv' => by rw [hd]; exact hcf _ k hk' (b (hnv hnv'))⟩
    · obtain ⟨a, b⟩ := h.a1 (by rw [hw]; exact hoaf) k hk'
      exact ⟨by rw [hcnd k hk']; exact a, fun hnv' => by
        rw [hd]; exact hcf _ k hk' (b (hnv hnv') hns s.data (refData_of_closed hcl))⟩
  · intro u sc hu hsaf k hk
    have hu' : (s.pc u).scan? = some sc := by
      by_cases e : u = t
      · subst e; exact hsc sc hu
      · rw [← hpc u e]; exact hu
    obtain ⟨a, b⟩ := h.sc u sc hu' hsaf k hk
    have hkq : Queued s k := Or.inr ⟨u, sc, hu', by
      simp only [Scan.lists, List.mem_append] at hk ⊢
      rcases hk with e | e
      · exact Or.inl (Or.inl e)
      · exact Or.inl (Or.inr e)⟩
    exact ⟨a, by rw [hd]; exact hcf _ k hkq b⟩
  · intro u sc hu
    have hu' : (s.pc u).reScan = some sc := by
      by_cases e : u = t
      · subst e; exact hre sc hu
      · rw [← hpc u e]; exact hu
    exact h.re u sc hu'
  · intro u f hu
    have hu' : (s.pc u).finOf = some f := by
      by_cases e : u = t
      · subst e; exact hfin f hu
      · rw [← hpc u e]; exact hu
    obtain ⟨a, b⟩ := h.fin u f hu'
    refine ⟨a, fun hsaf k hk => ?_⟩
    obtain ⟨c, d⟩ := b hsaf k (hq k hk)
    exact ⟨c, by rw [hd]; exact hcf _ k (Or.inl (hq k hk)) d⟩

/-- What `Inv7.local` asks of the program point `p'` a thread moves to from `p`: nothing new in the regions the
    invariant speaks about. -/
structure Reg7 (p' p : PC) : Prop where
  scan : p'.scan? = p.scan?
  reScan : ∀ sc, p'.reScan = some sc → p.reScan = some sc
  finOf : ∀ f, p'.finOf = some f → p.finOf = some f
  mtOld : ∀ o, p'.mtOld = some o → p.mtOld = some o
  mwPost : ∀ c', p'.mwPost = some c' → ∃ c, p.mwPost = some c ∧ c'.first = c.first
  nonLate : p'.nonLate = true → p.nonLate = true

/-- `Reg7`, the thread does not come to hold the spinlock for a queue insertion, and is neither less suspended nor
    differently open. -/
structure Keep7 (p' p : PC) : Prop where
  reg : Reg7 p' p
  enqPend : p'.enqPend = true → p.enqPend = true
  susp : p.susp = true → p'.susp = true
  firstW : p'.firstW = p.firstW

theorem Keep7.of_eq {p' p : PC} (hsc : p'.scan? = p.scan?) (hre : p'.reScan = p.reScan) (hfin : p'.finOf = p.finOf)
    (hmt : p'.mtOld = p.mtOld) (hmw : p'.mwPost = p.mwPost) (henq : p'.enqPend = p.enqPend) (hnl : p'.nonLate = p.nonLate)
    (hsu : p'.susp = p.susp) (hfw : p'.firstW = p.firstW) : Keep7 p' p :=
  ⟨⟨hsc, fun _ e => hre ▸ e, fun _ e => hfin ▸ e, fun _ e => hmt ▸ e, fun _ e => ⟨_, hmw ▸ e, rfl⟩, fun e => hnl ▸ e⟩,
    fun e => henq ▸ e, fun e => hsu ▸ e, hfw⟩

/-- To or from a program point outside all regions (`idle`, the entry of an unlock function or of nsync_mu_wait). -/
theorem Reg7.of_none {p' p : PC} (hsc : p'.scan? = p.scan?) (hre : p'.reScan = none) (hfin : p'.finOf = none)
    (hmt : p'.mtOld = none) (hmw : p'.mwPost = none) (hnl : p'.nonLate = false) : Reg7 p' p :=
  ⟨hsc, fun _ e => (by rw [hre] at e; cases e), fun _ e => (by rw [hfin] at e; cases e), fun _ e => (by rw [hmt] at e; cases e),
    fun _ e => (by rw [hmw] at e; cases e), fun e => (by rw [hnl] at e; cases e)⟩

/-- A step of `t` to `p'` that takes nothing onto the queue and keeps the conditions of queued records, the data, and
    the two hint bits if set; `henq`, `ha1` as in `Inv7.local`. -/
theorem Inv7.frame {s s' : State} {t : Tid} {p' : PC} (h : Inv7 s) (hpc : s'.pc = setFn s.pc t p')
    (hq : ∀ k, k ∈ s'.queue → k ∈ s.queue) (hcnd : ∀ x, Queued s x → (s'.wr x).cond = (s.wr x).cond)
    (hd : s'.data = s.data) (hnv : s'.nwViol = false → s.nwViol = false)
    (haf : s'.word.af = true → s.word.af = true) (hcb : s'.word.cond = true → s.word.cond = true)
    (r : Reg7 p' (s.pc t)) (henq : p'.enqPend = true → s'.word.af = false)
    (ha1 : (((s.pc t).susp = true → p'.susp = true) ∧ ∀ d, RefData s' d → RefData s d) ∨ s'.word.af = false ∨ p'.susp = true ∨
      ∀ k d, Queued s k → s.word.af = true → s'.nwViol = false → (∀ u, (s'.pc u).susp = false) → RefData s' d → CondFalse s d k) :
    Inv7 s' := by
  have hpt : s'.pc t = p' := setFn_at hpc
  have hoth : ∀ u, u ≠ t → s'.pc u = s.pc u := setFn_others hpc
  rw [← hpt] at r henq ha1
  refine Inv7.local t h (fun k hk => queued_mono hq (eq_of_others hoth r.scan) hk) hq hcnd hd hnv ha1 (fun e => .inl (haf e)) hoth
    (by rw [r.scan]; exact fun _ e => e) r.reScan r.finOf (fun o e => .inl (r.mtOld o e)) (fun c' e => ?_) henq r.nonLate
    (fun e => .inl (hcb e))
  obtain ⟨c, hc, e'⟩ := r.mwPost c' e
  rw [e']; exact h.fst t c hc

/-- A step of `t` to `p'` that also keeps `held` and the snapshot. -/
theorem Inv7.quiet {s s' : State} {t : Tid} {p' : PC} (h : Inv7 s) (hpc : s'.pc = setFn s.pc t p')
    (hq : ∀ k, k ∈ s'.queue → k ∈ s.queue) (hcnd : ∀ x, Queued s x → (s'.wr x).cond = (s.wr x).cond)
    (hd : s'.data = s.data) (hss : s'.secStart = s.secStart) (hnv : s'.nwViol = s.nwViol) (hh : s'.held = s.held)
    (haf : s'.word.af = true → s.word.af = true) (hcb : s'.word.cond = true → s.word.cond = true)
    (k : Keep7 p' (s.pc t)) : Inv7 s' := by
  refine h.frame hpc hq hcnd hd (by rw [hnv]; exact id) haf hcb k.reg (fun e => ?_)
    (.inl ⟨k.susp, fun _ hd' => refData_same t hd hss
      (fun u hu => ⟨by rw [hh], setFn_others hpc u hu⟩)
      (by rw [hh, hpc, setFn_same, k.firstW]) hd'⟩)
  cases haf' : s'.word.af with
  | false => rfl
  | true => have := h.enq t (k.enqPend e); rw [haf haf'] at this; cases this

theorem PcMove.keep7 {s : State} {p p' : PC} (h : PcMove s p p') (hf : ∀ c, p.mwPost = some c → c.first = false) : Keep7 p' p :=
  ⟨⟨h.scan, fun _ e => h.reScan ▸ e, fun _ e => h.finOf ▸ e, fun _ e => h.mtOld ▸ e, fun _ e => h.mwPost e,
    fun e => h.nonLate ▸ e⟩, fun e => h.enqPend ▸ e, fun e => h.susp ▸ e, h.firstW hf⟩

theorem Inv7.move {s : State} {t : Tid} {p' : PC} (h : Inv7 s) (hp : PcMove s (s.pc t) p') : Inv7 (setPc s t p') :=
  h.quiet rfl (fun _ hk => hk) (fun _ _ => rfl) rfl rfl rfl rfl id id (hp.keep7 (h.fst t))

theorem CasPc.susp {s : State} {p p' : PC} {nw : Word} {w : Option Wid} (h : CasPc s p p' nw w) : (p.susp = true → p'.susp = true) ∨ nw.af = false := by
  cases h <;> (try cases ‹Ret›) <;> (try cases ‹Mode›) <;> (try cases ‹Bool›) <;>
    first | exact Or.inl (fun e => Bool.noConfusion e) | exact Or.inr rfl
theorem CasPc.firstW {s : State} {p p' : PC} {nw : Word} {w : Option Wid} (h : CasPc s p p' nw w)
    (hf : ∀ c, p.mwPost = some c → c.first = false) : p'.firstW = false ∧ p.firstW = false := by
  cases h <;> first | exact ⟨rfl, rfl⟩ | (cases ‹Ret› <;> exact ⟨rfl, rfl⟩) |
    (rw [loopPc_true]; split <;> exact ⟨by simp [PC.firstW, hf _ ‹_›], rfl⟩)
theorem CasPc.reScan {s : State} {p p' : PC} {nw : Word} {w : Option Wid} (h : CasPc s p p' nw w) : p'.reScan = none := by
  cases h <;> first | rfl | (cases ‹Ret› <;> rfl) | (rw [loopPc_true]; split <;> rfl)
theorem CasPc.mwPost {s : State} {p p' : PC} {nw : Word} {w : Option Wid} (h : CasPc s p p' nw w) {c' : MW} (hc : p'.mwPost = some c') :
    ∃ c, p.mwPost = some c ∧ c'.first = c.first := by
  cases h <;> first | exact ⟨_, hc, rfl⟩ | (cases hc; exact ⟨_, rfl, rfl⟩) | (cases hc; done) |
    (cases ‹Ret› <;> first | exact ⟨_, hc, rfl⟩ | (cases hc; done)) | (rw [loopPc_true] at hc; split at hc <;> cases hc)
theorem CasPc.enqPend {s : State} {p p' : PC} {nw : Word} {w : Option Wid} (h : CasPc s p p' nw w) (e : p'.enqPend = true) : nw.af = false := by
  cases h <;> first | rfl | (cases e; done) | (cases ‹Ret› <;> cases e) | (rw [loopPc_true] at e; split at e <;> cases e)
theorem CasPc.nonLate {s : State} {p p' : PC} {nw : Word} {w : Option Wid} (h : CasPc s p p' nw w) : p'.nonLate = false := by
  cases h <;> first | rfl | (cases ‹Ret› <;> rfl) | (rw [loopPc_true]; split <;> rfl)

/-- The acquiring CAS of mu_try_acquire_after_timeout_or_cancel: `old_word` is the current word of a free mutex. -/
theorem Inv7.mtAcq {s s' : State} {t : Tid} {c : MW} {old : Word} (h1 : Inv1 s) (h1' : Inv1 s') (h : Inv7 s)
    (heq : s.pc t = .mtCasAcq c old) (hw : s.word = old) (ok : CasOk s t (.mtLdW c old) (mtAcqWord old) none s') : Inv7 s' := by
  have hok1 := h1.pcok t; rw [heq] at hok1
  have hfree : s.wOwner = none := h1.lock.noOwner_of_free (by rw [hw]; exact hok1.2.2.2.1)
  have hcl := not_secOpen_of_free h1 hfree
  have hpt : s'.pc t = .mtLdW c old := setFn_at ok.pc
  have hoth : ∀ u, u ≠ t → s'.pc u = s.pc u := setFn_others ok.pc
  have hown' : s'.wOwner = some t := (h1'.lock.wown t).2 (by rw [h1'.share_eq (by rw [hpt]; nofun), hpt]; rfl)
  have hcl' : ¬ SecOpen s' :=
    not_secOpen_of_owner h1' hown' (by rw [ok.held, h1.held_none (t := t) (by rw [heq]; nofun)]; nofun) (by rw [hpt]; rfl)
  refine Inv7.local t h (fun k hk => (queued_same (t := t) ok.queue hoth (by rw [hpt, heq]; rfl) k).1 hk)
    (fun k hk => by rw [ok.queue] at hk; exact hk) (fun _ _ => by rw [ok.wr_none]) ok.data (by rw [ok.nwViol]; exact id)
    (.inl ⟨fun e => (by rw [heq] at e; cases e), fun d hd => by rw [refData_closed hcl' hd, ok.data]; exact refData_of_closed hcl⟩)
    (fun e => .inl (by rw [ok.word] at e; rw [hw]; exact e)) hoth (fun _ e => by rw [hpt] at e; cases e)
    (fun _ e => by rw [hpt] at e; cases e) (fun _ e => by rw [hpt] at e; cases e)
    (fun o e => .inr ⟨by rw [hpt] at e; cases e; exact hw, no_susp_of_free h1 hfree, hcl⟩)
    (fun c' e => by rw [hpt] at e; cases e; exact h.fst t _ (by rw [heq]; rfl)) (fun e => by rw [hpt] at e; cases e)
    (fun e => by rw [hpt] at e; cases e)
    (fun e => .inl (by rw [ok.word] at e; rw [hw]; exact e))

theorem Inv7.cas {s s' : State} {t : Tid} {p' : PC} {nw : Word} {w : Option Wid} (h1 : Inv1 s) (h1' : Inv1 s') (h : Inv7 s)
    (hp : CasPc s (s.pc t) p' nw w) (ok : CasOk s t p' nw w s') : Inv7 s' := by
  have hpt : s'.pc t = p' := setFn_at ok.pc
  have hoth : ∀ u, u ≠ t → s'.pc u = s.pc u := setFn_others ok.pc
  rcases hp.mtOld with hmt | ⟨c, old, heq⟩
  rotate_left
  · generalize hpe : s.pc t = p at hp heq
    subst heq
    cases hp with | mtAcq _ _ hw => exact h.mtAcq h1 h1' hpe hw ok
  refine h.frame ok.pc (fun _ hk => ok.queue ▸ hk) (fun _ _ => by rw [ok.wr, dropW_cond]) ok.data (by rw [ok.nwViol]; exact id)
    (fun e => hp.af (ok.word ▸ e)) (fun e => hp.cond (ok.word ▸ e))
    ⟨by rw [hp.scan.1, hp.scan.2], fun _ e => (by rw [hp.reScan] at e; cases e), fun _ e => (by rw [hp.finOf] at e; cases e),
      fun _ e => (by rw [hmt] at e; cases e), fun _ e => hp.mwPost e, fun e => (by rw [hp.nonLate] at e; cases e)⟩
    (fun e => by rw [ok.word]; exact hp.enqPend e) ?_
  rcases hp.susp with a | a
  · exact .inl ⟨a, fun d hd => refData_same t ok.data ok.secStart (fun u hu => ⟨by rw [ok.held], hoth u hu⟩)
      (by rw [ok.held, hpt, (hp.firstW (h.fst t)).1, (hp.firstW (h.fst t)).2]) hd⟩
  · exact .inr (.inl (by rw [ok.word]; exact a))

/-- A step that changes only semaphores / the clock / ownership of records. -/
theorem Inv7.env {s s' : State} (h : Inv7 s) (hq : s'.queue = s.queue) (hcnd : ∀ x, (s'.wr x).cond = (s.wr x).cond)
    (hd : s'.data = s.data) (hss : s'.secStart = s.secStart) (hnv : s'.nwViol = s.nwViol) (hh : s'.held = s.held)
    (hw : s'.word = s.word) (hpc : s'.pc = s.pc) : Inv7 s' :=
  h.quiet (t := 0) (by rw [hpc, setFn_self]) (by rw [hq]; exact fun _ hk => hk) (fun x _ => hcnd x) hd hss hnv hh (by rw [hw]; exact id)
    (by rw [hw]; exact id) (.of_eq rfl rfl rfl rfl rfl rfl rfl rfl rfl)

/-! ### tactics for steps given by their successor state -/

/-- `s'.word.af → s.word.af` for the word updates that keep or clear MU_ALL_FALSE -/
macro "word_af" : tactic => `(tactic|
  first
  | (simp; done)
  | (simp_all [acqWord, addWord, relUncWord, relNwWord, subWord, Word.zero, enqWord, mwEnqWord, mtAcqWord, grabWord]; done)
  | (simp_all [acqWord, addWord, relUncWord, relNwWord, subWord, Word.zero, enqWord, mwEnqWord, mtAcqWord, grabWord] <;>
      (repeat' split) <;> simp_all))

macro "pc_fact" heq:ident : tactic => `(tactic|
  (try rw [$heq:ident]
   (simp_all [PC.firstW, PC.mwPost, PC.susp, PC.nonLate, PC.scan?, PC.reScan, PC.finOf, PC.mtOld, PC.enqPend, Ret.mw?, Ret.dirty, setFn, loopPc, finPc,
      Ret.pc, SL.entry, SL.fromWait, SL.woken]) <;> grind))

/-- `s'.word.cond → s.word.cond` for the word updates that keep or clear MU_CONDITION -/
macro "word_cond_rev" : tactic => `(tactic|
  first
  | (simp; done)
  | (simp_all [acqWord, addWord, relUncWord, relNwWord, subWord, Word.zero, enqWord, mtAcqWord, grabWord]; done)
  | (simp_all [acqWord, addWord, relUncWord, relNwWord, subWord, Word.zero, enqWord, mtAcqWord, grabWord] <;>
      (repeat' split) <;> simp_all))

/-- steps that change nothing the invariant speaks about -/
macro "inv7_local" t:ident h:ident heq:ident : tactic => `(tactic|
  (have hf7 := ($h).fst $t
   rw [$heq:ident] at hf7
   refine Inv7.local $t $h ?_ ?_ ?_ (by simp) (by simp) ?_ ?_ ?_ ?_ ?_ ?_ ?_ ?_ ?_ ?_ ?_
   · intro k hk
     exact (queued_same (t := $t) (by simp) (by intro u hu; simp [setFn, hu])
        (by rw [$heq:ident]; simp [setFn, PC.scan?, loopPc, finPc, Ret.pc] <;> (repeat' split) <;> simp [PC.scan?]) k).1 hk
   · intro k hk; simpa using hk
   · intro x _; (simp [setFn]) <;> (try split) <;> simp_all
   · first
     | (left
        refine ⟨?_, ?_⟩
        · pc_fact $heq
        · intro d hd
          refine refData_congr (secOpen_congr (by simp) ?_) (by simp) (by simp) hd
          intro u
          by_cases hu : u = $t
          · subst hu; pc_fact $heq
          · simp [setFn, hu])
     | (right; left; simp_all [relUncWord, Word.zero, Ret.mode]; done)
   · intro haf; left; revert haf; word_af
   · intro u hu; simp [setFn, hu]
   · pc_fact $heq
   · pc_fact $heq
   · pc_fact $heq
   · intro old ho; left; revert ho; pc_fact $heq
   · pc_fact $heq
   · first
     | (simp [PC.enqPend, setFn, loopPc, finPc, Ret.pc]; done)
     | (simp [PC.enqPend, setFn, loopPc, finPc, Ret.pc, enqWord] <;> (repeat' split) <;> simp_all [PC.enqPend])
   · pc_fact $heq
   · intro hcb; left; revert hcb; word_cond_rev))

macro "ld_case7" t:ident h:ident heq:ident hs:ident : tactic => `(tactic|
  (try dsimp only at $hs:ident
   try simp only [ldWord, ldWaiting] at $hs:ident
   repeat' split at $hs:ident
   all_goals first
     | (cases $hs:ident; done)
     | (cases $hs:ident; inv7_local $t $h $heq)
     | (cases $hs:ident; split <;> inv7_local $t $h $heq)))

/-- like `inv7_local`, but the goals about conditions (`hcnd`), about the meaning of the hint (`ha1`)
    and about the new value of MU_ALL_FALSE (`haf`) are left to the caller, in this order -/
macro "inv7_local'" t:ident h:ident heq:ident : tactic => `(tactic|
  (have hf7 := ($h).fst $t
   rw [$heq:ident] at hf7
   refine Inv7.local $t $h ?_ ?_ ?hcnd (by simp) (by first | (simp; done) | (simp; intro hnv _; exact hnv)) ?ha1 ?haf ?_ ?_ ?_ ?_ ?_ ?_ ?_ ?_ ?hcb
   case refine_1 =>
     intro k hk
     exact (queued_same (t := $t) (by simp) (by intro u hu; simp [setFn, hu])
        (by rw [$heq:ident]; simp [setFn, PC.scan?, loopPc, finPc, Ret.pc] <;> (repeat' split) <;> simp [PC.scan?]) k).1 hk
   case refine_2 => intro k hk; simpa using hk
   case refine_3 => intro u hu; simp [setFn, hu]
   case refine_4 => pc_fact $heq
   case refine_5 => pc_fact $heq
   case refine_6 => pc_fact $heq
   case refine_7 => intro old ho; left; revert ho; pc_fact $heq
   case refine_8 => pc_fact $heq
   case refine_9 =>
     first
     | (simp [PC.enqPend, setFn, loopPc, finPc, Ret.pc]; done)
     | (simp [PC.enqPend, setFn, loopPc, finPc, Ret.pc, enqWord] <;> (repeat' split) <;> simp_all [PC.enqPend])
   case refine_10 => pc_fact $heq))

theorem spin_of_enqPend {p : PC} (h : p.enqPend = true) : p.spin = true := by
  cases p <;> simp [PC.enqPend] at h <;> rfl

theorem finPc_enqPend (r : Ret) (l : List Wid) : (finPc r l).enqPend = false := by
  cases l <;> cases r <;> rfl

theorem scanPc_enqPend {r : Ret} {late : Bool} {p : PC} (h : ScanPc r late p) : p.enqPend = false := by
  cases p <;> simp [ScanPc] at h <;> rfl

theorem share_of_mtOld {p : PC} {old : Word} (h : p.mtOld = some old) : pcShare p = some .W := by
  cases p <;> simp [PC.mtOld] at h <;> rfl

theorem share_of_scan_late {p : PC} {sc : Scan} (h : p.scan? = some sc) (hl : sc.late = true) : pcShare p = some .W := by
  cases p <;> simp [PC.scan?] at h <;> subst h <;> simp [pcShare, hl]

theorem share_of_fin_late {p : PC} {f : Fin} (h : p.finOf = some f) (hl : f.late = true) : pcShare p = some .W := by
  cases p <;> simp [PC.finOf] at h <;> subst h <;> simp [pcShare, hl]

end NsyncVerif.MuC
