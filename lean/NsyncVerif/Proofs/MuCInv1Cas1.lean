import NsyncVerif.Proofs.MuCInv1Tac
/-
  MuC, first invariant group: the lock invariant through an acquiring and through a releasing CAS.
-/
namespace NsyncVerif.MuC

theorem blocked_W_false {ign : Bool} {w : Word} (h : blocked .W ign w = false) : w.wlock = false ∧ w.readers = 0 := by
  simp [blocked] at h; exact ⟨h.1.1, h.1.2⟩

theorem blocked_R_false {ign : Bool} {w : Word} (h : blocked .R ign w = false) : w.wlock = false := by
  simp [blocked] at h; exact h.1

/-- An acquiring CAS `word → acqWord l clear lwl word` by a thread without a share. -/
theorem LockInv.acquire {s s' : State} {t : Tid} {l : Mode} {ign clear lwl : Bool} (h : LockInv s)
    (hn : shareOf s t = none) (hb : blocked l ign s.word = false)
    (hw : s'.word = acqWord l clear lwl s.word)
    (ho : s'.wOwner = (addShare s t l).wOwner) (hro : s'.rOwners = (addShare s t l).rOwners)
    (h5 : shareOf s' t = some l) (h6 : ∀ u, u ≠ t → shareOf s' u = shareOf s u) : LockInv s' := by
  cases l with
  | W =>
    obtain ⟨b1, b2⟩ := blocked_W_false hb
    exact h.acquireW b1 b2 (by rw [hw]; rfl) (by rw [hw]; exact b2) ho hro h5 h6
  | R =>
    have b1 := blocked_R_false hb
    exact h.acquireR hn b1 (by rw [hw]; exact b1) (by rw [hw]; rfl) ho hro h5 h6

/-- A releasing CAS that takes the share `l` of thread `t` out of the word. -/
theorem LockInv.release {s s' : State} {t : Tid} {l : Mode} (h : LockInv s)
    (ht : shareOf s t = some l)
    (h1 : s'.word.wlock = (subWord l s.word).wlock) (h2 : s'.word.readers = (subWord l s.word).readers)
    (ho : s'.wOwner = (subShare s t l).wOwner) (hro : s'.rOwners = (subShare s t l).rOwners)
    (h5 : shareOf s' t = none) (h6 : ∀ u, u ≠ t → shareOf s' u = shareOf s u) : LockInv s' := by
  cases l with
  | W =>
    exact h.releaseW ht h1 h2 ho hro h5 h6
  | R =>
    exact h.releaseR ht h1 h2 ho hro h5 h6

end NsyncVerif.MuC
