import NsyncVerif.Proofs.MuCTLScan
import NsyncVerif.Proofs.MuCFairKeep
/-
  MuC, everything that is proved about ONE step of a thread `t` (`StepAll`): the step facts `StepTL0` of the induction for
  Inv12, that the call in progress is kept (`CallKeep`, `KindKeep`), that mu->waiters is changed only under the spinlock,
  and that the record of a nsync_mu_wait call carries the call's condition (`InvRC`).  The two states enter only through
  what these facts read off them — of the stepping thread's program point its `View`, the word, whether the thread owns the writer
  bit, the thread's `held`, the records, the queue (`Coord`).  `TL` is the facts written in these coordinates, so that a
  step is taken apart once, kind by kind along `Eff` (Proofs/MuCTLWalk.lean), and every rule is checked on the coordinates it
  gives.  At most leaves only the program point moves, and moves to one with the same view (`TL.refl`).
-/
namespace NsyncVerif.MuC

theorem addShare_wOwner (s : State) (t : Tid) (l : Mode) : (addShare s t l).wOwner = if l = .W then some t else s.wOwner := by
  cases l <;> rfl

theorem subShare_wOwner (s : State) (t : Tid) (l : Mode) : (subShare s t l).wOwner = if l = .W then none else s.wOwner := by
  cases l <;> rfl

theorem wr_mergeLinks (s : State) (p n : Option Wid) (x : Wid) :
    ((mergeLinks s p n).wr x).waiting = (s.wr x).waiting ∧ ((mergeLinks s p n).wr x).lType = (s.wr x).lType ∧
    ((mergeLinks s p n).wr x).cond = (s.wr x).cond ∧ ((mergeLinks s p n).wr x).owner = (s.wr x).owner :=
  have h := lnkOnly_mergeLinks s p n x
  ⟨h.2.1, h.2.2.1, h.2.2.2.2.1, h.1⟩

theorem wr_removeLinks (s : State) (p : Option Wid) (k : Wid) (n : Option Wid) (x : Wid) :
    ((removeLinks s p k n).wr x).waiting = (s.wr x).waiting ∧ ((removeLinks s p k n).wr x).lType = (s.wr x).lType ∧
    ((removeLinks s p k n).wr x).cond = (s.wr x).cond ∧ ((removeLinks s p k n).wr x).owner = (s.wr x).owner :=
  have h := lnkOnly_removeLinks s p k n x
  ⟨h.2.1, h.2.2.1, h.2.2.2.2.1, h.1⟩

attribute [simp] cond_of_merge removeLinks_cond dropW_cond
@[simp] theorem mergeLinks_wr_waiting (s : State) (p n : Option Wid) (x : Wid) : ((mergeLinks s p n).wr x).waiting = (s.wr x).waiting :=
  (wr_mergeLinks s p n x).1
@[simp] theorem mergeLinks_wr_lType (s : State) (p n : Option Wid) (x : Wid) : ((mergeLinks s p n).wr x).lType = (s.wr x).lType :=
  (wr_mergeLinks s p n x).2.1
@[simp] theorem mergeLinks_wr_owner (s : State) (p n : Option Wid) (x : Wid) : ((mergeLinks s p n).wr x).owner = (s.wr x).owner :=
  (wr_mergeLinks s p n x).2.2.2
@[simp] theorem removeLinks_wr_waiting (s : State) (p : Option Wid) (k : Wid) (n : Option Wid) (x : Wid) :
    ((removeLinks s p k n).wr x).waiting = (s.wr x).waiting := (wr_removeLinks s p k n x).1
@[simp] theorem removeLinks_wr_lType (s : State) (p : Option Wid) (k : Wid) (n : Option Wid) (x : Wid) :
    ((removeLinks s p k n).wr x).lType = (s.wr x).lType := (wr_removeLinks s p k n x).2.1
@[simp] theorem removeLinks_wr_owner (s : State) (p : Option Wid) (k : Wid) (n : Option Wid) (x : Wid) :
    ((removeLinks s p k n).wr x).owner = (s.wr x).owner := (wr_removeLinks s p k n x).2.2.2

@[simp] theorem dequeue_wr_waiting (s : State) (k x : Wid) : ((dequeue s k).wr x).waiting = (s.wr x).waiting := by simp [dequeue]
@[simp] theorem dequeue_wr_lType (s : State) (k x : Wid) : ((dequeue s k).wr x).lType = (s.wr x).lType := by simp [dequeue]
@[simp] theorem dequeue_wr_cond (s : State) (k x : Wid) : ((dequeue s k).wr x).cond = (s.wr x).cond := by simp [dequeue]
@[simp] theorem dequeue_wr_owner (s : State) (k x : Wid) : ((dequeue s k).wr x).owner = (s.wr x).owner := by simp [dequeue]
@[simp] theorem enqLast_wr_waiting (s : State) (k x : Wid) : ((enqLast s k).wr x).waiting = (s.wr x).waiting := by simp [enqLast]
@[simp] theorem enqLast_wr_lType (s : State) (k x : Wid) : ((enqLast s k).wr x).lType = (s.wr x).lType := by simp [enqLast]
@[simp] theorem enqLast_wr_cond (s : State) (k x : Wid) : ((enqLast s k).wr x).cond = (s.wr x).cond := by simp [enqLast]
@[simp] theorem enqLast_wr_owner (s : State) (k x : Wid) : ((enqLast s k).wr x).owner = (s.wr x).owner := by simp [enqLast]
@[simp] theorem enqFirst_wr_waiting (s : State) (k x : Wid) : ((enqFirst s k).wr x).waiting = (s.wr x).waiting := by simp [enqFirst]
@[simp] theorem enqFirst_wr_lType (s : State) (k x : Wid) : ((enqFirst s k).wr x).lType = (s.wr x).lType := by simp [enqFirst]
@[simp] theorem enqFirst_wr_cond (s : State) (k x : Wid) : ((enqFirst s k).wr x).cond = (s.wr x).cond := by simp [enqFirst]
@[simp] theorem enqFirst_wr_owner (s : State) (k x : Wid) : ((enqFirst s k).wr x).owner = (s.wr x).owner := by simp [enqFirst]
@[simp] theorem dropW_wr_waiting (s : State) (o : Option Wid) (x : Wid) : ((dropW s o).wr x).waiting = (s.wr x).waiting := by
  obtain ⟨o', e⟩ := dropW_wr_eq s o x; rw [e]
@[simp] theorem dropW_wr_lType (s : State) (o : Option Wid) (x : Wid) : ((dropW s o).wr x).lType = (s.wr x).lType := by
  obtain ⟨o', e⟩ := dropW_wr_eq s o x; rw [e]
@[simp] theorem semPost_wr_waiting (cfg : Cfg) (s : State) (k x : Wid) : ((semPost cfg s k).wr x).waiting = (s.wr x).waiting := by
  simp [semPost, setFn]; split <;> simp_all
@[simp] theorem semPost_wr_lType (cfg : Cfg) (s : State) (k x : Wid) : ((semPost cfg s k).wr x).lType = (s.wr x).lType := by
  simp [semPost, setFn]; split <;> simp_all
@[simp] theorem semPost_wr_cond (cfg : Cfg) (s : State) (k x : Wid) : ((semPost cfg s k).wr x).cond = (s.wr x).cond := by
  simp [semPost, setFn]; split <;> simp_all

@[simp] theorem acqWord_ww (l : Mode) (c lwl : Bool) (w : Word) : (acqWord l c lwl w).ww = (w.ww && l != .W) := by
  cases l <;> simp [acqWord]
@[simp] theorem acqWord_lw (l : Mode) (c lwl : Bool) (w : Word) : (acqWord l c lwl w).lw = (w.lw && !lwl) := by
  cases l <;> rfl
@[simp] theorem addWord_ww (l : Mode) : (addWord l).ww = false := by cases l <;> rfl
@[simp] theorem addWord_lw (l : Mode) : (addWord l).lw = false := by cases l <;> rfl
@[simp] theorem addWord_spin (l : Mode) : (addWord l).spin = false := by cases l <;> rfl
@[simp] theorem subWord_ww (l : Mode) (w : Word) : (subWord l w).ww = w.ww := by cases l <;> rfl
@[simp] theorem subWord_lw (l : Mode) (w : Word) : (subWord l w).lw = w.lw := by cases l <;> rfl
@[simp] theorem relUncWord_ww (l : Mode) (w : Word) : (relUncWord l w).ww = w.ww := by cases l <;> rfl
@[simp] theorem relUncWord_lw (l : Mode) (w : Word) : (relUncWord l w).lw = w.lw := by cases l <;> rfl
@[simp] theorem mtRelWord_ww (a : Option Mode) (w : Word) : (mtRelWord a w).ww = false := by
  rcases a with _ | _ | _ <;> rfl
@[simp] theorem mtRelWord_lw (a : Option Mode) (w : Word) : (mtRelWord a w).lw = w.lw := by
  rcases a with _ | _ | _ <;> rfl

theorem setFn_waiting {f : Wid → WRec} {k : Wid} {r : WRec} (x : Wid) (h : r.waiting = (f k).waiting) :
    (setFn f k r x).waiting = (f x).waiting := setFn_proj WRec.waiting h x

theorem setFn_lType {f : Wid → WRec} {k : Wid} {r : WRec} (x : Wid) (h : r.lType = (f k).lType) :
    (setFn f k r x).lType = (f x).lType := setFn_proj WRec.lType h x

theorem setFn_cond {f : Wid → WRec} {k : Wid} {r : WRec} (x : Wid) (h : r.cond = (f k).cond) :
    (setFn f k r x).cond = (f x).cond := setFn_proj WRec.cond h x

theorem not_blocked_wlock {l : Mode} {i : Bool} {w : Word} (h : blocked l i w = false) : w.wlock = false := by
  cases l <;> simp_all [blocked]

/-- What the step facts read off a program point. -/
structure View where
  lsRec : Option Wid
  waitRec : Option Wid
  hlRec : Option Wid
  limbo : Option Wid
  wmode : Mode
  mtOld : Option Word
  wakeL : List Wid
  ws : List Wid
  wwA : Bool
  enqPend : Bool
  sl : Option SL
  mwRel : Option MW
  finOf : Option Fin
  unl : Bool
  share : Option Mode
  timedOut : Bool
  woken : Bool
  mw : Option MW
  okD : Prop
  rel : Bool
  idle : Bool
  spin : Bool
  condRec : Option (Wid × Option Cond)

def PC.isIdle : PC → Bool
  | .idle => true
  | _ => false

theorem PC.eq_idle {p : PC} (h : p.isIdle = true) : p = .idle := by
  cases p <;> first | rfl | cases h

theorem PC.ne_idle {p : PC} (h : p.isIdle = false) : p ≠ .idle := by
  intro e; rw [e] at h; cases h

def PC.view (p : PC) : View :=
  ⟨p.lsRec, p.waitRec, p.hlRec, p.limbo, p.wmode, p.mtOld, p.wakeL, p.ws, p.wwA, p.enqPend, p.sl?, p.mwRel, p.finOf, p.unl,
    pcShare p, p.timedOut, p.woken, p.mw, p.okD, p.rel, p.isIdle, p.spin, p.condRec⟩

/-- What the step facts read off a state, for thread `t`. -/
structure Coord extends View where
  word : Word
  /-- `t` owns the writer bit -/
  own : Prop
  held : Option Mode
  wr : Wid → WRec
  queue : List Wid

def coord (s : State) (t : Tid) (p : PC) : Coord := ⟨p.view, s.word, s.wOwner = some t, s.held t, s.wr, s.queue⟩

def Coord.shareOf (a : Coord) : Option Mode :=
  match a.held with
  | some m => some m
  | none => a.share

/-- `RecTL`, `WaitTL`, `WordTL`, `RKeep`, `LwTL` in coordinates, clause by clause in the order of their fields; `G` stands for
    `GaveUpC`, `E` for the enqueue CAS of lock_slow having succeeded; then `CallKeep` and `KindKeep` (`A`: the step is a
    `call` or a `ret`).  The two clauses that hold by the spinlock invariant wait for `H` (`ok3` of the program point). -/
def TL (a b : Coord) (G E A H : Prop) : Prop :=
  (∀ k, (a.wr k).waiting = true → (b.wr k).waiting = false → k ∈ a.wakeL ∨ a.limbo = some k) ∧
  (∀ k, (a.wr k).waiting = false → (b.wr k).waiting = true →
    (a.enqPend = true ∨ b.limbo = some k) ∧ (k ∈ a.ws ∨ (a.wr k).owner = none) ∧ a.waitRec = none) ∧
  (∀ k, ((b.wr k).lType = (a.wr k).lType ∧ (b.wr k).cond = (a.wr k).cond) ∨
    ((a.wr k).waiting = false ∧ (b.wr k).waiting = true)) ∧
  (∀ k, b.lsRec = some k → a.lsRec = some k ∨ (b.wr k).cond = none) ∧
  (∀ k, a.waitRec = some k → (a.wr k).waiting = true → b.waitRec = some k ∨ a.mtOld ≠ none) ∧
  (∀ k, b.waitRec = some k → a.waitRec = some k ∨ a.enqPend = true ∨ (∃ c, b.mwRel = some c) ∨ b.hlRec = some k) ∧
  (∀ k, k ∈ a.wakeL → k ∈ b.wakeL ∨ (b.wr k).waiting = false) ∧
  (∀ k, a.waitRec = some k → a.hlRec = none → a.wmode = .W →
    (b.waitRec = some k ∧ b.hlRec = none) ∨ b.wwA = true ∨ b.word.ww = false ∨ a.mtOld ≠ none) ∧
  (b.enqPend = true → a.enqPend = true ∨ E) ∧
  (H → b.word.ww = true → a.word.ww = true ∨ (b.wwA = true ∧ a.word.spin = false) ∨ ∃ f, a.finOf = some f ∧ f.sww = true) ∧
  (a.wwA = true → b.wwA = true ∨ b.word.ww = false) ∧
  (b.word.lw = true → a.word.lw = true ∨ (∃ c, b.sl = some c ∧ c.lwl = true) ∨ ∃ old, a.mtOld = some old ∧ old.lw = true) ∧
  (∀ c, a.sl = some c → c.lwl = true → (∃ c', b.sl = some c' ∧ c'.lwl = true) ∨ b.word.lw = false) ∧
  (∀ old, b.mtOld = some old → a.mtOld = some old ∨ b.word.ww = false) ∧
  (b.own → b.unl = false → b.word.ww = true → a.own ∧ a.unl = false) ∧
  (a.shareOf ≠ none → b.shareOf ≠ none ∨ b.unl = true ∨ b.timedOut = true ∨ G) ∧
  (a.unl = true → b.unl = true ∨ G) ∧
  (a.woken = true → b.woken = true ∨ b.shareOf ≠ none ∨ G) ∧
  (∀ k, a.waitRec = some k → a.hlRec = none →
    (b.waitRec = some k ∧ b.hlRec = none) ∨ b.woken = true ∨ b.timedOut = true ∨ b.shareOf ≠ none) ∧
  (a.timedOut = true → b.timedOut = true ∨ b.woken = true ∨ b.shareOf ≠ none) ∧
  (∀ old, b.mtOld = some old → old.lw = true → (a.mtOld = some old → a.word.lw = true) → b.word.lw = true) ∧
  (a.word.lw = true → b.word.lw = true ∨ a.word.wlock = false ∨ a.mtOld ≠ none) ∧
  (∀ c, a.mw = some c → b.idle = true ∨ ∃ c', b.mw = some c' ∧ c.same c') ∧
  (a.idle = false → a.mw = none → b.idle = true ∨ b.mw = none) ∧
  (a.okD → b.okD) ∧
  (A ∨ (a.idle = false ∧ b.idle = false ∧ b.rel = a.rel)) ∧
  (H → b.queue = a.queue ∨ a.spin = true ∨ a.word.spin = false) ∧
  ((b.condRec = a.condRec ∧ ∀ k, (b.wr k).cond = (a.wr k).cond) ∨ ∀ k c, b.condRec = some (k, c) → (b.wr k).cond = c)

theorem TL.refl (a : Coord) (G E : Prop) {A H : Prop} (h : A ∨ a.idle = false) : TL a a G E A H := by
  unfold TL
  exact ⟨fun _ x y => (by rw [x] at y; cases y), fun _ x y => (by rw [x] at y; cases y), fun _ => Or.inl ⟨rfl, rfl⟩, fun _ => Or.inl,
    fun _ x _ => Or.inl x, fun _ => Or.inl, fun _ => Or.inl, fun _ x y _ => Or.inl ⟨x, y⟩, Or.inl, fun _ => Or.inl, Or.inl, Or.inl,
    fun c x y => Or.inl ⟨c, x, y⟩, fun _ => Or.inl, fun x y _ => ⟨x, y⟩, Or.inl, Or.inl, Or.inl, fun _ x y => Or.inl ⟨x, y⟩,
    Or.inl, fun _ x _ y => y x, Or.inl, fun c x => Or.inr ⟨c, x, c.same_refl⟩, fun _ x => Or.inr x, id,
    h.imp id fun x => ⟨x, x, rfl⟩, fun _ => Or.inl rfl, Or.inl ⟨rfl, fun _ => rfl⟩⟩

/-- `GaveUp` in coordinates. -/
def GaveUpC (p : PC) (w : Word) (p' : PC) : Prop :=
  (∃ l nw, p = .ulCas0 l nw ∧ w = addWord l) ∨
  (∃ l nw old, p = .ulCas1 l nw old ∧ w = old) ∨
  (∃ r old, p = .usCasUnc r old ∧ w = old) ∨
  (∃ c old, p = .mwRelCas c old false ∧ w = old) ∨
  (∃ r f old, p = .usFinCas r f old ∧ w = old ∧ p' = finPc r f.wake) ∨
  (∃ c old, p = .lsCasEnq c old ∧ w = old ∧ p' = .lsSt c)

/-- Everything that is established about a step of thread `t`, kind by kind, without the invariants of the two states
    (`StepTL0.full` makes `tl` the `StepTL` of the induction for Inv12 when they are at hand).  `queue`, like `tl.wd.p3`,
    holds by the spinlock invariant and waits for `ok3` of the program point. -/
structure StepAll (s s' : State) (t : Tid) (A : Prop) : Prop where
  tl : StepTL0 s s' t
  keep : CallKeep (s.pc t) (s'.pc t)
  kind : A ∨ KindKeep (s.pc t) (s'.pc t)
  queue : (s.pc t).ok3 → s'.queue = s.queue ∨ (s.pc t).spin = true ∨ s.word.spin = false
  rc : ∀ k c, (s'.pc t).condRec = some (k, c) →
    (s'.wr k).cond = c ∨ ((s.pc t).condRec = some (k, c) ∧ (s'.wr k).cond = (s.wr k).cond)

theorem StepAll.mono {s s' : State} {t : Tid} {A B : Prop} (h : StepAll s s' t A) (f : A → B) : StepAll s s' t B :=
  ⟨h.tl, h.keep, h.kind.imp f id, h.queue, h.rc⟩

theorem StepAll.of_coord {s s' : State} {t : Tid} {p : PC} {A : Prop} (hp : s.pc t = p) (oth : SameOther s s' t)
    (m : s'.data = s.data ∧ (s'.nwViol = false → s.nwViol = false) ∧
      ∀ p', s'.pc t = p' → TL (coord s t p) (coord s' t p') (GaveUpC p s.word p')
        (∃ c old, p = .lsCasEnq c old ∧ s.word = old ∧ p' = .lsSt c) A p.ok3) : StepAll s s' t A := by
  subst hp
  obtain ⟨data, nv, m⟩ := m
  obtain ⟨r1, r2, r3, r4, p1, p1', p2, p5, p11, p3, p4, p6, p7, p8, p10, share, unl, woken, wrec, tout, p12, p13,
    k1, k2, k3, k4, q, rc⟩ := m _ rfl
  refine ⟨⟨oth, data, nv, ⟨r1, r2, r3, r4⟩, ⟨p1, p1', p2, p5, p11⟩, ⟨p3, p4, p6, p7, p8, p10⟩,
    ⟨share, unl, woken, wrec, tout⟩, ⟨p12, p13⟩⟩, ⟨fun c hc => (k1 c hc).imp PC.eq_idle id, fun hn hm => ?_, k3⟩,
    k4.imp id fun ⟨x, y, z⟩ => ⟨PC.ne_idle x, PC.ne_idle y, z⟩, q,
    fun k c hl => rc.elim (fun ⟨x, y⟩ => Or.inr ⟨(show (s'.pc t).condRec = (s.pc t).condRec from x).symm.trans hl, y k⟩)
      (fun x => Or.inl (x k c hl))⟩
  cases hi : (s.pc t).isIdle
  · exact (k2 hi hm).imp PC.eq_idle id
  · exact absurd (PC.eq_idle hi) hn

theorem StepAll.setPc {s : State} {t : Tid} {p p' : PC} {A : Prop} (hp : s.pc t = p)
    (m : TL (coord s t p) (coord s t p') (GaveUpC p s.word p') (∃ c old, p = .lsCasEnq c old ∧ s.word = old ∧ p' = .lsSt c) A
      p.ok3) :
    StepAll s (setPc s t p') t A :=
  StepAll.of_coord hp (fun _ hu => ⟨setFn_other _ _ _ _ hu, rfl⟩) ⟨rfl, id, fun _ hp' => by
    cases (setFn_same _ _ _).symm.trans hp'; exact m⟩

theorem StepAll.of_fields {s s' : State} {t : Tid} {p p' : PC} {A own' : Prop} {w' : Word} {wr' : Wid → WRec}
    {hd' : Option Mode} {q' : List Wid}
    (hp : s.pc t = p) (hpc : s'.pc = setFn s.pc t p') (hoh : ∀ u, u ≠ t → s'.held u = s.held u)
    (hw : s'.word = w') (hwr : s'.wr = wr') (hh : s'.held t = hd') (hq : s'.queue = q')
    (hown : (s'.wOwner = some t) = own') (hdata : s'.data = s.data) (hnv : s'.nwViol = false → s.nwViol = false)
    (m : TL (coord s t p) ⟨p'.view, w', own', hd', wr', q'⟩ (GaveUpC p s.word p')
      (∃ c old, p = .lsCasEnq c old ∧ s.word = old ∧ p' = .lsSt c) A p.ok3) : StepAll s s' t A :=
  StepAll.of_coord hp (fun u hu => ⟨setFn_others hpc u hu, hoh u hu⟩) ⟨hdata, hnv, fun p'' hp'' => by
    have : p'' = p' := by rw [← hp'', hpc]; exact setFn_same _ _ _
    subst this
    unfold coord; rw [hw, hwr, hh, hq, hown]; exact m⟩

theorem usRet_call {p : PC} {r : Ret} (h : p.scanSrc = some r) :
    p.mw = r.mw? ∧ p ≠ .idle ∧ p.rel = r.isUl ∧ p.condRec = r.condRec := by
  cases p <;> simp [PC.scanSrc] at h <;> subst h <;> simp [PC.mw, PC.rel, PC.condRec]

theorem ScanKeep.all {s s' : State} {t : Tid} {r : Ret} {late : Bool} {A : Prop} (h : ScanKeep s t r late s') : StepAll s s' t A := by
  obtain ⟨a, b, c, d⟩ := usRet_call h.src
  exact ⟨h.tl, CallKeep.scan a h.dst, Or.inr (KindKeep.scan b c h.dst), h.queue,
    fun k c hl => Or.inr ⟨by rw [d, ← h.dst.condRec]; exact hl, (h.wr k).2.2.2.2⟩⟩

/-- `TL` on explicit coordinates: the views are evaluated and the clauses of `TL` projected out by `dsimp only` (`simp` is
    slow on projections of the coordinate records), then the clauses are simplified with the context. -/
macro "tl_check" : tactic => `(tactic|
  (dsimp only [TL, Coord.shareOf, coord, PC.view, PC.lsRec, PC.waitRec, PC.hlRec, PC.limbo, PC.wmode, PC.mtOld, PC.wakeL, PC.ws,
     SL.ws, Ret.ws, PC.wwA, PC.enqPend, PC.sl?, PC.mwRel, PC.finOf, PC.unl, pcShare, PC.timedOut, PC.woken, Ret.w?, Ret.wmode,
     Ret.mode, SL.entry, SL.fromWait, SL.woken, PC.mw, PC.okD, PC.rel, PC.isIdle, PC.spin, PC.condRec, PC.ok3]
   simp [GaveUpC, MW.same, Ret.mw?, Ret.isUl, Ret.condRec, ↓setFn_waiting, ↓setFn_lType, ↓setFn_cond, setFn, *] <;> grind))

/-- A leaf `setPc s t p'` reached from `heq : s.pc t = p`: the two program points have the same view, or `TL` is checked on
    the two views (with what the branch and `p.ok` say, in the context). -/
macro "tl_setPc " heq:ident : tactic => `(tactic|
  first
  | exact StepAll.setPc $heq (TL.refl _ _ _ (Or.inr rfl))
  | exact StepAll.setPc $heq (TL.refl _ _ _ (Or.inl trivial))
  | (refine StepAll.setPc $heq ?_; tl_check))

/-- Any other leaf: the coordinates of the explicit successor state are computed by `simp only` with the projection lemmas of
    the update helpers (the default simp set is slow on the explicit state), and `TL` is checked on them. -/
macro "tl_coord " heq:ident : tactic => `(tactic|
  (refine StepAll.of_coord $heq (fun u hu => ?_) ⟨?_, ?_, fun p' hp' => ?_⟩
   · simp [setFn, hu]
   · simp
   · simp +contextual
   · simp only [setPc_pc, setFn_same, addShare_pc, subShare_pc, dropW_pc, enqLast_pc, enqFirst_pc, semPost_pc, dequeue_pc,
       setHeld_pc] at hp'
     subst hp'
     simp only [coord, setPc_word, setPc_wOwner, setPc_held, setPc_wr, setPc_queue, addShare_queue, subShare_queue, dropW_queue,
       semPost_queue, setHeld_queue,
       addShare_word, addShare_wOwner, addShare_held, addShare_wr, subShare_word, subShare_wOwner, subShare_held, subShare_wr,
       dropW_word, dropW_wOwner, dropW_held, enqLast_word, enqLast_wOwner, enqLast_held, enqFirst_word, enqFirst_wOwner,
       enqFirst_held, semPost_word, semPost_wOwner, semPost_held, dequeue_word, dequeue_wOwner, dequeue_held,
       setHeld_word, setHeld_wOwner, setHeld_wr, setHeld_held, setFn_same]
     tl_check))

end NsyncVerif.MuC
