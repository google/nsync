/-
  Layer `CvFix`: a pooled `waiter` that is in the cv queue belongs to a cv wait in progress — its
  owner is inside the wait loop of nsync_cv_wait_with_deadline (between the enqueue and the loop
  exit), working on exactly this record.  (For the bare records of nsync_wait_n the corresponding
  fact is `InvG` / `alive`.)  Used by C16: an observer that walks the queue under the spinlock
  reads records whose owners have not left.
-/
import NsyncVerif.Proofs.CvFixObs
import NsyncVerif.Proofs.CvFixRcd

namespace NsyncVerif.CvFix

structure InvH (s : State) : Prop where
  own : ∀ r, r.isMucv = true → (s.recs r).stat = .queued →
    waitLive (s.thr (s.recs r).owner) = true ∧ (s.thr (s.recs r).owner).r = r

theorem invH_init : InvH init := by
  constructor; simp [init]

/-- Local transitions keep a thread inside its wait, on the same record. -/
theorem ltr_live {s : State} {t : Tid} {e : Event} {x' : Thr} (h : LTr s t e x')
    (hl : waitLive (s.thr t) = true) : waitLive x' = true ∧ x'.r = (s.thr t).r := by
  cases h.eff with
  | move m _ hc => exact ⟨hc.2.2 hl, m.r.resolve_right fun e => by simp [waitLive, e] at hl⟩
  | fresh _ _ _ hf => rw [hf.2.2] at hl; cases hl

/-- A queued pooled record keeps its owner (`RecTr.queued`); an owner that does not act keeps its frame; the acting
    owner stays in its wait on the record unless it takes the record off the queue. -/
theorem invH_tr {cfg : Config} {s s' : State} {e : Event} (ha : InvA s) (hb : InvB s) (hh : InvH s) (h : Tr cfg s e s') :
    InvH s' := by
  constructor
  intro r hm hq
  rcases (h.rcd ha hb.weak r).queued hm hq with ⟨h1, h2⟩ | hx
  case inr => exact hx
  obtain ⟨hl, hr⟩ := hh.own r hm h1
  rw [h2]
  generalize (s.recs r).owner = u at hl hr
  subst hr
  by_cases hu : e.tid = some u
  case neg => rw [tr_other h hu]; exact ⟨hl, rfl⟩
  -- the acting thread
  cases h with
  | tick => cases hu
  | same | semOther => exact ⟨hl, rfl⟩
  | loc h => cases (ltr_tid h).symm.trans hu; simpa using ltr_live h hl
  | acq t exp new obs o n hl' => cases hu; unfold afterAcquire; split <;> simp_all [waitLive]
  | _ => cases hu; simp_all [waitLive]

end NsyncVerif.CvFix
