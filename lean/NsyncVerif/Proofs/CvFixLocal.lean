/-
  Layer `CvFix` (repaired cv.c): what a step of one thread does to its own frame, as far as the invariants `InvA` and
  `InvB` read it (`Move` = `Flow`, the control flow, + `Keep`, the locals), and the classification of the local
  transitions: each of them leaves a fresh frame (API call or return) or is a move (`LTr.eff`).  A rule is a move by
  `Move.at` / `LocalEff.at`, where it says only what it does to the locals.
-/
import NsyncVerif.Proofs.CvFixInvA

namespace NsyncVerif.CvFix

/-- The part of a move that reads only the program points and continuations of the two frames: no region that guards
    an invariant clause is entered from outside. -/
structure Flow (x x' : Thr) : Prop where
  prep : waitPrep x' = true → waitPrep x = true
  live : waitLive x' = true → waitLive x = true
  waitN : inWaitN x = true → inWaitN x' = true
  svd : savedLoc x' = true → savedLoc x = true ∨ x.loc = .wEnq
  after : x'.loc.afterLoop = true → x.loc.afterLoop = true
  new : x'.loc = .wNew → x.loc = .wNew
  enq : x'.loc = .wEnq ∨ x'.loc = .wRel → x.loc = .wEnq ∨ x.loc = .wRel
  rm : (x'.loc = .wRmLd ∨ x'.loc = .wRmCas ∨ x'.loc = .wClr) ↔ (x.loc = .wRmLd ∨ x.loc = .wRmCas ∨ x.loc = .wClr)
  tail : x.loc = .wRel2 ∨ x.loc = .wTail → x'.loc = .wRel2 ∨ x'.loc = .wTail ∨ x'.loc = .wHead
  tail' : x'.loc = .wRel2 ∨ x'.loc = .wTail ∨ x'.loc = .wHead →
    x.loc ≠ .wRmLd ∧ x.loc ≠ .wRmCas ∧ x.loc ≠ .wClr
  nEnq : x'.loc ≠ .nEnqRel ∧ x'.loc ≠ .nDeqSt ∧ x.loc ≠ .nDeqSt ∧ x.loc ≠ .nDeqRel
  nDeq : x'.loc = .nDeqRel → x.loc = .nLocked
  nSpin : x'.loc = .nDeqRelW ∨ x'.loc = .nDeqSpin → x.loc = .nLocked ∨ x.loc = .nDeqRelW ∨ x.loc = .nDeqSpin
  sig : x'.loc = .sRcLd ∨ x'.loc = .sRcCas ∨ x'.loc = .sRel → x.loc = .sRcLd ∨ x.loc = .sRcCas ∨ x.loc = .sRel
  rcs : x.loc = .sRcLd ∨ x.loc = .sRcCas → x'.loc = .sRcLd ∨ x'.loc = .sRcCas

/-- The part of a move that reads the locals: those the invariants read are kept.  The ones that do change are `r`
    (cv_dequeue picks its record at `nLocked`) and the local `remove_count` (loaded at `wEnq`). -/
structure Keep (s : State) (x x' : Thr) : Prop where
  list : x'.list = x.list := by rfl
  todo : x'.todo = x.todo := by rfl
  mine : x'.mine = x.mine := by rfl
  out : x'.out = x.out := by rfl
  exitUnl : x'.exitUnl = x.exitUnl := by rfl
  bcast : x'.bcast = x.bcast := by rfl
  epoch : x'.epoch = x.epoch := by rfl
  r : x'.r = x.r ∨ x.loc = .nLocked := by exact .inl rfl
  saved : x'.saved = x.saved ∨ x.loc = .wEnq := by exact .inl rfl
  rc : x.loc = .wEnq → x'.saved = (s.recs x.r).rc := by intro h; simp [*] at h ⊢
  /-- cv_dequeue's record is one of the call's, and is not in the queue unless it is removed now -/
  deq : x.loc = .nLocked → x'.r ∈ x.mine ∧ ((s.recs x'.r).waiting = false ∨ (x'.r ∉ s.queue ∧ x'.loc ≠ .nDeqRel)) := by
    intro h; simp [*] at h ⊢
  /-- the wait loop goes round only if it saw `waiting != 0` -/
  head : x.loc = .wHead → (s.recs x.r).waiting = true := by intro h; simp [*] at h ⊢
  cas : x'.loc = .spCas → x'.casExp % 2 = 0 := by intro h; simp [*] at h ⊢
  wake : x'.loc.wakePhase = false → x.loc.wakePhase = false ∨ x.list = [] := by intro h; simp [*] at h ⊢
  /-- wake_waiters looks at the mutex word only if its first record is a pooled waiter -/
  mu : x'.loc = .wwMuLd ∨ x'.loc = .wwMuCas →
    (x.loc = .wwMuLd ∨ x.loc = .wwMuCas) ∨ ∃ f rest, x'.list = f :: rest ∧ f.isMucv = true := by intro h; simp [*] at h ⊢

/-- A move inside a call, from the old frame `x` to the new one `x'`, as far as the invariants read it. -/
structure Move (s : State) (x x' : Thr) : Prop extends Flow x x', Keep s x x'

inductive LocalEff (s : State) (x x' : Thr) : Prop
  | fresh (hl : x.loc.holds = false ∧ x.loc.wakePhase = false)
      (hl' : x'.loc = .idle ∨ x'.loc = .wNew ∨ x'.loc = .sLd ∨ x'.loc = .nOut ∨ x'.loc = .dLd)
      (h : x'.list = [] ∧ x'.todo = [] ∧ x'.mine = [] ∧ x'.out = .ok)
      (hf : x'.cur = none ∧ (inWaitN x = false ∨ x.mine = []) ∧ waitLive x = false) : LocalEff s x x'
  | move (m : Move s x x')
      (h : x'.loc.holds = x.loc.holds ∧ (x'.old = x.old ∨
        (x.loc = .nLocked ∧ x'.old = if s.queue.isEmpty then { x.old with ne := false } else x.old)))
      (hc : x'.cur = x.cur ∧ (x'.loc = .wwV ↔ x.loc = .wwV) ∧ (waitLive x = true → waitLive x' = true)) :
      LocalEff s x x'

/-- The frame with program point `l`, continuation `c` and nothing else: what `Flow` reads. -/
def ctl (l : Loc) (c : Cont) : Thr := { loc := l, cont := c }

theorem Flow.of_ctl {x x' : Thr} {l : Loc} (hl : x.loc = l) (h : Flow (ctl l x.cont) (ctl x'.loc x'.cont)) :
    Flow x x' := by
  subst hl
  exact ⟨h.prep, h.live, h.waitN, h.svd, h.after, h.new, h.enq, h.rm, h.tail, h.tail', h.nEnq, h.nDeq, h.nSpin, h.sig,
    h.rcs⟩

/-- A move from program point `l`.  By default the locals are kept (`Keep`'s defaults) and `Flow`, a finite fact about
    one edge of cv.c's control flow, is checked on `ctl` (small closed goals; the same sweep over the frames themselves
    is slow): a rule says only what it does otherwise. -/
theorem Move.at {s : State} {x y : Thr} {l : Loc} (hl : x.loc = l) (hk : Keep s x y := by exact {})
    (hf : Flow (ctl l x.cont) (ctl y.loc y.cont) := by constructor <;> simp [ctl, *]) : Move s x y :=
  ⟨.of_ctl hl hf, hk⟩

/-- … that stays on its side of the spinlock, with the saved cv word unchanged (cv_dequeue clears its `ne` bit). -/
theorem LocalEff.at {s : State} {x y : Thr} {l : Loc} (hl : x.loc = l) (hk : Keep s x y := by exact {})
    (hf : Flow (ctl l x.cont) (ctl y.loc y.cont) := by constructor <;> simp [ctl, *])
    (h : y.loc.holds = x.loc.holds ∧ (y.old = x.old ∨
      (x.loc = .nLocked ∧ y.old = if s.queue.isEmpty then { x.old with ne := false } else x.old)) := by simp [*])
    (hc : y.cur = x.cur ∧ (y.loc = .wwV ↔ x.loc = .wwV) ∧ (waitLive x = true → waitLive y = true) := by
      simp [waitLive, *]) :
    LocalEff s x y :=
  .move (.at hl hk hf) h hc

open Regions
attribute [local simp] Loc.holds Thr.fresh

theorem LTr.eff {s : State} {t : Tid} {e : Event} {x' : Thr} (h : LTr s t e x') :
    LocalEff s (s.thr t) x' := by
  cases h with
  | callWait gen dl note hl => exact .fresh (by simp [hl]) (by simp) (by simp) (by simp [hl, inWaitN, waitLive])
  | retWait res hl hr =>
    rcases hl with hl | hl <;> exact .fresh (by simp [hl]) (by simp) (by simp) (by simp [hl, inWaitN, waitLive])
  | callSignal hl | callBroadcast hl | callWaitN hl =>
    exact .fresh (by simp [hl]) (by simp) (by simp) (by simp [hl, inWaitN, waitLive])
  | retSignal hl hb | retBroadcast hl hb => exact .fresh (by simp [hl]) (by simp) (by simp) (by simp [hl, inWaitN, waitLive])
  | retWaitN hl hm => exact .fresh (by simp [hl]) (by simp) (by simp) (by simp [hl, hm, waitLive])
  | callDebug k hl => exact .fresh (by simp [hl]) (by simp) (by simp) (by simp [hl, inWaitN, waitLive])
  | retDebug k hl hk => exact .fresh (by simp [hl]) (by simp) (by simp) (by simp [hl, inWaitN, waitLive])
  | spinLd site obs hl ho =>
    rcases hl with ⟨_, hl⟩ | ⟨_, hl⟩ <;> split <;> exact .at hl { cas := by simp_all <;> omega }
  | spinLdN obs hl ho => split <;> exact .at hl { cas := by simp_all <;> omega }
  | wHeadStay r obs hl hr ho hz =>
    have hw : (s.recs (s.thr t).r).waiting = true := hr ▸ b2n_ne_zero.mp (ho ▸ hz)
    split
    · by_cases hn : (s.thr t).note = true <;> exact .at hl { head := fun _ => hw }
    · exact .at hl { head := fun _ => hw }
  | wChk y r obs hy hl hr ho hso => split <;> cases hy <;> exact .at (by assumption)
  | wTail y r obs hy hl hr ho => cases hy <;> exact .at (by assumption)
  | wChk2 r obs hl hr ho => by_cases hz : obs = 0 <;> simp only [hz, if_true, if_false] <;> exact .at hl
  | wRc r obs hl hr ho => subst hr; exact .at hl { saved := .inr hl, rc := fun _ => ho }
  | deqLd0 r hl hr ho => exact .at hl { r := .inr hl, deq := fun _ => ⟨hr, .inl ho⟩ }
  | deqLdGone r obs hl hr hw hq => exact .at hl { r := .inr hl, deq := fun _ => ⟨hr, .inr ⟨hq, by simp⟩⟩ }
  | wwRelLd site obs hl => rcases hl with ⟨_, hl⟩ | ⟨_, hl⟩ <;> exact .at hl
  | wwRelCasOk exp new obs hl =>
    by_cases hz : (s.thr t).list.isEmpty = true <;> exact .at hl { wake := by simp_all }
  | noteSeen hl => rcases hl with hl | hl | hl <;> exact .at hl
  | sigLd site obs hl hs ho | dbgLd obs hl ho | wwLd obs f rest hl hlist => split <;> exact .at hl
  | _ => exact .at (by assumption)

end NsyncVerif.CvFix
