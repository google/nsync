/-
  Layer `Note`, fair termination: concrete executions.

  * `traceExec`  a finite accepted trace, then nothing for ever (the criteria for the hypotheses of
                 `C09_fair_termination` for an execution that ends quiescent are in
                 Proofs/NoteFairWitness.lean);
  * `loopExec`   a lasso: a list of events that takes a state `s` back to `s`, for ever.
-/
import NsyncVerif.Proofs.NoteFairSettled
import NsyncVerif.Proofs.Lasso


namespace Note

/-- The state after `evs` from `s` (`s` itself if the events are not accepted). -/
def stateFrom (s : State) (evs : List Event) : State :=
  match run s evs with
  | .ok s' => s'
  | .error _ => s

theorem stateFrom_eq (s : State) (evs : List Event) : stateFrom s evs = NsyncVerif.Lasso.after run s evs := by
  unfold stateFrom NsyncVerif.Lasso.after; cases run s evs <;> rfl

theorem stateFrom_ok {s sf : State} {evs : List Event}
    (h : run s evs = .ok sf) (i : Nat) :
    run s (evs.take i) = .ok (stateFrom s (evs.take i)) := by
  rw [stateFrom_eq]; exact NsyncVerif.Lasso.after_take isRun h i

theorem stateFrom_all {s sf : State} {evs : List Event}
    (h : run s evs = .ok sf) {i : Nat} (hi : evs.length ≤ i) :
    stateFrom s (evs.take i) = sf := by
  simp only [stateFrom, List.take_of_length_le hi, h]

theorem stateFrom_step {s sf : State} {evs : List Event}
    (h : run s evs = .ok sf) {i : Nat} (hi : i < evs.length) :
    step (stateFrom s (evs.take i)) evs[i] =
      .ok (stateFrom s (evs.take (i + 1))) := by
  simp only [stateFrom_eq]; exact NsyncVerif.Lasso.after_step isRun h hi

/-- A finite accepted trace from `s`, then nothing for ever. -/
def traceExec (s : State) (evs : List Event) (sf : State)
    (h : run s evs = .ok sf) : Exec s :=
  { ρ := fun i => stateFrom s (evs.take i)
    σ := fun i => evs[i]?
    start := by simp [stateFrom, run]
    next := by
      intro i
      cases he : evs[i]? with
      | none => simp only [stateFrom_eq]; exact NsyncVerif.Lasso.after_none h he
      | some e => simp only [stateFrom_eq]; exact NsyncVerif.Lasso.after_some isRun h he }

theorem traceExec_tail {s : State} {evs : List Event} {sf : State}
    (h : run s evs = .ok sf) {j : Nat} (hj : evs.length ≤ j) :
    (traceExec s evs sf h).ρ j = sf ∧ (traceExec s evs sf h).σ j = none :=
  ⟨stateFrom_all h hj, by show evs[j]? = none; simpa using hj⟩

/-- All events of the list are events of threads `< n`. -/
def tidsBelow (n : Nat) (evs : List Event) : Bool :=
  evs.all fun e => match e.actor with | some t => decide (t < n) | none => true

theorem tidsBelow_ne {n : Nat} {evs : List Event} (h : tidsBelow n evs = true) {t : Tid}
    (ht : n ≤ t) : ∀ e ∈ evs, e.actor ≠ some t := by
  intro e he hte
  have := List.all_eq_true.1 h e he
  have h2 : decide (t < n) = true := by simpa [hte] using this
  have h3 : t < n := of_decide_eq_true h2
  exact absurd h3 (Nat.not_lt.2 ht)

theorem tidsBelow_take {n : Nat} {evs : List Event} (h : tidsBelow n evs = true) (i : Nat) :
    tidsBelow n (evs.take i) = true := by
  apply List.all_eq_true.2
  intro e he
  exact List.all_eq_true.1 h e (List.mem_of_mem_take he)


/-! ### a lasso without a stem -/

/-- `loop` takes `s` back to `s`: repeat it for ever. -/
def loopExec (s : State) (loop : List Event)
    (hl : run s loop = .ok s) (hp : 0 < loop.length) : Exec s :=
  { ρ := fun i => stateFrom s (loop.take (i % loop.length))
    σ := fun i => loop[i % loop.length]?
    start := by simp [stateFrom, run]
    next := by
      intro i
      obtain ⟨e, he, hs⟩ := NsyncVerif.Lasso.loop_next isRun hl hp i
      simp only [he, stateFrom_eq]; exact hs }

theorem loopExec_at {s : State} {loop : List Event}
    (hl : run s loop = .ok s) (hp : 0 < loop.length) (j : Nat) :
    (loopExec s loop hl hp).ρ j = stateFrom s (loop.take (j % loop.length)) ∧
    (loopExec s loop hl hp).σ j = loop[j % loop.length]? := ⟨rfl, rfl⟩

/-- Threads that do not occur in the loop are where they were, at all times. -/
theorem loopExec_untouched {s : State} {loop : List Event}
    (hl : run s loop = .ok s) (hp : 0 < loop.length) {t : Tid}
    (hne : ∀ e ∈ loop, e.actor ≠ some t) (j : Nat) :
    ((loopExec s loop hl hp).ρ j).pc t = s.pc t := by
  show (stateFrom s (loop.take (j % loop.length))).pc t = s.pc t
  exact run_pc_other (stateFrom_ok hl _) t (fun e he => hne e (List.mem_of_mem_take he))

theorem upd_eq_self {β : Type} {f : Nat → β} {a : Nat} {b : β} (h : f a = b) : upd f a b = f := by
  funext x; simp only [upd]; split
  · rename_i hx; subst hx; exact h.symm
  · rfl

theorem upd_upd {β : Type} (f : Nat → β) (a : Nat) (b c : β) : upd (upd f a b) a c = upd f a c := by
  funext x; simp only [upd]; split <;> rfl


end Note
