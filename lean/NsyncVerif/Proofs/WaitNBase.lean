/-
  Proofs/WaitNBase.lean — projection lemmas for the state-update functions of Model/WaitN.lean, equality of
  frames up to the lazily bound semaphore (`frSame`), and induction over `Reachable` with the clock apart
  (`reachable_inv`).
-/
import NsyncVerif.Model.WaitN
import NsyncVerif.Proofs.Run

namespace WaitN

section proj
variable (s : State)

@[simp] theorem setObj_obj (o : ObjId) (v : Obj) (i : ObjId) : (s.setObj o v).obj i = if i = o then v else s.obj i := rfl
@[simp] theorem setObj_rcd (o : ObjId) (v : Obj) : (s.setObj o v).rcd = s.rcd := rfl
@[simp] theorem setObj_sem (o : ObjId) (v : Obj) : (s.setObj o v).sem = s.sem := rfl
@[simp] theorem setObj_semUser (o : ObjId) (v : Obj) : (s.setObj o v).semUser = s.semUser := rfl
@[simp] theorem setObj_pc (o : ObjId) (v : Obj) : (s.setObj o v).pc = s.pc := rfl
@[simp] theorem setObj_fr (o : ObjId) (v : Obj) : (s.setObj o v).fr = s.fr := rfl
@[simp] theorem setObj_mc (o : ObjId) (v : Obj) : (s.setObj o v).mc = s.mc := rfl
@[simp] theorem setObj_post (o : ObjId) (v : Obj) : (s.setObj o v).post = s.post := rfl
@[simp] theorem setObj_now (o : ObjId) (v : Obj) : (s.setObj o v).now = s.now := rfl

@[simp] theorem setRec_rcd (r : Rid) (v : Rec) (i : Rid) : (s.setRec r v).rcd i = if i = r then v else s.rcd i := rfl
@[simp] theorem setRec_obj (r : Rid) (v : Rec) : (s.setRec r v).obj = s.obj := rfl
@[simp] theorem setRec_sem (r : Rid) (v : Rec) : (s.setRec r v).sem = s.sem := rfl
@[simp] theorem setRec_semUser (r : Rid) (v : Rec) : (s.setRec r v).semUser = s.semUser := rfl
@[simp] theorem setRec_pc (r : Rid) (v : Rec) : (s.setRec r v).pc = s.pc := rfl
@[simp] theorem setRec_fr (r : Rid) (v : Rec) : (s.setRec r v).fr = s.fr := rfl
@[simp] theorem setRec_mc (r : Rid) (v : Rec) : (s.setRec r v).mc = s.mc := rfl
@[simp] theorem setRec_post (r : Rid) (v : Rec) : (s.setRec r v).post = s.post := rfl
@[simp] theorem setRec_now (r : Rid) (v : Rec) : (s.setRec r v).now = s.now := rfl

@[simp] theorem setSem_sem (j n i : Nat) : (s.setSem j n).sem i = if i = j then n else s.sem i := rfl
@[simp] theorem setSem_obj (j n : Nat) : (s.setSem j n).obj = s.obj := rfl
@[simp] theorem setSem_rcd (j n : Nat) : (s.setSem j n).rcd = s.rcd := rfl
@[simp] theorem setSem_semUser (j n : Nat) : (s.setSem j n).semUser = s.semUser := rfl
@[simp] theorem setSem_pc (j n : Nat) : (s.setSem j n).pc = s.pc := rfl
@[simp] theorem setSem_fr (j n : Nat) : (s.setSem j n).fr = s.fr := rfl
@[simp] theorem setSem_mc (j n : Nat) : (s.setSem j n).mc = s.mc := rfl
@[simp] theorem setSem_post (j n : Nat) : (s.setSem j n).post = s.post := rfl
@[simp] theorem setSem_now (j n : Nat) : (s.setSem j n).now = s.now := rfl

@[simp] theorem setSemUser_semUser (j : Nat) (u : Option Tid) (i : Nat) :
    (s.setSemUser j u).semUser i = if i = j then u else s.semUser i := rfl
@[simp] theorem setSemUser_obj (j : Nat) (u : Option Tid) : (s.setSemUser j u).obj = s.obj := rfl
@[simp] theorem setSemUser_rcd (j : Nat) (u : Option Tid) : (s.setSemUser j u).rcd = s.rcd := rfl
@[simp] theorem setSemUser_sem (j : Nat) (u : Option Tid) : (s.setSemUser j u).sem = s.sem := rfl
@[simp] theorem setSemUser_pc (j : Nat) (u : Option Tid) : (s.setSemUser j u).pc = s.pc := rfl
@[simp] theorem setSemUser_fr (j : Nat) (u : Option Tid) : (s.setSemUser j u).fr = s.fr := rfl
@[simp] theorem setSemUser_mc (j : Nat) (u : Option Tid) : (s.setSemUser j u).mc = s.mc := rfl
@[simp] theorem setSemUser_post (j : Nat) (u : Option Tid) : (s.setSemUser j u).post = s.post := rfl
@[simp] theorem setSemUser_now (j : Nat) (u : Option Tid) : (s.setSemUser j u).now = s.now := rfl

@[simp] theorem setPc_pc (t : Tid) (p : PC) (u : Tid) : (s.setPc t p).pc u = if u = t then p else s.pc u := rfl
@[simp] theorem setPc_obj (t : Tid) (p : PC) : (s.setPc t p).obj = s.obj := rfl
@[simp] theorem setPc_rcd (t : Tid) (p : PC) : (s.setPc t p).rcd = s.rcd := rfl
@[simp] theorem setPc_sem (t : Tid) (p : PC) : (s.setPc t p).sem = s.sem := rfl
@[simp] theorem setPc_semUser (t : Tid) (p : PC) : (s.setPc t p).semUser = s.semUser := rfl
@[simp] theorem setPc_fr (t : Tid) (p : PC) : (s.setPc t p).fr = s.fr := rfl
@[simp] theorem setPc_mc (t : Tid) (p : PC) : (s.setPc t p).mc = s.mc := rfl
@[simp] theorem setPc_post (t : Tid) (p : PC) : (s.setPc t p).post = s.post := rfl
@[simp] theorem setPc_now (t : Tid) (p : PC) : (s.setPc t p).now = s.now := rfl

@[simp] theorem setFr_fr (t : Tid) (f : Frame) (u : Tid) : (s.setFr t f).fr u = if u = t then f else s.fr u := rfl
@[simp] theorem setFr_obj (t : Tid) (f : Frame) : (s.setFr t f).obj = s.obj := rfl
@[simp] theorem setFr_rcd (t : Tid) (f : Frame) : (s.setFr t f).rcd = s.rcd := rfl
@[simp] theorem setFr_sem (t : Tid) (f : Frame) : (s.setFr t f).sem = s.sem := rfl
@[simp] theorem setFr_semUser (t : Tid) (f : Frame) : (s.setFr t f).semUser = s.semUser := rfl
@[simp] theorem setFr_pc (t : Tid) (f : Frame) : (s.setFr t f).pc = s.pc := rfl
@[simp] theorem setFr_mc (t : Tid) (f : Frame) : (s.setFr t f).mc = s.mc := rfl
@[simp] theorem setFr_post (t : Tid) (f : Frame) : (s.setFr t f).post = s.post := rfl
@[simp] theorem setFr_now (t : Tid) (f : Frame) : (s.setFr t f).now = s.now := rfl

@[simp] theorem setMc_mc (t : Tid) (m : MC) (u : Tid) : (s.setMc t m).mc u = if u = t then m else s.mc u := rfl
@[simp] theorem setMc_obj (t : Tid) (m : MC) : (s.setMc t m).obj = s.obj := rfl
@[simp] theorem setMc_rcd (t : Tid) (m : MC) : (s.setMc t m).rcd = s.rcd := rfl
@[simp] theorem setMc_sem (t : Tid) (m : MC) : (s.setMc t m).sem = s.sem := rfl
@[simp] theorem setMc_semUser (t : Tid) (m : MC) : (s.setMc t m).semUser = s.semUser := rfl
@[simp] theorem setMc_pc (t : Tid) (m : MC) : (s.setMc t m).pc = s.pc := rfl
@[simp] theorem setMc_fr (t : Tid) (m : MC) : (s.setMc t m).fr = s.fr := rfl
@[simp] theorem setMc_post (t : Tid) (m : MC) : (s.setMc t m).post = s.post := rfl
@[simp] theorem setMc_now (t : Tid) (m : MC) : (s.setMc t m).now = s.now := rfl

@[simp] theorem setPost_post (t : Tid) (p : Option Rid) (u : Tid) : (s.setPost t p).post u = if u = t then p else s.post u := rfl
@[simp] theorem setPost_obj (t : Tid) (p : Option Rid) : (s.setPost t p).obj = s.obj := rfl
@[simp] theorem setPost_rcd (t : Tid) (p : Option Rid) : (s.setPost t p).rcd = s.rcd := rfl
@[simp] theorem setPost_sem (t : Tid) (p : Option Rid) : (s.setPost t p).sem = s.sem := rfl
@[simp] theorem setPost_semUser (t : Tid) (p : Option Rid) : (s.setPost t p).semUser = s.semUser := rfl
@[simp] theorem setPost_pc (t : Tid) (p : Option Rid) : (s.setPost t p).pc = s.pc := rfl
@[simp] theorem setPost_fr (t : Tid) (p : Option Rid) : (s.setPost t p).fr = s.fr := rfl
@[simp] theorem setPost_mc (t : Tid) (p : Option Rid) : (s.setPost t p).mc = s.mc := rfl
@[simp] theorem setPost_now (t : Tid) (p : Option Rid) : (s.setPost t p).now = s.now := rfl

@[simp] theorem kill_rcd (l : List Rid) (r : Rid) :
    (s.kill l).rcd r = if r ∈ l then { s.rcd r with live := false } else s.rcd r := rfl
@[simp] theorem kill_obj (l : List Rid) : (s.kill l).obj = s.obj := rfl
@[simp] theorem kill_sem (l : List Rid) : (s.kill l).sem = s.sem := rfl
@[simp] theorem kill_semUser (l : List Rid) : (s.kill l).semUser = s.semUser := rfl
@[simp] theorem kill_pc (l : List Rid) : (s.kill l).pc = s.pc := rfl
@[simp] theorem kill_fr (l : List Rid) : (s.kill l).fr = s.fr := rfl
@[simp] theorem kill_mc (l : List Rid) : (s.kill l).mc = s.mc := rfl
@[simp] theorem kill_post (l : List Rid) : (s.kill l).post = s.post := rfl
@[simp] theorem kill_now (l : List Rid) : (s.kill l).now = s.now := rfl

@[simp] theorem ownerRemove_rcd (o : ObjId) (r i : Rid) :
    (ownerRemove s o r).rcd i = if i = r then { s.rcd r with waiting := false, unl := if r ∈ (s.obj o).queue then .owner else (s.rcd r).unl } else s.rcd i := rfl
@[simp] theorem ownerRemove_obj (o : ObjId) (r : Rid) (i : ObjId) :
    (ownerRemove s o r).obj i = if i = o then { s.obj o with queue := (s.obj o).queue.erase r } else s.obj i := rfl
@[simp] theorem ownerRemove_pc (o : ObjId) (r : Rid) : (ownerRemove s o r).pc = s.pc := rfl
@[simp] theorem ownerRemove_fr (o : ObjId) (r : Rid) : (ownerRemove s o r).fr = s.fr := rfl
@[simp] theorem ownerRemove_mc (o : ObjId) (r : Rid) : (ownerRemove s o r).mc = s.mc := rfl
@[simp] theorem ownerRemove_post (o : ObjId) (r : Rid) : (ownerRemove s o r).post = s.post := rfl
@[simp] theorem ownerRemove_sem (o : ObjId) (r : Rid) : (ownerRemove s o r).sem = s.sem := rfl
@[simp] theorem ownerRemove_semUser (o : ObjId) (r : Rid) : (ownerRemove s o r).semUser = s.semUser := rfl
@[simp] theorem ownerRemove_now (o : ObjId) (r : Rid) : (ownerRemove s o r).now = s.now := rfl

end proj

@[simp] theorem ite_rec_live {c : Prop} [Decidable c] (a b : Rec) : (if c then a else b).live = if c then a.live else b.live := by split <;> rfl
@[simp] theorem ite_rec_waiting {c : Prop} [Decidable c] (a b : Rec) : (if c then a else b).waiting = if c then a.waiting else b.waiting := by split <;> rfl
@[simp] theorem ite_rec_owner {c : Prop} [Decidable c] (a b : Rec) : (if c then a else b).owner = if c then a.owner else b.owner := by split <;> rfl
@[simp] theorem ite_rec_obj {c : Prop} [Decidable c] (a b : Rec) : (if c then a else b).obj = if c then a.obj else b.obj := by split <;> rfl
@[simp] theorem ite_rec_unl {c : Prop} [Decidable c] (a b : Rec) : (if c then a else b).unl = if c then a.unl else b.unl := by split <;> rfl
@[simp] theorem ite_rec_deqd {c : Prop} [Decidable c] (a b : Rec) : (if c then a else b).deqd = if c then a.deqd else b.deqd := by split <;> rfl
@[simp] theorem ite_obj_known {c : Prop} [Decidable c] (a b : Obj) : (if c then a else b).known = if c then a.known else b.known := by split <;> rfl
@[simp] theorem ite_obj_lock {c : Prop} [Decidable c] (a b : Obj) : (if c then a else b).lock = if c then a.lock else b.lock := by split <;> rfl
@[simp] theorem ite_obj_queue {c : Prop} [Decidable c] (a b : Obj) : (if c then a else b).queue = if c then a.queue else b.queue := by split <;> rfl
@[simp] theorem ite_obj_flag {c : Prop} [Decidable c] (a b : Obj) : (if c then a else b).flag = if c then a.flag else b.flag := by split <;> rfl
@[simp] theorem ite_obj_value {c : Prop} [Decidable c] (a b : Obj) : (if c then a else b).value = if c then a.value else b.value := by split <;> rfl
@[simp] theorem ite_obj_expiry {c : Prop} [Decidable c] (a b : Obj) : (if c then a else b).expiry = if c then a.expiry else b.expiry := by split <;> rfl

@[simp] theorem b2n_eq_zero (b : Bool) : (b2n b = 0) = (b = false) := by cases b <;> simp [b2n]
@[simp] theorem b2n_true : b2n true = 1 := rfl
@[simp] theorem b2n_false : b2n false = 0 := rfl

theorem reject_ne_ok {m : String} {s' : State} : reject m = .ok s' → False := by
  intro h; cases h

@[simp] theorem reject_eq_ok (m : String) (s' : State) : (reject m = .ok s') = False := by
  simp [reject]

@[simp] theorem error_eq_ok (m : String) (s' : State) : ((Except.error m : R) = .ok s') = False := by
  simp

/-- split a hypothesis `h : <step function> = .ok s'` into its accepting branches -/
macro "split_ok" h:ident : tactic =>
  `(tactic| (repeat' (first | (split at $h:ident) | (dsimp only at $h:ident))) <;> (try (simp only [reject_eq_ok, error_eq_ok] at $h:ident)))

/-! ### frames of other threads: only the lazily bound semaphore may change -/

/-- equality of frames up to the lazily bound semaphore -/
def frSame (f g : Frame) : Prop := g = { f with sem := g.sem }

theorem frSame_refl (f : Frame) : frSame f f := rfl

theorem frSame_trans {f g h : Frame} (a : frSame f g) (b : frSame g h) : frSame f h := by
  unfold frSame at *
  rw [b, a]

theorem frSame_objs {f g : Frame} (h : frSame f g) : g.objs = f.objs := by rw [h]
theorem frSame_dl {f g : Frame} (h : frSame f g) : g.dl = f.dl := by rw [h]
theorem frSame_min {f g : Frame} (h : frSame f g) : g.min = f.min := by rw [h]
theorem frSame_recs {f g : Frame} (h : frSame f g) : g.recs = f.recs := by rw [h]

theorem reachable_init : Reachable init := ⟨[], rfl⟩

theorem isRun : NsyncVerif.IsRun step run := ⟨fun _ => rfl, fun s e _ => by rw [run]; cases step s e <;> rfl⟩

theorem reachable_step {s s' : State} {e : Event} (h : Reachable s) (hs : step s e = .ok s') : Reachable s' := by
  obtain ⟨evs, hr⟩ := h
  exact ⟨evs ++ [e], isRun.snoc hr hs⟩

theorem step_tick {s s' : State} {ns : Nat} (h : step s (.tick ns) = .ok s') : s' = { s with now := ns } ∧ s.now ≤ ns := by
  simp only [step] at h
  split at h
  · rename_i hle; exact ⟨(Except.ok.inj h).symm, hle⟩
  · cases h

/-- Induction over reachable states, the clock apart: a `tick` only sets `now`. -/
theorem reachable_inv {P : State → Prop} (h0 : P init) (htick : ∀ s ns, P s → s.now ≤ ns → P { s with now := ns })
    (hthr : ∀ s s' t e, Reachable s → P s → stepThr s t e = .ok s' → P s') {s : State} (h : Reachable s) : P s := by
  obtain ⟨evs, hr⟩ := h
  refine isRun.induct h0 (fun s e s' hr ih hs => ?_) hr
  cases e with
  | thr t e => exact hthr s s' t e hr ih hs
  | tick ns => rw [(step_tick hs).1]; exact htick s ns ih (step_tick hs).2

end WaitN
