/-
  Layer `CvFix`, liveness: concrete executions.
  * `traceExec`  a finite accepted trace, then nothing for ever; criteria for the hypotheses for an
                 execution that ends quiescent;
  * `loopExec`   a lasso: a list of events that takes a state `s` back to `s`, for ever; `loop_hyps`: criteria on
                 the positions of the loop for `WeakFair`, `SpinFair`, `MuRelFair`.
-/
import NsyncVerif.Proofs.CvFixFairWake
import NsyncVerif.Proofs.Lasso

namespace NsyncVerif.CvFix

/-- The state after `evs` from `s` (`s` itself if the events are not accepted). -/
def stateFrom (cfg : Config) (s : State) (evs : List Event) : State :=
  match run cfg s evs with
  | .ok s' => s'
  | .error _ => s

theorem stateFrom_eq (cfg : Config) (s : State) (evs : List Event) :
    stateFrom cfg s evs = Lasso.after (run cfg) s evs := by
  unfold stateFrom Lasso.after; cases run cfg s evs <;> rfl

theorem stateFrom_ok {cfg : Config} {s sf : State} {evs : List Event}
    (h : run cfg s evs = .ok sf) (i : Nat) :
    run cfg s (evs.take i) = .ok (stateFrom cfg s (evs.take i)) := by
  rw [stateFrom_eq]; exact Lasso.after_take (isRun cfg) h i

theorem stateFrom_all {cfg : Config} {s sf : State} {evs : List Event}
    (h : run cfg s evs = .ok sf) {i : Nat} (hi : evs.length ≤ i) :
    stateFrom cfg s (evs.take i) = sf := by
  simp only [stateFrom, List.take_of_length_le hi, h]

theorem stateFrom_step {cfg : Config} {s sf : State} {evs : List Event}
    (h : run cfg s evs = .ok sf) {i : Nat} (hi : i < evs.length) :
    step cfg (stateFrom cfg s (evs.take i)) evs[i] =
      .ok (stateFrom cfg s (evs.take (i + 1))) := by
  simp only [stateFrom_eq]; exact Lasso.after_step (isRun cfg) h hi

/-- A finite accepted trace from `s`, then nothing for ever. -/
def traceExec (cfg : Config) (s : State) (evs : List Event) (sf : State)
    (h : run cfg s evs = .ok sf) : Exec cfg s :=
  { ρ := fun i => stateFrom cfg s (evs.take i)
    σ := fun i => evs[i]?
    start := by simp [stateFrom, run]
    next := by
      intro i
      cases he : evs[i]? with
      | none => simp only [stateFrom_eq]; exact Lasso.after_none h he
      | some e => simp only [stateFrom_eq]; exact Lasso.after_some (isRun cfg) h he }

theorem traceExec_tail {cfg : Config} {s : State} {evs : List Event} {sf : State}
    (h : run cfg s evs = .ok sf) {j : Nat} (hj : evs.length ≤ j) :
    (traceExec cfg s evs sf h).ρ j = sf ∧ (traceExec cfg s evs sf h).σ j = none :=
  ⟨stateFrom_all h hj, by show evs[j]? = none; simpa using hj⟩

/-- Threads that do not occur in a trace are where they were. -/
theorem run_untouched {cfg : Config} {t : Tid} (evs : List Event) (s s' : State)
    (hne : ∀ e ∈ evs, e.tid ≠ some t) (h : run cfg s evs = .ok s') : s'.thr t = s.thr t :=
  (isRun cfg).induct_mem (Q := fun s1 => s1.thr t = s.thr t) rfl
    (fun _ e _ he _ h1 hs => (tr_other (step_tr hs) (hne e he)).trans h1) h

/-- All events of the list are events of threads `< n`. -/
def tidsBelow (n : Nat) (evs : List Event) : Bool :=
  evs.all fun e => match e.tid with | some t => decide (t < n) | none => true

theorem tidsBelow_ne {n : Nat} {evs : List Event} (h : tidsBelow n evs = true) {t : Tid}
    (ht : n ≤ t) : ∀ e ∈ evs, e.tid ≠ some t := by
  intro e he hte
  have := List.all_eq_true.1 h e he
  have h2 : decide (t < n) = true := by simpa [hte] using this
  have h3 : t < n := of_decide_eq_true h2
  exact absurd h3 (Nat.not_lt.2 ht)

variable {cfg : Config} {s0 : State}

/-- An execution that is quiescent from time `N` on (every thread outside every call) satisfies
    `WeakFair`, `SpinFair`, `MuRelFair`. -/
theorem hyps_of_quiescent (x : Exec cfg s0) (hr : Reachable cfg s0) (N : Nat)
    (hN : ∀ j, N ≤ j → ∀ t, ((x.ρ j).thr t).loc = .idle) : Hyps x := by
  refine ⟨hr, ?_, ?_, ?_⟩
  · intro t i h
    exact absurd (hN (max i N) (by omega) t) (h (max i N) (by omega)).1
  · intro t i h _
    have := h (max i N) (by omega)
    rw [hN (max i N) (by omega) t] at this; cases this
  · intro t i h
    have := h (max i N) (by omega)
    rw [hN (max i N) (by omega) t] at this; cases this

/-- `loop` takes `s` back to `s`: repeat it for ever. -/
def loopExec (cfg : Config) (s : State) (loop : List Event)
    (hl : run cfg s loop = .ok s) (hp : 0 < loop.length) : Exec cfg s :=
  { ρ := fun i => stateFrom cfg s (loop.take (i % loop.length))
    σ := fun i => loop[i % loop.length]?
    start := by simp [stateFrom, run]
    next := by
      intro i
      obtain ⟨e, he, hs⟩ := Lasso.loop_next (isRun cfg) hl hp i
      simp only [he, stateFrom_eq]; exact hs }

theorem loopExec_at {cfg : Config} {s : State} {loop : List Event}
    (hl : run cfg s loop = .ok s) (hp : 0 < loop.length) (j : Nat) :
    (loopExec cfg s loop hl hp).ρ j = stateFrom cfg s (loop.take (j % loop.length)) ∧
    (loopExec cfg s loop hl hp).σ j = loop[j % loop.length]? := ⟨rfl, rfl⟩

/-- Threads that do not occur in the loop are where they were, at all times. -/
theorem loopExec_untouched {cfg : Config} {s : State} {loop : List Event}
    (hl : run cfg s loop = .ok s) (hp : 0 < loop.length) {t : Tid}
    (hne : ∀ e ∈ loop, e.tid ≠ some t) (j : Nat) :
    ((loopExec cfg s loop hl hp).ρ j).thr t = s.thr t := by
  show (stateFrom cfg s (loop.take (j % loop.length))).thr t = s.thr t
  exact run_untouched _ _ _ (fun e he => hne e (List.mem_of_mem_take he)) (stateFrom_ok hl _)

theorem State.ext' {a b : State} (h1 : a.word = b.word) (h2 : a.holder = b.holder)
    (h3 : a.queue = b.queue) (h4 : a.recs = b.recs) (h5 : a.thr = b.thr) (h6 : a.sem = b.sem)
    (h7 : a.now = b.now) (h8 : a.seq = b.seq) (h9 : a.bad = b.bad) : a = b := by
  cases a; cases b; simp_all

/-- `t` moves at position `k` of the loop, or is not `Ready` there. -/
def fairAtB (cfg : Config) (A : State) (loop : List Event) (t : Tid) (k : Nat) : Bool :=
  (match loop[k]? with | some e => decide (e.tid = some t ∧ e ≠ .noteSeen t) | none => false) ||
    (let l := ((stateFrom cfg A (loop.take k)).thr t).loc; decide (l = .idle) || l.foreign || l.asleep)

/-- A loop of threads `< n` from a state in which the other threads are idle: it is weakly fair if each thread, at
    some position, moves or is not `Ready`; the test-and-set and the release loop of wake_waiters end if each
    thread, at some position, is outside them. -/
theorem loop_hyps {cfg : Config} {A : State} {loop : List Event} (hl : run cfg A loop = .ok A) (hp : 0 < loop.length) (n : Nat)
    (hA : ∀ t, n ≤ t → (A.thr t).loc = .idle) (hb : tidsBelow n loop = true) :
    ((∀ t, t < n → ∃ k, k < loop.length ∧ fairAtB cfg A loop t k = true) → WeakFair (loopExec cfg A loop hl hp)) ∧
    ((∀ t, t < n → ∃ k, k < loop.length ∧ ((stateFrom cfg A (loop.take k)).thr t).loc.spinLoop = false) →
      SpinFair (loopExec cfg A loop hl hp)) ∧
    ((∀ t, t < n → ∃ k, k < loop.length ∧ ((stateFrom cfg A (loop.take k)).thr t).loc.muRel = false) →
      MuRelFair (loopExec cfg A loop hl hp)) := by
  have rest : ∀ t, n ≤ t → ∀ j, (((loopExec cfg A loop hl hp).ρ j).thr t).loc = .idle := fun t ht j => by
    rw [loopExec_untouched hl hp (tidsBelow_ne hb ht) j]; exact hA t ht
  -- a location predicate that fails at some position fails again and again
  have out : ∀ (p : Loc → Bool), p .idle = false →
      (∀ t, t < n → ∃ k, k < loop.length ∧ p ((stateFrom cfg A (loop.take k)).thr t).loc = false) →
      ∀ t i, ∃ j, i ≤ j ∧ p (((loopExec cfg A loop hl hp).ρ j).thr t).loc = false := fun p hi hf t i => by
    by_cases ht : t < n
    · obtain ⟨k, hk, hq⟩ := hf t ht
      exact Lasso.mod_again (Q := fun k => p ((stateFrom cfg A (loop.take k)).thr t).loc = false) hk hq i
    · exact ⟨i, Nat.le_refl _, by rw [rest t (Nat.le_of_not_lt ht) i]; exact hi⟩
  refine ⟨fun hf t i h => ?_, fun hf t i h _ => ?_, fun hf t i h => ?_⟩
  · by_cases ht : t < n
    · obtain ⟨k, hk, hf⟩ := hf t ht
      simp only [fairAtB, Bool.or_eq_true, decide_eq_true_eq] at hf
      rcases hf with hm | hq
      · split at hm
        · rename_i e he
          obtain ⟨j, hj, hq⟩ := Lasso.mod_again (Q := fun k => loop[k]? = some e) hk he i
          exact ⟨j, hj, e, hq, of_decide_eq_true hm⟩
        · cases hm
      · obtain ⟨j, hj, hq⟩ := Lasso.mod_again (Q := fun k =>
          (((stateFrom cfg A (loop.take k)).thr t).loc = .idle ∨ ((stateFrom cfg A (loop.take k)).thr t).loc.foreign = true) ∨
            ((stateFrom cfg A (loop.take k)).thr t).loc.asleep = true) hk hq i
        obtain ⟨r1, r2, r3⟩ := h j hj
        rcases hq with (hq | hq) | hq
        · exact absurd hq r1
        · rw [show ((loopExec cfg A loop hl hp).ρ j) = stateFrom cfg A (loop.take (j % loop.length)) from rfl, hq] at r2
          cases r2
        · rw [show ((loopExec cfg A loop hl hp).ρ j) = stateFrom cfg A (loop.take (j % loop.length)) from rfl, hq] at r3
          cases r3
    · exact absurd (rest t (Nat.le_of_not_lt ht) i) (h i (Nat.le_refl _)).1
  · obtain ⟨j, hj, hq⟩ := out Loc.spinLoop rfl hf t i
    rw [h j hj] at hq; cases hq
  · obtain ⟨j, hj, hq⟩ := out Loc.muRel rfl hf t i
    rw [h j hj] at hq; cases hq

end NsyncVerif.CvFix
