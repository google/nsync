import NsyncVerif.Proofs.MuQLeads
/-
  MuQ, leads-to (C02): robustness of the first component of the measure.

  `stage_step_le`: NO accepted step of ANY thread (or of the environment) increases the stage of
  any thread, except the `call` of an acquiring operation (which takes the caller from 0 to 3).
  Hence along every execution Σ stage grows only by new arrivals.
-/
namespace NsyncVerif.MuQ

def Event.isAcqCall : Event → Bool
  | .call _ .lock | .call _ .rlock | .call _ .trylock | .call _ .rtrylock => true
  | _ => false

def stagePc : PC → Nat
  | .idle => 0
  | .lkRet _ => 2
  | .tryRet _ true => 2
  | .tryRet _ false => 1
  | .ulCas0 _ | .ulLd _ | .ulCas1 _ _ | .usLd _ | .usCasUnc _ _ | .usCasGrab _ _ => 2
  | .ulRet _ | .usRcLd _ _ _ | .usRcCas _ _ _ _ | .usFinLd _ _ | .usFinCas _ _ _ => 1
  | .usWakeSt _ _ _ | .usWakeV _ _ _ => 1
  | _ => 3

theorem stage_eq {s : State} {t : Tid} (h : s.pc t ≠ .idle) : stage s t = stagePc (s.pc t) := by
  cases hp : s.pc t <;> simp [stage, stagePc, hp] at h ⊢
  rename_i l r; cases r <;> rfl

theorem scanAdvance_stage (s : State) (t : Tid) (l : Mode) (sc : Scan) :
    stagePc ((scanAdvance s t l sc).pc t) = 1 ∧ (scanAdvance s t l sc).pc t ≠ .idle := by
  simp only [scanAdvance]; split <;> simp [setPc, stagePc]

theorem afterFin_stage (s : State) (t : Tid) (l : Mode) (w : List Wid) :
    stagePc ((afterFin s t l w).pc t) = 1 ∧ (afterFin s t l w).pc t ≠ .idle := by
  cases w <;> simp [afterFin, setPc, stagePc]

/-- Inside a call: the stage of the stepping thread does not increase. -/
theorem stagePc_step {cfg : Cfg} {s s' : State} {e : Event} {t : Tid}
    (h : step cfg s e = .ok s') (he : e.tid = some t)
    (hc : ∀ a, e ≠ .call t a) (hr : ∀ a res, e ≠ .ret t a res) :
    s.pc t ≠ .idle ∧ s'.pc t ≠ .idle ∧ stagePc (s'.pc t) ≤ stagePc (s.pc t) := by
  have ht := tstep_of_step h he
  generalize s.pc t = p at ht ⊢
  cases ht <;> try (first | exact absurd rfl (hc _) | exact absurd rfl (hr _ _))
  case usRcCas l sc k old obs _ =>
    obtain ⟨a, b⟩ := scanAdvance_stage s t l sc
    exact ⟨by simp, b, by rw [a]; simp [stagePc]⟩
  case usCasGrab l old _ =>
    obtain ⟨a, b⟩ := scanAdvance_stage (subShare { s with word := grabWord l old, sp := some t } t l) t l
      { wake := [], todo := s.queue, wt := none, sww := false, saf := true }
    exact ⟨by simp, b, by rw [grabbed, a]; simp [stagePc]⟩
  case usFinCas l f old _ =>
    obtain ⟨a, b⟩ := afterFin_stage { s with word := finWord f old, sp := none } t l f.wake
    exact ⟨by simp, b, by rw [a]; simp [stagePc]⟩
  case semV l k r =>
    obtain ⟨a, b⟩ := afterFin_stage s t l r
    exact ⟨by simp, b, by rw [semPost_pc, a]; simp [stagePc]⟩
  all_goals simp [setPc, stagePc]

/-- No accepted step increases anybody's stage, except the call of an acquiring operation. -/
theorem stage_step_le {cfg : Cfg} {s s' : State} {e : Event} (hr : Reachable cfg s)
    (h : step cfg s e = .ok s') (hna : e.isAcqCall = false) (t : Tid) : stage s' t ≤ stage s t := by
  by_cases he : e.tid = some t
  case neg =>
    rw [stage_congr (step_pc_other h he) (step_held_other h he)]; exact Nat.le_refl _
  have hnone : s.pc t ≠ .idle → s.held t = none := held_none_of_active (reachable_side hr).2
  by_cases hapi : (∃ a, e = .call t a) ∨ ∃ a res, e = .ret t a res
  · have ht := tstep_of_step h he
    generalize hp : s.pc t = p at ht
    rcases hapi with ⟨a, rfl⟩ | ⟨a, res, rfl⟩ <;> cases ht <;> try (cases hna; done)
    case callUnlock hh => simp [stage, setPc, hp, hh]
    case callRunlock hh => simp [stage, setPc, hp, hh]
    case retTry r => cases r <;> simp [stage, setPc, hp]
    case retRtry r => cases r <;> simp [stage, setPc, hp]
    all_goals simp [stage, setPc, hp, hnone (by rw [hp]; simp)]
  · obtain ⟨h1, h2, h3⟩ := stagePc_step h he (fun a ha => hapi (Or.inl ⟨a, ha⟩)) (fun a res ha => hapi (Or.inr ⟨a, res, ha⟩))
    rw [stage_eq h1, stage_eq h2]; exact h3

/-- Along every accepted event list without acquisition calls the stage of every thread is
    non-increasing (whoever moves, whatever the environment posts). -/
theorem stage_run_le {cfg : Cfg} : ∀ (evs : List Event) (s s' : State), Reachable cfg s →
    run cfg s evs = .ok s' → (∀ e ∈ evs, e.isAcqCall = false) → ∀ t, stage s' t ≤ stage s t :=
  fun _ s _ hr h hna =>
    ((isRun cfg).induct_mem (Q := fun s1 => Reachable cfg s1 ∧ ∀ t, stage s1 t ≤ stage s t)
      ⟨hr, fun _ => Nat.le_refl _⟩
      (fun _ e _ he _ ⟨hr1, hle⟩ hs =>
        ⟨reachable_step hr1 hs, fun t => Nat.le_trans (stage_step_le hr1 hs (hna e he) t) (hle t)⟩) h).2

theorem RunP.all_step {cfg : Cfg} {P : State → Event → Prop} {s s' : State} {evs : List Event}
    (h : RunP cfg P s evs s') {Q : Event → Prop}
    (hq : ∀ s e s', P s e → step cfg s e = .ok s' → Q e) : ∀ e ∈ evs, Q e := by
  induction h with
  | nil s => intro e he; cases he
  | cons hp hs _ ih =>
    intro e he
    rcases List.mem_cons.1 he with rfl | he
    · exact hq _ _ _ hp hs
    · exact ih e he

/-- A step of a thread that is not idle-holding-nothing is not the call of an acquiring operation
    (the acceptor rejects lock / rlock / trylock / rtrylock of a mutex the caller holds). -/
theorem noNewCall_not_acqCall {cfg : Cfg} {s s' : State} {e : Event}
    (hq : ∃ u, e.tid = some u ∧ ¬ IdleHoldingNothing s u) (h : step cfg s e = .ok s') :
    e.isAcqCall = false ∧ e.tid ≠ none := by
  obtain ⟨u, hu, hn⟩ := hq
  refine ⟨?_, by rw [hu]; intro h; cases h⟩
  have ht := tstep_of_step h hu
  generalize hp : s.pc u = p at ht
  cases ht <;> first | rfl | (rename_i hh; exact absurd ⟨hp, hh⟩ hn)

end NsyncVerif.MuQ
