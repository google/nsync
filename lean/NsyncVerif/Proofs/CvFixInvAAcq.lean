/-
  Layer `CvFix` (repaired cv.c): structural invariant — acquisition of the spinlock (continuations wait-enqueue,
  wait-check, wait_n).
-/
import NsyncVerif.Proofs.CvFixInvALock

namespace NsyncVerif.CvFix

theorem acq_words {w n : Word} {b : Bool} (hs : w.spin = false)
    (hn : Word.dec? (w.enc + 1 + (if b = true ∧ w.enc / 2 % 2 = 0 then 2 else 0)) = some n) :
    n.spin = true ∧ n.ne = (w.ne || b) := by
  cases w with | mk sp ne =>
  simp at hs; subst hs
  cases ne <;> cases b <;> simp [Word.enc, Word.dec?] at hn <;> subst hn <;> simp

/-- What the guards of a successful CAS on the cv word say. -/
theorem acq_facts {s : State} (hi : InvA s) {t : Tid} {exp new obs : Nat} {o n : Word}
    (hl : (s.thr t).loc = .spCas) (hexp : exp = (s.thr t).casExp) (hw : obs = s.word.enc) (he : obs = exp)
    (ho : Word.dec? exp = some o) (hn : Word.dec? new = some n)
    (hnew : new = exp + 1 + (if (s.thr t).setNE ∧ exp / 2 % 2 = 0 then 2 else 0)) :
    o = s.word ∧ s.word.spin = false ∧ s.holder = none ∧ n.spin = true ∧ n.ne = (s.word.ne || (s.thr t).setNE) ∧
    (∀ u, (s.thr u).loc.holds = false) := by
  have hev := (hi.thr t).casEven hl
  have e1 : exp = s.word.enc := by rw [← he, hw]
  have hsp : s.word.spin = false := enc_even_spin (by rw [← e1, hexp]; exact hev)
  have hnone : s.holder = none := by
    have := hi.spin; rw [hsp] at this
    cases h : s.holder with
    | none => rfl
    | some v => rw [h] at this; simp at this
  have ho' : o = s.word := by
    rw [e1, enc_dec] at ho; cases ho; rfl
  subst hnew
  rw [e1] at hn
  obtain ⟨n1, n2⟩ := acq_words hsp hn
  exact ⟨ho', hsp, hnone, n1, n2, hi.nobody_holds hsp⟩

/-- Acquisition without any change of records: wait-check (cv.c:257), wait_n (cv.c:468/481) and
    emit_cv_state (debug.c:248). -/
theorem invA_acq_plain {s : State} (hi : InvA s) (t : Tid) (n : Word) (lnew : Loc) (hl : (s.thr t).loc = .spCas)
    (hc : (s.thr t).cont = .waitChk ∧ lnew = .wChk2 ∨ (s.thr t).cont = .waitn ∧ lnew = .nLocked ∨
      (s.thr t).cont = .dbg ∧ lnew = .dWalk)
    (hnone : s.holder = none) (hn1 : n.spin = true)
    (hsp : s.word.spin = false) (hfree : ∀ u, (s.thr u).loc.holds = false) :
    FrameA ({ s with word := n, holder := some t }.setThr t { s.thr t with old := s.word, loc := lnew }) := by
  tfacts hl
  have hlist : (s.thr t).list = [] := t1 trivial
  have hln : lnew.holds = true := by rcases hc with ⟨_, h⟩ | ⟨_, h⟩ | ⟨_, h⟩ <;> simp [h, Loc.holds]
  refine invA_one (t := t) (r := (s.thr t).r) hi (fun u hu => by simp [hu]) (fun q _ => rfl) (fun u _ => hfree u)
    (by simp [hn1]) (.inl ⟨rfl, by simpa using hln⟩) (by intro _; simpa [hsp] using hi.free hnone)
    (by simp) hi.qNd hi.qMem (by simpa using hi.lNd t)
    (by simpa using hi.lMem t) (fun u _ => Iff.rfl) (fun h => .inr (RecOK.rfl' h)) ?_ ?_
  · rcases hc with ⟨hc, rfl⟩ | ⟨hc, rfl⟩ | ⟨hc, rfl⟩
    · simp only [hc] at t2 t3 t8
      constructor <;> simp [waitLive, waitPrep, inWaitN, Loc.wakePhase, hlist] <;> simp_all
    · simp only [hc] at t2 t3 t8
      constructor <;> simp [waitLive, waitPrep, inWaitN, Loc.wakePhase, hlist] <;> simp_all
    · simp only [hc] at t2 t3 t8
      constructor <;> simp [waitLive, waitPrep, inWaitN, Loc.wakePhase, hlist] <;> simp_all
  · intro _ hb2
    rcases hc with ⟨_, rfl⟩ | ⟨_, rfl⟩ | ⟨_, rfl⟩ <;> simp at hb2

/-- Acquisition by the enqueue of a cv wait (cv.c:233-234). -/
theorem invA_acq_waitEnq {s : State} (hi : InvA s) (t : Tid) (n : Word) (hl : (s.thr t).loc = .spCas)
    (hc : (s.thr t).cont = .waitEnq) (hn1 : n.spin = true) (hfree : ∀ u, (s.thr u).loc.holds = false) :
    FrameA (({ s with word := n, holder := some t, queue := s.queue ++ [(s.thr t).r] }).setRec (s.thr t).r
            { s.recs (s.thr t).r with stat := .queued }
          |>.setThr t { s.thr t with old := { spin := false, ne := true }, loc := .wEnq }) := by
  tfacts hl
  simp only [hc] at t2 t3 t8
  obtain ⟨hst, hown, hmu⟩ := t2 (by simp)
  have hlist : (s.thr t).list = [] := t1 trivial
  have hrq : (s.thr t).r ∉ s.queue := fun e => by have := (hi.qMem _).mp e; rw [hst] at this; cases this
  have hmine : (s.thr t).mine = [] := t8 (by simp)
  refine invA_one (t := t) (r := (s.thr t).r) hi (fun u hu => by simp [hu]) (fun q hq => by simp [hq])
    (fun u _ => hfree u) (by simp [hn1]) (.inl ⟨rfl, by simp [Loc.holds]⟩) (by simp) (by simp) ?_ ?_
    (by simp [hlist]) (lMem_nil hi (s.thr t).r hlist (by simp [hlist]) (fun q hq => by simp [hq]) (by simp))
    (by simp [hst]) (fun _ => .inl hown) ?_ (by simp)
  · simp only [setThr_queue, setRec_queue]
    rw [List.nodup_append]
    refine ⟨hi.qNd, by simp, ?_⟩
    intro a ha b hb; simp at hb; subst hb; exact fun e => hrq (e ▸ ha)
  · intro q
    simp only [setThr_queue, setRec_queue, setThr_recs, setRec_recs, List.mem_append, List.mem_singleton]
    by_cases hq : q = (s.thr t).r
    · subst hq; simp
    · simp [hq]; exact hi.qMem q
  · constructor <;> simp [waitLive, waitPrep, inWaitN, Loc.wakePhase, hlist, hmine, hown, hmu, RStat.live]

end NsyncVerif.CvFix
