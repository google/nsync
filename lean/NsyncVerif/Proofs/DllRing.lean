/-
Layer `Dll` (C17): representation predicates.

* `Linked H xs`   — consecutive elements of `xs` are linked both ways in heap `H`.
* `Ring H xs`     — `xs` is a non-empty, duplicate-free list of non-null addresses and
                    `next`/`prev` are the cyclic successor/predecessor along `xs`
                    (`Linked` on the closed walk `xs ++ [head xs]`).
* `Repr H l xs`   — the handle `l` represents the sequence `xs`: `l = 0 ∧ xs = []`, or
                    `Ring H xs` and `l` is the LAST element of `xs`.
* `rotateTo e es`, `rotateEnd e es` — `es` rotated to start / end with `e`; `Ring.at`: a ring is the
                    same ring seen from any of its elements.
* `Eff H H' W`    — heap `H'` differs from `H` at most in the links of the cells `W`; rings and
                    represented lists disjoint from `W` are kept (`Ring.eff`, `Repr.eff`).
-/
import NsyncVerif.Model.Dll

namespace Dll

/-- Consecutive elements are linked: `a → b` means `a.next = b` and `b.prev = a`. -/
def Linked (H : Heap) : List Addr → Prop
  | a :: b :: t => H.next a = b ∧ H.prev b = a ∧ Linked H (b :: t)
  | _ => True

@[simp] theorem linked_nil (H : Heap) : Linked H [] = True := by simp [Linked]
@[simp] theorem linked_single (H : Heap) (a : Addr) : Linked H [a] = True := by simp [Linked]
@[simp] theorem linked_cons_cons (H : Heap) (a b : Addr) (t : List Addr) :
    Linked H (a :: b :: t) = (H.next a = b ∧ H.prev b = a ∧ Linked H (b :: t)) := by
  simp [Linked]

/-- A chain splits at any element (which is shared by the two halves). -/
theorem linked_append_cons (H : Heap) (xs : List Addr) (y : Addr) (ys : List Addr) :
    Linked H (xs ++ y :: ys) ↔ Linked H (xs ++ [y]) ∧ Linked H (y :: ys) := by
  induction xs with
  | nil => simp
  | cons x xs ih =>
    cases xs with
    | nil => simp [and_assoc]
    | cons x' xs' =>
      simp only [List.cons_append, linked_cons_cons] at ih ⊢
      rw [ih]
      simp [and_assoc]

/-- Two chains joined: the last element of the first links to the first element of the second. -/
theorem linked_append {H : Heap} {S T : List Addr} {x y : Addr}
    (hx : S.getLast? = some x) (hy : T.head? = some y) :
    Linked H (S ++ T) ↔ Linked H S ∧ (H.next x = y ∧ H.prev y = x) ∧ Linked H T := by
  obtain ⟨S', rfl⟩ := List.getLast?_eq_some_iff.mp hx
  obtain ⟨T', rfl⟩ := List.head?_eq_some_iff.mp hy
  rw [List.append_assoc, List.singleton_append, linked_append_cons, linked_cons_cons]
  simp only [and_assoc]

@[simp] theorem getLast?_cons_concat (b y : Addr) (m : List Addr) :
    (b :: (m ++ [y])).getLast? = some y := by
  exact List.getLast?_concat (l := b :: m)

/-- Every list is `[]` or `m ++ [z]`. -/
theorem list_nil_or_snoc (xs : List Addr) : xs = [] ∨ ∃ m z, xs = m ++ [z] := by
  rcases List.eq_nil_or_concat xs with h | ⟨m, z, h⟩
  · exact Or.inl h
  · exact Or.inr ⟨m, z, by simp [h]⟩

/-- Frame rule for a chain: it reads `next` of all but its last and `prev` of all but its first
element. -/
theorem Linked.frame {H H' : Heap} : ∀ {l : List Addr}, Linked H l →
    (∀ x ∈ l.dropLast, H'.next x = H.next x) → (∀ x ∈ l.tail, H'.prev x = H.prev x) →
    Linked H' l
  | [], _, _, _ => by simp
  | [_], _, _, _ => by simp
  | a :: b :: t, h, hn, hp => by
    rw [linked_cons_cons] at h ⊢
    refine ⟨?_, ?_, Linked.frame h.2.2 ?_ ?_⟩
    · rw [hn a (by simp)]; exact h.1
    · rw [hp b (by simp)]; exact h.2.1
    · intro x hx; exact hn x (by rw [List.dropLast_cons_cons]; exact List.mem_cons_of_mem _ hx)
    · intro x hx; exact hp x (List.mem_cons_of_mem _ hx)

theorem ne_getLast_of_mem_dropLast {l : List Addr} {x z : Addr} (hnd : l.Nodup)
    (hz : l.getLast? = some z) (hx : x ∈ l.dropLast) : x ≠ z := by
  obtain ⟨m, rfl⟩ := List.getLast?_eq_some_iff.mp hz
  rw [List.dropLast_concat] at hx
  rintro rfl
  exact (List.nodup_append.mp hnd).2.2 x hx x (by simp) rfl

theorem ne_head_of_mem_tail {l : List Addr} {x a : Addr} (hnd : l.Nodup)
    (ha : l.head? = some a) (hx : x ∈ l.tail) : x ≠ a := by
  obtain ⟨t, rfl⟩ := List.head?_eq_some_iff.mp ha
  rintro rfl
  exact (List.nodup_cons.mp hnd).1 hx

/-- The last element `l` of a duplicate-free list written around one of its elements `p`: it is `p`,
or comes after it. -/
theorem last_cases {as bs : List Addr} {p l : Addr} (hnd : (as ++ p :: bs).Nodup)
    (hl : (as ++ p :: bs).getLast? = some l) :
    (bs = [] ∧ l = p) ∨ (∃ bs', bs = bs' ++ [l] ∧ l ≠ p) := by
  rcases list_nil_or_snoc bs with rfl | ⟨bs', z, rfl⟩
  · simp at hl
    exact .inl ⟨rfl, hl.symm⟩
  · simp at hl
    subst hl
    refine .inr ⟨bs', rfl, ?_⟩
    rintro rfl
    exact (List.nodup_cons.mp (List.nodup_append.mp hnd).2.1).1 (by simp)

def Ring (H : Heap) : List Addr → Prop
  | [] => False
  | a :: t => (a :: t).Nodup ∧ 0 ∉ (a :: t) ∧ Linked H (a :: (t ++ [a]))

@[simp] theorem ring_nil (H : Heap) : Ring H [] = False := rfl

theorem ring_cons (H : Heap) (a : Addr) (t : List Addr) :
    Ring H (a :: t) ↔ (a :: t).Nodup ∧ 0 ∉ (a :: t) ∧ Linked H (a :: (t ++ [a])) := Iff.rfl

theorem Ring.ne_nil {H : Heap} {xs : List Addr} (h : Ring H xs) : xs ≠ [] := by
  cases xs <;> simp_all

theorem Ring.nodup {H : Heap} {xs : List Addr} (h : Ring H xs) : xs.Nodup := by
  cases xs with
  | nil => simp
  | cons a t => exact h.1

theorem Ring.zero_not_mem {H : Heap} {xs : List Addr} (h : Ring H xs) : 0 ∉ xs := by
  cases xs with
  | nil => simp
  | cons a t => exact h.2.1

theorem Ring.ne_zero {H : Heap} {xs : List Addr} (h : Ring H xs) {a : Addr} (ha : a ∈ xs) :
    a ≠ 0 := fun h0 => h.zero_not_mem (h0 ▸ ha)

/-- A singleton ring is a non-null self-linked element. -/
theorem ring_singleton (H : Heap) (a : Addr) :
    Ring H [a] ↔ a ≠ 0 ∧ H.next a = a ∧ H.prev a = a := by
  simp [ring_cons, eq_comm]

/-- Rings are invariant under rotation. -/
theorem Ring.rotate {H : Heap} {u v : List Addr} (h : Ring H (u ++ v)) : Ring H (v ++ u) := by
  cases u with
  | nil => simpa using h
  | cons a u =>
    cases v with
    | nil => simpa using h
    | cons b v =>
      have hp : ((b :: v) ++ (a :: u)).Perm ((a :: u) ++ (b :: v)) := List.perm_append_comm
      refine ⟨hp.nodup_iff.mpr h.nodup, fun h0 => h.zero_not_mem (hp.mem_iff.mp h0), ?_⟩
      -- the closed walk `a … b … a` is cut at `b` and glued at `a`
      have hl : Linked H ((a :: u) ++ b :: (v ++ [a])) := by simpa using h.2.2
      suffices Linked H ((b :: v) ++ a :: (u ++ [b])) by simpa using this
      rw [linked_append_cons] at hl ⊢
      exact ⟨by simpa using hl.2, by simpa using hl.1⟩

/-- Frame rule for rings: the heaps agree on the ring's elements. -/
theorem Ring.frame {H H' : Heap} {xs : List Addr} (h : Ring H xs)
    (hf : ∀ x ∈ xs, H'.next x = H.next x ∧ H'.prev x = H.prev x) : Ring H' xs := by
  cases xs with
  | nil => exact h
  | cons a t =>
    refine ⟨h.1, h.2.1, h.2.2.frame (fun x hx => (hf x ?_).1) (fun x hx => (hf x ?_).2)⟩
    · have hx : x ∈ ((a :: t) ++ [a]).dropLast := hx
      rwa [List.dropLast_concat] at hx
    · exact (List.perm_append_comm (l₁ := [a])).mem_iff.mpr hx

/-- The closed walk of a ring, opened after its first element. -/
theorem Ring.next_head {H : Heap} {p : Addr} {ps : List Addr} (h : Ring H (p :: ps)) :
    (ps ++ [p]).head? = some (H.next p) ∧ H.prev (H.next p) = p ∧ Linked H (ps ++ [p]) := by
  obtain ⟨y, hy⟩ : ∃ y, (ps ++ [p]).head? = some y := by cases ps <;> simp
  obtain ⟨_, ⟨h1, h2⟩, h3⟩ := (linked_append (S := [p]) (x := p) rfl hy).mp h.2.2
  subst h1
  exact ⟨hy, h2, h3⟩

/-- The closed walk of a ring, opened before its last step. -/
theorem Ring.prev_last {H : Heap} {n : Addr} {ns : List Addr} (h : Ring H (n :: ns)) :
    (n :: ns).getLast? = some (H.prev n) ∧ H.next (H.prev n) = n ∧ Linked H (n :: ns) := by
  obtain ⟨z, hz⟩ : ∃ z, (n :: ns).getLast? = some z := ⟨_, List.getLast?_cons⟩
  obtain ⟨h1, ⟨h2, h3⟩, _⟩ := (linked_append (T := [n]) (y := n) hz rfl).mp h.2.2
  subst h3
  exact ⟨hz, h2, h1⟩

/-- Interior links of a ring. -/
theorem Ring.link {H : Heap} {as bs : List Addr} {a b : Addr}
    (h : Ring H (as ++ a :: b :: bs)) : H.next a = b ∧ H.prev b = a := by
  have h' : Ring H (a :: b :: (bs ++ as)) := by simpa using h.rotate
  have := h'.2.2
  simp only [List.cons_append, linked_cons_cons] at this
  exact ⟨this.1, this.2.1⟩

/-- The wrap-around link of a ring: last → first. -/
theorem Ring.wrap {H : Heap} {xs : List Addr} {a z : Addr} (h : Ring H xs)
    (ha : xs.head? = some a) (hz : xs.getLast? = some z) : H.next z = a ∧ H.prev a = z := by
  obtain ⟨t, rfl⟩ := List.head?_eq_some_iff.mp ha
  obtain ⟨h1, h2, _⟩ := h.prev_last
  rw [hz, Option.some.injEq] at h1; subst h1
  exact ⟨h2, rfl⟩

/-! ### Rotations: a ring seen from one of its elements -/

/-- `es` rotated so that it starts with `e` (identity-like if `e ∉ es`). -/
def rotateTo (e : Addr) (es : List Addr) : List Addr :=
  es.dropWhile (· != e) ++ es.takeWhile (· != e)

/-- `es` rotated so that it ends with `e`. -/
def rotateEnd (e : Addr) (es : List Addr) : List Addr :=
  (rotateTo e es).tail ++ [e]

theorem rotateTo_split {e : Addr} {u : List Addr} (v : List Addr) (h : e ∉ u) :
    rotateTo e (u ++ e :: v) = e :: (v ++ u) := by
  have hu : ∀ a ∈ u, (a != e) = true := fun a ha => by simpa using fun h' : a = e => h (h' ▸ ha)
  simp [rotateTo, List.dropWhile_append_of_pos hu, List.takeWhile_append_of_pos hu]

theorem rotateEnd_split {e : Addr} {u : List Addr} (v : List Addr) (h : e ∉ u) :
    rotateEnd e (u ++ e :: v) = v ++ u ++ [e] := by
  simp [rotateEnd, rotateTo_split v h]

theorem rotateTo_singleton (e : Addr) : rotateTo e [e] = [e] := by simp [rotateTo]
theorem rotateEnd_singleton (e : Addr) : rotateEnd e [e] = [e] := by simp [rotateEnd, rotateTo]

theorem rotateTo_head (e : Addr) (t : List Addr) : rotateTo e (e :: t) = e :: t := by
  simp [rotateTo]

theorem rotateTo_cons {e : Addr} {es : List Addr} (he : e ∈ es) : ∃ t, rotateTo e es = e :: t := by
  obtain ⟨u, v, rfl, hu⟩ := List.eq_append_cons_of_mem he
  exact ⟨_, rotateTo_split v hu⟩

theorem Ring.rotateTo {H : Heap} {es : List Addr} {e : Addr} (h : Ring H es) (he : e ∈ es) :
    Ring H (rotateTo e es) := by
  obtain ⟨u, v, rfl, hu⟩ := List.eq_append_cons_of_mem he
  rw [rotateTo_split v hu]
  simpa using h.rotate

theorem mem_rotateTo {e x : Addr} {es : List Addr} (he : e ∈ es) : x ∈ rotateTo e es ↔ x ∈ es := by
  obtain ⟨u, v, rfl, hu⟩ := List.eq_append_cons_of_mem he
  rw [rotateTo_split v hu]
  simp only [List.mem_cons, List.mem_append]
  grind

/-- A ring seen from one of its elements: rotated to start there it is the same ring with the same
elements. -/
theorem Ring.at {H : Heap} {es : List Addr} {e : Addr} (h : Ring H es) (he : e ∈ es) :
    ∃ t, Dll.rotateTo e es = e :: t ∧ Ring H (e :: t) ∧ ∀ x, x ∈ e :: t ↔ x ∈ es := by
  obtain ⟨t, ht⟩ := rotateTo_cons he
  exact ⟨t, ht, ht ▸ h.rotateTo he, fun x => ht ▸ mem_rotateTo he⟩

theorem Ring.rotateEnd {H : Heap} {es : List Addr} {e : Addr} (h : Ring H es) (he : e ∈ es) :
    Ring H (rotateEnd e es) := by
  obtain ⟨t, ht, hr, _⟩ := h.at he
  rw [Dll.rotateEnd, ht]
  exact Ring.rotate (u := [e]) hr

theorem mem_rotateEnd {e x : Addr} {es : List Addr} (he : e ∈ es) : x ∈ rotateEnd e es ↔ x ∈ es := by
  obtain ⟨t, ht⟩ := rotateTo_cons he
  rw [rotateEnd, ← mem_rotateTo he (x := x), ht]
  simp [or_comm]

theorem Ring.next_mem {H : Heap} {xs : List Addr} {a : Addr} (h : Ring H xs) (ha : a ∈ xs) :
    H.next a ∈ xs := by
  obtain ⟨t, _, hr, hm⟩ := h.at ha
  have := List.mem_of_head? hr.next_head.1
  exact (hm _).mp (by simpa [or_comm] using this)

theorem Ring.prev_mem {H : Heap} {xs : List Addr} {a : Addr} (h : Ring H xs) (ha : a ∈ xs) :
    H.prev a ∈ xs := by
  obtain ⟨t, _, hr, hm⟩ := h.at ha
  exact (hm _).mp (List.mem_of_getLast? hr.prev_last.1)

def Repr (H : Heap) (l : Addr) (xs : List Addr) : Prop :=
  (xs = [] ∧ l = 0) ∨ (Ring H xs ∧ xs.getLast? = some l)

theorem repr_nil (H : Heap) (l : Addr) : Repr H l [] ↔ l = 0 := by
  simp [Repr]

theorem repr_zero (H : Heap) (xs : List Addr) : Repr H 0 xs ↔ xs = [] := by
  constructor
  · rintro (⟨h, _⟩ | ⟨hr, hl⟩)
    · exact h
    · exact absurd (List.mem_of_getLast? hl) hr.zero_not_mem
  · rintro rfl; exact Or.inl ⟨rfl, rfl⟩

theorem Repr.nodup {H : Heap} {l : Addr} {xs : List Addr} (h : Repr H l xs) : xs.Nodup := by
  rcases h with ⟨rfl, _⟩ | ⟨hr, _⟩
  · simp
  · exact hr.nodup

theorem Repr.ring {H : Heap} {l : Addr} {xs : List Addr} (h : Repr H l xs) (hne : xs ≠ []) :
    Ring H xs ∧ xs.getLast? = some l := by
  rcases h with ⟨rfl, _⟩ | h
  · exact absurd rfl hne
  · exact h

theorem Repr.ring_of_mem {H : Heap} {l e : Addr} {xs : List Addr} (h : Repr H l xs) (he : e ∈ xs) :
    Ring H xs := (h.ring (List.ne_nil_of_mem he)).1

theorem Repr.ne_zero {H : Heap} {l a : Addr} {xs : List Addr} (h : Repr H l xs) (ha : a ∈ xs) :
    a ≠ 0 := (h.ring_of_mem ha).ne_zero ha

theorem Repr.handle_mem {H : Heap} {l : Addr} {xs : List Addr} (hr : Repr H l xs)
    (hne : xs ≠ []) : l ∈ xs := List.mem_of_getLast? (hr.ring hne).2

theorem Repr.of_ring {H : Heap} {l : Addr} {xs : List Addr} (h : Ring H xs)
    (hl : xs.getLast? = some l) : Repr H l xs := Or.inr ⟨h, hl⟩

/-- `l = 0` exactly for the empty sequence. -/
theorem Repr.handle_eq_zero_iff {H : Heap} {l : Addr} {xs : List Addr} (h : Repr H l xs) :
    l = 0 ↔ xs = [] := by
  constructor
  · rintro rfl; exact (repr_zero H xs).mp h
  · rintro rfl; exact (repr_nil H l).mp h

/-- Frame rule for represented lists. -/
theorem Repr.frame {H H' : Heap} {l : Addr} {xs : List Addr} (h : Repr H l xs)
    (hf : ∀ x ∈ xs, H'.next x = H.next x ∧ H'.prev x = H.prev x) : Repr H' l xs := by
  rcases h with h | ⟨hr, hl⟩
  · exact Or.inl h
  · exact Or.inr ⟨hr.frame hf, hl⟩

/-! ### Effect of a list operation on the heap -/

/-- `H'` is `H` with at most the `next`/`prev` fields of the cells in `W` rewritten: all that a list
operation on rings with elements `W` does to the heap. -/
structure Eff (H H' : Heap) (W : List Addr) : Prop where
  link : ∀ x, x ∉ W → H'.next x = H.next x ∧ H'.prev x = H.prev x
  container : H'.container = H.container

theorem Eff.refl (H : Heap) (W : List Addr) : Eff H H W := ⟨fun _ _ => ⟨rfl, rfl⟩, rfl⟩

theorem Eff.link_append {H H' : Heap} {U V : List Addr} (h : Eff H H' (U ++ V)) {x : Addr}
    (hu : x ∉ U) (hv : x ∉ V) : H'.next x = H.next x ∧ H'.prev x = H.prev x :=
  h.link x (fun hx => (List.mem_append.mp hx).elim hu hv)

/-- A ring disjoint from the written cells is kept. -/
theorem Ring.eff {H H' : Heap} {W xs : List Addr} (h : Ring H xs) (he : Eff H H' W)
    (hd : ∀ x ∈ xs, x ∉ W) : Ring H' xs :=
  h.frame (fun x hx => he.link x (hd x hx))

theorem Repr.eff {H H' : Heap} {W xs : List Addr} {l : Addr} (h : Repr H l xs) (he : Eff H H' W)
    (hd : ∀ x ∈ xs, x ∉ W) : Repr H' l xs :=
  h.frame (fun x hx => he.link x (hd x hx))

end Dll
