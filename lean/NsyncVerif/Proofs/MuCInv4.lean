import NsyncVerif.Proofs.MuCInv3
import NsyncVerif.Proofs.MuCQ
/-
  MuC: the queue invariant (I_queue): ownership of waiter records, at most one unlocker between grab
  and final CAS, no record twice on the lists, everything on a list has `waiting` set.
-/
namespace NsyncVerif.MuC

def PC.finOf : PC → Option Fin
  | .usFinLd _ f | .usFinCas _ f _ => some f
  | _ => none

theorem PcMove.finOf {s : State} {p p' : PC} (h : PcMove s p p') : p'.finOf = p.finOf := by
  cases h <;> first | rfl | (rename_i h; cases h <;> rfl)

theorem CasPc.finOf {s : State} {p p' : PC} {nw : Word} {w : Option Wid} (h : CasPc s p p' nw w) : p'.finOf = none := by
  cases h <;> first | rfl | (cases ‹Ret› <;> rfl) | (rw [loopPc_true]; split <;> rfl)

structure Inv4 (s : State) : Prop where
  own : ∀ t k, k ∈ (s.pc t).ws → (s.wr k).owner = some t
  uniq : ∀ t u, (s.pc t).unl = true → (s.pc u).unl = true → t = u
  nd : ∀ t, (allOf s t).Nodup
  wait : ∀ k, Queued s k → (s.wr k).waiting = true
  wk : ∀ t k, k ∈ (s.pc t).wakeL → (s.wr k).waiting = true ∧ ¬ Queued s k
  limbo : ∀ t k, (s.pc t).limbo = some k → (s.wr k).waiting = true ∧ ¬ Queued s k ∧ ∀ u, k ∉ (s.pc u).wakeL
  finq : ∀ t f, (s.pc t).finOf = some f → f.cEmpty = s.queue.isEmpty
  wkd : ∀ t u k, k ∈ (s.pc t).wakeL → k ∈ (s.pc u).wakeL → t = u

theorem Inv4.ws_owner {s : State} (h : Inv4 s) {t u : Tid} {k : Wid} (ho : (s.wr k).owner = some t) (hk : k ∈ (s.pc u).ws) : u = t :=
  Option.some.inj ((h.own u k hk).symm.trans ho)

theorem Inv4.not_queued {s : State} (h : Inv4 s) {k : Wid} (hw : (s.wr k).waiting = false) : ¬ Queued s k := fun e => by
  have := h.wait k e; rw [hw] at this; cases this

theorem Inv4.not_woken {s : State} (h : Inv4 s) {k : Wid} (hw : (s.wr k).waiting = false) (u : Tid) : k ∉ (s.pc u).wakeL := fun e => by
  have := (h.wk u k e).1; rw [hw] at this; cases this

theorem queued_congr {s s' : State} (hq : s'.queue = s.queue) (hsc : ∀ u, (s'.pc u).scan? = (s.pc u).scan?) (k : Wid) :
    Queued s' k ↔ Queued s k := by
  simp only [Queued, hq, hsc]

/-- A step of thread `t` that leaves the queue and `waiting` of all records alone, may release records
    of `t`, and moves `t` to a program point with the same lists. -/
theorem Inv4.local {s s' : State} (t : Tid) (h : Inv4 s) (hq : s'.queue = s.queue)
    (hwr : ∀ x, ((s'.wr x).owner = (s.wr x).owner ∨ ((s.wr x).owner = some t ∧ x ∉ (s'.pc t).ws)) ∧
      (s'.wr x).waiting = (s.wr x).waiting)
    (hpc : ∀ u, u ≠ t → s'.pc u = s.pc u)
    (hws : ∀ k, k ∈ (s'.pc t).ws → k ∈ (s.pc t).ws)
    (hunl : (s'.pc t).unl = true → (s.pc t).unl = true) (hsc : (s'.pc t).scan? = (s.pc t).scan?)
    (hwk : (s'.pc t).wakeL = (s.pc t).wakeL) (hlb : (s'.pc t).limbo = (s.pc t).limbo)
    (hfin : ∀ f, (s'.pc t).finOf = some f → (s.pc t).finOf = some f) : Inv4 s' := by
  have hsc' : ∀ u, (s'.pc u).scan? = (s.pc u).scan? := eq_of_others hpc hsc
  have hwk' : ∀ u, (s'.pc u).wakeL = (s.pc u).wakeL := eq_of_others hpc hwk
  have hunl' : ∀ u, (s'.pc u).unl = true → (s.pc u).unl = true := by
    intro u; by_cases hu : u = t
    · subst hu; exact hunl
    · rw [hpc u hu]; exact id
  have hQ := queued_congr hq hsc'
  refine ⟨?_, ?_, ?_, ?_, ?_, ?_, ?_, fun u v k hu hv => by rw [hwk'] at hu hv; exact h.wkd u v k hu hv⟩
  · intro u k hk
    by_cases hu : u = t
    · subst hu
      rcases (hwr k).1 with e | ⟨_, e⟩
      · rw [e]; exact h.own u k (hws k hk)
      · exact absurd hk e
    · rw [hpc u hu] at hk
      have := h.own u k hk
      rcases (hwr k).1 with e | ⟨e, _⟩
      · rw [e]; exact this
      · rw [this] at e; cases e; exact absurd rfl hu
  · intro u v hu hv; exact h.uniq u v (hunl' u hu) (hunl' v hv)
  · intro u
    have : allOf s' u = allOf s u := by simp only [allOf, hq, PC.priv, hsc', hwk']
    rw [this]; exact h.nd u
  · intro k hk; rw [(hwr k).2]; exact h.wait k ((hQ k).1 hk)
  · intro u k hk
    rw [hwk'] at hk
    rw [(hwr k).2, hQ]; exact h.wk u k hk
  · intro u k hk
    have hk' : (s.pc u).limbo = some k := (eq_of_others hpc hlb u).symm.trans hk
    obtain ⟨a, b, c⟩ := h.limbo u k hk'
    exact ⟨by rw [(hwr k).2]; exact a, by rw [hQ]; exact b, fun v => by rw [hwk']; exact c v⟩
  · intro u f hf
    have hf' : (s.pc u).finOf = some f := by
      by_cases hu : u = t
      · subst hu; exact hfin f hf
      · rw [← hpc u hu]; exact hf
    rw [hq]; exact h.finq u f hf'

theorem PcMove.unl {s : State} {p p' : PC} (h : PcMove s p p') : p'.unl = p.unl := by
  cases h <;> first | rfl | (rename_i h; cases h <;> rfl)
theorem PcMove.wakeL {s : State} {p p' : PC} (h : PcMove s p p') : p'.wakeL = p.wakeL := by
  cases h <;> first | rfl | (rename_i h; cases h <;> rfl)
theorem PcMove.limbo {s : State} {p p' : PC} (h : PcMove s p p') : p'.limbo = p.limbo := by
  cases h <;> first | rfl | (rename_i h; cases h <;> rfl)
theorem PcMove.ws {s : State} {p p' : PC} (h : PcMove s p p') {k : Wid} (hk : k ∈ p'.ws) : k ∈ p.ws := by
  cases h <;> first | exact hk | (rename_i h; cases h <;> first | exact hk | simpa [PC.ws, SL.ws, SL.fromWait] using hk)

theorem CasPc.wakeL {s : State} {p p' : PC} {nw : Word} {w : Option Wid} (h : CasPc s p p' nw w) : p'.wakeL = p.wakeL := by
  cases h <;> first | rfl | (cases ‹Ret› <;> rfl) | (rw [loopPc_true]; split <;> rfl)
theorem CasPc.unl {s : State} {p p' : PC} {nw : Word} {w : Option Wid} (h : CasPc s p p' nw w) : p'.unl = false := by
  cases h <;> first | rfl | (cases ‹Ret› <;> rfl) | (rw [loopPc_true]; split <;> rfl)
theorem CasPc.limbo {s : State} {p p' : PC} {nw : Word} {w : Option Wid} (h : CasPc s p p' nw w) : p'.limbo = p.limbo := by
  cases h <;> first | rfl | (cases ‹Ret› <;> rfl) | (rw [loopPc_true]; split <;> rfl)
theorem CasPc.ws {s : State} {p p' : PC} {nw : Word} {w : Option Wid} (h : CasPc s p p' nw w) {k : Wid} (hk : k ∈ p'.ws) : k ∈ p.ws := by
  cases h <;> first | exact hk | (cases ‹Ret› <;> exact hk) | (cases hk; done) | skip
  rename_i c old m hm _
  rw [loopPc_true] at hk
  simp only [PC.ws, SL.ws, hm]
  exact List.mem_append_right _ (by split at hk <;> exact hk)
/-- The record a CAS releases is one the thread refers to and will not refer to any more. -/
theorem CasPc.rel {s : State} {p p' : PC} {nw : Word} {w : Option Wid} (h : CasPc s p p' nw w) {k : Wid} (hk : w = some k) :
    k ∈ p.ws ∧ k ∉ p'.ws := by
  cases h <;> first | (cases hk; done) | skip
  exact ⟨by simp only [PC.ws, SL.ws, hk]; exact List.mem_append_left _ (List.mem_singleton.2 rfl), fun e => by cases e⟩

/-- Releasing a record the thread refers to and will not refer to any more. -/
theorem Inv4.drop {s : State} {t : Tid} (h : Inv4 s) (w : Option Wid) (ws' : List Wid) (hk : ∀ k, w = some k → k ∈ (s.pc t).ws)
    (hn : ∀ k, w = some k → k ∉ ws') (x : Wid) :
    (((dropW s w).wr x).owner = (s.wr x).owner ∨ ((s.wr x).owner = some t ∧ x ∉ ws')) ∧
      ((dropW s w).wr x).waiting = (s.wr x).waiting := by
  cases w with
  | none => exact ⟨Or.inl rfl, rfl⟩
  | some k =>
    show ((setFn s.wr k _ x).owner = _ ∨ _) ∧ (setFn s.wr k _ x).waiting = _
    rw [setFn_apply]
    split
    · subst_vars; exact ⟨Or.inr ⟨h.own t _ (hk _ rfl), hn _ rfl⟩, rfl⟩
    · exact ⟨Or.inl rfl, rfl⟩


theorem Inv4.cas {s s' : State} {t : Tid} {p' : PC} {nw : Word} {w : Option Wid} (h : Inv4 s) (hp : CasPc s (s.pc t) p' nw w)
    (ok : CasOk s t p' nw w s') : Inv4 s' := by
  have hpt : s'.pc t = p' := setFn_at ok.pc
  exact Inv4.local t h ok.queue (fun x => by rw [ok.wr, hpt]; exact h.drop w _ (fun _ hk => (hp.rel hk).1) (fun _ hk => (hp.rel hk).2) x)
    (setFn_others ok.pc) (fun k hk => hp.ws (by rw [hpt] at hk; exact hk))
    (fun e => by rw [hpt, hp.unl] at e; cases e) (by rw [hpt, hp.scan.1, hp.scan.2]) (by rw [hpt]; exact hp.wakeL)
    (by rw [hpt]; exact hp.limbo) (fun f e => by rw [hpt, hp.finOf] at e; cases e)

theorem Inv4.move {s : State} {t : Tid} {p' : PC} (h : Inv4 s) (hp : PcMove s (s.pc t) p') : Inv4 (setPc s t p') :=
  Inv4.local t h rfl (fun _ => ⟨Or.inl rfl, rfl⟩) (setFn_others rfl) (by simpa using fun k => hp.ws (k := k))
    (by simp [hp.unl]) (by simp [hp.scan]) (by simp [hp.wakeL]) (by simp [hp.limbo]) (by simp [hp.finOf])

/-- A step that changes only semaphores / data / clock / the word. -/
theorem Inv4.env {s s' : State} (h : Inv4 s) (hq : s'.queue = s.queue)
    (hwr : ∀ x, (s'.wr x).owner = (s.wr x).owner ∧ (s'.wr x).waiting = (s.wr x).waiting)
    (hpc : s'.pc = s.pc) : Inv4 s' := by
  have hQ : ∀ k, Queued s' k ↔ Queued s k := fun k => by simp only [Queued, hq, hpc]
  refine ⟨?_, ?_, ?_, ?_, ?_, ?_, ?_, fun u v k hu hv => by rw [hpc] at hu hv; exact h.wkd u v k hu hv⟩
  · intro u k hk; rw [(hwr k).1]; rw [hpc] at hk; exact h.own u k hk
  · intro u v hu hv; rw [hpc] at hu hv; exact h.uniq u v hu hv
  · intro u; simp only [allOf, hq, hpc]; exact h.nd u
  · intro k hk; rw [(hwr k).2]; exact h.wait k ((hQ k).1 hk)
  · intro u k hk; rw [hpc] at hk; rw [(hwr k).2, hQ]; exact h.wk u k hk
  · intro u k hk; rw [hpc] at hk
    obtain ⟨a, b, c⟩ := h.limbo u k hk
    exact ⟨by rw [(hwr k).2]; exact a, by rw [hQ]; exact b, fun v => by rw [hpc]; exact c v⟩
  · intro u f hf; rw [hpc] at hf; rw [hq]; exact h.finq u f hf

theorem fin_spin {p : PC} {f : Fin} (h : p.finOf = some f) : p.spin = true := by
  cases p <;> simp [PC.finOf] at h <;> rfl

/-- Only the owner of the spinlock can be at the final CAS of unlock_slow. -/
theorem Inv3.fin_owner {s : State} (h3 : Inv3 s) {t u : Tid} {f : Fin} (ht : (s.pc t).spin = true)
    (hf : (s.pc u).finOf = some f) : u = t := by
  have h1 := (h3.own t).2 ht
  have h2 := (h3.own u).2 (fin_spin hf)
  rw [h1] at h2; cases h2; rfl

theorem queued_mono {s s' : State} (hq : ∀ k, k ∈ s'.queue → k ∈ s.queue) (hsc : ∀ u, (s'.pc u).scan? = (s.pc u).scan?) {k : Wid}
    (h : Queued s' k) : Queued s k := by
  rcases h with h | ⟨u, sc, h1, h2⟩
  · exact Or.inl (hq k h)
  · exact Or.inr ⟨u, sc, by rw [← hsc]; exact h1, h2⟩

theorem Inv4.not_in_priv {s : State} (h : Inv4 s) {k : Wid} (hk : k ∈ s.queue) (u : Tid) : k ∉ (s.pc u).priv := by
  intro hp
  have := h.nd u
  simp only [allOf, List.append_assoc] at this
  have := (List.nodup_append.mp this).2.2 k hk k (List.mem_append_left _ hp)
  exact this rfl

theorem mem_priv_iff {s : State} {u : Tid} {k : Wid} : k ∈ (s.pc u).priv ↔ ∃ sc, (s.pc u).scan? = some sc ∧ k ∈ sc.lists := by
  simp only [PC.priv]
  cases (s.pc u).scan? <;> simp

/-- What `Inv4.local` asks of the program point `p'` a thread moves to from `p`. -/
structure Keep4 (p' p : PC) : Prop where
  ws : ∀ k, k ∈ p'.ws → k ∈ p.ws
  unl : p'.unl = true → p.unl = true
  scan : p'.scan? = p.scan?
  wakeL : p'.wakeL = p.wakeL
  limbo : p'.limbo = p.limbo
  finOf : ∀ f, p'.finOf = some f → p.finOf = some f

/-- A step of `t` to `p'` that keeps the queue and `waiting` of every record, and may release records of `t`. -/
theorem Inv4.frame {s s' : State} {t : Tid} {p' : PC} (h : Inv4 s) (hpc : s'.pc = setFn s.pc t p') (hq : s'.queue = s.queue)
    (hwr : ∀ x, ((s'.wr x).owner = (s.wr x).owner ∨ ((s.wr x).owner = some t ∧ x ∉ p'.ws)) ∧
      (s'.wr x).waiting = (s.wr x).waiting)
    (k : Keep4 p' (s.pc t)) : Inv4 s' := by
  have hpt : s'.pc t = p' := setFn_at hpc
  exact Inv4.local t h hq (by rw [hpt]; exact hwr) (setFn_others hpc)
    (by rw [hpt]; exact k.ws) (by rw [hpt]; exact k.unl) (by rw [hpt]; exact k.scan) (by rw [hpt]; exact k.wakeL)
    (by rw [hpt]; exact k.limbo) (by rw [hpt]; exact k.finOf)

/-- To a program point outside the scan of unlock_slow. -/
theorem Keep4.of_sub {p' p : PC} (hws : ∀ k, k ∈ p'.ws → k ∈ p.ws) (hunl : p'.unl = false) (hsc : p'.scan? = p.scan?)
    (hwk : p'.wakeL = p.wakeL) (hlb : p'.limbo = p.limbo) (hfin : p'.finOf = none) : Keep4 p' p :=
  ⟨hws, fun e => (by rw [hunl] at e; cases e), hsc, hwk, hlb, fun f e => (by rw [hfin] at e; cases e)⟩

theorem Keep4.of_nil {p' p : PC} (hws : p'.ws = []) (hunl : p'.unl = false) (hsc : p'.scan? = p.scan?)
    (hwk : p'.wakeL = p.wakeL) (hlb : p'.limbo = p.limbo) (hfin : p'.finOf = none) : Keep4 p' p :=
  .of_sub (fun k hk => by rw [hws] at hk; cases hk) hunl hsc hwk hlb hfin

macro "wr_same" : tactic => `(tactic|
  (intro x; constructor <;> (try left) <;> (simp [setFn] <;> (try split) <;> simp_all)))

macro "inv4_local" t:ident h:ident heq:ident : tactic => `(tactic|
  (refine Inv4.local $t $h ?_ ?_ ?_ ?_ ?_ ?_ ?_ ?_ ?_
   · simp
   · wr_same
   · intro u hu; simp [setFn, hu]
   all_goals
     (rw [$heq:ident]
      (simp_all [PC.ws, SL.ws, Ret.ws, PC.unl, PC.scan?, PC.wakeL, PC.limbo, PC.finOf, loopPc, finPc, Ret.pc,
        SL.fromWait, SL.entry, SL.woken]) <;> grind)))

macro "ld_case4" t:ident h:ident heq:ident hs:ident : tactic => `(tactic|
  (try dsimp only at $hs:ident
   try simp only [ldWord, ldWaiting] at $hs:ident
   repeat' split at $hs:ident
   all_goals first
     | (cases $hs:ident; done)
     | (cases $hs:ident; inv4_local $t $h $heq)
     | (cases $hs:ident; split <;> inv4_local $t $h $heq)))

theorem unl_of_fin {p : PC} {f : Fin} (h : p.finOf = some f) : p.unl = true := by
  cases p <;> simp [PC.finOf] at h <;> rfl

end NsyncVerif.MuC
