/-
  Proofs/CounterFairDefs.lean — Counter layer, fair release (C10, liveness form): infinite executions,
  weak fairness, the hypotheses; one step of an execution, classified (`Exec.step_cases`).
-/
import NsyncVerif.Proofs.CounterFairStep
import NsyncVerif.Proofs.Sched

namespace Counter

/-- An infinite execution from `s0`; `σ i = none` means that nobody moves at time `i`. -/
structure Exec (s0 : State) where
  ρ : Nat → State
  σ : Nat → Option Event
  start : ρ 0 = s0
  next : ∀ i, match σ i with
    | none => ρ (i + 1) = ρ i
    | some e => step (ρ i) e = .ok (ρ (i + 1))

/-- Thread `t` executes the next operation of its own code at time `j` (its program point changes).
    Events of other layers that `t` emits and the acceptor skips (`Ev.other`, stray semaphore
    traffic, …) leave the program point where it is and do not count. -/
def Moves {s0 : State} (x : Exec s0) (t : Tid) (j : Nat) : Prop := (x.ρ (j + 1)).pc t ≠ (x.ρ j).pc t

/-- A thread that is not required to move: asleep in P-with-deadline on a semaphore whose count is 0
    before its deadline, or waiting for counter_mu while somebody holds it. -/
def Blocked (s : State) (t : Tid) : Prop :=
  (∃ dl k j, s.pc t = .wPdWait dl k j ∧ s.sh.sem j = 0 ∧ ¬ expired dl s.sh.now)
  ∨ (lockWaitPc (s.pc t) = true ∧ s.sh.lockHolder ≠ none)

/-- Weak fairness on each thread's next operation: a thread that from time `i` on is inside a call
    and not blocked executes its next operation at some time `j ≥ i`.  (The holder of counter_mu is
    never blocked.) -/
def WeakFair {s0 : State} (x : Exec s0) : Prop :=
  ∀ t i, (∀ j, i ≤ j → (x.ρ j).pc t ≠ .idle ∧ ¬ Blocked (x.ρ j) t) → ∃ j, i ≤ j ∧ Moves x t j

/-- Only finitely many API calls arrive. -/
def FiniteArrivals {s0 : State} (x : Exec s0) : Prop :=
  ∃ n, ∀ j t e, n ≤ j → x.σ j = some (.thr t e) → e.isCall = false

/-- The clock eventually reaches `d`. -/
def ClockAdvances {s0 : State} (x : Exec s0) (d : Int) : Prop := ∃ j, d ≤ ((x.ρ j).sh.now : Int)

/-- inside nsync_counter_wait -/
def inWait (p : PC) : Prop := 0 < wrank p

variable {s0 : State}

theorem Exec.next_none (x : Exec s0) {i : Nat} (h : x.σ i = none) : x.ρ (i + 1) = x.ρ i := by
  have := x.next i; rw [h] at this; exact this

theorem Exec.next_some (x : Exec s0) {i : Nat} {e : Event} (h : x.σ i = some e) :
    step (x.ρ i) e = .ok (x.ρ (i + 1)) := by
  have := x.next i; rw [h] at this; exact this

theorem Exec.reach (x : Exec s0) (hr : Reachable s0) (i : Nat) : Reachable (x.ρ i) :=
  NsyncVerif.Sched.along x.next_none x.next_some (fun _ _ _ h => reachable_step h) (i := 0)
    (x.start.symm ▸ hr) i (Nat.zero_le _)

/-- One step of an execution, classified. -/
theorem Exec.step_cases (x : Exec s0) (hr : Reachable s0) (j : Nat) :
    x.ρ (j + 1) = x.ρ j
    ∨ ((x.ρ (j + 1)).pc = (x.ρ j).pc ∧ (x.ρ j).sh.now ≤ (x.ρ (j + 1)).sh.now
        ∧ (x.ρ (j + 1)).sh = { (x.ρ j).sh with now := (x.ρ (j + 1)).sh.now })
    ∨ ∃ t e, x.σ j = some (.thr t e)
        ∧ Prog (x.ρ j).sh ((x.ρ j).pc t) e (x.ρ (j + 1)).sh ((x.ρ (j + 1)).pc t)
        ∧ StepFacts (x.ρ j) t e (x.ρ (j + 1)) := by
  cases h : x.σ j with
  | none => exact Or.inl (x.next_none h)
  | some ev =>
    have hs := x.next_some h
    cases ev with
    | tick ns =>
      obtain ⟨hle, hs'⟩ := step_tick hs
      rw [hs']; exact .inr (.inl ⟨rfl, hle, rfl⟩)
    | thr t e =>
      right; right
      exact ⟨t, e, rfl, prog_stepThr hs, facts_stepThr (inv_of_reachable (x.reach hr j)) hs⟩

end Counter
