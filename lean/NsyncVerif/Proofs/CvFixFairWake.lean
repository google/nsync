/-
  Layer `CvFix`, liveness: every nsync_cv_signal / nsync_cv_broadcast call returns
  (`waker_returns`).  Phase A: the first load and the test-and-set loop (left by `spin_exits`);
  phase B: the critical section, wake_waiters, the return — by the rank `rkB`, which the steps inside
  the release loop of the mutex's spinlock (cv.c:130-134, left by `MuRelFair`) do not raise.
  Then: every record a waker has unlinked is woken or transferred (`listed_woken`): it leaves the
  waker's private list only by the transfer to the mutex queue or by `waiting := 0`, which is
  followed by the V of the waker.
-/
import NsyncVerif.Proofs.CvFixFairLock

namespace NsyncVerif.CvFix

/-- Phase B of a waker: from the acquisition of the spinlock (or the load that found the cv empty)
    to the return. -/
def Loc.wakeB : Loc → Bool
  | .sRcLd | .sRcCas | .sRel | .wwMuLd | .wwMuCas | .wwRelLd | .wwRelCas | .wwRelLd2 | .wwStore
  | .wwV | .kRet => true
  | _ => false

def rkB (s : State) (t : Tid) : Nat :=
  match (s.thr t).loc with
  | .sRcLd | .sRcCas | .sRel => 10 * (s.thr t).list.length + 8 + rkS s t
  | .wwMuLd => 10 * (s.thr t).list.length + 7
  | .wwMuCas => 10 * (s.thr t).list.length + 6
  | .wwRelLd | .wwRelCas | .wwRelLd2 => 10 * (s.thr t).list.length + 5
  | .wwStore => 10 * (s.thr t).list.length + 3
  | .wwV => 10 * (s.thr t).list.length + 9
  | .kRet => 1
  | _ => 0

/-- What phase B asks of a step of the waker. -/
def StepB (s s' : State) (t : Tid) : Prop :=
  (s'.thr t).loc.wakeB = true ∧
    (if (s.thr t).loc.muRel = true then rkB s' t ≤ rkB s t else rkB s' t < rkB s t)

theorem wakeB_ltr {s : State} {t : Tid} {e : Event} {x' : Thr} (h : LTr s t e x')
    (hh : (s.thr t).loc.wakeB = true)
    (hnf : ∀ site r exp new obs, e = .recCas t site r exp new obs false → casBad s t = true) :
    (e = .retSignal t ∨ e = .retBroadcast t) ∨ StepB s (s.setThr t x') t := by
  cases h with
  | retWait res hl hr => rcases hl with hl | hl <;> simp [hl, Loc.wakeB] at hh
  | spinLd site obs hl ho => rcases hl with ⟨_, hl⟩ | ⟨_, hl⟩ <;> simp [hl, Loc.wakeB] at hh
  | wwRelLd site obs hl =>
    rcases hl with ⟨_, hl⟩ | ⟨_, hl⟩ <;> simp [hl, Loc.wakeB, StepB, Loc.muRel, rkB]
  | noteSeen hl => rcases hl with hl | hl | hl <;> simp [hl, Loc.wakeB] at hh
  | wChk y r obs hy hl hr ho hso => cases hy <;> simp_all [Loc.wakeB]
  | wTail y r obs hy hl hr ho => cases hy <;> simp_all [Loc.wakeB]
  | retSignal hl hb => exact .inl (.inl rfl)
  | retBroadcast hl hb => exact .inl (.inr rfl)
  | sRcCasFail site r exp new obs hl hr =>
    right
    have := hnf _ _ _ _ _ rfl
    simp [casBad, hl, hr] at this
    simp [hl, Loc.wakeB, StepB, Loc.muRel, rkB, rkS, rkH, casBad, this, hr]
  | rcLd site r obs hl hs hr ho =>
    right; simp [hl, Loc.wakeB, StepB, Loc.muRel, rkB, rkS, rkH, casBad, ho, hr]
  | wwLd obs f rest hl hlist =>
    right
    by_cases hc : wantTransfer (s.recs f).lt obs (s.thr t).list.length (s.thr t).allReaders = true <;>
      simp [hl, hc, Loc.wakeB, StepB, Loc.muRel, rkB]
  | wwRelCasOk exp new obs hl =>
    right
    by_cases hz : (s.thr t).list.isEmpty = true <;>
      simp [hl, hz, Loc.wakeB, StepB, Loc.muRel, rkB]
  | _ => simp_all [Loc.wakeB, StepB, Loc.muRel, rkB]

theorem wakeB_not_open {l : Loc} (h : l.wakeB = true) : l.isOpen = false := by
  cases l <;> simp_all [Loc.wakeB, Loc.isOpen]

/-- Every step of a waker in phase B is its return, or stays in phase B and decreases the rank
    (does not increase it inside the release loop of the mutex's spinlock). -/
theorem wakeB_own {cfg : Config} {s s' : State} {e : Event} {t : Tid}
    (hs : step cfg s e = .ok s') (ht : e.tid = some t) (hne : e ≠ .noteSeen t)
    (hB : (s.thr t).loc.wakeB = true) :
    (e = .retSignal t ∨ e = .retBroadcast t) ∨ StepB s s' t := by
  have hop := wakeB_not_open hB
  have htr := step_tr hs
  have hsrc := src_class (tr_src htr ht hne hop) hB
  cases htr with
  | same e h hna hopen => exact (hopen t ht).elim (fun a => by rw [hop] at a; cases a) (absurd · hne)
  | semOther e sem' h hopen => have := hopen t ht; rw [hop] at this; cases this
  | loc h =>
    cases (ltr_tid h).symm.trans ht
    exact wakeB_ltr h hB fun _ _ _ _ _ he => recCas_fail_bad (he ▸ hs)
  | sRcCasOk t0 site r exp new obs h hr hn ho he =>
    cases ht
    right
    cases htd : (s.thr t).todo with
    | nil => rw [htd] at hr; cases hr
    | cons a l =>
      by_cases hz : l.isEmpty = true <;>
        simp [StepB, Loc.wakeB, Loc.muRel, rkB, rkS, rkH, casBad, h, htd, hz] <;> omega
  | relSig t0 site new obs n h hsite hh hnew hn hsp =>
    cases ht
    right
    cases hlist : (s.thr t).list with
    | nil => simp [StepB, Loc.wakeB, Loc.muRel, rkB, h, hlist, wakeEntry]; omega
    | cons f rest =>
      by_cases hc : (f.isMucv && (s.recs f).lt != LType.gen) = true <;>
        simp [StepB, Loc.wakeB, Loc.muRel, rkB, rkS, rkH, casBad, h, hlist, wakeEntry, hc]
  | wwCasOk t0 exp new obs f rest h hlist =>
    cases ht
    right
    simp [StepB, Loc.wakeB, Loc.muRel, rkB, h]
    have := List.length_filter_le (fun r => !decide (r ∈ transferSet s.recs (firstCantAcquire (s.recs f).lt exp) (s.thr t).list)) (s.thr t).list
    omega
  | wake t0 r obs h hr =>
    cases ht
    right
    cases hlist : (s.thr t).list with
    | nil => rw [hlist] at hr; cases hr
    | cons f rest => simp [StepB, Loc.wakeB, Loc.muRel, rkB, h, hlist]; omega
  | semVWake t0 k r q h hc =>
    cases ht
    right
    by_cases hz : (s.thr t).list.isEmpty = true <;>
      simp [StepB, Loc.wakeB, Loc.muRel, rkB, h, hz] <;> omega
  -- every other rule starts at a program point outside phase B
  | _ => cases hsrc

/-- Phase A of a waker (the first load of the cv word, then the test-and-set loop): a step of the
    thread stays in the loop, or gets to phase B — by the acquisition, or because the first load
    found the cv empty. -/
theorem wakeA_own {cfg : Config} {s s' : State} {e : Event} {t : Tid}
    (hs : step cfg s e = .ok s') (ht : e.tid = some t) (hne : e ≠ .noteSeen t)
    (hA : (s.thr t).loc = .sLd ∨ ((s.thr t).loc.spinLoop = true ∧ (s.thr t).cont = .sig)) :
    ((s'.thr t).loc.spinLoop = true ∧ (s'.thr t).cont = .sig) ∨ (s'.thr t).loc.wakeB = true := by
  have hop : (s.thr t).loc.isOpen = false := by
    rcases hA with h | ⟨h, _⟩
    · rw [h]; rfl
    · exact spinLoop_not_open h
  have hC : ((s.thr t).loc == .sLd || (s.thr t).loc.spinLoop) = true := by
    rcases hA with h | ⟨h, _⟩
    · rw [h]; rfl
    · rw [h]; exact Bool.or_true _
  have htr := step_tr hs
  have hsrc := src_class (C := fun l => l == .sLd || l.spinLoop) (tr_src htr ht hne hop) hC
  cases htr with
  | same e h hna hopen => exact (hopen t ht).elim (fun a => by rw [hop] at a; cases a) (absurd · hne)
  | semOther e sem' h hopen => have := hopen t ht; rw [hop] at this; cases this
  | loc h =>
    cases (ltr_tid h).symm.trans ht
    simp only [setThr_thr, if_true]
    cases h with
    | sigLd site obs hl' hs' ho => split <;> simp [Loc.spinLoop, Loc.wakeB]
    | spinLd site obs hl' ho =>
      have hc : (s.thr t).cont = .sig := by
        rcases hA with h | ⟨_, h⟩
        · rcases hl' with ⟨_, hl'⟩ | ⟨_, hl'⟩ <;> rw [h] at hl' <;> cases hl'
        · exact h
      left; split <;> simp [Loc.spinLoop, hc]
    | casFail exp new obs hl' ho hne' =>
      exact .inl ⟨rfl, hA.elim (fun h => by rw [h] at hl'; cases hl') (·.2)⟩
    | noteSeen => exact absurd rfl hne
    | spinLdN obs hl' => rw [hl'] at hop; cases hop
    | wwRelLd site obs hl' => rcases hl' with ⟨rfl, _⟩ | ⟨rfl, _⟩ <;> cases hsrc
    | rcLd site r obs hl' hs' | sRcCasFail site r exp new obs hl' hr hs' => rcases hs' with ⟨rfl, _⟩ | ⟨rfl, _⟩ <;> cases hsrc
    | _ => cases hsrc
  | acq t0 exp new obs o n hl =>
    cases ht
    have hc : (s.thr t).cont = .sig := hA.elim (fun h => by rw [h] at hl; cases hl) (·.2)
    right
    unfold afterAcquire
    simp only [hc]
    simp only [updT_apply, if_true]
    split <;> (try split) <;> simp [Loc.wakeB]
  | relSig t0 site new obs n hl hsite => rcases hsite with ⟨rfl, _⟩ | ⟨rfl, _⟩ <;> cases hsrc
  | sRcCasOk t0 site r exp new obs hl hr hn ho he hs' => rcases hs' with ⟨rfl, _⟩ | ⟨rfl, _⟩ <;> cases hsrc
  -- every other rule starts at a program point outside phase A
  | _ => cases hsrc

variable {cfg : Config} {s0 : State}

theorem wakeB_ready {s : State} {t : Tid} (h : (s.thr t).loc.wakeB = true) : Ready s t :=
  ready_iff.mpr ⟨wakeB_not_open h, fun h' => by rw [h'] at h; cases h⟩

theorem wakeB_stay (x : Exec cfg s0) (hr : Reachable cfg s0) {t : Tid} {j : Nat}
    (hB : ((x.ρ j).thr t).loc.wakeB = true) (hn : ¬ Moves x t j) :
    (x.ρ (j + 1)).thr t = (x.ρ j).thr t ∧ rkB (x.ρ (j + 1)) t = rkB (x.ρ j) t := by
  have hthr := frozen x hn (wakeB_ready hB)
  refine ⟨hthr, ?_⟩
  cases hh : ((x.ρ j).thr t).loc.holds with
  | true =>
    have hhold := ((x.inv hr j).a.hold t).mpr hh
    obtain ⟨_, b⟩ := hold_stay x hr hhold hn
    simp only [rkB, hthr, b]
  | false =>
    unfold rkB
    rw [hthr]
    split <;> simp_all [Loc.holds]

/-- Phase B ends with the return.  The moves that count are those outside the release loop of
    the mutex's spinlock (inside it the rank does not rise; the waker leaves it by `MuRelFair`). -/
theorem wakerB_returns (x : Exec cfg s0) (hy : Hyps x) {t : Tid} {i : Nat}
    (hB : ((x.ρ i).thr t).loc.wakeB = true) :
    ∃ j, i ≤ j ∧ (x.σ j = some (.retSignal t) ∨ x.σ j = some (.retBroadcast t)) := by
  let R : Nat → Prop := fun j => i ≤ j ∧ ((x.ρ j).thr t).loc.wakeB = true
  let G : Nat → Prop := fun j =>
    ∃ j', i ≤ j' ∧ j' < j ∧ (x.σ j' = some (.retSignal t) ∨ x.σ j' = some (.retBroadcast t))
  let L : Nat → Prop := fun j => ((x.ρ j).thr t).loc.muRel = true
  -- one time step in phase B
  have one : ∀ j, R j → G (j + 1) ∨ (R (j + 1) ∧ rkB (x.ρ (j + 1)) t ≤ rkB (x.ρ j) t ∧
      (Moves x t j → ¬ L j → rkB (x.ρ (j + 1)) t < rkB (x.ρ j) t)) := by
    intro j ⟨hij, hR⟩
    by_cases hm : Moves x t j
    · obtain ⟨e, he, ht, hne⟩ := hm
      rcases wakeB_own (x.next_some he) ht hne hR with h | ⟨h1, h2⟩
      · exact .inl ⟨j, hij, by omega, by rcases h with h | h <;> rw [he, h] <;> simp⟩
      · refine .inr ⟨⟨by omega, h1⟩, ?_⟩
        by_cases hL : L j
        · rw [if_pos hL] at h2; exact ⟨h2, fun _ h => absurd hL h⟩
        · rw [if_neg hL] at h2; exact ⟨Nat.le_of_lt h2, fun _ _ => h2⟩
    · obtain ⟨a, b⟩ := wakeB_stay x hy.reach hR hm
      exact .inr ⟨⟨by omega, by rw [a]; exact hR⟩, Nat.le_of_eq b, fun h => absurd h hm⟩
  obtain ⟨j, _, j', h1, _, h3⟩ := Sched.leads_or (M := fun j => Moves x t j ∧ ¬ L j) R G
    (fun j => rkB (x.ρ j) t)
    (fun j hR _ => (one j hR).imp id fun ⟨a, b, _⟩ => ⟨a, b⟩)
    (fun j hR hm => (one j hR).imp id fun ⟨a, _, c⟩ => ⟨a, c hm.1 hm.2⟩)
    (fun j hR => by
      -- the waker leaves the release loop, still in phase B, and then takes its next step
      have out : ∃ j1, j ≤ j1 ∧ (G j1 ∨ (R j1 ∧ ¬ L j1)) := by
        apply Classical.byContradiction
        intro hn
        refine hy.muRel t j fun j1 hj1 => ?_
        obtain ⟨d, rfl⟩ := Nat.exists_eq_add_of_le hj1
        rcases inv_until (R := R) (G := G) (fun j hR => (one j hR).imp id (·.1)) hR d with
          ⟨j2, h2, hg⟩ | hR'
        · exact absurd ⟨j2, h2, .inl hg⟩ hn
        · exact Classical.byContradiction fun hL => hn ⟨j + d, by omega, .inr ⟨hR', hL⟩⟩
      obtain ⟨j1, h1, hg | ⟨hR1, hL1⟩⟩ := out
      · exact ⟨j1, h1, .inr hg⟩
      · obtain ⟨j', h2, h3, h4⟩ := next_move x hy.weak (wakeB_ready hR1.2)
        exact ⟨j', by omega, .inl ⟨h3, by
          show ¬ ((x.ρ j').thr t).loc.muRel = true; rw [h4]; exact hL1⟩⟩)
    i ⟨Nat.le_refl _, hB⟩
  exact ⟨j', h1, h3⟩

theorem inWake_cases {x : Thr} (h : inWake x = true) :
    x.loc.wakeB = true ∨ x.loc = .sLd ∨ (x.loc.spinLoop = true ∧ x.cont = .sig) := by
  unfold inWake at h
  cases hl : x.loc <;> simp_all [Loc.wakeB, Loc.spinLoop]

/-- A waker in the test-and-set loop gets the spinlock: it reaches phase B. -/
theorem spin_sig_acquires (x : Exec cfg s0) (hy : Hyps x) {t : Tid} {i : Nat}
    (hl : ((x.ρ i).thr t).loc.spinLoop = true) (hc : ((x.ρ i).thr t).cont = .sig) :
    ∃ j, i ≤ j ∧ ((x.ρ j).thr t).loc.wakeB = true := by
  refine spin_leads x hy (t := t) (P := fun y => y.cont = .sig) (fun j h1 h2 => ?_) hl hc
  by_cases hm : Moves x t j
  · obtain ⟨e, he, ht, hne⟩ := hm
    exact wakeA_own (x.next_some he) ht hne (.inr ⟨h1, h2⟩)
  · rw [frozen x hm (spin_ready h1)]; exact .inl ⟨h1, h2⟩

/-- (1) Every nsync_cv_signal / nsync_cv_broadcast call returns. -/
theorem waker_returns (x : Exec cfg s0) (hy : Hyps x) {t : Tid} {i : Nat}
    (hw : inWake ((x.ρ i).thr t) = true) :
    ∃ j, i ≤ j ∧ (x.σ j = some (.retSignal t) ∨ x.σ j = some (.retBroadcast t)) := by
  rcases inWake_cases hw with h | h | ⟨h1, h2⟩
  · exact wakerB_returns x hy h
  · have hrd : Ready (x.ρ i) t := by
      refine ⟨?_, ?_, ?_⟩ <;> simp [h, Loc.foreign, Loc.asleep]
    obtain ⟨j, hj, ⟨e, he, ht, hne⟩, hthr⟩ := next_move x hy.weak hrd
    rcases wakeA_own (x.next_some he) ht hne (.inl (by rw [hthr]; exact h)) with ⟨h1, h2⟩ | h'
    · obtain ⟨j1, h3, h4⟩ := spin_sig_acquires x hy (t := t) (i := j + 1) h1 h2
      obtain ⟨j', h5, h6⟩ := wakerB_returns x hy h4
      exact ⟨j', by omega, h6⟩
    · obtain ⟨j', h3, h4⟩ := wakerB_returns x hy (t := t) (i := j + 1) h'
      exact ⟨j', by omega, h4⟩
  · obtain ⟨j1, h3, h4⟩ := spin_sig_acquires x hy h1 h2
    obtain ⟨j', h5, h6⟩ := wakerB_returns x hy h4
    exact ⟨j', by omega, h6⟩

/-- Only a waker between the acquisition and its return has a private list. -/
theorem list_wakePhase {s : State} {t : Tid} {r : Rid} (hi : Inv s) (hm : r ∈ (s.thr t).list) :
    (s.thr t).loc.wakePhase = true := by
  cases h : (s.thr t).loc.wakePhase
  · rw [(hi.a.thr t).list0 h] at hm; cases hm
  · rfl

/-- How a record leaves the private list of waker `t`. -/
theorem list_own {cfg : Config} {s s' : State} {e : Event} {t : Tid} {r : Rid}
    (hs : step cfg s e = .ok s') (ht : e.tid = some t) (hi : Inv s)
    (hm : r ∈ (s.thr t).list) (hn : r ∉ (s'.thr t).list) :
    (s'.recs r).stat = .xfer ∨ ((s'.thr t).loc = .wwV ∧ ∃ q, (s'.thr t).cur = some (r, q)) := by
  have hwp := list_wakePhase hi hm
  have htr := step_tr hs
  cases htr with
  | same e h hna => exact absurd hm hn
  | tick ns h => exact absurd hm hn
  | semOther e sem' h hopen => exact absurd hm hn
  | loc h =>
    rename_i t0 x'
    have := ltr_tid h
    rw [ht] at this; cases this
    exfalso
    simp only [setThr_thr, if_true] at hn
    cases h with
    | spinLd site obs hl ho => rcases hl with ⟨_, hl⟩ | ⟨_, hl⟩ <;> simp [hl, Loc.wakePhase] at hwp
    | wwRelLd site obs hl => exact hn hm
    | retWait res hl hr => rcases hl with hl | hl <;> simp [hl, Loc.wakePhase] at hwp
    | noteSeen hl => rcases hl with hl | hl | hl <;> simp [hl, Loc.wakePhase] at hwp
    | wChk y r obs hy hl hr ho hso => cases hy <;> simp_all [Loc.wakePhase]
    | wTail y r obs hy hl hr ho => cases hy <;> simp_all
    | _ => simp_all [Loc.wakePhase]
  | acq t0 exp new obs o n hl hexp hw he ho hn' hnew =>
    simp only [Event.tid, Option.some.injEq] at ht; subst ht
    simp [hl, Loc.wakePhase] at hwp
  | wwCasOk t0 exp new obs f rest hl hlist =>
    simp only [Event.tid, Option.some.injEq] at ht; subst ht
    left
    simp only [updT_apply, if_true, List.mem_filter, not_and, Bool.not_eq_true', Bool.not_eq_false] at hn
    have := hn hm
    simp only [this, if_true]
  | wake t0 r0 obs hl hr =>
    simp only [Event.tid, Option.some.injEq] at ht; subst ht
    right
    simp only [setThr_thr, if_true] at hn ⊢
    refine ⟨trivial, ?_⟩
    cases hlist : (s.thr t0).list with
    | nil => rw [hlist] at hm; cases hm
    | cons a l =>
      rw [hlist] at hr hm hn
      simp only [List.head?_cons, Option.some.injEq] at hr
      simp only [List.tail_cons] at hn
      subst hr
      rcases List.mem_cons.mp hm with h | h
      · subst h; exact ⟨_, rfl⟩
      · exact absurd h hn
  | wInit t0 r0 h hm' hst => exact absurd hm hn
  | nwInit t0 r0 h hm' hst => exact absurd hm hn
  | fStW t0 r0 new h hf => exact absurd hm hn
  | fCasOk t0 r0 exp new obs h hf hn' ho he => exact absurd hm hn
  | _ =>
    simp only [Event.tid, Option.some.injEq] at ht
    replace ht := ht.symm
    subst ht
    simp_all [Loc.wakePhase]

/-- Between `waiting := 0` and the V the only step of the waker is the V. -/
theorem wwV_own {cfg : Config} {s s' : State} {e : Event} {t : Tid}
    (hs : step cfg s e = .ok s') (ht : e.tid = some t) (hne : e ≠ .noteSeen t)
    (hl : (s.thr t).loc = .wwV) : ∃ k, e = .semV t k := by
  have hop : (s.thr t).loc.isOpen = false := by rw [hl]; rfl
  have htr := step_tr hs
  have hsrc := src_class (C := (· == .wwV)) (tr_src htr ht hne hop) (by rw [hl]; rfl)
  cases htr with
  | same e h hna hopen => exact (hopen t ht).elim (fun a => by rw [hop] at a; cases a) (absurd · hne)
  | semOther e sem' h hopen => have := hopen t ht; rw [hop] at this; cases this
  | loc h =>
    cases h with
    | spinLd site obs hl' | wwRelLd site obs hl' => rcases hl' with ⟨rfl, _⟩ | ⟨rfl, _⟩ <;> cases hsrc
    | sigLd site obs hl' hs' | rcLd site r obs hl' hs' | sRcCasFail site r exp new obs hl' hr hs' =>
      rcases hs' with ⟨rfl, _⟩ | ⟨rfl, _⟩ <;> cases hsrc
    | _ => cases hsrc
  | semVWake t0 k r q h hc => cases ht; exact ⟨k, rfl⟩
  | relSig t0 site new obs n h hsite => rcases hsite with ⟨rfl, _⟩ | ⟨rfl, _⟩ <;> cases hsrc
  | sRcCasOk t0 site r exp new obs h hr hn ho he hs' => rcases hs' with ⟨rfl, _⟩ | ⟨rfl, _⟩ <;> cases hsrc
  | _ => cases hsrc

theorem wakePhase_inWake {x : Thr} (h : x.loc.wakePhase = true) : inWake x = true := by
  unfold inWake; cases hl : x.loc <;> simp_all [Loc.wakePhase]

/-- A step that changes the private list of `t` is a step of `t`. -/
theorem list_change (x : Exec cfg s0) {t : Tid} {j : Nat}
    (h : ((x.ρ (j + 1)).thr t).list ≠ ((x.ρ j).thr t).list) :
    ∃ e, x.σ j = some e ∧ e.tid = some t := by
  cases hs : x.σ j with
  | none => rw [x.next_none hs] at h; exact absurd rfl h
  | some e =>
    by_cases ht : e.tid = some t
    · exact ⟨e, rfl, ht⟩
    · rw [tr_other (step_tr (x.next_some hs)) ht] at h; exact absurd rfl h

/-- Every record on the private list of a waker is transferred to the mutex queue, or gets
    `waiting := 0` and then the V of that waker. -/
theorem listed_woken (x : Exec cfg s0) (hy : Hyps x) {t : Tid} {i : Nat} {r : Rid}
    (hm : r ∈ ((x.ρ i).thr t).list) :
    ∃ j, i ≤ j ∧ (((x.ρ j).recs r).stat = .xfer ∨
      ∃ q k, ((x.ρ j).thr t).cur = some (r, q) ∧ x.σ j = some (.semV t k)) := by
  have hi := x.inv hy.reach
  obtain ⟨jr, hjr, hret⟩ := waker_returns x hy (wakePhase_inWake (list_wakePhase (hi i) hm))
  have hnr : ¬ (r ∈ ((x.ρ jr).thr t).list) := by
    have hk : ((x.ρ jr).thr t).loc = .kRet := by
      rcases hret with h | h
      · exact (retSignal_accepted (x.next_some h)).1
      · exact (retBroadcast_accepted (x.next_some h)).1
    rw [((hi jr).a.thr t).list0 (by simp [hk, Loc.wakePhase])]; simp
  obtain ⟨j, h1, h2, h3⟩ := first_not (P := fun j => r ∈ ((x.ρ j).thr t).list) ⟨jr, hjr, hnr⟩
  have hji : i < j := by
    rcases Nat.lt_or_ge i j with h | h
    · exact h
    · have : j = i := by omega
      subst this; exact absurd hm h2
  obtain ⟨j0, rfl⟩ : ∃ j0, j = j0 + 1 := ⟨j - 1, by omega⟩
  have hm0 := h3 j0 (by omega) (by omega)
  obtain ⟨e, he, ht⟩ := list_change x (t := t) (j := j0) (by
    intro heq; rw [heq] at h2; exact h2 hm0)
  rcases list_own (x.next_some he) ht (hi j0) hm0 h2 with hx | ⟨hl, q, hc⟩
  · exact ⟨j0 + 1, by omega, .inl hx⟩
  · obtain ⟨j', hj', ⟨e', he', ht', hne'⟩, hthr⟩ :=
      next_move x hy.weak (wakeB_ready (by rw [hl]; rfl))
    obtain ⟨k, hk⟩ := wwV_own (x.next_some he') ht' hne' (by rw [hthr]; exact hl)
    exact ⟨j', by omega, .inr ⟨q, k, by rw [hthr]; exact hc, by rw [he', hk]⟩⟩

/-- … in the words of `EventuallyWoken`, from any earlier time. -/
theorem listed_eventually (x : Exec cfg s0) (hy : Hyps x) {t : Tid} {i i0 : Nat} {r : Rid} (hi : i0 ≤ i)
    (hm : r ∈ ((x.ρ i).thr t).list) : EventuallyWoken x r i0 := by
  obtain ⟨j, hj, h⟩ := listed_woken x hy hm
  exact ⟨j, by omega, h.imp id fun ⟨q, k, h⟩ => ⟨t, q, k, h⟩⟩

end NsyncVerif.CvFix
