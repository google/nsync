/-
  Futex layer (C12), fair termination: concrete executions.

  A finite accepted trace followed by idling for ever (`traceExec`) with criteria for its fairness
  hypotheses (`traceExec_weakFair`, …: checks on the final state), and a lasso (`lassoExec`: a
  trace, then a loop that takes the state back to itself, for ever).
-/
import NsyncVerif.Proofs.FutexFairMain
import NsyncVerif.Proofs.Lasso

namespace NsyncVerif.Futex


/-- The state after `evs` from `s` (`s` itself if the events are not accepted). -/
def stateFrom (s : State) (evs : List Event) : State :=
  match run s evs with
  | .ok s' => s'
  | .error _ => s

theorem stateFrom_eq (s : State) (evs : List Event) : stateFrom s evs = Lasso.after run s evs := by
  unfold stateFrom Lasso.after; cases run s evs <;> rfl

theorem stateFrom_ok {s sf : State} {evs : List Event} (h : run s evs = .ok sf) (i : Nat) :
    run s (evs.take i) = .ok (stateFrom s (evs.take i)) := by
  rw [stateFrom_eq]; exact Lasso.after_take isRun h i

theorem stateFrom_all {s sf : State} {evs : List Event} (h : run s evs = .ok sf) {i : Nat}
    (hi : evs.length ≤ i) : stateFrom s (evs.take i) = sf := by
  simp only [stateFrom, List.take_of_length_le hi, h]

theorem stateFrom_step {s sf : State} {evs : List Event} (h : run s evs = .ok sf) {i : Nat}
    (hi : i < evs.length) :
    step (stateFrom s (evs.take i)) evs[i] = .ok (stateFrom s (evs.take (i + 1))) := by
  simp only [stateFrom_eq]; exact Lasso.after_step isRun h hi

def acceptsFrom (s : State) (evs : List Event) : Bool :=
  match run s evs with
  | .ok _ => true
  | .error _ => false

theorem run_of_accepts {s : State} {evs : List Event} (h : acceptsFrom s evs = true) :
    run s evs = .ok (stateFrom s evs) := by
  unfold acceptsFrom at h
  unfold stateFrom
  split at h
  · next s' hs => rw [hs]
  · cases h

/-- A finite accepted trace from `s0`, then nothing for ever. -/
def traceExec (s0 : State) (evs : List Event) (sf : State) (h : run s0 evs = .ok sf) : Exec s0 :=
  { ρ := fun i => stateFrom s0 (evs.take i)
    σ := fun i => evs[i]?
    start := by simp [stateFrom, run]
    next := by
      intro i
      cases he : evs[i]? with
      | none => simp only [stateFrom_eq]; exact Lasso.after_none h he
      | some e => simp only [stateFrom_eq]; exact Lasso.after_some isRun h he }

theorem traceExec_at {s0 : State} {evs : List Event} {sf : State} (h : run s0 evs = .ok sf) (j : Nat) :
    (traceExec s0 evs sf h).ρ j = stateFrom s0 (evs.take j) ∧ (traceExec s0 evs sf h).σ j = evs[j]? :=
  ⟨rfl, rfl⟩

theorem traceExec_tail {s0 : State} {evs : List Event} {sf : State} (h : run s0 evs = .ok sf) {j : Nat}
    (hj : evs.length ≤ j) : (traceExec s0 evs sf h).ρ j = sf ∧ (traceExec s0 evs sf h).σ j = none :=
  ⟨stateFrom_all h hj, by show evs[j]? = none; simpa using hj⟩

/-- Threads that do not occur in a trace are where they were. -/
theorem run_untouched {t : Tid} (evs : List Event) (s s' : State)
    (hne : ∀ e ∈ evs, e.tid ≠ some t) (h : run s evs = .ok s') : s'.pc t = s.pc t :=
  isRun.induct_mem (Q := fun s1 => s1.pc t = s.pc t) rfl
    (fun _ e _ he _ h1 hs => (step_pc_other hs (hne e he)).trans h1) h

/-- All events of the trace are by threads `< b` (or ticks). -/
def tidsBelow (b : Nat) (evs : List Event) : Bool :=
  evs.all (fun e => match e.tid with | some t => decide (t < b) | none => true)

theorem untouched_of_tidsBelow {b : Nat} {evs : List Event} {s s' : State} (hb : tidsBelow b evs = true)
    (h : run s evs = .ok s') {t : Nat} (ht : b ≤ t) : s'.pc t = s.pc t := by
  refine run_untouched evs s s' (fun e he htid => ?_) h
  simp only [tidsBelow, List.all_eq_true] at hb
  have := hb e he
  rw [htid] at this
  have h2 : t < b := by simpa using this
  omega

variable {s0 : State}

theorem finiteSpurious_of_tail (x : Exec s0) (N : Nat)
    (hN : ∀ j t r, N ≤ j → x.σ j ≠ some (.fwaitRet t r)) : FiniteSpurious x :=
  ⟨N, fun j t r hj he _ => absurd he (hN j t r hj)⟩

theorem Exec.posts_mono (x : Exec s0) {i j : Nat} (hij : i ≤ j) : (x.ρ i).posts ≤ (x.ρ j).posts :=
  x.mono State.posts (fun hs => (step_counters hs).1) hij

theorem all_range {n : Nat} {p : Nat → Bool} (h : (List.range n).all p = true) {r : Nat} (hr : r < n) :
    p r = true := by
  simp only [List.all_eq_true, List.mem_range] at h
  exact h r hr

/-- A per-thread check that idle threads pass holds of every thread in the final state of an
    accepted trace from `init` once it holds of the threads the trace mentions. -/
theorem final_all {evs : List Event} {b : Nat} {P : State → Nat → Bool} (hb : tidsBelow b evs = true)
    (hacc : acceptsFrom init evs = true) (hidle : ∀ s t, s.pc t = .idle → P s t = true)
    (h : (List.range b).all (P (stateFrom init evs)) = true) (t : Nat) :
    P (stateFrom init evs) t = true := by
  by_cases ht : t < b
  · exact all_range h ht
  · exact hidle _ _ (by rw [untouched_of_tidsBelow hb (run_of_accepts hacc) (by omega)]; rfl)

/-! A finite accepted trace from `init`, then nothing: the fairness hypotheses are facts about the
    final state, checked on the threads the trace mentions. -/
section
variable {evs : List Event} (hacc : acceptsFrom init evs = true) {b : Nat}

theorem traceExec_weakFair (hb : tidsBelow b evs = true) (h : (List.range b).all (fun t =>
      decide ((stateFrom init evs).pc t = .idle) || inKernel (stateFrom init evs) t) = true) :
    WeakFair (traceExec init evs _ (run_of_accepts hacc)) := by
  intro t i hi
  have h1 := hi (i + evs.length) (by omega)
  rw [(traceExec_tail (run_of_accepts hacc) (by omega)).1] at h1
  have := final_all (P := fun s t => decide (s.pc t = .idle) || inKernel s t) hb hacc
    (fun s t h => by simp [h]) h t
  simp [h1.1, h1.2] at this

theorem traceExec_kernelFair (hb : tidsBelow b evs = true)
    (h : (List.range b).all (fun t => !kernelDue (stateFrom init evs) t) = true) :
    KernelFair (traceExec init evs _ (run_of_accepts hacc)) := by
  intro t i hi
  have h1 := hi (i + evs.length) (by omega)
  rw [(traceExec_tail (run_of_accepts hacc) (by omega)).1] at h1
  have := final_all (P := fun s t => !kernelDue s t) hb hacc
    (fun s t h => by unfold kernelDue; rw [h]; rfl) h t
  simp [h1] at this

/-- A thread that is inside a call in the final state never returns. -/
theorem traceExec_never {t : Tid} (h : (stateFrom init evs).pc t ≠ .idle) (j : Nat)
    (hj : evs.length ≤ j) : ((traceExec init evs _ (run_of_accepts hacc)).ρ j).pc t ≠ .idle := by
  rw [(traceExec_tail (run_of_accepts hacc) hj).1]; exact h

theorem traceExec_finiteSpurious : FiniteSpurious (traceExec init evs _ (run_of_accepts hacc)) :=
  finiteSpurious_of_tail _ evs.length fun j t r hj => by
    rw [(traceExec_tail (run_of_accepts hacc) hj).2]; simp

theorem traceExec_boundedPosts : BoundedPosts (traceExec init evs _ (run_of_accepts hacc)) :=
  ⟨(stateFrom init evs).posts, fun j => by
    have := (traceExec init evs _ (run_of_accepts hacc)).posts_mono (show j ≤ j + evs.length by omega)
    rwa [(traceExec_tail (run_of_accepts hacc) (j := j + evs.length) (by omega)).1] at this⟩

end

theorem tidsBelow_take {b : Nat} {evs : List Event} (h : tidsBelow b evs = true) (r : Nat) :
    tidsBelow b (evs.take r) = true := by
  simp only [tidsBelow, List.all_eq_true] at h ⊢
  exact fun e he => h e (List.mem_of_mem_take he)

/-- `evs` from `s0`, then `loop` repeated for ever, where `loop` takes the state `sf` reached by
    `evs` back to `sf`. -/
def lassoExec (s0 : State) (evs loop : List Event) (sf : State)
    (h : run s0 evs = .ok sf) (hl : run sf loop = .ok sf) (hp : 0 < loop.length) : Exec s0 :=
  { ρ := fun i => if i < evs.length then stateFrom s0 (evs.take i)
                  else stateFrom sf (loop.take ((i - evs.length) % loop.length))
    σ := fun i => if i < evs.length then evs[i]? else loop[(i - evs.length) % loop.length]?
    start := by
      have _ := hl
      simp only [stateFrom_eq]; exact Lasso.start isRun h
    next := by
      intro i
      obtain ⟨e, he, hs⟩ := Lasso.next isRun h hl hp i
      have he' : (if i < evs.length then evs[i]? else loop[(i - evs.length) % loop.length]?) = some e := he
      simp only [he', stateFrom_eq]; exact hs }

theorem lassoExec_tail {s0 : State} {evs loop : List Event} {sf : State}
    (h : run s0 evs = .ok sf) (hl : run sf loop = .ok sf) (hp : 0 < loop.length) {j : Nat}
    (hj : evs.length ≤ j) :
    (lassoExec s0 evs loop sf h hl hp).ρ j = stateFrom sf (loop.take ((j - evs.length) % loop.length)) ∧
    (lassoExec s0 evs loop sf h hl hp).σ j = loop[(j - evs.length) % loop.length]? := by
  have : ¬ j < evs.length := by omega
  simp [lassoExec, this]

/-! ### `setPc` algebra for closing a loop -/

@[simp] theorem setPc_setPc (f : Tid → PC) (t : Tid) (v w : PC) : setPc (setPc f t v) t w = setPc f t w := by
  funext u; simp only [setPc]; split <;> rfl

theorem setPc_comm (f : Tid → PC) {t u : Tid} (v w : PC) (h : t ≠ u) :
    setPc (setPc f t v) u w = setPc (setPc f u w) t v := by
  funext z; simp only [setPc]; split <;> split <;> simp_all

theorem setPc_id (f : Tid → PC) (t : Tid) (v : PC) (h : f t = v) : setPc f t v = f := by
  funext u; simp only [setPc]; split
  · next hu => rw [hu, h]
  · rfl

end NsyncVerif.Futex
