/-
  Layer `CvFix`: what one accepted step does to one record.  `RecTr f3 s s' r e a b`: the event `e` takes record `r`
  from `a` to `b`; each constructor carries what the invariant says of the record at the program point the event
  leaves (its status, who owns it, whether it is a pooled waiter) and, where an invariant ties the record to the frame of
  its owner or waker, what the actor's next frame says (`hx`).  `Tr.rcd` (Proofs/CvFixRcd.lean) is the one sweep over `Tr`; whoever asks how a
  record's fields move (status, unlinkers, flag, `remove_count`) does `cases` on `RecTr` over two variables of type
  `Rec`: the lemmas at the end are the invariant groups' questions, each answered for every rule at once.  `f3` is the
  ghost of `InvB'` (`false` for the repaired code).
-/
import NsyncVerif.Proofs.CvFixInvB

namespace NsyncVerif.CvFix

inductive RecTr (f3 : Bool) (s s' : State) (r : Rid) : Event → Rec → Rec → Prop
  | keep (e : Event) (a : Rec) : RecTr f3 s s' r e a a
  -- nsync_cv_wait
  | wSt1 t obs a (h : a.stat = .idle) (hm : r.isMucv = true) :
      RecTr f3 s s' r (.recSt t .wSt1 r 1 obs) a
        { a with waiting := true, owner := t, stat := .prep, pub := false, unl := [], posted := false, lt := .gen }
  | muMode t obs lt a (h : a.stat = .prep) : RecTr f3 s s' r (.muLd t .wMode obs) a { a with lt := lt }
  | enq t exp new obs a (h : a.stat = .prep) (ho : a.owner = t) (hx : waitLive (s'.thr t) = true ∧ (s'.thr t).r = r) :
      RecTr f3 s s' r (.wordCas t exp new obs true) a { a with stat := .queued }
  | pub t site new obs a (h : a.stat = .queued) (hs : site = .waitRel ∨ site = .enqRel) :
      RecTr f3 s s' r (.wordSt t site new obs) a { a with pub := true, enqSeq := s.seq }
  | selfOut t site obs a (h : a.stat = .queued) :
      RecTr f3 s s' r (.recLd t site r obs) a { a with stat := .selfOut, unl := a.unl ++ [Unl.self] }
  | rcInc t site exp new obs a (hl : (s.thr t).loc.holds = true) :
      RecTr f3 s s' r (.recCas t site r exp new obs true) a { a with rc := new }
  | clr t obs a (h : a.stat = .selfOut) (hm : r.isMucv = true) :
      RecTr f3 s s' r (.recSt t .wClr r 0 obs) a { a with waiting := false }
  | exit t a (h : a.owner = t) (hm : r.isMucv = true) (hx : (s'.thr t).loc = .wExit) :
      RecTr f3 s s' r (.recLd t .wHead r 0) a { a with stat := .idle }
  -- nsync_cv_signal, nsync_cv_broadcast
  | unlink t exp new obs a (h : a.stat = .queued) :
      RecTr f3 s s' r (.wordCas t exp new obs true) a
        { a with stat := .listed t, unl := a.unl ++ [Unl.waker t] }
  | wake t obs a (h : a.stat = .listed t) (hx : (s'.thr t).cur = some (r, a.enqSeq) ∧ (s'.thr t).loc = .wwV) :
      RecTr f3 s s' r (.recSt t .wake r 0 obs) a
        { a with waiting := false, stat := match a.stat with | .listed _ => .woken | st => st }
  | xfer t exp new obs a (h : a.stat = .listed t) (hx : (s'.thr t).loc = .wwRelLd) (hm : r.isMucv = true) :
      RecTr f3 s s' r (.muCas t .wwCas exp new obs true) a { a with stat := .xfer }
  | post t k (b : Bool) a : RecTr f3 s s' r (.semV t k) a { a with posted := a.posted || b }
  -- cv_enqueue, cv_dequeue of nsync_wait_n
  | enqSt t obs a (h : a.stat = .idle) (hm : r.isMucv = false) (ho : a.owner = t)
      (hx : r ∈ (s'.thr t).mine ∧ a.epoch = (s'.thr t).epoch) :
      RecTr f3 s s' r (.recSt t .enqSt r 1 obs) a
        { a with waiting := true, stat := .queued, pub := false, unl := [], posted := false }
  | deqSt t obs a (h : a.stat = .selfOut ∨ f3 = true) (hm : r.isMucv = false)
      (hq : a.stat ≠ .queued ∧ a.stat ≠ .prep) :
      RecTr f3 s s' r (.recSt t .deqSt r 0 obs) a { a with waiting := false }
  | deqRel t new obs a (hm : r.isMucv = false) (ho : a.owner = t) (hl : (s.thr t).loc = .nDeqRel)
      (hr : (s.thr t).r = r) (hx : (s'.thr t).loc = .nOut) :
      RecTr f3 s s' r (.wordSt t .deqRel new obs) a
        { a with stat := match a.stat with | .listed u => RStat.listed u | _ => RStat.idle }
  | deqSpin t a (hm : r.isMucv = false) (ho : a.owner = t) (hx : (s'.thr t).loc = .nOut) :
      RecTr f3 s s' r (.recLd t .deqSpin r 0) a
        { a with stat := match a.stat with | .listed u => RStat.listed u | _ => RStat.idle }
  -- initialisation and foreign accesses
  | wInit t a (h : a.stat = .idle) (hm : r.isMucv = true) :
      RecTr f3 s s' r (.wInit t r) a { a with rc := 0, waiting := false }
  | nwInit t ep a (h : a.stat = .idle) (hm : r.isMucv = false) :
      RecTr f3 s s' r (.nwInit t r) a { a with waiting := false, owner := t, epoch := ep }
  | fStW t new a (h : a.stat = .idle ∨ a.stat = .xfer) :
      RecTr f3 s s' r (.fSt t r .waiting new) a { a with waiting := decide (new = 1) }
  | fCasOk t exp new obs a (h : a.stat = .idle ∨ a.stat = .xfer) :
      RecTr f3 s s' r (.fCas t r .rc exp new obs true) a { a with rc := new }

theorem foreignOk_stat {rc : Rec} (h : foreignOk rc = true) : rc.stat = .idle ∨ rc.stat = .xfer := by
  unfold foreignOk at h; split at h <;> simp_all

variable {f3 : Bool}

/-- What `InvA` and `InvB'` say of a record alone. -/
structure RecAB (f3 : Bool) (r : Rid) (a : Rec) : Prop where
  qWait : a.stat = .queued → a.waiting = true
  pWait : a.stat = .prep → a.waiting = true
  lWait : ∀ u, a.stat = .listed u → (r.isMucv = true ∨ f3 = false) → a.waiting = true
  wokenW : a.stat = .woken → a.waiting = false
  xferM : a.stat = .xfer → r.isMucv = true
  unlQ : a.stat = .queued ∨ a.stat = .prep → a.unl = []
  unlS : a.stat = .selfOut → r.isMucv = true → a.unl = [Unl.self]
  unl1 : r.isMucv = true → a.unl.length ≤ 1

theorem RecAB.of {s : State} (ha : InvA s) (hb : InvB' f3 s) (r : Rid) : RecAB f3 r (s.recs r) :=
  ⟨ha.qWait r, ha.pWait r, hb.lWait r, hb.wokenW r, hb.xferM r, hb.unlQ r, hb.unlS r, hb.unl1 r⟩

theorem RecAB.step {s s' : State} {r : Rid} {e : Event} {a b : Rec} (hi : RecAB f3 r a)
    (h : RecTr f3 s s' r e a b) : RecAB f3 r b := by
  obtain ⟨f1, f2, f3', f4, f5, f6, f7, f8⟩ := hi
  have no : ∀ {st st' : RStat} {P : Prop}, a.stat = st → a.stat = st' → st ≠ st' → P :=
    fun e e' h => (h (e.symm.trans e')).elim
  -- Clause by clause (`qWait pWait lWait wokenW xferM unlQ unlS unl1`).  A rule that sets the status leaves only the
  -- clauses about that status to prove; a rule that clears `waiting` does so under a status that has no clause about
  -- the flag being set (self-removed, idle, transferred: `no`), or on a bare record after defect F3 (`deqSt`).
  cases h with
  | wSt1 | enqSt => constructor <;> simp
  | enq _ _ _ _ _ h => exact ⟨fun _ => f2 h, nofun, nofun, nofun, nofun, fun _ => f6 (.inr h), nofun, f8⟩
  | unlink t _ _ _ _ h =>
    exact ⟨nofun, nofun, fun _ _ _ => f1 h, nofun, nofun, nofun, nofun, fun _ => by simp [f6 (.inl h)]⟩
  | selfOut _ _ _ _ h =>
    exact ⟨nofun, nofun, nofun, nofun, nofun, nofun, fun _ _ => by simp [f6 (.inl h)], fun _ => by simp [f6 (.inl h)]⟩
  | wake t _ _ h => refine ⟨?_, ?_, ?_, fun _ => rfl, ?_, ?_, ?_, f8⟩ <;> simp [h]
  | xfer t _ _ _ _ h _ hm => exact ⟨nofun, nofun, nofun, nofun, fun _ => hm, nofun, nofun, f8⟩
  | clr _ _ _ h | wInit _ _ h | nwInit _ _ _ h =>
    exact ⟨fun e => no h e nofun, fun e => no h e nofun, fun _ e => no h e nofun, fun e => no h e nofun, f5, f6, f7, f8⟩
  | deqSt _ _ _ h hm hq =>
    refine ⟨fun e => absurd e hq.1, fun e => absurd e hq.2, fun _ e c => ?_, fun _ => rfl, f5, f6, f7, f8⟩
    rcases c with c | c
    · rw [hm] at c; cases c
    · rcases h with h | h
      · rw [h] at e; cases e
      · rw [h] at c; cases c
  | fStW _ _ _ h =>
    exact ⟨fun e => h.elim (no e · nofun) (no e · nofun), fun e => h.elim (no e · nofun) (no e · nofun),
      fun _ e => h.elim (no e · nofun) (no e · nofun), fun e => h.elim (no e · nofun) (no e · nofun), f5, f6, f7, f8⟩
  | exit => exact ⟨nofun, nofun, nofun, nofun, nofun, nofun, nofun, f8⟩
  | deqRel | deqSpin =>
    cases hst : a.stat with
    | listed u => rw [hst] at f1 f2 f3' f4 f5 f6 f7; exact ⟨f1, f2, f3', f4, f5, f6, f7, f8⟩
    | _ => exact ⟨nofun, nofun, nofun, nofun, nofun, nofun, nofun, f8⟩
  | _ => exact ⟨f1, f2, f3', f4, f5, f6, f7, f8⟩

/-- A rule that writes the one record `r0`. -/
theorem RecAB.one {s s1 : State} {r0 : Rid} {v : Rec} {t : Tid} {x : Thr} {q : Rid} (h1 : s1.recs = s.recs)
    (hq : RecAB f3 q (s.recs q)) (h : q = r0 → RecAB f3 q v) : RecAB f3 q (((s1.setRec r0 v).setThr t x).recs q) := by
  simp only [setThr_recs, setRec_recs, h1]
  split
  · exact h ‹_›
  · exact hq

/-- `InvB'` from its record clauses and its frame clauses. -/
theorem InvB'.ofRec {s : State} (hg : ∀ q, RecAB f3 q (s.recs q)) (hf : FrameB f3 s) : InvB' f3 s :=
  ⟨fun q => (hg q).lWait, fun q => (hg q).wokenW, fun q => (hg q).xferM, fun q => (hg q).unlQ, fun q => (hg q).unlS,
    fun q => (hg q).unl1, hf.thr, hf.nobad⟩

/-- `InvA` from its record clauses and its frame clauses. -/
theorem InvA.ofRec {s : State} (hg : ∀ q, RecAB f3 q (s.recs q)) (hf : FrameA s) : InvA s :=
  ⟨hf.spin, hf.hold, hf.old, hf.free, hf.qNd, hf.qMem, fun q => (hg q).qWait, hf.lNd, hf.lMem, hf.thr, hf.bq,
    fun q => (hg q).pWait⟩

/-- The owner of a record changes only by a step of the new owner. -/
theorem RecTr.owner {s s' : State} {r : Rid} {e : Event} {a b : Rec} (h : RecTr f3 s s' r e a b) :
    b.owner = a.owner ∨ e.tid = some b.owner := by
  cases h with
  | wSt1 | nwInit => exact .inr rfl
  | _ => exact .inl rfl

/-- The unlinkers of a record change only while it is idle or queued. -/
theorem RecTr.unl {s s' : State} {r : Rid} {e : Event} {a b : Rec} (h : RecTr f3 s s' r e a b)
    (h1 : a.stat ≠ .idle) (h2 : a.stat ≠ .queued) : b.unl = a.unl := by
  cases h with
  | wSt1 _ _ _ h | enqSt _ _ _ h => exact absurd h h1
  | unlink _ _ _ _ _ h | selfOut _ _ _ _ h => exact absurd h h2
  | _ => rfl

/-- A bare record that has been unlinked and not yet given back keeps its status until its owner leaves cv_dequeue. -/
theorem RecTr.stat_deq {s s' : State} {r : Rid} {e : Event} {a b : Rec} (h : RecTr f3 s s' r e a b)
    (hm : r.isMucv = false) (hs : a.stat = .selfOut ∨ a.stat = .woken) :
    b.stat = a.stat ∨ (s'.thr a.owner).loc = .nOut := by
  cases h with
  | keep | rcInc | post | deqSt | fStW | fCasOk | pub | muMode | wInit | nwInit => exact .inl rfl
  | clr _ _ _ _ h | exit _ _ _ h => rw [hm] at h; cases h
  | deqRel _ _ _ _ _ ho _ _ hx | deqSpin _ _ _ ho hx => exact .inr (ho ▸ hx)
  | wSt1 _ _ _ h | enq _ _ _ _ _ h | selfOut _ _ _ _ h | unlink _ _ _ _ _ h | wake _ _ _ h | xfer _ _ _ _ _ h
  | enqSt _ _ _ h => rcases hs with hs | hs <;> rw [hs] at h <;> cases h

/-- A bare record that is registered after a step was registered before, with the same owner and epoch, or has just
    been enqueued by its owner. -/
theorem RecTr.reg {s s' : State} {r : Rid} {e : Event} {a b : Rec} (h : RecTr f3 s s' r e a b)
    (hm : r.isMucv = false) (hni : b.stat ≠ .idle) :
    (a.stat ≠ .idle ∧ b.owner = a.owner ∧ b.epoch = a.epoch) ∨
    (r ∈ (s'.thr b.owner).mine ∧ b.epoch = (s'.thr b.owner).epoch) := by
  cases h with
  | enqSt t _ _ _ _ ho hx => exact .inr (ho ▸ hx)
  | wSt1 _ _ _ _ h | wInit _ _ _ h | clr _ _ _ _ h | exit _ _ _ h => rw [hm] at h; cases h
  | nwInit _ _ _ h => exact absurd h hni
  | deqRel | deqSpin =>
    refine .inl ⟨fun h => hni ?_, rfl, rfl⟩
    simp [h]
  | muMode _ _ _ _ h | enq _ _ _ _ _ h | pub _ _ _ _ _ h | selfOut _ _ _ _ h | unlink _ _ _ _ _ h | wake _ _ _ h
  | xfer _ _ _ _ _ h => exact .inl ⟨by rw [h]; simp, rfl, rfl⟩
  | keep | rcInc | post | deqSt | fStW | fCasOk => exact .inl ⟨hni, rfl, rfl⟩

/-- Only the release that ends an enqueue publishes: any other step keeps `pub` and `enqSeq` of a record and does not
    make it `prep`, or leaves it unpublished. -/
theorem RecTr.pubKeep {s s' : State} {r : Rid} {e : Event} {a b : Rec} (h : RecTr f3 s s' r e a b)
    (hne : ∀ t new obs, e ≠ .wordSt t .waitRel new obs ∧ e ≠ .wordSt t .enqRel new obs) :
    (b.pub = a.pub ∧ b.enqSeq = a.enqSeq ∧ (b.stat = .prep → a.stat = .prep)) ∨ b.pub = false := by
  cases h with
  | pub t _ new obs _ _ hs =>
    rcases hs with rfl | rfl
    · exact absurd rfl (hne t new obs).1
    · exact absurd rfl (hne t new obs).2
  | wSt1 | enqSt => exact .inr rfl
  | wake _ _ _ h => exact .inl ⟨rfl, rfl, by simp [h]⟩
  | deqRel | deqSpin => exact .inl ⟨rfl, rfl, by cases a.stat <;> simp⟩
  | enq | selfOut | exit | unlink | xfer => exact .inl ⟨rfl, rfl, nofun⟩
  | _ => exact .inl ⟨rfl, rfl, id⟩

/-- A pooled record that is queued after a step was queued before, with the same owner, or has just been enqueued by
    its owner, which is in its wait on this record. -/
theorem RecTr.queued {s s' : State} {r : Rid} {e : Event} {a b : Rec} (h : RecTr f3 s s' r e a b)
    (hm : r.isMucv = true) (hq : b.stat = .queued) :
    (a.stat = .queued ∧ b.owner = a.owner) ∨ (waitLive (s'.thr b.owner) = true ∧ (s'.thr b.owner).r = r) := by
  cases h with
  | enq t _ _ _ _ _ ho hx => exact .inr (ho ▸ hx)
  | enqSt _ _ _ _ h | deqSt _ _ _ _ h | deqRel _ _ _ _ h | deqSpin _ _ h | nwInit _ _ _ _ h => rw [hm] at h; cases h
  | wSt1 | selfOut | unlink | xfer | exit => cases hq
  | wake _ _ _ h => rw [h] at hq; cases hq
  | _ => exact .inl ⟨hq, rfl⟩

/-- A record that is woken after a step was woken before, with the same sequence number and still posted if it was, or
    it has just got `waiting := 0` from a waker that is now at the V for this instance. -/
theorem RecTr.woken {s s' : State} {r : Rid} {e : Event} {a b : Rec} (h : RecTr f3 s s' r e a b)
    (hw : b.stat = .woken) :
    (a.stat = .woken ∧ b.enqSeq = a.enqSeq ∧ (a.posted = true → b.posted = true)) ∨
    ∃ t, (s'.thr t).cur = some (r, b.enqSeq) ∧ (s'.thr t).loc = .wwV := by
  cases h with
  | wake t _ _ _ hx => exact .inr ⟨t, hx⟩
  | post => exact .inl ⟨hw, rfl, fun hp => by simp [hp]⟩
  | pub _ _ _ _ _ h => rw [h] at hw; cases hw
  | wSt1 | enq | selfOut | unlink | xfer | exit | enqSt => cases hw
  | deqRel | deqSpin => revert hw; dsimp only; split <;> exact nofun
  | _ => exact .inl ⟨hw, rfl, id⟩

end NsyncVerif.CvFix
