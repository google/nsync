import NsyncVerif.Model.VC
/-
  Generic facts about the vector-clock machine: clocks only grow, an acquire read imports the
  location's release clock, a release write exports the writer's clock, and the release clock keeps
  dominating a given clock as long as the location is only written by read-modify-writes or by
  release stores of threads that already dominate it (the release-chain lemma).  Their composition is
  the message-passing theorem (`message_passing`; used as such by Props/C03Note.lean).  The layers
  whose hand-off is an invariant of a product with the acceptor (Once, Counter, CvFix, CvMu, Note) use the
  three facts one step at a time, through `stepO_mono`, `stepO_keep`, `acq_sees_relc`, `rel_records`.
-/
namespace NsyncVerif.VC

variable {Loc : Type} [DecidableEq Loc]

theorem Clock.le_refl (a : Clock) : Clock.le a a := fun _ => Nat.le_refl _
theorem Clock.le_trans {a b c : Clock} (h1 : Clock.le a b) (h2 : Clock.le b c) : Clock.le a c :=
  fun i => Nat.le_trans (h1 i) (h2 i)
theorem Clock.le_join_left (a b : Clock) : Clock.le a (Clock.join a b) := fun _ => Nat.le_max_left _ _
theorem Clock.le_join_right (a b : Clock) : Clock.le b (Clock.join a b) := fun _ => Nat.le_max_right _ _
theorem Clock.le_tick (a : Clock) (t : Tid) : Clock.le a (a.tick t) := by
  intro i; unfold Clock.tick; split <;> omega

theorem Clock.bot_le (a : Clock) : Clock.le Clock.bot a := fun _ => Nat.zero_le _
theorem Clock.le_join_of_le_left {a b c : Clock} (h : Clock.le a b) : Clock.le a (Clock.join b c) :=
  Clock.le_trans h (Clock.le_join_left _ _)
theorem Clock.le_join_of_le_right {a b c : Clock} (h : Clock.le a c) : Clock.le a (Clock.join b c) :=
  Clock.le_trans h (Clock.le_join_right _ _)
theorem Clock.le_tick_of_le {a b : Clock} (t : Tid) (h : Clock.le a b) : Clock.le a (b.tick t) :=
  Clock.le_trans h (Clock.le_tick _ _)

theorem upd_same {α β : Type} [DecidableEq α] (f : α → β) (a : α) (b : β) : upd f a b a = b := by simp [upd]
theorem upd_other {α β : Type} [DecidableEq α] (f : α → β) {a x : α} (b : β) (h : x ≠ a) : upd f a b x = f x := by
  simp [upd, h]

/-- Recording a thread's own clock keeps "the recorded clock is covered by the thread's clock". -/
theorem upd_self_le {cc vc : Tid → Clock} (h : ∀ u, Clock.le (cc u) (vc u)) (t u : Tid) :
    Clock.le (upd cc t (vc t) u) (vc u) := by
  by_cases hu : u = t
  · subst hu; rw [upd_same]; exact Clock.le_refl _
  · rw [upd_other _ _ hu]; exact h u

/-- Clocks only grow. -/
theorem vc_mono (s : St Loc) (e : AEv Loc) (u : Tid) : Clock.le (s.vc u) ((step s e).vc u) := by
  unfold step
  cases e.op <;> simp only
  · split
    · by_cases h : u = e.t
      · subst h; simp only [upd_same]; exact Clock.le_join_left _ _
      · simp only [upd_other _ _ h]; exact Clock.le_refl _
    · exact Clock.le_refl _
  · by_cases h : u = e.t
    · subst h; simp only [upd_same]; exact Clock.le_tick _ _
    · simp only [upd_other _ _ h]; exact Clock.le_refl _
  · by_cases h : u = e.t
    · subst h; simp only [upd_same]
      split
      · exact Clock.le_trans (Clock.le_join_left _ _) (Clock.le_tick _ _)
      · exact Clock.le_tick _ _
    · simp only [upd_other _ _ h]; exact Clock.le_refl _

theorem vc_mono_run (s : St Loc) (es : List (AEv Loc)) (u : Tid) : Clock.le (s.vc u) ((run s es).vc u) := by
  induction es generalizing s with
  | nil => exact Clock.le_refl _
  | cons e es ih => exact Clock.le_trans (vc_mono s e u) (ih (step s e))

/-- An acquire load or acquire RMW imports the release clock of its location. -/
theorem acq_sees_relc (s : St Loc) (e : AEv Loc) (ha : e.ord.isAcq = true) (hop : e.op = .ld ∨ e.op = .rmw) :
    Clock.le (s.relc e.loc) ((step s e).vc e.t) := by
  unfold step
  rcases hop with h | h <;> rw [h] <;> simp only [ha, if_true]
  · simp only [upd_same]; exact Clock.le_join_right _ _
  · simp only [upd_same]; exact Clock.le_trans (Clock.le_join_right _ _) (Clock.le_tick _ _)

/-- A release store or release RMW exports the writer's clock into the location's release clock. -/
theorem rel_records (s : St Loc) (e : AEv Loc) (hr : e.ord.isRel = true) (hop : e.op = .st ∨ e.op = .rmw) :
    Clock.le (s.vc e.t) ((step s e).relc e.loc) := by
  unfold step
  rcases hop with h | h <;> rw [h] <;> simp only [hr, if_true]
  · simp only [upd_same]; exact Clock.le_refl _
  · simp only [upd_same]
    split
    · exact Clock.le_trans (Clock.le_join_left _ _) (Clock.le_join_right _ _)
    · exact Clock.le_join_right _ _

/-- An event is harmless for the release sequence on `x` carrying clock `c`: it is not a plain store to
    `x`, unless it is a release store by a thread whose clock already dominates `c`. -/
def Safe (x : Loc) (c : Clock) (s : St Loc) (e : AEv Loc) : Prop :=
  e.loc = x → e.op = .st → (e.ord.isRel = true ∧ Clock.le c (s.vc e.t))

/-- RELEASE CHAIN: a clock carried by the release clock of `x` stays carried across harmless events
    (loads, failed CASes, RMWs of any order, operations on other locations, dominated release stores). -/
theorem release_chain_step (x : Loc) (c : Clock) (s : St Loc) (e : AEv Loc)
    (hc : Clock.le c (s.relc x)) (hs : Safe x c s e) : Clock.le c ((step s e).relc x) := by
  unfold step
  cases hop : e.op <;> simp only
  · split <;> exact hc
  · by_cases hx : x = e.loc
    · subst hx; simp only [upd_same]
      have := hs rfl hop
      simp only [this.1, if_true]; exact this.2
    · simp only [upd_other _ _ hx]; exact hc
  · by_cases hx : x = e.loc
    · subst hx; simp only [upd_same]
      split
      · exact Clock.le_trans hc (Clock.le_join_left _ _)
      · exact hc
    · simp only [upd_other _ _ hx]; exact hc

/-- The machine on an event of a layer that is, or is not, an atomic operation: every layer's clock
    step is `stepO c (toVC e)` for its projection `toVC`. -/
def stepO (s : St Loc) : Option (AEv Loc) → St Loc
  | some a => step s a
  | none => s

theorem stepO_mono (s : St Loc) (a? : Option (AEv Loc)) (u : Tid) :
    Clock.le (s.vc u) ((stepO s a?).vc u) := by
  cases a? with
  | none => exact Clock.le_refl _
  | some a => exact vc_mono s a u

theorem stepO_keep (x : Loc) (c : Clock) (s : St Loc) (a? : Option (AEv Loc))
    (hc : Clock.le c (s.relc x)) (hs : ∀ a, a? = some a → Safe x c s a) :
    Clock.le c ((stepO s a?).relc x) := by
  cases a? with
  | none => exact hc
  | some a => exact release_chain_step x c s a hc (hs a rfl)

/-- The machine over the operations of a layer's event list is the fold of its optional step. -/
theorem run_filterMap {E : Type} (f : E → Option (AEv Loc)) (c : St Loc) (evs : List E) :
    run c (evs.filterMap f) = evs.foldl (fun c e => stepO c (f e)) c := by
  induction evs generalizing c with
  | nil => rfl
  | cons e es ih =>
    rw [List.filterMap_cons, List.foldl_cons, ← ih]
    cases f e <;> rfl

/-- All events of a run are harmless (each judged in the state in which it executes). -/
def SafeRun (x : Loc) (c : Clock) : St Loc → List (AEv Loc) → Prop
  | _, [] => True
  | s, e :: es => Safe x c s e ∧ SafeRun x c (step s e) es

theorem release_chain_run (x : Loc) (c : Clock) (s : St Loc) (es : List (AEv Loc))
    (hc : Clock.le c (s.relc x)) (hs : SafeRun x c s es) : Clock.le c ((run s es).relc x) := by
  induction es generalizing s with
  | nil => exact hc
  | cons e es ih => exact ih (step s e) (release_chain_step x c s e hc hs.1) hs.2

/-- MESSAGE PASSING.  Thread `u` performs a release write on `x`; then any number of events of any threads
    that do not break the release sequence (no relaxed plain store to `x`; release stores to `x` only by
    threads that already saw the message); then thread `t` performs an acquire read of `x`.  Everything
    `u` did before its write happens before everything `t` does after its read. -/
theorem message_passing (s0 : St Loc) (w : AEv Loc) (mid : List (AEv Loc)) (r : AEv Loc)
    (hw_rel : w.ord.isRel = true) (hw_op : w.op = .st ∨ w.op = .rmw)
    (hmid : SafeRun w.loc (s0.vc w.t) (step s0 w) mid)
    (hr_loc : r.loc = w.loc) (hr_acq : r.ord.isAcq = true) (hr_op : r.op = .ld ∨ r.op = .rmw) :
    Clock.le (s0.vc w.t) ((step (run (step s0 w) mid) r).vc r.t) := by
  have h1 := rel_records s0 w hw_rel hw_op
  have h2 := release_chain_run w.loc (s0.vc w.t) (step s0 w) mid h1 hmid
  have h3 := acq_sees_relc (run (step s0 w) mid) r hr_acq hr_op
  rw [hr_loc] at h3
  exact Clock.le_trans h2 h3

/-- Without the acquire on the read (or the release on the write) the edge is NOT credited: a relaxed
    load leaves the reader's clock unchanged. -/
theorem relaxed_load_no_edge (s : St Loc) (e : AEv Loc) (h : e.ord.isAcq = false) (hop : e.op = .ld) :
    (step s e).vc = s.vc := by
  unfold step; rw [hop]; simp [h]

/-- A relaxed plain store wipes the release clock of its location (the release sequence is broken). -/
theorem relaxed_store_breaks (s : St Loc) (e : AEv Loc) (h : e.ord.isRel = false) (hop : e.op = .st) :
    (step s e).relc e.loc = Clock.bot := by
  unfold step; rw [hop]; simp [h, upd]

end NsyncVerif.VC
