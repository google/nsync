/-
  Layer `Note`, fair termination: what holds along an execution.  Monotone facts (`Exec.stable_le`, the
  flag, the `posted` counters), the call in progress stays the same call; after the last API entry
  the set of notes stops growing (`Settled`): idle threads stay idle, the creation order is fixed.
-/
import NsyncVerif.Proofs.NoteFairOther


namespace Note

variable {s0 : State}

theorem Exec.stable_le (x : Exec s0) {i j : Nat} (h : i ≤ j) : Stable (x.ρ i) (x.ρ j) :=
  x.keeps (P := Stable (x.ρ i)) (fun _ _ _ he ih => ih.trans (step_stable (x.next_some he)))
    (Stable.refl _) h

/-- No `call` event from time `N` on. -/
def NoCalls (x : Exec s0) (N : Nat) : Prop := ∀ j t a, N ≤ j → x.σ j ≠ some (.call t a)

theorem idle_stays (x : Exec s0) {N : Nat} (hN : NoCalls x N) {t : Tid} {i : Nat} (hi : N ≤ i)
    (hp : (x.ρ i).pc t = .idle) {j : Nat} (hij : i ≤ j) : (x.ρ j).pc t = .idle :=
  x.keeps (P := fun s => s.pc t = .idle)
    (fun j e hj he ih => step_idle (x.next_some he) ih
      (fun a hc => hN j t a (by omega) (by rw [he, hc]))) hp hij

theorem malloc_stays (x : Exec s0) {N : Nat} (hN : NoCalls x N) {t : Tid} {i : Nat} (hi : N ≤ i)
    (hp : ((x.ρ i).pc t).isMalloc = false) {j : Nat} (hij : i ≤ j) :
    ((x.ρ j).pc t).isMalloc = false :=
  x.keeps (P := fun s => (s.pc t).isMalloc = false)
    (fun j e hj he ih => by
      cases hm : ((x.ρ (j + 1)).pc t).isMalloc with
      | false => rfl
      | true =>
        have := step_isMalloc (x.next_some he) hm (fun a hc => hN j t a (by omega) (by rw [he, hc]))
        rw [ih] at this; cases this) hp hij

theorem semReady_of_not_asleep {s : State} {t : Tid}
    (h : ∀ d n wdl r, s.pc t ≠ .wt (.pdRet d) n wdl r) : SemReady s t := by
  unfold SemReady
  split
  · next d n wdl r hpc => exact absurd hpc (h d n wdl r)
  · trivial

theorem list_bound {P : Tid → Nat → Prop} (N : Nat) : ∀ L : List Tid,
    (∀ t ∈ L, ∃ j, N ≤ j ∧ ∀ j', j ≤ j' → P t j') → ∃ J, N ≤ J ∧ ∀ t ∈ L, ∀ j', J ≤ j' → P t j' := by
  intro L
  induction L with
  | nil => intro _; exact ⟨N, Nat.le_refl _, fun t ht => by cases ht⟩
  | cons a L ih =>
    intro h
    obtain ⟨J, hJ, hL⟩ := ih (fun t ht => h t (List.mem_cons_of_mem _ ht))
    obtain ⟨ja, hja, ha⟩ := h a List.mem_cons_self
    refine ⟨max J ja, by omega, fun t ht j' hj' => ?_⟩
    rcases List.mem_cons.mp ht with rfl | ht
    · exact ha j' (by omega)
    · exact hL t ht j' (by omega)

/-- From some time on there is no `call` and no thread is at the `malloc` of `nsync_note_new`:
    the set of notes is settled. -/
def Settled (x : Exec s0) (N : Nat) : Prop :=
  NoCalls x N ∧ ∀ j t, N ≤ j → ((x.ρ j).pc t).isMalloc = false

/-- Once settled, no note is allocated any more. -/
theorem alloc_back (x : Exec s0) {N : Nat} (hS : Settled x N) (k : NoteId) {j : Nat} (hj : N ≤ j) :
    ((x.ρ j).notes k).allocated = true → ((x.ρ N).notes k).allocated = true :=
  x.keeps (P := fun s => (s.notes k).allocated = true → ((x.ρ N).notes k).allocated = true)
    (fun j e hj he ih h => by
      rcases step_alloc (x.next_some he) k h with h' | ⟨a, par, dl, _, hpc, _⟩
      · exact ih h'
      · have := hS.2 j a hj
        rw [hpc] at this; cases this) id hj

/-- … and the creation order is the one at time `N`. -/
theorem lt_back (x : Exec s0) (hr : Reachable s0) {N : Nat} (hS : Settled x N) {j : Nat}
    (hj : N ≤ j) {a b : NoteId} (h : Lt (x.ρ j) a b) : Lt (x.ρ N) a b := by
  have hSj := (x.reach hr j).inv6.2.2.1
  have ha := alloc_back x hS a hj (h.alloc_left hSj)
  have hb := alloc_back x hS b hj (h.alloc_right hSj)
  have hst := x.stable_le hj
  have ea := (hst.ghost a ha).2.1
  have eb := (hst.ghost b hb).2.1
  obtain ⟨⟨h1, h2⟩, h3⟩ := h
  rw [ea, eb] at h2
  rw [eb] at h1
  exact ⟨⟨h1, h2⟩, h3⟩

theorem held_not_idle {s : State} (hr : Reachable s) {u : Tid} {m : NoteId}
    (hh : (s.notes m).lockHolder = some u) : s.pc u ≠ .idle := by
  intro h
  have := (hr.inv6.2.2.2.2.2.iff m u).mp hh
  rw [h] at this; simp [PC.held] at this

theorem flag_stays (x : Exec s0) (hr : Reachable s0) {n : NoteId} {i j : Nat} (hij : i ≤ j)
    (h : ((x.ρ i).notes n).notified = true) : ((x.ρ j).notes n).notified = true :=
  (x.stable_le hij).flag n ((x.reach hr i).invA.flag n h) h

theorem posted_stays (x : Exec s0) {r : Rid} {i : Nat} (hu : ((x.ρ i).recs r).used = true)
    {j : Nat} (hij : i ≤ j) :
    ((x.ρ j).recs r).used = true ∧ ((x.ρ i).recs r).posted ≤ ((x.ρ j).recs r).posted :=
  x.keeps (P := fun s => (s.recs r).used = true ∧ ((x.ρ i).recs r).posted ≤ (s.recs r).posted)
    (fun _ _ _ he ih => ⟨(recs_keep (x.next_some he) ih.1).1,
      Nat.le_trans ih.2 (step_posted (x.next_some he) ih.1)⟩) ⟨hu, Nat.le_refl _⟩ hij

/-- The call in progress stays the same call while the thread is inside it. -/
theorem waitOn_const (x : Exec s0) {t : Tid} {i j : Nat} (hij : i ≤ j)
    (h : ∀ j', i ≤ j' → j' ≤ j → (x.ρ j').pc t ≠ .idle) :
    ((x.ρ j).pc t).waitOn = ((x.ρ i).pc t).waitOn := by
  refine NsyncVerif.Sched.keeps_from (P := fun j => (∀ j', i ≤ j' → j' ≤ j → (x.ρ j').pc t ≠ .idle) →
    ((x.ρ j).pc t).waitOn = ((x.ρ i).pc t).waitOn) (fun _ => rfl) (fun j hj ih h => ?_) j hij h
  rw [← ih (fun j' h1 h2 => h j' h1 (by omega))]
  by_cases hm : Moves x t j
  · obtain ⟨e, he, ha⟩ := hm
    rcases (own_pc (x.next_some he) ha (h j hj (by omega))).keep with h' | ⟨h', _⟩
    · exact absurd h' (h (j + 1) (by omega) (Nat.le_refl _))
    · exact h'
  · rw [not_moves_pc x hm]

end Note
