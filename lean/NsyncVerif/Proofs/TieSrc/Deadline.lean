import NsyncVerif.Proofs.TieSrc.Lib
/- G4 tie of the layer Deadline (futex timespec, time_rep.c) -/
namespace NsyncVerif.Tie
theorem src_deadline : (sameFile "nsync_semaphore_futex.c" &&
    sameFile "time_rep.c") = true := by decide +kernel
end NsyncVerif.Tie
