import NsyncVerif.Proofs.TieSrc.Lib
/- G4 tie of the layer Time (time_internal.c, time_rep.c, time_rep_timespec.cc) -/
namespace NsyncVerif.Tie
theorem src_time : (sameFile "time_internal.c" &&
    sameFile "time_rep.c" &&
    sameFile "time_rep_timespec.cc") = true := by decide +kernel
end NsyncVerif.Tie
