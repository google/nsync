import NsyncVerif.Proofs.TieSrc.Lib
/- G4 tie of the layer WaitN (wait.c + waitable functions) -/
namespace NsyncVerif.Tie
theorem src_waitn : (sameFile "wait.c" &&
    sameFns "cv.c" ["wake_waiters", "nsync_cv_signal", "nsync_cv_broadcast", "cv_ready_time", "cv_enqueue", "cv_dequeue"] &&
    sameFns "note.c" ["note_notify_child", "notify", "nsync_note_notified_deadline_", "note_ready_time", "note_enqueue", "note_dequeue"] &&
    sameFns "counter.c" ["nsync_counter_add", "counter_ready_time", "counter_enqueue", "counter_dequeue"]) = true := by decide +kernel
end NsyncVerif.Tie
