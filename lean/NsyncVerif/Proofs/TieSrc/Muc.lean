import NsyncVerif.Proofs.TieSrc.Lib
/- G4 tie of the layer MuC (mu.c + mu_wait.c) -/
namespace NsyncVerif.Tie
theorem src_muc : (sameFile "mu.c" &&
    sameFile "mu_wait.c" &&
    sameFns "common.c" ["nsync_spin_delay_", "nsync_spin_test_and_set_"] &&
    sameFile "common.h") = true := by decide +kernel
end NsyncVerif.Tie
