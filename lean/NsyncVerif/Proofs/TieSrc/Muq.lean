import NsyncVerif.Proofs.TieSrc.Lib
/- G4 tie of the layer MuQ (mu.c core) -/
namespace NsyncVerif.Tie
theorem src_muq : (sameFile "mu.c" &&
    sameFns "common.c" ["nsync_spin_delay_", "nsync_spin_test_and_set_"] &&
    sameFile "common.h") = true := by decide +kernel
end NsyncVerif.Tie
