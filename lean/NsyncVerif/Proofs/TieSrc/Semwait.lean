import NsyncVerif.Proofs.TieSrc.Lib
/- G4 tie of the layer SemWait (sem_wait.c + note-side walk) -/
namespace NsyncVerif.Tie
theorem src_semwait : (sameFile "sem_wait.c" &&
    sameFns "note.c" ["note_notify_child", "notify", "nsync_note_notified_deadline_", "nsync_note_new", "nsync_note_notify", "nsync_note_is_notified"]) = true := by decide +kernel
end NsyncVerif.Tie
