import NsyncVerif.Proofs.TieSrc.Lib
/- G4 tie of the layer Pool (waiter pool of common.c) -/
namespace NsyncVerif.Tie
theorem src_pool : (sameFns "common.c" ["nsync_spin_delay_", "nsync_spin_test_and_set_", "waiter_destroy", "nsync_waiter_new_", "nsync_waiter_free_", "(file scope)"]) = true := by decide +kernel
end NsyncVerif.Tie
