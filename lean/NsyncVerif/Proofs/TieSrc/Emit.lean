import NsyncVerif.Proofs.TieSrc.Lib
/- G4 tie of the layer Emit (debug.c) -/
namespace NsyncVerif.Tie
theorem src_emit : (sameFile "debug.c") = true := by decide +kernel
end NsyncVerif.Tie
