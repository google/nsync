import NsyncVerif.Proofs.TieSrc.Lib
/- G4 tie of the layer Once (once.c) -/
namespace NsyncVerif.Tie
theorem src_once : (sameFile "once.c") = true := by decide +kernel
end NsyncVerif.Tie
