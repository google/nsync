import NsyncVerif.Proofs.TieSrc.Lib
/- G4 tie of the layer Futex (nsync_semaphore_futex.c) -/
namespace NsyncVerif.Tie
theorem src_futex : (sameFile "nsync_semaphore_futex.c" &&
    sameFile "sem.h") = true := by decide +kernel
end NsyncVerif.Tie
