import NsyncVerif.Proofs.TieSrc.Lib
/- G4 tie of the layer CvFix (cv.c, sem_wait.c, cv debug callers) -/
namespace NsyncVerif.Tie
theorem src_cv : (sameFile "cv.c" &&
    sameFile "sem_wait.c" &&
    sameFns "common.c" ["nsync_spin_delay_", "nsync_spin_test_and_set_"] &&
    sameFns "debug.c" ["emit_cv_state", "emit_waiters"] &&
    sameFile "common.h") = true := by decide +kernel
end NsyncVerif.Tie
