import NsyncVerif.Proofs.TieSrc.Lib
/- G4 tie of the layer Note (note.c) -/
namespace NsyncVerif.Tie
theorem src_note : (sameFile "note.c" &&
    sameFns "common.h" ["(file scope)"]) = true := by decide +kernel
end NsyncVerif.Tie
