import NsyncVerif.Proofs.TieSrc.Lib
/- G4 tie of the layer Counter (counter.c) -/
namespace NsyncVerif.Tie
theorem src_counter : (sameFile "counter.c") = true := by decide +kernel
end NsyncVerif.Tie
