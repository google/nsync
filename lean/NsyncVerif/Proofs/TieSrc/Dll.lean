import NsyncVerif.Proofs.TieSrc.Lib
/- G4 tie of the layer Dll (dll.c, dll.h) -/
namespace NsyncVerif.Tie
theorem src_dll : (sameFile "dll.c" &&
    sameFile "dll.h") = true := by decide +kernel
end NsyncVerif.Tie
