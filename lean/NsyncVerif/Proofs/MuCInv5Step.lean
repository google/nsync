import NsyncVerif.Proofs.MuCEffScan
import NsyncVerif.Proofs.MuCQMono
import NsyncVerif.Proofs.MuCInv5
/-
  MuC, MU_CONDITION hint (`Inv5`) through every step: one lemma per kind of step (`Eff`), `inv5_step`, `inv5_init`.
-/
namespace NsyncVerif.MuC

theorem Inv5.frame {s s' : State} {t : Tid} {p' : PC} (h : Inv5 s) (hpc : s'.pc = setFn s.pc t p') (hq : s'.queue = s.queue)
    (hcnd : ∀ x, (s'.wr x).cond = (s.wr x).cond) (hw : s.word.cond = true → s'.word.cond = true)
    (hsc : p'.scan? = (s.pc t).scan?)
    (hmt : ∀ old, p'.mtOld = some old → (s.pc t).mtOld = some old ∨ s.word = old)
    (hlc : ∀ k c, p'.limboC = some (k, c) → (s.pc t).limboC = some (k, c)) : Inv5 s' := by
  have hpt : s'.pc t = p' := setFn_at hpc
  have hoth : ∀ u, u ≠ t → s'.pc u = s.pc u := setFn_others hpc
  exact Inv5.local t h (fun k hk => (queued_same (t := t) hq hoth (by rw [hpt, hsc]) k).1 hk) hcnd hw hoth
    (fun old ho => hmt old (hpt ▸ ho)) (fun k c hl => hlc k c (hpt ▸ hl))

theorem finPc_limboC (r : Ret) (l : List Wid) : (finPc r l).limboC = none := by
  cases l <;> cases r <;> rfl
theorem loopPc_view5 (c : MW) (b : Bool) : (loopPc c b).scan? = none ∧ (loopPc c b).mtOld = none ∧ (loopPc c b).limboC = none := by
  unfold loopPc; split <;> exact ⟨rfl, rfl, rfl⟩

theorem CallPc.view5 {s : State} {t : Tid} {p : PC} {nw : Bool} {ca : Option Cond} (h : CallPc s t p nw ca) :
    p.scan? = none ∧ p.mtOld = none ∧ p.limboC = none := by
  cases h <;> exact ⟨rfl, rfl, rfl⟩
theorem SemPc.view5 {cfg : Cfg} {s : State} {p p' : PC} {k : Wid} {n : Nat} (h : SemPc cfg s p p' k n) :
    p.scan? = none ∧ p'.scan? = none ∧ p'.mtOld = none ∧ p'.limboC = none := by
  cases h
  · exact ⟨rfl, rfl, rfl, rfl⟩
  · exact ⟨rfl, rfl, rfl, rfl⟩
  · exact ⟨rfl, finPc_scan _ _, finPc_mtOld _ _, finPc_limboC _ _⟩
theorem limboC_mem_ws {p : PC} {k : Wid} {c : Option Cond} (h : p.limboC = some (k, c)) : k ∈ p.ws := by
  cases p <;> simp [PC.limboC] at h <;> (obtain ⟨a, ha, rfl, _⟩ := h; simp [PC.ws, ha])

/-- `t` moves to `p'`, changes the condition stored in its own record `k`, which is on no list, and possibly puts it on
    mu->waiters: if the condition queued is not NULL, MU_CONDITION is set and nobody else is inside
    mu_try_acquire_after_timeout_or_cancel with the mutex. -/
theorem Inv5.restore {s s1 s' : State} {t : Tid} {k : Wid} {p' : PC} (h : Inv5 s) (hs' : s' = setPc s1 t p')
    (hq : ∀ y, y ∈ s1.queue → y = k ∨ y ∈ s.queue) (hpc : s1.pc = s.pc) (hnq : ¬ Queued s k)
    (hcnd : ∀ x, x ≠ k → (s1.wr x).cond = (s.wr x).cond)
    (hw : s.word.cond = true → s1.word.cond = true)
    (hwk : k ∈ s1.queue → (s1.wr k).cond ≠ none → s1.word.cond = true ∧ ∀ u, u ≠ t → (s.pc u).mtOld = none)
    (hown : ∀ u, u ≠ t → k ∉ (s.pc u).ws)
    (hsc : p'.scan? = none) (hmt : p'.mtOld = none)
    (hlc : ∀ k' c, p'.limboC = some (k', c) → k' = k ∧ (s1.wr k).cond = c) : Inv5 s' := by
  subst hs'
  have hpt : (setPc s1 t p').pc t = p' := setFn_same _ _ _
  have hoth : ∀ u, u ≠ t → (setPc s1 t p').pc u = s.pc u := setPc_others hpc t p'
  have hQ : ∀ x, Queued (setPc s1 t p') x → (x = k ∧ k ∈ s1.queue) ∨ (x ≠ k ∧ Queued s x) := by
    rintro x (hx | ⟨u, sc, h1, h2⟩)
    · rcases hq x hx with rfl | e
      · exact Or.inl ⟨rfl, hx⟩
      · exact Or.inr ⟨fun e' => hnq (e' ▸ Or.inl e), Or.inl e⟩
    · by_cases hu : u = t
      · subst hu; rw [hpt, hsc] at h1; cases h1
      · rw [hoth u hu] at h1
        exact Or.inr ⟨fun e' => hnq (e' ▸ Or.inr ⟨u, sc, h1, h2⟩), Or.inr ⟨u, sc, h1, h2⟩⟩
  refine ⟨?_, ?_, ?_⟩
  · intro x hx hc
    rcases hQ x hx with ⟨rfl, e⟩ | ⟨hxk, hq0⟩
    · exact (hwk e hc).1
    · exact hw (h.h1 x hq0 (by rw [← hcnd x hxk]; exact hc))
  · intro u old ho x hx hc
    by_cases hu : u = t
    · subst hu; rw [hpt, hmt] at ho; cases ho
    · rw [hoth u hu] at ho
      rcases hQ x hx with ⟨rfl, e⟩ | ⟨hxk, hq0⟩
      · rw [(hwk e hc).2 u hu] at ho; cases ho
      · exact h.h2 u old ho x hq0 (by rw [← hcnd x hxk]; exact hc)
  · intro u k' c hl
    by_cases hu : u = t
    · subst hu
      obtain ⟨rfl, e⟩ := hlc k' c (hpt ▸ hl)
      exact e
    · rw [hoth u hu] at hl
      have hk' : k' ≠ k := fun e => hown u hu (e ▸ limboC_mem_ws hl)
      exact (hcnd k' hk').trans (h.h3 u k' c hl)

theorem Inv5.ret {s s' : State} {t : Tid} {m : Option Mode} {w : Option Wid} {b : Bool} (h : Inv5 s)
    (hp : RetPc (s.held t) (s.pc t) m w b) (e : RetEff s t m w b s') : Inv5 s' :=
  h.frame e.pc e.queue (fun x => by rw [e.wr, dropW_cond]) (fun hc => by rw [e.word]; exact hc) hp.scan.symm
    (fun _ ho => nomatch ho) (fun _ _ hl => nomatch hl)

theorem Inv5.call {s s' : State} {t : Tid} {p' : PC} {nw : Bool} {ca : Option Cond} (h : Inv5 s) (h0 : s.pc t = .idle)
    (hp : CallPc s t p' nw ca) (e : CallEff s t p' nw ca s') : Inv5 s' :=
  h.frame e.pc e.queue (fun x => by rw [e.wr]) (fun hc => by rw [e.word]; exact hc) (by rw [hp.view5.1, h0]; rfl)
    (fun _ ho => by rw [hp.view5.2.1] at ho; cases ho) (fun _ _ hl => by rw [hp.view5.2.2] at hl; cases hl)

theorem Inv5.sem {cfg : Cfg} {s s' : State} {t : Tid} {p' : PC} {k : Wid} {n : Nat} (h : Inv5 s)
    (hp : SemPc cfg s (s.pc t) p' k n) (e : SemEff s t p' k n s') : Inv5 s' :=
  h.frame e.pc e.queue (fun x => by rw [e.wr]; exact setFn_proj WRec.cond (by rfl) x) (fun hc => by rw [e.word]; exact hc)
    (by rw [hp.view5.1, hp.view5.2.1])
    (fun _ ho => by rw [hp.view5.2.2.1] at ho; cases ho) (fun _ _ hl => by rw [hp.view5.2.2.2] at hl; cases hl)

theorem Inv5.eval {s : State} {t : Tid} {c : MW} (h : Inv5 s) (heq : s.pc t = .mwEval c) (b : Bool) :
    Inv5 (setPc s t (loopPc c b)) :=
  h.frame rfl rfl (fun _ => rfl) id (by rw [(loopPc_view5 c b).1, heq]; rfl)
    (fun _ ho => by rw [(loopPc_view5 c b).2.1] at ho; cases ho) (fun _ _ hl => by rw [(loopPc_view5 c b).2.2] at hl; cases hl)

theorem Inv5.ldRc {s : State} {t : Tid} {c : MW} {k : Wid} (h : Inv5 s) (heq : s.pc t = .mwRcLd c) (obs : Nat) :
    Inv5 { setPc s t (.mwEnqLd { c with rcl := obs }) with wr := setFn s.wr k { s.wr k with rc := obs } } :=
  h.frame rfl rfl (setFn_proj WRec.cond (by rfl)) id (by rw [heq]; rfl) (fun _ ho => nomatch ho) (fun _ _ hl => by rw [heq]; exact hl)

theorem Inv5.mtRm {s : State} {t : Tid} {c : MW} {old : Word} {rc : Nat} {k : Wid} (h : Inv5 s)
    (heq : s.pc t = .mtRmCas c old rc) (n : Nat) :
    Inv5 { setPc s t (.mtStW c old) with wr := setFn s.wr k { s.wr k with rc := n } } :=
  h.frame rfl rfl (setFn_proj WRec.cond (by rfl)) id (by rw [heq]; rfl) (fun _ ho => Or.inl (by rw [heq]; exact ho))
    (fun _ _ hl => nomatch hl)

/-- The waiter takes its record off the queue (mu_wait.c:112). -/
theorem Inv5.ldDeq {s : State} {t : Tid} {c : MW} {old : Word} (h : Inv5 s) (heq : s.pc t = .mtLdRc c old) (k : Wid) :
    Inv5 (setPc (dequeue s k) t (.mtRmLd c old)) := by
  obtain ⟨hq, hpc, -, hlo⟩ := deq_shrink s k
  exact Inv5.local t h (fun x => queued_shrink hq hpc (by rw [heq]; rfl)) (fun x => (hlo x).2.2.2.2.1) (by simp [dequeue])
    (setPc_others hpc t _) (fun o' ho => Or.inl (by rw [heq]; simpa [PC.mtOld] using ho))
    (fun k' c' hl => by simp [PC.limboC] at hl)

theorem scanPc_limboC {r : Ret} {late : Bool} {p : PC} (h : ScanPc r late p) : p.limboC = none := by
  cases p <;> simp [ScanPc] at h <;> rfl

/-- A step of the unlocker `t` that runs the scan: MU_CONDITION is kept, records keep their conditions, nothing
    new is queued. -/
theorem Inv5.scan {s s' : State} {t : Tid} {r : Ret} {late : Bool} (h : Inv5 s) (h4' : Inv4 s')
    (e : ScanEff s t r late s') : Inv5 s' := by
  refine Inv5.local t h (fun k hk => queued_of_scan h4' e.oth e.perm e.alone e.wake hk) (fun x => (e.wr x).2.2.2.2) ?_ e.oth
    (fun old ho => by rw [scanPc_mtOld e.dst] at ho; cases ho) (fun k c hl => by rw [scanPc_limboC e.dst] at hl; cases hl)
  intro hc
  rw [e.hints.2.1]; exact hc

/-- The final CAS of unlock_slow: MU_CONDITION is cleared only when no waiter is left. -/
theorem Inv5.fin {s s' : State} {t : Tid} {r : Ret} {f : Fin} {old : Word} (h4 : Inv4 s) (h : Inv5 s)
    (heq : s.pc t = .usFinCas r f old) (hw : s.word = old) (e : CasOk s t (finPc r f.wake) (finWord f old) none s') : Inv5 s' := by
  have hpt : s'.pc t = finPc r f.wake := setFn_at e.pc
  have hoth : ∀ u, u ≠ t → s'.pc u = s.pc u := setFn_others e.pc
  cases hce : f.cEmpty with
  | false =>
    exact h.frame e.pc e.queue (fun x => by rw [e.wr_none]) (fun hc => by rw [e.word]; simp [finWord, hce, ← hw, hc])
      (by rw [finPc_scan, heq]; rfl) (fun _ ho => by rw [finPc_mtOld] at ho; cases ho)
      (fun _ _ hl => by rw [finPc_limboC] at hl; cases hl)
  | true =>
    -- nothing is queued
    have hQ : ∀ k, Queued s' k ↔ Queued s k :=
      queued_same (t := t) e.queue hoth (by rw [hpt, finPc_scan, heq]; rfl)
    have hq0 : s.queue = [] := by
      have := h4.finq t f (by rw [heq]; rfl)
      rw [hce] at this
      exact List.isEmpty_iff.mp this.symm
    have hnone : ∀ k, ¬ Queued s k := by
      rintro k (hk | ⟨u, sc, h1, h2⟩)
      · rw [hq0] at hk; cases hk
      · have := h4.uniq u t (unl_of_scan h1) (by rw [heq]; rfl)
        subst this; rw [heq] at h1; cases h1
    refine ⟨fun k hk => absurd ((hQ k).1 hk) (hnone k), fun u o' _ k hk => absurd ((hQ k).1 hk) (hnone k), ?_⟩
    intro u k c hl
    rw [e.wr_none]
    by_cases hu : u = t
    · subst hu; rw [hpt, finPc_limboC] at hl; cases hl
    · rw [hoth u hu] at hl; exact h.h3 u k c hl

/-- The enqueue CAS of nsync_mu_wait sets MU_CONDITION when the waiter has a condition; the spinlock was free. -/
theorem Inv5.mwEnq {s : State} {t : Tid} {c : MW} {old : Word} {k : Wid} (h3 : Inv3 s) (h4 : Inv4 s) (h : Inv5 s)
    (heq : s.pc t = .mwEnqCas c old) (hcw : c.w = some k) (hw : s.word = old) :
    Inv5 (setPc (if c.first then enqLast { s with word := mwEnqWord c.cond.isSome old, sp := some t } k
                 else enqFirst { s with word := mwEnqWord c.cond.isSome old, sp := some t } k) t
           (.mwRelLd { c with hadW := old.waiting, first := false })) := by
  have hok3 := h3.ok3 t; rw [heq] at hok3
  have hnomt : ∀ u, (s.pc u).mtOld = none := no_mtOld_of_nospin h3 (by rw [hw]; exact hok3)
  have hkc : (s.wr k).cond = c.cond := h.h3 t k c.cond (by rw [heq]; simp [PC.limboC, hcw])
  have hown := h4.own t k (by rw [heq]; simp [PC.ws, hcw])
  split <;>
    exact h.restore (k := k) rfl (by intro y hy; simpa [enqLast, enqFirst, or_comm] using hy) (by simp)
      (h4.limbo t k (by rw [heq]; simp [PC.limbo, hcw])).2.1 (fun x _ => by simp [enqLast, enqFirst, cond_of_merge])
      (fun e => by simp [enqLast, enqFirst, mwEnqWord, ← hw, e])
      (fun _ hc => ⟨by
        have : c.cond.isSome = true := by
          rw [← hkc]; simpa [enqLast, enqFirst, cond_of_merge, Option.isSome_iff_ne_none] using hc
        simp [enqLast, enqFirst, mwEnqWord, this], fun u _ => hnomt u⟩)
      (fun u hu e => hu (h4.ws_owner hown e)) rfl rfl
      (fun k' c' hl => by
        simp only [PC.limboC, hcw, Option.map_some, Option.some.injEq, Prod.mk.injEq] at hl
        exact ⟨hl.1.symm, by rw [← hl.2, ← hkc]; simp [enqLast, enqFirst, cond_of_merge]⟩)

/-- The stores: queue insertion by lock_slow, the wake-up store, the reset of the record in nsync_mu_wait, the two
    stores of mu_try_acquire_after_timeout_or_cancel. -/
theorem Inv5.st {s s' : State} {t : Tid} (h4 : Inv4 s) (h : Inv5 s) (e : StEff s t s') : Inv5 s' := by
  cases e
  case lsNewLast c k heq hq hcw hown hwait _ | lsNewFirst c k heq hq hcw hown hwait _
     | lsOwnLast c k heq hq hcw hwait _ | lsOwnFirst c k heq hq hcw hwait _ =>
    -- the record queued has no condition; no other thread refers to it (it was free, or it is t's own)
    have hoth : ∀ u, u ≠ t → k ∉ (s.pc u).ws := by
      intro u hu e
      have := h4.own u k e
      first
      | (rw [hown] at this; cases this)
      | (rw [h4.own t k (by rw [heq]; simp [PC.ws, SL.ws, hcw])] at this; cases this; exact hu rfl)
    exact h.restore (k := k) rfl (by intro y hy; simpa [enqLast, enqFirst, or_comm] using hy) (by simp)
      (h4.not_queued hwait)
      (fun x hx => by simp [enqLast, enqFirst, cond_of_merge, setFn, hx]) (by simp [enqLast, enqFirst])
      (fun _ hc => absurd (by simp [enqLast, enqFirst, cond_of_merge, setFn]) hc) hoth rfl rfl (fun _ _ hl => nomatch hl)
  case wake r k rest heq =>
    exact h.frame rfl rfl (setFn_proj WRec.cond (by rfl)) id (by rw [heq]; rfl) (fun _ ho => nomatch ho) (fun _ _ hl => nomatch hl)
  case mwNew c k heq hq hcw hown hwait | mwOwn c k heq hq hcw hwait =>
    -- the record is on no list; no other thread refers to it
    have hoth : ∀ u, u ≠ t → k ∉ (s.pc u).ws := by
      intro u hu e
      have := h4.own u k e
      first
      | (rw [hown] at this; cases this)
      | (rw [h4.own t k (by rw [heq]; simp [PC.ws, hcw])] at this; cases this; exact hu rfl)
    refine h.restore (k := k) (s1 := { s with wr := setFn s.wr k _ }) rfl (fun y hy => Or.inr hy) rfl
      (h4.not_queued hwait) (fun x hx => by simp [setFn, hx]) id
      (fun e => absurd e hq) hoth rfl rfl ?_
    intro k' c' hl
    simp [PC.limboC, hcw] at hl
    exact ⟨hl.1.symm, by simp [setFn, hl.2]⟩
  case mtGone c old k heq hcw =>
    exact h.frame rfl rfl (setFn_proj WRec.cond (by rfl)) id (by rw [heq]; rfl) (fun _ ho => Or.inl (by rw [heq]; exact ho))
      (fun _ _ hl => nomatch hl)
  case mtKeep c old heq | mtGive c old heq =>
    -- the word stored is built from `old_word`
    have hq : ∀ x, Queued (setPc (addShare { s with word := mtRelWord (some c.l) old, sp := none, wOwner := none } t c.l) t
         (PC.mwLd255 { c with hl := true, outc := c.so })) x ↔ Queued s x :=
      fun x => queued_same (t := t) (by simp) (by intro u hu; simp [setFn, hu]) (by simp [heq, PC.scan?]) x
    have hq2 : ∀ x, Queued (setPc { s with word := mtRelWord none old, sp := none, wOwner := none } t (PC.mwLd255 c)) x ↔ Queued s x :=
      fun x => queued_same (t := t) (by simp) (by intro u hu; simp [setFn, hu]) (by simp [heq, PC.scan?]) x
    refine ⟨?_, ?_, ?_⟩
    · intro x hx hc
      first
      | (have := h.h2 t old (by rw [heq]; rfl) x ((hq x).1 hx) (by simpa using hc)
         simp [mtRelWord]; (repeat' split) <;> exact this)
      | (have := h.h2 t old (by rw [heq]; rfl) x ((hq2 x).1 hx) (by simpa using hc)
         simp [mtRelWord]; exact this)
    · intro u o' ho x hx hc
      by_cases hu : u = t
      · subst hu; simp [PC.mtOld] at ho
      · first
        | (exact h.h2 u o' (by simpa [setFn, hu] using ho) x ((hq x).1 hx) (by simpa using hc))
        | (exact h.h2 u o' (by simpa [setFn, hu] using ho) x ((hq2 x).1 hx) (by simpa using hc))
    · intro u k' c' hl
      by_cases hu : u = t
      · subst hu; simp [PC.limboC] at hl
      · have := h.h3 u k' c' (by simpa [setFn, hu] using hl)
        simpa using this


theorem Inv5.envEff {cfg : Cfg} {s s' : State} (h : Inv5 s) (e : EnvEff cfg s s') : Inv5 s' := by
  cases e with
  | post k => exact h.env (by simp) (fun x => by simp only [semPost]; exact setFn_proj WRec.cond (by rfl) x) (by simp) (by simp)
  | sem k n _ => exact h.env rfl (setFn_proj WRec.cond (by rfl)) rfl rfl
  | tick n _ => exact h.env rfl (fun _ => rfl) rfl rfl

theorem inv5_step {cfg : Cfg} {s s' : State} {e : Event} (h1 : Inv1 s) (h3 : Inv3 s) (h4 : Inv4 s) (h4' : Inv4 s') (h : Inv5 s)
    (hs : step cfg s e = .ok s') : Inv5 s' := by
  cases ht : e.tid with
  | none => exact h.envEff (step_env hs ht)
  | some t =>
    cases step_eff hs ht with
    | move hm => exact h.move hm
    | callQ h0 hh hm => exact h.move (h0 ▸ hm)
    | cas hc =>
      cases hc with
      | fail hm => exact h.move hm
      | plain hp ok => exact h.cas hp ok
      | scan hsc => obtain ⟨late, e⟩ := hsc.eff h1 h3 h4; exact h.scan h4' e
      | fin heq hw e => exact h.fin h4 heq hw e
      | mwEnq c old k heq hk hw => exact h.mwEnq h3 h4 heq hk hw
      | mtRm c old rc k heq hk => exact h.mtRm heq _
    | st e => exact h.st h4 e
    | ldRc c k obs heq hk => exact h.ldRc heq obs
    | ldDeq c old k heq hk hmem hrc => exact h.ldDeq heq k
    | ret hp e => exact h.ret hp e
    | call h0 hp e => exact h.call h0 hp e
    | scan hsc => obtain ⟨late, e⟩ := hsc.eff h1 h3 h4; exact h.scan h4' e
    | eval c cd heq hcd => exact h.eval heq _
    | sem hp e => exact h.sem hp e
    | dataW x v hh => exact h.env rfl (fun _ => rfl) rfl rfl
    | dataR => exact h

theorem inv5_init : Inv5 init := by
  refine ⟨?_, ?_, ?_⟩
  · intro k hk; simp [Queued, init, PC.scan?] at hk
  · intro t o ho; simp [init, PC.mtOld] at ho
  · intro t k c hl; simp [init, PC.limboC] at hl

end NsyncVerif.MuC
