/-
  Layer `Note`: tools for stating facts about the state reached by a concrete accepted trace.
-/
import NsyncVerif.Proofs.NoteTraces
import NsyncVerif.Proofs.NoteBasic

namespace Note

def stateAfter (evs : List Event) (h : (run init evs).toOption.isSome = true) : State :=
  (run init evs).toOption.get h

theorem ok_get (r : Except String State) (h : r.toOption.isSome = true) :
    r = .ok (r.toOption.get h) := by
  cases r with
  | ok s => rfl
  | error m => simp [Except.toOption] at h

theorem run_stateAfter (evs : List Event) (h : (run init evs).toOption.isSome = true) :
    run init evs = .ok (stateAfter evs h) := ok_get _ h

theorem reachable_stateAfter (evs : List Event) (h : (run init evs).toOption.isSome = true) :
    Reachable (stateAfter evs h) := ⟨evs, run_stateAfter evs h⟩

/-- A step that is accepted, given as a decidable check. -/
theorem step_of_isSome {s : State} {e : Event} (h : (step s e).toOption.isSome = true) :
    ∃ s', step s e = .ok s' := by
  cases hs : step s e with
  | ok s' => exact ⟨s', rfl⟩
  | error m => rw [hs] at h; simp [Except.toOption] at h

end Note
