import NsyncVerif.Proofs.MuCBasic
/-
  MuC: projections of the state-update helpers of the model (generated list; every lemma is `simp`).
-/
namespace NsyncVerif.MuC

macro "proj_tac" : tactic => `(tactic| first
  | rfl
  | (cases ‹Mode› <;> rfl)
  | (cases ‹Option Wid› <;> rfl)
  | (simp only [mergeLinks, removeLinks, setLnk, enqLast, enqFirst, dequeue, pickup, toFin, afterWakes, afterFin, mwLoop, setPc]
     <;> (repeat' split) <;> rfl))

@[simp] theorem setPc_word (s : State) (t : Tid) (p : PC) : (setPc s t p).word = s.word := by proj_tac
@[simp] theorem setPc_queue (s : State) (t : Tid) (p : PC) : (setPc s t p).queue = s.queue := by proj_tac
@[simp] theorem setPc_wr (s : State) (t : Tid) (p : PC) : (setPc s t p).wr = s.wr := by proj_tac
@[simp] theorem setPc_data (s : State) (t : Tid) (p : PC) : (setPc s t p).data = s.data := by proj_tac
@[simp] theorem setPc_cargs (s : State) (t : Tid) (p : PC) : (setPc s t p).cargs = s.cargs := by proj_tac
@[simp] theorem setPc_now (s : State) (t : Tid) (p : PC) : (setPc s t p).now = s.now := by proj_tac
@[simp] theorem setPc_held (s : State) (t : Tid) (p : PC) : (setPc s t p).held = s.held := by proj_tac
@[simp] theorem setPc_wOwner (s : State) (t : Tid) (p : PC) : (setPc s t p).wOwner = s.wOwner := by proj_tac
@[simp] theorem setPc_rOwners (s : State) (t : Tid) (p : PC) : (setPc s t p).rOwners = s.rOwners := by proj_tac
@[simp] theorem setPc_sp (s : State) (t : Tid) (p : PC) : (setPc s t p).sp = s.sp := by proj_tac
@[simp] theorem setPc_secStart (s : State) (t : Tid) (p : PC) : (setPc s t p).secStart = s.secStart := by proj_tac
@[simp] theorem setPc_nwViol (s : State) (t : Tid) (p : PC) : (setPc s t p).nwViol = s.nwViol := by proj_tac

@[simp] theorem addShare_word (s : State) (t : Tid) (l : Mode) : (addShare s t l).word = s.word := by proj_tac
@[simp] theorem addShare_queue (s : State) (t : Tid) (l : Mode) : (addShare s t l).queue = s.queue := by proj_tac
@[simp] theorem addShare_wr (s : State) (t : Tid) (l : Mode) : (addShare s t l).wr = s.wr := by proj_tac
@[simp] theorem addShare_pc (s : State) (t : Tid) (l : Mode) : (addShare s t l).pc = s.pc := by proj_tac
@[simp] theorem addShare_data (s : State) (t : Tid) (l : Mode) : (addShare s t l).data = s.data := by proj_tac
@[simp] theorem addShare_cargs (s : State) (t : Tid) (l : Mode) : (addShare s t l).cargs = s.cargs := by proj_tac
@[simp] theorem addShare_now (s : State) (t : Tid) (l : Mode) : (addShare s t l).now = s.now := by proj_tac
@[simp] theorem addShare_held (s : State) (t : Tid) (l : Mode) : (addShare s t l).held = s.held := by proj_tac
@[simp] theorem addShare_sp (s : State) (t : Tid) (l : Mode) : (addShare s t l).sp = s.sp := by proj_tac
@[simp] theorem addShare_secStart (s : State) (t : Tid) (l : Mode) : (addShare s t l).secStart = s.secStart := by proj_tac
@[simp] theorem addShare_nwViol (s : State) (t : Tid) (l : Mode) : (addShare s t l).nwViol = s.nwViol := by proj_tac

@[simp] theorem subShare_word (s : State) (t : Tid) (l : Mode) : (subShare s t l).word = s.word := by proj_tac
@[simp] theorem subShare_queue (s : State) (t : Tid) (l : Mode) : (subShare s t l).queue = s.queue := by proj_tac
@[simp] theorem subShare_wr (s : State) (t : Tid) (l : Mode) : (subShare s t l).wr = s.wr := by proj_tac
@[simp] theorem subShare_pc (s : State) (t : Tid) (l : Mode) : (subShare s t l).pc = s.pc := by proj_tac
@[simp] theorem subShare_data (s : State) (t : Tid) (l : Mode) : (subShare s t l).data = s.data := by proj_tac
@[simp] theorem subShare_cargs (s : State) (t : Tid) (l : Mode) : (subShare s t l).cargs = s.cargs := by proj_tac
@[simp] theorem subShare_now (s : State) (t : Tid) (l : Mode) : (subShare s t l).now = s.now := by proj_tac
@[simp] theorem subShare_held (s : State) (t : Tid) (l : Mode) : (subShare s t l).held = s.held := by proj_tac
@[simp] theorem subShare_sp (s : State) (t : Tid) (l : Mode) : (subShare s t l).sp = s.sp := by proj_tac
@[simp] theorem subShare_secStart (s : State) (t : Tid) (l : Mode) : (subShare s t l).secStart = s.secStart := by proj_tac
@[simp] theorem subShare_nwViol (s : State) (t : Tid) (l : Mode) : (subShare s t l).nwViol = s.nwViol := by proj_tac

@[simp] theorem semPost_word (cfg : Cfg) (s : State) (k : Wid) : (semPost cfg s k).word = s.word := by proj_tac
@[simp] theorem semPost_queue (cfg : Cfg) (s : State) (k : Wid) : (semPost cfg s k).queue = s.queue := by proj_tac
@[simp] theorem semPost_pc (cfg : Cfg) (s : State) (k : Wid) : (semPost cfg s k).pc = s.pc := by proj_tac
@[simp] theorem semPost_data (cfg : Cfg) (s : State) (k : Wid) : (semPost cfg s k).data = s.data := by proj_tac
@[simp] theorem semPost_cargs (cfg : Cfg) (s : State) (k : Wid) : (semPost cfg s k).cargs = s.cargs := by proj_tac
@[simp] theorem semPost_now (cfg : Cfg) (s : State) (k : Wid) : (semPost cfg s k).now = s.now := by proj_tac
@[simp] theorem semPost_held (cfg : Cfg) (s : State) (k : Wid) : (semPost cfg s k).held = s.held := by proj_tac
@[simp] theorem semPost_wOwner (cfg : Cfg) (s : State) (k : Wid) : (semPost cfg s k).wOwner = s.wOwner := by proj_tac
@[simp] theorem semPost_rOwners (cfg : Cfg) (s : State) (k : Wid) : (semPost cfg s k).rOwners = s.rOwners := by proj_tac
@[simp] theorem semPost_sp (cfg : Cfg) (s : State) (k : Wid) : (semPost cfg s k).sp = s.sp := by proj_tac
@[simp] theorem semPost_secStart (cfg : Cfg) (s : State) (k : Wid) : (semPost cfg s k).secStart = s.secStart := by proj_tac
@[simp] theorem semPost_nwViol (cfg : Cfg) (s : State) (k : Wid) : (semPost cfg s k).nwViol = s.nwViol := by proj_tac

@[simp] theorem setLnk_word (s : State) (k : Wid) (b : Bool) : (setLnk s k b).word = s.word := by proj_tac
@[simp] theorem setLnk_queue (s : State) (k : Wid) (b : Bool) : (setLnk s k b).queue = s.queue := by proj_tac
@[simp] theorem setLnk_pc (s : State) (k : Wid) (b : Bool) : (setLnk s k b).pc = s.pc := by proj_tac
@[simp] theorem setLnk_data (s : State) (k : Wid) (b : Bool) : (setLnk s k b).data = s.data := by proj_tac
@[simp] theorem setLnk_cargs (s : State) (k : Wid) (b : Bool) : (setLnk s k b).cargs = s.cargs := by proj_tac
@[simp] theorem setLnk_now (s : State) (k : Wid) (b : Bool) : (setLnk s k b).now = s.now := by proj_tac
@[simp] theorem setLnk_held (s : State) (k : Wid) (b : Bool) : (setLnk s k b).held = s.held := by proj_tac
@[simp] theorem setLnk_wOwner (s : State) (k : Wid) (b : Bool) : (setLnk s k b).wOwner = s.wOwner := by proj_tac
@[simp] theorem setLnk_rOwners (s : State) (k : Wid) (b : Bool) : (setLnk s k b).rOwners = s.rOwners := by proj_tac
@[simp] theorem setLnk_sp (s : State) (k : Wid) (b : Bool) : (setLnk s k b).sp = s.sp := by proj_tac
@[simp] theorem setLnk_secStart (s : State) (k : Wid) (b : Bool) : (setLnk s k b).secStart = s.secStart := by proj_tac
@[simp] theorem setLnk_nwViol (s : State) (k : Wid) (b : Bool) : (setLnk s k b).nwViol = s.nwViol := by proj_tac

@[simp] theorem mergeLinks_word (s : State) (p n : Option Wid) : (mergeLinks s p n).word = s.word := by proj_tac
@[simp] theorem mergeLinks_queue (s : State) (p n : Option Wid) : (mergeLinks s p n).queue = s.queue := by proj_tac
@[simp] theorem mergeLinks_pc (s : State) (p n : Option Wid) : (mergeLinks s p n).pc = s.pc := by proj_tac
@[simp] theorem mergeLinks_data (s : State) (p n : Option Wid) : (mergeLinks s p n).data = s.data := by proj_tac
@[simp] theorem mergeLinks_cargs (s : State) (p n : Option Wid) : (mergeLinks s p n).cargs = s.cargs := by proj_tac
@[simp] theorem mergeLinks_now (s : State) (p n : Option Wid) : (mergeLinks s p n).now = s.now := by proj_tac
@[simp] theorem mergeLinks_held (s : State) (p n : Option Wid) : (mergeLinks s p n).held = s.held := by proj_tac
@[simp] theorem mergeLinks_wOwner (s : State) (p n : Option Wid) : (mergeLinks s p n).wOwner = s.wOwner := by proj_tac
@[simp] theorem mergeLinks_rOwners (s : State) (p n : Option Wid) : (mergeLinks s p n).rOwners = s.rOwners := by proj_tac
@[simp] theorem mergeLinks_sp (s : State) (p n : Option Wid) : (mergeLinks s p n).sp = s.sp := by proj_tac
@[simp] theorem mergeLinks_secStart (s : State) (p n : Option Wid) : (mergeLinks s p n).secStart = s.secStart := by proj_tac
@[simp] theorem mergeLinks_nwViol (s : State) (p n : Option Wid) : (mergeLinks s p n).nwViol = s.nwViol := by proj_tac

@[simp] theorem removeLinks_word (s : State) (p : Option Wid) (k : Wid) (n : Option Wid) : (removeLinks s p k n).word = s.word := by proj_tac
@[simp] theorem removeLinks_queue (s : State) (p : Option Wid) (k : Wid) (n : Option Wid) : (removeLinks s p k n).queue = s.queue := by proj_tac
@[simp] theorem removeLinks_pc (s : State) (p : Option Wid) (k : Wid) (n : Option Wid) : (removeLinks s p k n).pc = s.pc := by proj_tac
@[simp] theorem removeLinks_data (s : State) (p : Option Wid) (k : Wid) (n : Option Wid) : (removeLinks s p k n).data = s.data := by proj_tac
@[simp] theorem removeLinks_cargs (s : State) (p : Option Wid) (k : Wid) (n : Option Wid) : (removeLinks s p k n).cargs = s.cargs := by proj_tac
@[simp] theorem removeLinks_now (s : State) (p : Option Wid) (k : Wid) (n : Option Wid) : (removeLinks s p k n).now = s.now := by proj_tac
@[simp] theorem removeLinks_held (s : State) (p : Option Wid) (k : Wid) (n : Option Wid) : (removeLinks s p k n).held = s.held := by proj_tac
@[simp] theorem removeLinks_wOwner (s : State) (p : Option Wid) (k : Wid) (n : Option Wid) : (removeLinks s p k n).wOwner = s.wOwner := by proj_tac
@[simp] theorem removeLinks_rOwners (s : State) (p : Option Wid) (k : Wid) (n : Option Wid) : (removeLinks s p k n).rOwners = s.rOwners := by proj_tac
@[simp] theorem removeLinks_sp (s : State) (p : Option Wid) (k : Wid) (n : Option Wid) : (removeLinks s p k n).sp = s.sp := by proj_tac
@[simp] theorem removeLinks_secStart (s : State) (p : Option Wid) (k : Wid) (n : Option Wid) : (removeLinks s p k n).secStart = s.secStart := by proj_tac
@[simp] theorem removeLinks_nwViol (s : State) (p : Option Wid) (k : Wid) (n : Option Wid) : (removeLinks s p k n).nwViol = s.nwViol := by proj_tac

@[simp] theorem dropW_word (s : State) (w : Option Wid) : (dropW s w).word = s.word := by proj_tac
@[simp] theorem dropW_queue (s : State) (w : Option Wid) : (dropW s w).queue = s.queue := by proj_tac
@[simp] theorem dropW_pc (s : State) (w : Option Wid) : (dropW s w).pc = s.pc := by proj_tac
@[simp] theorem dropW_data (s : State) (w : Option Wid) : (dropW s w).data = s.data := by proj_tac
@[simp] theorem dropW_cargs (s : State) (w : Option Wid) : (dropW s w).cargs = s.cargs := by proj_tac
@[simp] theorem dropW_now (s : State) (w : Option Wid) : (dropW s w).now = s.now := by proj_tac
@[simp] theorem dropW_held (s : State) (w : Option Wid) : (dropW s w).held = s.held := by proj_tac
@[simp] theorem dropW_wOwner (s : State) (w : Option Wid) : (dropW s w).wOwner = s.wOwner := by proj_tac
@[simp] theorem dropW_rOwners (s : State) (w : Option Wid) : (dropW s w).rOwners = s.rOwners := by proj_tac
@[simp] theorem dropW_sp (s : State) (w : Option Wid) : (dropW s w).sp = s.sp := by proj_tac
@[simp] theorem dropW_secStart (s : State) (w : Option Wid) : (dropW s w).secStart = s.secStart := by proj_tac
@[simp] theorem dropW_nwViol (s : State) (w : Option Wid) : (dropW s w).nwViol = s.nwViol := by proj_tac

@[simp] theorem setHeld_word (s : State) (t : Tid) (m : Option Mode) : (setHeld s t m).word = s.word := by proj_tac
@[simp] theorem setHeld_queue (s : State) (t : Tid) (m : Option Mode) : (setHeld s t m).queue = s.queue := by proj_tac
@[simp] theorem setHeld_wr (s : State) (t : Tid) (m : Option Mode) : (setHeld s t m).wr = s.wr := by proj_tac
@[simp] theorem setHeld_pc (s : State) (t : Tid) (m : Option Mode) : (setHeld s t m).pc = s.pc := by proj_tac
@[simp] theorem setHeld_data (s : State) (t : Tid) (m : Option Mode) : (setHeld s t m).data = s.data := by proj_tac
@[simp] theorem setHeld_cargs (s : State) (t : Tid) (m : Option Mode) : (setHeld s t m).cargs = s.cargs := by proj_tac
@[simp] theorem setHeld_now (s : State) (t : Tid) (m : Option Mode) : (setHeld s t m).now = s.now := by proj_tac
@[simp] theorem setHeld_wOwner (s : State) (t : Tid) (m : Option Mode) : (setHeld s t m).wOwner = s.wOwner := by proj_tac
@[simp] theorem setHeld_rOwners (s : State) (t : Tid) (m : Option Mode) : (setHeld s t m).rOwners = s.rOwners := by proj_tac
@[simp] theorem setHeld_sp (s : State) (t : Tid) (m : Option Mode) : (setHeld s t m).sp = s.sp := by proj_tac
@[simp] theorem setHeld_nwViol (s : State) (t : Tid) (m : Option Mode) : (setHeld s t m).nwViol = s.nwViol := by proj_tac

@[simp] theorem enqLast_word (s : State) (k : Wid) : (enqLast s k).word = s.word := by proj_tac
@[simp] theorem enqLast_pc (s : State) (k : Wid) : (enqLast s k).pc = s.pc := by proj_tac
@[simp] theorem enqLast_data (s : State) (k : Wid) : (enqLast s k).data = s.data := by proj_tac
@[simp] theorem enqLast_cargs (s : State) (k : Wid) : (enqLast s k).cargs = s.cargs := by proj_tac
@[simp] theorem enqLast_now (s : State) (k : Wid) : (enqLast s k).now = s.now := by proj_tac
@[simp] theorem enqLast_held (s : State) (k : Wid) : (enqLast s k).held = s.held := by proj_tac
@[simp] theorem enqLast_wOwner (s : State) (k : Wid) : (enqLast s k).wOwner = s.wOwner := by proj_tac
@[simp] theorem enqLast_rOwners (s : State) (k : Wid) : (enqLast s k).rOwners = s.rOwners := by proj_tac
@[simp] theorem enqLast_sp (s : State) (k : Wid) : (enqLast s k).sp = s.sp := by proj_tac
@[simp] theorem enqLast_secStart (s : State) (k : Wid) : (enqLast s k).secStart = s.secStart := by proj_tac
@[simp] theorem enqLast_nwViol (s : State) (k : Wid) : (enqLast s k).nwViol = s.nwViol := by proj_tac

@[simp] theorem enqFirst_word (s : State) (k : Wid) : (enqFirst s k).word = s.word := by proj_tac
@[simp] theorem enqFirst_pc (s : State) (k : Wid) : (enqFirst s k).pc = s.pc := by proj_tac
@[simp] theorem enqFirst_data (s : State) (k : Wid) : (enqFirst s k).data = s.data := by proj_tac
@[simp] theorem enqFirst_cargs (s : State) (k : Wid) : (enqFirst s k).cargs = s.cargs := by proj_tac
@[simp] theorem enqFirst_now (s : State) (k : Wid) : (enqFirst s k).now = s.now := by proj_tac
@[simp] theorem enqFirst_held (s : State) (k : Wid) : (enqFirst s k).held = s.held := by proj_tac
@[simp] theorem enqFirst_wOwner (s : State) (k : Wid) : (enqFirst s k).wOwner = s.wOwner := by proj_tac
@[simp] theorem enqFirst_rOwners (s : State) (k : Wid) : (enqFirst s k).rOwners = s.rOwners := by proj_tac
@[simp] theorem enqFirst_sp (s : State) (k : Wid) : (enqFirst s k).sp = s.sp := by proj_tac
@[simp] theorem enqFirst_secStart (s : State) (k : Wid) : (enqFirst s k).secStart = s.secStart := by proj_tac
@[simp] theorem enqFirst_nwViol (s : State) (k : Wid) : (enqFirst s k).nwViol = s.nwViol := by proj_tac

@[simp] theorem dequeue_word (s : State) (k : Wid) : (dequeue s k).word = s.word := by proj_tac
@[simp] theorem dequeue_pc (s : State) (k : Wid) : (dequeue s k).pc = s.pc := by proj_tac
@[simp] theorem dequeue_data (s : State) (k : Wid) : (dequeue s k).data = s.data := by proj_tac
@[simp] theorem dequeue_cargs (s : State) (k : Wid) : (dequeue s k).cargs = s.cargs := by proj_tac
@[simp] theorem dequeue_now (s : State) (k : Wid) : (dequeue s k).now = s.now := by proj_tac
@[simp] theorem dequeue_held (s : State) (k : Wid) : (dequeue s k).held = s.held := by proj_tac
@[simp] theorem dequeue_wOwner (s : State) (k : Wid) : (dequeue s k).wOwner = s.wOwner := by proj_tac
@[simp] theorem dequeue_rOwners (s : State) (k : Wid) : (dequeue s k).rOwners = s.rOwners := by proj_tac
@[simp] theorem dequeue_sp (s : State) (k : Wid) : (dequeue s k).sp = s.sp := by proj_tac
@[simp] theorem dequeue_secStart (s : State) (k : Wid) : (dequeue s k).secStart = s.secStart := by proj_tac
@[simp] theorem dequeue_nwViol (s : State) (k : Wid) : (dequeue s k).nwViol = s.nwViol := by proj_tac

@[simp] theorem pickup1_word (s : State) (sc : Scan) : ((pickup s sc).1).word = s.word := by proj_tac
@[simp] theorem pickup1_pc (s : State) (sc : Scan) : ((pickup s sc).1).pc = s.pc := by proj_tac
@[simp] theorem pickup1_data (s : State) (sc : Scan) : ((pickup s sc).1).data = s.data := by proj_tac
@[simp] theorem pickup1_cargs (s : State) (sc : Scan) : ((pickup s sc).1).cargs = s.cargs := by proj_tac
@[simp] theorem pickup1_now (s : State) (sc : Scan) : ((pickup s sc).1).now = s.now := by proj_tac
@[simp] theorem pickup1_held (s : State) (sc : Scan) : ((pickup s sc).1).held = s.held := by proj_tac
@[simp] theorem pickup1_wOwner (s : State) (sc : Scan) : ((pickup s sc).1).wOwner = s.wOwner := by proj_tac
@[simp] theorem pickup1_rOwners (s : State) (sc : Scan) : ((pickup s sc).1).rOwners = s.rOwners := by proj_tac
@[simp] theorem pickup1_sp (s : State) (sc : Scan) : ((pickup s sc).1).sp = s.sp := by proj_tac
@[simp] theorem pickup1_secStart (s : State) (sc : Scan) : ((pickup s sc).1).secStart = s.secStart := by proj_tac
@[simp] theorem pickup1_nwViol (s : State) (sc : Scan) : ((pickup s sc).1).nwViol = s.nwViol := by proj_tac

@[simp] theorem toFin_word (s : State) (t : Tid) (r : Ret) (sc : Scan) : (toFin s t r sc).word = s.word := by proj_tac
@[simp] theorem toFin_queue (s : State) (t : Tid) (r : Ret) (sc : Scan) : (toFin s t r sc).queue = s.queue := by proj_tac
@[simp] theorem toFin_wr (s : State) (t : Tid) (r : Ret) (sc : Scan) : (toFin s t r sc).wr = s.wr := by proj_tac
@[simp] theorem toFin_data (s : State) (t : Tid) (r : Ret) (sc : Scan) : (toFin s t r sc).data = s.data := by proj_tac
@[simp] theorem toFin_cargs (s : State) (t : Tid) (r : Ret) (sc : Scan) : (toFin s t r sc).cargs = s.cargs := by proj_tac
@[simp] theorem toFin_now (s : State) (t : Tid) (r : Ret) (sc : Scan) : (toFin s t r sc).now = s.now := by proj_tac
@[simp] theorem toFin_held (s : State) (t : Tid) (r : Ret) (sc : Scan) : (toFin s t r sc).held = s.held := by proj_tac
@[simp] theorem toFin_wOwner (s : State) (t : Tid) (r : Ret) (sc : Scan) : (toFin s t r sc).wOwner = s.wOwner := by proj_tac
@[simp] theorem toFin_rOwners (s : State) (t : Tid) (r : Ret) (sc : Scan) : (toFin s t r sc).rOwners = s.rOwners := by proj_tac
@[simp] theorem toFin_sp (s : State) (t : Tid) (r : Ret) (sc : Scan) : (toFin s t r sc).sp = s.sp := by proj_tac
@[simp] theorem toFin_secStart (s : State) (t : Tid) (r : Ret) (sc : Scan) : (toFin s t r sc).secStart = s.secStart := by proj_tac
@[simp] theorem toFin_nwViol (s : State) (t : Tid) (r : Ret) (sc : Scan) : (toFin s t r sc).nwViol = s.nwViol := by proj_tac

@[simp] theorem afterWakes_word (s : State) (t : Tid) (r : Ret) : (afterWakes s t r).word = s.word := by proj_tac
@[simp] theorem afterWakes_queue (s : State) (t : Tid) (r : Ret) : (afterWakes s t r).queue = s.queue := by proj_tac
@[simp] theorem afterWakes_wr (s : State) (t : Tid) (r : Ret) : (afterWakes s t r).wr = s.wr := by proj_tac
@[simp] theorem afterWakes_data (s : State) (t : Tid) (r : Ret) : (afterWakes s t r).data = s.data := by proj_tac
@[simp] theorem afterWakes_cargs (s : State) (t : Tid) (r : Ret) : (afterWakes s t r).cargs = s.cargs := by proj_tac
@[simp] theorem afterWakes_now (s : State) (t : Tid) (r : Ret) : (afterWakes s t r).now = s.now := by proj_tac
@[simp] theorem afterWakes_held (s : State) (t : Tid) (r : Ret) : (afterWakes s t r).held = s.held := by proj_tac
@[simp] theorem afterWakes_wOwner (s : State) (t : Tid) (r : Ret) : (afterWakes s t r).wOwner = s.wOwner := by proj_tac
@[simp] theorem afterWakes_rOwners (s : State) (t : Tid) (r : Ret) : (afterWakes s t r).rOwners = s.rOwners := by proj_tac
@[simp] theorem afterWakes_sp (s : State) (t : Tid) (r : Ret) : (afterWakes s t r).sp = s.sp := by proj_tac
@[simp] theorem afterWakes_secStart (s : State) (t : Tid) (r : Ret) : (afterWakes s t r).secStart = s.secStart := by proj_tac
@[simp] theorem afterWakes_nwViol (s : State) (t : Tid) (r : Ret) : (afterWakes s t r).nwViol = s.nwViol := by proj_tac

@[simp] theorem afterFin_word (s : State) (t : Tid) (r : Ret) (l : List Wid) : (afterFin s t r l).word = s.word := by proj_tac
@[simp] theorem afterFin_queue (s : State) (t : Tid) (r : Ret) (l : List Wid) : (afterFin s t r l).queue = s.queue := by proj_tac
@[simp] theorem afterFin_wr (s : State) (t : Tid) (r : Ret) (l : List Wid) : (afterFin s t r l).wr = s.wr := by proj_tac
@[simp] theorem afterFin_data (s : State) (t : Tid) (r : Ret) (l : List Wid) : (afterFin s t r l).data = s.data := by proj_tac
@[simp] theorem afterFin_cargs (s : State) (t : Tid) (r : Ret) (l : List Wid) : (afterFin s t r l).cargs = s.cargs := by proj_tac
@[simp] theorem afterFin_now (s : State) (t : Tid) (r : Ret) (l : List Wid) : (afterFin s t r l).now = s.now := by proj_tac
@[simp] theorem afterFin_held (s : State) (t : Tid) (r : Ret) (l : List Wid) : (afterFin s t r l).held = s.held := by proj_tac
@[simp] theorem afterFin_wOwner (s : State) (t : Tid) (r : Ret) (l : List Wid) : (afterFin s t r l).wOwner = s.wOwner := by proj_tac
@[simp] theorem afterFin_rOwners (s : State) (t : Tid) (r : Ret) (l : List Wid) : (afterFin s t r l).rOwners = s.rOwners := by proj_tac
@[simp] theorem afterFin_sp (s : State) (t : Tid) (r : Ret) (l : List Wid) : (afterFin s t r l).sp = s.sp := by proj_tac
@[simp] theorem afterFin_secStart (s : State) (t : Tid) (r : Ret) (l : List Wid) : (afterFin s t r l).secStart = s.secStart := by proj_tac
@[simp] theorem afterFin_nwViol (s : State) (t : Tid) (r : Ret) (l : List Wid) : (afterFin s t r l).nwViol = s.nwViol := by proj_tac

@[simp] theorem mwLoop_word (s : State) (t : Tid) (c : MW) (cit : Bool) : (mwLoop s t c cit).word = s.word := by proj_tac
@[simp] theorem mwLoop_queue (s : State) (t : Tid) (c : MW) (cit : Bool) : (mwLoop s t c cit).queue = s.queue := by proj_tac
@[simp] theorem mwLoop_wr (s : State) (t : Tid) (c : MW) (cit : Bool) : (mwLoop s t c cit).wr = s.wr := by proj_tac
@[simp] theorem mwLoop_data (s : State) (t : Tid) (c : MW) (cit : Bool) : (mwLoop s t c cit).data = s.data := by proj_tac
@[simp] theorem mwLoop_cargs (s : State) (t : Tid) (c : MW) (cit : Bool) : (mwLoop s t c cit).cargs = s.cargs := by proj_tac
@[simp] theorem mwLoop_now (s : State) (t : Tid) (c : MW) (cit : Bool) : (mwLoop s t c cit).now = s.now := by proj_tac
@[simp] theorem mwLoop_held (s : State) (t : Tid) (c : MW) (cit : Bool) : (mwLoop s t c cit).held = s.held := by proj_tac
@[simp] theorem mwLoop_wOwner (s : State) (t : Tid) (c : MW) (cit : Bool) : (mwLoop s t c cit).wOwner = s.wOwner := by proj_tac
@[simp] theorem mwLoop_rOwners (s : State) (t : Tid) (c : MW) (cit : Bool) : (mwLoop s t c cit).rOwners = s.rOwners := by proj_tac
@[simp] theorem mwLoop_sp (s : State) (t : Tid) (c : MW) (cit : Bool) : (mwLoop s t c cit).sp = s.sp := by proj_tac
@[simp] theorem mwLoop_secStart (s : State) (t : Tid) (c : MW) (cit : Bool) : (mwLoop s t c cit).secStart = s.secStart := by proj_tac
@[simp] theorem mwLoop_nwViol (s : State) (t : Tid) (c : MW) (cit : Bool) : (mwLoop s t c cit).nwViol = s.nwViol := by proj_tac

@[simp] theorem ite_word (c : Prop) [Decidable c] (a b : State) : (if c then a else b).word = if c then a.word else b.word := apply_ite _ _ _ _
@[simp] theorem ite_queue (c : Prop) [Decidable c] (a b : State) : (if c then a else b).queue = if c then a.queue else b.queue := apply_ite _ _ _ _
@[simp] theorem ite_wr (c : Prop) [Decidable c] (a b : State) : (if c then a else b).wr = if c then a.wr else b.wr := apply_ite _ _ _ _
@[simp] theorem ite_pc (c : Prop) [Decidable c] (a b : State) : (if c then a else b).pc = if c then a.pc else b.pc := apply_ite _ _ _ _
@[simp] theorem ite_data (c : Prop) [Decidable c] (a b : State) : (if c then a else b).data = if c then a.data else b.data := apply_ite _ _ _ _
@[simp] theorem ite_cargs (c : Prop) [Decidable c] (a b : State) : (if c then a else b).cargs = if c then a.cargs else b.cargs := apply_ite _ _ _ _
@[simp] theorem ite_now (c : Prop) [Decidable c] (a b : State) : (if c then a else b).now = if c then a.now else b.now := apply_ite _ _ _ _
@[simp] theorem ite_held (c : Prop) [Decidable c] (a b : State) : (if c then a else b).held = if c then a.held else b.held := apply_ite _ _ _ _
@[simp] theorem ite_wOwner (c : Prop) [Decidable c] (a b : State) : (if c then a else b).wOwner = if c then a.wOwner else b.wOwner := apply_ite _ _ _ _
@[simp] theorem ite_rOwners (c : Prop) [Decidable c] (a b : State) : (if c then a else b).rOwners = if c then a.rOwners else b.rOwners := apply_ite _ _ _ _
@[simp] theorem ite_sp (c : Prop) [Decidable c] (a b : State) : (if c then a else b).sp = if c then a.sp else b.sp := apply_ite _ _ _ _
@[simp] theorem ite_secStart (c : Prop) [Decidable c] (a b : State) : (if c then a else b).secStart = if c then a.secStart else b.secStart := apply_ite _ _ _ _
@[simp] theorem ite_nwViol (c : Prop) [Decidable c] (a b : State) : (if c then a else b).nwViol = if c then a.nwViol else b.nwViol := apply_ite _ _ _ _

/-! what `setFn` and `dropW` keep of a record -/

/-- A projection of the values that the new value shares with the old one is unchanged. -/
theorem setFn_proj {α β : Type} (g : α → β) {f : Nat → α} {k : Nat} {v : α} (hv : g v = g (f k)) (x : Nat) :
    g (setFn f k v x) = g (f x) := by
  rw [setFn_apply]; split
  · subst_vars; exact hv
  · rfl

/-- Releasing a record changes its `owner` only. -/
theorem dropW_wr_eq (s : State) (w : Option Wid) (x : Wid) : ∃ o, (dropW s w).wr x = { s.wr x with owner := o } := by
  cases w with
  | none => exact ⟨_, rfl⟩
  | some k =>
    show ∃ o, setFn s.wr k _ x = _
    rw [setFn_apply]; split
    · subst_vars; exact ⟨_, rfl⟩
    · exact ⟨_, rfl⟩

end NsyncVerif.MuC
