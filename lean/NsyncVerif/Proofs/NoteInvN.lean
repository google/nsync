/-
  Layer `Note`, invariant family N: what the program counters know about notes being notified
  (results of `nsync_note_notified_deadline_`, postcondition of `notify`, observations): the claim
  `NClaim` of each program counter, the claim of the acting thread after its step, preservation.
-/
import NsyncVerif.Proofs.NoteInvA


namespace Note

/-- Notified (flag or zero expiry) and allocated. -/
def NA (s : State) (n : NoteId) : Prop := s.Notified n ∧ (s.notes n).allocated = true

/-- The minimum with a zero deadline is zero. -/
theorem Dl.min_zero_left (b : Dl) : Dl.min (some 0) b = some 0 := by
  cases b <;> simp [Dl.min, Dl.lt]

/-- `NOTIFIED_TIME` of a notified note is zero. -/
theorem ntime_of_notified {s : State} {n : NoteId} (h : s.Notified n) :
    ¬ (s.notes n).ntime.pos := by
  unfold State.Notified at h
  unfold NoteRec.ntime Dl.pos
  rcases h with h | h
  · simp [h]
  · split <;> simp [h]

theorem notified_of_ntime {s : State} {n : NoteId} (h : ¬ (s.notes n).ntime.pos) :
    s.Notified n := by
  unfold NoteRec.ntime Dl.pos at h
  unfold State.Notified
  by_cases hf : (s.notes n).notified = true
  · left; exact hf
  · right; simpa [hf] using h

/-- Claim of a continuation of `nsync_note_notified_deadline_ (n)`: an observation that started
    after a positive observation of `n` works on a notified note. -/
def DKN (s : State) (t : Tid) (n : NoteId) (dk : DK) : Prop :=
  (s.after t = true → dk.isObs = true → NA s n) ∧
  (∀ par dl, dk = .newSelf par dl → (s.notes n).expiry = dl)

def NKN (s : State) (t : Tid) (n : NoteId) : NK → Prop
  | .ofApi => True
  | .ofDeadline dk => DKN s t n dk

@[simp] def DPos.late : DPos → Bool
  | .unlockCall | .unlockRet | .now => true
  | _ => false

@[simp] def NPos.done : NPos → Bool
  | .unlockPCall | .unlockPRet | .unlockCall | .unlockRet => true
  | _ => false

@[simp] def NewPos.early : NewPos → Bool
  | .lockCall | .lockRet | .ld => true
  | _ => false

/-- The child a position of `note_notify_child` is about to lock. -/
def CPos.pending : CPos → Option NoteId
  | .lockChildRet c => some c
  | _ => none

/-- The activations of `note_notify_child`: the outermost one is for `n`; every activation but the
    innermost has stored its flag, the innermost has if its position says so. -/
def StkN (s : State) (pos : CPos) (stk : List Frame) (n : NoteId) : Prop :=
  match stk with
  | [] => False
  | f :: rest =>
    (f :: rest).getLast?.map Frame.note = some n ∧ (∀ g ∈ rest, NA s g.note) ∧
    (s.notes f.note).allocated = true ∧ (pos.stored = true → s.Notified f.note) ∧
    (∀ c, pos.pending = some c → (s.notes c).allocated = true)

/-- What a program counter knows (family N). -/
def NClaim (s : State) (t : Tid) : PC → Prop
  | .dl pos n nt dk =>
    (s.notes n).allocated = true ∧ DKN s t n dk ∧
    (pos.late = true → (¬ nt.pos → s.Notified n) ∧
      (nt.pos → dk.isNew = true → (s.notes n).expiry ≠ some 0) ∧
      (s.after t = true → dk.isObs = true → ¬ nt.pos))
  | .nfy pos n _ nk =>
    (s.notes n).allocated = true ∧ NKN s t n nk ∧ (pos.done = true → s.Notified n)
  | .chd pos stk top =>
    (s.notes top.n).allocated = true ∧ NKN s t top.n top.k ∧ StkN s pos stk top.n
  | .newP pos n p _ => (s.notes n).allocated = true ∧ (pos = .st → NA s p)
  | .retIs n b => (b = true → NA s n) ∧ (s.after t = true → b = true)
  | .retNotify n => NA s n
  | .wt0 p n _ =>
    (s.notes n).allocated = true ∧ (s.after t = true → s.Notified n) ∧
    (match p with
     | .nret rd | .ret rd => (rd = 0 → s.Notified n) ∧ (s.after t = true → rd = 0)
     | _ => True)
  | .wt p n _ _ =>
    (s.notes n).allocated = true ∧ (s.after t = true → s.Notified n) ∧
    (match p with
     | .qSt => s.after t = false
     | .qUnlockCall q | .qUnlockRet q => (q = false → s.Notified n) ∧ (s.after t = true → q = false)
     | _ => True)
  | _ => True

/-- Two states agree on everything `NClaim` looks at. -/
structure SameN (s s' : State) (t : Tid) : Prop where
  alloc : ∀ n, (s'.notes n).allocated = (s.notes n).allocated
  flag : ∀ n, (s'.notes n).notified = (s.notes n).notified
  expiry : ∀ n, (s'.notes n).expiry = (s.notes n).expiry
  after : s'.after t = s.after t

theorem SameN.notified {s s' : State} {t : Tid} (h : SameN s s' t) (n : NoteId) :
    s'.Notified n ↔ s.Notified n := by
  unfold State.Notified; rw [h.flag, h.expiry]

theorem SameN.na {s s' : State} {t : Tid} (h : SameN s s' t) (n : NoteId) : NA s' n ↔ NA s n := by
  unfold NA; rw [h.notified, h.alloc]

/-- The claim survives a change of state that keeps notes allocated and notified, keeps the ghost
    `after` of the thread, and keeps the expiry time of the note the program counter is creating. -/
theorem NClaim.weaken {s s' : State} {t : Tid} {pc : PC}
    (hal : ∀ n, (s.notes n).allocated = true → (s'.notes n).allocated = true)
    (hna : ∀ n, NA s n → NA s' n) (haf : s'.after t = s.after t)
    (hex : ∀ n, pc.creating = some n → (s'.notes n).expiry = (s.notes n).expiry)
    (hc : NClaim s t pc) : NClaim s' t pc := by
  have hnt : ∀ n, (s.notes n).allocated = true → s.Notified n → s'.Notified n :=
    fun n h1 h2 => (hna n ⟨h2, h1⟩).1
  cases pc with
  | dl pos n nt dk =>
    obtain ⟨h1, h2, h3⟩ := hc
    refine ⟨hal n h1, ?_, ?_⟩
    · refine ⟨fun ha hb => ?_, fun par dl e => ?_⟩
      · rw [haf] at ha; exact hna n (h2.1 ha hb)
      · rw [hex n (by simp [e])]; exact h2.2 par dl e
    · intro hl
      obtain ⟨h4, h5, h6⟩ := h3 hl
      refine ⟨fun hp => hnt n h1 (h4 hp), ?_, ?_⟩
      · intro hp hnew
        rw [hex n (by simp [hnew])]; exact h5 hp hnew
      · intro ha hb; rw [haf] at ha; exact h6 ha hb
  | nfy pos n par nk =>
    obtain ⟨h1, h2, h3⟩ := hc
    refine ⟨hal n h1, ?_, fun hd => hnt n h1 (h3 hd)⟩
    cases nk with
    | ofApi => trivial
    | ofDeadline dk =>
      refine ⟨fun ha hb => ?_, fun par dl e => ?_⟩
      · rw [haf] at ha; exact hna n (h2.1 ha hb)
      · rw [hex n (by simp [e])]; exact h2.2 par dl e
  | chd pos stk top =>
    obtain ⟨h1, h2, h3⟩ := hc
    refine ⟨hal _ h1, ?_, ?_⟩
    · cases hk : top.k with
      | ofApi => trivial
      | ofDeadline dk =>
        rw [hk] at h2
        refine ⟨fun ha hb => ?_, fun par dl e => ?_⟩
        · rw [haf] at ha; exact hna _ (h2.1 ha hb)
        · rw [hex top.n (by simp [hk, e])]; exact h2.2 par dl e
    · cases stk with
      | nil => exact h3
      | cons f rest =>
        obtain ⟨h4, h5, h6, h7, h8⟩ := h3
        exact ⟨h4, fun g hg => hna _ (h5 g hg), hal _ h6, fun hp => hnt _ h6 (h7 hp),
          fun c hc' => hal _ (h8 c hc')⟩
  | newP pos n p dl =>
    exact ⟨hal n hc.1, fun hp => hna p (hc.2 hp)⟩
  | retIs n b =>
    exact ⟨fun hb => hna n (hc.1 hb), fun ha => hc.2 (haf ▸ ha)⟩
  | retNotify n => exact hna n hc
  | wt0 p n wdl =>
    obtain ⟨h1, h2, h3⟩ := hc
    refine ⟨hal n h1, fun ha => hnt n h1 (h2 (haf ▸ ha)), ?_⟩
    cases p with
    | nret rd => exact ⟨fun h0 => hnt n h1 (h3.1 h0), fun ha => h3.2 (haf ▸ ha)⟩
    | ret rd => exact ⟨fun h0 => hnt n h1 (h3.1 h0), fun ha => h3.2 (haf ▸ ha)⟩
    | _ => trivial
  | wt p n wdl r =>
    obtain ⟨h1, h2, h3⟩ := hc
    refine ⟨hal n h1, fun ha => hnt n h1 (h2 (haf ▸ ha)), ?_⟩
    cases p with
    | qSt => simpa [NClaim, haf] using h3
    | qUnlockCall q => exact ⟨fun h0 => hnt n h1 (h3.1 h0), fun ha => h3.2 (haf ▸ ha)⟩
    | qUnlockRet q => exact ⟨fun h0 => hnt n h1 (h3.1 h0), fun ha => h3.2 (haf ▸ ha)⟩
    | _ => trivial
  | _ => trivial

/-- `s'` differs from `s` (as far as `NClaim` is concerned) only by flags that got set. -/
structure LeN (s s' : State) (t : Tid) : Prop where
  alloc : ∀ n, (s'.notes n).allocated = (s.notes n).allocated
  flag : ∀ n, (s.notes n).notified = true → (s'.notes n).notified = true
  expiry : ∀ n, (s'.notes n).expiry = (s.notes n).expiry
  after : s'.after t = s.after t

theorem LeN.notified {s s' : State} {t : Tid} (h : LeN s s' t) {n : NoteId}
    (hn : s.Notified n) : s'.Notified n := by
  unfold State.Notified at *
  rcases hn with hn | hn
  · left; exact h.flag n hn
  · right; rw [h.expiry]; exact hn

theorem LeN.na {s s' : State} {t : Tid} (h : LeN s s' t) {n : NoteId} (hn : NA s n) : NA s' n :=
  ⟨h.notified hn.1, by rw [h.alloc]; exact hn.2⟩

theorem NClaim.mono {s s' : State} {t : Tid} (h : LeN s s' t) {pc : PC} (hc : NClaim s t pc) :
    NClaim s' t pc :=
  NClaim.weaken (fun n hn => by rw [h.alloc]; exact hn) (fun _ => h.na) h.after
    (fun n _ => h.expiry n) hc

theorem NClaim.of_same {s s' : State} {t : Tid} (h : SameN s s' t) {pc : PC}
    (hc : NClaim s t pc) : NClaim s' t pc :=
  NClaim.weaken (fun n hn => by rw [h.alloc]; exact hn) (fun n => (h.na n).mpr) h.after
    (fun n _ => h.expiry n) hc

/-- The claim at the return of `nsync_note_notified_deadline_`. -/
theorem NClaim.afterDeadlinePc {s : State} {t : Tid} {n : NoteId} {nt : Dl} {dk : DK}
    (h1 : (s.notes n).allocated = true) (h2 : DKN s t n dk) (h4 : ¬ nt.pos → s.Notified n)
    (h6 : s.after t = true → dk.isObs = true → ¬ nt.pos) :
    NClaim s t (afterDeadlinePc n nt dk) := by
  cases dk with
  | isNotified =>
    simp only [Note.afterDeadlinePc, NClaim]
    exact ⟨fun hb => ⟨h4 (by simpa using hb), h1⟩, fun ha => by simpa using h6 ha rfl⟩
  | notifyApi =>
    simp only [Note.afterDeadlinePc]
    split
    · exact ⟨h1, trivial, by simp⟩
    · next hp => exact ⟨h4 hp, h1⟩
  | newSelf par dl =>
    simp only [Note.afterDeadlinePc]
    split
    · next hp =>
      cases par with
      | none => trivial
      | some p => exact ⟨h1, fun hp => by cases hp⟩
    · trivial
  | ready1 wdl =>
    simp only [Note.afterDeadlinePc]
    split
    · exact ⟨h1, fun ha => (h2.1 ha rfl).1, trivial⟩
    · refine ⟨h1, fun ha => (h2.1 ha rfl).1, ?_, ?_⟩
      · intro h0; apply h4; intro hp; simp [hp] at h0
      · intro ha; have := h6 ha rfl; simp [this]
  | ready2 r wdl =>
    simp only [Note.afterDeadlinePc]
    split
    · exact ⟨h1, fun ha => (h2.1 ha rfl).1, trivial⟩
    · exact ⟨h1, ⟨fun ha _ => h2.1 ha rfl, fun _ _ e => by cases e⟩, by simp⟩
  | dequeue r wdl => exact ⟨h1, fun ha => (h2.1 ha rfl).1, trivial⟩

/-- The same claim in the state after `afterDeadline` (which settles the expiry time of a note
    being created under a parent). -/
theorem NClaim.afterDeadline {s : State} {t : Tid} {n : NoteId} {nt : Dl} {dk : DK}
    (h1 : (s.notes n).allocated = true) (h2 : DKN s t n dk) (h4 : ¬ nt.pos → s.Notified n)
    (h6 : s.after t = true → dk.isObs = true → ¬ nt.pos) :
    NClaim (Note.afterDeadline s t n nt dk) t (Note.afterDeadlinePc n nt dk) := by
  by_cases hk : ∃ p dl, dk = .newSelf (some p) dl
  · obtain ⟨p, dl, rfl⟩ := hk
    simp only [Note.afterDeadlinePc]
    split
    · exact ⟨by simpa using h1, fun hp => by cases hp⟩
    · trivial
  · have hn : (Note.afterDeadline s t n nt dk).notes = s.notes :=
      afterDeadline_notes_of s t n nt (fun p dl e => hk ⟨p, dl, e⟩)
    exact NClaim.of_same (s := s) ⟨fun _ => by rw [hn], fun _ => by rw [hn], fun _ => by rw [hn],
      by simp⟩ (NClaim.afterDeadlinePc h1 h2 h4 h6)

theorem NClaim.afterDeadline_zero {s : State} {t : Tid} {n : NoteId} {dk : DK}
    (h1 : (s.notes n).allocated = true) (h2 : DKN s t n dk) (h3 : s.Notified n) :
    NClaim (Note.afterDeadline s t n (some 0) dk) t (Note.afterDeadlinePc n (some 0) dk) :=
  NClaim.afterDeadline h1 h2 (fun _ => h3) (fun _ _ hp => absurd rfl hp)

/-- … when the first load saw the flag set. -/
theorem NClaim.afterDeadlinePc_zero {s : State} {t : Tid} {n : NoteId} {dk : DK}
    (h1 : (s.notes n).allocated = true) (h2 : DKN s t n dk) (h3 : s.Notified n) :
    NClaim s t (Note.afterDeadlinePc n (some 0) dk) :=
  NClaim.afterDeadlinePc h1 h2 (fun _ => h3) (fun _ _ hp => absurd rfl hp)

/-- The claim at the return of `notify`. -/
theorem NClaim.afterNotifyPc {s : State} {t : Tid} {n : NoteId} {nk : NK}
    (h1 : (s.notes n).allocated = true) (h2 : NKN s t n nk) (h3 : s.Notified n) :
    NClaim s t (afterNotifyPc n nk) := by
  cases nk with
  | ofApi => exact ⟨h3, h1⟩
  | ofDeadline dk =>
    exact NClaim.afterDeadlinePc h1 h2 (fun _ => h3) (fun _ _ hp => absurd rfl hp)

/-- After the flag is stored the innermost activation only moves between positions that keep the
    stack and have no pending child. -/
theorem NClaim.chdStored {s : State} {t : Tid} {pos pos' : CPos} {f f' : Frame} {rest : List Frame}
    {top : Top} (hc : NClaim s t (.chd pos (f :: rest) top)) (hn : s.Notified f.note)
    (hf : f'.note = f.note) (hp : pos'.pending = none) :
    NClaim s t (.chd pos' (f' :: rest) top) := by
  obtain ⟨h1, h2, h4, h5, h6, _, _⟩ := hc
  refine ⟨h1, h2, ?_, h5, hf ▸ h6, fun _ => hf ▸ hn, by simp [hp]⟩
  cases rest with
  | nil => simpa [hf] using h4
  | cons g gs => simpa [List.getLast?_cons_cons] using h4

/-- The outermost activation returns to `notify`. -/
theorem NClaim.retTop {s : State} {t : Tid} {pos : CPos} {f : Frame} {top : Top} {pos' : NPos}
    {par : Option NoteId} (hc : NClaim s t (.chd pos [f] top)) (hn : s.Notified f.note) :
    NClaim s t (.nfy pos' top.n par top.k) := by
  obtain ⟨h1, h2, h4, -⟩ := hc
  have hf : f.note = top.n := by simpa using h4
  exact ⟨h1, h2, fun _ => hf ▸ hn⟩

/-- An inner activation returns to the loop of the enclosing one. -/
theorem NClaim.retIn {s : State} {t : Tid} {pos : CPos} {f g : Frame} {gs : List Frame} {top : Top}
    (hc : NClaim s t (.chd pos (f :: g :: gs) top)) :
    NClaim s t (.chd (.unlockChild f.note) (g :: gs) top) := by
  obtain ⟨h1, h2, h4, h5, h6, _, _⟩ := hc
  refine ⟨h1, h2, ?_, fun x hx => h5 x (List.mem_cons_of_mem _ hx), (h5 g (by simp)).2,
    fun _ => (h5 g (by simp)).1, by simp [CPos.pending]⟩
  simpa [List.getLast?_cons_cons] using h4

/-- A child has been locked and is not disconnecting: a new activation. -/
theorem NClaim.push {s : State} {t : Tid} {c : NoteId} {stk : List Frame} {top : Top}
    (hc : NClaim s t (.chd (.lockChildRet c) stk top)) :
    NClaim s t (.chd .ld (⟨c, none⟩ :: stk) top) := by
  cases stk with
  | nil => exact absurd hc.2.2 (by simp [StkN])
  | cons f rest =>
    obtain ⟨h1, h2, h4, h5, h6, h7, h8⟩ := hc
    refine ⟨h1, h2, ?_, ?_, h8 _ rfl, by simp, by simp [CPos.pending]⟩
    · simpa [List.getLast?_cons_cons] using h4
    · intro g hg
      rcases List.mem_cons.mp hg with hg | hg
      · subst hg; exact ⟨h7 rfl, h6⟩
      · exact h5 g hg

/-- A child has been locked but is disconnecting: skip it. -/
theorem NClaim.skip {s : State} {t : Tid} {c : NoteId} {stk : List Frame} {top : Top}
    (hc : NClaim s t (.chd (.lockChildRet c) stk top)) :
    NClaim s t (.chd (.unlockChild c) stk top) := by
  cases stk with
  | nil => exact absurd hc.2.2 (by simp [StkN])
  | cons f rest => exact NClaim.chdStored hc (hc.2.2.2.2.2.1 rfl) rfl rfl

/-- The store of the flag, landing at a position of the same activation without a pending child. -/
theorem NClaim.storeAt {s : State} {t : Tid} {f f' : Frame} {rest : List Frame} {top : Top}
    {pos' : CPos} (hc : NClaim s t (.chd .st (f :: rest) top)) (hf : f'.note = f.note)
    (hp : pos'.pending = none) :
    NClaim (childWakeNext (s.setNotified f.note) t f rest top) t (.chd pos' (f' :: rest) top) := by
  have hle : LeN s (s.setNotified f.note) t := ⟨by simp, by
    intro n hn; simp only [setNotified_f_notified]; split <;> simp [hn], by simp, by simp⟩
  refine NClaim.of_same (s := s.setNotified f.note) ?_
    (NClaim.chdStored (NClaim.mono hle hc) (Or.inl (by simp)) hf hp)
  refine ⟨fun _ => ?_, fun _ => ?_, fun _ => ?_, ?_⟩ <;> simp

/-- `malloc` returned the note. -/
theorem NClaim.malloc (s : State) (t : Tid) (k : NoteId) (par : Option NoteId) (dl : Dl) :
    NClaim ((s.allocNote k par dl).setPc t (.dl .ld1 k none (.newSelf par dl))) t
      (.dl .ld1 k none (.newSelf par dl)) := by
  refine ⟨by simp, ⟨fun _ hb => absurd hb (by simp), ?_⟩, by simp⟩
  intro par' dl' e
  cases e
  simp

structure InvN (s : State) : Prop where
  claim : ∀ t, NClaim s t (s.pc t)
  /-- a positive observation was of a notified note -/
  obs : ∀ o ∈ s.observed, o.res = true → NA s o.n
  /-- an observation that started after a positive one is positive -/
  mono : ∀ o ∈ s.observed, o.after = true → o.res = true
  born : ∀ n, s.bornNotified n = true → NA s n

theorem InvN.seenPos {s : State} (h : InvN s) {n : NoteId} (hp : s.seenPos n = true) : NA s n := by
  unfold State.seenPos at hp
  rw [List.any_eq_true] at hp
  obtain ⟨o, ho, hd⟩ := hp
  simp only [decide_eq_true_eq] at hd
  exact hd.1 ▸ h.obs o ho hd.2

theorem InvN.init : InvN Note.init := by
  refine ⟨?_, ?_, ?_, ?_⟩ <;> simp [Note.init, NClaim]

/-- `after` is a thread-local ghost. -/
theorem Own.after_other {s s' : State} {e : Event} {t : Tid} {pc pc' : PC}
    (h : Own s t pc e pc' s') {u : Tid} (hu : u ≠ t) : s'.after u = s.after u := by
  cases h
  all_goals (try rfl)
  all_goals (try (simp [upd_apply, hu]; done))
  all_goals (repeat' split)

theorem step_after_other {s s' : State} {e : Event} (hs : step s e = .ok s') (u : Tid)
    (hu : e.actor ≠ some u) : s'.after u = s.after u := by
  rcases step_own hs with ⟨t, _, _, ha, -, -, h⟩ | ⟨_, rfl, _, rfl⟩ | ⟨rfl, rfl⟩
  · exact h.after_other fun hut => hu (hut ▸ ha)
  · rfl
  · rfl

/-- Being notified (and allocated) is stable. -/
theorem NA.step {s s' : State} {e : Event} (hN : InvN s) (hs : step s e = .ok s')
    {n : NoteId} (h : NA s n) : NA s' n := by
  have hst := step_stable hs
  refine ⟨?_, hst.alloc n h.2⟩
  rcases h.1 with hf | he
  · left; exact hst.flag n h.2 hf
  · rcases step_expiry hs n h.2 with h1 | ⟨a, p, dl, _, _, hpc, hexp⟩
    · right; rw [h1]; exact he
    · right
      have hc := hN.claim a
      have hdl : (s.notes n).expiry = dl := by
        rcases hpc with ⟨pos, nt, hpc⟩ | ⟨pos, par, hpc⟩
        · rw [hpc] at hc; exact hc.2.1.2 _ _ rfl
        · rw [hpc] at hc; exact hc.2.1.2 _ _ rfl
      rw [hexp, ← hdl, he]
      exact Dl.min_zero_left _

/-- The expiry time of the note a thread is creating is not changed by other threads. -/
theorem expiry_other {s s' : State} {e : Event} (hA : InvA s) (hs : step s e = .ok s')
    {t : Tid} {n : NoteId} (hc : (s.pc t).creating = some n) (ht : e.actor ≠ some t) :
    (s'.notes n).expiry = (s.notes n).expiry := by
  rcases step_expiry hs n (hA.creating t n hc).1 with h1 | ⟨a, p, dl, ha, hcr, _, _⟩
  · exact h1
  · have := hA.unique t a n hc hcr
    subst this
    exact absurd ha ht

theorem NClaim.other {s s' : State} {e : Event} (hA : InvA s) (hN : InvN s)
    (hs : step s e = .ok s') (t : Tid) (ht : e.actor ≠ some t) : NClaim s' t (s.pc t) :=
  NClaim.weaken (step_stable hs).alloc (fun _ h => NA.step hN hs h) (step_after_other hs t ht)
    (fun _ hcr => expiry_other hA hs hcr ht) (hN.claim t)

/-! ## The claim of the acting thread after its step -/

/-- Prove `SameN s s' t` for an `s'` built from primitives that touch neither `allocated`,
    `notified`, `expiry` nor `after`. -/
macro "same_tac" : tactic => `(tactic| (
  refine ⟨fun _ => ?_, fun _ => ?_, fun _ => ?_, ?_⟩ <;> simp))

theorem NClaim.own {s s' : State} {e : Event} {a : Tid} {pc pc' : PC} (hN : InvN s)
    (h : Own s a pc e pc' s') (hc : NClaim s a pc) : NClaim s' a pc' := by
  cases h
  all_goals (try (refine NClaim.of_same (s := s) ?_ ?_; (· same_tac)))
  case unlockRet_nfy_unlockRet_api => exact ⟨hc.2.2 rfl, hc.1⟩
  case unlockRet_nfy_unlockRet_dl => exact NClaim.afterDeadline_zero hc.1 hc.2.1 (hc.2.2 rfl)
  case ld_dl_ld1_1 => exact NClaim.afterDeadline_zero hc.1 hc.2.1 (Or.inl (by assumption))
  case unlockRet_dl_unlockRet_2 | now_dl_now_2 =>
    obtain ⟨h1, h2, h3⟩ := hc
    obtain ⟨h4, -, h6⟩ := h3 rfl
    exact NClaim.afterDeadline h1 h2 h4 h6
  case ld_chd_ld_2_in | waitRet_chd_waitRet_1_in => exact NClaim.retIn hc
  case ld_chd_ld_2_par | ld_chd_ld_2_top => exact NClaim.retTop hc (notified_of_ntime ‹_›)
  case waitRet_chd_waitRet_1_par | waitRet_chd_waitRet_1_top =>
    exact NClaim.retTop hc (hc.2.2.2.2.2.1 rfl)
  case stW_chd_wake | unlockRet_chd_unlockChildRet_1 | unlockRet_chd_unlockChildRet_2
      | waitCall_chd_waitCall_1 | waitCall_chd_waitCall_2 | semV_chd_semV_wake | semV_chd_semV_none
      | semV_chd_semV_child | waitRet_chd_waitRet_2 =>
    exact NClaim.chdStored hc (hc.2.2.2.2.2.1 rfl) rfl rfl
  case unlockRet_wt_eUnlockRet | waitnCall_wt0_ncall | pdRet_wt_pdRet_1 | pdRet_wt_pdRet_2 =>
    exact ⟨hc.1, ⟨fun ha _ => ⟨hc.2.1 ha, hc.1⟩, fun _ _ e => by cases e⟩, by simp⟩
  case lockRet_chd_lockChildRet_1 => exact NClaim.push hc
  case lockRet_chd_lockChildRet_2 => exact NClaim.skip hc
  case malloc_newMalloc_2 => exact NClaim.malloc _ _ _ _ _
  all_goals (try (exact ⟨hc.1, fun _ => hc.2 rfl⟩))
  case ld_newP_ld_2 =>
    obtain ⟨_, hkp⟩ := (by assumption : _ = Site.newLd ∧ _)
    subst hkp
    exact ⟨hc.1, fun _ => ⟨notified_of_ntime (by assumption), by assumption⟩⟩
  case stNote_chd_st_wake | stNote_chd_st_none | stNote_chd_st_child =>
    obtain ⟨_, _, hkf, _⟩ := (by assumption : _ = Site.childSt ∧ _ ∧ _ ∧ _)
    subst hkf
    exact NClaim.storeAt hc rfl rfl
  case call_notify =>
    show NClaim s _ (PC.dl DPos.ld1 _ none DK.notifyApi)
    exact ⟨(by assumption : s.Live _).1,
      ⟨fun _ hb => absurd hb (by simp), fun _ _ e => by cases e⟩, by simp⟩
  case call_isNotified =>
    refine ⟨by simpa using (by assumption : s.Live _).1, ⟨?_, fun _ _ e => by cases e⟩, by simp⟩
    intro ha _
    simp only [setPc_after, setAfter_after, upd_same] at ha
    have := hN.seenPos ha
    exact ⟨by simpa [State.Notified] using this.1, by simpa using this.2⟩
  case call_wait =>
    refine ⟨by simpa using (by assumption : s.Live _).1, ?_, trivial⟩
    intro ha
    simp only [setPc_after, setAfter_after, upd_same] at ha
    have := hN.seenPos ha
    simpa [State.Notified] using this.1
  case ld_dl_ld2 =>
    obtain ⟨h1, h2, _⟩ := hc
    refine ⟨h1, h2, fun _ => ⟨notified_of_ntime, ?_, fun ha hb => ntime_of_notified (h2.1 ha hb).1⟩⟩
    intro hp _ he
    apply hp
    unfold NoteRec.ntime
    split <;> simp [he]
  case ld_nfy_ld_3 => exact ⟨hc.1, hc.2.1, fun _ => notified_of_ntime (by assumption)⟩
  case ld_wt_qLd_2 => exact ⟨hc.1, hc.2.1, fun _ => notified_of_ntime (by assumption), fun _ => rfl⟩
  case ld_wt_qLd_1 =>
    refine ⟨hc.1, hc.2.1, ?_⟩
    show s.after _ = false
    cases ha : s.after _ with
    | false => rfl
    | true => exact absurd (by assumption : (s.notes _).ntime.pos) (ntime_of_notified (hc.2.1 ha))
  all_goals (try (simp [NClaim]; done))
  all_goals (simp_all [NClaim, NKN, StkN, CPos.pending]; done)

/-- `Dl.lt (some 0) d` unless `d` is zero. -/
theorem Dl.lt_zero {d : Dl} (h : d ≠ some 0) : Dl.lt (some 0) d = true := by
  cases d with
  | none => rfl
  | some v =>
    have : v ≠ 0 := fun e => h (by rw [e])
    simp [Dl.lt]; omega

theorem born_afterDeadline {s : State} {t : Tid} {m n : NoteId} {nt : Dl} {dk : DK}
    (hb : (afterDeadline s t m nt dk).bornNotified n = true) :
    s.bornNotified n = true ∨ (n = m ∧ ¬ nt.pos) := by
  rw [afterDeadline_bornNotified] at hb
  split at hb
  · next hbn =>
    rw [upd_apply] at hb
    split at hb
    · next e =>
      right; refine ⟨e, ?_⟩
      cases dk <;> simp_all [bornNow]
    · left; exact hb
  · left; exact hb

theorem na_afterDeadline {s : State} {t : Tid} {m n : NoteId} {nt : Dl} {dk : DK}
    (hd : ∀ par dl, dk = .newSelf par dl → (s.notes m).expiry = dl) (h : NA s n) :
    NA (afterDeadline s t m nt dk) n := by
  refine ⟨?_, by simpa using h.2⟩
  rcases h.1 with hf | he
  · left; simpa using hf
  · right
    rw [afterDeadline_f_expiry]
    by_cases hnm : n = m
    · subst hnm
      cases dk with
      | newSelf par dl =>
        cases par with
        | none => simpa using he
        | some p =>
          have := hd _ _ rfl
          rw [he] at this
          simp [← this, Dl.min_zero_left]
      | _ => simpa using he
    · rw [newExpiryVal_ne s dk hnm]; exact he

/-- A note that `nsync_note_new` marks as born notified is notified. -/
theorem Own.born_na {s s' : State} {e : Event} {a : Tid} {pc pc' : PC} (h : Own s a pc e pc' s')
    (hc : NClaim s a pc) (n : NoteId) (hb : s'.bornNotified n = true) :
    s.bornNotified n = true ∨ NA s' n := by
  cases h
  all_goals (try (left; exact hb))
  all_goals (try (left; simpa using hb; done))
  -- nsync_note_notified_deadline_ returns
  case ld_dl_ld1_1 | unlockRet_dl_unlockRet_2 | now_dl_now_2 =>
    rcases born_afterDeadline hb with h | ⟨h1, h2⟩
    · left; exact h
    · right; subst h1; refine na_afterDeadline hc.2.1.2 ?_
      first
        | exact ⟨(hc.2.2 rfl).1 h2, hc.1⟩
        | exact ⟨Or.inl (by assumption), hc.1⟩
  -- notify returns to nsync_note_notified_deadline_
  -- notify returns to the nsync_note_is_notified of nsync_note_new
  case unlockRet_nfy_unlockRet_dl =>
    simp only [afterNotify] at hb ⊢
    rcases born_afterDeadline hb with h | ⟨h1, _⟩
    · left; exact h
    · right; subst h1
      exact na_afterDeadline hc.2.1.2 ⟨hc.2.2 rfl, hc.1⟩
  -- nsync_note_new finds the parent notified: the store to the new note's flag
  case stNote_newP_st =>
    simp only [setPc_bornNotified, markBorn_bornNotified, upd_apply] at hb
    split at hb
    · next e =>
      subst e
      right
      exact ⟨Or.inl (by simp), by simpa using hc.1⟩
    · left; simpa using hb

/-- The list of observations grows only when `nsync_note_is_notified` / `nsync_note_wait` return. -/
theorem step_observed {s s' : State} {e : Event} (hs : step s e = .ok s') :
    s'.observed = s.observed ∨
    ∃ t n b, e.actor = some t ∧ s'.observed = ⟨t, n, b, s.after t⟩ :: s.observed ∧
      (s.pc t = .retIs n b ∨ ∃ rd wdl, s.pc t = .wt0 (.ret rd) n wdl ∧ b = decide (rd = 0)) := by
  rcases step_own hs with ⟨t, pc, pc', ha, hpc, -, h⟩ | ⟨_, rfl, _, rfl⟩ | ⟨rfl, rfl⟩
  · cases h
    all_goals (repeat' split)
    case ret_retIs =>
      right; exact ⟨_, _, _, ha, rfl, Or.inl hpc⟩
    case ret_wt0_ret =>
      right; exact ⟨_, _, _, ha, rfl, Or.inr ⟨_, _, hpc, by assumption⟩⟩
    all_goals (try (left; rfl))
    all_goals (try (left; simp; done))
  · left; rfl
  · left; rfl

theorem step_invN {s s' : State} {e : Event} (hA : InvA s) (hN : InvN s)
    (hs : step s e = .ok s') : InvN s' := by
  have hna : ∀ n, NA s n → NA s' n := fun n h => NA.step hN hs h
  refine ⟨?_, ?_, ?_, ?_⟩
  · exact claims_step hs (fun _ _ _ h _ => NClaim.own hN h)
      (fun t ht _ => NClaim.other hA hN hs t ht) hN.claim
  · intro o ho hres
    rcases step_observed hs with h | ⟨t, n, b, ha, h, hpc⟩
    · rw [h] at ho; exact hna _ (hN.obs o ho hres)
    · rw [h] at ho
      rcases List.mem_cons.mp ho with ho | ho
      · subst ho
        have hc := hN.claim t
        rcases hpc with hpc | ⟨rd, wdl, hpc, hb⟩
        · rw [hpc] at hc; exact hna _ (hc.1 hres)
        · rw [hpc] at hc
          have : rd = 0 := by simpa [hb] using hres
          exact hna _ ⟨hc.2.2.1 this, hc.1⟩
      · exact hna _ (hN.obs o ho hres)
  · intro o ho haf
    rcases step_observed hs with h | ⟨t, n, b, ha, h, hpc⟩
    · rw [h] at ho; exact hN.mono o ho haf
    · rw [h] at ho
      rcases List.mem_cons.mp ho with ho | ho
      · subst ho
        have hc := hN.claim t
        rcases hpc with hpc | ⟨rd, wdl, hpc, hb⟩
        · rw [hpc] at hc; exact hc.2 haf
        · rw [hpc] at hc
          have := hc.2.2.2 haf
          simp [hb, this]
      · exact hN.mono o ho haf
  · intro n hb
    rcases step_born hs with h | ⟨a, m, ha, _, _⟩
    · rw [h] at hb; exact hna n (hN.born n hb)
    · rcases (step_actor hs ha).born_na (hN.claim a) n hb with h | h
      · exact hna n (hN.born n h)
      · exact h

theorem Reachable.invN {s : State} (h : Reachable s) : InvA s ∧ InvN s := by
  refine Reachable.induction (P := fun s => InvA s ∧ InvN s) ⟨InvA.init, InvN.init⟩ ?_ s h
  intro s e s' _ hi hs
  exact ⟨step_invA hi.1 hs, step_invN hi.1 hi.2 hs⟩

end Note
