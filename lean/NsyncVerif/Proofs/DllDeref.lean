/-
Layer `Dll` (C17): under the documented contract every pointer the C code reads or writes through
is an element of one of the rings involved (the same cells that `Eff` allows it to write), hence
no operation dereferences `NULL`.
-/
import NsyncVerif.Proofs.DllSpec

namespace Dll

theorem remove_derefs_mem {H : Heap} {l e : Addr} {xs : List Addr} (hr : Repr H l xs)
    (he : e ∈ xs) : ∀ a ∈ removeDerefs H l e, a ∈ xs := by
  obtain ⟨hring, hlast⟩ := hr.ring (List.ne_nil_of_mem he)
  have h1 := hring.next_mem he
  have h2 := hring.prev_mem he
  have hl := List.mem_of_getLast? hlast
  intro a ha
  simp only [removeDerefs, List.mem_append, List.mem_cons] at ha
  split at ha <;> simp at ha <;> grind

theorem splice_derefs_mem {H : Heap} {p n : Addr} {ps ns : List Addr}
    (hp : Ring H ps) (hn : Ring H ns) (hpm : p ∈ ps) (hnm : n ∈ ns) :
    ∀ a ∈ spliceAfterDerefs H p n, a ∈ ps ++ ns := by
  have h1 := hp.next_mem hpm
  have h2 := hn.prev_mem hnm
  intro a ha
  simp only [spliceAfterDerefs, List.mem_cons, List.mem_append] at ha ⊢
  grind

theorem makeFirstDerefs_eq {H : Heap} {l e : Addr} {xs : List Addr} (hr : Repr H l xs)
    (he : e ≠ 0) :
    makeFirstDerefs H l e = if xs = [] then [e] else spliceAfterDerefs H l e := by
  simp [makeFirstDerefs, he, hr.handle_eq_zero_iff]

theorem makeFirst_derefs_mem {H : Heap} {l e : Addr} {xs es : List Addr}
    (hr : Repr H l xs) (he : Ring H es) (hem : e ∈ es) :
    ∀ a ∈ makeFirstDerefs H l e, a ∈ xs ++ es := by
  rw [makeFirstDerefs_eq hr (he.ne_zero hem)]
  split
  · intro a ha
    cases List.mem_singleton.mp ha
    exact List.mem_append_right _ hem
  · next hxs => exact splice_derefs_mem (hr.ring hxs).1 he (hr.handle_mem hxs) hem

theorem makeLast_derefs_mem {H : Heap} {l e : Addr} {xs es : List Addr}
    (hr : Repr H l xs) (he : Ring H es) (hem : e ∈ es) :
    ∀ a ∈ makeLastDerefs H l e, a ∈ xs ++ es := by
  intro a ha
  simp only [makeLastDerefs, he.ne_zero hem, ne_eq, not_false_eq_true, if_true,
    List.mem_cons] at ha
  rcases ha with rfl | ha
  · exact List.mem_append_right _ hem
  · exact makeFirst_derefs_mem hr he (he.next_mem hem) a ha

theorem traversal_no_null {H : Heap} {l : Addr} {xs : List Addr} (hr : Repr H l xs) :
    (∀ a ∈ firstDerefs l, a ≠ 0) ∧
    (∀ e ∈ xs, ∀ a ∈ nextDerefs l e, a ≠ 0) ∧
    (∀ e ∈ xs, ∀ a ∈ prevDerefs H l e, a ≠ 0) := by
  refine ⟨?_, ?_, ?_⟩
  · intro a ha
    simp only [firstDerefs] at ha
    split at ha <;> simp at ha
    subst ha; assumption
  · intro e he a ha
    simp only [nextDerefs] at ha
    split at ha <;> simp at ha
    subst ha
    exact hr.ne_zero he
  · intro e he a ha
    have hl : l ≠ 0 := fun h => List.ne_nil_of_mem he (hr.handle_eq_zero_iff.mp h)
    have he0 := hr.ne_zero he
    simp only [prevDerefs, List.mem_cons] at ha
    rcases ha with rfl | ha
    · exact hl
    · split at ha <;> simp at ha
      subst ha; exact he0

end Dll
