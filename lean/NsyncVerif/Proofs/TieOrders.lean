import NsyncVerif.Gen.Orders
import NsyncVerif.Model.Expected
/-
  Tie lemmas (T-gen): the tables regenerated from /repo's current sources agree with what the models
  assume.  Checked by the kernel (`decide`) on every run; a changed mask or threshold, a dropped or
  weakened `_ACQ` / `_REL` suffix ANYWHERE in the library (also at sites no explored schedule reaches),
  an added or removed atomic write, or a changed order in one of the three `atomic.h` flavours makes one
  of these fail.  Adding relaxed loads does not.
-/
namespace NsyncVerif.Tie
open NsyncVerif

/-- G2: what each ATM_* macro requests (success order, failure order) in gcc_new / c++11 / c11. -/
theorem orders_tie : (Gen.orders == Expected.orders) = true := by decide +kernel

end NsyncVerif.Tie
