/-
  Layer `CvFix` (repaired cv.c): protocol invariant — transitions that change one record: first the waiter's own
  record, then wait_n records and the waker's store.
-/
import NsyncVerif.Proofs.CvFixInvBOne

namespace NsyncVerif.CvFix

variable {f3 : Bool}

theorem invB_acq_waitEnq {s : State} (hi : InvB' f3 s) (ha : InvA s) (t : Tid) (n : Word) (hl : (s.thr t).loc = .spCas)
    (hc : (s.thr t).cont = .waitEnq) :
    FrameB f3 (({ s with word := n, holder := some t, queue := s.queue ++ [(s.thr t).r] }).setRec (s.thr t).r
            { s.recs (s.thr t).r with stat := .queued }
          |>.setThr t { s.thr t with old := { spin := false, ne := true }, loc := .wEnq }) := by
  have hout := (hi.thr t).out0 (.inr (.inl (by simp [waitPrep, hl, hc])))
  have htd := (hi.thr t).todo_nil (by simp [hl])
  obtain ⟨hst, hown, hmu⟩ := (ha.thr t).prep (by simp [waitPrep, hl, hc])
  have hmine : (s.thr t).mine = [] := (ha.thr t).mine0 (by simp [inWaitN, hl, hc])
  refine invB_own (t := t) (r := (s.thr t).r) hi ha rfl rfl rfl
    hi.nobad hown ?_
  · constructor <;> rw [setThr_thr_self] <;> simp [savedLoc, waitLive, waitPrep, Loc.afterLoop, hout, hmine, htd]

theorem invB_wSt1 {s : State} (hi : InvB' f3 s) (ha : InvA s) (t : Tid) (r : Rid) (hl : (s.thr t).loc = .wNew)
    (hst : (s.recs r).stat = .idle) :
    FrameB f3 (s.setRec r { s.recs r with waiting := true, owner := t, stat := .prep, pub := false, unl := [], posted := false, lt := .gen }
          |>.setThr t (if (s.thr t).gen then { s.thr t with r := r, loc := .spLd0, cont := .waitEnq, setNE := true }
                       else { s.thr t with r := r, loc := .wMode })) := by
  by_cases hg : (s.thr t).gen = true <;> simp only [hg, if_true]
  all_goals
    refine invB_one (t := t) (r := r) hi ha rfl rfl rfl
      hi.nobad (fun u hu ho v hv => by simp at hv)
      (fun u hu ho hni => absurd hst hni)
      (tinvB_outside _ (setThr_thr_self _ _ _) (by simp [savedLoc]) (by simp [waitLive]) rfl
        (fun _ => (hi.thr t).out0 (.inl hl)) (by simp [(ha.thr t).mine0 (by simp [inWaitN, hl])])
        ((hi.thr t).todo_nil (by simp [hl])) (by simp) (by simp))

theorem invB_wClr {s : State} (hi : InvB' f3 s) (ha : InvA s) (t : Tid) (r : Rid) (hl : (s.thr t).loc = .wClr)
    (hr : r = (s.thr t).r) :
    FrameB f3 (s.setRec r { s.recs r with waiting := false }
          |>.setThr t { s.thr t with out := (s.thr t).semOut, loc := .wRel2 }) := by
  subst hr
  have hst := (ha.thr t).selfO (.inr (.inr hl))
  have hown := ((ha.thr t).live (by simp [waitLive, hl])).1
  have hmine : (s.thr t).mine = [] := (ha.thr t).mine0 (by simp [inWaitN, hl])
  have htd := (hi.thr t).todo_nil (by simp [hl])
  refine invB_own (t := t) (r := (s.thr t).r) hi ha rfl rfl rfl
    hi.nobad hown ?_
  · constructor <;> rw [setThr_thr_self] <;> simp [savedLoc, waitLive, waitPrep, Loc.afterLoop, hst, hmine, htd]

open Regions in
theorem invB_wRmCasOk {s : State} (hi : InvB' f3 s) (ha : InvA s) (t : Tid) (r : Rid) (new : Nat)
    (hl : (s.thr t).loc = .wRmCas) (hr : r = (s.thr t).r) :
    FrameB f3 (s.setRec r { s.recs r with rc := new } |>.setThr t { s.thr t with loc := .wClr }) := by
  subst hr
  have hown := ((ha.thr t).live (by simp [waitLive, hl])).1
  refine invB_own (t := t) (r := (s.thr t).r) hi ha rfl rfl rfl
    hi.nobad hown
    (tinvB_move hi ha (by rw [setThr_thr_self]; exact .at hl)
      (fun q => by by_cases hq : q = (s.thr t).r <;> simp [hq])
      (by rw [setThr_thr_self]; simp) (by rw [setThr_thr_self]; simp)
      (fun u => by by_cases hu : u = t <;> simp [hu]))

theorem invB_wHeadExit {s : State} (hi : InvB' f3 s) (ha : InvA s) (t : Tid) (r : Rid)
    (hl : (s.thr t).loc = .wHead) (hr : r = (s.thr t).r) (hw : (s.recs r).waiting = false) :
    (s.recs r).stat.registered = false ∧
    FrameB f3 ({ s with bad := s.bad || (s.recs r).stat.registered }.setRec r { s.recs r with stat := .idle }
          |>.setThr t { s.thr t with loc := .wExit, xferd := decide ((s.recs r).stat = RStat.xfer), exitUnl := (s.recs r).unl }) := by
  subst hr
  obtain ⟨hown, hmu, _⟩ := (ha.thr t).live (by simp [waitLive, hl])
  have htd := (hi.thr t).todo_nil (by simp [hl])
  have hmine : (s.thr t).mine = [] := (ha.thr t).mine0 (by simp [inWaitN, hl])
  have hreg : (s.recs (s.thr t).r).stat.registered = false := by
    cases hst : (s.recs (s.thr t).r).stat <;> simp [RStat.registered]
    · have := ha.pWait _ hst; rw [hw] at this; cases this
    · have := ha.qWait _ hst; rw [hw] at this; cases this
    · rename_i u; have := hi.lWait _ u hst (.inl hmu); rw [hw] at this; cases this
  refine ⟨hreg, ?_⟩
  refine invB_own (t := t) (r := (s.thr t).r) hi ha rfl rfl rfl
    (by simp [hreg, hi.nobad]) hown ?_
  · constructor <;> rw [setThr_thr_self] <;> simp [savedLoc, waitLive, waitPrep, Loc.afterLoop, hmine, htd]
    intro ho
    exact hi.unlS _ ((hi.thr t).outS (by simp [waitLive, hl]) ho).1 hmu

/-- The wait's comparison of `remove_count` succeeds only on a record that is still queued. -/
theorem wCmp_queued {s : State} (hi : InvB' f3 s) (ha : InvA s) (t : Tid) (hl : (s.thr t).loc = .wCmp)
    (hrc : (s.recs (s.thr t).r).rc = (s.thr t).saved) : (s.recs (s.thr t).r).stat = .queued := by
  have hbt := hi.thr t
  tB_facts hl
  have hholds : (s.thr t).loc.holds = true := by simp [hl, Loc.holds]
  cases hst : (s.recs (s.thr t).r).stat with
  | queued => rfl
  | idle => rw [hst] at a3; simp [RStat.live] at a3
  | prep => rw [hst] at a3; simp [RStat.live] at a3
  | xfer => have := b2 (.inl hst); omega
  | woken => have := b2 (.inr hst); omega
  | selfOut => have := b4 hst; simp at this
  | listed u =>
    obtain ⟨c1, c2⟩ := b3 u hst
    by_cases hm : (s.thr t).r ∈ (s.thr u).todo
    · have hloc := (hi.thr u).todoLoc (by intro e; rw [e] at hm; simp at hm)
      have hu : (s.thr u).loc.holds = true := by rcases hloc with h | h <;> simp [h, Loc.holds]
      have := ha.holder_unique hholds hu
      subst this
      rcases hloc with h | h <;> rw [hl] at h <;> cases h
    · have := c2 hm; omega

theorem invB_wCmpEq' {s : State} (hi : InvB' f3 s) (ha : InvA s) (t : Tid) (r : Rid) (obs : Nat)
    (hl : (s.thr t).loc = .wCmp) (hr : r = (s.thr t).r) (ho : obs = (s.recs r).rc) (he : obs = (s.thr t).saved) :
    FrameB f3 ({ s with queue := s.queue.erase r, bad := s.bad || decide ((s.recs r).stat ≠ RStat.queued) }.setRec r
            { s.recs r with stat := .selfOut, unl := (s.recs r).unl ++ [Unl.self] }
          |>.setThr t { s.thr t with loc := .wRmLd, old := if (s.queue.erase r).isEmpty then { (s.thr t).old with ne := false } else (s.thr t).old }) := by
  subst hr
  have hq := wCmp_queued hi ha t hl (by rw [← ho, he])
  have hown := ((ha.thr t).live (by simp [waitLive, hl])).1
  have hmine : (s.thr t).mine = [] := (ha.thr t).mine0 (by simp [inWaitN, hl])
  have hbt := hi.thr t
  tB_facts hl
  refine invB_own (t := t) (r := (s.thr t).r) hi ha rfl rfl rfl
    (by simp [hq, hi.nobad]) hown ?_
  constructor <;> simp [savedLoc, waitLive, waitPrep, Loc.afterLoop, hmine] <;> (try simp_all)

theorem invB_enqSt {s : State} (hi : InvB' f3 s) (ha : InvA s) (t : Tid) (r : Rid) (hl : (s.thr t).loc = .nLocked)
    (hst : (s.recs r).stat = .idle) :
    FrameB f3 ({ s with queue := s.queue ++ [r] }.setRec r
            { s.recs r with waiting := true, stat := .queued, pub := false, unl := [], posted := false }
          |>.setThr t { s.thr t with r := r, mine := r :: (s.thr t).mine, old := { (s.thr t).old with ne := true }, loc := .nEnqRel }) := by
  refine invB_one (t := t) (r := r) hi ha rfl rfl rfl
    hi.nobad (fun u hu ho v hv => by simp at hv)
    (fun u hu ho hni => absurd hst hni)
    (tinvB_outside _ (setThr_thr_self _ _ _) (by simp [savedLoc]) (by simp [waitLive]) rfl (by simp [waitPrep]) ?_
      ((hi.thr t).todo_nil (by simp [hl])) (by simp) (by simp))
  intro q hq hs
  have hne : q ≠ r := fun e => by subst e; simp at hs
  have := ((hi.thr t).mineS q ((List.mem_cons.mp hq).resolve_left hne) (by simpa [hne] using hs)).1
  simp [hl] at this

theorem invB_deqLdQueued {s : State} (hi : InvB' f3 s) (ha : InvA s) (t : Tid) (r : Rid) (wq : Bool) (hl : (s.thr t).loc = .nLocked)
    (hr : r ∈ (s.thr t).mine) :
    FrameB f3 ({ s with queue := s.queue.erase r }.setRec r
            { s.recs r with stat := .selfOut, unl := (s.recs r).unl ++ [Unl.self] }
          |>.setThr t { s.thr t with r := r, loc := .nDeqSt, wasQ := wq, old := if (s.queue.erase r).isEmpty then { (s.thr t).old with ne := false } else (s.thr t).old }) := by
  obtain ⟨hm, hown, _, _⟩ := (ha.thr t).mine r hr
  refine invB_own (t := t) (r := r) hi ha rfl rfl rfl
    hi.nobad hown
    (tinvB_outside _ (setThr_thr_self _ _ _) (by simp [savedLoc]) (by simp [waitLive]) rfl (by simp [waitPrep]) ?_
      ((hi.thr t).todo_nil (by simp [hl])) (by simp) (by simp))
  intro q hq hs
  refine ⟨.inl rfl, ?_⟩
  by_cases hne : q = r
  · exact hne.symm
  · have := ((hi.thr t).mineS q hq (by simpa [hne] using hs)).1; simp [hl] at this

/-- Defect F3 of the pinned cv.c (`Old.deqLdF3`). -/
theorem invB_deqLdF3 {s : State} (hi : InvB' true s) (ha : InvA s) (t : Tid) (r : Rid)
    (hl : (s.thr t).loc = .nLocked) (hr : r ∈ (s.thr t).mine) :
    FrameB true (s.setRec r { s.recs r with unl := (s.recs r).unl ++ [Unl.self] }
          |>.setThr t { s.thr t with r := r, loc := .nDeqSt, old := if s.queue.isEmpty then { (s.thr t).old with ne := false } else (s.thr t).old }) := by
  obtain ⟨hm, hown, _, _⟩ := (ha.thr t).mine r hr
  refine invB_own (t := t) (r := r) hi ha rfl rfl rfl
    hi.nobad hown
    (tinvB_outside _ (setThr_thr_self _ _ _) (by simp [savedLoc]) (by simp [waitLive]) rfl (by simp [waitPrep]) ?_
      ((hi.thr t).todo_nil (by simp [hl])) (by simp) (by simp))
  intro q hq hs
  refine ⟨.inl rfl, ?_⟩
  by_cases hne : q = r
  · exact hne.symm
  · have := ((hi.thr t).mineS q hq (by simpa [hne] using hs)).1; simp [hl] at this

/-- cv_dequeue never finds `waiting != 0` on a record that is neither queued nor on a waker's list. -/
theorem deqLdBad_impossible {s : State} (hi : InvB' f3 s) (ha : InvA s) (t : Tid) (r : Rid)
    (hl : (s.thr t).loc = .nLocked) (hr : r ∈ (s.thr t).mine) (hw : (s.recs r).waiting = true)
    (hst : (s.recs r).stat ≠ .queued) (hst2 : ∀ u, (s.recs r).stat ≠ .listed u) : False := by
  obtain ⟨hm, hown, hni, hnp⟩ := (ha.thr t).mine r hr
  cases h : (s.recs r).stat with
  | idle => exact hni h
  | prep => exact hnp h
  | queued => exact hst h
  | listed u => exact hst2 u h
  | xfer => have := hi.xferM r h; rw [hm] at this; cases this
  | woken => have := hi.wokenW r h; rw [hw] at this; cases this
  | selfOut => have := ((hi.thr t).mineS r hr h).1; rw [hl] at this; simp at this

theorem invB_deqSt {s : State} (hi : InvB' f3 s) (ha : InvA s) (t : Tid) (r : Rid) (hl : (s.thr t).loc = .nDeqSt)
    (hr : r = (s.thr t).r) :
    FrameB f3 (s.setRec r { s.recs r with waiting := false } |>.setThr t { s.thr t with loc := .nDeqRel }) := by
  subst hr
  have b14 := (hi.thr t).f3L (.inl hl)
  obtain ⟨hmem, hnq⟩ := (ha.thr t).nDeq (.inl hl)
  obtain ⟨hm, hown, hni, hnp⟩ := (ha.thr t).mine _ hmem
  refine invB_own (t := t) (r := (s.thr t).r) hi ha rfl rfl rfl
    hi.nobad hown
    (tinvB_outside _ (setThr_thr_self _ _ _) (by simp [savedLoc]) (by simp [waitLive]) rfl (by simp [waitPrep]) ?_
      ((hi.thr t).todo_nil (by simp [hl])) (by simp) ⟨fun _ u hu => b14 u (by simpa using hu), by simp⟩)
  intro q hq hs
  refine ⟨.inr rfl, ?_⟩
  by_cases hne : q = (s.thr t).r
  · exact hne.symm
  · exact ((hi.thr t).mineS q hq (by simpa [hne] using hs)).2

/-- cv_dequeue is done with its record (it has released the spinlock with `being_woken == 0`, or
    it has seen `waiting == 0` in its wait loop): the record leaves the call's set. -/
theorem invB_deqDone {s : State} (hi : InvB' f3 s) (ha : InvA s) (t : Tid) (w : Word) (h : Option Tid)
    (hl : (s.thr t).loc = .nDeqRel ∨ (s.thr t).loc = .nDeqSpin) :
    FrameB f3 ({ s with word := w, holder := h }.setRec (s.thr t).r
            { s.recs (s.thr t).r with stat := match (s.recs (s.thr t).r).stat with | .listed u => RStat.listed u | _ => RStat.idle }
          |>.setThr t { s.thr t with loc := .nOut, mine := (s.thr t).mine.erase (s.thr t).r }) := by
  have hmem : (s.thr t).r ∈ (s.thr t).mine :=
    hl.elim (fun hl => ((ha.thr t).nDeq (.inr hl)).1) (fun hl => ((ha.thr t).nSpin (.inr hl)).1)
  obtain ⟨hm, hown, hni, hnp⟩ := (ha.thr t).mine _ hmem
  have hnd := (ha.thr t).mineNd
  refine invB_own (t := t) (r := (s.thr t).r) hi ha rfl rfl rfl
    hi.nobad hown
    (tinvB_outside _ (setThr_thr_self _ _ _) (by simp [savedLoc]) (by simp [waitLive]) rfl (by simp [waitPrep]) ?_
      ((hi.thr t).todo_nil (by rcases hl with hl | hl <;> simp [hl])) (by simp) (by simp))
  intro q hq hs
  have hne : q ≠ (s.thr t).r := fun e => by subst e; exact (List.Nodup.mem_erase_iff hnd).mp hq |>.1 rfl
  exact absurd ((hi.thr t).mineS q (List.mem_of_mem_erase hq) (by simpa [hne] using hs)).2.symm hne

theorem invB_wake {s : State} (hi : InvB' f3 s) (ha : InvA s) (t : Tid) (r : Rid) (hl : (s.thr t).loc = .wwStore)
    (hr : (s.thr t).list.head? = some r) :
    FrameB f3 (s.setRec r { s.recs r with waiting := false, stat := match (s.recs r).stat with | .listed _ => .woken | st => st }
          |>.setThr t { s.thr t with list := (s.thr t).list.tail, cur := some (r, (s.recs r).enqSeq), loc := .wwV }) := by
  obtain ⟨rest, hlist⟩ := List.head?_eq_some_iff.mp hr
  have hst : (s.recs r).stat = .listed t := (ha.lMem t r).mp (by rw [hlist]; simp)
  have htd := (hi.thr t).todo_nil (by simp [hl])
  have hmine : (s.thr t).mine = [] := (ha.thr t).mine0 (by simp [inWaitN, hl])
  simp only [hst]
  refine invB_one (t := t) (r := r) hi ha rfl rfl rfl
    hi.nobad (fun u hu ho v hv => by simp at hv)
    ?_ ?_
  · intro u hu ho hni
    refine ⟨by simp [hst], by simp [hst], ?_⟩
    intro hs hur
    have := ((hi.thr u).svL hs t (by rw [hur]; exact hst)).2 (by rw [htd]; simp)
    unfold SvOK
    rw [hur]
    simp
    rw [hur] at this; exact this
  · constructor <;> simp [savedLoc, waitLive, waitPrep, Loc.afterLoop, htd, hmine]

end NsyncVerif.CvFix
