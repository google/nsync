import NsyncVerif.Proofs.MuQSolo
/-
  MuQ, solo progress of the releasing operations: every accepted own step of a thread inside
  unlock / runlock / unlock_slow, taken in a state in which the spinlock is free or its own, returns
  or decreases `relRank` — except a FAILED CAS on `remove_count` (memory this mutex does not own:
  the acceptor accepts such a failure whenever the log reports one), which costs one extra load.
-/
namespace NsyncVerif.MuQ

/-- What one own step `e` of a releasing thread achieves. -/
def RelNext (s : State) (t : Tid) (e : Event) (s' : State) : Prop :=
  s'.pc t = .idle ∨
    (relPc (s'.pc t) = true ∧ (s'.sp = none ∨ s'.sp = some t) ∧
      (if e.rcFail = true then
        relRank s'.word s'.queue.length (s'.pc t) ≤ relRank s.word s.queue.length (s.pc t) + 1
       else relRank s'.word s'.queue.length (s'.pc t) < relRank s.word s.queue.length (s.pc t)))

theorem scanAdvance_rank (s : State) (t : Tid) (l : Mode) (sc : Scan) (w : Word) (q : Nat) :
    relPc ((scanAdvance s t l sc).pc t) = true ∧
      relRank w q ((scanAdvance s t l sc).pc t) + 1 ≤ scanRank sc + 5 := by
  obtain ⟨h1, h2⟩ := scanGo_rank (fun k => (s.wr k).lType) sc.todo sc
  simp only [scanAdvance]
  split
  · rename_i k sc' heq
    obtain ⟨a, b⟩ := h1 k sc' heq
    simp only [setPc, setFn_same, relPc, relRank, scanRank, true_and]
    omega
  · rename_i sc' heq
    have b := h2 sc' heq
    simp only [setPc, setFn_same, relPc, relRank, scanRank, mkFin, true_and]
    omega

/-- One own step of a releasing thread. -/
theorem solo_rel_step {cfg : Cfg} {s s' : State} {t : Tid} {e : Event}
    (hr : Reachable cfg s) (hpc : relPc (s.pc t) = true)
    (hsp : s.sp = none ∨ s.sp = some t) (he : e.tid = some t)
    (h : step cfg s e = .ok s') : RelNext s t e s' := by
  have inv := reachable_inv hr
  have hspin := spin_clear_of_free hr hsp
  have ht := tstep_of_step h he
  unfold RelNext
  generalize s.pc t = p at ht hpc hspin ⊢
  cases ht <;> try (cases hpc; done)
  case retUnlock => exact Or.inl (by simp [setPc])
  case retRunlock => exact Or.inl (by simp [setPc])
  all_goals right
  case usLdSpin hs => rw [hspin rfl] at hs; cases hs
  case usCasGrab l old hw =>
    obtain ⟨a, b⟩ : relPc ((grabbed s t l old).pc t) = true ∧
        relRank (grabbed s t l old).word (grabbed s t l old).queue.length ((grabbed s t l old).pc t) + 1 ≤
          scanRank { wake := [], todo := s.queue, wt := none, sww := false, saf := true } + 5 :=
      scanAdvance_rank _ t l _ _ _
    refine ⟨a, by simp [grabbed], ?_⟩
    have hrk : relRank s.word s.queue.length (.usCasGrab l old) = 4 * s.queue.length + 7 := by simp [relRank, hw]
    simp only [Event.rcFail, Bool.false_eq_true, if_false]
    rw [hrk]
    simp only [scanRank, List.length_nil] at b
    omega
  case usRcCas l sc k old obs _ =>
    obtain ⟨a, b⟩ := scanAdvance_rank s t l sc (scanAdvance s t l sc).word (scanAdvance s t l sc).queue.length
    refine ⟨a, by simpa using hsp, ?_⟩
    have hrk : relRank s.word s.queue.length (.usRcCas l sc k old) = scanRank sc + 5 := rfl
    simp only [Event.rcFail, Bool.false_eq_true, if_false]
    omega
  case usRcCasF => exact ⟨by simp [setPc, relPc], by simpa [setPc] using hsp, by simp [Event.rcFail, setPc, relRank]⟩
  case usFinCas l f old hw =>
    cases hf : f.wake <;> simp [afterFin, setPc, relRank, relPc, Event.rcFail, hw, hf]
    omega
  case semV l k r => cases r <;> simp [afterFin, semPost, setPc, relRank, hsp, relPc, Event.rcFail] <;> omega
  all_goals simp [setPc, relRank, relPc, Event.rcFail, *]

def rcFails (evs : List Event) : Nat := (evs.filter Event.rcFail).length

/-- An accepted run of own events of a releasing thread that is longer than the rank plus twice
    the number of failed `remove_count` CASes in it passes through a state in which the thread has
    returned. -/
theorem solo_rel_run {cfg : Cfg} {t : Tid} : ∀ (evs : List Event) (s s' : State),
    Reachable cfg s → relPc (s.pc t) = true → (s.sp = none ∨ s.sp = some t) →
    (∀ e ∈ evs, e.tid = some t) → run cfg s evs = .ok s' →
    relRank s.word s.queue.length (s.pc t) + 2 * rcFails evs < evs.length →
    ∃ n, n ≤ evs.length ∧ ∃ s1, run cfg s (evs.take n) = .ok s1 ∧ s1.pc t = .idle := by
  intro evs
  induction evs with
  | nil => intro s s' _ _ _ _ _ hlt; simp at hlt
  | cons e es ih =>
    intro s s' hr hpc hsp hown hrun hlt
    obtain ⟨s1, hs1, hrun⟩ := (isRun cfg).of_cons hrun
    rcases solo_rel_step hr hpc hsp (hown e (by simp)) hs1 with hidle | ⟨hpc', hsp', hrk⟩
    · exact ⟨1, by simp, s1, by simp [run, hs1], hidle⟩
    · have hlt' : relRank s1.word s1.queue.length (s1.pc t) + 2 * rcFails es < es.length := by
        simp only [rcFails, List.filter_cons, List.length_cons] at hlt ⊢
        cases hf : e.rcFail
        · simp [hf] at hlt hrk
          omega
        · simp [hf] at hlt hrk
          omega
      obtain ⟨n, hn, s2, hrun2, hid⟩ := ih s1 s' (reachable_step hr hs1) hpc' hsp'
        (fun e' he' => hown e' (by simp [he'])) hrun hlt'
      exact ⟨n + 1, by simp; omega, s2, by simp [run, hs1, hrun2], hid⟩

/-- The rank of a releasing thread is linear in the length of the queue and of its private wake list. -/
theorem relRank_le {cfg : Cfg} {s : State} (hr : Reachable cfg s) (t : Tid) :
    relRank s.word s.queue.length (s.pc t) ≤ 4 * s.queue.length + 2 * (role (s.pc t)).wake.length + 11 := by
  have inv := reachable_inv hr
  have htodo : ∀ sc, role (s.pc t) = .scan sc → sc.todo.length ≤ s.queue.length := by
    intro sc hsc
    obtain ⟨pre, hpre⟩ := inv.queue.scant t sc hsc
    have : s.queue = pre ++ sc.todo := hpre
    rw [this]; simp
  cases hp : s.pc t <;> simp only [relRank, role, Role.wake, scanRank, List.length_nil, List.length_cons] <;>
    (try split) <;> (try omega)
  · have := htodo _ (by rw [hp]; rfl); omega
  · have := htodo _ (by rw [hp]; rfl); omega

theorem relPc_of_inRelease {p : PC} (h : inRelease p) : relPc p = true := by
  cases p <;> simp [inRelease] at h <;> rfl

end NsyncVerif.MuQ
