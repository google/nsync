/-
  Proofs/WaitNFairExec.lean — WaitN layer, liveness: one step of an execution seen from a thread (`Exec.prog`),
  the clock, the locks; the descent lemma (`straight_leaves`: a thread that stays at straight-line program points
  for ever contradicts weak fairness; the measure `mu` is the rank below the phases of a signal call before its wake
  loop, so that the load and the unlink of nsync_cv_signal are straight-line points too) and the leads-to rule it gives
  (`Exec.straight_leads`); every lock holder releases (`holder_releases`), so every lock is free again and again
  (`lock_free_again`).
-/
import NsyncVerif.Proofs.WaitNFairStep
import NsyncVerif.Proofs.Sched


namespace WaitN
open NsyncVerif

variable {s0 : State}

/-- One step of an execution, seen from thread `t`. -/
theorem Exec.prog (x : Exec s0) (hr : Reachable s0) (t : Tid) (j : Nat) :
    ∃ e, Prog (x.ρ j) (x.ρ (j + 1)) t e ∧ (∀ k, e = .pdRet k false → x.σ j = some (.thr t (.pdRet k false))) := by
  rcases x.view t j with ⟨h1, h2, h3⟩ | ⟨e, hs, h⟩
  · exact ⟨.other, Prog.stutter h1 h2 h3, fun k h => by cases h⟩
  · exact ⟨e, prog_stepThr (x.reach hr j) h, fun k h => by rw [hs, h]⟩

theorem Exec.now_step (x : Exec s0) (j : Nat) : (x.ρ j).now ≤ (x.ρ (j + 1)).now := by
  rcases x.step_cases j with ⟨ns, h, hle⟩ | ⟨v, e, _, h⟩
  · rw [h]; exact hle
  · exact (mono_stepThr h).now

theorem Exec.now_mono (x : Exec s0) {i j : Nat} (h : i ≤ j) : (x.ρ i).now ≤ (x.ρ j).now :=
  Sched.keeps_from (P := fun j => (x.ρ i).now ≤ (x.ρ j).now) (Nat.le_refl _)
    (fun j _ h => Nat.le_trans h (x.now_step j)) j h

/-- a lock changes hands only through `none` -/
theorem Exec.lock_step (x : Exec s0) (hr : Reachable s0) (o : ObjId) (j : Nat) :
    ((x.ρ (j + 1)).obj o).lock = ((x.ρ j).obj o).lock
    ∨ (((x.ρ j).obj o).lock = none) ∨ (((x.ρ (j + 1)).obj o).lock = none) := by
  rcases x.step_cases j with ⟨ns, h, _⟩ | ⟨v, e, _, h⟩
  · rw [h]; exact .inl rfl
  · exact ((frame2_stepThr (linv_of_reachable (x.reach hr j) v) h).lock o).imp id (.imp And.left And.right)

/-- The `waiting` field of a record of a call in progress (nothing freed yet) is set only by its owner, at the store
    of an enqueue. -/
theorem Exec.waiting_set (x : Exec s0) (hr : Reachable s0) {t : Tid} {r : Rid} {j : Nat}
    (hc : inCall ((x.ρ j).pc t) = true) (hf : ((x.ρ j).fr t).frees = 0) (hm : r ∈ ((x.ρ j).fr t).recs)
    (hw : ((x.ρ j).rcd r).waiting = false) (hw' : ((x.ρ (j + 1)).rcd r).waiting = true) :
    ∃ i, (x.ρ j).pc t = .wEnq i (.store true) ∨ (x.ρ j).pc t = .wEnqCv i .store := by
  rcases x.step_cases j with ⟨ns, h, _⟩ | ⟨v, e, _, hstep⟩
  · rw [h] at hw'; rw [hw] at hw'; cases hw'
  · have hrj := x.reach hr j
    exact ((own_of_reachable hrj).waiting_set (linv_of_reachable hrj v) (mono_stepThr hstep) hc hf hm hw hw').2

/-- program points at which a thread can be `Blocked` -/
def blockingPc : PC → Bool
  | .wPdWait _ | .wDeqCv _ .wspin => true
  | .wND _ _ .lockWait | .wND _ _ .nfLockWait | .wEnq _ .lockWait | .wDeq _ .lockWait => true
  | .wEnqCv _ (.spin .ld) | .wDeqCv _ (.spin .ld) | .sg _ _ (.spin .ld) => true
  | _ => false

/-- straight-line program points: every own step from here is progress -/
def Straight (p : PC) : Prop :=
  p ≠ .idle ∧ blockingPc p = false ∧ isSpin p = false ∧ isNfWake p = false

theorem blocking_of_lockBlock {p : PC} {f : Frame} {o : ObjId} (h : lockBlockOf p f = some o) : blockingPc p = true := by
  unfold lockBlockOf at h
  split at h <;> first | rfl | cases h

theorem not_blocked_of_pc {s : State} {t : Tid} (h : blockingPc (s.pc t) = false) : ¬ Blocked s t := by
  rintro (⟨j, hp, _⟩ | ⟨o, ho, _⟩ | ⟨j, r, hp, _⟩)
  · rw [hp] at h; cases h
  · rw [blocking_of_lockBlock ho] at h; cases h
  · rw [hp] at h; cases h

theorem rk_eq_of_same {s s' : State} {t : Tid} (h1 : s'.pc t = s.pc t) (h2 : s'.post t = s.post t)
    (h3 : (s'.fr t).objs = (s.fr t).objs) : rk s' t = rk s t := by
  simp only [rk, h1, h2, count_eq h3]

theorem sgNext_early {p p' : PC} (h : sgNext p p') : sgEarly p = true := by
  cases p <;> simp [sgNext] at h
  rename_i c bc st
  cases st <;> simp [sgEarly] at h ⊢

theorem inCall_stepThr {s s' : State} {t : Tid} {e : Ev} (h : stepThr s t e = .ok s') (h1 : s.pc t ≠ .idle)
    (h2 : s'.pc t ≠ .idle) : inCall (s'.pc t) = inCall (s.pc t) := by
  rcases quiet_or_structural h with q | st
  · exact q.inCall t
  · cases st with
    | call mu dl objs nested hpc _ _ _ => exact absurd hpc h1
    | init i r oid hpc _ _ _ hs => subst hs; rw [hpc]; simp; split <;> rfl
    | free hpc hs => subst hs; rw [hpc]; simp only [setPc_pc, if_pos, inCall_relockNext]; rfl
    | ret r hpc hs => subst hs; simp at h2

theorem Exec.inCall_step (x : Exec s0) (t : Tid) (j : Nat) (h1 : (x.ρ j).pc t ≠ .idle)
    (h2 : (x.ρ (j + 1)).pc t ≠ .idle) : inCall ((x.ρ (j + 1)).pc t) = inCall ((x.ρ j).pc t) := by
  rcases x.view t j with ⟨h, _⟩ | ⟨e, _, h⟩
  · rw [h]
  · exact inCall_stepThr h h1 h2

/-- the wake loop and the return of nsync_cv_signal / broadcast -/
def sgLate : PC → Bool
  | .sg _ _ .ret | .sg _ _ (.wake _) => true
  | _ => false

theorem straight_of_late {p : PC} (h : sgLate p = true) : Straight p := by
  unfold sgLate at h
  split at h
  · exact ⟨by simp, rfl, rfl, rfl⟩
  · exact ⟨by simp, rfl, rfl, rfl⟩
  · cases h

theorem sg_late_stepSg {s s' : State} {u : Tid} {c : Nat} {bc : Bool} {st : SgSt} {e : Ev}
    (hst : st = .ret ∨ ∃ l, st = .wake l) (hpc : s.pc u = .sg c bc st)
    (h : stepSg s u c bc st e = .ok s') : s'.pc u = .idle ∨ sgLate (s'.pc u) = true := by
  rcases hst with rfl | ⟨l, rfl⟩
  · simp only [stepSg] at h
    split_ok h
    · cases h; left; simp
    · right; rw [(dflt_frame h).1, hpc]; rfl
  · simp only [stepSg] at h
    split_ok h
    all_goals first
      | (right; rw [(dflt_frame h).1, hpc]; rfl)
      | (cases h; right; simp [hpc, sgLate]; done)
      | (cases h; right; simp [sgLate]; done)

theorem sg_late_step {s s' : State} {u : Tid} {e : Ev} (h : stepThr s u e = .ok s') (hl : sgLate (s.pc u) = true) :
    s'.pc u = .idle ∨ sgLate (s'.pc u) = true := by
  unfold stepThr at h
  split at h <;> rename_i hpc
  all_goals first
    | (rw [hpc] at hl; cases hl; done)
    | (simp at h; done)
    | (rename_i c bc st
       refine sg_late_stepSg ?_ hpc h
       rw [hpc] at hl
       cases st <;> first | exact .inl rfl | exact .inr ⟨_, rfl⟩ | cases hl)

theorem Exec.late_step (x : Exec s0) (u : Tid) (j : Nat) (h : sgLate ((x.ρ j).pc u) = true) :
    (x.ρ (j + 1)).pc u = .idle ∨ sgLate ((x.ρ (j + 1)).pc u) = true :=
  (x.view u j).elim (fun h' => .inr (by rw [h'.1]; exact h)) fun ⟨e, _, hs⟩ => sg_late_step hs h

theorem phase_inCall {p : PC} (h : inCall p = true) : phase p = 0 := by cases p <;> first | rfl | cases h

theorem phase_late {p : PC} (h : sgLate p = true) : phase p = 0 := by
  unfold sgLate at h
  split at h <;> first | rfl | cases h

/-- a thread that is neither idle nor inside nsync_wait_n is inside nsync_cv_signal / broadcast: before its wake
    loop, where the rank is 0, or in it -/
theorem sg_cases {p : PC} (h1 : p ≠ .idle) (h2 : inCall p = false) :
    (sgEarly p = true ∧ ∀ n po, rank p n po = 0) ∨ sgLate p = true := by
  cases p <;> first | exact absurd rfl h1 | cases h2 | skip
  rename_i c bc st
  cases st <;> first | exact .inl ⟨rfl, fun _ _ => rfl⟩ | exact .inr rfl

/-- the measure of the descent: the phases of a signal call before its wake loop first, then the rank -/
def mu (s : State) (t : Tid) : Nat × Nat := (phase (s.pc t), rk s t)

/-- at a straight-line program point a step is a stutter or lowers the measure -/
theorem plain_step (x : Exec s0) (hr : Reachable s0) (t : Tid) (j : Nat) (hp : Straight ((x.ρ j).pc t))
    (hp' : (x.ρ (j + 1)).pc t ≠ .idle) :
    (¬ Moves x t j ∧ mu (x.ρ (j + 1)) t = mu (x.ρ j) t)
    ∨ Prod.Lex (· < ·) (· < ·) (mu (x.ρ (j + 1)) t) (mu (x.ρ j) t) := by
  obtain ⟨e, hprog, _⟩ := x.prog hr t j
  rcases hprog with h | h | ⟨ho, hd, h | h | h | h | h | h⟩
  · exact absurd h hp.1
  · exact absurd h hp'
  · exact .inl ⟨fun hm => hm.elim (fun a => a h.1) (fun a => a h.2.1), by rw [mu, mu, h.1, rk_eq_of_same h.1 h.2.1 ho]⟩
  · -- the rank falls: the phase is 0 before and after
    have h0 : phase ((x.ρ (j + 1)).pc t) = 0 ∧ phase ((x.ρ j).pc t) = 0 := by
      cases hc : inCall ((x.ρ j).pc t) with
      | true => exact ⟨phase_inCall (by rw [x.inCall_step t j hp.1 hp', hc]), phase_inCall hc⟩
      | false =>
        rcases sg_cases hp.1 hc with ⟨_, h0⟩ | hl
        · rw [rk, rk, h0] at h; exact absurd h (Nat.not_lt_zero _)
        · exact ⟨phase_late ((x.late_step t j hl).resolve_left hp'), phase_late hl⟩
    right; rw [mu, mu, h0.1, h0.2]; exact .right _ h
  · rw [hp.2.2.1] at h; cases h.1
  · obtain ⟨k, hk, _⟩ := h; rw [hk] at hp; cases hp.2.1
  · rw [hp.2.2.2] at h; cases h.1
  · -- the load or the unlink of a signal call: a phase ends
    right; rw [mu, mu]; refine .left _ _ ?_
    revert h
    generalize (x.ρ (j + 1)).pc t = p'
    have hsp := hp.2.2.1
    revert hsp
    generalize (x.ρ j).pc t = p
    intro hsp h
    unfold sgNext at h
    split at h
    · rcases h with h | h <;> (rw [h]; simp [phase])
    · cases hsp
    · rcases h with h | ⟨l, h⟩ <;> (rw [h]; simp [phase])
    · exact h.elim

/-- DESCENT: a thread does not stay at straight-line program points for ever.  `Sched.leads_wf` with the thread's own
    operations as moves and `mu` as rank; that it moves again is weak fairness itself. -/
theorem straight_leaves (x : Exec s0) (hr : Reachable s0) (hw : WeakFair x) (t : Tid) (i : Nat) :
    ∃ j, i ≤ j ∧ ¬ Straight ((x.ρ j).pc t) := by
  apply Classical.byContradiction
  intro hno
  have hS : ∀ j, i ≤ j → Straight ((x.ρ j).pc t) := fun j hj => Classical.byContradiction fun h => hno ⟨j, hj, h⟩
  have step := fun j (hj : i ≤ j) => plain_step x hr t j (hS j hj) (hS (j + 1) (Nat.le_succ_of_le hj)).1
  obtain ⟨j, _, hf⟩ := Sched.leads_wf (M := Moves x t) (Prod.lex Nat.lt_wfRel Nat.lt_wfRel).wf
    (fun j => i ≤ j) (fun _ => False) (fun j => mu (x.ρ j) t)
    (fun j hj hm => .inr ⟨Nat.le_succ_of_le hj, (step j hj).imp And.right id⟩)
    (fun j hj hm => .inr ⟨Nat.le_succ_of_le hj, (step j hj).resolve_left (fun h => h.1 hm)⟩)
    (fun j hj => (hw t j fun j' hj' =>
      ⟨.inl (hS j' (Nat.le_trans hj hj')).1, not_blocked_of_pc (hS j' (Nat.le_trans hj hj')).2.1⟩).imp
      fun _ h => ⟨h.1, .inl h.2⟩)
    i (Nat.le_refl i)
  exact hf

/-- Leads-to for a thread in straight-line code: a class `R` of times at which `u` is at straight-line program
    points, and which every step of the execution keeps unless it reaches `G`, is left for `G`. -/
theorem Exec.straight_leads (x : Exec s0) (hr : Reachable s0) (hw : WeakFair x) (u : Tid) {R G : Nat → Prop}
    (hS : ∀ j, R j → Straight ((x.ρ j).pc u)) (hstep : ∀ j, R j → R (j + 1) ∨ G (j + 1)) :
    ∀ i, R i → ∃ j, i ≤ j ∧ G j := by
  intro i hi
  apply Classical.byContradiction
  intro hno
  have hall := Sched.keeps_from hi fun j hj h => (hstep j h).resolve_right fun g => hno ⟨j + 1, Nat.le_succ_of_le hj, g⟩
  obtain ⟨j, hj, hn⟩ := straight_leaves x hr hw u i
  exact hn (hS j (hall j hj))

theorem accounts_straight {p : PC} {f : Frame} {o : ObjId} (h : accounts p f o) : Straight p := by
  rcases h with ⟨h1, h2⟩ | h
  · unfold holdsAt at h1
    split at h1 <;> first
      | exact ⟨by simp, rfl, rfl, rfl⟩
      | cases h2
      | cases h1
  · split at h <;> first
      | exact ⟨by simp, rfl, rfl, rfl⟩
      | exact h.elim

/-- Every holder of an object's mutex / of a cv's spinlock releases it. -/
theorem holder_releases (x : Exec s0) (hr : Reachable s0) (hw : WeakFair x) (hf : ForeignRelease x)
    (o : ObjId) (u : Tid) (j : Nat) :
    ∃ j', j ≤ j' ∧ ((x.ρ j').obj o).lock ≠ some u := by
  apply Classical.byContradiction
  intro hno
  have hall : ∀ j', j ≤ j' → ((x.ρ j').obj o).lock = some u :=
    fun j' hj => Classical.byContradiction (fun hne => hno ⟨j', hj, hne⟩)
  -- a holder that is not at a program point that accounts for the lock releases it by `ForeignRelease`
  have hacc : ∀ j', j ≤ j' → accounts ((x.ρ j').pc u) ((x.ρ j').fr u) o := fun j' hj =>
    Classical.byContradiction fun hna => by
      obtain ⟨j'', h1, h2⟩ := hf j' o u (hall j' hj) hna
      exact h2 (hall j'' (by omega))
  obtain ⟨j', hj', hn⟩ := straight_leaves x hr hw u j
  exact hn (accounts_straight (hacc j' hj'))

/-- Every lock is free again and again. -/
theorem lock_free_again (x : Exec s0) (hr : Reachable s0) (hw : WeakFair x) (hf : ForeignRelease x)
    (o : ObjId) (j : Nat) : ∃ j', j ≤ j' ∧ ((x.ρ j').obj o).lock = none := by
  cases hl : ((x.ρ j).obj o).lock with
  | none => exact ⟨j, Nat.le_refl _, hl⟩
  | some u =>
    obtain ⟨j1, hj1, hne, hb⟩ := Sched.first_at (M := fun j' => ((x.ρ j').obj o).lock ≠ some u)
      (holder_releases x hr hw hf o u j)
    have hj : j < j1 := Nat.lt_of_le_of_ne hj1 fun e => hne (e ▸ hl)
    obtain ⟨k, rfl⟩ : ∃ k, j1 = k + 1 := ⟨j1 - 1, by omega⟩
    have hk := Classical.not_not.1 (hb k (by omega) (by omega))
    rcases x.lock_step hr o k with h | h | h
    · exact absurd (h ▸ hk) hne
    · rw [hk] at h; cases h
    · exact ⟨k + 1, by omega, h⟩

end WaitN
