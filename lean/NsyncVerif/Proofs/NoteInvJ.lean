/-
  Layer `Note`, invariant J (delivery): a notified note with children has a thread inside
  `note_notify_child` on it, past the store of the flag.  First what the proof needs of creation
  (`InvG`: the notes on a creation-time path have been returned by `nsync_note_new`; a note that is
  still being created has no children).  Then the definitions, how an activation ends (`Own.active`:
  only by leaving WAIT_FOR_NO_CHILDREN with an EMPTY list — since the repair of F4 it scans again when
  `children_adopted` ended the wait), and the preservation of the invariant given that the adoption
  step of `nsync_note_free` never appends to an empty list of a notified parent (`step_invJ'`).  That
  this never happens on the repaired code (F7: the note being freed is itself still on that list) is
  `Reachable.invJ` (Proofs/NoteFixG.lean); `ReachableH` (no adoption under an already notified parent
  at all) is the hypothesis of the corollaries `ReachableH.invJ`, `C08_complete_partial`.
-/
import NsyncVerif.Proofs.NoteInvT


namespace Note

/-- Every note on the creation-time path of `n`, other than `n` itself, has been returned by
    `nsync_note_new` (it was passed as the `parent` argument of a later `nsync_note_new`). -/
def InvG (s : State) : Prop :=
  ∀ n a, a ∈ s.ancEver n → a ≠ n → s.published a = true

theorem InvG.init : InvG Note.init := by
  intro n a ha; simp [Note.init] at ha

theorem step_invG {s s' : State} {e : Event} (hX : InvX s) (hG : InvG s)
    (hs : step s e = .ok s') : InvG s' := by
  intro n a ha hne
  have hst := step_stable hs
  rcases step_ghost hs n with ⟨h, _, _⟩ | ⟨h0, h1⟩
  · rw [h] at ha; exact hst.published a (hG n a ha hne)
  · rcases step_alloc hs n h1 with h | ⟨t, par, dl, _, hpc, _, _, _, han, _⟩
    · simp [h0] at h
    · rw [han] at ha
      rcases List.mem_cons.mp ha with ha | ha
      · exact absurd ha hne
      · cases par with
        | none => simp [State.ancOf] at ha
        | some p =>
          simp only [State.ancOf] at ha
          have hc := hX.claim t
          rw [hpc] at hc
          by_cases hap : a = p
          · subst hap; exact hst.published a (hc a rfl).1
          · exact hst.published a (hG p a ha hap)

theorem Reachable.invG {s : State} (h : Reachable s) : InvG s := by
  refine Reachable.induction (P := InvG) InvG.init ?_ s h
  intro s e s' hr hG hs
  exact step_invG hr.inv6.2.2.2.1 hG hs

/-- A note with children has been returned by `nsync_note_new`. -/
theorem Reachable.children_published {s : State} (hr : Reachable s) {p c : NoteId}
    (h : c ∈ (s.notes p).children) : s.published p = true := by
  obtain ⟨_, _, hS, _, hL, _⟩ := hr.inv6
  exact hr.invG c p (hS.children p c h).1 (hL.children p c h)

/-- A note that is still being created has no children. -/
theorem Reachable.creating_no_children {s : State} (hr : Reachable s) {t : Tid} {n : NoteId}
    (hc : (s.pc t).creating = some n) : (s.notes n).children = [] := by
  cases h : (s.notes n).children with
  | nil => rfl
  | cons c cs =>
    have := hr.children_published (p := n) (c := c) (by rw [h]; simp)
    rw [(hr.inv6.1.creating t n hc).2] at this
    cases this

/-- The thread has an activation of `note_notify_child` on `p` that has stored the flag of `p`. -/
def Active (pc : PC) (p : NoteId) : Prop :=
  match pc with
  | .chd pos (f :: rest) _ => (f.note = p ∧ pos.stored = true) ∨ p ∈ rest.map Frame.note
  | _ => False

/-- The step is the adoption (note.c:256-264) of a child under a parent whose flag is already set. -/
def AdoptsUnderNotified (s : State) (e : Event) : Prop :=
  ∃ t n p c nx, e = .lockRet t ∧ s.pc t = .fr .lockChildRet n (some p) c nx ∧
    (s.notes c).disconnecting = 0 ∧ (s.notes p).notified = true

/-- States reachable without ever adopting a child under a notified parent. -/
inductive ReachableH : State → Prop
  | init : ReachableH Note.init
  | step {s s' : State} {e : Event} : ReachableH s → step s e = .ok s' →
      ¬ AdoptsUnderNotified s e → ReachableH s'

theorem ReachableH.reachable {s : State} (h : ReachableH s) : Reachable s := by
  induction h with
  | init => exact Reachable.start
  | step _ hs _ ih => exact ih.next hs

theorem active_afterDeadlinePc (n : NoteId) (nt : Dl) (dk : DK) (p : NoteId) :
    ¬ Active (Note.afterDeadlinePc n nt dk) p := by
  cases dk <;> simp only [Note.afterDeadlinePc] <;> (try split) <;> (try split) <;> simp [Active]

theorem Active.move {pos pos' : CPos} {stk : List Frame} {top : Top} {p : NoteId}
    (hs : pos'.stored = true) (h : Active (.chd pos stk top) p) : Active (.chd pos' stk top) p := by
  cases stk with
  | nil => exact h
  | cons f rest =>
    rcases h with h | h
    · exact Or.inl ⟨h.1, hs⟩
    · exact Or.inr h

theorem Active.push {pos pos' : CPos} {stk : List Frame} {top : Top} {p : NoteId} (g : Frame)
    (h : Active (.chd pos stk top) p) :
    Active (.chd pos' (g :: stk) top) p := by
  cases stk with
  | nil => exact absurd h (by simp [Active])
  | cons f rest =>
    right
    rcases h with h | h
    · simp [h.1]
    · simp only [List.map_cons, List.mem_cons]; exact Or.inr h

/-- An activation past the store ends only by leaving WAIT_FOR_NO_CHILDREN, i.e. with an empty
    children list. -/
theorem Own.active {s s' : State} {e : Event} {a : Tid} {pc pc' : PC} (h : Own s a pc e pc' s')
    {p : NoteId} (hp : Active pc p) : Active pc' p ∨ (s.notes p).children = [] := by
  cases h
  case ld_chd_ld_1 | stW_chd_wake | unlockRet_chd_unlockChildRet_1
      | unlockRet_chd_unlockChildRet_2 | waitCall_chd_waitCall_1 | waitCall_chd_waitCall_2 =>
    left; simpa [Active] using hp
  -- early return from `ld`: the head had not stored, only outer activations count
  case ld_chd_ld_2_in => left; simpa [Active, eq_comm] using hp
  case ld_chd_ld_2_par | ld_chd_ld_2_top => simp [Active] at hp
  -- after the store / a wake-up, another scan after WAIT_FOR_NO_CHILDREN: same stack
  case stNote_chd_st_wake | stNote_chd_st_none | stNote_chd_st_child | semV_chd_semV_wake
      | semV_chd_semV_none | semV_chd_semV_child | waitRet_chd_waitRet_2 =>
    left
    simp only [Active, CPos.stored] at hp ⊢
    rcases hp with hp | hp
    · exact Or.inl ⟨hp.1, trivial⟩
    · exact Or.inr hp
  -- positions with a general stack
  case lockCall_chd_lockChild | lockRet_chd_lockChildRet_2 | unlockCall_chd_unlockChild =>
    left; exact Active.move rfl hp
  case lockRet_chd_lockChildRet_1 => left; exact Active.push _ hp
  -- leaving WAIT_FOR_NO_CHILDREN
  case waitRet_chd_waitRet_1_in =>
    simp only [Active, CPos.stored] at hp
    rcases hp with hp | hp
    · right; rw [← hp.1]; assumption
    · left; simpa [Active, eq_comm] using hp
  case waitRet_chd_waitRet_1_par | waitRet_chd_waitRet_1_top =>
    right
    simp only [Active, CPos.stored, List.map_nil, List.not_mem_nil, or_false] at hp
    rw [← hp.1]; assumption
  all_goals (try (simp [Active] at hp; done))

/-- The delivery invariant. -/
def InvJ (s : State) : Prop :=
  ∀ p, (s.notes p).notified = true → (s.notes p).children ≠ [] → ∃ t, Active (s.pc t) p

/-- Preservation, given that the adoption step (note.c: `nsync_note_free` appends a child of the
    note being freed to `parent->children`) never appends to an EMPTY list of a notified parent.
    On the repaired code this is a fact (`Reachable.invJ`, Proofs/NoteFixG.lean: the note being
    freed is itself still on that list); `ReachableH` assumes it. -/
theorem step_invJ' {s s' : State} {e : Event} (hr : Reachable s) (hJ : InvJ s)
    (hs : step s e = .ok s')
    (hno : ∀ t n p c nx, e = .lockRet t → s.pc t = .fr .lockChildRet n (some p) c nx →
      (s.notes c).disconnecting = 0 → (s.notes p).notified = true → (s.notes p).children ≠ []) :
    InvJ s' := by
  intro p hn hch
  rcases step_flag_store hs p hn with hn0 | ⟨a, f, rest, top, _, _, _, _, pos', f', hpc', hf, hst⟩ |
    ⟨a, q, dl, ha, hpc, _⟩
  · -- the flag was already set
    by_cases hch0 : (s.notes p).children = []
    · -- the list was empty: who added a child?
      exfalso
      obtain ⟨c, hc⟩ := List.exists_mem_of_ne_nil _ hch
      rcases step_children' hs p c hc with h | ⟨a, dl, _, _, hpos⟩ | ⟨a, n, nx, he, hpc, hd⟩
      · rw [hch0] at h; cases h
      · -- nsync_note_new links only under an un-notified parent
        unfold NoteRec.ntime Dl.pos at hpos
        simp [hn0] at hpos
      · exact hno a n p c nx he hpc hd hn0 hch0
    · obtain ⟨t, ht⟩ := hJ p hn0 hch0
      by_cases ha : e.actor = some t
      · rcases (step_actor hs ha).active ht with h | h
        · exact ⟨t, h⟩
        · exact absurd h hch0
      · exact ⟨t, by rw [step_pc_other hs t ha]; exact ht⟩
  · -- the storing thread has an activation past the store
    exact ⟨a, by rw [hpc']; exact Or.inl ⟨hf, hst⟩⟩
  · -- the note is still being created: it has no children, and this step adds none
    exfalso
    have hch0 : (s.notes p).children = [] :=
      hr.creating_no_children (t := a) (by rw [hpc]; simp)
    obtain ⟨c, hc⟩ := List.exists_mem_of_ne_nil _ hch
    rcases step_children' hs p c hc with h | ⟨a', dl', ha', hpc', _⟩ | ⟨a', n, nx, he, hpc', _⟩
    · rw [hch0] at h; cases h
    · rw [ha] at ha'; cases ha'; rw [hpc] at hpc'; cases hpc'
    · subst he
      simp only [Event.actor, Option.some.injEq] at ha
      subst ha; rw [hpc] at hpc'; cases hpc'

theorem step_invJ {s s' : State} {e : Event} (hr : Reachable s) (hJ : InvJ s)
    (hs : step s e = .ok s') (hno : ¬ AdoptsUnderNotified s e) : InvJ s' :=
  step_invJ' hr hJ hs (fun t n p c nx he hpc hd hn _ => hno ⟨t, n, p, c, nx, he, hpc, hd, hn⟩)

theorem ReachableH.invJ {s : State} (h : ReachableH s) : InvJ s := by
  induction h with
  | init => intro p hn; simp [Note.init, NoteRec.blank] at hn
  | step hprev hs hno ih => exact step_invJ hprev.reachable ih hs hno

theorem Reachable.invT {s : State} (h : Reachable s) : InvT s := by
  refine Reachable.induction (P := InvT) InvT.init ?_ s h
  intro s e s' hr hT hs
  have h6 := hr.inv6
  exact step_invT h6.2.2.1 h6.2.2.2.2.1 hT hs

end Note
