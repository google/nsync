/-
  Layer `CvFix` (repaired cv.c): the structural invariant is preserved by every transition (given that the ghost
  flag `bad` stays false, which `Proofs/CvFixInvB*.lean` establish).  `frameA_tr` is the rules' lemmas side by side, for
  every clause but the two about a record alone; with those, `invA_tr` stands in Proofs/CvFixRcd.lean.
-/
import NsyncVerif.Proofs.CvFixInvASig
import NsyncVerif.Proofs.CvFixOld

namespace NsyncVerif.CvFix

theorem ite_sRel (b : Bool) :
    (if b = true then Loc.sRel else Loc.sRcLd) = .sRel ∨ (if b = true then Loc.sRel else Loc.sRcLd) = .sRcLd := by
  cases b <;> simp

open Regions in
theorem frameA_tr {cfg : Config} {s s' : State} {e : Event} (hi : InvA s) (h : Tr cfg s e s')
    (hbad : s'.bad = false) : FrameA s' := by
  cases h with
  | same e h => exact hi.frame
  | tick ns h | semOther e sem' h => exact hi.frame.congr rfl rfl rfl rfl rfl
  | loc h => exact invA_loc hi h
  | acq t exp new obs o n hl hexp hw he ho hn hnew =>
    obtain ⟨f1, f2, f3, f4, f5, f6⟩ := acq_facts hi hl hexp hw he ho hn hnew
    subst f1
    unfold afterAcquire
    split
    · rename_i hc
      simp only at hc
      exact invA_acq_waitEnq hi t n hl hc f4 f6
    · rename_i hc
      simp only at hc
      exact invA_acq_plain hi t n .wChk2 hl (.inl ⟨hc, rfl⟩) f3 f4 f2 f6
    · rename_i hc
      simp only at hc
      exact invA_acq_plain hi t n .nLocked hl (.inr (.inl ⟨hc, rfl⟩)) f3 f4 f2 f6
    · rename_i hc
      simp only at hc
      exact invA_acq_plain hi t n .dWalk hl (.inr (.inr ⟨hc, rfl⟩)) f3 f4 f2 f6
    · rename_i hc
      simp only at hc
      refine invA_acq_sig hi t n _ _ _ _ (ite_sRel _) hl hc f3 f4 f2 f6 ?_ ?_
      · dsimp only; split
        · exact List.Sublist.refl _
        · exact sigSelect_sublist _ _
      · intro hb; dsimp only; simp [hb]
  | relWait t new obs n hl hh hnew hn hsp | relEnq t new obs n hl hh hnew hn hsp => 
    exact invA_rel_move hi hh (word_of_dec hnew hn) hsp rfl rfl rfl
      (fun q => by by_cases hq : q = (s.thr t).r <;> simp [hq]) (by exact .at hl) rfl
  | relWait2 t new obs n hl hh hnew hn hsp | relDeqW t new obs n hl hh hnew hn hsp | relDbg t new obs n hl hh hnew hn hsp => exact invA_rel_move hi hh (word_of_dec hnew hn) hsp rfl rfl rfl (fun q => ⟨rfl, rfl⟩) (by exact .at hl) rfl
  | relSig t site new obs n hl hs hh hnew hn hsp => exact invA_relSig hi t new n hl hh hnew hn hsp
  | relDeq t new obs n hl hh hnew hn hsp =>
    have hnot := hi.others_free ((hi.hold t).mp hh)
    refine invA_deqDone hi t n none (.inl hl) (by simp [hsp]) (fun u => ?_) (fun u e => nomatch e)
      (fun _ => word_of_dec hnew hn ▸ (hi.old t hh).2)
    exact ⟨(nomatch ·), fun h => by rw [hnot u h.1] at h; cases h.2⟩
  | wHeadExit t r y hy hl hr hw =>
    subst hy
    have hb : (s.recs r).stat.registered = false := by
      simp only [setThr_bad, setRec_bad] at hbad
      cases hm : (s.recs r).stat.registered
      · rfl
      · rw [hm] at hbad; simp at hbad
    exact (invA_wHeadExit hi t r _ _ hl hr hb).congr rfl rfl rfl rfl rfl
  | wCmpEq t r obs hl hr ho he =>
    have hst : (s.recs r).stat = .queued := by
      simp only [setThr_bad, setRec_bad] at hbad
      by_cases h : (s.recs r).stat = .queued
      · exact h
      · simp [h] at hbad
    exact (invA_wCmpEq hi t r hl hr hst).congr rfl rfl rfl rfl rfl
  | deqLdQueued t r obs hl hr hw hq => exact invA_deqLdQueued hi t r true hl hr ((hi.qMem r).mp hq)
  | deqSpinExit t r hl hr hw =>
    subst hr
    have hnh : s.holder ≠ some t := fun e => by have := (hi.hold t).mp e; simp [hl, Loc.holds] at this
    refine invA_deqDone hi t s.word s.holder (.inr hl) hi.spin (fun u => ?_) hi.old hi.free
    exact ⟨fun e => ⟨fun hu => hnh (hu ▸ e), (hi.hold u).mp e⟩, fun ⟨_, hb⟩ => (hi.hold u).mpr hb⟩
  | wSt1 t r obs hl hm hst => exact invA_wSt1 hi t r hl hm hst
  | wClr t r obs hl hr => exact invA_wClr hi t r hl hr
  | wake t r obs hl hr => exact invA_wake hi t r hl hr
  | enqSt t r obs hl hm hst ho he => exact invA_enqSt hi t r hl hm hst ho
  | deqSt t r obs hl hr => exact invA_deqSt hi t r hl hr
  | wRmCasOk t r exp new obs hl hr hn ho he => 
    exact invA_move hi rfl rfl rfl rfl (fun q => by by_cases hq : q = r <;> simp [hq])
      (by exact .at hl) (by simp [hl, Loc.holds]) rfl
  | sRcCasOk t site r exp new obs hl hr hn ho he => exact invA_sRcCasOk hi t r new hl
  | muMode t obs lt hl hlt => 
    exact invA_move hi rfl rfl rfl rfl (fun q => by by_cases hq : q = (s.thr t).r <;> simp [hq])
      (by exact .at hl) (by simp [hl, Loc.holds]) rfl
  | wwCasOk t exp new obs f rest hl hlist =>
    exact invA_transfer hi t _ _ hl (transferSet_subset _ _ _)
  | semVWake t k r q hl hc => 
    refine invA_move hi rfl rfl rfl rfl (fun q => by by_cases hq : q = r <;> simp [hq]) ?_ ?_ rfl
    · by_cases hz : (s.thr t).list.isEmpty = true <;> exact .at hl { wake := by simp_all }
    · by_cases hz : (s.thr t).list.isEmpty = true <;> simp [hl, hz, Loc.holds]
  | semPdRetOkW t k hl | semPdRetOkC t k hl => exact invA_move hi rfl rfl rfl rfl (fun q => ⟨rfl, rfl⟩) (by exact .at hl) (by simp [hl, Loc.holds]) rfl
  | wInit t r hl hm hst | fStW t r new hl hf | fCasOk t r exp new obs hl hf hn ho he =>
    exact invA_setRec hi r ⟨rfl, fun _ => rfl⟩
  | nwInit t r hl hm hst => exact invA_setRec hi r ⟨rfl, fun h => absurd hst h⟩

/-- The steps of the pinned cv.c that the repaired one does not have (`Proofs/CvFixOld.lean`): the one record they write
    is neither queued nor being prepared afterwards, or keeps status and flag. -/
theorem invA_old {s s' : State} {e : Event} {g : Bool} (hi : InvA s) (h : Old s e s' g) (hbad : s'.bad = false) : InvA s' := by
  cases h with
  | same e => exact hi
  | sem e sem' => exact hi.ofFrame (hi.frame.congr rfl rfl rfl rfl rfl) (fun _ _ => ⟨rfl, rfl⟩)
  | deqLdQueued t r obs hl hr hw hst =>
    exact hi.ofFrame (invA_deqLdQueued hi t r (s.thr t).wasQ hl hr hst) (fun q => by by_cases hq : q = r <;> simp [hq])
  | deqLdF3 t r obs u hl hr hw hst hlist =>
    exact hi.ofFrame (invA_deqLdF3 hi t r u hl hr hst) (fun q => by by_cases hq : q = r <;> simp [hq])
  | deqLdBad t r obs hl hr hw hst hst2 => simp at hbad

end NsyncVerif.CvFix
