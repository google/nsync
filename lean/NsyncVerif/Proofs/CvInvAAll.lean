/-
  Layer `Cv`: the structural invariant `InvA` is the repaired layer's `CvFix.InvA` at the embedded
  state (`Proofs/CvUp.lean`); `invA_up` reads it back clause by clause.  The argument is in
  `Proofs/CvFixInvA*.lean` (for the repaired code's steps and for `CvFix.Old`), the induction in
  `Proofs/CvInvBAll.lean`.
-/
import NsyncVerif.Proofs.CvInvA
import NsyncVerif.Proofs.CvTactics  -- imported only so that it is built
import NsyncVerif.Proofs.CvUpTr
import NsyncVerif.Proofs.CvFixInvAAll

namespace NsyncVerif.Cv

theorem setThr_thr_self (s : State) (t : Tid) (x : Thr) : (s.setThr t x).thr t = x := by simp

/-- Mutual exclusion: two holders are the same thread. -/
theorem InvA.holder_unique {s : State} (hi : InvA s) {t u : Tid} (ht : (s.thr t).loc.holds = true)
    (hu : (s.thr u).loc.holds = true) : u = t := by
  have a := (hi.hold t).mpr ht
  have b := (hi.hold u).mpr hu
  rw [a] at b; cases b; rfl

@[simp] theorem Loc.up_holds (l : Loc) : l.up.holds = l.holds := by cases l <;> rfl
@[simp] theorem Loc.up_wakePhase (l : Loc) : l.up.wakePhase = l.wakePhase := by cases l <;> rfl
theorem Cont.up_beq (c d : Cont) : (c.up == d.up) = (c == d) := by cases c <;> cases d <;> rfl
@[simp] theorem up_waitPrep (x : Thr) : CvFix.waitPrep x.up = waitPrep x := by
  simp only [CvFix.waitPrep, waitPrep, Thr.up]; cases x.loc <;> first | rfl | exact Cont.up_beq _ .waitEnq
@[simp] theorem up_waitLive (x : Thr) : CvFix.waitLive x.up = waitLive x := by
  simp only [CvFix.waitLive, waitLive, Thr.up]; cases x.loc <;> first | rfl | exact Cont.up_beq _ .waitChk
@[simp] theorem up_inWaitN (x : Thr) : CvFix.inWaitN x.up = inWaitN x := by
  simp only [CvFix.inWaitN, inWaitN, Thr.up]; cases x.loc <;> first | rfl | exact Cont.up_beq _ .waitn
@[simp] theorem RStat.up_live (a : RStat) : a.up.live = a.live := by cases a <;> rfl
theorem stat_up {a b : RStat} (h : a.up = b.up) : a = b := RStat.up_inj.mp h
theorem loc_up {l c : Loc} (h : l = c) : l.up = c.up := congrArg _ h

theorem nodup_of_map_up {l : List Rid} (h : (l.map Rid.up).Nodup) : l.Nodup := by
  induction l with
  | nil => exact List.nodup_nil
  | cons a l ih =>
    rw [List.map_cons, List.nodup_cons] at h
    exact List.nodup_cons.mpr ⟨fun m => h.1 (List.mem_map_of_mem m), ih h.2⟩

theorem tinvA_up {s : State} {t : Tid} (h : CvFix.TInvA s.up t) : TInvA s t := by
  obtain ⟨t1, t2, t3, t4, t5, t6, t7, t8, t9, t10, t11, t12⟩ := h
  simp only [State.up_thr, up_waitPrep, up_waitLive, up_inWaitN, Thr.up_loc, Loc.up_wakePhase, Thr.up_r, State.up_recs,
    Rec.up_stat, Rec.up_owner, Rid.up_isMucv, Thr.up_list, Thr.up_mine, List.map_eq_nil_iff] at t1 t2 t3 t4 t5 t6 t7 t8 t9 t10 t11
  constructor
  · exact t1
  · exact fun e => ⟨stat_up (t2 e).1, (t2 e).2⟩
  · exact fun e => ⟨(t3 e).1, (t3 e).2.1, by simpa using (t3 e).2.2⟩
  · exact fun e => stat_up (t4 (e.imp loc_up loc_up))
  · exact fun e => stat_up (t5 (e.imp loc_up (Or.imp loc_up loc_up)))
  · intro r hr
    have := t6 r.up (List.mem_map_of_mem hr)
    simp only [State.up_recs, Rec.up_stat, Rec.up_owner, Rid.up_isMucv] at this
    exact ⟨this.1, this.2.1, fun e => this.2.2.1 (congrArg RStat.up e), fun e => this.2.2.2 (congrArg RStat.up e)⟩
  · exact nodup_of_map_up t7
  · exact t8
  · exact fun e => ⟨stat_up (t9 (loc_up e)).1, Rid.mem_map_up.mp (t9 (loc_up e)).2⟩
  · exact fun e => ⟨Rid.mem_map_up.mp (t10 (e.imp loc_up loc_up)).1, fun q => (t10 (e.imp loc_up loc_up)).2 (congrArg RStat.up q)⟩
  · exact fun e => t11 (loc_up e)

theorem invA_up {s : State} (h : CvFix.InvA s.up) : InvA s := by
  obtain ⟨a1, a2, a3, a4, a5, a6, a7, a8, a9, a10, a11, a12⟩ := h
  constructor
  · exact a1
  · intro t; have := a2 t; simp only [State.up_thr, Thr.up_loc, Loc.up_holds] at this; exact this
  · intro t e
    have := a3 t e
    simpa [State.up, Thr.up, Word.up] using this
  · intro e; simpa [State.up, Word.up] using a4 e
  · exact nodup_of_map_up a5
  · intro r
    have := a6 r.up
    simp only [State.up_recs, Rec.up_stat] at this
    exact ⟨fun m => stat_up (this.mp (List.mem_map_of_mem m)), fun q => Rid.mem_map_up.mp (this.mpr (congrArg RStat.up q))⟩
  · intro r e; simpa using a7 r.up (by rw [State.up_recs]; exact congrArg RStat.up e)
  · intro u; exact nodup_of_map_up (a8 u)
  · intro u r
    have := a9 u r.up
    simp only [State.up_recs, Rec.up_stat, State.up_thr, Thr.up_list] at this
    exact ⟨fun m => stat_up (this.mp (List.mem_map_of_mem m)), fun q => Rid.mem_map_up.mp (this.mpr (congrArg RStat.up q))⟩
  · exact fun t => tinvA_up (a10 t)
  · intro t hb hl
    have := a11 t hb (hl.imp loc_up (Or.imp loc_up loc_up))
    simpa [State.up] using this
  · intro r e; simpa using a12 r.up (by rw [State.up_recs]; exact congrArg RStat.up e)

end NsyncVerif.Cv
