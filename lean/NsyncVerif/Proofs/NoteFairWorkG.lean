/-
  Layer `Note`, fair termination: steps of the other threads leave the inner part of the rank of a
  thread alone (`other_step_gen`: the children lists of the notes whose mutexes it holds are stable);
  executions without adoptions (`NoAdoptions`).
-/
import NsyncVerif.Proofs.NoteFairStepG
import NsyncVerif.Proofs.NoteFairDeadlock


namespace Note

variable {s0 : State}

/-! ### steps of the others -/

theorem outerW_congr {ch' ch : NoteId → List NoteId} : ∀ l : List Frame,
    (∀ g ∈ l, ch' g.note = ch g.note) → outerW ch' l = outerW ch l := by
  intro l
  induction l with
  | nil => intro _; rfl
  | cons g rest ih =>
    intro h
    simp only [outerW]
    rw [h g List.mem_cons_self, ih (fun g' hg' => h g' (List.mem_cons_of_mem _ hg'))]

/-- The work depends only on the children lists of the notes whose mutexes the thread holds. -/
theorem wGc_congr {ch' ch : NoteId → List NoteId} (pc : PC)
    (h : ∀ k, k ∈ pc.held → ch' k = ch k) : wGc ch' pc = wGc ch pc := by
  cases pc with
  | chd pos stk top =>
    cases stk with
    | nil => rfl
    | cons f rest =>
      have hrest : ∀ g ∈ rest, ch' g.note = ch g.note := by
        intro g hg
        apply h
        have hm : g.note ∈ rest.map Frame.note := List.mem_map_of_mem hg
        cases pos with
        | waitRet b =>
          cases b
          · simp only [PC.held, List.tail_cons]; exact List.mem_append_left _ hm
          · simp only [PC.held, List.map_cons]
            exact List.mem_append_left _ (List.mem_cons_of_mem _ hm)
        | unlockChild c =>
          simp only [PC.held, List.map_cons]
          exact List.mem_cons_of_mem _ (List.mem_append_left _ (List.mem_cons_of_mem _ hm))
        | _ =>
          simp only [PC.held, List.map_cons]
          exact List.mem_append_left _ (List.mem_cons_of_mem _ hm)
      have hh : headW ch' f pos = headW ch f pos := by
        cases pos with
        | ld => rfl
        | st => rfl
        | waitCall => rfl
        | waitRet b => rfl
        | wake r => simp only [headW]; rw [h f.note (by simp [PC.held])]
        | semV r => simp only [headW]; rw [h f.note (by simp [PC.held])]
        | lockChild c => simp only [headW]; rw [h f.note (by simp [PC.held])]
        | lockChildRet c => simp only [headW]; rw [h f.note (by simp [PC.held])]
        | unlockChild c => simp only [headW]; rw [h f.note (by simp [PC.held])]
        | unlockChildRet c => simp only [headW]; rw [h f.note (by simp [PC.held])]
      simp only [wGc, outerW_congr rest hrest, hh]
  | fr pos n par c nx =>
    cases pos <;> simp only [wGc, frW] <;> (try rfl) <;> rw [h n (by simp [PC.held])]
  | _ => rfl

/-- A step of another thread (or of nobody) leaves the inner part of the rank alone. -/
theorem other_step_gen {s s' : State} {e : Event} (hr : Reachable s) (hs : step s e = .ok s')
    {t : Tid} (ha : e.actor ≠ some t) : restR s' t = restR s t := by
  have hK := hr.inv6.2.2.2.2.2
  have hpc := step_pc_other hs t ha
  have hmn := other_step_mn hK hs ha
  have hw : wG s' (s.pc t) = wG s (s.pc t) :=
    wGc_congr _ (fun k hk => by
      simp only [State.ch]
      exact held_children hK hs ha hk)
  unfold restR restP
  rw [hpc, hmn, hw]

def NoAdoptions (x : Exec s0) : Prop := ∀ j e, x.σ j = some e → ¬ Adopts (x.ρ j) e

end Note
