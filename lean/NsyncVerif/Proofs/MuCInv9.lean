import NsyncVerif.Proofs.MuCInv7
/-
  MuC: who waits on which record (I_wait).  Every record on mu->waiters, on an unlocker's private lists
  or on a wake list belongs to a thread inside a wait loop (`PC.waitRec`); a thread in a wait loop
  whose record still has `waiting` set finds it on one of those lists; a thread at a semaphore wait
  whose record has `waiting` clear has a post pending; MU_WAITING is set while anything is queued.
  The invariant, what it reads of a program point, and its preservation by the general shapes of step:
  `Inv9.core` (the general form: one record rewritten), from it `Inv9.step` (lists shrink), `Inv9.local`/`Inv9.frame`
  (lists kept; `Keep9`: what is asked of the new program point), `Inv9.env` (no thread moves), `Inv9.move`, `Inv9.cas`.
-/
namespace NsyncVerif.MuC

def Ret.w? : Ret → Option Wid
  | .ul _ _ => none
  | .mw c => c.w

def Ret.wmode : Ret → Mode
  | .ul l _ => l
  | .mw c => c.l

/-- The record the thread has queued and on which it has not yet seen `waiting = 0` (nor removed it
    from the queue itself). -/
def PC.waitRec : PC → Option Wid
  | .lsRelLd c | .lsRelCas c _ | .lsWaitLd c | .lsPEnter c | .lsPRet c => c.w
  | .usLd r | .usCasUnc r _ | .usCasGrab r _ | .usRelLd r _ | .usRelCas r _ _ | .usEval r _ | .usRcLd r _ _ | .usRcCas r _ _ _
  | .usReLd r _ | .usReCas r _ _ | .usFinLd r _ | .usFinCas r _ _ | .usWakeSt r _ _ | .usWakeV r _ _ => r.w?
  | .mwRelLd c | .mwRelCas c _ _ | .mwSem c | .mwPdRet c _ | .mwNotify c | .mwLd244 c => c.w
  | .mwWaitLd c | .mwLd255 c => c.w
  | .mtLd c | .mtCasAcq c _ | .mtCasWW c _ | .mtLdWk c _ | .mtLdW c _ | .mtLdRc c _ => c.w
  | .mtStRel c _ ok => if ok then none else c.w
  | _ => none

/-- The mode in which the waiting thread wants the mutex. -/
def PC.wmode : PC → Mode
  | .lsRelLd c | .lsRelCas c _ | .lsWaitLd c | .lsPEnter c | .lsPRet c => c.l
  | .usLd r | .usCasUnc r _ | .usCasGrab r _ | .usRelLd r _ | .usRelCas r _ _ | .usEval r _ | .usRcLd r _ _ | .usRcCas r _ _ _
  | .usReLd r _ | .usReCas r _ _ | .usFinLd r _ | .usFinCas r _ _ | .usWakeSt r _ _ | .usWakeV r _ _ => r.wmode
  | .mwRelLd c | .mwRelCas c _ _ | .mwSem c | .mwPdRet c _ | .mwNotify c | .mwLd244 c
  | .mwWaitLd c | .mwLd255 c
  | .mtLd c | .mtCasAcq c _ | .mtCasWW c _ | .mtLdWk c _ | .mtLdW c _ | .mtLdRc c _ | .mtStRel c _ _ => c.l
  | _ => .W

/-- The record whose semaphore the thread is waiting on. -/
def PC.pwait : PC → Option Wid
  | .lsPEnter c | .lsPRet c => c.w
  | .mwSem c | .mwPdRet c _ => c.w
  | _ => none

/-- Between the store `waiting := 1` and the enqueue CAS of mu_wait, or after the thread has removed its record
    itself (mu_wait.c:112): the record, on no list, and the mode it was prepared for. -/
def PC.limboL : PC → Option (Wid × Mode)
  | .mwRcLd c | .mwEnqLd c | .mwEnqCas c _ | .mtRmLd c _ | .mtRmCas c _ _ | .mtStW c _ => c.w.map (fun k => (k, c.l))
  | .mtStRel c _ true => c.w.map (fun k => (k, c.l))
  | _ => none

/-- The thread has taken its record off the queue itself and cleared `waiting` (mu_wait.c:112-113). -/
def PC.hlRec : PC → Option Wid
  | .mtStRel c _ true => c.w
  | .mwLd255 c | .mwWaitLd c => if c.hl then c.w else none
  | _ => none

theorem hlRec_mem_ws {p : PC} {k : Wid} (h : p.hlRec = some k) : k ∈ p.ws := by
  cases p with
  | mtStRel c old ok => cases ok <;> simp_all [PC.hlRec, PC.ws]
  | mwLd255 c | mwWaitLd c => simp only [PC.hlRec] at h; split at h <;> simp_all [PC.ws]
  | _ => simp [PC.hlRec] at h

structure Inv9 (s : State) : Prop where
  hlf : ∀ t k, (s.pc t).hlRec = some k → (s.wr k).waiting = false
  lim : ∀ t k l, (s.pc t).limboL = some (k, l) → (s.wr k).lType = l
  w4 : ∀ k, Queued s k → s.word.waiting = true
  w4p : ∀ t, (s.pc t).enqPend = true → s.word.waiting = true
  w4m : ∀ t old, (s.pc t).mtOld = some old → ∀ k, Queued s k → old.waiting = true
  own : ∀ k, (Queued s k ∨ ∃ u, k ∈ (s.pc u).wakeL) → ∃ t, (s.pc t).waitRec = some k
  lt : ∀ t k, (s.pc t).waitRec = some k → (s.wr k).lType = (s.pc t).wmode
  w3 : ∀ t k, (s.pc t).waitRec = some k → (s.wr k).waiting = true → Queued s k ∨ ∃ u, k ∈ (s.pc u).wakeL
  w1 : ∀ t k, (s.pc t).pwait = some k → (s.wr k).waiting = false →
        (s.wr k).sem ≠ 0 ∨ ∃ u r rest, s.pc u = .usWakeV r k rest

theorem ret_w_mem {r : Ret} {k : Wid} (h : r.w? = some k) : k ∈ r.ws := by
  cases r <;> simp_all [Ret.w?, Ret.ws]

theorem waitRec_mem_ws {p : PC} {k : Wid} (h : p.waitRec = some k) : k ∈ p.ws := by
  cases p <;> simp only [PC.waitRec] at h <;> first
    | (cases h; done)
    | (simp [PC.ws, SL.ws, h]; done)
    | (simp only [PC.ws]; exact ret_w_mem h)
    | (split at h <;> simp_all [PC.ws])

theorem limboL_mem_ws {p : PC} {k : Wid} {l : Mode} (h : p.limboL = some (k, l)) : k ∈ p.ws := by
  cases p with
  | mtStRel c old ok =>
    cases ok with
    | false => simp [PC.limboL] at h
    | true =>
      simp only [PC.limboL, Option.map_eq_some_iff, Prod.mk.injEq] at h
      obtain ⟨a, ha, rfl, _⟩ := h
      simp [PC.ws, ha]
  | mwRcLd c | mwEnqLd c | mwEnqCas c _ | mtRmLd c _ | mtRmCas c _ _ | mtStW c _ =>
    simp only [PC.limboL, Option.map_eq_some_iff, Prod.mk.injEq] at h
    obtain ⟨a, ha, rfl, _⟩ := h
    simp [PC.ws, ha]
  | _ => simp [PC.limboL] at h

theorem pwait_waitRec {p : PC} {k : Wid} (h : p.pwait = some k) : p.waitRec = some k := by
  cases p <;> simp [PC.pwait] at h <;> simp [PC.waitRec, h]

theorem finPc_waitRec (r : Ret) (l : List Wid) : (finPc r l).waitRec = r.w? := by
  cases l <;> cases r <;> rfl
theorem finPc_hlRec (r : Ret) (l : List Wid) (hr : r.ok) : (finPc r l).hlRec = none := by
  cases l <;> cases r <;> first | rfl | (simp only [finPc, Ret.pc, PC.hlRec]; simp_all [Ret.ok, MW.inner])

theorem waitRec_unique {s : State} (h4 : Inv4 s) {t u : Tid} {k : Wid} (ht : (s.pc t).waitRec = some k)
    (hu : (s.pc u).waitRec = some k) : t = u := by
  have a := h4.own t k (waitRec_mem_ws ht)
  have b := h4.own u k (waitRec_mem_ws hu)
  rw [a] at b; cases b; rfl

/-- The record is on mu->waiters, on an unlocker's private lists, or on a wake list. -/
def Listed (s : State) (k : Wid) : Prop := Queued s k ∨ ∃ u, k ∈ (s.pc u).wakeL

theorem listed_congr {s s' : State} (hQ : ∀ k, Queued s' k ↔ Queued s k) (hwk : ∀ u, (s'.pc u).wakeL = (s.pc u).wakeL) (k : Wid) :
    Listed s' k ↔ Listed s k := by
  simp only [Listed, hQ, hwk]

/-- The general form: `t` acts; the contents of at most one record `kx`, on which no other thread
    waits, change arbitrarily; records may enter the lists only as `t`'s new wait record. -/
theorem Inv9.core {s s' : State} (t : Tid) (kx : Option Wid) (h4 : Inv4 s) (h : Inv9 s)
    (hw4 : ∀ k, Queued s' k → s'.word.waiting = true)
    (hw4p : ∀ u, (s'.pc u).enqPend = true → s'.word.waiting = true)
    (hw4m : ∀ u old, (s'.pc u).mtOld = some old → ∀ k, Queued s' k → old.waiting = true)
    (hLsub : ∀ x, Listed s' x → Listed s x ∨ (s'.pc t).waitRec = some x)
    (hLkeep : ∀ x, Listed s x → (s.pc t).waitRec ≠ some x → kx ≠ some x → Listed s' x)
    (hwr : ∀ x, kx ≠ some x → (s'.wr x).waiting = (s.wr x).waiting ∧ (s'.wr x).lType = (s.wr x).lType ∧
      ∀ u, (s'.pc u).pwait = some x → (s.wr x).sem ≠ 0 → (s'.wr x).sem ≠ 0)
    (hkx : ∀ u, u ≠ t → ∀ x, kx = some x → (s.pc u).waitRec ≠ some x)
    (hpc : ∀ u, u ≠ t → s'.pc u = s.pc u)
    (hownt : ∀ x, (s.pc t).waitRec = some x → Listed s' x → (s'.pc t).waitRec = some x)
    (hltt : ∀ x, (s'.pc t).waitRec = some x → (s'.wr x).lType = (s'.pc t).wmode)
    (hw3t : ∀ x, (s'.pc t).waitRec = some x → (s'.wr x).waiting = true → Listed s' x)
    (hw1t : ∀ x, (s'.pc t).pwait = some x → (s'.wr x).waiting = false →
      (s'.wr x).sem ≠ 0 ∨ ∃ u r rest, s'.pc u = .usWakeV r x rest)
    (hw1o : ∀ r x rest, s.pc t = .usWakeV r x rest → (s'.wr x).sem ≠ 0 ∨ s'.pc t = .usWakeV r x rest)
    (hlimt : ∀ k l, (s'.pc t).limboL = some (k, l) → (s'.wr k).lType = l)
    (hkxl : ∀ u, u ≠ t → ∀ x l, (s.pc u).limboL = some (x, l) → kx ≠ some x)
    (hhlt : ∀ k, (s'.pc t).hlRec = some k → (s'.wr k).waiting = false)
    (hkxh : ∀ u, u ≠ t → ∀ x, (s.pc u).hlRec = some x → kx ≠ some x) : Inv9 s' := by
  have hne : ∀ u, u ≠ t → ∀ x, (s.pc u).waitRec = some x → kx ≠ some x := fun u hu x hx e => hkx u hu x e hx
  refine ⟨?_, ?_, hw4, hw4p, hw4m, ?_, ?_, ?_, ?_⟩
  · intro u k hu
    by_cases e : u = t
    · subst e; exact hhlt k hu
    · rw [hpc u e] at hu
      rw [(hwr k (hkxh u e k hu)).1]; exact h.hlf u k hu
  · intro u k l hu
    by_cases e : u = t
    · subst e; exact hlimt k l hu
    · rw [hpc u e] at hu
      rw [(hwr k (hkxl u e k l hu)).2.1]; exact h.lim u k l hu
  · intro x hx
    rcases hLsub x hx with a | a
    · obtain ⟨u, hu⟩ := h.own x a
      by_cases e : u = t
      · subst e; exact ⟨u, hownt x hu hx⟩
      · exact ⟨u, by rw [hpc u e]; exact hu⟩
    · exact ⟨t, a⟩
  · intro u x hu
    by_cases e : u = t
    · subst e; exact hltt x hu
    · rw [hpc u e] at hu ⊢
      rw [(hwr x (hne u e x hu)).2.1]; exact h.lt u x hu
  · intro u x hu hwt
    by_cases e : u = t
    · subst e; exact hw3t x hu hwt
    · rw [hpc u e] at hu
      rw [(hwr x (hne u e x hu)).1] at hwt
      exact hLkeep x (h.w3 u x hu hwt) (fun ht => e (waitRec_unique h4 hu ht)) (hne u e x hu)
  · intro u x hu hwf
    by_cases e : u = t
    · subst e; exact hw1t x hu hwf
    · have hu' := hu
      rw [hpc u e] at hu
      have hx := hne u e x (pwait_waitRec hu)
      rw [(hwr x hx).1] at hwf
      rcases h.w1 u x hu hwf with a | ⟨v, r, rest, hv⟩
      · exact Or.inl ((hwr x hx).2.2 u hu' a)
      · by_cases ev : v = t
        · subst ev
          rcases hw1o r x rest hv with b | b
          · exact Or.inl b
          · exact Or.inr ⟨v, r, rest, b⟩
        · exact Or.inr ⟨v, r, rest, by rw [hpc v ev]; exact hv⟩

/-- A step of `t`: records move between the lists, or `t`'s own record leaves them; no `waiting` /
    `l_type` changes; MU_WAITING stays set while something is queued or about to be; no semaphore a thread still waits
    on drops to 0, and if `t` leaves `usWakeV` it has posted. -/
theorem Inv9.step {s s' : State} (t : Tid) (h4 : Inv4 s) (h : Inv9 s)
    (hLsub : ∀ k, Listed s' k → Listed s k)
    (hQsub : ∀ k, Queued s' k → Queued s k)
    (hLkeep : ∀ k, Listed s k → (s.pc t).waitRec ≠ some k → Listed s' k)
    (hwr : ∀ x, (s'.wr x).waiting = (s.wr x).waiting ∧ (s'.wr x).lType = (s.wr x).lType ∧
      ∀ u, (s'.pc u).pwait = some x → (s.wr x).sem ≠ 0 → (s'.wr x).sem ≠ 0)
    (hw : ((∃ k, Queued s' k) ∨ ∃ u, (s'.pc u).enqPend = true) → s.word.waiting = true → s'.word.waiting = true)
    (hpc : ∀ u, u ≠ t → s'.pc u = s.pc u)
    (hwv : ∀ r k rest, s.pc t = .usWakeV r k rest → s'.pc t = .usWakeV r k rest ∨ (s'.wr k).sem ≠ 0)
    (henq : (s'.pc t).enqPend = true → (s.pc t).enqPend = true ∨ s'.word.waiting = true)
    (hmt : ∀ old, (s'.pc t).mtOld = some old → (s.pc t).mtOld = some old ∨ s.word = old)
    (hrec : ((s'.pc t).waitRec = (s.pc t).waitRec ∧ ((s.pc t).waitRec ≠ none → (s'.pc t).wmode = (s.pc t).wmode) ∧
        (∀ k, (s.pc t).waitRec = some k → Listed s k → Listed s' k)) ∨
      ((s'.pc t).waitRec = none ∧ ∀ k, (s.pc t).waitRec = some k → (s.wr k).waiting = false) ∨
      ((s'.pc t).waitRec = none ∧ ∀ k, (s.pc t).waitRec = some k → ¬ Listed s' k))
    (hpw : ∀ k, (s'.pc t).pwait = some k → (s.pc t).pwait = some k ∨ (s.wr k).waiting = true)
    (hlim : ∀ k l, (s'.pc t).limboL = some (k, l) → (s.pc t).limboL = some (k, l) ∨
      ((s.pc t).waitRec = some k ∧ (s.pc t).wmode = l))
    (hhl : ∀ k, (s'.pc t).hlRec = some k → (s.pc t).hlRec = some k ∨ (s.wr k).waiting = false) : Inv9 s' := by
  refine Inv9.core t none h4 h (fun k hk => hw (Or.inl ⟨k, hk⟩) (h.w4 k (hQsub k hk))) ?_ ?_ (fun x hx => Or.inl (hLsub x hx))
    (fun x hx hne _ => hLkeep x hx hne) (fun x _ => hwr x) (fun _ _ _ e => nomatch e) hpc ?_ ?_ ?_ ?_
    (fun r x rest hv => (hwv r x rest hv).symm) ?_ (fun _ _ _ _ _ e => nomatch e) ?_ (fun _ _ _ _ e => nomatch e)
  · intro u hu
    by_cases e : u = t
    · subst e
      rcases henq hu with a | a
      · exact hw (Or.inr ⟨u, hu⟩) (h.w4p u a)
      · exact a
    · exact hw (Or.inr ⟨u, hu⟩) (h.w4p u (hpc u e ▸ hu))
  · intro u old ho k hk
    have hk' := hQsub k hk
    by_cases e : u = t
    · subst e
      rcases hmt old ho with a | a
      · exact h.w4m u old a k hk'
      · rw [← a]; exact h.w4 k hk'
    · rw [hpc u e] at ho; exact h.w4m u old ho k hk'
  · intro x hx hL
    rcases hrec with ⟨a, _, _⟩ | ⟨_, b⟩ | ⟨_, b⟩
    · rw [a]; exact hx
    · -- a listed record has `waiting` set
      exfalso
      have hwf := b x hx
      rcases hLsub x hL with q | ⟨v, hv⟩
      · exact h4.not_queued hwf q
      · exact h4.not_woken hwf v hv
    · exact absurd hL (b x hx)
  · intro x hx
    rw [(hwr x).2.1]
    rcases hrec with ⟨a, b, _⟩ | ⟨a, _⟩ | ⟨a, _⟩
    · rw [a] at hx
      rw [b (by rw [hx]; simp)]; exact h.lt t x hx
    · rw [a] at hx; cases hx
    · rw [a] at hx; cases hx
  · intro x hx hwt
    rw [(hwr x).1] at hwt
    rcases hrec with ⟨a, _, c⟩ | ⟨a, _⟩ | ⟨a, _⟩
    · rw [a] at hx; exact c x hx (h.w3 t x hx hwt)
    · rw [a] at hx; cases hx
    · rw [a] at hx; cases hx
  · intro x hx hwf
    rw [(hwr x).1] at hwf
    rcases hpw x hx with a | a
    · rcases h.w1 t x a hwf with b | ⟨v, r, rest, hv⟩
      · exact Or.inl ((hwr x).2.2 t hx b)
      · by_cases e : v = t
        · subst e
          rcases hwv r x rest hv with c | c
          · exact Or.inr ⟨v, r, rest, c⟩
          · exact Or.inl c
        · exact Or.inr ⟨v, r, rest, by rw [hpc v e]; exact hv⟩
    · rw [a] at hwf; cases hwf
  · intro k l hu
    rw [(hwr k).2.1]
    rcases hlim k l hu with a | ⟨a, b⟩
    · exact h.lim t k l a
    · rw [← b]; exact h.lt t k a
  · intro k hu
    rw [(hwr k).1]
    rcases hhl k hu with a | a
    · exact h.hlf t k a
    · exact a

/-- A step of `t` that changes neither the lists nor `waiting` / `l_type` / the semaphore of any record. -/
theorem Inv9.local {s s' : State} (t : Tid) (h4 : Inv4 s) (h : Inv9 s)
    (hQ : ∀ k, Queued s' k ↔ Queued s k)
    (hwr : ∀ x, (s'.wr x).waiting = (s.wr x).waiting ∧ (s'.wr x).lType = (s.wr x).lType ∧
      ∀ u, (s'.pc u).pwait = some x → (s.wr x).sem ≠ 0 → (s'.wr x).sem ≠ 0)
    (hw : ((∃ k, Queued s' k) ∨ ∃ u, (s'.pc u).enqPend = true) → s.word.waiting = true → s'.word.waiting = true)
    (hpc : ∀ u, u ≠ t → s'.pc u = s.pc u)
    (hwk : (s'.pc t).wakeL = (s.pc t).wakeL)
    (hwv : ∀ r k rest, s.pc t = .usWakeV r k rest → s'.pc t = .usWakeV r k rest ∨ (s'.wr k).sem ≠ 0)
    (henq : (s'.pc t).enqPend = true → (s.pc t).enqPend = true ∨ s'.word.waiting = true)
    (hmt : ∀ old, (s'.pc t).mtOld = some old → (s.pc t).mtOld = some old ∨ s.word = old)
    (hrec : ((s'.pc t).waitRec = (s.pc t).waitRec ∧ ((s.pc t).waitRec ≠ none → (s'.pc t).wmode = (s.pc t).wmode)) ∨
      ((s'.pc t).waitRec = none ∧ ∀ k, (s.pc t).waitRec = some k → (s.wr k).waiting = false))
    (hpw : ∀ k, (s'.pc t).pwait = some k → (s.pc t).pwait = some k ∨ (s.wr k).waiting = true)
    (hlim : ∀ k l, (s'.pc t).limboL = some (k, l) → (s.pc t).limboL = some (k, l) ∨
      ((s.pc t).waitRec = some k ∧ (s.pc t).wmode = l))
    (hhl : ∀ k, (s'.pc t).hlRec = some k → (s.pc t).hlRec = some k ∨ (s.wr k).waiting = false) : Inv9 s' := by
  have hwk' : ∀ u, (s'.pc u).wakeL = (s.pc u).wakeL := by
    intro u; by_cases e : u = t
    · subst e; exact hwk
    · rw [hpc u e]
  have hL : ∀ k, Listed s' k ↔ Listed s k := by
    intro k; simp only [Listed, hQ, hwk']
  refine Inv9.step t h4 h (fun k => (hL k).1) (fun k => (hQ k).1) (fun k hk _ => (hL k).2 hk) hwr hw hpc hwv henq hmt ?_ hpw hlim hhl
  rcases hrec with ⟨a, b⟩ | c
  · exact Or.inl ⟨a, b, fun k _ hk => (hL k).2 hk⟩
  · exact Or.inr (Or.inl c)

/-- What `Inv9.local` asks of the program point `p'` a thread moves to from `p` in state `s`, `w'` being the word
    after the step. -/
structure Keep9 (s : State) (w' : Word) (p' p : PC) : Prop where
  scan : p'.scan? = p.scan?
  wakeL : p'.wakeL = p.wakeL
  enqPend : p'.enqPend = true → p.enqPend = true ∨ w'.waiting = true
  mtOld : ∀ old, p'.mtOld = some old → p.mtOld = some old ∨ s.word = old
  waitRec : (p'.waitRec = p.waitRec ∧ (p.waitRec ≠ none → p'.wmode = p.wmode)) ∨
    (p'.waitRec = none ∧ ∀ k, p.waitRec = some k → (s.wr k).waiting = false)
  pwait : ∀ k, p'.pwait = some k → p.pwait = some k ∨ (s.wr k).waiting = true
  limboL : ∀ k l, p'.limboL = some (k, l) → p.limboL = some (k, l) ∨ (p.waitRec = some k ∧ p.wmode = l)
  hlRec : ∀ k, p'.hlRec = some k → p.hlRec = some k ∨ (s.wr k).waiting = false

/-- To a program point in none of the regions `enqPend`, `mtOld`, `pwait`, `limboL`, `hlRec`, with the same wait record. -/
theorem Keep9.plain {s : State} {w' : Word} {p' p : PC} (hsc : p'.scan? = p.scan?) (hwk : p'.wakeL = p.wakeL)
    (hrec : p'.waitRec = p.waitRec) (hwm : p.waitRec ≠ none → p'.wmode = p.wmode) (henq : p'.enqPend = false)
    (hmt : p'.mtOld = none) (hpw : p'.pwait = none) (hlm : p'.limboL = none) (hhl : p'.hlRec = none) : Keep9 s w' p' p :=
  ⟨hsc, hwk, fun e => (by rw [henq] at e; cases e), fun _ e => (by rw [hmt] at e; cases e), Or.inl ⟨hrec, hwm⟩,
    fun _ e => (by rw [hpw] at e; cases e), fun _ _ e => (by rw [hlm] at e; cases e), fun _ e => (by rw [hhl] at e; cases e)⟩

theorem Keep9.refl (s : State) (w' : Word) (p : PC) : Keep9 s w' p p :=
  ⟨rfl, rfl, Or.inl, fun _ => Or.inl, Or.inl ⟨rfl, fun _ => rfl⟩, fun _ => Or.inl, fun _ _ => Or.inl, fun _ => Or.inl⟩

/-- A step of `t` to `p'` that keeps the queue and `waiting` / `l_type` of every record. -/
theorem Inv9.frame {s s' : State} {t : Tid} {p' : PC} (h4 : Inv4 s) (h : Inv9 s) (hpc : s'.pc = setFn s.pc t p')
    (hq : s'.queue = s.queue)
    (hwr : ∀ x, (s'.wr x).waiting = (s.wr x).waiting ∧ (s'.wr x).lType = (s.wr x).lType ∧
      ∀ u, (s'.pc u).pwait = some x → (s.wr x).sem ≠ 0 → (s'.wr x).sem ≠ 0)
    (hw : ((∃ k, Queued s' k) ∨ ∃ u, (s'.pc u).enqPend = true) → s.word.waiting = true → s'.word.waiting = true)
    (hwv : ∀ r k rest, s.pc t = .usWakeV r k rest → p' = .usWakeV r k rest ∨ (s'.wr k).sem ≠ 0)
    (k : Keep9 s s'.word p' (s.pc t)) : Inv9 s' := by
  have hpt : s'.pc t = p' := setFn_at hpc
  have hoth : ∀ u, u ≠ t → s'.pc u = s.pc u := setFn_others hpc
  subst hpt
  exact Inv9.local t h4 h (queued_same (t := t) hq hoth k.scan) hwr hw hoth k.wakeL hwv k.enqPend k.mtOld k.waitRec k.pwait k.limboL
    k.hlRec

/-! What a quiet move does to the projections of the invariant: a thread stops waiting on its record only
    after it has read `waiting = 0` from it, and starts to wait on its semaphore only after it has read
    `waiting = 1`. -/

theorem PcMove.not_wakeV {s : State} {r : Ret} {k : Wid} {rest : List Wid} {p' : PC} (h : PcMove s (.usWakeV r k rest) p') : False := by
  cases h; rename_i h; cases h

theorem PcMove.waitRec {s : State} {p p' : PC} (h : PcMove s p p') :
    (p'.waitRec = p.waitRec ∧ (p.waitRec ≠ none → p'.wmode = p.wmode)) ∨
      (p'.waitRec = none ∧ ∀ k, p.waitRec = some k → (s.wr k).waiting = false) := by
  cases h <;> first | exact Or.inl ⟨rfl, fun _ => rfl⟩ | exact Or.inl ⟨rfl, fun e => absurd rfl e⟩ |
    (rename_i h; cases h <;> first | exact Or.inl ⟨rfl, fun _ => rfl⟩ | exact Or.inl ⟨rfl, fun e => absurd rfl e⟩ |
      exact Or.inr ⟨rfl, by simp_all [PC.waitRec]⟩)

theorem PcMove.pwait {s : State} {p p' : PC} (h : PcMove s p p') {k : Wid} (hk : p'.pwait = some k) :
    p.pwait = some k ∨ (s.wr k).waiting = true := by
  cases h <;> first | exact Or.inl hk | cases hk |
    (rename_i h; cases h <;> first | exact Or.inl hk | cases hk | (right; simp_all [PC.pwait]))

theorem PcMove.limboL {s : State} {p p' : PC} (h : PcMove s p p') {k : Wid} {l : Mode} (hk : p'.limboL = some (k, l)) :
    p.limboL = some (k, l) := by
  cases h <;> first | exact hk | cases hk | (rename_i h; cases h <;> first | exact hk | cases hk)

theorem PcMove.hlRec {s : State} {p p' : PC} (h : PcMove s p p') {k : Wid} (hk : p'.hlRec = some k) :
    p.hlRec = some k ∨ (s.wr k).waiting = false := by
  cases h <;> first | exact Or.inl hk | cases hk |
    (rename_i h; cases h <;> first | exact Or.inl hk | cases hk | (right; simp_all [PC.hlRec]))

theorem PcMove.keep9 {s : State} {w' : Word} {p p' : PC} (h : PcMove s p p') : Keep9 s w' p' p :=
  ⟨h.scan, h.wakeL, fun e => Or.inl (h.enqPend ▸ e), fun _ ho => Or.inl (h.mtOld ▸ ho), h.waitRec, fun _ => h.pwait,
    fun _ _ hk => Or.inl (h.limboL hk), fun _ => h.hlRec⟩

theorem Inv9.move {s : State} {t : Tid} {p' : PC} (h4 : Inv4 s) (h : Inv9 s) (hp : PcMove s (s.pc t) p') : Inv9 (setPc s t p') :=
  h.frame h4 rfl rfl (fun _ => ⟨rfl, rfl, fun _ _ => id⟩) (fun _ => id) (fun _ _ _ e => (PcMove.not_wakeV (e ▸ hp)).elim) hp.keep9

theorem CasPc.not_wakeV {s : State} {r : Ret} {k : Wid} {rest : List Wid} {p' : PC} {nw : Word} {w : Option Wid}
    (h : CasPc s (.usWakeV r k rest) p' nw w) : False := by cases h
theorem CasPc.enqPend_waiting {s : State} {p p' : PC} {nw : Word} {w : Option Wid} (h : CasPc s p p' nw w) (e : p'.enqPend = true) :
    nw.waiting = true := by
  cases h <;> first | rfl | (cases e; done) | (cases ‹Ret› <;> cases e) | (rw [loopPc_true] at e; split at e <;> cases e)
theorem CasPc.waitRec {s : State} {p p' : PC} {nw : Word} {w : Option Wid} (h : CasPc s p p' nw w) :
    p'.waitRec = p.waitRec ∧ (p.waitRec ≠ none → p'.wmode = p.wmode) := by
  cases h <;> first | exact ⟨rfl, fun _ => rfl⟩ | exact ⟨rfl, fun e => absurd rfl e⟩ |
    (cases ‹Ret› <;> first | exact ⟨rfl, fun _ => rfl⟩ | exact ⟨rfl, fun e => absurd rfl e⟩) |
    (rw [loopPc_true]; split <;> exact ⟨rfl, fun e => absurd rfl e⟩)
theorem CasPc.pwait {s : State} {p p' : PC} {nw : Word} {w : Option Wid} (h : CasPc s p p' nw w) : p'.pwait = none := by
  cases h <;> first | rfl | (cases ‹Ret› <;> rfl) | (rw [loopPc_true]; split <;> rfl)
theorem CasPc.limboL {s : State} {p p' : PC} {nw : Word} {w : Option Wid} (h : CasPc s p p' nw w) : p'.limboL = none := by
  cases h <;> first | rfl | (cases ‹Ret› <;> rfl) | (rw [loopPc_true]; split <;> rfl)
theorem CasPc.hlRec {s : State} {p p' : PC} {nw : Word} {w : Option Wid} (h : CasPc s p p' nw w) (hok : p.ok) : p'.hlRec = none := by
  cases h <;> first | rfl | (cases ‹Ret› <;> first | rfl | (simp_all [PC.ok, Ret.ok, MW.inner, Ret.pc, PC.hlRec])) |
    (rw [loopPc_true]; split <;> rfl)

theorem CasPc.keep9 {s : State} {p p' : PC} {nw : Word} {w : Option Wid} (h : CasPc s p p' nw w) (hok : p.ok) : Keep9 s nw p' p :=
  ⟨by rw [h.scan.1, h.scan.2], h.wakeL, fun e => Or.inr (h.enqPend_waiting e), fun _ e => Or.inr (h.mtOld_word e), Or.inl h.waitRec,
    fun _ e => (by rw [h.pwait] at e; cases e), fun _ _ e => (by rw [h.limboL] at e; cases e),
    fun _ e => (by rw [h.hlRec hok] at e; cases e)⟩

theorem Inv9.cas {s s' : State} {t : Tid} {p' : PC} {nw : Word} {w : Option Wid} (h1 : Inv1 s) (h4 : Inv4 s) (h : Inv9 s)
    (hp : CasPc s (s.pc t) p' nw w) (ok : CasOk s t p' nw w s') : Inv9 s' :=
  h.frame h4 ok.pc ok.queue (fun x => by rw [ok.wr]; obtain ⟨o, e⟩ := dropW_wr_eq s w x; rw [e]; exact ⟨rfl, rfl, fun _ _ => id⟩)
    (fun _ e => by rw [ok.word]; exact hp.waiting e)
    (fun _ _ _ e => (CasPc.not_wakeV (e ▸ hp)).elim) (ok.word ▸ hp.keep9 (h1.pcok t))

/-- No thread moves; no semaphore a thread waits on drops to 0. -/
theorem Inv9.env {s s' : State} (h4 : Inv4 s) (h : Inv9 s) (hpc : s'.pc = s.pc) (hq : s'.queue = s.queue)
    (hw : s.word.waiting = true → s'.word.waiting = true)
    (hwr : ∀ x, (s'.wr x).waiting = (s.wr x).waiting ∧ (s'.wr x).lType = (s.wr x).lType ∧
      ∀ u, (s.pc u).pwait = some x → (s.wr x).sem ≠ 0 → (s'.wr x).sem ≠ 0) : Inv9 s' :=
  h.frame (t := 0) h4 (hpc.trans (setFn_self _ _).symm) hq (fun x => ⟨(hwr x).1, (hwr x).2.1, fun u hu => (hwr x).2.2 u (hpc ▸ hu)⟩)
    (fun _ => hw) (fun _ _ _ e => Or.inl e) (.refl _ _ _)

macro "pc9" heq:ident : tactic => `(tactic|
  (try rw [$heq:ident]
   (simp_all [PC.waitRec, PC.wmode, PC.pwait, PC.wakeL, PC.enqPend, PC.mtOld, PC.scan?, PC.limboL, PC.hlRec, Ret.w?, Ret.wmode, Ret.mw?, setFn, loopPc, finPc,
      Ret.pc, SL.entry, SL.fromWait, SL.woken]) <;> grind))

/-- `s.word.waiting → s'.word.waiting` for the word updates that keep or set MU_WAITING -/
macro "word_waiting" : tactic => `(tactic|
  first
  | (simp; done)
  | (simp_all [acqWord, addWord, relUncWord, relNwWord, subWord, enqWord, mwEnqWord, mtAcqWord, grabWord]; done)
  | (simp_all [acqWord, addWord, relUncWord, relNwWord, subWord, enqWord, mwEnqWord, mtAcqWord, grabWord] <;>
      (repeat' split) <;> simp_all))

macro "inv9_local" t:ident h4:ident h:ident heq:ident : tactic => `(tactic|
  (refine Inv9.local $t $h4 $h ?_ ?_ ?_ ?_ ?_ ?_ ?_ ?_ ?_ ?_ ?_ ?_
   · intro k
     exact queued_same (t := $t) (by simp) (by intro u hu; simp [setFn, hu])
        (by rw [$heq:ident]; simp [setFn, PC.scan?, loopPc, finPc, Ret.pc] <;> (repeat' split) <;> simp [PC.scan?]) k
   · intro x; (simp [setFn]) <;> (try split) <;> simp_all
   · word_waiting
   · intro u hu; simp [setFn, hu]
   · pc9 $heq
   · intro r k rest hv; rw [$heq:ident] at hv; pc9 $heq
   · first
     | (pc9 $heq)
     | (intro _; right; simp_all [enqWord]; done)
   · intro old ho
     first
     | (left; revert ho; pc9 $heq)
     | (right; revert ho; pc9 $heq)
   · first
     | (left; refine ⟨?_, ?_⟩ <;> pc9 $heq)
     | (right; refine ⟨?_, ?_⟩ <;> pc9 $heq)
   · intro k hk
     first
     | (left; revert hk; pc9 $heq)
     | (right; revert hk; pc9 $heq)
   · intro k l hk
     first
     | (left; revert hk; pc9 $heq)
     | (right; revert hk; pc9 $heq)
   · intro k hk
     first
     | (left; revert hk; pc9 $heq)
     | (right; revert hk; pc9 $heq)))

macro "ld_case9" t:ident h4:ident h:ident heq:ident hs:ident : tactic => `(tactic|
  (try dsimp only at $hs:ident
   try simp only [ldWord, ldWaiting] at $hs:ident
   repeat' split at $hs:ident
   all_goals first
     | (cases $hs:ident; done)
     | (cases $hs:ident; inv9_local $t $h4 $h $heq)
     | (cases $hs:ident; split <;> inv9_local $t $h4 $h $heq)))

end NsyncVerif.MuC
