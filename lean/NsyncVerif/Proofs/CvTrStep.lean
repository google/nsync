/-
  Layer `Cv`: every accepted event is a transition of `Tr`, and the induction principle for
  reachable states.
-/
import NsyncVerif.Proofs.CvTrStepRec
import NsyncVerif.Proofs.Run

namespace NsyncVerif.Cv

theorem stepCall_ok {s s' : State} {t : Tid} {x : Thr} (h : stepCall s t x = .ok s') :
    (s.thr t).loc = .idle ∧ s' = s.setThr t x := by
  unfold stepCall at h
  simp only [need_ok] at h
  exact ⟨h.1, by cases h.2; rfl⟩

theorem stepRet_ok {s s' : State} {t : Tid} {ok : Bool} {msg : String} (h : stepRet s t ok msg = .ok s') :
    ok = true ∧ s' = s.setThr t ((s.thr t).fresh .idle) := by
  unfold stepRet at h
  simp only [need_ok] at h
  exact ⟨h.1, by cases h.2; rfl⟩

theorem step_tr {cfg : Config} {s s' : State} {e : Event} (h : step cfg s e = .ok s') : Tr cfg s e s' := by
  cases e with
  | skip => simp only [step] at h; cases h; exact .same _ rfl
  | tick ns =>
    simp only [step, need_ok] at h
    cases h.2; exact .tick ns h.1
  | callWait t gen dl note =>
    simp only [step] at h
    obtain ⟨hl, rfl⟩ := stepCall_ok h
    exact .loc (.callWait gen dl note hl)
  | retWait t res =>
    simp only [step] at h
    obtain ⟨hok, rfl⟩ := stepRet_ok h
    simp only [decide_eq_true_eq] at hok
    exact .loc (.retWait res hok.1 hok.2)
  | callSignal t =>
    simp only [step] at h
    obtain ⟨hl, rfl⟩ := stepCall_ok h
    exact .loc (.callSignal hl)
  | callBroadcast t =>
    simp only [step] at h
    obtain ⟨hl, rfl⟩ := stepCall_ok h
    exact .loc (.callBroadcast hl)
  | retSignal t =>
    simp only [step] at h
    obtain ⟨hok, rfl⟩ := stepRet_ok h
    simp only [decide_eq_true_eq] at hok
    exact .loc (.retSignal hok.1 hok.2)
  | retBroadcast t =>
    simp only [step] at h
    obtain ⟨hok, rfl⟩ := stepRet_ok h
    simp only [decide_eq_true_eq] at hok
    exact .loc (.retBroadcast hok.1 hok.2)
  | callWaitN t =>
    simp only [step] at h
    obtain ⟨hl, rfl⟩ := stepCall_ok h
    exact .loc (.callWaitN hl)
  | retWaitN t =>
    simp only [step, need_ok] at h
    obtain ⟨hl, hm, h⟩ := h
    cases h
    exact .loc (.retWaitN hl hm)
  | relMark t op =>
    simp only [step, need_ok] at h
    obtain ⟨hl, ho, h⟩ := h
    cases h
    exact .loc (.relMark op hl ho)
  | lockMark t op =>
    simp only [step, need_ok] at h
    obtain ⟨hl, hx, ho, h⟩ := h
    cases h
    exact .loc (.lockMark op hl hx ho)
  | relockSlow t =>
    simp only [step, need_ok] at h
    obtain ⟨hl, hx, h⟩ := h
    cases h
    exact .loc (.relockSlow hl hx)
  | nret t =>
    simp only [step] at h
    split at h
    · rename_i hl; cases h; exact .loc (.nretUnlock hl)
    · rename_i hl; cases h; exact .loc (.nretLock hl)
    · cases h
  | wordLd t site obs => exact tr_wordLd h
  | wordCas t exp new obs ok => exact tr_wordCas h
  | wordSt t site new obs => exact tr_wordSt h
  | recLd t site r obs => exact tr_recLd h
  | recSt t site r new obs => exact tr_recSt h
  | recCas t site r exp new obs ok => exact tr_recCas h
  | muLd t site obs => exact tr_muLd h
  | muCas t site exp new obs ok => exact tr_muCas h
  | semPdEnter t k dl => exact tr_semPdEnter h
  | semPdRet t k to => exact tr_semPdRet h
  | semPEnter t k =>
    simp only [step, need_ok] at h
    cases h.2; exact .same _ rfl
  | semPRet t k =>
    simp only [step, need_ok] at h
    cases h.2.2; exact .semOther _ _ rfl
  | semV t k => exact tr_semV h
  | wInit t r =>
    simp only [step, need_ok] at h
    obtain ⟨hl, hm, hst, h⟩ := h
    cases h
    exact .wInit t r hl hm hst
  | nwInit t r =>
    simp only [step, need_ok] at h
    obtain ⟨hl, hm, hst, h⟩ := h
    cases h
    exact .nwInit t r hl hm hst
  | fLd t r f obs =>
    simp only [step, need_ok] at h
    cases h.2.2.2; exact .same _ rfl
  | fSt t r f new =>
    simp only [step, need_ok] at h
    obtain ⟨hl, hf, h⟩ := h
    split at h
    · simp only [need_ok] at h
      cases h.2
      exact .fStW t r new hl hf
    · cases h
  | fCas t r f exp new obs ok =>
    simp only [step, need_ok] at h
    obtain ⟨hl, hf, hfld, hn, ho, hok, h⟩ := h
    subst hfld
    split at h
    · rename_i hk; subst hk; cases h
      exact .fCasOk t r exp new obs hl hf hn ho (by simpa using hok.symm)
    · cases h; exact .same _ rfl
  | noteSeen t =>
    simp only [step] at h
    split at h
    · rename_i hl; cases h; exact .loc (.noteSeen (.inl hl))
    · rename_i hl; cases h; exact .loc (.noteSeen (.inr (.inl hl)))
    · rename_i hl; cases h; exact .loc (.noteSeen (.inr (.inr hl)))
    · cases h; exact .same _ rfl
  | noteNotify t =>
    simp only [step, need_ok] at h
    obtain ⟨⟨hl, ht⟩, h⟩ := h
    cases h
    exact .loc (.noteNotify hl ht)

theorem isRun (cfg : Config) : IsRun (step cfg) (run cfg) :=
  ⟨fun _ => rfl, fun s e _ => by rw [run]; cases step cfg s e <;> rfl⟩

theorem reachable_induct {cfg : Config} {P : State → Prop} (h0 : P init)
    (hs : ∀ s e s', P s → Tr cfg s e s' → P s') :
    ∀ s, Reachable cfg s → P s :=
  fun _ ⟨_, h⟩ => (isRun cfg).induct h0 (fun s e s' _ hp h1 => hs s e s' hp (step_tr h1)) h

end NsyncVerif.Cv
