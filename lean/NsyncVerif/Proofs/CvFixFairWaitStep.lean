/-
  Layer `CvFix`, liveness, the waiter's side: one-step facts.  What a step of a thread inside
  nsync_cv_wait_with_deadline can be (`wait_step`): its program point stays, or moves along the
  edges `WSucc` of the control-flow graph of the wait, with the facts each edge depends on.  The
  record of a wait that a waker has woken or transferred keeps its status (and sequence number,
  unlinkers, `posted`) until its owner leaves the wait loop (`rec_stable`); a record that a waker
  has unlinked stays "covered" (on the waker's list, woken, or transferred), with the same
  unlinker (`cov_stable`).
-/
import NsyncVerif.Props.C04Fair

namespace NsyncVerif.CvFix

/-- The edges of the control-flow graph of nsync_cv_wait_with_deadline_generic, from frame `x` to
    frame `y`; `w` is `waiting` of the waiter's record before the step, `eqrc` says whether its
    `remove_count` equals the saved one, `u` is the record's list of unlinkers. -/
def WSucc (x y : Thr) (w : Bool) (eqrc : Bool) (u : List Unl) : Prop :=
  match x.loc with
  | .wNew => y.loc = .wMode ∨ (y.loc = .spLd0 ∧ y.cont = .waitEnq)
  | .wMode => y.loc = .spLd0 ∧ y.cont = .waitEnq
  | .spLd0 | .spLd2 | .spCas =>
    (y.loc.spinLoop = true ∧ y.cont = x.cont) ∨ (x.cont = .waitEnq ∧ y.loc = .wEnq) ∨
    (x.cont = .waitChk ∧ y.loc = .wChk2)
  | .wEnq => y.loc = .wRel
  | .wRel => y.loc = .wUnlock
  | .wUnlock => y.loc = .wUnlocking
  | .wUnlocking => y.loc = .wHead
  | .wHead =>
    (w = false ∧ y.loc = .wExit ∧ y.exitUnl = u) ∨
    (w = true ∧ x.semOut = .ok ∧ (y.loc = .wSemEnter ∨ y.loc = .cPre)) ∨
    (w = true ∧ x.semOut ≠ .ok ∧ y.loc = .wChk)
  | .wSemEnter => y.loc = .wSemRet
  | .wSemRet => (y.loc = .wChk ∧ y.semOut = .timedOut) ∨ y.loc = .wTail
  | .cPre => y.loc = .cWait ∨ (y.semOut ≠ .ok ∧ (y.loc = .wTail ∨ (y.loc = .spLd0 ∧ y.cont = .waitChk)))
  | .cWait => y.loc = .cPost
  | .cPost => y.loc = .wHead ∨ (y.semOut ≠ .ok ∧ (y.loc = .wTail ∨ (y.loc = .spLd0 ∧ y.cont = .waitChk)))
  | .wChk => (w = false ∧ y.loc = .wTail) ∨ (w = true ∧ y.loc = .spLd0 ∧ y.cont = .waitChk)
  | .wChk2 => (w = false ∧ y.loc = .wRel2) ∨ (w = true ∧ y.loc = .wCmp)
  | .wCmp => (eqrc = true ∧ y.loc = .wRmLd) ∨ (eqrc = false ∧ y.loc = .wRel2)
  | .wRmLd => y.loc = .wRmCas
  | .wRmCas => y.loc = .wClr ∨ y.loc = .wRmLd
  | .wClr => y.loc = .wRel2
  | .wRel2 => y.loc = .wTail
  | .wTail => y.loc = .wHead
  | .wExit => y.loc = .wLocking ∨ y.loc = .wRelocking
  | .wLocking => y.loc = .wRet
  | .wRelocking => y.loc = .idle
  | .wRet => y.loc = .idle
  | _ => False

/-- What every step of the wait keeps (until the return). -/
def WKeep (x y : Thr) : Prop :=
  (x.loc ≠ .wNew → y.loc ≠ .idle → y.r = x.r) ∧
  (y.loc ≠ .idle → y.dl = x.dl ∧ y.note = x.note) ∧
  (x.loc ≠ .wHead → y.loc ≠ .idle → y.exitUnl = x.exitUnl) ∧
  (x.semOut ≠ .ok → x.loc ≠ .cPost → x.loc ≠ .cPre → x.loc ≠ .wSemRet → y.loc ≠ .idle →
    y.semOut = x.semOut)

theorem wkeep_refl (x : Thr) : WKeep x x :=
  ⟨fun _ _ => rfl, fun _ => ⟨rfl, rfl⟩, fun _ _ => rfl, fun _ _ _ _ _ => rfl⟩

theorem inWait_not_misc {x : Thr} (h : inWait x = true) :
    x.loc ≠ .idle ∧ x.loc ≠ .sLd ∧ x.loc.wakeB = false ∧ x.loc ≠ .nOut ∧ x.loc ≠ .nLocked ∧
    x.loc ≠ .nEnqRel ∧ x.loc ≠ .nDeqSt ∧ x.loc ≠ .nDeqRel ∧ x.loc ≠ .nDeqRelW ∧ x.loc ≠ .nDeqSpin ∧
    x.loc ≠ .dLd ∧ x.loc ≠ .dWalk ∧ x.loc ≠ .dRc ∧ x.loc ≠ .dRet ∧
    (x.loc.spinLoop = true → x.cont = .waitChk ∨ x.cont = .waitEnq) := by
  unfold inWait waitLive waitPrep at h
  cases hl : x.loc <;> simp_all [Loc.wakeB, Loc.spinLoop]

theorem wait_ltr {s : State} {t : Tid} {e : Event} {x' : Thr} (h : LTr s t e x')
    (hw : inWait (s.thr t) = true) :
    ((x'.loc = (s.thr t).loc ∧ x'.cont = (s.thr t).cont ∧
        (e = .noteSeen t ∨ (s.thr t).loc.isOpen = true)) ∨
      WSucc (s.thr t) x' (s.recs (s.thr t).r).waiting
        (decide ((s.recs (s.thr t).r).rc = (s.thr t).saved)) (s.recs (s.thr t).r).unl) ∧
    WKeep (s.thr t) x' ∧ (x'.loc = .idle → ∃ res, e = .retWait t res) := by
  obtain ⟨n1, n2, n3, n4, n5, n6, n7, n8, n9, n10, n11, n12, n13, n14, n15⟩ := inWait_not_misc hw
  cases h with
  | retWait res hl hr =>
    rcases hl with hl | hl <;> simp [hl, WSucc, WKeep, Thr.fresh]
  | spinLd site obs hl ho =>
    have hsp : (s.thr t).loc.spinLoop = true := by
      rcases hl with ⟨_, hl⟩ | ⟨_, hl⟩ <;> simp [hl, Loc.spinLoop]
    refine ⟨.inr ?_, ?_⟩
    · rcases hl with ⟨_, hl⟩ | ⟨_, hl⟩ <;> simp only [WSucc, hl] <;> left <;> split <;> simp [Loc.spinLoop]
    · split <;> simp [WKeep]
  | casFail exp new obs hl ho hne => simp [hl, WSucc, WKeep, Loc.spinLoop]
  | wwRelLd site obs hl => rcases hl with ⟨_, hl⟩ | ⟨_, hl⟩ <;> simp [hl, Loc.wakeB] at n3
  | noteSeen hl => exact ⟨.inl ⟨rfl, rfl, .inl rfl⟩, by simp [WKeep], fun h => by
      rcases hl with hl | hl | hl <;> simp [hl] at h⟩
  | wHeadStay r obs hl hr ho hz =>
    have hwt : (s.recs (s.thr t).r).waiting = true := hr ▸ b2n_ne_zero.mp (ho ▸ hz)
    refine ⟨.inr ?_, ?_⟩
    · simp only [WSucc, hl, hwt]
      by_cases hso : (s.thr t).semOut = .ok
      · simp only [hso, if_true]
        by_cases hn : (s.thr t).note = true <;> simp [hn]
      · simp [hso]
    · refine ⟨?_, ?_⟩
      · split <;> simp [WKeep, hl]
      · intro h; split at h
        · by_cases hn : (s.thr t).note = true <;> simp [hn] at h
        · simp at h
  | wChk y r obs hy hl hr ho hso =>
    have hyr := settle_r hy
    subst hr
    rw [hyr] at ho
    cases hy with
    | id h1 h2 =>
      refine ⟨.inr ?_, ?_⟩
      · simp only [WSucc, hl]
        by_cases hz : obs = 0
        · simp [hz, b2n_eq_zero.mp (ho ▸ hz)]
        · have : (s.recs (s.thr t).r).waiting = true := b2n_ne_zero.mp (ho ▸ hz)
          simp [hz, this]
      · split <;> simp [WKeep]
    | pre h hn =>
      refine ⟨.inr ?_, ?_⟩
      · simp only [WSucc, h]; right; split <;> simp
      · split <;> simp [WKeep, h]
    | postOk h htm => simp at hso
    | postCancel h htm hc hn =>
      refine ⟨.inr ?_, ?_⟩
      · simp only [WSucc, h]; right; split <;> simp
      · split <;> simp [WKeep, h]
    | postTimed h htm hc hd =>
      refine ⟨.inr ?_, ?_⟩
      · simp only [WSucc, h]; right; split <;> simp
      · split <;> simp [WKeep, h]
  | wTail y r obs hy hl hr ho =>
    cases hy with
    | id h1 h2 => simp [hl, WSucc, WKeep]
    | pre h hn => simp at hl
    | postOk h htm => simp [h, WSucc, WKeep]
    | postCancel h htm hc hn => simp at hl
    | postTimed h htm hc hd => simp at hl
  | wChk2 r obs hl hr ho =>
    subst hr
    refine ⟨.inr ?_, by simp [WKeep], by intro h; by_cases hz : obs = 0 <;> simp [hz] at h⟩
    simp only [WSucc, hl]
    by_cases hz : obs = 0
    · simp [hz, b2n_eq_zero.mp (ho ▸ hz)]
    · have : (s.recs (s.thr t).r).waiting = true := b2n_ne_zero.mp (ho ▸ hz)
      simp [hz, this]
  | wCmpNe r obs hl hr ho hne =>
    subst hr
    refine ⟨.inr ?_, by simp [WKeep], by simp⟩
    have : (s.recs (s.thr t).r).rc ≠ (s.thr t).saved := by rw [← ho]; exact hne
    simp [WSucc, hl, this]
  | noteNotify hl htm => simp [hl, WKeep, Loc.isOpen]
  | relMark op h | lockMark op h | relockSlow h | nretUnlock h | nretLock h | wRc r obs h
  | wRmLd r obs h | wRmCasFail r exp new obs h | semPdEnterW k dl h | semPdEnterC k dl h
  | semPdRetTimedW k d h | semPdRetTimedC k d h =>
    simp [h, WSucc, WKeep]
  | callWait gen dl note h | callSignal h | callBroadcast h | callWaitN h | callDebug k h
  | retSignal h | retBroadcast h | retWaitN h | spinLdN obs h | sigLd site obs h | rcLd site r obs h
  | ready r obs h | deqLd0 r h | deqLdGone r obs h | deqSpinStay r obs h
  | sRcCasFail site r exp new obs h | wwLd obs f rest h | wwCasFail exp new obs h
  | wwRelCasOk exp new obs h | wwRelCasFail exp new obs h | retDebug k h | dbgLd obs h
  | dbgW r obs h | dbgRc r obs h =>
    simp [inWait, waitLive, waitPrep, h] at hw

theorem wait_step {cfg : Config} {s s' : State} {e : Event} {t : Tid}
    (hs : step cfg s e = .ok s') (ht : e.tid = some t) (hw : inWait (s.thr t) = true) :
    (((s'.thr t).loc = (s.thr t).loc ∧ (s'.thr t).cont = (s.thr t).cont ∧
        (e = .noteSeen t ∨ (s.thr t).loc.isOpen = true)) ∨
      WSucc (s.thr t) (s'.thr t) (s.recs (s.thr t).r).waiting
        (decide ((s.recs (s.thr t).r).rc = (s.thr t).saved)) (s.recs (s.thr t).r).unl) ∧
    WKeep (s.thr t) (s'.thr t) ∧ ((s'.thr t).loc = .idle → ∃ res, e = .retWait t res) := by
  obtain ⟨n1, n2, n3, n4, n5, n6, n7, n8, n9, n10, n11, n12, n13, n14, n15⟩ := inWait_not_misc hw
  have htr := step_tr hs
  cases htr with
  | same e h hna hopen => exact ⟨.inl ⟨rfl, rfl, (hopen t ht).symm⟩, wkeep_refl _, fun h => absurd h n1⟩
  | tick ns h => simp [Event.tid] at ht
  | semOther e sem' h hopen =>
    exact ⟨.inl ⟨rfl, rfl, .inr (hopen t ht)⟩, wkeep_refl _, fun h => absurd h n1⟩
  | loc h =>
    rename_i t0 x'
    have := ltr_tid h
    rw [ht] at this; cases this
    simp only [setThr_thr, if_true]
    exact wait_ltr h hw
  | wInit t0 r h | fStW t0 r new h | fCasOk t0 r exp new obs h =>
    cases ht
    exact ⟨.inl ⟨rfl, rfl, .inr h⟩, wkeep_refl _, fun h => absurd h n1⟩
  | nwInit t0 r h => cases ht; exact absurd h n4
  | acq t0 exp new obs o n hl hexp hw' he ho hn hnew =>
    cases ht
    have hc := n15 (by simp [hl, Loc.spinLoop])
    unfold afterAcquire
    rcases hc with hc | hc <;> simp [hc, hl, WSucc, WKeep]
  | wHeadExit t0 r y hy hl hr hw' =>
    cases ht; subst hy; subst hr
    simp [hl, hw', WSucc, WKeep]
  | wCmpEq t0 r obs hl hr ho he =>
    cases ht; subst hr
    have : (s.recs (s.thr t).r).rc = (s.thr t).saved := by rw [← ho]; exact he
    simp [hl, this, WSucc, WKeep]
  | wSt1 t0 r obs hl hm hst =>
    cases ht
    split <;> simp [hl, WSucc, WKeep]
  | relWait t0 new obs n hl | relWait2 t0 new obs n hl | wClr t0 r obs hl
  | wRmCasOk t0 r exp new obs hl | muMode t0 obs lt hl | semPdRetOkW t0 k hl | semPdRetOkC t0 k hl =>
    cases ht
    simp [hl, WSucc, WKeep]
  | relSig t0 site new obs n hl | relEnq t0 new obs n hl | relDeq t0 new obs n hl
  | relDeqW t0 new obs n hl | relDbg t0 new obs n hl | deqLdQueued t0 r obs hl | deqSpinExit t0 r hl
  | wake t0 r obs hl | enqSt t0 r obs hl | deqSt t0 r obs hl | sRcCasOk t0 site r exp new obs hl
  | wwCasOk t0 exp new obs f rest hl | semVWake t0 k r q hl =>
    cases ht
    simp [inWait, waitLive, waitPrep, hl] at hw

/-- Unlinked by a waker: on its list, woken, or transferred. -/
def Cov (st : RStat) : Prop := st = .woken ∨ st = .xfer ∨ ∃ u, st = .listed u

/-- What is kept of a covered record `r` from `s` to `s'`: its status (a record on a waker's list may
    become woken or transferred), sequence number, unlinkers, owner, and `posted`. -/
def CovStep (s s' : State) (r : Rid) : Prop :=
  ((s'.recs r).stat = (s.recs r).stat ∨
    ∃ u, (s.recs r).stat = .listed u ∧ ((s'.recs r).stat = .woken ∨ (s'.recs r).stat = .xfer)) ∧
  (s'.recs r).enqSeq = (s.recs r).enqSeq ∧ (s'.recs r).unl = (s.recs r).unl ∧
  (s'.recs r).owner = (s.recs r).owner ∧ ((s.recs r).posted = true → (s'.recs r).posted = true)

/-- The covered record of a live wait, across one transition: its owner leaves the wait loop, or the
    record is kept (`CovStep`).  A covered record is written only by the waker's own steps on it, the V,
    and the foreign accesses to a transferred record, which keep what `CovStep` lists; every other
    write is to a record whose status says it is not covered, or to a bare record. -/
theorem cov_step {cfg : Config} {s s' : State} {e : Event} {t : Tid} (htr : Tr cfg s e s')
    (hi : Inv s) (hl : waitLive (s.thr t) = true) (hc : Cov (s.recs (s.thr t).r).stat) :
    (s'.thr t).loc = .wExit ∨ CovStep s s' (s.thr t).r := by
  obtain ⟨hown, hmu, _⟩ := (hi.a.thr t).live hl
  have h := htr.rcd hi.a hi.b.weak (s.thr t).r
  have nc : ∀ {st : RStat}, st = .idle ∨ st = .prep ∨ st = .queued ∨ st = .selfOut → ¬ Cov st := by
    rintro st (h | h | h | h) (h' | h' | ⟨u, h'⟩) <;> rw [h] at h' <;> cases h'
  unfold CovStep
  generalize s'.recs (s.thr t).r = b at h ⊢
  generalize s.recs (s.thr t).r = a at h hc hown ⊢
  cases h with
  | keep | rcInc | fStW | fCasOk => exact .inr ⟨.inl rfl, rfl, rfl, rfl, id⟩
  | wSt1 _ _ _ h | wInit _ _ h => exact absurd hc (nc (.inl h))
  | muMode _ _ _ _ h | enq _ _ _ _ _ h => exact absurd hc (nc (.inr (.inl h)))
  | unlink _ _ _ _ _ h | pub _ _ _ _ _ h | selfOut _ _ _ _ h => exact absurd hc (nc (.inr (.inr (.inl h))))
  | clr _ _ _ h => exact absurd hc (nc (.inr (.inr (.inr h))))
  | enqSt _ _ _ _ hm | deqSt _ _ _ _ hm | deqRel _ _ _ _ hm | deqSpin _ _ hm | nwInit _ _ _ _ hm =>
    rw [hmu] at hm; cases hm
  | post => exact .inr ⟨.inl rfl, rfl, rfl, rfl, fun hp => by simp [hp]⟩
  | wake u _ _ h => exact .inr ⟨.inr ⟨u, h, .inl (by simp [h])⟩, rfl, rfl, rfl, id⟩
  | xfer u _ _ _ _ h => exact .inr ⟨.inr ⟨u, h, .inr rfl⟩, rfl, rfl, rfl, id⟩
  | exit u _ h _ hx => exact .inl (hown ▸ h ▸ hx)

/-- What is kept of a woken or transferred record. -/
def RecKept (s s' : State) (r : Rid) : Prop :=
  (s'.recs r).stat = (s.recs r).stat ∧ (s'.recs r).enqSeq = (s.recs r).enqSeq ∧
  (s'.recs r).unl = (s.recs r).unl ∧ (s'.recs r).owner = (s.recs r).owner ∧
  ((s.recs r).posted = true → (s'.recs r).posted = true)

theorem recKept_refl (s : State) (r : Rid) : RecKept s s r := ⟨rfl, rfl, rfl, rfl, id⟩

theorem rec_stable {cfg : Config} {s s' : State} {e : Event} {t : Tid} (htr : Tr cfg s e s')
    (hi : Inv s) (hl : waitLive (s.thr t) = true)
    (hst : (s.recs (s.thr t).r).stat = .woken ∨ (s.recs (s.thr t).r).stat = .xfer) :
    (s'.thr t).loc = .wExit ∨ RecKept s s' (s.thr t).r := by
  refine (cov_step htr hi hl (hst.elim .inl fun h => .inr (.inl h))).imp id ?_
  rintro ⟨h1 | ⟨u, h1, _⟩, h2⟩
  · exact ⟨h1, h2⟩
  · rcases hst with h | h <;> rw [h] at h1 <;> cases h1

/-- What is kept of a covered record. -/
def CovKept (s s' : State) (r : Rid) : Prop :=
  Cov (s'.recs r).stat ∧ (s'.recs r).unl = (s.recs r).unl ∧ (s'.recs r).owner = (s.recs r).owner

/-- A covered record of a live wait stays covered, with the same unlinkers and owner, unless its
    owner leaves the loop. -/
theorem cov_stable {cfg : Config} {s s' : State} {e : Event} {t : Tid} (hs : step cfg s e = .ok s')
    (hi : Inv s) (hl : waitLive (s.thr t) = true) (hc : Cov (s.recs (s.thr t).r).stat) :
    (s'.thr t).loc = .wExit ∨ CovKept s s' (s.thr t).r := by
  refine (cov_step (step_tr hs) hi hl hc).imp id ?_
  rintro ⟨h1 | ⟨u, _, h1⟩, _, h3, h4, _⟩
  · exact ⟨h1 ▸ hc, h3, h4⟩
  · exact ⟨h1.elim .inl fun h => .inr (.inl h), h3, h4⟩

end NsyncVerif.CvFix
