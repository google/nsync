/-
  Layer `Note`: the abstract mutexes agree with the program counters (`LockInv`): a note's mutex is
  held by thread `t` iff the program counter of `t` says so.
-/
import NsyncVerif.Proofs.NoteInvL


namespace Note

structure LockInv (s : State) : Prop where
  iff : ∀ k t, (s.notes k).lockHolder = some t ↔ k ∈ (s.pc t).held
  alloc : ∀ k t, (s.notes k).lockHolder = some t → (s.notes k).allocated = true

theorem LockInv.init : LockInv Note.init := by
  refine ⟨?_, ?_⟩ <;> simp [Note.init, PC.held, NoteRec.blank]

/-- What a step does to the mutex of `k`: nothing; the acting thread takes it, at the end of a
    `nsync_mu_lock (k)` / WAIT_FOR_NO_CHILDREN (k) it is in (`wants`) or by a successful
    `nsync_mu_trylock`, and the step dereferences `k`; the acting thread gives it back; or `k` is
    allocated by the step. -/
theorem step_holder {s s' : State} {e : Event} (hs : step s e = .ok s') (k : NoteId) :
    (s'.notes k).lockHolder = (s.notes k).lockHolder ∨
    (∃ a, e.actor = some a ∧ (s'.notes k).lockHolder = some a ∧
      ((s.notes k).lockHolder = none ∨ (s.notes k).lockHolder = some a) ∧ k ∈ touches s e ∧
      ((s.pc a).wants = some k ∨ (∃ n nk, s.pc a = .nfy .tryRet n (some k) nk) ∨
        (∃ n c nx, s.pc a = .fr .tryRet n (some k) c nx))) ∨
    (∃ a, e.actor = some a ∧ (s.notes k).lockHolder = some a ∧ (s'.notes k).lockHolder = none) ∨
    ((s.notes k).allocated = false ∧ (s'.notes k).lockHolder = none) := by
  rcases step_own hs with ⟨a, pc, pc', ha, hpc, -, h⟩ | ⟨_, rfl, _, rfl⟩ | ⟨rfl, rfl⟩
  · clear hs
    cases h
    all_goals (try (exact Or.inl rfl))
    all_goals (repeat' split)
    all_goals (try (exact Or.inl rfl))
    case malloc_newMalloc_2 =>
      simp only [setPc_notes, allocNote_f]
      split
      · next hk => subst hk; exact Or.inr (Or.inr (Or.inr ⟨‹_›, rfl⟩))
      · exact Or.inl rfl
    case waitRet_chd_waitRet_1_in | waitRet_chd_waitRet_1_par | waitRet_chd_waitRet_1_top | waitRet_chd_waitRet_2 | waitRet_fr_waitRet_1 | waitRet_fr_waitRet_2
        | waitRet_fr_waitRet_3 =>
      simp only [setPc_notes, acquire_f_lockHolder, unlink_f_lockHolder, decDisc_f_lockHolder,
        freeLoopStart_f_lockHolder, childReturn_f_lockHolder, childScanStart_f_lockHolder]
      split
      · next hk =>
        subst hk
        cases ‹Bool›
        · refine Or.inr (Or.inl ⟨a, ha, rfl, Or.inl ‹_›, by simp [touches, hpc], Or.inl ?_⟩)
          rw [hpc]; rfl
        · exact Or.inl (Eq.symm ‹_›)
      · exact Or.inl rfl
    all_goals (
      subst_vars
      simp only [setPc_notes, acquire_f_lockHolder, release_f_lockHolder, incDisc_f_lockHolder,
        decDisc_f_lockHolder, link_f_lockHolder, eraseChild_f_lockHolder,
        clearParent_f_lockHolder, enterChild_notes, freeLoopStart_f_lockHolder,
        childReturn_f_lockHolder, setAdopted_f_lockHolder,
        childWakeNext_f_lockHolder, setNotified_f_lockHolder, afterDeadline_f_lockHolder,
        afterNotify_f_lockHolder, markBorn_notes, setWaiters_f_lockHolder, markFreed_f_lockHolder]
      first
        | exact Or.inl rfl
        | exact Or.inl trivial
        | (split
           · next hk =>
             subst hk
             first
               | exact Or.inr (Or.inr (Or.inl ⟨a, ha, ‹_›, rfl⟩))
               | (refine Or.inr (Or.inl ⟨a, ha, rfl, ?_, ?_, ?_⟩)
                  · exact Or.inl ‹_›
                  · simp [touches, hpc]
                  · rw [hpc]
                    first
                      | (left; rfl)
                      | (right; left; exact ⟨_, _, rfl⟩)
                      | (right; right; exact ⟨_, _, _, rfl⟩))
           · exact Or.inl rfl))
  · exact Or.inl rfl
  · exact Or.inl rfl

/-- A step of thread `a` does not change which locks another thread holds. -/
theorem step_lock_other {s s' : State} {e : Event} (hK : LockInv s) (hs : step s e = .ok s')
    (t : Tid) (ht : e.actor ≠ some t) (k : NoteId) :
    (s'.notes k).lockHolder = some t ↔ (s.notes k).lockHolder = some t := by
  rcases step_holder hs k with h | ⟨a, ha, h', h, _⟩ | ⟨a, ha, h, h'⟩ | ⟨hk, h'⟩
  · rw [h]
  all_goals rw [h']
  · have hne : a ≠ t := fun h0 => ht (h0 ▸ ha)
    rcases h with h | h <;> rw [h] <;> simp [hne]
  · have hne : a ≠ t := fun h0 => ht (h0 ▸ ha)
    rw [h]; simp [hne]
  · exact ⟨fun h0 => (by cases h0), fun h0 => (by rw [hK.alloc k t h0] at hk; cases hk)⟩

/-- The locks held by the acting thread after its step are those its new program counter says. -/
theorem LockInv.own {s s' : State} {e : Event} {a : Tid} {pc pc' : PC} (hL : InvL s)
    (h : Own s a pc e pc' s') (hl : ∀ k, (s.notes k).lockHolder = some a ↔ k ∈ pc.held)
    (hc : LClaim s pc) (k : NoteId) : (s'.notes k).lockHolder = some a ↔ k ∈ pc'.held := by
  cases h
  all_goals (try (simp only [held_afterDeadlinePc]))
  -- the outermost activation returns: its note is the note of `notify`
  all_goals (try (
    have hf := hc.2.2.1
    simp only [List.getLast?_singleton, Option.map_some, Option.some.injEq] at hf))
  -- notify: unlock the parent
  case unlockCall_nfy_unlockPCall =>
    rename_i k0 p n nk _ _ hk
    subst hk
    have hne : k0 ≠ n := (hc k0 rfl).2
    simp only [setPc_notes, release_f_lockHolder, PC.held, Option.toList, List.mem_cons,
      List.not_mem_nil, or_false] at hl ⊢
    split
    · next h => subst h; simp [hne]
    · next h => rw [hl k]; simp [h]
  -- note_notify_child: unlock a child
  case unlockCall_chd_unlockChild =>
    rename_i k0 c stk top _ _ hk
    subst hk
    have hab := LClaim.above_cur hL hc (c := k0) rfl
    simp only [setPc_notes, release_f_lockHolder, PC.held, List.mem_cons] at hl ⊢
    split
    · next h =>
      subst h
      constructor
      · intro h; cases h
      · intro h; exact absurd rfl (hab _ h).2
    · next h => rw [hl k]; simp [h]
  -- free: unlock a child
  case unlockCall_fr_unlockChild =>
    rename_i k0 c n par nx _ _ hk
    subst hk
    have h1 : n ≠ k0 := (hc.2.2 rfl).2
    have h2 : ∀ p, par = some p → p ≠ k0 :=
      fun p hp => (Lt.trans hL (hc.2.1 p hp) (hc.2.2 rfl)).2
    simp only [setPc_notes, release_f_lockHolder, PC.held, List.mem_cons] at hl ⊢
    split
    · next h =>
      subst h
      constructor
      · intro h; cases h
      · intro h
        rcases h with h | h
        · exact absurd h.symm h1
        · cases par with
          | none => cases h
          | some p =>
            simp only [Option.toList, List.mem_singleton] at h
            exact absurd h.symm (h2 p rfl)
    · next h => rw [hl k]; simp [h]
  -- free: unlock the parent
  case unlockCall_fr_unlockPCall =>
    rename_i k0 p n c nx _ _ hk
    subst hk
    have hne : k0 ≠ n := (hc.2.1 k0 rfl).2
    simp only [setPc_notes, release_f_lockHolder, PC.held, Option.toList, List.mem_cons,
      List.not_mem_nil, or_false] at hl ⊢
    split
    · next h => subst h; simp [hne]
    · next h => rw [hl k]; simp [h]
  -- note_notify_child: WAIT_FOR_NO_CHILDREN releases the lock
  case waitCall_chd_waitCall_2 =>
    rename_i k0 f rest top hch _ _ hk
    subst hk
    have hab := LClaim.above_head hL hc
    have hd : (s.notes f.note).waitDone = false := by simpa using hch
    simp only [setPc_notes, release_f_lockHolder, hd, PC.held, List.map_cons, List.tail_cons,
      List.cons_append, List.mem_cons] at hl ⊢
    split
    · next h =>
      subst h
      constructor
      · intro h; cases h
      · intro h; exact absurd rfl (hab _ h).2
    · next h => rw [hl k]; simp [h]
  -- free: WAIT_FOR_NO_CHILDREN releases the lock
  case waitCall_fr_waitCall_2 =>
    rename_i k0 n par c nx hch _ _ hk
    subst hk
    have hd : (s.notes k0).waitDone = false := by simpa using hch
    simp only [setPc_notes, release_f_lockHolder, hd, PC.held, List.mem_cons] at hl ⊢
    split
    · next h =>
      subst h
      constructor
      · intro h; cases h
      · intro h
        cases par with
        | none => cases h
        | some p =>
          simp only [Option.toList, List.mem_singleton] at h
          exact absurd h.symm (hc.2.1 p rfl).2
    · next h => rw [hl k]; simp [h]
  -- malloc
  case malloc_newMalloc_2 =>
    simp only [setPc_notes, allocNote_f, PC.held] at hl ⊢
    split
    · simp [NoteRec.blank]
    · simpa using hl k
  -- no mutex operation: the same locks
  all_goals (try (exact hl k))
  all_goals (try (simpa [PC.held] using hl k; done))
  -- the mutex `n` is taken or given back: `k = n` or not (WAIT_FOR_NO_CHILDREN returns with the
  -- lock it kept, or takes it again)
  all_goals (try (cases ‹Bool›)) <;> (
    subst_vars
    simp only [setPc_notes, acquire_f_lockHolder, release_f_lockHolder, incDisc_f_lockHolder,
      decDisc_f_lockHolder, link_f_lockHolder, unlink_f_lockHolder, eraseChild_f_lockHolder,
      clearParent_f_lockHolder, enterChild_notes, freeLoopStart_f_lockHolder,
      childReturn_f_lockHolder, setAdopted_f_lockHolder, childScanStart_f_lockHolder]
    first
      | (rw [hl k]; simp_all [PC.held]; done)
      | (split
         · next h => subst h; simp_all [PC.held]
         · next h => rw [hl k]; first | (simp [PC.held, h]; done) | simp_all [PC.held]))

theorem Lt.alloc_left {s : State} (hS : InvS s) {a b : NoteId} (h : Lt s a b) :
    (s.notes a).allocated = true := hS.anc b a h.1.1

theorem Lt.alloc_right {s : State} (hS : InvS s) {a b : NoteId} (h : Lt s a b) :
    (s.notes b).allocated = true := hS.alloc_of_anc h.1.1

/-- Every lock a program counter claims is the lock of an allocated note. -/
theorem held_alloc {s : State} (hN : InvN s) (hS : InvS s) (hL : InvL s) {t : Tid} {k : NoteId}
    (hk : k ∈ (s.pc t).held) : (s.notes k).allocated = true := by
  have hcN := hN.claim t
  have hcS := hS.claim t
  have hcL := hL.claim t
  cases hpc : s.pc t with
  | dl pos n nt dk =>
    rw [hpc] at hk hcN
    have : k = n := by cases pos <;> simp [PC.held] at hk <;> exact hk
    exact this ▸ hcN.1
  | nfy pos n par nk =>
    rw [hpc] at hk hcN hcL
    have : k = n ∨ par = some k := by
      cases pos <;> simp [PC.held] at hk <;> (try (left; exact hk)) <;> (try (right; exact hk))
        <;> exact hk
    rcases this with h | h
    · exact h ▸ hcN.1
    · exact (hcL k h).alloc_left hS
  | chd pos stk top =>
    rw [hpc] at hk hcN hcL
    cases stk with
    | nil => have := hcL.2.2.1; simp at this
    | cons f rest =>
      have hmem : (pos.cur = some k) ∨ k = f.note ∨ k ∈ rest.map Frame.note ++ top.par.toList := by
        cases pos with
        | waitRet b =>
          cases b
          · right; right; simpa [PC.held] using hk
          · simp only [PC.held, List.map_cons, List.cons_append, List.mem_cons] at hk
            right; exact hk
        | unlockChild c =>
          simp only [PC.held, List.map_cons, List.cons_append, List.mem_cons] at hk
          rcases hk with h | h
          · left; simp [h]
          · right; exact h
        | _ =>
          simp only [PC.held, List.map_cons, List.cons_append, List.mem_cons] at hk
          right; exact hk
      rcases hmem with h | h | h
      · exact (hcL.2.2.2 k f h rfl).alloc_right hS
      · exact h ▸ hcN.2.2.2.2.1
      · exact (LClaim.above_head hL hcL k h).alloc_left hS
  | newP pos n p dl =>
    rw [hpc] at hk hcS
    have : k = p := by cases pos <;> simp [PC.held] at hk <;> exact hk
    exact this ▸ hcS.2.1
  | fr pos n par c nx =>
    rw [hpc] at hk hcL
    have : k = n ∨ par = some k ∨ (pos = .unlockChild ∧ k = c) := by
      cases pos <;> simp [PC.held] at hk
      all_goals (first
        | (left; exact hk)
        | (right; left; exact hk)
        | (rcases hk with h | h
           · left; exact h
           · right; left; exact h)
        | (rcases hk with h | h | h
           · right; right; exact ⟨rfl, h⟩
           · left; exact h
           · right; left; exact h)
        | (rename_i b; cases b <;> simp at hk
           · right; left; exact hk
           · rcases hk with h | h
             · left; exact h
             · right; left; exact h))
    rcases this with h | h | ⟨h1, h2⟩
    · exact h ▸ hcL.1
    · exact (hcL.2.1 k h).alloc_left hS
    · subst h1 h2; exact (hcL.2.2 rfl).alloc_right hS
  | wt pos n wdl r =>
    rw [hpc] at hk hcN
    have : k = n := by cases pos <;> simp [PC.held] at hk <;> exact hk
    exact this ▸ hcN.1
  | _ => rw [hpc] at hk; simp [PC.held] at hk

theorem step_lockInv {s s' : State} {e : Event} (hK : LockInv s) (hL : InvL s) (hN' : InvN s') (hS' : InvS s') (hL' : InvL s')
    (hs : step s e = .ok s') : LockInv s' := by
  have hiff : ∀ k t, (s'.notes k).lockHolder = some t ↔ k ∈ (s'.pc t).held := by
    intro k t
    by_cases ha : e.actor = some t
    · exact LockInv.own hL (step_actor hs ha) (fun k => hK.iff k t) (hL.claim t) k
    · rw [step_lock_other hK hs t ha k, step_pc_other hs t ha]; exact hK.iff k t
  exact ⟨hiff, fun k t h => held_alloc hN' hS' hL' ((hiff k t).mp h)⟩

theorem Reachable.inv6 {s : State} (h : Reachable s) :
    InvA s ∧ InvN s ∧ InvS s ∧ InvX s ∧ InvL s ∧ LockInv s := by
  have h5 := h.inv5
  refine ⟨h5.1, h5.2.1, h5.2.2.1, h5.2.2.2.1, h5.2.2.2.2, ?_⟩
  refine Reachable.induction LockInv.init (fun _ _ _ hr hK hs => ?_) s h
  have h5' := (hr.next hs).inv5
  exact step_lockInv hK hr.inv5.2.2.2.2 h5'.2.1 h5'.2.2.1 h5'.2.2.2.2 hs

end Note
