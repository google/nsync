/-
  Layer `Note`, invariant family U (users of a note): the bookkeeping behind the API contract
  "a note is freed only when no other thread uses that same note", and its consequence: the
  argument of a call in progress is never a freed note (except for the freeing call itself, after
  its own `free`).
-/
import NsyncVerif.Proofs.NoteLock


namespace Note

def DK.arg (n : NoteId) : DK → Option NoteId
  | .newSelf par _ => par
  | _ => some n

def NK.arg (n : NoteId) : NK → Option NoteId
  | .ofApi => some n
  | .ofDeadline dk => dk.arg n

/-- The note passed to the API call the thread is in (for `nsync_note_new`: the parent). -/
def PC.arg : PC → Option NoteId
  | .idle => none
  | .newMalloc par _ | .newRetNull par => par
  | .dl _ n _ dk => dk.arg n
  | .nfy _ n _ nk => nk.arg n
  | .chd _ _ top => top.k.arg top.n
  | .newP _ _ p _ => some p
  | .retNew _ par => par
  | .retIs n _ | .retNotify n | .retExpiry n => some n
  | .fr _ n _ _ _ => some n
  | .wt0 _ n _ | .wt _ n _ _ => some n

/-- The thread is inside `nsync_note_free`. -/
def PC.freer : PC → Option NoteId
  | .fr _ n _ _ _ => some n
  | _ => none

/-- … and has already performed `free (n)`. -/
def PC.freedIt : PC → Bool
  | .fr .ret _ _ _ _ => true
  | _ => false

structure InvU (s : State) : Prop where
  users : ∀ t n, t ∈ s.users n ↔ (s.pc t).arg = some n
  nodup : ∀ n, (s.users n).Nodup
  freerOk : ∀ t n, (s.pc t).freer = some n → s.freeing n = true
  /-- the freeing thread is the only user of the note -/
  sole : ∀ t n, (s.pc t).freer = some n → s.users n = [t]
  freedA : ∀ n, (s.notes n).freed = true → s.freeing n = true
  /-- a freed note is used at most by the call that freed it, which can only return -/
  freedK : ∀ t n, (s.notes n).freed = true → t ∈ s.users n → (s.pc t).freedIt = true

theorem InvU.init : InvU Note.init := by
  refine ⟨?_, ?_, ?_, ?_, ?_, ?_⟩ <;> simp [Note.init, PC.arg, PC.freer, NoteRec.blank]

theorem freer_arg {pc : PC} {n : NoteId} (h : pc.freer = some n) : pc.arg = some n := by
  cases pc <;> simp [PC.freer] at h
  subst h; rfl

@[simp] theorem arg_afterDeadlinePc (n : NoteId) (nt : Dl) (dk : DK) :
    (Note.afterDeadlinePc n nt dk).arg = dk.arg n := by
  cases dk <;> simp only [Note.afterDeadlinePc] <;> (try split) <;> (try split) <;> rfl

@[simp] theorem freer_afterDeadlinePc (n : NoteId) (nt : Dl) (dk : DK) :
    (Note.afterDeadlinePc n nt dk).freer = none := by
  cases dk <;> simp only [Note.afterDeadlinePc] <;> (try split) <;> (try split) <;> rfl

/-- The argument of the call in progress changes only at `call` and `ret`. -/
theorem Own.arg {s s' : State} {e : Event} {a : Tid} {pc pc' : PC} (h : Own s a pc e pc' s') :
    (pc'.arg = pc.arg ∧ s'.users = s.users ∧ pc'.freer = pc.freer) ∨
    (∃ n, pc = .idle ∧ pc'.arg = some n ∧ s'.users = upd s.users n (a :: s.users n) ∧
      (s.freeing n = false) ∧ (pc'.freer = some n → s.users n = [])) ∨
    (∃ n, pc.arg = some n ∧ pc' = .idle ∧ s'.users = upd s.users n ((s.users n).erase a)) := by
  cases h
  all_goals (try (simp only [arg_afterDeadlinePc,
    freer_afterDeadlinePc]))
  all_goals (try (left; simp [*, PC.arg, DK.arg, NK.arg, PC.freer]; done))
  -- calls
  case call_new_2 | call_notify | call_isNotified | call_wait | call_free | call_expiry =>
    right; left
    refine ⟨_, trivial, rfl, rfl, (by assumption : s.Live _).2.2.2, fun h => ?_⟩
    first | assumption | (simp [PC.freer] at h)
  -- returns
  all_goals (try (right; right; exact ⟨_, rfl, trivial, rfl⟩))
  all_goals (repeat' split)

/-- `freeing` is set by the call of `nsync_note_free` only. -/
theorem step_freeing {s s' : State} {e : Event} (hs : step s e = .ok s') :
    s'.freeing = s.freeing ∨
    ∃ a n, e.actor = some a ∧ s.pc a = .idle ∧ (s'.pc a).freer = some n ∧
      s'.freeing = upd s.freeing n true := by
  rcases step_own hs with ⟨a, pc, pc', ha, hpc, -, h⟩ | ⟨_, rfl, _, rfl⟩ | ⟨rfl, rfl⟩
  · cases h
    all_goals (try (left; rfl))
    all_goals (try (left; simp; done))
    all_goals (repeat' split)
    all_goals (right; refine ⟨_, _, rfl, by assumption, ?_, rfl⟩; simp [PC.freer])
  · left; rfl
  · left; rfl

/-- A note is freed by the thread inside `nsync_note_free` on it, at note.c:283. -/
theorem step_freed {s s' : State} {e : Event} (hs : step s e = .ok s') (n : NoteId)
    (hn : (s'.notes n).freed = true) :
    (s.notes n).freed = true ∨
    ∃ a par c nx, e.actor = some a ∧ s.pc a = .fr .free n par c nx ∧
      s'.pc a = .fr .ret n par c nx := by
  rcases step_own hs with ⟨a, pc, pc', ha, hpc, hpc', h⟩ | ⟨_, rfl, _, rfl⟩ | ⟨rfl, rfl⟩
  · cases h
    all_goals (repeat' split at hn)
    case malloc_newMalloc_2 =>
      simp only [setPc_notes, allocNote_f] at hn
      split at hn
      · simp [NoteRec.blank] at hn
      · left; exact hn
    case free_fr_free =>
      simp only [setPc_notes, markFreed_f_freed] at hn
      split at hn
      · next h => subst h; right; exact ⟨_, _, _, _, rfl, by assumption, by simp⟩
      · left; exact hn
    all_goals (try (left; exact hn))
    all_goals (try (left; simpa using hn))
  · left; exact hn
  · left; exact hn

/-- How the "inside nsync_note_free" status of the acting thread evolves. -/
theorem Own.freer {s s' : State} {e : Event} {a : Tid} {pc pc' : PC} (h : Own s a pc e pc' s') :
    pc'.freer = pc.freer ∨ pc'.freer = none ∨
    ∃ n, pc = .idle ∧ pc'.freer = some n ∧ s'.freeing = upd s.freeing n true ∧
      s.users n = [] ∧ s'.users = upd s.users n (a :: s.users n) := by
  cases h
  all_goals (try (exact Or.inl rfl))
  all_goals (try (simp only [
    freer_afterDeadlinePc]))
  all_goals (try (left; simp [*, PC.freer]; done))
  case ret_fr_ret => right; left; simp [PC.freer]
  case call_free =>
    right; right
    exact ⟨_, trivial, rfl, rfl, by assumption, rfl⟩
  all_goals (repeat' split)

/-- After its `free` the freeing thread can only return. -/
theorem Own.freedIt {s s' : State} {e : Event} {a : Tid} {pc pc' : PC} (h : Own s a pc e pc' s')
    (hf : pc.freedIt = true) : pc' = .idle := by
  cases h
  case ret_fr_ret => rfl
  all_goals (simp [PC.freedIt] at hf; done)

/-- Events without an actor leave everything this family looks at alone. -/
theorem step_noactor {s s' : State} {e : Event} (hs : step s e = .ok s') (ha : e.actor = none) :
    s'.pc = s.pc ∧ s'.users = s.users ∧ s'.freeing = s.freeing ∧ s'.notes = s.notes := by
  cases e <;> simp [Event.actor] at ha
  · simp only [step, need_ok, Except.ok.injEq] at hs
    obtain ⟨_, hs⟩ := hs
    subst hs
    exact ⟨rfl, rfl, rfl, rfl⟩
  · simp only [step, Except.ok.injEq] at hs
    subst hs
    exact ⟨rfl, rfl, rfl, rfl⟩

theorem step_invU {s s' : State} {e : Event} (hU : InvU s) (hs : step s e = .ok s') :
    InvU s' := by
  cases hact : e.actor with
  | none =>
    obtain ⟨h1, h2, h3, h4⟩ := step_noactor hs hact
    exact ⟨by rw [h1, h2]; exact hU.users, by rw [h2]; exact hU.nodup,
      by rw [h1, h3]; exact hU.freerOk, by rw [h1, h2]; exact hU.sole,
      by rw [h3, h4]; exact hU.freedA, by rw [h1, h2, h4]; exact hU.freedK⟩
  | some a =>
    have hpo : ∀ t, t ≠ a → s'.pc t = s.pc t :=
      fun t ht => step_pc_other hs t (by rw [hact]; exact fun h => ht (Option.some.inj h).symm)
    have harg := (step_actor hs hact).arg
    -- users and nodup
    have husers : (∀ t n, t ∈ s'.users n ↔ (s'.pc t).arg = some n) ∧ (∀ n, (s'.users n).Nodup) := by
      rcases harg with ⟨h1, h2, _⟩ | ⟨n, h1, h2, h3, _, _⟩ | ⟨n, h1, h2, h3⟩
      · refine ⟨fun t m => ?_, by rw [h2]; exact hU.nodup⟩
        rw [h2]
        by_cases ht : t = a
        · subst ht; rw [h1]; exact hU.users t m
        · rw [hpo t ht]; exact hU.users t m
      · have hna : ∀ m, a ∉ s.users m := fun m hm => by
          have := (hU.users a m).mp hm; rw [h1] at this; simp [PC.arg] at this
        refine ⟨fun t m => ?_, fun m => ?_⟩
        · rw [h3, upd_apply]
          by_cases ht : t = a
          · subst ht
            rw [h2]
            split
            · next hm => subst hm; simp
            · next hm =>
              constructor
              · intro h; exact absurd h (hna m)
              · intro h; exact absurd (Option.some.inj h).symm hm
          · rw [hpo t ht]
            split
            · next hm => subst hm; simp [ht, hU.users t m]
            · exact hU.users t m
        · rw [h3, upd_apply]
          split
          · next hm => subst hm; exact List.nodup_cons.mpr ⟨hna m, hU.nodup m⟩
          · exact hU.nodup m
      · refine ⟨fun t m => ?_, fun m => ?_⟩
        · rw [h3, upd_apply]
          by_cases ht : t = a
          · subst ht
            rw [h2]
            simp only [PC.arg, reduceCtorEq, iff_false]
            split
            · next hm => subst hm; exact fun h => (List.Nodup.mem_erase_iff (hU.nodup m)).mp h |>.1 rfl
            · next hm =>
              intro h
              have := (hU.users t m).mp h
              rw [h1] at this
              exact hm (Option.some.inj this).symm
          · rw [hpo t ht]
            split
            · next hm =>
              subst hm
              rw [List.mem_erase_of_ne ht]; exact hU.users t m
            · exact hU.users t m
        · rw [h3, upd_apply]
          split
          · next hm => subst hm; exact (hU.nodup m).erase a
          · exact hU.nodup m
    have hst := step_stable hs
    have hfr := (step_actor hs hact).freer
    -- users of a note other than the one the acting thread calls / returns from are unchanged
    have husers_n : ∀ n, (s.pc a).arg ≠ some n → (s'.pc a).arg ≠ some n →
        s'.users n = s.users n := by
      intro n h0 h1
      rcases harg with ⟨_, h2, _⟩ | ⟨m, _, h2, h3, _, _⟩ | ⟨m, h2, _, h3⟩
      · rw [h2]
      · rw [h3, upd_apply]
        split
        · next hm => subst hm; exact absurd h2 h1
        · rfl
      · rw [h3, upd_apply]
        split
        · next hm => subst hm; exact absurd h2 h0
        · rfl
    refine ⟨husers.1, husers.2, ?_, ?_, ?_, ?_⟩
    · -- freerOk
      intro t n hf
      by_cases ht : t = a
      · subst ht
        rcases hfr with h | h | ⟨m, _, h1, h2, _, _⟩
        · rw [h] at hf; exact hst.freeing n (hU.freerOk t n hf)
        · rw [h] at hf; cases hf
        · rw [h1] at hf; cases hf; rw [h2]; simp
      · rw [hpo t ht] at hf; exact hst.freeing n (hU.freerOk t n hf)
    · -- sole
      intro t n hf
      by_cases ht : t = a
      · subst ht
        rcases hfr with h | h | ⟨m, _, h1, _, h3, h4⟩
        · rw [h] at hf
          have harg0 := freer_arg hf
          rcases harg with ⟨_, h2, _⟩ | ⟨_, hi, _⟩ | ⟨_, _, hi, _⟩
          · rw [h2]; exact hU.sole t n hf
          · rw [hi] at hf; cases hf
          · rw [hi] at h; rw [← h] at hf; cases hf
        · rw [h] at hf; cases hf
        · rw [h1] at hf; cases hf; rw [h4, upd_same, h3]
      · rw [hpo t ht] at hf
        have h0 := hU.sole t n hf
        have hfree := hU.freerOk t n hf
        rw [husers_n n ?_ ?_]
        · exact h0
        · -- the acting thread was not using `n`
          intro ha
          have := (hU.users a n).mpr ha
          rw [h0] at this
          exact ht (List.mem_singleton.mp this).symm
        · -- and does not start using it: calls on `n` are rejected
          intro ha
          rcases harg with ⟨h1, _, _⟩ | ⟨m, _, h2, _, h4, _⟩ | ⟨_, _, hi, _⟩
          · rw [h1] at ha
            have := (hU.users a n).mpr ha
            rw [h0] at this
            exact ht (List.mem_singleton.mp this).symm
          · rw [h2] at ha; cases ha; rw [hfree] at h4; cases h4
          · rw [hi] at ha; cases ha
    · -- freedA
      intro n hn
      rcases step_freed hs n hn with h | ⟨a', par, c, nx, _, hpc, _⟩
      · exact hst.freeing n (hU.freedA n h)
      · exact hst.freeing n (hU.freerOk a' n (by rw [hpc]; rfl))
    · -- freedK
      intro t n hn ht
      rcases step_freed hs n hn with h | ⟨a', par, c, nx, ha', hpc, hpc'⟩
      · -- already freed
        by_cases hta : t = a
        · subst hta
          have harg' := (husers.1 t n).mp ht
          rcases harg with ⟨h1, h2, _⟩ | ⟨m, _, h2, _, h4, _⟩ | ⟨_, _, hi, _⟩
          · -- same argument: but a thread past its `free` can only return
            have harg0 : (s.pc t).arg = some n := h1 ▸ harg'
            have hin := (hU.users t n).mpr harg0
            have hidle := (step_actor hs hact).freedIt (hU.freedK t n h hin)
            rw [hidle] at harg'; cases harg'
          · rw [h2] at harg'; cases harg'
            rw [hU.freedA n h] at h4; cases h4
          · rw [hi] at harg'; cases harg'
        · rw [hpo t hta]
          have harg' := (husers.1 t n).mp ht
          rw [hpo t hta] at harg'
          exact hU.freedK t n h ((hU.users t n).mpr harg')
      · -- freed by this very step
        rw [hact] at ha'; cases ha'
        have hsole := hU.sole a n (by rw [hpc]; rfl)
        have hun : s'.users n = s.users n := by
          rcases harg with ⟨_, h2, _⟩ | ⟨_, hi, _⟩ | ⟨_, _, hi, _⟩
          · rw [h2]
          · rw [hpc] at hi; cases hi
          · rw [hpc'] at hi; cases hi
        rw [hun, hsole] at ht
        rw [List.mem_singleton.mp ht, hpc']; rfl

theorem Reachable.invU {s : State} (h : Reachable s) : InvU s :=
  Reachable.induction InvU.init (fun _ _ _ _ hi hs => step_invU hi hs) s h

end Note
