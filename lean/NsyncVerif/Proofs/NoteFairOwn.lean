/-
  Layer `Note`, fair termination: what an own step of a thread inside a call does to its program
  counter (`OwnPc`, proved in one pass over the rules of the transition relation `Own`: `Own.ownPc`).
  None of the predicates on program counters it speaks of looks at the position inside `notify` /
  `note_notify_child` / `nsync_note_free` (`PC.skel`), so a step inside these functions keeps them
  all (`OwnPc.of_skel`); for the other steps each predicate comes with its value at the return of
  `nsync_note_notified_deadline_` (`afterDeadlinePc`).  The predicates:
  * the kind of the call (`PC.waitOn`) is kept and `malloc` of `nsync_note_new` is reached only
    from the API entry (`OwnPc.keep`, `step_isMalloc`);
  * a `nsync_note_wait` that has left the wait loop of `nsync_wait_n` — it is inside the implicit
    `notify` of an expired note, or past the decision to dequeue — does not come back to it
    (`PC.noLoop`, `OwnPc.noLoop`);
  * the part of `nsync_note_new` before the link is entered only from the API entry
    (`PC.isNewPre`, `OwnPc.newPre`, `step_keepPre`);
  * the phases of a wait (`ph2`: before / at / inside / after the wait loop; only a P that returns 0
    leads back to the `ready_time` load: `OwnPc.phase`) and the deadline of its sleep (`PC.sleepOk`);
  * what a wait knows about the expiry time `E` of its note (`wOk`: once it has a waiter record `E`
    is not zero; the `ntime` it has read is zero or `E`; the deadline of its sleep is the minimum of
    its own deadline and such a value) (`OwnPc.wOk`).
-/
import NsyncVerif.Proofs.NoteFairRank
import NsyncVerif.Proofs.NoteFairAttr
import NsyncVerif.Proofs.NoteOwn


namespace Note

/-! ### the kind of the call -/

/-- `malloc` of `nsync_note_new` is next. -/
def PC.isMalloc : PC → Bool
  | .newMalloc _ _ => true
  | _ => false

theorem waitOn_afterDeadlinePc (n : NoteId) (nt : Dl) (k : DK) :
    (afterDeadlinePc n nt k).waitOn = k.waitDl.map (fun d => (n, d)) := by
  cases k <;> simp only [afterDeadlinePc] <;> (repeat' split) <;> rfl

theorem isMalloc_afterDeadlinePc (n : NoteId) (nt : Dl) (k : DK) :
    (afterDeadlinePc n nt k).isMalloc = false := by
  cases k <;> simp only [afterDeadlinePc] <;> (repeat' split) <;> rfl

/-! ### the wait loop of `nsync_wait_n` is not re-entered -/

def DK.isWaitK : DK → Bool
  | .ready1 _ | .ready2 _ _ | .dequeue _ _ => true
  | _ => false

def NK.isWaitK : NK → Bool
  | .ofDeadline k => k.isWaitK
  | .ofApi => false

/-- The call is a `nsync_note_wait` that will not execute the `ready_time` load of the wait loop
    again. -/
def PC.noLoop : PC → Bool
  | .nfy _ _ _ k => k.isWaitK
  | .chd _ _ top => top.k.isWaitK
  | .dl _ _ _ (.dequeue _ _) => true
  | .wt p _ _ _ =>
    (match p with
     | .qLockCall | .qLockRet | .qLd | .qSt | .qUnlockCall _ | .qUnlockRet _ => true
     | _ => false)
  | .wt0 (.nret _) _ _ | .wt0 (.ret _) _ _ => true
  | _ => false

theorem noLoop_afterDeadlinePc_zero (n : NoteId) (k : DK) (h : k.isWaitK = true) :
    (afterDeadlinePc n (some 0) k).noLoop = true := by
  cases k <;> simp [DK.isWaitK] at h
  · simp [afterDeadlinePc, Dl.pos, PC.noLoop]
  · simp [afterDeadlinePc, min_zero_not_pos, PC.noLoop]
  · simp [afterDeadlinePc, PC.noLoop]

theorem noLoop_afterDeadlinePc_deq (n : NoteId) (nt : Dl) (r : Rid) (wdl : Dl) :
    (afterDeadlinePc n nt (.dequeue r wdl)).noLoop = true := by
  simp [afterDeadlinePc, PC.noLoop]

theorem noLoop_dl {p : DPos} {n : NoteId} {nt : Dl} {dk : DK} (h : (PC.dl p n nt dk).noLoop = true) :
    ∃ r w, dk = .dequeue r w := by
  cases dk <;> simp [PC.noLoop] at h
  exact ⟨_, _, rfl⟩

/-- A `nsync_note_wait` that is counted in a `disconnecting`, or has an activation of
    `note_notify_child`, has left the wait loop. -/
theorem noLoop_of_inNotify {pc : PC} (h : InNotify pc = true) (hw : pc.waitOn ≠ none) :
    pc.noLoop = true := by
  cases pc with
  | nfy p n par k =>
    cases k with
    | ofApi => simp [PC.waitOn, NK.waitDl] at hw
    | ofDeadline dk => cases dk <;> simp [PC.waitOn, NK.waitDl, DK.waitDl] at hw <;> rfl
  | chd p stk top =>
    obtain ⟨n, par, k⟩ := top
    cases k with
    | ofApi => simp [PC.waitOn, NK.waitDl] at hw
    | ofDeadline dk => cases dk <;> simp [PC.waitOn, NK.waitDl, DK.waitDl] at hw <;> rfl
  | fr p n par c nx => simp [PC.waitOn] at hw
  | _ => simp [InNotify] at h

/-! ### the part of `nsync_note_new` before the link is entered from the API entry only -/

def DK.isNewP : DK → Bool
  | .newSelf (some _) _ => true
  | _ => false

def NK.isNewP : NK → Bool
  | .ofDeadline k => k.isNewP
  | .ofApi => false

/-- Inside `nsync_note_new (parent, …)` before the new note is linked (or found not to be). -/
def PC.isNewPre : PC → Bool
  | .newMalloc (some _) _ => true
  | .dl _ _ _ k => k.isNewP
  | .nfy _ _ _ k => k.isNewP
  | .chd _ _ top => top.k.isNewP
  | .newP p _ _ _ =>
    (match p with
     | .lockCall | .lockRet | .ld => true
     | _ => false)
  | _ => false

theorem isNewPre_afterDeadlinePc (n : NoteId) (nt : Dl) (k : DK)
    (h : (afterDeadlinePc n nt k).isNewPre = true) : k.isNewP = true := by
  cases k with
  | newSelf par dl =>
    cases par with
    | none => simp only [afterDeadlinePc] at h; split at h <;> cases h
    | some p => rfl
  | _ => simp only [afterDeadlinePc] at h <;> (repeat' split at h) <;> cases h

theorem isNewPre_newMalloc (par : Option NoteId) (dl : Dl) :
    (DK.newSelf par dl).isNewP = true → (PC.newMalloc par dl).isNewPre = true := by
  cases par <;> exact id

/-! ### the phases of a `nsync_note_wait`, and the deadline of its sleep -/

def DK.kph : DK → Nat
  | .ready1 _ => 3
  | .ready2 _ _ => 1
  | _ => 0

def NK.kph : NK → Nat
  | .ofDeadline k => k.kph
  | .ofApi => 0

/-- Phase of a `nsync_note_wait`: 3 before the wait loop, 2 at its `ready_time` load, 1 inside it,
    0 after it (and for every other call). -/
def ph2 : PC → Nat
  | .dl .ld1 _ _ (.ready2 _ _) => 2
  | .dl _ _ _ k => k.kph
  | .nfy _ _ _ k => k.kph
  | .chd _ _ top => top.k.kph
  | .wt0 .ncall _ _ | .wt0 .newRec _ _ => 3
  | .wt p _ _ _ =>
    (match p with
     | .eLockCall | .eLockRet | .eLd | .eSt _ | .eUnlockCall | .eUnlockRet => 3
     | .pdEnter _ | .pdRet _ => 1
     | _ => 0)
  | _ => 0

/-- The deadline of the sleep is the minimum of the deadline of the wait and something. -/
def PC.sleepOk : PC → Prop
  | .wt (.pdEnter m) _ wdl _ | .wt (.pdRet m) _ wdl _ => ∃ nt, m = Dl.min wdl nt
  | _ => True

theorem sleepOk_afterDeadlinePc (n : NoteId) (nt : Dl) (k : DK) :
    (afterDeadlinePc n nt k).sleepOk := by
  cases k <;> simp only [afterDeadlinePc] <;> (repeat' split) <;>
    first | trivial | exact ⟨_, rfl⟩

theorem ph2_afterDeadlinePc (n : NoteId) (nt : Dl) (k : DK) : ph2 (afterDeadlinePc n nt k) ≤ k.kph := by
  cases k <;> simp only [afterDeadlinePc] <;> (repeat' split) <;> simp [ph2, DK.kph, NK.kph]

theorem kph_le_dl (p : DPos) (n : NoteId) (nt : Dl) (k : DK) : k.kph ≤ ph2 (.dl p n nt k) := by
  cases p <;> cases k <;> simp [ph2, DK.kph]

theorem ph2_dl_ld1 (n : NoteId) (nt nt' : Dl) (k : DK) :
    ph2 (.dl .lockCall n nt' k) ≤ ph2 (.dl .ld1 n nt k) := by
  cases k <;> simp [ph2, DK.kph]

/-- The P of the wait loop returned 0. -/
def Spurious (s : State) (e : Event) (t : Tid) : Prop :=
  ∃ sem d n wdl r, e = .pdRet t sem false ∧ s.pc t = .wt (.pdRet d) n wdl r

/-! ### what a wait knows about the expiry time of its note -/

def DPos.late2 : DPos → Bool
  | .unlockCall | .unlockRet | .now => true
  | _ => false

def DK.recK : DK → Bool
  | .ready2 _ _ | .dequeue _ _ => true
  | _ => false

def NK.recK : NK → Bool
  | .ofDeadline k => k.recK
  | .ofApi => false

/-- A value of `NOTIFIED_TIME`: zero, or the expiry time. -/
def ntOk (E nt : Dl) : Prop := nt = some 0 ∨ nt = E

def wOk (E : Dl) : PC → Prop
  | .dl p _ nt k => (k.recK = true → E ≠ some 0) ∧ (k.isWaitK = true → p.late2 = true → ntOk E nt)
  | .nfy _ _ _ k => k.recK = true → E ≠ some 0
  | .chd _ _ top => top.k.recK = true → E ≠ some 0
  | .wt0 .newRec _ _ => E ≠ some 0
  | .wt p _ wdl _ =>
    E ≠ some 0 ∧
    (match p with
     | .pdEnter m | .pdRet m => ∃ nt, m = Dl.min wdl nt ∧ ntOk E nt
     | _ => True)
  | _ => True

theorem wOk_afterDeadlinePc (E : Dl) (n : NoteId) (nt : Dl) (k : DK)
    (hrec : k.recK = true → E ≠ some 0) (hnt : k.isWaitK = true → ntOk E nt) :
    wOk E (afterDeadlinePc n nt k) := by
  cases k with
  | ready1 wdl =>
    simp only [afterDeadlinePc]
    split
    · next h =>
      show E ≠ some 0
      rcases hnt rfl with h' | h'
      · exact absurd h' h.1
      · rw [← h']; exact h.1
    · trivial
  | ready2 r wdl =>
    simp only [afterDeadlinePc]
    split
    · exact ⟨hrec rfl, nt, rfl, hnt rfl⟩
    · exact ⟨fun _ => hrec rfl, fun _ h => by cases h⟩
  | dequeue r wdl => exact ⟨hrec rfl, trivial⟩
  | isNotified => trivial
  | notifyApi =>
    simp only [afterDeadlinePc]
    split
    · intro h; cases h
    · trivial
  | newSelf par dl =>
    simp only [afterDeadlinePc]
    (repeat' split) <;> trivial

theorem waitOn_dl_of_isWaitK {p : DPos} {n : NoteId} {nt : Dl} {k : DK} (h : k.isWaitK = true) :
    ∃ wdl, (PC.dl p n nt k).waitOn = some (n, wdl) := by
  cases k <;> simp [DK.isWaitK] at h <;> exact ⟨_, rfl⟩

theorem wOk_ld2 (E : Dl) (s : State) (n : NoteId) (nt : Dl) (dk : DK)
    (hw : wOk E (.dl .ld2 n nt dk))
    (hE : ∀ n' wdl, (PC.dl .ld2 n nt dk).waitOn = some (n', wdl) → (s.notes n').expiry = E) :
    wOk E (.dl .unlockCall n (s.notes n).ntime dk) := by
  refine ⟨hw.1, fun hk _ => ?_⟩
  obtain ⟨wdl, hwo⟩ := waitOn_dl_of_isWaitK (p := .ld2) (n := n) (nt := nt) hk
  have he := hE n wdl hwo
  unfold NoteRec.ntime ntOk
  split
  · exact Or.inl rfl
  · exact Or.inr he

/-! ### the skeleton of a program counter -/

/-- The program counter without the position inside `notify` / `note_notify_child` /
    `nsync_note_free`: the call and its continuation.  None of the predicates above looks at more
    of these program counters. -/
def PC.skel : PC → PC
  | .nfy _ n _ k => .nfy .lockCall n none k
  | .chd _ _ top => .nfy .lockCall top.n none top.k
  | .fr _ n _ _ _ => .fr .lockCall n none 0 none
  | pc => pc

theorem waitOn_skel (pc : PC) : pc.skel.waitOn = pc.waitOn := by cases pc <;> rfl
theorem isMalloc_skel (pc : PC) : pc.skel.isMalloc = pc.isMalloc := by cases pc <;> rfl
theorem noLoop_skel (pc : PC) : pc.skel.noLoop = pc.noLoop := by cases pc <;> rfl
theorem isNewPre_skel (pc : PC) : pc.skel.isNewPre = pc.isNewPre := by cases pc <;> rfl
theorem ph2_skel (pc : PC) : ph2 pc.skel = ph2 pc := by cases pc <;> rfl
theorem sleepOk_skel (pc : PC) : pc.skel.sleepOk ↔ pc.sleepOk := by cases pc <;> exact Iff.rfl
theorem wOk_skel (E : Dl) (pc : PC) : wOk E pc.skel ↔ wOk E pc := by cases pc <;> exact Iff.rfl

/-- What an own step from `pc` to `pc'` does. -/
structure OwnPc (s : State) (e : Event) (t : Tid) (pc pc' : PC) : Prop where
  /-- the kind of the call is kept, and `malloc` of `nsync_note_new` is not reached -/
  keep : pc' = .idle ∨ (pc'.waitOn = pc.waitOn ∧ pc'.isMalloc = false)
  /-- a `nsync_note_wait` that has left the wait loop does not re-enter it -/
  noLoop : pc.noLoop = true → pc' = .idle ∨ pc'.noLoop = true
  /-- the part of `nsync_note_new` before the link is not entered -/
  newPre : pc'.isNewPre = true → pc.isNewPre = true
  sleepOk : pc.sleepOk → pc'.sleepOk
  /-- only a P that returns 0 leads back to the `ready_time` load of the wait loop -/
  phase : ph2 pc' ≤ ph2 pc ∨ Spurious s e t
  wOk : ∀ E, wOk E pc → (∀ n wdl, pc.waitOn = some (n, wdl) → (s.notes n).expiry = E) → wOk E pc'

/-- A step that keeps the skeleton. -/
theorem OwnPc.of_skel {s : State} {e : Event} {t : Tid} {pc pc' : PC} (h : pc'.skel = pc.skel)
    (hm : pc.isMalloc = false) : OwnPc s e t pc pc' where
  keep := .inr ⟨by rw [← waitOn_skel, h, waitOn_skel], by rw [← isMalloc_skel, h, isMalloc_skel, hm]⟩
  noLoop hn := .inr (by rw [← noLoop_skel, h, noLoop_skel, hn])
  newPre hn := by rw [← isNewPre_skel, ← h, isNewPre_skel, hn]
  sleepOk hs := (sleepOk_skel _).1 (h ▸ (sleepOk_skel _).2 hs)
  phase := .inl (by rw [← ph2_skel, h, ph2_skel]; exact Nat.le_refl _)
  wOk E hw _ := (wOk_skel E _).1 (h ▸ (wOk_skel E _).2 hw)

theorem Own.ownPc {s s' : State} {e : Event} {t : Tid} {pc pc' : PC} (h : Own s t pc e pc' s')
    (hpc : s.pc t = pc) (hp : pc ≠ .idle) : OwnPc s e t pc pc' := by
  cases h
  all_goals first
    | exact absurd rfl hp
    | exact .of_skel rfl rfl
    | skip
  all_goals
    refine ⟨?_, fun hn => ?_, ?_, ?_, ?_, fun E hw hE => ?_⟩
    · first
       | exact .inr ⟨rfl, rfl⟩
       | exact .inl rfl
       | exact .inr ⟨waitOn_afterDeadlinePc .., isMalloc_afterDeadlinePc ..⟩
    · first
       | exact Bool.noConfusion hn
       | exact .inr hn
       | exact .inl rfl
       | exact .inr rfl
       | exact .inr (noLoop_afterDeadlinePc_zero _ _ hn)
       | (obtain ⟨r, w, rfl⟩ := noLoop_dl hn
          first | exact .inr rfl | exact .inr (noLoop_afterDeadlinePc_deq ..))
    · first
       | exact id
       | exact fun h => Bool.noConfusion h
       | exact fun _ => rfl
       | exact isNewPre_afterDeadlinePc _ _ _
       | exact isNewPre_newMalloc _ _
    · first
       | exact id
       | exact fun _ => trivial
       | exact fun _ => sleepOk_afterDeadlinePc ..
    · first
       | exact .inl (Nat.le_refl _)
       | exact .inl (Nat.zero_le _)
       | exact .inl (Nat.le_trans (ph2_afterDeadlinePc ..) (kph_le_dl ..))
       | exact .inl (ph2_afterDeadlinePc ..)
       | exact .inl (ph2_dl_ld1 ..)
       | exact .inl (show (2 : Nat) ≤ 3 by decide)
       | exact .inl (kph_le_dl ..)
       | exact .inr ⟨_, _, _, _, _, congrArg _ (Bool.eq_false_iff.2 ‹_›), hpc⟩
    · first
       | exact hw
       | trivial
       | exact wOk_afterDeadlinePc _ _ _ _ hw (fun _ => Or.inl rfl)
       | exact wOk_afterDeadlinePc _ _ _ _ hw.1 (fun h => hw.2 h rfl)
       | exact wOk_afterDeadlinePc _ _ _ _ hw.1 (fun _ => Or.inl rfl)
       | exact wOk_ld2 _ _ _ _ _ hw hE
       | (simp_all [Note.wOk, DPos.late2, DK.recK, NK.recK, DK.isWaitK]; done)

theorem own_pc {s s' : State} {e : Event} {t : Tid} (hs : step s e = .ok s')
    (ha : e.actor = some t) (hp : s.pc t ≠ .idle) : OwnPc s e t (s.pc t) (s'.pc t) :=
  (step_actor hs ha).ownPc rfl hp

/-- An event of a thread that is outside any call (and is not a `call`) changes nothing. -/
theorem step_idle_state {s s' : State} {e : Event} {t : Tid} (hs : step s e = .ok s')
    (ha : e.actor = some t) (hp : s.pc t = .idle) (hc : ∀ a, e ≠ .call t a) : s' = s := by
  have h := step_actor hs ha
  rw [hp] at h
  generalize s'.pc t = q at h
  cases h <;> first | exact absurd rfl (hc _) | rfl

/-- A thread outside any call stays there until its next `call`. -/
theorem step_idle {s s' : State} {e : Event} {t : Tid} (hs : step s e = .ok s')
    (hp : s.pc t = .idle) (hc : ∀ a, e ≠ .call t a) : s'.pc t = .idle := by
  by_cases ha : e.actor = some t
  · rw [step_idle_state hs ha hp hc]; exact hp
  · rw [step_pc_other hs t ha]; exact hp

/-- The `malloc` of `nsync_note_new` is reached only from the API entry. -/
theorem step_isMalloc {s s' : State} {e : Event} {t : Tid} (hs : step s e = .ok s')
    (hm : (s'.pc t).isMalloc = true) (hc : ∀ a, e ≠ .call t a) : (s.pc t).isMalloc = true := by
  by_cases ha : e.actor = some t
  · by_cases hp : s.pc t = .idle
    · rw [step_idle hs hp hc] at hm; cases hm
    · rcases (own_pc hs ha hp).keep with h | ⟨_, h⟩
      · rw [h] at hm; cases hm
      · rw [h] at hm; cases hm
  · rw [step_pc_other hs t ha] at hm; exact hm

/-- Steps other than the `call` of the thread do not lead into the part of `nsync_note_new` before
    the link. -/
theorem step_keepPre {s s' : State} {e : Event} {t : Tid} (hs : step s e = .ok s')
    (hc : ∀ a, e ≠ .call t a) (h : (s'.pc t).isNewPre = true) : (s.pc t).isNewPre = true := by
  by_cases ha : e.actor = some t
  · by_cases hp : s.pc t = .idle
    · rw [step_idle hs hp hc] at h; cases h
    · exact (own_pc hs ha hp).newPre h
  · rw [step_pc_other hs t ha] at h; exact h

end Note
