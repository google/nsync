import NsyncVerif.Proofs.MuCInv1
import NsyncVerif.Proofs.MuCEff
import NsyncVerif.Proofs.MuCInv3
/-
  MuC: (I_spin) through every step: one lemma per kind of step (`Eff`), `inv3_step`, `inv3_init`.
-/
namespace NsyncVerif.MuC

theorem PcMove.spin {s : State} {p p' : PC} (h : PcMove s p p') : p'.spin = p.spin := by
  cases h <;> first | rfl | (rename_i h; cases h <;> rfl)

theorem PcMove.ok3 {s : State} {p p' : PC} (h : PcMove s p p') (hok : p.ok3) : p'.ok3 := by
  cases h <;> first | trivial | exact hok | (simp_all [PC.ok3]; done) |
    (rename_i h; cases h <;> first | trivial | exact hok | (simp_all [PC.ok3]; done))

theorem Inv3.move {s : State} {t : Tid} {p' : PC} (h : Inv3 s) (hp : PcMove s (s.pc t) p') : Inv3 (setPc s t p') :=
  Inv3.local t h rfl rfl (setFn_others rfl) (by rw [setPc_pc, setFn_same]; exact hp.spin)
    (by rw [setPc_pc, setFn_same]; exact hp.ok3 (h.ok3 t))

theorem Inv3.frame {s s' : State} {t : Tid} {p p' : PC} (h : Inv3 s) (heq : s.pc t = p) (hpc : s'.pc = setFn s.pc t p')
    (hw : s'.word.spin = s.word.spin) (hsp : s'.sp = s.sp) (hspin : p'.spin = p.spin) (hok : p.ok3 → p'.ok3) : Inv3 s' := by
  have hpt : s'.pc t = p' := setFn_at hpc
  exact Inv3.local t h hw hsp (setFn_others hpc) (by rw [hpt, hspin, heq])
    (by rw [hpt]; exact hok (heq ▸ h.ok3 t))

theorem Inv3.env {s s' : State} (h : Inv3 s) (hw : s'.word.spin = s.word.spin) (hsp : s'.sp = s.sp) (hpc : s'.pc = s.pc) :
    Inv3 s' :=
  ⟨fun t => by rw [hsp, hpc]; exact h.own t, by rw [hw, hsp]; exact h.bit, fun t => by rw [hpc]; exact h.ok3 t⟩

theorem finPc_spin (r : Ret) (l : List Wid) : (finPc r l).spin = false := by
  cases l <;> cases r <;> rfl
theorem finPc_ok3 (r : Ret) (l : List Wid) : (finPc r l).ok3 := by
  cases l <;> cases r <;> trivial
theorem loopPc_spin (c : MW) (b : Bool) : (loopPc c b).spin = false ∧ (loopPc c b).ok3 := by
  unfold loopPc; split <;> exact ⟨rfl, trivial⟩

/-- What a successful CAS on the word does to the spinlock: it leaves it alone, takes it (from a word without it) or gives
    it up; the ghost owner follows. -/
theorem CasPc.spinEff {s : State} {p p' : PC} {nw : Word} {w : Option Wid} (t : Tid) (h : CasPc s p p' nw w) (hok : p.ok3) :
    p'.ok3 ∧ ((p'.spin = p.spin ∧ nw.spin = s.word.spin ∧ (p.casGhost s t).sp = s.sp) ∨
      (p'.spin = true ∧ s.word.spin = false ∧ nw.spin = true ∧ (p.casGhost s t).sp = some t) ∨
      (p.spin = true ∧ p'.spin = false ∧ nw.spin = false ∧ (p.casGhost s t).sp = none)) := by
  cases h <;> rename_i hw <;> rw [hw]
  case lsEnq => exact ⟨trivial, .inr (.inl ⟨rfl, hok, rfl, rfl⟩)⟩
  case mtAcq => exact ⟨hok, .inr (.inl ⟨rfl, hok, rfl, rfl⟩)⟩
  case lsRel | mwRelUs => exact ⟨trivial, .inr (.inr ⟨rfl, rfl, rfl, rfl⟩)⟩
  case mwRelSleep c _ =>
    exact ⟨trivial, .inr (.inr ⟨rfl, rfl, rfl, by simp only [PC.casGhost, Bool.false_eq_true, ↓reduceIte]; cases c.l <;> rfl⟩)⟩
  case unc r _ => exact ⟨by cases r <;> trivial, .inl ⟨by cases r <;> rfl, by cases r.mode <;> rfl, by show (subShare s t r.mode).sp = _; cases r.mode <;> rfl⟩⟩
  case mtWW => exact ⟨trivial, .inl ⟨rfl, rfl, rfl⟩⟩
  case acqLk c _ _ =>
    exact ⟨trivial, .inl ⟨rfl, by cases c.l <;> rfl, by show (addShare s t c.l).sp = _; cases c.l <;> rfl⟩⟩
  case acqMw c _ m _ =>
    exact ⟨by split <;> first | trivial | exact (loopPc_spin _ _).2, .inl ⟨by split <;> first | rfl | exact (loopPc_spin _ _).1,
      by cases c.l <;> rfl, by show (addShare s t c.l).sp = _; cases c.l <;> rfl⟩⟩
  all_goals exact ⟨trivial, .inl ⟨rfl, by cases ‹Mode› <;> (try cases ‹Bool›) <;> rfl, by cases ‹Mode› <;> rfl⟩⟩

theorem Inv3.cas {s s' : State} {t : Tid} {p' : PC} {nw : Word} {w : Option Wid} (h : Inv3 s) (hp : CasPc s (s.pc t) p' nw w)
    (ok : CasOk s t p' nw w s') : Inv3 s' := by
  have hoth : ∀ u, u ≠ t → s'.pc u = s.pc u := setFn_others ok.pc
  have hpt : s'.pc t = p' := setFn_at ok.pc
  obtain ⟨hok, hc⟩ := hp.spinEff t (h.ok3 t)
  rw [← ok.word, ← ok.sp, ← hpt] at hc
  rw [← hpt] at hok
  rcases hc with ⟨a, b, c⟩ | ⟨a, f, b, c⟩ | ⟨g, a, b, c⟩
  · exact Inv3.local t h b c hoth a hok
  · exact Inv3.take t h f b c hoth a hok
  · exact Inv3.give t h g b c hoth a hok

theorem Inv3.ret {s s' : State} {t : Tid} {m : Option Mode} {w : Option Wid} {b : Bool} {p : PC} (h : Inv3 s) (heq : s.pc t = p)
    (hp : RetPc (s.held t) p m w b) (e : RetEff s t m w b s') : Inv3 s' :=
  h.frame heq e.pc (by rw [e.word]) e.sp (by cases hp <;> rfl) (fun _ => trivial)

theorem Inv3.call {s s' : State} {t : Tid} {p' : PC} {nw : Bool} {ca : Option Cond} (h : Inv3 s) (h0 : s.pc t = .idle)
    (hp : CallPc s t p' nw ca) (e : CallEff s t p' nw ca s') : Inv3 s' :=
  h.frame h0 e.pc (by rw [e.word]) e.sp (by cases hp <;> rfl) (fun _ => by cases hp <;> trivial)

theorem Inv3.sem {cfg : Cfg} {s s' : State} {t : Tid} {p p' : PC} {k : Wid} {n : Nat} (h : Inv3 s) (heq : s.pc t = p)
    (hp : SemPc cfg s p p' k n) (e : SemEff s t p' k n s') : Inv3 s' := by
  refine h.frame heq e.pc (by rw [e.word]) e.sp ?_ (fun _ => ?_) <;> cases hp
  · rfl
  · rfl
  · exact finPc_spin _ _
  · trivial
  · trivial
  · exact finPc_ok3 _ _

theorem Inv3.fin {s s' : State} {t : Tid} {r : Ret} {f : Fin} {old : Word} (h : Inv3 s)
    (heq : s.pc t = .usFinCas r f old) (e : CasOk s t (finPc r f.wake) (finWord f old) none s') : Inv3 s' := by
  have hpt : s'.pc t = finPc r f.wake := setFn_at e.pc
  refine Inv3.give t h (by rw [heq]; rfl) (by rw [e.word]; rfl) ?_ (setFn_others e.pc)
    (by rw [hpt]; exact finPc_spin _ _) (by rw [hpt]; exact finPc_ok3 _ _)
  rw [e.sp, heq]; show (if f.late then _ else _ : State).sp = none; split <;> rfl

/-- A scan step: the grab and the mu.c:399 CAS take the spinlock, the mu.c:354 CAS gives it up, the others leave it. -/
theorem Inv3.scan {s s' : State} {t : Tid} {r : Ret} (h1 : Inv1 s) (h : Inv3 s) (hsc : ScanStart s t r s') : Inv3 s' := by
  obtain ⟨late, b⟩ := hsc.base (h1.pcok t)
  have hok0 := h.ok3 t
  have hok1 := h1.pcok t
  have hsp := b.sp
  have hbit := b.spin
  cases hsc with
  | grab old heq hw hs =>
    rw [heq] at hok0 hsp hbit
    obtain ⟨hs1, hs2⟩ := afterPickup_spin hs
    exact Inv3.take t h (by rw [hw]; exact hok0) hbit hsp b.oth hs1 hs2
  | rel sc old heq hw hs =>
    rw [heq] at hok0 hsp hbit
    obtain ⟨hs1, hs2⟩ := scanRun_spin _ _ t r sc s' hs
    exact Inv3.give t h (by rw [heq]; rfl) hbit hsp b.oth (by rw [hs1, hok0]; rfl) hs2
  | re sc old heq hw hs =>
    rw [heq] at hok0 hsp hbit
    obtain ⟨hs1, hs2⟩ := afterPickup_spin hs
    exact Inv3.take t h (by rw [hw]; exact hok0.1) hbit hsp b.oth hs1 hs2
  | rc sc k old heq hs =>
    rw [heq] at hsp hbit
    obtain ⟨hs1, hs2⟩ := scanRun_spin _ _ t r sc s' hs
    exact Inv3.local t h hbit hsp b.oth (by rw [hs1, heq]; rfl) hs2
  | eval sc k rest cd heq hk hcd hs =>
    rw [heq] at hok1 hsp hbit
    obtain ⟨hs1, hs2⟩ := afterEval_spin hs hok1.2.2.1
    exact Inv3.local t h hbit hsp b.oth (by rw [hs1, heq]; rfl) hs2

theorem Inv3.st {s s' : State} {t : Tid} (h : Inv3 s) (e : StEff s t s') : Inv3 s' := by
  cases e
  case mtKeep c old heq | mtGive c old heq =>
    -- the release store gives the spinlock up
    have hok0 := h.ok3 t
    rw [heq] at hok0
    refine Inv3.give t h (by rw [heq]; rfl) ?_ (by simp) (by intro u hu; simp [setFn, hu]) (by simp [PC.spin]) (by simp [PC.ok3])
    simp [mtRelWord]; (repeat' split) <;> simpa [PC.ok3] using hok0
  case wake r k rest heq | mwNew c k heq _ _ _ _ | mwOwn c k heq _ _ _ | mtGone c old k heq _ => exact h.frame heq rfl rfl rfl rfl id
  case lsNewLast c k heq _ _ _ _ _ | lsNewFirst c k heq _ _ _ _ _ =>
    exact h.frame heq (p' := .lsRelLd { c with w := some k }) (by simp) (by simp) (by simp) rfl id
  case lsOwnLast c k heq _ _ _ _ | lsOwnFirst c k heq _ _ _ _ => exact h.frame heq (p' := .lsRelLd c) (by simp) (by simp) (by simp) rfl id

theorem Inv3.envEff {cfg : Cfg} {s s' : State} (h : Inv3 s) (e : EnvEff cfg s s') : Inv3 s' := by
  cases e with
  | post k => exact h.env (by simp) (by simp) (by simp)
  | sem k n _ => exact h.env rfl rfl rfl
  | tick n _ => exact h.env rfl rfl rfl

theorem inv3_step {cfg : Cfg} {s s' : State} {e : Event} (h1 : Inv1 s) (h : Inv3 s)
    (hs : step cfg s e = .ok s') : Inv3 s' := by
  cases ht : e.tid with
  | none => exact h.envEff (step_env hs ht)
  | some t =>
    cases step_eff hs ht with
    | move hm => exact h.move hm
    | callQ h0 hh hm => exact h.move (h0 ▸ hm)
    | cas hc =>
      cases hc with
      | fail hm => exact h.move hm
      | plain hp ok => exact h.cas hp ok
      | scan hsc => exact h.scan h1 hsc
      | fin heq hw e => exact h.fin heq e
      | mwEnq c old k heq hk hw =>
        have hok0 := h.ok3 t; rw [heq] at hok0
        exact Inv3.take t h (by rw [hw]; exact hok0) (by split <;> simp [mwEnqWord, enqLast, enqFirst])
          (by split <;> simp [enqLast, enqFirst]) (by intro u hu; split <;> simp [setFn, hu]) (by simp [PC.spin]) (by simp [PC.ok3])
      | mtRm c old rc k heq hk =>
        exact h.frame heq rfl rfl rfl rfl id
    | st e => exact h.st e
    | ldRc c k obs heq hk => exact h.frame heq rfl rfl rfl rfl id
    | ldDeq c old k heq hk hmem hrc =>
      exact h.frame heq (p' := .mtRmLd c old) (by simp) (by simp) (by simp) rfl id
    | ret hp e => exact h.ret rfl hp e
    | call h0 hp e => exact h.call h0 hp e
    | scan hsc => exact h.scan h1 hsc
    | eval c cd heq hcd =>
      exact h.frame heq rfl rfl rfl (loopPc_spin _ _).1 (fun _ => (loopPc_spin _ _).2)
    | sem hp e => exact h.sem rfl hp e
    | dataW x v hh => exact h.env rfl rfl rfl
    | dataR => exact h

theorem inv3_init : Inv3 init := by
  refine ⟨fun t => ?_, rfl, fun t => ?_⟩
  · simp [init, PC.spin]
  · simp [init, PC.ok3]

end NsyncVerif.MuC
