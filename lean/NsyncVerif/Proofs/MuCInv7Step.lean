import NsyncVerif.Proofs.MuCEffScan
import NsyncVerif.Proofs.MuCQMono
import NsyncVerif.Proofs.MuCInv6
import NsyncVerif.Proofs.MuCInv7Scan
/-
  MuC, MU_ALL_FALSE (`Inv7`) through every step: one lemma per kind of step (`Eff`), `inv7_step`, `inv7_init`.
-/
namespace NsyncVerif.MuC

theorem finPc_firstW (r : Ret) (l : List Wid) : (finPc r l).firstW = false := by
  cases l <;> cases r <;> rfl
theorem finPc_susp (r : Ret) (l : List Wid) : (finPc r l).susp = false := by
  cases l <;> cases r <;> rfl
theorem finPc_mwPost (r : Ret) (l : List Wid) : (finPc r l).mwPost = r.mw? := by
  cases l <;> cases r <;> rfl
theorem finPc_reScan (r : Ret) (l : List Wid) : (finPc r l).reScan = none := by
  cases l <;> cases r <;> rfl
theorem finPc_finOf (r : Ret) (l : List Wid) : (finPc r l).finOf = none := by
  cases l <;> cases r <;> rfl
theorem finPc_nonLate (r : Ret) (l : List Wid) : (finPc r l).nonLate = false := by
  cases l <;> cases r <;> rfl
theorem finPc_ne_idle (r : Ret) (l : List Wid) : finPc r l ≠ .idle := by
  cases l <;> cases r <;> simp [finPc, Ret.pc]

theorem loopPc_keep7 (c : MW) (b : Bool) : Keep7 (loopPc c b) (.mwEval c) := by
  unfold loopPc; split <;> exact .of_eq rfl rfl rfl rfl rfl rfl rfl rfl rfl

theorem SemPc.keep7 {cfg : Cfg} {s : State} {p p' : PC} {k : Wid} {n : Nat} (h : SemPc cfg s p p' k n) : Keep7 p' p := by
  cases h
  · exact .of_eq rfl rfl rfl rfl rfl rfl rfl rfl rfl
  · exact .of_eq rfl rfl rfl rfl rfl rfl rfl rfl rfl
  · exact .of_eq (finPc_scan _ _) (finPc_reScan _ _) (finPc_finOf _ _) (finPc_mtOld _ _) (finPc_mwPost _ _) (finPc_enqPend _ _)
      (finPc_nonLate _ _) (finPc_susp _ _) (finPc_firstW _ _)

theorem CallPc.reg7 {s : State} {t : Tid} {p : PC} {nw : Bool} {ca : Option Cond} (h : CallPc s t p nw ca) : Reg7 p .idle := by
  cases h <;> exact .of_none rfl rfl rfl rfl rfl rfl

/-- A return point seen by the invariant: in no region, not suspended; the client holds the mutex in write mode
    afterwards iff the snapshot is taken now (then the point owns the writer bit and the section was not open) or the
    call was a nsync_mu_wait that never gave up its write section. -/
theorem RetPc.view7 {p : PC} {m : Option Mode} {w : Option Wid} {b : Bool} (h : RetPc none p m w b) (hok : p.ok) :
    Reg7 .idle p ∧ p.susp = false ∧ (m = some .W ↔ (b = true ∨ p.firstW = true)) ∧
      (b = true → p.firstW = false ∧ pcShare p = some .W) := by
  cases h with
  | lk l => cases l <;> exact ⟨.of_none rfl rfl rfl rfl rfl rfl, rfl, by simp [PC.firstW], by simp [PC.firstW, pcShare]⟩
  | try_ l r => cases l <;> cases r <;> exact ⟨.of_none rfl rfl rfl rfl rfl rfl, rfl, by simp [PC.firstW], by simp [PC.firstW, pcShare]⟩
  | ul l nw => exact ⟨.of_none rfl rfl rfl rfl rfl rfl, rfl, by simp [PC.firstW], by simp⟩
  | mw c cit =>
    have hl : c.l = c.hm := hok.1.1
    refine ⟨.of_none rfl rfl rfl rfl rfl rfl, rfl, ?_, ?_⟩ <;>
      cases hf : c.first <;> cases hm : c.hm <;> simp [PC.firstW, pcShare, hl, hf, hm]

theorem spin_of_nonLate {p : PC} (hok : p.ok) (hok3 : p.ok3) (h : p.nonLate = true) : p.spin = true := by
  cases p <;> simp [PC.nonLate] at h <;> simp_all [PC.spin, PC.ok, PC.ok3, Scan.ok]
  all_goals
    (rename_i sc _
     cases htc : sc.tc with
     | false => rfl
     | true => simp_all)

/-- Nobody but `t` holds the spinlock, and `t` goes to a point `p'` in no region: only what MU_ALL_FALSE means
    afterwards (`ha1`) is left to show. -/
theorem Inv7.spin_step {s s' : State} {t : Tid} {p' : PC} (h1 : Inv1 s) (h3 : Inv3 s) (h : Inv7 s)
    (hsp : ∀ u, u ≠ t → (s.pc u).spin = false)
    (ha1 : s'.word.af = true → ∀ k, Queued s' k → (s'.wr k).cond ≠ none ∧
      (s'.nwViol = false → (∀ u, (s'.pc u).susp = false) → ∀ d, RefData s' d → CondFalse s' d k))
    (hcnd : ∀ x, Queued s x → (s'.wr x).cond = (s.wr x).cond)
    (hd : s'.data = s.data)
    (hpc : s'.pc = setFn s.pc t p')
    (hsc : p'.scan? = none) (hre : p'.reScan = none) (hfin : p'.finOf = none) (hmt : p'.mtOld = none)
    (hfst : ∀ c, p'.mwPost = some c → c.first = false) (henq : p'.enqPend = false) (hnlt : p'.nonLate = false) : Inv7 s' := by
  have hpt : s'.pc t = p' := setFn_at hpc
  have hoth : ∀ u, u ≠ t → s'.pc u = s.pc u := setFn_others hpc
  refine ⟨?_, ?_, ?_, ha1, ?_, ?_, ?_, ?_⟩
  · intro u hu
    by_cases e : u = t
    · subst e; rw [hpt, hnlt] at hu; cases hu
    · rw [hoth u e] at hu
      have := spin_of_nonLate (h1.pcok u) (h3.ok3 u) hu; rw [hsp u e] at this; cases this
  · intro u c hc
    by_cases hu : u = t
    · subst hu; exact hfst c (hpt ▸ hc)
    · rw [hoth u hu] at hc; exact h.fst u c hc
  · intro u hu
    by_cases e : u = t
    · subst e; rw [hpt, henq] at hu; cases hu
    · rw [hoth u e] at hu
      have := spin_of_enqPend hu; rw [hsp u e] at this; cases this
  · intro u old ho
    by_cases e : u = t
    · subst e; rw [hpt, hmt] at ho; cases ho
    · rw [hoth u e] at ho
      have := spin_of_mtOld ho; rw [hsp u e] at this; cases this
  · intro u sc hu hsaf k hk
    by_cases e : u = t
    · subst e; rw [hpt, hsc] at hu; cases hu
    · rw [hoth u e] at hu
      obtain ⟨a, b⟩ := h.sc u sc hu hsaf k hk
      have hkq : Queued s k := Or.inr ⟨u, sc, hu, by
        simp only [Scan.lists, List.mem_append] at hk ⊢
        rcases hk with e | e
        · exact Or.inl (Or.inl e)
        · exact Or.inl (Or.inr e)⟩
      exact ⟨a, by rw [hd]; exact b.congr (hcnd k hkq)⟩
  · intro u sc hu
    by_cases e : u = t
    · subst e; rw [hpt, hre] at hu; cases hu
    · rw [hoth u e] at hu; exact h.re u sc hu
  · intro u f hu
    by_cases e : u = t
    · subst e; rw [hpt, hfin] at hu; cases hu
    · rw [hoth u e] at hu
      have := fin_spin hu; rw [hsp u e] at this; cases this

theorem held_none_of_pc {s : State} (h1 : Inv1 s) {t : Tid} {p : PC} (hp : s.pc t = p) (hn : p ≠ .idle) : s.held t = none :=
  h1.held_none (by rw [hp]; exact hn)

theorem owner_of_pcShare {s : State} (h1 : Inv1 s) {t : Tid} {p : PC} (hp : s.pc t = p) (hsh : pcShare p = some .W) :
    s.wOwner = some t := by
  refine (h1.lock.wown t).2 ?_
  have hn : s.pc t ≠ .idle := by intro e; rw [hp] at e; rw [e] at hsh; simp [pcShare] at hsh
  rw [h1.share_eq hn, hp]; exact hsh

/-- A return: the client gets the mutex in write mode and the snapshot is taken, or its openness does not change. -/
theorem Inv7.ret {s s' : State} {t : Tid} {m : Option Mode} {w : Option Wid} {b : Bool} (h1 : Inv1 s) (h : Inv7 s)
    (hp : RetPc (s.held t) (s.pc t) m w b) (e : RetEff s t m w b s') : Inv7 s' := by
  have hh : s.held t = none := h1.held_none (fun e0 => by rw [e0] at hp; cases hp)
  rw [hh] at hp
  obtain ⟨hr, hsu, hm, hb⟩ := hp.view7 (h1.pcok t)
  refine h.frame e.pc (fun _ hk => e.queue ▸ hk) (fun x _ => by rw [e.wr, dropW_cond]) e.data (by rw [e.nwViol]; exact id)
    (by rw [e.word]; exact id) (by rw [e.word]; exact id) hr nofun (.inl ⟨fun hs => (by rw [hsu] at hs; cases hs), fun d hd => ?_⟩)
  have hh' : s'.held t = m := setFn_at e.held
  cases b with
  | true =>
    exact refData_acquireW t h1 (owner_of_pcShare h1 rfl (hb rfl).2) (by rw [hh]; nofun) (hb rfl).1
      (by rw [hh']; exact hm.2 (.inl rfl)) e.secStart hd
  | false =>
    refine refData_same t e.data e.secStart
      (fun u hu => ⟨setFn_others e.held u hu, setFn_others e.pc u hu⟩) ?_ hd
    rw [hh', hh, e.pc, setFn_same, hm]
    simp [PC.firstW]

/-- nsync_mu_unlock_without_wakeup by the writer `t` with MU_ALL_FALSE set and nobody suspended: if the contract is not
    broken now (no condition of a queued waiter became true in the section that ends), every waiter's condition, false
    on the snapshot, is false on the data. -/
theorem Inv7.nwKeeps {s : State} {t : Tid} {k : Wid} (h5 : Inv5 s) (h : Inv7 s) (hh : s.held t = some .W)
    (haf : s.word.af = true) (hnv : s.nwViol = false) (hb : nwBroken s = false) (hns : ∀ u, (s.pc u).susp = false)
    (hk : Queued s k) : CondFalse s s.data k := by
  -- no unlocker is scanning: k is on mu->waiters
  have hkq : k ∈ s.queue := by
    rcases hk with hk | ⟨u, sc, hu, hmem⟩
    · exact hk
    · -- a scanner that is not suspended found MU_CONDITION clear: none of its waiters has a condition
      exfalso
      have hnl := h.nl u (nonLate_of_scan_not_susp hu (hns u))
      have hkQ : Queued s k := Or.inr ⟨u, sc, hu, hmem⟩
      have := h5.h1 k hkQ (h.a1 haf k hkQ).1
      rw [hnl] at this; cases this
  obtain ⟨c, hc, hev⟩ := (h.a1 haf k (Or.inl hkq)).2 hnv hns s.secStart (refData_of_open ⟨t, Or.inl hh⟩)
  refine ⟨c, hc, ?_⟩
  have hv := List.any_eq_false.mp hb k hkq
  rw [hc] at hv
  simpa [hev] using hv

/-- A call of an unlock function or of nsync_mu_wait.  A writer that unlocks is suspended until its release; a reader
    that unlocks and a caller of nsync_mu_wait stay as open as they were (the first iteration of the wait counts as
    the write section of its caller); for unlock_without_wakeup see `Inv7.nwKeeps`. -/
theorem Inv7.call {s s' : State} {t : Tid} {p' : PC} {nw : Bool} {ca : Option Cond} (h1 : Inv1 s) (h5 : Inv5 s) (h : Inv7 s)
    (h0 : s.pc t = .idle) (hp : CallPc s t p' nw ca) (e : CallEff s t p' nw ca s') : Inv7 s' := by
  have hpt : s'.pc t = p' := setFn_at e.pc
  have hh' : s'.held t = none := setFn_at e.held
  have hoth : ∀ u, u ≠ t → s'.held u = s.held u ∧ s'.pc u = s.pc u :=
    fun u hu => ⟨setFn_others e.held u hu, setFn_others e.pc u hu⟩
  -- the caller is as open as before
  have same : ∀ m, s.held t = some m → p'.firstW = (m == .W) → ∀ d, RefData s' d → RefData s d := by
    intro m hm hf d hd
    refine refData_same t e.data e.secStart hoth ?_ hd
    rw [hh', hpt, hf, hm, h0]
    cases m <;> simp [PC.firstW]
  refine h.frame e.pc (fun _ hk => e.queue ▸ hk) (fun x _ => by rw [e.wr]) e.data
    (fun hv => by rw [e.nwViol] at hv; exact (Bool.or_eq_false_iff.1 hv).1)
    (by rw [e.word]; exact id) (by rw [e.word]; exact id) (h0 ▸ hp.reg7) (fun he => by cases hp <;> cases he) ?_
  cases hp with
  | wait m cnd dl note hm _ => exact .inl ⟨by rw [h0]; nofun, same m hm rfl⟩
  | ul l nw hl hnw =>
    cases l with
    | R =>
      cases nw with
      | true => cases hnw rfl
      | false => exact .inl ⟨by rw [h0]; nofun, same .R hl rfl⟩
    | W =>
      cases nw with
      | false => exact .inr (.inr (.inl rfl))
      | true =>
        refine .inr (.inr (.inr fun k d hk haf hnv' hns' hd => ?_))
        rw [e.nwViol] at hnv'
        have hcl' : ¬ SecOpen s' :=
          not_secOpen_release h1 ((h1.lock.wown t).2 (by simp [shareOf, tshare, hl])) hh' (by rw [hpt]; rfl) hoth
        rw [refData_closed hcl' hd, e.data]
        refine h.nwKeeps h5 hl haf (Bool.or_eq_false_iff.1 hnv').1 (by simpa using (Bool.or_eq_false_iff.1 hnv').2) (fun u => ?_) hk
        by_cases hu : u = t
        · subst hu; rw [h0]; rfl
        · rw [← (hoth u hu).2]; exact hns' u

theorem Inv7.sem {cfg : Cfg} {s s' : State} {t : Tid} {p' : PC} {k : Wid} {n : Nat} (h : Inv7 s)
    (hp : SemPc cfg s (s.pc t) p' k n) (e : SemEff s t p' k n s') : Inv7 s' :=
  h.quiet e.pc (fun _ hk => e.queue ▸ hk) (fun x _ => by rw [e.wr]; exact setFn_proj WRec.cond (by rfl) x) e.data e.secStart e.nwViol
    e.held (by rw [e.word]; exact id) (by rw [e.word]; exact id) hp.keep7

theorem Inv7.eval {s : State} {t : Tid} {c : MW} (h : Inv7 s) (heq : s.pc t = .mwEval c) (b : Bool) :
    Inv7 (setPc s t (loopPc c b)) :=
  h.quiet rfl (fun _ hk => hk) (fun _ _ => rfl) rfl rfl rfl rfl id id (heq ▸ loopPc_keep7 c b)

theorem Inv7.ldRc {s : State} {t : Tid} {c : MW} {k : Wid} (h : Inv7 s) (heq : s.pc t = .mwRcLd c) (obs : Nat) :
    Inv7 { setPc s t (.mwEnqLd { c with rcl := obs }) with wr := setFn s.wr k { s.wr k with rc := obs } } :=
  h.quiet rfl (fun _ hk => hk) (fun x _ => setFn_proj WRec.cond (by rfl) x) rfl rfl rfl rfl id id
    (heq ▸ .of_eq rfl rfl rfl rfl rfl rfl rfl rfl rfl)

theorem Inv7.mtRm {s : State} {t : Tid} {c : MW} {old : Word} {rc : Nat} {k : Wid} (h : Inv7 s)
    (heq : s.pc t = .mtRmCas c old rc) (n : Nat) :
    Inv7 { setPc s t (.mtStW c old) with wr := setFn s.wr k { s.wr k with rc := n } } :=
  h.quiet rfl (fun _ hk => hk) (fun x _ => setFn_proj WRec.cond (by rfl) x) rfl rfl rfl rfl id id
    (heq ▸ .of_eq rfl rfl rfl rfl rfl rfl rfl rfl rfl)

/-- The waiter takes its record off the queue (mu_wait.c:112). -/
theorem Inv7.ldDeq {s : State} {t : Tid} {c : MW} {old : Word} (h : Inv7 s) (heq : s.pc t = .mtLdRc c old) (k : Wid) :
    Inv7 (setPc (dequeue s k) t (.mtRmLd c old)) :=
  h.quiet (p' := .mtRmLd c old) (by rw [setPc_pc, dequeue_pc]) (fun _ hy => List.mem_of_mem_erase hy)
    (fun x _ => (lnkOnly_removeLinks _ _ _ _ x).2.2.2.2.1) (dequeue_data s k) (dequeue_secStart s k) (dequeue_nwViol s k)
    (dequeue_held s k) (by rw [setPc_word, dequeue_word]; exact id) (by rw [setPc_word, dequeue_word]; exact id)
    (heq ▸ Keep7.of_eq (p' := .mtRmLd c old) (p := .mtLdRc c old) rfl rfl rfl rfl rfl rfl rfl rfl rfl)

/-- The final CAS of unlock_slow: the scan is over; MU_ALL_FALSE is set iff the scan, holding the writer bit, found
    every condition false. -/
theorem Inv7.finCas {s s' : State} {t : Tid} {r : Ret} {f : Fin} {old : Word} (h1 : Inv1 s) (h3 : Inv3 s) (h4 : Inv4 s) (h : Inv7 s)
    (heq : s.pc t = .usFinCas r f old) (e : CasOk s t (finPc r f.wake) (finWord f old) none s') : Inv7 s' := by
  have hpt : s'.pc t = finPc r f.wake := setFn_at e.pc
  have hoth : ∀ u, u ≠ t → s'.pc u = s.pc u := setFn_others e.pc
  obtain ⟨hcaf, hfin⟩ := h.fin t f (by rw [heq]; rfl)
  refine Inv7.spin_step h1 h3 h (h3.others_no_spin (t := t) (by rw [heq]; rfl)) ?_ (fun _ _ => by rw [e.wr_none]) e.data e.pc
    (finPc_scan _ _) (finPc_reScan _ _) (finPc_finOf _ _) (finPc_mtOld _ _)
    (fun c hc => h.fst t c (by rw [finPc_mwPost] at hc; rw [heq]; exact hc)) (finPc_enqPend _ _) (finPc_nonLate _ _)
  intro haf k hk
  have hkq : k ∈ s.queue := by
    rcases hk with hk | ⟨u, sc, hu, _⟩
    · exact e.queue ▸ hk
    · by_cases e' : u = t
      · subst e'; rw [hpt, finPc_scan] at hu; cases hu
      · rw [hoth u e'] at hu
        have := unl_of_scan hu; rw [alone_of_unl h4 (t := t) (by rw [heq]; rfl) u e'] at this; cases this
  rw [e.word] at haf
  have hsaf : f.saf = true := by
    cases hs1 : f.saf <;> cases hs2 : f.cEmpty <;> simp [finWord, hcaf, hs1, hs2] at haf ⊢
  obtain ⟨hlate, hcf⟩ := hfin hsaf k hkq
  have hcf' : CondFalse s' s.data k := hcf.congr (by rw [e.wr_none])
  refine ⟨hcf'.has, fun _ _ d hd => ?_⟩
  -- the unlocker held the writer bit: no write section is open
  have hcl : ¬ SecOpen s := not_secOpen_of_owner h1 (owner_of_pcShare h1 heq (by simp [pcShare, hlate]))
    (by rw [h1.held_none (t := t) (by rw [heq]; nofun)]; nofun) (by rw [heq]; rfl)
  rw [refData_closed (not_secOpen_step t hcl e.held hoth (by rw [hpt]; exact finPc_firstW _ _)) hd, e.data]
  exact hcf'

/-- The enqueue CAS of nsync_mu_wait: the record in limbo is queued; the CAS clears MU_ALL_FALSE. -/
theorem Inv7.mwEnq {s : State} {t : Tid} {c : MW} {old : Word} {k : Wid} (h1 : Inv1 s) (h3 : Inv3 s) (h : Inv7 s)
    (heq : s.pc t = .mwEnqCas c old) (hw : s.word = old) :
    Inv7 (setPc (if c.first then enqLast { s with word := mwEnqWord c.cond.isSome old, sp := some t } k
                 else enqFirst { s with word := mwEnqWord c.cond.isSome old, sp := some t } k) t
           (.mwRelLd { c with hadW := old.waiting, first := false })) := by
  have hok3 := h3.ok3 t; rw [heq] at hok3
  exact Inv7.spin_step (t := t) (p' := .mwRelLd { c with hadW := old.waiting, first := false }) h1 h3 h
    (fun u _ => h3.no_spin_of_free (by rw [hw]; exact hok3) u)
    (fun e => by split at e <;> simp [enqLast, enqFirst, mwEnqWord] at e)
    (by intro x _; split <;> simp [enqLast, enqFirst, cond_of_merge]) (by split <;> simp [enqLast, enqFirst])
    (by split <;> simp [enqLast, enqFirst]) rfl rfl rfl rfl (fun c' hc' => by cases hc'; rfl) rfl rfl

theorem mtRelWord_af (add : Option Mode) (old : Word) : (mtRelWord add old).af = old.af := by
  cases add with
  | none => rfl
  | some m => cases m <;> rfl

/-- The release store of mu_try_acquire_after_timeout_or_cancel (mu_wait.c:120/125): the word stored is built from
    `old_word`, read when the mutex was free, and nobody else has held the spinlock since. -/
theorem Inv7.mtRel {s s' : State} {t : Tid} {c c' : MW} {old : Word} {b : Bool} (h1 : Inv1 s) (h3 : Inv3 s) (h : Inv7 s)
    (heq : s.pc t = .mtStRel c old b) (hpc : s'.pc = setFn s.pc t (.mwLd255 c')) (hfst : c'.first = c.first)
    (add : Option Mode) (hw : s'.word = mtRelWord add old) (hq : s'.queue = s.queue) (hwr : s'.wr = s.wr)
    (hd : s'.data = s.data) (hnv : s'.nwViol = s.nwViol) (hh : s'.held = s.held) : Inv7 s' := by
  have hsp := h3.others_no_spin (t := t) (by rw [heq]; rfl)
  have hpt : s'.pc t = .mwLd255 c' := setFn_at hpc
  have hoth : ∀ u, u ≠ t → s'.pc u = s.pc u := setFn_others hpc
  -- nobody has a write section open before or after
  have hcl : ¬ SecOpen s := not_secOpen_of_owner h1 (owner_of_pcShare h1 heq rfl)
    (by rw [h1.held_none (t := t) (by rw [heq]; nofun)]; nofun) (by rw [heq]; rfl)
  have hcl' : ¬ SecOpen s' := not_secOpen_step t hcl hh hoth (by rw [hpt]; rfl)
  refine Inv7.local t h (fun k hk => (queued_same (t := t) hq hoth (by rw [hpt, heq]; rfl) k).1 hk) (fun _ hk => hq ▸ hk)
    (fun _ _ => by rw [hwr]) hd (by rw [hnv]; exact id)
    (.inl ⟨fun e => (by rw [heq] at e; cases e), fun d hd' => by rw [refData_closed hcl' hd', hd]; exact refData_of_closed hcl⟩)
    (fun haf => .inr ⟨old, by rw [heq]; rfl, by rw [hw, mtRelWord_af] at haf; exact haf, hcl', fun u hu => ?_⟩) hoth
    (fun _ e => by rw [hpt] at e; cases e) (fun _ e => by rw [hpt] at e; cases e) (fun _ e => by rw [hpt] at e; cases e)
    (fun _ e => by rw [hpt] at e; cases e)
    (fun c'' e => by rw [hpt] at e; cases e; rw [hfst]; exact h.fst t c (by rw [heq]; rfl))
    (fun e => by rw [hpt] at e; cases e) (fun e => by rw [hpt] at e; cases e) (fun _ => .inr ⟨fun u hu => ?_, by rw [hpt]; rfl⟩)
  · cases e : (s.pc u).enqPend with
    | false => rfl
    | true => have := spin_of_enqPend e; rw [hsp u hu] at this; cases this
  · cases e : (s.pc u).nonLate with
    | false => rfl
    | true => have := spin_of_nonLate (h1.pcok u) (h3.ok3 u) e; rw [hsp u hu] at this; cases this

/-- The stores: queue insertion by lock_slow (MU_ALL_FALSE was cleared by the enqueue CAS), the wake-up store, the reset
    of the record in nsync_mu_wait, the two stores of mu_try_acquire_after_timeout_or_cancel. -/
theorem Inv7.st {s s' : State} {t : Tid} (h1 : Inv1 s) (h3 : Inv3 s) (h4 : Inv4 s) (h : Inv7 s) (e : StEff s t s') : Inv7 s' := by
  cases e
  case lsNewLast c k heq hq hcw hown hwait _ | lsNewFirst c k heq hq hcw hown hwait _
     | lsOwnLast c k heq hq hcw hwait _ | lsOwnFirst c k heq hq hcw hwait _ =>
    have hafs : s.word.af = false := h.enq t (by rw [heq]; rfl)
    have hnq : ∀ x, Queued s x → x ≠ k := fun x hx e => h4.not_queued hwait (e ▸ hx)
    exact Inv7.spin_step (t := t) (p' := .lsRelLd _) h1 h3 h (h3.others_no_spin (t := t) (by rw [heq]; rfl))
      (fun e => by simp only [setPc_word, enqLast_word, enqFirst_word, hafs] at e; cases e)
      (by intro x hx; simp [enqLast, enqFirst, cond_of_merge, setFn, hnq x hx]) (by simp [enqLast, enqFirst])
      (by rw [setPc_pc]; first | rw [enqLast_pc] | rw [enqFirst_pc]) rfl rfl rfl rfl
      (fun c' hc' => h.fst t c' (by rw [heq]; exact hc')) rfl rfl
  case wake r k rest heq | mtGone c old k heq hcw =>
    exact h.quiet rfl (fun _ hk => hk) (fun x _ => setFn_proj WRec.cond (by rfl) x) rfl rfl rfl rfl id id
      (heq ▸ .of_eq rfl rfl rfl rfl rfl rfl rfl rfl rfl)
  case mwNew c k heq hq hcw hown hwait | mwOwn c k heq hq hcw hwait =>
    -- the record, on no list, gets the condition of the call
    have hnq : ∀ x, Queued s x → x ≠ k := fun x hx e => h4.not_queued hwait (e ▸ hx)
    exact h.quiet rfl (fun _ hk => hk) (fun x hx => congrArg WRec.cond (setFn_other _ _ _ _ (hnq x hx))) rfl rfl rfl rfl id id
      (heq ▸ .of_eq rfl rfl rfl rfl rfl rfl rfl rfl rfl)
  case mtKeep c old heq =>
    exact h.mtRel (c' := { c with hl := true, outc := c.so }) h1 h3 heq (by simp) rfl (some c.l) (by simp) (by simp) (by simp) (by simp)
      (by simp) (by simp)
  case mtGive c old heq => exact h.mtRel h1 h3 heq rfl rfl none rfl rfl rfl rfl rfl rfl

theorem scanPc_susp {r : Ret} {late : Bool} {p : PC} (h : ScanPc r late p) : p.susp = late := by
  cases p <;> simp [ScanPc] at h <;> simp [PC.susp, h]

theorem scanPc_firstW {r : Ret} {late : Bool} {p : PC} (h : ScanPc r late p) : p.firstW = false := by
  cases p <;> simp [ScanPc] at h <;> rfl

theorem scanPc_mwPost {r : Ret} {late : Bool} {p : PC} (h : ScanPc r late p) : p.mwPost = r.mw? := by
  cases p <;> simp [ScanPc] at h <;> simp [PC.mwPost, h]

theorem scanPc_nonLate {r : Ret} {late : Bool} {p : PC} (h : ScanPc r late p) : p.nonLate = !late := by
  cases p <;> simp [ScanPc] at h <;> simp [PC.nonLate, h]

theorem unl_of_nonLate {p : PC} (h : p.nonLate = true) : p.unl = true := by
  cases p <;> simp [PC.nonLate] at h <;> rfl

theorem unl_of_reScan {p : PC} {sc : Scan} (h : p.reScan = some sc) : p.unl = true := by
  cases p <;> simp [PC.reScan] at h <;> rfl

theorem scanSrc_view7 {p : PC} {r : Ret} (h : p.scanSrc = some r) :
    p.firstW = false ∧ p.mwPost = r.mw? ∧ ((∃ old, p = .usCasGrab r old) ∨ ∃ sc, p.scan? = some sc ∧ p.susp = sc.late ∧ p.nonLate = !sc.late) := by
  cases p <;> cases h <;> first | exact ⟨rfl, rfl, .inl ⟨_, rfl⟩⟩ | exact ⟨rfl, rfl, .inr ⟨_, rfl, rfl, rfl⟩⟩

/-- The grab CAS of unlock_slow: the scan runs late iff MU_CONDITION is set in the word grabbed. -/
theorem ScanStart.grab7 {s s' : State} {t : Tid} {r : Ret} {old : Word} (hsc : ScanStart s t r s') (heq : s.pc t = .usCasGrab r old) :
    (s'.pc t).susp = s.word.cond ∧ s'.word = grabWord r.mode s.word.cond s.word := by
  cases hsc with
  | grab old' heq' hw hs =>
    subst hw
    have ho := afterPickup_out hs (fun h => h)
    obtain ⟨p, hpc, hp⟩ := ho.pc
    refine ⟨?_, ?_⟩
    · rw [hpc, setFn_same]; exact scanPc_susp hp
    · rw [ho.frame.word]; cases r.mode <;> rfl
  | rel _ _ heq' | re _ _ heq' | rc _ _ _ heq' | eval _ _ _ _ heq' => rw [heq] at heq'; cases heq'

theorem condFalse_of_sameSem {s : State} {d : Nat → Int} {k x : Wid} (h : SameSem (s.wr k).cond (s.wr x).cond) (hk : CondFalse s d k) :
    CondFalse s d x := by
  obtain ⟨a, b, ha, hb, e⟩ := h
  obtain ⟨c, hc, hev⟩ := hk
  rw [ha] at hc; cases hc
  exact ⟨b, hb, by rw [← evalCond_sem e d]; exact hev⟩

/-- What the plain code of the scan leaves of `set_on_release & MU_ALL_FALSE`, from the invariant at its start.  A
    condition evaluated to false is false for the whole same_condition ring skipped with it. -/
theorem ScanStart.saf {s s' : State} {t : Tid} {r : Ret} (h1 : Inv1 s) (h6 : Inv6 s) (h : Inv7 s) (hsc : ScanStart s t r s') :
    ScanAt7 (fun k => CondFalse s s.data k) s' t := by
  cases hsc with
  | grab old heq hw hs => exact (scanInv_saf _ t r).afterPickup hs ⟨fun _ k hk => by simp at hk, fun _ => rfl⟩
  | rel sc old heq hw hs => exact (scanInv_saf _ t r).run _ _ _ hs (h.sc t sc (by rw [heq]; rfl))
  | re sc old heq hw hs => exact (scanInv_saf _ t r).afterPickup hs ⟨h.sc t sc (by rw [heq]; rfl), h.re t sc (by rw [heq]; rfl)⟩
  | rc sc k old heq hs => exact (scanInv_saf _ t r).run _ _ _ hs (h.sc t sc (by rw [heq]; rfl))
  | eval sc k' rest cd heq htodo hcd hs =>
    have hok1 := h1.pcok t; rw [heq] at hok1
    have hchain : Chain s.wr (sc.passed ++ k' :: rest) := by
      rw [← htodo]; exact (h6.cs t sc (by rw [heq]; rfl)).2
    refine afterEval_saf hs (h.sc t sc (by rw [heq]; rfl)) (hok1.2.1 hok1.2.2.1) ?_
    intro hfalse k2 rest2 htodo2 x hx
    rw [htodo] at htodo2
    simp only [List.cons.injEq] at htodo2
    obtain ⟨rfl, rfl⟩ := htodo2
    have hkf : CondFalse s s.data k' := ⟨cd, hcd, hfalse⟩
    obtain ⟨sk, h1', _, h3'⟩ := skipPast_sound hchain
    rw [h1'] at hx
    simp only [List.mem_append, List.mem_cons] at hx
    rcases hx with hx | rfl | hx
    · exact Or.inl hx
    · exact Or.inr hkf
    · exact Or.inr (condFalse_of_sameSem (h3' x hx) hkf)

/-- A step that runs the scan.  A scanner stays as suspended as it was, and if it has given up the writer bit it found
    MU_CONDITION clear; a writer that grabs the lists stays suspended if MU_CONDITION is set, and otherwise nothing queued
    has a condition.  No other thread is in a region of the scan. -/
theorem Inv7.scan {s s' : State} {t : Tid} {r : Ret} {late : Bool} (h1 : Inv1 s) (h4' : Inv4 s') (h5 : Inv5 s) (h6 : Inv6 s)
    (h : Inv7 s) (hsc : ScanStart s t r s') (e : ScanEff s t r late s') : Inv7 s' := by
  obtain ⟨hfw, hmw, hsrc⟩ := scanSrc_view7 e.src
  have hat := hsc.saf h1 h6 h
  have hcnd : ∀ x, (s'.wr x).cond = (s.wr x).cond := fun x => (e.wr x).2.2.2.2
  have hQ : ∀ k, Queued s' k → Queued s k := fun k hk => queued_of_scan h4' e.oth e.perm e.alone e.wake hk
  have hcf : ∀ d k, CondFalse s d k → CondFalse s' d k := fun d k hk => hk.congr (hcnd k)
  have haf : s'.word.af = true → s.word.af = true := by rw [e.hints.2.2]; exact id
  have hsusp : ((s.pc t).susp = true → (s'.pc t).susp = true) ∨ (s.word.af = true → ∀ k, ¬ Queued s k) := by
    rcases hsrc with ⟨old, heq⟩ | ⟨sc, hs, hsu, -⟩
    · rw [(hsc.grab7 heq).1]
      cases hc : s.word.cond with
      | true => exact .inl fun _ => rfl
      | false =>
        refine .inr fun haf k hk => ?_
        have := h5.h1 k hk (h.a1 haf k hk).1
        rw [hc] at this; cases this
    · rw [scanPc_susp e.dst, hsu, e.late_src sc hs]; exact .inl id
  have hopen : SecOpen s' ↔ SecOpen s := secOpen_congr e.held (eq_of_others e.oth ((scanPc_firstW e.dst).trans hfw.symm))
  refine ⟨?_, ?_, ?_, ?_, ?_, ?_, ?_, ?_⟩
  · intro u hu
    by_cases hut : u = t
    · subst hut
      rcases hsrc with ⟨old, heq⟩ | ⟨sc, hs, -, hnl⟩
      · rw [scanPc_nonLate e.dst, ← scanPc_susp e.dst, (hsc.grab7 heq).1] at hu
        rw [(hsc.grab7 heq).2, grabWord_cond]
        simpa using hu
      · rw [scanPc_nonLate e.dst, ← e.late_src sc hs, ← hnl] at hu
        rcases e.word with ⟨b, hw⟩ | ⟨heq, -, -⟩
        · rw [hw]; exact h.nl u hu
        · rw [heq] at hs; cases hs
    · rw [e.oth u hut] at hu
      have := unl_of_nonLate hu; rw [e.alone u hut] at this; cases this
  · intro u c hc
    by_cases hu : u = t
    · subst hu; rw [scanPc_mwPost e.dst, ← hmw] at hc; exact h.fst u c hc
    · rw [e.oth u hu] at hc; exact h.fst u c hc
  · intro u hu
    by_cases hut : u = t
    · subst hut; rw [scanPc_enqPend e.dst] at hu; cases hu
    · rw [e.oth u hut] at hu
      cases haf' : s'.word.af with
      | false => rfl
      | true => have := h.enq u hu; rw [haf haf'] at this; cases this
  · intro haf' k hk
    obtain ⟨a, b⟩ := h.a1 (haf haf') k (hQ k hk)
    refine ⟨by rw [hcnd]; exact a, ?_⟩
    intro hnv' hns d hd'
    rcases hsusp with hsusp | hsusp
    · refine hcf d k (b (by rw [← e.nwViol]; exact hnv') ?_ d (refData_congr hopen e.data e.secStart hd'))
      intro u
      by_cases hut : u = t
      · subst hut
        cases hsu : (s.pc u).susp with
        | false => rfl
        | true => have := hsusp hsu; rw [hns u] at this; cases this
      · rw [← e.oth u hut]; exact hns u
    · exact absurd (hQ k hk) (hsusp (haf haf') k)
  · intro u old ho hoaf k hk
    have ho' : (s.pc u).mtOld = some old := by
      by_cases hut : u = t
      · subst hut; rw [scanPc_mtOld e.dst] at ho; cases ho
      · rw [← e.oth u hut]; exact ho
    obtain ⟨a, b⟩ := h.a2 u old ho' hoaf k (hQ k hk)
    exact ⟨by rw [hcnd]; exact a, fun hnv' => by rw [e.data]; exact hcf _ k (b (by rw [← e.nwViol]; exact hnv'))⟩
  · intro u sc hu hsaf k hk
    by_cases hut : u = t
    · subst hut
      obtain ⟨a, b⟩ := hat.1 sc hu hsaf k hk
      exact ⟨a, by rw [e.data]; exact hcf _ k b⟩
    · rw [e.oth u hut] at hu
      have := unl_of_scan hu; rw [e.alone u hut] at this; cases this
  · intro u sc hu
    by_cases hut : u = t
    · subst hut; exact hat.2.1 sc hu
    · rw [e.oth u hut] at hu
      have := unl_of_reScan hu; rw [e.alone u hut] at this; cases this
  · intro u f hu
    by_cases hut : u = t
    · subst hut
      obtain ⟨a, b⟩ := hat.2.2 f hu
      refine ⟨a, fun hsaf k hk => ?_⟩
      obtain ⟨c, d⟩ := b hsaf k hk
      exact ⟨c, by rw [e.data]; exact hcf _ k d⟩
    · rw [e.oth u hut] at hu
      have := unl_of_fin hu; rw [e.alone u hut] at this; cases this

theorem inv7_dataW {s : State} {t : Tid} {x : Nat} {v : Int} (h1 : Inv1 s) (h : Inv7 s) (ht : s.held t = some .W) :
    Inv7 { s with data := setFn s.data x v } := by
  have hopen : SecOpen s := ⟨t, Or.inl ht⟩
  have hopen' : SecOpen ({ s with data := setFn s.data x v } : State) := ⟨t, Or.inl ht⟩
  refine ⟨h.nl, h.fst, h.enq, ?_, ?_, ?_, h.re, ?_⟩
  · intro haf k hk
    obtain ⟨a, b⟩ := h.a1 haf k hk
    refine ⟨a, fun hnv hns d hd => ?_⟩
    rw [refData_open hopen' hd]
    exact b hnv hns s.secStart (refData_of_open hopen)
  · intro u old ho
    exact (no_other_W h1 ht (share_of_mtOld ho)).elim
  · intro u sc hu hsaf k hk
    obtain ⟨a, _⟩ := h.sc u sc hu hsaf k hk
    exact (no_other_W h1 ht (share_of_scan_late hu a)).elim
  · intro u f hu
    obtain ⟨a, b⟩ := h.fin u f hu
    refine ⟨a, fun hsaf k hk => ?_⟩
    obtain ⟨c, _⟩ := b hsaf k hk
    exact (no_other_W h1 ht (share_of_fin_late hu c)).elim

theorem Inv7.envEff {cfg : Cfg} {s s' : State} (h : Inv7 s) (e : EnvEff cfg s s') : Inv7 s' := by
  cases e with
  | post k =>
    exact h.env (by simp) (fun x => by simp only [semPost]; exact setFn_proj WRec.cond (by rfl) x) (by simp) (by simp) (by simp) (by simp)
      (by simp) (by simp)
  | sem k n _ => exact h.env rfl (setFn_proj WRec.cond (by rfl)) rfl rfl rfl rfl rfl rfl
  | tick n _ => exact h.env rfl (fun _ => rfl) rfl rfl rfl rfl rfl rfl

theorem inv7_step {cfg : Cfg} {s s' : State} {e : Event} (h1 : Inv1 s) (h1' : Inv1 s') (h3 : Inv3 s) (h4 : Inv4 s) (h4' : Inv4 s')
    (h5 : Inv5 s) (h6 : Inv6 s) (h : Inv7 s) (hs : step cfg s e = .ok s') : Inv7 s' := by
  cases ht : e.tid with
  | none => exact h.envEff (step_env hs ht)
  | some t =>
    cases step_eff hs ht with
    | move hm => exact h.move hm
    | callQ h0 hh hm => exact h.move (h0 ▸ hm)
    | cas hc =>
      cases hc with
      | fail hm => exact h.move hm
      | plain hp ok => exact h.cas h1 h1' hp ok
      | scan hsc => obtain ⟨late, e⟩ := hsc.eff h1 h3 h4; exact h.scan h1 h4' h5 h6 hsc e
      | fin heq hw e => exact h.finCas h1 h3 h4 heq e
      | mwEnq c old k heq hk hw => exact h.mwEnq h1 h3 heq hw
      | mtRm c old rc k heq hk => exact h.mtRm heq _
    | st e => exact h.st h1 h3 h4 e
    | ldRc c k obs heq hk => exact h.ldRc heq obs
    | ldDeq c old k heq hk hmem hrc => exact h.ldDeq heq k
    | ret hp e => exact h.ret h1 hp e
    | call h0 hp e => exact h.call h1 h5 h0 hp e
    | scan hsc => obtain ⟨late, e⟩ := hsc.eff h1 h3 h4; exact h.scan h1 h4' h5 h6 hsc e
    | eval c cd heq hcd => exact h.eval heq _
    | sem hp e => exact h.sem hp e
    | dataW x v hh => exact inv7_dataW h1 h hh
    | dataR => exact h

theorem inv7_init : Inv7 init := by
  refine ⟨?_, ?_, ?_, ?_, ?_, ?_, ?_, ?_⟩
  · intro t ht; simp [init, PC.nonLate] at ht
  · intro t c hc; simp [init, PC.mwPost] at hc
  · intro t ht; simp [init, PC.enqPend] at ht
  · intro h; simp [init, Word.zero] at h
  · intro t old ho; simp [init, PC.mtOld] at ho
  · intro t sc hs; simp [init, PC.scan?] at hs
  · intro t sc hs; simp [init, PC.reScan] at hs
  · intro t f hf; simp [init, PC.finOf] at hf

end NsyncVerif.MuC
