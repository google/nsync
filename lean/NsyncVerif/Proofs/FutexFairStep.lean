/-
  Futex layer (C12), fair termination: single-step facts (who changes what).
-/
import NsyncVerif.Proofs.FutexFairDefs

namespace NsyncVerif.Futex

variable {s s' : State} {e : Event}

theorem step_pc_other {t : Tid} (hs : step s e = .ok s') (hne : e.tid ≠ some t) :
    s'.pc t = s.pc t := by
  cases Step.of_step hs
  case tick => rfl
  all_goals exact setPc_other _ _ fun h => hne (congrArg some h.symm)

theorem step_owner {s s' : State} {e : Event} {o : Tid} (hs : step s e = .ok s')
    (ho : s.owner = some o) : s'.owner = some o := by
  cases Step.of_step hs
  case callP _ h | callPD _ h =>
    rcases h with h | h <;> rw [h] at ho
    · cases ho
    · exact ho
  all_goals exact ho

theorem step_now_mono (hs : step s e = .ok s') : s.now ≤ s'.now := by
  cases Step.of_step hs
  case tick h => exact h
  all_goals exact Nat.le_refl _

/-- The counters only grow, and the word changes only together with one of them. -/
theorem step_counters (hs : step s e = .ok s') :
    s.posts ≤ s'.posts ∧ s.takes ≤ s'.takes ∧
    (s'.word ≠ s.word → s.posts + s.takes < s'.posts + s'.takes) := by
  cases Step.of_step hs
  case take | post => exact ⟨by simp, by simp, fun _ => by simp⟩
  all_goals exact ⟨Nat.le_refl _, Nat.le_refl _, fun h => absurd rfl h⟩

theorem PC.isPoster_iff {p : PC} : p.isPoster = true ↔ p.call = some .post := by
  cases p <;> simp [PC.isPoster, PC.call]

theorem step_waiter_stays {t : Tid} (hs : step s e = .ok s') (hw : (s.pc t).isWaiter = true) :
    s'.pc t = .idle ∨ (s'.pc t).isWaiter = true :=
  let ⟨k, hk⟩ := PC.isWaiter_iff.1 hw
  ((Step.of_step hs).call hk).imp_right fun h => PC.isWaiter_iff.2 ⟨k, h⟩

theorem step_poster_stays {t : Tid} (hs : step s e = .ok s') (hw : (s.pc t).isPoster = true) :
    s'.pc t = .idle ∨ (s'.pc t).isPoster = true :=
  ((Step.of_step hs).call (PC.isPoster_iff.1 hw)).imp_right PC.isPoster_iff.2

/-- Only the waiter decrements the word. -/
theorem step_word_other {o : Tid} (hi : Inv s) (hs : step s e = .ok s')
    (hw : (s.pc o).isWaiter = true) (hne : e.tid ≠ some o) : s.word ≤ s'.word := by
  cases Step.of_step hs
  case take hpc => exact absurd (congrArg some (hi.waiter_unique (by rw [hpc]; rfl) hw)) hne
  case post => exact Nat.le_succ _
  all_goals exact Nat.le_refl _

/-- Nobody enters `vWake` without making the word positive. -/
theorem step_enter_vWake {t : Tid} (hs : step s e = .ok s') (h0 : s.pc t ≠ .vWake)
    (h1 : s'.pc t = .vWake) : 0 < s'.word := by
  by_cases he : e.tid = some t
  · cases Step.of_step hs
    case tick => cases he
    case post => exact Nat.succ_pos _
    case wLd | now => cases he; rw [show State.pc _ t = _ from setPc_same ..] at h1; split at h1 <;> cases h1
    all_goals cases he; rw [show State.pc _ t = _ from setPc_same ..] at h1; cases h1
  · rw [step_pc_other hs he] at h1; exact absurd h1 h0

/-- The only step of a thread at `vWake` is the futex wake, which marks the sleeper woken. -/
theorem step_vWake_own {p : Tid} (hs : step s e = .ok s') (he : e.tid = some p)
    (hp : s.pc p = .vWake) : s'.sleeper = markWoken s.sleeper ∧ s'.pc p = .vRet := by
  cases Step.of_step hs
  case tick => cases he
  case fwake => cases he; exact ⟨rfl, setPc_same ..⟩
  all_goals cases he; rw [‹s.pc p = _›] at hp; cases hp

/-- While the waiter does not move the kernel's record of it changes only by being marked woken. -/
theorem step_sleeper_other {o : Tid} (hi : Inv s) (hs : step s e = .ok s')
    (hw : (s.pc o).isWaiter = true) (hne : e.tid ≠ some o) :
    s'.sleeper = s.sleeper ∨ (s'.sleeper = markWoken s.sleeper ∧ ∃ p, s.pc p = .vWake) := by
  cases Step.of_step hs
  case fwait hpc | timedOut hpc _ | fwaitRet hpc _ _ =>
    exact absurd (congrArg some (hi.waiter_unique (by rw [hpc]; rfl) hw)) hne
  case fwake hpc => exact Or.inr ⟨rfl, _, hpc⟩
  all_goals exact Or.inl rfl

end NsyncVerif.Futex
