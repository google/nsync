/-
  Layer `Cv`: the transition relation of the acceptor, one constructor per kind of step
  with the guards as hypotheses and the successor state explicit.  `Proofs/CvTrStep*.lean` prove
  `step cfg s e = .ok s' → Tr cfg s e s'`; every invariant is then proved by `cases` on `Tr`.
-/
import NsyncVerif.Model.Cv

namespace NsyncVerif.Cv

/-- `sem_outcome` settled on return from nsync_sem_wait_with_cancel_ (identity elsewhere). -/
inductive Settle : Thr → Thr → Prop
  | id {x : Thr} (h1 : x.loc ≠ .cPre) (h2 : x.loc ≠ .cPost) : Settle x x
  | pre {x : Thr} (h : x.loc = .cPre) (hn : x.sawNote = true) :
      Settle x { x with semOut := .cancelled, loc := .wChk }
  | postOk {x : Thr} (h : x.loc = .cPost) (ht : x.cTimed = false) :
      Settle x { x with semOut := .ok, loc := .wTail }
  | postCancel {x : Thr} (h : x.loc = .cPost) (ht : x.cTimed = true) (hc : x.cNotified = true)
      (hn : x.sawNote = true) : Settle x { x with semOut := .cancelled, loc := .wChk }
  | postTimed {x : Thr} (h : x.loc = .cPost) (ht : x.cTimed = true) (hc : x.cNotified = false)
      (hd : x.semDl = x.dl) : Settle x { x with semOut := .timedOut, loc := .wChk }

theorem settle_inv {x y : Thr} (h : settleCancel x = .ok y) : Settle x y := by
  unfold settleCancel at h
  split at h
  · rename_i hl
    split at h
    · cases h; exact .pre hl ‹_›
    · cases h
  · rename_i hl
    split at h
    · rename_i hc; cases h; exact .postOk hl (by simpa using hc)
    · rename_i hc
      have ht : x.cTimed = true := by simpa using hc
      split at h
      · split at h
        · cases h; exact .postCancel hl ht ‹_› ‹_›
        · cases h
      · rename_i hcn
        split at h
        · cases h; exact .postTimed hl ht (by simpa using hcn) ‹_›
        · cases h
  · rename_i h1 h2
    cases h
    exact .id (fun e => h1 e) (fun e => h2 e)

/-- Transitions that change nothing but the frame of the acting thread `t`; the last index is its
    new frame. -/
inductive LTr (s : State) (t : Tid) : Event → Thr → Prop
  | callWait (gen : Bool) (dl : Option Nat) (note : Bool) (h : (s.thr t).loc = .idle) :
      LTr s t (.callWait t gen dl note) { (s.thr t).fresh .wNew with gen := gen, dl := dl, note := note }
  | retWait (res : Outcome) (h : (s.thr t).loc = .wRet ∨ (s.thr t).loc = .wRelocking)
      (hr : res = (s.thr t).out) : LTr s t (.retWait t res) ((s.thr t).fresh .idle)
  | callSignal (h : (s.thr t).loc = .idle) :
      LTr s t (.callSignal t) { (s.thr t).fresh .sLd with bcast := false }
  | callBroadcast (h : (s.thr t).loc = .idle) :
      LTr s t (.callBroadcast t) { (s.thr t).fresh .sLd with bcast := true }
  | retSignal (h : (s.thr t).loc = .kRet) (hb : (s.thr t).bcast = false) :
      LTr s t (.retSignal t) ((s.thr t).fresh .idle)
  | retBroadcast (h : (s.thr t).loc = .kRet) (hb : (s.thr t).bcast = true) :
      LTr s t (.retBroadcast t) ((s.thr t).fresh .idle)
  | callWaitN (h : (s.thr t).loc = .idle) : LTr s t (.callWaitN t) ((s.thr t).fresh .nOut)
  | retWaitN (h : (s.thr t).loc = .nOut) (hm : (s.thr t).mine = []) :
      LTr s t (.retWaitN t) { ((s.thr t).fresh .idle) with epoch := (s.thr t).epoch + 1 }
  | relMark (op : MuOp) (h : (s.thr t).loc = .wUnlock)
      (ho : op = match (s.recs (s.thr t).r).lt with | .gen => MuOp.gen | .R => .rd | .W => .wr) :
      LTr s t (.relMark t op) { s.thr t with loc := .wUnlocking }
  | lockMark (op : MuOp) (h : (s.thr t).loc = .wExit) (hx : (s.thr t).xferd = false)
      (ho : op = match (s.recs (s.thr t).r).lt with | .gen => MuOp.gen | .R => .rd | .W => .wr) :
      LTr s t (.lockMark t op) { s.thr t with loc := .wLocking }
  | relockSlow (h : (s.thr t).loc = .wExit) (hx : (s.thr t).xferd = true) :
      LTr s t (.relockSlow t) { s.thr t with loc := .wRelocking }
  | nretUnlock (h : (s.thr t).loc = .wUnlocking) : LTr s t (.nret t) { s.thr t with loc := .wHead }
  | nretLock (h : (s.thr t).loc = .wLocking) : LTr s t (.nret t) { s.thr t with loc := .wRet }
  | spinLd (site : WSite) (obs : Nat)
      (h : (site = .spin0 ∧ (s.thr t).loc = .spLd0) ∨ (site = .spin2 ∧ (s.thr t).loc = .spLd2))
      (ho : obs = s.word.enc) :
      LTr s t (.wordLd t site obs)
        (if obs % 2 = 1 then { s.thr t with loc := .spLd2 } else { s.thr t with loc := .spCas, casExp := obs })
  | spinLdN (obs : Nat) (h : (s.thr t).loc = .nOut) (ho : obs = s.word.enc) :
      LTr s t (.wordLd t .spin0 obs)
        (if obs % 2 = 1 then { s.thr t with loc := .spLd2, cont := .waitn, setNE := false }
         else { s.thr t with loc := .spCas, casExp := obs, cont := .waitn, setNE := false })
  | sigLd (site : WSite) (obs : Nat) (h : (s.thr t).loc = .sLd)
      (hs : (site = .sigLd ∧ (s.thr t).bcast = false) ∨ (site = .bcLd ∧ (s.thr t).bcast = true))
      (ho : obs = s.word.enc) :
      LTr s t (.wordLd t site obs)
        (if obs / 2 % 2 = 1 then { s.thr t with loc := .spLd0, cont := .sig, setNE := false, seq0 := s.seq }
         else { s.thr t with loc := .kRet, seq0 := s.seq })
  | casFail (exp new obs : Nat) (h : (s.thr t).loc = .spCas) (ho : obs = s.word.enc) (hne : obs ≠ exp) :
      LTr s t (.wordCas t exp new obs false) { s.thr t with loc := .spLd2 }
  | wRc (r : Rid) (obs : Nat) (h : (s.thr t).loc = .wEnq) (hr : r = (s.thr t).r) (ho : obs = (s.recs r).rc) :
      LTr s t (.recLd t .wRc r obs) { s.thr t with saved := obs, loc := .wRel }
  | wHeadStay (r : Rid) (obs : Nat) (h : (s.thr t).loc = .wHead) (hr : r = (s.thr t).r)
      (ho : obs = b2n (s.recs r).waiting) (hz : obs ≠ 0) :
      LTr s t (.recLd t .wHead r obs)
        (if (s.thr t).semOut = .ok then
           { s.thr t with loc := if (s.thr t).note then .cPre else .wSemEnter, cTimed := false, cNotified := false }
         else { s.thr t with loc := .wChk })
  | wChk (y : Thr) (r : Rid) (obs : Nat) (hy : Settle (s.thr t) y) (h : y.loc = .wChk) (hr : r = y.r)
      (ho : obs = b2n (s.recs r).waiting) (hso : y.semOut ≠ .ok) :
      LTr s t (.recLd t .wChk r obs)
        (if obs = 0 then { y with loc := .wTail } else { y with loc := .spLd0, cont := .waitChk, setNE := false })
  | wChk2 (r : Rid) (obs : Nat) (h : (s.thr t).loc = .wChk2) (hr : r = (s.thr t).r)
      (ho : obs = b2n (s.recs r).waiting) :
      LTr s t (.recLd t .wChk2 r obs) { s.thr t with loc := if obs = 0 then .wRel2 else .wCmp }
  | wCmpNe (r : Rid) (obs : Nat) (h : (s.thr t).loc = .wCmp) (hr : r = (s.thr t).r)
      (ho : obs = (s.recs r).rc) (hne : obs ≠ (s.thr t).saved) :
      LTr s t (.recLd t .wCmp r obs) { s.thr t with loc := .wRel2 }
  | wRmLd (r : Rid) (obs : Nat) (h : (s.thr t).loc = .wRmLd) (hr : r = (s.thr t).r)
      (ho : obs = (s.recs r).rc) :
      LTr s t (.recLd t .wRmLd r obs) { s.thr t with casExp := obs, loc := .wRmCas }
  | wTail (y : Thr) (r : Rid) (obs : Nat) (hy : Settle (s.thr t) y) (h : y.loc = .wTail) (hr : r = y.r)
      (ho : obs = b2n (s.recs r).waiting) :
      LTr s t (.recLd t .wTail r obs) { y with loc := .wHead }
  | rcLd (site : RSite) (r : Rid) (obs : Nat) (h : (s.thr t).loc = .sRcLd)
      (hs : (site = .sRcLd (s.thr t).firstRc ∧ (s.thr t).bcast = false) ∨ (site = .bRcLd ∧ (s.thr t).bcast = true))
      (hr : (s.thr t).todo.head? = some r) (ho : obs = (s.recs r).rc) :
      LTr s t (.recLd t site r obs) { s.thr t with casExp := obs, loc := .sRcCas }
  | ready (r : Rid) (obs : Nat) (h : (s.thr t).loc = .nOut) (hr : r ∈ (s.thr t).mine)
      (ho : obs = b2n (s.recs r).waiting) :
      LTr s t (.recLd t .ready r obs) (s.thr t)
  | deqLd0 (r : Rid) (h : (s.thr t).loc = .nLocked) (hr : r ∈ (s.thr t).mine)
      (ho : (s.recs r).waiting = false) :
      LTr s t (.recLd t .deqLd r 0)
        { s.thr t with r := r, old := if s.queue.isEmpty then { (s.thr t).old with ne := false } else (s.thr t).old, loc := .nDeqRel }
  | wRmCasFail (r : Rid) (exp new obs : Nat) (h : (s.thr t).loc = .wRmCas) (hr : r = (s.thr t).r) :
      LTr s t (.recCas t .wRmCas r exp new obs false) { s.thr t with loc := .wRmLd }
  | sRcCasFail (site : RSite) (r : Rid) (exp new obs : Nat) (h : (s.thr t).loc = .sRcCas)
      (hr : (s.thr t).todo.head? = some r)
      (hs : (site = .sRcCas (s.thr t).firstRc ∧ (s.thr t).bcast = false) ∨ (site = .bRcCas ∧ (s.thr t).bcast = true)) :
      LTr s t (.recCas t site r exp new obs false) { s.thr t with loc := .sRcLd }
  | wwLd (obs : Nat) (f : Rid) (rest : List Rid) (h : (s.thr t).loc = .wwMuLd) (hl : (s.thr t).list = f :: rest) :
      LTr s t (.muLd t .wwLd obs)
        { s.thr t with muObs := obs, loc := if wantTransfer (s.recs f).lt obs (s.thr t).list.length (s.thr t).allReaders then .wwMuCas else .wwStore }
  | wwRelLd (site : MSite) (obs : Nat)
      (h : (site = .wwRelLd ∧ (s.thr t).loc = .wwRelLd) ∨ (site = .wwRelLd2 ∧ (s.thr t).loc = .wwRelLd2)) :
      LTr s t (.muLd t site obs) { s.thr t with muObs := obs, loc := .wwRelCas }
  | wwCasFail (exp new obs : Nat) (h : (s.thr t).loc = .wwMuCas) :
      LTr s t (.muCas t .wwCas exp new obs false) { s.thr t with loc := .wwStore }
  | wwRelCasOk (exp new obs : Nat) (h : (s.thr t).loc = .wwRelCas) :
      LTr s t (.muCas t .wwRelCas exp new obs true)
        { s.thr t with loc := if (s.thr t).list.isEmpty then .kRet else .wwStore }
  | wwRelCasFail (exp new obs : Nat) (h : (s.thr t).loc = .wwRelCas) :
      LTr s t (.muCas t .wwRelCas exp new obs false) { s.thr t with loc := .wwRelLd2 }
  | semPdEnterW (k : SemId) (dl : Option Nat) (h : (s.thr t).loc = .wSemEnter) (hk : (s.thr t).r = .w k)
      (hd : dl = (s.thr t).dl) :
      LTr s t (.semPdEnter t k dl) { s.thr t with semDl := dl, loc := .wSemRet }
  | semPdEnterC (k : SemId) (dl : Option Nat) (h : (s.thr t).loc = .cPre) (hk : (s.thr t).r = .w k)
      (hd : dlLe dl (s.thr t).dl = true) :
      LTr s t (.semPdEnter t k dl) { s.thr t with semDl := dl, loc := .cWait }
  | semPdRetTimedW (k : SemId) (d : Nat) (h : (s.thr t).loc = .wSemRet) (hd : (s.thr t).semDl = some d)
      (hn : d ≤ s.now) :
      LTr s t (.semPdRet t k true) { s.thr t with semOut := .timedOut, loc := .wChk }
  | semPdRetTimedC (k : SemId) (d : Nat) (h : (s.thr t).loc = .cWait) (hd : (s.thr t).semDl = some d)
      (hn : d ≤ s.now) :
      LTr s t (.semPdRet t k true) { s.thr t with cTimed := true, loc := .cPost }
  | noteSeen (h : (s.thr t).loc = .cPre ∨ (s.thr t).loc = .cWait ∨ (s.thr t).loc = .cPost) :
      LTr s t (.noteSeen t) { s.thr t with sawNote := true }
  | noteNotify (h : (s.thr t).loc = .cPost) (ht : (s.thr t).cTimed = true) :
      LTr s t (.noteNotify t) { s.thr t with cNotified := true }

inductive Tr (cfg : Config) : State → Event → State → Prop
  /-- events that leave the state unchanged (and touch no record) -/
  | same {s : State} (e : Event) (h : touches s e = []) : Tr cfg s e s
  | tick {s : State} (ns : Nat) (h : s.now ≤ ns) : Tr cfg s (.tick ns) { s with now := ns }
  | loc {s : State} {t : Tid} {e : Event} {x' : Thr} (h : LTr s t e x') : Tr cfg s e (s.setThr t x')
  -- acquisition of the spinlock
  | acq {s : State} (t : Tid) (exp new obs : Nat) (o n : Word) (h : (s.thr t).loc = .spCas)
      (hexp : exp = (s.thr t).casExp) (hw : obs = s.word.enc) (he : obs = exp) (ho : Word.dec? exp = some o) (hn : Word.dec? new = some n)
      (hnew : new = exp + 1 + (if (s.thr t).setNE ∧ exp / 2 % 2 = 0 then 2 else 0)) :
      Tr cfg s (.wordCas t exp new obs true)
        (afterAcquire { s with word := n, holder := some t } t { s.thr t with old := o })
  -- releases of the spinlock
  | relWait {s : State} (t : Tid) (new obs : Nat) (n : Word) (h : (s.thr t).loc = .wRel)
      (hh : s.holder = some t) (hnew : new = (s.thr t).old.enc) (hn : Word.dec? new = some n) (hsp : n.spin = false) :
      Tr cfg s (.wordSt t .waitRel new obs)
        ({ s with word := n, holder := none, seq := s.seq + 1 }.setRec (s.thr t).r
            { s.recs (s.thr t).r with pub := true, enqSeq := s.seq }
          |>.setThr t { s.thr t with loc := .wUnlock })
  | relWait2 {s : State} (t : Tid) (new obs : Nat) (n : Word) (h : (s.thr t).loc = .wRel2)
      (hh : s.holder = some t) (hnew : new = (s.thr t).old.enc) (hn : Word.dec? new = some n) (hsp : n.spin = false) :
      Tr cfg s (.wordSt t .waitRel2 new obs)
        ({ s with word := n, holder := none }.setThr t { s.thr t with loc := .wTail })
  | relSig {s : State} (t : Tid) (site : WSite) (new obs : Nat) (n : Word) (h : (s.thr t).loc = .sRel)
      (hs : (site = .sigRel ∧ (s.thr t).bcast = false) ∨ (site = .bcRel ∧ (s.thr t).bcast = true))
      (hh : s.holder = some t) (hnew : new = if (s.thr t).bcast then 0 else (s.thr t).old.enc)
      (hn : Word.dec? new = some n) (hsp : n.spin = false) :
      Tr cfg s (.wordSt t site new obs)
        ({ s with word := n, holder := none }.setThr t { s.thr t with loc := wakeEntry s (s.thr t).list })
  | relEnq {s : State} (t : Tid) (new obs : Nat) (n : Word) (h : (s.thr t).loc = .nEnqRel)
      (hh : s.holder = some t) (hnew : new = (s.thr t).old.enc) (hn : Word.dec? new = some n) (hsp : n.spin = false) :
      Tr cfg s (.wordSt t .enqRel new obs)
        ({ s with word := n, holder := none, seq := s.seq + 1 }.setRec (s.thr t).r
            { s.recs (s.thr t).r with pub := true, enqSeq := s.seq }
          |>.setThr t { s.thr t with loc := .nOut })
  | relDeq {s : State} (t : Tid) (new obs : Nat) (n : Word) (h : (s.thr t).loc = .nDeqRel)
      (hh : s.holder = some t) (hnew : new = (s.thr t).old.enc) (hn : Word.dec? new = some n) (hsp : n.spin = false) :
      Tr cfg s (.wordSt t .deqRel new obs)
        ({ s with word := n, holder := none }.setRec (s.thr t).r
            { s.recs (s.thr t).r with stat := match (s.recs (s.thr t).r).stat with | .listed u => RStat.listed u | _ => RStat.idle }
          |>.setThr t { s.thr t with loc := .nOut, mine := (s.thr t).mine.erase (s.thr t).r })
  -- loads with an effect on shared state
  | wHeadExit {s : State} (t : Tid) (r : Rid) (y : Thr) (hy : y = s.thr t) (h : y.loc = .wHead) (hr : r = y.r)
      (hw : (s.recs r).waiting = false) :
      Tr cfg s (.recLd t .wHead r 0)
        ({ s with bad := s.bad || (s.recs r).stat.registered }.setRec r
            { s.recs r with stat := .idle }
          |>.setThr t { y with loc := .wExit, xferd := decide ((s.recs r).stat = RStat.xfer), exitUnl := (s.recs r).unl })
  | wCmpEq {s : State} (t : Tid) (r : Rid) (obs : Nat) (h : (s.thr t).loc = .wCmp) (hr : r = (s.thr t).r)
      (ho : obs = (s.recs r).rc) (he : obs = (s.thr t).saved) :
      Tr cfg s (.recLd t .wCmp r obs)
        ({ s with queue := s.queue.erase r, bad := s.bad || decide ((s.recs r).stat ≠ RStat.queued) }.setRec r
            { s.recs r with stat := .selfOut, unl := (s.recs r).unl ++ [Unl.self] }
          |>.setThr t { s.thr t with loc := .wRmLd, old := if (s.queue.erase r).isEmpty then { (s.thr t).old with ne := false } else (s.thr t).old })
  | deqLdQueued {s : State} (t : Tid) (r : Rid) (obs : Nat) (h : (s.thr t).loc = .nLocked) (hr : r ∈ (s.thr t).mine)
      (hw : (s.recs r).waiting = true) (hst : (s.recs r).stat = .queued) :
      Tr cfg s (.recLd t .deqLd r obs)
        ({ s with queue := s.queue.erase r }.setRec r
            { s.recs r with stat := .selfOut, unl := (s.recs r).unl ++ [Unl.self] }
          |>.setThr t { s.thr t with r := r, loc := .nDeqSt, old := if (s.queue.erase r).isEmpty then { (s.thr t).old with ne := false } else (s.thr t).old })
  | deqLdF3 {s : State} (t : Tid) (r : Rid) (obs : Nat) (u : Tid) (h : (s.thr t).loc = .nLocked)
      (hr : r ∈ (s.thr t).mine) (hw : (s.recs r).waiting = true) (hst : (s.recs r).stat = .listed u)
      (hl : (s.thr u).list = [r]) :
      Tr cfg s (.recLd t .deqLd r obs)
        ({ s with f3 := true }.setRec r { s.recs r with unl := (s.recs r).unl ++ [Unl.self] }
          |>.setThr t { s.thr t with r := r, loc := .nDeqSt, old := if s.queue.isEmpty then { (s.thr t).old with ne := false } else (s.thr t).old })
  | deqLdBad {s : State} (t : Tid) (r : Rid) (obs : Nat) (h : (s.thr t).loc = .nLocked)
      (hr : r ∈ (s.thr t).mine) (hw : (s.recs r).waiting = true)
      (hst : (s.recs r).stat ≠ .queued) (hst2 : ∀ u, (s.recs r).stat ≠ .listed u) :
      Tr cfg s (.recLd t .deqLd r obs)
        ({ s with bad := true }.setRec r { s.recs r with unl := (s.recs r).unl ++ [Unl.self] }
          |>.setThr t { s.thr t with r := r, loc := .nDeqSt, old := if s.queue.isEmpty then { (s.thr t).old with ne := false } else (s.thr t).old })
  -- stores to record fields
  | wSt1 {s : State} (t : Tid) (r : Rid) (obs : Nat) (h : (s.thr t).loc = .wNew) (hm : r.isMucv = true)
      (hst : (s.recs r).stat = .idle) :
      Tr cfg s (.recSt t .wSt1 r 1 obs)
        (s.setRec r { s.recs r with waiting := true, owner := t, stat := .prep, pub := false, unl := [], posted := false, lt := .gen }
          |>.setThr t (if (s.thr t).gen then { s.thr t with r := r, loc := .spLd0, cont := .waitEnq, setNE := true }
                       else { s.thr t with r := r, loc := .wMode }))
  | wClr {s : State} (t : Tid) (r : Rid) (obs : Nat) (h : (s.thr t).loc = .wClr) (hr : r = (s.thr t).r) :
      Tr cfg s (.recSt t .wClr r 0 obs)
        (s.setRec r { s.recs r with waiting := false }
          |>.setThr t { s.thr t with out := (s.thr t).semOut, loc := .wRel2 })
  | wake {s : State} (t : Tid) (r : Rid) (obs : Nat) (h : (s.thr t).loc = .wwStore)
      (hr : (s.thr t).list.head? = some r) :
      Tr cfg s (.recSt t .wake r 0 obs)
        (s.setRec r { s.recs r with waiting := false, stat := match (s.recs r).stat with | .listed _ => .woken | st => st }
          |>.setThr t { s.thr t with list := (s.thr t).list.tail, cur := some (r, (s.recs r).enqSeq), loc := .wwV })
  | enqSt {s : State} (t : Tid) (r : Rid) (obs : Nat) (h : (s.thr t).loc = .nLocked) (hm : r.isMucv = false)
      (hst : (s.recs r).stat = .idle) (ho : (s.recs r).owner = t) (he : (s.recs r).epoch = (s.thr t).epoch) :
      Tr cfg s (.recSt t .enqSt r 1 obs)
        ({ s with queue := s.queue ++ [r] }.setRec r
            { s.recs r with waiting := true, stat := .queued, pub := false, unl := [], posted := false }
          |>.setThr t { s.thr t with r := r, mine := r :: (s.thr t).mine, old := { (s.thr t).old with ne := true }, loc := .nEnqRel })
  | deqSt {s : State} (t : Tid) (r : Rid) (obs : Nat) (h : (s.thr t).loc = .nDeqSt) (hr : r = (s.thr t).r) :
      Tr cfg s (.recSt t .deqSt r 0 obs)
        (s.setRec r { s.recs r with waiting := false } |>.setThr t { s.thr t with loc := .nDeqRel })
  -- remove_count++
  | wRmCasOk {s : State} (t : Tid) (r : Rid) (exp new obs : Nat) (h : (s.thr t).loc = .wRmCas)
      (hr : r = (s.thr t).r) (hn : new = exp + 1) (ho : obs = (s.recs r).rc) (he : obs = exp) :
      Tr cfg s (.recCas t .wRmCas r exp new obs true)
        (s.setRec r { s.recs r with rc := new } |>.setThr t { s.thr t with loc := .wClr })
  | sRcCasOk {s : State} (t : Tid) (site : RSite) (r : Rid) (exp new obs : Nat) (h : (s.thr t).loc = .sRcCas)
      (hr : (s.thr t).todo.head? = some r) (hn : new = exp + 1) (ho : obs = (s.recs r).rc) (he : obs = exp)
      (hs : (site = .sRcCas (s.thr t).firstRc ∧ (s.thr t).bcast = false) ∨ (site = .bRcCas ∧ (s.thr t).bcast = true)) :
      Tr cfg s (.recCas t site r exp new obs true)
        (s.setRec r { s.recs r with rc := new }
          |>.setThr t { s.thr t with todo := (s.thr t).todo.tail, firstRc := false, loc := if (s.thr t).todo.tail.isEmpty then .sRel else .sRcLd })
  -- mutex word
  | muMode {s : State} (t : Tid) (obs : Nat) (lt : LType) (h : (s.thr t).loc = .wMode) (hl : lt ≠ .gen) :
      Tr cfg s (.muLd t .wMode obs)
        (s.setRec (s.thr t).r { s.recs (s.thr t).r with lt := lt }
          |>.setThr t { s.thr t with loc := .spLd0, cont := .waitEnq, setNE := true })
  | wwCasOk {s : State} (t : Tid) (exp new obs : Nat) (f : Rid) (rest : List Rid) (h : (s.thr t).loc = .wwMuCas)
      (hl : (s.thr t).list = f :: rest) :
      Tr cfg s (.muCas t .wwCas exp new obs true)
        { s with recs := fun r => if (transferSet s.recs (firstCantAcquire (s.recs f).lt exp) (s.thr t).list).contains r then { s.recs r with stat := .xfer } else s.recs r, thr := updT s.thr t { s.thr t with list := (s.thr t).list.filter (fun r => !((transferSet s.recs (firstCantAcquire (s.recs f).lt exp) (s.thr t).list).contains r)), setOnRel := setOnRelease s.recs (firstCantAcquire (s.recs f).lt exp) (s.thr t).list, loc := .wwRelLd } }
  -- semaphores
  | semVWake {s : State} (t : Tid) (k : SemId) (r : Rid) (q : Nat) (h : (s.thr t).loc = .wwV)
      (hc : (s.thr t).cur = some (r, q)) :
      Tr cfg s (.semV t k)
        ({ s with sem := updS s.sem k (vCount cfg (s.sem k)) }.setRec r
            { s.recs r with sem := some k, posted := (s.recs r).posted || (decide ((s.recs r).enqSeq = q) && decide ((s.recs r).stat = RStat.woken)) }
          |>.setThr t { s.thr t with cur := none, loc := if (s.thr t).list.isEmpty then .kRet else .wwStore })
  | semOther {s : State} (e : Event) (sem' : SemId → Nat) (h : touches s e = []) :
      Tr cfg s e { s with sem := sem' }
  | semPdRetOkW {s : State} (t : Tid) (k : SemId) (h : (s.thr t).loc = .wSemRet) :
      Tr cfg s (.semPdRet t k false)
        ({ s with sem := updS s.sem k (s.sem k - 1) }.setThr t { s.thr t with loc := .wTail })
  | semPdRetOkC {s : State} (t : Tid) (k : SemId) (h : (s.thr t).loc = .cWait) :
      Tr cfg s (.semPdRet t k false)
        ({ s with sem := updS s.sem k (s.sem k - 1) }.setThr t { s.thr t with cTimed := false, loc := .cPost })
  -- foreign accesses and initialisation
  | wInit {s : State} (t : Tid) (r : Rid) (h : (s.thr t).loc.isOpen = true) (hm : r.isMucv = true)
      (hst : (s.recs r).stat = .idle) :
      Tr cfg s (.wInit t r) (s.setRec r { s.recs r with rc := 0, waiting := false })
  | nwInit {s : State} (t : Tid) (r : Rid) (h : (s.thr t).loc = .nOut) (hm : r.isMucv = false)
      (hst : (s.recs r).stat = .idle) :
      Tr cfg s (.nwInit t r)
        (s.setRec r { s.recs r with waiting := false, owner := t, epoch := (s.thr t).epoch, sem := none })
  | fStW {s : State} (t : Tid) (r : Rid) (new : Nat) (h : (s.thr t).loc.isOpen = true)
      (hf : foreignOk (s.recs r) = true) :
      Tr cfg s (.fSt t r .waiting new) (s.setRec r { s.recs r with waiting := decide (new = 1) })
  | fCasOk {s : State} (t : Tid) (r : Rid) (exp new obs : Nat) (h : (s.thr t).loc.isOpen = true)
      (hf : foreignOk (s.recs r) = true) (hn : new = exp + 1) (ho : obs = (s.recs r).rc) (he : obs = exp) :
      Tr cfg s (.fCas t r .rc exp new obs true) (s.setRec r { s.recs r with rc := new })

end NsyncVerif.Cv
