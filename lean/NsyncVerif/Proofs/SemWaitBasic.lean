/-
  Proofs/SemWaitBasic.lean — projection lemmas for the state-update functions of Model/SemWait.lean,
  classes of program points, and `run` / `Reachable` plumbing.
-/
import NsyncVerif.Model.SemWait
import NsyncVerif.Proofs.Run

namespace SemWait

section proj
variable (s : State)

@[simp] theorem setNote_note (k : NoteId) (v : Note) (i : NoteId) : (s.setNote k v).note i = if i = k then v else s.note i := rfl
@[simp] theorem setNote_rcd (k : NoteId) (v : Note) : (s.setNote k v).rcd = s.rcd := rfl
@[simp] theorem setNote_sem (k : NoteId) (v : Note) : (s.setNote k v).sem = s.sem := rfl
@[simp] theorem setNote_semUser (k : NoteId) (v : Note) : (s.setNote k v).semUser = s.semUser := rfl
@[simp] theorem setNote_pc (k : NoteId) (v : Note) : (s.setNote k v).pc = s.pc := rfl
@[simp] theorem setNote_fr (k : NoteId) (v : Note) : (s.setNote k v).fr = s.fr := rfl
@[simp] theorem setNote_post (k : NoteId) (v : Note) : (s.setNote k v).post = s.post := rfl
@[simp] theorem setNote_now (k : NoteId) (v : Note) : (s.setNote k v).now = s.now := rfl

@[simp] theorem setRec_rcd (r : Rid) (v : Rec) (i : Rid) : (s.setRec r v).rcd i = if i = r then v else s.rcd i := rfl
@[simp] theorem setRec_note (r : Rid) (v : Rec) : (s.setRec r v).note = s.note := rfl
@[simp] theorem setRec_sem (r : Rid) (v : Rec) : (s.setRec r v).sem = s.sem := rfl
@[simp] theorem setRec_semUser (r : Rid) (v : Rec) : (s.setRec r v).semUser = s.semUser := rfl
@[simp] theorem setRec_pc (r : Rid) (v : Rec) : (s.setRec r v).pc = s.pc := rfl
@[simp] theorem setRec_fr (r : Rid) (v : Rec) : (s.setRec r v).fr = s.fr := rfl
@[simp] theorem setRec_post (r : Rid) (v : Rec) : (s.setRec r v).post = s.post := rfl
@[simp] theorem setRec_now (r : Rid) (v : Rec) : (s.setRec r v).now = s.now := rfl

@[simp] theorem setSem_sem (j n : Nat) (i : Nat) : (s.setSem j n).sem i = if i = j then n else s.sem i := rfl
@[simp] theorem setSem_note (j n : Nat) : (s.setSem j n).note = s.note := rfl
@[simp] theorem setSem_rcd (j n : Nat) : (s.setSem j n).rcd = s.rcd := rfl
@[simp] theorem setSem_semUser (j n : Nat) : (s.setSem j n).semUser = s.semUser := rfl
@[simp] theorem setSem_pc (j n : Nat) : (s.setSem j n).pc = s.pc := rfl
@[simp] theorem setSem_fr (j n : Nat) : (s.setSem j n).fr = s.fr := rfl
@[simp] theorem setSem_post (j n : Nat) : (s.setSem j n).post = s.post := rfl
@[simp] theorem setSem_now (j n : Nat) : (s.setSem j n).now = s.now := rfl

@[simp] theorem setSemUser_semUser (j : Nat) (u : Option Tid) (i : Nat) : (s.setSemUser j u).semUser i = if i = j then u else s.semUser i := rfl
@[simp] theorem setSemUser_note (j : Nat) (u : Option Tid) : (s.setSemUser j u).note = s.note := rfl
@[simp] theorem setSemUser_rcd (j : Nat) (u : Option Tid) : (s.setSemUser j u).rcd = s.rcd := rfl
@[simp] theorem setSemUser_sem (j : Nat) (u : Option Tid) : (s.setSemUser j u).sem = s.sem := rfl
@[simp] theorem setSemUser_pc (j : Nat) (u : Option Tid) : (s.setSemUser j u).pc = s.pc := rfl
@[simp] theorem setSemUser_fr (j : Nat) (u : Option Tid) : (s.setSemUser j u).fr = s.fr := rfl
@[simp] theorem setSemUser_post (j : Nat) (u : Option Tid) : (s.setSemUser j u).post = s.post := rfl
@[simp] theorem setSemUser_now (j : Nat) (u : Option Tid) : (s.setSemUser j u).now = s.now := rfl

@[simp] theorem setPc_pc (t : Tid) (p : PC) (u : Tid) : (s.setPc t p).pc u = if u = t then p else s.pc u := rfl
@[simp] theorem setPc_note (t : Tid) (p : PC) : (s.setPc t p).note = s.note := rfl
@[simp] theorem setPc_rcd (t : Tid) (p : PC) : (s.setPc t p).rcd = s.rcd := rfl
@[simp] theorem setPc_sem (t : Tid) (p : PC) : (s.setPc t p).sem = s.sem := rfl
@[simp] theorem setPc_semUser (t : Tid) (p : PC) : (s.setPc t p).semUser = s.semUser := rfl
@[simp] theorem setPc_fr (t : Tid) (p : PC) : (s.setPc t p).fr = s.fr := rfl
@[simp] theorem setPc_post (t : Tid) (p : PC) : (s.setPc t p).post = s.post := rfl
@[simp] theorem setPc_now (t : Tid) (p : PC) : (s.setPc t p).now = s.now := rfl

@[simp] theorem setFr_fr (t : Tid) (f : Frame) (u : Tid) : (s.setFr t f).fr u = if u = t then f else s.fr u := rfl
@[simp] theorem setFr_note (t : Tid) (f : Frame) : (s.setFr t f).note = s.note := rfl
@[simp] theorem setFr_rcd (t : Tid) (f : Frame) : (s.setFr t f).rcd = s.rcd := rfl
@[simp] theorem setFr_sem (t : Tid) (f : Frame) : (s.setFr t f).sem = s.sem := rfl
@[simp] theorem setFr_semUser (t : Tid) (f : Frame) : (s.setFr t f).semUser = s.semUser := rfl
@[simp] theorem setFr_pc (t : Tid) (f : Frame) : (s.setFr t f).pc = s.pc := rfl
@[simp] theorem setFr_post (t : Tid) (f : Frame) : (s.setFr t f).post = s.post := rfl
@[simp] theorem setFr_now (t : Tid) (f : Frame) : (s.setFr t f).now = s.now := rfl

@[simp] theorem setPost_post (t : Tid) (p : Option Rid) (u : Tid) : (s.setPost t p).post u = if u = t then p else s.post u := rfl
@[simp] theorem setPost_note (t : Tid) (p : Option Rid) : (s.setPost t p).note = s.note := rfl
@[simp] theorem setPost_rcd (t : Tid) (p : Option Rid) : (s.setPost t p).rcd = s.rcd := rfl
@[simp] theorem setPost_sem (t : Tid) (p : Option Rid) : (s.setPost t p).sem = s.sem := rfl
@[simp] theorem setPost_semUser (t : Tid) (p : Option Rid) : (s.setPost t p).semUser = s.semUser := rfl
@[simp] theorem setPost_pc (t : Tid) (p : Option Rid) : (s.setPost t p).pc = s.pc := rfl
@[simp] theorem setPost_fr (t : Tid) (p : Option Rid) : (s.setPost t p).fr = s.fr := rfl
@[simp] theorem setPost_now (t : Tid) (p : Option Rid) : (s.setPost t p).now = s.now := rfl
@[simp] theorem kill_rcd (o : Option Rid) (i : Rid) : (s.kill o).rcd i = if o = some i then { s.rcd i with live := false } else s.rcd i := rfl
@[simp] theorem kill_note (o : Option Rid) : (s.kill o).note = s.note := rfl
@[simp] theorem kill_sem (o : Option Rid) : (s.kill o).sem = s.sem := rfl
@[simp] theorem kill_semUser (o : Option Rid) : (s.kill o).semUser = s.semUser := rfl
@[simp] theorem kill_pc (o : Option Rid) : (s.kill o).pc = s.pc := rfl
@[simp] theorem kill_fr (o : Option Rid) : (s.kill o).fr = s.fr := rfl
@[simp] theorem kill_post (o : Option Rid) : (s.kill o).post = s.post := rfl
@[simp] theorem kill_now (o : Option Rid) : (s.kill o).now = s.now := rfl
@[simp] theorem unbind_semUser (o : Option SemId) (i : SemId) : (s.unbind o).semUser i = if o = some i then none else s.semUser i := rfl
@[simp] theorem unbind_note (o : Option SemId) : (s.unbind o).note = s.note := rfl
@[simp] theorem unbind_rcd (o : Option SemId) : (s.unbind o).rcd = s.rcd := rfl
@[simp] theorem unbind_sem (o : Option SemId) : (s.unbind o).sem = s.sem := rfl
@[simp] theorem unbind_pc (o : Option SemId) : (s.unbind o).pc = s.pc := rfl
@[simp] theorem unbind_fr (o : Option SemId) : (s.unbind o).fr = s.fr := rfl
@[simp] theorem unbind_post (o : Option SemId) : (s.unbind o).post = s.post := rfl
@[simp] theorem unbind_now (o : Option SemId) : (s.unbind o).now = s.now := rfl

end proj

@[simp] theorem ite_rec_live {c : Prop} [Decidable c] (a b : Rec) : (if c then a else b).live = if c then a.live else b.live := by split <;> rfl
@[simp] theorem ite_rec_waiting {c : Prop} [Decidable c] (a b : Rec) : (if c then a else b).waiting = if c then a.waiting else b.waiting := by split <;> rfl
@[simp] theorem ite_rec_owner {c : Prop} [Decidable c] (a b : Rec) : (if c then a else b).owner = if c then a.owner else b.owner := by split <;> rfl
@[simp] theorem ite_rec_note {c : Prop} [Decidable c] (a b : Rec) : (if c then a else b).note = if c then a.note else b.note := by split <;> rfl
@[simp] theorem ite_rec_unl {c : Prop} [Decidable c] (a b : Rec) : (if c then a else b).unl = if c then a.unl else b.unl := by split <;> rfl
@[simp] theorem ite_rec_popper {c : Prop} [Decidable c] (a b : Rec) : (if c then a else b).popper = if c then a.popper else b.popper := by split <;> rfl
@[simp] theorem ite_rec_posted {c : Prop} [Decidable c] (a b : Rec) : (if c then a else b).posted = if c then a.posted else b.posted := by split <;> rfl
@[simp] theorem ite_note_known {c : Prop} [Decidable c] (a b : Note) : (if c then a else b).known = if c then a.known else b.known := by split <;> rfl
@[simp] theorem ite_note_lock {c : Prop} [Decidable c] (a b : Note) : (if c then a else b).lock = if c then a.lock else b.lock := by split <;> rfl
@[simp] theorem ite_note_flag {c : Prop} [Decidable c] (a b : Note) : (if c then a else b).flag = if c then a.flag else b.flag := by split <;> rfl
@[simp] theorem ite_note_expiry {c : Prop} [Decidable c] (a b : Note) : (if c then a else b).expiry = if c then a.expiry else b.expiry := by split <;> rfl
@[simp] theorem ite_note_queue {c : Prop} [Decidable c] (a b : Note) : (if c then a else b).queue = if c then a.queue else b.queue := by split <;> rfl
@[simp] theorem ite_note_fresh {c : Prop} [Decidable c] (a b : Note) : (if c then a else b).fresh = if c then a.fresh else b.fresh := by split <;> rfl
@[simp] theorem ite_fr_note {c : Prop} [Decidable c] (a b : Frame) : (if c then a else b).note = if c then a.note else b.note := by split <;> rfl
@[simp] theorem ite_fr_dl {c : Prop} [Decidable c] (a b : Frame) : (if c then a else b).dl = if c then a.dl else b.dl := by split <;> rfl
@[simp] theorem ite_fr_nw {c : Prop} [Decidable c] (a b : Frame) : (if c then a else b).nw = if c then a.nw else b.nw := by split <;> rfl
@[simp] theorem ite_fr_sem {c : Prop} [Decidable c] (a b : Frame) : (if c then a else b).sem = if c then a.sem else b.sem := by split <;> rfl
@[simp] theorem ite_fr_locald {c : Prop} [Decidable c] (a b : Frame) : (if c then a else b).locald = if c then a.locald else b.locald := by split <;> rfl
@[simp] theorem ite_fr_nearer {c : Prop} [Decidable c] (a b : Frame) : (if c then a else b).nearer = if c then a.nearer else b.nearer := by split <;> rfl
@[simp] theorem ite_fr_out {c : Prop} [Decidable c] (a b : Frame) : (if c then a else b).out = if c then a.out else b.out := by split <;> rfl
@[simp] theorem ite_fr_consumed {c : Prop} [Decidable c] (a b : Frame) : (if c then a else b).consumed = if c then a.consumed else b.consumed := by split <;> rfl

@[simp] theorem b2n_eq_zero (b : Bool) : (b2n b = 0) = (b = false) := by cases b <;> simp [b2n]
@[simp] theorem b2n_true : b2n true = 1 := rfl
@[simp] theorem b2n_false : b2n false = 0 := rfl

@[simp] theorem reject_eq_ok (m : String) (s' : State) : (reject m = .ok s') = False := by
  simp [reject]

@[simp] theorem error_eq_ok (m : String) (s' : State) : ((Except.error m : R) = .ok s') = False := by
  simp

/-- split a hypothesis `h : <step function> = .ok s'` into its accepting branches -/
macro "split_ok" h:ident : tactic =>
  `(tactic| (repeat' (first | (split at $h:ident) | (dsimp only at $h:ident))) <;> (try (simp only [reject_eq_ok, error_eq_ok] at $h:ident)))

theorem vCount_pos (cfg : Config) (n : Nat) : 0 < vCount cfg n := by
  unfold vCount; split <;> omega

/-- the thread runs protocol-driven code: outside nsync_sem_wait_with_cancel_, or inside the open part of a
    notify () it calls -/
def protoMode : PC → Bool
  | .idle | .nf _ .open => true
  | _ => false

/-- `nw` is not initialised yet -/
def preNw : PC → Bool
  | .idle | .nd .first _ | .nf .first _ | .init => true
  | _ => false

/-- `nw` has been put on the note's list and the owner has not yet passed its dequeue -/
def enq : PC → Bool
  | .ulk1 true | .pdEnter | .pdWait _ | .nd .l65 _ | .nf .l65 _ | .lk2 | .ld68 => true
  | _ => false

/-- … and has not yet re-acquired note_mu for the dequeue -/
def enqNL : PC → Bool
  | .ulk1 true | .pdEnter | .pdWait _ | .nd .l65 _ | .nf .l65 _ | .lk2 => true
  | _ => false

/-- enqueued and about to sleep, or asleep, in the P -/
def asleep : PC → Bool
  | .ulk1 true | .pdEnter | .pdWait _ => true
  | _ => false

/-- `sem_outcome` is still its initial ECANCELED -/
def early : PC → Bool
  | .nd .first _ | .nf .first _ | .init | .lk1 | .ld49 | .ulk1 false => true
  | _ => false

/-- `sem_outcome` is final -/
def late : PC → Bool
  | .ulk1 false | .lk2 | .ld68 | .ulk2 | .ret => true
  | _ => false

/-- case split on a program point, including the `Use` of `nd` / `nf` and the flag of `ulk1` -/
macro "pc_cases" p:ident : tactic =>
  `(tactic| rcases $p:ident with _ | ⟨(_|_), st⟩ | ⟨(_|_), st⟩ | _ | _ | _ | (_|_) | _ | j | _ | _ | _ | _)

/-- full case split on a program point -/
macro "pc_full" p:ident : tactic =>
  `(tactic| rcases $p:ident with _ | ⟨(_|_), (_|_|_|⟨_|_⟩|_)⟩ | ⟨(_|_), (_|_|_|_)⟩ | _ | _ | _ | (_|_) | _ | j | _ | _ | _ | _)

theorem enqNL_enq {p : PC} (h : enqNL p = true) : enq p = true := by
  pc_cases p <;> simp_all [enqNL, enq]

theorem asleep_enqNL {p : PC} (h : asleep p = true) : enqNL p = true := by
  pc_cases p <;> simp_all [enqNL, asleep]

theorem enq_inCall {p : PC} (h : enq p = true) : inCall p = true := by
  pc_cases p <;> simp_all [enq, inCall]

theorem reachable_init (cfg : Config) : Reachable cfg init := ⟨[], rfl⟩

theorem isRun (cfg : Config) : NsyncVerif.IsRun (step cfg) (run cfg) :=
  ⟨fun _ => rfl, fun s e _ => by rw [run]; cases step cfg s e <;> rfl⟩

theorem reachable_step {cfg : Config} {s s' : State} {e : Event} (h : Reachable cfg s) (hs : step cfg s e = .ok s') :
    Reachable cfg s' := by
  obtain ⟨evs, hr⟩ := h
  exact ⟨evs ++ [e], (isRun cfg).snoc hr hs⟩

theorem reachable_induction {cfg : Config} {P : State → Prop} (h0 : P init)
    (hstep : ∀ s s' e, Reachable cfg s → P s → step cfg s e = .ok s' → P s') {s : State} (h : Reachable cfg s) : P s := by
  obtain ⟨evs, hr⟩ := h
  exact (isRun cfg).induct h0 (fun s e s' => hstep s s' e) hr

end SemWait
