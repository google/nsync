import NsyncVerif.Proofs.MuQSolo
/-
  MuQ: the acceptor never blocks a thread except in P on a semaphore whose count is 0.

  `thread_enabled`: in every reachable state, every thread that is inside a call and is not asleep
  has an accepted next event (a non-failing one: the CAS on `remove_count` it offers succeeds).
  Needs: a free waiter record exists (`fresh_record`: only finitely many records are in use), the
  panic checks of unlock/runlock cannot fire (I_lock), the contract checks of the enqueue store
  cannot fire (I_queue).
-/
namespace NsyncVerif.MuQ

/-! ### only finitely many waiter records are in use -/

def FreshBound (s : State) : Prop :=
  ∃ N, ∀ k, N ≤ k → (s.wr k).owner = none ∧ (s.wr k).waiting = false

theorem reachable_freshBound {cfg : Cfg} {s : State} (h : Reachable cfg s) : FreshBound s := by
  refine reachable_induction (P := FreshBound) ⟨0, fun _ _ => ⟨rfl, rfl⟩⟩ ?_ s h
  intro s e s' _ ⟨N, hN⟩ hs
  obtain ⟨k, hk, _⟩ := step_wr hs
  refine ⟨max N (k + 1), fun k' hk' => ?_⟩
  have h1 : N ≤ k' := Nat.le_trans (Nat.le_max_left _ _) hk'
  have h2 : k + 1 ≤ k' := Nat.le_trans (Nat.le_max_right _ _) hk'
  rw [hk k' fun e => Nat.not_succ_le_self k (e ▸ h2)]
  exact hN k' h1

/-- A free waiter record exists. -/
theorem fresh_record {cfg : Cfg} {s : State} (h : Reachable cfg s) :
    ∃ k, (s.wr k).owner = none ∧ (s.wr k).waiting = false ∧ k ∉ s.queue := by
  obtain ⟨N, hN⟩ := reachable_freshBound h
  obtain ⟨h1, h2⟩ := hN N (Nat.le_refl _)
  refine ⟨N, h1, h2, fun hq => ?_⟩
  have : (s.wr N).waiting = true := ((reachable_inv h).queue.inq N hq).1
  rw [h2] at this; cases this

/-! ### enabledness of the helpers -/

theorem casWord_enabled (s : State) (want : Ord) (old nw : Word) (succ fail : State) :
    casWord s want want .word (encode old) (encode nw) (encode s.word)
      (decide (encode s.word = encode old)) old nw succ fail =
      .ok (if decide (encode s.word = encode old) = true then succ else fail) := by
  simp [casWord]

theorem ldWord_enabled (s : State) (next : State) :
    ldWord s .rlx .word (encode s.word) next = .ok next := by
  simp [ldWord]

/-- The share a thread inside a releasing call still owns is in the word (the panic checks of
    nsync_mu_unlock / nsync_mu_runlock / unlock_slow cannot fire). -/
theorem share_in_word {cfg : Cfg} {s : State} (hr : Reachable cfg s) {t : Tid} {l : Mode}
    (hne : s.pc t ≠ .idle) (hs : pcShare (s.pc t) = some l) :
    (l = .W → s.word.wlock = true ∧ s.word.readers = 0) ∧
    (l = .R → s.word.wlock = false ∧ s.word.readers ≠ 0) := by
  have inv := reachable_inv hr
  have hside := reachable_side hr
  have hnone : s.held t = none := held_none_of_active hside.2 hne
  have hts : (abs s).ts t = some l := by simp [abs, tshare, hnone, hs]
  constructor
  · intro hl; subst hl
    have hown := (inv.lock.wown t).2 hts
    have hwl : s.word.wlock = true := by
      have := inv.lock.wl; rw [hown] at this; exact this
    exact ⟨hwl, inv.lock.excl hwl⟩
  · intro hl; subst hl
    have hmem : t ∈ s.rOwners := (inv.lock.rown t).2 hts
    have hrd : s.word.readers ≠ 0 := by
      have h1 : s.word.readers = s.rOwners.length := inv.lock.rd
      rw [h1]; intro h0
      have := List.eq_nil_of_length_eq_zero h0
      rw [this] at hmem; cases hmem
    refine ⟨?_, hrd⟩
    cases hx : s.word.wlock with
    | false => rfl
    | true => exact absurd (inv.lock.excl hx) hrd

/-- The record of a thread that is about to re-queue itself is not queued. -/
theorem requeue_not_queued {cfg : Cfg} {s : State} (hr : Reachable cfg s) {t : Tid} {c : SL} {k : Wid}
    (hp : s.pc t = .lsSt c) (hw : c.w = some k) : k ∉ s.queue := by
  have inv := reachable_inv hr
  intro hq
  obtain ⟨_, t', c', ph', h1, h2, h3⟩ := inv.queue.inq k hq
  have hro : (abs s).ro t = .slow c .st := by simp [abs, hp, role]
  have o1 := (inv.queue.own k t).2 ⟨c, .st, hro, hw⟩
  have o2 := (inv.queue.own k t').2 ⟨c', ph', h1, h2⟩
  rw [o1] at o2
  have : t = t' := Option.some.inj o2
  subst this
  rw [hro] at h1
  simp only [Role.slow.injEq] at h1
  obtain ⟨_, rfl⟩ := h1
  cases h3

def Event.isCall : Event → Bool
  | .call _ _ => true
  | _ => false


/-- A thread whose program point prescribes a CAS on the word has an accepted event. -/
theorem cas_offer {cfg : Cfg} {s : State} {t : Tid} (want : Ord) {old nw : Word} {succ fail : State}
    (h : ∀ exp new obs ok, stepCas s t want .word exp new obs ok =
      casWord s want want .word exp new obs ok old nw succ fail) :
    ∃ e, e.tid = some t ∧ e.rcFail = false ∧ e.isCall = false ∧ ∃ s', step cfg s e = .ok s' :=
  ⟨.cas t want .word _ _ _ _, rfl, rfl, rfl, _, (h ..).trans (casWord_enabled ..)⟩

/-- A thread whose program point prescribes a load of the word has an accepted event. -/
theorem ld_offer {cfg : Cfg} {s : State} {t : Tid} {next : State}
    (h : ∀ obs, stepLd s t .rlx .word obs = ldWord s .rlx .word obs next) :
    ∃ e, e.tid = some t ∧ e.rcFail = false ∧ e.isCall = false ∧ ∃ s', step cfg s e = .ok s' :=
  ⟨.ld t .rlx .word _, rfl, rfl, rfl, _, (h _).trans (ldWord_enabled ..)⟩

/-- Every thread inside a call that is not asleep has an accepted next event; the event offered is
    not a `call` and not a failed CAS on `remove_count`. -/
theorem thread_enabled {cfg : Cfg} {s : State} {t : Tid} (hr : Reachable cfg s)
    (hne : s.pc t ≠ .idle) (hna : ¬ AsleepOnSem s t) :
    ∃ e, e.tid = some t ∧ e.rcFail = false ∧ e.isCall = false ∧ ∃ s', step cfg s e = .ok s' := by
  have hside := reachable_side hr
  have hkt := hside.1 t
  cases hp : s.pc t with
  | idle => exact absurd hp hne
  | lkCas0 l =>
    exact cas_offer .acq fun _ _ _ _ => by rw [stepCas, hp]
  | lkLd l =>
    exact ld_offer fun _ => by rw [stepLd, hp]
  | lkCas1 l old =>
    exact cas_offer .acq fun _ _ _ _ => by rw [stepCas, hp]
  | lkRet l =>
    cases l
    · exact ⟨.ret t .lock none, rfl, rfl, rfl, by simp only [step, stepRet, hp]; exact ⟨_, rfl⟩⟩
    · exact ⟨.ret t .rlock none, rfl, rfl, rfl, by simp only [step, stepRet, hp]; exact ⟨_, rfl⟩⟩
  | tryCas0 l =>
    exact cas_offer .acq fun _ _ _ _ => by rw [stepCas, hp]
  | tryLd l =>
    exact ld_offer fun _ => by rw [stepLd, hp]
  | tryCas1 l old =>
    exact cas_offer .acq fun _ _ _ _ => by rw [stepCas, hp]
  | tryRet l r =>
    cases l
    · exact ⟨.ret t .trylock (some r), rfl, rfl, rfl, by simp [step, stepRet, hp]⟩
    · exact ⟨.ret t .rtrylock (some r), rfl, rfl, rfl, by simp [step, stepRet, hp]⟩
  | lsLd c =>
    exact ld_offer fun _ => by rw [stepLd, hp]
  | lsCasAcq c old =>
    exact cas_offer .acq fun _ _ _ _ => by rw [stepCas, hp]
  | lsCasEnq c old =>
    exact cas_offer .acq fun _ _ _ _ => by rw [stepCas, hp]
  | lsSt c =>
    cases hw : c.w with
    | none =>
      obtain ⟨k, h1, h2, h3⟩ := fresh_record hr
      exact ⟨.st t .rlx (.waiting k) 1 (b2n (s.wr k).waiting), rfl, rfl, rfl, by
        simp [step, stepSt, hp, hw, h1, h2, h3]⟩
    | some k =>
      have h3 := requeue_not_queued hr hp hw
      exact ⟨.st t .rlx (.waiting k) 1 (b2n (s.wr k).waiting), rfl, rfl, rfl, by
        simp [step, stepSt, hp, hw, h3]⟩
  | lsRelLd c =>
    exact ld_offer fun _ => by rw [stepLd, hp]
  | lsRelCas c old =>
    exact cas_offer .rel fun _ _ _ _ => by rw [stepCas, hp]
  | lsWaitLd c =>
    simp only [hp, PC.ok] at hkt
    cases hw : c.w with
    | none => rw [hw] at hkt; cases hkt.2
    | some k =>
      exact ⟨.ld t .acq (.waiting k) (b2n (s.wr k).waiting), rfl, rfl, rfl, by
        simp only [step, stepLd, hp, hw]; simp; split <;> exact ⟨_, rfl⟩⟩
  | lsPEnter c =>
    simp only [hp, PC.ok] at hkt
    cases hw : c.w with
    | none => rw [hw] at hkt; cases hkt.2
    | some k => exact ⟨.semPEnter t k, rfl, rfl, rfl, by simp [step, hp, hw]⟩
  | lsPRet c =>
    simp only [hp, PC.ok] at hkt
    cases hw : c.w with
    | none => rw [hw] at hkt; cases hkt.2
    | some k =>
      have hsem : (s.wr k).sem ≠ 0 := fun h0 => hna ⟨c, k, hp, hw, h0⟩
      exact ⟨.semPRet t k, rfl, rfl, rfl, by simp [step, hp, hw, hsem]⟩
  | ulCas0 l =>
    exact cas_offer .rel fun _ _ _ _ => by rw [stepCas, hp]
  | ulLd l =>
    have hsh := share_in_word hr hne (l := l) (by rw [hp]; rfl)
    cases l
    · obtain ⟨h1, h2⟩ := hsh.1 rfl
      exact ld_offer fun _ => by simp only [stepLd, hp, h1, h2]; rfl
    · obtain ⟨h1, h2⟩ := hsh.2 rfl
      exact ld_offer fun _ => by
        simp only [stepLd, hp, h1]; simp only [h2, beq_iff_eq, Bool.false_or, if_false]
        rfl
  | ulCas1 l old =>
    exact cas_offer .rel fun _ _ _ _ => by rw [stepCas, hp]
  | ulRet l =>
    cases l
    · exact ⟨.ret t .unlock none, rfl, rfl, rfl, by simp only [step, stepRet, hp]; exact ⟨_, rfl⟩⟩
    · exact ⟨.ret t .runlock none, rfl, rfl, rfl, by simp only [step, stepRet, hp]; exact ⟨_, rfl⟩⟩
  | usLd l =>
    have hsh := share_in_word hr hne (l := l) (by rw [hp]; rfl)
    have hhs : hasShare l s.word = true := by
      cases l
      · exact (hsh.1 rfl).1
      · simp [hasShare, (hsh.2 rfl).2]
    exact ld_offer fun _ => by simp only [stepLd, hp, hhs]; rfl
  | usCasUnc l old =>
    exact cas_offer .rel fun _ _ _ _ => by rw [stepCas, hp]
  | usCasGrab l old =>
    exact cas_offer .ar fun _ _ _ _ => by rw [stepCas, hp]
  | usRcLd l sc k =>
    exact ⟨.ld t .rlx (.rc k) 0, rfl, rfl, rfl, by simp [step, stepLd, hp]⟩
  | usRcCas l sc k old =>
    exact ⟨.cas t .rlx (.rc k) old ((old + 1) % 4294967296) old true, rfl, rfl, rfl, by
      simp [step, stepCas, hp]⟩
  | usFinLd l f =>
    exact ld_offer fun _ => by rw [stepLd, hp]
  | usFinCas l f old =>
    exact cas_offer .rel fun _ _ _ _ => by rw [stepCas, hp]
  | usWakeSt l k r =>
    exact ⟨.st t .rel (.waiting k) 0 (b2n (s.wr k).waiting), rfl, rfl, rfl, by simp [step, stepSt, hp]⟩
  | usWakeV l k r =>
    exact ⟨.semV t k, rfl, rfl, rfl, by simp [step, hp]⟩

end NsyncVerif.MuQ
