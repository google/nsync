/-
  Layer `CvFix` (repaired cv.c): the sequence-number invariant is preserved by every transition.
-/
import NsyncVerif.Proofs.CvFixInvD
import NsyncVerif.Proofs.CvFixRcd

namespace NsyncVerif.CvFix

theorem enc_ne {w : Word} : w.enc / 2 % 2 = 1 ↔ w.ne = true := by
  cases w with | mk sp ne => cases sp <;> cases ne <;> simp [Word.enc]

/-- Nothing published is in the queue when CV_NON_EMPTY is clear. -/
theorem none_published {s : State} (ha : InvA s) (hd : InvD s) (hne : s.word.ne = false) :
    ∀ r, r ∈ s.queue → (s.recs r).pub = false := by
  intro r hr
  cases hh : s.holder with
  | none =>
    have hq : s.queue = [] := by
      cases hq : s.queue with
      | nil => rfl
      | cons a l => have := (ha.free hh).mpr (by rw [hq]; simp); rw [hne] at this; cases this
    rw [hq] at hr; cases hr
  | some h => exact hd.held h hh hne r hr

theorem invD_loc {s : State} {t : Tid} {e : Event} {x' : Thr} (ha : InvA s) (hi : InvD s) (h : LTr s t e x') :
    InvD (s.setThr t x') := by
  by_cases hsl : (∃ site obs, e = .wordLd t site obs) ∧ (s.thr t).loc = .sLd
  · obtain ⟨⟨site, obs, rfl⟩, hl⟩ := hsl
    cases h with
    | sigLd site obs hl' hs ho =>
      obtain ⟨d1, d2, d3, d4, d5⟩ := hi
      constructor
      · intro u
        by_cases hu : u = t
        · subst hu; simp; split <;> simp
        · simp [hu]; exact d1 u
      · exact d2
      · exact d3
      · exact d4
      · intro u hdone r hr hp
        by_cases hu : u = t
        · subst hu
          simp at hdone hr hp ⊢
          by_cases hne : obs / 2 % 2 = 1
          · simp [hne, bcastDone] at hdone
          · have : s.word.ne = false := by
              cases hw : s.word.ne
              · rfl
              · rw [ho] at hne; exact absurd (enc_ne.mpr hw) hne
            have := none_published ha ⟨d1, d2, d3, d4, d5⟩ this r hr
            rw [this] at hp; cases hp
        · simp [hu] at hdone hr hp ⊢; exact d5 u hdone r hr hp
    | spinLd site obs hl' ho => rcases hl' with ⟨_, hl'⟩ | ⟨_, hl'⟩ <;> rw [hl] at hl' <;> cases hl'
    | spinLdN obs hl' ho => rw [hl] at hl'; cases hl'
    | dbgLd obs hl' ho => rw [hl] at hl'; cases hl'
  · refine invD_frame hi rfl (.inl ⟨rfl, rfl⟩) (fun r hr => .inl hr) (fun q => .inl ⟨rfl, rfl, id⟩) ?_
    intro u
    by_cases hu : u = t
    · subst hu
      simp only [setThr_thr, if_true]
      apply ltr_done h
      intro site obs
      by_cases he : e = .wordLd u site obs
      · right; intro hl; exact hsl ⟨⟨site, obs, he⟩, hl⟩
      · left; exact he
    · simp [hu]

/-- `invD_frame` when one thread gets a new frame that keeps `seq0` and does not enter the "done"
    region of a broadcast. -/
theorem invD_step {s s' : State} {t : Tid} {x' : Thr} (hi : InvD s) (hseq : s'.seq = s.seq)
    (hhold : (s'.holder = s.holder ∧ s'.word.ne = s.word.ne) ∨ s'.holder = none)
    (hq : ∀ r, r ∈ s'.queue → r ∈ s.queue ∨ (s'.recs r).pub = false)
    (hrec : ∀ q, ((s'.recs q).pub = (s.recs q).pub ∧ (s'.recs q).enqSeq = (s.recs q).enqSeq ∧
      ((s'.recs q).stat = .prep → (s.recs q).stat = .prep)) ∨ (s'.recs q).pub = false)
    (hthr : s'.thr = updT s.thr t x') (hs : x'.seq0 = (s.thr t).seq0)
    (hd : bcastDone x' = true → bcastDone (s.thr t) = true) : InvD s' := by
  refine invD_frame hi hseq hhold hq hrec (fun u => ?_)
  rw [hthr]
  by_cases hu : u = t
  · subst hu; simp only [updT_apply, if_true]; rw [hs]; exact ⟨Nat.le_refl _, hd⟩
  · simp only [updT_apply, hu, if_false]; exact ⟨Nat.le_refl _, id⟩

/-- One record is rewritten keeping `pub`, `enqSeq` and not becoming `prep`. -/
theorem recD_same {s s' : State} {r : Rid} {v : Rec} (ho : s'.recs = updR s.recs r v)
    (h1 : v.pub = (s.recs r).pub) (h2 : v.enqSeq = (s.recs r).enqSeq)
    (h3 : v.stat = .prep → (s.recs r).stat = .prep) (q : Rid) :
    ((s'.recs q).pub = (s.recs q).pub ∧ (s'.recs q).enqSeq = (s.recs q).enqSeq ∧
      ((s'.recs q).stat = .prep → (s.recs q).stat = .prep)) ∨ (s'.recs q).pub = false := by
  by_cases hq : q = r
  · rw [ho, hq, show updR s.recs r v r = v by simp [updR]]; exact .inl ⟨h1, h2, h3⟩
  · rw [ho, show updR s.recs r v q = s.recs q by simp [updR, hq]]; exact .inl ⟨rfl, rfl, id⟩

theorem invD_relPub {s : State} (ha : InvA s) (hi : InvD s) (t : Tid) (n : Word) (lnew : Loc)
    (hl : (s.thr t).loc = .wRel ∨ (s.thr t).loc = .nEnqRel) (hln : lnew = .wUnlock ∨ lnew = .nOut) :
    InvD ({ s with word := n, holder := none, seq := s.seq + 1 }.setRec (s.thr t).r
            { s.recs (s.thr t).r with pub := true, enqSeq := s.seq }
          |>.setThr t { s.thr t with loc := lnew }) := by
  have hst : (s.recs (s.thr t).r).stat = .queued := by
    rcases hl with hl | hl
    · exact (ha.thr t).enq (.inr hl)
    · exact ((ha.thr t).nEnq hl).1
  obtain ⟨d1, d2, d3, d4, d5⟩ := hi
  constructor
  · intro u
    by_cases hu : u = t
    · subst hu; simp; exact Nat.le_succ_of_le (d1 u)
    · simp [hu]; exact Nat.le_succ_of_le (d1 u)
  · intro r
    by_cases hr : r = (s.thr t).r
    · subst hr; simp
    · simp [hr]; intro hp; exact Nat.lt_succ_of_lt (d2 r hp)
  · intro h e; simp at e
  · intro r
    by_cases hr : r = (s.thr t).r
    · subst hr; simp [hst]
    · simp [hr]; exact d4 r
  · intro u hdone r hq hp
    have hdone' : bcastDone (s.thr u) = true := by
      by_cases hu : u = t
      · subst hu
        simp [bcastDone] at hdone
        rcases hln with rfl | rfl <;> simp at hdone
      · simpa [hu] using hdone
    have hseq0 : ((({ s with word := n, holder := none, seq := s.seq + 1 }.setRec (s.thr t).r
            { s.recs (s.thr t).r with pub := true, enqSeq := s.seq }).setThr t { s.thr t with loc := lnew }).thr u).seq0
        = (s.thr u).seq0 := by
      by_cases hu : u = t
      · subst hu; simp
      · simp [hu]
    rw [hseq0]
    simp at hq
    by_cases hr : r = (s.thr t).r
    · subst hr; simp; exact d1 u
    · simp [hr] at hp ⊢; exact d5 u hdone' r hq hp

theorem invD_acq_sig {s : State} (hi : InvD s) (t : Tid) (n : Word) (sel td : List Rid) (ar : Bool)
    (o' : Word) (lnew : Loc) (hempty : n.ne = false → s.queue = [])
    (hbc : (s.thr t).bcast = true → sel = s.queue) :
    InvD { s with
      word := n, holder := some t,
      queue := s.queue.filter (fun r => !(sel.contains r)),
      recs := fun r => if sel.contains r then
          { s.recs r with stat := .listed t, unl := (s.recs r).unl ++ [Unl.waker t] } else s.recs r,
      thr := updT s.thr t
        { s.thr t with list := sel, todo := td, firstRc := true, old := o', allReaders := ar, loc := lnew } } := by
  obtain ⟨d1, d2, d3, d4, d5⟩ := hi
  constructor
  · intro u; by_cases hu : u = t
    · subst hu; simpa using d1 u
    · simpa [hu] using d1 u
  · intro r
    by_cases hr : r ∈ sel
    · simpa [hr] using d2 r
    · simpa [hr] using d2 r
  · intro h e1 e2 r hr
    simp at e2
    have hq := hempty e2
    simp [hq] at hr
  · intro r
    by_cases hr : r ∈ sel
    · simp [hr]
    · simpa [hr] using d4 r
  · intro u hdone r hr hp
    by_cases hu : u = t
    · subst hu
      simp only [updT_apply, if_true] at hdone
      have hb : (s.thr u).bcast = true := by
        simp [bcastDone] at hdone; exact hdone.1
      simp only [hbc hb, filter_not_contains_self] at hr
      cases hr
    · simp only [updT_apply, hu, if_false] at hdone ⊢
      have hr' : r ∈ s.queue := (List.mem_filter.mp hr).1
      by_cases hrs : r ∈ sel
      · simp [hrs] at hp ⊢; exact d5 u hdone r hr' hp
      · simp [hrs] at hp ⊢; exact d5 u hdone r hr' hp

theorem invD_acq {s : State} (ha : InvA s) (hi : InvD s) (t : Tid) (exp new obs : Nat) (o n : Word)
    (hl : (s.thr t).loc = .spCas) (hexp : exp = (s.thr t).casExp) (hw : obs = s.word.enc) (he : obs = exp)
    (ho : Word.dec? exp = some o) (hn : Word.dec? new = some n)
    (hnew : new = exp + 1 + (if (s.thr t).setNE ∧ exp / 2 % 2 = 0 then 2 else 0)) :
    InvD (afterAcquire { s with word := n, holder := some t } t { s.thr t with old := o }) := by
  obtain ⟨f1, f2, f3, f4, f5, f6⟩ := acq_facts ha hl hexp hw he ho hn hnew
  subst f1
  have hempty : n.ne = false → s.queue = [] := by
    intro hne
    have hne' : s.word.ne = false := by rw [f5] at hne; simp at hne; exact hne.1
    cases hq : s.queue with
    | nil => rfl
    | cons a l => have := (ha.free f3).mpr (by rw [hq]; simp); rw [hne'] at this; cases this
  obtain ⟨d1, d2, d3, d4, d5⟩ := hi
  unfold afterAcquire
  split
  · rename_i hc; simp only at hc
    obtain ⟨hst, _, _⟩ := (ha.thr t).prep (by simp [waitPrep, hl, hc])
    have hpub := d4 _ hst
    constructor
    · intro u; by_cases hu : u = t
      · subst hu; simpa using d1 u
      · simpa [hu] using d1 u
    · intro r; by_cases hr : r = (s.thr t).r
      · subst hr; simpa using d2 _
      · simpa [hr] using d2 r
    · intro h e1 e2 r hr
      simp at e2 hr
      have hq := hempty e2
      rw [hq] at hr; simp at hr; subst hr
      simp [hpub]
    · intro r; by_cases hr : r = (s.thr t).r
      · subst hr; simp
      · simpa [hr] using d4 r
    · intro u hdone r hr hp
      have hu : u ≠ t := by intro e; subst e; simp [bcastDone] at hdone
      simp [hu] at hdone ⊢
      simp at hr
      by_cases hrr : r = (s.thr t).r
      · subst hrr; simp [hpub] at hp
      · simp [hrr] at hp ⊢
        exact d5 u hdone r (hr.resolve_right hrr) hp
  rotate_right
  · rename_i hc; simp only at hc
    exact invD_acq_sig ⟨d1, d2, d3, d4, d5⟩ t n _ _ _ _ _ hempty (fun hb => by simp [hb])
  all_goals
      constructor
      · intro u; by_cases hu : u = t
        · subst hu; simpa using d1 u
        · simpa [hu] using d1 u
      · exact d2
      · intro h e1 e2 r hr
        simp at e2 hr
        rw [hempty e2] at hr; cases hr
      · exact d4
      · intro u hdone r hr hp
        have hu : u ≠ t := by intro e; subst e; simp [bcastDone] at hdone
        simp [hu] at hdone ⊢
        exact d5 u hdone r hr hp

theorem invD_tr {f3 : Bool} {cfg : Config} {s s' : State} {e : Event} (ha : InvA s) (hb : InvB' f3 s) (hi : InvD s)
    (h : Tr cfg s e s') : InvD s' := by
  have hrec := fun q => (h.rcd ha hb q).pubKeep
  cases h with
  | same e h => exact hi
  | loc h => exact invD_loc ha hi h
  | acq t exp new obs o n hl hexp hw he ho hn hnew => exact invD_acq ha hi t exp new obs o n hl hexp hw he ho hn hnew
  | relWait t new obs n hl hh hnew hn hsp => exact invD_relPub ha hi t n .wUnlock (.inl hl) (.inl rfl)
  | relEnq t new obs n hl hh hnew hn hsp => exact invD_relPub ha hi t n .nOut (.inr hl) (.inr rfl)
  | relWait2 | relDbg | relDeqW | relDeq =>
    exact invD_step hi rfl (.inr rfl) (fun r hr => .inl hr) (fun q => hrec q (by simp)) rfl rfl (by simp [bcastDone])
  | relSig t site new obs n hl hs =>
    refine invD_step hi rfl (.inr rfl) (fun r hr => .inl hr) (fun q => hrec q ?_) rfl rfl
      (by simp [bcastDone, hl]; intro a _; exact a)
    rcases hs with ⟨rfl, _⟩ | ⟨rfl, _⟩ <;> simp
  | wCmpEq | deqLdQueued =>
    exact invD_step hi rfl (.inl ⟨rfl, rfl⟩) (fun q hq => .inl (List.mem_of_mem_erase hq)) (fun q => hrec q (by simp))
      rfl rfl (by simp [bcastDone])
  | enqSt t r obs hl hm hst ho he =>
    refine invD_step hi rfl (.inl ⟨rfl, rfl⟩) ?_ (fun q => hrec q (by simp)) rfl rfl (by simp [bcastDone])
    intro q hq
    simp at hq
    rcases hq with hq | hq
    · exact .inl hq
    · subst hq; right; simp
  | wSt1 t r obs hl hm hst =>
    refine invD_frame hi rfl (.inl ⟨rfl, rfl⟩) (fun q hq => .inl hq) (fun q => hrec q (by simp)) fun u => ?_
    by_cases hu : u = t
    · subst hu; simp; split <;> simp [bcastDone]
    · simp [hu]
  | wwCasOk t exp new obs f rest hl hlist =>
    refine invD_frame hi rfl (.inl ⟨rfl, rfl⟩) (fun q hq => .inl hq) (fun q => hrec q (by simp)) fun u => ?_
    by_cases hu : u = t
    · subst hu; simp [bcastDone, hl]
    · simp [hu]
  | wake t r obs hl | sRcCasOk t site r exp new obs hl | semVWake t k r q hl =>
    exact invD_step hi rfl (.inl ⟨rfl, rfl⟩) (fun q hq => .inl hq) (fun q => hrec q (by simp)) rfl rfl
      (by simp [bcastDone, hl]; try (intro a _; exact a))
  | semOther =>
    exact invD_frame hi rfl (.inl ⟨rfl, rfl⟩) (fun q hq => .inl hq) (fun q => .inl ⟨rfl, rfl, id⟩)
      (fun u => ⟨Nat.le_refl _, id⟩)
  | tick | wInit | nwInit | fStW | fCasOk =>
    exact invD_frame hi rfl (.inl ⟨rfl, rfl⟩) (fun q hq => .inl hq) (fun q => hrec q (by simp))
      (fun u => ⟨Nat.le_refl _, id⟩)
  | wHeadExit t r y hy =>
    subst hy
    exact invD_step hi rfl (.inl ⟨rfl, rfl⟩) (fun q hq => .inl hq) (fun q => hrec q (by simp)) rfl rfl
      (by simp [bcastDone])
  | _ =>
    exact invD_step hi rfl (.inl ⟨rfl, rfl⟩) (fun q hq => .inl hq) (fun q => hrec q (by simp)) rfl rfl
      (by simp [bcastDone])

theorem invD_old {s s' : State} {e : Event} {g : Bool} (hi : InvD s) (h : Old s e s' g) : InvD s' := by
  cases h with
  | same e => exact hi
  | sem e sem' =>
    exact invD_frame hi rfl (.inl ⟨rfl, rfl⟩) (fun r hr => .inl hr) (fun q => .inl ⟨rfl, rfl, id⟩)
      (fun u => ⟨Nat.le_refl _, id⟩)
  | deqLdQueued t r obs hl hr hw hst =>
    exact invD_step hi rfl (.inl ⟨rfl, rfl⟩) (fun q hq => .inl (List.mem_of_mem_erase hq)) (recD_same rfl rfl rfl (by simp))
      rfl rfl (by simp [bcastDone])
  | deqLdF3 t r obs u hl hr hw hst hlist | deqLdBad t r obs hl hr hw hst hst2 =>
    exact invD_step hi rfl (.inl ⟨rfl, rfl⟩) (fun q hq => .inl hq) (recD_same rfl rfl rfl (by simp))
      rfl rfl (by simp [bcastDone])

end NsyncVerif.CvFix
