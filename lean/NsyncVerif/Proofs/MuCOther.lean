import NsyncVerif.Proofs.MuCEff
/-
  MuC: a step of thread `t` (or of the environment) changes neither the program point nor the
  client-visible ghost `held` of any other thread: the plain code of the scan, every kind of step (`Eff.other`),
  every event (`step_other`), runs.
-/
namespace NsyncVerif.MuC

def SameOther (s s' : State) (t : Tid) : Prop := ∀ u, u ≠ t → s'.pc u = s.pc u ∧ s'.held u = s.held u

theorem SameOther.of_pc {s s' : State} {t : Tid} {p' : PC} (hpc : s'.pc = setFn s.pc t p') (hh : ∀ u, u ≠ t → s'.held u = s.held u) :
    SameOther s s' t :=
  fun u hu => ⟨setFn_others hpc u hu, hh u hu⟩

macro "other_close" h:ident : tactic => `(tactic|
  first
  | (cases $h:ident; done)
  | (cases $h:ident; intro u hu
     (first
      | (simp [setFn, hu, mwLoop_eq, afterFin_eq, afterWakes_eq, dequeue, enqLast, enqFirst, setHeld, dropW]; done)
      | ((repeat' split) <;> simp [setFn, hu, mwLoop_eq, afterFin_eq, afterWakes_eq, dequeue, enqLast, enqFirst, setHeld, dropW] <;>
          (repeat' split) <;> simp_all [setFn]))))

theorem SameOther.of_frame {s s0 s' : State} {t : Tid} {A : PC → Prop} (h : Frame s0 s' ∧ ∃ p, s'.pc = setFn s0.pc t p ∧ A p)
    (hpc : s0.pc = s.pc) (hh : s0.held = s.held) : SameOther s s' t :=
  have ⟨hf, _, e, _⟩ := h
  .of_pc (hpc ▸ e) fun _ _ => by rw [hf.held, hh]

theorem ScanStart.other {s s' : State} {t : Tid} {r : Ret} (h : ScanStart s t r s') : SameOther s s' t := by
  cases h with
  | grab old _ _ hs => exact .of_frame (afterPickup_frame hs) (by cases r.mode <;> rfl) (by cases r.mode <;> rfl)
  | rel sc old _ _ hs => exact .of_frame (scanRun_frame _ _ _ _ _ _ hs) rfl rfl
  | re sc old _ _ hs => exact .of_frame (afterPickup_frame hs) rfl rfl
  | rc sc k old _ hs => exact .of_frame (scanRun_frame _ _ _ _ _ _ hs) rfl rfl
  | eval sc k rest cd _ _ _ hs => exact .of_frame (afterEval_frame hs) rfl rfl

theorem CasEff.other {s s' : State} {t : Tid} {ok : Bool} (h : CasEff s t ok s') : SameOther s s' t := by
  cases h with
  | fail _ => exact .of_pc rfl fun _ _ => rfl
  | plain _ ok => exact .of_pc ok.pc fun _ _ => by rw [ok.held]
  | scan hsc => exact hsc.other
  | fin _ _ e => exact .of_pc e.pc fun _ _ => by rw [e.held]
  | mwEnq c old k _ _ _ => intro u hu; split <;> simp [enqLast, enqFirst, setFn, hu]
  | mtRm c old rc k _ _ => exact .of_pc rfl fun _ _ => rfl

theorem Eff.other {cfg : Cfg} {s s' : State} {t : Tid} (h : Eff cfg s t s') : SameOther s s' t := by
  cases h with
  | move _ => exact .of_pc rfl fun _ _ => rfl
  | callQ _ _ _ => exact .of_pc rfl fun _ _ => rfl
  | cas hc => exact hc.other
  | st e => cases e <;> intro u hu <;> simp [setFn, hu, enqLast, enqFirst]
  | ldRc c k obs _ _ => exact .of_pc rfl fun _ _ => rfl
  | ldDeq c old k _ _ _ _ => intro u hu; simp [setFn, hu, dequeue]
  | ret _ e => exact .of_pc e.pc (setFn_others e.held)
  | call _ _ e => exact .of_pc e.pc (setFn_others e.held)
  | scan hsc => exact hsc.other
  | eval c cd _ _ => exact .of_pc rfl fun _ _ => rfl
  | sem _ e => exact .of_pc e.pc fun _ _ => by rw [e.held]
  | dataW x v _ => exact fun _ _ => ⟨rfl, rfl⟩
  | dataR => exact fun _ _ => ⟨rfl, rfl⟩

theorem EnvEff.other {cfg : Cfg} {s s' : State} (h : EnvEff cfg s s') : s'.pc = s.pc ∧ s'.held = s.held := by
  cases h <;> exact ⟨rfl, rfl⟩

theorem step_other {cfg : Cfg} {s s' : State} {e : Event} (h : step cfg s e = .ok s') (u : Tid) (hu : e.tid ≠ some u) :
    s'.pc u = s.pc u ∧ s'.held u = s.held u := by
  cases ht : e.tid with
  | none => obtain ⟨a, b⟩ := (step_env h ht).other; exact ⟨by rw [a], by rw [b]⟩
  | some t => exact (step_eff h ht).other u fun e' => hu (by rw [ht, e'])

/-- A thread that takes no step in a run keeps its program point and its `held`. -/
theorem run_other {cfg : Cfg} (u : Tid) (evs : List Event) (s s' : State) (hne : ∀ e, e ∈ evs → e.tid ≠ some u)
    (h : run cfg s evs = .ok s') : s'.pc u = s.pc u ∧ s'.held u = s.held u :=
  (isRun cfg).induct_mem (Q := fun s1 => s1.pc u = s.pc u ∧ s1.held u = s.held u) ⟨rfl, rfl⟩
    (fun _ e _ he _ hq hs =>
      have ⟨a, b⟩ := step_other hs u (hne e he)
      ⟨a.trans hq.1, b.trans hq.2⟩) h

end NsyncVerif.MuC
