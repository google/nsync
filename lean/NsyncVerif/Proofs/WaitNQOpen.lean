/-
  Proofs/WaitNQOpen.lean — `QI` across the protocol-driven steps (`proto`, `stepOpen`): nested mutex calls,
  notification, counter CAS, pop and post by a note / counter waker.
-/
import NsyncVerif.Proofs.WaitNQStep


namespace WaitN

/-- the nested-call state of a protocol-driven thread changes -/
theorem qi_setMc {s : State} {t : Tid} {m : MC} (h : QI s) (hpost : s.post t = none)
    (hop : m ≠ .none → opn (s.pc t) = true ∧ wk (s.pc t) = none) : QI (s.setMc t m) := by
  refine qi_transfer h rfl rfl rfl (fun _ => rfl) ?_ ?_
  · intro u hpo
    simp only [setMc_post, setMc_mc, setMc_pc] at hpo ⊢
    by_cases hu : u = t
    · subst hu; exact absurd hpost hpo
    · simp only [hu, if_false]; exact h.q6 u hpo
  · intro u hm
    simp only [setMc_mc, setMc_pc] at hm ⊢
    by_cases hu : u = t
    · subst hu; simp only [if_true] at hm; exact hop hm
    · simp only [hu, if_false] at hm; exact h.q11 u hm

theorem qi_proto {s s' : State} {t : Tid} {e : Ev} (h : QI s) (hop : opn (s.pc t) = true) (hwk : wk (s.pc t) = none)
    (hmc : s.mc t = .none) (hp : proto s t e = .ok s') : QI s' := by
  unfold proto at hp
  split at hp
  · -- lockCall
    split at hp
    · rename_i hg; cases hp
      exact qi_setMc h (by simpa using hg.2.2) (fun _ => ⟨hop, hwk⟩)
    · simp at hp
  · -- unlockCall
    dsimp only at hp
    split at hp
    · rename_i o hg; cases hp
      refine qi_setMc (qi_lockRel h hg.1 hg.2.1 (fun _ hw => hg.2.2 hw)) hg.2.1 (fun _ => ⟨hop, hwk⟩)
    · simp at hp
  · split at hp
    · cases hp; exact h
    · simp at hp
  · -- st notified
    dsimp only at hp
    split at hp
    · rename_i hg; cases hp; exact qi_setFlag h hg.1
    · simp at hp
  · split at hp
    · cases hp; exact h
    · simp at hp
  · split at hp
    · cases hp; exact h
    · simp at hp
  · -- cas
    dsimp only at hp
    split at hp
    · rename_i hg
      split at hp
      · split at hp
        · simp at hp
        · cases hp; exact qi_setValue h hg.1
      · cases hp; exact h
    · simp at hp
  · -- pop
    dsimp only at hp
    split at hp
    · simp at hp
    · rename_i r fn new obs hd tl hq
      split at hp
      · rename_i hg; cases hp
        obtain ⟨h1, h2, h3, -⟩ := hg
        subst h1
        exact qi_pop h hq (by simpa using h2) h3 hmc hop hwk
      · simp at hp
  · -- semV
    split at hp
    · exact qi_dflt h hp
    · rename_i j r _
      split at hp
      · rename_i s1 hps; cases hp
        have h1 := qi_postSem h hps
        have k := keeps_postSem (t := t) hps
        refine qi_setPost (qi_setSem h1) ?_ nofun
        simp only [setSem_pc]; rw [k.1]; exact hwk
      · simp at hp
  · exact qi_dflt h hp

theorem qi_stepOpen {s s' : State} {t : Tid} {e : Ev} (h : QI s) (hop : opn (s.pc t) = true) (hwk : wk (s.pc t) = none)
    (hp : stepOpen s t e = .ok s') : QI s' := by
  unfold stepOpen at hp
  split at hp
  · -- locking o
    rename_i o hm
    have hpost : s.post t = none := by
      cases hpo : s.post t with
      | none => rfl
      | some r => have := (h.q6 t (by rw [hpo]; simp)).1; rw [hm] at this; cases this
    split at hp
    · split at hp
      · rename_i hg; cases hp
        exact qi_setMc (qi_lockAcq h hg.1 hg.2) hpost (fun hx => absurd rfl hx)
      · simp at hp
    · exact qi_dflt h hp
  · -- unlocking
    rename_i hm
    have hpost : s.post t = none := by
      cases hpo : s.post t with
      | none => rfl
      | some r => have := (h.q6 t (by rw [hpo]; simp)).1; rw [hm] at this; cases this
    split at hp
    · cases hp; exact qi_setMc h hpost (fun hx => absurd rfl hx)
    · exact qi_dflt h hp
  · rename_i hm; exact qi_proto h hop hwk hm hp

/-- protocol-driven steps never touch `live` / `deqd` of a record, and release only the lock named by an
    `unlockCall` -/
theorem stepOpen_keeps {s s' : State} {t : Tid} {e : Ev} (hp : stepOpen s t e = .ok s') :
    (∀ r, (s'.rcd r).deqd = (s.rcd r).deqd ∧ (s'.rcd r).live = (s.rcd r).live)
    ∧ (∀ o, (s.obj o).lock = some t → e ≠ .unlockCall o → (s'.obj o).lock = some t) := by
  unfold stepOpen at hp
  split at hp
  · split at hp
    · split at hp
      · rename_i hg; cases hp
        refine ⟨fun r => ⟨rfl, rfl⟩, fun o hl _ => ?_⟩
        simp only [setMc_obj, setObj_obj]; split
        · rfl
        · exact hl
      · simp at hp
    · have := shared_dflt hp; exact ⟨fun r => by rw [this.2.1]; exact ⟨rfl, rfl⟩, fun o hl _ => by rw [this.1]; exact hl⟩
  · split at hp
    · cases hp; exact ⟨fun r => ⟨rfl, rfl⟩, fun o hl _ => hl⟩
    · have := shared_dflt hp; exact ⟨fun r => by rw [this.2.1]; exact ⟨rfl, rfl⟩, fun o hl _ => by rw [this.1]; exact hl⟩
  · unfold proto at hp
    split_ok hp
    all_goals try first
      | (have := shared_dflt hp; exact ⟨fun r => by rw [this.2.1]; exact ⟨rfl, rfl⟩, fun o hl _ => by rw [this.1]; exact hl⟩)
      | (cases hp; exact ⟨fun r => ⟨rfl, rfl⟩, fun o hl _ => hl⟩)
    all_goals try (
      cases hp
      refine ⟨fun r => ?_, fun o hl _ => ?_⟩
      · simp; try (split <;> simp_all)
      · simp; try (split <;> simp_all))
    · -- unlockCall
      rename_i o hg
      cases hp
      refine ⟨fun r => ⟨rfl, rfl⟩, fun o' hl hne => ?_⟩
      have : o' ≠ o := fun hh => hne (by rw [hh])
      simp [this, hl]
    · -- pop
      cases hp
      refine ⟨fun r => ?_, fun o' hl _ => ?_⟩
      · simp only [setPost_rcd, setRec_rcd, setObj_rcd]; split
        · rename_i hr; subst hr; exact ⟨rfl, rfl⟩
        · exact ⟨rfl, rfl⟩
      · simp only [setPost_obj, setRec_obj, setObj_obj]; split
        · rename_i ho; subst ho; exact hl
        · exact hl
    · -- semV
      rename_i s1 hps
      cases hp
      simp only [setPost_rcd, setSem_rcd, setPost_obj, setSem_obj]
      unfold postSem at hps; split at hps
      · unfold bindSem at hps; split_ok hps
        all_goals (cases hps; try exact ⟨fun r => ⟨rfl, rfl⟩, fun o hl _ => hl⟩)
      · cases hps; exact ⟨fun r => ⟨rfl, rfl⟩, fun o hl _ => hl⟩

end WaitN
