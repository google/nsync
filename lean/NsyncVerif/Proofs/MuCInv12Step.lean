import NsyncVerif.Proofs.MuCTL
/-
  MuC, Inv12, the induction step: what the step facts `StepTL` and the invariants Inv1 … Inv11 of
  both states say about queued records, threads in flight and responsible threads.
-/
namespace NsyncVerif.MuC

theorem enqPend_waitRec {p : PC} (h : p.enqPend = true) : p.waitRec = none := by
  cases p <;> simp [PC.enqPend] at h <;> rfl

theorem limbo_waitRec {p : PC} {k : Wid} (h : p.limbo = some k) : p.waitRec = none := by
  cases p <;> simp [PC.limbo] at h <;> rfl

theorem finOf_mtOld {p : PC} {f : Fin} (h : p.finOf = some f) : p.mtOld = none := by
  cases p <;> simp [PC.finOf] at h <;> rfl

theorem lsRec_waitRec {p : PC} {k : Wid} (h : p.lsRec = some k) : p.waitRec = some k ∧ p.hlRec = none := by
  cases p <;> simp [PC.lsRec] at h <;> simp [PC.waitRec, PC.hlRec, h]

theorem lsRec_mem_ws {p : PC} {k : Wid} (h : p.lsRec = some k) : k ∈ p.ws := waitRec_mem_ws (lsRec_waitRec h).1

theorem lsRec_not_enq {p : PC} {k : Wid} (h : p.lsRec = some k) : p.enqPend = false := by
  cases p <;> simp [PC.lsRec] at h <;> rfl

theorem mwRel_facts {p : PC} {c : MW} (h : p.mwRel = some c) :
    p.waitRec = c.w ∧ p.mwPre = some c ∧ p.limboC = c.w.map (fun k => (k, c.cond)) := by
  cases p <;> simp [PC.mwRel] at h <;> subst h <;> simp [PC.waitRec, PC.mwPre, PC.limboC]

/-- A thread that justifies MU_WRITER_WAITING by its program point is woken, holds the spinlock, waits inside
    lock_slow, or spins after a timeout. -/
theorem wwA_cases {p : PC} (h8 : p.ok8) (h : p.wwA = true) :
    p.woken = true ∨ p.spin = true ∨ (∃ k, p.lsRec = some k) ∨ p.timedOut = true := by
  cases p <;> simp [PC.wwA] at h <;> simp_all [PC.woken, PC.spin, PC.lsRec, PC.timedOut, PC.ok8, Option.isSome_iff_exists]

/-- The same for a thread with `long_wait` set. -/
theorem lwl_cases {p : PC} {c : SL} (h8 : p.ok8) (hsl : p.sl? = some c) (hl : c.lwl = true) :
    p.woken = true ∨ p.spin = true ∨ (∃ k, p.lsRec = some k) := by
  have key : c.ok8 → c.clear = true := by
    intro a
    rcases a with ⟨a1, a2⟩
    cases e : c.ign with
    | false => rw [a2 e] at hl; cases hl
    | true => rw [a1, e]
  cases p <;> simp [PC.sl?] at hsl <;> subst hsl <;>
    simp_all [PC.woken, PC.spin, PC.lsRec, PC.ok8, Option.isSome_iff_exists]

section step
variable {s s' : State} {t : Tid}

/-- A record that some thread waits on and that is on no list is on no list afterwards. -/
theorem notQueued_keep (a : Invs s) (a' : Invs s') (tl : StepTL s s' t) {u : Tid} {k : Wid}
    (hu : (s.pc u).waitRec = some k) (hnq : ¬ Queued s k) : ¬ Queued s' k := by
  intro hq'
  have hw' := a'.i4.wait k hq'
  cases hw : (s.wr k).waiting with
  | true =>
    rcases a.i9.w3 u k hu hw with e | ⟨v, hv⟩
    · exact hnq e
    · by_cases e : v = t
      · subst e
        rcases tl.wt.p2 k hv with b | b
        · exact (a'.i4.wk v k b).2 hq'
        · rw [b] at hw'; cases hw'
      · rw [← (tl.oth v e).1] at hv
        exact (a'.i4.wk v k hv).2 hq'
  | false =>
    obtain ⟨_, b2, b3⟩ := tl.rc.r2 k hw hw'
    have hown := a.i4.own u k (waitRec_mem_ws hu)
    have hut : u = t := by
      rcases b2 with b2 | b2
      · exact (a.i4.ws_owner hown b2).symm
      · rw [hown] at b2; cases b2
    subst hut
    rw [b3] at hu; cases hu

/-- A queued record stays as it is and stays queued, unless an unlocker takes it off — then its owner is in flight
    — or its owner removes it himself after a timeout. -/
theorem queued_keep (a : Invs s) (a' : Invs s') (tl : StepTL s s' t) {k : Wid} (hq : Queued s k)
    (hmt : (s.pc t).mtOld = none) :
    ((s'.wr k).lType = (s.wr k).lType ∧ (s'.wr k).cond = (s.wr k).cond) ∧
    (Queued s' k ∨ ∃ u, (s'.pc u).waitRec = some k ∧ (s'.pc u).hlRec = none ∧ (s'.pc u).wmode = (s.wr k).lType ∧ ¬ Queued s' k) := by
  have hw := a.i4.wait k hq
  have hsame : (s'.wr k).lType = (s.wr k).lType ∧ (s'.wr k).cond = (s.wr k).cond := by
    rcases tl.rc.r3 k with b | ⟨b, _⟩
    · exact b
    · rw [hw] at b; cases b
  have hw' : (s'.wr k).waiting = true := by
    cases e : (s'.wr k).waiting with
    | true => rfl
    | false =>
      exfalso
      rcases tl.rc.r1 k hw e with b | b
      · exact (a.i4.wk t k b).2 hq
      · exact (a.i4.limbo t k b).2.1 hq
  obtain ⟨u, hu⟩ := a.i9.own k (Or.inl hq)
  have hu' : (s'.pc u).waitRec = some k := by
    by_cases e : u = t
    · subst e
      rcases tl.wt.p1 k hu hw with b | b
      · exact b
      · exact absurd hmt b
    · rw [(tl.oth u e).1]; exact hu
  refine ⟨hsame, ?_⟩
  rcases a'.i9.w3 u k hu' hw' with b | ⟨v, hv⟩
  · exact Or.inl b
  · refine Or.inr ⟨u, hu', ?_, ?_, (a'.i4.wk v k hv).2⟩
    · rcases hlRec_of_waitRec hu' with b | b
      · exact b
      · have := a'.i9.hlf u k b; rw [hw'] at this; cases this
    · rw [← a'.i9.lt u k hu', hsame.1]

theorem shareOf_step_other (tl : StepTL s s' t) {u : Tid} (hu : u ≠ t) : shareOf s' u = shareOf s u := by
  simp [shareOf, (tl.oth u hu).1, (tl.oth u hu).2]

theorem respT_step_other (a : Invs s) (a' : Invs s') (tl : StepTL s s' t) {u : Tid} (hu : u ≠ t) (h : RespT s u) : RespT s' u := by
  rcases h with b | (b | b | ⟨k, b1, b2, b3⟩) | b
  · left; rw [shareOf_step_other tl hu]; exact b
  · right; left; left; rw [(tl.oth u hu).1]; exact b
  · right; left; right; left; rw [(tl.oth u hu).1]; exact b
  · right; left; right; right
    exact ⟨k, by rw [(tl.oth u hu).1]; exact b1, by rw [(tl.oth u hu).1]; exact b2, notQueued_keep a a' tl b1 b3⟩
  · right; right; rw [(tl.oth u hu).1]; exact b

/-- In flight because the record is on no list. -/
def InFlightRec (s : State) (t : Tid) : Prop := ∃ k, (s.pc t).waitRec = some k ∧ (s.pc t).hlRec = none ∧ ¬ Queued s k

/-- The stepping thread stays responsible, or it gives up at one of the listed steps — and then it is not in flight. -/
theorem respT_step_self (a : Invs s) (a' : Invs s') (tl : StepTL s s' t) (h : RespT s t) :
    RespT s' t ∨ (GaveUp s s' t ∧ ¬ InFlightRec s t) := by
  by_cases hif : InFlightRec s t
  · left
    obtain ⟨k, b1, b2, b3⟩ := hif
    rcases tl.rk.wrec k b1 b2 with ⟨c1, c2⟩ | c | c | c
    · exact Or.inr (Or.inl (Or.inr (Or.inr ⟨k, c1, c2, notQueued_keep a a' tl b1 b3⟩)))
    · exact Or.inr (Or.inl (Or.inr (Or.inl c)))
    · exact Or.inr (Or.inr c)
    · exact Or.inl c
  · rcases h with b | (b | b | b) | b
    · rcases tl.rk.share b with c | c | c | c
      · exact Or.inl (Or.inl c)
      · exact Or.inl (Or.inr (Or.inl (Or.inl c)))
      · exact Or.inl (Or.inr (Or.inr c))
      · exact Or.inr ⟨c, hif⟩
    · rcases tl.rk.unl b with c | c
      · exact Or.inl (Or.inr (Or.inl (Or.inl c)))
      · exact Or.inr ⟨c, hif⟩
    · rcases tl.rk.woken b with c | c | c
      · exact Or.inl (Or.inr (Or.inl (Or.inr (Or.inl c))))
      · exact Or.inl (Or.inl c)
      · exact Or.inr ⟨c, hif⟩
    · exact absurd b hif
    · rcases tl.rk.tout b with c | c | c
      · exact Or.inl (Or.inr (Or.inr c))
      · exact Or.inl (Or.inr (Or.inl (Or.inr (Or.inl c))))
      · exact Or.inl (Or.inl c)

/-- A thread that justifies MU_WRITER_WAITING keeps doing so while the bit stays set. -/
theorem wj_keep (a : Invs s) (a' : Invs s') (tl : StepTL s s' t) (hmtw : ∀ old, (s.pc t).mtOld = some old → s.word.ww = false)
    (hww : s.word.ww = true) (hww' : s'.word.ww = true) {u : Tid} (h : WJ s u) : WJ s' u := by
  by_cases e : u = t
  · subst e
    rcases h with b | ⟨k, b1, b2, b3, b4⟩
    · rcases tl.wd.p4 b with c | c
      · exact Or.inl c
      · rw [c] at hww'; cases hww'
    · rcases tl.wt.p5 k b1 b2 b3 with ⟨c1, c2⟩ | c | c | c
      · right
        refine ⟨k, c1, c2, ?_, notQueued_keep a a' tl b1 b4⟩
        have hlt : (s'.wr k).lType = (s.wr k).lType := by
          rcases tl.rc.r3 k with d | ⟨d1, d2⟩
          · exact d.1
          · exfalso
            rw [(tl.rc.r2 k d1 d2).2.2] at b1; cases b1
        rw [← a'.i9.lt u k c1, hlt, a.i9.lt u k b1, b3]
      · exact Or.inl c
      · rw [c] at hww'; cases hww'
      · cases ho : (s.pc u).mtOld with
        | none => exact absurd ho c
        | some old => have := hmtw old ho; rw [hww] at this; cases this
  · rcases h with b | ⟨k, b1, b2, b3, b4⟩
    · left; rw [(tl.oth u e).1]; exact b
    · right
      exact ⟨k, by rw [(tl.oth u e).1]; exact b1, by rw [(tl.oth u e).1]; exact b2, by rw [(tl.oth u e).1]; exact b3,
        notQueued_keep a a' tl b1 b4⟩

end step

end NsyncVerif.MuC
