/-
  Layer `Cv`: `step … = .ok s'` implies `Tr` — loads of record fields by cv.c.
-/
import NsyncVerif.Proofs.CvTrStepWord

namespace NsyncVerif.Cv

theorem settle_id_of_loc {x y : Thr} (h : Settle x y) (h1 : y.loc ≠ .wChk) (h2 : y.loc ≠ .wTail) : y = x := by
  cases h <;> simp_all

theorem b2n_eq_zero {b : Bool} : b2n b = 0 ↔ b = false := by
  cases b <;> simp [b2n]

set_option linter.unusedVariables false in
theorem touches_recLd_other {s : State} {t : Tid} {site : RSite} {r : Rid} {obs : Nat} : True := trivial

theorem setThr_self (s : State) (t : Tid) : s.setThr t (s.thr t) = s := by
  simp only [State.setThr]
  congr
  funext x; simp only [updT]; split <;> simp_all

theorem tr_recLd {cfg : Config} {s s' : State} {t : Tid} {site : RSite} {r : Rid} {obs : Nat}
    (h : stepRecLd s t site r obs = .ok s') : Tr cfg s (.recLd t site r obs) s' := by
  unfold stepRecLd at h
  split at h
  · cases h
  · rename_i y hy
    have hS := settle_inv hy
    dsimp only at h
    split at h
    · -- wRc
      rename_i hl
      have := settle_id_of_loc hS (by simp [hl]) (by simp [hl]); subst this
      simp only [need_ok] at h
      obtain ⟨hr, ho, h⟩ := h
      cases h
      exact .loc (.wRc _ _ hl hr ho)
    · -- wHead
      rename_i hl
      have := settle_id_of_loc hS (by simp [hl]) (by simp [hl]); subst this
      simp only [need_ok] at h
      obtain ⟨hr, ho, h⟩ := h
      split at h
      · rename_i hz
        cases h
        subst hz
        exact .wHeadExit t r _ rfl hl hr (b2n_eq_zero.mp ho.symm)
      · rename_i hz
        split at h
        · rename_i hso
          cases h
          have := LTr.wHeadStay (s := s) (t := t) r obs hl hr ho hz
          rw [if_pos hso] at this
          exact .loc this
        · rename_i hso
          cases h
          have := LTr.wHeadStay (s := s) (t := t) r obs hl hr ho hz
          rw [if_neg hso] at this
          exact .loc this
    · -- wChk
      rename_i hl
      simp only [need_ok] at h
      obtain ⟨hr, ho, hso, h⟩ := h
      split at h
      · rename_i hz
        cases h
        have := LTr.wChk (s := s) (t := t) y r obs hS hl hr ho hso
        rw [if_pos hz] at this
        exact .loc this
      · rename_i hz
        cases h
        have := LTr.wChk (s := s) (t := t) y r obs hS hl hr ho hso
        rw [if_neg hz] at this
        exact .loc this
    · -- wChk2
      rename_i hl
      have := settle_id_of_loc hS (by simp [hl]) (by simp [hl]); subst this
      simp only [need_ok] at h
      obtain ⟨hr, ho, h⟩ := h
      cases h
      exact .loc (.wChk2 _ _ hl hr ho)
    · -- wCmp
      rename_i hl
      have := settle_id_of_loc hS (by simp [hl]) (by simp [hl]); subst this
      simp only [need_ok] at h
      obtain ⟨hr, ho, h⟩ := h
      split at h
      · rename_i he
        cases h
        exact .wCmpEq t r obs hl hr ho he
      · rename_i he
        cases h
        exact .loc (.wCmpNe _ _ hl hr ho he)
    · -- wRmLd
      rename_i hl
      have := settle_id_of_loc hS (by simp [hl]) (by simp [hl]); subst this
      simp only [need_ok] at h
      obtain ⟨hr, ho, h⟩ := h
      cases h
      exact .loc (.wRmLd _ _ hl hr ho)
    · -- wTail
      rename_i hl
      simp only [need_ok] at h
      obtain ⟨hr, ho, h⟩ := h
      cases h
      exact .loc (.wTail y _ _ hS hl hr ho)
    · -- sRcLd
      rename_i first hl
      have := settle_id_of_loc hS (by simp [hl]) (by simp [hl]); subst this
      simp only [need_ok] at h
      obtain ⟨⟨hb, hf⟩, hr, ho, h⟩ := h
      cases h
      subst hf
      exact .loc (.rcLd _ _ _ hl (.inl ⟨rfl, hb⟩) hr ho)
    · -- bRcLd
      rename_i hl
      have := settle_id_of_loc hS (by simp [hl]) (by simp [hl]); subst this
      simp only [need_ok] at h
      obtain ⟨hb, hr, ho, h⟩ := h
      cases h
      exact .loc (.rcLd _ _ _ hl (.inr ⟨rfl, hb⟩) hr ho)
    · -- ready
      rename_i hl
      have := settle_id_of_loc hS (by simp [hl]) (by simp [hl]); subst this
      simp only [need_ok] at h
      obtain ⟨hr, ho, h⟩ := h
      cases h
      have := Tr.loc (cfg := cfg) (LTr.ready (s := s) (t := t) r obs hl hr ho)
      rw [setThr_self] at this
      exact this
    · -- deqLd
      rename_i hl
      have := settle_id_of_loc hS (by simp [hl]) (by simp [hl]); subst this
      simp only [need_ok] at h
      obtain ⟨hr, ho, h⟩ := h
      split at h
      · rename_i hz
        cases h
        subst hz
        exact .loc (.deqLd0 r hl hr (b2n_eq_zero.mp ho.symm))
      · rename_i hz
        have hw : (s.recs r).waiting = true := by
          cases hb : (s.recs r).waiting
          · rw [hb] at ho; simp [b2n] at ho; exact absurd ho hz
          · rfl
        split at h
        · rename_i hst
          cases h
          exact .deqLdQueued t r obs hl hr hw hst
        · rename_i u hst
          simp only [need_ok] at h
          obtain ⟨hlist, h⟩ := h
          cases h
          exact .deqLdF3 t r obs u hl hr hw hst hlist
        · rename_i hq hli
          cases h
          exact .deqLdBad t r obs hl hr hw (fun e => hq e) (fun u e => hli u e)
    · cases h

end NsyncVerif.Cv
