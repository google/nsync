/-
  Layer `CvFix` (repaired cv.c): the sequence-number invariant behind `C04_broadcast` ("every instance whose
  enqueue was published before the broadcast's first load of the cv word is unlinked by the time
  the broadcast returns").
-/
import NsyncVerif.Proofs.CvFixFacts

namespace NsyncVerif.CvFix

/-- Program points of a broadcast after it has either seen CV_NON_EMPTY clear or emptied the queue. -/
def bcastDone (x : Thr) : Bool :=
  x.bcast && (match x.loc with
    | .sRcLd | .sRcCas | .sRel | .wwMuLd | .wwMuCas | .wwRelLd | .wwRelCas | .wwRelLd2 | .wwStore | .wwV
    | .kRet => true
    | _ => false)

structure InvD (s : State) : Prop where
  seq0 : ∀ t, (s.thr t).seq0 ≤ s.seq
  pubSeq : ∀ r, (s.recs r).pub = true → (s.recs r).enqSeq < s.seq
  /-- while somebody holds the spinlock with CV_NON_EMPTY clear, nothing in the queue is published -/
  held : ∀ h, s.holder = some h → s.word.ne = false → ∀ r, r ∈ s.queue → (s.recs r).pub = false
  prepPub : ∀ r, (s.recs r).stat = .prep → (s.recs r).pub = false
  done : ∀ t, bcastDone (s.thr t) = true → ∀ r, r ∈ s.queue → (s.recs r).pub = true →
    (s.thr t).seq0 ≤ (s.recs r).enqSeq

theorem invD_init : InvD init := by
  constructor <;> simp [init, bcastDone]

/-- Transitions that do not publish, do not take the spinlock, enqueue only unpublished records,
    and in which no broadcast newly reaches its "done" region. -/
theorem invD_frame {s s' : State} (hi : InvD s) (hseq : s'.seq = s.seq)
    (hhold : (s'.holder = s.holder ∧ s'.word.ne = s.word.ne) ∨ s'.holder = none)
    (hq : ∀ r, r ∈ s'.queue → r ∈ s.queue ∨ (s'.recs r).pub = false)
    (hrec : ∀ q, ((s'.recs q).pub = (s.recs q).pub ∧ (s'.recs q).enqSeq = (s.recs q).enqSeq ∧
      ((s'.recs q).stat = .prep → (s.recs q).stat = .prep)) ∨ (s'.recs q).pub = false)
    (hthr : ∀ u, (s'.thr u).seq0 ≤ (s.thr u).seq0 ∧ (bcastDone (s'.thr u) = true → bcastDone (s.thr u) = true)) :
    InvD s' := by
  obtain ⟨d1, d2, d3, d4, d5⟩ := hi
  constructor
  · intro t; rw [hseq]; exact Nat.le_trans (hthr t).1 (d1 t)
  · intro r hp
    rcases hrec r with ⟨e1, e2, _⟩ | e
    · rw [e2, hseq]; rw [e1] at hp; exact d2 r hp
    · rw [e] at hp; cases hp
  · intro h e1 e2 r hr
    rcases hhold with ⟨h1, h2⟩ | h1
    · rw [h1] at e1; rw [h2] at e2
      rcases hq r hr with hm | hp
      · rcases hrec r with ⟨c1, _, _⟩ | c
        · rw [c1]; exact d3 h e1 e2 r hm
        · exact c
      · exact hp
    · rw [h1] at e1; cases e1
  · intro r e
    rcases hrec r with ⟨c1, _, c3⟩ | c
    · rw [c1]; exact d4 r (c3 e)
    · exact c
  · intro t e r hr hp
    rcases hq r hr with hm | hp'
    · rcases hrec r with ⟨c1, c2, _⟩ | c
      · rw [c2]; rw [c1] at hp
        exact Nat.le_trans (hthr t).1 (d5 t ((hthr t).2 e) r hm hp)
      · rw [c] at hp; cases hp
    · rw [hp'] at hp; cases hp

/-- Frame condition of a local transition (all but the first load of signal/broadcast). -/
theorem ltr_done {s : State} {t : Tid} {e : Event} {x' : Thr} (h : LTr s t e x')
    (hne : ∀ site obs, e ≠ .wordLd t site obs ∨ (s.thr t).loc ≠ .sLd) :
    x'.seq0 ≤ (s.thr t).seq0 ∧ (bcastDone x' = true → bcastDone (s.thr t) = true) := by
  cases h with
  | sigLd site obs hl hs ho => exact absurd hl (by have := hne site obs; simpa using this)
  | spinLd site obs hl ho =>
    rcases hl with ⟨_, hl⟩ | ⟨_, hl⟩ <;> split <;> simp [bcastDone, hl]
  | spinLdN obs hl ho => split <;> simp [bcastDone, hl]
  | wHeadStay r obs hl hr ho hz =>
    split
    · by_cases hn : (s.thr t).note = true <;> simp only [hn, if_true] <;> simp [bcastDone, hl]
    · simp [bcastDone, hl]
  | wChk y r obs hy hl hr ho hso =>
    split <;> cases hy <;> simp_all [bcastDone]
  | wTail y r obs hy hl hr ho => cases hy <;> simp_all [bcastDone]
  | wChk2 r obs hl hr ho => by_cases hz : obs = 0 <;> simp only [hz, if_true, if_false] <;> simp [bcastDone, hl]
  | retWait res hl hr => rcases hl with hl | hl <;> simp [bcastDone, hl, Thr.fresh]
  | wwLd obs f rest hl hlist =>
    by_cases hc : wantTransfer (s.recs f).lt obs (s.thr t).list.length (s.thr t).allReaders = true <;>
      simp only [hc, if_true] <;> simp [bcastDone, hl]
  | wwRelLd site obs hl => rcases hl with ⟨_, hl⟩ | ⟨_, hl⟩ <;> simp [bcastDone, hl]
  | wwRelCasOk exp new obs hl =>
    by_cases hz : (s.thr t).list.isEmpty = true <;> simp only [hz, if_true] <;> simp [bcastDone, hl]
  | noteSeen hl => rcases hl with hl | hl | hl <;> simp [bcastDone, hl]
  | dbgLd obs hl ho => split <;> simp [bcastDone, hl]
  | _ => simp_all [bcastDone, Thr.fresh]

end NsyncVerif.CvFix
