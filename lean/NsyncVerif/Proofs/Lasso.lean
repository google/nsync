/-
  A stem followed by a loop repeated for ever, as state and event sequences over any acceptor: the witness
  executions of every layer's fairness properties are of this shape.  `after r s evs` is the state after `evs`
  (`s` itself if they are not accepted); `loop_next` is the step around a loop without a stem; `ρ` / `σ` index the
  lasso with a stem; `next` is the step at every index, `pos` reads
  the lasso off at stem + m loops + k, `recurs` says that every loop position comes again after any time, and
  `always` / `again` carry a property of the loop positions to every later time / to infinitely many times.
-/
import NsyncVerif.Proofs.Run

namespace NsyncVerif.Lasso

variable {S E : Type} {step : S → E → Except String S} {r : S → List E → Except String S}

def after (r : S → List E → Except String S) (s : S) (evs : List E) : S :=
  match r s evs with
  | .ok s' => s'
  | .error _ => s

theorem after_ok {s sf : S} {evs : List E} (hr : r s evs = .ok sf) : after r s evs = sf := by
  simp only [after, hr]

theorem after_nil (h : IsRun step r) (s : S) : after r s [] = s := after_ok (h.nil s)

theorem after_take (h : IsRun step r) {s sf : S} {evs : List E} (hr : r s evs = .ok sf) (i : Nat) :
    r s (evs.take i) = .ok (after r s (evs.take i)) := by
  rw [← List.take_append_drop i evs] at hr
  obtain ⟨s1, h1, _⟩ := h.append.mp hr
  rw [after_ok h1]; exact h1

theorem after_ge {s sf : S} {evs : List E} (hr : r s evs = .ok sf) {i : Nat} (hi : evs.length ≤ i) :
    after r s (evs.take i) = sf := by
  rw [List.take_of_length_le hi]; exact after_ok hr

theorem after_step (h : IsRun step r) {s sf : S} {evs : List E} (hr : r s evs = .ok sf) {i : Nat}
    (hi : i < evs.length) : step (after r s (evs.take i)) evs[i] = .ok (after r s (evs.take (i + 1))) := by
  have e : evs.take (i + 1) = evs.take i ++ [evs[i]] := by
    rw [List.take_add_one, List.getElem?_eq_getElem hi]; rfl
  have h1 := after_take h hr (i + 1)
  rw [e, h.append_of_ok (after_take h hr i), h.single] at h1
  rw [e]; exact h1

/-- A trace and then nothing: where the trace has an event it is accepted, where it has none the state stays. -/
theorem after_some (h : IsRun step r) {s sf : S} {evs : List E} (hr : r s evs = .ok sf) {i : Nat} {e : E}
    (he : evs[i]? = some e) : step (after r s (evs.take i)) e = .ok (after r s (evs.take (i + 1))) := by
  obtain ⟨hi, rfl⟩ := List.getElem?_eq_some_iff.mp he
  exact after_step h hr hi

theorem after_none {s sf : S} {evs : List E} (hr : r s evs = .ok sf) {i : Nat} (he : evs[i]? = none) :
    after r s (evs.take (i + 1)) = after r s (evs.take i) := by
  have hi : evs.length ≤ i := List.getElem?_eq_none_iff.mp he
  rw [after_ge hr hi, after_ge hr (Nat.le_succ_of_le hi)]

/-- The three threads of the witness traces. -/
theorem lt3_cases {t : Nat} (h : t < 3) : t = 0 ∨ t = 1 ∨ t = 2 := by omega

theorem mod_succ (a : Nat) {L : Nat} (hp : 0 < L) :
    (a + 1) % L = if a % L + 1 = L then 0 else a % L + 1 := by
  have hlt := Nat.mod_lt a hp
  have hd := Nat.div_add_mod a L
  split
  · have : a + 1 = L * (a / L + 1) := by rw [Nat.mul_add, Nat.mul_one]; omega
    rw [this, Nat.mul_mod_right]
  · have : a + 1 = L * (a / L) + (a % L + 1) := by omega
    rw [this, Nat.mul_add_mod, Nat.mod_eq_of_lt (by omega)]

/-- Around a loop that takes `s` back to `s`: the step at position `i % loop.length`. -/
theorem loop_next (h : IsRun step r) {s : S} {loop : List E} (hl : r s loop = .ok s) (hp : 0 < loop.length)
    (i : Nat) : ∃ e, loop[i % loop.length]? = some e ∧
      step (after r s (loop.take (i % loop.length))) e = .ok (after r s (loop.take ((i + 1) % loop.length))) := by
  have hk := Nat.mod_lt i hp
  refine ⟨loop[i % loop.length], List.getElem?_eq_getElem hk, ?_⟩
  have hs := after_step h hl hk
  rw [mod_succ _ hp]
  split
  · next hw => rw [hw, after_ge hl (Nat.le_refl _)] at hs; rwa [List.take_zero, after_nil h]
  · exact hs

def ρ (r : S → List E → Except String S) (s0 sf : S) (pre loop : List E) (i : Nat) : S :=
  if i < pre.length then after r s0 (pre.take i) else after r sf (loop.take ((i - pre.length) % loop.length))

def σ (pre loop : List E) (i : Nat) : Option E :=
  if i < pre.length then pre[i]? else loop[(i - pre.length) % loop.length]?

variable {s0 sf : S} {pre loop : List E}

theorem start (h : IsRun step r) (hpre : r s0 pre = .ok sf) : ρ r s0 sf pre loop 0 = s0 := by
  unfold ρ
  split
  · exact after_nil h s0
  · have : pre = [] := List.eq_nil_of_length_eq_zero (by omega)
    subst this; rw [h.nil] at hpre; cases hpre
    simp only [List.length_nil, Nat.sub_self, Nat.zero_mod, List.take_zero]; exact after_nil h _

theorem next (h : IsRun step r) (hpre : r s0 pre = .ok sf) (hl : r sf loop = .ok sf) (hp : 0 < loop.length)
    (i : Nat) : ∃ e, σ pre loop i = some e ∧ step (ρ r s0 sf pre loop i) e = .ok (ρ r s0 sf pre loop (i + 1)) := by
  unfold ρ σ
  by_cases hi : i < pre.length
  · refine ⟨pre[i], by simp only [hi, if_true, List.getElem?_eq_getElem hi], ?_⟩
    have hs := after_step h hpre hi
    by_cases hi' : i + 1 < pre.length
    · simpa only [hi, hi', if_true] using hs
    · have : i + 1 - pre.length = 0 := by omega
      simp only [hi, hi', if_true, if_false, this, Nat.zero_mod, List.take_zero, after_nil h]
      rwa [after_ge hpre (i := i + 1) (by omega)] at hs
  · have hi' : ¬ i + 1 < pre.length := by omega
    obtain ⟨e, he, hs⟩ := loop_next h hl hp (i - pre.length)
    refine ⟨e, by simp only [hi, if_false, he], ?_⟩
    simpa only [hi, hi', if_false, show i + 1 - pre.length = i - pre.length + 1 by omega] using hs

theorem pos (m : Nat) {k : Nat} (hk : k < loop.length) :
    ρ r s0 sf pre loop (pre.length + loop.length * m + k) = after r sf (loop.take k) ∧
    σ pre loop (pre.length + loop.length * m + k) = loop[k]? := by
  have h1 : ¬ pre.length + loop.length * m + k < pre.length := by omega
  have h2 : (pre.length + loop.length * m + k - pre.length) % loop.length = k := by
    rw [show pre.length + loop.length * m + k - pre.length = loop.length * m + k by omega,
      Nat.mul_add_mod, Nat.mod_eq_of_lt hk]
  simp only [ρ, σ, h1, if_false, h2, and_self]

/-- The loop position `k + 1` (wrapped) follows the loop position `k`. -/
theorem pos_succ (hp : 0 < loop.length) (m : Nat) {k : Nat}
    (hk : k < loop.length) :
    ρ r s0 sf pre loop (pre.length + loop.length * m + k + 1) = after r sf (loop.take ((k + 1) % loop.length)) := by
  by_cases hw : k + 1 < loop.length
  · rw [Nat.mod_eq_of_lt hw]; exact (pos m hw).1
  · have : k + 1 = loop.length := by omega
    rw [this, Nat.mod_self, show pre.length + loop.length * m + k + 1 = pre.length + loop.length * (m + 1) + 0 by
      rw [Nat.mul_add]; omega]
    exact (pos (m + 1) hp).1

/-- Every loop position comes again after any time. -/
theorem recurs (hp : 0 < loop.length) (i k : Nat) : i ≤ pre.length + loop.length * i + k :=
  Nat.le_trans (Nat.le_mul_of_pos_left i hp) (by omega)

/-- Every time is a time of the stem or a position of the loop. -/
theorem cases (hp : 0 < loop.length) (i : Nat) :
    (i < pre.length ∧ ρ r s0 sf pre loop i = after r s0 (pre.take i) ∧ σ pre loop i = pre[i]?) ∨
    (pre.length ≤ i ∧ ∃ k, k < loop.length ∧ ρ r s0 sf pre loop i = after r sf (loop.take k)
      ∧ σ pre loop i = loop[k]?) := by
  by_cases hi : i < pre.length
  · exact .inl ⟨hi, by simp only [ρ, σ, hi, if_true, and_self]⟩
  · exact .inr ⟨Nat.le_of_not_lt hi, (i - pre.length) % loop.length, Nat.mod_lt _ hp,
      by simp only [ρ, σ, hi, if_false, and_self]⟩

/-- What holds at every position of the loop holds at every time after the stem. -/
theorem always (hp : 0 < loop.length) {Q : S → Option E → Prop}
    (h : ∀ k, k < loop.length → Q (after r sf (loop.take k)) loop[k]?) {i : Nat} (hi : pre.length ≤ i) :
    Q (ρ r s0 sf pre loop i) (σ pre loop i) := by
  rcases cases (r := r) (s0 := s0) (sf := sf) (pre := pre) hp i with ⟨hlt, _⟩ | ⟨_, k, hk, h1, h2⟩
  · omega
  · rw [h1, h2]; exact h k hk

/-- What holds at one position of the loop holds again and again. -/
theorem again (hp : 0 < loop.length) {Q : S → Option E → Prop} {k : Nat} (hk : k < loop.length)
    (h : Q (after r sf (loop.take k)) loop[k]?) (i : Nat) :
    ∃ j, i ≤ j ∧ Q (ρ r s0 sf pre loop j) (σ pre loop j) :=
  ⟨pre.length + loop.length * i + k, recurs hp i k, by
    obtain ⟨h1, h2⟩ := pos (r := r) (s0 := s0) (sf := sf) (pre := pre) i hk
    rw [h1, h2]; exact h⟩

/-- A loop without a stem is read off at `i % n`: what holds at one position holds again and again. -/
theorem mod_again {n : Nat} {Q : Nat → Prop} {k : Nat} (hk : k < n) (h : Q k) (i : Nat) : ∃ j, i ≤ j ∧ Q (j % n) :=
  ⟨n * i + k, Nat.le_trans (Nat.le_mul_of_pos_left i (by omega)) (Nat.le_add_right _ _), by
    rw [Nat.mul_add_mod, Nat.mod_eq_of_lt hk]; exact h⟩

end NsyncVerif.Lasso
