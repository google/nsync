/-
  Layer `Cv`: the invariants hold in every reachable state.  The induction runs over the embedded
  state (`Proofs/CvUp.lean`), where the repaired layer's proofs apply to every step of the pinned
  code (`Tr.up`); the invariants of this layer are read back from it.
-/
import NsyncVerif.Proofs.CvInvB
import NsyncVerif.Proofs.CvInvC
import NsyncVerif.Proofs.CvInvD
import NsyncVerif.Proofs.CvInvE

namespace NsyncVerif.Cv

structure Inv (s : State) : Prop where
  a : InvA s
  b : InvB s

/-- The repaired layer's invariants at the embedded state, `InvB'` with the ghost `f3` of this layer. -/
structure InvUp (s : State) : Prop where
  a : CvFix.InvA s.up
  b : CvFix.InvB' s.f3 s.up
  c : CvFix.InvC s.up
  d : CvFix.InvD s.up
  e : CvFix.InvE s.up

theorem invUp_tr {cfg : Config} {s s' : State} {e : Event} (hi : InvUp s) (h : Tr cfg s e s') : InvUp s' := by
  rcases h.up with ⟨h, hf⟩ | ⟨g, h, hf⟩
  · have hb := CvFix.invB_tr hi.a hi.b h
    exact ⟨CvFix.invA_tr hi.a hi.b h hb.nobad, hf ▸ hb, CvFix.invC_tr hi.c h, CvFix.invD_tr hi.a hi.b hi.d h,
      CvFix.invE_tr hi.a hi.b hi.e h⟩
  · have hb := CvFix.invB_old hi.b hi.a h
    exact ⟨CvFix.invA_old hi.a h hb.nobad, hf ▸ hb, CvFix.invC_old hi.c h, CvFix.invD_old hi.d h,
      CvFix.invE_old hi.e h⟩

theorem invUp_reachable {cfg : Config} {s : State} (h : Reachable cfg s) : InvUp s :=
  reachable_induct (P := InvUp)
    ⟨CvFix.invA_init, CvFix.invB_init, CvFix.invC_init, CvFix.invD_init, CvFix.invE_init⟩ (fun _ _ _ => invUp_tr) s h

theorem inv_reachable {cfg : Config} {s : State} (h : Reachable cfg s) : Inv s :=
  ⟨invA_up (invUp_reachable h).a, invB_up (invUp_reachable h).b⟩

theorem invC_reachable {cfg : Config} {s : State} (h : Reachable cfg s) : InvC s :=
  fun t => tinvC_up ((invUp_reachable h).c t)

theorem invD_reachable {cfg : Config} {s : State} (h : Reachable cfg s) : InvD s := invD_up (invUp_reachable h).d

theorem invE_reachable {cfg : Config} {s : State} (h : Reachable cfg s) : InvE s := invE_up (invUp_reachable h).e

/-- The wait's comparison of `remove_count` succeeds only on a record that is still queued. -/
theorem wCmpEq_queued {cfg : Config} {s : State} (h : Reachable cfg s) (t : Tid) (r : Rid) (obs : Nat)
    (hl : (s.thr t).loc = .wCmp) (hr : r = (s.thr t).r) (ho : obs = (s.recs r).rc) (he : obs = (s.thr t).saved) :
    (s.recs r).stat = .queued :=
  have hi := invUp_reachable h
  have := CvFix.wCmp_queued hi.b hi.a t (up_loc hl) (by rw [← up_r hr, ← up_rc ho]; exact he)
  stat_up (b := .queued) (by rw [← up_r hr, State.up_recs] at this; exact this)

end NsyncVerif.Cv
