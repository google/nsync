/-
  Layer `Note`, fair termination of a `nsync_note_wait` with a finite deadline `w` of its own, ALL
  forests: if the clock passes every value (`ClockAdvances`) and the semaphore returns 0 only when
  it has been posted (`SemSound`), the wait returns, whether or not its note is ever notified
  (`dl_returns`).  If the flag is never set: a P that returns 0 is impossible (`PostedFlag`: a
  posted record belongs to a note whose flag is set), so the thread is no looper; once it has
  stopped for ever it is asleep with a deadline `≤ w` (`sleepOk`), which the clock passes.
-/
import NsyncVerif.Proofs.NoteFairGen


namespace Note

variable {s0 : State}

/-! ### two invariants -/

theorem sleepOk_step {s s' : State} {e : Event} {t : Tid} (hs : step s e = .ok s')
    (h : (s.pc t).sleepOk) : (s'.pc t).sleepOk := by
  by_cases ha : e.actor = some t
  · by_cases hp : s.pc t = .idle
    · have h' := step_actor hs ha
      rw [hp] at h'
      generalize s'.pc t = q at h' ⊢
      cases h' <;> trivial
    · exact (own_pc hs ha hp).sleepOk h
  · rw [step_pc_other hs t ha]; exact h

theorem Reachable.sleepOk {s : State} (h : Reachable s) : ∀ t, (s.pc t).sleepOk := by
  refine Reachable.induction (P := fun s => ∀ t, (s.pc t).sleepOk) (fun t => trivial) ?_ s h
  intro s e s' _ ih hs t
  exact sleepOk_step hs (ih t)

/-- A posted waiter record belongs to a note whose flag is set. -/
def PostedFlag (s : State) : Prop :=
  ∀ r, (s.recs r).used = true → (s.recs r).posted ≠ 0 →
    (s.notes (s.recs r).note).notified = true

theorem Reachable.postedFlag {s : State} (h : Reachable s) : PostedFlag s := by
  refine Reachable.induction (P := PostedFlag) ?_ ?_ s h
  · intro r hu; simp [Note.init, WRec.blank] at hu
  · intro s e s' hr ih hs r hu' hp'
    have hst := step_stable hs
    have keep : (s.recs r).used = true → (s.recs r).posted ≠ 0 →
        (s'.recs r).note = (s.recs r).note → (s'.notes (s'.recs r).note).notified = true := by
      intro hu hp hn
      rw [hn]
      have hf := ih r hu hp
      exact hst.flag _ (hr.invA.flag _ hf) hf
    rcases step_recs hs r with ⟨h, _⟩ | ⟨_, _, _, _, _, _, h, _⟩ | ⟨a, f, rest, top, sem, _, hpc, h⟩ |
      ⟨_, _, _, _, _, _, h, _⟩ | ⟨_, _, _, _, _, _, h, _⟩ | ⟨_, _, _, _, _, h, _⟩ |
      ⟨_, _, _, _, _, _, _, h, _⟩
    · rw [h] at hu' hp'; exact keep hu' hp' (by rw [h])
    · rw [h] at hu' hp'; exact keep hu' hp' (by rw [h])
    · -- the V itself: the poster has stored the flag
      obtain ⟨hu, hn⟩ := hr.invR.unl a (.semV r) f rest top r hpc (Or.inr rfl)
      have hf : (s.notes f.note).notified = true :=
        hr.invAct.flag a f.note (by rw [hpc]; exact Or.inl ⟨rfl, rfl⟩)
      have : (s'.recs r).note = f.note := by rw [h]; exact hn
      rw [this]
      exact hst.flag _ (hr.invA.flag _ hf) hf
    · rw [h] at hp'; exact absurd rfl hp'
    · rw [h] at hu' hp'; exact keep hu' hp' (by rw [h])
    · rw [h] at hu' hp'; exact keep hu' hp' (by rw [h])
    · rw [h] at hu' hp'; exact keep hu' hp' (by rw [h])

/-! ### the wait loop -/

theorem loopStep_next {s s' : State} {e : Event} {t : Tid} {n : NoteId} {nt : Dl} {r : Rid}
    {wdl : Dl} (hs : step s e = .ok s') (ha : e.actor = some t)
    (hpc : s.pc t = .dl .ld1 n nt (.ready2 r wdl)) (hf : (s.notes n).notified = false) :
    s'.pc t = .dl .lockCall n none (.ready2 r wdl) := by
  have h := step_actor hs ha
  rw [hpc] at h
  generalize s'.pc t = q at h ⊢
  cases h
  · exact absurd ‹_ = true› (by rw [hf]; exact Bool.noConfusion)
  · rfl

/-- The minimum of two deadlines has passed as soon as one of them has. -/
theorem leNow_min {a b : Dl} {x now : Nat} (hx : a = some x ∨ b = some x) (h : x ≤ now) :
    (Dl.min a b).leNow now = true := by
  cases a with
  | none =>
    cases b with
    | none => simp at hx
    | some b => simp at hx; subst hx; simp [Dl.min, Dl.lt, Dl.leNow, h]
  | some a =>
    cases b with
    | none => simp at hx; subst hx; simp [Dl.min, Dl.lt, Dl.leNow, h]
    | some b =>
      simp only [Dl.min, Dl.lt, Option.some.injEq] at hx ⊢
      by_cases hy : b < a <;> simp [hy, Dl.leNow] <;> omega

/-- FAIR TERMINATION of a wait whose sleeps have deadlines that the clock passes. -/
theorem timed_returns (x : Exec s0) (hy : GenHyps x) (hclk : ClockAdvances x) (hss : SemSound x)
    {t : Tid} {i : Nat} {n : NoteId} {wdl0 : Dl}
    (hwo : ((x.ρ i).pc t).waitOn = some (n, wdl0))
    (hsleep : ∀ T, i ≤ T → (∀ j, i ≤ j → j ≤ T → (x.ρ j).pc t ≠ .idle) →
      ∀ d n' wdl' r, (x.ρ T).pc t = .wt (.pdRet d) n' wdl' r →
      ∃ v, ∀ now, v ≤ now → d.leNow now = true) :
    ∃ j, i ≤ j ∧ (x.ρ j).pc t = .idle := by
  apply Classical.byContradiction
  intro hnever
  obtain ⟨hnf, hne, hwc⟩ := wait_never_returns x hy hwo hnever
  -- no P of the thread returns 0
  have hnosp : ∀ j e, i ≤ j → x.σ j = some e → ¬ Spurious (x.ρ j) e t := by
    rintro j e hj he ⟨sem, d, n', wdl', r, rfl, hpc⟩
    have hrj := x.reach hy.reach j
    have hpost := hss j t sem d n' wdl' r he hpc
    obtain ⟨hu, _, hn⟩ := hrj.invR.own t r n' (by rw [hpc]; rfl)
    have := hrj.postedFlag r hu hpost
    have hnn : n' = n := by
      have := hwc j hj; rw [hpc] at this
      simp only [PC.waitOn, Option.some.injEq, Prod.mk.injEq] at this
      exact this.1
    rw [hn, hnn, hnf j] at this
    cases this
  -- the phase never increases
  have hph : ∀ j, i ≤ j → ∀ d, ph2 ((x.ρ (j + d)).pc t) ≤ ph2 ((x.ρ j).pc t) := by
    intro j hj d
    induction d with
    | zero => exact Nat.le_refl _
    | succ d ih =>
      by_cases hm : Moves x t (j + d)
      · obtain ⟨e, he, ha⟩ := hm
        rcases (own_pc (x.next_some he) ha (hne (j + d) (by omega))).phase with h | h
        · exact Nat.le_trans h ih
        · exact absurd h (hnosp (j + d) e (by omega) he)
      · rw [show j + (d + 1) = j + d + 1 by omega, not_moves_pc x hm]; exact ih
  rcases never_returns x hy hne with hloop | ⟨T, hT, _, hst, d, n', wdl', r, hpc⟩
  · -- no looper
    obtain ⟨j1, hj1, ⟨e, he, ha⟩, n1, nt1, r1, wdl1, hpc1, hf1⟩ := hloop i
    have h1 := loopStep_next (x.next_some he) ha hpc1 hf1
    obtain ⟨j2, hj2, _, n2, nt2, r2, wdl2, hpc2, _⟩ := hloop (j1 + 1)
    obtain ⟨d, rfl⟩ : ∃ d, j2 = j1 + 1 + d := ⟨j2 - (j1 + 1), by omega⟩
    have := hph (j1 + 1) (by omega) d
    rw [hpc2, h1] at this
    simp [ph2, DK.kph] at this
  · obtain ⟨v, hv⟩ := hsleep T hT (fun j h1 _ => hne j h1) d n' wdl' r hpc
    obtain ⟨j1, hj1, hnow⟩ := hclk v T
    obtain ⟨j, hj, hm⟩ := hy.weak t j1 (fun j hj => by
      have hpcj : (x.ρ j).pc t = .wt (.pdRet d) n' wdl' r := by
        rw [stuck_pc x hst (by omega : T ≤ j)]; exact hpc
      refine ready_gen (x.reach hy.reach j) (by rw [hpcj]; simp) ?_ (by rw [hpcj]; rfl) ?_
      · intro m hm; rw [hpcj] at hm; cases hm
      · unfold SemReady
        rw [hpcj]
        right
        exact hv _ (Nat.le_trans hnow (x.stable_le hj).now))
    exact hst j (by omega) hm

/-- FAIR TERMINATION of a wait with a finite deadline of its own. -/
theorem dl_returns (x : Exec s0) (hy : GenHyps x) (hclk : ClockAdvances x) (hss : SemSound x)
    {t : Tid} {i : Nat} {n : NoteId} {w : Nat}
    (hwo : ((x.ρ i).pc t).waitOn = some (n, some w)) : ∃ j, i ≤ j ∧ (x.ρ j).pc t = .idle := by
  refine timed_returns x hy hclk hss hwo ?_
  intro T hT hne d n' wdl' r hpc
  have hwc : ((x.ρ T).pc t).waitOn = some (n, some w) := by
    rw [waitOn_const x hT (fun j' h1 h2 => hne j' h1 h2)]; exact hwo
  rw [hpc] at hwc
  simp only [PC.waitOn, Option.some.injEq, Prod.mk.injEq] at hwc
  obtain ⟨_, rfl⟩ := hwc
  obtain ⟨nt, hd⟩ : ∃ nt, d = Dl.min (some w) nt := by
    have := (x.reach hy.reach T).sleepOk t; rw [hpc] at this; exact this
  exact ⟨w, fun now h => hd ▸ leNow_min (.inl rfl) h⟩

end Note
