/-
  Layer `CvFix`: where the actor of an event stands.  `Event.src e` lists the program points inside
  cv.c / debug.c (`Loc.isOpen = false`) at which a thread can be the actor of the event `e`: the
  labelling of the control-flow graph by events, where the site of an atomic operation names the
  program point.  `tr_src`: the actor of a transition, if it is inside cv.c / debug.c and the event is
  not its observation of the note, stands at one of them; `src_class` turns that into a fact about
  a class of program points, which is false by evaluation for every event that cannot come from the class.
-/
import NsyncVerif.Proofs.CvFixThr
import NsyncVerif.Proofs.CvFixTrStep

namespace NsyncVerif.CvFix

/-- The program points inside cv.c / debug.c (`isOpen = false`) at which a thread can be the actor of `e`. -/
def Event.src : Event → List Loc
  | .retWait .. => [.wRet]
  | .retSignal _ | .retBroadcast _ => [.kRet]
  | .retDebug .. => [.dRet]
  | .relMark .. => [.wUnlock]
  | .wordLd _ site _ =>
    match site with
    | .spin0 => [.spLd0] | .spin2 => [.spLd2] | .sigLd | .bcLd => [.sLd] | .dbgLd => [.dLd] | _ => []
  | .wordCas .. => [.spCas]
  | .wordSt _ site .. =>
    match site with
    | .waitRel => [.wRel] | .waitRel2 => [.wRel2] | .sigRel | .bcRel => [.sRel] | .enqRel => [.nEnqRel]
    | .deqRel => [.nDeqRel, .nDeqRelW] | .dbgRel => [.dWalk] | _ => []
  | .recLd _ site .. =>
    match site with
    | .wRc => [.wEnq] | .wHead => [.wHead] | .wChk => [.wChk] | .wChk2 => [.wChk2] | .wCmp => [.wCmp]
    | .wRmLd => [.wRmLd] | .wTail => [.wTail] | .sRcLd _ | .bRcLd => [.sRcLd] | .deqLd => [.nLocked]
    | .deqSpin => [.nDeqSpin] | .dbgW => [.dWalk] | .dbgRc => [.dRc] | _ => []
  | .recSt _ site .. =>
    match site with
    | .wClr => [.wClr] | .wake => [.wwStore] | .enqSt => [.nLocked] | .deqSt => [.nDeqSt] | _ => []
  | .recCas _ site .. => match site with | .wRmCas => [.wRmCas] | _ => [.sRcCas]
  | .muLd _ site _ =>
    match site with
    | .wMode => [.wMode] | .wwLd => [.wwMuLd] | .wwRelLd => [.wwRelLd] | .wwRelLd2 => [.wwRelLd2] | _ => []
  | .muCas _ site .. => match site with | .wwCas => [.wwMuCas] | .wwRelCas => [.wwRelCas] | _ => []
  | .semPdEnter .. => [.wSemEnter]
  | .semPdRet .. => [.wSemRet]
  | .semV .. => [.wwV]
  | _ => []

theorem ltr_src {s : State} {t : Tid} {e : Event} {x' : Thr} (h : LTr s t e x')
    (hne : e ≠ .noteSeen t) (hop : (s.thr t).loc.isOpen = false) : (s.thr t).loc ∈ e.src := by
  cases h with
  | sRcCasFail site r exp new obs hl hr hs => rcases hs with ⟨rfl, _⟩ | ⟨rfl, _⟩ <;> simp [Event.src, hl]
  | retWait res hl hr => rcases hl with hl | hl <;> simp_all [Event.src, Loc.isOpen]
  | spinLd site obs hl ho => rcases hl with ⟨rfl, hl⟩ | ⟨rfl, hl⟩ <;> simp [Event.src, hl]
  | sigLd site obs hl hs ho => rcases hs with ⟨rfl, _⟩ | ⟨rfl, _⟩ <;> simp [Event.src, hl]
  | rcLd site r obs hl hs hr ho => rcases hs with ⟨rfl, _⟩ | ⟨rfl, _⟩ <;> simp [Event.src, hl]
  | wwRelLd site obs hl => rcases hl with ⟨rfl, hl⟩ | ⟨rfl, hl⟩ <;> simp [Event.src, hl]
  | noteSeen hl => exact absurd rfl hne
  | wChk y r obs hy hl hr ho hso => cases hy <;> simp_all [Event.src, Loc.isOpen]
  | wTail y r obs hy hl hr ho => cases hy <;> simp_all [Event.src, Loc.isOpen]
  | _ => simp_all [Event.src, Loc.isOpen]

/-- Where the actor of a transition stands, if it is inside cv.c / debug.c. -/
theorem tr_src {cfg : Config} {s s' : State} {e : Event} {t : Tid} (htr : Tr cfg s e s')
    (ht : e.tid = some t) (hne : e ≠ .noteSeen t) (hop : (s.thr t).loc.isOpen = false) :
    (s.thr t).loc ∈ e.src := by
  cases htr with
  | same e h hna hopen =>
    rcases hopen t ht with a | a
    · rw [hop] at a; cases a
    · exact absurd a hne
  | semOther e sem' h hopen => have := hopen t ht; rw [hop] at this; cases this
  | loc h => cases (ltr_tid h).symm.trans ht; exact ltr_src h hne hop
  | relSig t0 site new obs n h hsite => cases ht; rcases hsite with ⟨rfl, _⟩ | ⟨rfl, _⟩ <;> simp [Event.src, h]
  | wHeadExit t0 r y hy h => cases ht; subst hy; simp [Event.src, h]
  | sRcCasOk t0 site r exp new obs h hr hn ho he hs => cases ht; rcases hs with ⟨rfl, _⟩ | ⟨rfl, _⟩ <;> simp [Event.src, h]
  | _ => simp only [Event.tid, Option.some.injEq, reduceCtorEq] at ht <;> subst ht <;> simp_all [Event.src, Loc.isOpen]

theorem src_class {e : Event} {l : Loc} (h : l ∈ e.src) {C : Loc → Bool} (hC : C l = true) : e.src.any C = true :=
  List.any_eq_true.mpr ⟨l, h, hC⟩

end NsyncVerif.CvFix
