/-
Layer `Dll` (C17): the observers `isEmpty/first/last/next/prev` enumerate the represented
sequence, forwards and backwards.
-/
import NsyncVerif.Proofs.DllRing

namespace Dll

theorem isEmpty_spec {H : Heap} {l : Addr} {xs : List Addr} (hr : Repr H l xs) :
    isEmpty l = true ↔ xs = [] := by
  simp [isEmpty, hr.handle_eq_zero_iff]

/-- The handle is the last element. -/
theorem Repr.handle_eq_last {H : Heap} {l z : Addr} {xs t : List Addr} (hr : Repr H l xs)
    (hx : xs = t ++ [z]) : l = z := by
  subst hx
  have := (hr.ring (by simp)).2
  rw [List.getLast?_concat] at this
  exact (Option.some.inj this).symm

/-- `handle->next` is the first element. -/
theorem Repr.next_handle {H : Heap} {l a : Addr} {xs t : List Addr} (hr : Repr H l xs)
    (hx : xs = a :: t) : H.next l = a := by
  subst hx
  obtain ⟨hring, hlast⟩ := hr.ring (by simp)
  exact (hring.wrap (a := a) (by simp) hlast).1

theorem first_nil {H : Heap} {l : Addr} (hr : Repr H l []) : first H l = 0 := by
  simp [first, (repr_nil H l).mp hr]

theorem first_cons {H : Heap} {l a : Addr} {t : List Addr} (hr : Repr H l (a :: t)) :
    first H l = a := by
  have hl : l ≠ 0 := fun h => by simpa using hr.handle_eq_zero_iff.mp h
  simp [first, hl, hr.next_handle rfl]

theorem first_eq_zero_iff {H : Heap} {l : Addr} {xs : List Addr} (hr : Repr H l xs) :
    first H l = 0 ↔ xs = [] := by
  cases xs with
  | nil => simp [first_nil hr]
  | cons a t => simp [first_cons hr, hr.ne_zero List.mem_cons_self]

/-- An element with a successor in the sequence is not the handle. -/
theorem Repr.ne_handle_of_succ {H : Heap} {l a b : Addr} {as bs : List Addr}
    (hr : Repr H l (as ++ a :: b :: bs)) : a ≠ l := by
  obtain ⟨hring, hlast⟩ := hr.ring (by simp)
  rcases last_cases hring.nodup hlast with ⟨h, _⟩ | ⟨_, _, hne⟩
  · cases h
  · exact hne.symm

/-- `next` of a non-last element is its successor in the sequence. -/
theorem next_mid {H : Heap} {l a b : Addr} {as bs : List Addr}
    (hr : Repr H l (as ++ a :: b :: bs)) : next H l a = b := by
  simp [next, hr.ne_handle_of_succ, (hr.ring (by simp)).1.link.1]

/-- `next` of the last element is `NULL`. -/
theorem next_last {H : Heap} {l a : Addr} {as : List Addr}
    (hr : Repr H l (as ++ [a])) : next H l a = 0 := by
  simp [next, hr.handle_eq_last rfl]

/-- `prev` of a non-first element is its predecessor in the sequence: were `b` the first element
`list->next`, its predecessor `a` would be the handle. -/
theorem prev_mid {H : Heap} {l a b : Addr} {as bs : List Addr}
    (hr : Repr H l (as ++ a :: b :: bs)) : prev H l b = a := by
  obtain ⟨hring, hlast⟩ := hr.ring (by simp)
  obtain ⟨f, hf⟩ : ∃ f, (as ++ a :: b :: bs).head? = some f := by cases as <;> simp
  have hw := hring.wrap hf hlast
  have hne : b ≠ H.next l := fun h =>
    hr.ne_handle_of_succ (by rw [← hring.link.2, h, hw.1, hw.2])
  simp [prev, hne, hring.link.2]

/-- `prev` of the first element is `NULL`. -/
theorem prev_first {H : Heap} {l a : Addr} {bs : List Addr}
    (hr : Repr H l (a :: bs)) : prev H l a = 0 := by
  simp [prev, hr.next_handle rfl]

theorem walkFwd_zero (H : Heap) (l : Addr) (fuel : Nat) : walkFwd H l fuel 0 = [] := by
  cases fuel <;> simp [walkFwd]

theorem walkBwd_zero (H : Heap) (l : Addr) (fuel : Nat) : walkBwd H l fuel 0 = [] := by
  cases fuel <;> simp [walkBwd]

/-- Walking forward from any element yields the rest of the sequence. -/
theorem walkFwd_spec {H : Heap} {l : Addr} :
    ∀ (bs as : List Addr) (b : Addr) (fuel : Nat), Repr H l (as ++ b :: bs) →
      bs.length + 1 ≤ fuel → walkFwd H l fuel b = b :: bs
  | _, _, _, 0, _, hf => by omega
  | bs, as, b, f + 1, hr, hf => by
    have hb : b ≠ 0 := hr.ne_zero (by simp)
    cases bs with
    | nil => simp [walkFwd, hb, next_last hr, walkFwd_zero]
    | cons c bs =>
      have hr' : Repr H l ((as ++ [b]) ++ c :: bs) := by simpa using hr
      simp only [walkFwd, hb, if_false, next_mid hr]
      rw [walkFwd_spec bs (as ++ [b]) c f hr' (by simp at hf; omega)]

/-- Walking backward from any element yields the reversed prefix of the sequence. -/
theorem walkBwd_spec {H : Heap} {l : Addr} :
    ∀ (ras : List Addr) (b : Addr) (bs : List Addr) (fuel : Nat),
      Repr H l (ras.reverse ++ b :: bs) → ras.length + 1 ≤ fuel → walkBwd H l fuel b = b :: ras
  | _, _, _, 0, _, hf => by omega
  | ras, b, bs, f + 1, hr, hf => by
    have hb : b ≠ 0 := hr.ne_zero (by simp)
    cases ras with
    | nil =>
      simp only [List.reverse_nil, List.nil_append] at hr
      simp [walkBwd, hb, prev_first hr, walkBwd_zero]
    | cons a ras =>
      have hr' : Repr H l (ras.reverse ++ a :: b :: bs) := by simpa using hr
      simp only [walkBwd, hb, if_false, prev_mid hr']
      rw [walkBwd_spec ras a (b :: bs) f hr' (by simp at hf; omega)]

/-- With enough fuel the forward traversal returns exactly the represented sequence. -/
theorem toListFwd_spec {H : Heap} {l : Addr} {xs : List Addr} (hr : Repr H l xs)
    {fuel : Nat} (hf : xs.length ≤ fuel) : toListFwd H l fuel = xs := by
  cases xs with
  | nil => simp [toListFwd, first_nil hr, walkFwd_zero]
  | cons a t =>
    rw [toListFwd, first_cons hr]
    exact walkFwd_spec t [] a fuel hr (by simpa using hf)

/-- With enough fuel the backward traversal returns exactly the reversed sequence. -/
theorem toListBwd_spec {H : Heap} {l : Addr} {xs : List Addr} (hr : Repr H l xs)
    {fuel : Nat} (hf : xs.length ≤ fuel) : toListBwd H l fuel = xs.reverse := by
  rcases list_nil_or_snoc xs with rfl | ⟨t, z, rfl⟩
  · simp [toListBwd, last, (repr_nil H l).mp hr, walkBwd_zero]
  · cases hr.handle_eq_last rfl
    have := walkBwd_spec (H := H) (l := l) t.reverse l [] fuel (by simpa using hr)
      (by simpa using hf)
    simpa [toListBwd, last] using this

end Dll
