/-
  Layer `Pool`: step-level and trace-level consequences of the invariant
  (who may change the location of a struct, the free list, the contract fields; when the pool path
  of `new` is taken).
-/
import NsyncVerif.Proofs.PoolInv

namespace Pool

theorem fast_of {s : State} {t : Tid} {r : Wid} (hp : s.ptw t = some r)
    (hr : s.reserved r = true) (hu : s.inuse r = false) : fast s t = some r := by
  simp [fast, hp, hr, hu]

/-- In the state in which `nsync_waiter_new_` returns `w` to `t`, `w` is the idle reserved struct
    of `t` or a struct carried by `t`'s own call: nobody holds it. -/
theorem ret_pre {s s' : State} {t : Tid} {w : Wid} (hi : Inv s) (h : step s (.ret t w) = .ok s') :
    s.loc w = .resIdle t ∨ s.loc w = .transit t := by
  cases step_sound h with
  | retFast _ _ _ hf =>
    obtain ⟨hp, _, hu⟩ := fast_some hf
    exact .inl (hi.l.resIdle_iff.2 ⟨hp, hu⟩)
  | retReserve _ _ hpc | retPlain _ _ _ hpc => exact .inr ((hi.l.locTr t w).1 (by rw [hpc]; rfl))

theorem ret_post {s s' : State} {t : Tid} {w : Wid} (h : step s (.ret t w) = .ok s') :
    s'.loc w = .held t := by
  cases step_sound h <;> exact upd_same ..

/-! ### the ghost `held` location is determined by the trace -/

/-- Who holds `w` after one more event, given who held it before: `new` returning `w` to `t`
    makes `t` the holder, `free (w)` ends the tenure; nothing else matters. -/
def heldStep (w : Wid) (cur : Option Tid) : Ev → Option Tid
  | .ret t x => if x = w then some t else cur
  | .free _ x => if x = w then none else cur
  | _ => cur

/-- Who holds `w` after a trace (from a state in which `cur` held it). -/
def heldBy (w : Wid) (cur : Option Tid) (evs : List Ev) : Option Tid :=
  evs.foldl (heldStep w) cur

/-- The thread a struct at this location is handed out to. -/
def Loc.holder : Loc → Option Tid
  | .held t => some t
  | _ => none

/-- The holder according to the ghost location. -/
def heldOf (s : State) (w : Wid) : Option Tid := (s.loc w).holder

theorem heldOf_eq {s : State} {w : Wid} {t : Tid} : heldOf s w = some t ↔ s.loc w = .held t := by
  unfold heldOf Loc.holder; split <;> simp_all

/-- The ghost location follows the trace: a step changes the location of one struct at most; only
    `new` returning it makes it handed out, only its `free` ends that. -/
theorem heldOf_step {s s' : State} {e : Ev} {w : Wid} (hi : Inv s) (h : step s e = .ok s') :
    heldOf s' w = heldStep w (heldOf s w) e := by
  have hl := hi.l
  -- a struct moves between two places in which nobody holds it
  have move : ∀ x l, (s.loc x).holder = none → l.holder = none →
      (upd s.loc x l w).holder = (s.loc w).holder := by
    intro x l h1 h2; rw [upd_apply]; split
    · subst_vars; rw [h1, h2]
    · rfl
  -- struct `x` moves to `l` while the event says `cur'` about `x` and keeps `cur` otherwise
  have at_ : ∀ x l (cur' : Option Tid), l.holder = cur' →
      (upd s.loc x l w).holder = if x = w then cur' else (s.loc w).holder := by
    intro x l cur' hl'; split
    · subst_vars; rw [upd_same]
    · rw [upd_ne _ (Ne.symm ‹_›)]
  cases step_sound h with
  | relPop u obs q rest hpc hfr =>
    exact move q _ (by rw [(hl.locFree q).1 (by rw [hfr]; simp)]; rfl) rfl
  | relPush u fn obs j x hpc hfn hj =>
    refine move x _ ?_ rfl
    rw [(hl.locTr u x).1 (by rcases hj with rfl | rfl <;> (rw [hpc]; rfl))]
    rfl
  | malloc u x hpc hx =>
    subst hx; exact move _ _ (by rw [(hl.locUn _).1 (Nat.le_refl _)]; rfl) rfl
  | retFast u x | retReserve u x | retPlain u x | freeRes u x | freePool u x => exact at_ x _ _ rfl
  | exit u x hpc hp hr hu =>
    exact move x _ (by rw [hl.resIdle_iff.2 ⟨hp, hu⟩]; rfl) rfl
  | _ => rfl

theorem heldOf_run {s s' : State} {es : List Ev} {w : Wid} (hr : Reachable s)
    (h : run s es = .ok s') : heldOf s' w = heldBy w (heldOf s w) es := by
  induction es generalizing s with
  | nil => cases h; rfl
  | cons e es ih =>
    obtain ⟨s1, h1, h2⟩ := isRun.of_cons h
    rw [ih (hr.step h1) h2, heldOf_step (reachable_inv hr) h1]
    rfl

/-- A struct handed out to `t` stays handed out to `t` until `t` frees it: `new` does not return
    a struct that is handed out, and only the holder frees. -/
theorem held_stable {s s' : State} {e : Ev} {t : Tid} {w : Wid} (hi : Inv s)
    (hw : s.loc w = .held t) (h : step s e = .ok s') (hne : e ≠ .free t w) :
    s'.loc w = .held t := by
  rw [← heldOf_eq, heldOf_step hi h, heldOf_eq.2 hw]
  cases e with
  | ret u x =>
    simp only [heldStep]; split
    · subst_vars
      have := ret_pre hi h; rw [hw] at this; rcases this with h1 | h1 <;> cases h1
    · rfl
  | free u x =>
    simp only [heldStep]; split
    · subst_vars
      have hloc : s.loc x = .held u := by cases step_sound h <;> assumption
      rw [hw] at hloc; injection hloc with hloc; subst hloc; exact absurd rfl hne
    · rfl
  | _ => rfl

/-- Along a run, a struct handed out to `t` stays handed out to `t` unless `t` frees it. -/
theorem held_run {s s' : State} {es : List Ev} {t : Tid} {w : Wid} (hr : Reachable s)
    (hw : s.loc w = .held t) (h : run s es = .ok s') :
    .free t w ∈ es ∨ s'.loc w = .held t := by
  induction es generalizing s with
  | nil => cases h; exact Or.inr hw
  | cons e es ih =>
    obtain ⟨s1, h1, h2⟩ := isRun.of_cons h
    by_cases he : e = .free t w
    · exact Or.inl (by simp [he])
    · rcases ih (hr.step h1) (held_stable (reachable_inv hr) hw h1 he) h2 with h3 | h3
      · exact Or.inl (by simp [h3])
      · exact Or.inr h3

theorem free_changes {s s' : State} {e : Ev} (h : step s e = .ok s') (hne : s'.free ≠ s.free) :
    ∃ t fn obs j, e = .rel t fn obs ∧ s.pc t = .cs j := by
  cases step_sound h with
  | relEmpty t obs hpc | relPop t obs _ _ hpc | relPush t _ obs _ _ hpc =>
    exact ⟨t, _, obs, _, rfl, hpc⟩
  | _ => exact absurd rfl hne

/-- Is the event a client write (`env`)? -/
def Ev.isEnv : Ev → Bool
  | .env .. => true
  | _ => false

/-- Pool code never changes a contract field of an initialised struct. -/
theorem fields_frame {s s' : State} {e : Ev} {w : Wid} (hi : Inv s) (h : step s e = .ok s')
    (he : e.isEnv = false) (hw : s.ready w = true) :
    s'.rc w = s.rc w ∧ s'.waiting w = s.waiting w ∧ s'.nwflags w = s.nwflags w ∧
    s'.sem w = s.sem w ∧ s'.inits w = s.inits w ∧ (∀ f, s'.nwr w f = s.nwr w f) ∧
    s'.ready w = true := by
  cases step_sound h with
  | malloc u x hpc hx =>
    have : w ≠ x := hx ▸ Nat.ne_of_lt ((hi.f.readyIff w).1 hw).1
    simp [upd_apply, bump_apply, this, hw]
  | stRc u x obs hpc =>
    have : w ≠ x := fun hh =>
      ((hi.f.readyIff w).1 hw).2 u (by simp [iniOf, hpc, PC.initing, hh])
    simp [upd_apply, bump_apply, this, hw]
  | envRc | envWaiting => cases he
  | _ => simp [hw]

/-- Any step keeps an initialised struct initialised, and changes `remove_count` only by a client
    write to that struct. -/
theorem rc_step {s s' : State} {e : Ev} {w : Wid} (hi : Inv s) (h : step s e = .ok s')
    (hw : s.ready w = true) :
    s'.ready w = true ∧
    (s'.rc w = s.rc w ∨ ∃ obs new, e = .env w .rc obs new ∧ obs = s.rc w ∧ s'.rc w = new) := by
  cases hev : e.isEnv with
  | false =>
    have := fields_frame hi h hev hw
    exact ⟨this.2.2.2.2.2.2, Or.inl this.1⟩
  | true =>
    cases step_sound h with
    | envRc x obs new _ ho =>
      refine ⟨hw, ?_⟩
      by_cases hx : w = x
      · subst hx; exact Or.inr ⟨obs, new, rfl, ho, upd_same ..⟩
      · exact Or.inl (upd_ne _ hx)
    | envWaiting => exact ⟨hw, Or.inl rfl⟩
    | _ => cases hev

/-- `remove_count` of an initialised struct never decreases along a run in which every client
    write to it is non-decreasing (clients only increment it: mu.c `nsync_remove_from_mu_queue_`). -/
theorem rc_mono_run {s s' : State} {es : List Ev} {w : Wid} (hr : Reachable s)
    (hw : s.ready w = true) (h : run s es = .ok s')
    (hcl : ∀ obs new, Ev.env w .rc obs new ∈ es → obs ≤ new) :
    s'.ready w = true ∧ s.rc w ≤ s'.rc w := by
  induction es generalizing s with
  | nil => cases h; exact ⟨hw, Nat.le_refl _⟩
  | cons e es ih =>
    obtain ⟨s1, h1, h2⟩ := isRun.of_cons h
    obtain ⟨hw1, hrc⟩ := rc_step (reachable_inv hr) h1 hw
    obtain ⟨hw2, hle⟩ := ih (hr.step h1) hw1 h2 (fun o n hm => hcl o n (by simp [hm]))
    refine ⟨hw2, Nat.le_trans ?_ hle⟩
    rcases hrc with h3 | ⟨obs, new, rfl, ho, hn⟩
    · omega
    · have := hcl obs new (by simp); omega

/-! ### the pool path of `new`

A thread is on the pool path of `nsync_waiter_new_` only while its reserved struct (if it has one)
is handed out to it — so whenever the reserved struct is idle, `new` returns it. -/

/-- The thread is inside `nsync_waiter_new_` (pool path). -/
def PC.inNew : PC → Bool
  | .spin0 .new | .spinCas .new _ | .spinLd2 .new | .cs .new | .newMalloc | .newInit _
  | .newRet _ => true
  | _ => false

/-- The reserved struct of a thread on the pool path of `new` is handed out to it. -/
def NInv (s : State) : Prop :=
  ∀ t r, (s.pc t).inNew = true → s.ptw t = some r → s.loc r = .held t

theorem afterLoad_inNew (j : Job) (obs : Nat) :
    (afterLoad j obs).inNew = decide (j = .new) := by
  unfold afterLoad; split <;> cases j <;> simp [PC.inNew]

/-- The pool path is entered only when the fast path does not apply. -/
theorem held_of_fast_none {s : State} {t : Tid} {r : Wid} (hi : Inv s) (h : fast s t = none)
    (hp : s.ptw t = some r) : s.loc r = .held t := by
  obtain ⟨hres, h1 | h1⟩ := hi.l.res.ptwOK t r hp
  · rw [fast_of hp hres (hi.l.resIdle_iff.1 h1).2] at h; cases h
  · exact h1

/-- A thread that is on the pool path after a step was on it before, or has just entered it; its
    slot is written only by its own return from `new` and by its exit, which leave it outside. -/
theorem new_path_step {s s' : State} {e : Ev} {u : Tid} {r : Wid} (h : step s e = .ok s')
    (hin : (s'.pc u).inNew = true) (hp : s'.ptw u = some r) :
    s.ptw u = some r ∧ ((s.pc u).inNew = true ∨ fast s u = none) := by
  -- thread `v` moves to `p`
  have mv : ∀ v p, (p.inNew = true → (s.pc v).inNew = true ∨ fast s v = none) →
      (upd s.pc v p u).inNew = true → (s.pc u).inNew = true ∨ fast s u = none := by
    intro v p hv hu; rw [upd_apply] at hu; split at hu
    · subst_vars; exact hv hu
    · exact .inl hu
  cases step_sound h with
  | ld v site obs j hobs hpc =>
    refine ⟨hp, mv v _ (fun hj => ?_) hin⟩
    rw [afterLoad_inNew] at hj
    cases of_decide_eq_true hj
    rcases hpc with ⟨_, _, _, hf⟩ | ⟨hq, _⟩ | ⟨hq, _⟩
    · exact .inr hf
    · exact .inl (by rw [hq]; rfl)
    · exact .inl (by rw [hq]; rfl)
  | casOk v j _ _ hq | casFail v j _ _ hq =>
    exact ⟨hp, mv v _ (fun hj => .inl (by rw [hq]; cases j <;> first | rfl | cases hj)) hin⟩
  | relEmpty v _ hq | relPop v _ _ _ hq | malloc v _ hq | stRc v _ _ hq =>
    exact ⟨hp, mv v _ (fun _ => .inl (by rw [hq]; rfl)) hin⟩
  | relPush v | retPlain v | freePool v => exact ⟨hp, mv v _ (fun hj => by cases hj) hin⟩
  | retReserve v | exit v =>
    change (upd s.pc v _ u).inNew = true at hin
    change upd s.ptw v _ u = some r at hp
    have huv : u ≠ v := fun e => by rw [e, upd_same] at hin; cases hin
    rw [upd_ne _ huv] at hin hp; exact ⟨hp, .inl hin⟩
  | _ => exact ⟨hp, .inl hin⟩

theorem ninv_init : NInv init := by
  intro t r h; simp [init, PC.inNew] at h

/-- The reserved struct stays handed out: its holder is inside `new`, hence not calling `free`. -/
theorem ninv_step {s s' : State} {e : Ev} (hi : Inv s) (hn : NInv s) (h : step s e = .ok s') :
    NInv s' := by
  intro u r hin hp
  obtain ⟨hp0, h0⟩ := new_path_step h hin hp
  have hloc : s.loc r = .held u :=
    h0.elim (fun h1 => hn u r h1 hp0) (fun h1 => held_of_fast_none hi h1 hp0)
  refine held_stable hi hloc h (fun he => ?_)
  subst he
  cases step_sound h with
  | freeRes _ _ hq => rw [hq] at hin; cases hin
  | freePool => change (upd s.pc u _ u).inNew = true at hin; rw [upd_same] at hin; cases hin

theorem reachable_ninv {s : State} (hr : Reachable s) : NInv s :=
  Reachable.induct (P := NInv) ninv_init
    (fun _ _ _ hr' hp h => ninv_step (reachable_inv hr') hp h) s hr

end Pool
