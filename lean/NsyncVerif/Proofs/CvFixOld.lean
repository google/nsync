/-
  Layer `CvFix`: the steps of the pinned cv.c that the repaired cv.c does not have, written over this
  layer's state.  `Proofs/CvUp.lean` embeds the states of layer `Cv` (the model of the pinned code)
  into `State`; on embedded states every step of the pinned code is a step of `Tr` or a step of `Old`
  (`Proofs/CvUpTr.lean`), so an invariant of `Tr` that `Old` preserves too is an invariant of the pinned
  code.
-/
import NsyncVerif.Proofs.CvFixTr

namespace NsyncVerif.CvFix

/-- cv_dequeue of the pinned cv.c at its load of `nw->waiting` when that is non-zero: there is no walk
    over `pcv->waiters`; the record is removed from whatever list it is on.  `deqLdQueued` is the
    repaired code's `Tr.deqLdQueued` without the local `was_queued`; `deqLdF3` is defect F3 (the
    record is on a waker's private list and stays there); `deqLdBad` cannot happen (it sets `bad`).
    `same` and `sem` are the events that change nothing but a semaphore count: layer `Cv` accepts them
    under conditions on its own `touches`, which no invariant of this layer reads.  The last index says
    whether the step is defect F3 (the ghost `f3` of layer `Cv`, the parameter of `InvB'`). -/
inductive Old : State → Event → State → Bool → Prop
  | same {s : State} (e : Event) : Old s e s false
  | sem {s : State} (e : Event) (sem' : SemId → Nat) : Old s e { s with sem := sem' } false
  | deqLdQueued {s : State} (t : Tid) (r : Rid) (obs : Nat) (h : (s.thr t).loc = .nLocked) (hr : r ∈ (s.thr t).mine)
      (hw : (s.recs r).waiting = true) (hst : (s.recs r).stat = .queued) :
      Old s (.recLd t .deqLd r obs)
        ({ s with queue := s.queue.erase r }.setRec r
            { s.recs r with stat := .selfOut, unl := (s.recs r).unl ++ [Unl.self] }
          |>.setThr t { s.thr t with r := r, loc := .nDeqSt, old := if (s.queue.erase r).isEmpty then { (s.thr t).old with ne := false } else (s.thr t).old }) false
  | deqLdF3 {s : State} (t : Tid) (r : Rid) (obs : Nat) (u : Tid) (h : (s.thr t).loc = .nLocked)
      (hr : r ∈ (s.thr t).mine) (hw : (s.recs r).waiting = true) (hst : (s.recs r).stat = .listed u)
      (hl : (s.thr u).list = [r]) :
      Old s (.recLd t .deqLd r obs)
        (s.setRec r { s.recs r with unl := (s.recs r).unl ++ [Unl.self] }
          |>.setThr t { s.thr t with r := r, loc := .nDeqSt, old := if s.queue.isEmpty then { (s.thr t).old with ne := false } else (s.thr t).old }) true
  | deqLdBad {s : State} (t : Tid) (r : Rid) (obs : Nat) (h : (s.thr t).loc = .nLocked)
      (hr : r ∈ (s.thr t).mine) (hw : (s.recs r).waiting = true)
      (hst : (s.recs r).stat ≠ .queued) (hst2 : ∀ u, (s.recs r).stat ≠ .listed u) :
      Old s (.recLd t .deqLd r obs)
        ({ s with bad := true }.setRec r { s.recs r with unl := (s.recs r).unl ++ [Unl.self] }
          |>.setThr t { s.thr t with r := r, loc := .nDeqSt, old := if s.queue.isEmpty then { (s.thr t).old with ne := false } else (s.thr t).old }) false

end NsyncVerif.CvFix
