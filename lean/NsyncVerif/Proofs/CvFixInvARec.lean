/-
  Layer `CvFix` (repaired cv.c): structural invariant — transitions that change the status of one record.
-/
import NsyncVerif.Proofs.CvFixInvAOne

namespace NsyncVerif.CvFix

set_option hygiene false in
/-- Unpack the facts of the acting thread at its current program point. -/
macro "tfacts" hl:ident : tactic =>
  `(tactic| (
     have ht := hi.thr t
     obtain ⟨t1, t2, t3, t4, t5, t6, t7, t8, t9, t10, t11, t12⟩ := ht
     simp only [waitLive, waitPrep, inWaitN, Loc.wakePhase, Loc.holds, $hl:ident] at t1 t2 t3 t4 t5 t8 t9 t10 t11 t12))

theorem invA_wSt1 {s : State} (hi : InvA s) (t : Tid) (r : Rid) (hl : (s.thr t).loc = .wNew) (hm : r.isMucv = true)
    (hst : (s.recs r).stat = .idle) :
    FrameA (s.setRec r { s.recs r with waiting := true, owner := t, stat := .prep, pub := false, unl := [], posted := false, lt := .gen }
          |>.setThr t (if (s.thr t).gen then { s.thr t with r := r, loc := .spLd0, cont := .waitEnq, setNE := true }
                       else { s.thr t with r := r, loc := .wMode })) := by
  tfacts hl
  have hlist : (s.thr t).list = [] := t1 trivial
  have hmine : (s.thr t).mine = [] := t8 trivial
  have hnl : ∀ u, (s.recs r).stat ≠ .listed u := by intro u; rw [hst]; simp
  by_cases hg : (s.thr t).gen = true <;> simp only [hg, if_true]
  all_goals
    refine invA_one_nolock (t := t) (r := r) hi rfl rfl rfl (fun u hu => by simp [hu])
      (fun q hq => by simp [hq]) (by simp [hl, Loc.holds]) (by simp [Loc.holds]) (by simp [hst]) (by simp)
      (by simp [hlist]) (lMem_nil hi r hlist (by simp [hlist]) (fun q hq => by simp [hq]) (by simp))
      ?_ (by simp [hst]) ?_
    · intro u hu; simp [hst]
    · constructor <;> simp [waitLive, waitPrep, inWaitN, Loc.wakePhase, hlist, hmine, hm]

theorem invA_wake {s : State} (hi : InvA s) (t : Tid) (r : Rid) (hl : (s.thr t).loc = .wwStore)
    (hr : (s.thr t).list.head? = some r) :
    FrameA (s.setRec r { s.recs r with waiting := false, stat := match (s.recs r).stat with | .listed _ => .woken | st => st }
          |>.setThr t { s.thr t with list := (s.thr t).list.tail, cur := some (r, (s.recs r).enqSeq), loc := .wwV }) := by
  tfacts hl
  obtain ⟨rest, hlist⟩ := List.head?_eq_some_iff.mp hr
  have hst : (s.recs r).stat = .listed t := (hi.lMem t r).mp (by rw [hlist]; simp)
  have hnd := hi.lNd t
  rw [hlist] at hnd
  have hmine : (s.thr t).mine = [] := t8 trivial
  simp only [hst, hlist, List.tail_cons]
  refine invA_one_nolock (t := t) (r := r) hi rfl rfl rfl (fun u hu => by simp [hu])
    (fun q hq => by simp [hq]) (by simp [hl, Loc.holds]) (by simp [Loc.holds]) (by simp [hst]) (by simp)
    (by simpa using (List.nodup_cons.mp hnd).2) ?_ ?_ ?_ ?_
  · intro q
    simp only [setThr_thr, if_true, setThr_recs, setRec_recs]
    by_cases hq : q = r
    · subst hq; simp; exact (List.nodup_cons.mp hnd).1
    · simp [hq]
      have := hi.lMem t q
      rw [hlist] at this
      simp [hq] at this
      exact this
  · intro u hu
    simp [hst]
    exact fun e => hu e.symm
  · intro _
    right
    constructor <;> simp [hst, RStat.live]
  · constructor <;> simp [waitLive, waitPrep, inWaitN, Loc.wakePhase, hmine]

theorem invA_wHeadExit {s : State} (hi : InvA s) (t : Tid) (r : Rid) (b : Bool) (ul : List Unl)
    (hl : (s.thr t).loc = .wHead) (hr : r = (s.thr t).r)
    (hbad : (s.recs r).stat.registered = false) :
    FrameA (s.setRec r { s.recs r with stat := .idle }
          |>.setThr t { s.thr t with loc := .wExit, xferd := b, exitUnl := ul }) := by
  tfacts hl
  subst hr
  have hlist : (s.thr t).list = [] := t1 trivial
  have hmine : (s.thr t).mine = [] := t8 trivial
  have hnq : (s.recs (s.thr t).r).stat ≠ .queued := by intro e; rw [e] at hbad; simp [RStat.registered] at hbad
  have hnl : ∀ u, (s.recs (s.thr t).r).stat ≠ .listed u := by intro u e; rw [e] at hbad; simp [RStat.registered] at hbad
  refine invA_one_nolock (t := t) (r := (s.thr t).r) hi rfl rfl rfl (fun u hu => by simp [hu])
    (fun q hq => by simp [hq]) (by simp [hl, Loc.holds]) (by simp [Loc.holds]) hnq (by simp)
    (by simp [hlist]) (lMem_nil hi (s.thr t).r hlist (by simp [hlist]) (fun q hq => by simp [hq]) (by simp))
    ?_ ?_ ?_
  · intro u hu; simp [hnl u]
  · intro _; left; exact (t3 trivial).1
  · constructor <;> simp [waitLive, waitPrep, inWaitN, Loc.wakePhase, hlist, hmine]

end NsyncVerif.CvFix
