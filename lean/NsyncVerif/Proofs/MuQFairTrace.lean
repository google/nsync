import NsyncVerif.Proofs.MuQFairExec
import NsyncVerif.Proofs.Lasso
/-
  MuQ, fair termination (C02): a finite accepted trace followed by idling for ever, as an `Exec`
  (non-vacuity of the hypotheses of `C02_fair_termination`), and criteria for `WeakFair` /
  `HoldersRelease` / `FiniteArrivals` / `FiniteRcFails` of an execution that ends quiescent; a lasso (a trace, then a
  loop for ever) as an `Exec`, and the same hypotheses as criteria on the positions of its loop (`lasso_hyps`).
-/
namespace NsyncVerif.MuQ

/-- The state after the first `i` events (the initial state if the trace is not accepted). -/
def stateAt (cfg : Cfg) (evs : List Event) (i : Nat) : State :=
  match run cfg init (evs.take i) with
  | .ok s => s
  | .error _ => init

theorem stateAt_eq (cfg : Cfg) (evs : List Event) (i : Nat) :
    stateAt cfg evs i = Lasso.after (run cfg) init (evs.take i) := by
  unfold stateAt Lasso.after; cases run cfg init (evs.take i) <;> rfl

theorem stateAt_ok {cfg : Cfg} {evs : List Event} {sf : State} (h : run cfg init evs = .ok sf) (i : Nat) :
    run cfg init (evs.take i) = .ok (stateAt cfg evs i) := by
  rw [stateAt_eq]; exact Lasso.after_take (isRun cfg) h i

theorem stateAt_ge {cfg : Cfg} {evs : List Event} {sf : State} (h : run cfg init evs = .ok sf) {i : Nat}
    (hi : evs.length ≤ i) : stateAt cfg evs i = sf := by
  simp only [stateAt, List.take_of_length_le hi, h]

/-- A finite accepted trace, then nothing for ever. -/
def traceExec (cfg : Cfg) (evs : List Event) (sf : State) (h : run cfg init evs = .ok sf) : Exec cfg init :=
  { ρ := stateAt cfg evs
    σ := fun i => evs[i]?
    start := by simp [stateAt, run]
    next := by
      intro i
      cases he : evs[i]? with
      | none => simp only [stateAt_eq]; exact Lasso.after_none h he
      | some e => simp only [stateAt_eq]; exact Lasso.after_some (isRun cfg) h he }

theorem traceExec_tail {cfg : Cfg} {evs : List Event} {sf : State} (h : run cfg init evs = .ok sf) {j : Nat}
    (hj : evs.length ≤ j) : (traceExec cfg evs sf h).ρ j = sf ∧ (traceExec cfg evs sf h).σ j = none :=
  ⟨stateAt_ge h hj, by show evs[j]? = none; simpa using hj⟩

/-- Threads that do not occur in a trace are where they were. -/
theorem run_untouched {cfg : Cfg} {t : Tid} (evs : List Event) (s s' : State)
    (hne : ∀ e ∈ evs, e.tid ≠ some t) (h : run cfg s evs = .ok s') :
    s'.pc t = s.pc t ∧ s'.held t = s.held t :=
  (isRun cfg).induct_mem (Q := fun s1 => s1.pc t = s.pc t ∧ s1.held t = s.held t) ⟨rfl, rfl⟩
    (fun _ e _ he _ h1 hs =>
      ⟨(step_pc_other hs (hne e he)).trans h1.1, (step_held_other hs (hne e he)).trans h1.2⟩) h

/-- A trace whose events all belong to threads below `n` leaves every other thread where it was. -/
theorem run_untouched_ge {cfg : Cfg} {evs : List Event} {n t : Nat} {s s' : State}
    (h : evs.all (fun e => match e.tid with | some t => decide (t < n) | none => true) = true) (ht : ¬ t < n)
    (hr : run cfg s evs = .ok s') : s'.pc t = s.pc t ∧ s'.held t = s.held t := by
  refine run_untouched evs s s' (fun e he htid => ht ?_) hr
  have := List.all_eq_true.1 h e he
  rw [htid] at this
  simpa using this

theorem all_take {α : Type} {p : α → Bool} {l : List α} (h : l.all p = true) (r : Nat) : (l.take r).all p = true :=
  List.all_eq_true.2 fun e he => List.all_eq_true.1 h e (List.mem_of_mem_take he)

/-- An accepted trace runs to the state `stateAt` gives for its end. -/
theorem run_of_accepts {cfg : Cfg} {evs : List Event} (h : accepts cfg evs = true) :
    run cfg init evs = .ok (stateAt cfg evs evs.length) := by
  simp only [accepts] at h
  split at h
  · rename_i s hs
    rw [stateAt_ge hs (Nat.le_refl evs.length)]; exact hs
  · cases h

/-- From `idle` a thread can only call. -/
theorem idle_step_call {cfg : Cfg} {s s' : State} {e : Event} {t : Tid} (h : step cfg s e = .ok s')
    (he : e.tid = some t) (hp : s.pc t = .idle) : ∃ a, e = .call t a := by
  cases e <;> simp only [Event.tid, Option.some.injEq, reduceCtorEq] at he
  all_goals subst he
  case call t a => exact ⟨a, rfl⟩
  all_goals (simp [step, stepRet, stepLd, stepSt, stepCas, hp] at h)

variable {cfg : Cfg} {s0 : State}

theorem weakFair_of_final (x : Exec cfg s0) (N : Nat)
    (hN : ∀ j, N ≤ j → ∀ t, (x.ρ j).pc t = .idle ∨ AsleepOnSem (x.ρ j) t) : WeakFair x := by
  intro t i h
  rcases hN (max i N) (by omega) t with h1 | h1
  · exact absurd h1 (h (max i N) (by omega)).1
  · exact absurd h1 (h (max i N) (by omega)).2

theorem weakFair_of_quiescent (x : Exec cfg s0) (N : Nat) (hN : ∀ j, N ≤ j → ∀ t, (x.ρ j).pc t = .idle) :
    WeakFair x :=
  weakFair_of_final x N fun j hj t => .inl (hN j hj t)

/-- If every thread is again and again seen holding nothing, every holder calls (unlock / runlock). -/
theorem holdersRelease_of_recurrent (x : Exec cfg s0) (hr : Reachable cfg s0)
    (hN : ∀ i t, ∃ j, i ≤ j ∧ (x.ρ j).held t = none) : HoldersRelease x := by
  intro t i hheld
  obtain ⟨j0, hj0, hnone⟩ := hN i t
  have hmv : ∃ j, i ≤ j ∧ Moves x t j := by
    apply Classical.byContradiction; intro hn
    obtain ⟨_, b⟩ := frame_between x (t := t) hj0 (fun j' h1 _ hm => hn ⟨j', h1, hm⟩)
    rw [hnone] at b
    exact hheld b.symm
  obtain ⟨j, h1, ⟨e, he, ht⟩, h3⟩ := Sched.first_at hmv
  obtain ⟨a, b⟩ := frame_between x h1 h3
  have hidle : (x.ρ j).pc t = .idle :=
    (reachable_side (x.reach hr j)).2 t (by rw [b]; exact hheld)
  obtain ⟨ap, rfl⟩ := idle_step_call (x.next_some he) ht hidle
  exact ⟨j, ap, h1, he⟩

theorem holdersRelease_of_quiescent (x : Exec cfg s0) (hr : Reachable cfg s0) (N : Nat)
    (hN : ∀ j, N ≤ j → ∀ t, (x.ρ j).held t = none) : HoldersRelease x :=
  holdersRelease_of_recurrent x hr (fun i t => ⟨max i N, by omega, hN (max i N) (by omega) t⟩)

theorem finite_of_tail (x : Exec cfg s0) (N : Nat) (hN : ∀ j, N ≤ j → x.σ j = none) :
    FiniteArrivals x ∧ FiniteRcFails x :=
  ⟨⟨N, fun j e hj he => by rw [hN j hj] at he; cases he⟩, ⟨N, fun j e hj he => by rw [hN j hj] at he; cases he⟩⟩

/-! ### a lasso: a finite accepted trace, then a loop repeated for ever -/

theorem setPc_setPc_self {s : State} {t : Tid} {p1 p2 : PC} (h : s.pc t = p2) :
    setPc (setPc s t p1) t p2 = s := by
  cases s
  simp only [setPc, State.mk.injEq, true_and, and_true] at h ⊢
  funext u
  simp only [setFn]
  split
  · rename_i hu; subst hu; exact h.symm
  · rfl

/-- The state after `evs` from `s` (`s` itself if the events are not accepted). -/
def stateFrom (cfg : Cfg) (s : State) (evs : List Event) : State :=
  match run cfg s evs with
  | .ok s' => s'
  | .error _ => s

theorem stateFrom_eq (cfg : Cfg) (s : State) (evs : List Event) :
    stateFrom cfg s evs = Lasso.after (run cfg) s evs := by
  unfold stateFrom Lasso.after; cases run cfg s evs <;> rfl

theorem stateFrom_ok {cfg : Cfg} {s sf : State} {evs : List Event} (h : run cfg s evs = .ok sf) (i : Nat) :
    run cfg s (evs.take i) = .ok (stateFrom cfg s (evs.take i)) := by
  rw [stateFrom_eq]; exact Lasso.after_take (isRun cfg) h i

/-- A lasso: `evs`, then `loop` repeated for ever, where `loop` takes the state `sf` reached by `evs`
    back to `sf`. -/
def lassoExec (cfg : Cfg) (evs loop : List Event) (sf : State)
    (h : run cfg init evs = .ok sf) (hl : run cfg sf loop = .ok sf) (hp : 0 < loop.length) :
    Exec cfg init :=
  { ρ := fun i => if i < evs.length then stateAt cfg evs i
                  else stateFrom cfg sf (loop.take ((i - evs.length) % loop.length))
    σ := fun i => if i < evs.length then evs[i]? else loop[(i - evs.length) % loop.length]?
    start := by
      have _ := hl
      simp only [stateAt_eq, stateFrom_eq]; exact Lasso.start (isRun cfg) h
    next := by
      intro i
      obtain ⟨e, he, hs⟩ := Lasso.next (isRun cfg) h hl hp i
      have he' : (if i < evs.length then evs[i]? else loop[(i - evs.length) % loop.length]?) = some e := he
      simp only [he', stateAt_eq, stateFrom_eq]; exact hs }

/-! ### the hypotheses of `C02_fair_termination` on a lasso, as criteria on its loop -/

section
variable {cfg : Cfg} {evs loop : List Event} {sf : State}

theorem lassoExec_eq (h : run cfg init evs = .ok sf) (hl : run cfg sf loop = .ok sf) (hp : 0 < loop.length) :
    (lassoExec cfg evs loop sf h hl hp).ρ = Lasso.ρ (run cfg) init sf evs loop ∧
    (lassoExec cfg evs loop sf h hl hp).σ = Lasso.σ evs loop := by
  refine ⟨funext fun i => ?_, rfl⟩
  simp only [lassoExec, Lasso.ρ, stateAt_eq, stateFrom_eq]

/-- At step `k` of the loop thread `t` moves, or is idle or asleep there. -/
def fairAtB (cfg : Cfg) (sf : State) (loop : List Event) (t : Tid) (k : Nat) : Bool :=
  (match loop[k]? with | some e => decide (e.tid = some t) | none => false) ||
    decide ((stateFrom cfg sf (loop.take k)).pc t = .idle) || asleepB (stateFrom cfg sf (loop.take k)) t

/-- A lasso of threads `< n`: it is weakly fair if each thread, at some step of the loop, moves or is idle or asleep;
    holders release if at some step nobody holds; arrivals and failing `remove_count` CASes are finite if the loop has
    none. -/
theorem lasso_hyps (h : run cfg init evs = .ok sf) (hl : run cfg sf loop = .ok sf) (hp : 0 < loop.length) (n : Nat)
    (hb : evs.all (fun e => match e.tid with | some t => decide (t < n) | none => true) = true)
    (hb2 : loop.all (fun e => match e.tid with | some t => decide (t < n) | none => true) = true) :
    ((∀ t, t < n → ∃ k, k < loop.length ∧ fairAtB cfg sf loop t k = true) →
      WeakFair (lassoExec cfg evs loop sf h hl hp)) ∧
    ((∃ k, k < loop.length ∧ ∀ t, t < n → (stateFrom cfg sf (loop.take k)).held t = none) →
      HoldersRelease (lassoExec cfg evs loop sf h hl hp)) ∧
    (loop.all (fun e => !e.isAcqCall) = true → FiniteArrivals (lassoExec cfg evs loop sf h hl hp)) ∧
    (loop.all (fun e => !e.rcFail) = true → FiniteRcFails (lassoExec cfg evs loop sf h hl hp)) := by
  obtain ⟨eρ, eσ⟩ := lassoExec_eq h hl hp
  simp only [fairAtB, stateFrom_eq]
  have rest : ∀ t, ¬ t < n → ∀ k, (Lasso.after (run cfg) sf (loop.take k)).pc t = .idle ∧
      (Lasso.after (run cfg) sf (loop.take k)).held t = none := fun t ht k => by
    obtain ⟨a, b⟩ := run_untouched_ge hb ht h
    obtain ⟨a', b'⟩ := run_untouched_ge (all_take hb2 k) ht (Lasso.after_take (isRun cfg) hl k)
    exact ⟨by rw [a', a]; rfl, by rw [b', b]; rfl⟩
  have ev : ∀ (p : Event → Bool), loop.all (fun e => !p e) = true → ∀ j e, evs.length ≤ j →
      (lassoExec cfg evs loop sf h hl hp).σ j = some e → p e = false := fun p hall j e hj he => by
    rw [eσ] at he
    refine Lasso.always (r := run cfg) (s0 := init) (sf := sf) hp (Q := fun _ o => o = some e → p e = false)
      (fun k _ hk => ?_) hj he
    simpa using List.all_eq_true.1 hall e (List.mem_of_getElem? hk)
  refine ⟨fun hf t i hstay => ?_, fun ⟨k, hk, hq⟩ => ?_, fun ha => ⟨evs.length, ev _ ha⟩, fun ha => ⟨evs.length, ev _ ha⟩⟩
  · have key : ∃ k, k < loop.length ∧ ((∃ e, loop[k]? = some e ∧ e.tid = some t) ∨
        (Lasso.after (run cfg) sf (loop.take k)).pc t = .idle ∨ AsleepOnSem (Lasso.after (run cfg) sf (loop.take k)) t) := by
      by_cases ht : t < n
      · obtain ⟨k, hk, hf⟩ := hf t ht
        refine ⟨k, hk, ?_⟩
        simp only [Bool.or_eq_true, decide_eq_true_eq, asleepB_iff] at hf
        rcases hf with (hm | hi) | ha
        · left; split at hm
          · rename_i e he; exact ⟨e, he, of_decide_eq_true hm⟩
          · cases hm
        · exact .inr (.inl hi)
        · exact .inr (.inr ha)
      · exact ⟨0, hp, .inr (.inl (rest t ht 0).1)⟩
    obtain ⟨k, hk, hq⟩ := key
    obtain ⟨j, hij, hQ⟩ := Lasso.again (r := run cfg) (s0 := init) (pre := evs) hp hk
      (Q := fun s o => (∃ e, o = some e ∧ e.tid = some t) ∨ s.pc t = .idle ∨ AsleepOnSem s t) hq i
    rw [← eρ, ← eσ] at hQ
    rcases hQ with ⟨e, he, ht⟩ | hi | ha
    · exact ⟨j, e, hij, he, ht⟩
    · exact absurd hi (hstay j hij).1
    · exact absurd ha (hstay j hij).2
  · refine holdersRelease_of_recurrent _ (reachable_init _) fun i t => ?_
    obtain ⟨j, hij, hQ⟩ := Lasso.again (r := run cfg) (s0 := init) (pre := evs) hp hk
      (Q := fun s _ => s.held t = none)
      (by by_cases ht : t < n
          · exact hq t ht
          · exact (rest t ht k).2) i
    exact ⟨j, hij, by rw [eρ]; exact hQ⟩

/-- A state predicate tested at every position of the loop holds from the end of the stem on. -/
theorem lasso_always (h : run cfg init evs = .ok sf) (hl : run cfg sf loop = .ok sf) (hp : 0 < loop.length)
    {P : State → Bool} (hP : ∀ k, k < loop.length → P (stateFrom cfg sf (loop.take k)) = true)
    {j : Nat} (hj : evs.length ≤ j) : P ((lassoExec cfg evs loop sf h hl hp).ρ j) = true := by
  rw [(lassoExec_eq h hl hp).1]
  simp only [stateFrom_eq] at hP
  exact Lasso.always (r := run cfg) (s0 := init) hp (Q := fun s _ => P s = true) hP hj

end

end NsyncVerif.MuQ
