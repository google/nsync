/-
  The fold of an acceptor over an event list.  Every layer's `run` (and every product's `prun`) is its own structural
  recursion with the same two equations; `IsRun step r` states them, and what follows from the equations alone is proved
  here: splitting a run at an append, induction over the states a run passes through, a run of a product projected to a
  run of its component and lifted back, a component that is a total fold (the clocks) read off a product run, and one
  pass over a concrete trace that tests a predicate after every prefix (`scan`).
-/
namespace NsyncVerif

variable {S E P C : Type}

structure IsRun (step : S → E → Except String S) (r : S → List E → Except String S) : Prop where
  nil : ∀ s, r s [] = .ok s
  cons : ∀ s e es, r s (e :: es) = match step s e with
    | .ok s' => r s' es
    | .error m => .error m

namespace IsRun

variable {step : S → E → Except String S} {r : S → List E → Except String S} (h : IsRun step r)
include h

theorem cons_ok {s s1 : S} {e : E} (hs : step s e = .ok s1) (es : List E) : r s (e :: es) = r s1 es := by
  rw [h.cons, hs]

/-- An accepted run starts with an accepted step. -/
theorem of_cons {s s' : S} {e : E} {es : List E} (hr : r s (e :: es) = .ok s') :
    ∃ s1, step s e = .ok s1 ∧ r s1 es = .ok s' := by
  rw [h.cons] at hr
  cases hs : step s e with
  | ok s1 => rw [hs] at hr; exact ⟨s1, rfl, hr⟩
  | error m => rw [hs] at hr; cases hr

theorem single {s : S} {e : E} : r s [e] = step s e := by
  rw [h.cons]; cases step s e <;> simp [h.nil]

theorem append_of_ok {s s1 : S} {a : List E} (ha : r s a = .ok s1) (b : List E) : r s (a ++ b) = r s1 b := by
  induction a generalizing s with
  | nil => rw [h.nil] at ha; cases ha; rfl
  | cons e es ih =>
    obtain ⟨s2, hs, hr⟩ := h.of_cons ha
    rw [List.cons_append, h.cons_ok hs, ih hr]

theorem append {s s' : S} {a b : List E} :
    r s (a ++ b) = .ok s' ↔ ∃ s1, r s a = .ok s1 ∧ r s1 b = .ok s' := by
  induction a generalizing s with
  | nil => simp [h.nil]
  | cons e es ih =>
    rw [List.cons_append, h.cons, h.cons]
    cases step s e with
    | ok s1 => exact ih
    | error m => simp

theorem snoc {s s1 s' : S} {a : List E} {e : E} (ha : r s a = .ok s1) (hs : step s1 e = .ok s') :
    r s (a ++ [e]) = .ok s' := by
  rw [h.append_of_ok ha, h.single, hs]

/-- What holds at the start and is kept by every accepted step of an event of the list, from a state the run can
    reach, holds at the end. -/
theorem induct_mem {Q : S → Prop} {s0 s : S} {evs : List E} (h0 : Q s0)
    (hstep : ∀ s e s', e ∈ evs → (∃ l, r s0 l = .ok s) → Q s → step s e = .ok s' → Q s')
    (hr : r s0 evs = .ok s) : Q s := by
  suffices key : ∀ es s1, (∀ e ∈ es, e ∈ evs) → (∃ l, r s0 l = .ok s1) → Q s1 → r s1 es = .ok s → Q s from
    key evs s0 (fun _ he => he) ⟨[], h.nil _⟩ h0 hr
  intro es
  induction es with
  | nil => intro s1 _ _ hq hr; rw [h.nil] at hr; cases hr; exact hq
  | cons e es ih =>
    intro s1 hm ⟨l, hl⟩ hq hr
    obtain ⟨s2, hs, hr⟩ := h.of_cons hr
    exact ih s2 (fun e' he' => hm e' (List.mem_cons_of_mem _ he')) ⟨l ++ [e], h.snoc hl hs⟩
      (hstep s1 e s2 (hm e List.mem_cons_self) ⟨l, hl⟩ hq hs) hr

theorem induct {Q : S → Prop} {s0 s : S} {evs : List E} (h0 : Q s0)
    (hstep : ∀ s e s', (∃ l, r s0 l = .ok s) → Q s → step s e = .ok s' → Q s')
    (hr : r s0 evs = .ok s) : Q s :=
  h.induct_mem h0 (fun s e s' _ => hstep s e s') hr

/-! A product: `pstep` runs `step` on the component `π p` and decorates the result. -/

variable {pstep : P → E → Except String P} {pr : P → List E → Except String P} (hp : IsRun pstep pr) {π : P → S}
include hp

theorem proj (hπ : ∀ p e p', pstep p e = .ok p' → step (π p) e = .ok (π p'))
    {p p' : P} {evs : List E} (hr : pr p evs = .ok p') : r (π p) evs = .ok (π p') := by
  induction evs generalizing p with
  | nil => rw [hp.nil] at hr; cases hr; exact h.nil _
  | cons e es ih =>
    obtain ⟨p1, hs, hr⟩ := hp.of_cons hr
    rw [h.cons_ok (hπ _ _ _ hs)]; exact ih hr

/-- The decoration never blocks. -/
theorem lift (hπ : ∀ p e s', step (π p) e = .ok s' → ∃ p', pstep p e = .ok p' ∧ π p' = s')
    {p : P} {s' : S} {evs : List E} (hr : r (π p) evs = .ok s') : ∃ p', pr p evs = .ok p' ∧ π p' = s' := by
  induction evs generalizing p with
  | nil => rw [h.nil] at hr; cases hr; exact ⟨p, hp.nil _, rfl⟩
  | cons e es ih =>
    obtain ⟨s1, hs, hr⟩ := h.of_cons hr
    obtain ⟨p1, hs1, rfl⟩ := hπ _ _ _ hs
    obtain ⟨p', h1, h2⟩ := ih hr
    exact ⟨p', by rw [hp.cons_ok hs1]; exact h1, h2⟩

omit h in
/-- A component that every accepted product step advances by a total function `g` is the fold of `g`. -/
theorem fold {κ : P → C} {g : C → E → C} (hκ : ∀ p e p', pstep p e = .ok p' → κ p' = g (κ p) e)
    {p p' : P} {evs : List E} (hr : pr p evs = .ok p') : κ p' = evs.foldl g (κ p) := by
  induction evs generalizing p with
  | nil => rw [hp.nil] at hr; cases hr; rfl
  | cons e es ih =>
    obtain ⟨p1, hs, hr⟩ := hp.of_cons hr
    rw [ih hr, hκ _ _ _ hs]; rfl

end IsRun

/-- One pass over an event list that tests `P i` on the state after the first `i` events, for every `i`. -/
def scan {S E : Type} (step : S → E → Except String S) (P : Nat → S → Bool) : Nat → S → List E → Bool
  | i, s, [] => P i s
  | i, s, e :: es => P i s && match step s e with
    | .ok s' => scan step P (i + 1) s' es
    | .error _ => false

theorem IsRun.scan_take {S E : Type} {step : S → E → Except String S} {r : S → List E → Except String S}
    (h : IsRun step r) {P : Nat → S → Bool} {evs : List E} {s : S} {n : Nat}
    (hc : scan step P n s evs = true) (i : Nat) (hi : i ≤ evs.length) :
    ∃ s', r s (evs.take i) = .ok s' ∧ P (n + i) s' = true := by
  induction evs generalizing s n i with
  | nil =>
    have : i = 0 := by simpa using hi
    subst this; exact ⟨s, h.nil s, by simpa [scan] using hc⟩
  | cons e es ih =>
    simp only [scan, Bool.and_eq_true] at hc
    cases i with
    | zero => exact ⟨s, h.nil s, hc.1⟩
    | succ i =>
      cases hs : step s e with
      | error m => rw [hs] at hc; cases hc.2
      | ok s1 =>
        rw [hs] at hc
        obtain ⟨s', h1, h2⟩ := ih hc.2 i (by simpa using hi)
        exact ⟨s', by rw [List.take_succ_cons, h.cons_ok hs]; exact h1, by rw [← h2]; congr 1; omega⟩

end NsyncVerif
