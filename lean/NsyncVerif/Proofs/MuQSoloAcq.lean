import NsyncVerif.Proofs.MuQSolo
/-
  MuQ, solo progress of the acquiring operations: every accepted own step of a thread inside
  lock / rlock / trylock / rtrylock / lock_slow, taken in a state in which the spinlock is free or
  its own, returns or decreases `acqRank`.
-/
namespace NsyncVerif.MuQ

/-- A step from `p` to `p'` that leaves count and `waiting` flag of every record alone: what is
    left to check speaks of the two program points only. -/
theorem AcqNext.of_pc {M : Nat} {s s' : State} {t : Tid} {p p' : PC} (hp : s.pc t = p) (hp' : s'.pc t = p')
    (hacq : acqPc p' = true) (hsp : s'.sp = none ∨ s'.sp = some t)
    (hwr : ∀ k, (s'.wr k).sem = (s.wr k).sem ∧ (s'.wr k).waiting = (s.wr k).waiting)
    (hpost : postSL p' = none ∨ postSL p' = postSL p)
    (hloc : acqLoc s'.word (waitingOf s.wr (slRec p')) p' < acqLoc s.word (waitingOf s.wr (slRec p)) p)
    (hsem : semPart M s'.wr p' ≤ semPart M s.wr p) : AcqNext M s t s' := by
  have hwt : waitingOf s'.wr (slRec p') = waitingOf s.wr (slRec p') := by
    cases slRec p' with
    | none => rfl
    | some k => exact (hwr k).2
  have hown : ownPart s' t < ownPart s t := by
    unfold ownPart; rw [hp, hp', hwt]; exact hloc
  refine ⟨hp' ▸ hacq, hsp, ?_, .inl hown, fun hM => ⟨fun k => (hwr k).1 ▸ hM k, by rw [hp, hp']; exact hsem⟩⟩
  rintro ⟨c, k, hc, hk, hw⟩
  rw [hp'] at hc
  rcases hpost with h | h
  · rw [h] at hc; cases hc
  · exact .inl ⟨c, k, by rw [hp, ← h]; exact hc, hk, (hwr k).2 ▸ hw⟩

/-- One own step of an acquiring thread, spinlock free or its own: it returns, or `AcqNext`. -/
theorem acq_own {cfg : Cfg} {M : Nat} {s s' : State} {t : Tid} {e : Event}
    (hr : Reachable cfg s) (hpc : acqPc (s.pc t) = true) (hsp : s.sp = none ∨ s.sp = some t)
    (ht : TStep cfg s t (s.pc t) e s') : s'.pc t = .idle ∨ AcqNext M s t s' := by
  have inv := reachable_inv hr
  have hspin := spin_clear_of_free hr hsp
  have hrel : ∀ c, role (s.pc t) = .slow c .rel → waitingOf s.wr c.w = true := by
    intro c hc
    obtain ⟨k, hk1, hk2⟩ := inv.queue.relq t c hc
    rw [hk1]; exact (inv.queue.inq k hk2).1
  generalize hp : s.pc t = p at ht hpc hspin hrel
  -- only the program point moves
  have mv : ∀ p', acqPc p' = true → (postSL p' = none ∨ postSL p' = postSL p) →
      acqLoc s.word (waitingOf s.wr (slRec p')) p' < acqLoc s.word (waitingOf s.wr (slRec p)) p →
      semPart M s.wr p' ≤ semPart M s.wr p → AcqNext M s t (setPc s t p') :=
    fun _ a b c d => .of_pc hp (setFn_same _ _ _) a hsp (fun _ => ⟨rfl, rfl⟩) b c d
  cases ht <;> try (cases hpc; done)
  case retLock | retRlock | retTry | retRtry => exact .inl (setFn_same _ _ _)
  all_goals right
  case lsLdSpin hs => rw [hspin rfl] at hs; cases hs
  case pEnter c k hw =>
    refine mv _ rfl (.inr rfl) ?_ (Nat.le_refl _)
    cases hwt : (s.wr k).waiting <;> simp only [acqLoc, slRec, waitingOf, hw, hwt] <;> decide
  -- a successful CAS that acquires: to a return point, where no record counts any more
  case lkCas0 | lkCas1 =>
    exact .of_pc (p' := .lkRet _) hp (by rw [addShare_pc]; exact setFn_same _ _ _) rfl (by rw [addShare_sp]; exact hsp)
      (fun _ => by rw [addShare_wr]; exact ⟨rfl, rfl⟩) (.inl rfl) (by simp only [acqLoc]; decide) (Nat.zero_le _)
  case tryCas0 | tryCas1 =>
    exact .of_pc (p' := .tryRet _ _) hp (by rw [addShare_pc]; exact setFn_same _ _ _) rfl (by rw [addShare_sp]; exact hsp)
      (fun _ => by rw [addShare_wr]; exact ⟨rfl, rfl⟩) (.inl rfl) (by simp only [acqLoc]; decide) (Nat.zero_le _)
  case lsCasAcq c old hw =>
    exact .of_pc (p' := .lkRet _) hp (by rw [addShare_pc, dropW_pc]; exact setFn_same _ _ _) rfl
      (by rw [addShare_sp, dropW_sp]; exact hsp) (fun k => by rw [addShare_wr]; exact ⟨dropW_sem _ _ k, dropW_waiting _ _ k⟩)
      (.inl rfl) (by simp only [acqLoc, if_pos hw]; decide) (Nat.zero_le _)
  case lsCasEnq c old hw =>
    exact .of_pc hp (setFn_same _ _ _) rfl (.inr rfl) (fun _ => ⟨rfl, rfl⟩) (.inl rfl) (by simp only [acqLoc, if_pos hw]; decide) (Nat.le_refl _)
  case lsRelCas c old hw =>
    exact .of_pc hp (setFn_same _ _ _) rfl (.inl rfl) (fun _ => ⟨rfl, rfl⟩) (.inr rfl)
      (by simp only [acqLoc, slRec, hrel c rfl, if_pos hw, if_true]; decide) (Nat.le_refl _)
  -- the enqueue store and the return of P write the thread's record
  case lsStAdopt c k hw _ _ _ | lsStRequeue c k hw _ =>
    refine ⟨congrArg acqPc (setFn_same _ _ _), hsp, fun _ => .inr ⟨c, hp⟩, .inl ?_, fun hM => ⟨fun k' => ?_, ?_⟩⟩
    · simp only [ownPart, hp, setPc, setFn_same, acqLoc]; decide
    · simp only [setFn]; split
      · exact hM k
      · exact hM k'
    · simp only [hp, setPc, setFn_same, semPart, acqPc, slRec, semOf, hw, if_true]
      first | exact hM k | exact Nat.le_refl _
  case pRet c k hw hs =>
    have h1 : (if cfg.binary = true then 0 else (s.wr k).sem - 1) + 1 ≤ (s.wr k).sem := by split <;> omega
    refine ⟨congrArg acqPc (setFn_same _ _ _), hsp, ?_, ?_, fun hM => ⟨fun k' => ?_, ?_⟩⟩
    · rintro ⟨c', k', hc, hk, hwt⟩
      simp only [setPc, setFn_same, postSL, Option.some.injEq] at hc
      subst hc; rw [hw] at hk; cases hk
      exact .inl ⟨_, k, by rw [hp]; rfl, hw, by simpa only [setFn_same] using hwt⟩
    · cases hwt : (s.wr k).waiting
      · left; simp only [ownPart, hp, setPc, setFn_same, acqLoc, slRec, waitingOf, hw, hwt]; decide
      · refine .inr ⟨⟨c, k, by rw [hp]; rfl, hw, hwt⟩,
          by simp only [ownPart, hp, setPc, setFn_same, acqLoc, slRec, waitingOf, hw, hwt, if_true], ?_⟩
        simp only [hp, setPc, setFn_same, semPart, acqPc, slRec, semOf, hw, if_true]; omega
    · simp only [setFn]; split
      · have := hM k; show (if cfg.binary = true then 0 else (s.wr k).sem - 1) ≤ M; omega
      · exact hM k'
    · simp only [hp, setPc, setFn_same, semPart, acqPc, slRec, semOf, hw, if_true]; omega
  -- loads, failed CASes: only the program point moves, and the tables decide
  all_goals exact mv _ rfl (by simp [postSL]) (by simp [acqLoc, slRec, waitingOf, *]) (by simp [semPart, acqPc, slRec, SL.entry, SL.woken])

/-- One own step of an acquiring thread run alone: it returns, or `acqRank` goes down. -/
theorem solo_acq_step {cfg : Cfg} {M : Nat} {s s' : State} {t : Tid} {e : Event}
    (hr : Reachable cfg s) (hM : ∀ k, (s.wr k).sem ≤ M) (hpc : acqPc (s.pc t) = true)
    (hsp : s.sp = none ∨ s.sp = some t) (he : e.tid = some t)
    (h : step cfg s e = .ok s') :
    s'.pc t = .idle ∨ ((∀ k, (s'.wr k).sem ≤ M) ∧ acqPc (s'.pc t) = true ∧ (s'.sp = none ∨ s'.sp = some t) ∧
      acqRank M s' t < acqRank M s t) :=
  (acq_own hr hpc hsp (tstep_of_step h he)).imp_right fun n => ⟨(n.env hM).1, n.pc, n.sp, n.rank_lt hM⟩

/-- An accepted run of own events of an acquiring thread that is longer than the rank passes
    through a state in which the thread has returned. -/
theorem solo_acq_run {cfg : Cfg} {M : Nat} {t : Tid} : ∀ (evs : List Event) (s s' : State),
    Reachable cfg s → (∀ k, (s.wr k).sem ≤ M) → acqPc (s.pc t) = true → (s.sp = none ∨ s.sp = some t) →
    (∀ e ∈ evs, e.tid = some t) → run cfg s evs = .ok s' → acqRank M s t < evs.length →
    ∃ n, n ≤ evs.length ∧ ∃ s1, run cfg s (evs.take n) = .ok s1 ∧ s1.pc t = .idle := by
  intro evs
  induction evs with
  | nil => intro s s' _ _ _ _ _ _ hlt; simp at hlt
  | cons e es ih =>
    intro s s' hr hM hpc hsp hown hrun hlt
    obtain ⟨s1, hs1, hrun⟩ := (isRun cfg).of_cons hrun
    rcases solo_acq_step hr hM hpc hsp (hown e (by simp)) hs1 with hidle | ⟨hM', hpc', hsp', hrk⟩
    · exact ⟨1, by simp, s1, by simp [run, hs1], hidle⟩
    · obtain ⟨n, hn, s2, hrun2, hid⟩ := ih s1 s' (reachable_step hr hs1) hM' hpc' hsp'
        (fun e' he' => hown e' (by simp [he'])) hrun (by simp at hlt; omega)
      exact ⟨n + 1, by simp; omega, s2, by simp [run, hs1, hrun2], hid⟩

end NsyncVerif.MuQ
