import NsyncVerif.Proofs.MuCFairRegions
import NsyncVerif.Proofs.MuCFairTrace
/-
  MuC, fair termination, the stage: 3 inside an acquisition (lock / rlock / trylock / rtrylock /
  nsync_mu_wait_with_deadline), 2 idle holding the mutex, 1 inside a release, 0 idle holding nothing.  Only the `call`
  of an acquisition raises it, so after the last arrival every stage freezes, not at 2 (`HoldersRelease`), and the
  system closes (`ClosedFrom`): no `call`, no `ret`, nobody holds between calls, constant data; a thread whose stage
  has frozen is never again at a point of no return.
-/
namespace NsyncVerif.MuC

variable {cfg : Cfg} {s0 : State}

/-- Every accepted step of thread `t` that is neither a `call`, nor a `ret`, nor a client data access keeps `t` inside
    its call. -/
theorem kind_step {cfg : Cfg} {s s' : State} {e : Event} {t : Tid} (h1 : Inv1 s) (hs : step cfg s e = .ok s')
    (ht : e.tid = some t) (hapi : e.isApi = false) (hd : e.isData = false) : KindKeep (s.pc t) (s'.pc t) :=
  (step_all h1 hs ht hd).kind.resolve_left (by rw [hapi]; exact Bool.noConfusion)

/-! ### the stage -/

def stagePc (held : Option Mode) (p : PC) : Nat :=
  if p = .idle then (if held.isSome then 2 else 0) else if p.rel then 1 else 3

/-- 3 inside an acquisition, 2 idle holding the mutex, 1 inside a release, 0 idle holding nothing. -/
def stage (s : State) (t : Tid) : Nat := stagePc (s.held t) (s.pc t)

theorem stage_le_three (s : State) (t : Tid) : stage s t ≤ 3 := by
  unfold stage stagePc; split <;> split <;> omega

theorem stage_busy {s : State} {t : Tid} (h : s.pc t ≠ .idle) : stage s t = 1 ∨ stage s t = 3 := by
  unfold stage stagePc; rw [if_neg h]; split <;> simp

theorem stage_idle {s : State} {t : Tid} (h : s.pc t = .idle) : stage s t = if (s.held t).isSome then 2 else 0 := by
  unfold stage stagePc; rw [if_pos h]

theorem stage_two {s : State} {t : Tid} (h : stage s t = 2) : s.pc t = .idle ∧ s.held t ≠ none := by
  by_cases hi : s.pc t = .idle
  · refine ⟨hi, fun e => ?_⟩
    rw [stage_idle hi, e] at h; cases h
  · rcases stage_busy hi with a | a <;> omega

/-- No accepted step of anybody (environment included) increases anybody's stage, except the `call` of an
    acquisition (lock / rlock / trylock / rtrylock / nsync_mu_wait_with_deadline): a release call takes a holder from
    2 to 1, a return from 1 or 3 to 0 or 2 — to 0 after a release —, every other step of a thread stays inside its
    call (`kind_step`). -/
theorem stage_step {s s' : State} {e : Event} (hr : Reachable cfg s) (hs : step cfg s e = .ok s')
    (hna : e.isArrival = false) (u : Tid) : stage s' u ≤ stage s u := by
  have h1 := reachable_inv1 hr
  by_cases hu : e.tid = some u
  · cases hd : e.isData
    case true =>
      obtain ⟨a, b⟩ := data_step_frame hs hd
      unfold stage; rw [a, b]; exact Nat.le_refl _
    cases hapi : e.isApi
    case false =>
      obtain ⟨a, b, c⟩ := kind_step h1 hs hu hapi hd
      simp [stage, stagePc, a, b, c]
    cases e <;> cases hapi <;> cases hu
    · obtain ⟨a, b, c⟩ := stepCall_stage hs
      obtain ⟨c1, c2⟩ := c hna
      simp [stage, stagePc, a, b, c2, Option.isSome_iff_ne_none.mpr c1]
    · obtain ⟨a, b, c⟩ := stepRet_stage hs
      have hheld := h1.held_none a
      cases hrel : (s.pc u).rel
      · simp [stage, stagePc, a, b, hrel]; split <;> omega
      · simp [stage, stagePc, a, b, hrel, c hrel, hheld]
  · obtain ⟨a, b⟩ := step_other hs u hu
    unfold stage; rw [a, b]; exact Nat.le_refl _

/-! ### along an execution -/

def NoArrivals (x : Exec cfg s0) (n0 : Nat) : Prop := ∀ j e, n0 ≤ j → x.σ j = some e → e.isArrival = false

theorem stage_mono (x : Exec cfg s0) (hr : Reachable cfg s0) {n0 : Nat} (hna : NoArrivals x n0) (t : Tid) (j : Nat)
    (hj : n0 ≤ j) : stage (x.ρ (j + 1)) t ≤ stage (x.ρ j) t :=
  x.next_rel (r := fun a b => stage b t ≤ stage a t) j (Nat.le_refl _)
    (fun e he hs => stage_step (x.reach hr j) hs (hna j e hj he) t)

theorem stage_mono_le (x : Exec cfg s0) (hr : Reachable cfg s0) {n0 : Nat} (hna : NoArrivals x n0) (t : Tid) {i j : Nat}
    (hi : n0 ≤ i) (hij : i ≤ j) : stage (x.ρ j) t ≤ stage (x.ρ i) t :=
  Sched.mono_from (f := fun j => stage (x.ρ j) t) (fun j hj => stage_mono x hr hna t j (by omega)) j hij

/-- Step A: after the last arrival every thread's stage freezes. -/
theorem stage_freezes (x : Exec cfg s0) (hr : Reachable cfg s0) {n0 : Nat} (hna : NoArrivals x n0) (t : Tid) :
    ∃ n, n0 ≤ n ∧ ∀ j, n ≤ j → stage (x.ρ j) t = stage (x.ρ n) t :=
  Sched.mono_stabilizes (fun j => stage (x.ρ j) t) (fun j hj => stage_mono x hr hna t j hj)

/-- … and not at 2: a thread that idles holding the mutex makes a call, and is inside it afterwards. -/
theorem frozen_not_two (x : Exec cfg s0) (hh : HoldersRelease x) (t : Tid) {n : Nat}
    (hfr : ∀ j, n ≤ j → stage (x.ρ j) t = stage (x.ρ n) t) : stage (x.ρ n) t ≠ 2 := by
  intro h2
  obtain ⟨j, a, hj, hσ⟩ := hh t n (stage_two h2).2
  have := stage_busy (stepCall_stage (x.next_some hσ)).2.1
  have := hfr (j + 1) (by omega)
  omega

/-- Step B: a thread whose stage has frozen is never again at a point of no return: it would become idle, and a
    thread inside a call that becomes idle changes its stage. -/
theorem frozen_no_return_point (x : Exec cfg s0) (hf : WeakFair x) (t : Tid) {n : Nat}
    (hfr : ∀ j, n ≤ j → stage (x.ρ j) t = stage (x.ρ n) t) (j : Nat) (hj : n ≤ j) :
    ¬ retPc ((x.ρ j).pc t) ∧ ¬ tryPc ((x.ρ j).pc t) ∧ ∀ l nw, ¬ wakePc (.ul l nw) ((x.ρ j).pc t) := by
  have key : (x.ρ j).pc t ≠ .idle → (∃ j', j ≤ j' ∧ (x.ρ j').pc t = .idle) → False := by
    intro hni ⟨j', hjj, hi⟩
    have e1 := hfr j hj
    have e2 := hfr j' (by omega)
    have h02 := stage_idle hi
    rcases stage_busy hni with a | a <;> split at h02 <;> omega
  refine ⟨fun h => ?_, fun h => ?_, fun l nw h => ?_⟩
  · exact key (awake_ne (retPc_awake h)).1 (fair_ret x hf t j h)
  · exact key (awake_ne (tryPc_awake h)).1 (fair_trylock x hf t j h)
  · exact key (awake_ne (wakePc_awake h)).1 (fair_past_release x hf t l nw j h)

/-! ### all threads at once: the system closes -/

/-- Every thread with a number `≥ T` is idle and holds nothing. -/
def BoundedBy (s : State) (T : Nat) : Prop := ∀ t, T ≤ t → s.pc t = .idle ∧ s.held t = none

theorem bounded_step {s s' : State} {e : Event} {T : Nat} (h : BoundedBy s T) (hs : step cfg s e = .ok s') :
    BoundedBy s' (max T (e.tid.getD 0 + 1)) := by
  intro t ht
  have hne : e.tid ≠ some t := by
    intro he; rw [he] at ht; simp at ht; omega
  obtain ⟨a, b⟩ := step_other hs t hne
  rw [a, b]; exact h t (by omega)

theorem reachable_bounded {s : State} (h : Reachable cfg s) : ∃ T, BoundedBy s T :=
  reachable_induction (P := fun s => ∃ T, BoundedBy s T) ⟨0, fun _ _ => ⟨rfl, rfl⟩⟩
    (fun _ _ _ _ ⟨_, hT⟩ hs => ⟨_, bounded_step hT hs⟩) s h

/-- A thread that is idle holding nothing stays so, unless an acquisition call arrives. -/
theorem idle_nothing_step {s s' : State} {e : Event} {t : Tid} (hs : step cfg s e = .ok s') (hna : e.isArrival = false)
    (hp : s.pc t = .idle) (hh : s.held t = none) : s'.pc t = .idle ∧ s'.held t = none := by
  by_cases he : e.tid = some t
  · obtain ⟨a, b⟩ := idle_step_frame hs he hp (fun a ha => by subst ha; exact ((stepCall_stage hs).2.2 hna).1 hh)
    exact ⟨a.trans hp, b.trans hh⟩
  · obtain ⟨a, b⟩ := step_other hs t he
    exact ⟨a.trans hp, b.trans hh⟩

theorem bounded_stays (x : Exec cfg s0) {n0 : Nat} (hna : NoArrivals x n0) {T : Nat} (hT : BoundedBy (x.ρ n0) T) :
    ∀ j, n0 ≤ j → BoundedBy (x.ρ j) T :=
  Sched.keeps_from hT (fun j hj ih => x.next_rel (r := fun _ b => BoundedBy b T) j ih
    (fun e he hs t ht => idle_nothing_step hs (hna j e hj he) (ih t ht).1 (ih t ht).2))

theorem data_const_step {s s' : State} {e : Event} (h1 : Inv1 s) (hs : step cfg s e = .ok s')
    (hh : ∀ t, s.held t = none) : s'.data = s.data := by
  by_cases hw : ∃ t x v, e = .dataW t x v
  · obtain ⟨t, x, v, rfl⟩ := hw
    simp [step, hh] at hs
  · exact data_step h1 hs (fun t x v he => hw ⟨t, x, v, he⟩)

structure ClosedFrom (x : Exec cfg s0) (n : Nat) : Prop where
  /-- every thread's stage is constant … -/
  frozen : ∀ t j, n ≤ j → stage (x.ρ j) t = stage (x.ρ n) t
  /-- … and is 0 (idle holding nothing), 1 (inside a release) or 3 (inside an acquisition) -/
  not_two : ∀ t, stage (x.ρ n) t ≠ 2
  /-- no `call`, no `ret` -/
  no_api : ∀ j e, n ≤ j → x.σ j = some e → e.isApi = false
  /-- nobody holds the mutex between calls -/
  held : ∀ t j, n ≤ j → (x.ρ j).held t = none
  /-- the protected data are constant -/
  data : ∀ j, n ≤ j → (x.ρ j).data = (x.ρ n).data

theorem stage_two_iff {s : State} {t : Tid} (h1 : Inv1 s) : stage s t = 2 ↔ s.held t ≠ none :=
  ⟨fun h => (stage_two h).2, fun h => by
    rw [stage_idle (h1.hidle t h)]
    cases hh : s.held t with
    | none => exact absurd hh h
    | some m => rfl⟩

/-- Steps A + B for all threads: after the last arrival the system closes. -/
theorem closes (x : Exec cfg s0) (hr : Reachable cfg s0) (hh : HoldersRelease x) {n0 : Nat} (hna : NoArrivals x n0) :
    ∃ n, n0 ≤ n ∧ ClosedFrom x n := by
  obtain ⟨T, hT⟩ := reachable_bounded (x.reach hr n0)
  -- the threads below `T` freeze one after the other, the others never leave `idle`
  obtain ⟨n, hn, hfr⟩ := Sched.eventually_list (P := fun t j => stage (x.ρ (j + 1)) t = stage (x.ρ j) t) n0 (List.range T)
    (fun t _ => by
      obtain ⟨m, hm, hc⟩ := stage_freezes x hr hna t
      exact ⟨m, hm, fun j hj => by rw [hc j hj, hc (j + 1) (by omega)]⟩)
  have hstep : ∀ t j, n ≤ j → stage (x.ρ (j + 1)) t = stage (x.ρ j) t := by
    intro t j hj
    by_cases ht : t < T
    · exact hfr t (List.mem_range.mpr ht) j hj
    · have b1 := bounded_stays x hna hT (j + 1) (by omega) t (Nat.le_of_not_lt ht)
      have b0 := bounded_stays x hna hT j (by omega) t (Nat.le_of_not_lt ht)
      simp [stage, stagePc, b0.1, b0.2, b1.1, b1.2]
  have hfrozen : ∀ t j, n ≤ j → stage (x.ρ j) t = stage (x.ρ n) t := fun t =>
    Sched.keeps_from (P := fun j => stage (x.ρ j) t = stage (x.ρ n) t) rfl (fun j hj ih => (hstep t j hj).trans ih)
  have hnot2 : ∀ t, stage (x.ρ n) t ≠ 2 := fun t => frozen_not_two x hh t (hfrozen t)
  have hheld : ∀ t j, n ≤ j → (x.ρ j).held t = none := by
    intro t j hj
    apply Classical.byContradiction
    intro hne
    have := (stage_two_iff (reachable_inv1 (x.reach hr j))).2 hne
    rw [hfrozen t j hj] at this
    exact hnot2 t this
  refine ⟨n, hn, hfrozen, hnot2, ?_, hheld, ?_⟩
  · -- a `call` or a `ret` changes the stage of its thread
    intro j e hj he
    cases hapi : e.isApi with
    | false => rfl
    | true =>
      exfalso
      have hs := x.next_some he
      cases e <;> cases hapi
      · -- a call: a release by a holder, but nobody holds
        rename_i t a
        exact ((stepCall_stage hs).2.2 (hna j _ (by omega) he)).1 (hheld t j hj)
      · -- a return: the thread is idle afterwards, it was not before
        rename_i t a res
        obtain ⟨hni, hi', _⟩ := stepRet_stage hs
        have e1 := hstep t j hj
        have h02 := stage_idle hi'
        rcases stage_busy hni with a | a <;> split at h02 <;> omega
  · -- data are written only by a holder
    exact Sched.keeps_from (P := fun j => (x.ρ j).data = (x.ρ n).data) rfl (fun j hj ih =>
      (x.next_rel (r := fun a b => b.data = a.data) j rfl (fun e _ hs =>
        data_const_step (reachable_inv1 (x.reach hr j)) hs (fun t => hheld t j hj))).trans ih)

/-! ### first consequences of closedness -/

/-- In the closed system nobody is at a return point, inside a try-lock, or in the wake-up loop of a release. -/
theorem closed_prunes (x : Exec cfg s0) (hf : WeakFair x) {n : Nat} (hc : ClosedFrom x n) (t : Tid) (j : Nat) (hj : n ≤ j) :
    ¬ retPc ((x.ρ j).pc t) ∧ ¬ tryPc ((x.ρ j).pc t) ∧ ∀ l nw, ¬ wakePc (.ul l nw) ((x.ρ j).pc t) :=
  frozen_no_return_point x hf t (fun j hj => hc.frozen t j hj) j hj

/-- In the closed system every evaluation of a condition inside nsync_mu_wait (mu_wait.c:182, 281) yields false, and
    the call goes on waiting (it has neither timed out nor been cancelled). -/
theorem closed_eval_false (x : Exec cfg s0) (hf : WeakFair x) {n : Nat} (hc : ClosedFrom x n) {t : Tid} {j : Nat}
    (hj : n ≤ j) {c : MW} (hp : (x.ρ j).pc t = .mwEval c) {e : Event} (he : x.σ j = some e) (ht : e.tid = some t)
    (hd : e.isData = false) : ∃ fn k, e = .cond t fn k false ∧ (x.ρ (j + 1)).pc t = .mwStW c := by
  obtain ⟨fn, k, res, rfl, hp'⟩ := own_mwEval (x.next_some he) ht hd hp
  have hnr := (closed_prunes x hf hc t (j + 1) (by omega)).1
  rw [hp'] at hnr
  unfold loopPc at hnr hp'
  split at hnr
  · rename_i h
    rw [if_pos h] at hp'
    exact ⟨fn, k, by rw [h.2], hp'⟩
  · exact absurd trivial hnr

end NsyncVerif.MuC
