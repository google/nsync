/-
  Proofs/CounterFairLasso.lean — Counter layer: lassos (a finite accepted trace, then a loop repeated
  for ever) as executions; used by the necessity witnesses of `Props/C10Fair.lean`.
-/
import NsyncVerif.Proofs.CounterFairTrace

namespace Counter
open NsyncVerif

/-- The state after `evs` from `s` (`s` itself if the events are not accepted). -/
def stateFrom (s : State) (evs : List Event) : State :=
  match run s evs with
  | .ok s' => s'
  | .error _ => s

theorem stateFrom_eq (s : State) (evs : List Event) : stateFrom s evs = Lasso.after run s evs := by
  unfold stateFrom Lasso.after; cases run s evs <;> rfl

theorem stateFrom_ok {s sf : State} {evs : List Event} (h : run s evs = .ok sf) (i : Nat) :
    run s (evs.take i) = .ok (stateFrom s (evs.take i)) := by
  rw [stateFrom_eq]; exact Lasso.after_take isRun h i

/-- A lasso: `evs`, then `loop` repeated for ever, where `loop` takes the state `sf` reached by `evs`
    back to `sf`. -/
def lassoExec (evs loop : List Event) (sf : State)
    (h : run init evs = .ok sf) (hl : run sf loop = .ok sf) (hp : 0 < loop.length) : Exec init :=
  { ρ := fun i => if i < evs.length then stateAt evs i
                  else stateFrom sf (loop.take ((i - evs.length) % loop.length))
    σ := fun i => if i < evs.length then evs[i]? else loop[(i - evs.length) % loop.length]?
    start := by
      have _ := hl
      simp only [stateAt_eq, stateFrom_eq]; exact Lasso.start isRun h
    next := by
      intro i
      obtain ⟨e, he, hs⟩ := Lasso.next isRun h hl hp i
      have he' : (if i < evs.length then evs[i]? else loop[(i - evs.length) % loop.length]?) = some e := he
      simp only [he', stateAt_eq, stateFrom_eq]; exact hs }

theorem lasso_pos {evs loop : List Event} {sf : State}
    (h : run init evs = .ok sf) (hl : run sf loop = .ok sf) (hp : 0 < loop.length) (m : Nat) {r : Nat}
    (hr : r < loop.length) :
    (lassoExec evs loop sf h hl hp).ρ (evs.length + loop.length * m + r) = stateFrom sf (loop.take r) ∧
    (lassoExec evs loop sf h hl hp).σ (evs.length + loop.length * m + r) = loop[r]? := by
  have := Lasso.pos (r := run) (s0 := init) (sf := sf) (pre := evs) m hr
  simpa only [lassoExec, Lasso.ρ, Lasso.σ, stateAt_eq, stateFrom_eq] using this

theorem stateFrom_nil (s : State) : stateFrom s (([] : List Event)) = s := by simp [stateFrom, run]

/-- weak fairness of a lasso: every thread, at some position of the loop, is idle, is blocked, or
    moves -/
theorem lasso_weakFair {evs loop : List Event} {sf : State}
    (h : run init evs = .ok sf) (hl : run sf loop = .ok sf) (hp : 0 < loop.length)
    (hc : ∀ t, ∃ r, r < loop.length ∧ ((stateFrom sf (loop.take r)).pc t = .idle
        ∨ Blocked (stateFrom sf (loop.take r)) t
        ∨ (stateFrom sf (loop.take ((r + 1) % loop.length))).pc t ≠ (stateFrom sf (loop.take r)).pc t)) :
    WeakFair (lassoExec evs loop sf h hl hp) := by
  intro t i hyp
  obtain ⟨r, hr, hcase⟩ := hc t
  have hge : i ≤ evs.length + loop.length * i + r := Lasso.recurs hp i r
  have hρ := (lasso_pos h hl hp i hr).1
  rcases hcase with h1 | h1 | h1
  · exact absurd (by rw [hρ]; exact h1) (hyp _ hge).1
  · exact absurd (by rw [hρ]; exact h1) (hyp _ hge).2
  · refine ⟨evs.length + loop.length * i + r, hge, ?_⟩
    unfold Moves
    rw [hρ]
    have := Lasso.pos_succ (r := run) (s0 := init) (sf := sf) (pre := evs) hp i hr
    simp only [← stateFrom_eq] at this
    have e : (lassoExec evs loop sf h hl hp).ρ (evs.length + loop.length * i + r + 1) =
        stateFrom sf (loop.take ((r + 1) % loop.length)) := by
      rw [← this]; simp only [lassoExec, Lasso.ρ, stateAt_eq, stateFrom_eq]
    rw [e]; exact h1

theorem idle_of_bound {evs : List Event} {s sf : State} (hr : Reachable s) (h : run s evs = .ok sf) (B : Nat)
    (hb : evs.all (fun e => match e.tidOf with | some u => decide (u < B) | none => true) = true)
    {t : Tid} (ht : ¬ t < B) : sf.pc t = s.pc t := by
  have hne : ∀ e ∈ evs, e.tidOf ≠ some t := by
    intro e he htid
    simp only [List.all_eq_true] at hb
    have := hb e he
    rw [htid] at this
    exact ht (by simpa using this)
  exact run_untouched evs s sf hr hne h

/-- in a lasso, a thread that occurs neither in the stem nor in the loop is idle at every loop position -/
theorem lasso_idle {evs loop : List Event} {sf : State} (h : run init evs = .ok sf)
    (hl : run sf loop = .ok sf) (B : Nat)
    (hb1 : evs.all (fun e => match e.tidOf with | some u => decide (u < B) | none => true) = true)
    (hb2 : loop.all (fun e => match e.tidOf with | some u => decide (u < B) | none => true) = true)
    {t : Tid} (ht : ¬ t < B) (r : Nat) : (stateFrom sf (loop.take r)).pc t = .idle := by
  have h1 : sf.pc t = .idle := idle_of_bound reachable_init h B hb1 ht
  have h2 := idle_of_bound (s := sf) ⟨evs, h⟩ (stateFrom_ok hl r) B (by
    simp only [List.all_eq_true] at hb2 ⊢
    exact fun e he => hb2 e (List.mem_of_mem_take he)) ht
  rw [h2, h1]

end Counter
