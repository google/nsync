/-
  Layer `Note`, invariant family X: `nsync_note_expiry` is the minimum of the deadlines on the path
  to the root (ghost `pathMin`), for every note `nsync_note_new` has returned — born notified or not
  (the code after the repair of F5).
-/
import NsyncVerif.Proofs.NoteInvS


namespace Note

/-- The ghost minimum of a note being created, given its intended parent. -/
def NewX (s : State) (n : NoteId) (par : Option NoteId) (dl : Dl) : Prop :=
  s.pathMin n = s.minOf dl par ∧
  ∀ p, par = some p → s.published p = true ∧ (s.notes p).allocated = true

def DKX (s : State) (n : NoteId) : DK → Prop
  | .newSelf par dl => NewX s n par dl
  | _ => True

def NKX (s : State) (n : NoteId) : NK → Prop
  | .ofApi => True
  | .ofDeadline dk => DKX s n dk

/-- `nsync_note_new` is done with the expiry time. -/
def DoneX (s : State) (n : NoteId) : Prop :=
  (s.notes n).expiry = s.pathMin n

def XClaim (s : State) : PC → Prop
  | .newMalloc par _ => ∀ p, par = some p → s.published p = true ∧ (s.notes p).allocated = true
  | .dl _ n _ dk => DKX s n dk
  | .nfy _ n _ nk => NKX s n nk
  | .chd _ _ top => NKX s top.n top.k
  | .newP _ n _ _ => DoneX s n
  | .retNew n _ => DoneX s n
  | .retExpiry n => s.published n = true
  | _ => True

structure InvX (s : State) : Prop where
  claim : ∀ t, XClaim s (s.pc t)
  min : ∀ n, s.published n = true → (s.notes n).expiry = s.pathMin n

theorem InvX.init : InvX Note.init := by
  refine ⟨?_, ?_⟩ <;> simp [Note.init, XClaim]

/-- `bornNotified` of the note a thread is creating is not changed by other threads. -/
theorem born_other {s s' : State} {e : Event} (hA : InvA s) (hs : step s e = .ok s')
    {t : Tid} {n : NoteId} (hc : (s.pc t).creating = some n) (ht : e.actor ≠ some t) :
    s'.bornNotified n = s.bornNotified n := by
  rcases step_born hs with h | ⟨a, m, ha, hca, h⟩
  · rw [h]
  · rw [h, upd_apply]
    split
    · next hnm =>
      subst hnm
      have := hA.unique t a n hc hca
      subst this
      exact absurd ha ht
    · rfl

theorem NewX.other {s s' : State} {e : Event} (hA : InvA s) (hs : step s e = .ok s')
    {t : Tid} {n : NoteId} {par : Option NoteId} {dl : Dl}
    (hc : (s.pc t).creating = some n) (h : NewX s n par dl) :
    NewX s' n par dl := by
  have hst := step_stable hs
  obtain ⟨h1, h3⟩ := h
  have hn := (hA.creating t n hc).1
  refine ⟨?_, fun p hp => ⟨hst.published p (h3 p hp).1, hst.alloc p (h3 p hp).2⟩⟩
  rw [(hst.ghost n hn).2.2, h1]
  cases par with
  | none => rfl
  | some p => simp only [State.minOf]; rw [(hst.ghost p (h3 p rfl).2).2.2]

theorem DoneX.other {s s' : State} {e : Event} (hA : InvA s) (hs : step s e = .ok s')
    {t : Tid} {n : NoteId} (hc : (s.pc t).creating = some n) (ht : e.actor ≠ some t)
    (h : DoneX s n) : DoneX s' n := by
  have hst := step_stable hs
  have hn := (hA.creating t n hc).1
  unfold DoneX
  rw [expiry_other hA hs hc ht, (hst.ghost n hn).2.2]
  exact h

theorem XClaim.other {s s' : State} {e : Event} (hA : InvA s) (hX : InvX s)
    (hs : step s e = .ok s') (t : Tid) (ht : e.actor ≠ some t) : XClaim s' (s.pc t) := by
  have hc := hX.claim t
  have hst := step_stable hs
  cases hpc : s.pc t with
  | newMalloc par dl =>
    rw [hpc] at hc
    exact fun p hp => ⟨hst.published p (hc p hp).1, hst.alloc p (hc p hp).2⟩
  | dl pos n nt dk =>
    rw [hpc] at hc
    cases dk with
    | newSelf par dl => exact NewX.other hA hs (by rw [hpc]; simp) hc
    | _ => trivial
  | nfy pos n par nk =>
    rw [hpc] at hc
    cases nk with
    | ofApi => trivial
    | ofDeadline dk =>
      cases dk with
      | newSelf par dl => exact NewX.other hA hs (by rw [hpc]; simp) hc
      | _ => trivial
  | chd pos stk top =>
    rw [hpc] at hc
    simp only [XClaim] at hc ⊢
    cases hk : top.k with
    | ofApi => trivial
    | ofDeadline dk =>
      rw [hk] at hc
      cases dk with
      | newSelf par dl => exact NewX.other hA hs (by rw [hpc]; simp [hk]) hc
      | _ => trivial
  | newP pos n p dl =>
    rw [hpc] at hc
    exact DoneX.other hA hs (by rw [hpc]; simp) ht hc
  | retNew n par =>
    rw [hpc] at hc
    exact DoneX.other hA hs (by rw [hpc]; simp) ht hc
  | retExpiry n => rw [hpc] at hc; exact hst.published n hc
  | _ => trivial

/-- Two states agree on everything `XClaim` looks at. -/
structure SameX (s s' : State) : Prop where
  alloc : ∀ n, (s'.notes n).allocated = (s.notes n).allocated
  expiry : ∀ n, (s'.notes n).expiry = (s.notes n).expiry
  published : s'.published = s.published
  pathMin : s'.pathMin = s.pathMin

theorem SameX.newX {s s' : State} (h : SameX s s') (n : NoteId) (par : Option NoteId) (dl : Dl) :
    NewX s' n par dl ↔ NewX s n par dl := by
  cases par <;> simp only [NewX, State.minOf, h.published, h.pathMin, h.alloc]

theorem SameX.doneX {s s' : State} (h : SameX s s') (n : NoteId) : DoneX s' n ↔ DoneX s n := by
  simp only [DoneX, h.pathMin, h.expiry]

theorem XClaim.same {s s' : State} (h : SameX s s') (pc : PC) : XClaim s' pc ↔ XClaim s pc := by
  cases pc with
  | newMalloc par dl => simp only [XClaim, h.published, h.alloc]
  | dl pos n nt dk => cases dk <;> simp only [XClaim, DKX, h.newX]
  | nfy pos n par nk =>
    cases nk with
    | ofApi => simp only [XClaim, NKX]
    | ofDeadline dk => cases dk <;> simp only [XClaim, NKX, DKX, h.newX]
  | chd pos stk top =>
    cases hk : top.k with
    | ofApi => simp only [XClaim, NKX, hk]
    | ofDeadline dk => cases dk <;> simp only [XClaim, NKX, DKX, hk, h.newX]
  | newP pos n p dl => simp only [XClaim, h.doneX]
  | retNew n par => simp only [XClaim, h.doneX]
  | retExpiry n => simp only [XClaim, h.published]
  | _ => simp only [XClaim]

/-- `nsync_note_new` settles the expiry time: the minimum of the own deadline and the expiry time
    of the (published) parent, which is the parent's path minimum. -/
theorem DoneX.newExpiry {s : State} (hX : InvX s) {t : Tid} {n : NoteId} {nt : Dl}
    {par : Option NoteId} {dl : Dl} (hexp : (s.notes n).expiry = dl) (h : NewX s n par dl) :
    DoneX (afterDeadline s t n nt (.newSelf par dl)) n := by
  unfold DoneX
  rw [afterDeadline_f_expiry, afterDeadline_pathMin, h.1]
  cases par with
  | none => simpa [State.minOf] using hexp
  | some p =>
    simp only [newExpiryVal_newSelf_some, if_true, State.minOf]
    rw [hX.min p (h.2 p rfl).1]

theorem XClaim.afterDeadlinePc {s : State} {t : Tid} (hX : InvX s) {n : NoteId} {nt : Dl} {dk : DK}
    (hN : DKN s t n dk) (h : DKX s n dk) :
    XClaim (afterDeadline s t n nt dk) (Note.afterDeadlinePc n nt dk) := by
  cases dk with
  | newSelf par dl =>
    have hd := DoneX.newExpiry hX (nt := nt) (t := t) (hN.2 par dl rfl) h
    simp only [Note.afterDeadlinePc]
    split
    · cases par with
      | none => exact hd
      | some p => exact hd
    · exact hd
  | isNotified => trivial
  | notifyApi => simp only [Note.afterDeadlinePc]; split <;> trivial
  | ready1 wdl => simp only [Note.afterDeadlinePc]; split <;> trivial
  | ready2 r wdl => simp only [Note.afterDeadlinePc]; split <;> trivial
  | dequeue r wdl => trivial

theorem XClaim.chd {s : State} {pos pos' : CPos} {stk stk' : List Frame} {top : Top}
    (h : XClaim s (.chd pos stk top)) : XClaim s (.chd pos' stk' top) := h

theorem Dl.min_eq (a b : Dl) : Dl.min a b = if Dl.lt b a then b else a := rfl

/-! ## The claim of the acting thread after its step, and preservation -/

macro "samex_tac" : tactic => `(tactic| (
  refine ⟨fun _ => ?_, fun _ => ?_, ?_, ?_⟩ <;> simp))

theorem XClaim.own {s s' : State} {e : Event} {a : Tid} {pc pc' : PC} (hN : InvN s) (hX : InvX s)
    (h : Own s a pc e pc' s') (hpc : s.pc a = pc) (hc : XClaim s pc) : XClaim s' pc' := by
  cases h
  case ld_dl_ld1_1 | unlockRet_dl_unlockRet_2 | now_dl_now_2 | unlockRet_nfy_unlockRet_dl =>
    have hcN := hN.claim a
    rw [hpc] at hcN
    exact XClaim.afterDeadlinePc hX hcN.2.1 hc
  all_goals (try (refine (XClaim.same (s := s) ?_ _).mpr ?_; (· samex_tac)))
  -- inside and at the return of `note_notify_child` the claim is that of the continuation
  case ld_chd_ld_2_in | ld_chd_ld_2_par | ld_chd_ld_2_top | waitRet_chd_waitRet_1_in
      | waitRet_chd_waitRet_1_par | waitRet_chd_waitRet_1_top | stNote_chd_st_wake
      | stNote_chd_st_none | stNote_chd_st_child | semV_chd_semV_wake | semV_chd_semV_none
      | semV_chd_semV_child | waitRet_chd_waitRet_2 => exact hc
  -- call nsync_note_expiry
  case call_expiry => exact (by assumption : s.Live _).2.1
  -- call nsync_note_new with a parent
  case call_new_2 =>
    intro p hp; cases hp
    exact ⟨(by assumption : s.Live _).2.1, (by assumption : s.Live _).1⟩
  -- malloc
  case malloc_newMalloc_2 =>
    rename_i k par _ hfresh
    show NewX _ k _ _
    refine ⟨?_, ?_⟩
    ·       cases par with
      | none => simp [State.minOf]
      | some p =>
        have hne : p ≠ k := fun e => by subst e; simp [(hc p rfl).2] at hfresh
        simp [State.minOf, upd_apply, hne]
    · intro p hp
      have hne : p ≠ k := fun e => by subst e; simp [(hc p hp).2] at hfresh
      exact ⟨by simpa using (hc p hp).1, by simp [hne, (hc p hp).2]⟩
  all_goals (try (simp [XClaim, DKX]; done))
  all_goals (try (simp_all [XClaim, NKX]; done))

theorem step_invX {s s' : State} {e : Event} (hA : InvA s) (hN : InvN s) (hX : InvX s)
    (hs : Note.step s e = .ok s') : InvX s' := by
  have hst := step_stable hs
  refine ⟨?_, ?_⟩
  · exact claims_step (C := fun s _ pc => XClaim s pc) hs (fun _ _ _ => XClaim.own hN hX)
      (fun t ht _ => XClaim.other hA hX hs t ht) hX.claim
  · intro n hp
    -- a published note is not being created, so its expiry time does not change
    have hkeep : s.published n = true → (s'.notes n).expiry = s'.pathMin n := by
      intro hp0
      have hn := hA.published n hp0
      rw [(hst.ghost n hn).2.2]
      rcases step_expiry hs n hn with h | ⟨a, p, dl, _, hcr, _, _⟩
      · rw [h]; exact hX.min n hp0
      · have := (hA.creating a n hcr).2
        rw [hp0] at this; cases this
    rcases step_published hs with hq | ⟨a, m, par, ha, hpa, _, hq⟩
    · rw [hq] at hp; exact hkeep hp
    · rw [hq, upd_apply] at hp
      split at hp
      · next hnm =>
        subst hnm
        have hc := hX.claim a
        rw [hpa] at hc
        have hcr : (s.pc a).creating = some n := by rw [hpa]; simp
        have hn := (hA.creating a n hcr).1
        rw [(hst.ghost n hn).2.2]
        rcases step_expiry hs n hn with h | ⟨a', p, dl, ha', _, hpc, _⟩
        · rw [h]; exact hc
        · rw [ha] at ha'
          cases ha'
          rcases hpc with ⟨_, _, hpc⟩ | ⟨_, _, hpc⟩ <;> (rw [hpa] at hpc; cases hpc)
      · exact hkeep hp

theorem Reachable.invX {s : State} (h : Reachable s) : InvX s :=
  Reachable.induction InvX.init
    (fun _ _ _ hr hX hs => step_invX hr.invN.1 hr.invN.2 hX hs) s h

theorem Reachable.inv {s : State} (h : Reachable s) : InvA s ∧ InvN s ∧ InvS s ∧ InvX s :=
  ⟨h.invN.1, h.invN.2, h.invS, h.invX⟩

end Note
