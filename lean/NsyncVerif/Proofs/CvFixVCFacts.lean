/-
  Layer `CvFix` × vector clocks: the facts about the ACCEPTOR (no clocks yet) that the clock
  invariant needs.
    `done_entry`      a record enters status `woken` only through `ATM_STORE_REL (&p_nw->waiting, 0)`
                      [cv.c/5] of the waker on whose list it is, and status `xfer` only through that
                      waker's `ATM_CAS_ACQ (&pmu->word, …)` [cv.c/1]; its unlinkers do not change;
    `woken_no_store`  while a record is `woken`, no accepted event is a plain store to its
                      `waiting` flag (the release sequence headed by the waker's store is intact);
    `wordSt_rel`      every accepted store to the cv word is at a release site;
    `TFacts.exit`     a cv wait is past its loop (`wExit`, `wLocking`, `wRelocking`, `wRet`) only
                      through the load `ATM_LOAD_ACQ (&w->nw.waiting)` [cv.c/10] of ITS OWN record
                      that observed 0; `xferd` / `exitUnl` are what the record said at that load;
    `TFacts.deq`      a cv_dequeue is about to return 0 without having waited (`nDeqRel`,
                      `was_queued = 0`) only through its load `ATM_LOAD_ACQ (&nw->waiting)`
                      [cv.c/32] that observed 0.
-/
import NsyncVerif.Proofs.CvFixVC
import NsyncVerif.Proofs.CvFixRcd

namespace NsyncVerif.CvFix

/-- What happens to a record that a waker has dealt with (status `woken` or `xfer` after a
    transition): it had that status before, or the transition is the waker's store
    `ATM_STORE_REL (&p_nw->waiting, 0)` [cv.c/5], or the waker's successful
    `ATM_CAS_ACQ (&pmu->word, …)` [cv.c/1] that transfers it.  Its unlinkers do not change. -/
def DoneEntry (s : State) (e : Event) (s' : State) (r : Rid) : Prop :=
  ((s.recs r).stat = (s'.recs r).stat ∧ (s'.recs r).unl = (s.recs r).unl) ∨
  (∃ t obs, e = .recSt t .wake r 0 obs ∧ (s.recs r).stat = .listed t ∧ (s'.recs r).stat = .woken ∧
    (s'.recs r).unl = (s.recs r).unl) ∨
  (∃ u exp new obs, e = .muCas u .wwCas exp new obs true ∧ (s.recs r).stat = .listed u ∧
    (s'.recs r).stat = .xfer ∧ (s'.recs r).unl = (s.recs r).unl ∧ (s'.thr u).loc = .wwRelLd)

theorem done_entry {cfg : Config} {s s' : State} {e : Event} (hi : Inv s) (h : Tr cfg s e s')
    (r : Rid) (hw : (s'.recs r).stat = .woken ∨ (s'.recs r).stat = .xfer) : DoneEntry s e s' r := by
  have h := h.rcd hi.a hi.b.weak r
  unfold DoneEntry
  generalize s'.recs r = b at h hw ⊢
  generalize s.recs r = a at h ⊢
  cases h with
  | wake u obs _ h => exact .inr (.inl ⟨u, obs, rfl, h, by simp [h], rfl⟩)
  | xfer u exp new obs _ h hx => exact .inr (.inr ⟨u, exp, new, obs, rfl, h, rfl, rfl, hx⟩)
  | deqRel | deqSpin => revert hw; cases a.stat <;> simp
  | keep | rcInc | fStW | fCasOk | post | clr | deqSt | pub | muMode | wInit | nwInit => exact .inl ⟨rfl, rfl⟩
  | _ => rcases hw with hw | hw <;> cases hw

/-- A record enters status `woken` only through the store [cv.c/5] of the waker on whose list it is. -/
theorem woken_entry {cfg : Config} {s s' : State} {e : Event} (hi : Inv s) (h : Tr cfg s e s')
    (r : Rid) (hw : (s'.recs r).stat = .woken) :
    ((s.recs r).stat = .woken ∧ (s'.recs r).unl = (s.recs r).unl) ∨
    (∃ t obs, e = .recSt t .wake r 0 obs ∧ (s.recs r).stat = .listed t ∧
      (s'.recs r).unl = (s.recs r).unl) := by
  rcases done_entry hi h r (.inl hw) with ⟨h1, h2⟩ | ⟨t, obs, h1, h2, _, h4⟩ | ⟨_, _, _, _, _, _, h3, _⟩
  · exact .inl ⟨h1.trans hw, h2⟩
  · exact .inr ⟨t, obs, h1, h2, h4⟩
  · rw [hw] at h3; cases h3

/-- The accepted plain stores to the `waiting` flag of a record: a foreign store, or a store of
    cv.c to a record that is idle, self-removed, or on the storing waker's list. -/
theorem waiting_store {cfg : Config} {s s' : State} {e : Event} (hi : Inv s)
    (hs : step cfg s e = .ok s') (r : Rid) (hst : stOn e = some (.fld r .waiting)) :
    (∃ v new, e = .fSt v r .waiting new) ∨ (s.recs r).stat = .idle ∨ (s.recs r).stat = .selfOut ∨
    ∃ t, (s.recs r).stat = .listed t := by
  cases e <;> simp only [stOn, Option.some.injEq, VLoc.fld.injEq, reduceCtorEq] at hst
  case recSt t site r' new obs =>
    obtain ⟨rfl, _⟩ := hst
    right
    have htr := step_tr hs
    cases htr with
    | same e h => simp [touches] at h; split at h <;> simp at h
    | semOther e sem' h => simp [touches] at h; split at h <;> simp at h
    | loc h => cases h
    | wSt1 t r0 obs hl hm hst | enqSt t r0 obs hl hm hst => exact .inl hst
    | wClr t r0 obs hl hr => exact .inr (.inl (hr ▸ (hi.a.thr t).selfO (.inr (.inr hl))))
    | wake t r0 obs hl hr => exact .inr (.inr ⟨t, (hi.a.lMem t r').mp (List.mem_of_mem_head? hr)⟩)
    | deqSt t r0 obs hl hr => exact .inr (.inl (hr ▸ (hi.b.thr t).deqS hl))
  case wInit t r' => exact absurd hst.2 (by simp)
  case nwInit t r' =>
    obtain ⟨rfl, _⟩ := hst
    simp only [step, need_ok] at hs
    exact .inr (.inl hs.2.2.1)
  case fSt t r' f new =>
    obtain ⟨rfl, rfl⟩ := hst
    exact .inl ⟨t, new, rfl⟩

theorem woken_no_store {cfg : Config} {s s' : State} {e : Event} (hi : Inv s)
    (hs : step cfg s e = .ok s') (r : Rid) (hw : (s.recs r).stat = .woken) :
    stOn e ≠ some (.fld r .waiting) := by
  intro hst
  rcases waiting_store hi hs r hst with ⟨v, new, rfl⟩ | h | h | ⟨t, h⟩
  · simp only [step, need_ok] at hs
    have := hs.2.1
    simp [foreignOk, hw] at this
  all_goals rw [hw] at h; cases h

theorem wordSt_rel {cfg : Config} {s s' : State} {t : Tid} {site : WSite} {new obs : Nat}
    (hs : step cfg s (.wordSt t site new obs) = .ok s') : (siteOrd (wSite site)).isRel = true := by
  simp only [step] at hs
  unfold stepWordSt at hs
  cases site <;> first
    | rfl
    | (exfalso; dsimp only at hs; cases hs)

/-- Program points the two facts are about. -/
def Loc.c03 : Loc → Bool
  | .wExit | .wLocking | .wRelocking | .wRet | .nDeqRel => true
  | _ => false

structure TFacts (s : State) (e : Event) (s' : State) (t : Tid) : Prop where
  exit : (s'.thr t).loc.afterLoop = true →
    ((s.thr t).loc.afterLoop = true ∧ (s'.thr t).xferd = (s.thr t).xferd ∧
      (s'.thr t).exitUnl = (s.thr t).exitUnl) ∨
    (∃ r, e = .recLd t .wHead r 0 ∧ (s.thr t).loc = .wHead ∧ r = (s.thr t).r ∧
      (s.recs r).waiting = false ∧ (s'.thr t).xferd = decide ((s.recs r).stat = RStat.xfer) ∧
      (s'.thr t).exitUnl = (s.recs r).unl)
  deq : (s'.thr t).loc = .nDeqRel → (s'.thr t).wasQ = false →
    ((s.thr t).loc = .nDeqRel ∧ (s.thr t).wasQ = false ∧ (s'.thr t).r = (s.thr t).r) ∨
    (∃ r, e = .recLd t .deqLd r 0 ∧ (s'.thr t).r = r ∧ (s.thr t).loc = .nLocked ∧
      r ∈ (s.thr t).mine ∧ (s.recs r).waiting = false)

theorem afterLoop_c03 {l : Loc} (h : l.afterLoop = true) : l.c03 = true := by
  cases l <;> simp_all [Loc.afterLoop, Loc.c03]

theorem tfacts_out {s s' : State} {e : Event} {t : Tid} (h : (s'.thr t).loc.c03 = false) :
    TFacts s e s' t := by
  constructor
  · intro h1; rw [afterLoop_c03 h1] at h; cases h
  · intro h1; rw [h1] at h; cases h

theorem tfacts_same {s s' : State} {e : Event} {t : Tid} (h : s'.thr t = s.thr t) :
    TFacts s e s' t := by
  constructor
  · intro h1; rw [h] at h1 ⊢; exact .inl ⟨h1, rfl, rfl⟩
  · intro h1 h2; rw [h] at h1 h2 ⊢; exact .inl ⟨h1, h2, rfl⟩

/-- The frame changes only in fields the facts do not mention, and stays past the loop. -/
theorem tfacts_move {s s' : State} {e : Event} {t : Tid} (h0 : (s.thr t).loc.afterLoop = true)
    (h1 : (s'.thr t).loc ≠ .nDeqRel) (h2 : (s'.thr t).xferd = (s.thr t).xferd)
    (h3 : (s'.thr t).exitUnl = (s.thr t).exitUnl) : TFacts s e s' t := by
  constructor
  · intro _; exact .inl ⟨h0, h2, h3⟩
  · intro h; exact absurd h h1

theorem ite_sRel_c03 (b : Bool) : (if b = true then Loc.sRel else Loc.sRcLd).c03 = false := by
  cases b <;> rfl

theorem tfacts_ltr {s : State} {t : Tid} {e : Event} {x' : Thr} (h : LTr s t e x') :
    TFacts s e (s.setThr t x') t := by
  cases h with
  | lockMark op hl | relockSlow hl | nretLock hl =>
    exact tfacts_move (by simp [hl, Loc.afterLoop]) (by simp) (by simp) (by simp)
  | deqLd0 r hl hr ho =>
    constructor
    · intro h; simp [Loc.afterLoop] at h
    · intro _ _; exact .inr ⟨r, rfl, by simp, hl, hr, ho⟩
  | deqLdGone r obs hl hr hw hq => refine tfacts_out ?_; simp [Loc.c03]
  | deqSpinStay r obs hl hr hw => exact tfacts_same (by simp)
  | spinLd | spinLdN | sigLd | wChk | wChk2 | wwLd | wwRelCasOk | dbgLd =>
    refine tfacts_out ?_; simp; split <;> simp [Loc.c03]
  | wHeadStay r obs hl hr ho hz =>
    refine tfacts_out ?_; simp; split
    · by_cases hn : (s.thr t).note = true <;> simp [hn, Loc.c03]
    · simp [Loc.c03]
  | ready r obs hl hr ho => refine tfacts_out ?_; simp [hl, Loc.c03]
  | noteSeen hl => refine tfacts_out ?_; rcases hl with hl | hl | hl <;> simp [hl, Loc.c03]
  | noteNotify hl ht => refine tfacts_out ?_; simp [hl, Loc.c03]
  | _ => refine tfacts_out ?_; simp [Loc.c03, Thr.fresh]

theorem tfacts_tr {cfg : Config} {s s' : State} {e : Event} (hf : InvF s) (h : Tr cfg s e s')
    (t : Tid) : TFacts s e s' t := by
  by_cases hu : e.tid = some t
  case neg => exact tfacts_same (tr_other h hu)
  cases h with
  | tick => cases hu
  | same | semOther | wInit | nwInit | fStW | fCasOk => exact tfacts_same rfl
  | loc h => cases (ltr_tid h).symm.trans hu; exact tfacts_ltr h
  | acq t0 exp new obs o n hl =>
    cases hu
    refine tfacts_out ?_
    rcases (afterAcquire_thr_self { s with word := n, holder := some t } t { s.thr t with old := o }).2.2.2.2
      with h | h | h | h | h | h <;> rw [h] <;> rfl
  | relSig t0 site new obs n hl =>
    cases hu
    refine tfacts_out ?_
    simp
    rcases wakeEntry_cases s (s.thr t).list with ⟨_, hw⟩ | ⟨_, hw | hw⟩ <;> simp [hw, Loc.c03]
  | wHeadExit t0 r y hy hl hr hw =>
    cases hu; subst hy
    constructor
    · intro _; exact .inr ⟨r, rfl, hl, hr, hw, by simp, by simp⟩
    · intro h; simp at h
  | wSt1 | semVWake => cases hu; refine tfacts_out ?_; simp; split <;> simp [Loc.c03]
  | deqSt t0 r obs hl hr =>
    cases hu
    have hq := ((hf.thr t).wqSt hl).1
    constructor
    · intro h; simp [Loc.afterLoop] at h
    · intro _ h; simp [hq] at h
  | sRcCasOk => cases hu; refine tfacts_out ?_; simp only [setThr_thr, if_true]; exact ite_sRel_c03 _
  | _ => cases hu; exact tfacts_out (by simp [Loc.c03])

/-- The thread whose ghost `xw` an event sets. -/
def xwTid : Event → Option Tid
  | .recLd t .wHead _ 0 => some t
  | .callWait t .. => some t
  | _ => none

/-- Such an event is accepted only in the wait loop or outside any call: never past the loop. -/
theorem xwTid_loc {cfg : Config} {s s' : State} {e : Event} {t : Tid}
    (hs : step cfg s e = .ok s') (h : xwTid e = some t) : (s.thr t).loc.afterLoop = false := by
  cases e <;> simp only [xwTid, reduceCtorEq] at h
  case callWait t' gen dl note =>
    cases h
    simp only [step] at hs
    rw [(stepCall_ok hs).1]; rfl
  case recLd t' site r obs =>
    cases site <;> try (simp at h; done)
    cases obs with
    | succ k => simp at h
    | zero =>
      simp only [Option.some.injEq] at h
      subst h
      rw [(wHead_exit_accepted hs).1]; rfl

end NsyncVerif.CvFix
