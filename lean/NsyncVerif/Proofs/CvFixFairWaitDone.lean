/-
  Layer `CvFix`, liveness, the waiter's side: along an execution.
  `hop`: a thread inside the wait at a program point outside the test-and-set loop eventually takes
  an edge `WSucc` (by weak fairness at the program points of cv.c, by `AllocFair` / `MutexFair` /
  `CancelFair` at the foreign ones, and — the caller's obligation — by the end of the semaphore
  wait); `hop_spin`: a thread in the test-and-set loop of the wait gets the spinlock.
  A wait whose record has been unlinked by a waker ("covered by a wake-up") leaves its loop
  (`covered_exits`) and returns 0 (`covered_returns`).
-/
import NsyncVerif.Proofs.CvFixFairWaitStep

namespace NsyncVerif.CvFix

variable {cfg : Config} {s0 : State}

theorem exec_wait_step (x : Exec cfg s0) {t : Tid} {j : Nat} (hw : inWait ((x.ρ j).thr t) = true) :
    ((((x.ρ (j + 1)).thr t).loc = ((x.ρ j).thr t).loc ∧
        ((x.ρ (j + 1)).thr t).cont = ((x.ρ j).thr t).cont) ∨
      WSucc ((x.ρ j).thr t) ((x.ρ (j + 1)).thr t) ((x.ρ j).recs ((x.ρ j).thr t).r).waiting
        (decide (((x.ρ j).recs ((x.ρ j).thr t).r).rc = ((x.ρ j).thr t).saved))
        ((x.ρ j).recs ((x.ρ j).thr t).r).unl) ∧
    WKeep ((x.ρ j).thr t) ((x.ρ (j + 1)).thr t) ∧
    (((x.ρ (j + 1)).thr t).loc = .idle → ∃ res, x.σ j = some (.retWait t res)) := by
  have hni := (inWait_not_misc hw).1
  cases hs : x.σ j with
  | none => rw [x.next_none hs]; exact ⟨.inl ⟨rfl, rfl⟩, wkeep_refl _, fun h => absurd h hni⟩
  | some e =>
    by_cases ht : e.tid = some t
    · obtain ⟨a, b, c⟩ := wait_step (x.next_some hs) ht hw
      refine ⟨?_, b, fun h => ?_⟩
      · rcases a with ⟨a, a', _⟩ | a
        · exact .inl ⟨a, a'⟩
        · exact .inr a
      · obtain ⟨res, hr⟩ := c h; exact ⟨res, by rw [hr]⟩
    · rw [tr_other (step_tr (x.next_some hs)) ht]
      exact ⟨.inl ⟨rfl, rfl⟩, wkeep_refl _, fun h => absurd h hni⟩

/-- What stays the same while the program point does not change. -/
def Fz (a b : Thr) : Prop :=
  b.loc = a.loc ∧ (a.loc ≠ .wNew → b.r = a.r) ∧ b.dl = a.dl ∧ b.note = a.note ∧
  (a.loc ≠ .wHead → b.exitUnl = a.exitUnl)

theorem fz_refl (a : Thr) : Fz a a := ⟨rfl, fun _ => rfl, rfl, rfl, fun _ => rfl⟩

theorem inWait_loc {a b : Thr} (h : b.loc = a.loc) (hns : a.loc.spinLoop = false)
    (hw : inWait a = true) : inWait b = true := by
  unfold inWait waitLive waitPrep at *
  rw [h]
  cases hl : a.loc <;> simp_all [Loc.spinLoop]

theorem fz_step {a b c : Thr} (h1 : Fz a b) (hk : WKeep b c) (hl : c.loc = b.loc)
    (hni : b.loc ≠ .idle) : Fz a c := by
  obtain ⟨f1, f2, f3, f4, f5⟩ := h1
  obtain ⟨k1, k2, k3, _⟩ := hk
  have hci : c.loc ≠ .idle := by rw [hl]; exact hni
  refine ⟨hl.trans f1, fun h => ?_, (k2 hci).1.trans f3, (k2 hci).2.trans f4, fun h => ?_⟩
  · rw [k1 (by rw [f1]; exact h) hci]; exact f2 h
  · rw [k3 (by rw [f1]; exact h) hci]; exact f5 h

/-- The result of a hop from time `j0`: at time `j1` the thread is still at the same program point
    (with the same record, deadline, note), and the step at `j1` takes an edge. -/
def HopAt (x : Exec cfg s0) (t : Tid) (j0 j1 : Nat) : Prop :=
  j0 ≤ j1 ∧ Fz ((x.ρ j0).thr t) ((x.ρ j1).thr t) ∧ inWait ((x.ρ j1).thr t) = true ∧
  WSucc ((x.ρ j1).thr t) ((x.ρ (j1 + 1)).thr t) ((x.ρ j1).recs ((x.ρ j1).thr t).r).waiting
    (decide (((x.ρ j1).recs ((x.ρ j1).thr t).r).rc = ((x.ρ j1).thr t).saved))
    ((x.ρ j1).recs ((x.ρ j1).thr t).r).unl ∧
  WKeep ((x.ρ j1).thr t) ((x.ρ (j1 + 1)).thr t) ∧
  (((x.ρ (j1 + 1)).thr t).loc = .idle → ∃ res, x.σ j1 = some (.retWait t res))

/-- If the program point of a thread inside the wait ever changes, the first change is an edge. -/
theorem hop_first (x : Exec cfg s0) {t : Tid} {j0 : Nat} (hw : inWait ((x.ρ j0).thr t) = true)
    (hns : ((x.ρ j0).thr t).loc.spinLoop = false)
    (hc : ∃ j', j0 ≤ j' ∧ ((x.ρ j').thr t).loc ≠ ((x.ρ j0).thr t).loc) :
    ∃ j1, HopAt x t j0 j1 := by
  obtain ⟨j, h1, h2, h3⟩ :=
    first_not (P := fun j => ((x.ρ j).thr t).loc = ((x.ρ j0).thr t).loc) hc
  have hlt : j0 < j := by
    rcases Nat.lt_or_ge j0 j with h | h
    · exact h
    · have : j = j0 := by omega
      subst this; exact absurd rfl h2
  obtain ⟨j1, rfl⟩ : ∃ j1, j = j1 + 1 := ⟨j - 1, by omega⟩
  have key : ∀ d, j0 + d ≤ j1 →
      Fz ((x.ρ j0).thr t) ((x.ρ (j0 + d)).thr t) ∧ inWait ((x.ρ (j0 + d)).thr t) = true := by
    intro d
    induction d with
    | zero => intro _; exact ⟨fz_refl _, hw⟩
    | succ d ih =>
      intro hd
      obtain ⟨f, w⟩ := ih (by omega)
      obtain ⟨_, k, _⟩ := exec_wait_step x w
      have hl1 := h3 (j0 + d + 1) (by omega) (by omega)
      have hl0 := h3 (j0 + d) (by omega) (by omega)
      have hl : ((x.ρ (j0 + d + 1)).thr t).loc = ((x.ρ (j0 + d)).thr t).loc := hl1.trans hl0.symm
      have f' := fz_step f k hl (inWait_not_misc w).1
      exact ⟨f', inWait_loc f'.1 hns hw⟩
  obtain ⟨d1, rfl⟩ : ∃ d1, j1 = j0 + d1 := ⟨j1 - j0, by omega⟩
  obtain ⟨f, w⟩ := key d1 (Nat.le_refl _)
  obtain ⟨a, k, c⟩ := exec_wait_step x w
  refine ⟨j0 + d1, by omega, f, w, ?_, k, c⟩
  rcases a with a | a
  · exact absurd (a.1.trans f.1) h2
  · exact a

/-- A thread inside the wait at a program point of cv.c takes an edge. -/
theorem hop_ready (x : Exec cfg s0) (hwf : WeakFair x) {t : Tid} {j0 : Nat}
    (hw : inWait ((x.ρ j0).thr t) = true) (hr : Ready (x.ρ j0) t) : ∃ j1, HopAt x t j0 j1 := by
  obtain ⟨j1, h1, ⟨e, he, ht, hne⟩, hthr⟩ := next_move x hwf hr
  have hw1 : inWait ((x.ρ j1).thr t) = true := by rw [hthr]; exact hw
  obtain ⟨a, b, c⟩ := wait_step (x.next_some he) ht hw1
  refine ⟨j1, h1, by rw [hthr]; exact fz_refl _, hw1, ?_, b, fun h => ?_⟩
  · rcases a with ⟨_, _, a | a⟩ | a
    · exact absurd a hne
    · rw [hthr, ready_not_open hr] at a; cases a
    · exact a
  · obtain ⟨res, hres⟩ := c h; exact ⟨res, by rw [he, hres]⟩

/-- A thread inside the wait, outside the test-and-set loop, takes an edge — provided its semaphore
    wait, if it is in one, ends. -/
theorem hop (x : Exec cfg s0) (hy : WaitHyps x) {t : Tid} {j0 : Nat}
    (hw : inWait ((x.ρ j0).thr t) = true) (hns : ((x.ρ j0).thr t).loc.spinLoop = false)
    (hsl : ((x.ρ j0).thr t).loc.asleep = true →
      ∃ j', j0 ≤ j' ∧ ((x.ρ j').thr t).loc.asleep = false) :
    ∃ j1, HopAt x t j0 j1 := by
  by_cases hr : Ready (x.ρ j0) t
  · exact hop_ready x hy.weak hw hr
  · apply hop_first x hw hns
    obtain ⟨hni, _, _, hno, _⟩ := inWait_not_misc hw
    cases hf : ((x.ρ j0).thr t).loc.foreign with
    | false =>
      cases ha : ((x.ρ j0).thr t).loc.asleep with
      | false => exact absurd ⟨hni, hf, ha⟩ hr
      | true =>
        obtain ⟨j', h1, h2⟩ := hsl ha
        exact ⟨j', h1, fun h => by rw [h, ha] at h2; cases h2⟩
    | true =>
      rcases Loc.foreign_cases hf with hm | hc | hnw | h
      · exact hy.mutex t j0 hm
      · exact hy.cancel t j0 hc
      · obtain ⟨j', h1, h2⟩ := hy.alloc t j0 hnw
        exact ⟨j', h1, by rw [hnw]; exact h2⟩
      · exact absurd h hno

theorem wsucc_spin {x y : Thr} {w e : Bool} {u : List Unl} (h : WSucc x y w e u)
    (hs : x.loc.spinLoop = true) :
    (y.loc.spinLoop = true ∧ y.cont = x.cont) ∨ (x.cont = .waitEnq ∧ y.loc = .wEnq) ∨
    (x.cont = .waitChk ∧ y.loc = .wChk2) := by
  rcases Loc.spinLoop_cases hs with hl | hl | hl <;> simpa only [WSucc, hl] using h

theorem inWait_spin {a b : Thr} (ha : inWait a = true) (hsa : a.loc.spinLoop = true)
    (hsb : b.loc.spinLoop = true) (hc : b.cont = a.cont) : inWait b = true := by
  rw [inWait_spin_iff hsb, hc, ← inWait_spin_iff hsa]; exact ha

/-- A thread in the test-and-set loop of the wait gets the spinlock. -/
theorem hop_spin (x : Exec cfg s0) (hy : Hyps x) {t : Tid} {j0 : Nat}
    (hw : inWait ((x.ρ j0).thr t) = true) (hsp : ((x.ρ j0).thr t).loc.spinLoop = true) :
    ∃ j2, j0 ≤ j2 ∧ inWait ((x.ρ j2).thr t) = true ∧
      ((x.ρ j2).thr t).r = ((x.ρ j0).thr t).r ∧ ((x.ρ j2).thr t).dl = ((x.ρ j0).thr t).dl ∧
      ((x.ρ j2).thr t).note = ((x.ρ j0).thr t).note ∧
      (((x.ρ j0).thr t).semOut ≠ .ok → ((x.ρ j2).thr t).semOut = ((x.ρ j0).thr t).semOut) ∧
      ((((x.ρ j0).thr t).cont = .waitEnq ∧ ((x.ρ j2).thr t).loc = .wEnq) ∨
       (((x.ρ j0).thr t).cont = .waitChk ∧ ((x.ρ j2).thr t).loc = .wChk2)) := by
  generalize ha : (x.ρ j0).thr t = a at *
  refine spin_leads x hy (t := t)
    (P := fun y => inWait y = true ∧ y.cont = a.cont ∧ y.r = a.r ∧ y.dl = a.dl ∧ y.note = a.note ∧
      (a.semOut ≠ .ok → y.semOut = a.semOut))
    (G := fun j => inWait ((x.ρ j).thr t) = true ∧ ((x.ρ j).thr t).r = a.r ∧ ((x.ρ j).thr t).dl = a.dl ∧
      ((x.ρ j).thr t).note = a.note ∧ (a.semOut ≠ .ok → ((x.ρ j).thr t).semOut = a.semOut) ∧
      ((a.cont = .waitEnq ∧ ((x.ρ j).thr t).loc = .wEnq) ∨ (a.cont = .waitChk ∧ ((x.ρ j).thr t).loc = .wChk2)))
    (fun j p2 hp => ?_) (by rw [ha]; exact hsp)
    (by rw [ha]; exact ⟨hw, rfl, rfl, rfl, rfl, fun _ => rfl⟩)
  obtain ⟨p1, p3, p4, p5, p6, p7⟩ := hp
  by_cases hm : Moves x t j
  · obtain ⟨e, he, ht, hne⟩ := hm
    obtain ⟨u, k, _⟩ := wait_step (x.next_some he) ht p1
    have hop : ((x.ρ j).thr t).loc.isOpen = false := spinLoop_not_open p2
    have hs := u.resolve_left (by
      rintro ⟨_, _, h | h⟩
      · exact hne h
      · rw [hop] at h; cases h)
    have h3 := wsucc_spin hs p2
    rw [p3] at h3
    have hni : ((x.ρ (j + 1)).thr t).loc ≠ .idle := by
      rcases h3 with ⟨h, _⟩ | ⟨_, h⟩ | ⟨_, h⟩
      · intro h'; rw [h'] at h; cases h
      · rw [h]; simp
      · rw [h]; simp
    have hnw : ((x.ρ j).thr t).loc ≠ .wNew := by intro h; rw [h] at p2; cases p2
    obtain ⟨k1, k2, _, k4⟩ := k
    have hw' : inWait ((x.ρ (j + 1)).thr t) = true := by
      rcases h3 with ⟨h, hc⟩ | ⟨_, h⟩ | ⟨_, h⟩
      · exact inWait_spin p1 p2 h (hc.trans p3.symm)
      · simp [inWait, waitLive, h]
      · simp [inWait, waitLive, h]
    have hso : a.semOut ≠ .ok → ((x.ρ (j + 1)).thr t).semOut = a.semOut := by
      intro hso
      have := p7 hso
      rw [← this]
      exact k4 (by rw [this]; exact hso) (by intro h; rw [h] at p2; cases p2)
        (by intro h; rw [h] at p2; cases p2) (by intro h; rw [h] at p2; cases p2) hni
    have hr := (k1 hnw hni).trans p4
    have hd := (k2 hni).1.trans p5
    have hn := (k2 hni).2.trans p6
    rcases h3 with ⟨h, hc⟩ | h
    · exact .inl ⟨h, hw', hc, hr, hd, hn, hso⟩
    · exact .inr ⟨hw', hr, hd, hn, hso, h⟩
  · rw [frozen x hm (spin_ready p2)]
    exact .inl ⟨p2, p1, p3, p4, p5, p6, p7⟩

/-- Distance to the loop exit once `waiting = 0`. -/
def rkD (x : Thr) : Nat :=
  match x.loc with
  | .wEnq => 22 | .wRel => 21 | .wUnlock => 20 | .wUnlocking => 19 | .wSemEnter => 18 | .cPre => 18
  | .wSemRet => 17 | .cWait => 17 | .cPost => 16 | .wChk => 15 | .spLd0 | .spLd2 | .spCas => 14
  | .wChk2 => 13 | .wCmp => 12 | .wRmLd => 11 | .wRmCas => 10 | .wClr => 9 | .wRel2 => 8
  | .wTail => 7 | .wHead => 6 | _ => 0

theorem rkD_loc {a b : Thr} (h : b.loc = a.loc) : rkD b = rkD a := by unfold rkD; rw [h]

/-- With `waiting = 0` every edge from a program point of the loop (outside the test-and-set loop and
    the self-removal) leads to the exit or closer to it. -/
theorem succ_rank {x y : Thr} {e : Bool} {u : List Unl} (hl : waitLive x = true)
    (hs : WSucc x y false e u) (hns : x.loc.spinLoop = false)
    (h1 : x.loc ≠ .wRmLd) (h2 : x.loc ≠ .wRmCas) (h3 : x.loc ≠ .wClr) :
    (y.loc = .wExit ∧ y.exitUnl = u) ∨ (waitLive y = true ∧ rkD y < rkD x) := by
  unfold WSucc at hs
  unfold waitLive at hl
  split at hs <;> (try rename_i hx) <;> (try simp only [hx] at hl hns h1 h2 h3) <;>
    first
      | (cases hs; done)
      | (cases hl; done)
      | (exact absurd rfl h1)
      | (exact absurd rfl h2)
      | (exact absurd rfl h3)
      | (cases hns; done)
      | (right; simp_all [waitLive, rkD]; done)
      | (rcases hs with hs | hs | hs <;> simp_all [waitLive, rkD])
      | (rcases hs with hs | hs <;> simp_all [waitLive, rkD] <;>
          (rcases hs with ⟨_, hs | hs⟩ <;> simp_all))

/-- Any edge from a program point of the loop stays in the loop or is the exit. -/
theorem waitLive_succ {x y : Thr} {w e : Bool} {u : List Unl} (hl : waitLive x = true)
    (hs : WSucc x y w e u) : (y.loc = .wExit ∧ y.exitUnl = u) ∨ waitLive y = true := by
  cases hsp : x.loc.spinLoop with
  | true =>
    -- the test-and-set loop of the timeout / cancel check
    have hc := (waitLive_spin_iff hsp).mp hl
    rcases wsucc_spin hs hsp with ⟨h, hcc⟩ | ⟨h, _⟩ | ⟨_, h⟩
    · exact .inr ((waitLive_spin_iff h).mpr (hcc.trans hc))
    · rw [hc] at h; cases h
    · exact .inr (by simp [waitLive, h])
  | false =>
    unfold WSucc at hs
    have hl' := hl
    unfold waitLive at hl'
    split at hs <;> (try rename_i hx) <;> (try simp only [hx] at hl' hsp) <;>
      first
        | (cases hs; done)
        | (cases hl'; done)
        | (cases hsp; done)
        | (right; simp_all [waitLive]; done)
        | (rcases hs with ⟨_, h1, h2⟩ | ⟨_, _, h | h⟩ | ⟨_, _, h⟩ <;> simp_all [waitLive]; done)
        | (rcases hs with hs | hs <;> simp_all [waitLive] <;>
            (rcases hs with ⟨_, hs | hs⟩ <;> simp_all); done)

theorem waitLive_same {a b : Thr} (hl : waitLive a = true) (h1 : b.loc = a.loc) (h2 : b.cont = a.cont) :
    waitLive b = true := by
  unfold waitLive at *; rw [h1, h2]; exact hl

/-- The run invariant of a covered wait. -/
def CovAt (x : Exec cfg s0) (t : Tid) (r : Rid) (U : List Unl) (j : Nat) : Prop :=
  waitLive ((x.ρ j).thr t) = true ∧ ((x.ρ j).thr t).r = r ∧ Cov ((x.ρ j).recs r).stat ∧
  ((x.ρ j).recs r).unl = U ∧ ((x.ρ j).recs r).owner = t

theorem cov_exec_step (x : Exec cfg s0) (hr : Reachable cfg s0) {t : Tid} {r : Rid} {U : List Unl}
    {j : Nat} (h : CovAt x t r U j) :
    (((x.ρ (j + 1)).thr t).loc = .wExit ∧ ((x.ρ (j + 1)).thr t).exitUnl = U) ∨ CovAt x t r U (j + 1) := by
  obtain ⟨q1, q2, q3, q4, q5⟩ := h
  have hi := x.inv hr j
  obtain ⟨a, k, _⟩ := exec_wait_step x (waitLive_inWait q1)
  -- the thread's side
  have hthr : (((x.ρ (j + 1)).thr t).loc = .wExit ∧ ((x.ρ (j + 1)).thr t).exitUnl = U) ∨
      (waitLive ((x.ρ (j + 1)).thr t) = true ∧ ((x.ρ (j + 1)).thr t).r = r) := by
    have hrr : waitLive ((x.ρ (j + 1)).thr t) = true → ((x.ρ (j + 1)).thr t).r = r := by
      intro hw
      have hn := (inWait_not_misc (waitLive_inWait hw)).1
      have hnw : ((x.ρ j).thr t).loc ≠ .wNew := by
        intro h; unfold waitLive at q1; rw [h] at q1; cases q1
      rw [k.1 hnw hn]; exact q2
    rcases a with ⟨a1, a2⟩ | a
    · have := waitLive_same q1 a1 a2
      exact .inr ⟨this, hrr this⟩
    · rcases waitLive_succ q1 a with h | h
      · rw [q2, q4] at h; exact .inl h
      · exact .inr ⟨h, hrr h⟩
  rcases hthr with h | ⟨h1, h2⟩
  · exact .inl h
  · right
    -- the record's side
    cases hs : x.σ j with
    | none =>
      have := x.next_none hs
      refine ⟨h1, h2, ?_, ?_, ?_⟩ <;> rw [this]
      · exact q3
      · exact q4
      · exact q5
    | some e =>
      rcases cov_stable (x.next_some hs) hi q1 (by rw [q2]; exact q3) with h | ⟨c1, c2, c3⟩
      · exfalso; unfold waitLive at h1; rw [h] at h1; cases h1
      · rw [q2] at c1 c2 c3
        exact ⟨h1, h2, c1, c2.trans q4, c3.trans q5⟩

theorem no_descent {f : Nat → Nat} {j0 : Nat} (h : ∀ j, j0 ≤ j → ∃ j', j ≤ j' ∧ f j' < f j) : False := by
  obtain ⟨_, _, hf⟩ := Sched.descends Nat.lt_wfRel.wf (fun j => j0 ≤ j) (fun _ => False) f
    (fun j hj => (h j hj).imp fun j' ⟨a, b⟩ => ⟨a, .inr ⟨by omega, b⟩⟩) j0 (Nat.le_refl _)
  exact hf

/-- The V of a waker for the current instance of a woken record sets `posted`. -/
theorem semV_posts {cfg : Config} {s s' : State} {u : Tid} {k : SemId} {r : Rid} {q : Nat}
    (hs : step cfg s (.semV u k) = .ok s') (hl : (s.thr u).loc = .wwV)
    (hc : (s.thr u).cur = some (r, q)) (hq : (s.recs r).enqSeq = q) (hw : (s.recs r).stat = .woken) :
    (s'.recs r).posted = true := by
  simp only [step, stepSemV, hl, hc, need_ok] at hs
  obtain ⟨_, hs⟩ := hs
  cases hs
  simp [hq, hw]

/-- Distance to the return after the loop. -/
def rkE : Loc → Nat
  | .wExit => 3 | .wLocking => 2 | _ => 1

/-- A wait that has left its loop returns: descent along `wExit → wLocking | wRelocking → wRet →
    idle`, each edge by `hop` (the caller's mutex is re-acquired: `MutexFair`). -/
theorem exit_returns (x : Exec cfg s0) (hy : WaitHyps x) {t : Tid} {j : Nat}
    (hl : ((x.ρ j).thr t).loc.afterLoop = true) :
    ∃ j' res, j ≤ j' ∧ x.σ j' = some (.retWait t res) ∧
      ((x.ρ j').thr t).exitUnl = ((x.ρ j).thr t).exitUnl := by
  generalize hU : ((x.ρ j).thr t).exitUnl = U
  let R : Nat → Prop := fun k =>
    j ≤ k ∧ ((x.ρ k).thr t).loc.afterLoop = true ∧ ((x.ρ k).thr t).exitUnl = U
  let G : Nat → Prop := fun k =>
    ∃ j' res, j ≤ j' ∧ j' < k ∧ x.σ j' = some (.retWait t res) ∧ ((x.ρ j').thr t).exitUnl = U
  obtain ⟨_, _, j', res, h1, _, h2, h3⟩ := Sched.descends Nat.lt_wfRel.wf R G
    (fun k => rkE ((x.ρ k).thr t).loc) (fun k ⟨hjk, hl, hu⟩ => by
      have h4 := Loc.afterLoop_cases hl
      have hnh : ((x.ρ k).thr t).loc ≠ .wHead := by rintro h; rw [h] at hl; cases hl
      obtain ⟨j1, h1, ⟨f1, _, _, _, f5⟩, _, hs, hk, hret⟩ := hop x hy (afterLoop_inWait hl)
        (by rcases h4 with h | h | h | h <;> rw [h] <;> rfl)
        (by rcases h4 with h | h | h | h <;> rw [h] <;> intro h' <;> cases h')
      have hu1 := (f5 hnh).trans hu
      refine ⟨j1 + 1, by omega, ?_⟩
      -- an edge to a program point after the loop keeps `exitUnl`; the edge to `idle` is the return
      have keep : ∀ l, ((x.ρ (j1 + 1)).thr t).loc = l → l.afterLoop = true →
          rkE l < rkE ((x.ρ k).thr t).loc →
          G (j1 + 1) ∨ (R (j1 + 1) ∧ rkE ((x.ρ (j1 + 1)).thr t).loc < rkE ((x.ρ k).thr t).loc) :=
        fun l h hal hlt => .inr ⟨⟨by omega, by rw [h]; exact hal,
          (hk.2.2.1 (f1 ▸ hnh) (by rw [h]; intro h'; rw [h'] at hal; cases hal)).trans hu1⟩,
          by rw [h]; exact hlt⟩
      have ret : ((x.ρ (j1 + 1)).thr t).loc = .idle →
          G (j1 + 1) ∨ (R (j1 + 1) ∧ rkE ((x.ρ (j1 + 1)).thr t).loc < rkE ((x.ρ k).thr t).loc) :=
        fun h => by
          obtain ⟨res, hres⟩ := hret h
          exact .inl ⟨j1, res, by omega, by omega, hres, hu1⟩
      rcases h4 with h | h | h | h <;> simp only [WSucc, f1, h] at hs
      · rcases hs with hs | hs
        · exact keep _ hs rfl (by rw [h]; decide)
        · exact keep _ hs rfl (by rw [h]; decide)
      · exact keep _ hs rfl (by rw [h]; decide)
      · exact ret hs
      · exact ret hs) j ⟨Nat.le_refl _, hl, hU⟩
  exact ⟨j', res, h1, h2, h3⟩

theorem mucv_w {r : Rid} (h : r.isMucv = true) : ∃ k, r = .w k := by
  cases r with
  | w k => exact ⟨k, rfl⟩
  | nw k => cases h
  | nwa a b => cases h

/-- A covered wait leaves its loop. -/
theorem covered_exits (x : Exec cfg s0) (hy : WaitHyps x) {t : Tid} {r : Rid} {U : List Unl} {i : Nat}
    (h : CovAt x t r U i) :
    ∃ j, i ≤ j ∧ ((x.ρ j).thr t).loc = .wExit ∧ ((x.ρ j).thr t).exitUnl = U := by
  apply Classical.byContradiction
  intro hE
  have hr := hy.reach
  have hall : ∀ j, i ≤ j → CovAt x t r U j := by
    intro j hj
    obtain ⟨d, rfl⟩ := Nat.exists_eq_add_of_le hj
    rcases inv_until (G := fun j => ((x.ρ j).thr t).loc = .wExit ∧ ((x.ρ j).thr t).exitUnl = U)
        (fun j hj => cov_exec_step x hr hj) h d with h' | h'
    · exact absurd h' hE
    · exact h'
  have hinv := x.inv hr
  obtain ⟨k, rfl⟩ := mucv_w (((hinv i).a.thr t).live (hall i (Nat.le_refl _)).1).2.1 |>.imp
    (fun k hk => by rw [(hall i (Nat.le_refl _)).2.1] at hk; exact hk)
  -- (a) eventually woken or transferred
  have hA : ∃ js, i ≤ js ∧ (((x.ρ js).recs (.w k)).stat = .woken ∨ ((x.ρ js).recs (.w k)).stat = .xfer) := by
    obtain ⟨_, _, c, d, _⟩ := hall i (Nat.le_refl _)
    rcases c with c | c | ⟨u, c⟩
    · exact ⟨i, Nat.le_refl _, .inl c⟩
    · exact ⟨i, Nat.le_refl _, .inr c⟩
    · have hU : U = [Unl.waker u] := by rw [← d]; exact (invF_reachable (x.reach hr i)).unlL _ u c
      have hm := ((hinv i).a.lMem u _).mpr c
      obtain ⟨jr, hjr, hret⟩ :=
        waker_returns x hy.toHyps (wakePhase_inWake (list_wakePhase (hinv i) hm))
      have hk : ((x.ρ jr).thr u).loc = .kRet := by
        rcases hret with h | h
        · exact (retSignal_accepted (x.next_some h)).1
        · exact (retBroadcast_accepted (x.next_some h)).1
      have hl0 := ((hinv jr).a.thr u).list0 (by simp [hk, Loc.wakePhase])
      obtain ⟨_, _, c', d', _⟩ := hall jr hjr
      rcases c' with c' | c' | ⟨u', c'⟩
      · exact ⟨jr, hjr, .inl c'⟩
      · exact ⟨jr, hjr, .inr c'⟩
      · exfalso
        have := (invF_reachable (x.reach hr jr)).unlL _ u' c'
        rw [d', hU] at this
        simp at this
        subst this
        have hm' := ((hinv jr).a.lMem u _).mpr c'
        rw [hl0] at hm'; cases hm'
  obtain ⟨js, hjs, hst⟩ := hA
  -- (b) the status is stable
  have hstep : ∀ j, js ≤ j → (((x.ρ j).recs (.w k)).stat = .woken ∨ ((x.ρ j).recs (.w k)).stat = .xfer) →
      RecKept (x.ρ j) (x.ρ (j + 1)) (.w k) := by
    intro j hj hs
    obtain ⟨q1, q2, _⟩ := hall j (by omega)
    cases he : x.σ j with
    | none => rw [x.next_none he]; exact recKept_refl _ _
    | some e =>
      rcases rec_stable (step_tr (x.next_some he)) (hinv j) q1 (by rw [q2]; exact hs) with h' | h'
      · exfalso
        have := (hall (j + 1) (by omega)).1
        unfold waitLive at this; rw [h'] at this; cases this
      · rw [q2] at h'; exact h'
  have hstat : ∀ d, ((x.ρ (js + d)).recs (.w k)).stat = ((x.ρ js).recs (.w k)).stat ∧
      ((x.ρ (js + d)).recs (.w k)).enqSeq = ((x.ρ js).recs (.w k)).enqSeq := by
    intro d
    induction d with
    | zero => exact ⟨rfl, rfl⟩
    | succ d ih =>
      obtain ⟨a, b, _⟩ := hstep (js + d) (by omega) (by rw [ih.1]; exact hst)
      exact ⟨a.trans ih.1, b.trans ih.2⟩
  have hstat' : ∀ j, js ≤ j → ((x.ρ j).recs (.w k)).stat = ((x.ρ js).recs (.w k)).stat ∧
      ((x.ρ j).recs (.w k)).enqSeq = ((x.ρ js).recs (.w k)).enqSeq := by
    intro j hj
    obtain ⟨d, rfl⟩ := Nat.exists_eq_add_of_le hj
    exact hstat d
  -- (c) from some time on `waiting = 0` and the semaphore wait can return
  have hC : ∃ j0, js ≤ j0 ∧ ∀ j, j0 ≤ j → ((x.ρ j).recs (.w k)).waiting = false ∧
      (((x.ρ j).thr t).loc.asleep = true → CanWake (x.ρ j) t) := by
    rcases hst with hw | hx
    · -- woken: posted eventually, for ever
      have hwk : ∀ j, js ≤ j → ((x.ρ j).recs (.w k)).stat = .woken := fun j hj => by
        rw [(hstat' j hj).1]; exact hw
      have hpost : ∃ jp, js ≤ jp ∧ ((x.ρ jp).recs (.w k)).posted = true := by
        rcases (invE_reachable (x.reach hr js)).woken _ hw with hp | ⟨u, hc, hl⟩
        · exact ⟨js, Nat.le_refl _, hp⟩
        · obtain ⟨j1, hj1, ⟨e, he, ht, hne⟩, hthr⟩ :=
            next_move x hy.weak (wakeB_ready (by rw [hl]; rfl))
          obtain ⟨k', hk'⟩ := wwV_own (x.next_some he) ht hne (by rw [hthr]; exact hl)
          subst hk'
          refine ⟨j1 + 1, by omega, ?_⟩
          exact semV_posts (x.next_some he) (by rw [hthr]; exact hl) (by rw [hthr]; exact hc)
            (hstat' j1 hj1).2 (hwk j1 hj1)
      obtain ⟨jp, hjp, hp⟩ := hpost
      have hpall : ∀ d, ((x.ρ (jp + d)).recs (.w k)).posted = true := by
        intro d
        induction d with
        | zero => exact hp
        | succ d ih => exact (hstep (jp + d) (by omega) (.inl (hwk _ (by omega)))).2.2.2.2 ih
      refine ⟨jp, hjp, fun j hj => ⟨(hinv j).b.wokenW _ (hwk j (by omega)), fun hsl => ?_⟩⟩
      obtain ⟨d, rfl⟩ := Nat.exists_eq_add_of_le hj
      obtain ⟨_, q2, _, _, q5⟩ := hall (jp + d) (by omega)
      have := hy.kept (jp + d) k (hwk _ (by omega)) (hpall d) (by rw [q5]; exact hsl) (by rw [q5]; exact q2)
      exact .inl ⟨k, q2, this⟩
    · -- transferred: the mutex layer's job
      obtain ⟨j0, hj0, hT⟩ := hy.transfer k js hx
      refine ⟨j0, hj0, fun j hj => ?_⟩
      have hxj : ((x.ρ j).recs (.w k)).stat = .xfer := by rw [(hstat' j (by omega)).1]; exact hx
      obtain ⟨a, b⟩ := hT j hj hxj
      obtain ⟨_, q2, _, _, q5⟩ := hall j (by omega)
      exact ⟨a, fun hsl => .inl ⟨k, q2, b (by rw [q5]; exact hsl)⟩⟩
  obtain ⟨j0, hj0, hC⟩ := hC
  -- (d) descent
  apply no_descent (f := fun j => rkD ((x.ρ j).thr t)) (j0 := j0)
  intro j hj
  obtain ⟨q1, q2, _, _, _⟩ := hall j (by omega)
  have hw := waitLive_inWait q1
  cases hsp : ((x.ρ j).thr t).loc.spinLoop with
  | true =>
    obtain ⟨j2, h2, _, _, _, _, _, hc⟩ := hop_spin x hy.toHyps hw hsp
    have hcc : ((x.ρ j).thr t).cont = .waitChk := (waitLive_spin_iff hsp).mp q1
    refine ⟨j2, h2, ?_⟩
    rcases hc with ⟨h, _⟩ | ⟨_, h⟩
    · rw [hcc] at h; cases h
    · show rkD _ < rkD _
      unfold rkD; rw [h]
      rcases Loc.spinLoop_cases hsp with h' | h' | h' <;> rw [h'] <;> decide
  | false =>
    have hsl : ((x.ρ j).thr t).loc.asleep = true →
        ∃ j', j ≤ j' ∧ ((x.ρ j').thr t).loc.asleep = false := by
      intro _
      apply Classical.byContradiction
      intro hn
      apply hy.sem t j
      intro j' hj'
      have ha : ((x.ρ j').thr t).loc.asleep = true := by
        cases h : ((x.ρ j').thr t).loc.asleep
        · exact absurd ⟨j', hj', h⟩ hn
        · rfl
      exact ⟨ha, (hC j' (by omega)).2 ha⟩
    obtain ⟨j1, h1, ⟨f1, _⟩, hw1, hs, hk, _⟩ := hop x hy hw hsp hsl
    obtain ⟨p1, p2, _, _, _⟩ := hall j1 (by omega)
    have hwf : ((x.ρ j1).recs ((x.ρ j1).thr t).r).waiting = false := by
      rw [p2]; exact (hC j1 (by omega)).1
    rw [hwf] at hs
    have hstj : ((x.ρ j1).recs ((x.ρ j1).thr t).r).stat = .woken ∨
        ((x.ρ j1).recs ((x.ρ j1).thr t).r).stat = .xfer := by
      rw [p2, (hstat' j1 (by omega)).1]; exact hst
    have hnself : ∀ l, ((x.ρ j1).thr t).loc = l → l = .wRmLd ∨ l = .wRmCas ∨ l = .wClr → False := by
      intro l hl hor
      have := ((hinv j1).a.thr t).selfO (by rw [hl]; exact hor)
      rcases hstj with h | h <;> rw [h] at this <;> cases this
    rcases succ_rank p1 hs (by rw [f1]; exact hsp) (fun h => hnself _ h (.inl rfl))
        (fun h => hnself _ h (.inr (.inl rfl))) (fun h => hnself _ h (.inr (.inr rfl))) with ⟨h, _⟩ | ⟨_, h⟩
    · exfalso
      have := (hall (j1 + 1) (by omega)).1
      unfold waitLive at this; rw [h] at this; cases this
    · exact ⟨j1 + 1, by omega, by show rkD _ < rkD _; rw [← rkD_loc f1]; exact h⟩

/-- The run invariant holds when the wait is covered. -/
theorem covAt_of_covered (x : Exec cfg s0) (hr : Reachable cfg s0) {t : Tid} {i : Nat}
    (h : Covered (x.ρ i) t) :
    CovAt x t ((x.ρ i).thr t).r ((x.ρ i).recs ((x.ρ i).thr t).r).unl i ∧
    ∃ u, ((x.ρ i).recs ((x.ρ i).thr t).r).unl = [Unl.waker u] := by
  obtain ⟨hl, hc⟩ := h
  have hi := x.inv hr i
  have hf := invF_reachable (x.reach hr i)
  refine ⟨⟨hl, rfl, ?_, rfl, ((hi.a.thr t).live hl).1⟩, ?_⟩
  · rcases hc with ⟨u, h⟩ | h | h
    · exact .inr (.inr ⟨u, h⟩)
    · exact .inl h
    · exact .inr (.inl h)
  · rcases hc with ⟨u, h⟩ | h | h
    · exact ⟨u, hf.unlL _ u h⟩
    · exact hf.unlW _ (.inl h)
    · exact hf.unlW _ (.inr h)

/-- A wait that is covered by a wake-up returns 0. -/
theorem covered_returns (x : Exec cfg s0) (hy : WaitHyps x) {t : Tid} {i : Nat}
    (h : Covered (x.ρ i) t) : ∃ j, i ≤ j ∧ x.σ j = some (.retWait t .ok) := by
  obtain ⟨hc, u, hu⟩ := covAt_of_covered x hy.reach h
  obtain ⟨j, hj, hl, he⟩ := covered_exits x hy hc
  obtain ⟨j', res, hj', hres, hex⟩ := exit_returns x hy (j := j) (by rw [hl]; rfl)
  have := (C04_outcome_partial (x.reach hy.reach j') (x.next_some hres)).2 u (by rw [hex, he, hu]; simp)
  subst this
  exact ⟨j', by omega, hres⟩

end NsyncVerif.CvFix
