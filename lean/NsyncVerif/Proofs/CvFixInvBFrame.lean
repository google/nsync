/-
  Layer `CvFix` (repaired cv.c): protocol invariant — a transition that only moves the acting thread (releases of the
  spinlock, plain acquisitions, mutex mode, V, semaphore returns).
-/
import NsyncVerif.Proofs.CvFixInvBGen

namespace NsyncVerif.CvFix

variable {f3 : Bool}

set_option hygiene false in
macro "tB_facts" hl:ident : tactic =>
  `(tactic| (
     have hb := hi.thr t
     obtain ⟨b1, b2, b3, b4, b5, b6, b7, b8, b9, b10, b11, b12, b13, b14⟩ := hb
     have a3 := (ha.thr t).live
     simp only [savedLoc, waitLive, waitPrep, Loc.afterLoop, $hl:ident, true_imp_iff] at b1 b2 b3 b4 b5 b6 b7 b8 b9 b12 b13 b14 a3))

/-- One thread moves; no record changes a field the protocol invariant looks at. -/
theorem invB_move {s s' : State} {t : Tid} {x' : Thr} (hi : InvB' f3 s) (ha : InvA s)
    (hthr : s'.thr = updT s.thr t x')
    (hrec : ∀ q, (s'.recs q).stat = (s.recs q).stat ∧ (s'.recs q).rc = (s.recs q).rc ∧
                 (s'.recs q).waiting = (s.recs q).waiting ∧ (s'.recs q).unl = (s.recs q).unl)
    (hbad : s'.bad = s.bad) (m : Move s (s.thr t) x') : FrameB f3 s' := by
  have hx : s'.thr t = x' := by rw [hthr]; simp
  have ho : ∀ u, u ≠ t → s'.thr u = s.thr u := fun u hu => by rw [hthr]; simp [hu]
  rw [← hx] at m
  refine invB_frame hi ha ho hrec hbad m.todo
    (tinvB_move hi ha m (fun q => (hrec q).1) (fun _ => (hrec _).2.1) (fun _ => (hrec _).2.2.1) ?_)
  intro u
  by_cases hu : u = t
  · subst hu; exact m.todo
  · rw [ho u hu]

/-- `InvB' f3` does not look at cv word, holder, queue, semaphores, clock, sequence numbers. -/
theorem invB_congr {s s' : State} (hi : InvB' f3 s) (ha : InvA s) (h4 : s'.recs = s.recs) (h5 : s'.thr = s.thr)
    (h7 : s'.bad = s.bad) : FrameB f3 s' := by
  refine invB_frame (t := 0) hi ha (fun u _ => by rw [h5]) (fun q => by rw [h4]; exact ⟨rfl, rfl, rfl, rfl⟩) h7
    (by rw [h5]) ?_
  exact tinvB_other (hi.thr 0) (ha.thr 0) (by rw [h5]) (fun v => by rw [h5])
    (fun q _ _ => by rw [h4]; exact ⟨rfl, rfl, rfl⟩)

end NsyncVerif.CvFix
