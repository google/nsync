/-
  Proofs/WaitNFairWspin.lean — WaitN layer, liveness: the wait loop of cv_dequeue (`wspin`) is only entered from
  the walk over pcv->waiters that did not find the record (`enter_wspin`); hence (`wspin_owned`) a record whose
  owner is in that loop and whose `waiting` is still set is in the wake list of a signaller, which has unlinked it
  and has not yet executed its `ATM_STORE_REL (&p_nw->waiting, 0)`, and stays there until it does (`pend_persist`).
-/
import NsyncVerif.Proofs.WaitNFairStep


namespace WaitN

def isWspin : PC → Bool
  | .wDeqCv _ .wspin => true
  | _ => false

theorem Entry.nw {p : PC} (h : Entry p) : isWspin p = false := by cases h <;> rfl

/-- closes `isWspin (s'.pc t) = false` at an accepting leaf -/
macro "nw_leaf" hpc:ident h:ident : tactic => `(tactic| first
  | exact nw_dflt $hpc rfl $h
  | exact nw_rtDone $h
  | exact nw_deqDone $h
  | exact nw_afterEnq $h
  | exact nw_open $hpc rfl $h
  | exact nw_spinAcq $hpc rfl (fun _ => rfl) rfl $h
  | (cases $h:ident; simp [$hpc:ident]; done)
  | (cases $h:ident; simp [isWspin, $hpc:ident]; done)
  | (cases $h:ident; simp [$hpc:ident]; split <;> rfl)
  | (cases $h:ident; simp [isWspin, $hpc:ident]; split <;> rfl))

theorem bool_contra {b : Bool} (h1 : b = false) (h2 : b = true) : False := by rw [h1] at h2; cases h2

/-- the step into the wait loop: the walk over pcv->waiters did not find the record -/
def EnterW (s s' : State) (t : Tid) (j : Nat) : Prop :=
  ∃ c r0, (s.fr t).objs[j]? = some (.cv c) ∧ (s.fr t).recs[j]? = some r0 ∧ r0 ∉ (s.obj (.cv c)).queue
    ∧ (s'.obj (.cv c)).queue = (s.obj (.cv c)).queue ∧ s'.fr = s.fr ∧ s'.rcd = s.rcd ∧ s'.pc t = .wDeqCv j .wspin

/-- The wait loop of cv_dequeue is entered only from the walk that did not find the record. -/
theorem enter_wspin {s s' : State} {t : Tid} {e : Ev} (hstep : stepThr s t e = .ok s') (hw : isWspin (s'.pc t) = true) :
    (isWspin (s.pc t) = true ∧ s'.pc t = s.pc t) ∨ ∃ j, s.pc t = .wDeqCv j .store ∧ EnterW s s' t j := by
  obtain ⟨k, s1, a, b⟩ := steps_stepThr hstep
  have keep : ∀ {s2 : State}, s2.pc = s1.pc → isWspin (s2.pc t) = true →
      isWspin (s.pc t) = true ∧ s2.pc t = s.pc t := fun h2 hw2 => by
    rw [h2, a.pc] at hw2 ⊢; exact ⟨hw2, rfl⟩
  have own : ∀ {s2 : State} {p : PC}, (s2.setPc t p).pc t = p := by intros; rw [setPc_pc, if_pos rfl]
  cases b
  case same => exact .inl (keep rfl hw)
  case nested => exact .inl (keep rfl hw)
  case dflt h => exact .inl (keep (dflt_frame h).1 hw)
  case v r j s2 he hps => exact .inl (keep (postSem_sem hps).2.2.2.1 hw)
  case goto p hf =>
    rw [own] at hw
    cases p <;> first | cases hw | skip
    rename_i j st; cases st <;> first | exact (hf.ne_wspin j rfl).elim | cases hw
  case giveUp j c r fl hpc ho hr hn hs =>
    subst hs
    exact .inr ⟨j, hpc, c, r, ho, hr, hn, by simp, rfl, rfl, own⟩
  case rtDone h => exact (bool_contra (entry_rtDone h).nw hw).elim
  case afterEnq h => exact (bool_contra (entry_afterEnq h).nw hw).elim
  case deqDone h => exact (bool_contra (entry_deqDone h).nw hw).elim
  all_goals
    exfalso
    first
    | (rw [own] at hw; first | cases hw | exact bool_contra (Entry.nw (by simp)) hw | (split at hw <;> cases hw))
    | exact bool_contra (Entry.nw (by simp [startScan])) hw

/-!
### a record in a signaller's wake list stays there until the signaller clears its `waiting`
(`pend_persist`); the invariant `wspin_owned`.
-/

theorem wk_some {p : PC} {c : Nat} {l : List Rid} (h : wk p = some (c, l)) : ∃ bc, p = .sg c bc (.wake l) := by
  unfold wk at h
  split at h
  · simp only [Option.some.injEq, Prod.mk.injEq] at h
    obtain ⟨rfl, rfl⟩ := h
    exact ⟨_, rfl⟩
  · cases h

/-- a step of the signaller itself: the record stays in its wake list, or its `waiting` has been cleared -/
theorem pend_persist {s s' : State} {u : Tid} {e : Ev} {c : Nat} {l : List Rid} {r : Rid} (hreach : Reachable s)
    (hwk : wk (s.pc u) = some (c, l)) (hr : r ∈ pend (s.post u) l) (h : stepThr s u e = .ok s') :
    (∃ c' l', wk (s'.pc u) = some (c', l') ∧ r ∈ pend (s'.post u) l') ∨ (s'.rcd r).waiting = false := by
  have q := (qinv_of_reachable hreach).qi
  obtain ⟨hl, -, hw, -, hnq⟩ := (q.q4 u c l hwk).2.2 r hr
  obtain ⟨bc, hpc⟩ := wk_some hwk
  obtain ⟨_, tr⟩ := tr_rec h r
  cases tr
  case keep hq hh =>
    -- the record is as it was, alive, waiting and in no queue: `q3` after the step finds it in a wake list, and
    -- `q4d` before the step says that it is not another signaller's
    rw [← hh] at hl hw
    rcases (qinv_of_reachable (reachable_step hreach (e := .thr u e) h)).qi.q3 r hl hw with h1 | ⟨u', c', l', h1, h2⟩
    · exact (hnq _ ((hq _).1 h1)).elim
    · by_cases huu : u' = u
      · subst huu; exact .inl ⟨c', l', h1, h2⟩
      · obtain ⟨e1, -, e3, -⟩ := others_stepThr h u' huu
        rw [e1] at h1; rw [e3] at h2
        exact (q.q4d u u' c l c' l' (Ne.symm huu) hwk h1 r hr h2).elim
  -- no other writer that leaves `waiting` set is at `.sg c bc (.wake l)`
  case unlink _ _ hp _ | kill _ hp _ | enqueue _ _ _ hp _ _ | deqd _ _ hp _ => rw [hpc] at hp; simp at hp
  all_goals (rename_i hh; exact .inr (hh ▸ rfl))

/-- a record whose owner is in the wait loop of cv_dequeue with `waiting` still set is in a signaller's wake list -/
def WS (s : State) : Prop :=
  ∀ t j r, s.pc t = .wDeqCv j .wspin → (s.fr t).recs[j]? = some r → (s.rcd r).waiting = true →
    ∃ u c l, wk (s.pc u) = some (c, l) ∧ r ∈ pend (s.post u) l

/-- the thread stayed in the wait loop over this step (of thread `v`): the invariant is preserved -/
theorem ws_stay {s s' : State} {v t : Tid} {e : Ev} {j : Nat} {r : Rid} (hr : Reachable s) (hws : WS s)
    (hs : stepThr s v e = .ok s') (hpc : s.pc t = .wDeqCv j .wspin) (hrec : (s.fr t).recs[j]? = some r)
    (hwt' : (s'.rcd r).waiting = true) :
    ∃ u c l, wk (s'.pc u) = some (c, l) ∧ r ∈ pend (s'.post u) l := by
  have own := own_of_reachable hr
  have hlt := linv_of_reachable hr t
  rw [hpc] at hlt
  have hct : inCall (s.pc t) = true := by rw [hpc]; rfl
  have hmem : r ∈ (s.fr t).recs := List.mem_of_getElem? hrec
  have hw : (s.rcd r).waiting = true := by
    cases hw0 : (s.rcd r).waiting with
    | true => rfl
    | false =>
      exfalso
      obtain ⟨_, i, hi | hi⟩ := own.waiting_set (linv_of_reachable hr v) (mono_stepThr hs) hct hlt.1.frees hmem hw0 hwt' <;>
        (rw [hpc] at hi; cases hi)
  obtain ⟨u, c, l, hwk, hp⟩ := hws t j r hpc hrec hw
  by_cases huv : u = v
  · subst huv
    rcases pend_persist hr hwk hp hs with h | h
    · obtain ⟨c', l', h1, h2⟩ := h; exact ⟨u, c', l', h1, h2⟩
    · rw [h] at hwt'; cases hwt'
  · obtain ⟨h1, _, h3, _⟩ := others_stepThr hs u huv
    exact ⟨u, c, l, by rw [h1]; exact hwk, by rw [h3]; exact hp⟩

theorem ws_step {s s' : State} {v : Tid} {e : Ev} (hr : Reachable s) (hws : WS s) (hs' : stepThr s v e = .ok s') : WS s' := by
  intro t j r hpc' hrec' hwt'
  have hs : step s (.thr v e) = .ok s' := hs'
  by_cases hv : v = t
  · subst hv
    rcases enter_wspin hs' (by rw [hpc']; rfl) with ⟨_, hsame⟩ | ⟨j0, hst, c, r0, ho, hr0, hnq, hqeq, hfr, hrcd, hpcw⟩
    · -- it was in the loop already
      have hpc : s.pc v = .wDeqCv j .wspin := by rw [← hsame]; exact hpc'
      have hfs : frSame (s.fr v) (s'.fr v) := by
        rcases prog_stepThr hr hs' with h | h | ⟨ho, _, h | h | h | h | h | h⟩
        · rw [hpc] at h; cases h
        · rw [hpc'] at h; cases h
        · exact h.2.2
        · exfalso; simp [rk, hpc, hpc', rank, count_eq ho] at h
        · rw [hpc] at h; cases h.1
        · obtain ⟨k, hk, _⟩ := h; rw [hpc] at hk; cases hk
        · rw [hpc] at h; cases h.1
        · rw [hpc] at h; exact h.elim
      rw [frSame_recs hfs] at hrec'
      exact ws_stay hr hws hs' hpc hrec' hwt'
    · -- it enters the loop
      rw [hpc'] at hpcw
      cases hpcw
      have hr' := reachable_step hr hs
      have own' := own_of_reachable hr'
      have hl' := linv_of_reachable hr' v
      rw [hpc'] at hl'
      have hc' : inCall (s'.pc v) = true := by rw [hpc']; rfl
      have hlive := (own'.own v r hc' hl'.1.frees (List.mem_of_getElem? hrec')).1
      have hidx := own'.idx v j r hc' hl'.1.frees hrec'
      rw [hfr] at hrec' hidx
      rw [hr0] at hrec'; cases hrec'
      rw [ho] at hidx
      have hobj : (s'.rcd r).obj = .cv c := (Option.some.inj hidx).symm
      rcases (qinv_of_reachable hr').qi.q3 r hlive hwt' with h | h
      · rw [hobj, hqeq] at h; exact absurd h hnq
      · exact h
  · obtain ⟨h1, _, _, h4⟩ := others_stepThr hs' t (fun h => hv h.symm)
    rw [h1] at hpc'
    rw [frSame_recs h4] at hrec'
    exact ws_stay hr hws hs' hpc' hrec' hwt'

theorem ws_of_reachable {s : State} (h : Reachable s) : WS s := by
  refine reachable_inv (P := WS) ?_ (fun _ _ ih _ => ih) (fun _ _ _ _ hr hp hs => ws_step hr hp hs) h
  intro t j r hpc
  simp [init] at hpc

/-- In the wait loop of cv_dequeue, while `waiting` is still set, a signaller owns the record. -/
theorem wspin_owned {s : State} {t : Tid} {j : Nat} {r : Rid} (hr : Reachable s) (hpc : s.pc t = .wDeqCv j .wspin)
    (hrec : (s.fr t).recs[j]? = some r) (hw : (s.rcd r).waiting = true) :
    ∃ u c l, wk (s.pc u) = some (c, l) ∧ r ∈ pend (s.post u) l :=
  ws_of_reachable hr t j r hpc hrec hw

end WaitN
