/-
  Layer `CvFix` (repaired cv.c): `step … = .ok s'` implies `Tr` — atomics on the cv word.
-/
import NsyncVerif.Proofs.CvFixTr

namespace NsyncVerif.CvFix

theorem need_ok {c : Prop} [Decidable c] {msg : String} {k : Except String State} {s' : State} :
    need c msg k = .ok s' ↔ c ∧ k = .ok s' := by
  unfold need; split <;> simp_all

theorem tr_wordLd {cfg : Config} {s s' : State} {t : Tid} {site : WSite} {obs : Nat}
    (h : stepWordLd s t site obs = .ok s') : Tr cfg s (.wordLd t site obs) s' := by
  unfold stepWordLd at h
  simp only [need_ok] at h
  obtain ⟨ho, h⟩ := h
  split at h
  · rename_i hl; cases h; exact .loc (.spinLd _ _ (.inl ⟨rfl, hl⟩) ho)
  · rename_i hl; cases h; exact .loc (.spinLd _ _ (.inr ⟨rfl, hl⟩) ho)
  · rename_i hl; cases h; exact .loc (.spinLdN _ hl ho)
  · rename_i hl
    simp only [need_ok] at h
    obtain ⟨hb, h⟩ := h
    cases h
    exact .loc (.sigLd _ _ hl (.inl ⟨rfl, hb.trans (by decide)⟩) ho)
  · rename_i hl
    simp only [need_ok] at h
    obtain ⟨hb, h⟩ := h
    cases h
    exact .loc (.sigLd _ _ hl (.inr ⟨rfl, hb.trans (by decide)⟩) ho)
  · rename_i hl; cases h; exact .loc (.dbgLd _ hl ho)
  · cases h

theorem tr_wordCas {cfg : Config} {s s' : State} {t : Tid} {exp new obs : Nat} {ok : Bool}
    (h : stepWordCas s t exp new obs ok = .ok s') : Tr cfg s (.wordCas t exp new obs ok) s' := by
  unfold stepWordCas at h
  simp only [need_ok] at h
  obtain ⟨hl, he, hn, ho, hok, h⟩ := h
  split at h
  · rename_i hk
    split at h
    · rename_i o n ho' hn'
      cases h
      subst hk
      have : obs = exp := by simpa using hok.symm
      exact .acq t exp new obs o n hl he ho this ho' hn' hn
    · cases h
  · rename_i hk
    cases h
    have hk' : ok = false := by simpa using hk
    subst hk'
    have : obs ≠ exp := by simpa using hok.symm
    exact .loc (.casFail _ _ _ hl ho this)

theorem release_ok {s : State} {t : Tid} {new obs : Nat} {k : State → Except String State} {s' : State}
    (h : release s t new obs k = .ok s') :
    s.holder = some t ∧ ∃ n, Word.dec? new = some n ∧ n.spin = false ∧ k { s with word := n, holder := none } = .ok s' := by
  unfold release at h
  simp only [need_ok] at h
  obtain ⟨hh, _, h⟩ := h
  split at h
  · rename_i n hn
    simp only [need_ok] at h
    exact ⟨hh, n, hn, h.1, h.2⟩
  · cases h

theorem tr_wordSt {cfg : Config} {s s' : State} {t : Tid} {site : WSite} {new obs : Nat}
    (h : stepWordSt s t site new obs = .ok s') : Tr cfg s (.wordSt t site new obs) s' := by
  unfold stepWordSt at h
  dsimp only at h
  split at h
  · rename_i hl
    simp only [need_ok] at h
    obtain ⟨hnew, h⟩ := h
    obtain ⟨hh, n, hn, hsp, h⟩ := release_ok h
    cases h
    exact .relWait t new obs n hl hh hnew hn hsp
  · rename_i hl
    simp only [need_ok] at h
    obtain ⟨hnew, h⟩ := h
    obtain ⟨hh, n, hn, hsp, h⟩ := release_ok h
    cases h
    exact .relWait2 t new obs n hl hh hnew hn hsp
  · rename_i hl
    simp only [need_ok] at h
    obtain ⟨hb, hnew, h⟩ := h
    obtain ⟨hh, n, hn, hsp, h⟩ := release_ok h
    cases h
    exact .relSig t _ new obs n hl (.inl ⟨rfl, hb.trans (by decide)⟩) hh hnew hn hsp
  · rename_i hl
    simp only [need_ok] at h
    obtain ⟨hb, hnew, h⟩ := h
    obtain ⟨hh, n, hn, hsp, h⟩ := release_ok h
    cases h
    exact .relSig t _ new obs n hl (.inr ⟨rfl, hb.trans (by decide)⟩) hh hnew hn hsp
  · rename_i hl
    simp only [need_ok] at h
    obtain ⟨hnew, h⟩ := h
    obtain ⟨hh, n, hn, hsp, h⟩ := release_ok h
    cases h
    exact .relEnq t new obs n hl hh hnew hn hsp
  · rename_i hl
    simp only [need_ok] at h
    obtain ⟨hnew, h⟩ := h
    obtain ⟨hh, n, hn, hsp, h⟩ := release_ok h
    cases h
    exact .relDeq t new obs n hl hh hnew hn hsp
  · rename_i hl
    simp only [need_ok] at h
    obtain ⟨hnew, h⟩ := h
    obtain ⟨hh, n, hn, hsp, h⟩ := release_ok h
    cases h
    exact .relDeqW t new obs n hl hh hnew hn hsp
  · rename_i hl
    simp only [need_ok] at h
    obtain ⟨hnew, h⟩ := h
    obtain ⟨hh, n, hn, hsp, h⟩ := release_ok h
    cases h
    exact .relDbg t new obs n hl hh hnew hn hsp
  · cases h

end NsyncVerif.CvFix
