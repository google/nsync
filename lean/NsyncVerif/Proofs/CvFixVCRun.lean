/-
  Layer `CvFix` × vector clocks: the cv-signal edge along an accepted event list (trace form), and
  the stability lemmas it needs.
    `woken_exit`        a record leaves status `woken` only when its owner notices: the loop exit
                        of the cv wait [cv.c/10 observing 0], or the return of cv_dequeue
                        [cv.c/34 with `being_woken == 0`, or cv.c/35 observing 0];
    `afterLoop_leave`   a cv wait that is past its loop stays there until its `ret`;
    `woken_stable_run`, `exit_stable_run`  the same along event lists, with the ghosts.
-/
import NsyncVerif.Proofs.CvFixVCInv

namespace NsyncVerif.CvFix
open NsyncVerif

def WokenExit (s : State) (e : Event) (r : Rid) : Prop :=
  (∃ t, e = .recLd t .wHead r 0) ∨ (∃ t, e = .recLd t .deqSpin r 0) ∨
  (∃ t new obs, e = .wordSt t .deqRel new obs ∧ (s.thr t).loc = .nDeqRel ∧ (s.thr t).r = r)

theorem woken_exit {cfg : Config} {s s' : State} {e : Event} (hi : Inv s) (h : Tr cfg s e s')
    (r : Rid) (hw : (s.recs r).stat = .woken) : (s'.recs r).stat = .woken ∨ WokenExit s e r := by
  have h := h.rcd hi.a hi.b.weak r
  generalize s'.recs r = b at h ⊢
  generalize s.recs r = a at h hw
  cases h with
  | exit t => exact .inr (.inl ⟨t, rfl⟩)
  | deqSpin t => exact .inr (.inr (.inl ⟨t, rfl⟩))
  | deqRel t new obs _ _ _ hl hr => exact .inr (.inr (.inr ⟨t, new, obs, rfl, hl, hr⟩))
  | keep | rcInc | fStW | fCasOk | post | clr | deqSt | pub | muMode | wInit | nwInit => exact .inl hw
  | wSt1 _ _ _ h | enqSt _ _ _ h | enq _ _ _ _ _ h | unlink _ _ _ _ _ h | selfOut _ _ _ _ h | wake _ _ _ h
  | xfer _ _ _ _ _ h => rw [hw] at h; cases h

/-- For a pooled waiter the only way out of `woken` is the loop exit of its cv wait. -/
theorem woken_exit_mucv {cfg : Config} {s s' : State} {e : Event} (hi : Inv s)
    (hs : step cfg s e = .ok s') (r : Rid) (hm : r.isMucv = true) (hw : (s.recs r).stat = .woken) :
    (s'.recs r).stat = .woken ∨ ∃ t, e = .recLd t .wHead r 0 := by
  rcases woken_exit hi (step_tr hs) r hw with h | ⟨t, h⟩ | ⟨t, rfl⟩ | ⟨t, new, obs, rfl, hl, hr⟩
  · exact .inl h
  · exact .inr ⟨t, h⟩
  · exfalso
    obtain ⟨hl, hr, _, _⟩ := deqSpin_exit_accepted hs
    have := ((hi.a.thr t).mine _ ((hi.a.thr t).nSpin (.inr hl)).1).1
    rw [← hr, hm] at this; cases this
  · exfalso
    have := ((hi.a.thr t).mine _ ((hi.a.thr t).nDeq (.inr hl)).1).1
    rw [hr, hm] at this; cases this

def LoopLeave (e : Event) (s' : State) (u : Tid) : Prop :=
  (s'.thr u).loc.afterLoop = true ∨ ∃ res, e = .retWait u res

theorem ll_ltr {s : State} {t : Tid} {e : Event} {x' : Thr} (h : LTr s t e x')
    (hm : (s.thr t).loc.afterLoop = true) : x'.loc.afterLoop = true ∨ ∃ res, e = .retWait t res := by
  cases h with
  | lockMark | relockSlow | nretLock => left; rfl
  | retWait res hl hr => exact .inr ⟨res, rfl⟩
  | spinLd site obs hl ho => rcases hl with ⟨_, hl⟩ | ⟨_, hl⟩ <;> rw [hl] at hm <;> cases hm
  | noteSeen hl => rcases hl with hl | hl | hl <;> rw [hl] at hm <;> cases hm
  | wwRelLd site obs hl => rcases hl with ⟨_, hl⟩ | ⟨_, hl⟩ <;> rw [hl] at hm <;> cases hm
  | wChk y r obs hy hl hr ho hso =>
    exfalso
    cases hy <;> simp_all [Loc.afterLoop]
  | wTail y r obs hy hl hr ho =>
    exfalso
    cases hy <;> simp_all [Loc.afterLoop]
  | _ => exfalso; simp_all [Loc.afterLoop]

theorem afterLoop_leave {cfg : Config} {s s' : State} {e : Event} (h : Tr cfg s e s') (u : Tid)
    (hm : (s.thr u).loc.afterLoop = true) : LoopLeave e s' u := by
  unfold LoopLeave
  rcases tr_local h (afterLoop_not_shared hm) with h1 | ⟨x', hx, h1⟩ <;> rw [h1]
  · exact .inl hm
  · exact ll_ltr hx hm

/-- From the waker's store to the owner's loop exit, a pooled record stays `woken` and its ghost
    wake-up stays the same. -/
theorem woken_stable_run {cfg : Config} {fo : Nat → VC.Ord} {mid : List Event} {p p' : PState}
    {r : Rid} {W : Wake} (hr : Reachable cfg p.s) (hm : r.isMucv = true)
    (hw : (p.s.recs r).stat = .woken) (hk : p.wk r = some W)
    (hmid : ∀ t', Event.recLd t' .wHead r 0 ∉ mid) (h : prun cfg fo p mid = .ok p') :
    (p'.s.recs r).stat = .woken ∧ p'.wk r = some W :=
  ((isPRun cfg fo).induct_mem
    (Q := fun q => Reachable cfg q.s ∧ (q.s.recs r).stat = .woken ∧ q.wk r = some W) ⟨hr, hw, hk⟩
    (fun q e q' he _ ⟨hr, hw, hk⟩ hp => by
      obtain ⟨s1, hs, rfl⟩ := pstep_ok hp
      have hi := inv_reachable hr
      refine ⟨reachable_step hr hs, ?_, ?_⟩
      · rcases woken_exit_mucv hi hs r hm hw with h | ⟨t', rfl⟩
        · exact h
        · exact absurd he (hmid t')
      · simp only [pnext]
        rw [wkUpd_keep q e r (woken_no_store hi hs r hw)]; exact hk) h).2

/-- From the loop exit to the `ret` of the wait, the thread stays past the loop and what it
    recorded at the exit stays the same. -/
theorem exit_stable_run {cfg : Config} {fo : Nat → VC.Ord} {rest : List Event} {p p' : PState}
    {t : Tid} (hr : Reachable cfg p.s) (hal : (p.s.thr t).loc.afterLoop = true)
    (hrest : ∀ res', Event.retWait t res' ∉ rest) (h : prun cfg fo p rest = .ok p') :
    (p'.s.thr t).loc.afterLoop = true ∧ p'.xw t = p.xw t ∧
    (p'.s.thr t).exitUnl = (p.s.thr t).exitUnl ∧ (p'.s.thr t).xferd = (p.s.thr t).xferd :=
  ((isPRun cfg fo).induct_mem
    (Q := fun q => Reachable cfg q.s ∧ (q.s.thr t).loc.afterLoop = true ∧ q.xw t = p.xw t ∧
      (q.s.thr t).exitUnl = (p.s.thr t).exitUnl ∧ (q.s.thr t).xferd = (p.s.thr t).xferd)
    ⟨hr, hal, rfl, rfl, rfl⟩
    (fun q e q' he _ ⟨hr, hal, h2, h3, h4⟩ hp => by
      obtain ⟨s1, hs, rfl⟩ := pstep_ok hp
      have hf := invF_reachable hr
      have hal1 : (s1.thr t).loc.afterLoop = true := by
        rcases afterLoop_leave (step_tr hs) t hal with h | ⟨res, rfl⟩
        · exact h
        · exact absurd he (hrest res)
      have hx : xwTid e ≠ some t := by
        intro hh
        have := xwTid_loc hs hh
        rw [hal] at this; cases this
      refine ⟨reachable_step hr hs, hal1, (xwUpd_other q e t hx).trans h2, ?_, ?_⟩
      · rw [← h3]
        rcases (tfacts_tr hf (step_tr hs) t).exit hal1 with ⟨_, _, h⟩ | ⟨r, rfl, hl, _⟩
        · exact h
        · rw [hl] at hal; cases hal
      · rw [← h4]
        rcases (tfacts_tr hf (step_tr hs) t).exit hal1 with ⟨_, h, _⟩ | ⟨r, rfl, hl, _⟩
        · exact h
        · rw [hl] at hal; cases hal) h).2

/-- The record is `woken` and no cv_dequeue has yet looked at it since. -/
def WokenFresh (s : State) (r : Rid) : Prop :=
  (s.recs r).stat = .woken ∧ ∀ t', (s.thr t').loc = .nDeqRel → (s.thr t').r ≠ r

/-- Right after the waker's store the record is `woken` and fresh. -/
theorem wokenFresh_wake {cfg : Config} {s s' : State} {u : Tid} {r : Rid} {n o : Nat}
    (hr : Reachable cfg s) (hs : step cfg s (.recSt u .wake r n o) = .ok s') :
    (s.recs r).stat = .listed u ∧ WokenFresh s' r := by
  have hi := inv_reachable hr
  have hf := invF_reachable hr
  have hf' := invF_reachable (reachable_step hr hs)
  have htr := step_tr hs
  have hst : (s.recs r).stat = .listed u ∧ (s'.recs r).stat = .woken := by
    cases htr with
    | same e h => simp [touches] at h
    | semOther e sem' h => simp [touches] at h
    | loc h => cases h
    | wake t r0 obs hl hr' =>
      have := (hi.a.lMem u r).mp (List.mem_of_mem_head? hr')
      exact ⟨this, by simp [this]⟩
  refine ⟨hst.1, hst.2, ?_⟩
  intro t' hl hx
  have hq : (s'.thr t').wasQ = false := by
    rcases (hf'.thr t').wqRel hl with ⟨_, _, c⟩ | ⟨a, _, _⟩
    · rw [hx, hst.2] at c; cases c
    · exact a
  rcases (tfacts_tr hf htr t').deq hl hq with ⟨h0, _, h2⟩ | ⟨r', he, _⟩
  · rcases (hf.thr t').wqRel h0 with ⟨_, _, c⟩ | ⟨_, _, c⟩ <;>
      rw [← h2, hx, hst.1] at c <;> cases c
  · cases he

theorem wokenFresh_step {cfg : Config} {s s' : State} {e : Event} {r : Rid}
    (hr : Reachable cfg s) (hs : step cfg s e = .ok s') (hq : WokenFresh s r)
    (h1 : ∀ t', e ≠ .recLd t' .deqLd r 0) (h2 : ∀ t', e ≠ .recLd t' .deqSpin r 0)
    (h3 : ∀ t', e ≠ .recLd t' .wHead r 0) : WokenFresh s' r := by
  have hi := inv_reachable hr
  have hf := invF_reachable hr
  have hf' := invF_reachable (reachable_step hr hs)
  have htr := step_tr hs
  have hw1 : (s'.recs r).stat = .woken := by
    rcases woken_exit hi htr r hq.1 with h | ⟨t, h⟩ | ⟨t, h⟩ | ⟨t, new, obs, _, hl, hx⟩
    · exact h
    · exact absurd h (h3 t)
    · exact absurd h (h2 t)
    · exact absurd hx (hq.2 t hl)
  refine ⟨hw1, ?_⟩
  intro t' hl hx
  have hwq : (s'.thr t').wasQ = false := by
    rcases (hf'.thr t').wqRel hl with ⟨_, _, c⟩ | ⟨a, _, _⟩
    · rw [hx, hw1] at c; cases c
    · exact a
  rcases (tfacts_tr hf htr t').deq hl hwq with ⟨h0, _, h2'⟩ | ⟨r', he, hr', _⟩
  · exact hq.2 t' h0 (by rw [← h2']; exact hx)
  · rw [hx] at hr'; subst hr'; exact h1 t' he

theorem wokenFresh_run {cfg : Config} {fo : Nat → VC.Ord} {mid : List Event} {p p' : PState}
    {r : Rid} {W : Wake} (hr : Reachable cfg p.s) (hq : WokenFresh p.s r) (hk : p.wk r = some W)
    (hmid : ∀ t', Event.recLd t' .deqLd r 0 ∉ mid ∧ Event.recLd t' .deqSpin r 0 ∉ mid ∧
      Event.recLd t' .wHead r 0 ∉ mid)
    (h : prun cfg fo p mid = .ok p') : WokenFresh p'.s r ∧ p'.wk r = some W :=
  ((isPRun cfg fo).induct_mem
    (Q := fun q => Reachable cfg q.s ∧ WokenFresh q.s r ∧ q.wk r = some W) ⟨hr, hq, hk⟩
    (fun q e q' he _ ⟨hr, hq, hk⟩ hp => by
      obtain ⟨s1, hs, rfl⟩ := pstep_ok hp
      refine ⟨reachable_step hr hs, wokenFresh_step hr hs hq
        (fun t' h => (hmid t').1 (h ▸ he)) (fun t' h => (hmid t').2.1 (h ▸ he))
        (fun t' h => (hmid t').2.2 (h ▸ he)), ?_⟩
      simp only [pnext]
      rw [wkUpd_keep q e r (woken_no_store (inv_reachable hr) hs r hq.1)]; exact hk) h).2

theorem preachable_prun {cfg : Config} {fo : Nat → VC.Ord} {p p' : PState} {evs : List Event}
    (h : PReachable cfg fo p) (h' : prun cfg fo p evs = .ok p') : PReachable cfg fo p' :=
  h.elim fun e0 h0 => ⟨e0 ++ evs, (isPRun cfg fo).append.mpr ⟨p, h0, h'⟩⟩

theorem prun_vc_mono {cfg : Config} {fo : Nat → VC.Ord} {evs : List Event} {p p' : PState}
    (h : prun cfg fo p evs = .ok p') (u : Tid) : VC.Clock.le (p.c.vc u) (p'.c.vc u) :=
  (isPRun cfg fo).induct (Q := fun q => VC.Clock.le (p.c.vc u) (q.c.vc u)) (VC.Clock.le_refl _)
    (fun q e q' _ hq hp => by
      obtain ⟨s1, -, rfl⟩ := pstep_ok hp
      exact VC.Clock.le_trans hq (cstep_mono (fo q.n) q.c e u)) h

/-- The state right after the waker's store `ATM_STORE_REL (&p_nw->waiting, 0)` [cv.c/5]. -/
theorem wake_state {cfg : Config} {fo : Nat → VC.Ord} {p p' : PState} {u : Tid} {r : Rid} {n o : Nat}
    (hr : PReachable cfg fo p) (hs : pstep cfg fo p (.recSt u .wake r n o) = .ok p') :
    (p.s.recs r).stat = .listed u ∧ WokenFresh p'.s r ∧
    p'.wk r = some ⟨u, p.c.vc u, p.cc u⟩ := by
  obtain ⟨s1, hs1, rfl⟩ := pstep_ok hs
  obtain ⟨h1, h2⟩ := wokenFresh_wake (preachable_reachable hr) hs1
  refine ⟨h1, h2, ?_⟩
  simp only [pnext, wkUpd]; exact VC.upd_same _ _ _

/-- TRACE FORM, nsync_cv_wait*.  In an accepted event list take a store `waiting := 0` by a waker
    `u` into record `r` [cv.c/5], the first load `ATM_LOAD_ACQ (&w->nw.waiting)` [cv.c/10] on `r`
    after it that observes 0 (thread `t` leaving its wait loop), and the first `ret` of `t`'s wait
    after that.  Then the wait returns 0 and `u`'s clock just before its store is covered by
    `t`'s clock at the return. -/
theorem signal_trace {cfg : Config} {fo : Nat → VC.Ord} {pre mid rest post : List Event}
    {u t : Tid} {r : Rid} {n o : Nat} {res : Outcome} {s : State}
    (h : run cfg init (pre ++ [.recSt u .wake r n o] ++ mid ++ [.recLd t .wHead r 0] ++ rest ++
          [.retWait t res] ++ post) = .ok s)
    (hmid : ∀ t', Event.recLd t' .wHead r 0 ∉ mid)
    (hrest : ∀ res', Event.retWait t res' ∉ rest) :
    res = .ok ∧
    VC.Clock.le ((clocks fo pre).vc u)
      ((clocks fo (pre ++ [.recSt u .wake r n o] ++ mid ++ [.recLd t .wHead r 0] ++ rest ++
          [.retWait t res])).vc t) := by
  obtain ⟨pF, hF, -⟩ := prun_of_run (fo := fo) (p := pinit) h
  obtain ⟨p5, h5, -⟩ := (isPRun cfg fo).append.mp hF
  obtain ⟨p4, h4, hret⟩ := (isPRun cfg fo).append.mp h5
  obtain ⟨p3, h3, hrest'⟩ := (isPRun cfg fo).append.mp h4
  obtain ⟨p2, h2, hld⟩ := (isPRun cfg fo).append.mp h3
  obtain ⟨p1, h1, hmid'⟩ := (isPRun cfg fo).append.mp h2
  obtain ⟨p0, h0, hwk⟩ := (isPRun cfg fo).append.mp h1
  rw [(isPRun cfg fo).single] at hret hld hwk
  have r0 : PReachable cfg fo p0 := ⟨_, h0⟩
  have r1 : PReachable cfg fo p1 := ⟨_, h1⟩
  have r2 : PReachable cfg fo p2 := ⟨_, h2⟩
  have r3 : PReachable cfg fo p3 := ⟨_, h3⟩
  have r4 : PReachable cfg fo p4 := ⟨_, h4⟩
  -- the store
  obtain ⟨_, hfresh, hk1⟩ := wake_state r0 hwk
  -- the record is a pooled waiter
  obtain ⟨s3, hs3, rfl⟩ := pstep_ok hld
  obtain ⟨hl2, hr2, _, hl3, hu3, _, _⟩ := wHead_exit_accepted hs3
  have hi2 := inv_reachable (preachable_reachable r2)
  have hm : r.isMucv = true := by
    rw [hr2]; exact ((hi2.a.thr t).live (by simp [waitLive, hl2])).2.1
  -- from the store to the exit
  obtain ⟨hw2, hk2⟩ := woken_stable_run (preachable_reachable r1) hm hfresh.1 hk1 hmid hmid'
  obtain ⟨w, hw, hunl, _, _⟩ := (vinv_preachable r2).woken r hw2
  rw [hk2] at hw; cases hw
  -- the exit
  have hx3 : (pnext fo p2 (.recLd t .wHead r 0) s3).xw t = some ⟨u, p0.c.vc u, p0.cc u⟩ := by
    simp only [pnext, xwUpd, hw2, if_true]
    rw [VC.upd_same]; exact hk2
  have hal3 : ((pnext fo p2 (.recLd t .wHead r 0) s3).s.thr t).loc.afterLoop = true := by
    simp only [pnext]; rw [hl3]; rfl
  -- from the exit to the return
  obtain ⟨_, hx4, hu4, _⟩ := exit_stable_run (preachable_reachable r3) hal3 hrest hrest'
  obtain ⟨hle, _⟩ := (vinv_preachable r4).seen t _ (hx4.trans hx3)
  -- the return
  obtain ⟨s5, hs5, rfl⟩ := pstep_ok hret
  refine ⟨?_, ?_⟩
  · obtain ⟨hl4, hres⟩ := retWait_accepted hs5
    have hb := (inv_reachable (preachable_reachable r4)).b.thr t
    cases hr : res with
    | ok => rfl
    | timedOut =>
      have := hb.outE (retWait_afterLoop hs5) (by rw [← hres, hr]; simp)
      rw [hu4] at this; simp only [pnext] at this
      rw [hu3, hunl] at this; simp at this
    | cancelled =>
      have := hb.outE (retWait_afterLoop hs5) (by rw [← hres, hr]; simp)
      rw [hu4] at this; simp only [pnext] at this
      rw [hu3, hunl] at this; simp at this
  · rw [← (preachable_clocks h0).1, ← (preachable_clocks h5).1]
    exact hle

/-- TRACE FORM, nsync_wait_n.  In an accepted event list take a store `waiting := 0` by a waker
    `u` into record `r` [cv.c/5] and the first load of `r.waiting` by cv_dequeue after it that
    observes 0 (`ATM_LOAD_ACQ` at cv.c/32, or in the wait-for-waker loop at cv.c/35; `t` is the
    thread inside nsync_wait_n).  Then `u`'s clock just before its store is covered by `t`'s clock
    after the load, and `was_queued` of that cv_dequeue is 0: the object is reported ready. -/
theorem signal_trace_waitn {cfg : Config} {fo : Nat → VC.Ord} {pre mid post : List Event}
    {u t : Tid} {r : Rid} {n o : Nat} {site : RSite} {s : State}
    (h : run cfg init (pre ++ [.recSt u .wake r n o] ++ mid ++ [.recLd t site r 0] ++ post) = .ok s)
    (hsite : site = .deqLd ∨ site = .deqSpin)
    (hmid : ∀ t', Event.recLd t' .deqLd r 0 ∉ mid ∧ Event.recLd t' .deqSpin r 0 ∉ mid ∧
      Event.recLd t' .wHead r 0 ∉ mid) :
    VC.Clock.le ((clocks fo pre).vc u)
      ((clocks fo (pre ++ [.recSt u .wake r n o] ++ mid ++ [.recLd t site r 0])).vc t) ∧
    ∃ s3, run cfg init (pre ++ [.recSt u .wake r n o] ++ mid ++ [.recLd t site r 0]) = .ok s3 ∧
      (s3.thr t).wasQ = false := by
  obtain ⟨pF, hF, -⟩ := prun_of_run (fo := fo) (p := pinit) h
  obtain ⟨p3, h3, -⟩ := (isPRun cfg fo).append.mp hF
  obtain ⟨p2, h2, hld⟩ := (isPRun cfg fo).append.mp h3
  obtain ⟨p1, h1, hmid'⟩ := (isPRun cfg fo).append.mp h2
  obtain ⟨p0, h0, hwk⟩ := (isPRun cfg fo).append.mp h1
  rw [(isPRun cfg fo).single] at hld hwk
  have r0 : PReachable cfg fo p0 := ⟨_, h0⟩
  have r1 : PReachable cfg fo p1 := ⟨_, h1⟩
  have r2 : PReachable cfg fo p2 := ⟨_, h2⟩
  have r3 : PReachable cfg fo p3 := ⟨_, h3⟩
  obtain ⟨_, hfresh, hk1⟩ := wake_state r0 hwk
  obtain ⟨hq2, hk2⟩ := wokenFresh_run (preachable_reachable r1) hfresh hk1 hmid hmid'
  obtain ⟨w, hw, _, hrel, _⟩ := (vinv_preachable r2).woken r hq2.1
  rw [hk2] at hw; cases hw
  obtain ⟨s3, hs3, rfl⟩ := pstep_ok hld
  refine ⟨?_, s3, (run_of_prun h3).1, ?_⟩
  · rw [← (preachable_clocks h0).1, ← (preachable_clocks h3).1]
    rcases hsite with rfl | rfl
    · exact VC.Clock.le_trans hrel (cstep_acq_ld (fo p2.n) p2.c t .deqLd r 0 rfl)
    · exact VC.Clock.le_trans hrel (cstep_acq_ld (fo p2.n) p2.c t .deqSpin r 0 rfl)
  · have hf3 := invF_reachable (preachable_reachable r3)
    rcases hsite with rfl | rfl
    · -- cv.c/32 observing 0: `was_queued` stays 0
      have htr := step_tr hs3
      cases htr with
      | same e h => simp [touches] at h; split at h <;> simp at h
      | semOther e sem' h => simp [touches] at h; split at h <;> simp at h
      | loc h => cases h with
        | deqLd0 r' hl hr ho => simp
        | rcLd site r' obs hl hs hr ho => rcases hs with ⟨hs, _⟩ | ⟨hs, _⟩ <;> cases hs
        | deqLdGone r' obs hl hr hw hq =>
          exfalso
          have := (inv_reachable (preachable_reachable r2)).b.wokenW r hq2.1
          rw [hw] at this; cases this
      | deqLdQueued t' r' obs hl hr hw hq =>
        exfalso
        have := (inv_reachable (preachable_reachable r2)).b.wokenW r hq2.1
        rw [hw] at this; cases this
    · -- cv.c/35 observing 0: `was_queued` has been 0 since cv.c/32
      obtain ⟨hl, _, _, rfl⟩ := deqSpin_exit_accepted hs3
      have := ((invF_reachable (preachable_reachable r2)).thr t).wqW (.inr hl)
      simpa using this.1

theorem crunx_mono (so : Site → VC.Ord) (fo : Nat → VC.Ord) (n : Nat) (c : VC.St VLoc)
    (evs : List Event) (u : Tid) : VC.Clock.le (c.vc u) ((crunx so fo n c evs).vc u) := by
  induction evs generalizing n c with
  | nil => exact VC.Clock.le_refl _
  | cons e es ih => exact VC.Clock.le_trans (cstepx_mono so (fo n) c e u) (ih (n + 1) _)

/-- A thread's clock after a longer event list covers its clock after any prefix. -/
theorem clocks_prefix_le (fo : Nat → VC.Ord) (a b : List Event) (u : Tid) :
    VC.Clock.le ((clocks fo a).vc u) ((clocks fo (a ++ b)).vc u) := by
  unfold clocks
  rw [crunx_append]
  exact crunx_mono _ _ _ _ _ _

end NsyncVerif.CvFix
