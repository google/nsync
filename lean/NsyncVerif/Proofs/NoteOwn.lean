/-
  Layer `Note`: the accepted steps of one thread as a transition between program points.
  `Own s t pc e pc' s'`: in state `s`, thread `t` at program counter `pc` performs event `e`, the
  acceptor accepts it, `t` continues at `pc'` and the state becomes `s'`.  One rule per program point
  and branch of `step` — also of the control transfers inside `notify`, `note_notify_child` and
  `nsync_note_free` (`childReturnPc`, the loop heads, `afterNotifyPc`), so that the new program
  counter of every rule is a constructor, except where `nsync_note_notified_deadline_` returns
  (`afterDeadlinePc`); the premises are the guards the acceptor checks there.  Both program counters
  are indices: a fact about the step of a thread is stated over variables `pc pc'`, and `cases` on the
  relation puts the program points of each rule into hypotheses and goal.  An accepted event is such a
  step of its actor (`step_actor`, by one case analysis of `step`: `step_cases`), a `tick` or a `skip`
  (`step_own`).
-/
import NsyncVerif.Proofs.NoteBasic

namespace Note

def Event.actor : Event → Option Tid
  | .call t _ | .ret t _ | .ld t .. | .stNote t .. | .stW t .. | .lockCall t _ | .lockRet t
  | .unlockCall t _ | .unlockRet t | .tryCall t _ | .tryRet t _ | .waitCall t _ | .waitRet t
  | .waitnCall t _ | .waitnRet t _ | .now t _ | .semV t _ | .pdEnter t .. | .pdRet t ..
  | .malloc t _ | .free t _ => some t
  | .tick _ | .skip => none

inductive Own (s : State) (t : Tid) : PC → Event → PC → State → Prop
  | call_new_1 :
      Own s t .idle (.call t (.new none a)) (.newMalloc none a) (s.setPc t (.newMalloc none a))
  | call_new_2 :
      s.Live p →
      Own s t .idle (.call t (.new (some p) a)) (.newMalloc (some p) a)
        ((s.addUser p t).setPc t (.newMalloc (some p) a))
  | call_notify :
      s.Live a →
      Own s t .idle (.call t (.notify a)) (.dl .ld1 a none .notifyApi)
        (((s.addUser a t).markCalled a).setPc t (.dl .ld1 a none .notifyApi))
  | call_isNotified :
      s.Live a →
      Own s t .idle (.call t (.isNotified a)) (.dl .ld1 a none .isNotified)
        (((s.addUser a t).setAfter t (s.seenPos a)).setPc t (.dl .ld1 a none .isNotified))
  | call_wait :
      s.Live a1 →
      Own s t .idle (.call t (.wait a1 a)) (.wt0 .ncall a1 a)
        (((s.addUser a1 t).setAfter t (s.seenPos a1)).setPc t (.wt0 .ncall a1 a))
  | call_free :
      s.Live a → s.users a = [] →
      Own s t .idle (.call t (.free a)) (.fr .lockCall a none 0 none)
        (((s.addUser a t).markFreeing a).setPc t (.fr .lockCall a none 0 none))
  | call_expiry :
      s.Live a →
      Own s t .idle (.call t (.expiry a)) (.retExpiry a) ((s.addUser a t).setPc t (.retExpiry a))
  | ret_newRetNull_1 :
      Own s t (.newRetNull (some p)) (.ret t (.new none)) .idle (s.leave t p)
  | ret_newRetNull_2 :
      Own s t (.newRetNull none) (.ret t (.new none)) .idle (s.setPc t .idle)
  | ret_retNew_1 :
      k = n →
      Own s t (.retNew n (some p)) (.ret t (.new (some k))) .idle ((s.publish n).leave t p)
  | ret_retNew_2 :
      k = n →
      Own s t (.retNew n none) (.ret t (.new (some k))) .idle ((s.publish n).setPc t .idle)
  | ret_retNotify :
      Own s t (.retNotify n) (.ret t .notify) .idle (s.leave t n)
  | ret_retIs :
      b' = b →
      Own s t (.retIs n b) (.ret t (.isNotified b')) .idle
        ((s.pushObs { t := t, n := n, res := b, after := s.after t }).leave t n)
  | ret_wt0_ret :
      b = decide (rd = 0) →
      Own s t (.wt0 (.ret rd) n wdl) (.ret t (.wait b)) .idle
        ((s.pushObs { t := t, n := n, res := b, after := s.after t }).leave t n)
  | ret_fr_ret :
      Own s t (.fr .ret n par c next) (.ret t .free) .idle (s.leave t n)
  | ret_retExpiry :
      v = (s.notes n).expiry →
      Own s t (.retExpiry n) (.ret t (.expiry v)) .idle (s.leave t n)
  | ld_dl_ld1_1 :
      (s.notes n).notified = true → ord = .acq → (s.notes k).allocated = true →
      obs = flagVal (s.notes k).notified → site = .dlLd1 ∧ k = n →
      Own s t (.dl .ld1 n nt dk) (.ld t site ord k obs) (afterDeadlinePc n (some 0) dk)
        (afterDeadline s t n (some 0) dk)
  | ld_dl_ld1_2 :
      ¬(s.notes n).notified = true → ord = .acq → (s.notes k).allocated = true →
      obs = flagVal (s.notes k).notified → site = .dlLd1 ∧ k = n →
      Own s t (.dl .ld1 n nt dk) (.ld t site ord k obs) (.dl .lockCall n none dk)
        (s.setPc t (.dl .lockCall n none dk))
  | ld_dl_ld2 :
      ord = .acq → (s.notes k).allocated = true → obs = flagVal (s.notes k).notified →
      site = .dlLd2 ∧ k = n →
      Own s t (.dl .ld2 n nt dk) (.ld t site ord k obs) (.dl .unlockCall n (s.notes n).ntime dk)
        (s.setPc t (.dl .unlockCall n (s.notes n).ntime dk))
  | ld_nfy_ld_1 :
      (s.notes n).ntime.pos → (s.notes n).parent = some p → ord = .acq →
      (s.notes k).allocated = true → obs = flagVal (s.notes k).notified →
      site = .notifyLd ∧ k = n →
      Own s t (.nfy .ld n par nk) (.ld t site ord k obs) (.nfy .tryCall n (some p) nk)
        ((s.incDisc n).setPc t (.nfy .tryCall n (some p) nk))
  | ld_nfy_ld_2 :
      (s.notes n).ntime.pos → (s.notes n).parent = none → ord = .acq →
      (s.notes k).allocated = true → obs = flagVal (s.notes k).notified →
      site = .notifyLd ∧ k = n →
      Own s t (.nfy .ld n par nk) (.ld t site ord k obs) (.chd .ld [⟨n, none⟩] ⟨n, none, nk⟩)
        (enterChild (s.incDisc n) t n none nk)
  | ld_nfy_ld_3 :
      ¬(s.notes n).ntime.pos → ord = .acq → (s.notes k).allocated = true →
      obs = flagVal (s.notes k).notified → site = .notifyLd ∧ k = n →
      Own s t (.nfy .ld n par nk) (.ld t site ord k obs) (.nfy .unlockCall n none nk)
        (s.setPc t (.nfy .unlockCall n none nk))
  | ld_chd_ld_1 :
      (s.notes f.note).ntime.pos → ord = .acq → (s.notes k).allocated = true →
      obs = flagVal (s.notes k).notified → site = .childLd ∧ k = f.note →
      Own s t (.chd .ld (f :: rest) top) (.ld t site ord k obs) (.chd .st (f :: rest) top)
        (s.setPc t (.chd .st (f :: rest) top))
  | ld_chd_ld_2_in :
      ¬(s.notes f.note).ntime.pos → ord = .acq → (s.notes k).allocated = true →
      obs = flagVal (s.notes k).notified → site = .childLd ∧ k = f.note →
      Own s t (.chd .ld (f :: g :: gs) top) (.ld t site ord k obs)
        (.chd (.unlockChild f.note) (g :: gs) top)
        (childReturn s t f (g :: gs) top)
  | ld_chd_ld_2_par :
      ¬(s.notes f.note).ntime.pos → ord = .acq → (s.notes k).allocated = true →
      obs = flagVal (s.notes k).notified → site = .childLd ∧ k = f.note → top.par = some p →
      Own s t (.chd .ld [f] top) (.ld t site ord k obs) (.nfy .unlockPCall top.n top.par top.k)
        (childReturn s t f [] top)
  | ld_chd_ld_2_top :
      ¬(s.notes f.note).ntime.pos → ord = .acq → (s.notes k).allocated = true →
      obs = flagVal (s.notes k).notified → site = .childLd ∧ k = f.note → top.par = none →
      Own s t (.chd .ld [f] top) (.ld t site ord k obs) (.nfy .unlockCall top.n top.par top.k)
        (childReturn s t f [] top)
  | ld_newP_ld_1 :
      (s.notes p).ntime.pos → ord = .acq → (s.notes k).allocated = true →
      obs = flagVal (s.notes k).notified → site = .newLd ∧ k = p →
      Own s t (.newP .ld n p dl) (.ld t site ord k obs) (.newP .unlockCall n p dl)
        ((s.link n p).setPc t (.newP .unlockCall n p dl))
  | ld_newP_ld_2 :
      ¬(s.notes p).ntime.pos → ord = .acq → (s.notes k).allocated = true →
      obs = flagVal (s.notes k).notified → site = .newLd ∧ k = p →
      Own s t (.newP .ld n p dl) (.ld t site ord k obs) (.newP .st n p dl)
        (s.setPc t (.newP .st n p dl))
  | ld_wt_eLd_1 :
      (s.notes n).ntime.pos → ord = .acq → (s.notes k).allocated = true →
      obs = flagVal (s.notes k).notified → site = .enqLd ∧ k = n →
      Own s t (.wt .eLd n wdl r) (.ld t site ord k obs) (.wt (.eSt true) n wdl r)
        ((s.setWaiters n ((s.notes n).waiters ++ [r])).setPc t (.wt (.eSt true) n wdl r))
  | ld_wt_eLd_2 :
      ¬(s.notes n).ntime.pos → ord = .acq → (s.notes k).allocated = true →
      obs = flagVal (s.notes k).notified → site = .enqLd ∧ k = n →
      Own s t (.wt .eLd n wdl r) (.ld t site ord k obs) (.wt (.eSt false) n wdl r)
        (s.setPc t (.wt (.eSt false) n wdl r))
  | ld_wt_qLd_1 :
      (s.notes n).ntime.pos → ord = .acq → (s.notes k).allocated = true →
      obs = flagVal (s.notes k).notified → site = .deqLd ∧ k = n →
      Own s t (.wt .qLd n wdl r) (.ld t site ord k obs) (.wt .qSt n wdl r)
        ((s.setWaiters n ((s.notes n).waiters.erase r)).setPc t (.wt .qSt n wdl r))
  | ld_wt_qLd_2 :
      ¬(s.notes n).ntime.pos → ord = .acq → (s.notes k).allocated = true →
      obs = flagVal (s.notes k).notified → site = .deqLd ∧ k = n →
      Own s t (.wt .qLd n wdl r) (.ld t site ord k obs) (.wt (.qUnlockCall false) n wdl r)
        (s.setPc t (.wt (.qUnlockCall false) n wdl r))
  | stNote_chd_st_wake :
      (s.notes k).allocated = true → site = .childSt ∧ ord = .rel ∧ k = f.note ∧ new = 1 →
      obs = flagVal (s.notes k).notified → (s.notes f.note).waiters = r :: ws →
      Own s t (.chd .st (f :: rest) top) (.stNote t site ord k new obs)
        (.chd (.wake r) (f :: rest) top)
        (childWakeNext (s.setNotified k) t f rest top)
  | stNote_chd_st_none :
      (s.notes k).allocated = true → site = .childSt ∧ ord = .rel ∧ k = f.note ∧ new = 1 →
      obs = flagVal (s.notes k).notified → (s.notes f.note).waiters = [] →
      (s.notes f.note).children = [] →
      Own s t (.chd .st (f :: rest) top) (.stNote t site ord k new obs)
        (.chd .waitCall (f :: rest) top)
        (childWakeNext (s.setNotified k) t f rest top)
  | stNote_chd_st_child :
      (s.notes k).allocated = true → site = .childSt ∧ ord = .rel ∧ k = f.note ∧ new = 1 →
      obs = flagVal (s.notes k).notified → (s.notes f.note).waiters = [] →
      (s.notes f.note).children = c :: cs →
      Own s t (.chd .st (f :: rest) top) (.stNote t site ord k new obs)
        (.chd (.lockChild c) ({ f with next := cs.head? } :: rest) top)
        (childWakeNext (s.setNotified k) t f rest top)
  | stNote_newP_st :
      (s.notes k).allocated = true → site = .newSt ∧ ord = .rel ∧ k = n ∧ new = 1 →
      obs = flagVal (s.notes k).notified →
      Own s t (.newP .st n p dl) (.stNote t site ord k new obs) (.newP .unlockCall n p dl)
        (((s.setNotified n).markBorn n).setPc t (.newP .unlockCall n p dl))
  | stW_chd_wake :
      site = .childWake ∧ ord = .rel ∧ r = r' ∧ new = 0 → obs = flagVal (s.recs r).waiting →
      Own s t (.chd (.wake r') (f :: rest) top) (.stW t site ord r new obs) (.chd (.semV r) (f ::
        rest) top)
        ((s.modRec r fun w => { w with waiting := false }).setPc t (.chd (.semV r) (f :: rest)
          top))
  | stW_wt0_newRec :
      site = .waitInit ∧ ord = .rlx ∧ new = 0 → (s.recs r).used = false →
      Own s t (.wt0 .newRec n wdl) (.stW t site ord r new obs) (.wt .eLockCall n wdl r)
        ((s.modRec r fun _ =>
            { used := true, waiting := false, owner := t, note := n, sem := none, posted := 0 }).setPc
          t (.wt .eLockCall n wdl r))
  | stW_wt_eSt :
      site = (if v then Site.enqSt1 else Site.enqSt0) ∧ ord = .rlx ∧ r = r' ∧ new = flagVal v →
      obs = flagVal (s.recs r).waiting →
      Own s t (.wt (.eSt v) n wdl r') (.stW t site ord r new obs) (.wt .eUnlockCall n wdl r)
        ((s.modRec r fun w => { w with waiting := v }).setPc t (.wt .eUnlockCall n wdl r))
  | stW_wt_qSt :
      site = .deqSt ∧ ord = .rlx ∧ r = r' ∧ new = 0 → obs = flagVal (s.recs r).waiting →
      Own s t (.wt .qSt n wdl r') (.stW t site ord r new obs) (.wt (.qUnlockCall true) n wdl r)
        ((s.modRec r fun w => { w with waiting := false }).setPc t (.wt (.qUnlockCall true) n wdl
          r))
  | lockCall_dl_lockCall :
      (s.notes k).allocated = true → k = n →
      Own s t (.dl .lockCall n nt dk) (.lockCall t k) (.dl .lockRet n nt dk)
        (s.setPc t (.dl .lockRet n nt dk))
  | lockCall_nfy_lockCall :
      (s.notes k).allocated = true → k = n →
      Own s t (.nfy .lockCall n par nk) (.lockCall t k) (.nfy .lockRet n par nk)
        (s.setPc t (.nfy .lockRet n par nk))
  | lockCall_nfy_sLockPCall :
      (s.notes k).allocated = true → k = p →
      Own s t (.nfy .sLockPCall n (some p) nk) (.lockCall t k) (.nfy .sLockPRet n (some p) nk)
        (s.setPc t (.nfy .sLockPRet n (some p) nk))
  | lockCall_nfy_sLockNCall :
      (s.notes k).allocated = true → k = n →
      Own s t (.nfy .sLockNCall n par nk) (.lockCall t k) (.nfy .sLockNRet n par nk)
        (s.setPc t (.nfy .sLockNRet n par nk))
  | lockCall_chd_lockChild :
      (s.notes k).allocated = true → k = c →
      Own s t (.chd (.lockChild c) stk top) (.lockCall t k) (.chd (.lockChildRet c) stk top)
        (s.setPc t (.chd (.lockChildRet c) stk top))
  | lockCall_newP_lockCall :
      (s.notes k).allocated = true → k = p →
      Own s t (.newP .lockCall n p dl) (.lockCall t k) (.newP .lockRet n p dl)
        (s.setPc t (.newP .lockRet n p dl))
  | lockCall_fr_lockCall :
      (s.notes k).allocated = true → k = n →
      Own s t (.fr .lockCall n par c nx) (.lockCall t k) (.fr .lockRet n par c nx)
        (s.setPc t (.fr .lockRet n par c nx))
  | lockCall_fr_sLockPCall :
      (s.notes k).allocated = true → k = p →
      Own s t (.fr .sLockPCall n (some p) c nx) (.lockCall t k) (.fr .sLockPRet n (some p) c nx)
        (s.setPc t (.fr .sLockPRet n (some p) c nx))
  | lockCall_fr_sLockNCall :
      (s.notes k).allocated = true → k = n →
      Own s t (.fr .sLockNCall n par c nx) (.lockCall t k) (.fr .sLockNRet n par c nx)
        (s.setPc t (.fr .sLockNRet n par c nx))
  | lockCall_fr_lockChild :
      (s.notes k).allocated = true → k = c →
      Own s t (.fr .lockChild n par c nx) (.lockCall t k) (.fr .lockChildRet n par c nx)
        (s.setPc t (.fr .lockChildRet n par c nx))
  | lockCall_wt_eLockCall :
      (s.notes k).allocated = true → k = n →
      Own s t (.wt .eLockCall n wdl r) (.lockCall t k) (.wt .eLockRet n wdl r)
        (s.setPc t (.wt .eLockRet n wdl r))
  | lockCall_wt_qLockCall :
      (s.notes k).allocated = true → k = n →
      Own s t (.wt .qLockCall n wdl r) (.lockCall t k) (.wt .qLockRet n wdl r)
        (s.setPc t (.wt .qLockRet n wdl r))
  | lockRet_dl_lockRet :
      (s.notes n).lockHolder = none →
      Own s t (.dl .lockRet n nt dk) (.lockRet t) (.dl .ld2 n nt dk)
        ((s.acquire n t).setPc t (.dl .ld2 n nt dk))
  | lockRet_nfy_lockRet :
      (s.notes n).lockHolder = none →
      Own s t (.nfy .lockRet n par nk) (.lockRet t) (.nfy .ld n par nk)
        ((s.acquire n t).setPc t (.nfy .ld n par nk))
  | lockRet_nfy_sLockPRet :
      (s.notes p).lockHolder = none →
      Own s t (.nfy .sLockPRet n (some p) nk) (.lockRet t) (.nfy .sLockNCall n (some p) nk)
        ((s.acquire p t).setPc t (.nfy .sLockNCall n (some p) nk))
  | lockRet_nfy_sLockNRet :
      (s.notes n).lockHolder = none →
      Own s t (.nfy .sLockNRet n par nk) (.lockRet t) (.chd .ld [⟨n, none⟩] ⟨n, par, nk⟩)
        (enterChild (s.acquire n t) t n par nk)
  | lockRet_chd_lockChildRet_1 :
      (s.notes c).disconnecting = 0 → (s.notes c).lockHolder = none →
      Own s t (.chd (.lockChildRet c) stk top) (.lockRet t) (.chd .ld (⟨c, none⟩ :: stk) top)
        (((s.acquire c t).incDisc c).setPc t (.chd .ld (⟨c, none⟩ :: stk) top))
  | lockRet_chd_lockChildRet_2 :
      ¬(s.notes c).disconnecting = 0 → (s.notes c).lockHolder = none →
      Own s t (.chd (.lockChildRet c) stk top) (.lockRet t) (.chd (.unlockChild c) stk top)
        ((s.acquire c t).setPc t (.chd (.unlockChild c) stk top))
  | lockRet_newP_lockRet :
      (s.notes p).lockHolder = none →
      Own s t (.newP .lockRet n p dl) (.lockRet t) (.newP .ld n p dl)
        ((s.acquire p t).setPc t (.newP .ld n p dl))
  | lockRet_fr_lockRet_1 :
      (s.notes n).parent = some p → (s.notes n).lockHolder = none → (s.notes n).waiters = [] →
      Own s t (.fr .lockRet n par c next) (.lockRet t) (.fr .tryCall n (some p) 0 none)
        (((s.acquire n t).incDisc n).setPc t (.fr .tryCall n (some p) 0 none))
  | lockRet_fr_lockRet_2_none :
      (s.notes n).parent = none → (s.notes n).lockHolder = none → (s.notes n).waiters = [] →
      (s.notes n).children = [] →
      Own s t (.fr .lockRet n par c next) (.lockRet t) (.fr .waitCall n none 0 none)
        (freeLoopStart ((s.acquire n t).incDisc n) t n none)
  | lockRet_fr_lockRet_2_child :
      (s.notes n).parent = none → (s.notes n).lockHolder = none → (s.notes n).waiters = [] →
      (s.notes n).children = c' :: cs →
      Own s t (.fr .lockRet n par c next) (.lockRet t) (.fr .lockChild n none c' cs.head?)
        (freeLoopStart ((s.acquire n t).incDisc n) t n none)
  | lockRet_fr_sLockPRet :
      (s.notes p).lockHolder = none →
      Own s t (.fr .sLockPRet n (some p) c nx) (.lockRet t) (.fr .sLockNCall n (some p) c nx)
        ((s.acquire p t).setPc t (.fr .sLockNCall n (some p) c nx))
  | lockRet_fr_sLockNRet_none :
      (s.notes n).lockHolder = none →
      (s.notes n).children = [] →
      Own s t (.fr .sLockNRet n par c next) (.lockRet t) (.fr .waitCall n par 0 none)
        (freeLoopStart (s.acquire n t) t n par)
  | lockRet_fr_sLockNRet_child :
      (s.notes n).lockHolder = none →
      (s.notes n).children = c' :: cs →
      Own s t (.fr .sLockNRet n par c next) (.lockRet t) (.fr .lockChild n par c' cs.head?)
        (freeLoopStart (s.acquire n t) t n par)
  | lockRet_fr_lockChildRet_1 :
      (s.notes c).disconnecting = 0 → (s.notes c).lockHolder = none →
      Own s t (.fr .lockChildRet n (some p) c nx) (.lockRet t) (.fr .unlockChild n (some p) c nx)
        (((((s.acquire c t).eraseChild n c).link c p).setAdopted p true).setPc t (.fr .unlockChild
          n (some p) c nx))
  | lockRet_fr_lockChildRet_2 :
      (s.notes c).disconnecting = 0 → (s.notes c).lockHolder = none →
      Own s t (.fr .lockChildRet n none c nx) (.lockRet t) (.fr .unlockChild n none c nx)
        ((((s.acquire c t).eraseChild n c).clearParent c).setPc t (.fr .unlockChild n none c nx))
  | lockRet_fr_lockChildRet_3 :
      ¬(s.notes c).disconnecting = 0 → (s.notes c).lockHolder = none →
      Own s t (.fr .lockChildRet n par c nx) (.lockRet t) (.fr .unlockChild n par c nx)
        ((s.acquire c t).setPc t (.fr .unlockChild n par c nx))
  | lockRet_wt_eLockRet :
      (s.notes n).lockHolder = none →
      Own s t (.wt .eLockRet n wdl r) (.lockRet t) (.wt .eLd n wdl r)
        ((s.acquire n t).setPc t (.wt .eLd n wdl r))
  | lockRet_wt_qLockRet :
      (s.notes n).lockHolder = none →
      Own s t (.wt .qLockRet n wdl r) (.lockRet t) (.wt .qLd n wdl r)
        ((s.acquire n t).setPc t (.wt .qLd n wdl r))
  | unlockCall_dl_unlockCall :
      (s.notes k).allocated = true → (s.notes k).lockHolder = some t → k = n →
      Own s t (.dl .unlockCall n nt dk) (.unlockCall t k) (.dl .unlockRet n nt dk)
        ((s.release k).setPc t (.dl .unlockRet n nt dk))
  | unlockCall_nfy_sUnlockCall :
      (s.notes k).allocated = true → (s.notes k).lockHolder = some t → k = n →
      Own s t (.nfy .sUnlockCall n par nk) (.unlockCall t k) (.nfy .sUnlockRet n par nk)
        ((s.release k).setPc t (.nfy .sUnlockRet n par nk))
  | unlockCall_nfy_unlockPCall :
      (s.notes k).allocated = true → (s.notes k).lockHolder = some t → k = p →
      Own s t (.nfy .unlockPCall n (some p) nk) (.unlockCall t k) (.nfy .unlockPRet n (some p) nk)
        ((s.release k).setPc t (.nfy .unlockPRet n (some p) nk))
  | unlockCall_nfy_unlockCall :
      (s.notes k).allocated = true → (s.notes k).lockHolder = some t → k = n →
      Own s t (.nfy .unlockCall n par nk) (.unlockCall t k) (.nfy .unlockRet n par nk)
        ((s.release k).setPc t (.nfy .unlockRet n par nk))
  | unlockCall_chd_unlockChild :
      (s.notes k).allocated = true → (s.notes k).lockHolder = some t → k = c →
      Own s t (.chd (.unlockChild c) stk top) (.unlockCall t k) (.chd (.unlockChildRet c) stk top)
        ((s.release k).setPc t (.chd (.unlockChildRet c) stk top))
  | unlockCall_newP_unlockCall :
      (s.notes k).allocated = true → (s.notes k).lockHolder = some t → k = p →
      Own s t (.newP .unlockCall n p dl) (.unlockCall t k) (.newP .unlockRet n p dl)
        ((s.release k).setPc t (.newP .unlockRet n p dl))
  | unlockCall_fr_sUnlockCall :
      (s.notes k).allocated = true → (s.notes k).lockHolder = some t → k = n →
      Own s t (.fr .sUnlockCall n par c nx) (.unlockCall t k) (.fr .sUnlockRet n par c nx)
        ((s.release k).setPc t (.fr .sUnlockRet n par c nx))
  | unlockCall_fr_unlockChild :
      (s.notes k).allocated = true → (s.notes k).lockHolder = some t → k = c →
      Own s t (.fr .unlockChild n par c nx) (.unlockCall t k) (.fr .unlockChildRet n par c nx)
        ((s.release k).setPc t (.fr .unlockChildRet n par c nx))
  | unlockCall_fr_unlockPCall :
      (s.notes k).allocated = true → (s.notes k).lockHolder = some t → k = p →
      Own s t (.fr .unlockPCall n (some p) c nx) (.unlockCall t k) (.fr .unlockPRet n (some p) c
        nx)
        ((s.release k).setPc t (.fr .unlockPRet n (some p) c nx))
  | unlockCall_fr_unlockCall :
      (s.notes k).allocated = true → (s.notes k).lockHolder = some t → k = n →
      Own s t (.fr .unlockCall n par c nx) (.unlockCall t k) (.fr .unlockRet n par c nx)
        ((s.release k).setPc t (.fr .unlockRet n par c nx))
  | unlockCall_wt_eUnlockCall :
      (s.notes k).allocated = true → (s.notes k).lockHolder = some t → k = n →
      Own s t (.wt .eUnlockCall n wdl r) (.unlockCall t k) (.wt .eUnlockRet n wdl r)
        ((s.release k).setPc t (.wt .eUnlockRet n wdl r))
  | unlockCall_wt_qUnlockCall :
      (s.notes k).allocated = true → (s.notes k).lockHolder = some t → k = n →
      Own s t (.wt (.qUnlockCall q) n wdl r) (.unlockCall t k) (.wt (.qUnlockRet q) n wdl r)
        ((s.release k).setPc t (.wt (.qUnlockRet q) n wdl r))
  | unlockRet_dl_unlockRet_1 :
      nt.pos →
      Own s t (.dl .unlockRet n nt dk) (.unlockRet t) (.dl .now n nt dk)
        (s.setPc t (.dl .now n nt dk))
  | unlockRet_dl_unlockRet_2 :
      ¬nt.pos →
      Own s t (.dl .unlockRet n nt dk) (.unlockRet t) (afterDeadlinePc n nt dk)
        (afterDeadline s t n nt dk)
  | unlockRet_nfy_sUnlockRet :
      Own s t (.nfy .sUnlockRet n par nk) (.unlockRet t) (.nfy .sLockPCall n par nk)
        (s.setPc t (.nfy .sLockPCall n par nk))
  | unlockRet_nfy_unlockPRet :
      Own s t (.nfy .unlockPRet n par nk) (.unlockRet t) (.nfy .unlockCall n par nk)
        ((s.decDisc n).setPc t (.nfy .unlockCall n par nk))
  | unlockRet_nfy_unlockRet_api :
      Own s t (.nfy .unlockRet n par .ofApi) (.unlockRet t) (.retNotify n)
        (afterNotify s t n .ofApi)
  | unlockRet_nfy_unlockRet_dl :
      Own s t (.nfy .unlockRet n par (.ofDeadline dk)) (.unlockRet t)
        (afterDeadlinePc n (some 0) dk)
        (afterNotify s t n (.ofDeadline dk))
  | unlockRet_chd_unlockChildRet_1 :
      f.next = some p → p ∈ (s.notes f.note).children →
      Own s t (.chd (.unlockChildRet c) (f :: rest) top) (.unlockRet t) (.chd (.lockChild p) ({ f
        with next := nextAfter (s.notes f.note).children p } :: rest) top)
        (s.setPc t (.chd (.lockChild p) ({ f with next := nextAfter (s.notes f.note).children p }
          :: rest) top))
  | unlockRet_chd_unlockChildRet_2 :
      f.next = none →
      Own s t (.chd (.unlockChildRet c) (f :: rest) top) (.unlockRet t) (.chd .waitCall (f :: rest)
        top)
        (s.setPc t (.chd .waitCall (f :: rest) top))
  | unlockRet_newP_unlockRet :
      Own s t (.newP .unlockRet n p dl) (.unlockRet t) (.retNew n (some p))
        (s.setPc t (.retNew n (some p)))
  | unlockRet_fr_sUnlockRet :
      Own s t (.fr .sUnlockRet n par c nx) (.unlockRet t) (.fr .sLockPCall n par c nx)
        (s.setPc t (.fr .sLockPCall n par c nx))
  | unlockRet_fr_unlockChildRet_1 :
      p ∈ (s.notes n).children →
      Own s t (.fr .unlockChildRet n par c (some p)) (.unlockRet t) (.fr .lockChild n par p
        (nextAfter (s.notes n).children p))
        (s.setPc t (.fr .lockChild n par p (nextAfter (s.notes n).children p)))
  | unlockRet_fr_unlockChildRet_2 :
      Own s t (.fr .unlockChildRet n par c none) (.unlockRet t) (.fr .waitCall n par 0 none)
        (s.setPc t (.fr .waitCall n par 0 none))
  | unlockRet_fr_unlockPRet :
      Own s t (.fr .unlockPRet n par c nx) (.unlockRet t) (.fr .unlockCall n par c nx)
        ((s.decDisc n).setPc t (.fr .unlockCall n par c nx))
  | unlockRet_fr_unlockRet :
      Own s t (.fr .unlockRet n par c nx) (.unlockRet t) (.fr .free n par c nx)
        (s.setPc t (.fr .free n par c nx))
  | unlockRet_wt_eUnlockRet :
      Own s t (.wt .eUnlockRet n wdl r) (.unlockRet t) (.dl .ld1 n none (.ready2 r wdl))
        (s.setPc t (.dl .ld1 n none (.ready2 r wdl)))
  | unlockRet_wt_qUnlockRet_1 :
      q = true →
      Own s t (.wt (.qUnlockRet q) n wdl r) (.unlockRet t) (.wt0 (.nret 1) n wdl)
        (s.setPc t (.wt0 (.nret 1) n wdl))
  | unlockRet_wt_qUnlockRet_2 :
      ¬q = true →
      Own s t (.wt (.qUnlockRet q) n wdl r) (.unlockRet t) (.wt0 (.nret 0) n wdl)
        (s.setPc t (.wt0 (.nret 0) n wdl))
  | tryCall_nfy_tryCall :
      (s.notes k).allocated = true → k = p →
      Own s t (.nfy .tryCall n (some p) nk) (.tryCall t k) (.nfy .tryRet n (some p) nk)
        (s.setPc t (.nfy .tryRet n (some p) nk))
  | tryCall_fr_tryCall :
      (s.notes k).allocated = true → k = p →
      Own s t (.fr .tryCall n (some p) c nx) (.tryCall t k) (.fr .tryRet n (some p) c nx)
        (s.setPc t (.fr .tryRet n (some p) c nx))
  | tryRet_nfy_tryRet_1 :
      ok = true → (s.notes p).lockHolder = none →
      Own s t (.nfy .tryRet n (some p) nk) (.tryRet t ok) (.chd .ld [⟨n, none⟩] ⟨n, some p, nk⟩)
        (enterChild (s.acquire p t) t n (some p) nk)
  | tryRet_nfy_tryRet_2 :
      ¬ok = true →
      Own s t (.nfy .tryRet n (some p) nk) (.tryRet t ok) (.nfy .sUnlockCall n (some p) nk)
        (s.setPc t (.nfy .sUnlockCall n (some p) nk))
  | tryRet_fr_tryRet_1_none :
      ok = true → (s.notes p).lockHolder = none →
      (s.notes n).children = [] →
      Own s t (.fr .tryRet n (some p) c nx) (.tryRet t ok) (.fr .waitCall n (some p) 0 none)
        (freeLoopStart (s.acquire p t) t n (some p))
  | tryRet_fr_tryRet_1_child :
      ok = true → (s.notes p).lockHolder = none →
      (s.notes n).children = c' :: cs →
      Own s t (.fr .tryRet n (some p) c nx) (.tryRet t ok) (.fr .lockChild n (some p) c' cs.head?)
        (freeLoopStart (s.acquire p t) t n (some p))
  | tryRet_fr_tryRet_2 :
      ¬ok = true →
      Own s t (.fr .tryRet n (some p) c nx) (.tryRet t ok) (.fr .sUnlockCall n (some p) c nx)
        (s.setPc t (.fr .sUnlockCall n (some p) c nx))
  | waitCall_chd_waitCall_1 :
      (s.notes k).waitDone = true → (s.notes k).allocated = true →
      (s.notes k).lockHolder = some t → k = f.note →
      Own s t (.chd .waitCall (f :: rest) top) (.waitCall t k) (.chd (.waitRet (s.notes
        k).waitDone) (f :: rest) top)
        (s.setPc t (.chd (.waitRet (s.notes k).waitDone) (f :: rest) top))
  | waitCall_chd_waitCall_2 :
      ¬(s.notes k).waitDone = true → (s.notes k).allocated = true →
      (s.notes k).lockHolder = some t → k = f.note →
      Own s t (.chd .waitCall (f :: rest) top) (.waitCall t k) (.chd (.waitRet (s.notes
        k).waitDone) (f :: rest) top)
        ((s.release k).setPc t (.chd (.waitRet (s.notes k).waitDone) (f :: rest) top))
  | waitCall_fr_waitCall_1 :
      (s.notes k).waitDone = true → (s.notes k).allocated = true →
      (s.notes k).lockHolder = some t → k = n →
      Own s t (.fr .waitCall n par c nx) (.waitCall t k) (.fr (.waitRet (s.notes k).waitDone) n par
        c nx)
        (s.setPc t (.fr (.waitRet (s.notes k).waitDone) n par c nx))
  | waitCall_fr_waitCall_2 :
      ¬(s.notes k).waitDone = true → (s.notes k).allocated = true →
      (s.notes k).lockHolder = some t → k = n →
      Own s t (.fr .waitCall n par c nx) (.waitCall t k) (.fr (.waitRet (s.notes k).waitDone) n par
        c nx)
        ((s.release k).setPc t (.fr (.waitRet (s.notes k).waitDone) n par c nx))
  | waitRet_chd_waitRet_1_in :
      (s.notes f.note).children = [] → (s.notes f.note).waitDone = true →
      (s.notes f.note).lockHolder = (if kept then some t else none) →
      Own s t (.chd (.waitRet kept) (f :: g :: gs) top) (.waitRet t)
        (.chd (.unlockChild f.note) (g :: gs) top)
        (childReturn (s.acquire f.note t) t f (g :: gs) top)
  | waitRet_chd_waitRet_1_par :
      (s.notes f.note).children = [] → (s.notes f.note).waitDone = true →
      (s.notes f.note).lockHolder = (if kept then some t else none) → top.par = some p →
      Own s t (.chd (.waitRet kept) [f] top) (.waitRet t) (.nfy .unlockPCall top.n top.par top.k)
        (childReturn (s.acquire f.note t) t f [] top)
  | waitRet_chd_waitRet_1_top :
      (s.notes f.note).children = [] → (s.notes f.note).waitDone = true →
      (s.notes f.note).lockHolder = (if kept then some t else none) → top.par = none →
      Own s t (.chd (.waitRet kept) [f] top) (.waitRet t) (.nfy .unlockCall top.n top.par top.k)
        (childReturn (s.acquire f.note t) t f [] top)
  | waitRet_chd_waitRet_2 :
      (s.notes f.note).children = c :: cs → (s.notes f.note).waitDone = true →
      (s.notes f.note).lockHolder = (if kept then some t else none) →
      Own s t (.chd (.waitRet kept) (f :: rest) top) (.waitRet t)
        (.chd (.lockChild c) ({ f with next := cs.head? } :: rest) top)
        (childScanStart (s.acquire f.note t) t f rest top)
  | waitRet_fr_waitRet_1 :
      (s.notes n).children = [] → (s.notes n).waitDone = true →
      (s.notes n).lockHolder = (if kept then some t else none) →
      Own s t (.fr (.waitRet kept) n (some p) c nx) (.waitRet t) (.fr .unlockPCall n (some p) c nx)
        (((s.acquire n t).unlink n p).setPc t (.fr .unlockPCall n (some p) c nx))
  | waitRet_fr_waitRet_2 :
      (s.notes n).children = [] → (s.notes n).waitDone = true →
      (s.notes n).lockHolder = (if kept then some t else none) →
      Own s t (.fr (.waitRet kept) n none c nx) (.waitRet t) (.fr .unlockCall n none c nx)
        (((s.acquire n t).decDisc n).setPc t (.fr .unlockCall n none c nx))
  | waitRet_fr_waitRet_3 :
      (s.notes n).waitDone = true →
      (s.notes n).lockHolder = (if kept then some t else none) →
      (s.notes n).children = c' :: cs →
      Own s t (.fr (.waitRet kept) n par c nx) (.waitRet t) (.fr .lockChild n par c' cs.head?)
        (freeLoopStart (s.acquire n t) t n par)
  | waitnCall_wt0_ncall :
      dl = wdl →
      Own s t (.wt0 .ncall n wdl) (.waitnCall t dl) (.dl .ld1 n none (.ready1 wdl))
        (s.setPc t (.dl .ld1 n none (.ready1 wdl)))
  | waitnRet_wt0_nret :
      ready = rd →
      Own s t (.wt0 (.nret rd) n wdl) (.waitnRet t ready) (.wt0 (.ret rd) n wdl)
        (s.setPc t (.wt0 (.ret rd) n wdl))
  | now_dl_now_1 :
      nt.leNow v = true → v = s.now →
      Own s t (.dl .now n nt dk) (.now t v) (.nfy .lockCall n none (.ofDeadline dk))
        (s.setPc t (.nfy .lockCall n none (.ofDeadline dk)))
  | now_dl_now_2 :
      ¬nt.leNow v = true → v = s.now →
      Own s t (.dl .now n nt dk) (.now t v) (afterDeadlinePc n nt dk) (afterDeadline s t n nt dk)
  | now_idle :
      Own s t .idle (.now t v) .idle s
  | semV_chd_semV_wake :
      semOk (s.recs r) sem → (s.notes f.note).waiters = r' :: ws →
      Own s t (.chd (.semV r) (f :: rest) top) (.semV t sem) (.chd (.wake r') (f :: rest) top)
        (childWakeNext (s.modRec r fun w => { w with sem := some sem, posted := w.posted + 1 }) t f
          rest top)
  | semV_chd_semV_none :
      semOk (s.recs r) sem → (s.notes f.note).waiters = [] → (s.notes f.note).children = [] →
      Own s t (.chd (.semV r) (f :: rest) top) (.semV t sem) (.chd .waitCall (f :: rest) top)
        (childWakeNext (s.modRec r fun w => { w with sem := some sem, posted := w.posted + 1 }) t f
          rest top)
  | semV_chd_semV_child :
      semOk (s.recs r) sem → (s.notes f.note).waiters = [] → (s.notes f.note).children = c :: cs →
      Own s t (.chd (.semV r) (f :: rest) top) (.semV t sem)
        (.chd (.lockChild c) ({ f with next := cs.head? } :: rest) top)
        (childWakeNext (s.modRec r fun w => { w with sem := some sem, posted := w.posted + 1 }) t f
          rest top)
  | semV_idle :
      Own s t .idle (.semV t sem) .idle s
  | pdEnter_wt_pdEnter :
      d = m → semOk (s.recs r) sem →
      Own s t (.wt (.pdEnter m) n wdl r) (.pdEnter t sem d) (.wt (.pdRet m) n wdl r)
        ((s.modRec r fun w => { w with sem := some sem }).setPc t (.wt (.pdRet m) n wdl r))
  | pdEnter_idle :
      Own s t .idle (.pdEnter t sem d) .idle s
  | pdRet_wt_pdRet_1 :
      timedOut = true → (s.recs r).sem = some sem → m.leNow s.now = true →
      Own s t (.wt (.pdRet m) n wdl r) (.pdRet t sem timedOut) (.dl .ld1 n none (.dequeue r wdl))
        (s.setPc t (.dl .ld1 n none (.dequeue r wdl)))
  | pdRet_wt_pdRet_2 :
      ¬timedOut = true → (s.recs r).sem = some sem →
      Own s t (.wt (.pdRet m) n wdl r) (.pdRet t sem timedOut) (.dl .ld1 n none (.ready2 r wdl))
        (s.setPc t (.dl .ld1 n none (.ready2 r wdl)))
  | pdRet_idle :
      Own s t .idle (.pdRet t sem timedOut) .idle s
  | malloc_newMalloc_1 :
      Own s t (.newMalloc par1 dl) (.malloc t none) (.newRetNull par1)
        (s.setPc t (.newRetNull par1))
  | malloc_newMalloc_2 :
      (s.notes p).allocated = false →
      Own s t (.newMalloc par1 dl) (.malloc t (some p)) (.dl .ld1 p none (.newSelf par1 dl))
        ((s.allocNote p par1 dl).setPc t (.dl .ld1 p none (.newSelf par1 dl)))
  | malloc_idle :
      Own s t .idle (.malloc t res) .idle s
  | free_fr_free :
      k = n →
      Own s t (.fr .free n par c nx) (.free t k) (.fr .ret n par c nx)
        ((s.markFreed n).setPc t (.fr .ret n par c nx))
  | free_idle :
      Own s t .idle (.free t k) .idle s

/-- Unfold the sub-step functions in `hs`, split on every `match`/`if`, and simplify. -/
macro "step_split" hs:ident : tactic => `(tactic| (
  simp only [step, stepCall, stepRet, stepLd, stepStNote, stepStW, stepLockCall, stepLockRet,
    stepUnlockCall, stepUnlockRet, stepTryCall, stepTryRet, stepWaitCall, stepWaitRet] at $hs:ident
  repeat' (split at $hs:ident)
  all_goals (try simp only [need_ok, reduceCtorEq, false_and, and_false, Except.ok.injEq] at $hs:ident)
  all_goals (try (exfalso; exact $hs:ident))))

/-- Full case analysis of an accepted step: one goal per (event, pc) combination, with the guards
    as anonymous hypotheses and `s'` replaced by its value. -/
macro "step_cases" hs:ident : tactic => `(tactic| (
  step_split $hs:ident
  all_goals (repeat (obtain ⟨_, $hs:ident⟩ := $hs:ident))
  all_goals (try subst $hs:ident)))

theorem step_actor {s s' : State} {e : Event} {t : Tid} (hs : step s e = .ok s')
    (ha : e.actor = some t) : Own s t (s.pc t) e (s'.pc t) s' := by
  cases e <;> cases ha
  all_goals step_cases hs
  all_goals (try simp only [setPc_pc, upd_same, afterDeadline_pc, afterNotify_pc, childReturn_pc,
    childWakeNext_pc, childScanStart_pc, freeLoopStart_pc, enterChild_pc, leave_pc])
  all_goals rw [‹s.pc _ = _›]
  -- `constructor` finds the rule by the program points; a guard that `step_cases` has split on its
  -- `if` is put together again by `simp`
  all_goals try (constructor <;> first | assumption | simp [*])
  -- left: the control transfers inside `notify`, `note_notify_child`, `nsync_note_free`, which have a
  -- rule per branch; a branch that contradicts a guard goes by `simp_all`
  all_goals
    simp only [childReturnPc, childWakeNextPc, childLoopStartPc, freeLoopStartPc, afterNotifyPc]
    repeat' split
    all_goals (try simp at *)
    all_goals first
      | (constructor <;> first | assumption | simp [*])
      | (exfalso; simp_all; done)

theorem step_own {s s' : State} {e : Event} (hs : step s e = .ok s') :
    (∃ t pc pc', e.actor = some t ∧ s.pc t = pc ∧ s'.pc t = pc' ∧ Own s t pc e pc' s') ∨
    (∃ v, e = .tick v ∧ s.now ≤ v ∧ s' = s.setNow v) ∨ (e = .skip ∧ s' = s) := by
  cases ha : e.actor with
  | some t => exact Or.inl ⟨t, _, _, rfl, rfl, rfl, step_actor hs ha⟩
  | none =>
    cases e <;> simp only [Event.actor, reduceCtorEq] at ha
    · simp only [step, need_ok, Except.ok.injEq] at hs
      exact Or.inr (Or.inl ⟨_, rfl, hs.1, hs.2.symm⟩)
    · simp only [step, Except.ok.injEq] at hs
      exact Or.inr (Or.inr ⟨rfl, hs.symm⟩)

end Note
