/-
  Layer `Note`, invariant family A: allocation and the privacy of a note that is being created.
-/
import NsyncVerif.Proofs.NoteDefs


namespace Note

structure InvA (s : State) : Prop where
  /-- the note a thread is creating is allocated and not yet published -/
  creating : ∀ t n, (s.pc t).creating = some n →
    (s.notes n).allocated = true ∧ s.published n = false
  /-- … and no other thread is creating the same note -/
  unique : ∀ t u n, (s.pc t).creating = some n → (s.pc u).creating = some n → t = u
  published : ∀ n, s.published n = true → (s.notes n).allocated = true
  flag : ∀ n, (s.notes n).notified = true → (s.notes n).allocated = true

theorem InvA.init : InvA Note.init := by
  refine ⟨?_, ?_, ?_, ?_⟩ <;> simp [Note.init, NoteRec.blank]

@[simp] theorem afterDeadlinePc_creating (n : NoteId) (nt : Dl) (k : DK) :
    (afterDeadlinePc n nt k).creating = bif k.isNew then some n else none := by
  cases k with
  | isNotified => simp [afterDeadlinePc]
  | notifyApi =>
    by_cases h : nt.pos <;> simp [afterDeadlinePc, h]
  | newSelf par dl =>
    by_cases h : nt.pos <;> cases par <;> simp [afterDeadlinePc, h]
  | ready1 wdl =>
    by_cases h : nt.pos ∧ wdl.pos <;> simp [afterDeadlinePc, h]
  | ready2 r wdl =>
    by_cases h : (Dl.min wdl nt).pos <;> simp [afterDeadlinePc, h]
  | dequeue r wdl => simp [afterDeadlinePc]

/-- How the note being created by the acting thread evolves. -/
theorem Own.creating {s s' : State} {e : Event} {a : Tid} {pc pc' : PC}
    (h : Own s a pc e pc' s') :
    pc'.creating = pc.creating ∨ pc'.creating = none ∨
    (∃ k, (s.notes k).allocated = false ∧ (s'.notes k).allocated = true ∧
      s'.published k = s.published k ∧ pc'.creating = some k) := by
  cases h
  all_goals (first
    | (left; simp [*]; done)
    | (right; left; simp [*]; done)
    | skip)
  all_goals (repeat' split)
  all_goals (first
    | (left; simp [*]; done)
    | (right; left; simp [*]; done)
    | skip)
  case malloc_newMalloc_2 =>
    right; right
    exact ⟨_, by assumption, by simp, rfl, by simp⟩

/-- `published` changes only when `nsync_note_new` returns the note. -/
theorem step_published {s s' : State} {e : Event} (hs : step s e = .ok s') :
    s'.published = s.published ∨
    ∃ a n par, e.actor = some a ∧ s.pc a = .retNew n par ∧ s'.pc a = .idle ∧
      s'.published = upd s.published n true := by
  rcases step_own hs with ⟨a, pc, pc', ha, hpc, hpc', h⟩ | ⟨_, rfl, _, rfl⟩ | ⟨rfl, rfl⟩
  · cases h
    all_goals (try (left; rfl))
    all_goals (try (left; simp; done))
    all_goals (repeat' split)
    all_goals (right; exact ⟨_, _, _, ha, hpc, hpc', by simp⟩)
  · left; rfl
  · left; rfl

theorem bornNow_isNew {nt : Dl} {k : DK} (h : bornNow nt k = true) : k.isNew = true := by
  cases k <;> simp_all [bornNow]

theorem NK.bornNow_isNew {k : NK} (h : k.bornNow = true) : k.isNew = true := by
  cases k with
  | ofApi => simp [NK.bornNow] at h
  | ofDeadline k => exact Note.bornNow_isNew (nt := some 0) h

theorem afterDeadline_born_cases (s : State) (t : Tid) (n : NoteId) (nt : Dl) (k : DK) :
    (afterDeadline s t n nt k).bornNotified = s.bornNotified ∨
    (k.isNew = true ∧ (afterDeadline s t n nt k).bornNotified = upd s.bornNotified n true) := by
  rw [afterDeadline_bornNotified]
  by_cases h : bornNow nt k = true
  · right; exact ⟨bornNow_isNew h, by simp [h]⟩
  · left; simp [h]

theorem afterNotify_born_cases (s : State) (t : Tid) (n : NoteId) (k : NK) :
    (afterNotify s t n k).bornNotified = s.bornNotified ∨
    (k.isNew = true ∧ (afterNotify s t n k).bornNotified = upd s.bornNotified n true) := by
  cases k with
  | ofApi => left; simp [afterNotify]
  | ofDeadline k => simpa [afterNotify] using afterDeadline_born_cases s t n (some 0) k

/-- `bornNotified` is set only by the thread that is creating the note. -/
theorem step_born {s s' : State} {e : Event} (hs : step s e = .ok s') :
    s'.bornNotified = s.bornNotified ∨
    ∃ a n, e.actor = some a ∧ (s.pc a).creating = some n ∧
      s'.bornNotified = upd s.bornNotified n true := by
  rcases step_own hs with ⟨a, pc, pc', ha, hpc, -, h⟩ | ⟨_, rfl, _, rfl⟩ | ⟨rfl, rfl⟩
  · cases h
    all_goals (try (left; rfl))
    all_goals (try (left; simp; done))
    all_goals (repeat' split)
    all_goals (first
      | (simp only [afterDeadline_bornNotified, afterNotify_bornNotified]; split
         · next hb =>
           right; refine ⟨_, _, ha, ?_, rfl⟩
           first | simp [hpc, bornNow_isNew hb] | simp [hpc, NK.bornNow_isNew hb]
         · left; rfl)
      | (right; refine ⟨_, _, ha, ?_, (by simp; rfl)⟩; simp [hpc]))
  · left; rfl
  · left; rfl

/-- The expiry time of an allocated note is changed only by the thread that is creating it, when
    the `nsync_note_is_notified (n)` of `nsync_note_new` returns (`newExpiry`). -/
theorem step_expiry {s s' : State} {e : Event} (hs : step s e = .ok s') (k : NoteId)
    (hk : (s.notes k).allocated = true) :
    (s'.notes k).expiry = (s.notes k).expiry ∨
    ∃ a p dl, e.actor = some a ∧ (s.pc a).creating = some k ∧
      ((∃ pos nt, s.pc a = .dl pos k nt (.newSelf (some p) dl)) ∨
       (∃ pos par, s.pc a = .nfy pos k par (.ofDeadline (.newSelf (some p) dl)))) ∧
      (s'.notes k).expiry = Dl.min dl (s.notes p).expiry := by
  have key : ∀ (a : Tid) (n : NoteId) (dk : DK) (x : Dl), e.actor = some a →
      ((∃ pos nt, s.pc a = .dl pos n nt dk) ∨ (∃ pos par, s.pc a = .nfy pos n par (.ofDeadline dk))) →
      x = newExpiryVal s n dk k →
      (x = (s.notes k).expiry ∨
       ∃ a p dl, e.actor = some a ∧ (s.pc a).creating = some k ∧
        ((∃ pos nt, s.pc a = .dl pos k nt (.newSelf (some p) dl)) ∨
         (∃ pos par, s.pc a = .nfy pos k par (.ofDeadline (.newSelf (some p) dl)))) ∧
        x = Dl.min dl (s.notes p).expiry) := by
    intro a n dk x ha hpc hx
    by_cases hkn : k = n
    · subst hkn
      cases dk with
      | newSelf par dl =>
        cases par with
        | none => left; simpa using hx
        | some p =>
          right
          refine ⟨a, p, dl, ha, ?_, hpc, by simpa using hx⟩
          rcases hpc with ⟨pos, nt, h⟩ | ⟨pos, par, h⟩ <;> rw [h] <;> simp
      | _ => left; simpa using hx
    · left; rw [hx, newExpiryVal_ne s dk hkn]
  rcases step_own hs with ⟨a, pc, pc', ha, hpc, -, h⟩ | ⟨_, rfl, _, rfl⟩ | ⟨rfl, rfl⟩
  · cases h
    all_goals (try (left; rfl))
    all_goals (try (left; simp; done))
    all_goals (repeat' split)
    case unlockRet_nfy_unlockRet_dl => exact key _ _ _ _ ha (Or.inr ⟨_, _, hpc⟩) (by simp)
    case malloc_newMalloc_2 =>
      rename_i p _ _ hfresh
      left
      have hne : k ≠ p := fun h => by subst h; simp [hk] at hfresh
      simp [hne]
    all_goals exact key _ _ _ _ ha (Or.inl ⟨_, _, hpc⟩) (by simp)
  · left; rfl
  · left; rfl

/-- A flag is set only by note.c:113, for the note of the innermost activation, or by
    `nsync_note_new` for the note it is creating, when it finds the parent notified (note.c/7); the
    note is allocated. -/
theorem step_flag_store {s s' : State} {e : Event} (hs : step s e = .ok s') (n : NoteId)
    (hn : (s'.notes n).notified = true) :
    (s.notes n).notified = true ∨
    (∃ a f rest top, e.actor = some a ∧ s.pc a = .chd .st (f :: rest) top ∧ f.note = n ∧
      (s.notes n).allocated = true ∧
      ∃ pos' f', s'.pc a = .chd pos' (f' :: rest) top ∧ f'.note = n ∧ pos'.stored = true) ∨
    (∃ a p dl, e.actor = some a ∧ s.pc a = .newP .st n p dl ∧ (s.notes n).allocated = true) := by
  rcases step_own hs with ⟨a, pc, pc', ha, hpc, hpc', h⟩ | ⟨_, rfl, _, rfl⟩ | ⟨rfl, rfl⟩
  · cases h
    all_goals (try (left; exact hn))
    all_goals (try (left; simpa using hn))
    all_goals (repeat' split at hn)
    case stNote_chd_st_wake | stNote_chd_st_none | stNote_chd_st_child =>
      obtain ⟨_, _, hk, _⟩ := ‹_ = Site.childSt ∧ _ ∧ _ ∧ _›
      subst hk
      simp only [childWakeNext_f_notified, setNotified_f_notified] at hn
      split at hn
      · next h =>
        subst h
        exact Or.inr (Or.inl ⟨_, _, _, _, ha, hpc, rfl, ‹_›, _, _, hpc', rfl, rfl⟩)
      · left; exact hn
    case stNote_newP_st =>
      obtain ⟨_, _, hk, _⟩ := ‹_ = Site.newSt ∧ _ ∧ _ ∧ _›
      subst hk
      simp only [setPc_notes, markBorn_notes, setNotified_f_notified] at hn
      split at hn
      · next h => subst h; exact Or.inr (Or.inr ⟨_, _, _, ha, hpc, ‹_›⟩)
      · left; exact hn
    case malloc_newMalloc_2 =>
      simp only [setPc_notes, allocNote_f] at hn
      split at hn
      · simp [NoteRec.blank] at hn
      · left; exact hn
  · left; exact hn
  · left; exact hn

theorem step_flag_set {s s' : State} {e : Event} (hs : step s e = .ok s') (k : NoteId)
    (hk : (s'.notes k).notified = true) :
    (s.notes k).notified = true ∨ (s.notes k).allocated = true := by
  rcases step_flag_store hs k hk with h | ⟨_, _, _, _, _, _, _, h, _⟩ | ⟨_, _, _, _, _, h⟩
  · exact Or.inl h
  · exact Or.inr h
  · exact Or.inr h

/-- A note becomes allocated only by `malloc`, which returns a blank record. -/
theorem step_alloc {s s' : State} {e : Event} (hs : step s e = .ok s') (k : NoteId)
    (hk : (s'.notes k).allocated = true) :
    (s.notes k).allocated = true ∨
    (∃ a par dl, e = .malloc a (some k) ∧ s.pc a = .newMalloc par dl ∧
      s'.notes k = { NoteRec.blank with expiry := dl, allocated := true } ∧
      s'.pc a = .dl .ld1 k none (.newSelf par dl) ∧ s'.ownDl k = dl ∧
      s'.ancEver k = k :: s.ancOf par ∧ s'.pathMin k = s.minOf dl par ∧
      s'.published = s.published ∧ s'.bornNotified = s.bornNotified ∧ s'.cparent k = par) := by
  rcases step_own hs with ⟨a, pc, pc', -, hpc, hpc', h⟩ | ⟨_, rfl, _, rfl⟩ | ⟨rfl, rfl⟩
  · cases h
    all_goals (try (left; exact hk))
    all_goals (try (left; simpa using hk))
    all_goals (repeat' split at hk)
    case malloc_newMalloc_2 =>
      rename_i p _ _ _
      by_cases hkp : k = p
      · subst hkp
        right
        exact ⟨_, _, _, rfl, hpc, by simp, hpc', by simp, by simp, by simp, rfl, rfl, by simp⟩
      · left; simpa [hkp] using hk
  · left; exact hk
  · left; exact hk

theorem step_invA {s s' : State} {e : Event} (h : InvA s) (hs : step s e = .ok s') : InvA s' := by
  have hst := step_stable hs
  -- the creating note of every thread after the step
  have key : ∀ t n, (s'.pc t).creating = some n →
      ((s.pc t).creating = some n ∧ (e.actor = some t → (s'.pc t).creating = (s.pc t).creating)) ∨
      (e.actor = some t ∧ (s.notes n).allocated = false ∧ (s'.notes n).allocated = true ∧
        s'.published n = s.published n) := by
    intro t n hc
    by_cases ha : e.actor = some t
    · rcases (step_actor hs ha).creating with h1 | h1 | ⟨k, h1, h2, h3, h4⟩
      · left; exact ⟨h1 ▸ hc, fun _ => h1⟩
      · rw [h1] at hc; simp at hc
      · rw [h4] at hc; cases hc
        right; exact ⟨ha, h1, h2, h3⟩
    · left
      rw [step_pc_other hs t ha] at hc
      exact ⟨hc, fun h' => absurd h' ha⟩
  refine ⟨?_, ?_, ?_, ?_⟩
  · intro t n hc
    rcases key t n hc with ⟨h1, h2⟩ | ⟨ha, h1, h2, h3⟩
    · have ⟨hal, hpub⟩ := h.creating t n h1
      refine ⟨hst.alloc n hal, ?_⟩
      rcases step_published hs with hp | ⟨a, m, par, ha, hpa, hpa', hp⟩
      · rw [hp]; exact hpub
      · rw [hp, upd_apply]; split
        · next hnm =>
          subst hnm
          have : (s.pc a).creating = some n := by rw [hpa]; simp
          have hta : t = a := h.unique t a n h1 this
          subst hta
          rw [hpa'] at hc; simp at hc
        · exact hpub
    · refine ⟨h2, ?_⟩
      rw [h3]
      cases hp : s.published n with
      | false => rfl
      | true => have := h.published n hp; simp [h1] at this
  · intro t u n ht hu
    rcases key t n ht with ⟨h1, _⟩ | ⟨ha, h1, _, _⟩
    · rcases key u n hu with ⟨h2, _⟩ | ⟨_, h2, _, _⟩
      · exact h.unique t u n h1 h2
      · have := (h.creating t n h1).1; simp [h2] at this
    · rcases key u n hu with ⟨h2, _⟩ | ⟨hb, _, _, _⟩
      · have := (h.creating u n h2).1; simp [h1] at this
      · rw [ha] at hb; exact Option.some.inj hb
  · intro n hp
    rcases step_published hs with hq | ⟨a, m, par, ha, hpa, _, hq⟩
    · rw [hq] at hp; exact hst.alloc n (h.published n hp)
    · rw [hq, upd_apply] at hp
      split at hp
      · next hnm =>
        subst hnm
        exact hst.alloc n (h.creating a n (by rw [hpa]; simp)).1
      · exact hst.alloc n (h.published n hp)
  · intro n hf
    rcases step_flag_set hs n hf with h1 | h1
    · exact hst.alloc n (h.flag n h1)
    · exact hst.alloc n h1

theorem Reachable.invA {s : State} (h : Reachable s) : InvA s :=
  Reachable.induction InvA.init (fun _ _ _ _ hi hs => step_invA hi hs) s h

end Note
