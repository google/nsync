/-
  Layer `CvFix` (repaired cv.c): the protocol invariant (remove_count handshake, `waiting` flags, unlinkers, outcome).
  Definitions, and what a thread that does not act needs from a transition.

  The invariant is proved in the form `InvB' f3`, with a parameter `f3` that says whether defect F3 of
  the pinned cv.c has happened: that code's cv_dequeue clears `waiting` in a record it finds with
  `waiting != 0` without looking whether the record is still in `pcv->waiters`, so a record on a
  waker's list may lose its flag (`Old.deqLdF3` in `Proofs/CvFixOld.lean`).  The proof covers the
  steps of the repaired code (`invB_tr`, `f3` unchanged) and those of `Old` (`invB_old`), and so serves
  both layers: for the repaired code `f3 = false` and `InvB' false` gives `InvB` (`InvB'.strong`); layer
  `Cv` reads its own `InvB` off `InvB' s.f3` at the embedded state (`Proofs/CvInvB.lean`).
-/
import NsyncVerif.Proofs.CvFixInvAAll

namespace NsyncVerif.CvFix

variable {f3 : Bool}

structure TInvB (s : State) (t : Tid) : Prop where
  /-- the remove_count handshake -/
  svQ : savedLoc (s.thr t) = true → (s.recs (s.thr t).r).stat = .queued → (s.recs (s.thr t).r).rc = (s.thr t).saved
  svX : savedLoc (s.thr t) = true → (s.recs (s.thr t).r).stat = .xfer ∨ (s.recs (s.thr t).r).stat = .woken →
    (s.thr t).saved < (s.recs (s.thr t).r).rc
  svL : savedLoc (s.thr t) = true → ∀ u, (s.recs (s.thr t).r).stat = .listed u →
    ((s.thr t).r ∈ (s.thr u).todo → (s.recs (s.thr t).r).rc = (s.thr t).saved) ∧
    ((s.thr t).r ∉ (s.thr u).todo → (s.thr t).saved < (s.recs (s.thr t).r).rc)
  /-- a self-removed record: where its owner is -/
  soLoc : waitLive (s.thr t) = true → (s.recs (s.thr t).r).stat = .selfOut →
    (s.thr t).loc = .wRmLd ∨ (s.thr t).loc = .wRmCas ∨ (s.thr t).loc = .wClr ∨ (s.thr t).loc = .wRel2 ∨
    (s.thr t).loc = .wTail ∨ (s.thr t).loc = .wHead
  soW : waitLive (s.thr t) = true → (s.recs (s.thr t).r).stat = .selfOut →
    (s.thr t).loc = .wRel2 ∨ (s.thr t).loc = .wTail ∨ (s.thr t).loc = .wHead → (s.recs (s.thr t).r).waiting = false
  /-- `outcome` -/
  out0 : (s.thr t).loc = .wNew ∨ waitPrep (s.thr t) = true ∨ (s.thr t).loc = .wEnq ∨ (s.thr t).loc = .wRel →
    (s.thr t).out = .ok
  outS : waitLive (s.thr t) = true → (s.thr t).out ≠ .ok →
    (s.recs (s.thr t).r).stat = .selfOut ∧
    ((s.thr t).loc = .wRel2 ∨ (s.thr t).loc = .wTail ∨ (s.thr t).loc = .wHead)
  outE : (s.thr t).loc.afterLoop = true → (s.thr t).out ≠ .ok → (s.thr t).exitUnl = [Unl.self]
  /-- wait_n: a record of the call that is self-removed is the one being dequeued -/
  mineS : ∀ q, q ∈ (s.thr t).mine → (s.recs q).stat = .selfOut →
    ((s.thr t).loc = .nDeqSt ∨ (s.thr t).loc = .nDeqRel) ∧ (s.thr t).r = q
  /-- the pending `remove_count++` of signal/broadcast -/
  todoL : ∀ r, r ∈ (s.thr t).todo → r ∈ (s.thr t).list ∧ r.isMucv = true
  todoNd : (s.thr t).todo.Nodup
  todoLoc : (s.thr t).todo ≠ [] → (s.thr t).loc = .sRcLd ∨ (s.thr t).loc = .sRcCas
  /-- wake_waiters looks at the mutex only if the first record is a pooled waiter -/
  wwHead : (s.thr t).loc = .wwMuLd ∨ (s.thr t).loc = .wwMuCas →
    ∃ f rest, (s.thr t).list = f :: rest ∧ f.isMucv = true
  /-- cv_dequeue stores `waiting := 0` only into a record it has itself removed from the queue -/
  deqS : (s.thr t).loc = .nDeqSt → (s.recs (s.thr t).r).stat = .selfOut

structure InvB (s : State) : Prop where
  /-- a record on a waker's list still has `waiting = 1` (every kind of record: the repaired
      cv_dequeue never clears the flag of a record that is not in the queue) -/
  lWait : ∀ r u, (s.recs r).stat = .listed u → (s.recs r).waiting = true
  wokenW : ∀ r, (s.recs r).stat = .woken → (s.recs r).waiting = false
  xferM : ∀ r, (s.recs r).stat = .xfer → r.isMucv = true
  unlQ : ∀ r, (s.recs r).stat = .queued ∨ (s.recs r).stat = .prep → (s.recs r).unl = []
  unlS : ∀ r, (s.recs r).stat = .selfOut → r.isMucv = true → (s.recs r).unl = [Unl.self]
  unl1 : ∀ r, r.isMucv = true → (s.recs r).unl.length ≤ 1
  thr : ∀ t, TInvB s t
  nobad : s.bad = false
  /-- cv_dequeue releases the spinlock with `being_woken == 0` only if its record is on no waker's list -/
  relL : ∀ t u, (s.thr t).loc = .nDeqRel → (s.recs (s.thr t).r).stat ≠ .listed u

/-- `TInvB` for a run of the pinned cv.c as well (`Proofs/CvFixOld.lean`): `f3` says whether defect F3
    has happened.  For the repaired code it is `false`, and `TInvB` follows (`TInvB'.strong`). -/
structure TInvB' (f3 : Bool) (s : State) (t : Tid) : Prop where
  svQ : savedLoc (s.thr t) = true → (s.recs (s.thr t).r).stat = .queued → (s.recs (s.thr t).r).rc = (s.thr t).saved
  svX : savedLoc (s.thr t) = true → (s.recs (s.thr t).r).stat = .xfer ∨ (s.recs (s.thr t).r).stat = .woken →
    (s.thr t).saved < (s.recs (s.thr t).r).rc
  svL : savedLoc (s.thr t) = true → ∀ u, (s.recs (s.thr t).r).stat = .listed u →
    ((s.thr t).r ∈ (s.thr u).todo → (s.recs (s.thr t).r).rc = (s.thr t).saved) ∧
    ((s.thr t).r ∉ (s.thr u).todo → (s.thr t).saved < (s.recs (s.thr t).r).rc)
  soLoc : waitLive (s.thr t) = true → (s.recs (s.thr t).r).stat = .selfOut →
    (s.thr t).loc = .wRmLd ∨ (s.thr t).loc = .wRmCas ∨ (s.thr t).loc = .wClr ∨ (s.thr t).loc = .wRel2 ∨
    (s.thr t).loc = .wTail ∨ (s.thr t).loc = .wHead
  soW : waitLive (s.thr t) = true → (s.recs (s.thr t).r).stat = .selfOut →
    (s.thr t).loc = .wRel2 ∨ (s.thr t).loc = .wTail ∨ (s.thr t).loc = .wHead → (s.recs (s.thr t).r).waiting = false
  out0 : (s.thr t).loc = .wNew ∨ waitPrep (s.thr t) = true ∨ (s.thr t).loc = .wEnq ∨ (s.thr t).loc = .wRel →
    (s.thr t).out = .ok
  outS : waitLive (s.thr t) = true → (s.thr t).out ≠ .ok →
    (s.recs (s.thr t).r).stat = .selfOut ∧
    ((s.thr t).loc = .wRel2 ∨ (s.thr t).loc = .wTail ∨ (s.thr t).loc = .wHead)
  outE : (s.thr t).loc.afterLoop = true → (s.thr t).out ≠ .ok → (s.thr t).exitUnl = [Unl.self]
  mineS : ∀ q, q ∈ (s.thr t).mine → (s.recs q).stat = .selfOut →
    ((s.thr t).loc = .nDeqSt ∨ (s.thr t).loc = .nDeqRel) ∧ (s.thr t).r = q
  todoL : ∀ r, r ∈ (s.thr t).todo → r ∈ (s.thr t).list ∧ r.isMucv = true
  todoNd : (s.thr t).todo.Nodup
  todoLoc : (s.thr t).todo ≠ [] → (s.thr t).loc = .sRcLd ∨ (s.thr t).loc = .sRcCas
  wwHead : (s.thr t).loc = .wwMuLd ∨ (s.thr t).loc = .wwMuCas →
    ∃ f rest, (s.thr t).list = f :: rest ∧ f.isMucv = true
  /-- cv_dequeue has its record on a waker's list only after defect F3 of the pinned cv.c -/
  f3L : (s.thr t).loc = .nDeqSt ∨ (s.thr t).loc = .nDeqRel →
    ∀ u, (s.recs (s.thr t).r).stat = .listed u → f3 = true
  /-- but for that, cv_dequeue stores `waiting := 0` only into a record it has itself removed from the queue -/
  deqS : (s.thr t).loc = .nDeqSt → (s.recs (s.thr t).r).stat = .selfOut ∨ f3 = true

/-- `InvB` with the ghost `f3` as `TInvB'`: after defect F3 a bare record on a waker's list may have
    had its `waiting` cleared by cv_dequeue. -/
structure InvB' (f3 : Bool) (s : State) : Prop where
  lWait : ∀ r u, (s.recs r).stat = .listed u → (r.isMucv = true ∨ f3 = false) → (s.recs r).waiting = true
  wokenW : ∀ r, (s.recs r).stat = .woken → (s.recs r).waiting = false
  xferM : ∀ r, (s.recs r).stat = .xfer → r.isMucv = true
  unlQ : ∀ r, (s.recs r).stat = .queued ∨ (s.recs r).stat = .prep → (s.recs r).unl = []
  unlS : ∀ r, (s.recs r).stat = .selfOut → r.isMucv = true → (s.recs r).unl = [Unl.self]
  unl1 : ∀ r, r.isMucv = true → (s.recs r).unl.length ≤ 1
  thr : ∀ t, TInvB' f3 s t
  nobad : s.bad = false

/-- The part of `InvB'` that is not about a record alone: the frames and the flag `bad`.  (The record clauses follow
    each record through `RecTr`, Proofs/CvFixRecTr.lean.) -/
structure FrameB (f3 : Bool) (s : State) : Prop where
  thr : ∀ t, TInvB' f3 s t
  nobad : s.bad = false

theorem InvB'.frame {s : State} (h : InvB' f3 s) : FrameB f3 s := ⟨h.thr, h.nobad⟩

theorem TInvB'.strong {s : State} {t : Tid} (h : TInvB' false s t) : TInvB s t :=
  ⟨h.svQ, h.svX, h.svL, h.soLoc, h.soW, h.out0, h.outS, h.outE, h.mineS, h.todoL, h.todoNd, h.todoLoc, h.wwHead,
    fun e => (h.deqS e).resolve_right (by simp)⟩

theorem InvB'.strong {s : State} (h : InvB' false s) : InvB s :=
  ⟨fun r u e => h.lWait r u e (.inr rfl), h.wokenW, h.xferM, h.unlQ, h.unlS, h.unl1, fun t => (h.thr t).strong, h.nobad,
    fun t u e q => nomatch (h.thr t).f3L (.inr e) u q⟩

theorem InvB.weak {s : State} (h : InvB s) : InvB' false s :=
  ⟨fun r u e _ => h.lWait r u e, h.wokenW, h.xferM, h.unlQ, h.unlS, h.unl1,
    fun t => let b := h.thr t
      ⟨b.svQ, b.svX, b.svL, b.soLoc, b.soW, b.out0, b.outS, b.outE, b.mineS, b.todoL, b.todoNd, b.todoLoc, b.wwHead,
        fun e u q => e.elim (fun e => nomatch (b.deqS e).symm.trans q) (fun e => absurd q (h.relL t u e)),
        fun e => .inl (b.deqS e)⟩, h.nobad⟩

theorem InvB'.mono {s : State} (h : InvB' f3 s) : InvB' true s :=
  ⟨fun r u e c => h.lWait r u e (c.imp_right (by simp)), h.wokenW, h.xferM, h.unlQ, h.unlS, h.unl1,
    fun t => let b := h.thr t
      ⟨b.svQ, b.svX, b.svL, b.soLoc, b.soW, b.out0, b.outS, b.outE, b.mineS, b.todoL, b.todoNd, b.todoLoc, b.wwHead,
        fun _ _ _ => rfl, fun _ => .inr rfl⟩, h.nobad⟩

theorem TInvB'.todo_nil {s : State} {t : Tid} (h : TInvB' f3 s t)
    (hl : ¬ ((s.thr t).loc = .sRcLd ∨ (s.thr t).loc = .sRcCas)) : (s.thr t).todo = [] := by
  cases hx : (s.thr t).todo with
  | nil => rfl
  | cons a l => exact absurd (h.todoLoc (by rw [hx]; simp)) hl

theorem invB_init : InvB' f3 init := by
  constructor <;> simp [init]
  intro t
  constructor <;> simp [savedLoc, waitLive, waitPrep, Loc.afterLoop]

/-- What a non-acting thread needs from a transition. -/
theorem tinvB_other {s s' : State} {u : Tid} (h : TInvB' f3 s u) (ha : TInvA s u) (ht : s'.thr u = s.thr u)
    (htodo : ∀ v, (s'.thr v).todo = (s.thr v).todo)
    (hr : ∀ q, (s.recs q).owner = u → (s.recs q).stat ≠ .idle →
      (s'.recs q).stat = (s.recs q).stat ∧ (s'.recs q).rc = (s.recs q).rc ∧ (s'.recs q).waiting = (s.recs q).waiting) :
    TInvB' f3 s' u := by
  obtain ⟨b1, b2, b3, b4, b5, b6, b7, b8, b9, b10, b11, b12, b13, b14, b15⟩ := h
  have hrec : waitLive (s.thr u) = true →
      (s'.recs (s.thr u).r).stat = (s.recs (s.thr u).r).stat ∧ (s'.recs (s.thr u).r).rc = (s.recs (s.thr u).r).rc ∧
      (s'.recs (s.thr u).r).waiting = (s.recs (s.thr u).r).waiting := by
    intro hl
    obtain ⟨o, _, lv⟩ := ha.live hl
    exact hr _ o (by intro e; rw [e] at lv; simp [RStat.live] at lv)
  constructor <;> rw [ht]
  · intro h1; obtain ⟨e1, e2, e3⟩ := hrec (savedLoc_live h1); rw [e1, e2]; exact b1 h1
  · intro h1; obtain ⟨e1, e2, e3⟩ := hrec (savedLoc_live h1); rw [e1, e2]; exact b2 h1
  · intro h1 v; obtain ⟨e1, e2, e3⟩ := hrec (savedLoc_live h1); rw [e1, e2, htodo v]; exact b3 h1 v
  · intro h1; obtain ⟨e1, e2, e3⟩ := hrec h1; rw [e1]; exact b4 h1
  · intro h1; obtain ⟨e1, e2, e3⟩ := hrec h1; rw [e1, e3]; exact b5 h1
  · exact b6
  · intro h1; obtain ⟨e1, e2, e3⟩ := hrec h1; rw [e1]; exact b7 h1
  · exact b8
  · intro q hq
    obtain ⟨_, o, ni, _⟩ := ha.mine q hq
    rw [(hr q o ni).1]; exact b9 q hq
  · exact b10
  · exact b11
  · exact b12
  · exact b13
  · intro h1 v h2
    obtain ⟨hm, _⟩ := ha.nDeq h1
    obtain ⟨_, o, ni, _⟩ := ha.mine _ hm
    rw [(hr _ o ni).1] at h2
    exact b14 h1 v h2
  · intro h1
    obtain ⟨hm, _⟩ := ha.nDeq (.inl h1)
    obtain ⟨_, o, ni, _⟩ := ha.mine _ hm
    rw [(hr _ o ni).1]; exact b15 h1

end NsyncVerif.CvFix
