import NsyncVerif.Proofs.MuCCas
/-
  MuC: the notions the statements about the waiter queue, the same_condition rings and the hint bits
  MU_CONDITION / MU_ALL_FALSE are written in.
-/
namespace NsyncVerif.MuC

/-- The locals of a thread between the grab CAS of unlock_slow and the end of its scan: it has
    swapped (part of) the waiter queue into `waiters` (`done`) and `new_waiters` (`passed ++ todo`). -/
def PC.scan? : PC → Option Scan
  | .usRelLd _ sc | .usRelCas _ sc _ | .usEval _ sc | .usRcLd _ sc _ | .usRcCas _ sc _ _ | .usReLd _ sc | .usReCas _ sc _ => some sc
  | _ => none

theorem PcMove.scan {s : State} {p p' : PC} (h : PcMove s p p') : p'.scan? = p.scan? := by
  cases h <;> first | rfl | (rename_i h; cases h <;> rfl)

theorem CasPc.scan {s : State} {p p' : PC} {nw : Word} {w : Option Wid} (h : CasPc s p p' nw w) : p'.scan? = none ∧ p.scan? = none := by
  cases h <;> first | exact ⟨rfl, rfl⟩ | (cases ‹Ret› <;> exact ⟨rfl, rfl⟩) | (rw [loopPc_true]; split <;> exact ⟨rfl, rfl⟩)

def Scan.lists (sc : Scan) : List Wid := sc.done ++ sc.passed ++ sc.todo

/-- Some unlocker is in the middle of its scan. -/
def MidScan (s : State) : Prop := ∃ u sc, (s.pc u).scan? = some sc

/-- Waiter record `k` is on the waiter queue of the mutex: on mu->waiters, or on one of the lists an
    unlocker has swapped into its locals. -/
def Queued (s : State) (k : Wid) : Prop :=
  k ∈ s.queue ∨ ∃ u sc, (s.pc u).scan? = some sc ∧ k ∈ sc.lists

/-- What a condition denotes: function, variable, value (two conditions with the same `sem` have the
    same truth value on all data). -/
def Cond.sem (c : Cond) : CFn × Nat × Int := (c.fn, c.var, c.val)

theorem evalCond_sem {c c' : Cond} (h : c.sem = c'.sem) (data : Nat → Int) : evalCond data c = evalCond data c' := by
  simp only [Cond.sem, Prod.mk.injEq] at h
  obtain ⟨h1, h2, h3⟩ := h
  simp [evalCond, h1, h2, h3]

/-- The same_condition groups of a list, as the model represents them: maximal stretches linked by `lnk`. -/
def groupsOf (wr : Wid → WRec) : List Wid → List (List Wid)
  | [] => []
  | k :: rest =>
    match groupsOf wr rest with
    | [] => [[k]]
    | g :: gs => if (wr k).lnk then (k :: g) :: gs else [k] :: g :: gs

/-- The maximal runs of a list in which adjacent waiters have WAIT_CONDITION_EQ-equal conditions (earlier
    one as first argument). -/
def runsOf (wr : Wid → WRec) : List Wid → List (List Wid)
  | [] => []
  | k :: rest =>
    match rest, runsOf wr rest with
    | n :: _, g :: gs => if condEq (wr k).cond (wr n).cond then (k :: g) :: gs else [k] :: g :: gs
    | _, _ => [[k]]

/-- Thread `t` is blocked in a semaphore P without deadline whose count is 0. -/
def Asleep (s : State) (t : Tid) : Prop :=
  (∃ c k, s.pc t = .lsPRet c ∧ c.w = some k ∧ (s.wr k).sem = 0) ∨
  (∃ c k, s.pc t = .mwPdRet c none ∧ c.w = some k ∧ (s.wr k).sem = 0)

/-- Every thread is idle holding nothing, or asleep. -/
def Quiescent (s : State) : Prop := ∀ t, (s.pc t = .idle ∧ s.held t = none) ∨ Asleep s t

/-- Every write section that ended with nsync_mu_unlock_without_wakeup left false the conditions of
    the waiters queued at that moment (ghost `nwViol`, set by the acceptor at the call). -/
def WithoutWakeupContract (s : State) : Prop := s.nwViol = false

theorem finPc_scan (r : Ret) (l : List Wid) : (finPc r l).scan? = none := by
  cases l <;> cases r <;> rfl

end NsyncVerif.MuC
