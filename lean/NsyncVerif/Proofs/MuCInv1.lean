import NsyncVerif.Proofs.MuCShare
/-
  MuC: the first invariant group (lock invariant, local facts, held-only-when-idle) and the generic
  lemma for steps that only move the acting thread to a program point with the same share.
-/
namespace NsyncVerif.MuC

structure Inv1 (s : State) : Prop where
  lock : LockInv s
  pcok : PcOk s
  hidle : HeldIdle s

theorem Inv1.held_none {s : State} (h : Inv1 s) {t : Tid} (hp : s.pc t ≠ .idle) : s.held t = none := by
  cases hh : s.held t with
  | none => rfl
  | some m => exact absurd (h.hidle t (by rw [hh]; simp)) hp

theorem Inv1.share_eq {s : State} (h : Inv1 s) {t : Tid} (hp : s.pc t ≠ .idle) : shareOf s t = pcShare (s.pc t) := by
  simp [shareOf, tshare, h.held_none hp]

theorem Inv1.local {s s' : State} (t : Tid) (h : Inv1 s)
    (hw : s'.word.wlock = s.word.wlock) (hr : s'.word.readers = s.word.readers)
    (ho : s'.wOwner = s.wOwner) (hro : s'.rOwners = s.rOwners) (hh : s'.held = s.held)
    (hpc : ∀ u, u ≠ t → s'.pc u = s.pc u) (hni : s.pc t ≠ .idle) (hok : (s'.pc t).ok)
    (hsh : pcShare (s'.pc t) = pcShare (s.pc t)) : Inv1 s' := by
  have hheld := h.held_none hni
  refine ⟨h.lock.same hw hr ho hro ?_, forall_of_others hpc hok h.pcok, ?_⟩
  · intro u
    simp only [shareOf, hh]
    by_cases hu : u = t
    · subst hu; simp [tshare, hheld, hsh]
    · rw [hpc u hu]
  · intro u hu
    rw [hh] at hu
    by_cases hut : u = t
    · subst hut; exact absurd hheld hu
    · rw [hpc u hut]; exact h.hidle u hu

theorem Inv1.step {s s' : State} (t : Tid) (h : Inv1 s) (hh : s'.held = s.held)
    (hpc : ∀ u, u ≠ t → s'.pc u = s.pc u) (hni : s.pc t ≠ .idle) (hok : (s'.pc t).ok)
    (hlock : LockInv s') : Inv1 s' := by
  have hheld := h.held_none hni
  refine ⟨hlock, forall_of_others hpc hok h.pcok, ?_⟩
  · intro u hu
    rw [hh] at hu
    by_cases hut : u = t
    · subst hut; exact absurd hheld hu
    · rw [hpc u hut]; exact h.hidle u hu

theorem shareOf_other {s s' : State} {u : Tid} (hh : s'.held = s.held) (hpc : s'.pc u = s.pc u) :
    shareOf s' u = shareOf s u := by
  simp [shareOf, hh, hpc]

theorem shareOf_self {s : State} {t : Tid} (hh : s.held t = none) : shareOf s t = pcShare (s.pc t) := by
  simp [shareOf, tshare, hh]

/-- A step that changes nothing the invariant depends on (semaphores, data, clock, environment). -/
theorem Inv1.env {s s' : State} (h : Inv1 s)
    (hw : s'.word.wlock = s.word.wlock) (hr : s'.word.readers = s.word.readers)
    (ho : s'.wOwner = s.wOwner) (hro : s'.rOwners = s.rOwners) (hh : s'.held = s.held)
    (hpc : s'.pc = s.pc) : Inv1 s' := by
  refine ⟨h.lock.same hw hr ho hro ?_, ?_, ?_⟩
  · intro u; simp [shareOf, hh, hpc]
  · intro u; rw [hpc]; exact h.pcok u
  · intro u hu; rw [hh] at hu; rw [hpc]; exact h.hidle u hu

/-- No thread other than the client `t` that holds the mutex in write mode owns the writer bit. -/
theorem no_other_W {s : State} (h1 : Inv1 s) {t u : Tid} (ht : s.held t = some .W) (hu : pcShare (s.pc u) = some .W) : False := by
  have hidle := h1.hidle t (by rw [ht]; simp)
  by_cases e : u = t
  · subst e; rw [hidle] at hu; simp [pcShare] at hu
  · have hne : s.pc u ≠ .idle := by intro e'; rw [e'] at hu; simp [pcShare] at hu
    have h2 : shareOf s u = some .W := by rw [h1.share_eq hne]; exact hu
    have h3 : shareOf s t = some .W := by simp [shareOf, tshare, ht]
    exact e (h1.lock.writer_alone h3 (by rw [h2]; simp))

end NsyncVerif.MuC
