/-
Invariant of the emit buffer (layer "Emit"): after feeding the stream `s` to `emit_c`, starting
from `emit_init (.., n)`, the caller's buffer is exactly `specMem n s`, every store went to an
index in [0, n), and (pos, overflow) are determined by `s.length` and `n`.  Then "the C string in
the buffer" (`IsCStr`) and what it is after a whole run.
-/
import NsyncVerif.Model.Emit

namespace NsyncVerif
namespace Emit

/-- Closed form of the buffer contents after the stream `s` (pointwise; `none` = untouched). -/
def specMem (n : Int) (s : List UInt8) (j : Int) : Option UInt8 :=
  if 0 ≤ j ∧ j < n then
    if (s.length : Int) ≤ n then s[j.toNat]?
    else if j = n - 1 then some 0
    else if n - 4 ≤ j then some 46
    else s[j.toNat]?
  else none

structure Inv (n : Int) (s : List UInt8) (b : Buf) : Prop where
  len : b.len = n
  wr : ∀ i ∈ b.written, 0 ≤ i ∧ i < n
  rd : ∀ j, b.mem j ≠ none → j ∈ b.written
  mem : ∀ j, b.mem j = specMem n s j
  noov : b.overflow = false → b.pos = s.length ∧ ((s.length : Int) ≤ n ∨ s = [])
  ov : b.overflow = true → n < s.length ∧ b.len ≤ b.pos

theorem inv_init (n : Int) : Inv n [] (init n) := by
  refine ⟨rfl, ?_, ?_, ?_, ?_, ?_⟩
  · intro i hi; simp [init] at hi
  · intro j hj; simp [init] at hj
  · intro j; unfold specMem
    by_cases hj : 0 ≤ j ∧ j < n
    · have h0 : ¬ n < 0 := by omega
      simp [init, hj, h0]
    · simp [init, hj]
  · intro _; simp [init]
  · intro h; simp [init] at h

/-! ### the three shapes of `specMem` when one character is appended -/

theorem specMem_snoc_fits {n : Int} {s : List UInt8} (c : UInt8) (h : (s.length : Int) < n)
    (j : Int) :
    specMem n (s ++ [c]) j = if j = s.length then some c else specMem n s j := by
  unfold specMem
  simp only [List.length_append, List.length_cons, List.length_nil]
  have h1 : ((s.length + (0 + 1) : Nat) : Int) ≤ n := by omega
  have h2 : (s.length : Int) ≤ n := by omega
  simp only [h1, h2, if_true]
  by_cases hj : 0 ≤ j ∧ j < n
  · simp only [hj, and_self, if_true]
    by_cases hjs : j = s.length
    · subst hjs; simp
    · simp only [hjs, if_false]
      rw [List.getElem?_append]
      by_cases hlt : j.toNat < s.length
      · simp [hlt]
      · have hge : s.length ≤ j.toNat := by omega
        have h3 : [c].length ≤ j.toNat - s.length := by simp only [List.length_singleton]; omega
        simp only [hlt, if_false]
        rw [List.getElem?_eq_none hge, List.getElem?_eq_none h3]
  · simp only [hj, if_false]
    have : j ≠ s.length := by omega
    simp [this]

theorem specMem_snoc_over {n : Int} {s : List UInt8} (c : UInt8) (h : n < (s.length : Int))
    (j : Int) : specMem n (s ++ [c]) j = specMem n s j := by
  unfold specMem
  simp only [List.length_append, List.length_cons, List.length_nil]
  have h1 : ¬ ((s.length + (0 + 1) : Nat) : Int) ≤ n := by omega
  have h2 : ¬ (s.length : Int) ≤ n := by omega
  simp only [h1, h2, if_false]
  by_cases hj : 0 ≤ j ∧ j < n
  · simp only [hj, and_self, if_true]
    have hlt : j.toNat < s.length := by omega
    rw [List.getElem?_append_left hlt]
  · simp [hj]

theorem specMem_snoc_trunc {n : Int} {s : List UInt8} (c : UInt8)
    (h : (s.length : Int) = n ∨ (s = [] ∧ n ≤ 0)) (j : Int) :
    specMem n (s ++ [c]) j =
      if 0 ≤ j ∧ j < n then
        (if j = n - 1 then some 0 else if n - 4 ≤ j then some 46 else specMem n s j)
      else specMem n s j := by
  have hlen : (s.length : Int) ≤ n ∨ n ≤ 0 := by omega
  unfold specMem
  simp only [List.length_append, List.length_cons, List.length_nil]
  by_cases hj : 0 ≤ j ∧ j < n
  · have hn : (s.length : Int) = n := by omega
    have h1 : ¬ ((s.length + (0 + 1) : Nat) : Int) ≤ n := by omega
    have h2 : (s.length : Int) ≤ n := by omega
    simp only [hj, and_self, if_true, h1, h2, if_false]
    by_cases ha : j = n - 1
    · simp [ha]
    · simp only [ha, if_false]
      by_cases hb : n - 4 ≤ j
      · simp [hb]
      · simp only [hb, if_false]
        have hlt : j.toNat < s.length := by omega
        rw [List.getElem?_append_left hlt]
  · simp [hj]

theorem suffixLoop_fields (l : List UInt8) (p : Int) (b : Buf) :
    (suffixLoop l p b).len = b.len ∧ (suffixLoop l p b).pos = b.pos ∧
    (suffixLoop l p b).overflow = b.overflow := by
  fun_induction suffixLoop l p b with
  | case1 => simp
  | case2 c rest p b hp ih => simpa [store] using ih
  | case3 => simp

theorem suffixLoop_written (l : List UInt8) (p : Int) (b : Buf) :
    ∀ i ∈ (suffixLoop l p b).written, i ∈ b.written ∨ (0 ≤ i ∧ i < p) := by
  fun_induction suffixLoop l p b with
  | case1 => exact fun i hi => .inl hi
  | case2 c rest p b hp ih =>
    intro i hi
    rcases ih i hi with h | h
    · simp only [store, List.mem_append, List.mem_singleton] at h
      rcases h with h | h
      · left; exact h
      · right; omega
    · right; omega
  | case3 => exact fun i hi => .inl hi

theorem suffixLoop_rd (l : List UInt8) (p : Int) (b : Buf)
    (hb : ∀ j, b.mem j ≠ none → j ∈ b.written) :
    ∀ j, (suffixLoop l p b).mem j ≠ none → j ∈ (suffixLoop l p b).written := by
  fun_induction suffixLoop l p b with
  | case1 => exact hb
  | case2 c rest p b hp ih =>
    apply ih
    intro j hj
    simp only [store, List.mem_append, List.mem_singleton]
    by_cases hji : j = p - 1
    · right; exact hji
    · left; apply hb; simpa [store, hji] using hj
  | case3 => exact hb

/-- Effect of the loop on memory, for any suffix: the byte `l[k]` lands at index `p - 1 - k`, as
long as that index is not negative. -/
theorem suffixLoop_mem_of (l : List UInt8) (p : Int) (b : Buf) (j : Int) :
    (suffixLoop l p b).mem j =
      if 0 ≤ j ∧ j < p then l[(p - 1 - j).toNat]?.or (b.mem j) else b.mem j := by
  fun_induction suffixLoop l p b with
  | case1 => simp
  | case2 c rest p b hp ih =>
    rw [ih]
    simp only [store]
    by_cases hj : j = p - 1
    · have e : (p - 1 - j).toNat = 0 := by omega
      rw [if_neg (by omega), if_pos hj, if_pos (by omega), e]; rfl
    · rw [if_neg hj]
      by_cases hlt : 0 ≤ j ∧ j < p - 1
      · have e : (p - 1 - j).toNat = (p - 1 - 1 - j).toNat + 1 := by omega
        rw [if_pos hlt, if_pos (by omega), e]; rfl
      · rw [if_neg hlt, if_neg (by omega)]
  | case3 c rest p b hp => rw [if_neg (by omega)]

theorem suffix_getElem? (k : Nat) :
    suffix.reverse[k]? = if k = 0 then some 0 else if k < 4 then some 46 else none :=
  match k with
  | 0 | 1 | 2 | 3 => rfl
  | _ + 4 => rfl

/-- Effect of the loop for the actual suffix "...\0" on memory. -/
theorem suffixLoop_mem (p : Int) (b : Buf) (j : Int) :
    (suffixLoop suffix.reverse p b).mem j =
      if 0 ≤ j ∧ j < p then
        (if j = p - 1 then some 0 else if p - 4 ≤ j then some 46 else b.mem j)
      else b.mem j := by
  rw [suffixLoop_mem_of, suffix_getElem?]
  split
  · by_cases h1 : j = p - 1
    · rw [if_pos h1, if_pos (by omega)]; rfl
    · rw [if_neg h1, if_neg (by omega)]
      by_cases h2 : p - 4 ≤ j
      · rw [if_pos h2, if_pos (by omega)]; rfl
      · rw [if_neg h2, if_neg (by omega)]; rfl
  · rfl

theorem inv_emitC {n : Int} {s : List UInt8} {b : Buf} (c : UInt8) (h : Inv n s b) :
    Inv n (s ++ [c]) (emitC b c) := by
  obtain ⟨hlen, hwr, hrd, hmem, hnoov, hov⟩ := h
  unfold emitC
  by_cases hpos : b.pos < b.len
  · -- room left: plain store
    simp only [hpos, if_true]
    have hovf : b.overflow = false := by
      cases hb : b.overflow with
      | false => rfl
      | true => have := (hov hb).2; omega
    obtain ⟨hp, _⟩ := hnoov hovf
    have hfit : (s.length : Int) < n := by omega
    refine ⟨by simpa [store] using hlen, ?_, ?_, ?_, ?_, ?_⟩
    · intro i hi
      simp only [store, List.mem_append, List.mem_singleton] at hi
      rcases hi with hi | hi
      · exact hwr i hi
      · omega
    · intro j hj
      simp only [store, List.mem_append, List.mem_singleton]
      by_cases hji : j = b.pos
      · right; exact hji
      · left; apply hrd; simpa [store, hji] using hj
    · intro j
      rw [specMem_snoc_fits c hfit j]
      simp only [store, hp, hmem]
    · intro _
      simp only [List.length_append, List.length_cons, List.length_nil]
      constructor
      · omega
      · left; omega
    · intro hb; simp [store, hovf] at hb
  · simp only [hpos, if_false]
    cases hb : b.overflow with
    | false =>
      -- first character that does not fit: write the "..." suffix
      simp only [Bool.not_false, if_true]
      obtain ⟨hp, hs⟩ := hnoov hb
      have hf := suffixLoop_fields suffix.reverse b.len b
      have htr : (s.length : Int) = n ∨ (s = [] ∧ n ≤ 0) := by
        rcases hs with hs | hs
        · left; omega
        · subst hs
          have hp0 : b.pos = 0 := by simpa using hp
          by_cases hn : n = 0
          · left; simp only [List.length_nil]; omega
          · right; exact ⟨rfl, by omega⟩
      refine ⟨by simpa using hf.1.trans hlen, ?_, ?_, ?_, ?_, ?_⟩
      · intro i hi
        rcases suffixLoop_written _ _ _ i hi with h | h
        · exact hwr i h
        · omega
      · exact suffixLoop_rd _ _ _ hrd
      · intro j
        rw [specMem_snoc_trunc c htr j]
        simp only [suffixLoop_mem, hlen, hmem]
      · intro h; simp at h
      · intro _
        simp only [List.length_append, List.length_cons, List.length_nil, hf.1, hf.2.1]
        constructor
        · rcases htr with h | h
          · omega
          · have := h.1; subst this; simp only [List.length_nil]; omega
        · omega
    | true =>
      -- already truncated: nothing happens
      simp only [Bool.not_true, Bool.false_eq_true, if_false]
      obtain ⟨hlt, hle⟩ := hov hb
      refine ⟨hlen, hwr, hrd, ?_, ?_, ?_⟩
      · intro j; rw [specMem_snoc_over c hlt j]; exact hmem j
      · intro h; rw [hb] at h; cases h
      · intro _
        simp only [List.length_append, List.length_cons, List.length_nil]
        exact ⟨by omega, hle⟩

theorem inv_emitAll {n : Int} (cs : List UInt8) {s : List UInt8} {b : Buf} (h : Inv n s b) :
    Inv n (s ++ cs) (emitAll b cs) := by
  induction cs generalizing s b with
  | nil => simpa [emitAll] using h
  | cons c cs ih =>
    have := ih (inv_emitC c h)
    simpa [emitAll, List.append_assoc] using this

/-- The state after `emit_init`, the stream `cs`, and the final `emit_c (b, 0)`. -/
theorem inv_run (n : Int) (cs : List UInt8) : Inv n (cs ++ [0]) (run n cs) := by
  have h := inv_emitAll cs (inv_init n)
  simp only [List.nil_append] at h
  exact inv_emitC 0 h

/-- Overflow flag after the run: set iff the stream plus NUL did not fit. -/
theorem run_overflow (n : Int) (cs : List UInt8) :
    (run n cs).overflow = true ↔ n < (cs.length : Int) + 1 := by
  have h := inv_run n cs
  constructor
  · intro hb; have := (h.ov hb).1; simpa using this
  · intro hlt
    cases hb : (run n cs).overflow with
    | true => rfl
    | false =>
      have := (h.noov hb).2
      simp at this
      omega

/-! ### the C string in the buffer: definition, uniqueness, and what `specMem` holds when the
stream fits and when it is truncated -/

/-- `mem` (the caller's buffer, index 0 = `buf[0]`) holds the NUL-terminated C string `s`:
bytes `s` (none of them NUL) at 0 … |s|-1 and a NUL at |s|.  For `i < s.length`,
`s[i]?` is `some s[i]`. -/
def IsCStr (mem : Int → Option UInt8) (s : List UInt8) : Prop :=
  (∀ c ∈ s, c ≠ 0) ∧ (∀ i : Nat, i < s.length → mem (i : Int) = s[i]?) ∧
  mem (s.length : Int) = some 0

/-- The C string held by a buffer is unique, so "the C string in the buffer" is well defined. -/
theorem IsCStr_unique {mem : Int → Option UInt8} {s t : List UInt8}
    (hs : IsCStr mem s) (ht : IsCStr mem t) : s = t := by
  have key : ∀ {s t : List UInt8}, IsCStr mem s → IsCStr mem t → ¬ s.length < t.length := by
    intro s t hs ht hlt
    have h1 := hs.2.2
    have h2 := ht.2.1 s.length hlt
    rw [h1] at h2
    have hmem : t[s.length]'hlt ∈ t := List.getElem_mem hlt
    have hne := ht.1 _ hmem
    rw [List.getElem?_eq_getElem hlt] at h2
    exact hne (Option.some.inj h2).symm
  have hlen : s.length = t.length := by
    have := key hs ht; have := key ht hs; omega
  apply List.ext_getElem?
  intro i
  by_cases hi : i < s.length
  · rw [← hs.2.1 i hi, ← ht.2.1 i (by omega)]
  · rw [List.getElem?_eq_none (by omega), List.getElem?_eq_none (by omega)]

/-- A C string of length `< n` inside the buffer gives the "NUL-terminated within buf[0..n-1]"
statement of the property. -/
theorem IsCStr_terminated {mem : Int → Option UInt8} {s : List UInt8} {n : Int}
    (hs : IsCStr mem s) (hlen : (s.length : Int) < n) :
    ∃ k, 0 ≤ k ∧ k < n ∧ mem k = some 0 ∧
      ∀ j, 0 ≤ j → j < k → ∃ v, mem j = some v ∧ v ≠ 0 := by
  refine ⟨s.length, by omega, hlen, hs.2.2, ?_⟩
  intro j hj0 hjk
  have hlt : j.toNat < s.length := by omega
  refine ⟨s[j.toNat], ?_, hs.1 _ (List.getElem_mem hlt)⟩
  have := hs.2.1 j.toNat hlt
  rw [List.getElem?_eq_getElem hlt] at this
  rw [← this]; congr 1; omega

/-- The stream and its NUL fit: the buffer holds exactly the stream. -/
theorem specMem_fits {mem : Int → Option UInt8} {n : Int} {cs : List UInt8}
    (hmem : ∀ j, mem j = specMem n (cs ++ [0]) j)
    (hcs : ∀ c ∈ cs, c ≠ 0) (hfit : (cs.length : Int) + 1 ≤ n) : IsCStr mem cs := by
  have hl : (((cs ++ [0]).length : Nat) : Int) ≤ n := by
    simp only [List.length_append, List.length_cons, List.length_nil]; omega
  refine ⟨hcs, ?_, ?_⟩
  · intro i hi
    rw [hmem]; unfold specMem
    have h1 : 0 ≤ (i : Int) ∧ (i : Int) < n := by omega
    simp only [h1, and_self, if_true, hl, Int.toNat_natCast]
    exact List.getElem?_append_left hi
  · rw [hmem]; unfold specMem
    have h1 : 0 ≤ (cs.length : Int) ∧ (cs.length : Int) < n := by omega
    simp only [h1, and_self, if_true, hl, Int.toNat_natCast]
    simp

/-- The result of truncation, for every n ≥ 1: the first n-4 stream bytes (none if n ≤ 4), then
min(3, n-1) dots. -/
def truncated (n : Int) (cs : List UInt8) : List UInt8 :=
  cs.take (n - 4).toNat ++ List.replicate (min 3 (n - 1)).toNat 46

theorem truncated_length {n : Int} {cs : List UInt8} (hn : 1 ≤ n)
    (hover : n < (cs.length : Int) + 1) : ((truncated n cs).length : Int) = n - 1 := by
  unfold truncated
  simp only [List.length_append, List.length_take, List.length_replicate]
  omega

/-- The stream and its NUL do not fit (n ≥ 1): the buffer holds `truncated n cs`. -/
theorem specMem_truncated {mem : Int → Option UInt8} {n : Int} {cs : List UInt8}
    (hmem : ∀ j, mem j = specMem n (cs ++ [0]) j)
    (hcs : ∀ c ∈ cs, c ≠ 0) (hn : 1 ≤ n) (hover : n < (cs.length : Int) + 1) :
    IsCStr mem (truncated n cs) := by
  have hlen := truncated_length hn hover
  have hl : ¬ (((cs ++ [0]).length : Nat) : Int) ≤ n := by
    simp only [List.length_append, List.length_cons, List.length_nil]; omega
  refine ⟨?_, ?_, ?_⟩
  · intro c hc
    unfold truncated at hc
    rcases List.mem_append.1 hc with h | h
    · exact hcs c (List.mem_of_mem_take h)
    · have := (List.mem_replicate.1 h).2; subst this; decide
  · intro i hi
    rw [hmem]; unfold specMem
    have h1 : 0 ≤ (i : Int) ∧ (i : Int) < n := by omega
    have h2 : ¬ (i : Int) = n - 1 := by omega
    simp only [h1, and_self, if_true, hl, if_false, h2, Int.toNat_natCast]
    unfold truncated
    have htl : (cs.take (n - 4).toNat).length = (n - 4).toNat := by
      simp only [List.length_take]; omega
    by_cases h3 : n - 4 ≤ (i : Int)
    · simp only [h3, if_true]
      rw [List.getElem?_append_right (by omega), List.getElem?_replicate]
      have : i - (cs.take (n - 4).toNat).length < (min 3 (n - 1)).toNat := by omega
      rw [if_pos this]
    · simp only [h3, if_false]
      have hia : i < (n - 4).toNat := by omega
      have e : (cs.take (n - 4).toNat ++ List.replicate (min 3 (n - 1)).toNat 46)[i]? = cs[i]? := by
        rw [List.getElem?_append_left (by omega)]
        exact List.getElem?_take_of_lt hia
      rw [e]
      exact List.getElem?_append_left (by omega)
  · rw [hmem, hlen]; unfold specMem
    have h1 : 0 ≤ n - 1 ∧ n - 1 < n := by omega
    simp only [h1, and_self, if_true, hl, if_false]

theorem truncated_ge4 {n : Int} (cs : List UInt8) (hn : 4 ≤ n) :
    truncated n cs = cs.take (n - 4).toNat ++ [46, 46, 46] := by
  unfold truncated
  have : (min 3 (n - 1)).toNat = 3 := by omega
  rw [this]; rfl

theorem truncated_small {n : Int} (cs : List UInt8) (h3 : n ≤ 4) :
    truncated n cs = List.replicate (n - 1).toNat 46 := by
  unfold truncated
  have h0 : (n - 4).toNat = 0 := by omega
  have : (min 3 (n - 1)).toNat = (n - 1).toNat := by omega
  rw [h0, this]; simp

end Emit
end NsyncVerif
