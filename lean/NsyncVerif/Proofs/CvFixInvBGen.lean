/-
  Layer `CvFix` (repaired cv.c): protocol invariant — generic preservation lemmas for the non-local transitions.
-/
import NsyncVerif.Proofs.CvFixInvBLoc

namespace NsyncVerif.CvFix

set_option linter.unusedVariables false in
/-- A thread that does not act keeps its facts if the self-removed records are the same (with the
    same `waiting`) and the remove_count handshake for its own record is re-established (`hst` is not needed). -/
theorem tinvB_other2 {s s' : State} {u : Tid} (h : TInvB s u) (ht : s'.thr u = s.thr u)
    (hst : (s'.recs (s.thr u).r).stat = (s.recs (s.thr u).r).stat)
    (hso : ∀ q, (s'.recs q).stat = .selfOut ↔ (s.recs q).stat = .selfOut)
    (hsw : ∀ q, (s.recs q).stat = .selfOut → (s'.recs q).waiting = (s.recs q).waiting)
    (hsv : savedLoc (s.thr u) = true →
      ((s'.recs (s.thr u).r).stat = .queued → (s'.recs (s.thr u).r).rc = (s.thr u).saved) ∧
      ((s'.recs (s.thr u).r).stat = .xfer ∨ (s'.recs (s.thr u).r).stat = .woken →
        (s.thr u).saved < (s'.recs (s.thr u).r).rc) ∧
      (∀ v, (s'.recs (s.thr u).r).stat = .listed v →
        ((s.thr u).r ∈ (s'.thr v).todo → (s'.recs (s.thr u).r).rc = (s.thr u).saved) ∧
        ((s.thr u).r ∉ (s'.thr v).todo → (s.thr u).saved < (s'.recs (s.thr u).r).rc))) :
    TInvB s' u := by
  obtain ⟨b1, b2, b3, b4, b5, b6, b7, b8, b9, b10, b11, b12, b13, b14⟩ := h
  constructor <;> rw [ht]
  · intro h1; exact (hsv h1).1
  · intro h1; exact (hsv h1).2.1
  · intro h1; exact (hsv h1).2.2
  · intro h1 h2; exact b4 h1 ((hso _).mp h2)
  · intro h1 h2 h3; rw [hsw _ ((hso _).mp h2)]; exact b5 h1 ((hso _).mp h2) h3
  · exact b6
  · intro h1 h2; obtain ⟨c1, c2⟩ := b7 h1 h2; exact ⟨(hso _).mpr c1, c2⟩
  · exact b8
  · intro q hq h2; exact b9 q hq ((hso _).mp h2)
  · exact b10
  · exact b11
  · exact b12
  · exact b13
  · intro h1; exact (hso _).mpr (b14 h1)

/-- Transitions that change no record field the protocol invariant looks at: only the acting
    thread's frame matters. -/
theorem invB_frame {f3 : Bool} {s s' : State} {t : Tid} (hi : InvB' f3 s) (ha : InvA s)
    (hthr : ∀ u, u ≠ t → s'.thr u = s.thr u)
    (hrec : ∀ q, (s'.recs q).stat = (s.recs q).stat ∧ (s'.recs q).rc = (s.recs q).rc ∧
                 (s'.recs q).waiting = (s.recs q).waiting ∧ (s'.recs q).unl = (s.recs q).unl)
    (hbad : s'.bad = s.bad) (htodo : (s'.thr t).todo = (s.thr t).todo)
    (ht : TInvB' f3 s' t) : FrameB f3 s' := by
  refine ⟨fun u => ?_, hbad.trans hi.nobad⟩
  by_cases hu : u = t
  · subst hu; exact ht
  · refine tinvB_other (hi.thr u) (ha.thr u) (hthr u hu) ?_ (fun q _ _ => ⟨(hrec q).1, (hrec q).2.1, (hrec q).2.2.1⟩)
    intro v
    by_cases hv : v = t
    · subst hv; exact htodo
    · rw [hthr v hv]

end NsyncVerif.CvFix
