import NsyncVerif.Proofs.MuCEffScan
import NsyncVerif.Proofs.MuCInv11
/-
  MuC, I_resp (`Inv11`) through every step: one lemma per kind of step (`Eff`), `inv11_step`, `inv11_init`.
-/
namespace NsyncVerif.MuC

theorem finPc_keep11 (r : Ret) (k : Wid) (rest l : List Wid) (hok : r.ok) : Keep11 (.usWakeV r k rest) (finPc r l) :=
  ⟨finPc_scan r l, finPc_mtOld r l,
    ⟨nofun, nofun, fun _ a _ => Or.inl ⟨by rw [finPc_waitRec]; exact a, finPc_hlRec r l hok⟩⟩,
    fun a => absurd rfl a, nofun⟩

theorem loopPc_keep11 (c : MW) (b : Bool) : Keep11 (.mwEval c) (loopPc c b) := by
  unfold loopPc
  split <;> exact .of_share rfl rfl rfl rfl rfl rfl nofun

theorem SemPc.keep11 {cfg : Cfg} {s : State} {p p' : PC} {k : Wid} {n : Nat} (h : SemPc cfg s p p' k n) (hok : p.ok) : Keep11 p p' := by
  cases h with
  | ls c k _ _ => exact ⟨rfl, rfl, ⟨id, id, fun _ a b => Or.inl ⟨a, b⟩⟩, id, fun a => Or.inl a⟩
  | mw c dl k _ _ =>
    exact ⟨rfl, rfl, ⟨id, id, fun _ a _ => Or.inl ⟨a, by simp [PC.hlRec, hok.2.1]⟩⟩, fun a => absurd rfl a, nofun⟩
  | v r k rest => exact finPc_keep11 r k rest rest hok

theorem RetPc.view11 {hd : Option Mode} {p : PC} {m : Option Mode} {w : Option Wid} {b : Bool} (h : RetPc hd p m w b) :
    p ≠ .idle ∧ p.scan? = none ∧ p.unl = false ∧ p.woken = false ∧ p.waitRec = none ∧ p.timedOut = false ∧
      (pcShare p ≠ none → m ≠ none) := by
  cases h with
  | try_ l r => cases r <;> exact ⟨nofun, rfl, rfl, rfl, rfl, rfl, by simp [pcShare]⟩
  | ul l nw => exact ⟨nofun, rfl, rfl, rfl, rfl, rfl, fun a => absurd rfl a⟩
  | _ => exact ⟨nofun, rfl, rfl, rfl, rfl, rfl, fun _ => nofun⟩

theorem CallPc.view11 {s : State} {t : Tid} {p : PC} {nw : Bool} {ca : Option Cond} (h : CallPc s t p nw ca) :
    p.scan? = none ∧ p.mtOld = none ∧ pcShare p ≠ none := by
  cases h <;> exact ⟨rfl, rfl, nofun⟩

/-- The thread is responsible by its share only, which the client holds from now on. -/
theorem Inv11.ret {s s' : State} {t : Tid} {m : Option Mode} {w : Option Wid} {b : Bool} (h1 : Inv1 s) (h : Inv11 s)
    (hp : RetPc (s.held t) (s.pc t) m w b) (e : RetEff s t m w b s') : Inv11 s' := by
  obtain ⟨v0, v1, v2, v3, v4, v5, v6⟩ := hp.view11
  refine h.frame e.pc e.queue (fun x _ => by rw [e.wr, dropW_cond]) e.data (by rw [e.nwViol]; exact id)
    (setFn_others e.held) (fun a => Or.inl (by rw [← e.word]; exact a)) v1.symm
    (fun _ ho => nomatch ho)
    (Or.inl (.of_none v2 v3 v4)) ?_
  intro _ _ hr
  have hsh := hr.share v2 v3 v4 v5
  rw [shareOf_self (h1.held_none v0)] at hsh
  exact Or.inl (Or.inl (shareOf_of_held (by rw [e.held, setFn_same]; exact v6 hsh)))

theorem Inv11.call {s s' : State} {t : Tid} {p' : PC} {nw : Bool} {ca : Option Cond} (h : Inv11 s) (h0 : s.pc t = .idle)
    (hp : CallPc s t p' nw ca) (e : CallEff s t p' nw ca s') : Inv11 s' := by
  obtain ⟨v1, v2, v3⟩ := hp.view11
  exact h.frame e.pc e.queue (fun x _ => by rw [e.wr]) e.data (fun a => (Bool.or_eq_false_iff.mp (e.nwViol ▸ a)).1)
    (setFn_others e.held) (fun a => Or.inl (by rw [← e.word]; exact a)) (by rw [v1, h0]; rfl)
    (fun _ ho => by rw [v2] at ho; cases ho)
    (Or.inl (h0 ▸ .of_none rfl rfl rfl))
    (fun _ _ _ => Or.inl (Or.inl (shareOf_of_pc (by rw [e.pc, setFn_same]; exact v3))))

theorem Inv11.sem {cfg : Cfg} {s s' : State} {t : Tid} {p' : PC} {k : Wid} {n : Nat} (h1 : Inv1 s) (h : Inv11 s)
    (hp : SemPc cfg s (s.pc t) p' k n) (e : SemEff s t p' k n s') : Inv11 s' :=
  h.keep e.pc e.queue (fun x _ => by rw [e.wr]; exact setFn_proj WRec.cond (by rfl) x) e.data e.nwViol e.held (by rw [e.word]; exact id)
    (hp.keep11 (h1.pcok t))

theorem Inv11.eval {s : State} {t : Tid} {c : MW} (h : Inv11 s) (heq : s.pc t = .mwEval c) (b : Bool) :
    Inv11 (setPc s t (loopPc c b)) :=
  h.keep rfl rfl (fun _ _ => rfl) rfl rfl rfl id (heq ▸ loopPc_keep11 c b)

theorem Inv11.ldRc {s : State} {t : Tid} {c : MW} {k : Wid} (h : Inv11 s) (heq : s.pc t = .mwRcLd c) (obs : Nat) :
    Inv11 { setPc s t (.mwEnqLd { c with rcl := obs }) with wr := setFn s.wr k { s.wr k with rc := obs } } :=
  h.keep rfl rfl (fun x _ => setFn_proj WRec.cond (by rfl) x) rfl rfl rfl id
    (heq ▸ .of_share rfl rfl rfl rfl rfl rfl nofun)

theorem Inv11.mtRm {s : State} {t : Tid} {c : MW} {old : Word} {rc : Nat} {k : Wid} (h : Inv11 s)
    (heq : s.pc t = .mtRmCas c old rc) (n : Nat) :
    Inv11 { setPc s t (.mtStW c old) with wr := setFn s.wr k { s.wr k with rc := n } } :=
  h.keep rfl rfl (fun x _ => setFn_proj WRec.cond (by rfl) x) rfl rfl rfl id
    (heq ▸ .of_share rfl rfl rfl rfl rfl rfl nofun)

/-- The waiter takes its record off the queue (mu_wait.c:112): it was queued, so the thread was not in flight; it holds
    the writer bit. -/
theorem Inv11.ldDeq {s : State} {t : Tid} {c : MW} {old : Word} {k : Wid} (h : Inv11 s) (heq : s.pc t = .mtLdRc c old)
    (hk : c.w = some k) (hmem : k ∈ s.queue) : Inv11 (setPc (dequeue s k) t (.mtRmLd c old)) := by
  obtain ⟨hq, hpc, hd, hlo⟩ := deq_shrink s k
  refine Inv11.local t h (fun x => queued_shrink hq hpc (by rw [heq]; rfl)) (fun x _ => (hlo x).2.2.2.2.1) hd (by simp [dequeue])
    (setPc_others hpc t _) (by intro u _; simp [dequeue]) (by intro a; left; simpa [dequeue] using a) ?_ ?_
    (fun _ _ => Or.inl (Or.inl (shareOf_of_pc (by simp [pcShare]))))
  · intro o' ho; left; simpa [heq, PC.mtOld] using ho
  · right
    rintro (a | a | ⟨k', a, _, b⟩)
    · rw [heq] at a; cases a
    · rw [heq] at a; cases a
    · rw [heq] at a; simp only [PC.waitRec, hk, Option.some.injEq] at a
      subst a
      exact absurd (Or.inl hmem) b

/-- The unlocker is mid-scan afterwards. -/
theorem Inv11.scan {s s' : State} {t : Tid} {r : Ret} {late : Bool} (e : ScanEff s t r late s') : Inv11 s' :=
  Inv11.of_strong t (Or.inl (scanPc_unl e.dst))

/-- The final CAS of unlock_slow: the owners of the records it is about to wake are in flight; if it wakes nobody it
    clears MU_DESIG_WAKER, and every queued condition is false (MU_ALL_FALSE is still in `set_on_release`). -/
theorem Inv11.fin {s s' : State} {t : Tid} {r : Ret} {f : Fin} {old : Word} (h1 : Inv1 s) (h3 : Inv3 s) (h4 : Inv4 s)
    (h7 : Inv7 s) (h8 : Inv8 s) (h9 : Inv9 s) (heq : s.pc t = .usFinCas r f old)
    (e : CasOk s t (finPc r f.wake) (finWord f old) none s') : Inv11 s' := by
  have hok8 := h8 t; rw [heq] at hok8
  have hok1 := h1.pcok t; rw [heq] at hok1
  have hpt : s'.pc t = finPc r f.wake := setFn_at e.pc
  have hoth : ∀ u, u ≠ t → s'.pc u = s.pc u := setFn_others e.pc
  have hQ : ∀ k, Queued s' k → Queued s k := fun k =>
    (queued_same (t := t) e.queue hoth (by rw [hpt, finPc_scan, heq]; rfl) k).1
  by_cases hwk : f.wake = []
  · have hsaf : f.saf = true := by
      cases e : f.saf with
      | true => rfl
      | false => exact absurd hwk (hok8.1 e)
    refine ⟨?_, ?_, ?_⟩
    · intro hd'
      have : (finWord f old).desig = false := by simp [finWord, hok8.2, hwk]
      rw [e.word, this] at hd'; cases hd'
    · intro u o' ho
      exfalso
      by_cases e' : u = t
      · subst e'; rw [hpt, finPc_mtOld] at ho; cases ho
      · rw [hoth u e'] at ho
        have := spin_of_mtOld ho
        rw [h3.others_no_spin (t := t) (by rw [heq]; rfl) u e'] at this; cases this
    · intro _ hneed
      exfalso
      obtain ⟨k, c, hk, hc, he⟩ := hneed
      have hkq : k ∈ s.queue := by
        rcases hQ k hk with hk | ⟨u, sc, h1', _⟩
        · exact hk
        · exfalso
          by_cases e' : u = t
          · subst e'; rw [heq] at h1'; cases h1'
          · exact e' (h4.uniq u t (unl_of_scan h1') (by rw [heq]; rfl))
      obtain ⟨c', hc', he'⟩ := ((h7.fin t f (by rw [heq]; rfl)).2 hsaf k hkq).2
      rw [e.wr_none, hc'] at hc; cases hc
      rw [e.data, he'] at he; cases he
  · obtain ⟨k, hk⟩ := List.exists_mem_of_ne_nil _ hwk
    obtain ⟨u, hu1, hu2, hu3⟩ := inFlight_of_wake h4 h9 (t := t) (k := k) (by rw [heq]; simpa [PC.wakeL] using hk)
    refine Inv11.of_strong u (Or.inr (Or.inr ⟨k, ?_, ?_, fun e => hu3 (hQ k e)⟩))
    · by_cases e' : u = t
      · subst e'; rw [hpt, finPc_waitRec]; rw [heq] at hu1; exact hu1
      · rw [hoth u e']; exact hu1
    · by_cases e' : u = t
      · subst e'; rw [hpt]; exact finPc_hlRec r _ hok1
      · rw [hoth u e']; exact hu2

/-- `t` moves to `p'` and queues record `k`, on which no other thread waits, while nobody else is inside
    mu_try_acquire_after_timeout_or_cancel with the mutex. -/
theorem Inv11.enqueue {s s1 : State} {t : Tid} {k : Wid} {p' : PC} (h : Inv11 s)
    (hq : ∀ y, y ∈ s1.queue → y = k ∨ y ∈ s.queue) (hpc : s1.pc = s.pc)
    (hcnd : ∀ x, x ≠ k → (s1.wr x).cond = (s.wr x).cond)
    (hd : s1.data = s.data) (hnv : s1.nwViol = s.nwViol) (hheld : s1.held = s.held)
    (hdes : s1.word.desig = true → s.word.desig = true)
    (hown : ∀ u, u ≠ t → (s.pc u).waitRec ≠ some k) (hnm : ∀ u, u ≠ t → (s.pc u).mtOld = none)
    (hsc : p'.scan? = none) (hmt : p'.mtOld = none) (hnt : ¬ StrongResp s t)
    (hresp : pcShare p' ≠ none ∨ ((s1.wr k).cond = none ∧ ¬ RespT s t)) : Inv11 (setPc s1 t p') := by
  have hpt : (setPc s1 t p').pc t = p' := setFn_same _ _ _
  have hoth : ∀ u, u ≠ t → (setPc s1 t p').pc u = s.pc u := setPc_others hpc t p'
  have hQ : ∀ x, Queued (setPc s1 t p') x → x = k ∨ Queued s x := fun _ => queued_grow hq hpc hsc
  have hstr : ∀ u, u ≠ t → StrongResp s u → StrongResp (setPc s1 t p') u := by
    intro u hu a
    rcases a with a | a | ⟨k', a1, a2, a3⟩
    · left; rw [hoth u hu]; exact a
    · right; left; rw [hoth u hu]; exact a
    · right; right
      refine ⟨k', by rw [hoth u hu]; exact a1, by rw [hoth u hu]; exact a2, ?_⟩
      intro e
      rcases hQ k' e with e' | e'
      · subst e'; exact hown u hu a1
      · exact a3 e'
  refine ⟨?_, ?_, ?_⟩
  · intro hd'
    obtain ⟨w, hw⟩ := h.hd (hdes hd')
    by_cases e : w = t
    · subst e; exact absurd hw hnt
    · exact ⟨w, hstr w e hw⟩
  · intro u old ho
    by_cases hu : u = t
    · subst hu; rw [hpt, hmt] at ho; cases ho
    · rw [hoth u hu, hnm u hu] at ho; cases ho
  · intro hnv' hneed
    rcases hresp with a | ⟨a, b⟩
    · exact ⟨t, Or.inl (shareOf_of_pc (by rw [hpt]; exact a))⟩
    · obtain ⟨x, c, hx, hc, he⟩ := hneed
      have hxk : x ≠ k := by intro e; subst e; rw [show (setPc s1 t p').wr = s1.wr from rfl, a] at hc; cases hc
      have hx0 : Queued s x := (hQ x hx).resolve_left hxk
      obtain ⟨w, hw⟩ := h.nm (hnv ▸ hnv') ⟨x, c, hx0, by rw [← hcnd x hxk]; exact hc, by rw [← hd]; exact he⟩
      by_cases e : w = t
      · subst e; exact absurd hw b
      · refine ⟨w, ?_⟩
        rcases hw with c1 | c1 | c1
        · left; simpa [shareOf, hoth w e, hheld] using c1
        · exact Or.inr (Or.inl (hstr w e c1))
        · right; right; rw [hoth w e]; exact c1

theorem not_waitRec_of_owner {s : State} (h4 : Inv4 s) {t : Tid} {k : Wid} (ho : (s.wr k).owner = some t ∨ (s.wr k).owner = none)
    (u : Tid) (hu : u ≠ t) : (s.pc u).waitRec ≠ some k := by
  intro e
  have := h4.own u k (waitRec_mem_ws e)
  rcases ho with a | a <;> rw [a] at this <;> cases this
  exact hu rfl

/-- The enqueue CAS of nsync_mu_wait: the waiter still holds its share. -/
theorem Inv11.mwEnq {s : State} {t : Tid} {c : MW} {old : Word} {k : Wid} (h3 : Inv3 s) (h4 : Inv4 s) (h : Inv11 s)
    (heq : s.pc t = .mwEnqCas c old) (hcw : c.w = some k) (hw : s.word = old) :
    Inv11 (setPc (if c.first then enqLast { s with word := mwEnqWord c.cond.isSome old, sp := some t } k
                 else enqFirst { s with word := mwEnqWord c.cond.isSome old, sp := some t } k) t
           (.mwRelLd { c with hadW := old.waiting, first := false })) := by
  have hok3 := h3.ok3 t; rw [heq] at hok3
  have hnm := no_mtOld_of_nospin h3 (by rw [hw]; exact hok3)
  split <;>
    exact h.enqueue (by intro y hy; simpa [enqLast, enqFirst, or_comm] using hy) (by simp)
      (fun x _ => by simp [enqLast, enqFirst, cond_of_merge]) (by simp) (by simp) (by simp)
      (by intro a; rw [hw]; simpa [mwEnqWord] using a)
      (not_waitRec_of_owner h4 (Or.inl (h4.own t k (by rw [heq]; simp [PC.ws, hcw])))) (fun u _ => hnm u) rfl rfl
      (not_strongResp (by rw [heq]; rfl) (by rw [heq]; rfl) (by rw [heq]; rfl)) (Or.inl nofun)

theorem mtRelWord_desig (a : Option Mode) (old : Word) : (mtRelWord a old).desig = old.desig := by
  unfold mtRelWord; (repeat' split) <;> rfl

/-- The stores: queue insertion by lock_slow (the record queued has no condition, the thread was not responsible), the
    wake-up store, the reset of the record in nsync_mu_wait, the two stores of mu_try_acquire_after_timeout_or_cancel
    (the word stored is built from `old_word`; the thread keeps the mutex, or goes on spinning). -/
theorem Inv11.st {s s' : State} {t : Tid} (h1 : Inv1 s) (h3 : Inv3 s) (h4 : Inv4 s) (h : Inv11 s) (e : StEff s t s') :
    Inv11 s' := by
  cases e
  case lsNewLast c k heq hq hcw hown' hwait _ | lsNewFirst c k heq hq hcw hown' hwait _
     | lsOwnLast c k heq hq hcw hwait _ | lsOwnFirst c k heq hq hcw hwait _ =>
    have hsp := h3.others_no_spin (t := t) (by rw [heq]; rfl)
    have hnr : ¬ RespT s t := fun a => by
      have := a.share (by rw [heq]; rfl) (by rw [heq]; rfl) (by rw [heq]; rfl) (by rw [heq]; rfl)
      rw [shareOf_self (h1.held_none (by rw [heq]; simp)), heq] at this; exact this rfl
    have hown := by
      first
      | exact not_waitRec_of_owner (t := t) h4 (Or.inr hown')
      | exact not_waitRec_of_owner h4 (Or.inl (h4.own t k (by rw [heq]; simp [PC.ws, SL.ws, hcw])))
    refine h.enqueue (by intro y hy; simpa [enqLast, enqFirst, or_comm] using hy) (by simp)
      (fun x hx => by simp [enqLast, enqFirst, cond_of_merge, setFn, hx]) (by simp) (by simp) (by simp)
      (by intro a; simpa using a) hown ?_ rfl rfl (fun a => hnr (Or.inr (Or.inl a)))
      (Or.inr ⟨by simp [enqLast, enqFirst, cond_of_merge, setFn], hnr⟩)
    intro u hu
    cases ho : (s.pc u).mtOld with
    | none => rfl
    | some o' => have := spin_of_mtOld ho; rw [hsp u hu] at this; cases this
  case wake r k rest heq =>
    exact h.keep rfl rfl (fun x _ => setFn_proj WRec.cond (by rfl) x) rfl rfl rfl id
      (heq ▸ ⟨rfl, rfl, ⟨id, id, fun _ a b => Or.inl ⟨a, b⟩⟩, id, fun a => Or.inl a⟩)
  case mwNew c k heq hq hcw hown hwait | mwOwn c k heq hq hcw hwait =>
    -- the record is on no list
    have hnq : ∀ x, Queued s x → x ≠ k := fun x hx e => h4.not_queued hwait (e ▸ hx)
    exact h.keep rfl rfl (fun x hx => by simp [setFn, hnq x hx]) rfl rfl rfl id
      (heq ▸ .of_share rfl rfl rfl rfl rfl rfl nofun)
  case mtGone c old k heq hcw =>
    exact h.keep rfl rfl (fun x _ => setFn_proj WRec.cond (by rfl) x) rfl rfl rfl id
      (heq ▸ .of_share rfl rfl rfl rfl rfl rfl nofun)
  case mtKeep c old heq =>
    refine h.frame (t := t) (p' := .mwLd255 { c with hl := true, outc := c.so }) (by simp) (by simp) (fun _ _ => by simp) (by simp) (by simp)
      (fun u _ => by simp) ?_ (by rw [heq]; rfl) (fun _ ho => nomatch ho) (Or.inl (heq ▸ PC.srKeep.of_none rfl rfl rfl))
      (fun _ _ _ => Or.inl (Or.inl (shareOf_of_pc (by simp [pcShare]))))
    intro a
    exact Or.inr ⟨t, old, by rw [heq]; rfl, by simpa [mtRelWord_desig] using a⟩
  case mtGive c old heq =>
    have hok := h1.pcok t; rw [heq] at hok
    exact h.frame rfl rfl (fun _ _ => rfl) rfl id (fun u _ => rfl)
      (fun a => Or.inr ⟨t, old, by rw [heq]; rfl, by simpa [mtRelWord_desig] using a⟩)
      (by rw [heq]; rfl) (fun _ ho => nomatch ho)
      (Or.inl (heq ▸ ⟨nofun, nofun, fun _ a _ => Or.inl ⟨a, by simp [PC.hlRec, hok.2.1]⟩⟩))
      (fun _ _ _ => Or.inl (Or.inr (Or.inr (by simp [PC.timedOut, hok.2.1, hok.2.2.1]))))

theorem Inv11.envEff {cfg : Cfg} {s s' : State} (h : Inv11 s) (e : EnvEff cfg s s') : Inv11 s' := by
  cases e with
  | post k => exact h.env rfl (fun x => by simp only [semPost]; exact setFn_proj WRec.cond (by rfl) x) rfl rfl rfl rfl rfl
  | sem k n _ => exact h.env rfl (setFn_proj WRec.cond (by rfl)) rfl rfl rfl rfl rfl
  | tick n _ => exact h.env rfl (fun _ => rfl) rfl rfl rfl rfl rfl

/-- A client write: the writer holds the mutex. -/
theorem inv11_dataW {s : State} {t : Tid} {x : Nat} {v : Int} (h : Inv11 s) (ht : s.held t = some .W) :
    Inv11 { s with data := setFn s.data x v } :=
  ⟨h.hd, h.hdm, fun _ _ => ⟨t, Or.inl (shareOf_of_held (by rw [ht]; nofun))⟩⟩

theorem inv11_step {cfg : Cfg} {s s' : State} {e : Event} (h1 : Inv1 s) (h3 : Inv3 s) (h4 : Inv4 s) (h5 : Inv5 s) (h7 : Inv7 s)
    (h8 : Inv8 s) (h9 : Inv9 s) (h10 : Inv10 s) (h : Inv11 s) (hs : step cfg s e = .ok s') : Inv11 s' := by
  cases ht : e.tid with
  | none => exact h.envEff (step_env hs ht)
  | some t =>
    cases step_eff hs ht with
    | move hm => exact h.move h1 hm
    | callQ h0 hh hm => exact h.move h1 (h0 ▸ hm)
    | cas hc =>
      cases hc with
      | fail hm => exact h.move h1 hm
      | plain hp ok => exact h.cas h1 h3 h5 h7 h8 h9 h10 hp ok
      | scan hsc => obtain ⟨late, e⟩ := hsc.eff h1 h3 h4; exact Inv11.scan e
      | fin heq hw e => exact Inv11.fin h1 h3 h4 h7 h8 h9 heq e
      | mwEnq c old k heq hk hw => exact h.mwEnq h3 h4 heq hk hw
      | mtRm c old rc k heq hk => exact h.mtRm heq _
    | st e => exact h.st h1 h3 h4 e
    | ldRc c k obs heq hk => exact h.ldRc heq obs
    | ldDeq c old k heq hk hmem hrc => exact h.ldDeq heq hk hmem
    | ret hp e => exact h.ret h1 hp e
    | call h0 hp e => exact h.call h0 hp e
    | scan hsc => obtain ⟨late, e⟩ := hsc.eff h1 h3 h4; exact Inv11.scan e
    | eval c cd heq hcd => exact h.eval heq _
    | sem hp e => exact h.sem h1 hp e
    | dataW x v hh => exact inv11_dataW h hh
    | dataR => exact h

theorem inv11_init : Inv11 init := by
  refine ⟨?_, ?_, ?_⟩
  · intro h; simp [init, Word.zero] at h
  · intro t old ho; simp [init, PC.mtOld] at ho
  · rintro _ ⟨k, c, hk, _⟩; simp [Queued, init, PC.scan?] at hk

end NsyncVerif.MuC
