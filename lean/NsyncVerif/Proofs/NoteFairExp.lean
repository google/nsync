/-
  Layer `Note`, fair termination of `nsync_note_wait`, the two remaining clauses of `WaitEnds`:
  the note is "notified" only because its expiry time is zero (`notified_returns`), and the clock
  passes the finite expiry time of the note (`expiry_returns`).  Both rest on `Reachable.wOk`: what
  a wait knows about the expiry time of its note, which is constant while the wait is in progress
  (`expiry_const`).
-/
import NsyncVerif.Proofs.NoteFairTick


namespace Note

variable {s0 : State}

theorem arg_of_waitOn {pc : PC} {n : NoteId} {wdl : Dl} (h : pc.waitOn = some (n, wdl)) :
    pc.arg = some n := by
  cases pc with
  | wt0 p m d => simp only [PC.waitOn, Option.some.injEq, Prod.mk.injEq] at h; simp [PC.arg, h.1]
  | wt p m d r => simp only [PC.waitOn, Option.some.injEq, Prod.mk.injEq] at h; simp [PC.arg, h.1]
  | dl p m nt k =>
    cases k <;> simp [PC.waitOn, DK.waitDl] at h <;> simp [PC.arg, DK.arg, h.1]
  | nfy p m par k =>
    cases k with
    | ofApi => simp [PC.waitOn, NK.waitDl] at h
    | ofDeadline k =>
      cases k <;> simp [PC.waitOn, NK.waitDl, DK.waitDl] at h <;> simp [PC.arg, NK.arg, DK.arg, h.1]
  | chd p stk top =>
    obtain ⟨m, par, k⟩ := top
    cases k with
    | ofApi => simp [PC.waitOn, NK.waitDl] at h
    | ofDeadline k =>
      cases k <;> simp [PC.waitOn, NK.waitDl, DK.waitDl] at h <;> simp [PC.arg, NK.arg, DK.arg, h.1]
  | _ => simp [PC.waitOn] at h

/-- The expiry time of a note does not change while a wait on it is in progress. -/
theorem expiry_const {s s' : State} {e : Event} (hr : Reachable s) (hs : step s e = .ok s')
    {t : Tid} {n : NoteId} {wdl : Dl} (hw : (s.pc t).waitOn = some (n, wdl)) :
    (s'.notes n).expiry = (s.notes n).expiry ∧ (s.notes n).allocated = true := by
  have huser : t ∈ s.users n := (hr.invU.users t n).mpr (arg_of_waitOn hw)
  have hpub := hr.invR.pub t n huser
  have hal := hr.invA.published n hpub
  refine ⟨?_, hal⟩
  rcases step_expiry hs n hal with h | ⟨a, p, dl, _, hcr, _, _⟩
  · exact h
  · have := (hr.invA.creating a n hcr).2
    rw [hpub] at this; cases this

/-- A note that is not allocated has no expiry time. -/
theorem step_expiry_unalloc {s s' : State} {e : Event} (hr : Reachable s) (hs : step s e = .ok s')
    (k : NoteId) (h' : (s'.notes k).allocated = false) :
    (s'.notes k).expiry = (s.notes k).expiry := by
  have hN := hr.inv6.2.1
  have hdl : ∀ a pos n nt dk, s.pc a = .dl pos n nt dk → (s.notes n).allocated = true := by
    intro a pos n nt dk h
    have := hN.claim a; rw [h] at this; exact this.1
  have hnf : ∀ a pos n par nk, s.pc a = .nfy pos n par nk → (s.notes n).allocated = true := by
    intro a pos n par nk h
    have := hN.claim a; rw [h] at this; exact this.1
  rcases step_own hs with ⟨t, pc, pc', -, hpc, -, h⟩ | ⟨v, rfl, _, rfl⟩ | ⟨rfl, rfl⟩
  · clear hs
    cases h
    case ld_dl_ld1_1 | unlockRet_dl_unlockRet_2 | now_dl_now_2 =>
      simp only [afterDeadline_f_allocated] at h'
      simp only [afterDeadline_f_expiry]
      exact newExpiryVal_ne s _ (fun hk => by
        subst hk; rw [hdl _ _ _ _ _ hpc] at h'; cases h')
    case unlockRet_nfy_unlockRet_api | unlockRet_nfy_unlockRet_dl =>
      simp only [afterNotify_f_allocated] at h'
      simp only [afterNotify_f_expiry]
      exact NK.expiryVal_ne s _ (fun hk => by
        subst hk; rw [hnf _ _ _ _ _ hpc] at h'; cases h')
    case malloc_newMalloc_2 =>
      simp only [setPc_notes, allocNote_f] at h' ⊢
      split
      · next hk => rw [if_pos hk] at h'; simp at h'
      · rfl
    all_goals first | rfl | simp
  · rfl
  · rfl

theorem Reachable.unalloc_expiry {s : State} (h : Reachable s) :
    ∀ k, (s.notes k).allocated = false → (s.notes k).expiry = none := by
  refine Reachable.induction
    (P := fun s => ∀ k, (s.notes k).allocated = false → (s.notes k).expiry = none)
    (fun k _ => rfl) ?_ s h
  intro s e s' hr ih hs k hk
  rw [step_expiry_unalloc hr hs k hk]
  apply ih
  cases ha : (s.notes k).allocated with
  | false => rfl
  | true => have := (step_stable hs).alloc k ha; rw [hk] at this; cases this

/-- The first program counter of a call knows nothing yet. -/
theorem wOk_of_idle {s s' : State} {e : Event} {t : Tid} {q : PC} (E : Dl) (h : Own s t .idle e q s') :
    wOk E q := by
  cases h <;> first | trivial | simp [wOk, DK.recK, DK.isWaitK]

/-- What a wait knows about the expiry time of its note. -/
theorem Reachable.wOk {s : State} (h : Reachable s) :
    ∀ t n wdl, (s.pc t).waitOn = some (n, wdl) → wOk (s.notes n).expiry (s.pc t) := by
  refine Reachable.induction
    (P := fun s => ∀ t n wdl, (s.pc t).waitOn = some (n, wdl) → Note.wOk (s.notes n).expiry (s.pc t))
    (fun t n wdl h => by cases h) ?_ s h
  intro s e s' hr ih hs t n wdl hw'
  by_cases ha : e.actor = some t
  · by_cases hp : s.pc t = .idle
    · exact wOk_of_idle _ (hp ▸ step_actor hs ha)
    · rcases (own_pc hs ha hp).keep with hid | ⟨hwo, _⟩
      · rw [hid] at hw'; cases hw'
      · rw [hwo] at hw'
        have hE := (expiry_const hr hs hw').1
        rw [hE]
        refine (own_pc hs ha hp).wOk _ (ih t n wdl hw') ?_
        intro n' wdl' h'
        rw [hw'] at h'; cases h'; rfl
  · have hpc := step_pc_other hs t ha
    rw [hpc] at hw' ⊢
    rw [(expiry_const hr hs hw').1]
    exact ih t n wdl hw'

/-- Along an execution, while the wait is in progress. -/
theorem expiry_stays (x : Exec s0) (hr : Reachable s0) {t : Tid} {i : Nat} {n : NoteId} {wdl : Dl}
    (hwo : ((x.ρ i).pc t).waitOn = some (n, wdl)) {j : Nat} (hij : i ≤ j)
    (hne : ∀ j', i ≤ j' → j' ≤ j → (x.ρ j').pc t ≠ .idle) :
    ((x.ρ j).notes n).expiry = ((x.ρ i).notes n).expiry := by
  refine NsyncVerif.Sched.keeps_from (P := fun j => (∀ j', i ≤ j' → j' ≤ j → (x.ρ j').pc t ≠ .idle) →
    ((x.ρ j).notes n).expiry = ((x.ρ i).notes n).expiry) (fun _ => rfl) (fun j hj ih hne => ?_)
    j hij hne
  rw [← ih (fun j' h1 h2 => hne j' h1 (by omega))]
  have hw : ((x.ρ j).pc t).waitOn = some (n, wdl) := by
    rw [waitOn_const x hj (fun j' h1 h2 => hne j' h1 (by omega))]; exact hwo
  cases hs : x.σ j with
  | none => rw [x.next_none hs]
  | some e => exact (expiry_const (x.reach hr j) (x.next_some hs) hw).1

/-- FAIR TERMINATION of a wait on a note with a finite expiry time that the clock passes. -/
theorem expiry_returns (x : Exec s0) (hy : GenHyps x) (hclk : ClockAdvances x) (hss : SemSound x)
    {t : Tid} {i : Nat} {n : NoteId} {wdl : Dl} {ex : Nat}
    (hwo : ((x.ρ i).pc t).waitOn = some (n, wdl))
    (hex : ((x.ρ i).notes n).expiry = some ex) : ∃ j, i ≤ j ∧ (x.ρ j).pc t = .idle := by
  refine timed_returns x hy hclk hss hwo ?_
  intro T hT hne d n' wdl' r hpc
  obtain ⟨k, rfl⟩ : ∃ k, T = i + k := ⟨T - i, by omega⟩
  have hwc : ((x.ρ (i + k)).pc t).waitOn = some (n, wdl) := by
    rw [waitOn_const x (Nat.le_add_right i k) (fun j' h1 h2 => hne j' h1 h2)]; exact hwo
  have hE : ((x.ρ (i + k)).notes n).expiry = some ex := by
    rw [expiry_stays x hy.reach hwo (Nat.le_add_right i k) hne]; exact hex
  have hok := (x.reach hy.reach (i + k)).wOk t n wdl hwc
  rw [hE, hpc] at hok
  obtain ⟨_, nt, hd, hnt⟩ := hok
  rw [hpc] at hwc
  simp only [PC.waitOn, Option.some.injEq, Prod.mk.injEq] at hwc
  rcases hnt with rfl | rfl
  · exact ⟨0, fun now h => hd ▸ leNow_min (.inr rfl) h⟩
  · exact ⟨ex, fun now h => hd ▸ leNow_min (.inr rfl) h⟩

/-- FAIR TERMINATION of a wait on a note that is notified — flag set or expiry time zero — at some
    time. -/
theorem notified_returns (x : Exec s0) (hy : GenHyps x) {t : Tid} {i : Nat} {n : NoteId} {wdl : Dl}
    (hwo : ((x.ρ i).pc t).waitOn = some (n, wdl)) {j0 : Nat} (hn : (x.ρ j0).Notified n) :
    ∃ j, i ≤ j ∧ (x.ρ j).pc t = .idle := by
  apply Classical.byContradiction
  intro hnever
  obtain ⟨hnf, hne, hwc⟩ := wait_never_returns x hy hwo hnever
  -- the expiry time of the note is zero, at all times from `i` on
  have hE0 : ((x.ρ j0).notes n).expiry = some 0 := by
    rcases hn with h | h
    · rw [hnf j0] at h; cases h
    · exact h
  have hconst : ∀ j, i ≤ j → ((x.ρ j).notes n).expiry = ((x.ρ i).notes n).expiry := by
    intro j hj
    exact expiry_stays x hy.reach hwo hj (fun j' h1 _ => hne j' h1)
  have hal : ((x.ρ i).notes n).allocated = true := by
    cases hs : x.σ i with
    | none =>
      have huser : t ∈ (x.ρ i).users n := ((x.reach hy.reach i).invU.users t n).mpr (arg_of_waitOn hwo)
      exact (x.reach hy.reach i).invA.published n ((x.reach hy.reach i).invR.pub t n huser)
    | some e => exact (expiry_const (x.reach hy.reach i) (x.next_some hs) hwo).2
  have hEi : ((x.ρ i).notes n).expiry = some 0 := by
    rcases Nat.le_total i j0 with h | h
    · rw [← hconst j0 h]; exact hE0
    · -- the note was notified before: it still is (`C08_notified_monotone`), and the flag is unset
      have hal0 : ((x.ρ j0).notes n).allocated = true := by
        cases ha : ((x.ρ j0).notes n).allocated with
        | true => rfl
        | false =>
          have := (x.reach hy.reach j0).unalloc_expiry n ha
          rw [hE0] at this; cases this
      have key : ∀ d, (x.ρ (j0 + d)).Notified n ∧ ((x.ρ (j0 + d)).notes n).allocated = true := by
        intro d
        induction d with
        | zero => exact ⟨hn, hal0⟩
        | succ d ih =>
          cases hs : x.σ (j0 + d) with
          | none => rw [show j0 + (d + 1) = j0 + d + 1 by omega, x.next_none hs]; exact ih
          | some e =>
            have hst := x.next_some hs
            exact ⟨C08_notified_monotone (x.reach hy.reach _) hst n ih.2 ih.1,
              (step_stable hst).alloc n ih.2⟩
      obtain ⟨d, rfl⟩ : ∃ d, i = j0 + d := ⟨i - j0, by omega⟩
      rcases (key d).1 with h1 | h1
      · rw [hnf _] at h1; cases h1
      · exact h1
  have hEj : ∀ j, i ≤ j → ((x.ρ j).notes n).expiry = some 0 := fun j hj => by
    rw [hconst j hj]; exact hEi
  have hbad : ∀ j, i ≤ j → ((x.ρ j).pc t).noLoop = true ∨
      (wOk (some 0) ((x.ρ j).pc t)) := fun j hj => by
    right
    have := (x.reach hy.reach j).wOk t n wdl (hwc j hj)
    rw [hEj j hj] at this; exact this
  rcases never_returns x hy hne with hloop | ⟨T, hT, _, _, d, n', wdl', r, hpc⟩
  · obtain ⟨j, hj, _, n1, nt1, r1, wdl1, hpc1, _⟩ := hloop i
    rcases hbad j hj with h | h
    · rw [hpc1] at h; cases h
    · rw [hpc1] at h; exact h.1 rfl rfl
  · rcases hbad T hT with h | h
    · rw [hpc] at h; cases h
    · rw [hpc] at h; exact h.1 rfl

end Note
