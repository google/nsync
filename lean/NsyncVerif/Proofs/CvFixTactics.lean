/-
  Layer `CvFix`: tactic abbreviations for the case analyses over program points.
-/

namespace NsyncVerif.CvFix

set_option hygiene false in
macro "loc_case" hl:ident : tactic =>
  `(tactic| (
     simp only [waitLive, waitPrep, inWaitN, Loc.wakePhase, Loc.holds, $hl:ident] at t1 t2 t3 t4 t5 t8 t9 t10 t11 t12 hold hh
     have hbq := hi.bq t
     try simp only [$hl:ident, reduceCtorEq, or_self, or_false, false_or, imp_false, implies_true] at hbq
     refine invA_setThr hi _ ?_ ?_ ?_ ?_ ?_
     rotate_left 4
     · simp [Thr.fresh] <;> simp_all
     · simp [Loc.holds, $hl:ident, Thr.fresh]
     · (try simp [Thr.fresh]) <;> (try simp_all)
     · intro e; simp_all
     · constructor <;> simp [waitLive, waitPrep, inWaitN, Loc.wakePhase, Loc.holds, Thr.fresh] <;> simp_all))

set_option hygiene false in
macro "locB_case" hl:ident : tactic =>
  `(tactic| (
     simp only [savedLoc, waitLive, waitPrep, Loc.afterLoop, $hl:ident] at b1 b2 b3 b4 b5 b6 b7 b8 b9 b12 b13 b14 a3
     refine invB_setThr hi ha _ ?_ ?_
     · (try simp [Thr.fresh]) <;> (try simp_all)
     · constructor <;> simp [savedLoc, waitLive, waitPrep, Loc.afterLoop, Thr.fresh] <;> (try simp_all) <;>
         (first | done | (intro u hst; by_cases hut : u = t <;> simp_all) | (intro h0 u hst; by_cases hut : u = t <;> simp_all))))

end NsyncVerif.CvFix
