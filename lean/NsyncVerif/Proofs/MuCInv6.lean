import NsyncVerif.Proofs.MuCInv2
import NsyncVerif.Proofs.MuCChain
import NsyncVerif.Proofs.MuCInv4
/-
  MuC: the same_condition ring invariant (`Chain` on mu->waiters and on the private lists of an
  unlocker), together with what makes it inductive: every stored condition agrees with what its
  argument object denotes (`cargs`), and a record that is on no list is not linked.  The frame lemma
  (`Inv6.local`, `Inv6.frame`), and the list operations of the model that preserve the invariant: the plain
  code of the scan of unlock_slow (`ChainsS` → `ChainsAt`), a record on no list that changes (`Inv6.reset`),
  is queued (`Inv6.enq_step`), a waiter that removes itself (`Inv6.selfRemove`).
-/
namespace NsyncVerif.MuC

structure Inv6 (s : State) : Prop where
  cq : Chain s.wr s.queue
  cs : ∀ u sc, (s.pc u).scan? = some sc → Chain s.wr sc.done ∧ Chain s.wr (sc.passed ++ sc.todo)
  off : ∀ k, (s.wr k).lnk = true → Queued s k
  cwr : ∀ k, CondOk s.cargs (s.wr k).cond
  cmw : ∀ t c, (s.pc t).mw = some c → CondOk s.cargs c.cond

theorem CeSound.of_cond {wr wr' : Wid → WRec} (hc : ∀ x, (wr' x).cond = (wr x).cond) (h : CeSound wr) : CeSound wr' := by
  intro a b e
  rw [hc a, hc b] at e ⊢
  exact h a b e

theorem ceSound_of_cwr {s : State} (h : ∀ k, CondOk s.cargs (s.wr k).cond) : CeSound s.wr :=
  fun a b e => condEq_sameSem (h a) (h b) e

theorem Inv6.ce {s : State} (h : Inv6 s) : CeSound s.wr := ceSound_of_cwr h.cwr

theorem CondOk.mono {cargs cargs' : Nat → Option (Nat × Int × Bool)} {c : Option Cond}
    (hm : ∀ j v, cargs j = some v → cargs' j = some v) (h : CondOk cargs c) : CondOk cargs' c :=
  fun cd hc => hm _ _ (h cd hc)

theorem Inv4.nd_prefix {s : State} (h4 : Inv4 s) (u : Tid) : (s.queue ++ (s.pc u).priv).Nodup := by
  have := h4.nd u
  simp only [allOf] at this
  exact (List.nodup_append.mp this).1

theorem Inv6.local' {s s' : State} (t : Tid) (h : Inv6 s) (hq : s'.queue = s.queue)
    (hwr : ∀ x, (s'.wr x).lnk = (s.wr x).lnk ∧ (s'.wr x).cond = (s.wr x).cond)
    (hca : ∀ j v, s.cargs j = some v → s'.cargs j = some v)
    (hpc : ∀ u, u ≠ t → s'.pc u = s.pc u)
    (hsc : (s'.pc t).scan? = (s.pc t).scan?)
    (hmw : ∀ c, (s'.pc t).mw = some c → CondOk s'.cargs c.cond) : Inv6 s' := by
  have hsc' : ∀ u, (s'.pc u).scan? = (s.pc u).scan? := eq_of_others hpc hsc
  have hQ := queued_congr hq hsc'
  have hcg : ∀ l, Chain s.wr l → Chain s'.wr l := fun l hl => chain_congr (fun x _ => (hwr x).2) (fun x _ => (hwr x).1) hl
  refine ⟨?_, ?_, ?_, ?_, ?_⟩
  · rw [hq]; exact hcg _ h.cq
  · intro u sc hu
    rw [hsc'] at hu
    exact ⟨hcg _ (h.cs u sc hu).1, hcg _ (h.cs u sc hu).2⟩
  · intro k hk
    rw [(hwr k).1] at hk
    exact (hQ k).2 (h.off k hk)
  · intro k; rw [(hwr k).2]; exact (h.cwr k).mono hca
  · intro u c hc
    by_cases hu : u = t
    · subst hu; exact hmw c hc
    · rw [hpc u hu] at hc; exact (h.cmw u c hc).mono hca

theorem Inv6.local {s s' : State} (t : Tid) (h : Inv6 s) (hq : s'.queue = s.queue)
    (hwr : ∀ x, (s'.wr x).lnk = (s.wr x).lnk ∧ (s'.wr x).cond = (s.wr x).cond)
    (hca : s'.cargs = s.cargs)
    (hpc : ∀ u, u ≠ t → s'.pc u = s.pc u)
    (hsc : (s'.pc t).scan? = (s.pc t).scan?)
    (hmw : ∀ c, (s'.pc t).mw = some c → ∃ c0, (s.pc t).mw = some c0 ∧ c.cond = c0.cond) : Inv6 s' := by
  refine Inv6.local' t h hq hwr (fun j v e => by rw [hca]; exact e) hpc hsc ?_
  intro c hc
  obtain ⟨c0, h0, e⟩ := hmw c hc
  rw [e, hca]; exact h.cmw t c0 h0

/-- What `Inv6.local` asks of the program point `p'` a thread moves to from `p`: the same scan locals, and the
    nsync_mu_wait call in progress keeps its condition. -/
structure Keep6 (p' p : PC) : Prop where
  scan : p'.scan? = p.scan?
  mw : ∀ c, p'.mw = some c → ∃ c0, p.mw = some c0 ∧ c.cond = c0.cond

theorem Keep6.of_eq {p' p : PC} (hsc : p'.scan? = p.scan?) (hmw : p'.mw = p.mw) : Keep6 p' p :=
  ⟨hsc, fun c hc => ⟨c, hmw ▸ hc, rfl⟩⟩

theorem Keep6.of_mw {p' p : PC} {c c0 : MW} (hsc : p'.scan? = p.scan?) (h0 : p.mw = some c0) (h' : p'.mw = some c)
    (hc : c.cond = c0.cond) : Keep6 p' p :=
  ⟨hsc, fun _ h => ⟨c0, h0, by rw [h'] at h; cases h; exact hc⟩⟩

theorem Inv6.frame {s s' : State} {t : Tid} {p' : PC} (h : Inv6 s) (hpc : s'.pc = setFn s.pc t p') (hq : s'.queue = s.queue)
    (hwr : ∀ x, (s'.wr x).lnk = (s.wr x).lnk ∧ (s'.wr x).cond = (s.wr x).cond) (hca : s'.cargs = s.cargs)
    (k : Keep6 p' (s.pc t)) : Inv6 s' := by
  have hpt : s'.pc t = p' := setFn_at hpc
  exact Inv6.local t h hq hwr hca (setFn_others hpc) (by rw [hpt]; exact k.scan)
    (by rw [hpt]; exact k.mw)

theorem PcMove.mw {s : State} {p p' : PC} (h : PcMove s p p') {c : MW} (hc : p'.mw = some c) :
    ∃ c0, p.mw = some c0 ∧ c.cond = c0.cond := by
  cases h <;> first | exact ⟨_, hc, rfl⟩ | (cases hc; exact ⟨_, rfl, rfl⟩) | cases hc |
    (rename_i h; cases h <;> first | exact ⟨_, hc, rfl⟩ | (cases hc; exact ⟨_, rfl, rfl⟩) | cases hc)

theorem Inv6.move {s : State} {t : Tid} {p' : PC} (h : Inv6 s) (hp : PcMove s (s.pc t) p') : Inv6 (setPc s t p') :=
  h.frame rfl rfl (fun _ => ⟨rfl, rfl⟩) rfl ⟨hp.scan, fun _ hc => hp.mw hc⟩

theorem dropW_lnk_cond (s : State) (w : Option Wid) (x : Wid) :
    ((dropW s w).wr x).lnk = (s.wr x).lnk ∧ ((dropW s w).wr x).cond = (s.wr x).cond := by
  obtain ⟨o, e⟩ := dropW_wr_eq s w x; rw [e]; exact ⟨rfl, rfl⟩

theorem CasPc.mw {s : State} {p p' : PC} {nw : Word} {w : Option Wid} (h : CasPc s p p' nw w) {c : MW} (hc : p'.mw = some c) :
    ∃ c0, p.mw = some c0 ∧ c.cond = c0.cond := by
  cases h <;> first | exact ⟨_, hc, rfl⟩ | (cases hc; exact ⟨_, rfl, rfl⟩) | (cases hc; done) |
    (cases ‹Ret› <;> first | exact ⟨_, hc, rfl⟩ | (cases hc; done)) |
    (rw [loopPc_true] at hc; split at hc <;> (cases hc; exact ⟨_, ‹_›, rfl⟩))

theorem Inv6.cas {s s' : State} {t : Tid} {p' : PC} {nw : Word} {w : Option Wid} (h : Inv6 s) (hp : CasPc s (s.pc t) p' nw w)
    (ok : CasOk s t p' nw w s') : Inv6 s' :=
  h.frame ok.pc ok.queue (fun x => by rw [ok.wr]; exact dropW_lnk_cond s w x) ok.cargs ⟨by rw [hp.scan.1, hp.scan.2], fun _ hc => hp.mw hc⟩

/-- A step that changes only semaphores / data / clock / the word. -/
theorem Inv6.env {s s' : State} (h : Inv6 s) (hq : s'.queue = s.queue)
    (hwr : ∀ x, (s'.wr x).lnk = (s.wr x).lnk ∧ (s'.wr x).cond = (s.wr x).cond)
    (hca : s'.cargs = s.cargs) (hpc : s'.pc = s.pc) : Inv6 s' :=
  Inv6.local 0 h hq hwr hca (fun u _ => by rw [hpc]) (by rw [hpc]) (by rw [hpc]; exact fun c hc => ⟨c, hc, rfl⟩)

theorem setFn_lnk_cond {wr : Wid → WRec} {k : Wid} {r : WRec} (hl : r.lnk = (wr k).lnk) (hc : r.cond = (wr k).cond) (x : Wid) :
    (setFn wr k r x).lnk = (wr x).lnk ∧ (setFn wr k r x).cond = (wr x).cond :=
  ⟨setFn_proj WRec.lnk hl x, setFn_proj WRec.cond hc x⟩

/-- steps that change neither the lists nor any link / condition -/
macro "inv6_local" t:ident h:ident heq:ident : tactic => `(tactic|
  (refine Inv6.local $t $h (by simp) ?_ (by simp) ?_ ?_ ?_
   · intro x; (simp [setFn]) <;> (try split) <;> simp_all
   · intro u hu; simp [setFn, hu]
   · rw [$heq:ident]; simp [setFn, PC.scan?, loopPc, finPc, Ret.pc] <;> (repeat' split) <;> simp [PC.scan?]
   · rw [$heq:ident]
     (simp_all [PC.mw, Ret.mw?, setFn, loopPc, finPc, Ret.pc, SL.entry, SL.fromWait, SL.woken]) <;> grind))

macro "ld_case6" t:ident h:ident heq:ident hs:ident : tactic => `(tactic|
  (try dsimp only at $hs:ident
   try simp only [ldWord, ldWaiting] at $hs:ident
   repeat' split at $hs:ident
   all_goals first
     | (cases $hs:ident; done)
     | (cases $hs:ident; inv6_local $t $h $heq)
     | (cases $hs:ident; split <;> inv6_local $t $h $heq)))

theorem chain_removeLinks_other {s : State} {pred : Option Wid} {k : Wid} {next : Option Wid} {l : List Wid}
    (hk : k ∉ l) (hp : ∀ p, pred = some p → p ∉ l) (h : Chain s.wr l) : Chain (removeLinks s pred k next).wr l := by
  refine chain_congr (fun x _ => removeLinks_cond _ _ _ _ x) (fun x hx => ?_) h
  rw [removeLinks_wr_other _ _ _ _ x (fun e => hk (by rw [← e]; exact hx)) (fun e => hp x e hx)]

theorem chain_mergeLinks_other {s : State} {p n : Option Wid} {l : List Wid}
    (hp : ∀ a, p = some a → a ∉ l) (h : Chain s.wr l) : Chain (mergeLinks s p n).wr l := by
  refine chain_congr (fun x _ => cond_of_merge _ _ _ x) (fun x hx => ?_) h
  rw [mergeLinks_wr_other _ _ _ x (fun e => hp x e hx)]

/-- Remove `k` from the list `l1 ++ k :: l2`; `q` and `d` are the other lists. -/
theorem chains_remove {s : State} {q d l1 l2 : List Wid} {k : Wid} (hq : Chain s.wr q) (hd : Chain s.wr d)
    (hc : Chain s.wr (l1 ++ k :: l2)) (hnd : (q ++ (d ++ (l1 ++ k :: l2))).Nodup)
    (hoff : ∀ x, (s.wr x).lnk = true → x ∈ q ++ (d ++ (l1 ++ k :: l2))) (hce : CeSound s.wr) :
    Chain (removeLinks s l1.getLast? k l2.head?).wr q ∧ Chain (removeLinks s l1.getLast? k l2.head?).wr d ∧
    Chain (removeLinks s l1.getLast? k l2.head?).wr (l1 ++ l2) ∧
    (∀ x, ((removeLinks s l1.getLast? k l2.head?).wr x).lnk = true → x ∈ q ++ (d ++ (l1 ++ l2))) ∧
    ((removeLinks s l1.getLast? k l2.head?).wr k).lnk = false := by
  have h1 := List.nodup_append.mp hnd
  have h2 := List.nodup_append.mp h1.2.1
  have hl : (l1 ++ k :: l2).Nodup := h2.2.1
  have hkm : k ∈ l1 ++ k :: l2 := by simp
  have hpm : ∀ p, l1.getLast? = some p → p ∈ l1 ++ k :: l2 := fun p hp => List.mem_append_left _ (List.mem_of_getLast? hp)
  obtain ⟨c1, c2⟩ := chain_remove hl hc hce
  refine ⟨chain_removeLinks_other ?_ ?_ hq, chain_removeLinks_other ?_ ?_ hd, c1, ?_, c2⟩
  · intro e; exact h1.2.2 k e k (List.mem_append_right _ hkm) rfl
  · intro p hp e; exact h1.2.2 p e p (List.mem_append_right _ (hpm p hp)) rfl
  · intro e; exact h2.2.2 k e k hkm rfl
  · intro p hp e; exact h2.2.2 p e p (hpm p hp) rfl
  · intro x hx
    by_cases hxk : x = k
    · subst hxk; rw [c2] at hx; cases hx
    · by_cases hxp : l1.getLast? = some x
      · simp only [List.mem_append]; exact Or.inr (Or.inr (Or.inl (List.mem_of_getLast? hxp)))
      · rw [removeLinks_wr_other _ _ _ _ x hxk hxp] at hx
        have := hoff x hx
        simp only [List.mem_append, List.mem_cons] at this ⊢
        rcases this with a | a | a | a | a
        · exact Or.inl a
        · exact Or.inr (Or.inl a)
        · exact Or.inr (Or.inr (Or.inl a))
        · exact absurd a hxk
        · exact Or.inr (Or.inr (Or.inr a))

/-- The chains as the scanning thread sees them (locals `sc`). -/
structure ChainsS (s : State) (sc : Scan) : Prop where
  cq : Chain s.wr s.queue
  cd : Chain s.wr sc.done
  cp : Chain s.wr (sc.passed ++ sc.todo)
  nd : (s.queue ++ (sc.done ++ (sc.passed ++ sc.todo))).Nodup
  off : ∀ x, (s.wr x).lnk = true → x ∈ s.queue ++ (sc.done ++ (sc.passed ++ sc.todo))
  ce : CeSound s.wr

/-- … and at the program point where the plain code stops. -/
def ChainsAt (s' : State) (t : Tid) : Prop :=
  Chain s'.wr s'.queue ∧
  (∀ sc', (s'.pc t).scan? = some sc' → Chain s'.wr sc'.done ∧ Chain s'.wr (sc'.passed ++ sc'.todo)) ∧
  (∀ x, (s'.wr x).lnk = true → x ∈ s'.queue ++ (s'.pc t).priv)

theorem ChainsS.congr {s : State} {sc sc1 : Scan} (h : ChainsS s sc) (hd : sc1.done = sc.done)
    (hp : sc1.passed ++ sc1.todo = sc.passed ++ sc.todo) : ChainsS s sc1 :=
  ⟨h.cq, by rw [hd]; exact h.cd, by rw [hp]; exact h.cp, by rw [hd, hp]; exact h.nd, by rw [hd, hp]; exact h.off, h.ce⟩

theorem ChainsS.congr_state {s s2 : State} {sc : Scan} (h : ChainsS s sc) (hw : s2.wr = s.wr) (hq : s2.queue = s.queue) :
    ChainsS s2 sc :=
  ⟨by rw [hw, hq]; exact h.cq, by rw [hw]; exact h.cd, by rw [hw]; exact h.cp, by rw [hq]; exact h.nd,
   by rw [hw, hq]; exact h.off, by rw [hw]; exact h.ce⟩

theorem ChainsS.congr_wr {s s2 : State} {sc : Scan} (h : ChainsS s sc)
    (hw : ∀ x, (s2.wr x).lnk = (s.wr x).lnk ∧ (s2.wr x).cond = (s.wr x).cond) (hq : s2.queue = s.queue) : ChainsS s2 sc := by
  have hcg : ∀ l, Chain s.wr l → Chain s2.wr l := fun l hl => chain_congr (fun x _ => (hw x).2) (fun x _ => (hw x).1) hl
  exact ⟨by rw [hq]; exact hcg _ h.cq, hcg _ h.cd, hcg _ h.cp, by rw [hq]; exact h.nd,
    by intro x hx; rw [(hw x).1] at hx; rw [hq]; exact h.off x hx, CeSound.of_cond (fun x => (hw x).2) h.ce⟩

theorem chainsAt_stop {s : State} {sc : Scan} (h : ChainsS s sc) (t : Tid) (p : PC) (hp : p.scan? = some sc) :
    ChainsAt (setPc s t p) t := by
  refine ⟨h.cq, ?_, ?_⟩
  · intro sc' hs
    simp only [setPc_pc, setFn_same, hp, Option.some.injEq] at hs
    subst hs; exact ⟨h.cd, h.cp⟩
  · intro x hx
    have := h.off x hx
    simp only [setPc_pc, setFn_same, PC.priv, hp, Scan.lists, setPc_queue]
    simpa [List.append_assoc] using this

theorem pickup_chains {s : State} {sc : Scan} (h : ChainsS s sc) :
    (∀ s1, pickup s sc = (s1, none) → Chain s1.wr s1.queue ∧ ∀ x, (s1.wr x).lnk = true → x ∈ s1.queue) ∧
    (∀ s1 sc2, pickup s sc = (s1, some sc2) → ChainsS s1 sc2) := by
  have h1 := List.nodup_append.mp h.nd
  have hndl : (sc.done ++ (sc.passed ++ sc.todo)).Nodup := h1.2.1
  have hdisj : ∀ a, a ∈ s.queue → ∀ b, b ∈ sc.done ++ (sc.passed ++ sc.todo) → a ≠ b := h1.2.2
  have K1 : Chain (mergeLinks s sc.done.getLast? (sc.passed ++ sc.todo).head?).wr (sc.done ++ (sc.passed ++ sc.todo)) :=
    chain_append_merge hndl h.cd h.cp h.ce
  have K2 : Chain (mergeLinks s sc.done.getLast? (sc.passed ++ sc.todo).head?).wr s.queue := by
    refine chain_mergeLinks_other ?_ h.cq
    intro a ha e
    exact hdisj a e a (List.mem_append_left _ (List.mem_of_getLast? ha)) rfl
  have K3 : ∀ x, ((mergeLinks s sc.done.getLast? (sc.passed ++ sc.todo).head?).wr x).lnk = true →
      x ∈ s.queue ++ (sc.done ++ (sc.passed ++ sc.todo)) := by
    intro x hx
    by_cases hxp : sc.done.getLast? = some x
    · exact List.mem_append_right _ (List.mem_append_left _ (List.mem_of_getLast? hxp))
    · rw [mergeLinks_wr_other _ _ _ x hxp] at hx; exact h.off x hx
  constructor
  · intro s1 hs
    unfold pickup at hs
    dsimp only at hs
    split at hs
    · rename_i hq
      simp only [Prod.mk.injEq, and_true] at hs
      subst hs
      refine ⟨K1, ?_⟩
      intro x hx
      have := K3 x hx
      rw [hq] at this
      simpa using this
    · simp at hs
  · intro s1 sc2 hs
    unfold pickup at hs
    dsimp only at hs
    split at hs
    · simp at hs
    · rename_i p q hq
      simp only [Prod.mk.injEq, Option.some.injEq] at hs
      obtain ⟨rfl, rfl⟩ := hs
      refine ⟨by simp [Chain], K1, ?_, ?_, ?_, ?_⟩
      · simp only [List.nil_append]; rw [← hq]; exact K2
      · simp only [List.nil_append]
        rw [← hq]
        exact (List.Perm.nodup_iff List.perm_append_comm).1 h.nd
      · intro x hx
        have := K3 x hx
        simp only [List.nil_append]
        rw [← hq]
        simp only [List.mem_append] at this ⊢
        rcases this with a | a | a | a
        · exact Or.inr a
        · exact Or.inl (Or.inl a)
        · exact Or.inl (Or.inr (Or.inl a))
        · exact Or.inl (Or.inr (Or.inr a))
      · exact CeSound.of_cond (cond_of_merge _ _ _) h.ce

/-- `toFin` after a `pickup` that found nothing new. -/
theorem chainsAt_fin {s1 : State} (t : Tid) (r : Ret) (sc : Scan) (h : Chain s1.wr s1.queue)
    (hoff : ∀ x, (s1.wr x).lnk = true → x ∈ s1.queue) : ChainsAt (toFin s1 t r sc) t := by
  refine ⟨h, ?_, ?_⟩
  · intro sc' hs; simp [toFin, PC.scan?] at hs
  · intro x hx
    simp only [toFin, setPc_pc, setFn_same, PC.priv, PC.scan?, List.append_nil, setPc_queue]
    exact hoff x hx

theorem chainsAt_remove {s : State} {sc sc' : Scan} {k : Wid} (h : ChainsS s sc) (t : Tid) (r : Ret)
    (hd : sc'.done = sc.done) (hp : sc'.passed ++ k :: sc'.todo = sc.passed ++ sc.todo) :
    ChainsAt (setPc (removeLinks s sc'.passed.getLast? k sc'.todo.head?) t (.usRcLd r sc' k)) t := by
  obtain ⟨a, b, c, d, _⟩ := chains_remove (q := s.queue) (d := sc.done) (l1 := sc'.passed) (l2 := sc'.todo) (k := k)
    h.cq h.cd (by rw [hp]; exact h.cp) (by rw [hp]; exact h.nd) (by rw [hp]; exact h.off) h.ce
  refine ⟨by simpa using a, ?_, ?_⟩
  · intro sc2 hs
    simp only [setPc_pc, setFn_same, PC.scan?, Option.some.injEq] at hs
    subst hs
    exact ⟨by rw [hd]; simpa using b, by simpa using c⟩
  · intro x hx
    have := d x (by simpa using hx)
    simp only [setPc_pc, setFn_same, PC.priv, PC.scan?, Scan.lists, setPc_queue, removeLinks_queue, hd]
    simpa [List.append_assoc] using this

theorem scanInv_chains (t : Tid) (r : Ret) : ScanInv t r ChainsS (fun s' => ChainsAt s' t) where
  eval := by
    intro s sc k sc' hc hgo
    have hsp := scanGo_goodL hgo
    exact chainsAt_stop (hc.congr hsp.1 hsp.2.2.1) t _ rfl
  remove := by
    intro s sc k sc' hc hgo
    have hsp := scanGo_goodL hgo
    exact chainsAt_remove hc t r hsp.1 hsp.2.1
  iterEnd := by
    intro s sc sc' hc hgo
    have hsp := scanGo_goodL hgo
    exact hc.congr hsp.1 hsp.2.2
  reLd := fun hc _ => chainsAt_stop hc t _ rfl
  fin := fun hc e2 =>
    have ⟨a, b⟩ := (pickup_chains hc).1 _ (Prod.ext rfl e2)
    chainsAt_fin t r _ a b
  pick := fun hc e2 => (pickup_chains hc).2 _ _ (Prod.ext rfl e2)
  relLd := fun hc _ => chainsAt_stop hc t _ rfl

theorem afterEval_chains {s : State} {sc : Scan} {t : Tid} {r : Ret} {res : Bool} {s' : State}
    (h : afterEval s t r sc res = .ok s') (hc : ChainsS s sc) : ChainsAt s' t :=
  (scanInv_chains t r).afterEval h (fun k rest hk _ => hc.congr rfl (by simp only [skipPast_append, hk]))
    (fun k rest hk _ _ => chainsAt_remove (sc' := { sc with todo := rest, wake := sc.wake ++ [k], wt := some (s.wr k).lType }) hc t r rfl
      (by simp [hk]))
    (fun k rest hk _ _ => hc.congr rfl (by simp [hk]))

theorem Inv6.chainsS {s : State} (h : Inv6 s) (h4 : Inv4 s) {t : Tid} {sc : Scan} (hsc : (s.pc t).scan? = some sc) :
    ChainsS s sc := by
  have hnd := h4.nd t
  simp only [allOf, PC.priv, hsc, Scan.lists] at hnd
  refine ⟨h.cq, (h.cs t sc hsc).1, (h.cs t sc hsc).2, ?_, ?_, h.ce⟩
  · have := (List.nodup_append.mp hnd).1
    simpa [List.append_assoc] using this
  · intro x hx
    rcases h.off x hx with e | ⟨u, sc', h1, h2⟩
    · exact List.mem_append_left _ e
    · have := h4.uniq u t (unl_of_scan h1) (unl_of_scan hsc)
      subst this
      rw [hsc] at h1; cases h1
      simp only [Scan.lists] at h2
      apply List.mem_append_right
      simpa [List.append_assoc] using h2

/-- No unlocker is scanning: the scan about to start has empty locals. -/
theorem Inv6.chainsS0 {s : State} (h : Inv6 s) (h4 : Inv4 s) (hno : ∀ u, (s.pc u).unl = false) {sc0 : Scan}
    (hd : sc0.done = []) (hp : sc0.passed = []) (ht : sc0.todo = []) : ChainsS s sc0 := by
  have hnd := h4.nd 0
  simp only [allOf, List.append_assoc] at hnd
  refine ⟨h.cq, by rw [hd]; simp [Chain], by rw [hp, ht]; simp [Chain], ?_, ?_, h.ce⟩
  · rw [hd, hp, ht]; simpa using (List.nodup_append.mp hnd).1
  · intro x hx
    rcases h.off x hx with e | ⟨u, sc', h1, _⟩
    · exact List.mem_append_left _ e
    · have := unl_of_scan h1; rw [hno u] at this; cases this

/-- A step of `t` that ends in the plain code of the scan. -/
theorem Inv6.of_chainsAt {s s' : State} (t : Tid) (h : Inv6 s) (hat : ChainsAt s' t)
    (hcond : ∀ x, (s'.wr x).cond = (s.wr x).cond) (hca : s'.cargs = s.cargs)
    (hpc : ∀ u, u ≠ t → s'.pc u = s.pc u) (hoth : ∀ u, u ≠ t → (s.pc u).unl = false)
    (hmw : (s'.pc t).mw = (s.pc t).mw) : Inv6 s' := by
  obtain ⟨a, b, c⟩ := hat
  refine ⟨a, ?_, ?_, ?_, ?_⟩
  · intro u sc hu
    by_cases e : u = t
    · subst e; exact b sc hu
    · rw [hpc u e] at hu
      have := unl_of_scan hu; rw [hoth u e] at this; cases this
  · intro k hk
    have := c k hk
    simp only [List.mem_append] at this
    rcases this with e | e
    · exact Or.inl e
    · obtain ⟨sc, h1, h2⟩ := mem_priv_iff.1 e
      exact Or.inr ⟨t, sc, h1, h2⟩
  · intro k; rw [hcond, hca]; exact h.cwr k
  · intro u c' hc
    rw [hca]
    by_cases e : u = t
    · subst e; rw [hmw] at hc; exact h.cmw u c' hc
    · rw [hpc u e] at hc; exact h.cmw u c' hc

theorem Inv6.reset {s s1 : State} (k : Wid) (h : Inv6 s) (hnq : ¬ Queued s k) (hq : s1.queue = s.queue) (hpc : s1.pc = s.pc)
    (hca : s1.cargs = s.cargs) (hwr : ∀ x, x ≠ k → s1.wr x = s.wr x) (hl : (s1.wr k).lnk = false)
    (hc : CondOk s.cargs (s1.wr k).cond) : Inv6 s1 := by
  have hQ : ∀ x, Queued s1 x ↔ Queued s x := fun x => by simp only [Queued, hq, hpc]
  have hcg : ∀ l, (∀ x, x ∈ l → Queued s x) → Chain s.wr l → Chain s1.wr l := by
    intro l hl' hch
    refine chain_congr (fun x hx => ?_) (fun x hx => ?_) hch <;>
      rw [hwr x (fun e => hnq (e ▸ hl' x hx))]
  refine ⟨?_, ?_, ?_, ?_, ?_⟩
  · rw [hq]; exact hcg _ (fun x hx => Or.inl hx) h.cq
  · intro u sc hu
    rw [hpc] at hu
    have hm : ∀ x, x ∈ sc.lists → Queued s x := fun x hx => Or.inr ⟨u, sc, hu, hx⟩
    refine ⟨hcg _ (fun x hx => hm x (by simp [Scan.lists, hx])) (h.cs u sc hu).1,
            hcg _ (fun x hx => hm x ?_) (h.cs u sc hu).2⟩
    simp only [Scan.lists, List.mem_append] at hx ⊢
    rcases hx with a | a
    · exact Or.inl (Or.inr a)
    · exact Or.inr a
  · intro x hx
    by_cases e : x = k
    · subst e; rw [hl] at hx; cases hx
    · rw [hwr x e] at hx; exact (hQ x).2 (h.off x hx)
  · intro x
    rw [hca]
    by_cases e : x = k
    · subst e; exact hc
    · rw [hwr x e]; exact h.cwr x
  · intro u c hu; rw [hca]; rw [hpc] at hu; exact h.cmw u c hu

theorem Inv6.resetPc {s : State} (t : Tid) (k : Wid) (p : PC) (rec : WRec) (h : Inv6 s) (hnq : ¬ Queued s k)
    (hl : rec.lnk = false) (hc : CondOk s.cargs rec.cond) (k6 : Keep6 p (s.pc t)) :
    Inv6 { setPc s t p with wr := setFn s.wr k rec } :=
  have h1 : Inv6 { s with wr := setFn s.wr k rec } :=
    Inv6.reset k h hnq rfl rfl rfl (by intro x hx; simp [setFn, hx]) (by simpa [setFn] using hl) (by simpa [setFn] using hc)
  h1.frame rfl rfl (fun x => ⟨rfl, rfl⟩) rfl k6

/-- `t` moves to `p` (same scan locals) while links and mu->waiters change: the records keep their conditions, mu->waiters and the
    private lists of the scanning threads are chains again, and a linked record is on one of them. -/
theorem Inv6.relink {s s1 : State} {t : Tid} {p : PC} (h : Inv6 s) (hpc : s1.pc = s.pc) (hca : s1.cargs = s.cargs)
    (hcond : ∀ x, (s1.wr x).cond = (s.wr x).cond) (hcq : Chain s1.wr s1.queue)
    (hcs : ∀ u sc, (s.pc u).scan? = some sc → Chain s1.wr sc.done ∧ Chain s1.wr (sc.passed ++ sc.todo))
    (hoff : ∀ x, (s1.wr x).lnk = true → x ∈ s1.queue ∨ ∃ u sc, (s.pc u).scan? = some sc ∧ x ∈ sc.lists)
    (k6 : Keep6 p (s.pc t)) : Inv6 (setPc s1 t p) := by
  have hpt : (setPc s1 t p).pc t = p := setFn_same _ _ _
  have hoth : ∀ u, u ≠ t → (setPc s1 t p).pc u = s.pc u := setPc_others hpc t p
  have hscan : ∀ u, ((setPc s1 t p).pc u).scan? = (s.pc u).scan? := eq_of_others hoth ((congrArg PC.scan? hpt).trans k6.scan)
  refine ⟨hcq, fun u sc hu => hcs u sc (hscan u ▸ hu), fun x hx => ?_, fun x => ?_, fun u c hu => ?_⟩
  · rcases hoff x hx with a | ⟨u, sc, a, b⟩
    · exact Or.inl a
    · exact Or.inr ⟨u, sc, (hscan u).trans a, b⟩
  · show CondOk s1.cargs (s1.wr x).cond
    rw [hcond, hca]; exact h.cwr x
  · show CondOk s1.cargs c.cond
    rw [hca]
    by_cases e : u = t
    · subst e
      obtain ⟨c0, h0, e0⟩ := k6.mw c (hpt ▸ hu)
      rw [e0]; exact h.cmw u c0 h0
    · exact h.cmw u c (hoth u e ▸ hu)

theorem chain_single {wr : Wid → WRec} {k : Wid} (h : (wr k).lnk = false) : Chain wr [k] := h

theorem Inv6.enq_step {s1 s2 : State} (t : Tid) (k : Wid) (p : PC) (hs2 : s2 = enqLast s1 k ∨ s2 = enqFirst s1 k) (h : Inv6 s1)
    (hnd : ∀ u, (s1.queue ++ (s1.pc u).priv).Nodup) (hk : ¬ Queued s1 k) (k6 : Keep6 p (s1.pc t)) : Inv6 (setPc s2 t p) := by
  have hkq : k ∉ s1.queue := fun e => hk (Or.inl e)
  have hkl : (s1.wr k).lnk = false := by
    cases e : (s1.wr k).lnk with
    | false => rfl
    | true => exact absurd (h.off k e) hk
  have hqnd : s1.queue.Nodup := (List.nodup_append.mp (hnd t)).1
  have key : ∀ (p' n' : Option Wid) (newq : List Wid),
      (Chain (mergeLinks s1 p' n').wr newq) →
      (∀ a, p' = some a → a = k ∨ a ∈ s1.queue) →
      (∀ x, x ∈ newq ↔ x = k ∨ x ∈ s1.queue) →
      Inv6 (setPc { mergeLinks s1 p' n' with queue := newq } t p) := by
    intro p' n' newq hch hp' hmem
    refine h.relink (by simp) (mergeLinks_cargs _ _ _) (cond_of_merge _ _ _) hch (fun u sc hu => ?_) (fun x hx => ?_) k6
    · have hndu := hnd u
      simp only [PC.priv, hu] at hndu
      have hdj := (List.nodup_append.mp hndu).2.2
      have hno : ∀ a, p' = some a → a ∉ sc.lists := by
        intro a ha e
        rcases hp' a ha with rfl | hq
        · exact hk (Or.inr ⟨u, sc, hu, e⟩)
        · exact hdj a hq a e rfl
      refine ⟨chain_mergeLinks_other (fun a ha e => hno a ha (by simp [Scan.lists, e])) (h.cs u sc hu).1,
              chain_mergeLinks_other (fun a ha e => hno a ha ?_) (h.cs u sc hu).2⟩
      simp only [Scan.lists, List.mem_append] at e ⊢
      rcases e with a' | a'
      · exact Or.inl (Or.inr a')
      · exact Or.inr a'
    · by_cases e : p' = some x
      · exact Or.inl ((hmem x).2 (hp' x e))
      · have : ((mergeLinks s1 p' n').wr x).lnk = true := hx
        rw [mergeLinks_wr_other _ _ _ x e] at this
        rcases h.off x this with a | a
        · exact Or.inl ((hmem x).2 (Or.inr a))
        · exact Or.inr a
  rcases hs2 with rfl | rfl <;> refine key _ _ _ ?_ ?_ ?_
  · have := chain_append_merge (s := s1) (l1 := s1.queue) (l2 := [k])
      (List.nodup_append.mpr ⟨hqnd, by simp, by intro a ha b hb e; simp at hb; subst hb; subst e; exact hkq ha⟩)
      h.cq (chain_single hkl) h.ce
    simpa using this
  · intro a ha; exact Or.inr (List.mem_of_getLast? ha)
  · intro x; simp [or_comm]
  · have := chain_append_merge (s := s1) (l1 := [k]) (l2 := s1.queue)
      (List.nodup_append.mpr ⟨by simp, hqnd, by intro a ha b hb e; simp at ha; subst ha; subst e; exact hkq hb⟩)
      (chain_single hkl) h.cq h.ce
    simpa using this
  · intro a ha; cases ha; exact Or.inl rfl
  · intro x; simp

/-- Record `k`, on no list, is queued at the back (`first`) or at the front of mu->waiters by `t`. -/
theorem Inv6.enqueue {s1 : State} (t : Tid) (k : Wid) (p : PC) (first : Prop) [Decidable first] (h : Inv6 s1)
    (hnd : ∀ u, (s1.queue ++ (s1.pc u).priv).Nodup) (hk : ¬ Queued s1 k) (hsc : p.scan? = none) (hst : (s1.pc t).scan? = none)
    (hmw : ∀ c, p.mw = some c → ∃ c0, (s1.pc t).mw = some c0 ∧ c.cond = c0.cond) :
    Inv6 (setPc (if first then enqLast s1 k else enqFirst s1 k) t p) :=
  Inv6.enq_step t k p (by split; exact .inl rfl; exact .inr rfl) h hnd hk ⟨hsc.trans hst.symm, hmw⟩

theorem predNext_append (l1 : List Wid) (k : Wid) (l2 : List Wid) (prev : Option Wid) (hk : k ∉ l1) :
    predNext (l1 ++ k :: l2) k prev = (l1.getLast?.or prev, l2.head?) := by
  induction l1 generalizing prev with
  | nil => simp [predNext]
  | cons x l1 ih =>
    have hx : x ≠ k := fun e => hk (by simp [e])
    have hk' : k ∉ l1 := fun e => hk (List.mem_cons_of_mem _ e)
    simp only [List.cons_append, predNext, hx, if_false]
    rw [ih (some x) hk']
    cases l1 with
    | nil => simp
    | cons y r =>
      have : ((y :: r).getLast?).isSome = true := by simp
      cases hg : (y :: r).getLast? with
      | none => rw [hg] at this; cases this
      | some z => simp [hg]

theorem Inv6.selfRemove {s : State} (t : Tid) (k : Wid) (p : PC) (h : Inv6 s) (h4 : Inv4 s) (hk : k ∈ s.queue)
    (k6 : Keep6 p (s.pc t)) : Inv6 (setPc (dequeue s k) t p) := by
  obtain ⟨l1, l2, hq⟩ := List.append_of_mem hk
  have hqnd : s.queue.Nodup := by
    have := h4.nd t; simp only [allOf, List.append_assoc] at this; exact (List.nodup_append.mp this).1
  have hnd' := hqnd; rw [hq] at hnd'
  have hk1 : k ∉ l1 := fun e => (List.nodup_append.mp hnd').2.2 k e k (by simp) rfl
  have hk2 : k ∉ l2 := (List.nodup_cons.mp (List.nodup_append.mp hnd').2.1).1
  have hpn : predNext s.queue k none = (l1.getLast?, l2.head?) := by
    rw [hq, predNext_append l1 k l2 none hk1]; simp
  have her : s.queue.erase k = l1 ++ l2 := by
    rw [hq, List.erase_append_right _ hk1]; simp
  have hdq : dequeue s k = { removeLinks s l1.getLast? k l2.head? with queue := l1 ++ l2 } := by
    simp only [dequeue, hpn, her]
  rw [hdq]
  obtain ⟨c1, c2⟩ := chain_remove hnd' (by rw [← hq]; exact h.cq) h.ce
  refine h.relink (by simp) (removeLinks_cargs _ _ _ _) (removeLinks_cond _ _ _ _) c1 (fun u sc hu => ?_) (fun x hx => ?_) k6
  · have hkn : k ∉ sc.lists := fun e => h4.not_in_priv hk u (mem_priv_iff.2 ⟨sc, hu, e⟩)
    have hpn' : ∀ a, l1.getLast? = some a → a ∉ sc.lists := by
      intro a ha e
      have : a ∈ s.queue := by rw [hq]; exact List.mem_append_left _ (List.mem_of_getLast? ha)
      exact h4.not_in_priv this u (mem_priv_iff.2 ⟨sc, hu, e⟩)
    refine ⟨chain_removeLinks_other (fun e => hkn (by simp [Scan.lists, e])) (fun a ha e => hpn' a ha (by simp [Scan.lists, e])) (h.cs u sc hu).1,
            chain_removeLinks_other (fun e => hkn ?_) (fun a ha e => hpn' a ha ?_) (h.cs u sc hu).2⟩
    all_goals
      (simp only [Scan.lists, List.mem_append] at e ⊢
       rcases e with a' | a'
       · exact Or.inl (Or.inr a')
       · exact Or.inr a')
  · have hx' : ((removeLinks s l1.getLast? k l2.head?).wr x).lnk = true := hx
    by_cases hxk : x = k
    · subst hxk; rw [c2] at hx'; cases hx'
    · by_cases hxp : l1.getLast? = some x
      · exact Or.inl (List.mem_append_left _ (List.mem_of_getLast? hxp))
      · rw [removeLinks_wr_other _ _ _ _ x hxk hxp] at hx'
        rcases h.off x hx' with a | a
        · left; show x ∈ l1 ++ l2
          rw [hq] at a
          simp only [List.mem_append, List.mem_cons] at a ⊢
          rcases a with a | a | a
          · exact Or.inl a
          · exact absurd a hxk
          · exact Or.inr a
        · exact Or.inr a

end NsyncVerif.MuC
