/-
  Layer `Cv`: the invariant behind C05 (timeouts, cancellation, no second sleep).  It is the repaired
  layer's `CvFix.InvC` at the embedded state (`Proofs/CvUp.lean`): the argument is in
  `Proofs/CvFixInvC.lean`.
-/
import NsyncVerif.Proofs.CvBasic
import NsyncVerif.Proofs.CvUpTr
import NsyncVerif.Proofs.CvFixInvC

namespace NsyncVerif.Cv

/-- Program points inside nsync_sem_wait_with_cancel_. -/
def Loc.inSem : Loc → Bool
  | .wSemEnter | .wSemRet | .cPre | .cWait | .cPost => true
  | _ => false

/-- Per-thread facts about `sem_outcome` / `outcome`. -/
structure TInvC (now : Nat) (x : Thr) : Prop where
  sem0 : x.loc.inSem = true → x.semOut = .ok
  timed : x.semOut = .timedOut → ∃ d, x.dl = some d ∧ d ≤ now
  canc : x.semOut = .cancelled → x.sawNote = true
  out : x.out = .ok ∨ x.out = x.semOut
  semRet : x.loc = .wSemRet → x.semDl = x.dl
  post : x.loc = .cPost → x.cTimed = true → ∃ d, x.semDl = some d ∧ d ≤ now

def InvC (s : State) : Prop := ∀ t, TInvC s.now (s.thr t)

theorem Outcome.up_inj {a b : Outcome} (h : a.up = b.up) : a = b := by cases a <;> cases b <;> first | rfl | cases h
theorem Loc.up_inSem (l : Loc) : l.up.inSem = l.inSem := by cases l <;> rfl

theorem tinvC_up {now : Nat} {x : Thr} (h : CvFix.TInvC now x.up) : TInvC now x :=
  ⟨fun e => Outcome.up_inj (h.sem0 (by rw [Thr.up_loc, Loc.up_inSem]; exact e)),
    fun e => h.timed (congrArg Outcome.up e), fun e => h.canc (congrArg Outcome.up e),
    h.out.imp Outcome.up_inj Outcome.up_inj, fun e => h.semRet (up_loc' e), fun e => h.post (up_loc' e)⟩

/-- What an accepted `ret` of a cv wait says about the returning thread. -/
theorem retWait_accepted {cfg : Config} {s s' : State} {t : Tid} {res : Outcome}
    (hs : step cfg s (.retWait t res) = .ok s') :
    ((s.thr t).loc = .wRet ∨ (s.thr t).loc = .wRelocking) ∧ res = (s.thr t).out := by
  simp only [step] at hs
  obtain ⟨hok, _⟩ := stepRet_ok hs
  simpa using hok

end NsyncVerif.Cv
