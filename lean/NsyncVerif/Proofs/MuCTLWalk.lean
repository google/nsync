import NsyncVerif.Proofs.MuCTLStep
/-
  MuC, the facts about one step (`StepAll`) kind by kind, along `Eff` (Proofs/MuCEff.lean): a step that only moves the
  program point (`PcMove.all`), a successful CAS (`CasOk.all`, `finCas_all`), a return, a call, a semaphore
  operation, a store, the single shapes.  Each takes the rule of the kind apart and checks `TL` on the coordinates the
  rule gives.  A scan step has the facts by `ScanKeep.all` (Proofs/MuCTLStep.lean).
-/
namespace NsyncVerif.MuC

attribute [local simp] relNwWord enqWord mwEnqWord mtAcqWord finWord Word.zero blocked addShare_wOwner subShare_wOwner finPc Ret.pc
  afterFin_eq afterWakes_eq mwLoop_eq

theorem PcMove.all {s : State} {t : Tid} {p p' : PC} (h1 : Inv1 s) (heq : s.pc t = p) (hm : PcMove s p p') :
    StepAll s (setPc s t p') t (p = .idle) := by
  have hok := h1.pcok t
  rw [heq] at hok
  clear h1
  cases hm with
  | ld hl =>
    cases hl
    all_goals dsimp only [PC.ok, MW.inner, MW.ok] at hok
    all_goals tl_setPc heq
  | _ =>
    all_goals dsimp only [PC.ok, MW.inner, MW.ok, Ret.ok] at hok
    all_goals tl_setPc heq


/-- What the leaves know of a state in which `t` is at `p`, outside a call: `p.ok`, nothing held, and the writer bit is
    `t`'s iff `p` says so. -/
theorem Inv1.at {s : State} {t : Tid} {p : PC} (h1 : Inv1 s) (heq : s.pc t = p) (hni : p ≠ .idle) :
    p.ok ∧ s.held t = none ∧ ((s.wOwner = some t) = (pcShare p = some .W)) := by
  subst heq
  exact ⟨h1.pcok t, h1.held_none hni, propext ((h1.lock.wown t).trans (by rw [h1.share_eq hni]))⟩

/-- The writer bit after a step of `t` that ends outside a call and leaves `held` alone. -/
theorem Inv1.own' {s s' : State} {t : Tid} {p' : PC} (h1' : Inv1 s') (hpc : s'.pc = setFn s.pc t p')
    (hh : s'.held = s.held) (hheld : s.held t = none) : (s'.wOwner = some t) = (pcShare p' = some .W) :=
  propext ((h1'.lock.wown t).trans (by simp [shareOf, tshare, hh, hheld, hpc, setFn_same]))

theorem CasOk.all {s s' : State} {t : Tid} {p p' : PC} {nw : Word} {w : Option Wid} (h1 : Inv1 s) (h1' : Inv1 s')
    (heq : s.pc t = p) (hp : CasPc s p p' nw w) (e : CasOk s t p' nw w s') : StepAll s s' t False := by
  have hni : p ≠ .idle := by cases hp <;> exact PC.noConfusion
  obtain ⟨hok, hheld, hown⟩ := h1.at heq hni
  refine StepAll.of_fields heq e.pc (fun u _ => by rw [e.held]) e.word e.wr (by rw [e.held]) e.queue
    (h1'.own' e.pc e.held hheld) e.data (by rw [e.nwViol]; exact id) ?_
  clear e h1 h1' hni
  have hbl := @not_blocked_wlock
  cases hp with
  | ul1 l nw => cases l <;> cases nw <;> (dsimp only [pcShare] at hown; tl_check)
  | unc r => cases r <;> (dsimp only [PC.ok, MW.inner, MW.ok, Ret.ok, pcShare] at hok hown; tl_check)
  | acqMw c old m hm =>
    dsimp only [PC.ok, pcShare] at hok hown
    simp only [SL.okL, hm, MW.ok] at hok
    unfold loopPc; split <;> (try split) <;> tl_check
  | _ => all_goals (dsimp only [PC.ok, MW.inner, MW.ok, Ret.ok, pcShare] at hok hown; tl_check)


theorem finCas_all {s s' : State} {t : Tid} {r : Ret} {f : Fin} {old : Word} (h1 : Inv1 s) (h1' : Inv1 s')
    (heq : s.pc t = .usFinCas r f old) (hw : s.word = old) (e : CasOk s t (finPc r f.wake) (finWord f old) none s') :
    StepAll s s' t False := by
  obtain ⟨hok, hheld, hown⟩ := h1.at heq PC.noConfusion
  refine StepAll.of_fields heq e.pc (fun u _ => by rw [e.held]) e.word e.wr_none (by rw [e.held]) e.queue
    (h1'.own' e.pc e.held hheld) e.data (by rw [e.nwViol]; exact id) ?_
  clear e h1 h1'
  cases hwk : f.wake <;> cases r <;>
    (dsimp only [PC.ok, Ret.ok, MW.inner, MW.ok, pcShare] at hok hown; simp only [finPc, Ret.pc]; tl_check)

theorem RetEff.all {s s' : State} {t : Tid} {p : PC} {m : Option Mode} {w : Option Wid} {snap : Bool} (h1 : Inv1 s)
    (heq : s.pc t = p) (hp : RetPc (s.held t) p m w snap) (e : RetEff s t m w snap s') : StepAll s s' t True := by
  have hok := h1.pcok t
  rw [heq] at hok
  have hheld : p ≠ .idle → s.held t = none := fun hni => h1.held_none (heq ▸ hni)
  refine StepAll.of_fields (p' := .idle) heq e.pc (setFn_others e.held) e.word e.wr
    (show s'.held t = _ by rw [e.held, setFn_same]) e.queue (by rw [e.wOwner]) e.data (by rw [e.nwViol]; exact id) ?_
  clear e h1
  cases hp
  all_goals (have hheld := hheld PC.noConfusion; dsimp only [PC.ok, MW.inner, MW.ok, Ret.ok] at hok)
  all_goals tl_check

theorem CallEff.all {s s' : State} {t : Tid} {p' : PC} {nw : Bool} {ca : Option Cond} (h0 : s.pc t = .idle)
    (hp : CallPc s t p' nw ca) (e : CallEff s t p' nw ca s') : StepAll s s' t True := by
  refine StepAll.of_fields h0 e.pc (setFn_others e.held) e.word e.wr
    (show s'.held t = _ by rw [e.held, setFn_same]) e.queue (by rw [e.wOwner]) e.data (by rw [e.nwViol]; simp +contextual) ?_
  clear e
  cases hp
  all_goals tl_check

theorem SemEff.all {cfg : Cfg} {s s' : State} {t : Tid} {p p' : PC} {k : Wid} {n : Nat} (h1 : Inv1 s) (heq : s.pc t = p)
    (hp : SemPc cfg s p p' k n) (e : SemEff s t p' k n s') : StepAll s s' t False := by
  have hok := h1.pcok t
  rw [heq] at hok
  have hheld : s.held t = none := h1.held_none (by rw [heq]; cases hp <;> exact PC.noConfusion)
  refine StepAll.of_fields heq e.pc (fun u _ => by rw [e.held]) e.word e.wr (by rw [e.held]) e.queue (by rw [e.wOwner])
    e.data (by rw [e.nwViol]; exact id) ?_
  clear e h1
  cases hp with
  | v r k rest => cases rest <;> cases r <;> (dsimp only [PC.ok, MW.inner, MW.ok, Ret.ok] at hok; simp only [finPc, Ret.pc]; tl_check)
  | _ => all_goals (dsimp only [PC.ok, MW.inner, MW.ok, Ret.ok] at hok; tl_check)

theorem StEff.all {s s' : State} {t : Tid} (h1 : Inv1 s) (e : StEff s t s') : StepAll s s' t False := by
  cases e
  all_goals
    have heq := ‹s.pc t = _›
    have hok := h1.pcok t
    rw [heq] at hok
    dsimp only [PC.ok, MW.inner, MW.ok, Ret.ok] at hok
    have hheld : s.held t = none := h1.held_none (by rw [heq]; exact PC.noConfusion)
    clear h1
    tl_coord heq

/-- The kinds that are one shape each: the two loads that write (`mwRcLd`, `mtLdRc`), the enqueue CAS of nsync_mu_wait,
    the remove_count CAS of the timeout path, the evaluation of the caller's own condition. -/
theorem ldRc_all {s : State} {t : Tid} (h1 : Inv1 s) (c : MW) (k : Wid) (obs : Nat) (heq : s.pc t = .mwRcLd c) :
    StepAll s { setPc s t (.mwEnqLd { c with rcl := obs }) with wr := setFn s.wr k { s.wr k with rc := obs } } t False := by
  have hok := h1.pcok t
  rw [heq] at hok
  dsimp only [PC.ok, MW.inner, MW.ok] at hok
  clear h1
  tl_coord heq

theorem ldDeq_all {s : State} {t : Tid} (h1 : Inv1 s) (c : MW) (old : Word) (k : Wid) (heq : s.pc t = .mtLdRc c old) :
    StepAll s (setPc (dequeue s k) t (.mtRmLd c old)) t False := by
  have hok := h1.pcok t
  rw [heq] at hok
  dsimp only [PC.ok, MW.inner, MW.ok] at hok
  clear h1
  tl_coord heq

theorem mwEnq_all {s : State} {t : Tid} (h1 : Inv1 s) (c : MW) (old : Word) (k : Wid)
    (heq : s.pc t = .mwEnqCas c old) (hw : s.word = old) :
    StepAll s (setPc (if c.first then enqLast { s with word := mwEnqWord c.cond.isSome old, sp := some t } k
                else enqFirst { s with word := mwEnqWord c.cond.isSome old, sp := some t } k) t
          (.mwRelLd { c with hadW := old.waiting, first := false })) t False := by
  obtain ⟨hok, hheld, hown⟩ := h1.at heq PC.noConfusion
  dsimp only [PC.ok, MW.inner, MW.ok, pcShare] at hok hown
  clear h1
  split <;> tl_coord heq

theorem mtRm_all {s : State} {t : Tid} (h1 : Inv1 s) (c : MW) (old : Word) (rc : Nat) (k : Wid)
    (heq : s.pc t = .mtRmCas c old rc) :
    StepAll s { setPc s t (.mtStW c old) with wr := setFn s.wr k { s.wr k with rc := (rc + 1) % 4294967296 } } t False := by
  obtain ⟨hok, hheld, hown⟩ := h1.at heq PC.noConfusion
  dsimp only [PC.ok, MW.inner, MW.ok, pcShare] at hok hown
  clear h1
  tl_coord heq

theorem eval_all {s : State} {t : Tid} (h1 : Inv1 s) (c : MW) (b : Bool) (heq : s.pc t = .mwEval c) :
    StepAll s (setPc s t (loopPc c b)) t False := by
  have hok := h1.pcok t
  rw [heq] at hok
  dsimp only [PC.ok, MW.inner, MW.ok] at hok
  clear h1
  unfold loopPc
  split <;> tl_setPc heq

theorem ScanStart.all {s s' : State} {t : Tid} {r : Ret} (h1 : Inv1 s) (h : ScanStart s t r s') :
    StepAll s s' t False :=
  have ⟨_, k⟩ := h.keep (h1.pcok t)
  k.all

end NsyncVerif.MuC
