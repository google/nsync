import NsyncVerif.Proofs.MuX
/-
  Happens-before over the MuX protocol: the release clock of the mutex word always dominates the
  clocks of all past release points, and a writer-bit owner's clock dominates them too (which is what
  makes the plain release-stores of mu_wait.c sound for the release sequence).
-/
namespace NsyncVerif.MuX

theorem VC.le_refl (a : VC) : VC.le a a := fun _ => Nat.le_refl _
theorem VC.le_trans {a b c : VC} (h1 : VC.le a b) (h2 : VC.le b c) : VC.le a c := fun i => Nat.le_trans (h1 i) (h2 i)
theorem VC.le_join_left (a b : VC) : VC.le a (VC.join a b) := fun _ => Nat.le_max_left _ _
theorem VC.le_join_right (a b : VC) : VC.le b (VC.join a b) := fun _ => Nat.le_max_right _ _
theorem VC.join_le {a b c : VC} (h1 : VC.le a c) (h2 : VC.le b c) : VC.le (VC.join a b) c :=
  fun i => Nat.max_le.mpr ⟨h1 i, h2 i⟩
theorem VC.bot_le (a : VC) : VC.le VC.bot a := fun _ => Nat.zero_le _

/-! ### What `clocks` computes -/
section clocks
variable {s : State} {t : Tid} {ord : Ord} {rmw rp : Bool}

/-- The writer's clock as its write sees it: an acquire RMW first imports the word's release clock. -/
def seen (s : State) (t : Tid) (ord : Ord) (rmw : Bool) : VC := if ord.isAcq && rmw then VC.join (s.vc t) s.relc else s.vc t

theorem le_seen : VC.le (s.vc t) (seen s t ord rmw) := by
  unfold seen; cases ord.isAcq && rmw
  · exact VC.le_refl _
  · exact VC.le_join_left _ _

theorem relc_le_seen (ha : ord.isAcq = true) : VC.le s.relc (seen s t ord true) := by
  unfold seen; rw [ha]; exact VC.le_join_right _ _

theorem seen_store : seen s t ord false = s.vc t := by
  unfold seen; rw [Bool.and_false]; rfl

/-- The writer's new clock is the one its write saw, ticked. -/
theorem seen_le_clocks : VC.le (seen s t ord rmw) ((clocks s t ord rmw rp).1 t) := by
  show VC.le _ (setFn s.vc t _ t)
  rw [setFn_same]
  intro i
  show _ ≤ if i = t then _ else _
  by_cases h : i = t
  · rw [if_pos h]; exact Nat.le_succ _
  · rw [if_neg h]; exact Nat.le_refl _

theorem clocks_vc_other {u : Tid} (h : u ≠ t) : (clocks s t ord rmw rp).1 u = s.vc u :=
  setFn_other _ _ h

theorem clocks_vc_mono (u : Tid) : VC.le (s.vc u) ((clocks s t ord rmw rp).1 u) := by
  by_cases h : u = t
  · subst h; exact VC.le_trans le_seen seen_le_clocks
  · rw [clocks_vc_other h]; exact VC.le_refl _

theorem clocks_relc : (clocks s t ord rmw rp).2.1 =
    if rmw then (if ord.isRel then VC.join s.relc (seen s t ord rmw) else s.relc)
    else (if ord.isRel then seen s t ord rmw else VC.bot) := rfl

theorem clocks_released :
    (clocks s t ord rmw rp).2.2 = if rp then VC.join s.released (seen s t ord rmw) else s.released := rfl

theorem clocks_released_mono : VC.le s.released (clocks s t ord rmw rp).2.2 := by
  rw [clocks_released]; cases rp
  · exact VC.le_refl _
  · exact VC.le_join_left _ _

/-- The release clock keeps covering `released`: a release point is a release write, which joins what
    it adds to `released` into the release clock as well; a plain store replaces the release clock by
    the storer's clock, which must therefore cover `released` already. -/
theorem clocks_released_le_relc (h1 : VC.le s.released s.relc) (hrel : rp = true → ord.isRel = true)
    (hst : rmw = false → VC.le s.released (s.vc t) ∧ ord.isRel = true) :
    VC.le (clocks s t ord rmw rp).2.2 (clocks s t ord rmw rp).2.1 := by
  rw [clocks_released, clocks_relc]
  cases rmw with
  | false =>
    obtain ⟨h3, hr⟩ := hst rfl
    rw [hr, seen_store]
    cases rp
    · exact h3
    · exact VC.join_le h3 (VC.le_refl _)
  | true =>
    cases rp with
    | false =>
      cases ord.isRel
      · exact h1
      · exact VC.le_trans h1 (VC.le_join_left _ _)
    | true =>
      rw [hrel rfl]
      exact VC.join_le (VC.le_trans h1 (VC.le_join_left _ _)) (VC.le_join_right _ _)

end clocks

structure VInv (s : State) : Prop where
  v1 : VC.le s.released s.relc
  v3 : ∀ t, s.w = some t → VC.le s.released (s.vc t)

theorem vinv_init : VInv init := ⟨VC.le_refl _, nofun⟩

theorem needsRel_of_releasePoint {d : LockDelta} (sd : SpinDelta) (h : isReleasePoint d = true) :
    needsRel d sd = true := by
  cases d <;> first | rfl | cases h

/-- `released` only grows. -/
theorem applyWrite_released_mono {s s' : State} {t : Tid} {new : Nat} {ord : Ord} {rmw : Bool}
    (h : applyWrite s t new ord rmw = .ok s') : VC.le s.released s'.released := by
  obtain ⟨d, _, _, -, -, -, -, _, -, rfl⟩ := applyWrite_ok h
  exact clocks_released_mono

/-- An acquire RMW on the word brings everything that happened before any earlier release point into
    the writer's clock. -/
theorem applyWrite_acquire {s s' : State} {t : Tid} {new : Nat} {ord : Ord} (hv : VInv s)
    (h : applyWrite s t new ord true = .ok s') (ha : ord.isAcq = true) : VC.le s.released (s'.vc t) := by
  obtain ⟨d, _, _, -, -, -, -, _, -, rfl⟩ := applyWrite_ok h
  exact VC.le_trans hv.v1 (VC.le_trans (relc_le_seen ha) (seen_le_clocks (rp := isReleasePoint d)))

/-- A write after which its thread owns a share it did not own before has added the thread as writer
    or reader, so the acceptor has checked that it declares acquire order. -/
theorem acquire_of_gain {s s' : State} {t : Tid} {new : Nat} {ord : Ord} {rmw : Bool} (hi : Inv s)
    (h : applyWrite s t new ord rmw = .ok s') (hgain : shareOf s t = .none)
    (hown : shareOf s' t ≠ .none) : ord.isAcq = true := by
  obtain ⟨d, w', rs', hd, hp, hacq, -, sp', -, rfl⟩ := applyWrite_ok h
  have hno := shareOf_none hgain
  have hp' := lockPart_ok hi hd hp
  cases d <;> simp only at hp'
  case same => obtain ⟨rfl, rfl⟩ := hp'; exact absurd hgain hown
  case addW => exact hacq rfl
  case addR => exact hacq rfl
  case subW => exact absurd hp'.2.2.1 hno.1
  case subR => exact absurd hp'.2.2.2.1 hno.2
  case r2w => exact absurd (hp'.2.2.2.1 ▸ List.mem_singleton_self t) hno.2
  case w2r => exact absurd hp'.2.2.1 hno.1

theorem applyWrite_vinv {s s' : State} {t : Tid} {new : Nat} {ord : Ord} {rmw : Bool} (hi : Inv s) (hv : VInv s)
    (hst : rmw = false → s.w = some t ∧ ord.isRel = true)
    (h : applyWrite s t new ord rmw = .ok s') : VInv s' := by
  have hacquire := fun hr : rmw = true => applyWrite_acquire hv (hr ▸ h)
  obtain ⟨d, w', rs', hd, hp, hacq, hrel, sp', -, rfl⟩ := applyWrite_ok h
  refine ⟨clocks_released_le_relc hv.v1 (fun hrp => hrel (needsRel_of_releasePoint _ hrp))
    (fun hr => ⟨hv.v3 t (hst hr).1, (hst hr).2⟩), ?_⟩
  intro u hu
  -- whoever owns the writer bit after the write owned it before, or is the writer and has just taken
  -- it: by an acquire RMW, since a store needs the writer bit beforehand
  have taken : s.w = none → needsAcq d (spinDelta (decode s.word) (decode new)) = true →
      VC.le s.released ((clocks s t ord rmw (isReleasePoint d)).1 t) := by
    intro hw hn
    cases rmw with
    | false => exact nomatch hw ▸ (hst rfl).1
    | true => exact hacquire rfl (hacq hn)
  have hp' := lockPart_ok hi hd hp
  cases d <;> simp only at hp'
  case same => obtain ⟨rfl, -⟩ := hp'; exact VC.le_trans (hv.v3 u hu) (clocks_vc_mono (rp := false) u)
  case addW => obtain ⟨rfl, -, hw, -⟩ := hp'; cases hu; exact taken hw rfl
  case addR => obtain ⟨rfl, -, hw, -⟩ := hp'; exact nomatch hw ▸ hu
  case subW => obtain ⟨rfl, -⟩ := hp'; exact nomatch hu
  case subR => obtain ⟨rfl, -, hw, -⟩ := hp'; exact nomatch hw ▸ hu
  case r2w => obtain ⟨rfl, -, hw, -⟩ := hp'; cases hu; exact taken hw rfl
  case w2r => obtain ⟨rfl, -⟩ := hp'; exact nomatch hu

theorem step_vinv {s s' : State} {e : Ev} (hi : Inv s) (hv : VInv s) (h : step s e = .ok s') : VInv s' := by
  rcases step_ok h with ⟨_, _, _, hw, hst, -⟩ | ⟨_, _, _, -, -, rfl⟩
  · exact applyWrite_vinv hi hv hst hw
  · exact ⟨hv.v1, hv.v3⟩

theorem reachable_vinv {s : State} (h : Reachable s) : VInv s :=
  h.elim fun _ he => (isRun.induct (Q := fun s => Inv s ∧ VInv s) ⟨inv_init, vinv_init⟩
    (fun _ _ _ _ hp hs => ⟨step_inv hp.1 hs, step_vinv hp.1 hp.2 hs⟩) he).2

end NsyncVerif.MuX
