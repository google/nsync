import NsyncVerif.Proofs.MuQSolo
/-
  MuQ: what a step of one thread leaves alone (the client ghost `held` of the others, the
  semaphores of the others) and which program points of an acquiring thread are "not fresh".
-/
namespace NsyncVerif.MuQ

/-- Inside a releasing call nothing changes `held`. -/
theorem rel_step_held {cfg : Cfg} {s s' : State} {e : Event} {t : Tid}
    (hpc : relPc (s.pc t) = true) (he : e.tid = some t)
    (h : step cfg s e = .ok s') : s'.held = s.held := by
  have ht := tstep_of_step h he
  generalize s.pc t = p at ht hpc
  cases ht <;> cases hpc <;>
    simp only [grabbed, semPost_held, setPc, subShare_held, scanAdvance_held, afterFin_held]

/-- Bool version of `AsleepOnSem`. -/
def asleepB (s : State) (t : Tid) : Bool :=
  match s.pc t with
  | .lsPRet c =>
    match c.w with
    | some k => (s.wr k).sem == 0
    | none => false
  | _ => false

theorem asleepB_iff (s : State) (t : Tid) : asleepB s t = true ↔ AsleepOnSem s t := by
  constructor
  · intro h
    simp only [asleepB] at h
    split at h <;> try (cases h; done)
    rename_i c hp
    split at h <;> try (cases h; done)
    rename_i k hw
    exact ⟨c, k, hp, hw, by simpa using h⟩
  · rintro ⟨c, k, hp, hw, hs⟩
    simp [asleepB, hp, hw, hs]

/-- Program points of an acquiring thread that is NOT a fresh contender: it owns the spinlock
    (enqueue store, mu_release_spinlock), is in its wait loop, has been woken (`clear` set), or is
    at a return point. -/
def wokenPc : PC → Bool
  | .lsLd c | .lsCasAcq c _ | .lsCasEnq c _ => c.clear
  | .lsSt _ | .lsRelLd _ | .lsRelCas _ _ | .lsWaitLd _ | .lsPEnter _ | .lsPRet _ => true
  | .lkRet _ | .tryRet _ _ => true
  | _ => false

theorem wokenPc_acq {p : PC} (h : wokenPc p = true) : acqPc p = true := by
  cases p <;> simp [wokenPc] at h <;> rfl

theorem wokenPc_not_fresh {p : PC} (h : wokenPc p = true) : ¬ freshPc p := by
  cases p <;> simp [wokenPc] at h <;> simp [freshPc, h]

/-- A thread that is not a fresh contender stays so until it returns. -/
theorem woken_step {cfg : Cfg} {s s' : State} {e : Event} {t : Tid}
    (hpc : wokenPc (s.pc t) = true) (he : e.tid = some t)
    (h : step cfg s e = .ok s') : wokenPc (s'.pc t) = true ∨ s'.pc t = .idle := by
  have ht := tstep_of_step h he
  generalize s.pc t = p at ht hpc
  cases ht <;> first
    | (cases hpc; done)
    | simp [setPc, wokenPc, SL.woken] <;> exact hpc

/-- A step of an acquiring thread changes no semaphore count, except `P` returning on the
    thread's own record. -/
theorem acq_step_sem {cfg : Cfg} {s s' : State} {e : Event} {t : Tid}
    (hpc : acqPc (s.pc t) = true) (he : e.tid = some t)
    (h : step cfg s e = .ok s') (k : Wid) :
    (s'.wr k).sem = (s.wr k).sem ∨ ∃ c, s.pc t = .lsPRet c ∧ c.w = some k := by
  have ht := tstep_of_step h he
  generalize hp : s.pc t = p at ht hpc
  cases ht <;> try (cases hpc; done)
  case pRet c k' hw _ =>
    by_cases hk : k = k'
    · exact Or.inr ⟨c, rfl, hk ▸ hw⟩
    · exact Or.inl (by simp [setFn, hk])
  case lsStAdopt c k' _ _ _ _ => left; simp only [setFn]; split <;> simp_all
  case lsStRequeue c k' _ _ => left; simp only [setFn]; split <;> simp_all
  all_goals exact Or.inl (by simp [setPc, dropW_sem])

/-- A step of an acquiring thread does not change who else is asleep. -/
theorem acq_step_asleep_other {cfg : Cfg} {s s' : State} {e : Event} {t u : Tid}
    (hr : Reachable cfg s) (hpc : acqPc (s.pc t) = true) (he : e.tid = some t)
    (h : step cfg s e = .ok s') (hu : u ≠ t) : asleepB s' u = asleepB s u := by
  have hpcu : s'.pc u = s.pc u := step_pc_other h (by rw [he]; intro e'; exact hu (Option.some.inj e').symm)
  simp only [asleepB, hpcu]
  split <;> try rfl
  rename_i c hp
  split <;> try rfl
  rename_i k hw
  rcases acq_step_sem hpc he h k with h1 | ⟨c', hp', hw'⟩
  · rw [h1]
  · exfalso
    have inv := reachable_inv hr
    have o1 := (inv.queue.own k t).2 ⟨c', .loopP, by simp [abs, hp', role], hw'⟩
    have o2 := (inv.queue.own k u).2 ⟨c, .loopP, by simp [abs, hp, role], hw⟩
    rw [o1] at o2
    exact hu (Option.some.inj o2).symm

end NsyncVerif.MuQ
