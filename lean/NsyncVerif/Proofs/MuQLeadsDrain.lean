import NsyncVerif.Proofs.MuQLeads
/-
  MuQ (C02): every reachable state can be completed.

  `drain`: from every reachable state there is a finite schedule without any new acquisition call
  (every `call` in it is the unlock / runlock of a holder), without environment events, at the end
  of which EVERY thread is idle holding nothing: every pending lock / rlock / trylock / rtrylock /
  unlock / runlock has returned, every sleeper has been woken, acquired and released.  Here fresh
  contenders move too (unlike in `leads_to_wake`).
-/
namespace NsyncVerif.MuQ

/-- The step is taken by a thread that is not idle-holding-nothing: no new acquisition, no
    environment event. -/
def NoNewCall (s : State) (e : Event) : Prop := ∃ u, e.tid = some u ∧ ¬ IdleHoldingNothing s u

theorem RunP.mono {cfg : Cfg} {P Q : State → Event → Prop} {s s' : State} {evs : List Event}
    (h : RunP cfg P s evs s') (hpq : ∀ s e, P s e → Q s e) : RunP cfg Q s evs s' := by
  induction h with
  | nil s => exact .nil s
  | cons hp hs _ ih => exact .cons (hpq _ _ hp) hs ih

theorem quiet_noNewCall (s : State) (e : Event) (h : QuietStep s e) : NoNewCall s e := by
  obtain ⟨u, h1, _, h3⟩ := h; exact ⟨u, h1, h3⟩

/-- Any acquiring thread (fresh or not), with the spinlock free or its own, can be run alone until
    it has returned or is asleep. -/
theorem solo_acq_exists_any {cfg : Cfg} {s : State} {u : Tid} (hr : Reachable cfg s)
    (hpc : acqPc (s.pc u) = true) (hsp : s.sp = none ∨ s.sp = some u) :
    ∃ evs s', RunP cfg NoNewCall s evs s' ∧ (s'.pc u = .idle ∨ AsleepOnSem s' u) ∧ FrameA u s s' :=
  solo_acq_exists_of (fun _ h => h) (fun _ _ _ _ _ _ h => .inl h)
    (fun _ _ _ hne he => ⟨u, he, fun h => hne h.1⟩) hr hpc hsp

/-- A thread the draining schedule can run next. -/
def MoverAny (s : State) (u : Tid) : Prop :=
  ¬ AsleepOnSem s u ∧ (s.sp = none ∨ s.sp = some u) ∧
    ((acqPc (s.pc u) = true ∧ retPc (s.pc u) = false) ∨ HolderLike s u)

theorem classify {s : State} {t : Tid} (h : ¬ IdleHoldingNothing s t) :
    (acqPc (s.pc t) = true ∧ retPc (s.pc t) = false) ∨ HolderLike s t := by
  cases hp : s.pc t
  case idle =>
    right; left
    exact ⟨hp, fun hn => h ⟨hp, hn⟩⟩
  all_goals first
    | (left; exact ⟨rfl, rfl⟩)
    | (right; right; left; simp [hp, retPc]; done)
    | (right; right; right; simp [hp, relPc]; done)

theorem exists_moverAny {cfg : Cfg} {s : State} (hr : Reachable cfg s) {t : Tid}
    (hnd : ¬ IdleHoldingNothing s t) (hna : ¬ AsleepOnSem s t) : ∃ u, MoverAny s u := by
  have inv := reachable_inv hr
  cases hsp : s.sp with
  | none => exact ⟨t, hna, Or.inl hsp, classify hnd⟩
  | some v =>
    have hv : (role (s.pc v)).spin = true := (inv.spin.own v).1 hsp
    have hnd' : ¬ IdleHoldingNothing s v := by
      rintro ⟨h1, _⟩; rw [h1] at hv; cases hv
    have hna' : ¬ AsleepOnSem s v := by
      rintro ⟨c, k, hp, _⟩; rw [hp] at hv; cases hv
    exact ⟨v, hna', Or.inr hsp, classify hnd'⟩

theorem stage_of_acq {s : State} {t : Tid} (h1 : acqPc (s.pc t) = true) (h2 : retPc (s.pc t) = false) :
    stage s t = 3 := by
  cases hp : s.pc t <;> simp [hp, acqPc, retPc] at h1 h2 <;> simp [stage, hp]

theorem roundAny {cfg : Cfg} {s : State} {L : List Tid} {u : Tid} (hr : Reachable cfg s) (hc : Cover L s)
    (hm : MoverAny s u) :
    ∃ evs s', RunP cfg NoNewCall s evs s' ∧ Cover L s' ∧
      (sumOver (stage s') L < sumOver (stage s) L ∨
        (sumOver (stage s') L ≤ sumOver (stage s) L ∧ sumOver (awake3 s') L < sumOver (awake3 s) L)) := by
  obtain ⟨hna, hsp, hcls⟩ := hm
  rcases hcls with ⟨hacq, hnret⟩ | hl
  · have huL : u ∈ L := by
      apply Classical.byContradiction; intro hn
      have := (hc u hn).1; rw [this] at hacq; cases hacq
    obtain ⟨evs, s', hrun, htgt, hf⟩ := solo_acq_exists_any hr hacq hsp
    exact ⟨evs, s', hrun, cover_frame hc hf.1 huL, measure_acq (stage_of_acq hacq hnret) hna huL hf htgt⟩
  · have huL := holderLike_mem hc hl
    obtain ⟨evs, s', hrun, hid, hh, hf⟩ := holder_release_exists hr hl hsp
    exact ⟨evs, s', hrun.mono quiet_noNewCall, cover_frame hc hf huL,
      .inl (measure_rel (stage_of_holderLike hl) huL hf hid hh)⟩

/-- Every reachable state can be completed. -/
theorem drain {cfg : Cfg} {s : State} (hr : Reachable cfg s) :
    ∃ evs s', RunP cfg NoNewCall s evs s' ∧ ∀ t, IdleHoldingNothing s' t := by
  obtain ⟨L, hL⟩ := reachable_cover hr
  obtain ⟨evs, s', hrun, hall, _⟩ := runP_wf (cfg := cfg) (P := NoNewCall) (fun s => Reachable cfg s ∧ Cover L s)
    (fun s => ∀ t, IdleHoldingNothing s t ∨ AsleepOnSem s t) (fun _ _ => True)
    (fun s => sumOver (stage s) L * (L.length + 1) + sumOver (awake3 s) L)
    (fun _ => trivial) (fun _ _ _ _ _ => trivial) (fun s ⟨hr, hc⟩ hall => by
      have ⟨t, ht⟩ := Classical.not_forall.1 hall
      obtain ⟨u, hm⟩ := exists_moverAny hr (fun h => ht (Or.inl h)) (fun h => ht (Or.inr h))
      obtain ⟨evs, s', hrun, hc', hdec⟩ := roundAny hr hc hm
      exact ⟨evs, s', hrun, trivial, .inr ⟨⟨hrun.reachable hr, hc'⟩, measure_lt hdec⟩⟩) _ s (Nat.lt_succ_self _) ⟨hr, hL⟩
  exact ⟨evs, s', hrun, no_stuck_state (hrun.reachable hr) hall⟩

end NsyncVerif.MuQ
