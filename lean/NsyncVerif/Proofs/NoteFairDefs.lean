/-
  Layer `Note`, fair termination (C09 "no such call deadlocks", liveness form; C08 "every thread
  waiting on them is released", liveness form): infinite executions of the Note acceptor, the
  fairness notions, the hypotheses, the statement `C09_fair_termination_full` (proved:
  `C09_fair_termination`, Props/C09Fair.lean) and the statements of its special cases
  (`C09_fair_termination_partial_statement`, `C09_fair_termination_flag_full`,
  `C09_fair_termination_leaf_full`), and
  generic facts about `Exec` (every state is reachable, a property kept by every step holds from
  then on, a pc changes only when its thread moves, the use of weak fairness `fair_move`).

  The choice of the enabledness notion is justified in the header of `Props/C09Fair.lean`.
-/
import NsyncVerif.Props.C09
import NsyncVerif.Props.C08Release
import NsyncVerif.Proofs.Sched


namespace Note

/-- An infinite execution from `s0`; `σ i = none` means that nobody moves at time `i`. -/
structure Exec (s0 : State) where
  ρ : Nat → State
  σ : Nat → Option Event
  start : ρ 0 = s0
  next : ∀ i, match σ i with
    | none => ρ (i + 1) = ρ i
    | some e => step (ρ i) e = .ok (ρ (i + 1))

/-- Thread `t` takes a step at time `j`. -/
def Moves {s0 : State} (x : Exec s0) (t : Tid) (j : Nat) : Prop :=
  ∃ e, x.σ j = some e ∧ e.actor = some t

/-- The mutex a thread is acquiring with a plain `nsync_mu_lock` (`nret nsync_mu_lock` is next). -/
def PC.lockWait : PC → Option NoteId
  | .chd (.waitRet false) _ _ => none
  | .fr (.waitRet false) _ _ _ _ => none
  | pc => pc.wants

/-- The note whose WAIT_FOR_NO_CHILDREN the thread is in with the mutex released
    (`nret nsync_mu_wait` is next, and needs the mutex and the condition). -/
def PC.condWait : PC → Option NoteId
  | .chd (.waitRet false) (f :: _) _ => some f.note
  | .fr (.waitRet false) n _ _ _ => some n
  | _ => none

/-- A sleeper on the semaphore of its waiter record can return: the record has been posted
    (the V of the wake loop of `note_notify_child` was performed — "count non-zero"), or the
    deadline of the sleep has passed. -/
def SemReady (s : State) (t : Tid) : Prop :=
  match s.pc t with
  | .wt (.pdRet d) _ _ r => (s.recs r).posted ≠ 0 ∨ d.leNow s.now = true
  | _ => True

/-- `t` is inside a call and is not blocked: the note mutex it waits for (if any) is free, it is not
    inside a WAIT_FOR_NO_CHILDREN whose condition is false, and it is not asleep on a semaphore
    with count 0 before the deadline of the sleep. -/
def Ready (s : State) (t : Tid) : Prop :=
  s.pc t ≠ .idle ∧ (∀ m, (s.pc t).wants = some m → (s.notes m).lockHolder = none) ∧
    ¬ WaitBlocked s t ∧ SemReady s t

/-- Weak fairness on each thread's next step: a thread that from time `i` on is continuously
    `Ready` moves at some time `j ≥ i`.  For a thread waiting for a note mutex this is the weak
    form "moves if the mutex is continuously free"; while it is held nothing is required. -/
def WeakFair {s0 : State} (x : Exec s0) : Prop :=
  ∀ t i, (∀ j, i ≤ j → Ready (x.ρ j) t) → ∃ j, i ≤ j ∧ Moves x t j

/-- Starvation freedom of the abstract note mutexes (liveness half of assumption A1): a thread
    that waits inside `nsync_mu_lock` for the mutex of `m` for ever while it is free again and
    again acquires it (strong fairness of the acquisition). -/
def LockFair {s0 : State} (x : Exec s0) : Prop :=
  ∀ t m i, (∀ j, i ≤ j → ((x.ρ j).pc t).lockWait = some m) →
    (∀ j, i ≤ j → ∃ j', j ≤ j' ∧ ((x.ρ j').notes m).lockHolder = none) → ∃ j, i ≤ j ∧ Moves x t j

/-- The same for the re-acquisition at the end of WAIT_FOR_NO_CHILDREN (liveness half of
    assumption A2, `nsync_mu_wait`): a thread that stays inside the wait for ever while, again
    and again, the mutex is free and the condition `no_children_or_adopted` holds, returns. -/
def WaitFair {s0 : State} (x : Exec s0) : Prop :=
  ∀ t m i, (∀ j, i ≤ j → ((x.ρ j).pc t).condWait = some m) →
    (∀ j, i ≤ j → ∃ j', j ≤ j' ∧ ((x.ρ j').notes m).lockHolder = none ∧
      ((x.ρ j').notes m).waitDone = true) → ∃ j, i ≤ j ∧ Moves x t j

/-- Only finitely many API calls arrive. -/
def FiniteArrivals {s0 : State} (x : Exec s0) : Prop :=
  ∃ n, ∀ j t a, n ≤ j → x.σ j ≠ some (.call t a)

/-- The clock passes every value. -/
def ClockAdvances {s0 : State} (x : Exec s0) : Prop :=
  ∀ v i, ∃ j, i ≤ j ∧ v ≤ (x.ρ j).now

/-- The semaphore of a waiter record returns 0 (not ETIMEDOUT) only if it was posted (the
    liveness theorems with deadlines need it: the acceptor, assumption A3, accepts `pd_ret 0` at
    any time). -/
def SemSound {s0 : State} (x : Exec s0) : Prop :=
  ∀ j t sem d n wdl r, x.σ j = some (.pdRet t sem false) → (x.ρ j).pc t = .wt (.pdRet d) n wdl r →
    ((x.ρ j).recs r).posted ≠ 0

def DK.waitDl : DK → Option Dl
  | .ready1 wdl | .ready2 _ wdl | .dequeue _ wdl => some wdl
  | _ => none

def NK.waitDl : NK → Option Dl
  | .ofDeadline k => k.waitDl
  | .ofApi => none

/-- The call in progress is `nsync_note_wait (n, wdl)`. -/
def PC.waitOn : PC → Option (NoteId × Dl)
  | .wt0 _ n wdl | .wt _ n wdl _ => some (n, wdl)
  | .dl _ n _ k => k.waitDl.map (fun d => (n, d))
  | .nfy _ n _ k => k.waitDl.map (fun d => (n, d))
  | .chd _ _ top => top.k.waitDl.map (fun d => (top.n, d))
  | _ => none

/-- The thread is working on a child of the note it notifies / frees: inside the loop over a
    non-empty children list, inside a recursive activation of `note_notify_child`, or inside a
    WAIT_FOR_NO_CHILDREN that released the mutex (the list was not empty). -/
def PC.inChildLoop : PC → Bool
  | .chd pos stk _ =>
    (match pos with
     | .lockChild _ | .lockChildRet _ | .unlockChild _ | .unlockChildRet _ | .waitRet false => true
     | _ => false) || decide (2 ≤ stk.length)
  | .fr pos _ _ _ _ =>
    (match pos with
     | .lockChild | .lockChildRet | .unlockChild | .unlockChildRet | .waitRet false => true
     | _ => false)
  | _ => false

/-- No call ever works on a child: every `nsync_note_notify` (also the implicit one of an expired
    note) and every `nsync_note_free` finds the children list of its note empty — they are calls
    on LEAF notes.  (`nsync_note_new` may link children; they are leaves themselves.) -/
def LeafCalls {s0 : State} (x : Exec s0) : Prop :=
  ∀ j t, ((x.ρ j).pc t).inChildLoop = false

/-- What makes a `nsync_note_wait` in progress at time `i` return: the note is notified at some
    time, or the clock advances past a finite deadline (of the wait or of the note) and the
    semaphore does not wake the sleeper spuriously for ever. -/
def WaitEnds {s0 : State} (x : Exec s0) (t : Tid) (i : Nat) : Prop :=
  ∀ n wdl, ((x.ρ i).pc t).waitOn = some (n, wdl) →
    (∃ j, (x.ρ j).Notified n) ∨
    (ClockAdvances x ∧ SemSound x ∧ (wdl ≠ none ∨ ((x.ρ i).notes n).expiry ≠ none))

/-- The same, the flag of the note only (the case proved for leaf calls). -/
def WaitEndsFlag {s0 : State} (x : Exec s0) (t : Tid) (i : Nat) : Prop :=
  ∀ n wdl, ((x.ρ i).pc t).waitOn = some (n, wdl) → ∃ j, ((x.ρ j).notes n).notified = true

/-- FULL statement (proved: `C09_fair_termination`, Props/C09Fair.lean): in every weakly fair execution
    from a reachable state with starvation-free note mutexes and finitely many arrivals, every call
    of nsync_note_new / _notify / _is_notified / _expiry / _free returns, and so does every
    nsync_note_wait whose note is notified at some time or whose deadline the clock passes. -/
def C09_fair_termination_full : Prop :=
  ∀ (s0 : State) (x : Exec s0), Reachable s0 →
    WeakFair x → LockFair x → WaitFair x → FiniteArrivals x →
    ∀ t i, (x.ρ i).pc t ≠ .idle → WaitEnds x t i → ∃ j, i ≤ j ∧ (x.ρ j).pc t = .idle

/-- The special case for leaf calls (`C09_fair_termination_leaf`, Props/C09Fair.lean): under the
    additional hypothesis `LeafCalls` (no call works on a child note; it makes `WaitFair` hold),
    for a `nsync_note_wait` when the FLAG of its note is set at some time. -/
def C09_fair_termination_leaf_full : Prop :=
  ∀ (s0 : State) (x : Exec s0), Reachable s0 →
    WeakFair x → LockFair x → FiniteArrivals x → LeafCalls x →
    ∀ t i, (x.ρ i).pc t ≠ .idle → WaitEndsFlag x t i → ∃ j, i ≤ j ∧ (x.ρ j).pc t = .idle

/-- Two of the cases of `WaitEnds`: the FLAG of the note is set at some time, or the clock
    passes the finite deadline OF THE WAIT (not: of the note) and the semaphore is sound. -/
def WaitEndsPartial {s0 : State} (x : Exec s0) (t : Tid) (i : Nat) : Prop :=
  ∀ n wdl, ((x.ρ i).pc t).waitOn = some (n, wdl) →
    (∃ j, ((x.ρ j).notes n).notified = true) ∨ (ClockAdvances x ∧ SemSound x ∧ wdl ≠ none)

/-- The special case (`C09_fair_termination_partial`, Props/C09Fair.lean) of the full statement
    with `WaitEndsPartial` in the place of `WaitEnds`. -/
def C09_fair_termination_partial_statement : Prop :=
  ∀ (s0 : State) (x : Exec s0), Reachable s0 →
    WeakFair x → LockFair x → WaitFair x → FiniteArrivals x →
    ∀ t i, (x.ρ i).pc t ≠ .idle → WaitEndsPartial x t i → ∃ j, i ≤ j ∧ (x.ρ j).pc t = .idle

/-- … and its special case with `WaitEndsFlag` (`C09_fair_termination_flag`): a
    `nsync_note_wait` returns when the FLAG of its note is set at some time. -/
def C09_fair_termination_flag_full : Prop :=
  ∀ (s0 : State) (x : Exec s0), Reachable s0 →
    WeakFair x → LockFair x → WaitFair x → FiniteArrivals x →
    ∀ t i, (x.ρ i).pc t ≠ .idle → WaitEndsFlag x t i → ∃ j, i ≤ j ∧ (x.ρ j).pc t = .idle

variable {s0 : State}

theorem Exec.next_none (x : Exec s0) {i : Nat} (h : x.σ i = none) : x.ρ (i + 1) = x.ρ i := by
  have := x.next i; rw [h] at this; exact this

theorem Exec.next_some (x : Exec s0) {i : Nat} {e : Event} (h : x.σ i = some e) :
    step (x.ρ i) e = .ok (x.ρ (i + 1)) := by
  have := x.next i; rw [h] at this; exact this

theorem Exec.reach (x : Exec s0) (hr : Reachable s0) : ∀ i, Reachable (x.ρ i) := by
  intro i
  induction i with
  | zero => rw [x.start]; exact hr
  | succ i ih =>
    cases h : x.σ i with
    | none => rw [x.next_none h]; exact ih
    | some e => exact ih.next (x.next_some h)

/-- A property of states that every step of the execution from time `i` on keeps, holds from `i`
    on if it holds at `i`. -/
theorem Exec.keeps (x : Exec s0) {P : State → Prop} {i : Nat}
    (hstep : ∀ j e, i ≤ j → x.σ j = some e → P (x.ρ j) → P (x.ρ (j + 1))) (h0 : P (x.ρ i))
    {j : Nat} (hij : i ≤ j) : P (x.ρ j) :=
  NsyncVerif.Sched.keeps_from (P := fun j => P (x.ρ j)) h0 (fun j hj ih => by
    cases h : x.σ j with
    | none => rw [x.next_none h]; exact ih
    | some e => exact hstep j e hj h ih) j hij

theorem not_moves_pc (x : Exec s0) {t : Tid} {j : Nat} (h : ¬ Moves x t j) :
    (x.ρ (j + 1)).pc t = (x.ρ j).pc t := by
  cases hs : x.σ j with
  | none => rw [x.next_none hs]
  | some e =>
    have hne : e.actor ≠ some t := fun ht => h ⟨e, hs, ht⟩
    exact step_pc_other (x.next_some hs) t hne

theorem pc_between (x : Exec s0) {t : Tid} {i j : Nat} (hij : i ≤ j)
    (h : ∀ j', i ≤ j' → j' < j → ¬ Moves x t j') : (x.ρ j).pc t = (x.ρ i).pc t :=
  NsyncVerif.Sched.const_between (f := fun j => (x.ρ j).pc t) (fun _ => not_moves_pc x) hij h

/-- Weak fairness enters the proof only here: a thread that stays `Ready` as long as it does not
    move, moves. -/
theorem fair_move (x : Exec s0) (hf : WeakFair x) {t : Tid} {i : Nat}
    (h : ∀ j, i ≤ j → (∀ j', i ≤ j' → j' < j → ¬ Moves x t j') → Ready (x.ρ j) t) :
    ∃ j, i ≤ j ∧ Moves x t j := by
  apply Classical.byContradiction
  intro hn
  have hnm : ∀ j, i ≤ j → ¬ Moves x t j := fun j hj hm => hn ⟨j, hj, hm⟩
  obtain ⟨j, hj, hm⟩ := hf t i (fun j hj => h j hj (fun j' h1 _ => hnm j' h1))
  exact hnm j hj hm

end Note
