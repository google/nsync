import NsyncVerif.Proofs.MuQStep
/-
  MuQ: the role abstraction.

  Every invariant of the layer depends on a thread's program point only through its ROLE
  (`role : PC → Role`: which phase of lock_slow with which locals, which private list of
  unlock_slow) and through the share it owns (`tshare`).  `abs : State → AState` forgets the rest
  (expected words carried by CAS program points, lock modes of fast paths, …).  `AStep` lists the
  transitions that `abs` can see (changes of a role, of a share, of the shared fields); `MuQRefine.lean` proves that every accepted step of the model is
  either invisible (`abs s' = abs s`) or one `AStep`.  The invariants are then proved over
  `AStep` only.
-/
namespace NsyncVerif.MuQ

inductive Phase | pre | st | rel | loopLd | loopP
deriving DecidableEq, Repr

inductive Role
  | quiet
  | slow (c : SL) (ph : Phase)
  | scan (sc : Scan)                       -- unlock_slow, between grab CAS and end of the scan (spinlock held)
  | fin (f : Fin)                          -- unlock_slow, scan finished, final CAS pending (spinlock held)
  | wakeSt (k : Wid) (r : List Wid)        -- `waiting := 0` of k pending, then r
  | wakeV (k : Wid) (r : List Wid)         -- V of k pending, then r
deriving DecidableEq, Repr

def role : PC → Role
  | .lsLd c | .lsCasAcq c _ | .lsCasEnq c _ => .slow c .pre
  | .lsSt c => .slow c .st
  | .lsRelLd c | .lsRelCas c _ => .slow c .rel
  | .lsWaitLd c => .slow c .loopLd
  | .lsPEnter c | .lsPRet c => .slow c .loopP
  | .usRcLd _ sc _ | .usRcCas _ sc _ _ => .scan sc
  | .usFinLd _ f | .usFinCas _ f _ => .fin f
  | .usWakeSt _ k r => .wakeSt k r
  | .usWakeV _ k r => .wakeV k r
  | _ => .quiet

/-- The share a program point owns in the word (before the client sees it / after the client gave it up). -/
def pcShare : PC → Option Mode
  | .lkRet l => some l
  | .tryRet l true => some l
  | .ulCas0 l | .ulLd l | .ulCas1 l _ => some l
  | .usLd l | .usCasUnc l _ | .usCasGrab l _ => some l
  | _ => none

def tshare (held : Option Mode) (p : PC) : Option Mode :=
  match held with
  | some m => some m
  | none => pcShare p

def Role.spin : Role → Bool
  | .slow _ .st | .slow _ .rel | .scan _ | .fin _ => true
  | _ => false

/-- Waiters this thread has removed from the queue and whose `waiting` it has still to clear. -/
def Role.wake : Role → List Wid
  | .scan sc => sc.wake
  | .fin f => f.wake
  | .wakeSt k r => k :: r
  | .wakeV _ r => r
  | _ => []

def roleAfter : List Wid → Role
  | [] => .quiet
  | k :: r => .wakeSt k r

structure AState where
  word : Word
  queue : List Wid
  wr : Wid → WRec
  wOwner : Option Tid
  rOwners : List Tid
  sp : Option Tid
  ts : Tid → Option Mode
  ro : Tid → Role

def abs (s : State) : AState :=
  { word := s.word, queue := s.queue, wr := s.wr, wOwner := s.wOwner, rOwners := s.rOwners, sp := s.sp,
    ts := fun t => tshare (s.held t) (s.pc t), ro := fun t => role (s.pc t) }

def AState.addShare (a : AState) (t : Tid) : Mode → AState
  | .W => { a with wOwner := some t, ts := setFn a.ts t (some .W) }
  | .R => { a with rOwners := t :: a.rOwners, ts := setFn a.ts t (some .R) }

def AState.subShare (a : AState) (t : Tid) : Mode → AState
  | .W => { a with wOwner := none, ts := setFn a.ts t none }
  | .R => { a with rOwners := a.rOwners.erase t, ts := setFn a.ts t none }

def AState.dropW (a : AState) : Option Wid → AState
  | none => a
  | some k => { a with wr := setFn a.wr k { a.wr k with owner := none } }

def AState.semPost (cfg : Cfg) (a : AState) (k : Wid) : AState :=
  { a with wr := setFn a.wr k { a.wr k with sem := if cfg.binary then 1 else (a.wr k).sem + 1 } }

def AState.advance (a : AState) (t : Tid) (sc : Scan) : AState :=
  match scanGo (fun k => (a.wr k).lType) sc.todo sc with
  | .remove k sc' => { a with queue := a.queue.erase k, ro := setFn a.ro t (.scan sc') }
  | .done sc' => { a with ro := setFn a.ro t (.fin (mkFin sc' a.queue.isEmpty)) }

def scan0 (q : List Wid) : Scan := { wake := [], todo := q, wt := none, sww := false, saf := true }

/-- Condition under which a release CAS that does not take the spinlock can have been attempted:
    first CAS of unlock/runlock (`old = addWord l`), second CAS, uncontended CAS of unlock_slow. -/
def relCond (old : Word) : Prop :=
  old.waiting = true → old.desig = true ∨ old.readers > 1 ∨ old.af = true

inductive AStep (cfg : Cfg) : AState → AState → Prop
  | acqFresh (a : AState) (t : Tid) (l : Mode) :
      a.ro t = .quiet → a.ts t = none → blocked l false a.word = false →
      AStep cfg a (({ a with word := acqWord l false false a.word } : AState).addShare t l)
  | enterSlow (a : AState) (t : Tid) (l : Mode) :
      a.ro t = .quiet → a.ts t = none →
      AStep cfg a { a with ro := setFn a.ro t (.slow (SL.entry l) .pre) }
  | acqSlow (a : AState) (t : Tid) (c : SL) :
      a.ro t = .slow c .pre → a.ts t = none → blocked c.l c.ign a.word = false →
      AStep cfg a ((({ a with word := acqWord c.l c.clear c.lwl a.word,
                               ro := setFn a.ro t .quiet } : AState).dropW c.w).addShare t c.l)
  | enq (a : AState) (t : Tid) (c : SL) :
      a.ro t = .slow c .pre → a.word.spin = false → blocked c.l c.ign a.word = true →
      AStep cfg a { a with word := enqWord c.l c.clear c.lwl a.word, sp := some t,
                           ro := setFn a.ro t (.slow c .st) }
  | adopt (a : AState) (t : Tid) (c : SL) (k : Wid) :
      a.ro t = .slow c .st → c.w = none → k ∉ a.queue → (a.wr k).owner = none → (a.wr k).waiting = false →
      AStep cfg a { a with queue := if c.wc = 0 then a.queue ++ [k] else k :: a.queue,
                           wr := setFn a.wr k { a.wr k with owner := some t, waiting := true, lType := c.l },
                           ro := setFn a.ro t (.slow { c with w := some k } .rel) }
  | requeue (a : AState) (t : Tid) (c : SL) (k : Wid) :
      a.ro t = .slow c .st → c.w = some k → k ∉ a.queue →
      AStep cfg a { a with queue := if c.wc = 0 then a.queue ++ [k] else k :: a.queue,
                           wr := setFn a.wr k { a.wr k with waiting := true },
                           ro := setFn a.ro t (.slow c .rel) }
  | relSpin (a : AState) (t : Tid) (c : SL) :
      a.ro t = .slow c .rel →
      AStep cfg a { a with word := { a.word with spin := false }, sp := none,
                           ro := setFn a.ro t (.slow c .loopLd) }
  | loopWait (a : AState) (t : Tid) (c : SL) (k : Wid) :
      a.ro t = .slow c .loopLd → c.w = some k → (a.wr k).waiting = true →
      AStep cfg a { a with ro := setFn a.ro t (.slow c .loopP) }
  | loopWoken (a : AState) (t : Tid) (c : SL) (k : Wid) :
      a.ro t = .slow c .loopLd → c.w = some k → (a.wr k).waiting = false →
      AStep cfg a { a with ro := setFn a.ro t (.slow c.woken .pre) }
  | pRet (a : AState) (t : Tid) (c : SL) (k : Wid) :
      a.ro t = .slow c .loopP → c.w = some k → (a.wr k).sem ≠ 0 →
      AStep cfg a { a with wr := setFn a.wr k { a.wr k with sem := if cfg.binary then 0 else (a.wr k).sem - 1 },
                           ro := setFn a.ro t (.slow c .loopLd) }
  | release (a : AState) (t : Tid) (l : Mode) :
      a.ro t = .quiet → a.ts t = some l → hasShare l a.word = true → relCond a.word →
      AStep cfg a (({ a with word := relUncWord l a.word } : AState).subShare t l)
  | grab (a : AState) (t : Tid) (l : Mode) :
      a.ro t = .quiet → a.ts t = some l → hasShare l a.word = true → uncontended a.word = false →
      a.word.spin = false →
      AStep cfg a ((({ a with word := grabWord l a.word, sp := some t } : AState).subShare t l).advance t (scan0 a.queue))
  | rcDone (a : AState) (t : Tid) (sc : Scan) :
      a.ro t = .scan sc → AStep cfg a (a.advance t sc)
  | finish (a : AState) (t : Tid) (f : Fin) :
      a.ro t = .fin f →
      AStep cfg a { a with word := finWord f a.word, sp := none, ro := setFn a.ro t (roleAfter f.wake) }
  | wakeStore (a : AState) (t : Tid) (k : Wid) (r : List Wid) :
      a.ro t = .wakeSt k r →
      AStep cfg a { a with wr := setFn a.wr k { a.wr k with waiting := false },
                           ro := setFn a.ro t (.wakeV k r) }
  | post (a : AState) (t : Tid) (k : Wid) (r : List Wid) :
      a.ro t = .wakeV k r →
      AStep cfg a (({ a with ro := setFn a.ro t (roleAfter r) } : AState).semPost cfg k)
  | envV (a : AState) (k : Wid) : AStep cfg a (a.semPost cfg k)
  | envSem (a : AState) (k : Wid) (n : Nat) :
      (a.wr k).owner = none →
      AStep cfg a { a with wr := setFn a.wr k { a.wr k with sem := n } }

/-! ### State-independent facts carried by program points -/

/-- Relations between the locals of lock_slow that hold at every program point. -/
def SL.ok (c : SL) : Prop :=
  c.ign = c.clear ∧ (c.clear = true ↔ 1 ≤ c.wc) ∧ (c.lwl = true ↔ longWaitThreshold ≤ c.wc)

theorem SL.ok_woken {c : SL} (h : c.ok) : c.woken.ok := by
  obtain ⟨h1, h2, h3⟩ := h
  refine ⟨rfl, ?_, ?_⟩
  · simp [SL.woken]
  · simp only [SL.woken, longWaitThreshold] at h3 ⊢
    by_cases h : c.wc + 1 = 30
    · simp [h]
    · simp only [h, if_false]; rw [h3]; omega

def PC.ok : PC → Prop
  | .lkCas1 l old | .tryCas1 l old => blocked l false old = false
  | .lsLd c | .lsSt c => c.ok ∧ (c.w.isSome = c.clear)
  | .lsCasAcq c old => c.ok ∧ (c.w.isSome = c.clear) ∧ blocked c.l c.ign old = false
  | .lsCasEnq c old => c.ok ∧ (c.w.isSome = c.clear) ∧ blocked c.l c.ign old = true ∧ old.spin = false
  | .lsRelLd c | .lsRelCas c _ | .lsWaitLd c | .lsPEnter c | .lsPRet c => c.ok ∧ c.w.isSome = true
  | .ulCas1 .W old => hasShare .W old = true ∧ ¬(old.waiting = true ∧ old.desig = false)
  | .ulCas1 .R old => hasShare .R old = true ∧
      ¬(old.waiting = true ∧ old.desig = false ∧ old.readers = 1 ∧ old.af = false)
  | .usCasUnc l old => hasShare l old = true ∧ uncontended old = true
  | .usCasGrab l old => hasShare l old = true ∧ uncontended old = false ∧ old.spin = false
  | _ => True

/-- Concrete-level side invariant: the client-visible ghost is only set between calls. -/
def HeldIdle (s : State) : Prop := ∀ t, s.held t ≠ none → s.pc t = .idle

def PcOk (s : State) : Prop := ∀ t, (s.pc t).ok

end NsyncVerif.MuQ
