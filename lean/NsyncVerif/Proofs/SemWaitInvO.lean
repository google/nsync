/-
  Proofs/SemWaitInvO.lean — preservation of the invariant `InvO` (the result and the local deadline) by the
  effects of a thread step.
-/
import NsyncVerif.Proofs.SemWaitTac

namespace SemWait

theorem InvO.eff {cfg : Config} {s s' : State} {t : Tid} (ha : InvA s) (ho : InvO s)
    (he : Eff cfg s t s') : InvO s' where
  p1 := by
    have p1 := ho.p1
    cases he with
    | nop | semV | semP | post => exact p1
    | lock | unlock | setFlag | born | pop | postBind =>
      simp only [setNote_lock, setNote_flag, popped_eq, posted_eq, bind_eq]; exact p1
    | ctl op p' h =>
      simp only [setPc_note, setPc_fr, lockOp_note, lockOp_fr]
      exact forall_setPc (fun u _ => p1 u) fun h' => p1 t (ctl_asleep_of h h')
    | m_init _ hpc | m_pdEnterBind _ hpc | m_tmoNear _ hpc | m_tmoFar _ hpc | m_p0 _ _ hpc | m_ld68_rm _ hpc =>
      simp only [inited_eq, bindPc_eq, tmo_eq, p0_eq, removed_eq]
      exact forall_setPc (fun u _ => p1 u) fun h' => p1 t (by rw [hpc]; first | exact h' | cases h')
    | call | m_ret =>
      simp only [call_eq, returned_eq]
      exact forall_setPc (fun u hu => by simpa only [if_neg hu] using p1 u) nofun
    | newNote k ex hp hk | inherit k p hp hk =>
      have i5 := ha.i5
      proj_simp; grind [asleep_inCall]
    | _ => proj_simp; grind [asleep]
  o0 := by
    have o0 := ho.o0
    cases he with
    | nop | semV | semP | lock | unlock | setFlag | born | newNote | inherit | pop | post => exact o0
    | postBind => simp only [posted_eq, bind_eq]; exact o0
    | ctl op p' h => exact forall_setPc (fun u _ => o0 u) fun h' => o0 t (ctl_early_of h h')
    | m_init _ hpc | m_ld49_enq _ hpc | m_pdEnterBind _ hpc | m_ld68_rm _ hpc =>
      simp only [inited_eq, enqd_eq, bindPc_eq, removed_eq]
      exact forall_setPc (fun u _ => o0 u) fun h' => o0 t (by rw [hpc]; first | exact h' | cases h')
    | m_tmoNear | m_tmoFar | m_p0 | call | m_ret =>
      simp only [tmo_eq, p0_eq, call_eq, returned_eq]
      intro u
      by_cases hu : u = t
      · simp only [if_pos hu]; intro h'; first | trivial | cases h'
      · simp only [if_neg hu]; exact o0 u
  o1 := by
    have o1 := ho.o1
    cases he with
    | nop | semV | semP | post => exact o1
    | lock | unlock | pop | postBind => simp only [setNote_lock, popped_eq, posted_eq, bind_eq]; exact o1
    | ctl op p' h =>
      simp only [setPc_note, setPc_fr, lockOp_note, lockOp_fr]
      exact forall_setPc (fun u _ => o1 u) (ctl_endNotify h)
    | m_init | m_ld49_enq | m_pdEnterBind | m_tmoNear | m_tmoFar | m_p0 | m_ld68_rm | call | m_ret =>
      simp only [inited_eq, enqd_eq, bindPc_eq, tmo_eq, p0_eq, removed_eq, call_eq, returned_eq]
      exact forall_setPc (fun u hu => by simpa only [if_neg hu] using o1 u) nofun
    | newNote k ex hp hk | inherit k p hp hk =>
      have i5 := ha.i5
      proj_simp; grind [inCall, endNotify]
    | setFlag | born =>
      simp only [setNote_flag, setNote_pc, setNote_fr]
      intro u hp
      rcases o1 u hp with h | h
      · refine .inl ?_
        split
        · rfl
        · exact h
      · exact .inr h
  o2 := by
    have o2 := ho.o2
    cases he with
    | nop | semV | semP | post => exact o2
    | lock | unlock | pop | postBind => simp only [setNote_lock, popped_eq, posted_eq, bind_eq]; exact o2
    | ctl op p' h =>
      simp only [setPc_note, setPc_fr, lockOp_note, lockOp_fr]
      refine forall_setPc (fun u _ => o2 u) fun h' hout => ?_
      rcases ctl_late_cancel h (ho.o1 t) h' with hl | hf | hd
      · exact o2 t hl hout
      · exact .inl hf
      · exact .inr hd
    | m_init _ hpc | m_ld49_enq _ hpc | m_pdEnterBind _ hpc | m_ld68_rm _ hpc =>
      simp only [inited_eq, enqd_eq, bindPc_eq, removed_eq]
      exact forall_setPc (fun u _ => o2 u) fun h' => o2 t (by rw [hpc]; first | exact h' | cases h')
    | call | m_ret =>
      simp only [call_eq, returned_eq]
      exact forall_setPc (fun u hu => by simpa only [if_neg hu] using o2 u) nofun
    | newNote k ex hp hk | inherit k p hp hk =>
      have i5 := ha.i5
      proj_simp; grind [late_inCall]
    | setFlag | born =>
      simp only [setNote_flag, setNote_pc, setNote_fr]
      intro u hl hout
      rcases o2 u hl hout with h | h
      · refine .inl ?_
        split
        · rfl
        · exact h
      · exact .inr h
    | m_tmoNear | m_tmoFar | m_p0 =>
      simp only [tmo_eq, p0_eq]
      intro u
      by_cases hu : u = t
      · simp only [if_pos hu]; intro h' h2; first | (cases h'; done) | cases h2
      · simp only [if_neg hu]; exact o2 u
  o3 := by
    have o3 := ho.o3
    cases he with
    | nop | semV | semP | lock | unlock | setFlag | born | newNote | inherit | pop | post => exact o3
    | postBind => simp only [posted_eq, bind_eq]; exact o3
    | ctl op p' h =>
      simp only [setPc_fr, setPc_now, lockOp_fr, lockOp_now]
      refine forall_setPc (fun u _ => o3 u) fun h' hout => ?_
      rcases ctl_late_of h h' with hl | he
      · exact o3 t hl hout
      · have := ho.o0 t he; rw [hout] at this; cases this
    | m_init _ hpc | m_ld49_enq _ hpc | m_pdEnterBind _ hpc | m_ld68_rm _ hpc =>
      simp only [inited_eq, enqd_eq, bindPc_eq, removed_eq]
      exact forall_setPc (fun u _ => o3 u) fun h' => o3 t (by rw [hpc]; first | exact h' | cases h')
    | call | m_ret =>
      simp only [call_eq, returned_eq]
      exact forall_setPc (fun u hu => by simpa only [if_neg hu] using o3 u) nofun
    | m_tmoNear j hpc hx hn =>
      have p1 := ho.p1
      proj_simp; grind [late, asleep, dmin]
    | m_tmoFar | m_p0 =>
      simp only [tmo_eq, p0_eq]
      intro u
      by_cases hu : u = t
      · simp only [if_pos hu]; intro _ h2; cases h2
      · simp only [if_neg hu]; exact o3 u
  o4 := by
    have o4 := ho.o4
    cases he with
    | nop | semV | semP | lock | unlock | setFlag | born | newNote | inherit | pop | post => exact o4
    | postBind => simp only [posted_eq, bind_eq]; exact o4
    | ctl op p' h =>
      simp only [setPc_fr, lockOp_fr]
      refine forall_setPc (fun u _ => o4 u) fun h' hout => ?_
      rcases ctl_late_of h h' with hl | he
      · exact o4 t hl hout
      · have := ho.o0 t he; rw [hout] at this; cases this
    | m_init _ hpc | m_ld49_enq _ hpc | m_pdEnterBind _ hpc | m_ld68_rm _ hpc =>
      simp only [inited_eq, enqd_eq, bindPc_eq, removed_eq]
      exact forall_setPc (fun u _ => o4 u) fun h' => o4 t (by rw [hpc]; first | exact h' | cases h')
    | call | m_ret =>
      simp only [call_eq, returned_eq]
      exact forall_setPc (fun u hu => by simpa only [if_neg hu] using o4 u) nofun
    | m_tmoNear | m_tmoFar | m_p0 =>
      simp only [tmo_eq, p0_eq]
      intro u
      by_cases hu : u = t
      · simp only [if_pos hu]; intro _ h2; first | trivial | cases h2
      · simp only [if_neg hu]; exact o4 u

end SemWait
