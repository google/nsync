-- Root of the NsyncVerif library: imports every model, proof and property module.
import NsyncVerif.Props.C01
import NsyncVerif.Props.C02
import NsyncVerif.Props.C02Audit
import NsyncVerif.Props.C03
import NsyncVerif.Props.C03Once
import NsyncVerif.Props.C03OnceAudit
import NsyncVerif.Props.C03Counter
import NsyncVerif.Props.C03CounterAudit
import NsyncVerif.Props.C10
import NsyncVerif.Props.C10Audit
import NsyncVerif.Props.C13Mu
import NsyncVerif.Props.C14
import NsyncVerif.Props.C19Counter
import NsyncVerif.Props.C04
import NsyncVerif.Props.C04Audit
import NsyncVerif.Props.C04Fix
import NsyncVerif.Props.C04FixAudit
import NsyncVerif.Props.C13CvFix
import NsyncVerif.Props.C05CvFix
import NsyncVerif.Props.C05Cv
import NsyncVerif.Props.C13Cv
import NsyncVerif.Props.C07
import NsyncVerif.Props.C08
import NsyncVerif.Props.C09
import NsyncVerif.Props.C08Audit
import NsyncVerif.Props.C19Note
import NsyncVerif.Props.C07Audit
import NsyncVerif.Props.C12
import NsyncVerif.Props.C12Audit
import NsyncVerif.Props.C17
import NsyncVerif.Props.C17Audit
import NsyncVerif.Props.C18
import NsyncVerif.Props.C18Audit
import NsyncVerif.Props.C15Arith
import NsyncVerif.Props.C15
import NsyncVerif.Props.C16Buffer
import NsyncVerif.Props.C16Observer
import NsyncVerif.Props.C16BufferAudit
import NsyncVerif.Model.MuXDriver
import NsyncVerif.Model.TimeDriver
import NsyncVerif.Model.EmitDriver
import NsyncVerif.Model.FutexDriver
import NsyncVerif.Model.OnceDriver
import NsyncVerif.Model.DllDriver
import NsyncVerif.Proofs.VC
import NsyncVerif.Proofs.Run
import NsyncVerif.Proofs.Lasso
import NsyncVerif.Model.VCDriver
import NsyncVerif.Model.MuQDriver
import NsyncVerif.Model.CounterDriver
import NsyncVerif.Model.CvDriver
import NsyncVerif.Model.CvFixDriver
import NsyncVerif.Model.NoteDriver
import NsyncVerif.Model.MuCDriver
import NsyncVerif.Model.WaitNDriver
import NsyncVerif.Proofs.WaitNTactics
import NsyncVerif.Proofs.MuCFairTactics
import NsyncVerif.Props.C06
import NsyncVerif.Props.C06Audit
import NsyncVerif.Props.C05Mu
import NsyncVerif.Props.C11
import NsyncVerif.Props.C04WaitN
import NsyncVerif.Props.C16Callback
import NsyncVerif.Props.C14Cv
import NsyncVerif.Props.C13Note
import NsyncVerif.Props.C11Audit
import NsyncVerif.Props.C13WaitN
import NsyncVerif.Props.C03Signal
import NsyncVerif.Proofs.CvFixVCTie
import NsyncVerif.Proofs.CvFixSrc
import NsyncVerif.Props.C02Progress
import NsyncVerif.Props.C02ProgressAudit
import NsyncVerif.Model.SemWaitDriver
import NsyncVerif.Props.C13Cancel
import NsyncVerif.Props.C05Cancel
import NsyncVerif.Props.C13CancelAudit
import NsyncVerif.Props.C03Note
import NsyncVerif.Props.C03NoteAudit
import NsyncVerif.Proofs.NoteVCTie
import NsyncVerif.Proofs.NoteOwn
import NsyncVerif.Props.C08Release
import NsyncVerif.Props.C08ReleaseAudit
import NsyncVerif.Props.C16CvObserver
import NsyncVerif.Props.C16CvObserverAudit
import NsyncVerif.Props.C02Fair
import NsyncVerif.Props.C02FairAudit
import NsyncVerif.Model.CvMuDriver
import NsyncVerif.Props.C03Transfer
import NsyncVerif.Props.C03TransferAudit
import NsyncVerif.Model.PoolDriver
import NsyncVerif.Props.PoolContract
import NsyncVerif.Props.PoolContractAudit
import NsyncVerif.Props.C07Fair
import NsyncVerif.Props.C07FairAudit
import NsyncVerif.Props.C12Fair
import NsyncVerif.Props.C12FairAudit
import NsyncVerif.Props.C10Fair
import NsyncVerif.Props.C04Fair
import NsyncVerif.Props.C06Fair
import NsyncVerif.Props.C06FairAudit
import NsyncVerif.Props.C11Fair
import NsyncVerif.Props.C11FairFull
import NsyncVerif.Props.C09Fair
import NsyncVerif.Props.C05Fair
import NsyncVerif.Props.C06FairFull
import NsyncVerif.Props.C06FairFullAudit
import NsyncVerif.Props.C05FairTimed
import NsyncVerif.Proofs.Sched
